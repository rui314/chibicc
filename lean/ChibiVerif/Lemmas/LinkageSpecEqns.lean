/-
The Spec's per-identifier projections of a declaration sequence (`fnDecls`, `objDecls`, `fileFnRefs`, ...), one
equation per form of the first declaration (most by `rfl`; `fnDecls_cons_func` and `objDecls_cons_obj` split on the name).
They are lemmas because the definitions are `filterMap` / `flatMap` over a `match` with a catch-all arm: unfolding the
definition at a use leaves `simp` to refute the other arms there, every time; an equation does it once.
Also: what "at most one declaration has a body" (`fnValid`) says about a list of declarations with its head split off;
a fold in which only the declarations of one function take part (`foldl_fnDecls`); membership in `fnDecls`, `objDecls`,
`fnNames`, `objNames`; the parts of `valid`.
-/
import ChibiVerif.Spec.LinkageSpec

namespace ChibiVerif.Spec.Linkage
open ChibiVerif.Linkage

theorem fnDecls_cons_func (f : Name) (n : Nat) (s e i : Bool) (body : Option (List BodyItem)) (ds : List Decl) (g : Name) :
    fnDecls (.func f n s e i body :: ds) g = if f = g then ⟨s, e, i, body⟩ :: fnDecls ds g else fnDecls ds g := by
  by_cases h : f = g
  · rw [if_pos h]; exact List.filterMap_cons_some (if_pos h)
  · rw [if_neg h]; exact List.filterMap_cons_none (if_neg h)

theorem fnDecls_cons_obj (x : Name) (s e t : Bool) (ty : ObjTy) (init : Option (List InitItem)) (ds : List Decl) (g : Name) :
    fnDecls (.obj x s e t ty init :: ds) g = fnDecls ds g := rfl

theorem objDecls_cons_obj (y : Name) (s e t : Bool) (ty : ObjTy) (init : Option (List InitItem)) (ds : List Decl) (x : Name) :
    objDecls (.obj y s e t ty init :: ds) x = if y = x then ⟨s, e, t, ty, init⟩ :: objDecls ds x else objDecls ds x := by
  by_cases h : y = x
  · rw [if_pos h]; exact List.filterMap_cons_some (if_pos h)
  · rw [if_neg h]; exact List.filterMap_cons_none (if_neg h)

theorem objDecls_cons_func (f : Name) (n : Nat) (s e i : Bool) (b : Option (List BodyItem)) (ds : List Decl) (x : Name) :
    objDecls (.func f n s e i b :: ds) x = objDecls ds x := rfl

theorem objDecls_append (a b : List Decl) (x : Name) : objDecls (a ++ b) x = objDecls a x ++ objDecls b x :=
  List.filterMap_append

theorem fileFnRefs_cons_obj_some (x : Name) (s e t : Bool) (ty : ObjTy) (items : List InitItem) (ds : List Decl) :
    fileFnRefs (.obj x s e t ty (some items) :: ds) = initFnRefs items ++ fileFnRefs ds := rfl

theorem fileObjRefs_cons_obj_some (x : Name) (s e t : Bool) (ty : ObjTy) (items : List InitItem) (ds : List Decl) :
    fileObjRefs (.obj x s e t ty (some items) :: ds) = initObjRefs items ++ fileObjRefs ds := rfl


theorem oneBody_cons {d : FnDecl} {D : List FnDecl} (h : ((d :: D).filter (fun d => d.body.isSome)).length ≤ 1) :
    (D.filter (fun d => d.body.isSome)).length ≤ 1 ∧ (d.body.isSome = true → ∀ x, x ∈ D → x.body = none) := by
  rw [List.filter_cons] at h
  split at h
  · rw [List.length_cons] at h
    have h0 : (D.filter (fun d => d.body.isSome)).length = 0 := by omega
    refine ⟨by omega, fun _ x hx => ?_⟩
    have := List.filter_eq_nil_iff.mp (List.length_eq_zero_iff.mp h0) x hx
    cases hxb : x.body with
    | none => rfl
    | some _ => rw [hxb] at this; exact absurd rfl this
  · rename_i hb
    exact ⟨h, fun hb' => absurd hb' hb⟩

/-- a fold over the unit in which only the declarations of `f` take part is a fold over `fnDecls ds f` -/
theorem foldl_fnDecls {α : Type} (f : Name) (step : α → Decl → α) (stepD : α → FnDecl → α)
    (hf : ∀ a n s e i b, step a (.func f n s e i b) = stepD a ⟨s, e, i, b⟩)
    (hg : ∀ a g n s e i b, g ≠ f → step a (.func g n s e i b) = a)
    (ho : ∀ a x s e t ty init, step a (.obj x s e t ty init) = a) :
    ∀ (ds : List Decl) (a : α), ds.foldl step a = (fnDecls ds f).foldl stepD a
  | [], _ => rfl
  | .func g n s e i b :: ds, a => by
    rw [List.foldl_cons, fnDecls_cons_func, foldl_fnDecls f step stepD hf hg ho ds]
    by_cases h : g = f
    · subst h; rw [if_pos rfl, hf]; rfl
    · rw [if_neg h, hg a g n s e i b h]
  | .obj x s e t ty init :: ds, a => by
    rw [List.foldl_cons, ho, fnDecls_cons_obj]
    exact foldl_fnDecls f step stepD hf hg ho ds a

end ChibiVerif.Spec.Linkage

namespace ChibiVerif.Linkage
open ChibiVerif.Spec.Linkage

theorem all_contains {l fs : List Name} (h : l.all (fun g => fs.contains g) = true) : ∀ g, g ∈ l → g ∈ fs := by
  intro g hg
  rw [List.all_eq_true] at h
  simpa using h g hg

theorem mem_dedup {α : Type} [DecidableEq α] {a : α} : ∀ {l : List α}, a ∈ dedup l ↔ a ∈ l
  | [] => Iff.rfl
  | b :: bs => by
    unfold dedup
    by_cases hb : b ∈ bs
    · simp only [hb, if_true, List.mem_cons]
      rw [mem_dedup (l := bs)]
      constructor
      · exact Or.inr
      · rintro (rfl | h)
        · exact hb
        · exact h
    · simp only [hb, if_false, List.mem_cons, mem_dedup (l := bs)]

/-- `fnNames` / `objNames` list the identifiers `key` finds, `fnDecls` / `objDecls` project by `proj`: a name is listed exactly
    when its projection is not empty -/
theorem mem_names {β : Type} {key : Decl → Option Name} {proj : Decl → Option β} {a : Name}
    (h : ∀ d, (proj d).isSome = true ↔ key d = some a) {ds : List Decl} :
    a ∈ (dedup (ds.filterMap key).reverse).reverse ↔ ds.filterMap proj ≠ [] := by
  rw [List.mem_reverse, mem_dedup, List.mem_reverse, List.mem_filterMap, Ne, List.filterMap_eq_nil_iff]
  constructor
  · rintro ⟨d, hd, hk⟩ hall
    have := (h d).mpr hk
    rw [hall d hd] at this; cases this
  · intro hn
    simp only [Classical.not_forall] at hn
    obtain ⟨d, hd, hne⟩ := hn
    exact ⟨d, hd, (h d).mp (Option.isSome_iff_ne_none.mpr hne)⟩

theorem mem_fnNames {ds : List Decl} {f : Name} : f ∈ fnNames ds ↔ fnDecls ds f ≠ [] := by
  unfold fnNames fnDecls
  refine mem_names fun d => ?_
  -- `fnDecls ds f` projects `d` exactly when `fnNames` reads the name `f` off it
  show (match d with | .func g _ s e i b => if g = f then some (⟨s, e, i, b⟩ : FnDecl) else none | _ => none).isSome = true ↔
    (match d with | .func g .. => some g | _ => none) = some f
  cases d with
  | func g n s e i b => by_cases hg : g = f <;> simp [hg]
  | obj => simp

theorem mem_objNames {ds : List Decl} {x : Name} : x ∈ objNames ds ↔ objDecls ds x ≠ [] := by
  unfold objNames objDecls
  refine mem_names fun d => ?_
  -- `objDecls ds x` projects `d` exactly when `objNames` reads the name `x` off it
  show (match d with | .obj y s e t ty init => if y = x then some (⟨s, e, t, ty, init⟩ : ObjDecl) else none | _ => none).isSome = true ↔
    (match d with | .obj y .. => some y | _ => none) = some x
  cases d with
  | obj y s e t ty init => by_cases hy : y = x <;> simp [hy]
  | func => simp

theorem valid_parts {ds : List Decl} (hv : valid ds = true) :
    (∀ f, f ∈ fnNames ds → fnValid (fnDecls ds f) = true) ∧
    (∀ x, x ∈ objNames ds → objValid (objDecls ds x) = true) ∧
    (∀ f, f ∈ fnNames ds → f ∉ objNames ds ∧ f ∉ blockExternNames ds) ∧
    refsOrdered ds [] [] = true ∧
    (∀ f, f ∈ fnNames ds → fnInternal (fnDecls ds f) = true → fnDefined (fnDecls ds f) = false → f ∉ usedNames ds) ∧
    blockExternsAgree ds = true := by
  simp only [valid, Bool.and_eq_true, List.all_eq_true] at hv
  obtain ⟨⟨⟨⟨⟨h1, h2⟩, h3⟩, h4⟩, h5⟩, h6⟩ := hv
  refine ⟨h1, h2, fun f hf => ?_, h4, fun f hf hi hd hu => ?_, h6⟩
  · have := h3 f hf
    simpa using this
  · have := h5 f hf
    simp [hi, hd, hu] at this

theorem valid_ordered {ds : List Decl} (hv : valid ds = true) : refsOrdered ds [] [] = true := (valid_parts hv).2.2.2.1

theorem mem_objDecls {ds : List Decl} {x : Name} {d : ObjDecl} :
    d ∈ objDecls ds x ↔ Decl.obj x d.isStatic d.isExtern d.isTls d.ty d.init ∈ ds := by
  unfold objDecls
  rw [List.mem_filterMap]
  constructor
  · rintro ⟨dd, hd, hh⟩
    cases dd with
    | func => cases hh
    | obj y s e t ty init =>
      by_cases hy : y = x
      · subst hy
        simp only [if_true, Option.some.injEq] at hh
        subst hh
        exact hd
      · simp [hy] at hh
  · intro h
    exact ⟨_, h, by simp⟩

theorem mem_fnDecls {ds : List Decl} {f : Name} {d : FnDecl} :
    d ∈ fnDecls ds f ↔ ∃ n, Decl.func f n d.isStatic d.isExtern d.isInline d.body ∈ ds := by
  unfold fnDecls
  rw [List.mem_filterMap]
  constructor
  · rintro ⟨dd, hd, hh⟩
    cases dd with
    | obj => cases hh
    | func g n s e i b =>
      by_cases hy : g = f
      · subst hy
        simp only [if_true, Option.some.injEq] at hh
        subst hh
        exact ⟨n, hd⟩
      · simp [hy] at hh
  · rintro ⟨n, h⟩
    exact ⟨_, h, by simp⟩

end ChibiVerif.Linkage
