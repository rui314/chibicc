/-
C20: the instruction table as statements.

`Effect.insDelta` looks a mnemonic up in four lists of strings and `Effect.lineDelta` adds the test "is the
destination `%rsp`".  Here each row the code generator uses is stated once (a closed fact, evaluated by the kernel),
under the simp set `c20_row`; the effect of a printed line is then found by rewriting with the rows
(`Sem_emit (by row)` in Lemmas/C20Lemmas.lean), not by evaluating the lists again.
-/
import ChibiVerif.Model.Codegen
import ChibiVerif.Model.Effect
import ChibiVerif.Lemmas.C20RowAttr

namespace ChibiVerif.Lemmas.C20
open ChibiVerif ChibiVerif.Codegen ChibiVerif.Effect ChibiVerif.Asm

/-- the effect of a printed line: the rows rewrite `lineDelta` of the line to its value (mnemonics spelled
    with `++` and register names are literals by then), and `rfl` reads the effect off where the goal leaves it
    open (`simp` does not assign it) -/
macro "row" : tactic => `(tactic| simp only [c20_row, String.reduceAppend, String.reduceBEq] <;> rfl)

theorem insDelta_op {op : String} {a : List Opd} (h : dstIsRsp a = false) :
    insDelta ⟨op, a⟩ = insDelta ⟨op, []⟩ := by
  simp only [insDelta, h]
  rfl

/-! ### lines: an instruction whose destination is not `%rsp` does what its mnemonic does -/

@[c20_row] theorem lineDelta_ins2 {op : String} {a b : Opd} (h : isRsp b = false) :
    lineDelta (ins2 op a b) = insDelta ⟨op, []⟩ := insDelta_op (a := [a, b]) h
@[c20_row] theorem lineDelta_ins1 {op : String} {a : Opd} (h : isRsp a = false) :
    lineDelta (ins1 op a) = insDelta ⟨op, []⟩ := insDelta_op (a := [a]) h
@[c20_row] theorem lineDelta_ins0 {op : String} : lineDelta (ins0 op) = insDelta ⟨op, []⟩ := rfl
@[c20_row] theorem lineDelta_raw {t : String} : lineDelta (.raw t) = some ⟨0, 0⟩ := rfl
@[c20_row] theorem lineDelta_call_f80 {a : List Opd} : lineDelta (.insA ⟨"call", a⟩ "ret:f80") = some ⟨0, 1⟩ := rfl
@[c20_row] theorem lineDelta_push {a : Opd} : lineDelta (ins1 "push" a) = some ⟨-8, 0⟩ := rfl
@[c20_row] theorem lineDelta_pop {a : Opd} (h : isRsp a = false) : lineDelta (ins1 "pop" a) = some ⟨8, 0⟩ := by
  simp [lineDelta, ins1, insDelta, dstIsRsp, h]
@[c20_row] theorem lineDelta_sub_rsp {k : Int} : lineDelta (ins2 "sub" (.i k) rsp) = some ⟨-k, 0⟩ := rfl
@[c20_row] theorem lineDelta_add_rsp {k : Int} : lineDelta (ins2 "add" (.i k) rsp) = some ⟨k, 0⟩ := rfl

/-! ### operands (the proofs are not `rfl`: `simp` does not use a `rfl` lemma to discharge a side condition) -/

@[c20_row] theorem isRsp_i {n : Int} : isRsp (.i n) = false := by simp [isRsp]
@[c20_row] theorem isRsp_m {d : Int} {b : String} : isRsp (.m d b) = false := by simp [isRsp]
@[c20_row] theorem isRsp_m0 {b : String} : isRsp (.m0 b) = false := by simp [isRsp]
@[c20_row] theorem isRsp_s {t : String} : isRsp (.s t) = false := by simp [isRsp]
@[c20_row] theorem isRsp_rbp {d : Int} : isRsp (rbp d) = false := by simp [isRsp, rbp]
/-- a register by its name: a literal is compared by `String.reduceBEq` -/
@[c20_row] theorem isRsp_r {a : String} : isRsp (.r a) = (a == "%rsp") := by simp [isRsp]
@[c20_row] theorem ite_beq {c : Prop} [Decidable c] {a b s : String} :
    ((if c then a else b) == s) = if c then a == s else b == s := by split <;> rfl
@[c20_row] theorem insDelta_ite {c : Prop} [Decidable c] {a b : String} :
    insDelta ⟨if c then a else b, []⟩ = if c then insDelta ⟨a, []⟩ else insDelta ⟨b, []⟩ := by split <;> rfl
attribute [c20_row] ite_self

theorem isRsp_of_ne {a : String} (h : a ≠ "%rsp") : isRsp (.r a) = false := by simpa [isRsp] using h

/-- `%xmm<n>` is not `%rsp`: the second character differs -/
@[c20_row] theorem isRsp_xmm (n : Nat) : isRsp (xmm n) = false := by
  have h : xmm n = .r ("%xmm" ++ toString n) := by simp [xmm, toString]
  rw [h]
  refine isRsp_of_ne fun e => ?_
  have := congrArg (fun s => s.toList.take 2) e
  simp [String.toList_append] at this

@[c20_row] theorem isRsp_rax : isRsp rax = false := by decide +kernel
@[c20_row] theorem isRsp_rdi : isRsp rdi = false := by decide +kernel

/-! ### mnemonics: the rows of the lists of `insDelta` that the code generator prints (`simp` takes the
conjuncts of a table as separate rewrite rules; one `Decidable` instance does not reach over all of them) -/

/-- data movement -/
@[c20_row] theorem rows_moves :
    insDelta ⟨"mov", []⟩ = some ⟨0, 0⟩ ∧
    insDelta ⟨"movq", []⟩ = some ⟨0, 0⟩ ∧
    insDelta ⟨"movd", []⟩ = some ⟨0, 0⟩ ∧
    insDelta ⟨"movss", []⟩ = some ⟨0, 0⟩ ∧
    insDelta ⟨"movsd", []⟩ = some ⟨0, 0⟩ ∧
    insDelta ⟨"movzx", []⟩ = some ⟨0, 0⟩ ∧
    insDelta ⟨"movzb", []⟩ = some ⟨0, 0⟩ ∧
    insDelta ⟨"movzbl", []⟩ = some ⟨0, 0⟩ ∧
    insDelta ⟨"movsbl", []⟩ = some ⟨0, 0⟩ ∧
    insDelta ⟨"movzwl", []⟩ = some ⟨0, 0⟩ ∧
    insDelta ⟨"movswl", []⟩ = some ⟨0, 0⟩ ∧
    insDelta ⟨"movsxd", []⟩ = some ⟨0, 0⟩ ∧
    insDelta ⟨"lea", []⟩ = some ⟨0, 0⟩ ∧
    insDelta ⟨"data16 lea", []⟩ = some ⟨0, 0⟩ ∧
    insDelta ⟨"xchg", []⟩ = some ⟨0, 0⟩ := by
  decide +kernel

/-- the row of `mov` by name, for a `mov` whose destination is a variable of the proof -/
theorem row_mov : insDelta ⟨"mov", []⟩ = some ⟨0, 0⟩ := rows_moves.1

/-- integer arithmetic and logic -/
@[c20_row] theorem rows_arith :
    insDelta ⟨"add", []⟩ = some ⟨0, 0⟩ ∧
    insDelta ⟨"sub", []⟩ = some ⟨0, 0⟩ ∧
    insDelta ⟨"imul", []⟩ = some ⟨0, 0⟩ ∧
    insDelta ⟨"div", []⟩ = some ⟨0, 0⟩ ∧
    insDelta ⟨"idiv", []⟩ = some ⟨0, 0⟩ ∧
    insDelta ⟨"cqo", []⟩ = some ⟨0, 0⟩ ∧
    insDelta ⟨"cdq", []⟩ = some ⟨0, 0⟩ ∧
    insDelta ⟨"and", []⟩ = some ⟨0, 0⟩ ∧
    insDelta ⟨"or", []⟩ = some ⟨0, 0⟩ ∧
    insDelta ⟨"xor", []⟩ = some ⟨0, 0⟩ ∧
    insDelta ⟨"not", []⟩ = some ⟨0, 0⟩ ∧
    insDelta ⟨"neg", []⟩ = some ⟨0, 0⟩ ∧
    insDelta ⟨"shl", []⟩ = some ⟨0, 0⟩ ∧
    insDelta ⟨"shr", []⟩ = some ⟨0, 0⟩ ∧
    insDelta ⟨"sar", []⟩ = some ⟨0, 0⟩ ∧
    insDelta ⟨"inc", []⟩ = some ⟨0, 0⟩ ∧
    insDelta ⟨"dec", []⟩ = some ⟨0, 0⟩ := by
  decide +kernel

/-- comparisons and flags -/
@[c20_row] theorem rows_flags :
    insDelta ⟨"cmp", []⟩ = some ⟨0, 0⟩ ∧
    insDelta ⟨"sete", []⟩ = some ⟨0, 0⟩ ∧
    insDelta ⟨"setne", []⟩ = some ⟨0, 0⟩ ∧
    insDelta ⟨"setl", []⟩ = some ⟨0, 0⟩ ∧
    insDelta ⟨"setle", []⟩ = some ⟨0, 0⟩ ∧
    insDelta ⟨"setb", []⟩ = some ⟨0, 0⟩ ∧
    insDelta ⟨"setbe", []⟩ = some ⟨0, 0⟩ ∧
    insDelta ⟨"seta", []⟩ = some ⟨0, 0⟩ ∧
    insDelta ⟨"setae", []⟩ = some ⟨0, 0⟩ ∧
    insDelta ⟨"setp", []⟩ = some ⟨0, 0⟩ ∧
    insDelta ⟨"setnp", []⟩ = some ⟨0, 0⟩ ∧
    insDelta ⟨"ucomiss", []⟩ = some ⟨0, 0⟩ ∧
    insDelta ⟨"ucomisd", []⟩ = some ⟨0, 0⟩ := by
  decide +kernel

/-- SSE arithmetic -/
@[c20_row] theorem rows_sse :
    insDelta ⟨"xorps", []⟩ = some ⟨0, 0⟩ ∧
    insDelta ⟨"xorpd", []⟩ = some ⟨0, 0⟩ ∧
    insDelta ⟨"addss", []⟩ = some ⟨0, 0⟩ ∧
    insDelta ⟨"subss", []⟩ = some ⟨0, 0⟩ ∧
    insDelta ⟨"mulss", []⟩ = some ⟨0, 0⟩ ∧
    insDelta ⟨"divss", []⟩ = some ⟨0, 0⟩ ∧
    insDelta ⟨"addsd", []⟩ = some ⟨0, 0⟩ ∧
    insDelta ⟨"subsd", []⟩ = some ⟨0, 0⟩ ∧
    insDelta ⟨"mulsd", []⟩ = some ⟨0, 0⟩ ∧
    insDelta ⟨"divsd", []⟩ = some ⟨0, 0⟩ := by
  decide +kernel

/-- atomics, string and prefix instructions, `call` (its callee leaves `%rsp` as it found it) -/
@[c20_row] theorem rows_misc :
    insDelta ⟨"lock cmpxchg", []⟩ = some ⟨0, 0⟩ ∧
    insDelta ⟨"rep stosb", []⟩ = some ⟨0, 0⟩ ∧
    insDelta ⟨"rex64", []⟩ = some ⟨0, 0⟩ ∧
    insDelta ⟨"call", []⟩ = some ⟨0, 0⟩ := by
  decide +kernel

/-- the x87 stack: loads +1, stores that pop and `…p` arithmetic −1 -/
@[c20_row] theorem rows_x87 :
    insDelta ⟨"fldt", []⟩ = some ⟨0, 1⟩ ∧
    insDelta ⟨"fldz", []⟩ = some ⟨0, 1⟩ ∧
    insDelta ⟨"fstpt", []⟩ = some ⟨0, -1⟩ ∧
    insDelta ⟨"fstp", []⟩ = some ⟨0, -1⟩ ∧
    insDelta ⟨"faddp", []⟩ = some ⟨0, -1⟩ ∧
    insDelta ⟨"fsubrp", []⟩ = some ⟨0, -1⟩ ∧
    insDelta ⟨"fmulp", []⟩ = some ⟨0, -1⟩ ∧
    insDelta ⟨"fdivrp", []⟩ = some ⟨0, -1⟩ ∧
    insDelta ⟨"fcomip", []⟩ = some ⟨0, -1⟩ ∧
    insDelta ⟨"fucomip", []⟩ = some ⟨0, -1⟩ ∧
    insDelta ⟨"fchs", []⟩ = some ⟨0, 0⟩ := by
  decide +kernel

end ChibiVerif.Lemmas.C20
