/-
The vocabulary of the statements of Props/C08.lean that is neither model nor specification: how a specification member is
handed to the model (`SMem.toMem` …), the domains of the theorems (`SMem.WF`, `Ty.ok`, `Ty.inRange`, `NoDupSign`), the
normalisation `collapse`, and the notions the allocation rule is stated with (`LeastAligned`, `InOrder`).  Definitions, and the
instance that lets `decide` compare outcomes; the lemma modules that compare model and specification import it (LayoutLoops and
LayoutTotal speak of the model alone and do not).  Core Lean only.
-/
import ChibiVerif.Spec.LayoutRegions

namespace ChibiVerif.Spec.Layout
open ChibiVerif.Layout

/-- what C11 and the target guarantee about a member (decidable):
    alignments are positive; a bit-field has an integer declared type (size = alignment > 0), no `_Alignas`
    (C11 6.7.5p2), width ≤ width of the type (6.7.2.1p4), and width > 0 if it has a name (6.7.2.1p12) -/
def SMem.WF (m : SMem) : Prop :=
  0 < m.tyAlign ∧
  match m.bitWidth with
  | none => True
  | some w => 0 < m.size ∧ m.alignas = 0 ∧ m.tyAlign = m.size ∧ w ≤ 8 * m.size ∧ (m.named = true → 0 < w)

instance (m : SMem) : Decidable m.WF := by
  unfold SMem.WF
  cases m.bitWidth <;> exact inferInstance

/-- the model's view of a member -/
def SMem.toMem (m : SMem) : Mem :=
  { size := (m.size : Int)
    align := ((if m.alignas ≠ 0 then m.alignas else m.tyAlign : Nat) : Int)
    bitWidth := (match m.bitWidth with | some w => some (w : Int) | none => none)
    named := m.named }

/-- what the model records of a placement: the byte offset of the member (of its storage unit) and the bit position in it -/
def SPlaced.toPlaced (p : SPlaced) : Placed := { offset := (p.unitOffset : Int), bitOffset := (p.bitInUnit : Int) }

/-- a specification layout in the model's terms (C ints) -/
def SLayout.toLayout (l : SLayout) : Layout :=
  { size := (l.size : Int), align := (l.align : Int), placed := l.placed.map SPlaced.toPlaced }

/-- the divisor `struct_decl` uses for the member, in bits: the storage unit of a bit-field, `mem->align * 8` (8 in a packed
    struct) otherwise -/
def SMem.step (packed : Bool) (m : SMem) : Nat :=
  match m.bitWidth with
  | some _ => 8 * m.size
  | none => if packed then 8 else 8 * (if m.alignas ≠ 0 then m.alignas else m.tyAlign)

/-- bits a struct member occupies -/
def SMem.bits (m : SMem) : Nat :=
  match m.bitWidth with
  | some w => w
  | none => 8 * m.size

/-- `s` is the least multiple of `a` that is ≥ `cur` -/
def LeastAligned (a cur s : Nat) : Prop := a ∣ s ∧ cur ≤ s ∧ ∀ s', a ∣ s' → cur ≤ s' → s ≤ s'

/-- members in declaration order, pairwise disjoint, all before `e` -/
def InOrder : Nat → List SMem → List SPlaced → Nat → Prop
  | cur, [], [], e => cur = e
  | cur, m :: ms, p :: ps, e => cur ≤ p.firstBit ∧ InOrder (p.firstBit + m.bits) ms ps e
  | _, _, _, _ => False

end ChibiVerif.Spec.Layout

namespace ChibiVerif.Layout
open ChibiVerif.Gen.Declspec ChibiVerif.Spec.Layout

/-- lets `decide` compare outcomes of the model (`declspecDecode ks = .ok t`); in force where this namespace is open -/
scoped instance {ε α : Type} [DecidableEq ε] [DecidableEq α] : DecidableEq (Except ε α)
  | .ok a, .ok b => if h : a = b then isTrue (h ▸ rfl) else isFalse fun e => h (Except.ok.inj e)
  | .error a, .error b => if h : a = b then isTrue (h ▸ rfl) else isFalse fun e => h (Except.error.inj e)
  | .ok _, .error _ => isFalse fun e => nomatch e
  | .error _, .ok _ => isFalse fun e => nomatch e

mutual
  /-- well-formed type description (C11 constraints on bit-fields, non-negative numbers); with `r = true` also:
      every aggregate is outside the three known-finding regions -/
  def Ty.ok (r : Bool) : Ty → Bool
    | .prim _ => true
    | .enum => true
    | .ptr => true
    | .arr e n => e.ok r && decide (0 ≤ n)
    | .flex e => e.ok r
    | .struct p al ms => ms.ok r && alignedOk al && (!r || (!PackedWithBitfield p (specMembers ms) && !PackedWithMemberAlign p (specMembers ms)))
    | .union p al ms => ms.ok r && alignedOk al && (!r || (!PackedUnionBitfield p (specMembers ms) && !PackedWithMemberAlign p (specMembers ms)))
  def Aligns.ok (r : Bool) : Aligns → Bool
    | .nil => true
    | .const n rest => (n == 0 || isPow2le28 n) && rest.ok r     -- C11 6.7.5p3: a valid alignment (power of two ≤ 2^28) or zero
    | .type t rest => t.ok r && rest.ok r
  def Members.ok (r : Bool) : Members → Bool
    | .nil => true
    | .cons d as ty rest =>
      ty.ok r && rest.ok r && as.ok r &&
      (match d.bitWidth with
       | none => true
       | some w => isBitfieldBase ty && specAligns as == 0 && decide (0 ≤ w) && decide (w ≤ 8 * (specSizeAlign ty).1) &&
                   (!d.named || decide (0 < w)))     -- no `_Alignas` on a bit-field (C11 6.7.5p2)
end

/-- the struct fits the `int` arithmetic of struct_decl: its end, plus one rounding step of its own alignment, plus one
    storage unit of the widest bit-field type, is below 2^31 bits (i.e. sizeof + _Alignof + 8 < 2^28 bytes) -/
def structInRange (p : Bool) (al : Option Nat) (ms : List SMem) : Bool :=
  decide (8 * (specStruct p al ms).size + (8 * (specStruct p al ms).align + 64) < 2147483648)

/-- the union fits the `int` arithmetic of union_decl: every member size in bits (+ 7) plus the alignment is below 2^31 -/
def unionInRange (p : Bool) (al : Option Nat) (ms : List SMem) : Bool :=
  decide ((specUnion p al ms).align + 7 < 2147483648) &&
    ms.all fun m => decide (8 * m.size + 7 + (specUnion p al ms).align < 2147483648)

mutual
  /-- every array and aggregate of the description — at any depth, `_Alignas(type-name)` operands included — is small enough
      for the `int` arithmetic of array_of / struct_decl / union_decl (roughly: below 256 MiB) -/
  def Ty.inRange : Ty → Bool
    | .prim _ => true
    | .enum => true
    | .ptr => true
    | .arr e n => e.inRange && decide ((specSizeAlign e).1 * n.toNat < 2147483648)
    | .flex e => e.inRange
    | .struct p al ms => ms.inRange && structInRange p (specAligned al) (specMembers ms)
    | .union p al ms => ms.inRange && unionInRange p (specAligned al) (specMembers ms)
  def Aligns.inRange : Aligns → Bool
    | .nil => true
    | .const _ rest => rest.inRange
    | .type t rest => t.inRange && rest.inRange
  def Members.inRange : Members → Bool
    | .nil => true
    | .cons _ as ty rest => as.inRange && ty.inRange && rest.inRange
end

def isSign (k : Kw) : Bool := k == .signed || k == .unsigned

/-- no repeated `signed` / `unsigned` (C11 6.7.2p2 lists no such multiset; chibicc's `counter |= SIGNED` does not notice) -/
def NoDupSign (ks : List Kw) : Prop := ks.count .signed ≤ 1 ∧ ks.count .unsigned ≤ 1

instance (ks : List Kw) : Decidable (NoDupSign ks) := by unfold NoDupSign; exact inferInstance

/-- drop every `signed` after the first and every `unsigned` after the first; `seen` = keywords already read -/
def collapseFrom : List Kw → List Kw → List Kw
  | _, [] => []
  | seen, k :: ks => if isSign k && seen.contains k then collapseFrom seen ks else k :: collapseFrom (seen ++ [k]) ks

/-- the sequence with repeated `signed`/`unsigned` removed -/
def collapse (ks : List Kw) : List Kw := collapseFrom [] ks

end ChibiVerif.Layout
