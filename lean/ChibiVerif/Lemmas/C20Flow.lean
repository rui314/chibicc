/-
C20: code with labels and jumps — the label-height calculus.

`Effect.scanRel h ss cur` scans a control-flow skeleton (`List Step`) with a labelling `h` (one
(rsp, x87) height per label): every jump must leave at its label's height, every fall-through into
a label must arrive at the label's height.  This module turns that into a compositional calculus:

* `Cons h ss c d` — with labelling `h`, the skeleton `ss` is consistent at base height `c` with
  fall-through effect `d`: entered at height `c` (or dead: after an unconditional jump) the scan
  succeeds and ends dead or at height `c + d`.
* `FlowR A o ss G d` — the *raw* skeleton `ss` (before `renameLocals`) placed at any base height
  `c`, after any earlier numeric local labels (`seen`), has a labelling `hf` of exactly the labels it
  defines such that every global labelling that extends `hf` and satisfies the assumptions `A`
  makes it consistent with effect `d`.  `A` (assumed) and `G` (guaranteed) list labels with heights
  relative to the *region base* `c + o`: the height at which the enclosing statements of the
  region — the function body, or the body of a statement expression — run.
* `SemF own A ro xo m G r x dd` — the judgment for a code generator `m : M α` (`own`: the counter labels of
  the enclosing arm that the code of `m` defines; they are not fresh for `m`, the arm drew their number
  before); `FlowP` is the code predicate (`CodePred`) of closed code (no assumptions, no guarantees), so
  that every arm lemma of Lemmas/C20Lemmas.lean and Lemmas/C20Calls.lean holds for code with labels as well.
-/
import ChibiVerif.Lemmas.C20Lemmas
import ChibiVerif.Model.C20Flow
import ChibiVerif.Lemmas.C20Labels

namespace ChibiVerif.Lemmas.C20
open ChibiVerif ChibiVerif.Codegen ChibiVerif.Effect ChibiVerif.Asm ChibiVerif.Ast ChibiVerif.C20Scope

theorem H.ext_iff' {a b : H} : a = b ↔ a.rsp = b.rsp ∧ a.x87 = b.x87 := by
  cases a; cases b; simp

@[simp] theorem H.add_rsp (a b : H) : (a + b).rsp = a.rsp + b.rsp := rfl
@[simp] theorem H.add_x87 (a b : H) : (a + b).x87 = a.x87 + b.x87 := rfl
@[simp] theorem H.zero_rsp : H.zero.rsp = 0 := rfl
@[simp] theorem H.zero_x87 : H.zero.x87 = 0 := rfl

/-- decide an equation between heights: componentwise linear arithmetic -/
syntax "harith" : tactic
macro_rules
  | `(tactic| harith) => `(tactic|
      (simp only [H.ext_iff', H.add_rsp, H.add_x87, H.zero_rsp, H.zero_x87] at * <;> omega))

theorem H.add_assoc' (a b c : H) : a + b + c = a + (b + c) := by harith
theorem H.add_zero' (a : H) : a + H.zero = a := by harith
theorem H.zero_add' (a : H) : H.zero + a = a := by harith
theorem H.add_mk_zero (a : H) : a + ⟨0, 0⟩ = a := by harith

/-- the `seen` table of `renameLocals` after a skeleton -/
def seenAfter : List Step → List (String × Nat) → List (String × Nat)
  | [], seen => seen
  | .label l :: r, seen =>
    if isNumLabel l then seenAfter r ((l, (seen.lookup l).getD 0 + 1) :: seen) else seenAfter r seen
  | _ :: r, seen => seenAfter r seen

theorem renameLocals_append (a b : List Step) (seen : List (String × Nat)) :
    renameLocals (a ++ b) seen = renameLocals a seen ++ renameLocals b (seenAfter a seen) := by
  induction a generalizing seen with
  | nil => rfl
  | cons s r ih =>
    cases s with
    | label l =>
      by_cases hl : isNumLabel l = true
      · simp [renameLocals, seenAfter, hl, ih]
      · simp [renameLocals, seenAfter, hl, ih]
    | _ => simp [renameLocals, seenAfter, ih]

theorem scanRel_append (h : Labelling) (a b : List Step) (cur : Option H) :
    scanRel h (a ++ b) cur =
      (match scanRel h a cur with
       | .ok e => scanRel h b e
       | .error m => .error m) := by
  induction a generalizing cur with
  | nil => rfl
  | cons s r ih =>
    cases s with
    | delta d => simp only [List.cons_append, scanRel, ih]
    | cond l | jump l =>
      cases cur with
      | none => simp only [List.cons_append, scanRel, ih]
      | some c =>
        simp only [List.cons_append, scanRel]
        split
        · exact ih _
        · rfl
    | leave => simp only [List.cons_append, scanRel, ih]
    | label l =>
      simp only [List.cons_append, scanRel]
      split
      · rfl
      · split
        · exact ih _
        · rfl
    | bad w => simp only [List.cons_append, scanRel]

/-- with labelling `h`, the skeleton is consistent at base height `c` with fall-through effect `d` -/
def Cons (h : Labelling) (ss : List Step) (c d : H) : Prop :=
  ∀ cur : Option H, (cur = none ∨ cur = some c) →
    ∃ e, scanRel h ss cur = .ok e ∧ (e = none ∨ e = some (c + d))

theorem Cons_append {h : Labelling} {a b : List Step} {c d1 d2 : H}
    (h1 : Cons h a c d1) (h2 : Cons h b (c + d1) d2) : Cons h (a ++ b) c (d1 + d2) := by
  intro cur hc
  obtain ⟨e1, he1, hd1⟩ := h1 cur hc
  obtain ⟨e2, he2, hd2⟩ := h2 e1 hd1
  refine ⟨e2, ?_, ?_⟩
  · rw [scanRel_append, he1]; exact he2
  · rw [← H.add_assoc']; exact hd2

theorem Cons_nil (h : Labelling) (c : H) : Cons h [] c H.zero := by
  intro cur hc
  refine ⟨cur, rfl, ?_⟩
  rcases hc with rfl | rfl
  · exact Or.inl rfl
  · exact Or.inr (by rw [H.add_zero'])

theorem Cons_cast {h : Labelling} {ss : List Step} {c d d' : H} (h1 : Cons h ss c d) (hd : d = d') :
    Cons h ss c d' := hd ▸ h1

/-- `h` extends the labelling `hf` of a fragment -/
def Ext (h hf : Labelling) : Prop := ∀ l v, (l, v) ∈ hf → h.lookup l = some v

theorem Ext_append {h a b : Labelling} : Ext h (a ++ b) ↔ Ext h a ∧ Ext h b := by
  constructor
  · intro hx
    exact ⟨fun l v hm => hx l v (List.mem_append_left _ hm), fun l v hm => hx l v (List.mem_append_right _ hm)⟩
  · rintro ⟨h1, h2⟩ l v hm
    rcases List.mem_append.mp hm with hm | hm
    · exact h1 l v hm
    · exact h2 l v hm

/-- see the head of this file -/
def FlowR (A : List (String × H)) (o : H) (ss : List Step) (G : List (String × H)) (d : H) : Prop :=
  ∀ (c : H) (seen : List (String × Nat)), ∃ hf : Labelling,
    hf.map Prod.fst = labelNames (renameLocals ss seen) ∧
    (∀ l r, (l, r) ∈ G → (l, c + o + r) ∈ hf) ∧
    ∀ h : Labelling, Ext h hf → (∀ l r, (l, r) ∈ A → h.lookup l = some (c + o + r)) →
      Cons h (renameLocals ss seen) c d

theorem FlowR_append {A : List (String × H)} {o o' : H} {a b : List Step} {G1 G2 : List (String × H)}
    {d1 d2 : H} (h1 : FlowR A o a G1 d1) (h2 : FlowR A o' b G2 d2) (ho : o' + d1 = o) :
    FlowR A o (a ++ b) (G1 ++ G2) (d1 + d2) := by
  intro c seen
  obtain ⟨hf1, hk1, hg1, hc1⟩ := h1 c seen
  obtain ⟨hf2, hk2, hg2, hc2⟩ := h2 (c + d1) (seenAfter a seen)
  have hbase : c + d1 + o' = c + o := by harith
  refine ⟨hf1 ++ hf2, ?_, ?_, ?_⟩
  · rw [renameLocals_append, labelNames_append', List.map_append, hk1, hk2]
  · intro l r hm
    rcases List.mem_append.mp hm with hm | hm
    · exact List.mem_append_left _ (hg1 l r hm)
    · have := hg2 l r hm
      rw [hbase] at this
      exact List.mem_append_right _ this
  · intro h hx ha
    obtain ⟨hx1, hx2⟩ := Ext_append.mp hx
    rw [renameLocals_append]
    refine Cons_append (hc1 h hx1 ha) (hc2 h hx2 ?_)
    intro l r hm
    rw [hbase]
    exact ha l r hm

/-- discharge assumptions that the fragment itself guarantees, weaken the rest; forget guarantees -/
theorem FlowR.conv {A A' : List (String × H)} {o : H} {ss : List Step} {G G' : List (String × H)} {d d' : H}
    (h1 : FlowR A o ss G d) (hd : d = d')
    (hA : ∀ l r, (l, r) ∈ A → (l, r) ∈ G ∨ (l, r) ∈ A')
    (hG : ∀ l r, (l, r) ∈ G' → (l, r) ∈ G) : FlowR A' o ss G' d' := by
  subst hd
  intro c seen
  obtain ⟨hf, hk, hg, hc⟩ := h1 c seen
  refine ⟨hf, hk, fun l r hm => hg l r (hG l r hm), ?_⟩
  intro h hx ha
  refine hc h hx ?_
  intro l r hm
  rcases hA l r hm with hm' | hm'
  · exact hx l _ (hg l r hm')
  · exact ha l r hm'

/-- closed code (no assumptions, no guarantees) may be placed in any region, at any offset -/
theorem FlowR_closed {A : List (String × H)} {o o' : H} {ss : List Step} {d : H}
    (h1 : FlowR [] o ss [] d) : FlowR A o' ss [] d := by
  intro c seen
  obtain ⟨hf, hk, _, hc⟩ := h1 c seen
  refine ⟨hf, hk, fun l r hm => (List.not_mem_nil hm).elim, ?_⟩
  intro h hx _
  exact hc h hx (fun l r hm => (List.not_mem_nil hm).elim)

theorem scanRel_deltas_none (h : Labelling) (ds : List H) :
    scanRel h (ds.map Step.delta) none = .ok none := by
  induction ds with
  | nil => rfl
  | cons d r ih => simpa [scanRel] using ih

theorem foldl_add_start (xs : List H) (c y : H) : xs.foldl (· + ·) (c + y) = c + xs.foldl (· + ·) y := by
  induction xs generalizing y with
  | nil => rfl
  | cons z zs ih =>
    simp only [List.foldl_cons]
    rw [H.add_assoc', ih]

theorem FlowR_deltas (o : H) (ds : List H) :
    FlowR [] o (ds.map Step.delta) [] (ds.foldl (· + ·) H.zero) := by
  intro c seen
  refine ⟨[], ?_, fun l r hm => (List.not_mem_nil hm).elim, ?_⟩
  · rw [renameLocals_deltas, labelNames_deltas']; rfl
  · intro h _ _ cur hc
    rw [renameLocals_deltas]
    rcases hc with rfl | rfl
    · exact ⟨none, scanRel_deltas_none h ds, Or.inl rfl⟩
    · refine ⟨_, scanRel_deltas h ds c, Or.inr ?_⟩
      rw [← foldl_add_start, H.add_zero']

theorem FlowR_of_delta {ls : List Line} {d : H} (o : H) (h : delta ls = some d) :
    FlowR [] o (ls.flatMap classify) [] d := by
  obtain ⟨ds, e1, e2⟩ := flatMap_classify_of_delta ls d h
  rw [e1, ← e2]
  exact FlowR_deltas o ds

/-- closed code with labels, printed while `count()` went from `lo` to `hi`: one height per label,
    effect (r, x); its counter labels are pairwise distinct and numbered in [lo, hi) -/
def FlowP (lo hi : Nat) (ls : List Line) (r x : Int) : Prop :=
  FlowR [] ⟨0, 0⟩ (ls.flatMap classify) [] ⟨r, x⟩ ∧ LabsR (ls.flatMap classify) [] lo hi

instance : CodePred FlowP where
  lines h hl := ⟨FlowR_of_delta _ h, LabsR_noLabels (labelNames_of_delta h) hl⟩
  append := by
    intro lo mid hi a b r1 x1 r2 x2 h1 h2
    unfold FlowP at *
    rw [List.flatMap_append]
    have := FlowR_append (o := ⟨0, 0⟩) (o' := ⟨-r1, -x1⟩) h1.1 (FlowR_closed h2.1) (by harith)
    exact ⟨this.conv (by simp [H.add_def]) (fun l r hm => (List.not_mem_nil hm).elim)
      (fun l r hm => (List.not_mem_nil hm).elim), LabsR_append h1.2 h2.2⟩

/-- the judgment for a code generator: whenever `m` succeeds, its code is a fragment with assumptions
    `A` and guarantees `G` relative to the region base (fragment base + (ro, xo)), effect (r, x), and
    `depth` has changed by `dd`; `own` are the counter labels of the enclosing arm it defines -/
def SemF (own : List String) (A : List (String × H)) (ro xo : Int) (m : M α) (G : List (String × H))
    (r x dd : Int) : Prop :=
  ∀ s a s' ls, m s = .ok (a, s', ls) →
    FlowR A ⟨ro, xo⟩ (ls.flatMap classify) G ⟨r, x⟩ ∧ s'.depth = s.depth + dd ∧
      LabsR (ls.flatMap classify) own s.count s'.count

theorem SemF_of_SemP {A : List (String × H)} {ro xo : Int} {m : M α} {r x dd : Int}
    (h : SemP FlowP m r x dd) : SemF [] A ro xo m [] r x dd := by
  unfold SemP at h
  intro s a s' ls hm
  obtain ⟨h1, h2⟩ := h s a s' ls hm
  exact ⟨FlowR_closed h1.1, h2, h1.2⟩

theorem SemP_of_SemF {ro xo : Int} {m : M α} {r x dd : Int}
    (h : SemF [] [] ro xo m [] r x dd) : SemP FlowP m r x dd := by
  unfold SemP
  intro s a s' ls hm
  obtain ⟨h1, h2, h3⟩ := h s a s' ls hm
  exact ⟨⟨FlowR_closed h1, h3⟩, h2⟩

theorem SemF_bind {own1 own2 : List String} {A : List (String × H)} {ro xo : Int} {m : M α} {f : α → M β}
    {G1 G2 : List (String × H)}
    {r1 x1 d1 r2 x2 d2 : Int} (h1 : SemF own1 A ro xo m G1 r1 x1 d1)
    (h2 : ∀ a, SemF own2 A (ro - r1) (xo - x1) (f a) G2 r2 x2 d2) :
    SemF (own1 ++ own2) A ro xo (m >>= f) (G1 ++ G2) (r1 + r2) (x1 + x2) (d1 + d2) := by
  intro s b s' ls h
  obtain ⟨a, s1, l1, l2, hm, hf, rfl⟩ := bind_ok h
  obtain ⟨e1, e2, e5⟩ := h1 _ _ _ _ hm
  obtain ⟨e3, e4, e6⟩ := h2 a _ _ _ _ hf
  rw [List.flatMap_append]
  exact ⟨(FlowR_append e1 e3 (by harith)).conv (by simp [H.add_def]) (fun l r hm => Or.inr hm) (fun l r hm => hm),
    by simp [e4, e2, Int.add_assoc], LabsR_append e5 e6⟩

/-- change the presentation of a judgment: arithmetic, discharge of internal labels, weakening -/
theorem SemF.conv {own own' : List String} {A A' : List (String × H)} {ro xo ro' xo' : Int} {m : M α}
    {G G' : List (String × H)}
    {r x dd r' x' dd' : Int} (h : SemF own A ro xo m G r x dd)
    (hro : ro = ro') (hxo : xo = xo') (hr : r = r') (hx : x = x') (hd : dd = dd')
    (hA : ∀ l v, (l, v) ∈ A → (l, v) ∈ G ∨ (l, v) ∈ A')
    (hG : ∀ l v, (l, v) ∈ G' → (l, v) ∈ G) (hown : own = own' := by rfl) :
    SemF own' A' ro' xo' m G' r' x' dd' := by
  subst hro hxo hr hx hd hown
  intro s a s' ls hm
  obtain ⟨h1, h2, h3⟩ := h s a s' ls hm
  exact ⟨h1.conv rfl hA hG, h2, h3⟩

theorem SemF.base {own : List String} {A : List (String × H)} {ro xo ro' xo' : Int} {m : M α}
    {G : List (String × H)} {r x dd : Int} (h : SemF own A ro xo m G r x dd) (hro : ro = ro') (hxo : xo = xo') :
    SemF own A ro' xo' m G r x dd := by
  subst hro hxo
  exact h

theorem SemF.cons {own : List String} {A : List (String × H)} {ro xo : Int} {m : M α}
    {G : List (String × H)} {r x dd : Int} (h : SemF own A ro xo m G r x dd) (p : String × H) :
    SemF own (p :: A) ro xo m G r x dd :=
  h.conv rfl rfl rfl rfl rfl (fun _ _ hm => Or.inr (List.mem_cons_of_mem _ hm)) (fun _ _ hm => hm)

theorem SemF_fail {own : List String} {A : List (String × H)} {ro xo : Int} {G : List (String × H)}
    {r x dd : Int} (msg : String) :
    SemF own A ro xo (fail msg : M α) G r x dd := by
  intro s a s' ls h; cases h

/-- an arm that draws its label number from `count()`: its own labels `own k` join the fresh ones -/
theorem SemF_count {A : List (String × H)} {ro xo : Int} {f : Nat → M β} {G : List (String × H)}
    {r x dd : Int} {own : Nat → List String} (h : ∀ k, SemF (own k) A ro xo (f k) G r x dd)
    (hn : ∀ k, (own k).Nodup) (ho : ∀ k l, l ∈ own k → ∃ t, t ∈ ctrTags ∧ l = ctr t k) :
    SemF [] A ro xo (count >>= f) G r x dd := by
  intro s b s' ls hm
  simp only [bind, M.bind, count] at hm
  split at hm
  · cases hm
  · rename_i b' s2 l2 hf
    simp only [List.nil_append, Except.ok.injEq, Prod.mk.injEq] at hm
    obtain ⟨rfl, rfl, rfl⟩ := hm
    obtain ⟨h1, h2, h3⟩ := h s.count _ _ _ _ hf
    exact ⟨h1, by simpa using h2, LabsR_close h3 (hn _) (ho _)⟩

theorem lookup_of_assumed {A : List (String × H)} {h : Labelling} {c o r : H} {l : String}
    (ha : ∀ l r, (l, r) ∈ A → h.lookup l = some (c + o + r)) (hm : (l, r) ∈ A) (ho : o + r = H.zero) :
    h.lookup l = some c := by
  rw [ha l r hm]
  congr 1
  harith

theorem FlowR_cond {A : List (String × H)} {o : H} {l : String} {r : H} (hl : localRef l = none)
    (hm : (l, r) ∈ A) (ho : o + r = H.zero) : FlowR A o [.cond l] [] H.zero := by
  intro c seen
  refine ⟨[], by simp [renameLocals, hl, labelNames], fun l r hm => (List.not_mem_nil hm).elim, ?_⟩
  intro h _ ha cur hc
  have hlk := lookup_of_assumed ha hm ho
  simp only [renameLocals, hl]
  rcases hc with rfl | rfl
  · exact ⟨none, rfl, Or.inl rfl⟩
  · refine ⟨some c, by simp [scanRel, hlk], Or.inr (by rw [H.add_zero'])⟩

theorem FlowR_jump {A : List (String × H)} {o : H} {l : String} {r d : H} (hl : localRef l = none)
    (hm : (l, r) ∈ A) (ho : o + r = H.zero) : FlowR A o [.jump l] [] d := by
  intro c seen
  refine ⟨[], by simp [renameLocals, hl, labelNames], fun l r hm => (List.not_mem_nil hm).elim, ?_⟩
  intro h _ ha cur hc
  have hlk := lookup_of_assumed ha hm ho
  simp only [renameLocals, hl]
  rcases hc with rfl | rfl
  · exact ⟨none, rfl, Or.inl rfl⟩
  · exact ⟨none, by simp [scanRel, hlk], Or.inl rfl⟩

theorem FlowR_leave {A : List (String × H)} {o d : H} : FlowR A o [.leave] [] d := by
  intro c seen
  refine ⟨[], by simp [renameLocals, labelNames], fun l r hm => (List.not_mem_nil hm).elim, ?_⟩
  intro h _ _ cur _
  exact ⟨none, by simp [renameLocals, scanRel], Or.inl rfl⟩

theorem FlowR_label {A : List (String × H)} {o : H} {l : String} {r : H} (hl : isNumLabel l = false)
    (ho : o + r = H.zero) : FlowR A o [.label l] [(l, r)] H.zero := by
  intro c seen
  have hb : c + o + r = c := by harith
  refine ⟨[(l, c)], by simp [renameLocals, hl, labelNames], ?_, ?_⟩
  · intro l' r' hm
    simp only [List.mem_singleton, Prod.mk.injEq] at hm
    obtain ⟨rfl, rfl⟩ := hm
    rw [hb]
    exact List.mem_singleton.mpr rfl
  · intro h hx _ cur hc
    have hlk : h.lookup l = some c := hx l c (List.mem_singleton.mpr rfl)
    simp only [renameLocals, hl]
    refine ⟨some c, ?_, Or.inr (by rw [H.add_zero'])⟩
    rcases hc with rfl | rfl <;> simp [scanRel, hlk]

theorem jumpTarget_of_startsDot (op : String) {l : String} (h : startsDot l = true) :
    jumpTarget ⟨op, [.s l]⟩ = some l := by
  obtain ⟨rest, hl⟩ := startsDot_elim h
  simp only [jumpTarget, hl]
  have : List.dropWhile (fun x => x == ' ') ('.' :: rest) = '.' :: rest := by
    simp [List.dropWhile]
  rw [this]
  split
  · rename_i tail heq
    simp at heq
  · rw [← hl, String.ofList_toList]

theorem localRef_of_startsDot {l : String} (h : startsDot l = true) : localRef l = none := by
  obtain ⟨rest, hl⟩ := startsDot_elim h
  unfold localRef
  rw [hl]
  split
  · rename_i d hd
    simp only [List.cons.injEq] at hd
    have : ('.' : Char).isDigit = false := by decide
    rw [← hd.1, this]; rfl
  · rename_i d hd
    simp only [List.cons.injEq] at hd
    have : ('.' : Char).isDigit = false := by decide
    rw [← hd.1, this]; rfl
  · rfl

theorem classify_label (n : String) : classify (.label n) = [.label n] := rfl

theorem jumpTarget_op (op op' : String) (t : String) : jumpTarget ⟨op, [.s t]⟩ = jumpTarget ⟨op', [.s t]⟩ := rfl

theorem classify_jmp {t l : String} (h : jumpTarget ⟨"jmp", [.s t]⟩ = some l) :
    classify (ins1 "jmp" (.s t)) = [.jump l] := classify_jump (by decide +kernel) (by decide +kernel) h

/-- `jmp` to something that is not a label (`jmp *%rax`): control leaves -/
theorem classify_jmp_leave {t : String} (h : jumpTarget ⟨"jmp", [.s t]⟩ = none) :
    classify (ins1 "jmp" (.s t)) = [.leave] := by
  have hd : insDelta ⟨"jmp", [.s t]⟩ = none := (insDelta_op rfl).trans (by decide +kernel)
  have hj : jumpOps.contains "jmp" = true := by decide +kernel
  simp only [classify, lineDelta, ins1, hd, classifyIns, hj, h, if_true]
  rfl

/-- a line whose skeleton is known -/
theorem SemF_emit {own : List String} {A : List (String × H)} {ro xo : Int} {l : Line} {G : List (String × H)}
    {r x : Int}
    (h : FlowR A ⟨ro, xo⟩ (classify l) G ⟨r, x⟩) (hl : ∀ n, LabsR (classify l) own n n) :
    SemF own A ro xo (emit l) G r x 0 := by
  intro s a s' ls hm
  simp only [emit, Except.ok.injEq, Prod.mk.injEq] at hm
  obtain ⟨_, rfl, rfl⟩ := hm
  exact ⟨by simpa using h, by simp, by simpa using hl s.count⟩

/-! Jumps and labels are stated at the fragment base at which the label has its height `v`: in
`(-v.rsp, -v.x87)` the height is computed from the label, no equation is left to check.  Where the
base is a numeral it unifies by evaluation; elsewhere `SemF.base` restates it. -/

theorem SemF_jccT {A : List (String × H)} {op t l : String} {v : H} (hop : CondOp op)
    (ht : jumpTarget ⟨op, [.s t]⟩ = some l) (hs : startsDot l = true) (hm : (l, v) ∈ A) :
    SemF [] A (-v.rsp) (-v.x87) (emit (ins1 op (.s t))) [] 0 0 0 := by
  refine SemF_emit ?_ ?_
  · rw [hop t l ht]
    exact FlowR_cond (localRef_of_startsDot hs) hm (by harith)
  · rw [hop t l ht]
    exact fun n => LabsR_noLabels rfl (Nat.le_refl n)

theorem SemF_jcc {A : List (String × H)} {op l : String} {v : H} (hop : CondOp op)
    (hs : startsDot l = true) (hm : (l, v) ∈ A) :
    SemF [] A (-v.rsp) (-v.x87) (emit (ins1 op (.s l))) [] 0 0 0 :=
  SemF_jccT hop (jumpTarget_of_startsDot _ hs) hs hm

/-- `jmp l`, `l` assumed at the current height; what follows is dead, so any effect may be claimed -/
theorem SemF_jmp {A : List (String × H)} {l : String} {v : H} {r x : Int} (hs : startsDot l = true)
    (hm : (l, v) ∈ A) : SemF [] A (-v.rsp) (-v.x87) (emit (ins1 "jmp" (.s l))) [] r x 0 := by
  refine SemF_emit ?_ ?_
  · rw [classify_jmp (jumpTarget_of_startsDot _ hs)]
    exact FlowR_jump (localRef_of_startsDot hs) hm (by harith)
  · rw [classify_jmp (jumpTarget_of_startsDot _ hs)]
    exact fun n => LabsR_noLabels rfl (Nat.le_refl n)

/-- a counter label of the enclosing arm is guaranteed at the current height -/
theorem SemF_label_ctr {A : List (String × H)} {t : String} (ht : t ∈ ctrTags) (k : Nat) (v : H) :
    SemF [ctr t k] A (-v.rsp) (-v.x87) (emit (.label (ctr t k))) [(ctr t k, v)] 0 0 0 := by
  refine SemF_emit ?_ ?_
  · rw [classify_label]
    exact FlowR_label (isNumLabel_of_startsDot (startsDot_ctr ht k)) (by harith)
  · rw [classify_label]
    exact fun n => LabsR_own ht k n

/-- a parser label is guaranteed at the current height -/
theorem SemF_label_user {A : List (String × H)} {l : String} (hu : userLabel l = true) (v : H) :
    SemF [] A (-v.rsp) (-v.x87) (emit (.label l)) [(l, v)] 0 0 0 := by
  refine SemF_emit ?_ ?_
  · rw [classify_label]
    exact FlowR_label (isNumLabel_of_startsDot (userLabel_elim hu).1) (by harith)
  · rw [classify_label]
    exact fun n => LabsR_user hu n

end ChibiVerif.Lemmas.C20
