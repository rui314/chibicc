/-
C05, back-end agreement, part 3: for a well-formed (laid-out) type the leaves of a fitting tree are admissible, lie inside the
object and are pairwise compatible.  Only interval arithmetic; no memory.  At the end: the size of an object whose struct type
ends in a flexible array member.
-/
import ChibiVerif.Lemmas.InitLeafLemmas

namespace ChibiVerif.Init

def Ty.sz (t : Ty) : Nat := t.size.toNat

/-- a bit-field's declared type: an integer type or `_Bool`, with the field inside its storage unit -/
def bfTyOK (t : Ty) (bo bw : Nat) : Bool :=
  match t with
  | .scalar sz kind => (kind == .int || kind == .bool) && (sz == 1 || sz == 2 || sz == 4 || sz == 8) && decide (bo + bw ≤ 8 * sz)
  | _ => false

/-- bit range of a member inside its struct -/
def memBitLo (m : MemInfo × Ty) : Nat := match m.1.bf with | some (bo, _) => 8 * m.1.offset + bo | none => 8 * m.1.offset
def memBitHi (m : MemInfo × Ty) : Nat :=
  match m.1.bf with | some (bo, bw) => 8 * m.1.offset + bo + bw | none => 8 * (m.1.offset + m.2.sz)

/-- two members of one struct do not interfere: disjoint bits; a member of 8 bytes or more (the only place a relocation can be)
    shares no byte with the storage unit of a bit-field -/
def memSep (a b : MemInfo × Ty) : Bool :=
  (decide (memBitHi a ≤ memBitLo b) || decide (memBitHi b ≤ memBitLo a)) &&
  ((a.1.bf.isSome && b.1.bf.isNone && decide (8 ≤ b.2.sz)) →
      (decide (a.1.offset + a.2.sz ≤ b.1.offset) || decide (b.1.offset + b.2.sz ≤ a.1.offset))) &&
  ((b.1.bf.isSome && a.1.bf.isNone && decide (8 ≤ a.2.sz)) →
      (decide (a.1.offset + a.2.sz ≤ b.1.offset) || decide (b.1.offset + b.2.sz ≤ a.1.offset)))

def layoutOK : Members → Nat → Bool
  | [], _ => true
  | m :: ms, sz => decide (m.1.offset + m.2.sz ≤ sz) && ms.all (memSep m) && layoutOK ms sz

mutual
  /-- a laid-out object type: what struct_decl/union_decl produce for a non-packed declaration, except that `memSep` also rejects an
      array or struct of 8 bytes or more that shares a byte with a bit-field's storage unit (`struct { int a[3]; long b:3; }`) -/
  def wf : Ty → Bool
    | .scalar sz kind => scalarOK sz kind
    | .array e _ => wf e
    | .inc _ => false
    | .struct ms sz _ => wfMs ms && layoutOK ms sz
    | .union ms sz _ => wfMs ms && layoutOK' ms sz
  def wfMs : Members → Bool
    | [] => true
    | (mi, t) :: ms => wf t && (match mi.bf with | some (bo, bw) => bfTyOK t bo bw | none => true) && wfMs ms
  /-- union: every member inside the union -/
  def layoutOK' : Members → Nat → Bool
    | [], _ => true
    | (_, t) :: ms, sz => decide (t.sz ≤ sz) && layoutOK' ms sz
end

theorem Leaf.ok_mono {l : Leaf} {a b : Nat} (h : a ≤ b) (hok : l.ok a) : l.ok b := by
  cases l with
  | val off sz kind e => exact ⟨hok.1, hok.2.1, Nat.le_trans hok.2.2 h⟩
  | bf off sz kind bo bw e => exact ⟨hok.1, hok.2.1, hok.2.2.1, Nat.le_trans hok.2.2.2 h⟩

theorem Leaf.inWin.mono {l : Leaf} {lo hi lo' hi' : Nat} (h : l.inWin lo hi) (h1 : lo' ≤ lo) (h2 : hi ≤ hi') : l.inWin lo' hi' :=
  ⟨Nat.le_trans h1 h.1, Nat.le_trans h.2.1 h2, h.2.2⟩

theorem Leaf.foot {l : Leaf} (hok : l.ok (l.off + l.sz)) :
    l.bLo = l.off ∧ l.bHi ≤ l.off + l.sz ∧ 8 * l.off ≤ l.bitLo ∧ l.bitHi ≤ 8 * (l.off + l.sz) := by
  cases l with
  | val off sz kind e =>
    have := storeWidth_le sz kind
    refine ⟨rfl, ?_, ?_, ?_⟩
    · show off + storeWidth sz kind ≤ off + sz; omega
    · show 8 * off ≤ 8 * off; omega
    · show 8 * (off + storeWidth sz kind) ≤ 8 * (off + sz); omega
  | bf off sz kind bo bw e =>
    have h : bo + bw ≤ 8 * sz := hok.2.2.1
    refine ⟨rfl, ?_, ?_, ?_⟩
    · show off + sz ≤ off + sz; omega
    · show 8 * off ≤ 8 * off + bo; omega
    · show 8 * off + bo + bw ≤ 8 * (off + sz); omega

theorem compat_of_windows {a b : Leaf} {lo1 hi1 lo2 hi2 : Nat} (ha : a.inWin lo1 hi1) (hb : b.inWin lo2 hi2)
    (h : hi1 ≤ lo2 ∨ hi2 ≤ lo1) : a.compat b := by
  have fa := Leaf.foot ha.2.2
  have fb := Leaf.foot hb.2.2
  obtain ⟨a1, a2, _⟩ := ha
  obtain ⟨b1, b2, _⟩ := hb
  refine ⟨?_, fun _ => ?_⟩ <;> omega

theorem Leaf.compat.symm {a b : Leaf} (h : a.compat b) : b.compat a :=
  ⟨h.1.symm, fun hr => (h.2 hr.symm).symm⟩

theorem wf_size_nonneg : ∀ (t : Ty), wf t = true → 0 ≤ t.size
  | .scalar _ _, _ => by simp [Ty.size]
  | .array e n, h => by
    simp only [wf] at h
    have := wf_size_nonneg e h
    simp only [Ty.size]
    exact Int.mul_nonneg this (Int.natCast_nonneg n)
  | .inc _, h => by simp [wf] at h
  | .struct _ _ _, _ => by simp [Ty.size]
  | .union _ _ _, _ => by simp [Ty.size]

theorem array_sz (e : Ty) (n : Nat) (h : wf e = true) : (Ty.array e n).sz = e.sz * n := by
  have := wf_size_nonneg e h
  simp only [Ty.sz, Ty.size]
  rw [Int.toNat_mul this (Int.natCast_nonneg n)]
  simp

/-- where a leaf produced by member `m` of a struct at `off` lies -/
def InMem (off : Nat) (m : MemInfo × Ty) (l : Leaf) : Prop :=
  match m.1.bf with
  | some (bo, bw) => l.off = off + m.1.offset ∧ l.sz = m.2.sz ∧ l.bitLo = 8 * (off + m.1.offset) + bo ∧
      l.bitHi = 8 * (off + m.1.offset) + bo + bw ∧ l.isReloc = false ∧ l.bHi = off + m.1.offset + m.2.sz ∧ l.ok (l.off + l.sz)
  | none => l.inWin (off + m.1.offset) (off + m.1.offset + m.2.sz)

theorem reloc_sz {l : Leaf} {n : Nat} (hok : l.ok n) (hr : l.isReloc = true) : l.sz = 8 := by
  cases l with
  | val off sz kind e =>
    simp only [Leaf.isReloc] at hr
    obtain ⟨h, _⟩ := hok
    simp only [leafOK, Bool.and_eq_true, Bool.or_eq_true, beq_iff_eq] at h
    rcases h.2 with h | h
    · simp [Option.isNone_iff_eq_none] at h; simp [h] at hr
    · exact h.1
  | bf => simp [Leaf.isReloc] at hr

theorem InMem.foot {off : Nat} {m : MemInfo × Ty} {l : Leaf} (h : InMem off m l) :
    8 * off + memBitLo m ≤ l.bitLo ∧ l.bitHi ≤ 8 * off + memBitHi m ∧
    off + m.1.offset ≤ l.bLo ∧ l.bHi ≤ off + m.1.offset + m.2.sz ∧
    (l.isReloc = true → m.1.bf = none ∧ 8 ≤ m.2.sz) := by
  unfold InMem at h
  unfold memBitLo memBitHi
  cases hbf : m.1.bf with
  | none =>
    simp only [hbf] at h ⊢
    have f := Leaf.foot h.2.2
    obtain ⟨h1, h2, h3⟩ := h
    refine ⟨by omega, by omega, by omega, by omega, fun hr => ⟨trivial, ?_⟩⟩
    have := reloc_sz h3 hr
    omega
  | some p =>
    obtain ⟨bo, bw⟩ := p
    simp only [hbf] at h ⊢
    obtain ⟨h1, h2, h3, h4, h5, h6, h7⟩ := h
    have : l.bLo = l.off := rfl
    refine ⟨by omega, by omega, by omega, by omega, fun hr => ?_⟩
    rw [h5] at hr; cases hr

/-- separated members of which one may hold a relocation share no byte -/
theorem memSep_bytes {m1 m2 : MemInfo × Ty} (hs : memSep m1 m2 = true)
    (h : (m1.1.bf = none ∧ 8 ≤ m1.2.sz) ∨ (m2.1.bf = none ∧ 8 ≤ m2.2.sz)) :
    m1.1.offset + m1.2.sz ≤ m2.1.offset ∨ m2.1.offset + m2.2.sz ≤ m1.1.offset := by
  simp only [memSep, memBitLo, memBitHi, Bool.and_eq_true, Bool.or_eq_true, decide_eq_true_eq] at hs
  obtain ⟨⟨hbits, h12⟩, h21⟩ := hs
  cases h1 : m1.1.bf <;> cases h2 : m2.1.bf <;> simp only [h1, h2, decide_eq_true_eq] at hbits h12 h21 h
  · omega
  · exact h21 ⟨⟨rfl, rfl⟩, by simpa using h⟩
  · exact h12 ⟨⟨rfl, rfl⟩, by simpa using h⟩
  · simp at h

theorem compat_of_members {off : Nat} {m1 m2 : MemInfo × Ty} {a b : Leaf} (hs : memSep m1 m2 = true)
    (ha : InMem off m1 a) (hb : InMem off m2 b) : a.compat b := by
  obtain ⟨a1, a2, a3, a4, a5⟩ := ha.foot
  obtain ⟨b1, b2, b3, b4, b5⟩ := hb.foot
  refine ⟨?_, fun hr => ?_⟩
  · have : memBitHi m1 ≤ memBitLo m2 ∨ memBitHi m2 ≤ memBitLo m1 := by
      simp only [memSep, Bool.and_eq_true, Bool.or_eq_true, decide_eq_true_eq] at hs
      exact hs.1.1
    omega
  · have := memSep_bytes hs (hr.imp a5 b5)
    omega

theorem layoutOK_mem {ms : Members} {sz : Nat} (h : layoutOK ms sz = true) : ∀ m ∈ ms, m.1.offset + m.2.sz ≤ sz := by
  induction ms with
  | nil => intro m hm; cases hm
  | cons m0 ms ih =>
    simp only [layoutOK, Bool.and_eq_true, decide_eq_true_eq] at h
    intro m hm
    rcases List.mem_cons.mp hm with rfl | hm
    · exact h.1.1
    · exact ih h.2 m hm

theorem InMem.inWin {off sz : Nat} {m : MemInfo × Ty} {l : Leaf} (h : InMem off m l) (hm : m.1.offset + m.2.sz ≤ sz) :
    l.inWin off (off + sz) := by
  simp only [InMem] at h
  cases hbf : m.1.bf with
  | none => simp only [hbf] at h; exact h.mono (by omega) (by omega)
  | some p =>
    obtain ⟨bo, bw⟩ := p
    simp only [hbf] at h
    obtain ⟨h1, h2, _, _, _, _, h7⟩ := h
    exact ⟨by omega, by omega, h7⟩

mutual
  theorem leaves_wf : ∀ (init : Init) (ty : Ty) (off : Nat), wf ty = true → fits init ty = true →
      (∀ l ∈ leaves init ty off, l.inWin off (off + ty.sz)) ∧ (leaves init ty off).Pairwise Leaf.compat
    | .arr cs, ty, off, hw, hf => by
      obtain ⟨elem, n, rfl, hn, ha⟩ := fits_arr hf
      simp only [wf] at hw
      simp only [leaves]
      have := leavesArr_wf cs elem off hw ha
      rw [array_sz elem n hw, ← hn]
      exact this
    | .flex, ty, _, _, hf => by
      obtain ⟨elem, n, rfl⟩ := fits_flex hf
      simp [leaves]
    | .struct e cs, ty, off, hw, hf => by
      obtain ⟨rfl, ms, sz, fl, rfl, hm⟩ := fits_struct hf
      simp only [wf, Bool.and_eq_true] at hw
      simp only [leaves]
      obtain ⟨h1, h2⟩ := leavesMs_wf cs ms off hw.1 hm
      refine ⟨?_, h2 sz hw.2⟩
      intro l hl
      obtain ⟨m, hm, hin⟩ := h1 l hl
      have : (Ty.struct ms sz fl).sz = sz := by simp [Ty.sz, Ty.size]
      rw [this]
      exact hin.inWin (layoutOK_mem hw.2 m hm)
    | .union e m cs, ty, off, hw, hf => by
      obtain ⟨rfl, ms, sz, fl, rfl, hk, _⟩ := fits_union hf
      cases m with
      | none => simp [leaves]
      | some k =>
        simp only [wf, Bool.and_eq_true] at hw
        simp only [leaves]
        have : (Ty.union ms sz fl).sz = sz := by simp [Ty.sz, Ty.size]
        rw [this]
        exact leavesNth_wf cs ms k off sz hw.1 hw.2 hk
    | .leaf e, ty, off, hw, hf => by
      obtain ⟨sz, kind, rfl, he⟩ := fits_leaf hf
      cases e with
      | none => simp [leaves]
      | some e =>
        simp only [wf] at hw
        simp only [leaves, List.mem_singleton, forall_eq, List.pairwise_singleton, and_true]
        exact ⟨Nat.le_refl _, by simp [Leaf.off, Leaf.sz, Ty.sz, Ty.size], he e rfl, hw, Nat.le_refl _⟩
  theorem leavesArr_wf : ∀ (cs : List Init) (elem : Ty) (off : Nat), wf elem = true → fitsArr cs elem = true →
      (∀ l ∈ leavesArr cs elem off, l.inWin off (off + elem.sz * cs.length)) ∧ (leavesArr cs elem off).Pairwise Leaf.compat
    | [], _, _, _, _ => by simp [leavesArr]
    | c :: cs, elem, off, hw, hf => by
      simp only [fitsArr, Bool.and_eq_true] at hf
      obtain ⟨a1, a2⟩ := leaves_wf c elem off hw hf.1
      obtain ⟨b1, b2⟩ := leavesArr_wf cs elem (off + elem.sz) hw hf.2
      simp only [leavesArr, List.length_cons]
      have he : elem.size.toNat = elem.sz := rfl
      rw [he]
      refine ⟨?_, ?_⟩
      · intro l hl
        rcases List.mem_append.mp hl with hl | hl
        · exact (a1 l hl).mono (Nat.le_refl _) (by rw [Nat.mul_succ]; omega)
        · exact (b1 l hl).mono (by omega) (by rw [Nat.mul_succ]; omega)
      · rw [List.pairwise_append]
        exact ⟨a2, b2, fun a ha b hb => compat_of_windows (a1 a ha) (b1 b hb) (Or.inl (Nat.le_refl _))⟩
  theorem leavesMs_wf : ∀ (cs : List Init) (ms : Members) (off : Nat), wfMs ms = true → fitsMs cs ms = true →
      (∀ l ∈ leavesMs cs ms off, ∃ m ∈ ms, InMem off m l) ∧
      (∀ sz, layoutOK ms sz = true → (leavesMs cs ms off).Pairwise Leaf.compat)
    | [], [], _, _, _ => by simp [leavesMs]
    | [], _ :: _, _, _, h => by simp [fitsMs] at h
    | _ :: _, [], _, _, h => by simp [fitsMs] at h
    | c :: cs, (mi, t) :: ms, off, hw, hf => by
      simp only [wfMs, Bool.and_eq_true] at hw
      have hf0 := hf
      simp only [fitsMs, Bool.and_eq_true] at hf
      obtain ⟨⟨hwt, hbfty⟩, hwms⟩ := hw
      obtain ⟨b1, b2⟩ := leavesMs_wf cs ms off hwms hf.2
      simp only [leavesMs]
      have hfirst : (∀ l ∈ (match mi.bf with
            | some (bo, bw) => bfLeaf c t (off + mi.offset) bo bw
            | none => leaves c t (off + mi.offset)), InMem off (mi, t) l) ∧
          (match mi.bf with
            | some (bo, bw) => bfLeaf c t (off + mi.offset) bo bw
            | none => leaves c t (off + mi.offset)).Pairwise Leaf.compat := by
        cases hbf : mi.bf with
        | none =>
          simp only [hbf] at hf ⊢
          obtain ⟨a1, a2⟩ := leaves_wf c t (off + mi.offset) hwt hf.1
          exact ⟨fun l hl => by simp only [InMem, hbf]; exact a1 l hl, a2⟩
        | some p =>
          obtain ⟨bo, bw⟩ := p
          simp only [hbf] at hbfty ⊢
          obtain ⟨⟨sz, kind, rfl, rfl | ⟨e, rfl, hx⟩⟩, _⟩ := fitsMs_bf hbf hf0
          · simp [bfLeaf]
          · have hy := hbfty
            simp only [bfTyOK, Bool.and_eq_true, Bool.or_eq_true, beq_iff_eq, decide_eq_true_eq] at hy
            simp only [bfLeaf, List.mem_singleton, forall_eq, List.pairwise_singleton, and_true, InMem, hbf]
            refine ⟨rfl, by simp [Leaf.sz, Ty.sz, Ty.size], rfl, rfl, rfl, by simp [Leaf.bHi, Ty.sz, Ty.size], hx, ?_, hy.2, Nat.le_refl _⟩
            rcases hy.1.2 with ((h | h) | h) | h <;> simp [h]
      obtain ⟨a1, a2⟩ := hfirst
      refine ⟨?_, ?_⟩
      · intro l hl
        rcases List.mem_append.mp hl with hl | hl
        · exact ⟨(mi, t), List.mem_cons_self .., a1 l hl⟩
        · obtain ⟨m, hm, hin⟩ := b1 l hl
          exact ⟨m, List.mem_cons_of_mem _ hm, hin⟩
      · intro sz hlay
        simp only [layoutOK, Bool.and_eq_true, List.all_eq_true] at hlay
        rw [List.pairwise_append]
        refine ⟨a2, b2 sz hlay.2, ?_⟩
        intro a ha b hb
        obtain ⟨m, hm, hin⟩ := b1 b hb
        exact compat_of_members (hlay.1.2 m hm) (a1 a ha) hin
  theorem leavesNth_wf : ∀ (cs : List Init) (ms : Members) (k off sz : Nat), wfMs ms = true → layoutOK' ms sz = true →
      fitsNth cs ms k = true →
      (∀ l ∈ leavesNth cs ms k off, l.inWin off (off + sz)) ∧ (leavesNth cs ms k off).Pairwise Leaf.compat
    | c :: _, (mi, t) :: _, 0, off, sz, hw, hl, hf => by
      simp only [wfMs, Bool.and_eq_true] at hw
      simp only [layoutOK', Bool.and_eq_true, decide_eq_true_eq] at hl
      simp only [fitsNth, Bool.and_eq_true] at hf
      simp only [leavesNth]
      obtain ⟨a1, a2⟩ := leaves_wf c t off hw.1.1 hf.2
      exact ⟨fun l h => (a1 l h).mono (Nat.le_refl _) (by omega), a2⟩
    | _ :: cs, (_, _) :: ms, k+1, off, sz, hw, hl, hf => by
      simp only [wfMs, Bool.and_eq_true] at hw
      simp only [layoutOK', Bool.and_eq_true] at hl
      simp only [fitsNth] at hf
      simp only [leavesNth]
      exact leavesNth_wf cs ms k off sz hw.2 hl.2 hf
    | [], _, _, _, _, _, _, h => by simp [fitsNth] at h
    | _ :: _, [], _, _, _, _, _, h => by simp [fitsNth] at h
end

/-! ### the size of an object whose struct type ends in a flexible array member

`initializer()` copies the type and re-types the last member with the type of its node - `elem[n]`, `n` the counted length (0 if no
initializer reached the member) - and adds the member's size to the struct's (`resolveTy`). -/

theorem resolveArr_size (el : Ty) (c : Init) : (resolveArr el c).size = el.size * (flexLen c : Int) := by
  cases c <;> simp [resolveArr, flexLen, Ty.size]

theorem lastMemberSize_resolveLast : ∀ (ms : Members) (cs : List Init) (el : Ty) (n : Nat), flexResolved ms cs = some (el, n) →
    lastMemberSize (resolveLast ms cs) = el.size * (n : Int)
  | [], _, _, _, h => by simp [flexResolved] at h
  | [(mi, t)], cs, el, n, h => by
    cases cs with
    | nil => simp [flexResolved] at h
    | cons c cs =>
      cases cs with
      | cons _ _ => simp [flexResolved] at h
      | nil =>
        simp only [flexResolved, Option.map_eq_some_iff] at h
        obtain ⟨el', hel, heq⟩ := h
        cases heq
        simp only [resolveLast, hel, lastMemberSize]
        exact resolveArr_size el c
  | m0 :: m :: ms, [], _, _, h => by simp [flexResolved] at h
  | m0 :: m :: ms, c :: cs, el, n, h => by
    simp only [flexResolved] at h
    have ih := lastMemberSize_resolveLast (m :: ms) cs el n h
    cases cs with
    | nil => cases ms <;> simp [flexResolved] at h
    | cons c1 cs1 =>
      have : resolveLast (m0 :: m :: ms) (c :: c1 :: cs1) = m0 :: resolveLast (m :: ms) (c1 :: cs1) := by
        simp [resolveLast]
      rw [this]
      cases hr : resolveLast (m :: ms) (c1 :: cs1) with
      | nil =>
        exfalso
        cases ms with
        | nil => cases cs1 <;> simp [resolveLast] at hr; split at hr <;> simp at hr
        | cons m2 ms2 => simp [resolveLast] at hr
      | cons r0 rs => rw [hr] at ih; simpa [lastMemberSize] using ih

/-- **sizeof after the initializer**: `sizeof(struct) + n · sizeof(elem)` -/
theorem resolveTy_flex_size (ms : Members) (sz : Nat) (init : Init) (el : Ty) (n : Nat)
    (h : flexResolved ms init.children = some (el, n)) (hel : 0 ≤ el.size) :
    (resolveTy (.struct ms sz true) init).sz = sz + el.sz * n := by
  have : (el.size * (n : Int)).toNat = el.size.toNat * n := by
    rw [Int.toNat_mul hel (Int.natCast_nonneg n)]; simp
  simp only [resolveTy, Ty.sz, Ty.size, Int.toNat_natCast]
  rw [lastMemberSize_resolveLast ms init.children el n h, this]

end ChibiVerif.Init
