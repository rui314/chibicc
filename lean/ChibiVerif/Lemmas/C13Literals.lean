/-
C13 — the literal readers never read behind the terminating NUL: every instrumented double of Model/C13Sites.lean equals
its original (lifted), for every byte list.  The one fact behind all of it: a reader advances only over a byte it has seen
to be non-zero, and a non-zero byte lies strictly inside the text.
-/
import ChibiVerif.Model.C13Sites
import ChibiVerif.Lemmas.LiteralsLemmas

namespace ChibiVerif.C13Sites
open ChibiVerif.Literals ChibiVerif.Gen.Literals
open ChibiVerif.Lemmas.Literals (byteAt_of_le byteAt_drop byteAt_ne_zero_lt hit hit_zero matchText_cons matchText_le)

theorem rd_ok {p : List Byte} {i : Nat} (h : i ≤ p.length) : rd p i = .ok (byteAt p i) := by simp [rd, h]

theorem rd_zero (p : List Byte) : rd p 0 = .ok (byteAt p 0) := rd_ok (Nat.zero_le _)

theorem sub_ok {p : List Byte} {j : Nat} (h : j ≤ p.length) : sub p j = .ok (p.drop j) := by simp [sub, h]

theorem isXDigit_ne_zero {b : Byte} (h : isXDigit b = true) : b ≠ 0#8 := by
  intro hb; subst hb; revert h; decide

theorem isOctDigit_ne_zero {b : Byte} (h : isOctDigit b = true) : b ≠ 0#8 := by
  intro hb; subst hb; revert h; decide

/-! ## read_escaped_char -/

theorem hexLoop_spec (p : List Byte) : ∀ (fuel i : Nat) (c : BitVec 32), i ≤ p.length →
    hexLoopI p fuel i c = .ok (hexLoop p fuel i c) ∧ (hexLoop p fuel i c).2 ≤ p.length
  | 0, _, _, h => ⟨rfl, h⟩
  | fuel + 1, i, c, h => by
    simp only [hexLoopI, hexLoop, rd_ok h]
    split
    · exact hexLoop_spec p fuel (i + 1) _ (byteAt_ne_zero_lt _ _ (isXDigit_ne_zero ‹_›))
    · exact ⟨rfl, h⟩

/-- the double agrees, and an escape that starts on a non-zero byte ends inside the text -/
theorem readEscapedChar_spec (p : List Byte) : readEscapedCharI p = lift (readEscapedChar p) ∧
    (byteAt p 0 ≠ 0#8 → ∀ c n, readEscapedChar p = .ok (c, n) → n ≤ p.length) := by
  unfold readEscapedCharI readEscapedChar
  simp only [rd_zero]
  by_cases h0 : isOctDigit (byteAt p 0) = true
  · have l0 : 0 < p.length := byteAt_ne_zero_lt _ _ (isOctDigit_ne_zero h0)
    simp only [h0, if_true, rd_ok (show 1 ≤ p.length from l0)]
    by_cases h1 : isOctDigit (byteAt p 1) = true
    · have l1 : 1 < p.length := byteAt_ne_zero_lt _ _ (isOctDigit_ne_zero h1)
      simp only [h1, if_true, rd_ok (show 2 ≤ p.length from l1)]
      by_cases h2 : isOctDigit (byteAt p 2) = true
      · have l2 : 2 < p.length := byteAt_ne_zero_lt _ _ (isOctDigit_ne_zero h2)
        refine ⟨by simp [h2, lift], fun _ c n h => ?_⟩
        simp only [h2, if_true, Except.ok.injEq, Prod.mk.injEq] at h; omega
      · refine ⟨by simp [h2, lift], fun _ c n h => ?_⟩
        simp only [h2, Bool.false_eq_true, if_false, Except.ok.injEq, Prod.mk.injEq] at h; omega
    · refine ⟨by simp [h1, lift], fun _ c n h => ?_⟩
      simp only [h1, Bool.false_eq_true, if_false, Except.ok.injEq, Prod.mk.injEq] at h; omega
  · simp only [h0, Bool.false_eq_true, if_false]
    by_cases hx : byteAt p 0 = 120#8
    · have l0 : 0 < p.length := byteAt_ne_zero_lt _ _ (by rw [hx]; decide)
      simp only [hx, if_true, rd_ok (show 1 ≤ p.length from l0)]
      by_cases h1 : isXDigit (byteAt p 1) = true
      · simp only [h1, Bool.not_true, Bool.false_eq_true, if_false]
        obtain ⟨e, hl⟩ := hexLoop_spec p (p.length + 1) 1 0 l0
        refine ⟨by rw [e]; rfl, fun _ c n h => ?_⟩
        simp only [Except.ok.injEq] at h
        rw [h] at hl; exact hl
      · exact ⟨by simp [h1, lift], fun _ c n h => by simp [h1] at h⟩
    · refine ⟨by simp [hx, lift], fun hne c n h => ?_⟩
      simp only [hx, if_false, Except.ok.injEq, Prod.mk.injEq] at h
      have := byteAt_ne_zero_lt _ _ hne; omega

/-! ## decode_utf8 -/

def liftD {α : Type} : Except DecodeErr α → R α
  | .ok a => .ok a
  | .error _ => .error (.lit .invalidUtf8)

theorem cont_ne_zero {b : Byte} (h : ¬ (((b.zeroExtend 32).sshiftRight 6) ≠ (2#32))) : b ≠ 0#8 := by
  intro hb; subst hb; exact h (by decide)

theorem decodeCont_spec (p : List Byte) : ∀ (fuel i : Nat) (c : BitVec 32), i ≤ p.length →
    decodeContI p fuel i c = liftD (decodeCont p fuel i c) ∧ ∀ c', decodeCont p fuel i c = .ok c' → i + fuel ≤ p.length
  | 0, _, _, h => ⟨rfl, fun _ _ => h⟩
  | fuel + 1, i, c, h => by
    simp only [decodeContI, decodeCont, rd_ok h]
    split
    · exact ⟨rfl, fun _ hd => nomatch hd⟩
    · obtain ⟨e, hl⟩ := decodeCont_spec p fuel (i + 1) ((c <<< 6) ||| ((byteAt p i).signExtend 32 &&& 0x3F#32))
        (byteAt_ne_zero_lt _ _ (cont_ne_zero ‹_›))
      exact ⟨e, fun c' hd => by have := hl c' hd; omega⟩

theorem decodeLead_len (p : List Byte) (len : Nat) (c : BitVec 32) (h : decodeLead p = some (len, c)) : 2 ≤ len := by
  rw [Lemmas.Literals.decodeLead_eq] at h
  by_cases hb : 0xC0 ≤ (byteAt p 0).toNat
  · obtain ⟨n, c0, e⟩ := Lemmas.Literals.leadSpec_multi _ hb
    rw [e] at h; cases h; omega
  · rw [Lemmas.Literals.leadSpec_none _ (by omega)] at h; cases h

/-- the double agrees, and a character that starts on a non-zero byte ends inside the text -/
theorem decodeUtf8_spec (p : List Byte) : decodeUtf8I p = liftD (decodeUtf8 p) ∧
    (byteAt p 0 ≠ 0#8 → ∀ c n, decodeUtf8 p = .ok (c, n) → n ≤ p.length) := by
  unfold decodeUtf8I decodeUtf8
  simp only [rd_zero]
  split
  · exact ⟨rfl, fun h0 c n h => by
      have := byteAt_ne_zero_lt _ _ h0
      simp only [Except.ok.injEq, Prod.mk.injEq] at h; omega⟩
  · rename_i hlt
    cases hl : decodeLead p with
    | none => exact ⟨rfl, fun _ _ _ h => nomatch h⟩
    | some lc =>
      obtain ⟨len, c0⟩ := lc
      have l0 : 0 < p.length := byteAt_ne_zero_lt _ _ fun hb => hlt (by rw [hb]; decide)
      obtain ⟨e, hb⟩ := decodeCont_spec p (len - 1) 1 c0 l0
      simp only [e]
      cases hc : decodeCont p (len - 1) 1 c0 with
      | error e => exact ⟨rfl, fun _ _ _ h => nomatch h⟩
      | ok c' =>
        refine ⟨rfl, fun _ c n h => ?_⟩
        simp only [Except.map, Except.ok.injEq, Prod.mk.injEq] at h
        have := hb c' hc
        have := decodeLead_len p len c0 hl
        omega

/-- `decode_utf8(&p, p + i)`: the double agrees, and from a non-zero byte the character ends inside the text -/
theorem decodeAt_spec (p : List Byte) (i : Nat) (h : i ≤ p.length) : decodeAtI p i = lift (decodeAt p i) ∧
    (byteAt p i ≠ 0#8 → ∀ c n, decodeAt p i = .ok (c, n) → i + n ≤ p.length) := by
  unfold decodeAtI decodeAt
  obtain ⟨e, hb⟩ := decodeUtf8_spec (p.drop i)
  simp only [sub_ok h, e]
  cases hd : decodeUtf8 (p.drop i) with
  | error _ => exact ⟨rfl, fun _ _ _ h => nomatch h⟩
  | ok r =>
    refine ⟨rfl, fun h0 c n hr => ?_⟩
    cases hr
    have := hb (by rwa [byteAt_drop]) c n hd
    rw [List.length_drop] at this; omega

/-- `read_escaped_char(&p, p + i + 1)` at the backslash `p[i]`, likewise -/
theorem escapeAt_spec (p : List Byte) (i : Nat) (h : i < p.length) :
    escapeAtI p i = lift (readEscapedChar (p.drop (i + 1))) ∧
    (byteAt p (i + 1) ≠ 0#8 → ∀ c n, readEscapedChar (p.drop (i + 1)) = .ok (c, n) → i + 1 + n ≤ p.length) := by
  unfold escapeAtI
  obtain ⟨e, hb⟩ := readEscapedChar_spec (p.drop (i + 1))
  simp only [sub_ok (show i + 1 ≤ p.length from h), e]
  refine ⟨trivial, fun h0 c n hr => ?_⟩
  have := hb (by rwa [byteAt_drop]) c n hr
  rw [List.length_drop] at this; omega

/-! ## string literals -/

theorem strEndI_eq (p : List Byte) : ∀ (fuel i : Nat), i ≤ p.length → strEndI p fuel i = lift (strEnd p fuel i)
  | 0, _, _ => rfl
  | fuel + 1, i, h => by
    simp only [strEndI, strEnd, rd_ok h]
    by_cases h1 : byteAt p i = 34#8
    · simp [h1, lift]
    · simp only [h1, if_false]
      by_cases h2 : byteAt p i = 10#8 ∨ byteAt p i = 0#8
      · simp [h2, lift]
      · simp only [h2, if_false]
        have hnz : byteAt p i ≠ 0#8 := fun hz => h2 (Or.inr hz)
        have li : i < p.length := byteAt_ne_zero_lt _ _ hnz
        by_cases h3 : byteAt p i = 92#8
        · simp only [h3, true_and, if_true, rd_ok (show i + 1 ≤ p.length from li)]
          by_cases h4 : byteAt p (i + 1) = 0#8
          · simp only [h4, ne_eq, not_true_eq_false, if_false]
            exact strEndI_eq p fuel (i + 1) li
          · simp only [h4, ne_eq, not_false_eq_true, if_true]
            exact strEndI_eq p fuel (i + 2) (byteAt_ne_zero_lt _ _ h4)
        · simp only [h3, false_and, if_false]
          exact strEndI_eq p fuel (i + 1) li

theorem strEnd_quote (p : List Byte) : ∀ (fuel i e : Nat), strEnd p fuel i = .ok e → byteAt p e = 34#8
  | 0, _, _, h => by cases h
  | fuel + 1, i, e, h => by
    simp only [strEnd] at h
    split at h
    · rename_i hq; simp only [Except.ok.injEq] at h; rw [← h]; exact hq
    · split at h
      · cases h
      · split at h
        iterate 2 exact strEnd_quote p fuel _ e h

theorem strEnd_lt (p : List Byte) (fuel i e : Nat) (h : strEnd p fuel i = .ok e) : e < p.length :=
  byteAt_ne_zero_lt _ _ (by rw [strEnd_quote p fuel i e h]; decide)

theorem narrowLoopI_eq (p : List Byte) (endp : Nat) (he : endp ≤ p.length) : ∀ (fuel i : Nat) (acc : List Nat),
    narrowLoopI p endp fuel i acc = lift (narrowLoop p endp fuel i acc)
  | 0, _, _ => rfl
  | fuel + 1, i, acc => by
    simp only [narrowLoopI, narrowLoop]
    split
    · rename_i hi
      rw [rd_ok (by omega)]
      simp only
      split
      · rename_i hb
        have li : i < p.length := by omega
        rw [(escapeAt_spec p i li).1]
        cases hr : readEscapedChar (p.drop (i + 1)) with
        | error e => rfl
        | ok cn =>
          obtain ⟨c, n⟩ := cn
          simp only [lift, bind, Except.bind]
          exact narrowLoopI_eq p endp he fuel _ _
      · exact narrowLoopI_eq p endp he fuel _ _
    · rfl

theorem utf16LoopI_eq (p : List Byte) (endp : Nat) (he : endp ≤ p.length) : ∀ (fuel i : Nat) (acc : List Nat),
    utf16LoopI p endp fuel i acc = lift (utf16Loop p endp fuel i acc)
  | 0, _, _ => rfl
  | fuel + 1, i, acc => by
    simp only [utf16LoopI, utf16Loop]
    split
    · rename_i hi
      rw [rd_ok (by omega)]
      simp only
      split
      · have li : i < p.length := by omega
        rw [(escapeAt_spec p i li).1]
        cases hr : readEscapedChar (p.drop (i + 1)) with
        | error e => rfl
        | ok cn =>
          obtain ⟨c, n⟩ := cn
          simp only [lift, bind, Except.bind]
          exact utf16LoopI_eq p endp he fuel _ _
      · rw [(decodeAt_spec p i (by omega)).1]
        cases hr : decodeAt p i with
        | error e => rfl
        | ok cn =>
          obtain ⟨c, n⟩ := cn
          simp only [lift, bind, Except.bind]
          exact utf16LoopI_eq p endp he fuel _ _
    · rfl

theorem utf32LoopI_eq (p : List Byte) (endp : Nat) (he : endp ≤ p.length) : ∀ (fuel i : Nat) (acc : List Nat),
    utf32LoopI p endp fuel i acc = lift (utf32Loop p endp fuel i acc)
  | 0, _, _ => rfl
  | fuel + 1, i, acc => by
    simp only [utf32LoopI, utf32Loop]
    split
    · rename_i hi
      rw [rd_ok (by omega)]
      simp only
      split
      · have li : i < p.length := by omega
        rw [(escapeAt_spec p i li).1]
        cases hr : readEscapedChar (p.drop (i + 1)) with
        | error e => rfl
        | ok cn =>
          obtain ⟨c, n⟩ := cn
          simp only [lift, bind, Except.bind]
          exact utf32LoopI_eq p endp he fuel _ _
      · rw [(decodeAt_spec p i (by omega)).1]
        cases hr : decodeAt p i with
        | error e => rfl
        | ok cn =>
          obtain ⟨c, n⟩ := cn
          simp only [lift, bind, Except.bind]
          exact utf32LoopI_eq p endp he fuel _ _
    · rfl

/-- `read_string_literal` and its two siblings, opening quote at `p[q]` inside the text -/
theorem readStringI_eq (r : StrReader) (ty : Ty) (p : List Byte) (q : Nat) (hq : q < p.length) :
    readStringI r ty p q = lift (readString r ty p q) := by
  unfold readStringI readString stringLiteralEnd
  rw [strEndI_eq p _ (q + 1) hq]
  cases hs : strEnd p (p.length + 2) (q + 1) with
  | error e => rfl
  | ok endp =>
    have he : endp ≤ p.length := Nat.le_of_lt (strEnd_lt p _ _ endp hs)
    simp only [lift, bind, Except.bind]
    cases r with
    | narrow =>
      simp only [narrowLoopI_eq p endp he]
      cases narrowLoop p endp (endp + 1) (q + 1) [] <;> rfl
    | utf16 =>
      simp only [utf16LoopI_eq p endp he]
      cases utf16Loop p endp (endp + 1) (q + 1) [] <;> rfl
    | utf32 =>
      simp only [utf32LoopI_eq p endp he]
      cases utf32Loop p endp (endp + 1) (q + 1) [] <;> rfl

/-! ## character constants -/

theorem readCharLiteralI_eq (p : List Byte) (q : Nat) (hq : q < p.length) :
    readCharLiteralI p q = lift (readCharLiteral p q) := by
  unfold readCharLiteralI readCharLiteral
  simp only [rd_ok (show q + 1 ≤ p.length from hq)]
  by_cases h0 : byteAt p (q + 1) = 0#8
  · simp [h0, lift, bind, Except.bind, throw, throwThe, MonadExceptOf.throw]
  · have li : q + 1 < p.length := byteAt_ne_zero_lt _ _ h0
    simp only [h0, if_false, bind, Except.bind, pure, Except.pure]
    by_cases hb : byteAt p (q + 1) = 92#8
    · simp only [hb, true_and, if_true, rd_ok (show q + 1 + 1 ≤ p.length from li)]
      by_cases h1 : byteAt p (q + 1 + 1) = 0#8
      · simp [h1, lift, throw, throwThe, MonadExceptOf.throw]
      · obtain ⟨e, hlen⟩ := escapeAt_spec p (q + 1) li
        simp only [h1, if_false, e]
        cases hr : readEscapedChar (p.drop (q + 1 + 1)) with
        | error e => rfl
        | ok cn =>
          obtain ⟨c, n⟩ := cn
          simp only [lift, hlen h1 c n hr, if_true]
          cases findQuote p (p.length + 1) (q + 1 + 1 + n) <;> rfl
    · obtain ⟨e, hlen⟩ := decodeAt_spec p (q + 1) (Nat.le_of_lt li)
      simp only [hb, false_and, if_false, e]
      cases hr : decodeAt p (q + 1) with
      | error e => rfl
      | ok cn =>
        obtain ⟨c, n⟩ := cn
        simp only [lift, hlen h0 c n hr, if_true]
        cases findQuote p (p.length + 1) (q + 1 + n) <;> rfl

/-! ## numbers and prefixes -/

theorem isAlnum_zero : isAlnum (0#8) = false := by decide

theorem ppNumberLoopI_eq (p : List Byte) : ∀ (fuel i : Nat), i ≤ p.length → ppNumberLoopI p fuel i = .ok (ppNumberLoop p fuel i)
  | 0, _, _ => rfl
  | fuel + 1, i, h => by
    simp only [ppNumberLoopI, ppNumberLoop, rd_ok h]
    by_cases ha : byteAt p i = 0#8
    · simp [ha, isAlnum_zero]
    · have li : i < p.length := byteAt_ne_zero_lt _ _ ha
      simp only [ha, if_false, rd_ok (show i + 1 ≤ p.length from li), ne_eq, not_false_eq_true, true_and]
      split
      · rename_i hc
        exact ppNumberLoopI_eq p fuel (i + 2) (byteAt_ne_zero_lt _ _ hc.1)
      · split
        · exact ppNumberLoopI_eq p fuel (i + 1) li
        · rfl

theorem matchTextI_eq (p : List Byte) : ∀ (cs : List Nat) (ci : Bool) (i : Nat), i ≤ p.length →
    matchTextI p i cs ci = .ok (matchText p i cs ci)
  | [], _, _, _ => rfl
  | c :: cs, ci, i, h => by
    rw [matchTextI, rd_ok h, matchText_cons]
    show (if hit ci (byteAt p i) c = true then _ else _) = _
    cases hh : hit ci (byteAt p i) c with
    | false => rfl
    | true =>
      -- the terminator matches nothing (`hit_zero`): the next read is inside the text
      have hne : byteAt p i ≠ 0#8 := fun hz => by rw [hz, hit_zero] at hh; cases hh
      exact matchTextI_eq p cs ci (i + 1) (byteAt_ne_zero_lt _ _ hne)

theorem prefix_quote_lt (p : List Byte) (pre : List Nat) (qc : Nat) (h : startsWithStr p (pre ++ [qc]) = true) :
    pre.length < p.length := by
  have := matchText_le p _ false h
  rwa [List.length_append] at this

theorem findI_eq {α : Type} (f : α → R Bool) (g : α → Bool) (h : ∀ x, f x = .ok (g x)) : ∀ (l : List α),
    findI f l = .ok (l.find? g)
  | [] => rfl
  | x :: xs => by
    simp only [findI, h x, List.find?_cons]
    cases g x
    · exact findI_eq f g h xs
    · rfl

/-- the string and character arms -/
theorem lexLiteral_rest (p : List Byte) :
    (match findI (fun e => matchTextI p 0 (e.1 ++ [34]) false) stringPrefixes with
      | .error e => .error e
      | .ok (some (pre, r, ty)) =>
        (match readStringI r ty p pre.length with | .error e => .error e | .ok t => .ok (.str t))
      | .ok none =>
        match findI (fun e => matchTextI p 0 (e.1 ++ [39]) false) charPrefixes with
        | .error e => .error e
        | .ok (some (pre, ty, post)) =>
          (match readCharLiteralI p pre.length with
           | .error e => .error e
           | .ok (c, e) => .ok (.chr (charPost post c) ty (e + 1)))
        | .ok none => .error (.lit .notALiteral) : R LitTok) =
    lift (match stringPrefixes.find? (fun e => startsWithStr p (e.1 ++ [34])) with
      | some (pre, r, ty) => (readString r ty p pre.length).map .str
      | none =>
        match charPrefixes.find? (fun e => startsWithStr p (e.1 ++ [39])) with
        | some (pre, ty, post) => do
          let (c, e) ← readCharLiteral p pre.length
          pure (.chr (charPost post c) ty (e + 1))
        | none => .error .notALiteral) := by
  have h1 := findI_eq (fun e : List Nat × StrReader × Ty => matchTextI p 0 (e.1 ++ [34]) false)
    (fun e => startsWithStr p (e.1 ++ [34])) (fun x => matchTextI_eq p _ false 0 (Nat.zero_le _)) stringPrefixes
  have h2 := findI_eq (fun e : List Nat × Ty × CharPost => matchTextI p 0 (e.1 ++ [39]) false)
    (fun e => startsWithStr p (e.1 ++ [39])) (fun x => matchTextI_eq p _ false 0 (Nat.zero_le _)) charPrefixes
  rw [h1, h2]
  cases hs : stringPrefixes.find? (fun e => startsWithStr p (e.1 ++ [34])) with
  | some x =>
    obtain ⟨pre, r, ty⟩ := x
    simp only
    have hm := List.find?_some hs
    have hq : pre.length < p.length := prefix_quote_lt p pre 34 hm
    rw [readStringI_eq r ty p pre.length hq]
    cases readString r ty p pre.length <;> rfl
  | none =>
    simp only
    cases hc : charPrefixes.find? (fun e => startsWithStr p (e.1 ++ [39])) with
    | some x =>
      obtain ⟨pre, ty, post⟩ := x
      simp only
      have hm := List.find?_some hc
      have hq : pre.length < p.length := prefix_quote_lt p pre 39 hm
      rw [readCharLiteralI_eq p pre.length hq]
      cases readCharLiteral p pre.length with
      | error e => rfl
      | ok r => obtain ⟨c, e⟩ := r; rfl
    | none => rfl

/-- **the literal arms of tokenize() never read behind the terminating NUL**, and the instrumented double agrees with the
    model C11's theorems are about — for every byte list -/
theorem lexLiteralI_eq (p : List Byte) : lexLiteralI p = lift (lexLiteral p) := by
  unfold lexLiteralI lexLiteral
  simp only [rd_zero]
  by_cases hd : isDigit (byteAt p 0) = true
  · simp only [hd, if_true, Bool.true_or, ppNumberLen]
    have l0 : 0 < p.length := byteAt_ne_zero_lt _ _ (by intro hz; rw [hz] at hd; revert hd; decide)
    rw [ppNumberLoopI_eq p _ 1 l0]
    simp only
    cases convertPpInt (p.take (ppNumberLoop p (p.length + 1) 1)) with
    | none => rfl
    | some r => rfl
  · simp only [hd, Bool.false_eq_true, if_false, Bool.false_or]
    by_cases hdot : byteAt p 0 = 46#8
    · have l0 : 0 < p.length := byteAt_ne_zero_lt _ _ (by rw [hdot]; decide)
      simp only [hdot, if_true, rd_ok (show 1 ≤ p.length from l0), decide_true, Bool.true_and]
      by_cases hd1 : isDigit (byteAt p 1) = true
      · simp only [hd1, if_true, ppNumberLen]
        rw [ppNumberLoopI_eq p _ 1 l0]
        simp only
        cases convertPpInt (p.take (ppNumberLoop p (p.length + 1) 1)) with
        | none => rfl
        | some r => rfl
      · simp only [hd1, Bool.false_eq_true, if_false]
        exact lexLiteral_rest p
    · simp only [hdot, if_false, decide_false, Bool.false_and, Bool.false_eq_true]
      exact lexLiteral_rest p

end ChibiVerif.C13Sites
