/-
C01: the specification `evalE` (Spec/IntSpec) as a big-step relation, and what an evaluation changes and depends on.

* `straight e` : the forms without `&&`, `||`, `?:` (no jump in the compiled code): what `compileX` compiles is `straight`
  (`compileX_facts`) and needs the same stack depth under `compileJ` (`depthJ_of_straight`), Lemmas/C01JumpCompile.lean.
* `Eval σ e v σ'` : one rule per path through `evalE`; the two conversions `Eval.of_evalE`, `Eval.eq` are the only places where
  `evalE` is unfolded.  Every later proof takes an evaluation apart by its last rule (`cases`) or goes by induction on the derivation.
* `Eval.frm` : an evaluation changes at most the variables in `wr e` (and never the types or the number of variables).
* `Eval.agree` : it depends only on the variables in `rd e`: from two stores that agree on `R ⊇ rd e` it takes the same path,
  so the results agree on `R` again.  With conditionally evaluated operands a variable in `wr e` need not be written, so
  "the resulting stores agree on `wr e`" is false (`0 && (x = 1)` from two stores that differ at `x`); whoever needs the
  variables `e` may assign puts them in `R` (`Eval.swap`: the side condition makes the two stores agree there).
* `Eval.swap` : chibicc evaluates the right operand of a binary operator first, `evalE` the left one; under the C11 side
  condition `noConflict` the order is immaterial.
-/
import ChibiVerif.Model.C01Expr

namespace ChibiVerif.C01
open ChibiVerif.Spec.IntSpec ChibiVerif.Gen.CommonType

/-- forms `evalE` handles without a jump in the compiled code (everything except `&&`, `||`, `?:`) -/
def straight : E → Bool
  | .lit _ _ | .var _ | .preinc _ | .predec _ | .postinc _ | .postdec _ => true
  | .un _ e | .cast _ e | .assign _ e | .opassign _ _ e => straight e
  | .bin _ a b | .comma a b => straight a && straight b
  | .land _ _ | .lor _ _ | .cond _ _ _ => false

theorem typeOf_congr (σ1 σ2 : Env) (h : σ1.tys = σ2.tys) (e : E) : typeOf σ1 e = typeOf σ2 e := by
  induction e with
  | lit t v => rfl
  | var i => simp [typeOf, Env.ty?, h]
  | un op e ih => simp [typeOf, ih]
  | bin op a b iha ihb => simp [typeOf, iha, ihb]
  | land a b => rfl
  | lor a b => rfl
  | cond c a b _ iha ihb => simp [typeOf, iha, ihb]
  | comma a b _ ihb => simp [typeOf, ihb]
  | cast t e => rfl
  | assign i e => simp [typeOf, Env.ty?, h]
  | opassign op i e => simp [typeOf, Env.ty?, h]
  | preinc i => simp [typeOf, Env.ty?, h]
  | predec i => simp [typeOf, Env.ty?, h]
  | postinc i => simp [typeOf, Env.ty?, h]
  | postdec i => simp [typeOf, Env.ty?, h]

/-! ### the relation -/

/-- `evalE σ e = some (v, σ')`, one rule per path: the conditionally evaluated operands of `&&`, `||`, `?:` give two rules each -/
inductive Eval : Env → E → Int → Env → Prop
  | lit {σ t v} : t.inRange v → Eval σ (.lit t v) v σ
  | var {σ i v} : σ.vals[i]? = some v → Eval σ (.var i) v σ
  | un {σ op e t v x σ1} : typeOf σ e = some t → Eval σ e v σ1 → unop op t v = some x → Eval σ (.un op e) x σ1
  | cast {σ t e v σ1} : Eval σ e v σ1 → Eval σ (.cast t e) (convert t v) σ1
  | bin {σ op a b ta tb va vb x σ1 σ2} : typeOf σ a = some ta → typeOf σ b = some tb → Eval σ a va σ1 → Eval σ1 b vb σ2 →
      binop op ta tb va vb = some x → Eval σ (.bin op a b) x σ2
  | comma {σ a b va v σ1 σ2} : Eval σ a va σ1 → Eval σ1 b v σ2 → Eval σ (.comma a b) v σ2
  | landF {σ a b σ1} : Eval σ a 0 σ1 → Eval σ (.land a b) 0 σ1
  | landT {σ a b va vb σ1 σ2} : Eval σ a va σ1 → va ≠ 0 → Eval σ1 b vb σ2 → Eval σ (.land a b) (b2i (vb ≠ 0)) σ2
  | lorT {σ a b va σ1} : Eval σ a va σ1 → va ≠ 0 → Eval σ (.lor a b) 1 σ1
  | lorF {σ a b vb σ1 σ2} : Eval σ a 0 σ1 → Eval σ1 b vb σ2 → Eval σ (.lor a b) (b2i (vb ≠ 0)) σ2
  | condT {σ c a b t vc v σ1 σ2} : typeOf σ (.cond c a b) = some t → Eval σ c vc σ1 → vc ≠ 0 → Eval σ1 a v σ2 →
      Eval σ (.cond c a b) (convert t v) σ2
  | condF {σ c a b t v σ1 σ2} : typeOf σ (.cond c a b) = some t → Eval σ c 0 σ1 → Eval σ1 b v σ2 →
      Eval σ (.cond c a b) (convert t v) σ2
  | assign {σ i e t v σ1} : σ.tys[i]? = some t → Eval σ e v σ1 → Eval σ (.assign i e) (convert t v) (σ1.set i (convert t v))
  | opassign {σ op i e tx te v x r σ1} : σ.tys[i]? = some tx → typeOf σ e = some te → Eval σ e v σ1 → σ1.vals[i]? = some x →
      compound op tx te x v = some r → Eval σ (.opassign op i e) r (σ1.set i r)
  | preinc {σ i tx x r} : σ.tys[i]? = some tx → σ.vals[i]? = some x → compound .add tx .i32 x 1 = some r →
      Eval σ (.preinc i) r (σ.set i r)
  | predec {σ i tx x r} : σ.tys[i]? = some tx → σ.vals[i]? = some x → compound .sub tx .i32 x 1 = some r →
      Eval σ (.predec i) r (σ.set i r)
  | postinc {σ i tx x r} : σ.tys[i]? = some tx → σ.vals[i]? = some x → compound .add tx .i32 x 1 = some r →
      Eval σ (.postinc i) x (σ.set i r)
  | postdec {σ i tx x r} : σ.tys[i]? = some tx → σ.vals[i]? = some x → compound .sub tx .i32 x 1 = some r →
      Eval σ (.postdec i) x (σ.set i r)

theorem Eval.eq {σ e v σ'} (h : Eval σ e v σ') : evalE σ e = some (v, σ') := by
  induction h <;>
    simp only [evalE, Env.val?, Env.ty?, Option.bind_eq_bind, Option.bind_some, Option.map_some, if_true, if_false, *, ne_eq,
      not_true_eq_false, not_false_eq_true]

theorem Eval.of_evalE (e : E) : ∀ {σ v σ'}, evalE σ e = some (v, σ') → Eval σ e v σ' := by
  induction e with
  | lit t v0 =>
    intro σ v σ' h
    simp only [evalE] at h
    split at h
    · rename_i hr; cases h; exact .lit hr
    · cases h
  | var i =>
    intro σ v σ' h
    simp only [evalE, Env.val?, Option.map_eq_some_iff, Prod.mk.injEq] at h
    obtain ⟨_, h0, rfl, rfl⟩ := h
    exact .var h0
  | un op e ih =>
    intro σ v σ' h
    simp only [evalE, Option.bind_eq_bind, Option.bind_eq_some_iff] at h
    obtain ⟨t, ht, ⟨v1, σ1⟩, he, x, hx, h⟩ := h
    cases h; exact .un ht (ih he) hx
  | cast t e ih =>
    intro σ v σ' h
    simp only [evalE, Option.bind_eq_bind, Option.bind_eq_some_iff] at h
    obtain ⟨⟨v1, σ1⟩, he, h⟩ := h
    cases h; exact .cast (ih he)
  | bin op a b iha ihb =>
    intro σ v σ' h
    simp only [evalE, Option.bind_eq_bind, Option.bind_eq_some_iff] at h
    obtain ⟨ta, hta, tb, htb, ⟨va, σ1⟩, hea, ⟨vb, σ2⟩, heb, x, hx, h⟩ := h
    cases h; exact .bin hta htb (iha hea) (ihb heb) hx
  | comma a b iha ihb =>
    intro σ v σ' h
    simp only [evalE, Option.bind_eq_bind, Option.bind_eq_some_iff] at h
    obtain ⟨⟨va, σ1⟩, hea, h⟩ := h
    exact .comma (iha hea) (ihb h)
  | assign i e ih =>
    intro σ v σ' h
    simp only [evalE, Env.ty?, Option.bind_eq_bind, Option.bind_eq_some_iff] at h
    obtain ⟨t, ht, ⟨v1, σ1⟩, he, h⟩ := h
    cases h; exact .assign ht (ih he)
  | opassign op i e ih =>
    intro σ v σ' h
    simp only [evalE, Env.ty?, Env.val?, Option.bind_eq_bind, Option.bind_eq_some_iff] at h
    obtain ⟨tx, htx, te, hte, ⟨v1, σ1⟩, he, x, hx, r, hr, h⟩ := h
    cases h; exact .opassign htx hte (ih he) hx hr
  | preinc i =>
    intro σ v σ' h
    simp only [evalE, Env.ty?, Env.val?, Option.bind_eq_bind, Option.bind_eq_some_iff] at h
    obtain ⟨tx, htx, x, hx, r, hr, h⟩ := h
    cases h; exact .preinc htx hx hr
  | predec i =>
    intro σ v σ' h
    simp only [evalE, Env.ty?, Env.val?, Option.bind_eq_bind, Option.bind_eq_some_iff] at h
    obtain ⟨tx, htx, x, hx, r, hr, h⟩ := h
    cases h; exact .predec htx hx hr
  | postinc i =>
    intro σ v σ' h
    simp only [evalE, Env.ty?, Env.val?, Option.bind_eq_bind, Option.bind_eq_some_iff] at h
    obtain ⟨tx, htx, x, hx, r, hr, h⟩ := h
    cases h; exact .postinc htx hx hr
  | postdec i =>
    intro σ v σ' h
    simp only [evalE, Env.ty?, Env.val?, Option.bind_eq_bind, Option.bind_eq_some_iff] at h
    obtain ⟨tx, htx, x, hx, r, hr, h⟩ := h
    cases h; exact .postdec htx hx hr
  | land a b iha ihb =>
    intro σ v σ' h
    simp only [evalE, Option.bind_eq_bind, Option.bind_eq_some_iff] at h
    obtain ⟨⟨va, σ1⟩, hea, h⟩ := h
    simp only at h
    split at h
    · rename_i hz; cases h; subst hz; exact .landF (iha hea)
    · rename_i hz
      simp only [Option.bind_eq_some_iff] at h
      obtain ⟨⟨vb, σ2⟩, heb, h⟩ := h
      cases h; exact .landT (iha hea) hz (ihb heb)
  | lor a b iha ihb =>
    intro σ v σ' h
    simp only [evalE, Option.bind_eq_bind, Option.bind_eq_some_iff] at h
    obtain ⟨⟨va, σ1⟩, hea, h⟩ := h
    simp only at h
    split at h
    · rename_i hz; cases h; exact .lorT (iha hea) hz
    · rename_i hz
      simp only [Option.bind_eq_some_iff] at h
      obtain ⟨⟨vb, σ2⟩, heb, h⟩ := h
      have hz0 : va = 0 := by simpa using hz
      cases h; subst hz0; exact .lorF (iha hea) (ihb heb)
  | cond c a b ihc iha ihb =>
    intro σ v σ' h
    simp only [evalE, Option.bind_eq_bind, Option.bind_eq_some_iff] at h
    obtain ⟨t, ht, ⟨vc, σ1⟩, hec, h⟩ := h
    simp only at h
    split at h
    · rename_i hz
      simp only [Option.bind_eq_some_iff] at h
      obtain ⟨⟨x, σ2⟩, hea, h⟩ := h
      cases h; exact .condT ht (ihc hec) hz (iha hea)
    · rename_i hz
      simp only [Option.bind_eq_some_iff] at h
      obtain ⟨⟨x, σ2⟩, heb, h⟩ := h
      have hz0 : vc = 0 := by simpa using hz
      cases h; subst hz0; exact .condF ht (ihc hec) (ihb heb)

/-- the type found by a typing fact is the one the evaluation used -/
theorem ty_eq {σ : Env} {e : E} {t t' : ITy} (h : typeOf σ e = some t) (h' : typeOf σ e = some t') : t = t' :=
  Option.some.inj (h.symm.trans h')

/-! ### what an evaluation leaves alone -/

/-- on the store: the types and the number of variables are the same, and outside `W` the values are ("frame" of the evaluation;
    the machine-side counterpart is `Unch`, Lemmas/C01Machine.lean) -/
structure Frm (W : List Nat) (σ σ' : Env) : Prop where
  tys : σ'.tys = σ.tys
  len : σ'.vals.length = σ.vals.length
  same : ∀ i, i ∉ W → σ'.vals[i]? = σ.vals[i]?

theorem Frm.refl (W : List Nat) (σ : Env) : Frm W σ σ := ⟨rfl, rfl, fun _ _ => rfl⟩
theorem Frm.trans {W1 W2 : List Nat} {a b c : Env} (h1 : Frm W1 a b) (h2 : Frm W2 b c) : Frm (W1 ++ W2) a c :=
  ⟨h2.tys.trans h1.tys, h2.len.trans h1.len, fun i hi => by
    simp only [List.mem_append, not_or] at hi
    exact (h2.same i hi.2).trans (h1.same i hi.1)⟩
theorem Frm.set (σ : Env) (i : Nat) (v : Int) : Frm [i] σ (σ.set i v) :=
  ⟨rfl, by simp [Env.set], fun j hj => by
    simp only [List.mem_singleton] at hj
    simp [Env.set, List.getElem?_set_ne (Ne.symm hj)]⟩
theorem Frm.mono {W W' : List Nat} {a b : Env} (h : Frm W a b) (hs : ∀ i, i ∈ W → i ∈ W') : Frm W' a b :=
  ⟨h.tys, h.len, fun i hi => h.same i (fun hh => hi (hs i hh))⟩

/-- **an evaluation changes at most the variables in `wr e`** (never the types or the number of variables) -/
theorem Eval.frm {σ e v σ'} (h : Eval σ e v σ') : Frm (wr e) σ σ' := by
  induction h with
  | lit | var => exact Frm.refl _ _
  | un _ _ _ ih | cast _ ih => exact ih
  | bin _ _ _ _ _ iha ihb | comma _ _ iha ihb | landT _ _ _ iha ihb | lorF _ _ iha ihb => exact iha.trans ihb
  | landF _ ih | lorT _ _ ih => exact ih.mono (fun j hj => by simp [wr, hj])
  | condT _ _ _ _ ihc ih | condF _ _ _ ihc ih =>
    exact (ihc.trans ih).mono (fun j hj => by simp only [wr, List.mem_append] at hj ⊢; rcases hj with h | h <;> simp [h])
  | assign _ _ ih | opassign _ _ _ _ _ ih =>
    exact (ih.trans (Frm.set _ _ _)).mono (fun j hj => by
      simp only [wr, List.mem_append, List.mem_cons, List.not_mem_nil, or_false] at hj ⊢; exact hj.symm)
  | preinc | predec | postinc | postdec => exact Frm.set _ _ _

/-! ### what an evaluation depends on -/

/-- two stores that agree on the variables an expression reads -/
structure Agr (R : List Nat) (σ1 σ2 : Env) : Prop where
  tys : σ1.tys = σ2.tys
  len : σ1.vals.length = σ2.vals.length
  on : ∀ i, i ∈ R → σ1.vals[i]? = σ2.vals[i]?

theorem Agr.refl (R : List Nat) (σ : Env) : Agr R σ σ := ⟨rfl, rfl, fun _ _ => rfl⟩

theorem Agr.symm {R : List Nat} {σ1 σ2 : Env} (h : Agr R σ1 σ2) : Agr R σ2 σ1 :=
  ⟨h.tys.symm, h.len.symm, fun i hi => (h.on i hi).symm⟩

theorem Agr.ty {R : List Nat} {σ1 σ2 : Env} (h : Agr R σ1 σ2) {e : E} {t : ITy} (ht : typeOf σ1 e = some t) : typeOf σ2 e = some t :=
  typeOf_congr σ1 σ2 h.tys e ▸ ht

/-- agreement on `D` survives an evaluation that does not assign `D` -/
theorem Agr.frm {D W : List Nat} {σ σ1 σr : Env} (h : Agr D σ σr) (f : Frm W σ σ1) (hd : ∀ i, i ∈ W → i ∉ D) : Agr D σ1 σr :=
  ⟨f.tys.trans h.tys, f.len.trans h.len, fun i hi => (f.same i (fun hw => hd i hw hi)).trans (h.on i hi)⟩

theorem env_ext {a b : Env} (ht : a.tys = b.tys) (hv : ∀ i : Nat, a.vals[i]? = b.vals[i]?) : a = b := by
  cases a; cases b
  simp only [Env.mk.injEq]
  exact ⟨ht, List.ext_getElem? hv⟩

/-- an evaluation that writes nothing leaves the store alone -/
theorem Eval.store_of_wr_nil {e : E} {σ σ' : Env} {v : Int} (h : Eval σ e v σ') (hw : wr e = []) : σ' = σ :=
  env_ext h.frm.tys (fun i => h.frm.same i (by rw [hw]; simp))

theorem disjointL_spec {a b : List Nat} (h : disjointL a b = true) : ∀ i, i ∈ a → i ∉ b := by
  intro i hi
  simp only [disjointL, List.all_eq_true] at h
  have := h i hi
  simpa using this

theorem Agr.set {R : List Nat} {σ1 σ2 : Env} (h : Agr R σ1 σ2) (i : Nat) (v : Int) : Agr R (σ1.set i v) (σ2.set i v) :=
  ⟨h.tys, by simp [Env.set, h.len], fun j hj => by
    simp only [Env.set, List.getElem?_set, h.len]
    split
    · rfl
    · exact h.on j hj⟩

/-- **an evaluation depends only on the variables it reads**: from a store that agrees with `σ1` on `R ⊇ rd e`, `e` has the same
    value (the same path is taken, the same values are assigned), so the resulting stores agree on `R` again.  Nothing is said
    of a variable outside `R` that `e` may assign: it need not be assigned (`0 && (x = 1)`); a caller who wants it takes
    `R ⊇ rd e ++ wr e` (`Eval.swap`) -/
theorem Eval.agree {σ1 e v σ1'} (h : Eval σ1 e v σ1') : ∀ {R : List Nat} {σ2 : Env}, (∀ i, i ∈ rd e → i ∈ R) → Agr R σ1 σ2 →
    ∃ σ2', Eval σ2 e v σ2' ∧ Agr R σ1' σ2' := by
  induction h with
  | lit hr => intro R σ2 _ hag; exact ⟨σ2, .lit hr, hag⟩
  | @var σ i v h0 =>
    intro R σ2 hs hag
    exact ⟨σ2, .var (hag.on i (hs i (by simp [rd])) ▸ h0), hag⟩
  | un ht _ hx ih =>
    intro R σ2 hs hag
    obtain ⟨σ2e, he2, ag⟩ := ih hs hag
    exact ⟨σ2e, .un (hag.ty ht) he2 hx, ag⟩
  | cast _ ih =>
    intro R σ2 hs hag
    obtain ⟨σ2e, he2, ag⟩ := ih hs hag
    exact ⟨σ2e, .cast he2, ag⟩
  | bin hta htb _ _ hx iha ihb =>
    intro R σ2 hs hag
    obtain ⟨σ2a, ha2, aga⟩ := iha (fun i hi => hs i (by simp [rd, hi])) hag
    obtain ⟨σ2b, hb2, agb⟩ := ihb (fun i hi => hs i (by simp [rd, hi])) aga
    exact ⟨σ2b, .bin (hag.ty hta) (hag.ty htb) ha2 hb2 hx, agb⟩
  | comma _ _ iha ihb =>
    intro R σ2 hs hag
    obtain ⟨σ2a, ha2, aga⟩ := iha (fun i hi => hs i (by simp [rd, hi])) hag
    obtain ⟨σ2b, hb2, agb⟩ := ihb (fun i hi => hs i (by simp [rd, hi])) aga
    exact ⟨σ2b, .comma ha2 hb2, agb⟩
  | landF _ iha =>
    intro R σ2 hs hag
    obtain ⟨σ2a, ha2, aga⟩ := iha (fun i hi => hs i (by simp [rd, hi])) hag
    exact ⟨σ2a, .landF ha2, aga⟩
  | landT _ hz _ iha ihb =>
    intro R σ2 hs hag
    obtain ⟨σ2a, ha2, aga⟩ := iha (fun i hi => hs i (by simp [rd, hi])) hag
    obtain ⟨σ2b, hb2, agb⟩ := ihb (fun i hi => hs i (by simp [rd, hi])) aga
    exact ⟨σ2b, .landT ha2 hz hb2, agb⟩
  | lorT _ hz iha =>
    intro R σ2 hs hag
    obtain ⟨σ2a, ha2, aga⟩ := iha (fun i hi => hs i (by simp [rd, hi])) hag
    exact ⟨σ2a, .lorT ha2 hz, aga⟩
  | lorF _ _ iha ihb =>
    intro R σ2 hs hag
    obtain ⟨σ2a, ha2, aga⟩ := iha (fun i hi => hs i (by simp [rd, hi])) hag
    obtain ⟨σ2b, hb2, agb⟩ := ihb (fun i hi => hs i (by simp [rd, hi])) aga
    exact ⟨σ2b, .lorF ha2 hb2, agb⟩
  | condT ht _ hz _ ihc iha =>
    intro R σ2 hs hag
    obtain ⟨σ2c, hc2, agc⟩ := ihc (fun i hi => hs i (by simp [rd, hi])) hag
    obtain ⟨σ2a, ha2, aga⟩ := iha (fun i hi => hs i (by simp [rd, hi])) agc
    exact ⟨σ2a, .condT (hag.ty ht) hc2 hz ha2, aga⟩
  | condF ht _ _ ihc ihb =>
    intro R σ2 hs hag
    obtain ⟨σ2c, hc2, agc⟩ := ihc (fun i hi => hs i (by simp [rd, hi])) hag
    obtain ⟨σ2b, hb2, agb⟩ := ihb (fun i hi => hs i (by simp [rd, hi])) agc
    exact ⟨σ2b, .condF (hag.ty ht) hc2 hb2, agb⟩
  | @assign σ i e t v σ1 ht _ ih =>
    intro R σ2 hs hag
    obtain ⟨σ2e, he2, ag⟩ := ih hs hag
    exact ⟨_, .assign (hag.tys ▸ ht) he2, ag.set i _⟩
  | @opassign σ op i e tx te v x r σ1 htx hte _ hx hr ih =>
    intro R σ2 hs hag
    obtain ⟨σ2e, he2, ag⟩ := ih (fun j hj => hs j (by simp [rd, hj])) hag
    exact ⟨_, .opassign (hag.tys ▸ htx) (hag.ty hte) he2 (ag.on i (hs i (by simp [rd])) ▸ hx) hr, ag.set i _⟩
  | @preinc σ i tx x r htx hx hr =>
    intro R σ2 hs hag
    exact ⟨_, .preinc (hag.tys ▸ htx) (hag.on i (hs i (by simp [rd])) ▸ hx) hr, hag.set i _⟩
  | @predec σ i tx x r htx hx hr =>
    intro R σ2 hs hag
    exact ⟨_, .predec (hag.tys ▸ htx) (hag.on i (hs i (by simp [rd])) ▸ hx) hr, hag.set i _⟩
  | @postinc σ i tx x r htx hx hr =>
    intro R σ2 hs hag
    exact ⟨_, .postinc (hag.tys ▸ htx) (hag.on i (hs i (by simp [rd])) ▸ hx) hr, hag.set i _⟩
  | @postdec σ i tx x r htx hx hr =>
    intro R σ2 hs hag
    exact ⟨_, .postdec (hag.tys ▸ htx) (hag.on i (hs i (by simp [rd])) ▸ hx) hr, hag.set i _⟩

/-- **unsequenced operands commute** (C11 6.5p2): if neither operand modifies what the other reads or modifies, evaluating
    the right operand first gives the same two values and the same final store -/
theorem Eval.swap {a b : E} {σ σ1 σ2 : Env} {va vb : Int}
    (hd1 : disjointL (wr a) (rd b ++ wr b) = true) (hd2 : disjointL (wr b) (rd a ++ wr a) = true)
    (hea : Eval σ a va σ1) (heb : Eval σ1 b vb σ2) : ∃ σb, Eval σ b vb σb ∧ Eval σb a va σ2 := by
  have d1 := disjointL_spec hd1
  have d2 := disjointL_spec hd2
  have fa := hea.frm
  have fb := heb.frm
  -- b from σ instead of σ1: they differ on `wr a` only, which `b` neither reads nor assigns
  have ag1 : Agr (rd b ++ wr b) σ1 σ := ⟨fa.tys, fa.len, fun i hi => fa.same i (fun hw => d1 i hw hi)⟩
  obtain ⟨σb, heb', agb⟩ := heb.agree (fun _ h => List.mem_append_left _ h) ag1
  have fb' := heb'.frm
  -- a from σb instead of σ
  have ag2 : Agr (rd a ++ wr a) σ σb := ⟨fb'.tys.symm, fb'.len.symm, fun i hi => (fb'.same i (fun hw => d2 i hw hi)).symm⟩
  obtain ⟨σab, hea', aga⟩ := hea.agree (fun _ h => List.mem_append_left _ h) ag2
  have fa' := hea'.frm
  refine ⟨σb, heb', ?_⟩
  have : σab = σ2 := by
    apply env_ext
    · rw [fa'.tys, fb'.tys, fb.tys, fa.tys]
    · intro i
      by_cases hia : i ∈ wr a
      · rw [fb.same i (fun hw => d1 i hia (List.mem_append_right _ hw))]
        exact (aga.on i (List.mem_append_right _ hia)).symm
      · rw [fa'.same i hia]
        by_cases hib : i ∈ wr b
        · exact (agb.on i (List.mem_append_right _ hib)).symm
        · rw [fb'.same i hib, fb.same i hib, fa.same i hia]
  rw [← this]; exact hea'

end ChibiVerif.C01
