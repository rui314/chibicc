/-
C18 — all processing orders of one file.  `preprocess2` reads the tokens of a file from top to bottom: a directive is obeyed
at its turn; any other token is either passed on at its turn or becomes part of a macro body (`store`) and is passed on later —
any number of times, at any later moment, also after the end of the file (a macro of a header expanded in the includer).
Every event order `Sched` generates is of this kind (that it generates all of them is not stated), and for items in `FileOrder`
— lines do not decrease, a directive has its line to itself — the hypotheses of `C18_line_directive_order_independent` hold in
each of them (`sched_positional`).
-/
import ChibiVerif.Lemmas.LineNoMarkers

namespace ChibiVerif.LineNo
open ChibiVerif.Spec.Line (Dir inForce presumedLineAt presumedFileAt)

/-- the items of a file in file order: lines do not decrease, and a directive has its line(s) to itself -/
def FileOrder (text : List Nat) (items : List Ev) : Prop :=
  items.Pairwise (fun a b => a.lineIn text ≤ b.lineIn text ∧
    ((a.isDir = true ∨ b.isDir = true) → a.lineIn text < b.lineIn text))

instance (text : List Nat) (items : List Ev) : Decidable (FileOrder text items) := by
  unfold FileOrder; infer_instance

/-- `Sched rest bag evs`: with the items `rest` of the file still unread and the tokens `bag` sitting in macro bodies,
    `preprocess2` can meet the events `evs` (in this order) from now on -/
inductive Sched : List Ev → List Ev → List Ev → Prop
  | done (bag : List Ev) : Sched [] bag []
  | now (e : Ev) (rest bag evs : List Ev) : Sched rest bag evs → Sched (e :: rest) bag (e :: evs)
  | store (e : Ev) (rest bag evs : List Ev) : e.isDir = false → Sched rest (e :: bag) evs → Sched (e :: rest) bag evs
  | expand (e : Ev) (rest bag evs : List Ev) : e ∈ bag → Sched rest bag evs → Sched rest bag (e :: evs)

/-- what the positional specification says `preprocess2` reports for a probe event, over the directives `dirs` of the file -/
def specOut (text : List Nat) (name : String) (dirs : List Dir) (e : Ev) : Out :=
  let l := e.lineIn text
  let line : Int := presumedLineAt dirs l + (if (inForce dirs l).isSome then 1 else 0)
  match e with
  | .fileMac _ => .file (presumedFileAt name dirs l)
  | .lineMac _ => .line line
  | _ => .tok line (presumedFileAt name dirs l)

theorem dirsOf_single_noDir (text : List Nat) (e : Ev) (h : e.isDir = false) : dirsOf text [e] = [] :=
  dirsOf_noDir text [e] (by intro x hx; simp at hx; subst hx; exact h)

theorem mem_dirsOf (text : List Nat) (evs : List Ev) (d : Dir) (h : d ∈ dirsOf text evs) :
    ∃ e ∈ evs, e.isDir = true ∧ e.lineIn text = d.line := by
  simp only [dirsOf, List.mem_filterMap] at h
  obtain ⟨e, he, hd⟩ := h
  cases e <;> simp [Ev.dir?] at hd
  subst hd
  exact ⟨_, he, rfl, rfl⟩

theorem fileOrder_dirs_ascending (text : List Nat) (items : List Ev) (h : FileOrder text items) :
    (dirsOf text items).Pairwise (fun a c => a.line < c.line) := by
  unfold dirsOf
  refine List.Pairwise.filterMap _ ?_ h
  intro a a' hR b hb b' hb'
  cases a <;> simp [Ev.dir?] at hb
  cases a' <;> simp [Ev.dir?] at hb'
  subst hb hb'
  exact hR.2 (Or.inl rfl)

theorem probeOut_positional (text : List Nat) (name : String) (fileNo : Nat) (done later : List Dir) (e : Ev)
    (hasc : (done ++ later).Pairwise (fun a c => a.line < c.line)) (hlater : ∀ d ∈ later, e.lineIn text ≤ d.line) :
    probeOut text (pushDirs (newFile name fileNo) done) e = specOut text name (done ++ later) e := by
  obtain ⟨hd, hn⟩ := markerAt_positional name fileNo done later (e.lineIn text) hasc hlater
  have hline := reportedLineAt_eq (done ++ later) (e.lineIn text)
  unfold reportedLineAt at hline
  unfold probeOut specOut
  rw [hd, hn, hline]
  rfl

theorem probe_positional (text : List Nat) (name : String) (fileNo : Nat) (sofar : List Ev) (later : List Dir) (e : Ev)
    (he : e.isDir = false)
    (hasc : (dirsOf text sofar ++ later).Pairwise (fun a c => a.line < c.line))
    (hlater : ∀ d ∈ later, e.lineIn text ≤ d.line) :
    (runFile text (newFile name fileNo) (sofar ++ [e])).getLast? = some (specOut text name (dirsOf text sofar ++ later) e) := by
  have := probe_after text (newFile name fileNo) sofar [] e he (fun d hd => nomatch hd)
  rw [List.append_nil] at this
  rw [this, stateAfter_eq_pushDirs, probeOut_positional text name fileNo _ later e hasc hlater]

theorem sched_positional (text : List Nat) (name : String) (fileNo : Nat) (rest bag evs : List Ev) (hs : Sched rest bag evs) :
    ∀ (sofar consumed : List Ev),
      dirsOf text sofar = dirsOf text consumed →
      (∀ b ∈ bag, b ∈ consumed ∧ b.isDir = false) →
      FileOrder text (consumed ++ rest) →
      ∀ (pre : List Ev) (e : Ev) (post : List Ev), evs = pre ++ e :: post → e.isDir = false →
        (runFile text (newFile name fileNo) (sofar ++ pre ++ [e])).getLast?
          = some (specOut text name (dirsOf text (consumed ++ rest)) e) := by
  induction hs with
  | done bag => intro _ _ _ _ _ pre e post h; simp at h
  | now e0 rest bag evs _ ih =>
    intro sofar consumed h1 h2 h3 pre e post hsplit he
    have h3' : FileOrder text ((consumed ++ [e0]) ++ rest) := by simpa using h3
    cases pre with
    | nil =>
      simp only [List.nil_append, List.cons.injEq] at hsplit
      obtain ⟨rfl, _⟩ := hsplit
      have hd : dirsOf text (consumed ++ e0 :: rest) = dirsOf text sofar ++ dirsOf text rest := by
        rw [dirsOf_append, h1, show e0 :: rest = [e0] ++ rest from rfl, dirsOf_append, dirsOf_single_noDir text e0 he]; rfl
      rw [hd, List.append_nil]
      refine probe_positional text name fileNo sofar (dirsOf text rest) e0 he ?_ ?_
      · rw [← hd]; exact fileOrder_dirs_ascending text _ h3
      · intro d hd'
        obtain ⟨x, hx, _, hxl⟩ := mem_dirsOf text rest d hd'
        have := (List.pairwise_append.mp h3).2.1
        have := (List.pairwise_cons.mp this).1 x hx
        omega
    | cons p pre' =>
      simp only [List.cons_append, List.cons.injEq] at hsplit
      obtain ⟨rfl, hsplit⟩ := hsplit
      have := ih (sofar ++ [e0]) (consumed ++ [e0]) (by rw [dirsOf_append, dirsOf_append, h1])
        (fun b hb => ⟨by simp [(h2 b hb).1], (h2 b hb).2⟩) h3' pre' e post hsplit he
      simpa using this
  | store e0 rest bag evs hnd _ ih =>
    intro sofar consumed h1 h2 h3 pre e post hsplit he
    have h3' : FileOrder text ((consumed ++ [e0]) ++ rest) := by simpa using h3
    have := ih sofar (consumed ++ [e0]) (by rw [dirsOf_append, dirsOf_single_noDir text e0 hnd, List.append_nil, h1])
      (fun b hb => by
        simp only [List.mem_cons] at hb
        rcases hb with rfl | hb
        · exact ⟨by simp, hnd⟩
        · exact ⟨by simp [(h2 b hb).1], (h2 b hb).2⟩) h3' pre e post hsplit he
    simpa using this
  | expand e0 rest bag evs hmem _ ih =>
    intro sofar consumed h1 h2 h3 pre e post hsplit he
    have he0 := h2 e0 hmem
    cases pre with
    | nil =>
      simp only [List.nil_append, List.cons.injEq] at hsplit
      obtain ⟨rfl, _⟩ := hsplit
      have hd : dirsOf text (consumed ++ rest) = dirsOf text sofar ++ dirsOf text rest := by rw [dirsOf_append, h1]
      rw [hd, List.append_nil]
      refine probe_positional text name fileNo sofar (dirsOf text rest) e0 he ?_ ?_
      · rw [← hd]; exact fileOrder_dirs_ascending text _ h3
      · intro d hd'
        obtain ⟨x, hx, hxd, hxl⟩ := mem_dirsOf text rest d hd'
        have := (List.pairwise_append.mp h3).2.2 e0 he0.1 x hx
        have := this.2 (Or.inr hxd)
        omega
    | cons p pre' =>
      simp only [List.cons_append, List.cons.injEq] at hsplit
      obtain ⟨rfl, hsplit⟩ := hsplit
      have := ih (sofar ++ [e0]) consumed
        (by rw [dirsOf_append, dirsOf_single_noDir text e0 he0.2, List.append_nil, h1]) h2 h3 pre' e post hsplit he
      simpa using this

end ChibiVerif.LineNo
