/-
A text as the C code sees it: `byteAt p i` (Gen/LiteralsGen.lean) reads the terminator at and after the end of `p`, and
a `char` is promoted to `int` before it is compared.  The algebra of `byteAt` against `drop`, `take`, `++` (`byteAt_length`: the byte at index `pre.length` of
`pre ++ b :: t`), the two facts about `List.drop` that move a cursor along `p.drop i = bs ++ rest` (`drop_add`, `drop_length_succ`), and the
byte tests the translator emits, each as ONE lemma that `simp` uses directly:
`simp only [sext_eq_ofNat, Nat.reduceLT]` turns `b.signExtend 32 = 0x5C#32` into `b = 92#8`,
`simp only [nul_and_beq, nul_and_lower, ne_eq, BitVec.reduceEq, not_false_eq_true]` removes the test for the terminator in
front of a comparison with a pattern byte.
Last, `matchText` (Model/Literals.lean) reads a text only up to the first byte that no pattern byte matches (`hit`,
`matchText_local`, for a text against its cut `matchText_take`, for the end of the text `matchText_le`).
Declared in the namespace `Lemmas.Literals`, which Lemmas/LiteralsLemmas.lean continues.
-/
import ChibiVerif.Model.Literals

namespace ChibiVerif.Lemmas.Literals
open ChibiVerif.Gen.Literals
open ChibiVerif.Literals (Byte toLower matchText)

theorem byteAt_zero (a : BitVec 8) (l) : byteAt (a :: l) 0 = a := rfl

theorem byteAt_succ (a : BitVec 8) (l) (i) : byteAt (a :: l) (i+1) = byteAt l i := by
  simp [byteAt]

theorem byteAt_of_head? (t : List Byte) (b : Byte) (h : t.head? = some b) : byteAt t 0 = b := by
  cases t with
  | nil => cases h
  | cons c r => exact Option.some.inj h

theorem byteAt_of_le (p : List Byte) (i : Nat) (h : p.length ≤ i) : byteAt p i = 0#8 := by
  simp [byteAt, List.getD_eq_getElem?_getD, List.getElem?_eq_none h]

theorem byteAt_nil (k : Nat) : byteAt ([] : List Byte) k = 0#8 := byteAt_of_le [] k (Nat.zero_le _)

theorem byteAt_ne_zero_lt (p : List Byte) (i : Nat) (h : byteAt p i ≠ 0#8) : i < p.length :=
  Nat.lt_of_not_le fun hle => h (byteAt_of_le p i hle)

theorem byteAt_drop (p : List Byte) (i k : Nat) : byteAt (p.drop i) k = byteAt p (i + k) := by
  simp [byteAt, List.getD_eq_getElem?_getD, List.getElem?_drop]

theorem byteAt_take (p : List Byte) (n k : Nat) : byteAt (p.take n) k = if k < n then byteAt p k else 0#8 := by
  simp only [byteAt, List.getD_eq_getElem?_getD, List.getElem?_take]
  split <;> simp

theorem byteAt_append_right (a b : List Byte) (k : Nat) : byteAt (a ++ b) (a.length + k) = byteAt b k := by
  simp only [byteAt, List.getD_eq_getElem?_getD]
  rw [List.getElem?_append_right (by omega)]
  simp

theorem byteAt_append_left (a b : List Byte) (k : Nat) (h : k < a.length) : byteAt (a ++ b) k = byteAt a k := by
  simp only [byteAt, List.getD_eq_getElem?_getD]
  rw [List.getElem?_append_left h]

theorem byteAt_length (pre : List (BitVec 8)) (b : BitVec 8) (t : List (BitVec 8)) :
    byteAt (pre ++ b :: t) pre.length = b :=
  (byteAt_append_right pre (b :: t) 0).trans (byteAt_zero b t)

theorem drop_eq_nil_byteAt (p : List Byte) (i : Nat) (h : p.drop i = []) : byteAt p i = 0#8 :=
  byteAt_of_le p i (List.drop_eq_nil_iff.mp h)

theorem byteAt_of_drop (p : List Byte) (i : Nat) (b : Byte) (rest : List Byte) (h : p.drop i = b :: rest) :
    byteAt p i = b := by
  have := byteAt_drop p i 0
  rwa [h, byteAt_zero, eq_comm] at this

theorem drop_add (p : List Byte) (i k : Nat) (bs rest : List Byte) (h : p.drop i = bs ++ rest) (hk : bs.length = k) :
    p.drop (i + k) = rest := by
  rw [← List.drop_drop, h, ← hk, List.drop_left]

theorem drop_cons_byteAt (p : List Byte) (i : Nat) (b : Byte) (rest : List Byte) (h : p.drop i = b :: rest) :
    byteAt p i = b ∧ p.drop (i + 1) = rest :=
  ⟨byteAt_of_drop p i b rest h, drop_add p i 1 [b] rest h rfl⟩

theorem drop_length_succ (pre : List Byte) (a : Byte) (t : List Byte) : (pre ++ a :: t).drop (pre.length + 1) = t := by
  rw [show pre ++ a :: t = (pre ++ [a]) ++ t by simp, List.drop_left' (by simp)]

theorem forall_byte {P : BitVec 8 → Prop} (h : ∀ n, n < 256 → P (BitVec.ofNat 8 n)) (b : BitVec 8) : P b := by
  have := h b.toNat b.isLt
  simpa using this

/-- C compares a `char` with an ASCII character constant after promotion to `int`; the promotion is injective -/
theorem sext_eq_ofNat (b : BitVec 8) (k : Nat) (hk : k < 128) :
    b.signExtend 32 = BitVec.ofNat 32 k ↔ b = BitVec.ofNat 8 k := by
  have e : (BitVec.ofNat 8 k).signExtend 32 = BitVec.ofNat 32 k := by
    apply BitVec.eq_of_toInt_eq
    have h8 : (BitVec.ofNat 8 k).toNat = k := by rw [BitVec.toNat_ofNat]; omega
    have h32 : (BitVec.ofNat 32 k).toNat = k := by rw [BitVec.toNat_ofNat]; omega
    rw [BitVec.toInt_signExtend_of_le (by decide), BitVec.toInt_eq_toNat_of_lt (by rw [h8]; omega),
      BitVec.toInt_eq_toNat_of_lt (by rw [h32]; omega), h8, h32]
  constructor
  · intro h
    apply BitVec.eq_of_toInt_eq
    rw [← BitVec.toInt_signExtend_of_le (v := 32) (by decide), h, ← e, BitVec.toInt_signExtend_of_le (by decide)]
  · rintro rfl; exact e

/-- `startswith` / `strncasecmp` stop at the terminator of the text; against a pattern byte that is not NUL the test
    for the terminator is implied by the comparison -/
theorem nul_and_beq (a b : BitVec 8) (hb : b ≠ 0#8) : (decide (a ≠ 0#8) && (a == b)) = (a == b) := by
  by_cases h : a = b
  · subst h; simp [hb]
  · simp [h]

/-- `tolower` maps no other byte to NUL: it only adds 32 to the bytes 65 … 90 -/
theorem toLower_ne_zero (b : BitVec 8) (hb : b ≠ 0#8) : toLower b ≠ 0#8 := by
  unfold toLower
  split
  · rename_i h
    simp only [Bool.and_eq_true, decide_eq_true_eq] at h
    intro e
    have := congrArg BitVec.toNat e
    simp [BitVec.toNat_add] at this
    omega
  · exact hb

theorem nul_and_lower (a b : BitVec 8) (hb : b ≠ 0#8) :
    (decide (a ≠ 0#8) && (toLower a == toLower b)) = (toLower a == toLower b) := by
  by_cases h : a = 0#8
  · subst h; simpa using fun h' => toLower_ne_zero b hb h'.symm
  · simp [h]

/-- the comparison `matchText` makes between a byte of the text and one pattern byte -/
def hit (ci : Bool) (a : Byte) (c : Nat) : Bool :=
  a ≠ 0#8 && (if ci then toLower a == toLower (BitVec.ofNat 8 c) else a == BitVec.ofNat 8 c)

theorem matchText_cons (p : List Byte) (i c : Nat) (cs : List Nat) (ci : Bool) :
    matchText p i (c :: cs) ci = (hit ci (byteAt p i) c && matchText p (i + 1) cs ci) := rfl

theorem hit_zero (ci : Bool) (c : Nat) : hit ci 0#8 c = false := by simp [hit]

/-- `matchText` reads a text only up to the first byte that no pattern byte matches: two texts that agree below `n` and have
    such a byte at `n` are matched alike from every `k ≤ n`, and a match ends at `n` at the latest.  (The stopper is the
    newline in Lemmas/C11Locality.lean, the byte after a pp-number in Lemmas/C11PpInt.lean.) -/
theorem matchText_local {x y : List Byte} {n : Nat} (ci : Bool) (heq : ∀ k, k < n → byteAt x k = byteAt y k) :
    ∀ (pat : List Nat) (k : Nat), k ≤ n → (∀ c ∈ pat, hit ci (byteAt x n) c = false ∧ hit ci (byteAt y n) c = false) →
    matchText x k pat ci = matchText y k pat ci ∧ (matchText y k pat ci = true → k + pat.length ≤ n)
  | [], _, hk, _ => ⟨rfl, fun _ => hk⟩
  | c :: cs, k, hk, hs => by
    rw [matchText_cons, matchText_cons]
    by_cases hkn : k = n
    · subst hkn
      rw [(hs c List.mem_cons_self).1, (hs c List.mem_cons_self).2]
      exact ⟨rfl, fun h => by cases h⟩
    · obtain ⟨e, hb⟩ := matchText_local ci heq cs (k + 1) (by omega) fun c' hc' => hs c' (List.mem_cons_of_mem _ hc')
      rw [heq k (by omega), e]
      refine ⟨rfl, fun hm => ?_⟩
      have := hb (Bool.and_eq_true_iff.mp hm).2
      rw [List.length_cons]; omega

/-- the text cut at `n` against the text itself -/
theorem matchText_take (p : List Byte) (n : Nat) (ci : Bool) (pat : List Nat) (k : Nat) (hk : k ≤ n)
    (hs : ∀ c ∈ pat, hit ci (byteAt p n) c = false) :
    matchText (p.take n) k pat ci = matchText p k pat ci ∧ (matchText p k pat ci = true → k + pat.length ≤ n) :=
  matchText_local ci (fun k hk => by rw [byteAt_take, if_pos hk]) pat k hk fun c hc =>
    ⟨by rw [byteAt_take, if_neg (Nat.lt_irrefl n)]; exact hit_zero ci c, hs c hc⟩

/-- a match lies inside the text: the terminator matches nothing -/
theorem matchText_le (p : List Byte) (pat : List Nat) (ci : Bool) (h : matchText p 0 pat ci = true) : pat.length ≤ p.length := by
  have z : ∀ c ∈ pat, hit ci (byteAt p p.length) c = false := fun c _ => by
    rw [byteAt_of_le p _ (Nat.le_refl _)]; exact hit_zero ci c
  simpa using (matchText_local ci (fun _ _ => rfl) pat 0 (Nat.zero_le _) fun c hc => ⟨z c hc, z c hc⟩).2 h

end ChibiVerif.Lemmas.Literals
