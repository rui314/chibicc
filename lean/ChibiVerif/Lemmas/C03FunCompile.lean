/-
C03 × C01: `compileF` read as a relation.  `Comp … ctx k c u s code k' c' u'`: from the counters `k c u` the statement `s` is compiled to
`code`, leaving the counters at `k' c' u'` — one rule per arm of `compileF`, whose premises are the compiles of the parts
(`comp_of_compile`).  What is proved about compiled code (Lemmas/C03FunLabels.lean, Lemmas/C03FunLay.lean) is proved by induction over
these derivations.  `caseIns` / `caseTest_eq`: a rung of the compare ladder (`caseTest`) is its compare code followed by its jump.
-/
import ChibiVerif.Model.C03Fun
import ChibiVerif.Lemmas.C01JumpCompile

namespace ChibiVerif.C03Fun
open ChibiVerif.Asm ChibiVerif.Spec.IntSpec ChibiVerif.C01 ChibiVerif.X86 ChibiVerif.X86J

theorem compileOpt_inv {tys : List ITy} {off toff : Nat → Int} {k c k' c' : Nat} {oe : Option E} {cd : List JI}
    (h : compileOpt tys off toff k c oe = some (cd, k', c')) :
    (oe = none ∧ cd = [] ∧ k' = k ∧ c' = c) ∨ ∃ e t, oe = some e ∧ compileJ tys off toff k c e = some (t, cd, k', c') := by
  cases oe with
  | none => cases h; exact .inl ⟨rfl, rfl, rfl, rfl⟩
  | some e =>
    simp only [compileOpt, Option.map_eq_some_iff, Prod.mk.injEq, Prod.exists] at h
    obtain ⟨t, _, _, _, hc, rfl, rfl, rfl⟩ := h
    exact .inr ⟨e, t, rfl, hc⟩

theorem compileOpt_k {tys : List ITy} {off toff : Nat → Int} {k0 c0 : Nat} {oe : Option E} {code : List JI} {k1 c1 : Nat}
    (h : compileOpt tys off toff k0 c0 oe = some (code, k1, c1)) : k0 ≤ k1 := by
  obtain ⟨_, _, rfl, _⟩ | ⟨e, t, _, hc⟩ := compileOpt_inv h
  · exact Nat.le_refl _
  · exact (compileJ_facts tys off toff e k0 c0 t code k1 c1 hc).k

/-- a successful `compileF`, arm by arm of `gen_stmt`: which parts were compiled, from which state of the three counters to which
    (`for_`: parse.c numbers the temporaries of `inc` before those of the body, codegen.c draws the labels of `inc` after those of the
    body), and the code assembled from theirs -/
inductive Comp (tys : List ITy) (off toff : Nat → Int) (R : ITy) :
    JCtx → Nat → Nat → Nat → FStmt → List FI → Nat → Nat → Nat → Prop
  | skip {ctx k c u} : Comp tys off toff R ctx k c u .skip [] k c u
  | expr {ctx k c u e t cd k' c'} : compileJ tys off toff k c e = some (t, cd, k', c') →
      Comp tys off toff R ctx k c u (.expr e) (embs cd) k' c' u
  | ret {ctx k c u e t cd k' c'} : compileJ tys off toff k c (.cast R e) = some (t, cd, k', c') →
      Comp tys off toff R ctx k c u (.ret e) (embs cd ++ [FI.jmp (.s .ret)]) k' c' u
  | brk {ctx k c u b} : ctx.brk = some b → Comp tys off toff R ctx k c u .brk [FI.jmp (.s (.uniq b))] k c u
  | cont {ctx k c u b} : ctx.cont = some b → Comp tys off toff R ctx k c u .cont [FI.jmp (.s (.uniq b))] k c u
  | seq {ctx k c u a b ca k1 c1 u1 cb k' c' u'} : Comp tys off toff R ctx k c u a ca k1 c1 u1 →
      Comp tys off toff R ctx k1 c1 u1 b cb k' c' u' → Comp tys off toff R ctx k c u (.seq a b) (ca ++ cb) k' c' u'
  | ifte {ctx k c u e t f te ce k1 c1 ct k2 c2 u2 cf k' c' u'} : compileJ tys off toff k (c + 1) e = some (te, ce, k1, c1) →
      Comp tys off toff R ctx k1 c1 u t ct k2 c2 u2 → Comp tys off toff R ctx k2 c2 u2 f cf k' c' u' →
      Comp tys off toff R ctx k c u (.ifte e t f)
        (embs ce ++ (condJump .e te (.x ⟨.else_, c⟩) ++ (ct ++ (FI.jmp (.x ⟨.end_, c⟩) :: FI.lbl (.x ⟨.else_, c⟩) ::
          (cf ++ [FI.lbl (.x ⟨.end_, c⟩)]))))) k' c' u'
  | for_ {ctx k c u init e inc body c0i ka ca te ce k1 c1 ci k2 cb cx k' c' u'} :
      compileOpt tys off toff k (c + 1) init = some (c0i, ka, ca) → compileJ tys off toff ka ca e = some (te, ce, k1, c1) →
      compileOpt tys off toff k1 (c1 + nlblF body) inc = some (ci, k2, c') →
      Comp tys off toff R ⟨some u, some (u + 1), ctx.sw⟩ k2 c1 (u + 2) body cb k' cx u' →
      Comp tys off toff R ctx k c u (.for_ init e inc body)
        (embs c0i ++ (FI.lbl (.s (.begin_ c)) :: (embs ce ++ (condJump .e te (.s (.uniq u)) ++ (cb ++
          (FI.lbl (.s (.uniq (u + 1))) :: (embs ci ++ [FI.jmp (.s (.begin_ c)), FI.lbl (.s (.uniq u))]))))))) k' c' u'
  | doWhile {ctx k c u body e cb k1 c1 te ce k' c' u'} :
      Comp tys off toff R ⟨some u, some (u + 1), ctx.sw⟩ k (c + 1) (u + 2) body cb k1 c1 u' →
      compileJ tys off toff k1 c1 e = some (te, ce, k', c') →
      Comp tys off toff R ctx k c u (.doWhile body e)
        (FI.lbl (.s (.begin_ c)) :: (cb ++ (FI.lbl (.s (.uniq (u + 1))) :: (embs ce ++ (condJump .ne te (.s (.begin_ c)) ++
          [FI.lbl (.s (.uniq u))]))))) k' c' u'
  | switch_ {ctx k c u e body te ce k1 c1 cb k' c' u'} : compileJ tys off toff k c e = some (te, ce, k1, c1) →
      Comp tys off toff R ⟨some u, ctx.cont, true⟩ k1 c1 (u + 1) body cb k' c' u' →
      Comp tys off toff R ctx k c u (.switch_ e body)
        (embs ce ++ (ladder te (collect (u + 1) body) u ++ (cb ++ [FI.lbl (.s (.uniq u))]))) k' c' u'
  | case_ {ctx k c u lo hi s cs k' c' u'} : ctx.sw = true → Comp tys off toff R ctx k c (u + 1) s cs k' c' u' →
      Comp tys off toff R ctx k c u (.case_ lo hi s) (FI.lbl (.s (.uniq u)) :: cs) k' c' u'
  | default_ {ctx k c u s cs k' c' u'} : ctx.sw = true → Comp tys off toff R ctx k c (u + 1) s cs k' c' u' →
      Comp tys off toff R ctx k c u (.default_ s) (FI.lbl (.s (.uniq u)) :: cs) k' c' u'

theorem comp_of_compile {tys : List ITy} {off toff : Nat → Int} {R : ITy} (s : FStmt) :
    ∀ {ctx k c u code k' c' u'}, compileF tys off toff R ctx k c u s = some (code, k', c', u') →
      Comp tys off toff R ctx k c u s code k' c' u' := by
  induction s with
  | skip => intro _ _ _ _ _ _ _ _ h; cases h; exact .skip
  | expr e =>
    intro _ _ _ _ _ _ _ _ h
    simp only [compileF, Option.map_eq_some_iff, Prod.mk.injEq, Prod.exists] at h
    obtain ⟨t, cd, _, _, hc, rfl, rfl, rfl, rfl⟩ := h
    exact .expr hc
  | ret e =>
    intro _ _ _ _ _ _ _ _ h
    simp only [compileF, Option.map_eq_some_iff, Prod.mk.injEq, Prod.exists] at h
    obtain ⟨t, cd, _, _, hc, rfl, rfl, rfl, rfl⟩ := h
    exact .ret hc
  | brk =>
    intro _ _ _ _ _ _ _ _ h
    simp only [compileF, Option.map_eq_some_iff, Prod.mk.injEq] at h
    obtain ⟨b, hb, rfl, rfl, rfl, rfl⟩ := h
    exact .brk hb
  | cont =>
    intro _ _ _ _ _ _ _ _ h
    simp only [compileF, Option.map_eq_some_iff, Prod.mk.injEq] at h
    obtain ⟨b, hb, rfl, rfl, rfl, rfl⟩ := h
    exact .cont hb
  | seq a b iha ihb =>
    intro _ _ _ _ _ _ _ _ h
    simp only [compileF] at h
    split at h
    · simp only [Option.map_eq_some_iff, Prod.mk.injEq, Prod.exists] at h
      obtain ⟨cb, _, _, _, hb, rfl, rfl, rfl, rfl⟩ := h
      exact .seq (iha ‹_›) (ihb hb)
    · cases h
  | ifte e t f iht ihf =>
    intro _ _ _ _ _ _ _ _ h
    simp only [compileF] at h
    split at h
    · split at h
      · simp only [Option.map_eq_some_iff, Prod.mk.injEq, Prod.exists] at h
        obtain ⟨cf, _, _, _, hf, rfl, rfl, rfl, rfl⟩ := h
        exact .ifte ‹_› (iht ‹_›) (ihf hf)
      · cases h
    · cases h
  | for_ init e inc body ihb =>
    intro _ _ _ _ _ _ _ _ h
    simp only [compileF] at h
    split at h
    · split at h
      · split at h
        · simp only [Option.map_eq_some_iff, Prod.mk.injEq, Prod.exists] at h
          obtain ⟨cb, _, cx, _, hb, rfl, rfl, rfl, rfl⟩ := h
          exact .for_ ‹_› ‹_› ‹_› (ihb hb)
        · cases h
      · cases h
    · cases h
  | doWhile body e ihb =>
    intro _ _ _ _ _ _ _ _ h
    simp only [compileF] at h
    split at h
    · simp only [Option.map_eq_some_iff, Prod.mk.injEq, Prod.exists] at h
      obtain ⟨te, ce, _, _, he, rfl, rfl, rfl, rfl⟩ := h
      exact .doWhile (ihb ‹_›) he
    · cases h
  | switch_ e body ihb =>
    intro _ _ _ _ _ _ _ _ h
    simp only [compileF] at h
    split at h
    · simp only [Option.map_eq_some_iff, Prod.mk.injEq, Prod.exists] at h
      obtain ⟨cb, _, _, _, hb, rfl, rfl, rfl, rfl⟩ := h
      exact .switch_ ‹_› (ihb hb)
    · cases h
  | case_ lo hi s ih =>
    intro _ _ _ _ _ _ _ _ h
    simp only [compileF] at h
    split at h
    · simp only [Option.map_eq_some_iff, Prod.mk.injEq, Prod.exists] at h
      obtain ⟨cs, _, _, _, hs, rfl, rfl, rfl, rfl⟩ := h
      exact .case_ ‹_› (ih hs)
    · cases h
  | default_ s ih =>
    intro _ _ _ _ _ _ _ _ h
    simp only [compileF] at h
    split at h
    · simp only [Option.map_eq_some_iff, Prod.mk.injEq, Prod.exists] at h
      obtain ⟨cs, _, _, _, hs, rfl, rfl, rfl, rfl⟩ := h
      exact .default_ ‹_› (ih hs)
    · cases h

/-- the comparison of one rung of the compare ladder: `caseTest` without its jump -/
def caseIns (t : ITy) (lo hi : Int) : List Ins :=
  if lo = hi then
    (if t.size = 8 then
      (if fits32 lo then [⟨"cmp", [.i lo, .r "%rax"]⟩] else [⟨"mov", [.i lo, .r "%rdi"]⟩, ⟨"cmp", [.r "%rdi", .r "%rax"]⟩])
     else [⟨"cmp", [.i (toI32 lo), .r "%eax"]⟩])
  else
    (if t.size = 8 then
      ⟨"mov", [.r "%rax", .r "%rdi"]⟩ ::
        ((if fits32 lo then [⟨"sub", [.i lo, .r "%rdi"]⟩] else [⟨"mov", [.i lo, .r "%rdx"]⟩, ⟨"sub", [.r "%rdx", .r "%rdi"]⟩]) ++
         (if fits32 (toI64 (hi - lo)) then [⟨"cmp", [.i (toI64 (hi - lo)), .r "%rdi"]⟩]
          else [⟨"mov", [.i (toI64 (hi - lo)), .r "%rdx"]⟩, ⟨"cmp", [.r "%rdx", .r "%rdi"]⟩]))
     else [⟨"mov", [.r "%eax", .r "%edi"]⟩, ⟨"sub", [.i (toI32 lo), .r "%edi"]⟩, ⟨"cmp", [.i (toI32 (hi - lo)), .r "%edi"]⟩])

theorem caseTest_eq (t : ITy) (lo hi : Int) (l : Nat) :
    caseTest t lo hi l = (caseIns t lo hi).map FI.ins ++ [FI.jcc (if lo = hi then .e else .be) (.s (.uniq l))] := by
  unfold caseTest caseIns
  by_cases h1 : lo = hi <;> by_cases h2 : t.size = 8
  · simp only [if_pos h1, if_pos h2]; cases fits32 lo <;> rfl
  · simp only [if_pos h1, if_neg h2]; rfl
  · simp only [if_neg h1, if_pos h2]; cases fits32 lo <;> cases fits32 (toI64 (hi - lo)) <;> rfl
  · simp only [if_neg h1, if_neg h2]; rfl

end ChibiVerif.C03Fun
