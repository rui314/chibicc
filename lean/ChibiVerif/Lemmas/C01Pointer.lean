/-
C01: pointer arithmetic (parse.c `new_add` / `new_sub`), the register steps: the 64-bit multiply / add / subtract that scale
the index and offset the pointer (`mul64_run`, `add64_run`, `sub64_run`, `rep64_eq`), and the division of a byte difference
by the element size (`ptrdiff_step`), and the concrete frames of the non-vacuity examples (`ptrFrame`, `ptrFrame2`).  Of pointer
arithmetic only the register steps are here: `p + i`, `p - i`, `p - q` and pointer variables as
judgments are `EvG.ptradd`, `EvG.ptrdiff`, `EvG.ptrvar` (with `J_ptrAdd`, `J_ptrDiff`), the scaled index `EvG.scale` and `p += i`,
`p++`, all in Lemmas/C01PointerAssign.lean.
-/
import ChibiVerif.Lemmas.C01Value

namespace ChibiVerif.C01
open ChibiVerif.X86 ChibiVerif.Asm ChibiVerif.Spec.IntSpec ChibiVerif.Gen.CommonType ChibiVerif.C01Codegen

theorem ofInt_immOf (v : Int) : BitVec.ofInt 64 (immOf v) = BitVec.ofInt 64 v := BitVec.ofInt_bmod 64 v

/-- `Represents.eq_ofInt` through the conversion to `long` / `unsigned long`: the word is the image of the unconverted value too -/
theorem rep64_eq (t : ITy) (ht : t = .i64 ∨ t = .u64) (r : BitVec 64) (v : Int) (h : Represents t r (convert t v)) :
    r = BitVec.ofInt 64 v := by
  rcases ht with rfl | rfl <;> exact (h.eq_ofInt rfl).trans (ofInt_convert (by decide) v)

theorem usualArith_i64 (t : ITy) : usualArith t .i64 = .i64 ∨ usualArith t .i64 = .u64 := by cases t <;> decide

theorem opSeq_mul64 (t : ITy) (ht : t = .i64 ∨ t = .u64) : opSeq .ND_MUL t = OpKind.mul64.seq := by
  rcases ht with rfl | rfl <;> rfl

/-- 64-bit `imul %rdi, %rax`, for every register content -/
theorem mul64_run (s : State) :
    ∃ s', X86.run OpKind.mul64.seq s = some s' ∧ s'.get .rax = s.get .rax * s.get .rdi ∧ Same s s' := by
  obtain ⟨s', h1, h2⟩ := OpKind.effect .mul64 s
  exact ⟨s', h1, h2, run_safe _ _ _ (opKind_safe _) h1⟩

theorem add64_run (s : State) :
    ∃ s', X86.run (opSeq .ND_ADD .u64) s = some s' ∧ s'.get .rax = s.get .rax + s.get .rdi ∧ Same s s' := by
  rw [show opSeq .ND_ADD .u64 = OpKind.add64.seq from rfl]
  obtain ⟨s', h1, h2⟩ := OpKind.effect .add64 s
  exact ⟨s', h1, h2, run_safe _ _ _ (opKind_safe _) h1⟩

theorem sub64_run (t : ITy) (ht : t = .i64 ∨ t = .u64) (s : State) :
    ∃ s', X86.run (opSeq .ND_SUB t) s = some s' ∧ s'.get .rax = s.get .rax - s.get .rdi ∧ Same s s' := by
  have : opSeq .ND_SUB t = OpKind.sub64.seq := by rcases ht with rfl | rfl <;> rfl
  rw [this]
  obtain ⟨s', h1, h2⟩ := OpKind.effect .sub64 s
  exact ⟨s', h1, h2, run_safe _ _ _ (opKind_safe _) h1⟩

/-- **`p - q`**: the byte difference (in `%rax`) divided by the element size (in `%rdi`) as a signed 64-bit division
    (`cqo; idiv`); when the two pointers are `k` elements apart the result is `k` -/
theorem ptrdiff_step (size : Int) (p q : BitVec 64) (k : Int) (hs0 : 0 < size) (hs : ITy.i32.inRange size)
    (hk : ITy.i64.inRange (k * size)) (hpq : p = q + BitVec.ofInt 64 (k * size)) (s : State) (hax : s.get .rax = p - q)
    (hdi : Represents .i64 (s.get .rdi) (convert .i64 size)) :
    ∃ s', X86.run (opSeq .ND_DIV .i64) s = some s' ∧ Represents .i64 (s'.get .rax) k ∧ Same s s' := by
  rw [show opSeq .ND_DIV .i64 = OpKind.divs64.seq from rfl]
  have hd : (s.get .rdi).toInt = size := by
    have := (rep_i64 _ _).1 hdi
    rw [this]
    simp only [convert, wrap, ITy.signed, ITy.bits, ITy.inRange, ITy.min, ITy.max, Int.bmod_def] at hs ⊢
    simp at hs ⊢
    split <;> omega
  have hn : (s.get .rax).toInt = k * size := by
    rw [hax, hpq]
    have : q + BitVec.ofInt 64 (k * size) - q = BitVec.ofInt 64 (k * size) := by
      rw [BitVec.add_comm, BitVec.add_sub_cancel]
    rw [this]
    exact ofInt64_toInt_of_range _ (by simpa [ITy.inRange, ITy.min, ITy.max, ITy.signed, ITy.bits] using hk)
  have hq' : Int.tdiv (k * size) size = k := Int.mul_tdiv_cancel _ (by omega)
  have hkr : ITy.i64.inRange k := by
    simp only [ITy.inRange, ITy.min, ITy.max, ITy.signed, ITy.bits] at hk ⊢
    simp at hk ⊢
    have h1 : (1 : Int) ≤ size := hs0
    rcases Int.le_total 0 k with hk0 | hk0
    · have := Int.mul_le_mul_of_nonneg_left h1 hk0
      simp only [Int.mul_one] at this
      omega
    · have := Int.mul_le_mul_of_nonpos_left hk0 h1
      simp only [Int.mul_one] at this
      omega
  have he := OpKind.effect .divs64 s
  simp only [OpKind.fn, hd, hn, hq'] at he
  have c1 : ¬ size = 0 := by omega
  have c2 : ¬ (k < -(2 ^ 63) ∨ k ≥ 2 ^ 63) := by
    simp only [ITy.inRange, ITy.min, ITy.max, ITy.signed, ITy.bits] at hkr
    simp at hkr
    omega
  simp only [c1, c2, if_false] at he
  obtain ⟨s', h1, h2⟩ := he
  refine ⟨s', h1, ?_, run_safe _ _ _ (opKind_safe _) h1⟩
  rw [h2, rep_i64]
  exact ofInt64_toInt_of_range _ (by simpa [ITy.inRange, ITy.min, ITy.max, ITy.signed, ITy.bits] using hkr)

/-! ### a concrete instance: `int *p = (int *)0x100000000000; int i = 600000000` -/

def ptrEnv : Env := ⟨[.u64, .i32], [0x100000000000, 600000000]⟩
/-- `%rsp` = 0x1000, `%rbp` = 0x2000; `p` at -8(%rbp) (bytes 00 00 00 00 00 10 00 00), `i` = 0x23c34600 at -16(%rbp) -/
def ptrState : State :=
  { regs := fun r => match r with | .rsp => 0x1000#64 | .rbp => 0x2000#64 | _ => 0#64,
    mem := fun a => if a = 0x1ffd#64 then 0x10#8 else if a = 0x1ff1#64 then 0x46#8 else if a = 0x1ff2#64 then 0xc3#8
      else if a = 0x1ff3#64 then 0x23#8 else 0#8 }

theorem ptrFrame : FrameHolds ptrEnv exOff (depthE (.var 1) + 2) ptrState := by
  refine ⟨by decide, ?_⟩
  intro i t v ht hv
  match i with
  | 0 =>
    simp [ptrEnv] at ht hv; subst ht; subst hv
    exact ⟨⟨by decide, by decide⟩, by decide, by decide⟩
  | 1 =>
    simp [ptrEnv] at ht hv; subst ht; subst hv
    exact ⟨⟨by decide, by decide⟩, by decide, by decide⟩
  | k + 2 => simp [ptrEnv] at ht

/-- two pointers 600 000 000 `int`s apart: `p` = 0x10008f0d1800 at -8(%rbp), `q` = 0x100000000000 at -16(%rbp) -/
def ptrEnv2 : Env := ⟨[.u64, .u64], [0x10008f0d1800, 0x100000000000]⟩
def ptrState2 : State :=
  { regs := fun r => match r with | .rsp => 0x1000#64 | .rbp => 0x2000#64 | _ => 0#64,
    mem := fun a => if a = 0x1ff9#64 then 0x18#8 else if a = 0x1ffa#64 then 0x0d#8 else if a = 0x1ffb#64 then 0x8f#8
      else if a = 0x1ffd#64 then 0x10#8 else if a = 0x1ff5#64 then 0x10#8 else 0#8 }

theorem ptrFrame2 : FrameHolds ptrEnv2 exOff 2 ptrState2 := by
  refine ⟨by decide, ?_⟩
  intro i t v ht hv
  match i with
  | 0 =>
    simp [ptrEnv2] at ht hv; subst ht; subst hv
    exact ⟨⟨by decide, by decide⟩, by decide, by decide⟩
  | 1 =>
    simp [ptrEnv2] at ht hv; subst ht; subst hv
    exact ⟨⟨by decide, by decide⟩, by decide, by decide⟩
  | k + 2 => simp [ptrEnv2] at ht

end ChibiVerif.C01
