/-
An ascending cell-by-cell copy (`for (i = 0; i < n; i++) dst[i] = src[i]`) over any kind of address: what it leaves in
memory when no trip overwrites a cell that a later trip still reads.  The byte loops of codegen.c (`store` of a struct,
`push_struct`, `copy_struct_mem`, the loop of `builtin_alloca`) are instances, over `Int` and over `BitVec 64`.
-/
namespace ChibiVerif

/-- memory after copying cell `src i` to cell `dst i` for `i = 0, …, n-1`, in that order -/
def ascCopy {α β : Type} [DecidableEq α] (src dst : Nat → α) (m : α → β) : Nat → α → β
  | 0 => m
  | n + 1 => fun a => if a = dst n then ascCopy src dst m n (src n) else ascCopy src dst m n a

/-- if no trip writes a cell that a later trip reads or writes, cell `dst k` ends up with what `src k` held at the start,
    and every other cell keeps its content -/
theorem ascCopy_spec {α β : Type} [DecidableEq α] (src dst : Nat → α) (m : α → β) (n : Nat)
    (h : ∀ j k, j < k → k < n → dst j ≠ src k ∧ dst j ≠ dst k) :
    (∀ k, k < n → ascCopy src dst m n (dst k) = m (src k)) ∧
    ∀ a, (∀ k, k < n → a ≠ dst k) → ascCopy src dst m n a = m a := by
  induction n with
  | zero => exact ⟨fun k hk => absurd hk (Nat.not_lt_zero k), fun _ _ => rfl⟩
  | succ n ih =>
    obtain ⟨ih1, ih2⟩ := ih fun j k hjk hk => h j k hjk (by omega)
    refine ⟨fun k hk => ?_, fun a ha => ?_⟩
    · by_cases hkn : k = n
      · subst hkn
        -- the source cell of the last trip has not been overwritten by an earlier trip
        exact (if_pos rfl).trans (ih2 _ fun j hj e => (h j k hj (by omega)).1 e.symm)
      · exact (if_neg fun e => (h k n (by omega) (by omega)).2 e).trans (ih1 k (by omega))
    · exact (if_neg (ha n (by omega))).trans (ih2 a fun k hk => ha k (by omega))

/-- the first trip taken off: the remaining trips run on the memory after it -/
theorem ascCopy_head {α β : Type} [DecidableEq α] (src dst : Nat → α) (m : α → β) (n : Nat) :
    ascCopy src dst m (n + 1) =
      ascCopy (fun k => src (k + 1)) (fun k => dst (k + 1)) (fun a => if a = dst 0 then m (src 0) else m a) n := by
  induction n with
  | zero => rfl
  | succ n ih => rw [ascCopy, ih]; rfl

theorem ascCopy_int {β : Type} (m : Int → β) (src dst : Int) (n : Nat) (h : dst ≤ src ∨ src + n ≤ dst) :
    (∀ i : Nat, i < n → ascCopy (src + ·) (dst + ·) m n (dst + i) = m (src + i)) ∧
    (∀ a : Int, a < dst ∨ dst + n ≤ a → ascCopy (src + ·) (dst + ·) m n a = m a) := by
  obtain ⟨h1, h2⟩ := ascCopy_spec (src + ·) (dst + ·) m n fun j k _ _ => by
    refine ⟨?_, ?_⟩ <;> (intro (e : _ + _ = _ + _); omega)
  exact ⟨h1, fun a ha => h2 a fun k hk (e : _ = _ + _) => by omega⟩

end ChibiVerif
