/-
Helper lemmas for C15_symbols_partial: the labels emitted code and data mention are the Spec's `usedNames`;
what the output defines is what the Spec says is defined; the Spec's table in normal form (`symbols_nf`); the two symbol
tables have the same entries.
-/
import ChibiVerif.Lemmas.LinkageFnSym
import ChibiVerif.Lemmas.LinkageUses

namespace ChibiVerif.Linkage
open ChibiVerif.Spec.Linkage

variable [Rules]

/-! ### small membership facts -/

omit [Rules] in
theorem mem_namedOf {l : List Sym} {n : Name} : n ∈ namedOf l ↔ Sym.named n ∈ l := by
  unfold namedOf
  rw [List.mem_filterMap]
  constructor
  · rintro ⟨s, hs, hh⟩
    cases s with
    | named m => simp only [Option.some.injEq] at hh; subst hh; exact hs
    | anon k => cases hh
  · intro h
    exact ⟨_, h, rfl⟩

omit [Rules] in
theorem mem_directRefs {b : List BodyItem} {n : Name} :
    n ∈ directRefs b ↔ BodyItem.ref (.fn n) ∈ b ∨ BodyItem.ref (.obj n) ∈ b := by
  unfold directRefs
  rw [List.mem_filterMap]
  constructor
  · rintro ⟨it, hit, hh⟩
    cases it with
    | ref r =>
      cases r with
      | fn g => simp only [Option.some.injEq] at hh; subst hh; exact Or.inl hit
      | obj x => simp only [Option.some.injEq] at hh; subst hh; exact Or.inr hit
    | staticLocal => cases hh
    | str => cases hh
    | externObj => cases hh
  · rintro (h | h)
    · exact ⟨_, h, rfl⟩
    · exact ⟨_, h, rfl⟩

omit [Rules] in
theorem named_mem_initLabels {items : List InitItem} {k : Nat} {n : Name} :
    Sym.named n ∈ initLabels k items ↔ n ∈ initFnRefs items ∨ n ∈ initObjRefs items := by
  rw [← mem_namedOf, namedOf_initLabels]
  simp only [initFnRefs, initObjRefs, List.mem_filterMap]
  constructor
  · rintro ⟨it, hit, hh⟩
    cases it with
    | ref r =>
      cases r with
      | fn g => exact Or.inl ⟨_, hit, hh⟩
      | obj x => exact Or.inr ⟨_, hit, hh⟩
    | str => cases hh
  · rintro (⟨it, hit, hh⟩ | ⟨it, hit, hh⟩) <;> refine ⟨it, hit, ?_⟩
    · cases it with
      | ref r =>
        cases r with
        | fn g => exact hh
        | obj x => cases hh
      | str => cases hh
    · cases it with
      | ref r =>
        cases r with
        | fn g => cases hh
        | obj x => exact hh
      | str => cases hh

omit [Rules] in
theorem initRefs_any {items : List InitItem} {n : Name} (h : n ∈ initFnRefs items ∨ n ∈ initObjRefs items) :
    items.any (fun j => match j with | .ref _ => true | _ => false) = true := by
  rw [List.any_eq_true]
  rcases h with h | h
  · simp only [initFnRefs, List.mem_filterMap] at h
    obtain ⟨it, hit, hh⟩ := h
    cases it with
    | ref r => exact ⟨_, hit, rfl⟩
    | str => cases hh
  · simp only [initObjRefs, List.mem_filterMap] at h
    obtain ⟨it, hit, hh⟩ := h
    cases it with
    | ref r => exact ⟨_, hit, rfl⟩
    | str => cases hh

def emittedP (gs : List Obj) (o : Obj) : Bool :=
  if o.isFunction then o.isDefinition && o.isLive else o.isDefinition && ownerLive gs o

omit [Rules] in
theorem mem_emittedUses {gs : List Obj} {s : Sym} :
    s ∈ emittedUses gs ↔ ∃ o, o ∈ gs ∧ emittedP gs o = true ∧ s ∈ o.uses := by
  unfold emittedUses
  rw [List.mem_flatMap]
  constructor
  · rintro ⟨o, ho, hs⟩
    rw [List.mem_filter] at ho
    exact ⟨o, ho.1, ho.2, hs⟩
  · rintro ⟨o, ho, hp, hs⟩
    exact ⟨o, List.mem_filter.mpr ⟨ho, hp⟩, hs⟩

omit [Rules] in
theorem mem_usedNames {ds : List Decl} {n : Name} :
    n ∈ usedNames ds ↔ n ∈ fileFnRefs ds ∨ n ∈ fileObjRefs ds ∨
      ∃ f, f ∈ fnNames ds ∧ fnEmitted ds f = true ∧
        (n ∈ bodyFnRefs (fnBody (fnDecls ds f)) ∨ n ∈ bodyObjRefs (fnBody (fnDecls ds f))) := by
  unfold usedNames
  simp only [List.mem_append, List.mem_flatMap, List.mem_filter]
  constructor
  · rintro ((h | h) | ⟨f, ⟨hf, he⟩, h⟩)
    · exact Or.inl h
    · exact Or.inr (Or.inl h)
    · exact Or.inr (Or.inr ⟨f, hf, he, h⟩)
  · rintro (h | h | ⟨f, hf, he, h⟩)
    · exact Or.inl (Or.inl h)
    · exact Or.inl (Or.inr h)
    · exact Or.inr ⟨f, ⟨hf, he⟩, h⟩

omit [Rules] in
theorem mem_deadStaticLocalRefs {ds : List Decl} {n : Name} :
    n ∈ deadStaticLocalRefs ds ↔ ∃ f, f ∈ fnNames ds ∧ fnDefined (fnDecls ds f) = true ∧ fnEmitted ds f = false ∧
      ∃ tls ty items, BodyItem.staticLocal tls ty (some items) ∈ fnBody (fnDecls ds f) ∧
        (n ∈ initFnRefs items ∨ n ∈ initObjRefs items) := by
  unfold deadStaticLocalRefs
  rw [List.mem_flatMap]
  constructor
  · rintro ⟨f, hf, hn⟩
    split at hn
    · rename_i hc
      simp only [Bool.and_eq_true, Bool.not_eq_true'] at hc
      rw [List.mem_flatMap] at hn
      obtain ⟨it, hit, hn⟩ := hn
      cases it with
      | staticLocal tls ty init =>
        cases init with
        | none => simp at hn
        | some items => exact ⟨f, hf, hc.1, hc.2, tls, ty, items, hit, List.mem_append.mp hn⟩
      | ref => simp at hn
      | str => simp at hn
      | externObj => simp at hn
    · cases hn
  · rintro ⟨f, hf, hd, he, tls, ty, items, hit, hn⟩
    refine ⟨f, hf, ?_⟩
    simp only [hd, he, Bool.not_false, Bool.and_self, if_true]
    rw [List.mem_flatMap]
    exact ⟨_, hit, List.mem_append.mpr hn⟩

section
variable {ds : List Decl} (u : UnitOK ds) {st : PState} {gs1 gs : List Obj} (p : Parsed ds st gs1 gs)
-- hidden hypotheses below: `u`: the unit is in the scope of `symbols_iff`; `p`: `parse` ran on `ds` (`st` after the declarations, `gs1` after the root loop, `gs` returned)
include u p

omit u in
theorem fn_exists {f : Name} (hf : f ∈ fnNames ds) : ∃ o0, findFunc st.globals f = some o0 := by
  have := (recorded p.hst f).1
  rw [firstFlags_isSome.mpr hf] at this
  unfold isFn at this
  cases h : findFunc st.globals f with
  | none => rw [h] at this; cases this
  | some o0 => exact ⟨o0, rfl⟩

omit u in
theorem fn_declared_of_find {f : Name} {o0 : Obj} (h0 : findFunc st.globals f = some o0) : f ∈ fnNames ds := by
  have := (recorded p.hst f).1
  unfold isFn at this
  rw [h0] at this
  exact firstFlags_isSome.mp this.symm

theorem fnEmitted_iff {f : Name} {o0 : Obj} (h0 : findFunc st.globals f = some o0) :
    fnEmitted ds f = true ↔ o0.isDefinition = true ∧ liveFn gs1 f = true := by
  rw [isDefinition_parse p.hst h0]
  unfold fnEmitted
  cases hD : fnDefined (fnDecls ds f)
  · simp
  · simp only [Bool.true_and, true_and]
    rw [u.live_iff_needed p hD]
    simp

omit u in
/-- `var->owner->is_live` for a datum of the body of `f`, in Spec terms -/
theorem ownerLive_of_owner {o : Obj} {f : Name} (ho : o.owner = some f) : ownerLive gs o = liveFn gs1 f := by
  simp only [ownerLive, liveFn, ho]
  rw [p.findFunc_gs]
  cases findFunc gs1 f <;> rfl

omit u p in
theorem ownerOf_some (f : Name) : ownerOf (some f) = if Rules.ownedData then some f else none := rfl

/-- **the identifiers mentioned by what is printed are the Spec's `usedNames`** (for the code without `Rules.ownedData`:
    and those in initializers of static locals of functions that are not emitted) -/
theorem uses_iff (n : Name) : Sym.named n ∈ emittedUses gs ↔
    n ∈ usedNames ds ∨ (Rules.ownedData = false ∧ n ∈ deadStaticLocalRefs ds) := by
  rw [mem_emittedUses, mem_usedNames]
  constructor
  · rintro ⟨o, ho, hP, hn⟩
    cases hf : o.isFunction
    · obtain ⟨a, ha, _, T, rfl⟩ := p.data_of_mem ho hf
      have hn' : Sym.named n ∈ a.uses := hn
      cases allNews_kind ds 0 a ha with
      | @var x s e t ty init k pre post hd =>
        have hd := mem_of_split hd
        rw [varObj_uses] at hn'
        cases init with
        | none => cases hn'
        | some items =>
          rcases named_mem_initLabels.mp hn' with h | h
          · exact Or.inl (Or.inl (mem_fileFnRefs.mpr ⟨x, s, e, t, ty, items, hd, h⟩))
          · exact Or.inl (Or.inr (Or.inl (mem_fileObjRefs.mpr ⟨x, s, e, t, ty, items, hd, h⟩)))
      | ext stc hd hb => simp [externO] at hn'
      | @sl f m s e i b tls ty init k hd hb =>
        cases init with
        | none => simp [slObj] at hn'
        | some items =>
          have hrefs := named_mem_initLabels.mp (show Sym.named n ∈ initLabels (k + 1) items from hn')
          have hmem : (⟨s, e, i, some b⟩ : FnDecl) ∈ fnDecls ds f := mem_fnDecls.mpr ⟨m, hd⟩
          have hbody : b = fnBody (fnDecls ds f) := body_unique (u.oneBody f) hmem rfl
          have hfn : f ∈ fnNames ds := mem_fnNames_of_mem hd
          have hdef : fnDefined (fnDecls ds f) = true := by
            unfold fnDefined; rw [List.any_eq_true]; exact ⟨_, hmem, rfl⟩
          cases hem : fnEmitted ds f
          · -- a static local of a function that is not emitted
            cases hD : Rules.ownedData
            · right
              exact ⟨rfl, mem_deadStaticLocalRefs.mpr ⟨f, hfn, hdef, hem, tls, ty, items, by rw [← hbody]; exact hb, hrefs⟩⟩
            · -- the repaired code does not print the datum
              exfalso
              have hown : ({ slObj f k tls ty (some items) with ty := T } : Obj).owner = some f := by
                simp [slObj, ownerOf_some, hD]
              have hP' : ownerLive gs { slObj f k tls ty (some items) with ty := T } = true := by
                cases hol : ownerLive gs { slObj f k tls ty (some items) with ty := T }
                · exfalso
                  unfold emittedP at hP
                  rw [if_neg (by rw [hf]; simp), hol, Bool.and_false] at hP
                  cases hP
                · rfl
              rw [ownerLive_of_owner p hown] at hP'
              obtain ⟨o0, h0⟩ := fn_exists p hfn
              have := (fnEmitted_iff u p h0).mpr ⟨by rw [isDefinition_parse p.hst h0]; exact hdef, hP'⟩
              rw [hem] at this; cases this
          · refine Or.inl (Or.inr (Or.inr ⟨f, hfn, hem, ?_⟩))
            rw [← hbody]
            rcases hrefs with h | h
            · exact Or.inl (mem_bodyFnRefs.mpr (Or.inr ⟨tls, ty, items, hb, h⟩))
            · exact Or.inr (mem_bodyObjRefs.mpr (Or.inr ⟨tls, ty, items, hb, h⟩))
      | str => simp [strObj] at hn'
    · obtain ⟨f, o0, h0, rfl⟩ := p.fn_of_mem ho hf
      have hP' : (o0.isDefinition && liveFn gs1 f) = true := by
        have : o0.isFunction = true := hf
        simpa [emittedP, this] using hP
      simp only [Bool.and_eq_true] at hP'
      have hem := (fnEmitted_iff u p h0).mpr hP'
      have hfn := fn_declared_of_find p h0
      have hdef : fnDefined (fnDecls ds f) = true := by rw [← isDefinition_parse p.hst h0]; exact hP'.1
      have hNU := NU_parse p.hst f (u.oneBody f) hdef
      simp only [NU, U, h0, Option.map_some, Option.some.injEq] at hNU
      have : n ∈ directRefs (fnBody (fnDecls ds f)) := by rw [← hNU]; exact mem_namedOf.mpr hn
      refine Or.inl (Or.inr (Or.inr ⟨f, hfn, hem, ?_⟩))
      rcases mem_directRefs.mp this with h | h
      · exact Or.inl (mem_bodyFnRefs.mpr (Or.inl h))
      · exact Or.inr (mem_bodyObjRefs.mpr (Or.inl h))
  · have fromVar : ∀ x s e t ty items, Decl.obj x s e t ty (some items) ∈ ds → (n ∈ initFnRefs items ∨ n ∈ initObjRefs items) →
        ∃ o, o ∈ gs ∧ emittedP gs o = true ∧ Sym.named n ∈ o.uses := by
      intro x s e t ty items hd hr
      obtain ⟨k, stc, hk⟩ := var_mem_allNews ds 0 env0 hd
      obtain ⟨T2, hT2⟩ := preOne_same gs1 (varObj k x stc e t ty (some items))
      refine ⟨_, p.mem_of_data_nt hk rfl, ?_, ?_⟩
      · rw [hT2]; simp [emittedP, varObj, ownerLive]
      · rw [hT2]; exact named_mem_initLabels.mpr hr
    -- a static local of `f`, printed if `f` is live or the datum has no owner
    have viaSL' : ∀ f, fnDefined (fnDecls ds f) = true → (Rules.ownedData = false ∨ liveFn gs1 f = true) → ∀ tls ty items,
        BodyItem.staticLocal tls ty (some items) ∈ fnBody (fnDecls ds f) →
        (n ∈ initFnRefs items ∨ n ∈ initObjRefs items) → ∃ o, o ∈ gs ∧ emittedP gs o = true ∧ Sym.named n ∈ o.uses := by
      intro f hdef hlive tls ty items hb hr
      obtain ⟨m, _, _, _, hm⟩ := body_decl hdef
      obtain ⟨k, hk⟩ := sl_mem_allNews ds 0 env0 hm hb
      obtain ⟨T2, hT2⟩ := preOne_same gs1 (slObj f k tls ty (some items))
      refine ⟨_, p.mem_of_data_nt hk rfl, ?_, ?_⟩
      · rw [hT2]
        show ownerLive gs _ = true
        cases hD : Rules.ownedData
        · have : ({ slObj f k tls ty (some items) with ty := T2 } : Obj).owner = none := by simp [slObj, ownerOf_some, hD]
          exact ownerLive_of_noOwner gs this
        · have hown : ({ slObj f k tls ty (some items) with ty := T2 } : Obj).owner = some f := by simp [slObj, ownerOf_some, hD]
          rw [ownerLive_of_owner p hown]
          rcases hlive with h | h
          · rw [hD] at h; cases h
          · exact h
      · rw [hT2]; exact named_mem_initLabels.mpr hr
    rintro ((h | h | ⟨f, hfn, hem, h⟩) | ⟨hD, hdead⟩)
    rotate_left 3
    · obtain ⟨f, _, hdef, _, tls, ty, items, hb, hr⟩ := mem_deadStaticLocalRefs.mp hdead
      exact viaSL' f hdef (Or.inl hD) tls ty items hb hr
    · obtain ⟨x, s, e, t, ty, items, hd, hg⟩ := mem_fileFnRefs.mp h
      exact fromVar x s e t ty items hd (Or.inl hg)
    · obtain ⟨x, s, e, t, ty, items, hd, hg⟩ := mem_fileObjRefs.mp h
      exact fromVar x s e t ty items hd (Or.inr hg)
    · obtain ⟨o0, h0⟩ := fn_exists p hfn
      have hP := (fnEmitted_iff u p h0).mp hem
      have hdef : fnDefined (fnDecls ds f) = true := by rw [← isDefinition_parse p.hst h0]; exact hP.1
      have direct : (BodyItem.ref (.fn n) ∈ fnBody (fnDecls ds f) ∨ BodyItem.ref (.obj n) ∈ fnBody (fnDecls ds f)) →
          ∃ o, o ∈ gs ∧ emittedP gs o = true ∧ Sym.named n ∈ o.uses := by
        intro hd
        have hNU := NU_parse p.hst f (u.oneBody f) hdef
        simp only [NU, U, h0, Option.map_some, Option.some.injEq] at hNU
        have hp' := List.find?_some h0
        simp only [Bool.and_eq_true, beq_iff_eq] at hp'
        refine ⟨_, p.mem_of_fn h0, ?_, ?_⟩
        · simp [emittedP, hp'.1, hP.1, hP.2]
        · show Sym.named n ∈ o0.uses
          rw [← mem_namedOf, hNU]
          exact mem_directRefs.mpr hd
      have viaSL := viaSL' f hdef (Or.inr hP.2)
      rcases h with h | h
      · rcases mem_bodyFnRefs.mp h with h | ⟨tls, ty, items, hb, hg⟩
        · exact direct (Or.inl h)
        · exact viaSL tls ty items hb (Or.inl hg)
      · rcases mem_bodyObjRefs.mp h with h | ⟨tls, ty, items, hb, hg⟩
        · exact direct (Or.inr h)
        · exact viaSL tls ty items hb (Or.inr hg)

omit u in
theorem data_def_objName {o : Obj} {x : Name} (ho : o ∈ gs) (hf : o.isFunction = false) (hd : o.isDefinition = true)
    (hs : o.sym = .named x) : x ∈ objNames ds := by
  obtain ⟨a, ha, _, T, rfl⟩ := p.data_of_mem ho hf
  rcases (allNews_kind ds 0 a ha).named hs with ⟨s, e, t, ty, init, k, pre, post, hdd, _⟩ | ⟨f, n, s, e, i, b, tls, ty, stc, _, _, rfl⟩
  · exact mem_objNames_of_mem (mem_of_split hdd)
  · cases hd

/-- what the output defines is what the Spec says is defined -/
def specDefined (ds : List Decl) (n : Name) : Prop :=
  (n ∈ objNames ds ∧ objDefined (objDecls ds n) = true) ∨ (n ∈ fnNames ds ∧ fnEmitted ds n = true)

omit [Rules] u p in
theorem definedHere_iff (n : Name) : definedHere ds n = true ↔ specDefined ds n := by
  simp [definedHere, specDefined]

theorem defined_iff (n : Name) :
    (∃ o, o ∈ gs ∧ o.sym = .named n ∧ ((o.isFunction = false ∧ o.isDefinition = true ∧ ownerLive gs o = true) ∨
      (o.isFunction = true ∧ o.isDefinition = true ∧ o.isLive = true))) ↔ specDefined ds n := by
  constructor
  · rintro ⟨o, ho, hs, (⟨hf, hd, _⟩ | ⟨hf, hd, hl⟩)⟩
    · have hx := data_def_objName p ho hf hd hs
      exact Or.inl ⟨hx, (data_entry p (u.objs n hx) true ho hf hd hs).1⟩
    · obtain ⟨f, o0, h0, rfl⟩ := p.fn_of_mem ho hf
      have hp' := List.find?_some h0
      simp only [Bool.and_eq_true, beq_iff_eq] at hp'
      have : f = n := by
        have hs' : o0.sym = .named n := hs
        rw [hp'.2] at hs'
        cases hs'; rfl
      subst this
      exact Or.inr ⟨fn_declared_of_find p h0, (fnEmitted_iff u p h0).mpr ⟨hd, hl⟩⟩
  · rintro (⟨hx, hD⟩ | ⟨hf, hem⟩)
    · obtain ⟨o, ho, hfo, hdo, hso⟩ := data_exists p (u.objs n hx) hD
      have hown := (data_entry p (u.objs n hx) true ho hfo hdo hso).2.1
      exact ⟨o, ho, hso, Or.inl ⟨hfo, hdo, ownerLive_of_noOwner gs hown⟩⟩
    · obtain ⟨o0, h0⟩ := fn_exists p hf
      have hP := (fnEmitted_iff u p h0).mp hem
      have hp' := List.find?_some h0
      simp only [Bool.and_eq_true, beq_iff_eq] at hp'
      exact ⟨_, p.mem_of_fn h0, hp'.2, Or.inr ⟨hp'.1, hP.1, hP.2⟩⟩

omit p in
theorem used_declared {n : Name} (h : n ∈ usedNames ds) :
    n ∈ fnNames ds ∨ n ∈ objNames ds ∨ n ∈ blockExternNames ds := by
  obtain ⟨r1, r2, r3, r4⟩ := refs_declared u.ordered
  rcases mem_usedNames.mp h with h | h | ⟨f, _, _, h | h⟩
  · exact Or.inl (r1 n h)
  · exact Or.inr (Or.inl (r3 n h))
  · exact Or.inl (r2 f n h)
  · exact Or.inr (r4 f n h)

omit p in
theorem used_needed {n : Name} (hfn : n ∈ fnNames ds) (h : n ∈ usedNames ds) : n ∈ neededList ds := by
  obtain ⟨_, _, r3, r4⟩ := refs_declared u.ordered
  have hdis := u.disjoint hfn
  rcases mem_usedNames.mp h with h | h | ⟨f, _, hem, h | h⟩
  · exact (u.mem_needed n).mpr ⟨n, Or.inr h, ReachS.refl⟩
  · exact absurd (r3 n h) hdis.1
  · unfold fnEmitted at hem
    simp only [Bool.and_eq_true] at hem
    obtain ⟨r, hr, hreach⟩ := (u.mem_needed f).mp (by simpa using hem.2)
    exact (u.mem_needed n).mpr ⟨r, hr, ReachS.step hreach h⟩
  · exact (r4 f n h).elim (fun h' => absurd h' hdis.1) (fun h' => absurd h' hdis.2)

end

/-! ### the two tables -/

omit [Rules] in
theorem asmView_sym (e : SymEntry) : (asmView e).sym = e.sym := by
  unfold asmView; split <;> rfl

omit [Rules] in
/-- the printed entries, by the object each comes from -/
theorem mem_emit {fc : Bool} {gs : List Obj} {e : SymEntry} : e ∈ emit fc gs ↔
    (∃ o, o ∈ gs ∧ ownerLive gs o = true ∧ emitDataVar fc o = some e) ∨ (∃ o, o ∈ gs ∧ emitTextFn o = some e) := by
  simp only [emit, emitData, emitText, List.mem_append, List.mem_filterMap, List.mem_filter, and_assoc]

omit [Rules] in
theorem emit_defined {fc : Bool} {gs : List Obj} {s : Sym} :
    (emit fc gs).any (fun e => e.sym == s) = true ↔
      ∃ o, o ∈ gs ∧ o.sym = s ∧ ((o.isFunction = false ∧ o.isDefinition = true ∧ ownerLive gs o = true) ∨
        (o.isFunction = true ∧ o.isDefinition = true ∧ o.isLive = true)) := by
  rw [List.any_eq_true]
  constructor
  · rintro ⟨e, he, hs⟩
    rcases mem_emit.mp he with ⟨o, ho, hol, hoe⟩ | ⟨o, ho, hoe⟩
    · have h1 := emitDataVar_def hoe
      exact ⟨o, ho, by rw [← emitDataVar_sym hoe]; simpa using hs, Or.inl ⟨h1.1, h1.2, hol⟩⟩
    · obtain ⟨h1, h2, h3, rfl⟩ := emitTextFn_some hoe
      exact ⟨o, ho, by simpa using hs, Or.inr ⟨h1, h2, h3⟩⟩
  · rintro ⟨o, ho, hs, (⟨hf, hd, hol⟩ | ⟨hf, hd, hl⟩)⟩
    · have h1 := emitDataVar_isSome fc o
      rw [hf, hd] at h1
      obtain ⟨e, hoe⟩ := Option.isSome_iff_exists.mp h1
      exact ⟨e, mem_emit.mpr (Or.inl ⟨o, ho, hol, hoe⟩), by rw [emitDataVar_sym hoe, hs]; simp⟩
    · exact ⟨⟨o.sym, bindingOf o, .text, none, 0⟩, mem_emit.mpr (Or.inr ⟨o, ho, by simp [emitTextFn, hf, hd, hl]⟩), by simp [hs]⟩

omit [Rules] in
theorem mem_objectSymbols {fc : Bool} {gs : List Obj} {e : SymEntry} :
    e ∈ objectSymbols fc gs ↔ (∃ n, e.sym = .named n) ∧
      ((∃ o, o ∈ gs ∧ ownerLive gs o = true ∧ (emitDataVar fc o).map asmView = some e) ∨ (∃ o, o ∈ gs ∧ emitTextFn o = some e) ∨
       (∃ s, s ∈ undefs fc gs ∧ e = undefEntry s)) := by
  -- a text entry is not a common symbol: `asmView` leaves it alone
  have htext : ∀ o e', emitTextFn o = some e' → asmView e' = e' := fun o e' h => by
    obtain ⟨_, _, _, rfl⟩ := emitTextFn_some h; rfl
  unfold objectSymbols
  rw [List.mem_filter, and_comm, List.mem_append, List.mem_map, List.mem_map]
  refine and_congr (by cases e.sym <;> simp) ?_
  constructor
  · rintro (⟨e', he', rfl⟩ | ⟨s, hs, rfl⟩)
    · rcases mem_emit.mp he' with ⟨o, ho, hol, hoe⟩ | ⟨o, ho, hoe⟩
      · exact Or.inl ⟨o, ho, hol, by rw [hoe]; rfl⟩
      · exact Or.inr (Or.inl ⟨o, ho, by rw [htext o e' hoe]; exact hoe⟩)
    · exact Or.inr (Or.inr ⟨s, hs, rfl⟩)
  · rintro (⟨o, ho, hol, hoe⟩ | ⟨o, ho, hoe⟩ | ⟨s, hs, rfl⟩)
    · obtain ⟨e', hd, rfl⟩ := Option.map_eq_some_iff.mp hoe
      exact Or.inl ⟨e', mem_emit.mpr (Or.inl ⟨o, ho, hol, hd⟩), rfl⟩
    · exact Or.inl ⟨e, mem_emit.mpr (Or.inr ⟨o, ho, hoe⟩), htext o e hoe⟩
    · exact Or.inr ⟨s, hs, rfl⟩

omit [Rules] in
theorem mem_undefs {fc : Bool} {gs : List Obj} {s : Sym} :
    s ∈ undefs fc gs ↔ s ∈ emittedUses gs ∧ (emit fc gs).any (fun e => e.sym == s) = false := by
  unfold undefs
  rw [mem_dedup, List.mem_filter]
  simp

omit [Rules] in
theorem mem_symbols {fc : Bool} {ds : List Decl} {e : SymEntry} :
    e ∈ symbols fc ds ↔ (∃ f, f ∈ fnNames ds ∧ fnSymbol ds f = some e) ∨ (∃ x, x ∈ objNames ds ∧ objSymbol fc ds x = some e) ∨
      (∃ x, x ∈ blockExternNames ds ∧ x ∉ objNames ds ∧ x ∈ usedNames ds ∧ e = undefEntry (.named x)) := by
  unfold symbols
  simp only [List.mem_append, List.mem_filterMap, List.mem_map, List.mem_filter, mem_dedup, Bool.and_eq_true,
    Bool.not_eq_true', List.contains_eq_mem, decide_eq_false_iff_not, decide_eq_true_eq, undefEntry]
  constructor
  · rintro ((h | h) | ⟨x, ⟨hx, hno, hu⟩, rfl⟩)
    · exact Or.inl h
    · exact Or.inr (Or.inl h)
    · exact Or.inr (Or.inr ⟨x, hx, hno, hu, rfl⟩)
  · rintro (h | h | ⟨x, hx, hno, hu, rfl⟩)
    · exact Or.inl (Or.inl h)
    · exact Or.inl (Or.inr h)
    · exact Or.inr ⟨x, ⟨hx, hno, hu⟩, rfl⟩

/-- **the Spec's table in normal form**: a defined function, a defined object, or an undefined reference to whatever is
    used and not defined - whether the identifier is declared as a function, as an object or only in a block -/
theorem symbols_nf {ds : List Decl} (u : UnitOK ds) (fc : Bool) (e : SymEntry) : e ∈ symbols fc ds ↔
    (∃ f, f ∈ fnNames ds ∧ fnDefined (fnDecls ds f) = true ∧ fnSymbol ds f = some e) ∨
    (∃ x, x ∈ objNames ds ∧ objDefined (objDecls ds x) = true ∧ e = objEntry fc x (objDecls ds x)) ∨
    (∃ n, n ∈ usedNames ds ∧ ¬ specDefined ds n ∧ e = undefEntry (.named n)) := by
  rw [mem_symbols]
  constructor
  · rintro (⟨f, hfn, hfs⟩ | ⟨x, hx, hos⟩ | ⟨x, hbx, hno, hused, rfl⟩)
    · cases hD : fnDefined (fnDecls ds f)
      · obtain ⟨hc, rfl⟩ := (fnSymbol_undefined hD).mp hfs
        refine Or.inr (Or.inr ⟨f, hc, ?_, rfl⟩)
        rintro (⟨hon, _⟩ | ⟨_, hem⟩)
        · exact (u.disjoint hfn).1 hon
        · unfold fnEmitted at hem
          rw [hD] at hem; cases hem
      · exact Or.inl ⟨f, hfn, hD, hfs⟩
    · cases hD : objDefined (objDecls ds x)
      · obtain ⟨hc, rfl⟩ := (objSymbol_undefined hD).mp hos
        refine Or.inr (Or.inr ⟨x, hc, ?_, rfl⟩)
        rintro (⟨_, hD'⟩ | ⟨hfn, _⟩)
        · rw [hD] at hD'; cases hD'
        · exact (u.objs x hx).noFn hfn
      · rw [objSymbol_defined hD] at hos
        exact Or.inr (Or.inl ⟨x, hx, hD, (Option.some.inj hos).symm⟩)
    · refine Or.inr (Or.inr ⟨x, hused, ?_, rfl⟩)
      rintro (⟨hon, _⟩ | ⟨hfn, _⟩)
      · exact hno hon
      · exact (u.disjoint hfn).2 hbx
  · rintro (⟨f, hfn, _, hfs⟩ | ⟨x, hx, hD, rfl⟩ | ⟨n, hused, hnot, rfl⟩)
    · exact Or.inl ⟨f, hfn, hfs⟩
    · exact Or.inr (Or.inl ⟨x, hx, objSymbol_defined hD⟩)
    · by_cases hfn : n ∈ fnNames ds
      · refine Or.inl ⟨n, hfn, ?_⟩
        cases hD : fnDefined (fnDecls ds n)
        · exact (fnSymbol_undefined hD).mpr ⟨hused, rfl⟩
        · -- a defined function that is used is needed, hence emitted
          refine absurd (Or.inr ⟨hfn, ?_⟩) hnot
          unfold fnEmitted
          rw [hD]
          simpa using used_needed u hfn hused
      · by_cases hon : n ∈ objNames ds
        · refine Or.inr (Or.inl ⟨n, hon, ?_⟩)
          cases hD : objDefined (objDecls ds n)
          · exact (objSymbol_undefined hD).mpr ⟨hused, rfl⟩
          · exact absurd (Or.inl ⟨hon, hD⟩) hnot
        · rcases used_declared u hused with h | h | h
          · exact absurd h hfn
          · exact absurd h hon
          · exact Or.inr (Or.inr ⟨n, h, hon, hused, rfl⟩)

theorem symbols_iff {ds : List Decl} (u : UnitOK ds) {st : PState} {gs1 gs : List Obj} (p : Parsed ds st gs1 gs)
    (fc : Bool) (e : SymEntry) : e ∈ objectSymbols fc gs ↔ e ∈ symbols fc ds := by
  -- "defined in the output" in Spec terms
  have hdefd : ∀ n, (emit fc gs).any (fun e => e.sym == Sym.named n) = true ↔ specDefined ds n :=
    fun n => emit_defined.trans (defined_iff u p n)
  rw [mem_objectSymbols, symbols_nf u]
  constructor
  · rintro ⟨⟨n, hsym⟩, h⟩
    rcases h with ⟨o, ho, _, hoe⟩ | ⟨o, ho, hoe⟩ | ⟨s, hs, rfl⟩
    · cases hd : emitDataVar fc o with
      | none => rw [hd] at hoe; cases hoe
      | some e' =>
        have h1 := emitDataVar_def hd
        have hs : o.sym = .named n := by
          rw [hd] at hoe
          simp only [Option.map_some, Option.some.injEq] at hoe
          rw [← emitDataVar_sym hd, ← asmView_sym, hoe, hsym]
        have hx := data_def_objName p ho h1.1 h1.2 hs
        obtain ⟨hD, _, hent⟩ := data_entry p (u.objs n hx) fc ho h1.1 h1.2 hs
        rw [hoe] at hent
        exact Or.inr (Or.inl ⟨n, hx, hD, Option.some.inj hent⟩)
    · have hfo : o.isFunction = true := (emitTextFn_some hoe).1
      obtain ⟨f, o0, h0, rfl⟩ := p.fn_of_mem ho hfo
      have hent := u.fn_entry p h0
      rw [hoe] at hent
      cases hD : fnDefined (fnDecls ds f)
      · rw [hD] at hent; cases hent
      · rw [hD] at hent
        simp only [if_true] at hent
        exact Or.inl ⟨f, fn_declared_of_find p h0, hD, by rw [u.fnSymbol_defined p.hst h0 hD]; exact hent.symm⟩
    · obtain ⟨hu, hnd⟩ := mem_undefs.mp hs
      have hsn : s = .named n := hsym
      subst hsn
      have hnot : ¬ specDefined ds n := by
        intro hsd
        rw [(hdefd n).mpr hsd] at hnd; cases hnd
      refine Or.inr (Or.inr ⟨n, ?_, hnot, rfl⟩)
      rcases (uses_iff u p n).mp hu with h | ⟨hD0, h⟩
      · exact h
      · -- named only by a static local of a dead function: outside the region it is used or defined anyway
        have hr : deadStaticLocalVisibleRegion ds = false := by
          rcases u.noDeadSL with h' | h'
          · rw [hD0] at h'; cases h'
          · exact h'
        unfold deadStaticLocalVisibleRegion at hr
        rw [List.any_eq_false] at hr
        have := hr n h
        simp only [Bool.and_eq_true, Bool.not_eq_true', List.contains_eq_mem, decide_eq_false_iff_not, not_and,
          Bool.not_eq_false] at this
        by_cases hun : n ∈ usedNames ds
        · exact hun
        · exact absurd ((definedHere_iff n).mp (this hun)) hnot
  · rintro (⟨f, hfn, hD, hfs⟩ | ⟨x, hx, hD, rfl⟩ | ⟨n, hused, hnot, rfl⟩)
    · obtain ⟨o0, h0⟩ := fn_exists p hfn
      rw [u.fnSymbol_defined p.hst h0 hD] at hfs
      have hent := u.fn_entry p h0
      rw [hD] at hent
      simp only [if_true] at hent
      rw [hfs] at hent
      have hsym : e.sym = .named f := by
        split at hfs
        · cases hfs; rfl
        · cases hfs
      exact ⟨⟨f, hsym⟩, Or.inr (Or.inl ⟨_, p.mem_of_fn h0, hent⟩)⟩
    · have ok := u.objs x hx
      obtain ⟨o, ho, hfo, hdo, hso⟩ := data_exists p ok hD
      obtain ⟨_, hown, hent⟩ := data_entry p ok fc ho hfo hdo hso
      exact ⟨⟨x, rfl⟩, Or.inl ⟨o, ho, ownerLive_of_noOwner gs hown, hent⟩⟩
    · refine ⟨⟨n, rfl⟩, Or.inr (Or.inr ⟨.named n, mem_undefs.mpr ⟨(uses_iff u p n).mpr (Or.inl hused), ?_⟩, rfl⟩)⟩
      cases hany : (emit fc gs).any (fun e => e.sym == Sym.named n)
      · rfl
      · exact absurd ((hdefd n).mp hany) hnot

/-! ### from the decidable hypotheses of the theorem -/


theorem unitOK_of {ds : List Decl} (hsc : symbolsScope ds = true) : UnitOK ds := by
  simp only [symbolsScope, Bool.and_eq_true, Bool.or_eq_true, Bool.not_eq_true'] at hsc
  obtain ⟨⟨⟨⟨hv, hf⟩, hd⟩, hc⟩, he⟩ := hsc
  obtain ⟨_, hobj, hdis, _, _, hblk⟩ := valid_parts hv
  refine ⟨hv, fun x hx => ?_, hf, hd⟩
  refine ⟨hobj x hx, fun hfn => (hdis x hfn).1 hx, fun ty hb hk => ?_, ?_, ?_⟩
  · unfold blockExternsAgree at hblk
    rw [List.all_eq_true] at hblk
    have := hblk (x, ty) hb
    have hc' : (objNames ds).contains x = true := by simpa using hx
    simp only [hc', Bool.not_true, Bool.false_or, Bool.and_eq_true, Bool.or_eq_true, beq_iff_eq] at this
    rcases this.2 with h | h
    · rw [hk] at h; cases h
    · exact h
  · rcases he with he | he
    · exact Or.inl he
    · right
      intro hh
      unfold externInitAfterStaticRegion at he
      rw [List.any_eq_false] at he
      have := he x hx
      simp only [hh.1, hh.2, Bool.and_self] at this
      exact this trivial
  · rcases hc with hc | hc
    · exact Or.inl hc
    · right
      intro hh
      unfold compositeSizeRegion at hc
      rw [List.any_eq_false] at hc
      have := hc x hx
      simp only [hh.1, hh.2.1, hh.2.2.1, hh.2.2.2, Bool.not_false, Bool.and_self] at this
      exact this trivial

end ChibiVerif.Linkage
