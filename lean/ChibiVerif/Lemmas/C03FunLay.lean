/-
C03 × C01: where the code of a statement sits in the program.

* `Cfg` / `MInv`: what is fixed during a run of the function, and "the frame holds the store".
* `SLay g u s p e bp cp`: the code of the statement `s` occupies the lines `[p, e)` of the (label-renamed) program, `break` /
  `continue` in it go to the lines `bp` / `cp` — a fact about lines only (`Hole`, `HoleO`, `LblAt`, `JmpAt`, `CondAt` say what
  stands where), closed under sub-statements by construction.  `Comp.lay`: compiled code that sits in the program is laid out
  so; this is where the counters, the budget of temporaries and stack slots, and conflict-freedom are used.
* what the machine does on each piece: `Hole.run` (C01's `value_g` wherever the code of an expression sits in the function),
  `HoleO.run`, `LblAt.run`, `JmpAt.run`, `CondAt.run`.
-/
import ChibiVerif.Lemmas.C03FunMachine
import ChibiVerif.Lemmas.C01ValueFull
import ChibiVerif.Lemmas.C03FunLabels

namespace ChibiVerif.C03Fun
open ChibiVerif.Asm ChibiVerif.Spec.IntSpec ChibiVerif.C01 ChibiVerif.X86 ChibiVerif.X86J

/-- what is fixed during a run of the function: the frame layout (`tys`, `off`, `toff`, `K` hidden temporaries), the return type `R`,
    the renaming constant `C` and the renamed program `q`, the line `retPos` of `.L.return`, `%rsp` and `%rbp`, the lower end `B` of
    the objects, the free stack slots `D` -/
structure Cfg where
  tys : List ITy
  off : Nat → Int
  toff : Nat → Int
  K : Nat
  R : ITy
  C : Nat
  q : List JI
  retPos : Nat
  sp : BitVec 64
  bp : BitVec 64
  B : Nat
  D : Nat
  /-- a region of memory the function must not touch (e.g. everything at or above `%rbp`: the saved `%rbp`, the return
      address, the caller's frame), and what it holds -/
  keep : BitVec 64 → Prop
  mem0 : BitVec 64 → BitVec 8

/-- the program has fresh labels and `.L.return` at `retPos`; the frame is laid out above `B ≥ %rsp`, with `D` slots below `%rsp`;
    `keep` lies at or above `%rsp`, outside variables and temporaries -/
structure Cfg.OK (g : Cfg) : Prop where
  nodup : (defs g.q).Nodup
  ret : g.q[g.retPos]? = some (.lbl (encL g.C (.s .ret)))
  lay : Lay g.tys g.off g.toff g.K g.B g.bp
  hsp : 8 * g.D ≤ g.sp.toNat
  hB : g.sp.toNat ≤ g.B
  keep_ok : ∀ a, g.keep a → g.sp.toNat ≤ a.toNat ∧ (∀ W, ¬ inVar g.tys g.off g.bp W a) ∧ ¬ inTmp g.toff g.bp 0 g.K a

/-- the machine state holds the store `σ` in the function's frame -/
def MInv (g : Cfg) (σ : Env) (m : State) : Prop :=
  σ.tys = g.tys ∧ m.get .rsp = g.sp ∧ m.get .rbp = g.bp ∧ Holds g.off σ m ∧ ∀ a, g.keep a → m.mem a = g.mem0 a

theorem MInv.same {g : Cfg} {σ : Env} {m m' : State} (h : MInv g σ m) (hs : Same m m') : MInv g σ m' :=
  ⟨h.1, hs.rsp.trans h.2.1, hs.rbp.trans h.2.2.1, h.2.2.2.1.same hs, fun a ha => by rw [hs.mem]; exact h.2.2.2.2 a ha⟩

/-- the break / continue labels of the innermost enclosing loop are the lines `brkPos` / `contPos` -/
def CtxOK (g : Cfg) (ctx : JCtx) (brkPos contPos : Nat) : Prop :=
  (∀ b, ctx.brk = some b → g.q[brkPos]? = some (.lbl (encL g.C (.s (.uniq b))))) ∧
  (∀ ct, ctx.cont = some ct → g.q[contPos]? = some (.lbl (encL g.C (.s (.uniq ct)))))

theorem CtxOK.loop {g : Cfg} {b c bp cp : Nat} {sw : Bool} (hb : g.q[bp]? = some (.lbl (encL g.C (.s (.uniq b)))))
    (hc : g.q[cp]? = some (.lbl (encL g.C (.s (.uniq c))))) : CtxOK g ⟨some b, some c, sw⟩ bp cp :=
  ⟨fun _ h => Option.some.inj h ▸ hb, fun _ h => Option.some.inj h ▸ hc⟩

/-- the code of the full expression `e` (type `t`) occupies the lines `[p, p')`, within the function's temporaries and stack -/
def Hole (g : Cfg) (e : E) (t : ITy) (p p' : Nat) : Prop :=
  ∃ code k0 k1 c0 c1, compileJ g.tys g.off g.toff k0 c0 e = some (t, code, k1, c1) ∧ noConflict e = true ∧ k1 ≤ g.K ∧
    depthJ e ≤ g.D ∧ At g.q p code ∧ p' = p + code.length

def HoleO (g : Cfg) : Option E → Nat → Nat → Prop
  | none, p, p' => p' = p
  | some e, p, p' => ∃ t, Hole g e t p p'

def JmpAt (g : Cfg) (p t : Nat) : Prop := ∃ l, g.q[p]? = some (.jmp l) ∧ g.q[t]? = some (.lbl l)

def LblAt (g : Cfg) (p : Nat) : Prop := ∃ l, g.q[p]? = some (.lbl l)

/-- a controlling expression with its test, the lines `[p, e)`: the code of `c`, then `cmp_zero(ty); je l` (`z`) or `cmp_zero(ty); jne l`
    (`!z`); line `t` is `l:` -/
def CondAt (g : Cfg) (z : Bool) (c : E) (p e t : Nat) : Prop :=
  ∃ ty p1 l, Hole g c ty p p1 ∧ At g.q p1 (J (cmpZeroSeq ty)) ∧ g.q[p1 + 1]? = some (.jcc (if z then .e else .ne) l) ∧
    g.q[t]? = some (.lbl l) ∧ e = p1 + 2

/-- `SLay g u s p e bp cp`: what `gen_stmt` printed for `s` — parsed when `new_unique_name()` stood at `u` — is the lines `[p, e)`;
    `bp` / `cp`: the lines of the enclosing `brk_label` / `cont_label`.  Constructor by constructor the lines of the arm of `gen_stmt`
    (codegen.c), with positions in the place of label names: ND_IF `cond; cmp_zero; je else; then; jmp end; else: els; end:`,
    ND_FOR `init; begin: cond; cmp_zero; je brk; body; cont: inc; jmp begin; brk:`, ND_DO `begin: body; cont: cond; cmp_zero; jne begin; brk:`,
    ND_SWITCH `cond; ladder; body; brk:` (where the body starts, `p2`, is not tied to the ladder's end: control enters the body only by the
    ladder's jumps to the `case` / `default` labels, found by name), ND_CASE `label: stmt` (so the label names stay),
    ND_RETURN `expr; jmp .L.return` -/
inductive SLay (g : Cfg) : Nat → FStmt → Nat → Nat → Nat → Nat → Prop
  | skip {u p bp cp} : SLay g u .skip p p bp cp
  | expr {u e t p p' bp cp} : Hole g e t p p' → SLay g u (.expr e) p p' bp cp
  | ret {u e p p' bp cp} : Hole g (.cast g.R e) g.R p p' → JmpAt g p' g.retPos → SLay g u (.ret e) p (p' + 1) bp cp
  | brk {u p bp cp} : JmpAt g p bp → SLay g u .brk p (p + 1) bp cp
  | cont {u p bp cp} : JmpAt g p cp → SLay g u .cont p (p + 1) bp cp
  | seq {u a b p p1 p2 bp cp} : SLay g u a p p1 bp cp → SLay g (u + nuniq a) b p1 p2 bp cp → SLay g u (.seq a b) p p2 bp cp
  | ifte {u c th el p p1 p2 p3 bp cp} : CondAt g true c p p1 (p2 + 1) → SLay g u th p1 p2 bp cp →
      JmpAt g p2 p3 → SLay g (u + nuniq th) el (p2 + 1 + 1) p3 bp cp → SLay g u (.ifte c th el) p (p3 + 1) bp cp
  | for_ {u init c inc body p p0 p1 p2 p3 bp cp} : HoleO g init p p0 → LblAt g p0 → CondAt g true c (p0 + 1) p1 (p3 + 1) →
      SLay g (u + 2) body p1 p2 (p3 + 1) p2 → LblAt g p2 → HoleO g inc (p2 + 1) p3 →
      JmpAt g p3 p0 → SLay g u (.for_ init c inc body) p (p3 + 1 + 1) bp cp
  | doWhile {u body c p p1 p2 bp cp} : LblAt g p → SLay g (u + 2) body (p + 1) p1 p2 p1 → LblAt g p1 →
      CondAt g false c (p1 + 1) p2 p → LblAt g p2 → SLay g u (.doWhile body c) p (p2 + 1) bp cp
  | switch_ {u e t body p p1 p2 p3 bp cp} : Hole g e t p p1 → At g.q p1 ((ladder t (collect (u + 1) body) u).map (enc g.C)) →
      SLay g (u + 1) body p2 p3 p3 cp → g.q[p3]? = some (.lbl (encL g.C (.s (.uniq u)))) →
      SLay g u (.switch_ e body) p (p3 + 1) bp cp
  | case_ {u lo hi s p p' bp cp} : g.q[p]? = some (.lbl (encL g.C (.s (.uniq u)))) → SLay g (u + 1) s (p + 1) p' bp cp →
      SLay g u (.case_ lo hi s) p p' bp cp
  | default_ {u s p p' bp cp} : g.q[p]? = some (.lbl (encL g.C (.s (.uniq u)))) → SLay g (u + 1) s (p + 1) p' bp cp →
      SLay g u (.default_ s) p p' bp cp

theorem SLay.cast {g : Cfg} {u : Nat} {s : FStmt} {p e e' bp cp : Nat} (h : SLay g u s p e bp cp) (he : e = e') :
    SLay g u s p e' bp cp := he ▸ h

theorem Hole.of_compile {g : Cfg} {e : E} {t : ITy} {code : List JI} {k0 k1 c0 c1 p : Nat}
    (hc : compileJ g.tys g.off g.toff k0 c0 e = some (t, code, k1, c1)) (hn : noConflict e = true) (hK : k1 ≤ g.K)
    (hd : depthJ e ≤ g.D) (hat : At g.q p code) : Hole g e t p (p + code.length) :=
  ⟨code, k0, k1, c0, c1, hc, hn, hK, hd, hat, rfl⟩

theorem HoleO.of_compile {g : Cfg} {oe : Option E} {code : List JI} {k0 k1 c0 c1 p : Nat}
    (hc : compileOpt g.tys g.off g.toff k0 c0 oe = some (code, k1, c1)) (hn : noConflictO oe = true) (hK : k1 ≤ g.K)
    (hd : depthO oe ≤ g.D) (hat : At g.q p code) : HoleO g oe p (p + code.length) := by
  obtain ⟨rfl, rfl, _, _⟩ | ⟨e, t, rfl, hcj⟩ := compileOpt_inv hc
  · rfl
  · exact ⟨t, .of_compile hcj hn hK hd hat⟩

theorem compileJ_cast_ty {tys : List ITy} {off toff : Nat → Int} {R t : ITy} {e : E} {cd : List JI} {k c k' c' : Nat}
    (h : compileJ tys off toff k c (.cast R e) = some (t, cd, k', c')) : t = R := by
  simp only [compileJ, Option.map_eq_some_iff, Prod.mk.injEq] at h
  obtain ⟨_, _, h, _⟩ := h
  exact h.symm

/-- what `gen_stmt` printed sits in the program as `SLay` says: from a successful compile of `s` (`Comp`), within the function's
    temporaries `K`, stack slots `D` and free of conflicts, the code at `pos`, the enclosing break / continue labels at the lines
    `bp` / `cp` (`CtxOK`), to the layout of `s` from `pos` to `pos + code.length` -/
theorem Comp.lay {g : Cfg} (ok : g.OK) {ctx : JCtx} {k0 c0 u0 : Nat} {s : FStmt} {code : List FI} {k1 c1 u1 : Nat}
    (h : Comp g.tys g.off g.toff g.R ctx k0 c0 u0 s code k1 c1 u1) :
    k1 ≤ g.K → noConflictF s = true → depthF s ≤ g.D → ∀ {pos bp cp : Nat}, At g.q pos (code.map (enc g.C)) → CtxOK g ctx bp cp →
      SLay g u0 s pos (pos + code.length) bp cp := by
  have hJ := fun {e k0 c0 t cd k1 c1} (h : compileJ g.tys g.off g.toff k0 c0 e = some (t, cd, k1, c1)) =>
    (compileJ_facts g.tys g.off g.toff e k0 c0 t cd k1 c1 h).k
  induction h with
  | skip => intro _ _ _ _ _ _ _ _; exact .skip
  | expr hc =>
    intro hK hnc hd pos bp cp hat _
    rw [enc_emb] at hat
    rw [length_embs]
    exact .expr (.of_compile hc hnc hK hd hat)
  | ret hc =>
    intro hK hnc hd pos bp cp hat _
    obtain rfl := compileJ_cast_ty hc
    rw [List.map_append, enc_emb, At_append] at hat
    exact (SLay.ret (.of_compile hc hnc hK hd hat.1) ⟨_, hat.2.1, ok.ret⟩).cast (by simp [length_embs, Nat.add_assoc])
  | brk hb => intro _ _ _ _ _ _ hat hctx; exact .brk ⟨_, hat.1, hctx.1 _ hb⟩
  | cont hb => intro _ _ _ _ _ _ hat hctx; exact .cont ⟨_, hat.1, hctx.2 _ hb⟩
  | seq ha hb iha ihb =>
    intro hK hnc hd pos bp cp hat hctx
    simp only [noConflictF, Bool.and_eq_true, depthF, Nat.max_le] at hnc hd
    rw [List.map_append, At_append, List.length_map] at hat
    have lb := ihb hK hnc.2 hd.2 hat.2 hctx
    rw [ha.facts.2.1] at lb
    exact (SLay.seq (iha (Nat.le_trans hb.facts.1 hK) hnc.1 hd.1 hat.1 hctx) lb).cast (by simp [Nat.add_assoc])
  | ifte he ht hf iht ihf =>
    intro hK hnc hd pos bp cp hat hctx
    have hkf := hf.facts.1
    simp only [noConflictF, Bool.and_eq_true, depthF, Nat.max_le] at hnc hd
    simp only [List.map_append, List.map_cons, List.map_nil, enc_emb, enc_condJump, enc, At_append, At_cons, List.length_map,
      List.length_append, length_J, cmpZeroSeq_length, List.length_cons, List.length_nil, Nat.reduceAdd] at hat
    obtain ⟨hat_e, ⟨hat_j, hjcc, _⟩, hat_t, hjmp, hlelse, hat_f, hlend, _⟩ := hat
    have lf := ihf hK hnc.2.2 hd.2.2 hat_f hctx
    rw [ht.facts.2.1] at lf
    refine (SLay.ifte ⟨_, _, _, .of_compile he hnc.1 (Nat.le_trans ht.facts.1 (Nat.le_trans hkf hK)) hd.1 hat_e, hat_j, hjcc, hlelse, rfl⟩
      (iht (Nat.le_trans hkf hK) hnc.2.1 hd.2.1 hat_t hctx) ⟨_, hjmp, hlend⟩ lf).cast ?_
    simp only [List.length_append, length_embs, length_condJump, List.length_cons, List.length_nil]; omega
  | for_ h0 he hi hb ihb =>
    intro hK hnc hd pos bp cp hat hctx
    have hKi := Nat.le_trans hb.facts.1 hK
    have hKe := Nat.le_trans (compileOpt_k hi) hKi
    simp only [noConflictF, Bool.and_eq_true, depthF, Nat.max_le] at hnc hd
    simp only [List.map_append, List.map_cons, List.map_nil, enc_emb, enc_condJump, enc, At_append, At_cons, List.length_map,
      List.length_append, length_J, cmpZeroSeq_length, List.length_cons, List.length_nil, Nat.reduceAdd] at hat
    obtain ⟨hat_0, hlbegin, hat_e, ⟨hat_j, hjcc, _⟩, hat_b, hlcont, hat_i, hjmp, hlbrk, _⟩ := hat
    refine (SLay.for_ (.of_compile h0 hnc.1 (Nat.le_trans (hJ he) hKe) hd.1 hat_0) ⟨_, hlbegin⟩
      ⟨_, _, _, .of_compile he hnc.2.1 hKe hd.2.1 hat_e, hat_j, hjcc, hlbrk, rfl⟩
      (ihb hK hnc.2.2.2 hd.2.2.2 hat_b (.loop hlbrk hlcont)) ⟨_, hlcont⟩ (.of_compile hi hnc.2.2.1 hKi hd.2.2.1 hat_i)
      ⟨_, hjmp, hlbegin⟩).cast ?_
    simp only [List.length_append, length_embs, length_condJump, List.length_cons, List.length_nil]; omega
  | doWhile hb he ihb =>
    intro hK hnc hd pos bp cp hat hctx
    simp only [noConflictF, Bool.and_eq_true, depthF, Nat.max_le] at hnc hd
    simp only [List.map_append, List.map_cons, List.map_nil, enc_emb, enc_condJump, enc, At_append, At_cons, List.length_map,
      List.length_append, length_J, cmpZeroSeq_length, List.length_cons, List.length_nil, Nat.reduceAdd] at hat
    obtain ⟨hlbegin, hat_b, hlcont, hat_e, ⟨hat_j, hjcc, _⟩, hlbrk, _⟩ := hat
    refine (SLay.doWhile ⟨_, hlbegin⟩ (ihb (Nat.le_trans (hJ he) hK) hnc.1 hd.1 hat_b (.loop hlbrk hlcont)) ⟨_, hlcont⟩
      ⟨_, _, _, .of_compile he hnc.2 hK hd.2 hat_e, hat_j, hjcc, hlbegin, rfl⟩ ⟨_, hlbrk⟩).cast ?_
    simp only [List.length_append, length_embs, length_condJump, List.length_cons, List.length_nil]; omega
  | switch_ he hb ihb =>
    intro hK hnc hd pos bp cp hat hctx
    simp only [noConflictF, Bool.and_eq_true, depthF, Nat.max_le] at hnc hd
    simp only [List.map_append, List.map_cons, List.map_nil, enc_emb, enc, At_append, At_cons, List.length_map] at hat
    obtain ⟨hat_e, hat_l, hat_b, hlbrk, _⟩ := hat
    refine (SLay.switch_ (.of_compile he hnc.1 (Nat.le_trans hb.facts.1 hK) hd.1 hat_e) hat_l
      (ihb hK hnc.2 hd.2 hat_b ⟨fun b h => by cases h; exact hlbrk, hctx.2⟩) hlbrk).cast ?_
    simp only [List.length_append, length_embs, List.length_cons, List.length_nil]; omega
  | case_ _ _ ih =>
    intro hK hnc hd pos bp cp hat hctx
    exact (SLay.case_ hat.1 (ih hK hnc hd hat.2 hctx)).cast (by simp only [List.length_cons]; omega)
  | default_ _ _ ih =>
    intro hK hnc hd pos bp cp hat hctx
    exact (SLay.default_ hat.1 (ih hK hnc hd hat.2 hctx)).cast (by simp only [List.length_cons]; omega)

section run
variable {g : Cfg} (ok : g.OK)
include ok

/-- **an expression hole**: C01's `value_g` at `Frame.lay`, wherever the code of the expression sits in the function -/
theorem Hole.run {e : E} {t : ITy} {p p' : Nat} (h : Hole g e t p p') {σ σ' : Env} {v : Int} (hv : evalE σ e = some (v, σ'))
    {m : State} (hm : MInv g σ m) : ∃ m', Reach g.q (p, m) (p', m') ∧ MInv g σ' m' ∧ Represents t (m'.get .rax) v := by
  obtain ⟨code, k0, k1, c0, c1, hc, hn, hK, hd, hat, rfl⟩ := h
  obtain ⟨hσ, hsp, hbp, hH, hkeep⟩ := hm
  obtain ⟨hty, hE⟩ := value_g (Frame.lay g.off g.toff g.K) (fun _ => True) e σ t code v σ' k0 k1 c0 c1 (by rw [hσ]; exact hc) hv hn
    (fun _ _ => trivial) hK
  obtain ⟨m', hrun, hrep, ⟨_, hH'⟩, hu⟩ := hE m g.D g.B trivial ⟨by rw [hσ, hbp]; exact ok.lay, hH⟩ hd (by rw [hsp]; exact ok.hsp)
    (by rw [hsp]; exact ok.hB)
  refine ⟨m', reach_of_exec (hrun g.q p hat ok.nodup), ⟨hty.trans hσ, hu.rsp.trans hsp, hu.rbp.trans hbp, hH', ?_⟩, hrep⟩
  intro a ha
  obtain ⟨h1, h2, h3⟩ := ok.keep_ok a ha
  rw [← hkeep a ha]
  refine hu.mem a (by rw [hsp]; exact h1) (by rw [hσ, hbp]; exact h2 _) ?_
  rw [hbp]
  exact fun hh => h3 (inTmp_mono hh (Nat.zero_le _) hK)

theorem HoleO.run {oe : Option E} {p p' : Nat} (h : HoleO g oe p p') {σ σ' : Env} (hv : evalOpt σ oe = some σ')
    {m : State} (hm : MInv g σ m) : ∃ m', Reach g.q (p, m) (p', m') ∧ MInv g σ' m' := by
  cases oe with
  | none => cases hv; cases h; exact ⟨m, Reach.refl _ _, hm⟩
  | some e =>
    obtain ⟨t, h⟩ := h
    simp only [evalOpt, Option.map_eq_some_iff] at hv
    obtain ⟨⟨v, σ1⟩, hv, rfl⟩ := hv
    obtain ⟨m', r, hm', _⟩ := h.run ok hv hm
    exact ⟨m', r, hm'⟩

theorem JmpAt.run {p t : Nat} (h : JmpAt g p t) (m : State) : Reach g.q (p, m) (t, m) :=
  let ⟨_, h1, h2⟩ := h; jmp_to ok.nodup h1 h2 m

/-- to the line `l:` if `v = 0` is `z`, else past the test -/
theorem CondAt.run {z : Bool} {c : E} {p e t : Nat} (h : CondAt g z c p e t) {σ σ1 : Env} {v : Int} (hv : evalE σ c = some (v, σ1))
    {m : State} (hm : MInv g σ m) :
    ∃ m', Reach g.q (p, m) (if (decide (v = 0) == z) = true then t else e, m') ∧ MInv g σ1 m' := by
  obtain ⟨ty, p1, l, hh, hat, hj, ht, rfl⟩ := h
  obtain ⟨m1, r1, hm1, hrep⟩ := hh.run ok hv hm
  obtain ⟨m2, sm, r2⟩ := test_reach ok.nodup z ty v m1 hat hj ht hrep
  exact ⟨m2, r1.trans r2, hm1.same sm⟩

end run

theorem LblAt.run {g : Cfg} {p : Nat} (h : LblAt g p) (m : State) : Reach g.q (p, m) (p + 1, m) :=
  let ⟨_, h1⟩ := h; lbl_step h1 m

theorem CondAt.lbl {g : Cfg} {z : Bool} {c : E} {p e t : Nat} (h : CondAt g z c p e t) : LblAt g t :=
  let ⟨_, _, l, _, _, _, h2, _⟩ := h; ⟨l, h2⟩

theorem JmpAt.lbl {g : Cfg} {p t : Nat} (h : JmpAt g p t) : LblAt g t :=
  let ⟨l, _, h2⟩ := h; ⟨l, h2⟩

end ChibiVerif.C03Fun
