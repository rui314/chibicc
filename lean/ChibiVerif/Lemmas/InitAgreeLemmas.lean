/-
C05, back-end agreement, part 4: over a list of pairwise compatible leaves, `write_gvar_data`'s stores followed by the
loader's relocation processing produce the same cells as the assignments of `create_lvar_init` executed by the code
generator's stores on a zeroed object (`flat_agree`); with the geometry of InitTreeLemmas, for every laid-out type and every
fitting tree (`both_from_leaves`).
-/
import ChibiVerif.Lemmas.InitLeafLemmas
import ChibiVerif.Lemmas.InitMemLemmas
import ChibiVerif.Lemmas.InitTreeLemmas

namespace ChibiVerif.Init

def autoKey (mem : List Cell) (k : Nat × StoreKind × Expr) : Except Fail (List Cell) :=
  runAssign mem { path := [.mem k.1], kind := k.2.1, e := k.2.2 }

theorem runAssign_key (mem : List Cell) (a : Assign) : runAssign mem a = autoKey mem a.key := by
  have h : ({ path := [Desg.mem a.addr], kind := a.kind, e := a.e } : Assign).addr = a.addr := by
    simp [Assign.addr, Desg.disp]
  unfold autoKey runAssign
  simp only [Assign.key, h]
  rfl

def autoLeaf (mem : List Cell) (l : Leaf) : Except Fail (List Cell) := autoKey mem l.key

theorem runAssigns_leaves : ∀ (as : List Assign) (ls : List Leaf) (mem : List Cell), SameAs as ls →
    runAssigns mem as = ls.foldlM autoLeaf mem
  | [], [], _, _ => rfl
  | [], _ :: _, _, h => by simp [SameAs] at h
  | _ :: _, [], _, h => by simp [SameAs] at h
  | a :: as, l :: ls, mem, h => by
    simp only [SameAs, List.map_cons, List.cons.injEq] at h
    simp only [runAssigns, List.foldlM_cons, runAssign_key, autoLeaf, h.1]
    congr 1
    funext m
    exact runAssigns_leaves as ls m h.2

theorem autoLeaf_val (mem : List Cell) (off sz : Nat) (kind : SKind) (e : Expr) :
    autoLeaf mem (.val off sz kind e) =
      if off + (valueCells e sz kind).length ≤ mem.length then .ok (writeAt mem off (valueCells e sz kind))
      else .error (.crash "store outside the variable") := by
  simp [autoLeaf, autoKey, Leaf.key, Leaf.off, Leaf.kind, Leaf.e, runAssign, Assign.addr, Desg.disp]

/-- the value both back ends put into a bit-field: converted to `_Bool` first if that is the member's type -/
def bfVal (kind : SKind) (e : Expr) : Nat := if kind = .bool then (if e.nz then 1 else 0) else u64 e.ival

/-- what must hold of the image before leaf `l` is stored: its footprint is as `calloc` left it - no relocation in its bytes,
    its bits zero (every bit of the object is written at most once) -/
def Clean (im : Image) (l : Leaf) : Prop :=
  (∀ r ∈ im.relocs, r.offset + 8 ≤ l.bLo ∨ l.bHi ≤ r.offset) ∧ ∀ p, l.bitLo ≤ p → p < l.bitHi → bitOf im.bytes p = false

/-- the bytes both back ends store for a constant that is not an address -/
def valBytes (e : Expr) (sz : Nat) (kind : SKind) : List Nat :=
  match kind with
  | .flt => if sz = 4 then leBytes e.f32 4 else if sz = 8 then leBytes e.f64 8 else leBytes e.f80 10
  | .bool => leBytes (if e.nz then 1 else 0) sz
  | _ => leBytes (u64 e.ival) sz

theorem valBytes_length (e : Expr) (sz : Nat) (kind : SKind) (h : scalarOK sz kind = true) :
    (valBytes e sz kind).length = storeWidth sz kind := by
  cases kind <;> simp [scalarOK] at h <;> simp only [valBytes, storeWidth]
  · simp [leBytes_length]
  · rcases h with (rfl | rfl) | rfl <;> simp [leBytes_length]
  · simp [leBytes_length]
  · simp [leBytes_length]

theorem writeBuf_ok (buf : List Nat) (off val sz : Nat) (hs : sz = 1 ∨ sz = 2 ∨ sz = 4 ∨ sz = 8) (h : off + sz ≤ buf.length) :
    writeBuf buf off val sz = .ok (writeAt buf off (leBytes val sz)) := by
  simp [writeBuf, hs, h]

theorem writeBytes_ok (buf : List Nat) (off : Nat) (bs : List Nat) (h : off + bs.length ≤ buf.length) :
    writeBytes buf off bs = .ok (writeAt buf off bs) := by
  simp [writeBytes, h]

theorem static_val (im : Image) (off sz : Nat) (kind : SKind) (e : Expr) (hk : scalarOK sz kind = true)
    (hl : e.label = none) (hb : off + sz ≤ im.bytes.length) :
    staticLeaf im (.val off sz kind e) = .ok { im with bytes := writeAt im.bytes off (valBytes e sz kind) } := by
  cases kind <;> simp [scalarOK] at hk <;> simp only [staticLeaf, writeGvarLeaf, hl, valBytes]
  · rw [writeBuf_ok _ _ _ _ (by omega) hb]; rfl
  · rcases hk with (rfl | rfl) | rfl
    · simp only [Option.isSome_none, Bool.false_eq_true, ↓reduceIte]
      rw [writeBytes_ok _ _ _ (by simpa [leBytes_length] using hb)]; rfl
    · simp only [Option.isSome_none, Bool.false_eq_true, ↓reduceIte, Nat.reduceEqDiff]
      rw [writeBytes_ok _ _ _ (by simpa [leBytes_length] using hb)]; rfl
    · simp only [Option.isSome_none, Bool.false_eq_true, ↓reduceIte, Nat.reduceEqDiff]
      rw [writeBytes_ok _ _ _ (by simp only [leBytes_length]; omega)]; rfl
  · rw [writeBuf_ok _ _ _ _ (by omega) hb]; rfl
  · subst hk
    simp only [↓reduceIte]
    rw [writeBuf_ok _ _ _ _ (by omega) hb]; rfl

theorem auto_val (e : Expr) (sz : Nat) (kind : SKind) (hk : scalarOK sz kind = true) (hl : e.label = none) :
    valueCells e sz kind = (valBytes e sz kind).map .byte := by
  cases kind <;> simp [scalarOK] at hk <;> simp only [valueCells, valBytes, hl]
  · rcases hk with ((rfl | rfl) | rfl) | rfl <;> simp
  · rcases hk with (rfl | rfl) | rfl <;> simp
  · rcases hk with ((rfl | rfl) | rfl) | rfl <;> simp
  · subst hk; cases e.nz <;> simp [leBytes]

variable {size : Nat} {im : Image}

theorem step_val (h : im.Sized size) {off sz : Nat} {kind : SKind} {e : Expr}
    (hk : scalarOK sz kind = true) (hl : e.label = none) (hs : off + sz ≤ size) (hc : Clean im (.val off sz kind e)) :
    let im' : Image := { im with bytes := writeAt im.bytes off (valBytes e sz kind) }
    staticLeaf im (.val off sz kind e) = .ok im' ∧ autoLeaf im.cells (.val off sz kind e) = .ok im'.cells := by
  intro im'
  have hlen := valBytes_length e sz kind hk
  have hw : off + (valBytes e sz kind).length ≤ size := by have := storeWidth_le sz kind; omega
  refine ⟨static_val im off sz kind e hk hl (by rw [h.len]; exact hs), ?_⟩
  rw [h.cells_setBytes hw (by rw [hlen]; exact hc.1), autoLeaf_val, auto_val e sz kind hk hl, List.length_map,
    h.cells_length, if_pos hw]

/-- an address constant: a relocation slot on one side, the 8 bytes of the address on the other -/
theorem step_reloc (h : im.Sized size) {off sz : Nat} {kind : SKind} {e : Expr} {lab : String}
    (hok : leafOK sz kind e = true) (hl : e.label = some lab) (hs : off + sz ≤ size) :
    let im' : Image := { im with relocs := im.relocs ++ [{ offset := off, label := lab, addend := e.ival }] }
    sz = 8 ∧ (kind = .int ∨ kind = .ptr) ∧
      staticLeaf im (.val off sz kind e) = .ok im' ∧ autoLeaf im.cells (.val off sz kind e) = .ok im'.cells := by
  intro im'
  simp only [leafOK, hl, Option.isNone_some, Bool.false_or, Bool.and_eq_true, beq_iff_eq, Bool.or_eq_true] at hok
  obtain ⟨_, rfl, hkind⟩ := hok
  have hv : valueCells e 8 kind = symCells lab e.ival := by
    rcases hkind with rfl | rfl <;> simp [valueCells, hl, symCells]
  refine ⟨rfl, hkind, by rcases hkind with rfl | rfl <;> simp [staticLeaf, writeGvarLeaf, hl, im'], ?_⟩
  rw [Image.cells_addReloc, autoLeaf_val, hv, symCells_length, h.cells_length, if_pos hs]

theorem leBytes_eq_range : ∀ (n v : Nat), leBytes v n = (List.range n).map (fun k => (v / 256 ^ k) % 256) := by
  intro n v
  apply List.ext_getElem?
  intro i
  by_cases h : i < n
  · have h1 : i < (leBytes v n).length := by rw [leBytes_length]; exact h
    have := leBytes_getD n v i h
    rw [List.getD_eq_getElem?_getD, List.getElem?_eq_getElem h1] at this
    simp only [Option.getD_some] at this
    rw [List.getElem?_eq_getElem h1, this]
    simp [h]
  · rw [List.getElem?_eq_none (by rw [leBytes_length]; omega), List.getElem?_eq_none (by simp; omega)]

theorem slice_getD (bytes : List Nat) (off sz k : Nat) (hk : k < sz) :
    ((bytes.drop off).take sz).getD k 0 = bytes.getD (off + k) 0 := by
  simp [List.getD_eq_getElem?_getD, hk]

theorem readBuf_bits (bytes : List Nat) (off sz : Nat) (hs : sz = 1 ∨ sz = 2 ∨ sz = 4 ∨ sz = 8) (hb : off + sz ≤ bytes.length) :
    ∃ old, readBuf bytes off sz = .ok old ∧ ∀ j, j < 8 * sz → old.testBit j = bitOf bytes (8 * off + j) := by
  have hbit : ∀ j, j < 8 * sz → (fromLE ((bytes.drop off).take sz)).testBit j = bitOf bytes (8 * off + j) := by
    intro j hj
    rw [fromLE_testBit, slice_getD _ _ _ _ (by omega)]
    simp only [bitOf]
    have h1 : (8 * off + j) / 8 = off + j / 8 := by omega
    have h2 : (8 * off + j) % 8 = j % 8 := by omega
    rw [h1, h2]
  refine ⟨_, by simp only [readBuf, hs, hb, ↓reduceIte]; rfl, fun j hj => ?_⟩
  split
  · -- a `char` is read sign-extended: bits 8.. are set, bits 0..7 are the byte's
    rename_i hx
    obtain ⟨rfl, _⟩ := hx
    have hv : fromLE ((bytes.drop off).take 1) < 2 ^ 8 :=
      Nat.lt_of_lt_of_le (fromLE_lt _) (Nat.pow_le_pow_right (by decide) (by simp; omega))
    rw [← hbit j hj, show fromLE ((bytes.drop off).take 1) + (18446744073709551616 - 256) =
      2 ^ 8 * 72057594037927935 + fromLE ((bytes.drop off).take 1) by omega, Nat.testBit_two_pow_mul_add _ hv]
    simp [show j < 8 by omega]
  · exact hbit j hj

def bfFld (v bo bw : Nat) : Nat := ((v &&& bfMask bw) <<< bo) % 18446744073709551616
def bfMsk (bo bw : Nat) : Nat := (bfMask bw <<< bo) % 18446744073709551616

theorem bfMask_testBit (bw j : Nat) : (bfMask bw).testBit j = (decide (j < 64) && decide (j < bw)) := by
  simp only [bfMask, show (18446744073709551616 : Nat) = 2 ^ 64 from rfl, Nat.testBit_mod_two_pow, Nat.testBit_two_pow_sub_one]

theorem bfMsk_testBit (bo bw j : Nat) :
    (bfMsk bo bw).testBit j = (decide (j < 64) && (decide (j ≥ bo) && (decide (j - bo < 64) && decide (j - bo < bw)))) := by
  simp only [bfMsk, show (18446744073709551616 : Nat) = 2 ^ 64 from rfl, Nat.testBit_mod_two_pow, Nat.testBit_shiftLeft, bfMask_testBit]

theorem bfFld_testBit (v bo bw j : Nat) :
    (bfFld v bo bw).testBit j = ((bfMsk bo bw).testBit j && v.testBit (j - bo)) := by
  simp only [bfFld, bfMsk, show (18446744073709551616 : Nat) = 2 ^ 64 from rfl, Nat.testBit_mod_two_pow, Nat.testBit_shiftLeft,
    Nat.testBit_and]
  cases decide (j < 64) <;> cases decide (j ≥ bo) <;> cases (bfMask bw).testBit (j - bo) <;> simp

theorem bfMsk_range (bo bw j : Nat) (h : (bfMsk bo bw).testBit j = true) : bo ≤ j ∧ j < bo + bw := by
  simp only [bfMsk_testBit, Bool.and_eq_true, decide_eq_true_eq] at h
  omega

/-- byte `k` of the unit: `store(load & ~(mask << off) | field)` and `old | field` agree when the field's bits were zero -/
theorem rmw_byte (old v bo bw k b : Nat)
    (h1 : ∀ i, i < 8 → old.testBit (8 * k + i) = (b % 256).testBit i)
    (h2 : ∀ i, i < 8 → (bfMsk bo bw).testBit (8 * k + i) = true → (b % 256).testBit i = false) :
    ((old ||| bfFld v bo bw) / 256 ^ k) % 256 =
      ((b &&& (255 - (bfMsk bo bw >>> (8 * k)) % 256)) ||| (bfFld v bo bw >>> (8 * k)) % 256) % 256 := by
  apply Nat.eq_of_testBit_eq
  intro i
  have hp : (256 : Nat) ^ k = 2 ^ (8 * k) := by rw [Nat.pow_mul]
  have hm : (bfMsk bo bw >>> (8 * k)) % 256 < 2 ^ 8 := Nat.mod_lt _ (by decide)
  have h255 : 255 - (bfMsk bo bw >>> (8 * k)) % 256 = 2 ^ 8 - ((bfMsk bo bw >>> (8 * k)) % 256 + 1) := by omega
  rw [hp, h255]
  simp only [show (256 : Nat) = 2 ^ 8 from rfl, Nat.testBit_mod_two_pow, Nat.testBit_div_two_pow, Nat.testBit_or, Nat.testBit_and,
    Nat.testBit_two_pow_sub_succ hm, Nat.testBit_shiftRight]
  by_cases hi : i < 8
  · have e1 := h1 i hi
    have e2 := h2 i hi
    simp only [show (256 : Nat) = 2 ^ 8 from rfl, Nat.testBit_mod_two_pow, hi, decide_true, Bool.true_and] at e1 e2
    have hc : i + 8 * k = 8 * k + i := by omega
    simp only [hi, decide_true, Bool.true_and, hc, e1]
    cases hM : (bfMsk bo bw).testBit (8 * k + i)
    · simp
    · simp [e2 hM]
  · simp [hi]

theorem bfFld_congr (v v' bo bw : Nat) (h : v &&& bfMask bw = v' &&& bfMask bw) : bfFld v bo bw = bfFld v' bo bw := by
  simp only [bfFld, h]

theorem autoLeaf_bf (mem : List Cell) (off sz : Nat) (kind : SKind) (bo bw : Nat) (e : Expr) :
    autoLeaf mem (.bf off sz kind bo bw e) =
      if ¬ (sz = 1 ∨ sz = 2 ∨ sz = 4 ∨ sz = 8) then .error (.crash "bit-field unit size")
      else if off + sz > mem.length then .error (.crash "store outside the variable")
      else if e.label.isSome then .error (.crash "address constant stored into a bit-field")
      else .ok (writeAt mem off ((List.range sz).map fun k =>
        rmwCell (((mem.drop off).take sz).getD k .junk) ((bfMsk bo bw >>> (8 * k)) % 256)
          ((bfFld (bfVal kind e) bo bw >>> (8 * k)) % 256))) := by
  simp only [autoLeaf, autoKey, Leaf.key, Leaf.off, Leaf.kind, Leaf.e, runAssign, Assign.addr, Desg.disp, List.map_cons, List.map_nil,
    List.foldl_cons, List.foldl_nil, Nat.zero_add]
  rfl

/-- a bit-field: `old | field` into `init_data` on one side, load / and-not / or / store on the other -/
theorem step_bf (h : im.Sized size) {off sz : Nat} {kind : SKind} {bo bw : Nat} {e : Expr}
    (hok : Leaf.ok size (.bf off sz kind bo bw e)) (hc : Clean im (.bf off sz kind bo bw e)) :
    ∃ old, (∀ j, j < 8 * sz → old.testBit j = bitOf im.bytes (8 * off + j)) ∧
      let im' : Image := { im with bytes := writeAt im.bytes off (leBytes (old ||| bfFld (bfVal kind e) bo bw) sz) }
      staticLeaf im (.bf off sz kind bo bw e) = .ok im' ∧ autoLeaf im.cells (.bf off sz kind bo bw e) = .ok im'.cells := by
  obtain ⟨hbf, hsz, hfit, hin⟩ := hok
  have hcr : ∀ r ∈ im.relocs, r.offset + 8 ≤ off ∨ off + sz ≤ r.offset := hc.1
  obtain ⟨old, hread, hold⟩ := readBuf_bits im.bytes off sz hsz (by rw [h.len]; exact hin)
  refine ⟨old, hold, ?_⟩
  intro im'
  simp only [bfOK, Bool.and_eq_true, Bool.not_eq_true', Option.isNone_iff_eq_none, Bool.or_eq_true, beq_iff_eq] at hbf
  obtain ⟨⟨_, hlab⟩, hkind⟩ := hbf
  constructor
  · have : staticLeaf im (.bf off sz kind bo bw e) =
        (do let bytes ← writeBuf im.bytes off (old ||| bfFld (bfVal kind e) bo bw) sz
            pure ({ im with bytes := bytes } : Image)) := by
      simp only [staticLeaf, hlab, Option.isSome_none, Bool.false_eq_true, ↓reduceIte, hread]
      rfl
    rw [this, writeBuf_ok _ _ _ _ hsz (by rw [h.len]; exact hin)]
    rfl
  · rw [autoLeaf_bf, h.cells_length, if_neg (fun hn => hn hsz), if_neg (by omega), hlab, if_neg (by simp),
      h.cells_setBytes (by rw [leBytes_length]; exact hin) (by simpa [leBytes_length] using hcr), leBytes_eq_range, List.map_map]
    congr 2
    apply List.map_congr_left
    intro k hk
    rw [List.mem_range] at hk
    have hbit : ∀ i, i < 8 → bitOf im.bytes (8 * off + (8 * k + i)) = ((im.bytes.getD (off + k) 0) % 256).testBit i := by
      intro i hi
      simp only [bitOf]
      have h1 : (8 * off + (8 * k + i)) / 8 = off + k := by omega
      have h2 : (8 * off + (8 * k + i)) % 8 = i := by omega
      rw [h1, h2]
    have hget : ((im.cells.drop off).take sz).getD k Cell.junk = Cell.byte (im.bytes.getD (off + k) 0) := by
      simp only [List.getD_eq_getElem?_getD, List.getElem?_take, hk, ↓reduceIte, List.getElem?_drop]
      rw [h.cells_getElem? (by omega) (by intro r hr'; have := hcr r hr'; omega)]
      rfl
    rw [hget]
    simp only [rmwCell, Function.comp]
    congr 1
    exact (rmw_byte old (bfVal kind e) bo bw k (im.bytes.getD (off + k) 0)
      (fun i hi => by rw [hold (8 * k + i) (by omega), hbit i hi])
      (fun i hi hm => by
        have hrange := bfMsk_range bo bw _ hm
        rw [← hbit i hi]
        exact hc.2 _ (show 8 * off + bo ≤ _ by omega) (show _ < 8 * off + bo + bw by omega))).symm

/-- what one step changes: bits inside the leaf's footprint only; at most one relocation, in the leaf's bytes -/
structure StepFrame (size : Nat) (im im' : Image) (l : Leaf) : Prop where
  sized : im'.Sized size
  bits : ∀ p, (p < l.bitLo ∨ l.bitHi ≤ p) → bitOf im'.bytes p = bitOf im.bytes p
  newReloc : ∀ r ∈ im'.relocs, r ∈ im.relocs ∨ (l.isReloc = true ∧ r.offset = l.bLo ∧ r.offset + 8 = l.bHi)

theorem leaf_step (h : im.Sized size) (l : Leaf) (hok : l.ok size) (hc : Clean im l) :
    ∃ im', staticLeaf im l = .ok im' ∧ autoLeaf im.cells l = .ok im'.cells ∧ StepFrame size im im' l := by
  cases l with
  | val off sz kind e =>
    obtain ⟨hleaf, hk, hs⟩ := hok
    have hw := storeWidth_le sz kind
    cases hl : e.label with
    | none =>
      obtain ⟨h1, h2⟩ := step_val h hk hl hs hc
      have hlen := valBytes_length e sz kind hk
      have hv : off + (valBytes e sz kind).length ≤ size := by omega
      exact ⟨_, h1, h2, {
        sized := h.setBytes hv
        bits := fun p hp => bitOf_writeAt_outside _ _ _ (by rw [h.len]; exact hv) p (by rw [hlen]; exact hp)
        newReloc := fun r hr => Or.inl hr }⟩
    | some lab =>
      obtain ⟨rfl, hkind, h1, h2⟩ := step_reloc h hleaf hl hs
      have hsw : storeWidth 8 kind = 8 := by rcases hkind with rfl | rfl <;> simp [storeWidth]
      refine ⟨_, h1, h2, { sized := h.addReloc hs, bits := fun _ _ => rfl, newReloc := fun r hr => ?_ }⟩
      rcases List.mem_append.mp hr with hr | hr
      · exact Or.inl hr
      · rw [List.mem_singleton.mp hr]
        exact Or.inr ⟨by simp [Leaf.isReloc, hl], rfl, by simp [Leaf.bHi, hsw]⟩
  | bf off sz kind bo bw e =>
    obtain ⟨old, hold, h1, h2⟩ := step_bf h hok hc
    obtain ⟨_, hsz, hfit, hin⟩ := hok
    have hv : off + (leBytes (old ||| bfFld (bfVal kind e) bo bw) sz).length ≤ im.bytes.length := by
      rw [leBytes_length, h.len]; exact hin
    refine ⟨_, h1, h2, {
      sized := h.setBytes (by rw [leBytes_length]; exact hin)
      bits := fun p hp => ?_
      newReloc := fun r hr => Or.inl hr }⟩
    simp only [Leaf.bitLo, Leaf.bitHi] at hp
    by_cases hin' : 8 * off ≤ p ∧ p < 8 * (off + sz)
    · -- inside the unit, outside the field: the old bit, since the field is zero there
      rw [bitOf_writeAt_inside _ _ _ hv p (by rw [leBytes_length]; exact hin'),
        leBytes_bit _ _ _ (by omega), Nat.testBit_or, hold _ (by omega)]
      have hf : (bfFld (bfVal kind e) bo bw).testBit (p - 8 * off) = false := by
        cases hx : (bfFld (bfVal kind e) bo bw).testBit (p - 8 * off) with
        | false => rfl
        | true =>
          rw [bfFld_testBit, Bool.and_eq_true] at hx
          have := bfMsk_range bo bw _ hx.1
          omega
      rw [hf, Bool.or_false]
      congr 1; omega
    · exact bitOf_writeAt_outside _ _ _ hv p (by rw [leBytes_length]; omega)

theorem clean_step (size : Nat) (im im' : Image) (l l' : Leaf) (hf : StepFrame size im im' l) (hcomp : l.compat l')
    (hc : Clean im l') : Clean im' l' := by
  refine ⟨fun r hr => ?_, fun p h1 h2 => ?_⟩
  · rcases hf.newReloc r hr with h | ⟨h1, h2, h3⟩
    · exact hc.1 r h
    · have := hcomp.2 (Or.inl h1)
      omega
  · have := hcomp.1
    rw [hf.bits p (by omega)]
    exact hc.2 p h1 h2

theorem flat_agree : ∀ (ls : List Leaf) (im : Image), im.Sized size →
    (∀ l ∈ ls, l.ok size) → ls.Pairwise Leaf.compat → (∀ l ∈ ls, Clean im l) →
    ∃ im', ls.foldlM staticLeaf im = .ok im' ∧ ls.foldlM autoLeaf im.cells = .ok im'.cells ∧ im'.Sized size ∧
      (∀ p, (∀ l ∈ ls, p < l.bitLo ∨ l.bitHi ≤ p) → bitOf im'.bytes p = bitOf im.bytes p) ∧
      (∀ r ∈ im'.relocs, r ∈ im.relocs ∨ ∃ l ∈ ls, l.isReloc = true ∧ r.offset = l.bLo ∧ r.offset + 8 = l.bHi)
  | [], im, h, _, _, _ => ⟨im, rfl, rfl, h, fun _ _ => rfl, fun _ h => Or.inl h⟩
  | l :: ls, im, h, hok, hp, hc => by
    obtain ⟨im1, s1, a1, hf⟩ := leaf_step h l (hok l (List.mem_cons_self ..)) (hc l (List.mem_cons_self ..))
    rw [List.pairwise_cons] at hp
    obtain ⟨im2, s2, a2, h2, hbits2, hnew2⟩ := flat_agree ls im1 hf.sized
      (fun l' h => hok l' (List.mem_cons_of_mem _ h)) hp.2
      (fun l' h => clean_step size im im1 l l' hf (hp.1 l' h) (hc l' (List.mem_cons_of_mem _ h)))
    refine ⟨im2, ?_, ?_, h2, ?_, ?_⟩
    · simp only [List.foldlM_cons, s1]; exact s2
    · simp only [List.foldlM_cons, a1]; exact a2
    · intro p h
      rw [hbits2 p (fun l' h' => h l' (List.mem_cons_of_mem _ h')), hf.bits p (h l (List.mem_cons_self ..))]
    · intro r h
      rcases hnew2 r h with h | ⟨l', hl', h'⟩
      · rcases hf.newReloc r h with h | h
        · exact Or.inl h
        · exact Or.inr ⟨l, List.mem_cons_self .., h⟩
      · exact Or.inr ⟨l', List.mem_cons_of_mem _ hl', h'⟩

/-- the zeroed image `gvar_initializer` starts from; its cells are what ND_MEMZERO leaves -/
theorem zero_image_cells (n : Nat) : (Image.mk (List.replicate n 0) []).cells = zeroCells n := by
  simp [Image.cells, overlay, zeroCells]

theorem bitOf_zero (n p : Nat) : bitOf (List.replicate n 0) p = false := by
  simp only [bitOf, List.getD_eq_getElem?_getD, List.getElem?_replicate]
  split <;> simp

theorem both_from_leaves (ty : Ty) (init : Init) (hw : wf ty = true) (hf : fits init ty = true) :
    ∃ im', gvarInit init ty = .ok im' ∧ autoObject init ty = .ok im'.cells ∧ im'.Sized ty.sz ∧
      (∀ p, (∀ l ∈ leaves init ty 0, p < l.bitLo ∨ l.bitHi ≤ p) → bitOf im'.bytes p = false) ∧
      (∀ r ∈ im'.relocs, ∃ l ∈ leaves init ty 0, l.isReloc = true ∧ r.offset = l.bLo ∧ r.offset + 8 = l.bHi) := by
  obtain ⟨hwin, hpair⟩ := leaves_wf init ty 0 hw hf
  let im0 : Image := ⟨List.replicate ty.sz 0, []⟩
  obtain ⟨im', hs, ha, hsz, hbits, hnew⟩ := flat_agree (size := ty.sz) (leaves init ty 0) im0 ⟨by simp [im0], by simp [im0]⟩
    (fun l hl => by
      have := hwin l hl
      exact Leaf.ok_mono (by have := this.2.1; omega) this.2.2)
    hpair
    (fun l _ => ⟨fun r hr => by simp [im0] at hr, fun _ _ _ => bitOf_zero _ _⟩)
  refine ⟨im', ?_, ?_, hsz, ?_, ?_⟩
  · simp only [gvarInit]
    rw [writeGvar_leaves init ty _ 0 hf]
    exact hs
  · obtain ⟨as, has, hsame⟩ := createLvar_leaves init ty [] hf
    simp only [autoObject, lvarInit, has]
    show runAssigns (zeroCells ty.size.toNat) as = _
    rw [runAssigns_leaves as _ _ hsame, ← zero_image_cells]
    exact ha
  · intro p hp
    rw [hbits p hp]
    exact bitOf_zero _ _
  · intro r hr
    rcases hnew r hr with h | h
    · simp [im0] at h
    · exact h

end ChibiVerif.Init
