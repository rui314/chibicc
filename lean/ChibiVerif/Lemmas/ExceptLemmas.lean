/-
`Except` computations of the models: `>>=` on a value (core states no equation for it), what a successful `>>=` / `map` came from,
and one judgment for "how the computation ends": `Ends E Q r` — `r` is a value satisfying `Q` or an error satisfying `E`.
The "never this failure" predicates of the properties are instances (`E` = "not a crash", "not out of fuel", …, `Q` = the
invariant of the value), and its rules follow the computation through `pure`, `>>=`, `map`, `if` and `foldlM`.

A proof that steps through `x >>= k` rewrites with `ok_bind` once `x` is known to be `.ok a`, or takes a successful run apart with
`bind_eq_ok`; the modules that unfold `bind, Except.bind` work on the `match` of the definition instead.
With `open Except (Ends)`: opening the whole namespace makes `bind`, `map` and `pure` ambiguous.  Core Lean only.
-/

namespace Except
universe u v
variable {ε : Type u} {α β : Type v}

theorem ok_bind (a : α) (k : α → Except ε β) : (Except.ok a >>= k) = k a := rfl

theorem bind_eq_ok {x : Except ε α} {k : α → Except ε β} {b : β} (h : (x >>= k) = .ok b) :
    ∃ a, x = .ok a ∧ k a = .ok b := by
  cases x with
  | error e => cases h
  | ok a => exact ⟨a, rfl, h⟩

theorem map_eq_ok {x : Except ε α} {f : α → β} {b : β} (h : x.map f = .ok b) : ∃ a, x = .ok a ∧ f a = b := by
  cases x with
  | error e => cases h
  | ok a => exact ⟨a, rfl, Except.ok.inj h⟩

/-- one step of a successful `mapM` -/
theorem mapM_cons_ok {γ : Type w} {f : γ → Except ε β} {a : γ} {as : List γ} {bs : List β}
    (h : (a :: as).mapM f = .ok bs) : ∃ b bs', f a = .ok b ∧ as.mapM f = .ok bs' ∧ bs = b :: bs' := by
  rw [List.mapM_cons] at h
  obtain ⟨b, hb, h⟩ := bind_eq_ok h
  obtain ⟨bs', hbs, h⟩ := bind_eq_ok h
  cases h
  exact ⟨b, bs', hb, hbs, rfl⟩

def Ends (E : ε → Prop) (Q : α → Prop) : Except ε α → Prop
  | .ok a => Q a
  | .error e => E e

namespace Ends
variable {E E' : ε → Prop} {P Q : α → Prop} {R : β → Prop}

theorem ok {a : α} (h : Q a) : Ends E Q (.ok a) := h
theorem pure {a : α} (h : Q a) : Ends E Q (Pure.pure a : Except ε α) := h
theorem error {e : ε} (h : E e) : Ends E Q (.error e : Except ε α) := h

theorem of_ok {x : Except ε α} {a : α} (h : Ends E Q x) (hx : x = .ok a) : Q a := by subst hx; exact h
theorem of_error {x : Except ε α} {e : ε} (h : Ends E Q x) (hx : x = .error e) : E e := by subst hx; exact h

/-- nothing is asked of the errors -/
theorem of_forall {x : Except ε α} (h : ∀ a, x = .ok a → Q a) : Ends (fun _ => True) Q x := by
  cases x with
  | ok a => exact h a rfl
  | error e => trivial

/-- a fact that holds for whatever value `x` returns, used where the value is known -/
theorem use {x : Except ε α} {a : α} (hx : x = .ok a) {G : Prop} (h : Ends E (fun b => b = a → G) x) : G := h.of_ok hx rfl

theorem mono {x : Except ε α} (h : Ends E P x) (he : ∀ e, E e → E' e) (hq : ∀ a, P a → Q a) : Ends E' Q x := by
  cases x with
  | ok a => exact hq a h
  | error e => exact he e h

/-- only the condition on the value changes -/
theorem imp {x : Except ε α} (h : Ends E P x) (hq : ∀ a, P a → Q a) : Ends E Q x := h.mono (fun _ he => he) hq

/-- the continuation also learns which value it runs on: it is handed the equation `x = .ok a` -/
theorem bind_eq {x : Except ε α} {k : α → Except ε β} (hx : Ends E P x) (hk : ∀ a, x = .ok a → P a → Ends E R (k a)) :
    Ends E R (x >>= k) := by
  cases x with
  | ok a => exact hk a rfl hx
  | error e => exact hx

theorem bind {x : Except ε α} {k : α → Except ε β} (hx : Ends E P x) (hk : ∀ a, P a → Ends E R (k a)) :
    Ends E R (x >>= k) :=
  hx.bind_eq fun a _ => hk a

theorem map {x : Except ε α} {f : α → β} (h : Ends E (fun a => R (f a)) x) : Ends E R (x.map f) := by
  cases x <;> exact h

theorem ite {c : Prop} [Decidable c] {a b : Except ε α} (ha : c → Ends E Q a) (hb : ¬ c → Ends E Q b) :
    Ends E Q (if c then a else b) := by
  split
  · exact ha ‹_›
  · exact hb ‹_›

/-- `I` is kept by every step on an element of the list -/
theorem foldlM_mem {γ : Type w} {I : β → Prop} {s : β → γ → Except ε β} :
    ∀ (l : List γ) (b : β), (∀ b a, a ∈ l → I b → Ends E I (s b a)) → I b → Ends E I (l.foldlM s b)
  | [], _, _, hb => hb
  | a :: l, b, hs, hb => by
    simp only [List.foldlM]
    exact (hs b a (List.mem_cons_self ..) hb).bind
      fun b' hb' => foldlM_mem l b' (fun b a ha => hs b a (List.mem_cons_of_mem _ ha)) hb'

end Ends
end Except
