/-
`canonicalize_newline`, `remove_backslash_newline` and `convert_universal_chars` rewrite the text in place.
Gen/LitReadersGen.lean holds their translation with the exact array semantics (the buffer is threaded through every store; a
store outside the text is `none`).  This file proves that, on a text without NUL, the translated functions return `some` of
what the functional hand models of Model/Text.lean compute — so (1) the hand models *are* the code, and (2) every store of the
three C loops lands inside the text, behind the read position (memory safety of the in-place rewriting).  The invariant is
"buffer = written ++ gap ++ unread" with one step rule (`store_then`); what an iteration of a hand model does comes from its
step equations (`canon_isCanon`, `rbn_isRbn`, `cuc_other` … `cuc_bsl`).  At the end: `tokenize_file` as translated from clang's AST is the BOM
test followed by the three loops (`phase_order`, about `PpNumber.fileText`: the glue between Gen/PpNumGen.lean and the hand model
stands in Model/PpNumber.lean).
-/
import ChibiVerif.Lemmas.C11Translated
import ChibiVerif.Lemmas.C11Splice
import ChibiVerif.Model.PpNumber

namespace ChibiVerif.Lemmas.Rewrite
open ChibiVerif.Gen.Literals
open ChibiVerif.Literals (Byte)
open ChibiVerif.Text
open ChibiVerif.Lemmas.Literals
open ChibiVerif.Lemmas.Splice
open ChibiVerif.Lemmas.Text
open ChibiVerif.Lemmas.Translated
open ChibiVerif.Gen.LitReaders (storeAt fillAt terminateAt storeList canonicalizeNewline_loop1 removeBackslashNewline_loop1
  convertUniversalChars_loop1)

-- The reads and the store the invariant "buffer = written `w` ++ gap `g` ++ unread `t`" needs: the byte at offset `k` / 0 of the
-- unread part, its head, the byte after its head; a store at the write index `|w|`.
theorem byteAt_at (w g t : List Byte) (k : Nat) : byteAt (w ++ g ++ t) (w.length + g.length + k) = byteAt t k := by
  have : w.length + g.length + k = (w ++ g).length + k := by simp
  rw [this, byteAt_append_right]

theorem byteAt_at0 (w g t : List Byte) : byteAt (w ++ g ++ t) (w.length + g.length) = byteAt t 0 := by
  have := byteAt_at w g t 0
  simpa using this

theorem byteAt_hd (w g : List Byte) (a : Byte) (t : List Byte) : byteAt (w ++ g ++ a :: t) (w.length + g.length) = a :=
  byteAt_at0 w g (a :: t)

theorem byteAt_nx (w g : List Byte) (a : Byte) (t : List Byte) :
    byteAt (w ++ g ++ a :: t) (w.length + g.length + 1) = byteAt t 0 :=
  (byteAt_at w g (a :: t) 1).trans (byteAt_succ a t 0)

theorem store_mid (w : List Byte) (x : Byte) (r : List Byte) (v : Byte) :
    storeAt (w ++ x :: r) w.length v = some (w ++ v :: r) := by
  simp [storeAt]

/-- a store at the write index `|w|`, after at least one byte has been consumed: the gap keeps its length + consumed - 1 -/
theorem store_step (w g c t : List Byte) (v : Byte) (hc : g ++ c ≠ []) :
    ∃ g', g'.length + 1 = g.length + c.length ∧
      storeAt (w ++ g ++ (c ++ t)) w.length v = some ((w ++ [v]) ++ g' ++ t) := by
  obtain ⟨x, g', hx⟩ := List.exists_cons_of_ne_nil hc
  refine ⟨g', ?_, ?_⟩
  · have := congrArg List.length hx
    simp only [List.length_append, List.length_cons] at this
    omega
  · have e : w ++ g ++ (c ++ t) = w ++ x :: (g' ++ t) := by
      rw [List.append_assoc w g, ← List.append_assoc g c t, hx]; rfl
    rw [e, store_mid]
    simp

/-- one loop iteration that consumes the bytes `c` and stores one byte: if the rest of the loop `L` yields `r` from
    every buffer that again has the shape of the invariant, the iteration yields `v :: r` -/
theorem store_then (L : List Byte → Nat → Nat → Option (List Byte)) (w g c t r : List Byte) (v : Byte) (hc : c ≠ [])
    (ih : ∀ g', g'.length + 1 = g.length + c.length →
      L ((w ++ [v]) ++ g' ++ t) ((w ++ [v]).length + g'.length) (w ++ [v]).length = some ((w ++ [v]) ++ r)) :
    (match storeAt (w ++ g ++ (c ++ t)) w.length v with
      | none => none
      | some buf => L buf (w.length + g.length + c.length) (w.length + 1)) = some (w ++ v :: r) := by
  obtain ⟨g', hg', hs⟩ := store_step w g c t v (by simp [hc])
  have := ih g' hg'
  simp only [List.length_append, List.length_singleton] at this
  rw [hs]
  simp only
  rw [show w.length + g.length + c.length = w.length + 1 + g'.length by omega, this]
  simp

theorem store_list_then (L : List Byte → Nat → Nat → Option (List Byte)) (t r : List Byte) : ∀ (bs w g c : List Byte) (k : Nat),
    c.length = k → bs.length ≤ g.length + k →
    (∀ g', L ((w ++ bs) ++ g' ++ t) ((w ++ bs).length + g'.length) (w ++ bs).length = some ((w ++ bs) ++ r)) →
    (match storeList bs (w ++ g ++ (c ++ t)) w.length with
      | none => none
      | some buf => L buf (w.length + g.length + k) (w.length + bs.length)) = some (w ++ (bs ++ r)) := by
  intro bs
  induction bs with
  | nil =>
    intro w g c k hk _ hL
    have := hL (g ++ c)
    simp only [List.append_nil, List.length_append, hk] at this
    simpa [storeList, Nat.add_assoc] using this
  | cons b bs ih =>
    intro w g c k hk hl hL
    simp only [List.length_cons] at hl
    obtain ⟨g1, hg1, hs⟩ := store_step w g c t b (fun h => by
      have := congrArg List.length h
      simp only [List.length_append, List.length_nil] at this
      omega)
    have := ih (w ++ [b]) g1 [] 0 rfl (by omega) fun g' => by rw [← List.append_cons]; exact hL g'
    simp only [List.nil_append, List.length_append, List.length_singleton, Nat.add_zero] at this
    simp only [storeList, hs, List.length_cons]
    rw [show w.length + g.length + k = w.length + 1 + g1.length by omega,
      show w.length + (bs.length + 1) = w.length + 1 + bs.length by omega, this]
    simp

theorem fillAt_eq (v : Byte) : ∀ (n : Nat) (buf : List Byte) (j : Nat), fillAt v n buf j = storeList (List.replicate n v) buf j := by
  intro n
  induction n with
  | zero => intro buf j; rfl
  | succ n ih => intro buf j; simp only [fillAt, List.replicate_succ, storeList, ih]

theorem fill_then (L : List Byte → Nat → Nat → Option (List Byte)) (t r : List Byte) (v : Byte) (n : Nat) (w g : List Byte)
    (hn : n ≤ g.length)
    (ih : ∀ g', L ((w ++ List.replicate n v) ++ g' ++ t) ((w ++ List.replicate n v).length + g'.length)
      (w ++ List.replicate n v).length = some ((w ++ List.replicate n v) ++ r)) :
    (match fillAt v n (w ++ g ++ t) w.length with
      | none => none
      | some buf => L buf (w.length + g.length) (w.length + n)) = some (w ++ (List.replicate n v ++ r)) := by
  have := store_list_then L t r (List.replicate n v) w g [] 0 rfl (by simpa using hn) ih
  simpa [fillAt_eq] using this

theorem terminate_at (w r : List Byte) : terminateAt (w ++ r) w.length = some w := by
  unfold terminateAt
  simp

theorem lf_byte : ((0xA#32 : BitVec 32).setWidth 8) = LF := by decide

/-- from any buffer of the invariant's shape, whatever the gap holds, the loop returns the written part followed by the hand
    model's output for the unread part -/
theorem canon_loop : ∀ (fuel : Nat) (t w g : List Byte), (0#8 : Byte) ∉ t → t.length < fuel →
    canonicalizeNewline_loop1 fuel (w ++ g ++ t) (w.length + g.length) w.length = some (w ++ canonicalizeNewline t) := by
  intro fuel
  induction fuel with
  | zero => intro t w g _ h; omega
  | succ fuel ih =>
    intro t w g h0 hf
    cases t with
    | nil =>
      simp only [canonicalizeNewline_loop1, byteAt_at0, byteAt_nil, sext_eq_ofNat, Nat.reduceLT, ne_eq, not_true_eq_false, if_false]
      rw [List.append_nil, terminate_at]
      simp [canonicalizeNewline]
    | cons a t' =>
      have ha0 : a ≠ 0#8 := fun h => h0 (by simp [h])
      have h0' : (0#8 : Byte) ∉ t' := fun h => h0 (List.mem_cons_of_mem _ h)
      have hf' : t'.length < fuel := Nat.lt_of_succ_lt_succ hf
      simp only [canonicalizeNewline_loop1, byteAt_hd, byteAt_nx, sext_eq_ofNat, Nat.reduceLT,
        ne_eq, ha0, not_false_eq_true, if_true, lf_byte]
      by_cases hcr : a = 13#8
      · subst hcr
        by_cases hlf : byteAt t' 0 = 10#8
        · cases t' with
          | nil => simp [byteAt_nil] at hlf
          | cons b t'' =>
            have hb : b = LF := by simpa [byteAt_zero, LF] using hlf
            subst hb
            simp only [hlf, and_self, if_true]
            rw [show (13#8 : Byte) = CR from rfl, canon_isCanon.crlf]
            exact store_then (canonicalizeNewline_loop1 fuel) w g [CR, LF] t'' _ LF (by simp) fun g' _ =>
              ih t'' _ g' (fun h => h0' (List.mem_cons_of_mem _ h)) (Nat.lt_of_succ_lt hf')
        · simp only [hlf, and_false, if_false, if_true]
          rw [show (13#8 : Byte) = CR from rfl, canon_isCanon.lone t' fun e => hlf (byteAt_of_head? _ _ e)]
          exact store_then (canonicalizeNewline_loop1 fuel) w g [CR] t' _ LF (by simp) fun g' _ =>
            ih t' _ g' h0' hf'
      · simp only [hcr, false_and, if_false]
        rw [canon_isCanon.other a t' hcr]
        exact store_then (canonicalizeNewline_loop1 fuel) w g [a] t' _ a (by simp) fun g' _ =>
          ih t' _ g' h0' hf'

theorem canonicalizeNewline_eq (t : List Byte) (h0 : (0#8 : Byte) ∉ t) :
    ChibiVerif.Gen.LitReaders.canonicalizeNewline t = some (canonicalizeNewline t) := by
  have := canon_loop (t.length + 1) t [] [] h0 (by omega)
  simpa [ChibiVerif.Gen.LitReaders.canonicalizeNewline] using this

/-- as `canon_loop`, with the counter `n` of removed newlines; they fit the gap (`n ≤ g.length`: every splice left two bytes of
    gap for one pending newline) -/
theorem rbn_loop : ∀ (fuel : Nat) (t w g : List Byte) (n : Nat), (0#8 : Byte) ∉ t → t.length < fuel → n ≤ g.length →
    removeBackslashNewline_loop1 fuel (w ++ g ++ t) (w.length + g.length) w.length n =
      some (w ++ removeBackslashNewlineAux t n) := by
  intro fuel
  induction fuel with
  | zero => intro t w g n _ h; omega
  | succ fuel ih =>
    intro t w g n h0 hf hn
    cases t with
    | nil =>
      simp only [removeBackslashNewline_loop1, byteAt_at0, byteAt_nil, sext_eq_ofNat, Nat.reduceLT, ne_eq, not_true_eq_false, if_false,
        lf_byte]
      rw [show removeBackslashNewlineAux [] n = List.replicate n LF ++ [] by simp [removeBackslashNewlineAux]]
      exact fill_then (fun buf _ j => terminateAt buf j) [] [] LF n w g hn fun g' => by
        rw [List.append_nil, List.append_nil]; exact terminate_at _ _
    | cons a t' =>
      have ha0 : a ≠ 0#8 := fun h => h0 (by simp [h])
      have h0' : (0#8 : Byte) ∉ t' := fun h => h0 (List.mem_cons_of_mem _ h)
      have hf' : t'.length < fuel := Nat.lt_of_succ_lt_succ hf
      simp only [removeBackslashNewline_loop1, byteAt_hd, byteAt_nx, sext_eq_ofNat, Nat.reduceLT, ne_eq, ha0, not_false_eq_true, if_true, lf_byte]
      by_cases hsp : a = 92#8 ∧ byteAt t' 0 = 10#8
      · -- backslash newline: nothing is stored, the gap grows by two
        obtain ⟨ha, hb⟩ := hsp
        subst ha
        cases t' with
        | nil => simp [byteAt_nil] at hb
        | cons b t'' =>
          have hb' : b = LF := by simpa [byteAt_zero, LF] using hb
          subst hb'
          simp only [hb, and_self, if_true]
          have eb : w ++ g ++ 92#8 :: LF :: t'' = w ++ (g ++ [92#8, LF]) ++ t'' := by simp
          have i1 : w.length + g.length + 2 = w.length + (g ++ [92#8, LF]).length := by simp; omega
          rw [eb, i1, ih t'' w (g ++ [92#8, LF]) (n + 1) (fun h => h0' (List.mem_cons_of_mem _ h)) (Nat.lt_of_succ_lt hf')
            (by simp; omega)]
          rw [show (92#8 : Byte) = BSL from rfl, rbn_isRbn.splice]
      · simp only [hsp, if_false]
        by_cases hlf : a = 10#8
        · -- newline: stored, followed by the n pending newlines
          subst hlf
          simp only [if_true]
          rw [show (10#8 : Byte) = LF from rfl, rbn_isRbn.newline]
          refine store_then (fun buf i j => match fillAt LF n buf j with
            | none => none
            | some buf => removeBackslashNewline_loop1 fuel buf i (j + n) 0) w g [LF] t' _ LF (by simp) fun g' hg' => ?_
          exact fill_then (removeBackslashNewline_loop1 fuel · · · 0) t' _ LF n _ g' (by simp at hg'; omega) fun g'' =>
            ih t' _ g'' 0 h0' hf' (Nat.zero_le _)
        · simp only [hlf, if_false]
          rw [rbn_isRbn.other a t' n hlf fun e => hsp ⟨e.1, byteAt_of_head? _ _ e.2⟩]
          exact store_then (removeBackslashNewline_loop1 fuel · · · n) w g [a] t' _ a (by simp) fun g' hg' =>
            ih t' _ g' n h0' hf' (by simp at hg'; omega)

theorem removeBackslashNewline_eq (t : List Byte) (h0 : (0#8 : Byte) ∉ t) :
    ChibiVerif.Gen.LitReaders.removeBackslashNewline t = some (removeBackslashNewline t) := by
  have := rbn_loop (t.length + 1) t [] [] 0 h0 (by omega) (Nat.le_refl _)
  simpa [ChibiVerif.Gen.LitReaders.removeBackslashNewline, removeBackslashNewline] using this

theorem encode_length_le (c : BitVec 32) : (encodeUtf8 c).length ≤ 4 := by
  unfold encodeUtf8
  split
  · exact (by decide : 1 ≤ 4)
  split
  · exact (by decide : 2 ≤ 4)
  split
  · exact (by decide : 3 ≤ 4)
  · exact Nat.le_refl 4

/-- the text must not end in a backslash: the loop copies a backslash together with the byte after it -/
theorem cuc_loop : ∀ (fuel : Nat) (t w g : List Byte), (0#8 : Byte) ∉ t → t.getLast? ≠ some BSL → t.length < fuel →
    convertUniversalChars_loop1 fuel (w ++ g ++ t) (w.length + g.length) w.length = some (w ++ convertUniversalChars t) := by
  intro fuel
  induction fuel with
  | zero => intro t w g _ _ h; omega
  | succ fuel ih =>
    intro t w g h0 hend hf
    cases t with
    | nil =>
      simp only [convertUniversalChars_loop1, byteAt_at0, byteAt_nil, sext_eq_ofNat, Nat.reduceLT, ne_eq, not_true_eq_false, if_false]
      rw [List.append_nil, terminate_at]
      simp [cuc_nil]
    | cons a t' =>
      have ha0 : a ≠ 0#8 := fun h => h0 (by simp [h])
      have h0' : (0#8 : Byte) ∉ t' := fun h => h0 (List.mem_cons_of_mem _ h)
      have hf' : t'.length < fuel := Nat.lt_of_succ_lt_succ hf
      have hend' := getLast?_tail_ne hend
      have e00 : byteAt (w ++ g ++ a :: t') (w.length + g.length + 0) = a := byteAt_hd w g a t'
      have ed : (w ++ g ++ a :: t').drop (w.length + g.length + 2) = t'.drop 1 := by
        rw [← List.length_append, ← List.drop_drop, List.drop_left]; rfl
      -- the plain copy of one byte, used by three arms
      have copy1 := fun hc : convertUniversalChars (a :: t') = a :: convertUniversalChars t' =>
        hc ▸ store_then (convertUniversalChars_loop1 fuel) w g [a] t' _ a (by simp) fun g' _ =>
          ih t' _ g' h0' hend' hf'
      simp only [convertUniversalChars_loop1, byteAt_hd, byteAt_nx, e00, ed, sext_eq_ofNat, Nat.reduceLT, ne_eq,
        ha0, not_false_eq_true, if_true, ← readUniversalChar_eq]
      by_cases hbs : a = 92#8
      · subst hbs
        cases t' with
        | nil =>
          exact absurd rfl hend
        | cons b t'' =>
          have hb0 : b ≠ 0#8 := fun h => h0' (by simp [h])
          have h0'' : (0#8 : Byte) ∉ t'' := fun h => h0' (List.mem_cons_of_mem _ h)
          simp only [byteAt_zero, List.drop_succ_cons, List.drop_zero, true_and]
          -- a universal character name with `n` digits after the letter `l`
          have ucn : ∀ (n : Nat), (b = 117#8 ∧ n = 4 ∨ b = 85#8 ∧ n = 8) →
              (let c := readUniversalChar t'' n 0
               if c ≠ 0#32 ∧ c ≠ 10#32 then
                 match storeList (encodeUtf8 c) (w ++ g ++ 92#8 :: b :: t'') w.length with
                 | none => none
                 | some buf => convertUniversalChars_loop1 fuel buf (w.length + g.length + (n + 2)) (w.length + (encodeUtf8 c).length)
               else
                 match storeAt (w ++ g ++ 92#8 :: b :: t'') w.length 92#8 with
                 | none => none
                 | some buf => convertUniversalChars_loop1 fuel buf (w.length + g.length + 1) (w.length + 1)) =
              some (w ++ convertUniversalChars (92#8 :: b :: t'')) := by
            intro n hln
            simp only
            by_cases hv : readUniversalChar t'' n 0 ≠ 0#32 ∧ readUniversalChar t'' n 0 ≠ 10#32
            · have hlen : n ≤ t''.length := Nat.le_of_not_lt fun hl => hv.1 (ruc_short n t'' 0 hl)
              have hsplit : (92#8 : Byte) :: b :: t'' = (92#8 :: b :: t''.take n) ++ t''.drop n := by simp
              rw [if_pos hv, show convertUniversalChars (92#8 :: b :: t'') = _ from cuc_ucn_step b n hln t'', if_pos hv, hsplit]
              exact store_list_then (convertUniversalChars_loop1 fuel) _ _ _ w g _ (n + 2) (by simp; omega)
                (by have := encode_length_le (readUniversalChar t'' n 0); rcases hln with ⟨_, hn⟩ | ⟨_, hn⟩ <;> omega)
                fun g' => ih (t''.drop n) _ g' (fun h => h0'' (List.mem_of_mem_drop h))
                  (by rw [List.getLast?_drop]; split; simp; exact getLast?_tail_ne hend') (by simp at hf' ⊢; omega)
            · rw [if_neg hv]
              exact copy1 ((cuc_ucn_step b n hln t'').trans (if_neg hv))
          by_cases hu : b = 117#8
          · have := ucn 4 (Or.inl ⟨hu, rfl⟩)
            simp only [hu, if_true] at this ⊢
            exact this
          · simp only [hu, if_false]
            by_cases hU : b = 85#8
            · have := ucn 8 (Or.inr ⟨hU, rfl⟩)
              simp only [hU, if_true] at this ⊢
              exact this
            · -- a backslash and the byte after it are copied together
              simp only [hU, if_false, if_true]
              rw [show convertUniversalChars (92#8 :: b :: t'') = _ from cuc_bsl b t'' hu hU]
              refine store_then (fun buf p q => match storeAt buf q (byteAt buf p) with
                | none => none
                | some buf => convertUniversalChars_loop1 fuel buf (p + 1) (q + 1)) w g [92#8] (b :: t'') _ 92#8 (by simp)
                fun g1 _ => ?_
              simp only [byteAt_hd]
              exact store_then (convertUniversalChars_loop1 fuel) _ g1 [b] t'' _ b (by simp) fun g2 _ =>
                ih t'' _ g2 h0'' (getLast?_tail_ne hend') (Nat.lt_of_succ_lt hf')
      · simp only [hbs, false_and, if_false]
        exact copy1 (cuc_other a t' hbs)

/-- `convert_universal_chars`: on a text that ends with a newline (what `tokenize_file` passes: `read_file` ends the text
    with one and the earlier phases keep it) the in-place C loop computes the functional hand model and never stores
    outside the text -/
theorem convertUniversalChars_eq (t : List Byte) (h0 : (0#8 : Byte) ∉ t) (hend : t = [] ∨ t.getLast? = some LF) :
    ChibiVerif.Gen.LitReaders.convertUniversalChars t = some (convertUniversalChars t) := by
  have := cuc_loop (t.length + 1) t [] [] h0 (by rcases hend with h | h <;> simp [h, LF, BSL]) (by omega)
  simpa [ChibiVerif.Gen.LitReaders.convertUniversalChars] using this

theorem skipBOM_efn_no_nul (s : List Byte) (h0 : (0#8 : Byte) ∉ s) : (0#8 : Byte) ∉ skipBOM (ensureFinalNewline s) :=
  fun h => (mem_efn s _ (mem_skipBOM _ _ h)).elim h0 (by decide)

theorem phase1_no_nul (s : List Byte) (h0 : (0#8 : Byte) ∉ s) : (0#8 : Byte) ∉ phase1 s :=
  fun h => (canon_isCanon.mem _ _ h).elim (skipBOM_efn_no_nul s h0) (by decide)

theorem rbn_no_nul (t : List Byte) (h0 : (0#8 : Byte) ∉ t) : (0#8 : Byte) ∉ removeBackslashNewline t :=
  fun h => (rbn_isRbn.mem t 0 _ h).elim h0 (by decide)

theorem translated_pipeline (s : List Byte) (h0 : (0#8 : Byte) ∉ s) :
    (ChibiVerif.Gen.LitReaders.canonicalizeNewline (skipBOM (ensureFinalNewline s)) >>=
      ChibiVerif.Gen.LitReaders.removeBackslashNewline >>=
      ChibiVerif.Gen.LitReaders.convertUniversalChars) = some (phase12 s) := by
  have z2 := phase1_no_nul s h0
  have e2 := removeBackslashNewline_eq _ z2
  rw [canonicalizeNewline_eq _ (skipBOM_efn_no_nul s h0), Option.bind_eq_bind, Option.bind_some]
  unfold phase1 at e2
  rw [e2, Option.bind_some]
  exact convertUniversalChars_eq _ (rbn_no_nul _ z2) (Or.inr (rbn_isRbn.last_lf _ 0 (phase1_last s)))

/-- `if (!memcmp(p, "\xef\xbb\xbf", 3)) p += 3;` on a NUL-terminated text is `skipBOM`: a text shorter than three bytes
    differs from the mark at its terminator at the latest -/
theorem bom_test (b : List Byte) :
    (if (byteAt b 0 = 0xEF#8 ∧ byteAt b 1 = 0xBB#8 ∧ byteAt b 2 = 0xBF#8) then b.drop 3 else b) = skipBOM b := by
  match b with
  | [] => simp [skipBOM, byteAt]
  | [x] => simp [skipBOM, byteAt]
  | [x, y] => simp [skipBOM, byteAt]
  | x :: y :: z :: r => rfl

theorem tokenizeFileText_eq (b : List Byte) :
    ChibiVerif.Gen.PpNum.tokenizeFileText b =
      (ChibiVerif.Gen.LitReaders.canonicalizeNewline (skipBOM b) >>= ChibiVerif.Gen.LitReaders.removeBackslashNewline >>=
        ChibiVerif.Gen.LitReaders.convertUniversalChars) := by
  unfold ChibiVerif.Gen.PpNum.tokenizeFileText
  simp only [bom_test]
  cases ChibiVerif.Gen.LitReaders.canonicalizeNewline (skipBOM b) with
  | none => rfl
  | some b1 =>
    dsimp only [bind, Option.bind]
    cases ChibiVerif.Gen.LitReaders.removeBackslashNewline b1 with
    | none => rfl
    | some b2 =>
      dsimp only
      cases ChibiVerif.Gen.LitReaders.convertUniversalChars b2 <;> rfl

theorem phase_order (s : List Byte) (h0 : (0#8 : Byte) ∉ s) : ChibiVerif.PpNumber.fileText s = some (phase12 s) := by
  unfold ChibiVerif.PpNumber.fileText
  rw [tokenizeFileText_eq]
  exact translated_pipeline s h0

end ChibiVerif.Lemmas.Rewrite
