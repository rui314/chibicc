/-
`BitVec` against `Int` and `Nat`, where core stops: `ofInt` sees only the residue of its argument, so resizing and sign
extension of `ofInt n i` are `ofInt` of `i % 2^n` and `i.bmod 2^n` whatever the widths; in-range special cases follow by
`Int.emod_eq_of_lt` / `Int.bmod_eq_of_le` (for `toInt` core has `BitVec.toInt_ofInt_eq_self`).  Then `toNat` of a difference and of
an offset that does not wrap, truncation after an extension, and the low bits of a sub-register write.  Core Lean only.
-/

namespace BitVec

theorem toNat_ofInt_int (n : Nat) (i : Int) : ((BitVec.ofInt n i).toNat : Int) = i % (2 ^ n : Nat) := by
  rw [BitVec.toNat_ofInt]
  exact Int.toNat_of_nonneg (Int.emod_nonneg _ (Int.ne_of_gt (Int.natCast_pos.2 (Nat.two_pow_pos n))))

theorem toNat_ofInt_of_range {n : Nat} {i : Int} (lo : 0 ≤ i) (hi : i < (2 ^ n : Nat)) : ((BitVec.ofInt n i).toNat : Int) = i := by
  rw [toNat_ofInt_int]; exact Int.emod_eq_of_lt lo hi

theorem ofInt_congr (n : Nat) {i j : Int} (h : i % (2 ^ n : Nat) = j % (2 ^ n : Nat)) : BitVec.ofInt n i = BitVec.ofInt n j := by
  apply BitVec.eq_of_toNat_eq
  rw [BitVec.toNat_ofInt, BitVec.toNat_ofInt, h]

theorem ofInt_emod (n : Nat) (i : Int) : BitVec.ofInt n (i % (2 ^ n : Nat)) = BitVec.ofInt n i :=
  ofInt_congr n (Int.emod_emod _ _)

theorem ofInt_bmod (n : Nat) (i : Int) : BitVec.ofInt n (i.bmod (2 ^ n)) = BitVec.ofInt n i :=
  ofInt_congr n Int.bmod_emod

theorem ofInt_sub (n : Nat) (a b : Int) : BitVec.ofInt n (a - b) = BitVec.ofInt n a - BitVec.ofInt n b := by
  rw [Int.sub_eq_add_neg, BitVec.ofInt_add, BitVec.ofInt_neg, BitVec.sub_eq_add_neg]

theorem setWidth_ofInt (n k : Nat) (i : Int) : (BitVec.ofInt n i).setWidth k = BitVec.ofInt k (i % (2 ^ n : Nat)) := by
  rw [← toNat_ofInt_int, BitVec.ofInt_natCast, BitVec.ofNat_toNat]

theorem setWidth_ofInt_of_le {m n : Nat} (h : m ≤ n) (i : Int) : (BitVec.ofInt n i).setWidth m = BitVec.ofInt m i := by
  rw [setWidth_ofInt]
  exact ofInt_congr m (Int.emod_emod_of_dvd i (Int.natCast_dvd_natCast.2 (Nat.pow_dvd_pow 2 h)))

theorem signExtend_ofInt (n k : Nat) (i : Int) : (BitVec.ofInt n i).signExtend k = BitVec.ofInt k (i.bmod (2 ^ n)) :=
  congrArg (BitVec.ofInt k) (BitVec.toInt_ofInt i)

theorem toNat_sub_int {n : Nat} (x y : BitVec n) : ((x - y).toNat : Int) = ((x.toNat : Int) - y.toNat) % (2 ^ n : Nat) := by
  have := y.isLt
  rw [BitVec.toNat_sub, Int.natCast_emod, Int.natCast_add, Int.natCast_sub (Nat.le_of_lt this),
    ← Int.add_emod_left (2 ^ n : Nat) (_ - _)]
  congr 1; omega

theorem toNat_add_ofNat {w : Nat} (a : BitVec w) (k : Nat) (h : a.toNat + k < 2 ^ w) : (a + BitVec.ofNat w k).toNat = a.toNat + k := by
  rw [BitVec.toNat_add, BitVec.toNat_ofNat, Nat.mod_eq_of_lt (show k < 2 ^ w by omega), Nat.mod_eq_of_lt h]

theorem setWidth_setWidth_self {n m : Nat} (h : n ≤ m) (v : BitVec n) : (v.setWidth m).setWidth n = v := by
  rw [BitVec.setWidth_setWidth_of_le v h, BitVec.setWidth_eq]

theorem setWidth_signExtend_self {n m : Nat} (h : n ≤ m) (v : BitVec n) : (v.signExtend m).setWidth n = v := by
  apply BitVec.eq_of_getLsbD_eq; intro i hi
  simp [hi, BitVec.getElem_signExtend, show i < m by omega]

theorem setWidth_sub {n m : Nat} (h : m ≤ n) (x y : BitVec n) : (x - y).setWidth m = x.setWidth m - y.setWidth m := by
  rw [BitVec.sub_eq_add_neg, BitVec.setWidth_add _ _ h, BitVec.setWidth_neg_of_le h, ← BitVec.sub_eq_add_neg]

/-- writing a sub-register: the low `m` bits of `q * 2^m + b` -/
theorem setWidth_ofNat_low {n m : Nat} (h : m ≤ n) (q : Nat) (b : BitVec m) :
    (BitVec.ofNat n (q * 2 ^ m + b.toNat)).setWidth m = b := by
  apply BitVec.eq_of_toNat_eq
  rw [BitVec.toNat_setWidth, BitVec.toNat_ofNat, Nat.mod_mod_of_dvd _ (Nat.pow_dvd_pow 2 h), Nat.mul_add_mod_self_right,
    Nat.mod_eq_of_lt b.isLt]

end BitVec
