/-
C08 — inside the `int` range the loops of struct_decl / union_decl with explicit 32-bit arithmetic (Model/Layout32.lean,
either mode: strict = signed overflow is an outcome, wrap = two's complement) compute what the unbounded model computes,
i.e. the specification.  "Inside the range": the end of the aggregate plus one rounding step stays below 2^31 bits.

Each `int` operation is the unbounded one when its operands are in range (`op32_ok` … `alignDown32_ok`); a member, the loop
and the union loop in `int` arithmetic then return whatever `Model/Layout.lean` returns (`placeMember32_of`, `structLoop32_of`,
`unionLoop32_eq`), for any members whose fields are not negative (`Mem.Nonneg`); the specification enters only through
`LayoutLemmas`' results about the unbounded model.

Core Lean only.
-/
import ChibiVerif.Model.Layout32
import ChibiVerif.Lemmas.LayoutLemmas

namespace ChibiVerif.Layout
open ChibiVerif.Gen.Declspec ChibiVerif.Spec.Layout

theorem op32_ok (md : IntMode) {x : Int} (h : -2147483648 ≤ x ∧ x ≤ 2147483647) : op32 md x = .ok x := by
  cases md with
  | wrap => simp only [op32, int32, Except.ok.injEq]; omega
  | strict => simp [op32, inInt, h]

theorem tdiv_le {x a : Int} (hx : 0 ≤ x) (ha : 0 < a) : 0 ≤ Int.tdiv x a ∧ Int.tdiv x a ≤ x := by
  rw [Int.tdiv_eq_ediv_of_nonneg hx]
  exact ⟨Int.ediv_nonneg hx (Int.le_of_lt ha), Int.ediv_le_self a hx⟩

theorem tdiv_mul_bounds {x a : Int} (hx : 0 ≤ x) (ha : 0 < a) :
    0 ≤ Int.tdiv x a * a ∧ x - a < Int.tdiv x a * a ∧ Int.tdiv x a * a ≤ x := by
  have h0 := Int.mul_nonneg (tdiv_le hx ha).1 (Int.le_of_lt ha)
  rw [Int.tdiv_eq_ediv_of_nonneg hx] at h0 ⊢
  have h1 := Int.emod_add_mul_ediv x a
  have h2 := Int.emod_nonneg x (Int.ne_of_gt ha)
  have h3 := Int.emod_lt_of_pos x ha
  rw [Int.mul_comm] at h1
  omega

theorem alignTo_bounds {n a : Int} (hn : 0 ≤ n) (ha : 0 < a) : n ≤ alignTo n a ∧ alignTo n a < n + a := by
  have := tdiv_mul_bounds (show 0 ≤ n + a - 1 by omega) ha
  unfold alignTo; omega

theorem div32_ok {x y : Int} (hy : 0 < y) : div32 x y = .ok (Int.tdiv x y) := by
  unfold div32
  rw [if_neg (by omega), if_neg (by omega)]

theorem mod32_ok {x y : Int} (hy : 0 < y) : mod32 x y = .ok (Int.tmod x y) := by
  unfold mod32
  rw [if_neg (by omega), if_neg (by omega)]

theorem alignTo32_ok (md : IntMode) {n a : Int} (h : 0 < a ∧ 0 < n + a ∧ n + a ≤ 2147483647) :
    alignTo32 md n a = .ok (alignTo n a) := by
  have := tdiv_mul_bounds (show 0 ≤ n + a - 1 by omega) h.1
  simp (disch := omega) only [alignTo32, alignTo, op32_ok, div32_ok, bind, Except.bind]

theorem alignDown32_ok (md : IntMode) {n a : Int} (h : 0 < a ∧ a ≤ 2147483647 ∧ 0 ≤ n ∧ n < 2147483647) :
    alignDown32 md n a = .ok (alignDown n a) := by
  simp (disch := omega) only [alignDown32, alignDown, op32_ok, alignTo32_ok, bind, Except.bind]

/-- As a congruence rule this keeps `simp` out of the continuation of a `>>=` until `Except.ok_bind` has put the value in, so that
    the in-range lemmas are tried only on operations whose operands are known.  A further `int` operation in the model needs its
    `_ok` lemma in the rule set and, in the context first, the bound its side condition asks for. -/
theorem bind_congr_head {ε α β : Type} {a a' : Except ε α} (f : α → Except ε β) (h : a = a') : (a >>= f) = (a' >>= f) := by
  rw [h]

/-- what `struct_members` guarantees about a `Member` as long as no size has wrapped: nothing is negative -/
abbrev Mem.Nonneg (m : Mem) : Prop := 0 ≤ m.size ∧ 0 ≤ m.align ∧ ∀ w, m.bitWidth = some w → 0 ≤ w

section
attribute [local congr] bind_congr_head

/-- One member: `struct_decl` never moves the position backwards, and wherever it places the member in unbounded arithmetic
    the `int` version places it too, provided the new position plus one divisor stays in range.  The in-range lemmas above are
    conditional rewrite rules; their side conditions are linear in the bounds on `align_to` and `/ 8` put into the context first. -/
theorem placeMember32_of (md : IntMode) (packed : Bool) {bits : Int} {m : Mem} {r : Int × Placed}
    (h : placeMember packed bits m = .ok r) (h0 : 0 ≤ bits) (hm : m.Nonneg) :
    bits ≤ r.1 ∧ (r.1 + m.step packed ≤ 2147483647 → placeMember32 md packed bits m = .ok r) := by
  obtain ⟨size, align, bw, named⟩ := m
  obtain ⟨hs, ha, hw⟩ := hm
  simp only [placeMember, alignToE] at h hs ha hw
  simp only [placeMember32, Mem.step, pure, Except.pure]
  cases bw with
  | none =>
    cases packed with
    | true =>
      simp only [if_true, if_neg (show ¬ (8 : Int) = 0 by decide), Except.ok.injEq] at h ⊢
      subst h
      have hal := alignTo_bounds (a := 8) h0 (by omega)
      refine ⟨by omega, fun hb => ?_⟩
      simp (disch := omega) only [op32_ok, div32_ok, ↓Except.ok_bind, alignTo32_ok]
    | false =>
      simp only [Bool.false_eq_true, if_false] at h ⊢
      by_cases hz : align * 8 = 0
      · simp only [hz, if_true] at h; cases h
      · simp only [hz, if_false, Except.ok.injEq] at h
        subst h
        have hal := alignTo_bounds (a := align * 8) h0 (by omega)
        refine ⟨by omega, fun hb => ?_⟩
        simp (disch := omega) only [op32_ok, div32_ok, ↓Except.ok_bind, alignTo32_ok]
  | some w =>
    replace hw := hw w rfl
    simp only at h ⊢
    by_cases hu : size * 8 = 0
    · simp only [hu, if_true, ite_self] at h; cases h
    · have hal := alignTo_bounds (a := size * 8) h0 (by omega)
      have hd := tdiv_le h0 (show (0 : Int) < 8 by decide)
      have hd' := tdiv_le (Int.le_trans h0 hal.1) (show (0 : Int) < 8 by decide)
      by_cases hw0 : w = 0
      · simp only [hw0, hu, if_true, if_false, Except.ok.injEq] at h ⊢
        subst h
        refine ⟨by omega, fun hb => ?_⟩
        simp (disch := omega) only [op32_ok, ↓Except.ok_bind, alignTo32_ok]
      · by_cases hq : Int.tdiv bits (size * 8) = Int.tdiv (bits + w - 1) (size * 8)
        all_goals
          simp only [hw0, hu, hq, ne_eq, not_true_eq_false, not_false_eq_true, if_true, if_false, Except.ok.injEq] at h
          simp only [hw0, if_false]
          subst h
          refine ⟨by omega, fun hb => ?_⟩
          simp (disch := omega) only [hq, ne_eq, not_true_eq_false, not_false_eq_true, ↓reduceIte, op32_ok, div32_ok, ↓Except.ok_bind,
            alignTo32_ok, alignDown32_ok, mod32_ok]

end

/-- all members: the position never decreases, so the bound on the end of the struct covers every member -/
theorem structLoop32_of (md : IntMode) (packed : Bool) (S : Int) : ∀ (ms : List Mem) (bits al : Int) (r : Int × Int × List Placed),
    structLoop packed bits al ms = .ok r → 0 ≤ bits →
    (∀ m ∈ ms, m.Nonneg ∧ m.step packed ≤ S) →
    bits ≤ r.1 ∧ (r.1 + S ≤ 2147483647 → structLoop32 md packed bits al ms = .ok r)
  | [], bits, al, r, h, _, _ => by cases h; exact ⟨Int.le_refl _, fun _ => rfl⟩
  | m :: ms, bits, al, r, h, h0, hm => by
    have hmm := hm m (List.mem_cons_self ..)
    simp only [structLoop, structStep] at h
    cases hp : placeMember packed bits m with
    | error e => rw [hp] at h; cases h
    | ok bp =>
      obtain ⟨b, p⟩ := bp
      have h1 := placeMember32_of md packed hp h0 hmm.1
      rw [hp] at h
      simp only at h
      cases hl : structLoop packed b (stepAlign packed al m) ms with
      | error e => rw [hl] at h; cases h
      | ok r' =>
        obtain ⟨b', a', ps⟩ := r'
        have h2 := structLoop32_of md packed S ms _ _ _ hl (Int.le_trans h0 h1.1) (fun x hx => hm x (List.mem_cons_of_mem _ hx))
        rw [hl] at h
        simp only [Except.ok.injEq] at h
        subst h
        refine ⟨Int.le_trans h1.1 h2.1, fun hb => ?_⟩
        simp only [structLoop32, h1.2 (by have := h2.1; have := hmm.2; omega), bind, Except.bind, h2.2 hb, pure, Except.pure]

theorem toMem_props (packed : Bool) (m : SMem) :
    m.toMem.Nonneg ∧ m.toMem.step packed = ((m.step packed : Nat) : Int) := by
  refine ⟨⟨Int.natCast_nonneg _, Int.natCast_nonneg _, ?_⟩, ?_⟩
  · intro w hw
    unfold SMem.toMem at hw
    cases hm : m.bitWidth with
    | none => rw [hm] at hw; cases hw
    | some v => rw [hm] at hw; cases hw; exact Int.natCast_nonneg _
  · unfold Mem.step SMem.step SMem.toMem
    cases m.bitWidth with
    | some w => exact natCast_mul8 _
    | none => cases packed with
      | true => rfl
      | false => exact natCast_mul8 _

/-- The struct as a whole, read off the unbounded result alone: `ty->size * 8` is the rounded end of the struct (a multiple of 8,
    so `/ 8 * 8` loses nothing), hence a bound on it bounds every position the loop went through. -/
theorem structLayout32_of (md : IntMode) (packed : Bool) {a0 S : Int} {ms : List Mem} {l : Layout}
    (h : structLayout packed a0 ms = .ok l) (hm : ∀ m ∈ ms, m.Nonneg ∧ m.step packed ≤ S)
    (hr : 0 < l.align ∧ l.align * 8 ≤ S ∧ l.size * 8 + S ≤ 2147483647) :
    structLayout32 md packed a0 ms = .ok l := by
  rw [structLayout, structLoop_eq_placeAll] at h
  cases hp : placeAll packed 0 ms with
  | error e => rw [hp] at h; cases h
  | ok r =>
    have hl : structLoop packed 0 a0 ms = .ok (r.1, alignAll packed a0 ms, r.2) := by rw [structLoop_eq_placeAll, hp]; rfl
    obtain ⟨h0, hloop⟩ := structLoop32_of md packed S ms 0 a0 _ hl (Int.le_refl 0) hm
    by_cases hz : alignAll packed a0 ms * 8 = 0
    · simp only [hp, Except.map, alignToE, hz, if_true] at h; cases h
    · simp only [hp, Except.map, alignToE_ok hz, Except.ok.injEq] at h
      subst h
      simp only at hr h0 hloop
      have hal := alignTo_bounds (a := alignAll packed a0 ms * 8) h0 (by omega)
      have h8 : Int.tdiv (alignTo r.1 (alignAll packed a0 ms * 8)) 8 * 8 = alignTo r.1 (alignAll packed a0 ms * 8) := by
        unfold alignTo
        rw [← Int.mul_assoc, Int.mul_tdiv_cancel _ (by decide)]
      simp (disch := omega) only [structLayout32, hloop (by omega), bind, Except.bind, pure, Except.pure, op32_ok, alignTo32_ok, div32_ok]

theorem structLayout32_eq (md : IntMode) (packed : Bool) (aligned : Option Nat) (ms : List SMem) (S : Nat)
    (hal : ∀ n, aligned = some n → 0 < n) (hwf : ∀ m ∈ ms, m.WF)
    (hB : PackedWithBitfield packed ms = false) (hM : PackedWithMemberAlign packed ms = false)
    (hS : ∀ m ∈ ms, m.step packed ≤ S) (hA : 8 * (specStruct packed aligned ms).align ≤ S)
    (hb : 8 * (specStruct packed aligned ms).size + S < 2147483648) :
    structLayout32 md packed ((aligned.getD STRUCT_INIT_ALIGN : Nat) : Int) (ms.map SMem.toMem) =
      .ok (specStruct packed aligned ms).toLayout := by
  have hpos : 0 < (specStruct packed aligned ms).align := aggAlign_pos packed ms (getD_pos hal)
  refine structLayout32_of md packed (S := (S : Int)) (structLayout_eq packed aligned ms hal hwf hB hM) (fun m hm => ?_)
    (by simp only [SLayout.toLayout]; omega)
  obtain ⟨sm, hsm, rfl⟩ := List.mem_map.mp hm
  have hp := toMem_props packed sm
  have := hS sm hsm
  exact ⟨hp.1, by omega⟩

/-- one member of `union_decl`: `(mem->bit_width + 7) / 8` is the only arithmetic -/
theorem unionStep32_eq (md : IntMode) (packed : Bool) (size align : Int) (m : Mem)
    (hw : ∀ w, m.bitWidth = some w → -2147483648 ≤ w + 7 ∧ w + 7 ≤ 2147483647) :
    unionStep32 md packed size align m = .ok (unionStep packed size align m) := by
  cases hb : m.bitWidth with
  | none => simp only [unionStep32, unionStep, hb]; rfl
  | some w =>
    cases hn : m.named with
    | true => simp only [unionStep32, unionStep, hb, hn]; rfl
    | false =>
      simp only [unionStep32, unionStep, hb, hn, op32_ok md (hw w hb), bind, Except.bind,
        div32_ok (show (0 : Int) < 8 by decide), pure, Except.pure]

theorem unionLoop32_eq (md : IntMode) (packed : Bool) : ∀ (ms : List Mem) (size align : Int),
    (∀ m ∈ ms, ∀ w, m.bitWidth = some w → -2147483648 ≤ w + 7 ∧ w + 7 ≤ 2147483647) →
    unionLoop32 md packed size align ms = .ok (unionLoop packed size align ms)
  | [], _, _, _ => rfl
  | m :: ms, size, align, h => by
    simp only [unionLoop32, unionStep32_eq md packed size align m (h m (List.mem_cons_self ..)), bind, Except.bind, unionLoop]
    exact unionLoop32_eq md packed ms _ _ (fun x hx => h x (List.mem_cons_of_mem _ hx))

theorem extentAll_bounds (S : Int) : ∀ (ms : List Mem) (size : Int), 8 * size ≤ S →
    (∀ m ∈ ms, 8 * m.size ≤ S ∧ ∀ w, m.bitWidth = some w → 0 ≤ w + 7 ∧ w + 7 ≤ S) →
    size ≤ ms.foldl (fun s m => max s m.extent) size ∧ 8 * ms.foldl (fun s m => max s m.extent) size ≤ S
  | [], _, h, _ => ⟨Int.le_refl _, h⟩
  | m :: ms, size, h, hm => by
    obtain ⟨h1, h2⟩ := hm m (List.mem_cons_self ..)
    have he : 8 * m.extent ≤ S := by
      unfold Mem.extent
      split
      next w hb _ =>
        have hw := h2 w hb
        have := tdiv_mul_bounds hw.1 (show (0 : Int) < 8 by decide)
        omega
      next => exact h1
    have ih := extentAll_bounds S ms (max size m.extent) (by omega) (fun x hx => hm x (List.mem_cons_of_mem _ hx))
    exact ⟨Int.le_trans (Int.le_max_left ..) ih.1, ih.2⟩

theorem unionLayout32_of (md : IntMode) (packed : Bool) {a0 S : Int} {ms : List Mem} {l : Layout}
    (h : unionLayout packed a0 ms = .ok l)
    (hm : ∀ m ∈ ms, 8 * m.size ≤ S ∧ ∀ w, m.bitWidth = some w → 0 ≤ w + 7 ∧ w + 7 ≤ S)
    (hr : 0 < l.align ∧ 0 ≤ S ∧ S + l.align ≤ 2147483647) :
    unionLayout32 md packed a0 ms = .ok l := by
  have hle := extentAll_bounds S ms ((STRUCT_INIT_SIZE : Nat) : Int) hr.2.1 hm
  have hl := unionLoop_eq_foldl packed ms ((STRUCT_INIT_SIZE : Nat) : Int) a0
  have hz : alignAll packed a0 ms ≠ 0 := by
    intro hz; simp only [unionLayout, hl, alignToE, hz, if_true] at h; cases h
  simp only [unionLayout, hl, alignToE_ok hz, Except.ok.injEq] at h
  subst h
  simp only at hr
  have h0 : (0 : Int) ≤ ((STRUCT_INIT_SIZE : Nat) : Int) := by decide
  simp only [unionLayout32, bind, Except.bind, pure, Except.pure, hl, alignTo32_ok md (n := ms.foldl (fun s m => max s m.extent) ((STRUCT_INIT_SIZE : Nat) : Int)) (a := alignAll packed a0 ms) (by omega),
    unionLoop32_eq md packed ms _ _ (fun m hx w hw => by have := (hm m hx).2 w hw; omega)]

theorem unionLayout32_eq (md : IntMode) (packed : Bool) (aligned : Option Nat) (ms : List SMem) (S : Nat)
    (hal : ∀ n, aligned = some n → 0 < n) (hwf : ∀ m ∈ ms, m.WF)
    (hU : PackedUnionBitfield packed ms = false) (hA : PackedWithMemberAlign packed ms = false)
    (hS : ∀ m ∈ ms, 8 * m.size + 7 ≤ S) (hb : S + (specUnion packed aligned ms).align < 2147483648) :
    unionLayout32 md packed ((aligned.getD STRUCT_INIT_ALIGN : Nat) : Int) (ms.map SMem.toMem) =
      .ok (specUnion packed aligned ms).toLayout := by
  have hpos : 0 < (specUnion packed aligned ms).align := aggAlign_pos packed ms (getD_pos hal)
  refine unionLayout32_of md packed (S := (S : Int)) (unionLayout_eq packed aligned ms hal hwf hU hA) ?_
    (by simp only [SLayout.toLayout]; omega)
  intro m hm
  obtain ⟨sm, hsm, rfl⟩ := List.mem_map.mp hm
  have hwf' := (hwf sm hsm).2
  have := hS sm hsm
  refine ⟨by simp only [SMem.toMem]; omega, fun w hw => ?_⟩
  simp only [SMem.toMem] at hw
  cases hbw : sm.bitWidth with
  | none => rw [hbw] at hw; cases hw
  | some w' =>
    rw [hbw] at hw hwf'
    cases hw
    omega

/-- the bit-field members of a well-formed member list have declared types of at most 8 bytes -/
theorem specMembers_bf_size : ∀ (r : Bool) (ms : Members), ms.ok r = true →
    ∀ m ∈ specMembers ms, m.bitWidth.isSome = true → m.size ≤ 8
  | _, .nil, _ => by intro m hm; simp [specMembers] at hm
  | r, .cons d as ty rest, h => by
    simp only [Members.ok, Bool.and_eq_true] at h
    obtain ⟨⟨⟨hty, hrest⟩, has⟩, hbf⟩ := h
    intro m hm hb
    rw [specMembers_cons] at hm
    rcases List.mem_cons.mp hm with rfl | hm'
    · cases hd : d.bitWidth with
      | none => simp [hd] at hb
      | some w =>
        rw [hd] at hbf
        simp only [Bool.and_eq_true] at hbf
        exact (bitfieldBase_props hbf.1.1.1.1).2.2
    · exact specMembers_bf_size r rest hrest m hm' hb

theorem step_le_struct (p : Bool) (a0 : Nat) (ms : List SMem) (hbf : ∀ m ∈ ms, m.bitWidth.isSome = true → m.size ≤ 8) :
    ∀ m ∈ ms, m.step p ≤ 8 * aggAlign p a0 ms + 64 := by
  intro m hm
  have hc := contrib_le_aggAlign p ms a0 m hm
  unfold SMem.step
  cases hb : m.bitWidth with
  | some w => have := hbf m hm (by simp [hb]); simp only; omega
  | none =>
    simp only
    cases p with
    | true => simp
    | false =>
      simp only [SMem.contrib, hb, SMem.reqAlign, Bool.false_eq_true, if_false] at hc
      simp only [Bool.false_eq_true, if_false]
      omega

theorem sizeAlign32_eq_layout32 (md : IntMode) (t : Ty) :
    t.sizeAlign32 md = t.layout32 md >>= fun l => pure (l.size, l.align) := by
  cases t <;> simp only [Ty.sizeAlign32, Ty.layout32, bind_assoc, pure_bind]
  all_goals rfl

theorem aggregate32_eq {β : Type} (md : IntMode) {al : Option Int} {ms : Members} (hal : alignedOk al = true)
    (hms : ms.toMems32 md = .ok ((specMembers ms).map SMem.toMem)) (k : Int → List Mem → Except TyFail32 β) :
    (liftTy (alignAttr ((STRUCT_INIT_ALIGN : Nat) : Int) al) >>= fun a0 => ms.toMems32 md >>= fun mems => k a0 mems) =
      k (((specAligned al).getD STRUCT_INIT_ALIGN : Nat) : Int) ((specMembers ms).map SMem.toMem) := by
  rw [(aligned_cast hal).1, hms]; rfl

theorem ty32_of_layout32 {md : IntMode} {t : Ty} (h : t.layout32 md = .ok (specTy t).toLayout) :
    t.sizeAlign32 md = .ok (((specSizeAlign t).1 : Nat), ((specSizeAlign t).2 : Nat)) := by
  rw [sizeAlign32_eq_layout32, h]
  cases t <;> first | rfl | (simp only [specTy, specSizeAlign_struct, specSizeAlign_union]; rfl)

mutual
  theorem layout32_eq (md : IntMode) : ∀ (t : Ty), t.ok true = true → t.inRange = true →
      t.layout32 md = .ok (specTy t).toLayout
    | .prim t, _, _ => by
      have := prim_eq t
      simp only [Ty.layout32, Ty.sizeAlign32, specTy, specSizeAlign, this.1, this.2.1]; rfl
    | .enum, _, _ => rfl
    | .ptr, _, _ => rfl
    | .arr e n, h, hr => by
      simp only [Ty.ok, Bool.and_eq_true, decide_eq_true_eq] at h
      simp only [Ty.inRange, Bool.and_eq_true, decide_eq_true_eq] at hr
      have hn : ((n.toNat : Nat) : Int) = n := Int.toNat_of_nonneg h.2
      have e1 : (((specSizeAlign e).1 : Nat) : Int) * n = (((specSizeAlign e).1 * n.toNat : Nat) : Int) := by
        rw [Int.natCast_mul, hn]
      simp only [Ty.layout32, Ty.sizeAlign32, ty32_of_layout32 (layout32_eq md e h.1 hr.1), bind, Except.bind, e1,
        op32_ok md (x := (((specSizeAlign e).1 * n.toNat : Nat) : Int)) (by omega), lift32, pure, Except.pure, specTy, specSizeAlign, SLayout.toLayout, List.map_nil]
    | .flex e, h, hr => by
      simp only [Ty.ok] at h
      simp only [Ty.inRange] at hr
      simp only [Ty.layout32, Ty.sizeAlign32, ty32_of_layout32 (layout32_eq md e h hr), bind, Except.bind, Int.mul_zero,
        op32_ok md (x := 0) (by decide), lift32, pure, Except.pure, specTy, specSizeAlign, SLayout.toLayout, List.map_nil,
        Int.natCast_zero]
    | .struct p al ms, h, hr => by
      simp only [Ty.ok, Bool.not_true, Bool.false_or, Bool.and_eq_true, Bool.not_eq_true'] at h
      obtain ⟨⟨hms, hal⟩, hB, hA⟩ := h
      simp only [Ty.inRange, Bool.and_eq_true, structInRange, decide_eq_true_eq] at hr
      rw [Ty.layout32, aggregate32_eq md hal (ms_eq32 md ms hms hr.1),
        structLayout32_eq md p (specAligned al) (specMembers ms) (8 * (specStruct p (specAligned al) (specMembers ms)).align + 64)
          (aligned_cast hal).2 (ms_eq ms hms).2 hB hA
          (step_le_struct p ((specAligned al).getD 1) (specMembers ms) (specMembers_bf_size true ms hms)) (by omega) hr.2]
      rfl
    | .union p al ms, h, hr => by
      simp only [Ty.ok, Bool.not_true, Bool.false_or, Bool.and_eq_true, Bool.not_eq_true'] at h
      obtain ⟨⟨hms, hal⟩, hU, hA⟩ := h
      simp only [Ty.inRange, Bool.and_eq_true, unionInRange, decide_eq_true_eq, List.all_eq_true] at hr
      rw [Ty.layout32, aggregate32_eq md hal (ms_eq32 md ms hms hr.1),
        unionLayout32_eq md p (specAligned al) (specMembers ms)
          (2147483647 - (specUnion p (specAligned al) (specMembers ms)).align)
          (aligned_cast hal).2 (ms_eq ms hms).2 hU hA
          (fun m hm => by have := hr.2.2 m hm; omega) (by omega)]
      rfl
  theorem as_eq32 (md : IntMode) : ∀ (as : Aligns), as.ok true = true → as.inRange = true → ∀ acc : Int,
      as.eval32 md acc = liftTy (as.eval acc)
    | .nil, _, _, acc => rfl
    | .const n rest, h, hr, acc => by
      simp only [Aligns.ok, Bool.and_eq_true] at h
      simp only [Aligns.inRange] at hr
      simp only [Aligns.eval32, Aligns.eval]
      by_cases hb : alignasConstBad n = true
      · rw [if_pos hb, if_pos hb]; rfl
      · rw [if_neg hb, if_neg hb]; exact as_eq32 md rest h.2 hr _
    | .type t rest, h, hr, acc => by
      simp only [Aligns.ok, Bool.and_eq_true] at h
      simp only [Aligns.inRange, Bool.and_eq_true] at hr
      have i1 := ty32_of_layout32 (layout32_eq md t h.1 hr.1)
      have i0 := ty_eq t h.1
      simp only [Aligns.eval32, Aligns.eval, i1, i0, bind, Except.bind]
      exact as_eq32 md rest h.2 hr.2 _
  theorem ms_eq32 (md : IntMode) : ∀ (ms : Members), ms.ok true = true → ms.inRange = true →
      ms.toMems32 md = .ok ((specMembers ms).map SMem.toMem)
    | .nil, _, _ => rfl
    | .cons d as ty rest, h, hr => by
      have h0 := (ms_eq (.cons d as ty rest) h).1
      simp only [Members.ok, Bool.and_eq_true] at h
      obtain ⟨⟨⟨hty, hrest⟩, has⟩, hbf⟩ := h
      simp only [Members.inRange, Bool.and_eq_true] at hr
      have i1 := ty32_of_layout32 (layout32_eq md ty hty hr.1.2)
      have i0 := ty_eq ty hty
      have ia := as_eq32 md as has hr.1.1 0
      have ia0 := as_eq as has 0
      simp only [Nat.zero_max, Int.natCast_zero] at ia0
      have ir := ms_eq32 md rest hrest hr.2
      have ir0 := (ms_eq rest hrest).1
      rw [ia0] at ia
      have hneg : ¬ ((((specSizeAlign ty).1 : Nat) : Int) < 0) := by omega
      simp only [Members.toMems, ia0, i0, ir0, bind, Except.bind, pure, Except.pure] at h0
      simp only [Members.toMems32, ia, liftTy, i1, ir, bind, Except.bind, pure, Except.pure, hneg, decide_false, Bool.and_false,
        Bool.false_eq_true, if_false]
      split
      · rename_i hg; rw [if_pos hg] at h0; cases h0
      · rename_i hg; rw [if_neg hg] at h0; rw [Except.ok.injEq] at h0 ⊢; exact h0
end

end ChibiVerif.Layout
