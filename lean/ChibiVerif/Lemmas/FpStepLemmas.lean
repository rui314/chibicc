/-
Running the `setcc` tails of Model/FpCodegen on Model/FpMachine by rewriting.  `Fp.step` and `X86.decode` dispatch on
mnemonic strings, and evaluating `step` on an instruction of the integer machine decides about a hundred string equations.
The tails are run for every operator, relation and truth test, so here
`step` is shown once to hand every mnemonic it does not interpret to the integer machine (`step_lift`; the rules `step_*`
of the tails are its instances; `straight_*` say which mnemonics are neither label nor jump), each of their instructions is
decoded once (`decode_*`, closed terms: kernel evaluation), and `runFrom_cons` peels one instruction off a list.
`simp only [fp_step]` then runs such a list on a symbolic state without evaluating a string comparison again, and turns
`∃ s', run … = some s' ∧ P s'` into `P` of the final state.
Also the sequencing of runs (`runFrom_step`, `runFrom_jcc`, `run_append`), and what the cell proofs need of the byte memory
beyond Lemmas/X86MemLemmas: the simp set `mem_norm` (reads and writes at different constant offsets from one base, unfolded
to bytes and decided on the offsets) and the halves of a word put together again (`split_append`).
-/
import ChibiVerif.Lemmas.FpStepAttr
import ChibiVerif.Model.FpMachine
import ChibiVerif.Lemmas.X86StateLemmas
import ChibiVerif.Lemmas.BitVecLemmas

namespace ChibiVerif.X86
open ChibiVerif.Asm

theorem State.mem_write8 (s : State) (a x : BitVec 64) (v : BitVec 8) :
    (s.write8 a v).mem x = if x = a then v else s.mem x := rfl

attribute [mem_norm] State.read8 State.read16 State.read32 State.read64 State.writeW State.write16 State.write32 State.write64
  State.mem_write8 State.mem_set BitVec.add_assoc BitVec.add_right_inj BitVec.add_right_eq_self BitVec.self_eq_add_right
  if_true if_false ite_true ite_false BitVec.ofNat_eq_ofNat
attribute [mem_norm_proc] BitVec.reduceOfInt BitVec.reduceAdd BitVec.reduceEq

theorem split_append (n m : Nat) (v : BitVec (n + m)) : (v >>> m).setWidth n ++ v.setWidth m = v := by
  apply BitVec.eq_of_getLsbD_eq
  intro i hi
  simp only [BitVec.getLsbD_append, BitVec.getLsbD_setWidth, BitVec.getLsbD_ushiftRight]
  by_cases h : i < m
  · simp [h]
  · have : m + (i - m) = i := by omega
    simp [h, this]; omega

theorem split16 (v : BitVec 16) : (v >>> 8).setWidth 8 ++ v.setWidth 8 = v := split_append 8 8 v
theorem split32 (v : BitVec 32) : (v >>> 16).setWidth 16 ++ v.setWidth 16 = v := split_append 16 16 v
theorem split64 (v : BitVec 64) : (v >>> 32).setWidth 32 ++ v.setWidth 32 = v := split_append 32 32 v
theorem split80 (v : BitVec 80) : (v >>> 64).setWidth 16 ++ v.setWidth 64 = v := split_append 16 64 v

theorem State.mem_write8_off (s : State) (p c1 c2 : BitVec 64) (v : BitVec 8) (h : (c2 != c1) = true) :
    (s.write8 (p + c1) v).mem (p + c2) = s.mem (p + c2) := by
  simp only [bne_iff_ne, ne_eq] at h
  simp [State.mem_write8, BitVec.add_right_inj, h]

-- lemmas of Lemmas/X86StateLemmas used as rewrite rules of the set: a change of one of their statements changes the normal form
-- every proof by `simp only [fp_step]` works with
attribute [fp_step] State.flagsValid_setW State.cond_set State.cond_setW State.cond_e_flags State.cond_ne_flags State.zf_setW State.zf_flags State.flagsValid_flags State.getW_setW_same
  State.get_setW_ne State.getW_setW_ne State.get_setW64 State.get_setW32 State.getW_flags step_decode exec_movzx exec_alu_reg exec_setcc

@[fp_step] theorem decode_sete_al : decode ⟨"sete", [.r "%al"]⟩ = some (.setcc .e .rax) := by decide +kernel
@[fp_step] theorem decode_setne_al : decode ⟨"setne", [.r "%al"]⟩ = some (.setcc .ne .rax) := by decide +kernel
@[fp_step] theorem decode_seta_al : decode ⟨"seta", [.r "%al"]⟩ = some (.setcc .a .rax) := by decide +kernel
@[fp_step] theorem decode_setae_al : decode ⟨"setae", [.r "%al"]⟩ = some (.setcc .ae .rax) := by decide +kernel
@[fp_step] theorem decode_setnp_dl : decode ⟨"setnp", [.r "%dl"]⟩ = some (.setcc .np .rdx) := by decide +kernel
@[fp_step] theorem decode_setp_dl : decode ⟨"setp", [.r "%dl"]⟩ = some (.setcc .p .rdx) := by decide +kernel
@[fp_step] theorem decode_and_dl_al : decode ⟨"and", [.r "%dl", .r "%al"]⟩ = some (.alu .and .w8 (.reg .rdx) (.reg .rax)) := by
  decide +kernel
@[fp_step] theorem decode_or_dl_al : decode ⟨"or", [.r "%dl", .r "%al"]⟩ = some (.alu .or .w8 (.reg .rdx) (.reg .rax)) := by
  decide +kernel
@[fp_step] theorem decode_and_1_al : decode ⟨"and", [.i 1, .r "%al"]⟩ = some (.alu .and .w8 (.imm 1) (.reg .rax)) := by
  decide +kernel
@[fp_step] theorem decode_xor_1_al : decode ⟨"xor", [.i 1, .r "%al"]⟩ = some (.alu .xor .w8 (.imm 1) (.reg .rax)) := by
  decide +kernel
@[fp_step] theorem decode_movzb_al_rax : decode ⟨"movzb", [.r "%al", .r "%rax"]⟩ = some (.movzx .w8 .w64 (.reg .rax) .rax) := by
  decide +kernel
@[fp_step] theorem decode_movzx_al_rax : decode ⟨"movzx", [.r "%al", .r "%rax"]⟩ = some (.movzx .w8 .w64 (.reg .rax) .rax) := by
  decide +kernel
@[fp_step] theorem decode_movzx_al_eax : decode ⟨"movzx", [.r "%al", .r "%eax"]⟩ = some (.movzx .w8 .w32 (.reg .rax) .rax) := by
  decide +kernel

attribute [fp_step] State.dst State.src Alu.writes aluExec State.get_set_same State.get_set_ne State.get_flags W.bits

end ChibiVerif.X86

namespace ChibiVerif.Fp
open ChibiVerif.Asm ChibiVerif.X86 ChibiVerif.Spec.Fpu

theorem setLow32_low (x : BitVec 64) (v : BitVec 32) : (setLow32 x v).setWidth 32 = v :=
  BitVec.setWidth_ofNat_low (n := 64) (m := 32) (by decide) (x.toNat / 4294967296) v

@[fp_step] theorem FState.flagsValid_setRel (s : FState) (r : Rel) : (s.setRel r).x.flagsValid = true := rfl
@[fp_step] theorem FState.cond_e_setRel (s : FState) (r : Rel) : (s.setRel r).x.cond .e = r.flags.1 := rfl
@[fp_step] theorem FState.cond_ne_setRel (s : FState) (r : Rel) : (s.setRel r).x.cond .ne = !r.flags.1 := rfl
@[fp_step] theorem FState.cond_p_setRel (s : FState) (r : Rel) : (s.setRel r).x.cond .p = r.flags.2.1 := rfl
@[fp_step] theorem FState.cond_np_setRel (s : FState) (r : Rel) : (s.setRel r).x.cond .np = !r.flags.2.1 := rfl
@[fp_step] theorem FState.cond_a_setRel (s : FState) (r : Rel) :
    (s.setRel r).x.cond .a = (!r.flags.2.2 && !r.flags.1) := rfl
@[fp_step] theorem FState.cond_ae_setRel (s : FState) (r : Rel) : (s.setRel r).x.cond .ae = !r.flags.2.2 := rfl
@[fp_step] theorem FState.st_setRel (s : FState) (r : Rel) : (s.setRel r).st = s.st := rfl
@[fp_step] theorem FState.cw_setRel (s : FState) (r : Rel) : (s.setRel r).cw = s.cw := rfl
@[fp_step] theorem FState.xmm0_setRel (s : FState) (r : Rel) : (s.setRel r).xmm0 = s.xmm0 := rfl
@[fp_step] theorem FState.xmm1_setRel (s : FState) (r : Rel) : (s.setRel r).xmm1 = s.xmm1 := rfl
@[fp_step] theorem FState.get_setRel (s : FState) (r : Rel) (g : Reg) : (s.setRel r).x.get g = s.x.get g := rfl

/-- the last alternative of `step`: the integer machine runs the instruction -/
def liftX (s : FState) (o : Option State) : Option FState := o.map fun x' => { s with x := x' }

@[fp_step] theorem liftX_some (s : FState) (x : State) : liftX s (some x) = some { s with x := x } := rfl

/-- the mnemonics `Fp.step` interprets itself, for some operand shapes at least (`mov`, `movq`, `or` also reach the integer
    machine in other shapes: `step_or_reg`); kept equal by hand to the strings matched in Model/FpMachine `step`.  `step_lift`
    checks one direction (a string missing here makes its proof fail at `rfl`) and unfolds the matcher under its generated
    name `step.match_8`, which moves when `step` gains or loses an alternative: then this list and that name have to follow -/
def fpMnemonics : List String :=
  ["cvtsi2ssl", "cvtsi2ssq", "cvtsi2sdl", "cvtsi2sdq", "cvtsi2sd", "cvtsi2ss", "cvttss2sil", "cvttss2siq", "cvttsd2sil",
   "cvttsd2siq", "cvtss2sd", "cvtsd2ss", "movq", "movd", "mov", "movss", "movsd", "pxor", "xorps", "xorpd", "addss", "subss",
   "mulss", "divss", "addsd", "subsd", "mulsd", "divsd", "ucomiss", "ucomisd", "comiss", "comisd", "flds", "fldl", "fldt",
   "fildl", "fildll", "fildq", "fldz", "fstps", "fstpl", "fstpt", "fistps", "fistpl", "fistpq", "fstp", "fxch", "fnstcw", "fldcw",
   "fadds", "faddp", "fsubrp", "fmulp", "fdivrp", "fsub", "fchs", "fcomi", "fcomip", "fucomip", "or", "btc", "shr"]

theorem step_lift (F : FpuSpec) (op : String) (a : List Opd) (s : FState) (h : op ∉ fpMnemonics) :
    step F ⟨op, a⟩ s = liftX s (X86.step ⟨op, a⟩ s.x) := by
  simp only [fpMnemonics, List.mem_cons, List.not_mem_nil, or_false, not_or] at h
  -- `split` does not get through the match of `step` (its splitter is not generated within the default limit), so the matcher
  -- is unfolded under its generated name: a chain of `if op = "…"`, which `simp` walks with the disequalities
  unfold step step.match_8
  simp only [h, ↓reduceDIte]
  rfl

@[fp_step] theorem step_sete (F : FpuSpec) (a : List Opd) (s : FState) :
    step F ⟨"sete", a⟩ s = liftX s (X86.step ⟨"sete", a⟩ s.x) := step_lift F _ a s (by simp [fpMnemonics])
@[fp_step] theorem step_setne (F : FpuSpec) (a : List Opd) (s : FState) :
    step F ⟨"setne", a⟩ s = liftX s (X86.step ⟨"setne", a⟩ s.x) := step_lift F _ a s (by simp [fpMnemonics])
@[fp_step] theorem step_seta (F : FpuSpec) (a : List Opd) (s : FState) :
    step F ⟨"seta", a⟩ s = liftX s (X86.step ⟨"seta", a⟩ s.x) := step_lift F _ a s (by simp [fpMnemonics])
@[fp_step] theorem step_setae (F : FpuSpec) (a : List Opd) (s : FState) :
    step F ⟨"setae", a⟩ s = liftX s (X86.step ⟨"setae", a⟩ s.x) := step_lift F _ a s (by simp [fpMnemonics])
@[fp_step] theorem step_setnp (F : FpuSpec) (a : List Opd) (s : FState) :
    step F ⟨"setnp", a⟩ s = liftX s (X86.step ⟨"setnp", a⟩ s.x) := step_lift F _ a s (by simp [fpMnemonics])
@[fp_step] theorem step_setp (F : FpuSpec) (a : List Opd) (s : FState) :
    step F ⟨"setp", a⟩ s = liftX s (X86.step ⟨"setp", a⟩ s.x) := step_lift F _ a s (by simp [fpMnemonics])
@[fp_step] theorem step_and (F : FpuSpec) (a : List Opd) (s : FState) :
    step F ⟨"and", a⟩ s = liftX s (X86.step ⟨"and", a⟩ s.x) := step_lift F _ a s (by simp [fpMnemonics])
@[fp_step] theorem step_xor (F : FpuSpec) (a : List Opd) (s : FState) :
    step F ⟨"xor", a⟩ s = liftX s (X86.step ⟨"xor", a⟩ s.x) := step_lift F _ a s (by simp [fpMnemonics])
@[fp_step] theorem step_movzb (F : FpuSpec) (a : List Opd) (s : FState) :
    step F ⟨"movzb", a⟩ s = liftX s (X86.step ⟨"movzb", a⟩ s.x) := step_lift F _ a s (by simp [fpMnemonics])
@[fp_step] theorem step_movzx (F : FpuSpec) (a : List Opd) (s : FState) :
    step F ⟨"movzx", a⟩ s = liftX s (X86.step ⟨"movzx", a⟩ s.x) := step_lift F _ a s (by simp [fpMnemonics])
/-- `or` with a register source (`step` itself takes `or $n, %ah`) -/
@[fp_step] theorem step_or_reg (F : FpuSpec) (r : String) (b : List Opd) (s : FState) :
    step F ⟨"or", .r r :: b⟩ s = liftX s (X86.step ⟨"or", .r r :: b⟩ s.x) := by rfl

/-- neither a local label nor one of the jumps `jumpOf` knows (`js`/`jns`, `jae`, `jmp` of the branchy cast cells; `je`/`jne` of
    the truth tests) -/
def straightB (i : Ins) : Bool :=
  !isLabel i && !(i.op == "jmp" || i.op == "js" || i.op == "jns" || i.op == "je" || i.op == "jne" || i.op == "jae")

theorem jumpOf_straight (i : Ins) (h : straightB i = true) (s : FState) : jumpOf i s = none := by
  simp only [straightB, Bool.and_eq_true, Bool.not_eq_true', Bool.or_eq_false_iff, beq_eq_false_iff_ne, ne_eq] at h
  obtain ⟨_, ⟨⟨⟨⟨h1, h2⟩, h3⟩, h4⟩, h5⟩, h6⟩ := h
  unfold jumpOf
  split <;> simp_all

@[fp_step] theorem straight_and (a : List Opd) : straightB ⟨"and", a⟩ = true := by simp [straightB, isLabel]
@[fp_step] theorem straight_movzb (a : List Opd) : straightB ⟨"movzb", a⟩ = true := by simp [straightB, isLabel]
@[fp_step] theorem straight_movzx (a : List Opd) : straightB ⟨"movzx", a⟩ = true := by simp [straightB, isLabel]
@[fp_step] theorem straight_or (a : List Opd) : straightB ⟨"or", a⟩ = true := by simp [straightB, isLabel]
@[fp_step] theorem straight_seta (a : List Opd) : straightB ⟨"seta", a⟩ = true := by simp [straightB, isLabel]
@[fp_step] theorem straight_setae (a : List Opd) : straightB ⟨"setae", a⟩ = true := by simp [straightB, isLabel]
@[fp_step] theorem straight_sete (a : List Opd) : straightB ⟨"sete", a⟩ = true := by simp [straightB, isLabel]
@[fp_step] theorem straight_setne (a : List Opd) : straightB ⟨"setne", a⟩ = true := by simp [straightB, isLabel]
@[fp_step] theorem straight_setnp (a : List Opd) : straightB ⟨"setnp", a⟩ = true := by simp [straightB, isLabel]
@[fp_step] theorem straight_setp (a : List Opd) : straightB ⟨"setp", a⟩ = true := by simp [straightB, isLabel]
@[fp_step] theorem straight_xor (a : List Opd) : straightB ⟨"xor", a⟩ = true := by simp [straightB, isLabel]

@[fp_step] theorem runFrom_cons (F : FpuSpec) (i : Ins) (is : List Ins) (s : FState) (h : straightB i = true) :
    runFrom F (i :: is) none s = (step F i s).bind (runFrom F is none) := by
  have hl : isLabel i = false := by
    simp only [straightB, Bool.and_eq_true, Bool.not_eq_true'] at h; exact h.1
  simp only [runFrom, hl, Bool.false_eq_true, if_false, jumpOf_straight i h s]
  cases step F i s <;> rfl

@[fp_step] theorem runFrom_nil (F : FpuSpec) (s : FState) : runFrom F [] none s = some s := rfl

theorem runFrom_step (F : FpuSpec) (i : Ins) (is : List Ins) (s s' : FState)
    (hl : isLabel i = false) (hj : jumpOf i s = none) (hs : step F i s = some s') :
    runFrom F (i :: is) none s = runFrom F is none s' := by
  simp [runFrom, hl, hj, hs]

theorem runFrom_jcc (F : FpuSpec) (i : Ins) (is : List Ins) (s : FState) (needs taken : Bool) (l t : String)
    (hl : isLabel i = false) (hj : jumpOf i s = some (needs, taken, l)) (hv : needs = true → s.x.flagsValid = true)
    (ht : labelOfRef l = some t) :
    runFrom F (i :: is) none s = if taken then runFrom F is (some t) s else runFrom F is none s := by
  cases needs <;> cases taken <;> simp_all [runFrom]

theorem runFrom_append_done (F : FpuSpec) (a b : List Ins) :
    ∀ (sk : Option String) (s s1 : FState), runFrom F a sk s = some s1 → runFrom F (a ++ b) sk s = runFrom F b none s1 := by
  induction a with
  | nil =>
    intro sk s s1 h
    cases sk with
    | none => simp only [runFrom, Option.some.injEq] at h; subst h; rfl
    | some l => simp [runFrom] at h
  | cons i is ih =>
    intro sk s s1 h
    cases sk with
    | some l =>
      simp only [List.cons_append, runFrom] at h ⊢
      split
      · rename_i hc; rw [if_pos hc] at h; exact ih _ _ _ h
      · rename_i hc; rw [if_neg hc] at h; exact ih _ _ _ h
    | none =>
      simp only [List.cons_append, runFrom] at h ⊢
      split
      · rename_i hc; rw [if_pos hc] at h; exact ih _ _ _ h
      · rename_i hc
        rw [if_neg hc] at h
        cases hj : jumpOf i s with
        | some j =>
          obtain ⟨nf, tk, l⟩ := j
          simp only [hj] at h ⊢
          split
          · rename_i hf; rw [if_pos hf] at h; exact absurd h (by simp)
          · rename_i hf
            rw [if_neg hf] at h
            cases tk with
            | true =>
              simp only [if_true] at h ⊢
              cases hl : labelOfRef l with
              | none => simp [hl] at h
              | some t => simp only [hl] at h ⊢; exact ih _ _ _ h
            | false =>
              simp only [Bool.false_eq_true, if_false] at h ⊢
              exact ih _ _ _ h
        | none =>
          simp only [hj] at h ⊢
          cases hs : step F i s with
          | none => simp [hs] at h
          | some s' => simp only [hs] at h ⊢; exact ih _ _ _ h

/-- a completed run has no jump in flight, so the local labels of `b` cannot capture a jump of `a` -/
theorem run_append (F : FpuSpec) (a b : List Ins) (s s1 : FState) (h : run F a s = some s1) :
    run F (a ++ b) s = run F b s1 :=
  runFrom_append_done F a b none s s1 h

theorem jumpOf_je (l : String) (s : FState) : jumpOf ⟨"je", [.s l]⟩ s = some (true, s.x.zf, l) := by rfl
theorem jumpOf_jne (l : String) (s : FState) : jumpOf ⟨"jne", [.s l]⟩ s = some (true, !s.x.zf, l) := by rfl

attribute [fp_step] run Option.bind_some if_true ne_eq reduceCtorEq not_false_eq_true Bool.false_eq_true Bool.not_false
  Bool.not_true and_self and_true Option.some.injEq exists_eq_left'

end ChibiVerif.Fp
