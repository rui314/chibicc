/-
C16: parse.c `declarator` on tokens (Model/C16Declr.lean) computes `Declr.apply` (Model/C16Qual.lean), which is the
C11 6.7.6 meaning of the declarator (`C16QualSpec.declType`): for every declarator tree that is `valid` (no `D(void)`
directly followed by `[n]` or `(void)`), on the tokens the C grammar gives it, followed by anything that does not continue a direct declarator.
-/
import ChibiVerif.Model.C16Declr

namespace ChibiVerif.C16Declr
open ChibiVerif.C16Qual

/-- the rest does not start with `(` or `[` (which `type_suffix` would take for a continuation) -/
def endsDeclr : List DTok → Bool
  | .lp :: _ => false
  | .lb :: _ => false
  | _ => true

/-- the rest does not start with `*` -/
def notStar : List DTok → Bool
  | .star :: _ => false
  | _ => true

theorem typeSuffixT_end {rest : List DTok} (h : endsDeclr rest = true) (ty : Ty) (f : Nat) :
    typeSuffixT (f + 1) rest ty = some (ty, rest) := by
  cases rest with
  | nil => rfl
  | cons t r => cases t <;> simp [endsDeclr] at h <;> rfl

/-- a suffix continuation: tokens `sfx` (a sequence of `[n]` / `(void)`) with meaning `g`, followed by `rest` -/
def SfxOK (F : Nat) (sfx : List DTok) (g : Ty → Ty) (rest : List DTok) : Prop :=
  ∀ ty fuel, F ≤ fuel → typeSuffixT fuel (sfx ++ rest) ty = some (g ty, rest)

theorem SfxOK.nil {rest : List DTok} (h : endsDeclr rest = true) : SfxOK 1 [] id rest := by
  intro ty fuel hf
  obtain ⟨f, rfl⟩ : ∃ f, fuel = f + 1 := ⟨fuel - 1, by omega⟩
  simpa using typeSuffixT_end h ty f

theorem SfxOK.arr {F : Nat} {sfx : List DTok} {g : Ty → Ty} {rest : List DTok} (h : SfxOK F sfx g rest) (n : Nat) :
    SfxOK (F + 1) (.lb :: .num n :: .rb :: sfx) (fun t => arrayOf (g t) n) rest := by
  intro ty fuel hf
  obtain ⟨f, rfl⟩ : ∃ f, fuel = f + 1 := ⟨fuel - 1, by omega⟩
  simp [typeSuffixT, h ty f (by omega)]

theorem SfxOK.fn (Fs : Nat) (rest : List DTok) : SfxOK (Fs + 1) [.lp, .void_, .rp] funcType rest := by
  intro ty fuel hf
  obtain ⟨f, rfl⟩ : ∃ f, fuel = f + 1 := ⟨fuel - 1, by omega⟩
  simp [typeSuffixT, funcParamsT]

def isFn : Declr → Bool
  | .fn _ => true
  | _ => false

/-- a pointer declarator `* quals D`: as a direct declarator it needs parentheses -/
def isPtr : Declr → Bool
  | .ptr _ _ => true
  | _ => false

/-- C11 6.7.6.3p1: no function returning a function or an array (`D(void)[n]`, `D(void)(void)`; with parentheses in
    between - `(D(void))[n]` - chibicc parses what the grammar says, so only the direct adjacency is excluded) -/
def valid : Declr → Bool
  | .name => true
  | .ptr d _ => valid d
  | .paren d => valid d
  | .arr d _ => valid d && !isFn d
  | .fn d => valid d && !isFn d

/-- the rest does not start with a qualifier, so the qualifier loop of `pointers` stops there -/
def noQual : List DTok → Bool
  | .qual _ :: _ => false
  | _ => true

theorem qualsT_quals (qs : List PQual) (ts : List DTok) (ty : Ty) :
    qualsT (qs.map .qual ++ ts) ty = qualsT ts (applyQuals qs ty) := by
  induction qs generalizing ty with
  | nil => rfl
  | cons q qs ih => simp [qualsT, applyQuals, ih]

/-- where no qualifier follows, leaving the qualifier loop is `pointers` from its beginning -/
theorem qualsT_noQual {ts : List DTok} (h : noQual ts = true) (ty : Ty) : qualsT ts ty = pointersT ts ty := by
  cases ts with
  | nil => rfl
  | cons t r => cases t <;> simp [noQual] at h <;> rfl

theorem pointersT_star (qs : List PQual) {ts : List DTok} (h : noQual ts = true) (ty : Ty) :
    pointersT (.star :: (qs.map .qual ++ ts)) ty = pointersT ts (applyQuals qs (pointerTo ty)) := by
  show qualsT (qs.map .qual ++ ts) (pointerTo ty) = _
  rw [qualsT_quals, qualsT_noQual h]

theorem declaratorT_star (f : Nat) (qs : List PQual) {ts : List DTok} (h : noQual ts = true) (ty : Ty) :
    declaratorT (f + 1) (.star :: (qs.map .qual ++ ts)) ty = declaratorT (f + 1) ts (applyQuals qs (pointerTo ty)) := by
  simp only [declaratorT]
  rw [pointersT_star qs h]

theorem noQual_toks (d : Declr) : ∀ rest : List DTok, noQual (toks d ++ rest) = true := by
  induction d with
  | name => intro rest; rfl
  | ptr d qs _ => intro rest; rfl
  | paren d _ => intro rest; rfl
  | arr d n ih =>
    intro rest
    cases d with
    | ptr d' qs' => rfl
    | _ => all_goals (simp only [toks, List.append_assoc] at ih ⊢; exact ih _)
  | fn d ih =>
    intro rest
    cases d with
    | ptr d' qs' => rfl
    | _ => all_goals (simp only [toks, List.append_assoc] at ih ⊢; exact ih _)

theorem declaratorT_ident (f : Nat) (after : List DTok) (ty : Ty) :
    declaratorT (f + 1) (.ident :: after) ty = typeSuffixT f after ty := by
  simp [declaratorT, pointersT]

theorem declaratorT_lp (f : Nat) (inner after rest r3 : List DTok) (ty t1 ty2 ty3 : Ty)
    (h1 : declaratorT f inner dummy = some (t1, .rp :: after))
    (h2 : typeSuffixT f after ty = some (ty2, rest))
    (h3 : declaratorT f inner ty2 = some (ty3, r3)) :
    declaratorT (f + 1) (.lp :: inner) ty = some (ty3, rest) := by
  simp [declaratorT, pointersT, h1, h2, h3]

/-- the whole declarator, followed by something that ends it -/
def A (d : Declr) : Prop :=
  ∃ F, ∀ ty rest fuel, endsDeclr rest = true → F ≤ fuel →
    declaratorT fuel (toks d ++ rest) ty = some (d.apply ty, rest)

/-- a direct declarator, followed by further suffixes `sfx` (meaning `g`) -/
def B (d : Declr) : Prop :=
  ∃ F, ∀ sfx g rest Fs, SfxOK Fs sfx g rest → (isFn d = true → sfx = [] ∧ g = id) →
    ∀ ty fuel, F + Fs ≤ fuel → declaratorT fuel (toks d ++ (sfx ++ rest)) ty = some (d.apply (g ty), rest)

theorem A_of_B {d : Declr} (hB : B d) : A d := by
  obtain ⟨F, h⟩ := hB
  refine ⟨F + 1, ?_⟩
  intro ty rest fuel hr hf
  have := h [] id rest 1 (SfxOK.nil hr) (fun _ => ⟨rfl, rfl⟩) ty fuel (by omega)
  simpa using this

theorem B_name : B .name := by
  refine ⟨1, ?_⟩
  intro sfx g rest Fs hs _ ty fuel hf
  obtain ⟨f, rfl⟩ : ∃ f, fuel = f + 1 := ⟨fuel - 1, by omega⟩
  simp only [toks, List.cons_append, List.nil_append, declaratorT_ident]
  simpa [Declr.apply] using hs ty f (by omega)

theorem B_paren {d : Declr} (hA : A d) : B (.paren d) := by
  obtain ⟨F, h⟩ := hA
  refine ⟨F + 1, ?_⟩
  intro sfx g rest Fs hs _ ty fuel hf
  obtain ⟨f, rfl⟩ : ∃ f, fuel = f + 1 := ⟨fuel - 1, by omega⟩
  have e1 : toks (.paren d) ++ (sfx ++ rest) = .lp :: (toks d ++ (.rp :: (sfx ++ rest))) := by simp [toks]
  rw [e1]
  have h1 := h dummy (.rp :: (sfx ++ rest)) f rfl (by omega)
  have h2 := hs ty f (by omega)
  have h3 := h (g ty) (.rp :: (sfx ++ rest)) f rfl (by omega)
  rw [declaratorT_lp f _ _ _ _ ty _ _ _ h1 h2 h3]
  simp [Declr.apply]

/-- the direct declarator in front of a suffix: `d` itself, or `( d )` when `d` is a pointer declarator -/
def directToks (d : Declr) : List DTok :=
  match d with
  | .ptr _ _ => .lp :: toks d ++ [.rp]
  | _ => toks d

theorem toks_arr (d : Declr) (n : Nat) : toks (.arr d n) = directToks d ++ [.lb, .num n, .rb] := by
  cases d <;> rfl

theorem toks_fn (d : Declr) : toks (.fn d) = directToks d ++ [.lp, .void_, .rp] := by
  cases d <;> rfl

/-- `B` for the direct declarator in front of a suffix, from `A d` (pointer declarator, parenthesised) or `B d` -/
theorem B_direct {d : Declr} (hA : A d) (hB : isPtr d = false → B d) :
    ∃ F, ∀ sfx g rest Fs, SfxOK Fs sfx g rest → (isFn d = true → sfx = [] ∧ g = id) →
      ∀ ty fuel, F + Fs ≤ fuel → declaratorT fuel (directToks d ++ (sfx ++ rest)) ty = some (d.apply (g ty), rest) := by
  cases hp : isPtr d
  · obtain ⟨F, h⟩ := hB hp
    refine ⟨F, ?_⟩
    intro sfx g rest Fs hs hfn ty fuel hf
    have : directToks d = toks d := by cases d <;> simp [isPtr] at hp <;> rfl
    rw [this]
    exact h sfx g rest Fs hs hfn ty fuel hf
  · obtain ⟨F, h⟩ := B_paren hA
    refine ⟨F, ?_⟩
    intro sfx g rest Fs hs _ ty fuel hf
    have e : directToks d = toks (.paren d) := by cases d <;> simp [isPtr] at hp <;> rfl
    rw [e]
    have := h sfx g rest Fs hs (fun hc => by simp [isFn] at hc) ty fuel hf
    simpa [Declr.apply] using this

/-- parse.c `declarator` computes the C11 meaning of every valid declarator -/
theorem AB : ∀ d : Declr, valid d = true → A d ∧ (isPtr d = false → B d)
  | .name, _ => ⟨A_of_B B_name, fun _ => B_name⟩
  | .paren d, hv => by
    have ih := AB d (by simpa [valid] using hv)
    have hb := B_paren ih.1
    exact ⟨A_of_B hb, fun _ => hb⟩
  | .ptr d qs, hv => by
    have ih := AB d (by simpa [valid] using hv)
    obtain ⟨F, h⟩ := ih.1
    refine ⟨⟨F + 1, ?_⟩, fun hc => by simp [isPtr] at hc⟩
    intro ty rest fuel hr hf
    obtain ⟨f, rfl⟩ : ∃ f, fuel = f + 1 := ⟨fuel - 1, by omega⟩
    simp only [toks, List.cons_append, List.append_assoc]
    rw [declaratorT_star f qs (noQual_toks d rest)]
    simpa [Declr.apply] using h (applyQuals qs (pointerTo ty)) rest (f + 1) hr (by omega)
  | .arr d n, hv => by
    simp [valid] at hv
    have ih := AB d hv.1
    obtain ⟨F, h⟩ := B_direct ih.1 ih.2
    have hb : B (.arr d n) := by
      refine ⟨F + 1, ?_⟩
      intro sfx g rest Fs hs _ ty fuel hf
      rw [toks_arr, List.append_assoc]
      have := h (.lb :: .num n :: .rb :: sfx) (fun t => arrayOf (g t) n) rest (Fs + 1) (hs.arr n)
        (fun hc => by simp [hv.2] at hc) ty fuel (by omega)
      simpa [Declr.apply] using this
    exact ⟨A_of_B hb, fun _ => hb⟩
  | .fn d, hv => by
    simp [valid] at hv
    have ih := AB d hv.1
    obtain ⟨F, h⟩ := B_direct ih.1 ih.2
    have hb : B (.fn d) := by
      refine ⟨F + 1, ?_⟩
      intro sfx g rest Fs hs hfn ty fuel hf
      obtain ⟨rfl, rfl⟩ := hfn rfl
      rw [toks_fn, List.append_assoc]
      have := h [.lp, .void_, .rp] funcType rest (Fs + 1) (SfxOK.fn Fs rest)
        (fun hc => by simp [hv.2] at hc) ty fuel (by omega)
      simpa [Declr.apply] using this
    exact ⟨A_of_B hb, fun _ => hb⟩

end ChibiVerif.C16Declr
