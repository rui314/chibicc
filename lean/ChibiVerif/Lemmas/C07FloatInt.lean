/- The floating Spec / elaboration (Spec/ConstFSpec.lean, Model/ConstElabF.lean) extend the integer ones
   (Spec/ConstSpec.lean, Model/ConstElab.lean): on an integer constant expression they are the same tree and the same value. -/
import ChibiVerif.Lemmas.C07FloatLemmas

namespace ChibiVerif.C07Float
open ChibiVerif.Host ChibiVerif.Gen.ConstEval ChibiVerif.Spec.ConstF ChibiVerif.Spec.Fpu
open ChibiVerif.Spec.Const hiding typeOf eval
open ChibiVerif.ConstElab ChibiVerif.ConstEvalLemmas

theorem typeOf_ofC (c : CExpr) : typeOf (ofC c) = .int (Spec.Const.typeOf c) := by
  induction c with
  | un op e ih => rw [ofC, typeOf_un_int ih, typeOf_un]
  | bin op a b iha ihb => rw [ofC, typeOf_bin_int iha ihb, typeOf_bin]
  | cond c a b _ iha ihb => simp only [ofC, typeOf, Spec.Const.typeOf, iha, ihb, usual]
  | _ => rfl

theorem elabA_ofC (c : CExpr) : elabA (ofC c) = elabE c := by
  have nf : ∀ e : CExpr, elabA (ofC e) = elabE e → isFlonum (nodeTy (elabA (ofC e))) = false := fun e h => by
    rw [h, elab_ty]; exact descr_not_flonum _
  induction c with
  | lit t v => rfl
  | un op e ih => rw [ofC, elabA_un_int (nf e ih), ih, elabE_un]
  | bin op a b iha ihb => rw [ofC, elabA_bin_int (nf a iha) (nf b ihb), iha, ihb, elabE_bin]
  | land a b iha ihb => simp only [ofC, elabA, elabE, iha, ihb]
  | lor a b iha ihb => simp only [ofC, elabA, elabE, iha, ihb]
  | cond c a b ihc iha ihb =>
    simp only [ofC, elabA, elabE, ihc, iha, ihb, elab_ty, gctA_of_not_flonum (descr_not_flonum _) (descr_not_flonum _)]
  | cast t e ih => simp only [ofC, elabA, elabE, ih, descrA]

theorem eval_ofC (O : FpOps) (c : CExpr) : Spec.ConstF.eval O (ofC c) = (Spec.Const.eval c).map .int := by
  induction c with
  | lit t v => simp only [ofC, Spec.ConstF.eval, Spec.Const.eval]; split <;> rfl
  | un op e ih =>
    cases he : Spec.Const.eval e with
    | none => simp only [ofC, Spec.ConstF.eval, Spec.Const.eval, ih, he]; rfl
    | some x => rw [he] at ih; rw [ofC, eval_un_int O (typeOf_ofC e) ih]; simp only [Spec.Const.eval, he]
  | bin op a b iha ihb =>
    cases hea : Spec.Const.eval a with
    | none => simp only [ofC, Spec.ConstF.eval, Spec.Const.eval, iha, hea]; rfl
    | some x =>
      cases heb : Spec.Const.eval b with
      | none => simp only [ofC, Spec.ConstF.eval, Spec.Const.eval, iha, ihb, hea, heb]; rfl
      | some y =>
        rw [hea] at iha; rw [heb] at ihb
        rw [ofC, eval_bin_int O (typeOf_ofC a) (typeOf_ofC b) iha ihb]; simp only [Spec.Const.eval, hea, heb, binVal]
  | land a b iha ihb =>
    simp only [ofC, Spec.ConstF.eval, Spec.Const.eval, iha, ihb]
    cases ha : Spec.Const.eval a with
    | none => rfl
    | some x =>
      simp only [Option.map, Spec.ConstF.truth]
      by_cases hx : x = 0
      · subst hx; rfl
      · have : (x != 0) = true := by simpa using hx
        simp only [this, Bool.not_true, Bool.false_eq_true, ite_false, hx]
        cases Spec.Const.eval b <;> rfl
  | lor a b iha ihb =>
    simp only [ofC, Spec.ConstF.eval, Spec.Const.eval, iha, ihb]
    cases ha : Spec.Const.eval a with
    | none => rfl
    | some x =>
      simp only [Option.map, Spec.ConstF.truth]
      by_cases hx : x = 0
      · subst hx
        simp only [show ((0 : Int) != 0) = false from rfl, Bool.false_eq_true, ite_false, ne_eq, not_true_eq_false]
        cases Spec.Const.eval b <;> rfl
      · have : (x != 0) = true := by simpa using hx
        simp only [this, ite_true, ne_eq, hx, not_false_eq_true]
  | cond c a b ihc iha ihb =>
    simp only [ofC, Spec.ConstF.eval, Spec.Const.eval, ihc, iha, ihb, typeOf_ofC]
    cases hc : Spec.Const.eval c with
    | none => rfl
    | some x =>
      simp only [Option.map, Spec.ConstF.truth, usual]
      by_cases hx : x = 0
      · subst hx
        simp only [show ((0 : Int) != 0) = false from rfl, Bool.false_eq_true, ite_false, ne_eq, not_true_eq_false]
        cases Spec.Const.eval b <;> rfl
      · have : (x != 0) = true := by simpa using hx
        simp only [this, ite_true, ne_eq, hx, not_false_eq_true]
        cases Spec.Const.eval a <;> rfl
  | cast t e ih =>
    simp only [ofC, Spec.ConstF.eval, Spec.Const.eval, ih]
    cases Spec.Const.eval e <;> rfl

end ChibiVerif.C07Float
