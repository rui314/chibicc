/-
Helper lemmas for C15_symbols_partial: the Spec's executable closure `closeRounds` (as many rounds as there are
function names) computes the reflexive-transitive closure of its seed set.
-/
import ChibiVerif.Spec.LinkageSpec
import ChibiVerif.Lemmas.ListLemmas

namespace ChibiVerif.Linkage
open ChibiVerif.Spec.Linkage

/-- reachability in the graph of a successor function; with `succ := succFns ds` it is what the Spec's `neededList` closes
    under (`UnitOK.mem_needed`), and for a unit with ordered references the graph `parse` records (`UnitOK.reach_iff`) -/
inductive ReachS (succ : Name → List Name) : Name → Name → Prop where
  | refl {a} : ReachS succ a a
  | step {a b c} : ReachS succ a b → c ∈ succ b → ReachS succ a c

def ClosedL (succ : Name → List Name) (s : List Name) : Prop := ∀ x, x ∈ s → ∀ y, y ∈ succ x → y ∈ s

def newOnes (succ : Name → List Name) (s : List Name) : List Name := (s.flatMap succ).filter (fun x => !s.contains x)

theorem closeRounds_succ (succ : Name → List Name) (n : Nat) (s : List Name) :
    closeRounds succ (n + 1) s = closeRounds succ n (s ++ newOnes succ s) := rfl

theorem mem_newOnes {succ : Name → List Name} {s : List Name} {y : Name} :
    y ∈ newOnes succ s ↔ (∃ x, x ∈ s ∧ y ∈ succ x) ∧ y ∉ s := by
  simp [newOnes, List.mem_filter, List.mem_flatMap]

theorem closeRounds_sub (succ : Name → List Name) : ∀ (n : Nat) (s : List Name) (x : Name), x ∈ s → x ∈ closeRounds succ n s
  | 0, _, _, h => h
  | n + 1, s, x, h => by
    rw [closeRounds_succ]
    exact closeRounds_sub succ n _ x (List.mem_append_left _ h)

theorem closeRounds_sound (succ : Name → List Name) : ∀ (n : Nat) (s : List Name) (x : Name), x ∈ closeRounds succ n s →
    ∃ r, r ∈ s ∧ ReachS succ r x
  | 0, _, x, h => ⟨x, h, ReachS.refl⟩
  | n + 1, s, x, h => by
    rw [closeRounds_succ] at h
    obtain ⟨r, hr, hreach⟩ := closeRounds_sound succ n _ x h
    rcases List.mem_append.mp hr with hr | hr
    · exact ⟨r, hr, hreach⟩
    · obtain ⟨⟨x0, hx0, hy⟩, _⟩ := mem_newOnes.mp hr
      refine ⟨x0, hx0, ?_⟩
      -- prepend the edge x0 → r
      have pre : ∀ {a b}, ReachS succ a b → a = r → ReachS succ x0 b := by
        intro a b hab
        induction hab with
        | refl => intro e; subst e; exact ReachS.step ReachS.refl hy
        | step _ hm ih => intro e; exact ReachS.step (ih e) hm
      exact pre hreach rfl

theorem closed_of_newOnes_nil {succ : Name → List Name} {s : List Name} (h : newOnes succ s = []) : ClosedL succ s := by
  intro x hx y hy
  by_cases hys : y ∈ s
  · exact hys
  · have : y ∈ newOnes succ s := mem_newOnes.mpr ⟨⟨x, hx, hy⟩, hys⟩
    rw [h] at this; cases this

theorem newOnes_nil_of_closed {succ : Name → List Name} {s : List Name} (h : ClosedL succ s) : newOnes succ s = [] := by
  rw [List.eq_nil_iff_forall_not_mem]
  intro y hy
  obtain ⟨⟨x, hx, hxy⟩, hn⟩ := mem_newOnes.mp hy
  exact hn (h x hx y hxy)

theorem closeRounds_of_closed {succ : Name → List Name} : ∀ (n : Nat) {s : List Name}, ClosedL succ s → closeRounds succ n s = s
  | 0, _, _ => rfl
  | n + 1, s, h => by
    rw [closeRounds_succ, newOnes_nil_of_closed h, List.append_nil]
    exact closeRounds_of_closed n h

/-- after at least as many rounds as there are names outside the seed set, nothing new can be added -/
theorem closeRounds_closed (succ : Name → List Name) (U : List Name) (hU : ∀ x, x ∈ U → ∀ y, y ∈ succ x → y ∈ U) :
    ∀ (n : Nat) (s : List Name), (∀ x, x ∈ s → x ∈ U) → (U.filter (fun x => !s.contains x)).length ≤ n →
      ClosedL succ (closeRounds succ n s)
  | 0, s, hs, hm => by
    intro x hx y hy
    have hyU : y ∈ U := hU x (hs x hx) y hy
    have h0 : U.filter (fun x => !s.contains x) = [] := List.length_eq_zero_iff.mp (Nat.le_zero.mp hm)
    rw [List.filter_eq_nil_iff] at h0
    have := h0 y hyU
    show y ∈ s
    simpa using this
  | n + 1, s, hs, hm => by
    by_cases hnew : newOnes succ s = []
    · rw [closeRounds_of_closed _ (closed_of_newOnes_nil hnew)]
      exact closed_of_newOnes_nil hnew
    · rw [closeRounds_succ]
      obtain ⟨y, hy⟩ := List.exists_mem_of_ne_nil _ hnew
      obtain ⟨⟨x, hx, hxy⟩, hys⟩ := mem_newOnes.mp hy
      have hyU : y ∈ U := hU x (hs x hx) y hxy
      apply closeRounds_closed succ U hU n
      · intro z hz
        rcases List.mem_append.mp hz with hz | hz
        · exact hs z hz
        · obtain ⟨⟨x', hx', hxz⟩, _⟩ := mem_newOnes.mp hz
          exact hU x' (hs x' hx') z hxz
      · have hlt := List.length_filter_lt_of_imp (p := fun x => !s.contains x) (q := fun x => !(s ++ newOnes succ s).contains x)
          hyU (by intro z hz; simp only [Bool.not_eq_true', List.contains_eq_mem, List.mem_append, decide_eq_false_iff_not, not_or] at hz ⊢
                  simpa using hz.1)
          (by simpa using hys) (by simp [hy])
        omega

theorem reachS_in_closed {succ : Name → List Name} {t : List Name} (hc : ClosedL succ t) {r x : Name} (hr : r ∈ t)
    (h : ReachS succ r x) : x ∈ t := by
  induction h with
  | refl => exact hr
  | step _ hm ih => exact hc _ ih _ hm

theorem mem_closeRounds_iff (succ : Name → List Name) (U s : List Name) (hU : ∀ x, x ∈ U → ∀ y, y ∈ succ x → y ∈ U)
    (hs : ∀ x, x ∈ s → x ∈ U) (x : Name) :
    x ∈ closeRounds succ U.length s ↔ ∃ r, r ∈ s ∧ ReachS succ r x := by
  constructor
  · exact closeRounds_sound succ _ s x
  · rintro ⟨r, hr, hreach⟩
    exact reachS_in_closed (closeRounds_closed succ U hU U.length s hs (List.length_filter_le _ _))
      (closeRounds_sub succ _ s r hr) hreach

theorem reachS_of_no_succ {succ : Name → List Name} {r x : Name} (h0 : succ r = []) (h : ReachS succ r x) : x = r := by
  induction h with
  | refl => rfl
  | step _ hm ih => rw [ih, h0] at hm; cases hm

end ChibiVerif.Linkage
