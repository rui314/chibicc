/-
C03 — forward simulation for all statements: every step of the abstract machine
`Spec.Ctl.step` from a matched configuration is answered by a run of the generated code to a
position where the next configuration is matched (`step_sim`), hence every run (`run_sim`).
-/
import ChibiVerif.Lemmas.StmtGotoEntry

namespace ChibiVerif.Ctl
open ChibiVerif.Spec.Ctl

section
variable {ω : Nat → Val} {P : Prog} {fb : SStmt} {R : Nat → Nat → Prop} {V : Prop}

theorem matchS_skip {k : Cont} {q : Nat} {b ct : Option Nat} (hq : q ≤ P.length) (hk : MatchK ω P fb R V k q b ct) :
    MatchS ω P fb R V .skip k q :=
  ⟨.skip, 0, b, ct, rfl, codeAt_nil hq, ⟨trivial, trivial, rfl⟩, by simpa [genStmt] using hk⟩

theorem StmtAt.done {st : Stmt} {c p : Nat} {k : Cont} {b ct : Option Nat} (h : StmtAt ω P fb R V st c p k b ct) :
    MatchS ω P fb R V .skip k (p + (genStmt st c).1.length) :=
  matchS_skip h.code.end_le h.cont

theorem for_back (hu : UniqueLabels P) {p0 c0 : Nat} {cnd inc : Option Nat} {brk cont : Nat} {body : Stmt}
    (h3 : CodeAt P p0 (genStmt (.for_ none cnd inc brk cont body) c0).1) (σ : SState) :
    Runs ω P (p0 + 1 + (condCode cnd brk).length + (genStmt body (c0 + 1)).1.length, σ) (p0, σ.emitOpt inc) := by
  obtain ⟨hBegin, _, _, hCont, hInc, hJmp, _, _⟩ := for_layout h3
  have h1 := Runs.label (ω := ω) (σ := σ) hCont
  cases inc with
  | none =>
    simp only [callOpt, List.length_nil, Nat.add_zero] at hJmp
    exact h1.trans (Runs.jmp hJmp (findLabel_of_unique hu hBegin))
  | some j =>
    simp only [callOpt, List.length_singleton] at hJmp
    have h2 := Runs.callM (ω := ω) (σ := σ) hInc.head
    exact h1.trans (h2.trans (Runs.jmp hJmp (findLabel_of_unique hu hBegin)))

theorem for_exit {p0 c0 : Nat} {cnd inc : Option Nat} {brk cont : Nat} {body : Stmt}
    (h3 : CodeAt P p0 (genStmt (.for_ none cnd inc brk cont body) c0).1) :
    Silent ω P (p0 + 1 + (condCode cnd brk).length + (genStmt body (c0 + 1)).1.length + 1 + (callOpt inc).length + 1)
      (p0 + (genStmt (.for_ none cnd inc brk cont body) c0).1.length) := by
  obtain ⟨_, _, _, _, _, _, hBrk, hlen⟩ := for_layout h3
  intro σ
  rw [hlen]
  exact (Runs.label hBrk).castPos rfl (by omega)

theorem do_exit {p0 c0 c : Nat} {brk cont : Nat} {body : Stmt}
    (h3 : CodeAt P p0 (genStmt (.doWhile brk cont body c) c0).1) :
    Silent ω P (p0 + 1 + (genStmt body (c0 + 1)).1.length + 4) (p0 + (genStmt (.doWhile brk cont body c) c0).1.length) := by
  obtain ⟨_, _, _, _, hBrk, hlen⟩ := do_layout h3
  intro σ
  rw [hlen]
  exact (Runs.label hBrk).castPos rfl (by omega)

/-- what the simulation uses of the function as a whole; `goto` is proved from `find_erase` once the whole body is in
    view (`goto_sim`) -/
structure FnOK (ω : Nat → Val) (P : Prog) (fb : SStmt) (R : Nat → Nat → Prop) (V : Prop) (pend : Nat) : Prop where
  uniq : UniqueLabels P
  ret : P[pend]? = some (.label .ret)
  len : P.length = pend + 1
  size : V → P.length < 2 ^ 64
  goto : ∀ l t, R l t → labelOK fb l = true →
    ∃ (r : SStmt × Cont) (q : Nat), find (.lbl l) fb .stop = some r ∧ P[q]? = some (.label (.u t)) ∧
      MatchS ω P fb R V r.1 r.2 (q + 1)

def StepOK (ω : Nat → Val) (P : Prog) (fb : SStmt) (R : Nat → Nat → Prop) (V : Prop)
    (s : SStmt) (k : Cont) (p : Nat) (σ : SState) : Prop :=
  match Spec.Ctl.step ω fb s k σ with
  | .next s' k' σ' => ∃ p', Runs ω P (p, σ) (p', σ') ∧ MatchS ω P fb R V s' k' p'
  | .fin _ σ' => Runs ω P (p, σ) (P.length, σ')
  | .stuck => False

variable {pend : Nat} {k : Cont} {b ct : Option Nat} {σ : SState}

theorem runs_to_end (H : FnOK ω P fb R V pend) (σ : SState) : Runs ω P (pend, σ) (P.length, σ) := by
  rw [H.len]; exact Runs.label H.ret

theorem StepOK.prepend {s : SStmt} {p p' : Nat} (hs : Silent ω P p p') :
    StepOK ω P fb R V s k p' σ → StepOK ω P fb R V s k p σ := by
  unfold StepOK
  cases Spec.Ctl.step ω fb s k σ with
  | next s' k' σ' => exact fun ⟨q, hr, hm⟩ => ⟨q, (hs σ).trans hr, hm⟩
  | fin o σ' => exact (hs σ).trans
  | stuck => exact id

theorem sim_skip (H : FnOK ω P fb R V pend) {p : Nat}
    (hk : MatchK ω P fb R V k p b ct) : StepOK ω P fb R V .skip k p σ := by
  induction hk with
  | silent hs _ ih => exact ih.prepend hs
  | @stop q h2 =>
    cases H.uniq _ _ _ h2 H.ret
    exact runs_to_end H σ
  | @seq q c st s k' _ _ h2 h3 h4 h5 => exact ⟨q, Runs.refl ω P _, st, c, _, _, h2, h3, h4, h5⟩
  | @forK p0 c0 cnd inc brk cont bodyT body k' b' ct' h2 h3 h5 h6 =>
    exact ⟨p0, for_back H.uniq h3 σ, .for_ none cnd inc brk cont bodyT, c0, b', ct', by simp only [erase, h2], h3, Good.for_.2 h5, h6⟩
  | @doK p0 c0 c brk cont bodyT body k' b' ct' h2 h3 h5 h6 =>
    unfold StepOK
    simp only [Spec.Ctl.step]
    obtain ⟨hBegin, _, hCont, hTest, _, _⟩ := do_layout h3
    have r1 := Runs.label (ω := ω) (σ := σ) hCont
    have r2 := Runs.testJne (ω := ω) (σ := σ) hTest (findLabel_of_unique H.uniq hBegin)
    by_cases htr : truth (σ.call ω (.c c)).1 = true
    · simp only [htr, if_true] at r2 ⊢
      exact ⟨p0, r1.trans r2, .doWhile brk cont bodyT c, c0, b', ct', by simp only [erase, h2], h3, Good.doWhile.2 h5, h6⟩
    · simp only [htr, Bool.false_eq_true, if_false] at r2 ⊢
      refine ⟨_, (r1.trans r2).trans ((do_exit h3 _).castPos (by omega) rfl), matchS_skip h3.end_le h6⟩
  | @swK q brk k' b' _ h2 h3 => exact ⟨q + 1, Runs.label h2, matchS_skip (lt_of_getElem? h2) h3⟩

theorem sim_marker {p c m : Nat} (h : StmtAt ω P fb R V (.marker m) c p k b ct) :
    StepOK ω P fb R V (erase (.marker m)) k p σ :=
  ⟨_, Runs.callM h.code.head, h.done⟩

theorem sim_seq {p c : Nat} {x y : Stmt} (h : StmtAt ω P fb R V (.seq x y) c p k b ct) :
    StepOK ω P fb R V (erase (.seq x y)) k p σ :=
  ⟨p, Runs.refl ω P _, x, c, b, ct, rfl, h.seq.1⟩

theorem sim_ifte (H : FnOK ω P fb R V pend) {p c cnd : Nat} {x y : Stmt} (h : StmtAt ω P fb R V (.ifte cnd x y) c p k b ct) :
    StepOK ω P fb R V (erase (.ifte cnd x y)) k p σ := by
  unfold StepOK
  simp only [erase, Spec.Ctl.step]
  obtain ⟨hT, _, _, hEl, _, _, _⟩ := if_layout h.code
  have hTest := Runs.testJe (ω := ω) (σ := σ) hT (findLabel_of_unique H.uniq hEl)
  by_cases htr : truth (σ.call ω (.c cnd)).1 = true
  · simp only [htr, if_true] at hTest ⊢
    exact ⟨p + 3, hTest, x, c + 1, b, ct, rfl, (h.ifte H.uniq).1⟩
  · simp only [htr, Bool.false_eq_true, if_false] at hTest ⊢
    exact ⟨_, hTest.trans ((Runs.label hEl).castPos rfl (by omega)), y, _, b, ct, rfl, (h.ifte H.uniq).2⟩

theorem sim_for (H : FnOK ω P fb R V pend) {p c : Nat} {i cnd inc : Option Nat} {brk cont : Nat} {body : Stmt}
    (h : StmtAt ω P fb R V (.for_ i cnd inc brk cont body) c p k b ct) :
    StepOK ω P fb R V (erase (.for_ i cnd inc brk cont body)) k p σ := by
  unfold StepOK
  cases i with
  | some i =>
    simp only [erase, Spec.Ctl.step]
    exact ⟨p + 1, Runs.callM (gen_for_some .. ▸ h.code).left.head, .for_ none cnd inc brk cont body, c, b, ct, rfl, h.for_init⟩
  | none =>
    obtain ⟨hBegin, hCC, _, _, _, _, hBrk, _⟩ := for_layout h.code
    have hStart := Runs.label (ω := ω) (σ := σ) hBegin
    cases cnd with
    | none =>
      simp only [erase, Spec.Ctl.step]
      exact ⟨_, hStart.castPos rfl (by simp [condCode]), body, c + 1, _, _, rfl, h.for_body⟩
    | some cn =>
      simp only [erase, Spec.Ctl.step]
      have hTest := Runs.testJe (ω := ω) (σ := σ) (p := p + 1) (by simpa [condCode] using hCC)
        (findLabel_of_unique H.uniq hBrk)
      by_cases htr : truth (σ.call ω (.c cn)).1 = true
      · simp only [htr, if_true] at hTest ⊢
        exact ⟨_, (hStart.trans hTest).castPos rfl (by simp [condCode]), body, c + 1, _, _, rfl, h.for_body⟩
      · simp only [htr, Bool.false_eq_true, if_false] at hTest ⊢
        exact ⟨_, (hStart.trans hTest).trans (for_exit h.code _), h.done⟩

theorem sim_do {p c cnd : Nat} {brk cont : Nat} {body : Stmt}
    (h : StmtAt ω P fb R V (.doWhile brk cont body cnd) c p k b ct) :
    StepOK ω P fb R V (erase (.doWhile brk cont body cnd)) k p σ := by
  obtain ⟨hBegin, _⟩ := do_layout h.code
  exact ⟨p + 1, Runs.label hBegin, body, c + 1, _, _, rfl, h.do_body⟩

theorem sim_labelled {p c l : Nat} {x : Stmt}
    (h : P[p]? = some (.label (.u l)) ∧ StmtAt ω P fb R V x c (p + 1) k b ct) :
    ∃ p', Runs ω P (p, σ) (p', σ) ∧ MatchS ω P fb R V (erase x) k p' :=
  ⟨p + 1, Runs.label h.1, x, c, b, ct, rfl, h.2⟩

theorem sim_break (H : FnOK ω P fb R V pend) {p c t : Nat} (h : StmtAt ω P fb R V (.goto_ .brk t) c p k b ct) :
    StepOK ω P fb R V (erase (.goto_ .brk t)) k p σ := by
  unfold StepOK
  simp only [erase, Spec.Ctl.step]
  obtain ⟨k', q', b', ct', hbk, hq, hm⟩ := h.cont.break_ (t := t) h.good.bound
  simp only [hbk]
  exact ⟨q' + 1, (Runs.jmp h.code.head (findLabel_of_unique H.uniq hq)).trans (Runs.label hq),
    matchS_skip (lt_of_getElem? hq) hm⟩

theorem sim_continue (H : FnOK ω P fb R V pend) {p c t : Nat} (h : StmtAt ω P fb R V (.goto_ .cont t) c p k b ct) :
    StepOK ω P fb R V (erase (.goto_ .cont t)) k p σ := by
  unfold StepOK
  simp only [erase, Spec.Ctl.step]
  obtain ⟨k', q', b', ct', hbk, hq, hm⟩ := h.cont.continue_ (t := t) h.good.bound
  simp only [hbk]
  exact ⟨q', Runs.jmp h.code.head (findLabel_of_unique H.uniq hq), matchS_skip (Nat.le_of_lt (lt_of_getElem? hq)) hm⟩

theorem sim_goto (H : FnOK ω P fb R V pend) {p c l t : Nat} (h : StmtAt ω P fb R V (.goto_ (.user l) t) c p k b ct) :
    StepOK ω P fb R V (erase (.goto_ (.user l) t)) k p σ := by
  unfold StepOK
  simp only [erase, Spec.Ctl.step]
  obtain ⟨_, hR, hok⟩ := h.good
  replace hok : labelOK fb l = true := hok
  obtain ⟨r, q, hf, hq, hm⟩ := H.goto l t hR hok
  simp only [hok, if_true, hf]
  exact ⟨q + 1, (Runs.jmp h.code.head (findLabel_of_unique H.uniq hq)).trans (Runs.label hq), hm⟩

theorem sim_gotoVal (H : FnOK ω P fb R V pend) {p c l t : Nat} (h : StmtAt ω P fb R V (.gotoVal l t) c p k b ct) :
    StepOK ω P fb R V (erase (.gotoVal l t)) k p σ := by
  unfold StepOK
  simp only [erase, Spec.Ctl.step]
  obtain ⟨_, ⟨hR, hV⟩, hok⟩ := h.good
  replace hok : labelOK fb l = true := hok
  obtain ⟨r, q, hf, hq, hm⟩ := H.goto l t hR hok
  simp only [hok, if_true, hf]
  have hlt : q < 2 ^ 64 := Nat.lt_trans (lt_of_getElem? hq) (H.size hV)
  exact ⟨q + 1, (Runs.gotoVal h.code (findLabel_of_unique H.uniq hq) hlt).trans (Runs.label hq), hm⟩

theorem sim_ret (H : FnOK ω P fb R V pend) {p c : Nat} (h : StmtAt ω P fb R V .ret c p k b ct) :
    StepOK ω P fb R V (erase .ret) k p σ :=
  (Runs.jmp h.code.head (findLabel_of_unique H.uniq H.ret)).trans (runs_to_end H σ)

end

/-- the ladder built from the `case` list and `default` the parser recorded sends control to the label `find` arrives
    behind: a matching `case` of the body (there is at most one, ranges being disjoint), else its `default` (at most
    one), else the break label -/
theorem ladder_selects {w u : Bool} (v : Val) {cs : List CaseEnt} {d : Option Nat} (brk : Nat) {body : Stmt}
    (hcases : ∀ e, e ∈ cs ↔ e ∈ caseEnts body) (hdf : DfltOf d (dflts body)) (hsw : switchOKG w u (erase body) = true) :
    (∀ ul ∈ hitLabels (.case_ w u v) body, selectLbl w v cs d brk = ul) ∧
    (hitLabels (.case_ w u v) body = [] →
      (∀ ul ∈ dflts body, selectLbl w v cs d brk = ul) ∧ (dflts body = [] → selectLbl w v cs d brk = brk)) := by
  unfold switchOKG at hsw
  rw [freeCases_erase, freeDefaults_erase] at hsw
  simp only [Bool.and_eq_true, List.all_eq_true, decide_eq_true_eq] at hsw
  obtain ⟨⟨hord, hdisj⟩, hone⟩ := hsw
  have hspec : ∀ e ∈ cs, e ∈ caseEnts body ∧ entMatches w e v = caseMatches w u e.lo e.hi v := fun e he =>
    ⟨(hcases e).1 he, entMatches_spec w u e v (hord (e.lo, e.hi)
      (List.mem_map_of_mem (f := fun e : CaseEnt => (e.lo, e.hi)) ((hcases e).1 he)))⟩
  rw [hitLabels_case]
  refine ⟨fun ul hmem => ?_, fun hhit => ?_⟩
  · obtain ⟨e, he, rfl⟩ := List.mem_map.1 hmem
    obtain ⟨heb, hem⟩ := List.mem_filter.1 he
    refine selectLbl_of_match d brk e cs ((hcases e).2 heb) (by rw [(hspec e ((hcases e).2 heb)).2]; exact hem) ?_
    intro e' he' hm'
    rw [(hspec e' he').2] at hm'
    by_cases hee : e' = e
    · rw [hee]
    · have hd := pairwise_map_disjoint w u (fun e : CaseEnt => (e.lo, e.hi)) _ hdisj e' (hspec e' he').1 e heb hee
      rw [matches_not_disjoint w u (e'.lo, e'.hi) (e.lo, e.hi) v hm' hem] at hd
      cases hd
  · rw [selectLbl_none d brk cs fun e' he' => by
      rw [(hspec e' he').2]
      cases hcm : caseMatches w u e'.lo e'.hi v with
      | false => rfl
      | true =>
        have : e'.lbl ∈ ((caseEnts body).filter (fun e => caseMatches w u e.lo e.hi v)).map (·.lbl) :=
          List.mem_map_of_mem (List.mem_filter.2 ⟨(hspec e' he').1, by simpa using hcm⟩)
        rw [hhit] at this; cases this]
    cases hds : dflts body with
    | nil => rw [hds] at hdf; exact ⟨fun _ h => (nomatch h), fun _ => by cases d with | none => rfl | some x => cases hdf⟩
    | cons ul rest =>
      rw [hds] at hdf hone
      cases rest with
      | cons a r' => simp only [List.length_cons] at hone; omega
      | nil =>
        refine ⟨fun ul' h => ?_, fun h => (nomatch h)⟩
        cases List.mem_singleton.1 h
        cases d with | none => cases hdf | some x => exact List.mem_singleton.1 hdf

section
variable {ω : Nat → Val} {P : Prog} {fb : SStmt} {R : Nat → Nat → Prop} {V : Prop} {pend : Nat}

theorem sim_switch (H : FnOK ω P fb R V pend) {k : Cont} {p c key : Nat} {w u : Bool} {cs : List CaseEnt} {d : Option Nat}
    {brk : Nat} {body : Stmt} {b ct : Option Nat} {σ : SState} (h : StmtAt ω P fb R V (.switch_ w u key cs d brk body) c p k b ct) :
    StepOK ω P fb R V (erase (.switch_ w u key cs d brk body)) k p σ := by
  unfold StepOK
  simp only [erase, Spec.Ctl.step]
  obtain ⟨⟨hbb, hcases, hdf⟩, hgr, hok⟩ := h.good
  simp only [erase, okStmt, Bool.and_eq_true] at hok
  obtain ⟨hswOK, _⟩ := hok
  simp only [hswOK, if_true]
  obtain ⟨hHead, _, hB, hlen⟩ := switch_layout h.code
  obtain ⟨hselCase, hselElse⟩ := ladder_selects (σ.call ω (.inp key)).1 brk hcases hdf hswOK
  have hdfl := hitLabels_dflt body
  -- the ladder jumps to the definition of the label `find` arrives behind
  have land : ∀ {ul q : Nat} {r : SStmt × Cont}, selectLbl w (σ.call ω (.inp key)).1 cs d brk = ul →
      P[q]? = some (.label (.u ul)) → MatchS ω P fb R V r.1 r.2 (q + 1) →
      ∃ p', Runs ω P (p, σ) (p', (σ.call ω (.inp key)).2) ∧ MatchS ω P fb R V r.1 r.2 p' := fun hs hq hm =>
    ⟨_, (Runs.switchHead w cs d brk hHead (by rw [hs]; exact findLabel_of_unique H.uniq hq)).trans (Runs.label hq), hm⟩
  have hc := find_erase H.uniq (.case_ w u (σ.call ω (.inp key)).1) body _ _ _ _ _ h.switch_body
  have hd := find_erase H.uniq .dflt body _ _ _ _ _ h.switch_body
  cases hfc : find (.case_ w u (σ.call ω (.inp key)).1) (erase body) (.swK k) with
  | some r =>
    rw [hfc] at hc
    obtain ⟨ul, q, hhit, hq, hm⟩ := hc
    exact land (hselCase ul hhit) hq hm
  | none =>
    rw [hfc] at hc
    obtain ⟨hselDflt, hselBrk⟩ := hselElse hc
    cases hfd : find .dflt (erase body) (.swK k) with
    | some r =>
      rw [hfd] at hd
      obtain ⟨ul, q, hhit, hq, hm⟩ := hd
      exact land (hselDflt ul (hdfl ▸ hhit)) hq hm
    | none =>
      rw [hfd] at hd
      have hsel := hselBrk (hdfl ▸ hd)
      exact ⟨_, (Runs.switchHead w cs d brk hHead (by rw [hsel]; exact findLabel_of_unique H.uniq hB)).trans
        ((Runs.label hB).castPos rfl (by omega)), h.done⟩

/-- **one step**: from a matched configuration, whatever the abstract machine does next the code does too -/
theorem step_sim (H : FnOK ω P fb R V pend) {s : SStmt} {k : Cont} {p : Nat} {σ : SState}
    (hm : MatchS ω P fb R V s k p) : StepOK ω P fb R V s k p σ := by
  obtain ⟨st, c, b, ct, rfl, h⟩ := hm
  cases st with
  | skip => exact sim_skip H h.cont
  | marker m => exact sim_marker h
  | seq x y => exact sim_seq h
  | block x => exact ⟨p, Runs.refl ω P _, x, c, b, ct, rfl, h.block⟩
  | ifte cnd x y => exact sim_ifte H h
  | for_ i cnd inc brk cont body => exact sim_for H h
  | doWhile brk cont body cnd => exact sim_do h
  | switch_ w u key cs d brk body => exact sim_switch H h
  | case_ l lo hi x => exact sim_labelled (h.labelled rfl id)
  | default_ l x => exact sim_labelled (h.labelled rfl id)
  | label l u x => exact sim_labelled (h.labelled rfl id)
  | goto_ kind t =>
    cases kind with
    | brk => exact sim_break H h
    | cont => exact sim_continue H h
    | user l => exact sim_goto H h
  | gotoN l => exact absurd h.good.gotoR (by simp [GotoR])
  | gotoVal l t => exact sim_gotoVal H h
  | gotoValN l => exact absurd h.good.gotoR (by simp [GotoR])
  | ret => exact sim_ret H h

/-- **all steps**: the result of `n` steps of the abstract machine, read as a statement about the code -/
theorem run_sim (H : FnOK ω P fb R V pend) : ∀ (n : Nat) (s : SStmt) (k : Cont) (p : Nat) (σ : SState),
    MatchS ω P fb R V s k p →
    match run ω fb n s k σ with
    | .done _ σ' => Runs ω P (p, σ) (P.length, σ')
    | .timeout σ' => ∃ q, Runs ω P (p, σ) (q, σ')
    | .unsupported => False := by
  intro n
  induction n with
  | zero => intro s k p σ _; simp only [run]; exact ⟨p, Runs.refl ω P _⟩
  | succ n ih =>
    intro s k p σ hm
    have hs := step_sim H (σ := σ) hm
    unfold StepOK at hs
    simp only [run]
    cases hst : Spec.Ctl.step ω fb s k σ with
    | next s' k' σ' =>
      rw [hst] at hs
      obtain ⟨p', hr, hm'⟩ := hs
      simp only []
      have h2 := ih s' k' p' σ' hm'
      cases hr2 : run ω fb n s' k' σ' with
      | done o σ2 => rw [hr2] at h2; exact hr.trans h2
      | timeout σ2 => rw [hr2] at h2; obtain ⟨q, hq⟩ := h2; exact ⟨q, hr.trans hq⟩
      | unsupported => rw [hr2] at h2; exact h2
    | fin o σ' => rw [hst] at hs; exact hs
    | stuck => rw [hst] at hs; exact hs

end

end ChibiVerif.Ctl
