/-
C01: the composition theorems for the full expression type over plain variables (`C01_value_full`, `C01_value_effects` in
Props/C01.lean) as instances of `value_a` (Lemmas/C01ValueA.lean): `value_g` — every object reached by `lea off(%rbp), %rax`
(`compileA_direct`), any frame — and `value_gx`, the restriction to jump-free code (`compileX`).

The names: `value_a` is over an access table `A`; `value_g` is its instance at plain variables, still general in the frame (as
`EvG`); `value_gx` that for `compileX`; `pure_ev` / `value_pure` (Lemmas/C01Plain.lean) the `compileE` fragment in the frame
`Frame.plain`, as a judgment resp. at a machine state.
-/
import ChibiVerif.Lemmas.C01ValueA

namespace ChibiVerif.C01
open ChibiVerif.X86 ChibiVerif.Asm ChibiVerif.Spec.IntSpec ChibiVerif.Gen.CommonType ChibiVerif.C01Codegen ChibiVerif.X86J

/-- **every expression of the full type `E` that `compileJ` assembles**, in any frame in which the variables it assigns may be
    written -/
theorem value_g (Φ : Frame) (P : BitVec 64 → Prop) (e : E) (σ : Env) (t : ITy) (code : List JI) (v : Int) (σ' : Env)
    (k0 k1 c0 c1 : Nat) (hc : compileJ σ.tys Φ.off Φ.toff k0 c0 e = some (t, code, k1, c1)) (hv : evalE σ e = some (v, σ'))
    (hn : noConflict e = true) (hW : ∀ i, i ∈ wr e → Φ.sepv i) (hK : k1 ≤ Φ.K) :
    EvG Φ P code σ σ' (fun r => Represents t r v) (wr e) k0 k1 (depthJ e) := by
  rw [← compileA_direct] at hc
  rw [← depthA_direct Φ.off]
  exact EvG.of_atBp fun bp0 =>
    value_a Φ bp0 _ [] σ (CompA.of_eq e hc) σ v σ' rfl (Agr.refl _ _) (fun i hi => ⟨List.not_mem_nil, hW i hi⟩)
      (fun i _ => accOK_direct Φ bp0 [] σ i) (Eval.of_evalE e hv) hn hK

/-- **expressions without `&&`, `||`, `?:`** (`compileX`): their code is the jump-free code `compileJ` assembles -/
theorem value_gx (Φ : Frame) (P : BitVec 64 → Prop) (e : E) (σ : Env) (t : ITy) (code : List Ins) (v : Int) (σ' : Env) (k0 k1 : Nat)
    (hc : compileX σ.tys Φ.off Φ.toff k0 e = some (t, code, k1)) (hv : evalE σ e = some (v, σ')) (hn : noConflict e = true)
    (hW : ∀ i, i ∈ wr e → Φ.sepv i) (hK : k1 ≤ Φ.K) :
    EvG Φ P (J code) σ σ' (fun r => Represents t r v) (wr e) k0 k1 (depthX e) := by
  rw [← depthJ_of_straight e (compileX_facts σ.tys Φ.off Φ.toff e k0 t code k1 hc).1]
  exact value_g Φ P e σ t (J code) v σ' k0 k1 0 0 (compileJ_of_compileX σ.tys Φ.off Φ.toff e k0 0 t code k1 hc).1 hv hn hW hK

end ChibiVerif.C01
