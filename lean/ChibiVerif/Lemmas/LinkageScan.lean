/-
Helper lemmas for C15_tentative: what `scanLoop` (parse.c scan_globals) keeps.

`scanLoop` mutates the type of a later node while it walks the list.  Which nodes it keeps does not depend
on types, so up to the types of tentative definitions (`TentRel`, hence `TyRel`) it equals the mutation-free filter
`scanPure`; the counting facts are proved on `scanPure` and carried over.
-/
import ChibiVerif.Lemmas.LinkageVocabulary

namespace ChibiVerif.Linkage

def SameButTy (b a : Obj) : Prop := ∃ t, b = { a with ty := t }

theorem SameButTy.rfl' (a : Obj) : SameButTy a a := ⟨a.ty, rfl⟩

theorem SameButTy.trans {a b c : Obj} (h1 : SameButTy b a) (h2 : SameButTy c b) : SameButTy c a := by
  obtain ⟨t1, rfl⟩ := h1
  obtain ⟨t2, rfl⟩ := h2
  exact ⟨t2, rfl⟩

inductive TyRel : List Obj → List Obj → Prop where
  | nil : TyRel [] []
  | cons {a b : Obj} {as bs : List Obj} : SameButTy b a → TyRel as bs → TyRel (a :: as) (b :: bs)

theorem TyRel.rfl' : ∀ l, TyRel l l
  | [] => .nil
  | a :: as => .cons (SameButTy.rfl' a) (TyRel.rfl' as)

theorem TyRel.trans : ∀ {a b c : List Obj}, TyRel a b → TyRel b c → TyRel a c := by
  intro a b c h1
  induction h1 generalizing c with
  | nil => intro h2; exact h2
  | cons h _ ih =>
    intro h2
    cases h2 with
    | cons h' hs' => exact .cons (h.trans h') (ih hs')

def TyBlind (q : Obj → Bool) : Prop := ∀ o t, q { o with ty := t } = q o

theorem TyRel.filter_length {q : Obj → Bool} (hq : TyBlind q) {l l' : List Obj} (h : TyRel l l') :
    (l'.filter q).length = (l.filter q).length := by
  induction h with
  | nil => rfl
  | @cons a b as bs hab _ ih =>
    have hqb : q b = q a := by obtain ⟨t, rfl⟩ := hab; exact hq a t
    simp only [List.filter, hqb]
    split <;> simp [ih]

theorem TyRel.any {q : Obj → Bool} (hq : TyBlind q) {l l' : List Obj} (h : TyRel l l') : l'.any q = l.any q := by
  induction h with
  | nil => rfl
  | @cons a b as bs hab _ ih =>
    have hqb : q b = q a := by obtain ⟨t, rfl⟩ := hab; exact hq a t
    simp only [List.any, hqb, ih]

theorem TyRel.length {l l' : List Obj} (h : TyRel l l') : l'.length = l.length := by
  induction h with
  | nil => rfl
  | cons _ _ ih => simp [ih]

theorem TyRel.mem {l l' : List Obj} (h : TyRel l l') {b : Obj} (hb : b ∈ l') : ∃ a, a ∈ l ∧ SameButTy b a := by
  induction h with
  | nil => cases hb
  | cons hab _ ih =>
    rcases List.mem_cons.mp hb with rfl | hb
    · exact ⟨_, List.mem_cons_self, hab⟩
    · obtain ⟨a, ha, hh⟩ := ih hb
      exact ⟨a, List.mem_cons_of_mem _ ha, hh⟩

/-- `b` is `a`, except that a tentative definition may have got another type -/
def TentSame (b a : Obj) : Prop := SameButTy b a ∧ (a.isTentative = false → b = a)

theorem TentSame.rfl' (a : Obj) : TentSame a a := ⟨SameButTy.rfl' a, fun _ => rfl⟩

theorem TentSame.trans {a b c : Obj} (h1 : TentSame b a) (h2 : TentSame c b) : TentSame c a := by
  refine ⟨h1.1.trans h2.1, fun ht => ?_⟩
  have := h1.2 ht
  subst this
  exact h2.2 ht

inductive TentRel : List Obj → List Obj → Prop where
  | nil : TentRel [] []
  | cons {a b : Obj} {as bs : List Obj} : TentSame b a → TentRel as bs → TentRel (a :: as) (b :: bs)

theorem TentRel.rfl' : ∀ l, TentRel l l
  | [] => .nil
  | a :: as => .cons (TentSame.rfl' a) (TentRel.rfl' as)

theorem TentRel.trans : ∀ {a b c : List Obj}, TentRel a b → TentRel b c → TentRel a c := by
  intro a b c h1
  induction h1 generalizing c with
  | nil => intro h2; exact h2
  | cons h _ ih =>
    intro h2
    cases h2 with
    | cons h' hs' => exact .cons (h.trans h') (ih hs')

theorem TentRel.tyRel {l l' : List Obj} (h : TentRel l l') : TyRel l l' := by
  induction h with
  | nil => exact .nil
  | cons h _ ih => exact .cons h.1 ih

theorem TentRel.filter {q : Obj → Bool} (hq : ∀ o, q o = true → o.isTentative = false) (hb : TyBlind q) {l l' : List Obj}
    (h : TentRel l l') : l'.filter q = l.filter q := by
  induction h with
  | nil => rfl
  | @cons a b as bs hab _ ih =>
    have hqb : q b = q a := by obtain ⟨t, rfl⟩ := hab.1; exact hb a t
    rw [List.filter_cons, List.filter_cons, hqb, ih]
    split
    · rename_i hqa
      rw [hab.2 (hq a hqa)]
    · rfl

theorem tyBlind_isTentOf (s : Sym) : TyBlind (isTentOf s) := fun _ _ => rfl
theorem tyBlind_realDefOf (s : Sym) : TyBlind (realDefOf s) := fun _ _ => rfl

/-- whether `scan_globals` keeps the node `var` (`rest` = the nodes after it): unless it is a tentative definition of a
    name that has a real definition somewhere or another tentative definition later on -/
def scanKeeps (all rest : List Obj) (var : Obj) : Bool :=
  !var.isTentative || (!all.any (realDefOf var.sym) && !rest.any (isTentOf var.sym))

/-- `scan_globals` without the type mutation -/
def scanPure (all : List Obj) : List Obj → List Obj
  | [] => []
  | var :: rest => if scanKeeps all rest var then var :: scanPure all rest else scanPure all rest

theorem completeArray_same (o : Obj) : SameButTy (completeArray o) o := by
  unfold completeArray
  split
  · exact ⟨_, rfl⟩
  · exact SameButTy.rfl' o

theorem isTentOf_tent {s : Sym} {o : Obj} (h : isTentOf s o = true) : o.isTentative = true := by
  unfold isTentOf at h
  simp only [Bool.and_eq_true] at h
  exact h.1

theorem tentRel_updFirst (s : Sym) (t : ObjTy) : ∀ l, TentRel l (updFirst (isTentOf s) (fun o => { o with ty := t }) l)
  | [] => .nil
  | a :: as => by
    unfold updFirst
    split
    · rename_i hp
      exact .cons ⟨⟨t, rfl⟩, fun h => by rw [isTentOf_tent hp] at h; cases h⟩ (TentRel.rfl' as)
    · exact .cons (TentSame.rfl' a) (tentRel_updFirst s t as)

theorem scan_tentRel (all : List Obj) : ∀ (n : Nat) (l l' : List Obj), TentRel l l' → l.length ≤ n →
    TentRel (scanPure all l) (scanLoop all n l') := by
  intro n
  induction n with
  | zero =>
    intro l l' h hn
    cases h with
    | nil => exact .nil
    | cons _ _ => simp at hn
  | succ n ih =>
    intro l l' h hn
    cases h with
    | nil => exact .nil
    | @cons a b as bs hab hrest =>
      have hbt : b.isTentative = a.isTentative := by obtain ⟨t, rfl⟩ := hab.1; rfl
      have hbs : b.sym = a.sym := by obtain ⟨t, rfl⟩ := hab.1; rfl
      have hn' : as.length ≤ n := by simp at hn; omega
      unfold scanPure scanKeeps scanLoop
      rw [← hbt, ← hbs]
      cases ht : b.isTentative
      · simp only [Bool.not_false, Bool.true_or, if_true]
        exact .cons hab (ih as bs hrest hn')
      · simp only [Bool.not_true, Bool.false_or, Bool.false_eq_true, if_false]
        have hsame : TentSame (completeArray b) a :=
          ⟨hab.1.trans (completeArray_same b), fun h => by rw [← hbt, ht] at h; cases h⟩
        have hsym : (completeArray b).sym = b.sym := by
          obtain ⟨t', ht'⟩ := completeArray_same b
          rw [ht']
        rw [hsym]
        have hall : (all.any fun o => o.isDefinition && !o.isTentative && o.sym == b.sym) = all.any (realDefOf b.sym) := rfl
        rw [hall]
        cases hreal : all.any (realDefOf b.sym)
        · simp only [Bool.false_eq_true, if_false]
          have hany : bs.any (isTentOf b.sym) = as.any (isTentOf b.sym) := hrest.tyRel.any (tyBlind_isTentOf _)
          cases hf : bs.find? (isTentOf b.sym) with
          | none =>
            have : as.any (isTentOf b.sym) = false := by
              rw [← hany]
              rw [List.find?_eq_none] at hf
              rw [List.any_eq_false]
              exact hf
            simp only [this, Bool.not_false, Bool.and_self, if_true]
            exact .cons hsame (ih as bs hrest hn')
          | some var2 =>
            have : as.any (isTentOf b.sym) = true := by
              rw [← hany, List.any_eq_true]
              exact ⟨var2, List.mem_of_find?_eq_some hf, List.find?_some hf⟩
            simp only [this, Bool.not_true, Bool.and_false, Bool.false_eq_true, if_false]
            split
            · exact ih as _ (hrest.trans (tentRel_updFirst _ _ bs)) hn'
            · exact ih as bs hrest hn'
        · simp only [Bool.not_true, Bool.false_and, Bool.false_eq_true, if_false, if_true]
          exact ih as bs hrest hn'

theorem scanCore_tentRel (gs : List Obj) : TentRel (scanPure gs gs) (scanCore gs) :=
  scan_tentRel gs gs.length gs gs (TentRel.rfl' gs) (Nat.le_refl _)

theorem scanCore_tyRel (gs : List Obj) : TyRel (scanPure gs gs) (scanCore gs) := (scanCore_tentRel gs).tyRel

/-! ### counting on `scanPure` -/

theorem isTentOf_sym {s : Sym} {o : Obj} (h : isTentOf s o = true) : o.sym = s := by
  unfold isTentOf at h
  simp only [Bool.and_eq_true, beq_iff_eq] at h
  exact h.2

theorem of_not_scanKeeps {all rest : List Obj} {var : Obj} (h : ¬ scanKeeps all rest var = true) :
    var.isTentative = true ∧ (all.any (realDefOf var.sym) = true ∨ rest.any (isTentOf var.sym) = true) := by
  unfold scanKeeps at h
  cases ht : var.isTentative <;> cases hr : all.any (realDefOf var.sym) <;> cases hl : rest.any (isTentOf var.sym) <;>
    simp [ht, hr, hl] at h ⊢

theorem scanPure_sublist (all : List Obj) : ∀ l : List Obj, (scanPure all l).Sublist l
  | [] => .slnil
  | a :: as => by
    unfold scanPure
    split
    · exact (scanPure_sublist all as).cons_cons a
    · exact (scanPure_sublist all as).cons a

theorem scanPure_sub (all l : List Obj) (x : Obj) (h : x ∈ scanPure all l) : x ∈ l := (scanPure_sublist all l).subset h

theorem scanPure_filter {q : Obj → Bool} (hq : ∀ o, q o = true → o.isTentative = false) (all : List Obj) :
    ∀ l : List Obj, (scanPure all l).filter q = l.filter q
  | [] => rfl
  | a :: as => by
    unfold scanPure
    split
    · rw [List.filter_cons, List.filter_cons, scanPure_filter hq all as]
    · rename_i hk
      rw [scanPure_filter hq all as, List.filter_cons_of_neg (fun h => by
        have := hq a h; rw [(of_not_scanKeeps hk).1] at this; cases this)]

theorem scanPure_notTent (all l : List Obj) :
    (scanPure all l).filter (fun o => !o.isTentative) = l.filter (fun o => !o.isTentative) :=
  scanPure_filter (fun _ h => by simpa using h) all l

theorem scanCore_filter {q : Obj → Bool} (hq : ∀ o, q o = true → o.isTentative = false) (hb : TyBlind q) (gs : List Obj) :
    (scanCore gs).filter q = gs.filter q := by
  rw [(scanCore_tentRel gs).filter hq hb, scanPure_filter hq]

theorem scanPure_cons (all : List Obj) (a : Obj) (as : List Obj) :
    scanPure all (a :: as) = if scanKeeps all as a = true then a :: scanPure all as else scanPure all as := rfl

/-- **what `scan_globals` keeps of the tentative definitions of one name**: the oldest one (the last in the list), unless
    the name has a real definition (the other objects are all kept: `scanPure_filter`) -/
theorem scanPure_tent (all : List Obj) (s : Sym) : ∀ l : List Obj,
    (scanPure all l).filter (isTentOf s) =
      if all.any (realDefOf s) = true then [] else (l.filter (isTentOf s)).getLast?.toList
  | [] => by simp [scanPure]
  | a :: as => by
    have ih := scanPure_tent all s as
    rw [scanPure_cons]
    cases hp : isTentOf s a
    · rw [List.filter_cons_of_neg (l := as) (by simp [hp]), ← ih]
      split
      · rw [List.filter_cons_of_neg (by simp [hp])]
      · rfl
    · rw [List.filter_cons_of_pos hp]
      unfold scanKeeps
      rw [isTentOf_tent hp, isTentOf_sym hp]
      cases hreal : all.any (realDefOf s)
      · rw [hreal] at ih
        cases hl : as.any (isTentOf s)
        · -- the oldest tentative definition of `s`: kept, and it is the last of the filtered list
          have h0 : as.filter (isTentOf s) = [] :=
            List.filter_eq_nil_iff.mpr fun x hx => by simp [List.any_eq_false.mp hl x hx]
          have hlast : (a :: as.filter (isTentOf s)).getLast?.toList = [a] := by rw [h0]; rfl
          rw [hlast]
          simp [hp, ih, h0]
        · -- an older one follows: dropped, and the last of the filtered list is the last of its tail
          obtain ⟨x, hx, hq⟩ := List.any_eq_true.mp hl
          obtain ⟨y, ys, hys⟩ := List.exists_cons_of_ne_nil (List.ne_nil_of_mem (List.mem_filter.mpr ⟨hx, hq⟩))
          have hlast : (a :: as.filter (isTentOf s)).getLast? = (as.filter (isTentOf s)).getLast? := by
            rw [hys]; exact List.getLast?_cons_cons
          rw [hlast]
          simp [ih]
      · rw [hreal] at ih
        simp [ih]

theorem scanPure_tent_le_one (all : List Obj) (s : Sym) (l : List Obj) :
    ((scanPure all l).filter (isTentOf s)).length ≤ 1 := by
  rw [scanPure_tent]
  split
  · exact Nat.zero_le _
  · cases (l.filter (isTentOf s)).getLast? <;> simp

theorem scanPure_tent_none (all : List Obj) (s : Sym) (hreal : all.any (realDefOf s) = true) (l : List Obj) :
    (scanPure all l).filter (isTentOf s) = [] := by
  rw [scanPure_tent, if_pos hreal]

theorem scanPure_tent_some (all : List Obj) (s : Sym) (hreal : all.any (realDefOf s) = false) (l : List Obj)
    (h : l.any (isTentOf s) = true) : (scanPure all l).any (isTentOf s) = true := by
  obtain ⟨x, hx, hq⟩ := List.any_eq_true.mp h
  obtain ⟨y, hy⟩ := Option.isSome_iff_exists.mp
    (List.getLast?_isSome.mpr (List.ne_nil_of_mem (List.mem_filter.mpr ⟨hx, hq⟩)))
  have hm : y ∈ (scanPure all l).filter (isTentOf s) := by
    rw [scanPure_tent, if_neg (by simp [hreal]), hy]; exact List.mem_singleton.mpr rfl
  exact List.any_eq_true.mpr ⟨y, (List.mem_filter.mp hm).1, (List.mem_filter.mp hm).2⟩

end ChibiVerif.Linkage
