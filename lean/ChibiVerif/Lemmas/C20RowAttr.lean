/-
C20: the simp set `c20_row` — the rows of the instruction table (Lemmas/C20Table.lean).
-/
import Lean.Meta.Tactic.Simp.RegisterCommand

/-- rows of `Effect.insDelta` / `Effect.lineDelta`: what one mnemonic, one operand, one line does -/
register_simp_attr c20_row
