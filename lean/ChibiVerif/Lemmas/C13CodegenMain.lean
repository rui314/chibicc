/-
C13 — the induction over the tree: `gen_expr`, `gen_addr`, `gen_stmt` on trees in scope (Lemmas/C13Codegen.lean) fail only
with one of the three located diagnostics.
-/
import ChibiVerif.Lemmas.C13Codegen

namespace ChibiVerif.C13Codegen
open ChibiVerif.Ast ChibiVerif.Asm ChibiVerif.Codegen

theorem ty?_eq (n : Node) (i : NInfo) (h : n.info? = some i) : n.ty? = i.ty := by
  simp [Node.ty?, h]

/- Structural recursion on the tree.  At a constructor the generator and the scope predicate are their arms by definition, so
   an arm is stated as the arm of the C code; where the scope predicate is a conjunction there, `simp only [okE,
   Bool.and_eq_true] at h` splits it.  A generator is rewritten with an equation only where the arms of the model overlap, so
   that the equation has a side condition: `binop` (`genExpr` matches on the operand) and the two last arms of
   `genStmtExprBody` (the final expression statement of a statement expression).  The arms that a scope predicate excludes have
   `h : false = true`; the catch-all arms of `gen_addr` and `gen_stmt` are `error_tok` by unfolding. -/
mutual
  theorem exprClean (env : Env) : ∀ (n : Node), okE env n = true → Clean (genExpr env n)
    | .nullExpr i, _ => loc_clean i
    | .num i val a b c d, h => (loc_clean i).seq (numArm_clean i val a b c d h)
    | .neg i l, h => by
      simp only [okE, Bool.and_eq_true] at h
      exact (loc_clean i).seq (negArm_clean i (exprClean env l h.1) h.2)
    | .var i v, h => by
      simp only [okE, Bool.and_eq_true] at h
      obtain ⟨v', rfl, hv⟩ := varOK_some h.1
      exact (loc_clean i).seq ((addrVar_clean env i v' hv h.2).seq (load_clean h.2))
    | .member i l m, h => by
      simp only [okE, Bool.and_eq_true] at h
      cases m with
      | none => cases h.2
      | some m => exact (loc_clean i).seq (memberArm_clean env i (addrClean env l h.1.1) m h.1.2 h.2)
    | .deref i l, h => by
      simp only [okE, Bool.and_eq_true] at h
      exact (loc_clean i).seq ((exprClean env l h.1).seq (load_clean h.2))
    | .addr i l, h => (loc_clean i).seq (addrClean env l h)
    | .assign i l r, h => by
      simp only [okE, Bool.and_eq_true] at h
      exact (loc_clean i).seq
        (assignArm_clean env i (bitfieldOf l) (addrClean env l h.1.1.1) (exprClean env r h.1.1.2) h.1.2 h.2)
    | .stmtExpr i body, h => (loc_clean i).seq (bodyClean env body h)
    | .comma i l r, h => by
      simp only [okE, Bool.and_eq_true] at h
      exact (loc_clean i).seq ((exprClean env l h.1).seq ((discard_clean _).seq (exprClean env r h.2)))
    | .cast i l, h => by
      simp only [okE, Bool.and_eq_true] at h
      exact (loc_clean i).seq ((exprClean env l h.1.1).seq (cast_clean h.2 h.1.2))
    | .memzero i v, h => by
      obtain ⟨v', rfl, hv⟩ := varOK_some h
      exact (loc_clean i).seq (memzeroArm_clean env v' hv)
    | .cond i c t e, h => by
      simp only [okE, Bool.and_eq_true] at h
      exact (loc_clean i).seq
        (condArm_clean (exprClean env c h.1.1.1) (exprClean env t h.1.1.2) (exprClean env e h.1.2) h.2)
    | .not i l, h => by
      simp only [okE, Bool.and_eq_true] at h
      exact (loc_clean i).seq (notArm_clean (exprClean env l h.1) h.2)
    | .bitnot i l, h => (loc_clean i).seq ((exprClean env l h).seq (Clean.emit _))
    | .logand i l r, h => by
      simp only [okE, Bool.and_eq_true] at h
      exact (loc_clean i).seq (logandArm_clean (exprClean env l h.1.1.1) (exprClean env r h.1.1.2) h.1.2 h.2)
    | .logor i l r, h => by
      simp only [okE, Bool.and_eq_true] at h
      exact (loc_clean i).seq (logorArm_clean (exprClean env l h.1.1.1) (exprClean env r h.1.1.2) h.1.2 h.2)
    | .labelVal i a b, _ => (loc_clean i).seq (Clean.emit _)
    | .binop i op l r, h => by
      simp only [okE, Bool.and_eq_true, Bool.not_eq_true'] at h
      rw [genExpr]
      · exact (loc_clean i).seq (binopArm_clean i op (exprClean env l h.1.1.1.2) (exprClean env r h.1.1.2) h.1.2 h.2)
      · rintro rfl
        cases h.1.1.1.1
    | .null, h | .funcall .., h | .cas .., h | .exch .., h | .vlaPtr .., h | .ret .., h | .if_ .., h | .for_ .., h
    | .do_ .., h | .switch_ .., h | .case_ .., h | .block .., h | .goto_ .., h | .gotoExpr .., h | .label .., h
    | .exprStmt .., h | .asm_ .., h => Bool.noConfusion h
  theorem addrClean (env : Env) : ∀ (n : Node), okA env n = true → Clean (genAddr env n)
    | .var i v, h => by
      simp only [okA, Bool.and_eq_true] at h
      obtain ⟨v', rfl, hv⟩ := varOK_some h.1
      exact addrVar_clean env i v' hv h.2
    | .deref _ l, h => exprClean env l h
    | .comma _ l r, h => by
      simp only [okA, Bool.and_eq_true] at h
      exact (exprClean env l h.1).seq ((discard_clean _).seq (addrClean env r h.2))
    | .member _ l m, h => by
      simp only [okA, Bool.and_eq_true] at h
      obtain ⟨m', rfl⟩ := Option.isSome_iff_exists.1 h.2
      exact addrMember_clean (addrClean env l h.1) m'
    | .assign i l r, h => by
      simp only [okA, Bool.and_eq_true] at h
      refine Clean.bind (Clean.needTy h.1.1.1) fun _ => Clean.ite ((loc_clean i).seq ?_) Clean.notLvalue
      exact assignArm_clean env i (bitfieldOf l) (addrClean env l h.1.1.2) (exprClean env r h.1.2) h.1.1.1 h.2
    | .cond i c t e, h => by
      simp only [okA, Bool.and_eq_true] at h
      refine Clean.bind (Clean.needTy h.1.1.1.1) fun _ => Clean.ite ((loc_clean i).seq ?_) Clean.notLvalue
      exact condArm_clean (exprClean env c h.1.1.1.2) (exprClean env t h.1.1.2) (exprClean env e h.1.2) h.2
    | .vlaPtr _ v, h => by
      obtain ⟨v', rfl⟩ := Option.isSome_iff_exists.1 h
      exact Clean.bind_pure (Clean.emit _)
    | .null, h | .funcall .., h => Bool.noConfusion h
    | .nullExpr .., _ | .binop .., _ | .neg .., _ | .addr .., _ | .not .., _ | .bitnot .., _ | .logand .., _
    | .logor .., _ | .ret .., _ | .if_ .., _ | .for_ .., _ | .do_ .., _ | .switch_ .., _ | .case_ .., _ | .block .., _
    | .goto_ .., _ | .gotoExpr .., _ | .label .., _ | .labelVal .., _ | .exprStmt .., _ | .stmtExpr .., _ | .num .., _
    | .cast .., _ | .memzero .., _ | .asm_ .., _ | .cas .., _ | .exch .., _ => Clean.notLvalue
  theorem stmtClean (env : Env) : ∀ (n : Node), okS env n = true → Clean (genStmt env n)
    | .if_ i c t e, h => by
      simp only [okS, Bool.and_eq_true, Bool.or_eq_true] at h
      exact (loc_clean i).seq (ifArm_clean (exprClean env c h.1.1.1) (stmtClean env t h.1.2) h.1.1.2 _
        (optGen_clean (h.2.imp_right (stmtClean env e))))
    | .for_ i init c inc t brk cont, h => by
      simp only [okS, Bool.and_eq_true, Bool.or_eq_true] at h
      exact (loc_clean i).seq (forArm_clean _ _ _ _ _
        (optGen_clean (h.1.1.1.imp_right (stmtClean env init)))
        (optGen_map_clean (h.1.1.2.imp_right fun hc => ⟨exprClean env c hc.1, hc.2⟩))
        (stmtClean env t h.2)
        fun x ty e => (optGen_map_clean (P := fun _ => True)
          (h.1.2.imp_right fun hi => ⟨exprClean env inc hi, trivial⟩) x ty e).1)
    | .do_ i t c brk cont, h => by
      simp only [okS, Bool.and_eq_true] at h
      exact (loc_clean i).seq (doArm_clean (stmtClean env t h.1.1) (exprClean env c h.1.2) h.2 brk cont)
    | .switch_ i c t brk cases dflt, h => by
      simp only [okS, Bool.and_eq_true] at h
      exact (loc_clean i).seq (switchArm_clean (exprClean env c h.1.1) (stmtClean env t h.2) h.1.2 brk cases dflt)
    | .case_ i a b lbl l, h => (loc_clean i).seq ((Clean.emit _).seq (stmtClean env l h))
    | .block i body, h => (loc_clean i).seq (stmtsClean env body h)
    | .goto_ i a b, _ => (loc_clean i).seq (Clean.emit _)
    | .gotoExpr i l, h => (loc_clean i).seq ((exprClean env l h).seq (Clean.emit _))
    | .label i a b l, h => (loc_clean i).seq ((Clean.emit _).seq (stmtClean env l h))
    | .ret i l, h => by
      simp only [okS, Bool.or_eq_true, Bool.and_eq_true] at h
      exact (loc_clean i).seq (returnArm_clean env _
        (optGen_map_clean (h.imp_right fun hl => ⟨exprClean env l hl.1, scalarTy_some hl.2⟩)))
    | .exprStmt i l, h => (loc_clean i).seq ((exprClean env l h).seq (discard_clean _))
    | .asm_ i s, _ => (loc_clean i).seq (Clean.emit _)
    | .null, h => Bool.noConfusion h
    | .nullExpr i, _ | .binop i .., _ | .neg i .., _ | .assign i .., _ | .cond i .., _ | .comma i .., _ | .member i .., _
    | .addr i .., _ | .deref i .., _ | .not i .., _ | .bitnot i .., _ | .logand i .., _ | .logor i .., _ | .labelVal i .., _
    | .funcall i .., _ | .stmtExpr i .., _ | .var i .., _ | .vlaPtr i .., _ | .num i .., _ | .cast i .., _ | .memzero i .., _
    | .cas i .., _ | .exch i .., _ => (loc_clean i).seq Clean.invalidStmt
  theorem stmtsClean (env : Env) : ∀ (l : NodeList), okL env l = true → Clean (genStmts env l)
    | .nil, _ => Clean.pure _
    | .cons n rest, h => by
      simp only [okL, Bool.and_eq_true] at h
      exact (stmtClean env n h.1).seq (stmtsClean env rest h.2)
  theorem bodyClean (env : Env) : ∀ (l : NodeList), okB env l = true → Clean (genStmtExprBody env l)
    | .nil, _ => Clean.pure _
    | .cons n (.cons m rest), h => by
      -- the side condition of the last equation of `okB` and `genStmtExprBody`: not a final expression statement
      have hne : ∀ i lhs, n = .exprStmt i lhs → NodeList.cons m rest = .nil → False := fun _ _ _ h => nomatch h
      rw [okB.eq_3 _ _ _ hne, Bool.and_eq_true] at h
      rw [genStmtExprBody.eq_3 _ _ _ hne]
      exact (stmtClean env n h.1).seq (bodyClean env (.cons m rest) h.2)
    | .cons n .nil, h => by
      cases n with
      | exprStmt i lhs => exact (loc_clean i).seq (exprClean env lhs h)
      | _ =>
        simp only [okB, Bool.and_true] at h
        simp only [genStmtExprBody]
        exact (stmtClean env _ h).seq (Clean.pure _)
end

end ChibiVerif.C13Codegen
