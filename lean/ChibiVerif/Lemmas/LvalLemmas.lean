/-
Helper lemmas for the lvalue-path family of C04: `get_struct_member` against the specification `locate`, the loop of
`struct_ref`, the run-time VLA size against `sizeof`, one postfix operator, whole paths.
-/
import ChibiVerif.Model.Lval
namespace ChibiVerif.Lval

theorem Members.has_eq (ms : Members) (nm : String) : ms.has nm = (ms.locate nm).isSome := by
  fun_induction Members.locate ms nm <;> simp_all [Members.has]

/-- the member `r` that `get_struct_member` stops at, against `l`, what `locate` specifies; `d` bounds the nesting depth of
    the anonymous aggregate the search goes on in -/
def GetSpec (nm : String) (d : Nat) (l : Option (Nat × Ty)) : Option Mem → Prop
  | none => l = none
  | some m =>
    (m.name.isSome = true → l = some (m.offset, m.ty)) ∧
    (m.name.isSome = false → ∃ s ms', m.ty = .agg s ms' ∧ ms'.depth + 1 ≤ d ∧
        ∃ o t, ms'.locate nm = some (o, t) ∧ l = some (m.offset + o, t))

theorem GetSpec.mono {nm : String} {d d' : Nat} {l : Option (Nat × Ty)} {r : Option Mem} (h : GetSpec nm d l r) (hd : d ≤ d') :
    GetSpec nm d' l r := by
  cases r with
  | none => exact h
  | some m =>
    refine ⟨h.1, fun hn => ?_⟩
    obtain ⟨s, ms', e1, e2, rest⟩ := h.2 hn
    exact ⟨s, ms', e1, Nat.le_trans e2 hd, rest⟩

theorem Members.get_spec (ms : Members) (nm : String) : GetSpec nm ms.depth (ms.locate nm) (ms.get nm) := by
  have hdepth : ∀ n off t (rest : Members), rest.depth ≤ (Members.cons n off t rest).depth := fun n off t rest => by
    simp only [Members.depth]; omega
  fun_induction Members.get ms nm with
  -- the cases are the equations of `get`
  | case1 => rfl                                  -- no member left
  | case2 off s ms rest nm h =>                   -- an anonymous aggregate that has `nm`: the search stops at it
    rw [Members.has_eq, Option.isSome_iff_exists] at h
    obtain ⟨⟨o, t⟩, hl⟩ := h
    refine ⟨nofun, fun _ => ⟨s, ms, rfl, ?_, o, t, hl, by simp only [Members.locate, hl]⟩⟩
    simp only [Members.depth, Ty.depth]; omega
  | case3 off s ms rest nm h ih =>                -- an anonymous aggregate without `nm`: on to the rest
    rw [Members.has_eq, Option.not_isSome_iff_eq_none] at h
    simp only [Members.locate, h]
    exact ih.mono (hdepth ..)
  | case4 off t rest nm ht ih =>                  -- an anonymous member that is no aggregate: on to the rest
    rw [Members.locate]
    · exact ih.mono (hdepth ..)
    · exact ht
  -- the member named `nm`, then a member with another name
  | case5 n off t rest nm h => exact ⟨fun _ => by simp only [Members.locate, h, if_true], nofun⟩
  | case6 n off t rest nm h ih =>
    simp only [Members.locate, h]
    exact ih.mono (hdepth ..)

theorem genAddr_member (env : Env) (l : Node) (off : Nat) (t : Ty) (a : Int) (h : genAddr env l = .ok a) :
    genAddr env (.member l off t) = .ok (a + off) := by
  simp only [genAddr, h]; rfl

/-- `struct_ref` finds exactly the member `locate` specifies, at the sum of the offsets along the path, and its loop
    ends within the nesting depth of the type -/
theorem structRef_spec (env : Env) : ∀ (fuel : Nat) (node : Node) (nm : String) (s : Nat) (ms : Members) (a : Int),
    node.ty = .agg s ms → ms.depth + 1 ≤ fuel → genAddr env node = .ok a →
    match ms.locate nm with
    | none => structRef fuel node nm = .error .noSuchMember
    | some (o, t) => ∃ n', structRef fuel node nm = .ok n' ∧ n'.ty = t ∧ genAddr env n' = .ok (a + o) := by
  intro fuel
  induction fuel with
  | zero => intro node nm s ms a _ h; omega
  | succ f ih =>
    intro node nm s ms a hty hfuel ha
    have hg := Members.get_spec ms nm
    simp only [structRef, hty]
    cases hget : ms.get nm with
    | none =>
      rw [hget] at hg
      rw [show ms.locate nm = none from hg]
    | some m =>
      rw [hget] at hg
      cases hname : m.name.isSome with
      | true =>
        rw [hg.1 hname]
        simp only [hname, if_true]
        exact ⟨_, rfl, rfl, genAddr_member env node m.offset m.ty a ha⟩
      | false =>
        obtain ⟨s', ms', e1, e2, o, t, e3, e4⟩ := hg.2 hname
        rw [e4]
        simp only [hname, Bool.false_eq_true, if_false]
        have := ih (Node.member node m.offset m.ty) nm s' ms' (a + m.offset) (by simp only [Node.ty]; exact e1) (by omega)
          (genAddr_member env node m.offset m.ty a ha)
        rw [e3] at this
        obtain ⟨n', h1, h2, h3⟩ := this
        exact ⟨n', h1, h2, by rw [h3]; congr 1; omega⟩

theorem implSize_eq_sizeof : ∀ (t : Ty), t.noInlineVla = true → t.implSize = t.sizeof
  | .scalar _, _ => rfl
  | .ptr _, _ => rfl
  | .arr b n, h => by
    simp only [Ty.noInlineVla] at h
    simp only [Ty.implSize, Ty.sizeof, implSize_eq_sizeof b h]
  | .vla _ _, h => by simp [Ty.noInlineVla] at h
  | .agg _ _, _ => rfl

/-- the hidden local `vla_size` holds `sizeof` of the VLA type -/
theorem vlaSizeVal_eq_sizeof : ∀ (b : Ty) (n : Nat), (Ty.vla b n).wf = true → (Ty.vla b n).vlaSizeVal = (Ty.vla b n).sizeof
  | .vla b' n', n, h => by
    have ih := vlaSizeVal_eq_sizeof b' n' (by simpa [Ty.wf] using h)
    simp only [Ty.vlaSizeVal, Ty.sizeof] at ih ⊢
    rw [ih, Nat.mul_comm]
  | .scalar _, n, _ => by simp only [Ty.vlaSizeVal, Ty.sizeof, Ty.implSize, Nat.mul_comm]
  | .ptr _, n, _ => by simp only [Ty.vlaSizeVal, Ty.sizeof, Ty.implSize, Nat.mul_comm]
  | .arr b' n', n, h => by
    have : (Ty.arr b' n').noInlineVla = true := by simpa [Ty.wf] using h
    simp only [Ty.vlaSizeVal]
    rw [implSize_eq_sizeof _ this]
    simp only [Ty.sizeof]
    rw [Nat.mul_comm]
  | .agg _ _, n, _ => by simp only [Ty.vlaSizeVal, Ty.sizeof, Ty.implSize, Nat.mul_comm]

/-- the factor of `new_add` is `sizeof` of the element -/
theorem scaleOf_eq_sizeof (b : Ty) (h : b.wf = true) : scaleOf b = b.sizeof := by
  cases b with
  | vla b' n => simp only [scaleOf]; exact vlaSizeVal_eq_sizeof b' n h
  | scalar _ => rfl
  | ptr _ => rfl
  | arr b' n => simp only [scaleOf]; exact implSize_eq_sizeof _ (by simpa [Ty.wf] using h)
  | agg _ _ => rfl


theorem Members.locate_allWf (ms : Members) (nm : String) (o : Nat) (t : Ty)
    (hw : ms.allWf = true) (h : ms.locate nm = some (o, t)) : t.wf = true ∧ t.allWf = true := by
  fun_induction Members.locate ms nm generalizing o t <;> simp only [Members.allWf, Ty.allWf, Bool.and_eq_true] at hw
  -- the cases are the equations of `locate`
  case case1 => cases h                                       -- no member left
  case case2 o' t' hl ih => cases h; exact ih _ _ hw.1.2 hl   -- an anonymous aggregate that has `nm`
  case case3 ih => exact ih o t hw.2 h                        -- an anonymous aggregate without `nm`: on to the rest
  case case4 ih => exact ih o t hw.2 h                        -- an anonymous member that is no aggregate: on to the rest
  case case5 => cases h; exact hw.1                           -- the member named `nm`
  case case6 ih => exact ih o t hw.2 h                        -- a member with another name: on to the rest

theorem genExpr_of_genAddr (env : Env) (node : Node) (a : Int) (h : genAddr env node = .ok a) :
    genExpr env node = .ok (load env node.ty a) := by
  cases node with
  | var a' t => simp only [genAddr, Except.ok.injEq] at h; subst h; rfl
  | vlaVar slot t => simp only [genAddr, Except.ok.injEq] at h; subst h; rfl
  | member l off t =>
    simp only [genAddr] at h
    cases hl : genAddr env l with
    | error e => rw [hl] at h; cases h
    | ok al =>
      rw [hl] at h
      have : a = al + off := by cases h; rfl
      subst this
      simp only [genExpr, hl]; rfl
  | deref l t =>
    simp only [genAddr] at h
    simp only [genExpr, h]; rfl
  | add l i sc t => simp [genAddr] at h


theorem structRef_member (env : Env) (node : Node) (nm : String) (s : Nat) (ms : Members) (x : Int)
    (hty : node.ty = .agg s ms) (hx : genAddr env node = .ok x) (hwf : ms.allWf = true) :
    match (ms.locate nm).map fun (o, t) => (x + (o : Int), t) with
    | some (a', t') => ∃ n', structRef (ms.depth + 1 + 1) node nm = .ok n' ∧ n'.ty = t' ∧ genAddr env n' = .ok a' ∧
        t'.wf = true ∧ t'.allWf = true
    | none => ∃ e, structRef (ms.depth + 1 + 1) node nm = .error e := by
  -- `ms.depth + 1 + 1` is the fuel `node.ty.depth + 1` that `elabStep` gives `structRef` on a node of this type
  have h := structRef_spec env (ms.depth + 1 + 1) node nm s ms x hty (by omega) hx
  cases hl : ms.locate nm with
  | none => rw [hl] at h; exact ⟨_, h⟩
  | some p =>
    rw [hl] at h
    obtain ⟨n', h1, h2, h3⟩ := h
    exact ⟨n', h1, h2, h3, Members.locate_allWf ms nm p.1 p.2 hwf hl⟩

/-- one postfix operator: the node the parser builds computes the address C designates, with the designated type -/
theorem elabStep_spec (env : Env) (node : Node) (a : Int) (st : Step)
    (ha : genAddr env node = .ok a) (hwf : node.ty.allWf = true) :
    match designateStep env a node.ty st with
    | some (a', t') => ∃ n', elabStep node st = .ok n' ∧ n'.ty = t' ∧ genAddr env n' = .ok a' ∧ t'.wf = true ∧ t'.allWf = true
    | none => ∃ e, elabStep node st = .error e := by
  have hv := genExpr_of_genAddr env node a ha
  cases st with
  | dot nm =>
    simp only [designateStep, elabStep]
    cases hty : node.ty with
    | agg s ms => exact structRef_member env node nm s ms a hty ha (by rw [hty] at hwf; exact hwf)
    | _ => exact ⟨.notStruct, by simp only [structRef, hty]⟩
  | arrow nm =>
    simp only [designateStep, elabStep]
    cases hty : node.ty with
    | ptr b =>
      rw [hty] at hv hwf
      have hd : genAddr env (.deref node b) = .ok (env.ptrAt a) := by simp only [genAddr, hv]; rfl
      cases b with
      | agg s ms => exact structRef_member env _ nm s ms _ rfl hd (by simp only [Ty.allWf, Bool.and_eq_true] at hwf; exact hwf.2)
      | _ => exact ⟨.notStruct, by simp only [structRef, Node.ty]⟩
    | arr b n =>
      rw [hty] at hv hwf
      have hd : genAddr env (.deref node b) = .ok a := by simp only [genAddr, hv]; rfl
      cases b with
      | agg s ms => exact structRef_member env _ nm s ms _ rfl hd (by simp only [Ty.allWf, Bool.and_eq_true] at hwf; exact hwf.2)
      | _ => exact ⟨.notStruct, by simp only [structRef, Node.ty]⟩
    | _ => exact ⟨_, rfl⟩
  | index i =>
    simp only [designateStep, elabStep]
    cases hty : node.ty with
    | ptr b | arr b n | vla b n =>
      rw [hty] at hv hwf
      simp only [Ty.allWf, Bool.and_eq_true] at hwf
      refine ⟨_, rfl, rfl, ?_, hwf.1, hwf.2⟩
      simp only [genAddr, genExpr, hv, scaleOf_eq_sizeof b hwf.1]; rfl
    | _ => exact ⟨_, rfl⟩

theorem elabPath_spec (env : Env) : ∀ (path : List Step) (node : Node) (a : Int),
    genAddr env node = .ok a → node.ty.allWf = true →
    match designate env a node.ty path with
    | some (a', t') => ∃ n', elabPath node path = .ok n' ∧ n'.ty = t' ∧ genAddr env n' = .ok a'
    | none => ∃ e, elabPath node path = .error e := by
  intro path
  induction path with
  | nil => intro node a ha _; exact ⟨node, rfl, rfl, ha⟩
  | cons st rest ih =>
    intro node a ha hwf
    have h := elabStep_spec env node a st ha hwf
    simp only [designate, elabPath]
    cases hd : designateStep env a node.ty st with
    | none =>
      rw [hd] at h
      obtain ⟨e, he⟩ := h
      exact ⟨e, by rw [he]⟩
    | some p =>
      obtain ⟨a1, t1⟩ := p
      rw [hd] at h
      obtain ⟨n1, h1, h2, h3, _, h5⟩ := h
      simp only [h1]
      have := ih n1 a1 h3 (by rw [h2]; exact h5)
      rw [h2] at this
      exact this

end ChibiVerif.Lval
