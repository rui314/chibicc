/-
Helper lemmas for the containment half of the lvalue-path family of C04 (`Model/LvalBounds.lean`): a located member lies
inside its aggregate; one in-range step stays inside the enclosing object; whole paths by induction; the offset sum of
pointer-free paths.
-/
import ChibiVerif.Model.LvalBounds
import ChibiVerif.Lemmas.LvalLemmas

namespace ChibiVerif.Lval

/-- a member found by `locate` (through any number of anonymous levels) lies, with its whole size, inside the aggregate -/
theorem Members.locate_fits (ms : Members) (s : Nat) (nm : String) (o : Nat) (t : Ty)
    (hf : ms.fits s = true) (h : ms.locate nm = some (o, t)) : o + t.sizeof ≤ s ∧ t.fits = true := by
  fun_induction Members.locate ms nm generalizing o t s <;>
    simp only [Members.fits, Ty.fits, Ty.sizeof, Bool.and_eq_true] at hf
  -- the cases are the equations of `locate`
  case case1 => cases h                                   -- no member left
  case case2 o' t' hl ih =>                               -- an anonymous aggregate that has `nm`, at `o'` inside it
    cases h
    obtain ⟨h1, h2⟩ := ih _ _ _ hf.1.2 hl
    have h3 := of_decide_eq_true hf.1.1
    exact ⟨by omega, h2⟩
  case case3 ih => exact ih s o t hf.2 h                  -- an anonymous aggregate without `nm`: on to the rest
  case case4 ih => exact ih s o t hf.2 h                  -- an anonymous member that is no aggregate: on to the rest
  case case5 => cases h; exact ⟨of_decide_eq_true hf.1.1, hf.1.2⟩   -- the member named `nm`
  case case6 ih => exact ih s o t hf.2 h                  -- a member with another name: on to the rest

theorem elem_bounds (i : Int) (sz n : Nat) (h0 : 0 ≤ i) (h1 : i < (n : Int)) :
    0 ≤ i * (sz : Int) ∧ i * (sz : Int) + (sz : Int) ≤ ((sz * n : Nat) : Int) := by
  have hs : (0 : Int) ≤ (sz : Int) := Int.natCast_nonneg sz
  refine ⟨Int.mul_nonneg h0 hs, ?_⟩
  have h2 : (i + 1) * (sz : Int) ≤ (n : Int) * (sz : Int) := Int.mul_le_mul_of_nonneg_right (by omega) hs
  rw [Int.add_mul, Int.one_mul] at h2
  rw [Int.natCast_mul, Int.mul_comm (sz : Int) (n : Int)]
  exact h2

theorem Members.located_bounds {ms : Members} {s : Nat} {nm : String} (hf : ms.fits s = true) (base : Int) {a' : Int} {t' : Ty}
    (hd : ((ms.locate nm).map fun (o, t) => (base + o, t)) = some (a', t')) :
    base ≤ a' ∧ a' + (t'.sizeof : Int) ≤ base + s ∧ t'.fits = true := by
  cases hl : ms.locate nm with
  | none => rw [hl] at hd; cases hd
  | some p =>
    rw [hl] at hd; cases hd
    obtain ⟨h1, h2⟩ := Members.locate_fits ms s nm p.1 p.2 hf hl
    exact ⟨by omega, by omega, h2⟩

/-- one `.`/`->`/`[i]` with an in-range index stays inside the enclosing object (the object itself, or after a pointer
    step the pointee) -/
theorem designateStep_bounds (env : Env) (B : Int) (S : Nat) (a : Int) (ty : Ty) (st : Step) (a' : Int) (t' : Ty)
    (hlo : B ≤ a) (hhi : a + (ty.sizeof : Int) ≤ B + (S : Int)) (hf : ty.fits = true) (hok : stepOk ty st = true)
    (hd : designateStep env a ty st = some (a', t')) :
    (encloseStep env B S a ty st).1 ≤ a' ∧
    a' + (t'.sizeof : Int) ≤ (encloseStep env B S a ty st).1 + ((encloseStep env B S a ty st).2 : Int) ∧ t'.fits = true := by
  cases st <;> cases ty <;> first | (cases hd; done) | skip
  case dot.agg s ms =>
    obtain ⟨h1, h2, h3⟩ := Members.located_bounds hf a hd
    simp only [encloseStep, Ty.sizeof] at hhi ⊢
    exact ⟨by omega, by omega, h3⟩
  case arrow.ptr b =>
    cases b <;> first | (cases hd; done) | skip
    exact Members.located_bounds hf _ hd
  case arrow.arr b n =>
    cases b <;> first | (cases hd; done) | skip
    rename_i s ms
    obtain ⟨h1, h2, h3⟩ := Members.located_bounds hf a hd
    simp only [stepOk, decide_eq_true_eq] at hok
    have : ((s : Int)) ≤ ((s * n : Nat) : Int) := Int.ofNat_le.mpr (Nat.le_mul_of_pos_right s hok)
    simp only [encloseStep, Ty.sizeof] at hhi ⊢
    exact ⟨by omega, by omega, h3⟩
  case index.ptr i b => cases hd; exact ⟨Int.le_refl _, Int.le_refl _, hf⟩
  case index.arr i b n | index.vla i b n =>
    cases hd
    simp only [stepOk, Bool.and_eq_true, decide_eq_true_eq] at hok
    obtain ⟨e1, e2⟩ := elem_bounds i t'.sizeof n hok.1 hok.2
    simp only [encloseStep, Ty.sizeof] at hhi ⊢
    exact ⟨by omega, by omega, hf⟩

/-- a whole path of in-range steps designates bytes inside the enclosing object -/
theorem designate_bounds (env : Env) : ∀ (path : List Step) (B : Int) (S : Nat) (a : Int) (ty : Ty) (a' : Int) (t' : Ty),
    B ≤ a → a + (ty.sizeof : Int) ≤ B + (S : Int) → ty.fits = true → pathOk env a ty path = true →
    designate env a ty path = some (a', t') →
    (enclosing env B S a ty path).1 ≤ a' ∧
    a' + (t'.sizeof : Int) ≤ (enclosing env B S a ty path).1 + ((enclosing env B S a ty path).2 : Int) ∧ t'.fits = true := by
  intro path
  induction path with
  | nil =>
    intro B S a ty a' t' hlo hhi hf _ hd
    simp only [designate, Option.some.injEq, Prod.mk.injEq] at hd
    obtain ⟨rfl, rfl⟩ := hd
    exact ⟨hlo, hhi, hf⟩
  | cons st rest ih =>
    intro B S a ty a' t' hlo hhi hf hok hd
    simp only [designate] at hd
    simp only [pathOk, Bool.and_eq_true] at hok
    cases hs : designateStep env a ty st with
    | none => rw [hs] at hd; simp at hd
    | some p =>
      obtain ⟨a1, t1⟩ := p
      rw [hs] at hd hok
      simp only at hd hok
      obtain ⟨b1, b2, b3⟩ := designateStep_bounds env B S a ty st a1 t1 hlo hhi hf hok.1 hs
      have := ih _ _ a1 t1 a' t' b1 b2 b3 hok.2 hd
      simp only [enclosing, hs]
      exact this

theorem offsetStep_spec (env : Env) (B : Int) (S : Nat) (a : Int) (ty : Ty) (st : Step) (k : Int) (t1 : Ty)
    (h1 : offsetStep ty st = some (k, t1)) :
    designateStep env a ty st = some (a + k, t1) ∧ encloseStep env B S a ty st = (B, S) := by
  have located : ∀ (ms : Members) (nm : String), ((ms.locate nm).map fun (o, t) => ((o : Int), t)) = some (k, t1) →
      ((ms.locate nm).map fun (o, t) => (a + (o : Int), t)) = some (a + k, t1) := fun ms nm h => by
    cases hl : ms.locate nm with
    | none => rw [hl] at h; cases h
    | some p => rw [hl] at h; cases h; rfl
  cases st <;> cases ty <;> first | (cases h1; done) | skip
  case dot.agg s ms => exact ⟨located ms _ h1, rfl⟩
  case dot.arr b n => cases b <;> cases h1
  case arrow.arr b n =>
    cases b <;> first | (cases h1; done) | skip
    exact ⟨located _ _ h1, rfl⟩
  case index.arr b n => cases b <;> (cases h1; exact ⟨rfl, rfl⟩)
  case index.vla b n => cases h1; exact ⟨rfl, rfl⟩

/-- a path through no pointer: the designated address is the base plus the sum of the summands, for every base and every
    memory, and the root object stays the enclosing object -/
theorem designate_of_offsetTerms (env : Env) : ∀ (path : List Step) (B : Int) (S : Nat) (a : Int) (ty : Ty) (ks : List Int) (t' : Ty),
    offsetTerms ty path = some (ks, t') →
    designate env a ty path = some (a + ks.sum, t') ∧ enclosing env B S a ty path = (B, S) := by
  intro path
  induction path with
  | nil =>
    intro B S a ty ks t' h
    simp only [offsetTerms, Option.some.injEq, Prod.mk.injEq] at h
    obtain ⟨rfl, rfl⟩ := h
    simp [designate, enclosing]
  | cons st rest ih =>
    intro B S a ty ks t' h
    simp only [offsetTerms] at h
    cases hone : offsetStep ty st with
    | none => rw [hone] at h; simp at h
    | some q1 =>
      obtain ⟨k, t1⟩ := q1
      rw [hone] at h
      simp only at h
      cases hr : offsetTerms t1 rest with
      | none => rw [hr] at h; simp at h
      | some q =>
        obtain ⟨ks', t''⟩ := q
        rw [hr] at h
        simp only [Option.map_some, Option.some.injEq, Prod.mk.injEq] at h
        obtain ⟨rfl, rfl⟩ := h
        obtain ⟨d1, d2⟩ := offsetStep_spec env B S a ty st k t1 hone
        obtain ⟨i1, i2⟩ := ih B S (a + k) t1 ks' t'' hr
        simp only [designate, enclosing, d1, d2, i1, i2, List.sum_cons]
        exact ⟨by rw [Int.add_assoc], trivial⟩

end ChibiVerif.Lval
