/-
C01: the compiler `compileA` (Model/C01ExprA) as a relation, and what it guarantees about its result.

* `CompA … k c e t code k' c'`: `compileA … k c e = some (t, code, k', c')`, one rule per successful path.  `CompA.of_eq` is
  the only place where `compileA` is unfolded; proofs about compiled code go by induction on the derivation.
* `CJ`, `CompA.facts`: the temporaries counter only grows, the label counter advances by exactly `nlbl e`, the type is the
  C11 type (`typeOf`), and — the **freshness invariant** of `count()` — every label the code defines has its number in
  `[c0, c1)` and is defined exactly once: `Fresh c0 c1 (defs code)`, with the rules `Fresh.append` (adjacent ranges), `Fresh.perm`,
  `Fresh.node` (a node's own two labels); `CJ.sc_node` serves `&&` and `||`.  This is what label resolution by position rests on
  (`findLbl_at`, Lemmas/C01Jump.lean).
-/
import ChibiVerif.Lemmas.C01Jump
import ChibiVerif.Model.C01ExprA

namespace ChibiVerif.C01
open ChibiVerif.X86 ChibiVerif.Asm ChibiVerif.Spec.IntSpec ChibiVerif.Gen.CommonType ChibiVerif.C01Codegen ChibiVerif.X86J

/-- "in range": every label of the list has its number in `[lo, hi)` — the labels a compiler defines lie between the label
    counter before and after -/
def InR (lo hi : Nat) (L : List Lbl) : Prop := ∀ l ∈ L, lo ≤ l.n ∧ l.n < hi

theorem InR.nil (lo hi : Nat) : InR lo hi [] := fun _ h => by simp at h
theorem InR.mono {lo hi lo' hi' : Nat} {L : List Lbl} (h : InR lo hi L) (h0 : lo' ≤ lo) (h1 : hi ≤ hi') : InR lo' hi' L :=
  fun l hl => by have := h l hl; omega
theorem InR.append {lo hi : Nat} {a b : List Lbl} (ha : InR lo hi a) (hb : InR lo hi b) : InR lo hi (a ++ b) := by
  intro l hl; rcases List.mem_append.1 hl with h | h
  · exact ha l h
  · exact hb l h

/-- labels of disjoint number ranges -/
theorem nodup_append_InR {a b : List Lbl} {lo mid hi : Nat} (ha : a.Nodup) (hb : b.Nodup) (ra : InR lo mid a) (rb : InR mid hi b) :
    (a ++ b).Nodup :=
  List.nodup_append.2 ⟨ha, hb, fun x hx y hy e => by have := ra x hx; have := rb x (e ▸ hy); omega⟩

/-- **fresh labels**: defined once, numbered in `[lo, hi)` — what `count()` guarantees of the labels a piece of code defines while
    the counter goes from `lo` to `hi`.  Closed under concatenation of adjacent ranges and under reordering (where in its code a
    node defines its own labels does not matter). -/
def Fresh (lo hi : Nat) (L : List Lbl) : Prop := L.Nodup ∧ InR lo hi L

theorem Fresh.nodup {lo hi : Nat} {L : List Lbl} (h : Fresh lo hi L) : L.Nodup := h.1
theorem Fresh.rng {lo hi : Nat} {L : List Lbl} (h : Fresh lo hi L) : InR lo hi L := h.2

theorem Fresh.nil (lo hi : Nat) : Fresh lo hi [] := ⟨List.nodup_nil, InR.nil _ _⟩

theorem Fresh.append {lo mid hi : Nat} {a b : List Lbl} (ha : Fresh lo mid a) (hb : Fresh mid hi b) (h0 : lo ≤ mid) (h1 : mid ≤ hi) :
    Fresh lo hi (a ++ b) :=
  ⟨nodup_append_InR ha.1 hb.1 ha.2 hb.2, (ha.2.mono (Nat.le_refl _) h1).append (hb.2.mono h0 (Nat.le_refl _))⟩

theorem Fresh.mono {lo hi lo' hi' : Nat} {L : List Lbl} (h : Fresh lo hi L) (h0 : lo' ≤ lo) (h1 : hi ≤ hi') : Fresh lo' hi' L :=
  ⟨h.1, h.2.mono h0 h1⟩

theorem Fresh.perm {lo hi : Nat} {a b : List Lbl} (h : Fresh lo hi a) (p : b.Perm a) : Fresh lo hi b :=
  ⟨p.nodup_iff.2 h.1, fun l hl => h.2 l (p.mem_iff.1 hl)⟩

/-- the two labels a node makes from the one number it draws -/
theorem Fresh.own {k1 k2 : LKind} (hk : k1 ≠ k2) (c : Nat) : Fresh c (c + 1) [Lbl.mk k1 c, Lbl.mk k2 c] :=
  ⟨by simp [hk], fun l hl => by
    simp only [List.mem_cons, List.not_mem_nil, or_false] at hl
    rcases hl with rfl | rfl <;> simp only <;> omega⟩

/-- a node that draws `c` for its own labels and lets its operands draw from `c + 1` on -/
theorem Fresh.node {k1 k2 : LKind} (hk : k1 ≠ k2) {c hi : Nat} {L M : List Lbl} (h : Fresh (c + 1) hi L) (hc : c + 1 ≤ hi)
    (p : M.Perm (Lbl.mk k1 c :: Lbl.mk k2 c :: L)) : Fresh c hi M :=
  ((Fresh.own hk c).append h (Nat.le_succ c) hc).perm p

theorem defs_cons_ins (i : Ins) (r : List JI) : defs (JI.ins i :: r) = defs r := rfl
theorem defs_cons_jmp (l : Lbl) (r : List JI) : defs (JI.jmp l :: r) = defs r := rfl
theorem defs_cons_jcc (c : CC) (l : Lbl) (r : List JI) : defs (JI.jcc c l :: r) = defs r := rfl
theorem defs_cons_lbl (l : Lbl) (r : List JI) : defs (JI.lbl l :: r) = l :: defs r := rfl
theorem defs_nil : defs [] = [] := rfl

theorem defs_landCode (c : Nat) (ta tb : ITy) (ca cb : List JI) :
    defs (landCode c ta tb ca cb) = defs ca ++ (defs cb ++ [Lbl.mk .false_ c, Lbl.mk .end_ c]) := by
  simp [landCode, defs_append, defs_J, defs_cons_ins, defs_cons_jmp, defs_cons_jcc, defs_cons_lbl, defs_nil]

theorem defs_lorCode (c : Nat) (ta tb : ITy) (ca cb : List JI) :
    defs (lorCode c ta tb ca cb) = defs ca ++ (defs cb ++ [Lbl.mk .true_ c, Lbl.mk .end_ c]) := by
  simp [lorCode, defs_append, defs_J, defs_cons_ins, defs_cons_jmp, defs_cons_jcc, defs_cons_lbl, defs_nil]

theorem defs_condCode (c : Nat) (tc : ITy) (cc ca cb : List JI) :
    defs (condCode c tc cc ca cb) = defs cc ++ (defs ca ++ (Lbl.mk .else_ c :: (defs cb ++ [Lbl.mk .end_ c]))) := by
  simp [condCode, defs_append, defs_J, defs_cons_jmp, defs_cons_jcc, defs_cons_lbl, defs_nil]

theorem defs_opAssignCodeJ (k : NK) (op : BinOp) (ti tb : ITy) (offA tmp : Int) (cb : List JI) :
    defs (opAssignCodeJ k op ti tb offA tmp cb) = defs cb := by
  simp [opAssignCodeJ, defs_append, defs_J, defs_cons_ins]

theorem defs_opAssignCodeL (k : NK) (op : BinOp) (ti tb : ITy) (tmp : Int) (cp : List JI) (dsuf : List Ins) (cb : List JI) :
    defs (opAssignCodeL k op ti tb tmp cp dsuf cb) = defs cp ++ defs cb := by
  simp [opAssignCodeL, defs_append, defs_J, defs_cons_ins]

theorem defs_postCodeA (A : Acc) (ti : ITy) (i : Nat) (tmp addend : Int) : defs (postCodeA A ti i tmp addend) = [] := by
  simp [postCodeA, defs_append, defs_J, defs_cons_ins, defs_opAssignCodeL]

/-- the instructions after the operand of a unary node: the conversion `add_type` inserts (none for `!`), then the operator -/
def unCode (op : UnOp) (te : ITy) : List Ins :=
  match op with
  | .plus => castSeq te (promote te)
  | .lognot => unSeq .ND_NOT te
  | .neg => castSeq te (promote te) ++ unSeq .ND_NEG (promote te)
  | .bitnot => castSeq te (promote te) ++ unSeq .ND_BITNOT (promote te)

/-- the code of a binary node from the code of its operands (`a > b` is the node `b < a`) -/
def binCode (op : BinOp) (ta : ITy) (ca : List JI) (tb : ITy) (cb : List JI) : List JI :=
  (fun (q : ITy × List JI × ITy × List JI) =>
    (if op.isShift = true then q.2.2.2 else q.2.2.2 ++ J (castSeq q.2.2.1 (binopOperandType op q.1 q.2.2.1))) ++
      JI.ins iPush :: ((q.2.1 ++ J (castSeq q.1 (binopOperandType op q.1 q.2.2.1))) ++
        JI.ins iPopRdi :: J (opSeq (nodeOf op).1 (binopOperandType op q.1 q.2.2.1))))
    (if (nodeOf op).2 = true then (tb, cb, ta, ca) else (ta, ca, tb, cb))

/-- what the compilers (`compileJ`, `compileA`: hence `CJ`) guarantee about their result: the counters grow (the label counter
    by `nlbl e`), the type is `typeOf`, and the labels defined by the code are distinct and numbered between the two counters -/
structure CJ (tys : List ITy) (k0 c0 : Nat) (e : E) (t : ITy) (code : List JI) (k1 c1 : Nat) : Prop where
  k : k0 ≤ k1
  c : c1 = c0 + nlbl e
  ty : ∀ σ : Env, σ.tys = tys → typeOf σ e = some t
  fresh : Fresh c0 c1 (defs code)

theorem CJ.nodup {tys : List ITy} {k0 c0 : Nat} {e : E} {t : ITy} {code : List JI} {k1 c1 : Nat} (f : CJ tys k0 c0 e t code k1 c1) :
    (defs code).Nodup := f.fresh.nodup

theorem CJ.rng {tys : List ITy} {k0 c0 : Nat} {e : E} {t : ITy} {code : List JI} {k1 c1 : Nat} (f : CJ tys k0 c0 e t code k1 c1) :
    InR c0 c1 (defs code) := f.fresh.rng

theorem CJ.of_J {tys : List ITy} {k0 c0 : Nat} {e : E} {t : ITy} {cd : List Ins} {k1 : Nat} (hn : nlbl e = 0) (hk : k0 ≤ k1)
    (hty : ∀ σ : Env, σ.tys = tys → typeOf σ e = some t) : CJ tys k0 c0 e t (J cd) k1 c0 :=
  ⟨hk, by omega, hty, by rw [defs_J]; exact Fresh.nil _ _⟩

theorem defs_binCode (op : BinOp) (ta : ITy) (ca : List JI) (tb : ITy) (cb : List JI) :
    defs (binCode op ta ca tb cb) = if (nodeOf op).2 = true then defs ca ++ defs cb else defs cb ++ defs ca := by
  unfold binCode
  by_cases hs : (nodeOf op).2 = true <;> by_cases hsh : op.isShift = true <;> simp [hs, hsh, defs_append, defs_J, defs_cons_ins]

/-- the labels of a binary node: the node generated first (`a` for `>` `>=`, else `b`) draws its numbers first -/
theorem CJ.bin_node {tys : List ITy} {op : BinOp} {a b : E} {ta tb : ITy} {ca cb : List JI} {k0 ka kb c0 c1a c1b : Nat}
    (fa : CJ tys k0 (if (nodeOf op).2 = true then c0 else c0 + nlbl b) a ta ca ka c1a)
    (fb : CJ tys ka (if (nodeOf op).2 = true then c0 + nlbl a else c0) b tb cb kb c1b) :
    CJ tys k0 c0 (.bin op a b) (binopType op ta tb) (binCode op ta ca tb cb) kb (c0 + (nlbl a + nlbl b)) := by
  have ea := fa.c; have eb := fb.c; have ra := fa.fresh; have rb := fb.fresh
  refine ⟨by have := fa.k; have := fb.k; omega, by simp [nlbl], fun σ hσ => by simp [typeOf, fa.ty σ hσ, fb.ty σ hσ], ?_⟩
  rw [defs_binCode]
  by_cases hs : (nodeOf op).2 = true <;> simp only [hs, if_true, Bool.false_eq_true, if_false] at ea eb ra rb ⊢ <;> subst ea eb
  · exact (ra.append rb (by omega) (by omega)).mono (Nat.le_refl _) (by omega)
  · exact (rb.append ra (by omega) (by omega)).mono (Nat.le_refl _) (by omega)

/-- ND_LOGAND / ND_LOGOR: a node that draws one number for its own two labels -/
theorem CJ.sc_node {tys : List ITy} {e a b : E} {ta tb : ITy} {ca cb code : List JI} {k0 ka kb c0 c1a c1b : Nat} {k1 k2 : LKind}
    (hn : nlbl e = 1 + (nlbl a + nlbl b)) (hty : ∀ σ : Env, σ.tys = tys → typeOf σ e = some .i32) (hk : k1 ≠ k2)
    (hd : defs code = defs ca ++ (defs cb ++ [Lbl.mk k1 c0, Lbl.mk k2 c0]))
    (fa : CJ tys k0 (c0 + 1) a ta ca ka c1a) (fb : CJ tys ka c1a b tb cb kb c1b) : CJ tys k0 c0 e .i32 code kb c1b := by
  have ea := fa.c; have eb := fb.c
  refine ⟨by have := fa.k; have := fb.k; omega, by omega, hty, ?_⟩
  rw [hd, ← List.append_assoc]
  exact (fa.fresh.append fb.fresh (by omega) (by omega)).node hk (by omega) List.perm_append_comm

/-- `l ++ x :: y :: m` is `x :: y :: (l ++ m)` reordered -/
theorem perm_middle2 {α : Type} (x y : α) (l m : List α) : (l ++ x :: y :: m).Perm (x :: y :: (l ++ m)) :=
  List.perm_middle.trans (List.perm_middle.cons x)

theorem CJ.cond_node {tys : List ITy} {cnd a b : E} {tc ta tb : ITy} {cc ca cb : List JI} {k0 kc ka kb c0 c1c c1a c1b : Nat}
    (fc : CJ tys k0 (c0 + 1) cnd tc cc kc c1c) (fa : CJ tys kc c1c a ta ca ka c1a) (fb : CJ tys ka c1a b tb cb kb c1b) :
    CJ tys k0 c0 (.cond cnd a b) (usualArith ta tb)
      (condCode c0 tc cc (ca ++ J (castSeq ta (usualArith ta tb))) (cb ++ J (castSeq tb (usualArith ta tb)))) kb c1b := by
  have ec := fc.c; have ea := fa.c; have eb := fb.c
  refine ⟨by have := fc.k; have := fa.k; have := fb.k; omega, by simp only [nlbl]; omega,
    fun σ hσ => by simp [typeOf, fa.ty σ hσ, fb.ty σ hσ], ?_⟩
  rw [defs_condCode]
  simp only [defs_append, defs_J, List.append_nil]
  -- `.L.else.c` stands between the labels of the second and the third operand, `.L.end.c` after them
  exact (fc.fresh.append (fa.fresh.append fb.fresh (by omega) (by omega)) (by omega) (by omega)).node (k1 := .else_) (k2 := .end_)
    (by decide) (by omega)
    ((((List.perm_append_singleton _ _).cons _).append_left _ |>.trans (perm_middle2 ..)).append_left _ |>.trans (perm_middle2 ..))

/-- `compileA` as a relation: one rule per successful path -/
inductive CompA (tys : List ITy) (toff : Nat → Int) (A : Acc) : Nat → Nat → E → ITy → List JI → Nat → Nat → Prop
  | lit {k c t v} : CompA tys toff A k c (.lit t v) t (J [iMovImm v]) k c
  | var {k c i t} : tys[i]? = some t → CompA tys toff A k c (.var i) t (J (A.acode i ++ loadSeq t)) k c
  | cast {k c t e te cd k1 c1} : CompA tys toff A k c e te cd k1 c1 → CompA tys toff A k c (.cast t e) t (cd ++ J (castSeq te t)) k1 c1
  | un {k c op e te cd k1 c1} : CompA tys toff A k c e te cd k1 c1 →
      CompA tys toff A k c (.un op e) (unopType op te) (cd ++ J (unCode op te)) k1 c1
  | bin {k c op a b ta ca k1 ca1 tb cb k2 cb1} :
      CompA tys toff A k (if (nodeOf op).2 = true then c else c + nlbl b) a ta ca k1 ca1 →
      CompA tys toff A k1 (if (nodeOf op).2 = true then c + nlbl a else c) b tb cb k2 cb1 →
      CompA tys toff A k c (.bin op a b) (binopType op ta tb) (binCode op ta ca tb cb) k2 (c + (nlbl a + nlbl b))
  | comma {k c a b ta ca k1 c1 tb cb k2 c2} : CompA tys toff A k c a ta ca k1 c1 → CompA tys toff A k1 c1 b tb cb k2 c2 →
      CompA tys toff A k c (.comma a b) tb (ca ++ cb) k2 c2
  | assign {k c i e ti te cd k1 c1} : tys[i]? = some ti → CompA tys toff A k c e te cd k1 c1 →
      CompA tys toff A k c (.assign i e) ti (J (A.acode i) ++ (JI.ins iPush :: ((cd ++ J (castSeq te ti)) ++ J (storeSeq ti)))) k1 c1
  | opassign {k c op i e ti te cd k1 c1} : tys[i]? = some ti → compoundable op = true → CompA tys toff A k c e te cd k1 c1 →
      CompA tys toff A k c (.opassign op i e) ti
        (opAssignCodeL (nodeOf op).1 op ti te (toff k1) (J (A.pcode i)) (A.dsuf i) cd) (k1 + 1) c1
  | preinc {k c i ti} : tys[i]? = some ti →
      CompA tys toff A k c (.preinc i) ti (opAssignCodeL .ND_ADD .add ti .i32 (toff k) (J (A.pcode i)) (A.dsuf i) (J [iMovImm 1])) (k + 1) c
  | predec {k c i ti} : tys[i]? = some ti →
      CompA tys toff A k c (.predec i) ti (opAssignCodeL .ND_SUB .sub ti .i32 (toff k) (J (A.pcode i)) (A.dsuf i) (J [iMovImm 1])) (k + 1) c
  | postinc {k c i ti} : tys[i]? = some ti → ti ≠ .bool → CompA tys toff A k c (.postinc i) ti (postCodeA A ti i (toff k) 1) (k + 1) c
  | postdec {k c i ti} : tys[i]? = some ti → ti ≠ .bool → CompA tys toff A k c (.postdec i) ti (postCodeA A ti i (toff k) (-1)) (k + 1) c
  | land {k c a b ta ca k1 c1 tb cb k2 c2} : CompA tys toff A k (c + 1) a ta ca k1 c1 → CompA tys toff A k1 c1 b tb cb k2 c2 →
      CompA tys toff A k c (.land a b) .i32 (landCode c ta tb ca cb) k2 c2
  | lor {k c a b ta ca k1 c1 tb cb k2 c2} : CompA tys toff A k (c + 1) a ta ca k1 c1 → CompA tys toff A k1 c1 b tb cb k2 c2 →
      CompA tys toff A k c (.lor a b) .i32 (lorCode c ta tb ca cb) k2 c2
  | cond {k c cnd a b tc cc k1 c1 ta ca k2 c2 tb cb k3 c3} : CompA tys toff A k (c + 1) cnd tc cc k1 c1 →
      CompA tys toff A k1 c1 a ta ca k2 c2 → CompA tys toff A k2 c2 b tb cb k3 c3 →
      CompA tys toff A k c (.cond cnd a b) (usualArith ta tb)
        (condCode c tc cc (ca ++ J (castSeq ta (usualArith ta tb))) (cb ++ J (castSeq tb (usualArith ta tb)))) k3 c3

theorem CompA.of_eq {tys : List ITy} {toff : Nat → Int} {A : Acc} (e : E) : ∀ {k c : Nat} {t : ITy} {code : List JI} {k1 c1 : Nat},
    compileA tys toff A k c e = some (t, code, k1, c1) → CompA tys toff A k c e t code k1 c1 := by
  induction e with
  | lit t0 v0 =>
    intro k c t code k1 c1 h
    simp only [compileA, Option.some.injEq, Prod.mk.injEq] at h
    obtain ⟨rfl, rfl, rfl, rfl⟩ := h
    exact .lit
  | var i =>
    intro k c t code k1 c1 h
    simp only [compileA, Option.map_eq_some_iff, Prod.mk.injEq] at h
    obtain ⟨t0, h0, rfl, rfl, rfl, rfl⟩ := h
    exact .var h0
  | cast t0 e ih =>
    intro k c t code k1 c1 h
    simp only [compileA, Option.map_eq_some_iff, Prod.mk.injEq] at h
    obtain ⟨⟨te, cd, k', c'⟩, h0, rfl, rfl, rfl, rfl⟩ := h
    exact .cast (ih h0)
  | un op e ih =>
    intro k c t code k1 c1 h
    simp only [compileA, Option.map_eq_some_iff] at h
    obtain ⟨⟨te, cd, k', c'⟩, h0, h1⟩ := h
    cases op <;> simp only [Prod.mk.injEq] at h1 <;> obtain ⟨rfl, rfl, rfl, rfl⟩ := h1 <;> exact .un (ih h0)
  | bin op a b iha ihb =>
    intro k c t code k1 c1 h
    simp only [compileA] at h
    cases ha : compileA tys toff A k (if (nodeOf op).2 = true then c else c + nlbl b) a with
    | none => simp [ha] at h
    | some pa =>
      obtain ⟨ta, ca, ka, c1a⟩ := pa
      simp only [ha] at h
      cases hb : compileA tys toff A ka (if (nodeOf op).2 = true then c + nlbl a else c) b with
      | none => simp [hb] at h
      | some pb =>
        obtain ⟨tb, cb, kb, c1b⟩ := pb
        simp only [hb, Option.some.injEq, Prod.mk.injEq] at h
        obtain ⟨rfl, rfl, rfl, rfl⟩ := h
        exact .bin (iha ha) (ihb hb)
  | comma a b iha ihb =>
    intro k c t code k1 c1 h
    simp only [compileA] at h
    cases ha : compileA tys toff A k c a with
    | none => simp [ha] at h
    | some pa =>
      obtain ⟨ta, ca, ka, c1a⟩ := pa
      simp only [ha, Option.map_eq_some_iff, Prod.mk.injEq] at h
      obtain ⟨⟨tb, cb, kb, c1b⟩, hb, rfl, rfl, rfl, rfl⟩ := h
      exact .comma (iha ha) (ihb hb)
  | assign i e ih =>
    intro k c t code k1 c1 h
    simp only [compileA] at h
    cases hti : tys[i]? with
    | none => simp [hti] at h
    | some ti =>
      cases he : compileA tys toff A k c e with
      | none => simp [hti, he] at h
      | some pe =>
        obtain ⟨te, cd, k', c'⟩ := pe
        simp only [hti, he, Option.some.injEq, Prod.mk.injEq] at h
        obtain ⟨rfl, rfl, rfl, rfl⟩ := h
        exact .assign hti (ih he)
  | opassign op i e ih =>
    intro k c t code k1 c1 h
    simp only [compileA] at h
    cases hti : tys[i]? with
    | none => simp [hti] at h
    | some ti =>
      cases he : compileA tys toff A k c e with
      | none => simp [hti, he] at h
      | some pe =>
        obtain ⟨te, cd, k', c'⟩ := pe
        simp only [hti, he] at h
        split at h
        · rename_i hcomp
          simp only [Option.some.injEq, Prod.mk.injEq] at h
          obtain ⟨rfl, rfl, rfl, rfl⟩ := h
          exact .opassign hti hcomp (ih he)
        · simp at h
  | preinc i =>
    intro k c t code k1 c1 h
    simp only [compileA, Option.map_eq_some_iff, Prod.mk.injEq] at h
    obtain ⟨ti, hti, rfl, rfl, rfl, rfl⟩ := h
    exact .preinc hti
  | predec i =>
    intro k c t code k1 c1 h
    simp only [compileA, Option.map_eq_some_iff, Prod.mk.injEq] at h
    obtain ⟨ti, hti, rfl, rfl, rfl, rfl⟩ := h
    exact .predec hti
  | postinc i =>
    intro k c t code k1 c1 h
    simp only [compileA] at h
    cases hti : tys[i]? with
    | none => simp [hti] at h
    | some ti =>
      simp only [hti] at h
      split at h
      · simp at h
      · rename_i hnb
        simp only [Option.some.injEq, Prod.mk.injEq] at h
        obtain ⟨rfl, rfl, rfl, rfl⟩ := h
        exact .postinc hti hnb
  | postdec i =>
    intro k c t code k1 c1 h
    simp only [compileA] at h
    cases hti : tys[i]? with
    | none => simp [hti] at h
    | some ti =>
      simp only [hti] at h
      split at h
      · simp at h
      · rename_i hnb
        simp only [Option.some.injEq, Prod.mk.injEq] at h
        obtain ⟨rfl, rfl, rfl, rfl⟩ := h
        exact .postdec hti hnb
  | land a b iha ihb =>
    intro k c t code k1 c1 h
    simp only [compileA] at h
    cases ha : compileA tys toff A k (c + 1) a with
    | none => simp [ha] at h
    | some pa =>
      obtain ⟨ta, ca, ka, c1a⟩ := pa
      simp only [ha, Option.map_eq_some_iff, Prod.mk.injEq] at h
      obtain ⟨⟨tb, cb, kb, c1b⟩, hb, rfl, rfl, rfl, rfl⟩ := h
      exact .land (iha ha) (ihb hb)
  | lor a b iha ihb =>
    intro k c t code k1 c1 h
    simp only [compileA] at h
    cases ha : compileA tys toff A k (c + 1) a with
    | none => simp [ha] at h
    | some pa =>
      obtain ⟨ta, ca, ka, c1a⟩ := pa
      simp only [ha, Option.map_eq_some_iff, Prod.mk.injEq] at h
      obtain ⟨⟨tb, cb, kb, c1b⟩, hb, rfl, rfl, rfl, rfl⟩ := h
      exact .lor (iha ha) (ihb hb)
  | cond cnd a b ihc iha ihb =>
    intro k c t code k1 c1 h
    simp only [compileA] at h
    cases hc : compileA tys toff A k (c + 1) cnd with
    | none => simp [hc] at h
    | some pc =>
      obtain ⟨tc, cc, kc, c1c⟩ := pc
      simp only [hc] at h
      cases ha : compileA tys toff A kc c1c a with
      | none => simp [ha] at h
      | some pa =>
        obtain ⟨ta, ca, ka, c1a⟩ := pa
        simp only [ha, Option.map_eq_some_iff, Prod.mk.injEq] at h
        obtain ⟨⟨tb, cb, kb, c1b⟩, hb, rfl, rfl, rfl, rfl⟩ := h
        exact .cond (ihc hc) (iha ha) (ihb hb)

/-- counters, type and label freshness, read off the derivation -/
theorem CompA.facts {tys : List ITy} {toff : Nat → Int} {A : Acc} {k0 c0 : Nat} {e : E} {t : ITy} {code : List JI} {k1 c1 : Nat}
    (h : CompA tys toff A k0 c0 e t code k1 c1) : CJ tys k0 c0 e t code k1 c1 := by
  induction h with
  | lit => exact CJ.of_J rfl (Nat.le_refl _) (fun σ _ => rfl)
  | var h0 => exact CJ.of_J rfl (Nat.le_refl _) (fun σ hσ => by simp [typeOf, Env.ty?, hσ, h0])
  | cast _ f =>
    exact ⟨f.k, by simpa [nlbl] using f.c, fun σ _ => by simp [typeOf], by simpa [defs_append, defs_J] using f.fresh⟩
  | un _ f =>
    exact ⟨f.k, by simpa [nlbl] using f.c, fun σ hσ => by simp [typeOf, f.ty σ hσ], by simpa [defs_append, defs_J] using f.fresh⟩
  | bin _ _ fa fb => exact CJ.bin_node fa fb
  | comma _ _ fa fb =>
    have ea := fa.c; have eb := fb.c
    exact ⟨by have := fa.k; have := fb.k; omega, by simp only [nlbl]; omega, fun σ hσ => by simp [typeOf, fb.ty σ hσ],
      by rw [defs_append]; exact fa.fresh.append fb.fresh (by omega) (by omega)⟩
  | assign hti _ f =>
    exact ⟨f.k, by simpa [nlbl] using f.c, fun σ hσ => by simp [typeOf, Env.ty?, hσ, hti],
      by simpa [defs_append, defs_J, defs_cons_ins] using f.fresh⟩
  | opassign hti _ _ f =>
    exact ⟨by have := f.k; omega, by simpa [nlbl] using f.c, fun σ hσ => by simp [typeOf, Env.ty?, hσ, hti],
      by rw [defs_opAssignCodeL, defs_J]; exact f.fresh⟩
  | preinc hti | predec hti =>
    exact ⟨by omega, rfl, fun σ hσ => by simp [typeOf, Env.ty?, hσ, hti],
      by rw [defs_opAssignCodeL, defs_J, defs_J]; exact Fresh.nil _ _⟩
  | postinc hti _ | postdec hti _ =>
    exact ⟨by omega, rfl, fun σ hσ => by simp [typeOf, Env.ty?, hσ, hti],
      by rw [defs_postCodeA]; exact Fresh.nil _ _⟩
  | land _ _ fa fb => exact CJ.sc_node rfl (fun σ _ => by simp [typeOf]) (by decide) (defs_landCode ..) fa fb
  | lor _ _ fa fb => exact CJ.sc_node rfl (fun σ _ => by simp [typeOf]) (by decide) (defs_lorCode ..) fa fb
  | cond _ _ _ fc fa fb => exact CJ.cond_node fc fa fb

end ChibiVerif.C01
