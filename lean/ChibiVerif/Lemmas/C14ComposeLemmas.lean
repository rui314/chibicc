/-
C14, composition lemmas: the regenerated tables pass the table check, the cc1 child's re-parse of the driver's argv
(`childSt`), what a process does for an argv (`runArgv_cases`), names derived by `replace_extn`.
-/
import ChibiVerif.Model.C14Compose
import ChibiVerif.Lemmas.C14ArgsLemmas

namespace ChibiVerif.C14Compose
open ChibiVerif.C14Args ChibiVerif.DriverProc
open ChibiVerif.Gen.C14Args

/-- the table check on the regenerated tables (re-evaluated by the kernel whenever main.c changes) -/
theorem tables_inSync : inSync takeArgList ladder = true := by decide +kernel

theorem st0_noNull : st0.noNull := by
  intro e he x hx
  have : st0.arrs.all (fun e => e.2.isEmpty) = true := by decide
  have := List.all_eq_true.mp this e he
  simp only [List.isEmpty_iff] at this
  rw [this] at hx
  cases hx

theorem childSt_arr (st : St) (i : String) (o : Option String) (a : String) : (childSt st i o).arr a = st.arr a := by
  cases o <;> rfl

theorem childSt_flag (st : St) (i : String) (o : Option String) (v : String) (hv : v ≠ "opt_cc1") :
    (childSt st i o).flag v = st.flag v := by
  cases o <;> simp [childSt, St.flag, St.setFlag, St.setStr, getAssoc_setAssoc_ne _ _ hv]

theorem childSt_str (st : St) (i : String) (o : Option String) (v : String) (h1 : v ≠ "base_file")
    (h2 : v ≠ "output_file") : (childSt st i o).str v = st.str v := by
  cases o <;> simp [childSt, St.str, St.setFlag, St.setStr, getAssoc_setAssoc_ne _ _ h1, getAssoc_setAssoc_ne _ _ h2]

theorem childSt_x (st : St) (i : String) (o : Option String) : (childSt st i o).x = st.x := by
  cases o <;> rfl

theorem finish_childSt {s st : St} (i : String) (o : Option String) (h : C14Args.finish s = .ok st) :
    C14Args.finish (childSt s i o) = .ok (childSt st i o) := by
  unfold C14Args.finish at h ⊢
  rw [childSt_arr, childSt_flag _ _ _ _ (by decide)]
  by_cases he : (s.arr "input_paths").isEmpty = true
  · rw [if_pos he] at h; cases h
  · rw [if_neg he] at h ⊢
    injection h with h
    subst h
    by_cases hE : s.flag "opt_E" = true
    · simp only [hE, if_true]; cases o <;> rfl
    · simp only [hE]; rfl

theorem optRun_cc1Tail (s : St) (i : String) (o : Option String) :
    optRun ladder optXTable (cc1Tail i o) s = .ok (childSt s i o) := by
  have a1 : firstArm ladder "-cc1" = some ⟨[.eq "-cc1"], [.setFlag "opt_cc1" true]⟩ := by decide
  have a2 : firstArm ladder "-cc1-input" = some ⟨[.eq "-cc1-input"], [.setStr "base_file" .next]⟩ := by decide
  have a3 : firstArm ladder "-cc1-output" = some ⟨[.eq "-cc1-output"], [.setStr "output_file" .next]⟩ := by decide
  cases o with
  | none =>
    simp [cc1Tail, cc1Flag, cc1InputFlag, optRun, stepOpt, a1, a2, execBody, execStmt, evalSrc, Arm.readsNext,
      Stmt.readsNext, Stmt.src, Src.isNext, childSt]
  | some p =>
    simp [cc1Tail, cc1Flag, cc1InputFlag, cc1OutputFlag, optRun, stepOpt, a1, a2, a3, execBody, execStmt, evalSrc,
      Arm.readsNext, Stmt.readsNext, Stmt.src, Src.isNext, childSt]

theorem guardPass_cc1Tail (i : String) (o : Option String) : guardPass takeArgList (cc1Tail i o) = true := by
  have b1 : takeArgList.contains "-cc1" = false := by decide
  have b2 : takeArgList.contains "-cc1-input" = true := by decide
  have b3 : takeArgList.contains "-cc1-output" = true := by decide
  cases o <;>
    simp only [cc1Tail, cc1Flag, cc1InputFlag, cc1OutputFlag, List.cons_append, List.nil_append, List.append_nil,
      guardPass, b1, b2, b3, Bool.false_eq_true, if_false, if_true]

/-- what a process does for an argv: `main` on the parsed command, or — `usage`, `--help`, `-hashmap-test`, an `error()` of
    `parse_args` — an immediate exit, with a diagnostic in the log exactly when the status is not 0
    (`hn`: Props/C14Args.lean, `C14_args_total`) -/
theorem runArgv_cases (env : Env String) (args : List String) (fs : FS String)
    (hn : ∀ site, parseArgs args ≠ .nullDeref site) :
    (∃ st, initArgv args = init (toCmd st) ∧ runArgv env args fs = runCmd env (toCmd st) fs) ∨
    (∃ why code, initArgv args = earlyExit why code ∧ runArgv env args fs = (earlyExit why code, fs) ∧
      (why = none ↔ code = 0)) := by
  unfold runArgv initArgv
  cases hp : parseArgs args with
  | ok st => exact Or.inl ⟨st, rfl, rfl⟩
  | usage n =>
    cases n with
    | zero => exact Or.inr ⟨none, 0, rfl, rfl, by simp⟩
    | succ m => exact Or.inr ⟨some .usage, m + 1, rfl, rfl, by simp⟩
  | exit0 => exact Or.inr ⟨none, 0, rfl, rfl, by simp⟩
  | diag d => cases d <;> exact Or.inr ⟨_, 1, rfl, rfl, by simp⟩
  | nullDeref site => exact absurd hp (hn site)

theorem replaceExtn_toList (s ext : String) : ∃ stem : List Char, (replaceExtn s ext).toList = stem ++ ext.toList := by
  unfold replaceExtn
  exact ⟨_, String.toList_ofList⟩

theorem replaceExtn_ne_of_last {a b e1 e2 : String} (c1 c2 : Char) (l1 l2 : List Char)
    (h1 : e1.toList = l1 ++ [c1]) (h2 : e2.toList = l2 ++ [c2]) (hc : c1 ≠ c2) :
    replaceExtn a e1 ≠ replaceExtn b e2 := by
  intro h
  obtain ⟨s1, hs1⟩ := replaceExtn_toList a e1
  obtain ⟨s2, hs2⟩ := replaceExtn_toList b e2
  have := congrArg String.toList h
  rw [hs1, hs2, h1, h2, ← List.append_assoc, ← List.append_assoc] at this
  have := congrArg List.getLast? this
  simp at this
  exact hc this

theorem replaceExtn_ne_lit {a e : String} (lit : String) (c1 c2 : Char) (l1 l2 : List Char)
    (h1 : e.toList = l1 ++ [c1]) (h2 : lit.toList = l2 ++ [c2]) (hc : c1 ≠ c2) : replaceExtn a e ≠ lit := by
  intro h
  obtain ⟨s1, hs1⟩ := replaceExtn_toList a e
  have := congrArg String.toList h
  rw [hs1, h1, h2, ← List.append_assoc] at this
  have := congrArg List.getLast? this
  simp at this
  exact hc this

end ChibiVerif.C14Compose
