/-
`canonicalize_newline` and `remove_backslash_newline` of tokenize.c, each presented by what one iteration of its loop does:
the equations a model of the function satisfies (`IsCanon`, `IsRbn`), an induction principle along the iterations, and
the facts that follow from the equations alone.  Generic in the alphabet, because the development has more than one hand transcription of
these functions: Model/Text.lean over bytes and Model/LineNo.lean over numbers each state their instance once
(`canon_isCanon`, `rbn_isRbn` in Lemmas/TextLemmas.lean; Lemmas/LineNoLemmas.lean); Model/LexTotal.lean's copies are proved
equal to Model/LineNo's in Lemmas/LexTotalLineNo.lean.  Core Lean only.
-/
namespace ChibiVerif.Lemmas.TextPhase

variable {α : Type} [DecidableEq α]

/-- one iteration of `canonicalize_newline`: CR LF becomes LF, a CR not followed by LF becomes LF, any other byte is copied -/
structure IsCanon (cr lf : α) (f : List α → List α) : Prop where
  ne : cr ≠ lf
  nil : f [] = []
  crlf : ∀ t, f (cr :: lf :: t) = lf :: f t
  lone : ∀ t, t.head? ≠ some lf → f (cr :: t) = lf :: f t
  other : ∀ a t, a ≠ cr → f (a :: t) = a :: f t

theorem canon_induct (cr lf : α) {P : List α → Prop} (nil : P []) (crlf : ∀ t, P t → P (cr :: lf :: t))
    (lone : ∀ t, t.head? ≠ some lf → P t → P (cr :: t)) (other : ∀ a t, a ≠ cr → P t → P (a :: t)) : ∀ t, P t
  | [] => nil
  | [a] => if ha : a = cr then ha ▸ lone [] (by simp) nil else other a [] ha nil
  | a :: b :: t =>
    if ha : a = cr then
      if hb : b = lf then ha ▸ hb ▸ crlf t (canon_induct cr lf nil crlf lone other t)
      else ha ▸ lone (b :: t) (by simpa using hb) (canon_induct cr lf nil crlf lone other (b :: t))
    else other a (b :: t) ha (canon_induct cr lf nil crlf lone other (b :: t))

namespace IsCanon
variable {cr lf : α} {f : List α → List α}

theorem no_cr (h : IsCanon cr lf f) : ∀ t, cr ∉ f t := by
  refine canon_induct cr lf (by simp [h.nil]) (fun t ih => ?_) (fun t hl ih => ?_) (fun a t ha ih => ?_)
  · rw [h.crlf]; simp [h.ne, ih]
  · rw [h.lone t hl]; simp [h.ne, ih]
  · rw [h.other a t ha]; simp [Ne.symm ha, ih]

theorem id (h : IsCanon cr lf f) : ∀ t, cr ∉ t → f t = t := by
  refine canon_induct cr lf (fun _ => h.nil) (fun t _ hm => ?_) (fun t _ _ hm => ?_) (fun a t ha ih hm => ?_)
  · simp at hm
  · simp at hm
  · rw [h.other a t ha, ih fun h' => hm (List.mem_cons_of_mem _ h')]

theorem mem (h : IsCanon cr lf f) : ∀ t, ∀ x ∈ f t, x ∈ t ∨ x = lf := by
  have cons : ∀ (a b : α) (t : List α), (∀ x ∈ f t, x ∈ t ∨ x = lf) → (b ∈ a :: t ∨ b = lf) →
      ∀ x ∈ b :: f t, x ∈ a :: t ∨ x = lf := fun a b t ih hb x hx => by
    rcases List.mem_cons.mp hx with e | e
    · exact e ▸ hb
    · exact (ih x e).imp_left (List.mem_cons_of_mem _)
  refine canon_induct cr lf (by simp [h.nil]) (fun t ih x hx => ?_) (fun t hl ih => ?_) (fun a t ha ih => ?_)
  · rw [h.crlf] at hx
    exact (cons lf lf t ih (.inr rfl) x hx).imp_left (List.mem_cons_of_mem _)
  · rw [h.lone t hl]; exact cons cr lf t ih (.inr rfl)
  · rw [h.other a t ha]; exact cons a a t ih (.inl List.mem_cons_self)

theorem append (h : IsCanon cr lf f) (y : List α) : ∀ x, ¬ (x.getLast? = some cr ∧ y.head? = some lf) →
    f (x ++ y) = f x ++ f y := by
  have tail : ∀ (a : α) (t : List α), ¬ ((a :: t).getLast? = some cr ∧ y.head? = some lf) → t ≠ [] →
      ¬ (t.getLast? = some cr ∧ y.head? = some lf) := fun a t hc ht e =>
    hc ⟨by rw [List.getLast?_cons_of_ne_nil ht]; exact e.1, e.2⟩
  refine canon_induct cr lf (fun _ => by simp [h.nil]) (fun t ih hc => ?_) (fun t hl ih hc => ?_) (fun a t ha ih hc => ?_)
  · rw [List.cons_append, List.cons_append, h.crlf, h.crlf]
    cases t with
    | nil => simp [h.nil]
    | cons c r => rw [ih (tail _ _ (tail _ _ hc (by simp)) (by simp))]; rfl
  · have hl' : (t ++ y).head? ≠ some lf := by
      cases t with
      | nil => exact fun e => hc ⟨rfl, by simpa using e⟩
      | cons c r => simpa using hl
    rw [List.cons_append, h.lone _ hl', h.lone t hl]
    cases t with
    | nil => simp [h.nil]
    | cons c r => rw [ih (tail _ _ hc (by simp))]; rfl
  · rw [List.cons_append, h.other _ _ ha, h.other a t ha]
    cases t with
    | nil => simp [h.nil]
    | cons c r => rw [ih (tail _ _ hc (by simp))]; rfl

theorem getLast? (h : IsCanon cr lf f) : ∀ t, (f t).getLast? = t.getLast?.map fun c => if c = cr then lf else c := by
  refine canon_induct cr lf (by simp [h.nil]) (fun t ih => ?_) (fun t hl ih => ?_) (fun a t ha ih => ?_)
  · rw [h.crlf, List.getLast?_cons, List.getLast?_cons, List.getLast?_cons, ih]
    cases t.getLast? <;> simp [Ne.symm h.ne]
  · rw [h.lone t hl, List.getLast?_cons, List.getLast?_cons, ih]
    cases t.getLast? <;> simp
  · rw [h.other a t ha, List.getLast?_cons, List.getLast?_cons, ih]
    cases t.getLast? <;> simp [ha]

theorem last (h : IsCanon cr lf f) (t : List α) (hl : t.getLast? = some lf) : (f t).getLast? = some lf := by
  rw [h.getLast?, hl]; simp [Ne.symm h.ne]

end IsCanon

/-- one iteration of `remove_backslash_newline` as a function of the text left and the number of removed newlines not yet
    written back: the end of the text flushes them, a backslash-newline is dropped and counted, a newline is followed by
    the pending ones, any other byte is copied -/
structure IsRbn (bsl lf : α) (f : List α → Nat → List α) : Prop where
  ne : lf ≠ bsl
  nil : ∀ n, f [] n = List.replicate n lf
  splice : ∀ t n, f (bsl :: lf :: t) n = f t (n + 1)
  newline : ∀ t n, f (lf :: t) n = lf :: (List.replicate n lf ++ f t 0)
  other : ∀ a t n, a ≠ lf → ¬ (a = bsl ∧ t.head? = some lf) → f (a :: t) n = a :: f t n

theorem rbn_induct (bsl lf : α) {P : List α → Nat → Prop} (nil : ∀ n, P [] n)
    (splice : ∀ t n, P t (n + 1) → P (bsl :: lf :: t) n) (newline : ∀ t n, P t 0 → P (lf :: t) n)
    (other : ∀ a t n, a ≠ lf → ¬ (a = bsl ∧ t.head? = some lf) → P t n → P (a :: t) n) : ∀ t n, P t n
  | [], n => nil n
  | [a], n => if ha : a = lf then ha ▸ newline [] n (nil 0) else other a [] n ha (by simp) (nil n)
  | a :: b :: t, n =>
    if h : a = bsl ∧ b = lf then h.1 ▸ h.2 ▸ splice t n (rbn_induct bsl lf nil splice newline other t (n + 1))
    else if ha : a = lf then ha ▸ newline (b :: t) n (rbn_induct bsl lf nil splice newline other (b :: t) 0)
    else other a (b :: t) n ha (by simpa using h) (rbn_induct bsl lf nil splice newline other (b :: t) n)

namespace IsRbn
variable {bsl lf : α} {f : List α → Nat → List α}

theorem count (h : IsRbn bsl lf f) : ∀ t n, (f t n).count lf = t.count lf + n := by
  refine rbn_induct bsl lf (fun n => ?_) (fun t n ih => ?_) (fun t n ih => ?_) (fun a t n h1 h2 ih => ?_)
  · simp [h.nil]
  · rw [h.splice, ih]; simp [h.ne.symm]; omega
  · rw [h.newline, List.count_cons, List.count_append, ih]; simp; omega
  · rw [h.other a t n h1 h2, List.count_cons, ih, List.count_cons]; simp [h1]

theorem mem (h : IsRbn bsl lf f) : ∀ t n, ∀ x ∈ f t n, x ∈ t ∨ x = lf := by
  refine rbn_induct bsl lf (fun n x hx => ?_) (fun t n ih x hx => ?_) (fun t n ih x hx => ?_) (fun a t n h1 h2 ih x hx => ?_)
  · rw [h.nil] at hx; exact .inr (List.eq_of_mem_replicate hx)
  · rw [h.splice] at hx; exact (ih x hx).imp_left fun h => by simp [h]
  · rw [h.newline] at hx
    simp only [List.mem_cons, List.mem_append] at hx
    rcases hx with e | e | e
    · exact .inr e
    · exact .inr (List.eq_of_mem_replicate e)
    · exact (ih x e).imp_left (List.mem_cons_of_mem _)
  · rw [h.other a t n h1 h2] at hx
    rcases List.mem_cons.mp hx with e | e
    · exact .inl (e ▸ List.mem_cons_self ..)
    · exact (ih x e).imp_left (List.mem_cons_of_mem _)

/-- the text keeps its final newline; a text whose last newline was spliced away ends in the pending ones -/
theorem last (h : IsRbn bsl lf f) : ∀ t n, (∀ b ∈ t.getLast?, b = lf) → (t = [] → 0 < n) →
    (f t n).getLast? = some lf := by
  have tail : ∀ (a c : α) (r : List α), (∀ b ∈ (a :: c :: r).getLast?, b = lf) → ∀ b ∈ (c :: r).getLast?, b = lf :=
    fun a c r hl b hb => hl b (by simpa [List.getLast?_cons_cons] using hb)
  refine rbn_induct bsl lf (fun n _ hn => ?_) (fun t n ih hl _ => ?_) (fun t n ih hl _ => ?_) (fun a t n h1 h2 ih hl _ => ?_)
  · obtain ⟨k, rfl⟩ : ∃ k, n = k + 1 := ⟨n - 1, by have := hn rfl; omega⟩
    rw [h.nil]; simp [List.getLast?_replicate]
  · rw [h.splice]
    cases t with
    | nil => exact ih (by simp) (fun _ => Nat.succ_pos _)
    | cons c r => exact ih (tail _ _ _ (tail _ _ _ hl)) (by simp)
  · rw [h.newline]
    cases t with
    | nil => simp [h.nil, List.getLast?_cons, List.getLast?_replicate]; split <;> rfl
    | cons c r => rw [List.getLast?_cons, List.getLast?_append, ih (tail _ _ _ hl) (by simp)]; rfl
  · rw [h.other a t n h1 h2]
    cases t with
    | nil => exact absurd (hl a (by simp)) h1
    | cons c r => rw [List.getLast?_cons, ih (tail _ _ _ hl) (by simp)]; rfl

theorem last_lf (h : IsRbn bsl lf f) (t : List α) (n : Nat) (hl : t.getLast? = some lf) : (f t n).getLast? = some lf :=
  h.last t n (fun b hb => by rw [hl] at hb; exact (Option.some.inj hb).symm) fun e => by rw [e] at hl; cases hl

end IsRbn

end ChibiVerif.Lemmas.TextPhase
