/-
The vocabulary of the statements of Props/C09.lean and Findings/C09.lean that is neither model nor specification: the shape of
argument lists (`Balanced`, `noTopComma`, `Sep`), the domains of the theorems (`NoHash`, `ObjOnly`, `NoExtension`, `FreshArgs`,
`strzOkTok`), what is compared (`spell`), the two fuel bounds (`need`, `fuelBound` with `fuelE`) and the `stringize` before
`fix:` 6fecbd6 of /repo (`stringizeOld`; the `subst` before `fix:` 5a15c0f is Lemmas/C09Placemarker.lean).  Definitions only; the
lemma modules of C09 (Lemmas/C09Placemarker.lean apart) and `drv_c09` import it.  Core Lean only.
-/
import ChibiVerif.Model.PP

namespace ChibiVerif.PP

/-! ## argument identification (`C09_args_one`, `C09_args`, `C09_args_unbalanced`) -/

/-- parenthesis depth after `ts`, starting at depth `d`; `none` when a `)` occurs at depth 0 -/
def scanDepth : Nat → List Tok → Option Nat
  | d, [] => some d
  | d, t :: r =>
    if t.text = "(" then scanDepth (d + 1) r
    else if t.text = ")" then (if d = 0 then none else scanDepth (d - 1) r)
    else scanDepth d r

/-- the parentheses of `ts` match (every `)` closes an earlier `(`, none is left open) -/
def Balanced (ts : List Tok) : Prop := scanDepth 0 ts = some 0

instance (ts : List Tok) : Decidable (Balanced ts) := by unfold Balanced; infer_instance

/-- no `,` at depth 0 (depth starting at `d`) -/
def noTopComma : Nat → List Tok → Bool
  | _, [] => true
  | d, t :: r =>
    if t.text = "(" then noTopComma (d + 1) r
    else if t.text = ")" then noTopComma (d - 1) r
    else (d != 0 || t.text != ",") && noTopComma d r

/-- the tokens at which `read_macro_arg_one` stops -/
def isTerm (readRest : Bool) (t : Tok) : Bool := t.text == ")" || (!readRest && t.text == ",")

/-- `Sep first as l`: `l` is the token lists `as` separated by tokens spelled `,`
    (with a leading `,` when `first = false`) -/
inductive Sep : Bool → List (List Tok) → List Tok → Prop
  | nil (first : Bool) : Sep first [] []
  | first (a : List Tok) (as : List (List Tok)) (l : List Tok) : Sep false as l → Sep true (a :: as) (a ++ l)
  | next (c : Tok) (a : List Tok) (as : List (List Tok)) (l : List Tok) :
      c.text = "," → Sep false as l → Sep false (a :: as) (c :: (a ++ l))

/-! ## inputs without directives; object-like tables (`C09_blue`, `C09_terminates*`) -/

/-- no token of the list starts a directive -/
def NoHash (ts : List Tok) : Prop := ∀ t ∈ ts, isHash t = false

instance (ts : List Tok) : Decidable (NoHash ts) := by unfold NoHash; infer_instance

def Macro.isFn : Macro → Bool
  | .fn .. => true
  | _ => false

/-- the table defines no function-like macro -/
def ObjOnly (defs : List (String × Macro)) : Prop := ∀ d ∈ defs, d.2.isFn = false

instance (defs : List (String × Macro)) : Decidable (ObjOnly defs) := by unfold ObjOnly; infer_instance

/-! ## the fuel bounds: `need` with `bodyBound` for object-like tables (`Props.C09.bound`), `fuelBound` for every table -/

/-- macro names not yet hidden for this token (`budget names t.hide` of Lemmas/C09Measure.lean) -/
def rank (names : List String) (t : Tok) : Nat := (names.filter fun n => !hidesetContains t.hide n).length

/-- steps of `preprocess2` a token of rank `r` can cause when every replacement list has at most `L` tokens -/
def cost (L : Nat) : Nat → Nat
  | 0 => 1
  | r + 1 => 1 + L * cost L r

def tokCost (names : List String) (L : Nat) (t : Tok) : Nat :=
  if t.kind == .ident then cost L (rank names t) else 1

/-- the fuel bound for object-like tables: `Props.C09.bound defs ts` is `need` of the names of `defs` and `bodyBound defs` -/
def need (names : List String) (L : Nat) (ts : List Tok) : Nat := (ts.map (tokCost names L)).sum

/-- longest replacement list of an object-like macro of the table (at least 1); `maxBody` below counts every macro -/
def bodyBound : List (String × Macro) → Nat
  | [] => 1
  | d :: ds => max (match d.2 with | .obj b => b.length | _ => 0) (bodyBound ds)

/-- one level on top of `prev` (the bound function of the next smaller budget): consuming one of `m + 1` tokens may
    open a new inner level of at most `L * (1 + potential of what is left)` tokens -/
def levelStep (L : Nat) (prev : Nat → Nat → Nat) : Nat → Nat → Nat
  | 0, x => x
  | m + 1, x => 1 + levelStep L prev m (prev (L * (1 + levelStep L prev m x)) 0)

/-- `fuelE L j m x`: potential of a level with budget `j` (macro names not yet in its hide set) and `m` tokens whose
    inner levels have potential `x`.  Budget 0: nothing can expand, every token costs one step. -/
def fuelE (L : Nat) : Nat → Nat → Nat → Nat
  | 0 => fun m x => m + x
  | j + 1 => levelStep L (fuelE L j)

/-- tokens a single application of the macro can contribute per unit of `M` (see `subst_fuel`); a built-in yields one token -/
def bodyLen : Macro → Nat
  | .obj b => b.length
  | .fn _ _ b => b.length
  | .builtin _ => 1

/-- longest replacement list of the table, object-like and function-like macros alike (at least 1) -/
def maxBody : List (String × Macro) → Nat
  | [] => 1
  | d :: ds => max (bodyLen d.2) (maxBody ds)

/-- the fuel bound for every table: `fuelE` for the whole input as one level whose budget is the number of table entries -/
def fuelBound (defs : List (String × Macro)) (ts : List Tok) : Nat := fuelE (maxBody defs) defs.length ts.length 0

/-! ## `subst` against the specification (`C09_subst_spec*`, `isC11`) -/

/-- what the `subst` theorems compare of a token: its kind and its spelling (not spacing, line, hide set, origin) -/
def spell1 (t : Tok) : Kind × String := (t.kind, t.text)

def spell (ts : List Tok) : List (Kind × String) := ts.map spell1

/-- the replacement list starts with one of the three constructs the `subst` theorems exclude: `, ##` in front of the variable
    parameter (GNU), `__VA_OPT__ (` (C2x), or — in a function-like macro — `## #` -/
def badHead (isFn : Bool) (args : List MacroArg) : List Tok → Bool
  | [] => false
  | t :: r =>
    (t.text == "," && textIs r.head? "##" && ((findArg args (r.drop 1).head?).filter (·.isVa)).isSome) ||
    (t.text == "__VA_OPT__" && textIs r.head? "(") ||
    (t.text == "##" && isFn && textIs r.head? "#")

/-- `badHead` somewhere in the replacement list.  `anyBad true args body = false` is `NoExtension body args` below and
    `isC11 body args = true` of Props/C09.lean -/
def anyBad (isFn : Bool) (args : List MacroArg) : List Tok → Bool
  | [] => false
  | t :: r => badHead isFn args (t :: r) || anyBad isFn args r

/-- the arguments come straight from `read_macro_args`: nothing is cached yet -/
def FreshArgs (args : List MacroArg) : Prop := ∀ a ∈ args, a.expanded = none

instance (args : List MacroArg) : Decidable (FreshArgs args) := by unfold FreshArgs; infer_instance

/-- outside C11 6.10.3 proper or unspecified by it: GNU `, ##` in front of the variable parameter, C2x `__VA_OPT__ (`,
    and `## #` in a function-like macro (6.10.3.2p2: order of evaluation of `#` and `##`).  Nothing else is excluded: a `##`
    whose right operand is `##` is rejected by the specification itself (`pasteAll_op_op`), chains of `##` over empty
    arguments are covered (`skip_sim`; both in Lemmas/PPSubst.lean) -/
def NoExtension (body : List Tok) (args : List MacroArg) : Prop := anyBad true args body = false

instance (body : List Tok) (args : List MacroArg) : Decidable (NoExtension body args) := by
  unfold NoExtension; infer_instance

/-! ## `#` (`C09_stringize_wellformed`, Findings/C09.lean) -/

/-- `stringize` as it was before `fix:` 6fecbd6: `new_str_token(join_tokens(arg, NULL), hash)` -/
def stringizeOld (hash : Tok) (arg : List Tok) : Tok :=
  { kind := .str, text := quoteString (joinTokens arg), hasSpace := hash.hasSpace, atBol := hash.atBol, line := hash.line }

/-- a token is literal-safe and its spelling has no new-line character (no token of `tokenize` has one) -/
def strzOkTok (t : Tok) : Bool := strSafeTok t && t.text.toList.all (· != '\n')

end ChibiVerif.PP
