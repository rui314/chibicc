/-
C13 — the division sites of struct_decl / union_decl (parse.c) on Model/Layout.lean.

`align_to(n, 0)` and `bits / (sz * 8)` with `sz == 0` are SIGFPE in cc1; the model makes them the outcome
`Fail.divByZero`.  This file characterises EXACTLY which member lists reach one of the three sites, and shows
that member lists with positive alignments and bit-fields of non-zero size never reach them; both are read off the normal
form of the loops (Lemmas/LayoutLoops.lean).  (Whole type descriptions: Lemmas/LayoutTotal.lean of C08, on the model that
follows the parser's checks of fixes 04ba5b8 / fb20c9b.)  Core Lean only.
-/
import ChibiVerif.Lemmas.LayoutLoops

namespace ChibiVerif.C13Layout
open ChibiVerif.Layout ChibiVerif.Gen.Declspec

/-- site 1/2 of `struct_decl`: the member is a bit-field whose type has size 0 (`align_to(bits, sz * 8)`,
    `bits / (sz * 8)`), or a plain member of a struct that is not packed whose alignment is 0
    (`align_to(bits, mem->align * 8)`) -/
def memDivSite (packed : Bool) (m : Mem) : Bool :=
  match m.bitWidth with
  | some _ => decide (m.size * 8 = 0)
  | none => !packed && decide (m.align * 8 = 0)

/-- `ty->align` after the member loop of `struct_decl` -/
def structAlign (packed : Bool) : Int → List Mem → Int
  | a, [] => a
  | a, m :: ms => structAlign packed (stepAlign packed a m) ms

/-- `ty->align` after the member loop of `union_decl` -/
def unionAlign (packed : Bool) (a0 : Int) (ms : List Mem) : Int := (unionLoop packed (STRUCT_INIT_SIZE : Nat) a0 ms).2

theorem alignToE_error (n a : Int) (e : Fail) : alignToE n a = .error e ↔ a = 0 := by
  unfold alignToE
  by_cases h : a = 0
  · simp [h]
  · simp [h]

theorem alignToE_ok (n a : Int) (h : a ≠ 0) : alignToE n a = .ok (alignTo n a) :=
  Layout.alignToE_ok h

theorem memDivSite_iff (packed : Bool) (m : Mem) : memDivSite packed m = true ↔ m.step packed = 0 := by
  unfold memDivSite Mem.step
  cases m.bitWidth <;> cases packed <;> simp

theorem structAlign_eq (packed : Bool) : ∀ (ms : List Mem) (a : Int), structAlign packed a ms = alignAll packed a ms
  | [], _ => rfl
  | m :: ms, a => structAlign_eq packed ms (stepAlign packed a m)

theorem unionAlign_eq (packed : Bool) (a0 : Int) (ms : List Mem) : unionAlign packed a0 ms = alignAll packed a0 ms := by
  rw [unionAlign, unionLoop_eq_foldl]

theorem any_divSite (packed : Bool) (ms : List Mem) (bits : Int) :
    ms.any (memDivSite packed) = true ↔ placeAll packed bits ms = .error .divByZero := by
  simp only [List.any_eq_true, memDivSite_iff, placeAll_error_iff]

theorem structLayout_error_iff (packed : Bool) (a0 : Int) (ms : List Mem) :
    structLayout packed a0 ms = .error .divByZero ↔
      (ms.any (memDivSite packed) = true ∨ structAlign packed a0 ms * 8 = 0) := by
  rw [structLayout_nf, any_divSite packed ms 0, structAlign_eq]
  cases placeAll packed 0 ms with
  | error e => cases e; simp [bind, Except.bind]
  | ok r => by_cases h : alignAll packed a0 ms * 8 = 0 <;> simp [bind, Except.bind, alignToE, h, pure, Except.pure]

/-- **exact characterisation** of the SIGFPE site of `union_decl` (`align_to(ty->size, ty->align)`) -/
theorem unionLayout_error_iff (packed : Bool) (a0 : Int) (ms : List Mem) :
    unionLayout packed a0 ms = .error .divByZero ↔ unionAlign packed a0 ms = 0 := by
  rw [unionLayout_nf, unionAlign_eq]
  by_cases h : alignAll packed a0 ms = 0 <;> simp [alignToE, h, Except.map]

theorem structLayout_ok (packed : Bool) (a0 : Int) (ms : List Mem) (ha : 0 < a0)
    (hm : ms.any (memDivSite packed) = false) : ∃ l, structLayout packed a0 ms = .ok l ∧ 0 < l.align := by
  have hge := alignAll_ge packed ms a0
  obtain ⟨l, hl, hal⟩ := structLayout_ok_of (packed := packed) (a0 := a0) (ms := ms)
    (fun m hmem h0 => by
      rw [List.any_eq_false] at hm
      exact hm m hmem ((memDivSite_iff packed m).2 h0))
    (by omega)
  exact ⟨l, hl, by omega⟩

theorem unionLayout_ok (packed : Bool) (a0 : Int) (ms : List Mem) (ha : 0 < a0) :
    ∃ l, unionLayout packed a0 ms = .ok l ∧ 0 < l.align := by
  have hge := alignAll_ge packed ms a0
  obtain ⟨l, hl, hal⟩ := unionLayout_ok_of (packed := packed) (a0 := a0) (ms := ms) (by omega)
  exact ⟨l, hl, by omega⟩

end ChibiVerif.C13Layout
