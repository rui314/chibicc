/-
`convert_pp_int` is called on the token inside its text; the hand model (`lexLiteral`) calls its model on a copy of the token.
For the token the pp-number scan delimits, the two agree: the byte after the token is not alphanumeric, and no test of
`convert_pp_int` (as translated), nor the digit loop of `strtoul`, accepts such a byte — it behaves like the terminator.
For the two ladders this is `matchText_take` (Lemmas/ByteAt.lean) applied to their tables (`sel1_context`; `PpInt.sel2_context`),
for the digit loop an induction on its fuel (`digits_context`).
Consequence: `lexLiteral` (Model/Literals.lean, the function of the `C11_text_*` theorems) is `lexLiteralC` (translated
pp-number arm, translated `convert_pp_int` called in context with the libc model of `strtoul`) on every text that does not
begin with a doubled `0x` prefix.
-/
import ChibiVerif.Lemmas.C11PpInt
import ChibiVerif.Lemmas.C11PpNumber

namespace ChibiVerif.Lemmas.PpContext
open ChibiVerif.Gen.Literals
open ChibiVerif.Literals
open ChibiVerif.PpNumber
open ChibiVerif.Lemmas.Literals
open ChibiVerif.Lemmas.PpInt
open ChibiVerif.Lemmas.PpNum (scanLen cont end_eq scanLen_le)

theorem scan_stops : ∀ t : List Byte, cont (byteAt t (scanLen t)) = false := by
  intro t
  induction t using scanLen.induct with
  | case1 => decide
  | case2 c hc => simp [scanLen, hc, byteAt]; decide
  | case3 c hc => simp [scanLen, hc, byteAt]
  | case4 c d t hcd ih =>
    simp only [scanLen, hcd, if_true]
    rw [show 2 + scanLen t = scanLen t + 1 + 1 by omega, byteAt_succ, byteAt_succ]; exact ih
  | case5 c d t hcd hc ih =>
    simp only [scanLen, hcd, hc, if_true, if_false, Bool.false_eq_true]
    rw [show 1 + scanLen (d :: t) = scanLen (d :: t) + 1 by omega, byteAt_succ]; exact ih
  | case6 c d t hcd hc => simp [scanLen, hcd, hc, byteAt]

theorem not_cont_not_alnum (c : Byte) (h : cont c = false) : isAlnum c = false := by
  cases ha : isAlnum c with
  | false => rfl
  | true => rw [(ChibiVerif.Lemmas.PpNum.hand_cond2 c).mp (.inl ha)] at h; cases h

theorem after_token (p : List Byte) : isAlnum (byteAt p (ChibiVerif.Gen.PpNum.ppNumberEnd p 0)) = false := by
  apply not_cont_not_alnum
  rw [end_eq]
  have := scan_stops (p.drop (0 + 1))
  rw [byteAt_drop] at this
  exact this

theorem digits_context (p : List Byte) (n base : Nat) (hc : isAlnum (byteAt p n) = false) :
    ∀ (k i v f1 f2 : Nat), n - i = k → i ≤ n → n - i < f1 → n - i < f2 →
      strtoulDigits p base f1 i v = strtoulDigits (p.take n) base f2 i v ∧
      i ≤ (strtoulDigits p base f1 i v).2 ∧ (strtoulDigits p base f1 i v).2 ≤ n ∧
      ((strtoulDigits p base f1 i v).2 = i → (strtoulDigits p base f1 i v).1 = v) := by
  intro k
  induction k with
  | zero =>
    intro i v f1 f2 hk hi h1 h2
    have hin : i = n := by omega
    subst hin
    cases f1 with
    | zero => omega
    | succ f1 =>
      cases f2 with
      | zero => omega
      | succ f2 =>
        have e0 : byteAt (p.take i) i = 0#8 := by rw [byteAt_take]; simp
        have d0 : digitVal (0#8 : Byte) = none := by decide
        simp only [strtoulDigits, (nonalnum_no_digit _ hc).1, e0, d0]
        exact ⟨trivial, Nat.le_refl _, Nat.le_refl _, fun _ => trivial⟩
  | succ k ih =>
    intro i v f1 f2 hk hi h1 h2
    have hlt : i < n := by omega
    cases f1 with
    | zero => omega
    | succ f1 =>
      cases f2 with
      | zero => omega
      | succ f2 =>
        have e0 : byteAt (p.take n) i = byteAt p i := by rw [byteAt_take]; simp [hlt]
        simp only [strtoulDigits, e0]
        cases hd : digitVal (byteAt p i) with
        | none => exact ⟨rfl, Nat.le_refl _, Nat.le_of_lt hlt, fun _ => rfl⟩
        | some d =>
          simp only
          by_cases hb : d < base
          · simp only [hb, if_true]
            obtain ⟨a1, a2, a3, _⟩ := ih (i + 1) (v * base + d) f1 f2 (by omega) (by omega) (by omega) (by omega)
            exact ⟨a1, by omega, a3, fun h => by omega⟩
          · simp only [hb, if_false]
            exact ⟨trivial, Nat.le_refl _, Nat.le_of_lt hlt, fun _ => trivial⟩

theorem strtoul_context (p : List Byte) (n i base : Nat) (hc : isAlnum (byteAt p n) = false) (hi : i ≤ n) (hn : n ≤ p.length)
    (hpre : ¬ (base = 16 ∧ byteAt p i = 48#8 ∧ (byteAt p (i + 1) = 120#8 ∨ byteAt p (i + 1) = 88#8))) :
    strtoulC p i base = strtoulH (p.take n) i base ∧ (strtoulC p i base).2 ≤ n := by
  have hl : (p.take n).length = n := by simp [Nat.min_eq_left hn]
  obtain ⟨a1, a2, a3, a4⟩ := digits_context p n base hc (n - i) i 0 (p.length + 1) ((p.take n).length + 1) rfl hi (by omega) (by omega)
  unfold strtoulC strtoulH ChibiVerif.Literals.strtoul saturate
  simp only [hpre, if_false, ← a1]
  by_cases he : (strtoulDigits p base (p.length + 1) i 0).2 = i
  · have hz := a4 he
    simp only [he, if_true, hz]
    exact ⟨by simp, hi⟩
  · simp only [he, if_false]
    exact ⟨trivial, a3⟩

/-- what the base-prefix table compares with: digits and letters -/
def alnumNext : NextByte → Bool
  | .oneOf cs => cs.all fun c => isAlnum (BitVec.ofNat 8 c : Byte)
  | _ => true

theorem base_pats_alnum : ∀ bp ∈ basePrefixes,
    (∀ c ∈ bp.text, isAlnum (BitVec.ofNat 8 c : Byte) = true) ∧ alnumNext bp.next = true := by decide

theorem nextOk_nonalnum (t : List Byte) (i : Nat) (nb : NextByte) (hnb : alnumNext nb = true) (hc : isAlnum (byteAt t i) = false) :
    nextOk t i nb = (nb == .any) := by
  cases nb with
  | any => rfl
  | xdigit => exact (nonalnum_no_digit _ hc).2
  | oneOf cs =>
    refine (Bool.eq_false_iff.mpr fun h => ?_)
    have := List.all_eq_true.mp hnb _ (List.contains_iff_mem.mp h)
    rw [BitVec.ofNat_toNat, BitVec.setWidth_eq, hc] at this; cases this

/-- the base-prefix ladder is a search with `matchText` and `nextOk` through a table of digits and letters (`detectBase_eq`) -/
theorem sel1_context (p : List Byte) (n : Nat) (hc : isAlnum (byteAt p n) = false) :
    G.convertPpInt_sel1 (p.take n) 0 = G.convertPpInt_sel1 p 0 := by
  have h : detectBase (p.take n) = detectBase p := by
    unfold detectBase
    rw [List.find?_congr_mem fun bp hbp => ?_]
    obtain ⟨ht, hnx⟩ := base_pats_alnum bp hbp
    obtain ⟨e, hb⟩ := matchText_take p n bp.caseInsensitive bp.text 0 (Nat.zero_le _)
      fun c hc' => hit_nonalnum _ _ _ hc (ht c hc')
    rw [e]
    cases hm : matchText p 0 bp.text bp.caseInsensitive
    · rfl
    · have hle : bp.text.length ≤ n := by simpa using hb hm
      by_cases hlt : bp.text.length < n
      · simp only [nextOk, byteAt_take, if_pos hlt]
      · obtain rfl : bp.text.length = n := by omega
        rw [nextOk_nonalnum _ _ _ hnx hc, nextOk_nonalnum _ _ _ hnx (by rw [byteAt_take, if_neg hlt]; exact zero_nonalnum)]
  rw [detectBase_eq, detectBase_eq] at h
  exact Prod.ext (congrArg Prod.snd h) (congrArg Prod.fst h)

theorem base_rows : ∀ bp ∈ basePrefixes, bp.skip ≤ bp.text.length ∧ (bp.base = 16 → bp.skip = 2) := by decide

/-- the cursor after the base-prefix ladder is inside the text, and after a hexadecimal prefix it is 2: read off the table -/
theorem sel1_shape (r : List Byte) :
    (G.convertPpInt_sel1 r 0).1 ≤ r.length ∧ ((G.convertPpInt_sel1 r 0).2 = 16 → (G.convertPpInt_sel1 r 0).1 = 2) := by
  have h := detectBase_eq r
  unfold detectBase at h
  split at h
  · next bp hbp =>
    obtain ⟨e1, e2⟩ := Prod.mk.inj h
    obtain ⟨a, b⟩ := base_rows bp (List.mem_of_find?_eq_some hbp)
    have hm := List.find?_some hbp
    simp only [Bool.and_eq_true] at hm
    rw [← e1, ← e2]
    exact ⟨Nat.le_trans a (matchText_le _ _ _ hm.1), b⟩
  · obtain ⟨e1, e2⟩ := Prod.mk.inj h
    rw [← e1, ← e2]
    exact ⟨Nat.zero_le _, by decide⟩

theorem convertPpInt_context (p : List Byte) (n : Nat) (hnl : n ≤ p.length)
    (hc : isAlnum (byteAt p n) = false) (hsp : ¬ SecondPrefix p) :
    G.convertPpInt strtoulC p 0 n = G.convertPpInt strtoulH (p.take n) 0 (p.take n).length := by
  have hl : (p.take n).length = n := by simp [Nat.min_eq_left hnl]
  have hs1 := sel1_context p n hc
  obtain ⟨sh1, sh2⟩ := sel1_shape (p.take n)
  rw [hs1, hl] at sh1
  rw [hs1] at sh2
  unfold ChibiVerif.Gen.PpNum.convertPpInt
  rw [hs1, hl]
  generalize hg : G.convertPpInt_sel1 p 0 = s1 at sh1 sh2
  obtain ⟨q1, base⟩ := s1
  simp only at sh1 sh2 ⊢
  have hpre : ¬ (base = 16 ∧ byteAt p q1 = 48#8 ∧ (byteAt p (q1 + 1) = 120#8 ∨ byteAt p (q1 + 1) = 88#8)) := by
    intro h
    apply hsp
    have hq : q1 = 2 := sh2 h.1
    subst hq
    unfold SecondPrefix
    rw [hg]
    exact ⟨h.1, h.2.1, h.2.2⟩
  obtain ⟨e1, e2⟩ := strtoul_context p n q1 base hc sh1 hnl hpre
  rw [← e1]
  generalize strtoulC p q1 base = r at e2
  obtain ⟨v, q2⟩ := r
  simp only at e2 ⊢
  rw [sel2_context p n q2 e2 hc]

/-- the number arm of `lexLiteral` in terms of the translated scan and the translated `convert_pp_int` -/
theorem lexLiteral_num (p : List Byte) (hs : ChibiVerif.Gen.PpNum.ppNumberStart p 0 = true) :
    lexLiteral p =
      match G.convertPpInt strtoulH (p.take (ChibiVerif.Gen.PpNum.ppNumberEnd p 0)) 0
          (p.take (ChibiVerif.Gen.PpNum.ppNumberEnd p 0)).length with
      | some (v, ty) => .ok (.int v ty (ChibiVerif.Gen.PpNum.ppNumberEnd p 0))
      | none => .ok (.flt (ChibiVerif.Gen.PpNum.ppNumberEnd p 0)) := by
  unfold lexLiteral
  rw [ChibiVerif.Lemmas.PpNum.ppStart_eq, hs]
  simp only [if_true, ChibiVerif.Lemmas.PpNum.ppNumberLen_eq, translated_int]
  generalize G.convertPpInt strtoulH (p.take (ChibiVerif.Gen.PpNum.ppNumberEnd p 0)) 0
    (p.take (ChibiVerif.Gen.PpNum.ppNumberEnd p 0)).length = r
  cases r with
  | none => rfl
  | some x => cases x; rfl

theorem lexLiteral_eq (p : List Byte) (hsp : ¬ SecondPrefix p) : lexLiteralC p = lexLiteral p := by
  unfold lexLiteralC
  by_cases hs : ChibiVerif.Gen.PpNum.ppNumberStart p 0 = true
  · obtain ⟨_, hend, _⟩ := (ChibiVerif.Lemmas.PpNum.ppnumber_maximal p 0).2 hs
    simp only [hs, if_true]
    unfold convertPpIntC
    rw [convertPpInt_context p _ hend (after_token p) hsp, lexLiteral_num p hs]
    generalize G.convertPpInt strtoulH _ _ _ = r
    rcases r with _ | ⟨v, ty⟩ <;> rfl
  · simp only [hs, Bool.false_eq_true, if_false]

end ChibiVerif.Lemmas.PpContext
