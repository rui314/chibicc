/-
C09 — one turn of the loop of `subst`.

A turn reads the argument list, the current token, the rest of the replacement list and the output so far, and then does
one of four things: it stops with a diagnostic, goes on with a new rest and output, asks the pre-expander about one argument,
or runs the loop on the content of `__VA_OPT__`.  The arms below are the arms of `substLoop` (Model/PP.lean), tested in its
order — `#`, `, ##` in front of the variable argument, `##`, then by `find_arg`: a parameter (in front of `##`, or plain), or
any other token (`__VA_OPT__ (` among them) — each named by the `if` of the `while` loop of `subst()` in preprocess.c it
renders, with what happens next left to four continuations; the pre-expander, the state and the fuel enter `substLoop` only
through them (`substLoop_succ`).  `substArms_rel` is all the loop theorems need to know about a turn; only `subst_sim`
(Lemmas/PPSubst.lean), which compares with the specification arm by arm, opens the arms itself.
-/
import ChibiVerif.Model.PP
import ChibiVerif.Lemmas.PPArgs

namespace ChibiVerif.PP

theorem paste_error_ne_fuel {lx : String → LexOne} {a b : Tok} {e : Err} (h : paste lx a b = .error e) : e ≠ .fuel := by
  unfold paste at h
  dsimp only at h
  split at h <;> simp at h <;> simp [← h]

theorem findArg_mem {args : List MacroArg} {t : Option Tok} {a : MacroArg} (h : findArg args t = some a) : a ∈ args := by
  unfold findArg at h
  split at h
  · simp at h
  · exact List.mem_of_find?_eq_some h

theorem length_setHeadFlags (ts : List Tok) (b s : Bool) : (setHeadFlags ts b s).length = ts.length := by
  cases ts <;> rfl

/-! ## the placemarker loop `skipEmptyOperands` (`fix:` 5a15c0f in /repo) -/

theorem skipEmptyOperands_suffix (args : List MacroArg) (rhs : Tok) (rest : List Tok) :
    (skipEmptyOperands args rhs rest).2 <:+ rest := by
  fun_induction skipEmptyOperands args rhs rest with
  | case1 rhs h q rest hc ih => exact ih.trans ((List.suffix_cons _ _).trans (List.suffix_cons _ _))
  | case2 => exact List.suffix_refl _
  | case3 => exact List.suffix_refl _

theorem skipEmptyOperands_congr {args args' : List MacroArg} (h : ∀ t, emptyParam args t = emptyParam args' t)
    (rest : List Tok) (rhs : Tok) : skipEmptyOperands args rhs rest = skipEmptyOperands args' rhs rest := by
  fun_induction skipEmptyOperands args rhs rest with
  | case1 rhs x q rest hc ih => rw [ih]; conv => rhs; rw [skipEmptyOperands]; simp only [← h, hc, if_true]
  | case2 rhs x q rest hc => rw [skipEmptyOperands.eq_def]; simp [← h, hc]
  | case3 rhs rest hne =>
    rcases rest with _ | ⟨x, _ | ⟨q, r⟩⟩
    · simp [skipEmptyOperands]
    · simp [skipEmptyOperands]
    · exact absurd rfl (hne x q r)

theorem skipEmptyOperands_step {args : List MacroArg} {rhs h q : Tok} {rest : List Tok}
    (he : emptyParam args rhs = true) (hh : h.text = "##") :
    skipEmptyOperands args rhs (h :: q :: rest) = skipEmptyOperands args q rest := by
  rw [skipEmptyOperands]
  simp [he, hh]

theorem skipEmptyOperands_stop {args : List MacroArg} {rhs : Tok} {rest : List Tok}
    (hs : emptyParam args rhs = false ∨ textIs rest.head? "##" = false ∨ rest.length < 2) :
    skipEmptyOperands args rhs rest = (rhs, rest) := by
  rcases rest with _ | ⟨h, _ | ⟨q, rest⟩⟩
  · simp [skipEmptyOperands]
  · simp [skipEmptyOperands]
  · rw [skipEmptyOperands]
    rcases hs with hs | hs | hs
    · simp [hs]
    · have : (h.text == "##") = false := by simpa [textIs] using hs
      simp [this]
    · simp only [List.length_cons] at hs; omega

section arms
variable {α : Type} (lx : String → LexOne) (skipOps : Tok → List Tok → Tok × List Tok) (isObj : Bool) (args : List MacroArg)
  (tok : Tok) (rest acc : List Tok)
  (fail : Err → α) (go : List Tok → List Tok → α) (expand : MacroArg → α) (vaopt : List Tok → List Tok → α)

/-- `if (equal(tok, "#") && !is_objlike)` -/
def hashArm : α :=
  match findArg args rest.head? with
  | none => fail .hashNotParam
  | some a => go (rest.drop 1) (stringize tok a.toks :: acc)

/-- `if (arg && arg->is_va_args)` under `if (equal(tok, ",") && equal(tok->next, "##"))` -/
def gnuArm (a : MacroArg) : α :=
  if a.toks.isEmpty then go (rest.drop 2) acc else go (rest.drop 1) (tok :: acc)

/-- `if (equal(tok, "##"))` -/
def pasteArm : α :=
  match acc with
  | [] => fail .pasteAtStart
  | cur :: acc' =>
    match rest with
    | [] => fail .pasteAtEnd
    | nxt :: rest' =>
      match findArg args (some nxt) with
      | some a =>
        match a.toks with
        | [] => go rest' acc
        | t0 :: ts =>
          match paste lx cur t0 with
          | .error e => fail e
          | .ok p => go rest' (ts.reverse ++ p :: acc')
      | none =>
        match paste lx cur nxt with
        | .error e => fail e
        | .ok p => go rest' (p :: acc')

/-- `if (arg && equal(tok->next, "##"))` and `if (arg)`; `skipOps` is the `while` loop over empty operands -/
def paramArm (a : MacroArg) : α :=
  if textIs rest.head? "##" then
    match rest.drop 1 with
    | [] => fail .pasteAtEnd
    | rhs :: rest3 =>
      match a.toks with
      | [] =>
        match findArg args (some (skipOps rhs rest3).1) with
        | some a2 => go (skipOps rhs rest3).2 (a2.toks.reverse ++ acc)
        | none => go (skipOps rhs rest3).2 ((skipOps rhs rest3).1 :: acc)
      | _ :: _ => go rest ((setHeadFlags a.toks tok.atBol tok.hasSpace).reverse ++ acc)
  else
    match a.expanded with
    | some e => go rest ((setHeadFlags e tok.atBol tok.hasSpace).reverse ++ acc)
    | none => expand a

/-- `if (equal(tok, "__VA_OPT__") && equal(tok->next, "("))` and the copy of any other token -/
def otherArm : α :=
  if tok.text == "__VA_OPT__" && textIs rest.head? "(" then
    match readMacroArgOne true 0 (rest.drop 1) with
    | .error e => fail e
    | .ok (content, r) => if hasVarargs args then vaopt content (r.drop 1) else go (r.drop 1) acc
  else go rest (tok :: acc)

/-- which arm a turn takes: the tests of `substLoop` in its order, the arms given as values -/
def armSel (hash : α) (gnu : MacroArg → α) (paste : α) (param : MacroArg → α) (other : α) : α :=
  if tok.text == "#" && !isObj then hash
  else
  match (if tok.text == "," && textIs rest.head? "##" then (findArg args (rest.drop 1).head?).filter (·.isVa) else none) with
  | some a => gnu a
  | none =>
  if tok.text == "##" then paste
  else
  match findArg args (some tok) with
  | some a => param a
  | none => other

/-- one turn of the loop of `subst` with the four continuations `fail`, `go`, `expand`, `vaopt` -/
def substArms : α :=
  armSel isObj args tok rest (hashArm args tok rest acc fail go) (gnuArm tok rest acc go) (pasteArm lx args rest acc fail go)
    (paramArm skipOps args tok rest acc fail go expand) (otherArm args tok rest acc fail go vaopt)

end arms

abbrev SubstResult := Except Err (List Tok × List MacroArg × St)

/-- a turn of `subst` around a loop `loop` (run with fuel `n`) for what is left and a pre-expander `pp` -/
abbrev substTurn (lx : String → LexOne) (skipOps : Tok → List Tok → Tok × List Tok) (pp : PreExpand)
    (loop : Bool → Nat → St → List MacroArg → List Tok → List Tok → SubstResult) (n : Nat)
    (isObj : Bool) (st : St) (args : List MacroArg) (tok : Tok) (rest acc : List Tok) : SubstResult :=
  substArms lx skipOps isObj args tok rest acc .error (loop isObj n st args)
    (fun a =>
      match pp st (addHideset a.toks []) with
      | .error e => .error e
      | .ok (e, st') => loop isObj n st' (setExpanded args a.name e) rest ((setHeadFlags e tok.atBol tok.hasSpace).reverse ++ acc))
    (fun content r =>
      match loop false n st args content [] with
      | .error e => .error e
      | .ok (out, args', st') => loop isObj n st' args' r (out.reverse ++ acc))

/-- by unfolding alone: the arms repeat the body of `substLoop` in its order, so no case is split here -/
theorem substLoop_succ (lx : String → LexOne) (pp : PreExpand) (isObj : Bool) (n : Nat) (st : St) (args : List MacroArg)
    (tok : Tok) (rest acc : List Tok) :
    substLoop lx pp isObj (n + 1) st args (tok :: rest) acc =
      substTurn lx (skipEmptyOperands args) pp (substLoop lx pp) n isObj st args tok rest acc :=
  rfl

def ArgsLen (M : Nat) (args : List MacroArg) : Prop :=
  ∀ a ∈ args, a.toks.length ≤ M ∧ ∀ e, a.expanded = some e → e.length ≤ M

theorem ArgsLen.toks {M : Nat} {args : List MacroArg} (h : ArgsLen M args) {t : Option Tok} {a : MacroArg}
    (ha : findArg args t = some a) : a.toks.length ≤ M := (h _ (findArg_mem ha)).1

/-! ## what one turn can do

Two runs of the same turn with different continuations take the same arm — also with different operand loops, as long as these
agree where the arm of a parameter consults them (an empty argument in front of `##`, nowhere else).  A diagnostic is never `fuel`; a turn that goes
on continues with a suffix of the replacement list and has added at most one argument (or one token) to the output; the
pre-expander is asked about a member of the argument list; the content of `__VA_OPT__` and what follows it are a window and a
suffix of the rest. -/
section
variable {α : Type} {lx : String → LexOne} {skipOps : Tok → List Tok → Tok × List Tok}
  {isObj : Bool} {args : List MacroArg} {tok : Tok} {rest acc : List Tok}
  {fail : Err → α} {go : List Tok → List Tok → α} {expand : MacroArg → α} {vaopt : List Tok → List Tok → α}

section rel
variable {β : Type} {R : α → β → Prop} {fail' : Err → β} {go' : List Tok → List Tok → β} {expand' : MacroArg → β} {vaopt' : List Tok → List Tok → β}

theorem armSel_rel {h : α} {g : MacroArg → α} {p : α} {q : MacroArg → α} {o : α}
    {h' : β} {g' : MacroArg → β} {p' : β} {q' : MacroArg → β} {o' : β}
    (hh : R h h') (hg : ∀ a, R (g a) (g' a)) (hp : R p p') (hq : ∀ a, findArg args (some tok) = some a → R (q a) (q' a))
    (ho : R o o') : R (armSel isObj args tok rest h g p q o) (armSel isObj args tok rest h' g' p' q' o') := by
  unfold armSel
  repeat' split
  · exact hh
  · exact hg _
  · exact hp
  · exact hq _ ‹_›
  · exact ho

theorem substArms_rel {skipOps' : Tok → List Tok → Tok × List Tok} (hfail : ∀ e, e ≠ .fuel → R (fail e) (fail' e))
    (hgo : ∀ r a, r <:+ rest → (∀ M, 1 ≤ M → ArgsLen M args → a.length ≤ acc.length + M) → R (go r a) (go' r a))
    (hexp : ∀ a, a ∈ args → R (expand a) (expand' a))
    (hva : ∀ c r r0, c ++ r0 <:+ rest → r <:+ r0 → R (vaopt c r) (vaopt' c r))
    (hskip : ∀ rhs r, (skipOps rhs r).2 <:+ r)
    (hsame : ∀ a rhs rest3, findArg args (some tok) = some a → a.toks = [] → textIs rest.head? "##" = true →
      rest.drop 1 = rhs :: rest3 → skipOps' rhs rest3 = skipOps rhs rest3) :
    R (substArms lx skipOps isObj args tok rest acc fail go expand vaopt)
      (substArms lx skipOps' isObj args tok rest acc fail' go' expand' vaopt') := by
  refine armSel_rel ?_ (fun a => ?_) ?_ (fun a ha => ?_) ?_
  · unfold hashArm
    split
    · exact hfail _ nofun
    · exact hgo _ _ (List.drop_suffix _ _) fun M hM _ => by simp only [List.length_cons]; omega
  · unfold gnuArm
    split
    · exact hgo _ _ (List.drop_suffix _ _) fun M _ _ => by omega
    · exact hgo _ _ (List.drop_suffix _ _) fun M hM _ => by simp only [List.length_cons]; omega
  · unfold pasteArm
    repeat' split
    · exact hfail _ nofun
    · exact hfail _ nofun
    · exact hgo _ _ (List.suffix_cons _ _) fun M _ _ => by omega
    · exact hfail _ (paste_error_ne_fuel ‹_›)
    · refine hgo _ _ (List.suffix_cons _ _) fun M _ hA => ?_
      have := hA.toks ‹_›
      rw [‹MacroArg.toks _ = _ :: _›] at this
      simp only [List.length_cons, List.length_append, List.length_reverse] at this ⊢
      omega
    · exact hfail _ (paste_error_ne_fuel ‹_›)
    · exact hgo _ _ (List.suffix_cons _ _) fun M _ _ => by simp only [List.length_cons]; omega
  · have suf : ∀ {rhs rest3}, rest.drop 1 = rhs :: rest3 → (skipOps rhs rest3).2 <:+ rest := fun h =>
      ((hskip _ _).trans (List.suffix_cons _ _)).trans (h ▸ List.drop_suffix 1 rest)
    unfold paramArm
    split
    · split
      · exact hfail _ nofun
      · split
        · -- the only place where the operand loop is consulted
          rw [hsame _ _ _ ha ‹_› ‹_› ‹_›]
          split
          · refine hgo _ _ (suf ‹_›) fun M _ hA => ?_
            have := hA.toks ‹findArg args (some (skipOps _ _).1) = some _›
            simp only [List.length_append, List.length_reverse]
            omega
          · exact hgo _ _ (suf ‹_›) fun M hM _ => by simp only [List.length_cons]; omega
        · refine hgo _ _ (List.suffix_refl _) fun M _ hA => ?_
          have := hA.toks ha
          simp only [List.length_append, List.length_reverse, length_setHeadFlags]
          omega
    · split
      · refine hgo _ _ (List.suffix_refl _) fun M _ hA => ?_
        have := (hA _ (findArg_mem ha)).2 _ ‹_›
        simp only [List.length_append, List.length_reverse, length_setHeadFlags]
        omega
      · exact hexp _ (findArg_mem ha)
  · have hl : ∀ {c r}, readMacroArgOne true 0 (rest.drop 1) = .ok (c, r) → c ++ r <:+ rest := fun h =>
      ((argOne_spec _ _ _).of_ok h).1 ▸ List.drop_suffix 1 rest
    unfold otherArm
    repeat' split
    · exact hfail _ ((argOne_spec _ _ _).of_error ‹_› ▸ nofun)
    · exact hva _ _ _ (hl ‹_›) (List.drop_suffix _ _)
    · exact hgo _ _ ((List.drop_suffix _ _).trans ((List.suffix_append _ _).trans (hl ‹_›))) fun M _ _ => by omega
    · exact hgo _ _ (List.suffix_refl _) fun M hM _ => by simp only [List.length_cons]; omega

end rel

theorem substArms_ind {P : α → Prop}
    (hfail : ∀ e, e ≠ .fuel → P (fail e))
    (hgo : ∀ r a, r <:+ rest → (∀ M, 1 ≤ M → ArgsLen M args → a.length ≤ acc.length + M) → P (go r a))
    (hexp : ∀ a, a ∈ args → P (expand a))
    (hva : ∀ c r r0, c ++ r0 <:+ rest → r <:+ r0 → P (vaopt c r))
    (hskip : ∀ rhs r, (skipOps rhs r).2 <:+ r) :
    P (substArms lx skipOps isObj args tok rest acc fail go expand vaopt) :=
  substArms_rel (R := fun x (_ : α) => P x) (fail' := fail) (go' := go) (expand' := expand) (vaopt' := vaopt)
    hfail hgo hexp hva hskip fun _ _ _ _ _ _ _ => rfl

/-! ## the arms around `##`, by the tokens the right operand stands for -/

/-- the tokens the right operand `rhs` of a `##` stands for: the argument as written, or the token itself -/
def opToks (args : List MacroArg) (rhs : Tok) : List Tok :=
  match findArg args (some rhs) with
  | some a => a.toks
  | none => [rhs]

theorem emptyParam_iff (args : List MacroArg) (t : Tok) : emptyParam args t = true ↔ opToks args t = [] := by
  cases hf : findArg args (some t) <;> simp [emptyParam, opToks, hf]

/-- `##` in the model: the first token the right operand stands for is pasted onto the newest output token, the others
    are copied; nothing happens if it stands for none -/
theorem pasteArm_cons (args : List MacroArg) (nxt cur : Tok) (rest' acc' : List Tok) (fail : Err → α)
    (go : List Tok → List Tok → α) :
    pasteArm lx args (nxt :: rest') (cur :: acc') fail go =
      match opToks args nxt with
      | [] => go rest' (cur :: acc')
      | t0 :: ts =>
        match paste lx cur t0 with
        | .error e => fail e
        | .ok p => go rest' (ts.reverse ++ p :: acc') := by
  simp only [pasteArm, opToks]
  cases findArg args (some nxt) <;> rfl

theorem paramArm_empty {hh rhs : Tok} {rest3 : List Tok} {a : MacroArg}
    (ha : a.toks = []) (hhh : hh.text = "##") :
    paramArm skipOps args tok (hh :: rhs :: rest3) acc fail go expand a =
      go (skipOps rhs rest3).2 ((opToks args (skipOps rhs rest3).1).reverse ++ acc) := by
  unfold paramArm opToks
  simp only [List.head?_cons, textIs, hhh, beq_self_eq_true, if_true, List.drop_succ_cons, List.drop_zero, ha]
  cases findArg args (some (skipOps rhs rest3).1) <;> rfl

theorem paramArm_raw {hh rhs : Tok} {rest3 : List Tok} {a : MacroArg}
    (ha : a.toks ≠ []) (hhh : hh.text = "##") :
    paramArm skipOps args tok (hh :: rhs :: rest3) acc fail go expand a =
      go (hh :: rhs :: rest3) ((setHeadFlags a.toks tok.atBol tok.hasSpace).reverse ++ acc) := by
  unfold paramArm
  simp only [List.head?_cons, textIs, hhh, beq_self_eq_true, if_true, List.drop_succ_cons, List.drop_zero]
  cases h : a.toks with
  | nil => exact absurd h ha
  | cons => rfl

end

/-! ## the loop reads name, `is_va_args` and tokens of an argument; only the plain-parameter arm touches `arg->expanded` -/

/-- name, `is_va_args`, tokens -/
abbrev PArg := String × Bool × List Tok

def core (a : MacroArg) : PArg := (a.name, a.isVa, a.toks)

theorem find_core (args : List MacroArg) (s : String) :
    (args.map core).find? (fun a => a.1 == s) = (args.find? (fun a => a.name == s)).map core := by
  rw [List.find?_map]; rfl

theorem setExpanded_core : ∀ (args : List MacroArg) (n : String) (e : List Tok),
    (setExpanded args n e).map core = args.map core := by
  intro args
  induction args with
  | nil => intro n e; rfl
  | cons a r ih =>
    intro n e
    unfold setExpanded
    split
    · simp [core]
    · simp [ih]

theorem findArg_core {args args0 : List MacroArg} (h : args.map core = args0.map core) (t : Option Tok) :
    (findArg args t).map core = (findArg args0 t).map core := by
  cases t with
  | none => rfl
  | some t =>
    simp only [findArg]
    rw [← find_core, ← find_core, h]

theorem findArg_some_core {args args0 : List MacroArg} (h : args.map core = args0.map core) {t : Option Tok} {a : MacroArg}
    (hf : findArg args t = some a) : ∃ a0, findArg args0 t = some a0 ∧ a0.name = a.name ∧ a0.isVa = a.isVa ∧ a0.toks = a.toks := by
  have := findArg_core h t
  rw [hf] at this
  obtain ⟨a0, h0, hc⟩ := Option.map_eq_some_iff.1 this.symm
  simp only [core, Prod.mk.injEq] at hc
  exact ⟨a0, h0, hc⟩

theorem findArg_none_core {args args0 : List MacroArg} (h : args.map core = args0.map core) {t : Option Tok}
    (hf : findArg args t = none) : findArg args0 t = none := by
  have := findArg_core h t
  rw [hf] at this
  exact Option.map_eq_none_iff.1 this.symm

theorem opToks_core {args args0 : List MacroArg} (h : args.map core = args0.map core) (t : Tok) :
    opToks args t = opToks args0 t := by
  unfold opToks
  cases hf : findArg args (some t) with
  | none => rw [findArg_none_core h hf]
  | some a =>
    obtain ⟨a0, hf0, _, _, ht⟩ := findArg_some_core h hf
    rw [hf0]; exact ht.symm

theorem emptyParam_core {args args0 : List MacroArg} (h : args.map core = args0.map core) (t : Tok) :
    emptyParam args t = emptyParam args0 t :=
  Bool.eq_iff_iff.2 (by rw [emptyParam_iff, emptyParam_iff, opToks_core h])

end ChibiVerif.PP
