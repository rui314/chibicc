/-
Helper lemmas for C15_symbols_partial: the list `parse` returns (after the root loop and `scan_globals`),
object by object, in terms of the state `declAll` reached.

* a function object of the result is `find_func(f)` of that state with `is_live` set to what the root loop
  computed, and every function has its object;
* a non-tentative data object of the result is one of the data objects `parse` created (`allNews`), up to the completion
  pass in front of `scan_globals` (`preOne`), and each of those is in the result;
* a tentative one is one of them up to its type.
-/
import ChibiVerif.Lemmas.LinkageLive
import ChibiVerif.Lemmas.LinkageEmit
import ChibiVerif.Lemmas.LinkageView
import ChibiVerif.Lemmas.LinkageData
import ChibiVerif.Lemmas.LinkagePre

namespace ChibiVerif.Linkage
open ChibiVerif.Spec.Linkage

variable [Rules]

omit [Rules] in
theorem mem_dataOf {l : List Obj} {o : Obj} : o ∈ dataOf l ↔ o ∈ l ∧ o.isFunction = false := by
  simp [dataOf, List.mem_filter]

/-! ### the three phases -/

/-- `parse` ran: declarations (`st`), root loop (`gs1`; lemma names ending in `1` speak of this list), `scan_globals` (`gs`) -/
structure Parsed (ds : List Decl) (st : PState) (gs1 gs : List Obj) : Prop where
  hst : declAll {} ds = .ok st
  hm : markRoots st.globals = some gs1
  hgs : gs = scanGlobals gs1

theorem Parsed.parseUnit {ds : List Decl} {st : PState} {gs1 gs : List Obj} (p : Parsed ds st gs1 gs) :
    parseUnit ds = .ok gs := by
  simp [ChibiVerif.Linkage.parseUnit, p.hst, p.hm, p.hgs, bind, Except.bind, pure, Except.pure]

theorem parsed_of_declAll {ds : List Decl} {st : PState} (h : declAll {} ds = .ok st) :
    ∃ gs1, Parsed ds st gs1 (scanGlobals gs1) := by
  obtain ⟨gs1, hm, _, _⟩ := markRoots_spec st.globals (wf_declAll h).noneLive
  exact ⟨gs1, h, hm, rfl⟩

section
variable {ds : List Decl} {st : PState} {gs1 gs : List Obj} (p : Parsed ds st gs1 gs)
-- hidden hypothesis below: `p`: `parse` ran on `ds` (`st` after the declarations, `gs1` after the root loop, `gs` returned)
include p

theorem Parsed.ext : Ext st.globals gs1 := by
  obtain ⟨gs1', hm, he, _⟩ := markRoots_spec st.globals (wf_declAll p.hst).noneLive
  rw [p.hm] at hm; cases hm
  exact he

theorem Parsed.live (x : Name) : liveFn gs1 x = true ↔ ∃ r, r ∈ rootNames st.globals ∧ Reach st.globals r x := by
  obtain ⟨gs1', hm, _, hl⟩ := markRoots_spec st.globals (wf_declAll p.hst).noneLive
  rw [p.hm] at hm; cases hm
  exact hl x

theorem Parsed.fnNotTent1 : FnNotTent gs1 := p.ext.upd.fnNotTent (wf_declAll p.hst).fnNotTent

theorem Parsed.nodup1 : (fnNamesOf gs1).Nodup := by rw [p.ext.upd.fnNamesOf]; exact (wf_declAll p.hst).nodup

theorem Parsed.data1 : dataOf gs1 = allNews 0 env0 ds := (p.ext.data : dataOf gs1 = dataOf st.globals).trans (dataOf_parse p.hst)

/-- the object the root loop made of the function object `o0`: its flag is what `find_func(f)->is_live` says -/
theorem Parsed.live_obj {o0 o' : Obj} {f : Name} (ho0 : o0 ∈ st.globals) (ho' : o' ∈ gs1)
    (hh : o' = o0 ∨ o' = { o0 with isLive := true }) (hf0 : o0.isFunction = true) (hs0 : o0.sym = .named f) :
    o' = { o0 with isLive := liveFn gs1 f } := by
  have hlive : o'.isLive = liveFn gs1 f :=
    isLive_eq_liveFn p.nodup1 ho' (by rcases hh with rfl | rfl <;> exact hf0) (by rcases hh with rfl | rfl <;> exact hs0)
  rw [← hlive]
  rcases hh with rfl | rfl <;> rfl

theorem Parsed.fn_of_mem {o : Obj} (ho : o ∈ gs) (hf : o.isFunction = true) :
    ∃ f o0, findFunc st.globals f = some o0 ∧ o = { o0 with isLive := liveFn gs1 f } := by
  rw [p.hgs] at ho
  have ho1 : o ∈ gs1 := (mem_scanGlobals_fn p.fnNotTent1 hf).mp ho
  obtain ⟨o0, ho0, hh⟩ := p.ext.upd.mem ho1
  have hf0 : o0.isFunction = true := by rcases hh with rfl | rfl <;> exact hf
  obtain ⟨f, hs0⟩ := (wf_declAll p.hst).named o0 ho0 hf0
  exact ⟨f, o0, findFunc_of_mem (wf_declAll p.hst).nodup ho0 hf0 hs0, p.live_obj ho0 ho1 hh hf0 hs0⟩

theorem Parsed.mem_of_fn {f : Name} {o0 : Obj} (h0 : findFunc st.globals f = some o0) :
    ({ o0 with isLive := liveFn gs1 f } : Obj) ∈ gs := by
  have ho0 : o0 ∈ st.globals := List.mem_of_find?_eq_some h0
  have hp := List.find?_some h0
  simp only [Bool.and_eq_true, beq_iff_eq] at hp
  obtain ⟨o', ho', hh⟩ := p.ext.upd.mem_left ho0
  rw [← p.live_obj ho0 ho' hh hp.1 hp.2, p.hgs]
  exact (mem_scanGlobals_fn p.fnNotTent1 (by rcases hh with rfl | rfl <;> exact hp.1)).mpr ho'

theorem Parsed.findFunc_gs (f : Name) : findFunc gs f = findFunc gs1 f := by
  rw [p.hgs, findFunc_scanGlobals p.fnNotTent1]

theorem Parsed.data_nt_of_mem {o : Obj} (ho : o ∈ gs) (hf : o.isFunction = false) (ht : o.isTentative = false) :
    ∃ a, a ∈ allNews 0 env0 ds ∧ o = preOne gs1 a := by
  rw [p.hgs] at ho
  have : o ∈ (scanCore (preScan gs1)).filter (fun o => !o.isTentative) := List.mem_filter.mpr ⟨ho, by simp [ht]⟩
  rw [filter_notTent_scanCore] at this
  obtain ⟨a, ha, rfl⟩ := mem_preScan.mp (List.mem_filter.mp this).1
  refine ⟨a, ?_, rfl⟩
  rw [← p.data1]
  obtain ⟨t, hta⟩ := preOne_same gs1 a
  exact mem_dataOf.mpr ⟨ha, by rw [hta] at hf; exact hf⟩

theorem Parsed.mem_of_data_nt {a : Obj} (ha : a ∈ allNews 0 env0 ds) (ht : a.isTentative = false) : preOne gs1 a ∈ gs := by
  rw [← p.data1] at ha
  have h1 := (mem_dataOf.mp ha).1
  obtain ⟨t, hta⟩ := preOne_same gs1 a
  have : preOne gs1 a ∈ (preScan gs1).filter (fun o => !o.isTentative) :=
    List.mem_filter.mpr ⟨mem_preScan.mpr ⟨a, h1, rfl⟩, by rw [hta]; simp [ht]⟩
  rw [← filter_notTent_scanCore] at this
  rw [p.hgs]
  exact (List.mem_filter.mp this).1

theorem Parsed.data_of_mem {o : Obj} (ho : o ∈ gs) (hf : o.isFunction = false) :
    ∃ a, a ∈ allNews 0 env0 ds ∧ a ∈ scanPure gs1 gs1 ∧ SameButTy o a := by
  rw [p.hgs] at ho
  obtain ⟨a, ha, hsame⟩ := (scanGlobals_tyRel gs1).mem ho
  have hfa : a.isFunction = false := by obtain ⟨t, rfl⟩ := hsame; exact hf
  refine ⟨a, ?_, ha, hsame⟩
  rw [← p.data1]
  exact mem_dataOf.mpr ⟨scanPure_sub _ _ a ha, hfa⟩

theorem Parsed.fn_declared {o : Obj} {x : Name} (ho : o ∈ gs1) (hf : o.isFunction = true) (hs : o.sym = .named x) :
    (firstFlags ds x).isSome = true := by
  have h1 : isFn gs1 x = true := by
    unfold isFn
    rw [findFunc_of_mem p.nodup1 ho hf hs]; rfl
  rw [p.ext.isFn] at h1
  rw [isFn_eq_T, T_parse p.hst] at h1
  obtain ⟨hnone, _⟩ := evolve_none ds x
  cases hff : firstFlags ds x with
  | none => rw [hnone hff] at h1; cases h1
  | some _ => rfl

end

end ChibiVerif.Linkage
