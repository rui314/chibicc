/-
`join_adjacent_string_literals` on a whole token list (Model/StrJoin.lean `joinTokens`: the translated first pass over every
maximal run of adjacent string literals, then the translated second pass over every run — the structure of the C function)
returns a token list exactly when the run-by-run composition `joinTokensPerRun` (both passes on one run at a time) returns it
(`SameOk`, `join_tokens_iff`; when both fail the diagnostics may differ: the whole-list form meets the first-pass failure of a later
run before the second-pass failure of an earlier one), so that the per-run theorems (`C11_translated_join`,
`C11_strings_join_translated`, `C11_join_bytes`) speak about every run of a token list that is joined.
Reason: the first pass keeps the number of tokens of a run and every token a string literal (`pass1_shape`), so the second outer
loop finds the same runs.
-/
import ChibiVerif.Model.StrJoin

namespace ChibiVerif.Lemmas.JoinTokens
open ChibiVerif.Gen.Literals
open ChibiVerif.Gen.StrJoin
open ChibiVerif.StrJoin

abbrev isS (t : Tok) : Bool := t.isStr

theorem noStrHead_iff (l : List Tok) : NoStrHead l ↔ ¬ (l.head?.map (·.isStr)) = some true := by
  cases l <;> simp [NoStrHead]

theorem noStrHead_dropWhile (l : List Tok) : NoStrHead (l.dropWhile (fun t => t.isStr)) := by
  intro t ht
  have := List.head?_dropWhile_not (fun t : Tok => t.isStr) l
  rw [Option.mem_def.mp ht] at this
  exact this

theorem takeWhile_noStrHead (l : List Tok) (h : NoStrHead l) : l.takeWhile (fun t => t.isStr) = [] := by
  cases l with
  | nil => rfl
  | cons a l => exact List.takeWhile_cons_of_neg (by simp [h a rfl])

theorem dropWhile_noStrHead (l : List Tok) (h : NoStrHead l) : l.dropWhile (fun t => t.isStr) = l := by
  cases l with
  | nil => rfl
  | cons a l => exact List.dropWhile_cons_of_neg (by simp [h a rfl])

theorem run_split (l : List Tok) : ∃ run rest, l = run ++ rest ∧ (∀ x ∈ run, x.isStr = true) ∧ NoStrHead rest :=
  ⟨_, _, List.takeWhile_append_dropWhile.symm, List.all_eq_true.mp List.all_takeWhile, noStrHead_dropWhile l⟩

variable (f : Tok → List Tok → Except JoinErr (List Tok))

theorem overRuns_fuel : ∀ (k1 k2 : Nat) (l : List Tok), l.length < k1 → l.length < k2 → overRuns f k1 l = overRuns f k2 l
  | 0, _, _, h, _ => absurd h (Nat.not_lt_zero _)
  | _, 0, _, _, h => absurd h (Nat.not_lt_zero _)
  | _ + 1, _ + 1, [], _, _ => rfl
  | a + 1, b + 1, t :: ts, h1, h2 => by
    have hd : (ts.dropWhile (fun x => x.isStr)).length ≤ ts.length := (List.dropWhile_sublist _).length_le
    simp only [List.length_cons] at h1 h2
    simp only [overRuns]
    rw [overRuns_fuel a b (ts.dropWhile (fun x => x.isStr)) (by omega) (by omega), overRuns_fuel a b ts (by omega) (by omega)]

theorem overRuns_keep (t : Tok) (ts : List Tok) (k : Nat) (h : ¬ (t.isStr = true ∧ (ts.head?.map (·.isStr)) = some true)) :
    overRuns f (k + 1) (t :: ts) =
      match overRuns f k ts with
      | .error e => .error e
      | .ok r' => .ok (t :: r') := by
  simp only [overRuns, if_neg h]
  cases overRuns f k ts <;> rfl

theorem overRuns_run (a b : Tok) (r rest : List Tok) (k : Nat) (ha : a.isStr = true) (hb : b.isStr = true)
    (hr : ∀ x ∈ r, x.isStr = true) (hrest : NoStrHead rest) :
    overRuns f (k + 1) (a :: b :: r ++ rest) =
      match f a (b :: r) with
      | .error e => .error e
      | .ok x =>
        match overRuns f k rest with
        | .error e => .error e
        | .ok y => .ok (x ++ y) := by
  have hall : ∀ x ∈ b :: r, (fun t : Tok => t.isStr) x = true := List.forall_mem_cons.mpr ⟨hb, hr⟩
  have hc : a.isStr = true ∧ (((b :: r) ++ rest).head?.map (·.isStr)) = some true := ⟨ha, by simp [hb]⟩
  show overRuns f (k + 1) (a :: ((b :: r) ++ rest)) = _
  simp only [overRuns, if_pos hc]
  rw [List.takeWhile_append_of_pos hall, List.dropWhile_append_of_pos hall, takeWhile_noStrHead rest hrest, dropWhile_noStrHead rest hrest,
    List.append_nil]
  cases f a (b :: r) with
  | error e => rfl
  | ok x => cases overRuns f k rest <;> rfl

theorem overRuns_noStrHead (l : List Tok) (k : Nat) (hk : l.length < k) (h : NoStrHead l) (l1 : List Tok)
    (h1 : overRuns f k l = .ok l1) : NoStrHead l1 := by
  obtain ⟨a, rfl⟩ : ∃ a, k = a + 1 := ⟨k - 1, by omega⟩
  cases l with
  | nil => cases h1; exact h
  | cons t ts =>
    have ht : t.isStr = false := h t rfl
    rw [overRuns_keep f t ts a (by simp [ht])] at h1
    cases hh : overRuns f a ts with
    | error e => rw [hh] at h1; cases h1
    | ok r' => rw [hh] at h1; cases h1; simp [NoStrHead, ht]

theorem tokenizeStringLiteral_isStr (t : Tok) (basety : Ty) (t' : Tok) (h : tokenizeStringLiteral t basety = .ok t') :
    t'.isStr = true := by
  unfold tokenizeStringLiteral at h
  split at h
  · cases hr : ChibiVerif.Gen.LitReaders.readUtf16StringLiteral t.loc 0 with
    | error e => rw [hr] at h; cases h
    | ok v => obtain ⟨u, n⟩ := v; rw [hr] at h; cases h; rfl
  · cases hr : ChibiVerif.Gen.LitReaders.readUtf32StringLiteral t.loc 0 with
    | error e => rw [hr] at h; cases h
    | ok v => obtain ⟨u, n⟩ := v; rw [hr] at h; cases h; rfl

theorem loop2_shape (b : Ty) : ∀ (l l' : List Tok), joinPass1_loop2 b l = .ok l' →
    l'.length = l.length ∧ ((∀ x ∈ l, x.isStr = true) → ∀ x ∈ l', x.isStr = true)
  | [], l', h => by
    simp only [joinPass1_loop2] at h
    cases h
    simp
  | t :: ts, l', h => by
    simp only [joinPass1_loop2] at h
    -- in both arms the tail comes from the loop on `ts`; the head is `t` or what `tokenize_string_literal` made of it
    obtain ⟨t', ts', ht', hr, rfl⟩ : ∃ t' ts', (t.isStr = true → t'.isStr = true) ∧ joinPass1_loop2 b ts = .ok ts' ∧ l' = t' :: ts' := by
      split at h
      · cases ht : tokenizeStringLiteral t b with
        | error e => rw [ht] at h; cases h
        | ok t' =>
          rw [ht] at h
          cases hr : joinPass1_loop2 b ts with
          | error e => rw [hr] at h; cases h
          | ok ts' => rw [hr] at h; cases h; exact ⟨_, _, fun _ => tokenizeStringLiteral_isStr t b _ ht, rfl, rfl⟩
      · cases hr : joinPass1_loop2 b ts with
        | error e => rw [hr] at h; cases h
        | ok ts' => rw [hr] at h; cases h; exact ⟨_, _, id, rfl, rfl⟩
    obtain ⟨h1, h2⟩ := loop2_shape b ts ts' hr
    refine ⟨by simp [h1], fun hall => ?_⟩
    rw [List.forall_mem_cons] at hall ⊢
    exact ⟨ht' hall.1, h2 hall.2⟩

theorem pass1_shape (t : Tok) (r run' : List Tok) (h : joinPass1 t r = .ok run') :
    run'.length = r.length + 1 ∧ (t.isStr = true → (∀ x ∈ r, x.isStr = true) → ∀ x ∈ run', x.isStr = true) := by
  unfold joinPass1 at h
  cases hk : ChibiVerif.Gen.StrJoin.getStringKind t with
  | error e => rw [hk] at h; cases h
  | ok kind =>
    rw [hk] at h
    simp only at h
    cases hl : joinPass1_loop1 r kind t.base with
    | error e => rw [hl] at h; cases h
    | ok v =>
      obtain ⟨kind', basety⟩ := v
      rw [hl] at h
      simp only at h
      split at h
      · cases h2 : joinPass1_loop2 basety (t :: r) with
        | error e => rw [h2] at h; cases h
        | ok run =>
          rw [h2] at h
          cases h
          obtain ⟨h3, h4⟩ := loop2_shape basety (t :: r) run' h2
          exact ⟨by simpa using h3, fun ht hr => h4 (List.forall_mem_cons.mpr ⟨ht, hr⟩)⟩
      · cases h
        exact ⟨by simp, fun ht hr => List.forall_mem_cons.mpr ⟨ht, hr⟩⟩

/-- the list a function returned, if it returned -/
def okOf : Except JoinErr (List Tok) → Option (List Tok)
  | .ok r => some r
  | .error _ => none

/-- both results are failures, or both are the same list -/
def SameOk (x y : Except JoinErr (List Tok)) : Prop := okOf x = okOf y

theorem sameOk_map (g : List Tok → List Tok) (x y : Except JoinErr (List Tok)) : SameOk x y →
    SameOk (match x with | .error e => .error e | .ok r => .ok (g r)) (match y with | .error e => .error e | .ok r => .ok (g r)) := by
  unfold SameOk
  cases x <;> cases y <;> simp [okOf]
  exact congrArg g

theorem two_passes : ∀ (k1 k3 : Nat) (l : List Tok), l.length < k1 → l.length < k3 →
    SameOk (match overRuns joinPass1 k1 l with
            | .error e => .error e
            | .ok l1 => overRuns pass2Step (l1.length + 1) l1)
           (overRuns runStep k3 l)
  | 0, _, _, h, _ => absurd h (Nat.not_lt_zero _)
  | _, 0, _, _, h => absurd h (Nat.not_lt_zero _)
  | _ + 1, _ + 1, [], _, _ => rfl
  | a + 1, c + 1, t :: ts, h1, h3 => by
    simp only [List.length_cons] at h1 h3
    by_cases hc : t.isStr = true ∧ (ts.head?.map (·.isStr)) = some true
    · -- a run starts here: split the list into the run and what follows
      obtain ⟨ht, hts⟩ := hc
      obtain ⟨u, ts', rfl⟩ : ∃ u ts', ts = u :: ts' := by
        cases ts with
        | nil => simp at hts
        | cons u ts' => exact ⟨u, ts', rfl⟩
      have hu : u.isStr = true := by simpa using hts
      obtain ⟨run, rest, rfl, hrunall, hrestns⟩ := run_split ts'
      simp only [List.length_cons, List.length_append] at h1 h3
      rw [show t :: u :: (run ++ rest) = t :: u :: run ++ rest from rfl, overRuns_run joinPass1 t u run rest a ht hu hrunall hrestns,
        overRuns_run runStep t u run rest c ht hu hrunall hrestns]
      have ihrest := two_passes a c rest (by omega) (by omega)
      cases hp1 : joinPass1 t (u :: run) with
      | error e =>
        simp [runStep, joinRun, hp1, SameOk, Except.map, okOf]
      | ok r1 =>
        obtain ⟨hl1, hs1⟩ := pass1_shape t (u :: run) r1 hp1
        have hall1 := hs1 ht (List.forall_mem_cons.mpr ⟨hu, hrunall⟩)
        obtain ⟨a1, b1, r1', rfl⟩ : ∃ a1 b1 r1', r1 = a1 :: b1 :: r1' := by
          match r1, hl1 with
          | a1 :: b1 :: r1', _ => exact ⟨a1, b1, r1', rfl⟩
          | [_], h => simp at h
          | [], h => simp at h
        have hrs : runStep t (u :: run) = pass2Step a1 (b1 :: r1') := by
          simp [runStep, pass2Step, joinRun, hp1]
        rw [hrs]
        -- whether or not the second pass returns on this run, the rest is compared by the induction hypothesis
        cases hA : overRuns joinPass1 a rest with
        | error e =>
          rw [hA] at ihrest
          cases pass2Step a1 (b1 :: r1') with
          | error e' => rfl
          | ok x => exact sameOk_map (x ++ ·) _ _ ihrest
        | ok rest1 =>
          rw [hA] at ihrest
          have hns1 : NoStrHead rest1 := overRuns_noStrHead joinPass1 rest a (by omega) hrestns rest1 hA
          simp only []
          rw [overRuns_run pass2Step a1 b1 r1' rest1 _ (hall1 a1 (by simp)) (hall1 b1 (by simp))
            (fun x hx => hall1 x (by simp [hx])) hns1]
          cases pass2Step a1 (b1 :: r1') with
          | error e => rfl
          | ok x =>
            simp only []
            rw [overRuns_fuel pass2Step _ (rest1.length + 1) rest1 (by simp; omega) (Nat.lt_succ_self _)]
            exact sameOk_map (x ++ ·) _ _ ihrest
    · -- the token is kept
      rw [overRuns_keep joinPass1 t ts a hc, overRuns_keep runStep t ts c hc]
      have ihts := two_passes a c ts (by omega) (by omega)
      cases hA : overRuns joinPass1 a ts with
      | error e =>
        rw [hA] at ihts
        exact sameOk_map (t :: ·) (.error e) _ ihts
      | ok ts1 =>
        rw [hA] at ihts
        -- the second outer loop keeps the token too: `ts` does not start with a string literal, so neither does `ts1`
        have hc1 : ¬ (t.isStr = true ∧ (ts1.head?.map (·.isStr)) = some true) := fun ⟨ht, h1s⟩ =>
          (noStrHead_iff ts1).mp (overRuns_noStrHead joinPass1 ts a (by omega) ((noStrHead_iff ts).mpr fun h => hc ⟨ht, h⟩) ts1 hA) h1s
        simp only []
        rw [overRuns_keep pass2Step t ts1 _ hc1]
        exact sameOk_map (t :: ·) _ _ ihts

theorem join_tokens (l : List Tok) : SameOk (joinTokens l) (joinTokensPerRun l) :=
  two_passes (l.length + 1) (l.length + 1) l (Nat.lt_succ_self _) (Nat.lt_succ_self _)

theorem okOf_eq_some (x : Except JoinErr (List Tok)) (r : List Tok) : okOf x = some r ↔ x = .ok r := by
  cases x <;> simp [okOf]

theorem join_tokens_iff (l out : List Tok) : joinTokens l = .ok out ↔ joinTokensPerRun l = .ok out := by
  rw [← okOf_eq_some, ← okOf_eq_some, show okOf (joinTokens l) = okOf (joinTokensPerRun l) from join_tokens l]

theorem perRun_keep (t : Tok) (ts : List Tok) (h : ¬ (t.isStr = true ∧ (ts.head?.map (·.isStr)) = some true)) :
    joinTokensPerRun (t :: ts) =
      match joinTokensPerRun ts with
      | .error e => .error e
      | .ok r' => .ok (t :: r') :=
  overRuns_keep runStep t ts _ h

theorem perRun_run (a b : Tok) (r rest : List Tok) (ha : a.isStr = true) (hb : b.isStr = true)
    (hr : ∀ x ∈ r, x.isStr = true) (hrest : NoStrHead rest) :
    joinTokensPerRun (a :: b :: r ++ rest) =
      match joinRun a (b :: r) with
      | .error e => .error e
      | .ok x =>
        match joinTokensPerRun rest with
        | .error e => .error e
        | .ok y => .ok (x :: y) := by
  unfold joinTokensPerRun
  rw [overRuns_run runStep a b r rest _ ha hb hr hrest,
    overRuns_fuel runStep _ (rest.length + 1) rest (by simp; omega) (Nat.lt_succ_self _)]
  unfold runStep
  cases joinRun a (b :: r) with
  | error e => rfl
  | ok x => simp only [Except.map]; cases overRuns _ (rest.length + 1) rest <;> rfl

end ChibiVerif.Lemmas.JoinTokens
