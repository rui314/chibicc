/-
Helper lemmas for C15_symbols_partial: the symbol-table entry of an object.

Part 1 is about the declarations `D` of one object alone: what `objValid` / `tysAgree` say about any one of
them, and that `objAlign`/`objSize` are `emit_data`'s alignment rule applied to the composite type.
Part 2 reads the entry `emit_data` prints for a defined data object of the list `parse` returns and finds the
Spec's `objSymbol`.
-/
import ChibiVerif.Lemmas.LinkageFinal
import ChibiVerif.Lemmas.LinkageScanTy
import ChibiVerif.Lemmas.LinkageTent
import ChibiVerif.Lemmas.LinkageDecls

namespace ChibiVerif.Linkage
open ChibiVerif.Spec.Linkage

/-! ### part 1: the declarations of one object -/

def objEntry (fc : Bool) (x : Name) (D : List ObjDecl) : SymEntry :=
  ⟨.named x, if objInternal D then .local else .global, objKind fc D, some (objSize D), objAlign D⟩

theorem objSymbol_defined {fc : Bool} {ds : List Decl} {x : Name} (h : objDefined (objDecls ds x) = true) :
    objSymbol fc ds x = some (objEntry fc x (objDecls ds x)) := by
  simp [objSymbol, h, objEntry]

def undefEntry (s : Sym) : SymEntry := ⟨s, .global, .undef, none, 0⟩

theorem fnSymbol_undefined {ds : List Decl} {f : Name} {e : SymEntry} (h : fnDefined (fnDecls ds f) = false) :
    fnSymbol ds f = some e ↔ f ∈ usedNames ds ∧ e = undefEntry (.named f) := by
  by_cases hu : f ∈ usedNames ds <;> simp [fnSymbol, h, hu, undefEntry, eq_comm]

theorem objSymbol_undefined {fc : Bool} {ds : List Decl} {x : Name} {e : SymEntry} (h : objDefined (objDecls ds x) = false) :
    objSymbol fc ds x = some e ↔ x ∈ usedNames ds ∧ e = undefEntry (.named x) := by
  by_cases hu : x ∈ usedNames ds <;> simp [objSymbol, h, hu, undefEntry, eq_comm]

/-- the entry `emit_data` prints (as `as` records it) reads six fields of the definition; when each is what the Spec
    derives from the declarations, the entry is the Spec's -/
theorem entry_of_fields {fc : Bool} {o : Obj} {x : Name} {D : List ObjDecl} (hf : o.isFunction = false)
    (hd : o.isDefinition = true) (hs : o.sym = .named x) (hstat : o.isStatic = objInternal D) (htls : o.isTls = objTls D)
    (hinit : o.hasInit = objHasInit D) (htent : o.isTentative = !objHasInit D) (hal : emitAlign o.ty = objAlign D)
    (hsz : o.ty.size = objSize D) : (emitDataVar fc o).map asmView = some (objEntry fc x D) := by
  rw [emitDataVar_eq, if_neg (by simp [hf, hd])]
  simp only [Option.map_some, objEntry, objKind, dataKind, bindingOf, hs, hstat, htls, hinit, htent, hal, hsz]
  cases fc <;> cases objInternal D <;> cases objTls D <;> cases objHasInit D <;> rfl

/-- the type parameters of the composite type -/
def tyP (D : List ObjDecl) : TyParams := ⟨objSize D, (D.headD default).ty.align, (D.headD default).ty.isArray⟩

section
variable {D : List ObjDecl} (hv : objValid D = true) {d : ObjDecl} (hd : d ∈ D)
include hv hd

theorem objValid_static (hx : objInternal D = true → d.isExtern = false) : d.isStatic = objInternal D := by
  simp only [objValid, Bool.and_eq_true] at hv
  have hl := hv.1.1.1.2
  cases hi : objInternal D
  · simp only [hi, Bool.false_eq_true, if_false, List.all_eq_true, Bool.not_eq_true'] at hl
    exact hl d hd
  · simp only [hi, if_true, List.all_eq_true, Bool.or_eq_true] at hl
    rcases hl d hd with h | h
    · exact h
    · rw [hx hi] at h; cases h

theorem objValid_tls : objTls D = d.isTls := by
  simp only [objValid, Bool.and_eq_true] at hv
  have ht := hv.1.1.2
  simp only [Bool.or_eq_true, List.all_eq_true, Bool.not_eq_true'] at ht
  unfold objTls
  cases hdt : d.isTls
  · rw [List.any_eq_false]
    intro y hy
    rcases ht with h | h
    · have := h d hd; rw [hdt] at this; cases this
    · simp [h y hy]
  · rw [List.any_eq_true]
    exact ⟨d, hd, hdt⟩

theorem objValid_ty : WTy (tyP D) d.ty ∧ (d.ty.unknownLen = false → d.ty.size = objSize D) ∧
    (d.ty.unknownLen = true → d.init = none) := by
  simp only [objValid, Bool.and_eq_true] at hv
  have ht := hv.1.2
  rw [List.all_eq_true] at ht
  have := ht d hd
  simp only [Bool.and_eq_true, beq_iff_eq, Bool.or_eq_true, Bool.not_eq_true', Option.isNone_iff_eq_none] at this
  obtain ⟨⟨⟨⟨h1, h2⟩, h3⟩, h4⟩, h5⟩ := this
  refine ⟨⟨h1, h2, fun hu => ?_⟩, fun hk => ?_, fun hu => ?_⟩
  · rcases h3 with h | h
    · rw [hu] at h; cases h
    · exact h
  · rcases h4 with h | h
    · rw [hk] at h; cases h
    · exact h
  · rcases h5 with h | h
    · rw [hu] at h; cases h
    · exact h

end

theorem init_none_of_noInit {D : List ObjDecl} (h : objHasInit D = false) {d : ObjDecl} (hd : d ∈ D) : d.init = none := by
  have := List.any_eq_false.mp h d hd
  cases hdi : d.init with
  | none => rfl
  | some _ => rw [hdi] at this; exact absurd rfl this

theorem objValid_agree {D : List ObjDecl} (hv : objValid D = true) : tysAgree D = true := by
  simp only [objValid, Bool.and_eq_true] at hv
  exact hv.2

theorem objValid_align_pos {D : List ObjDecl} (hv : objValid D = true) {d : ObjDecl} (hd : d ∈ D) : 1 ≤ d.ty.align := by
  have := objValid_agree hv
  simp only [tysAgree, Bool.and_eq_true, List.all_eq_true, decide_eq_true_eq] at this
  exact this.1 d hd

theorem foldl_max_const (A : Nat) : ∀ (D : List ObjDecl) (a0 : Nat), (∀ d, d ∈ D → d.ty.align = A) → D ≠ [] →
    D.foldl (fun a d => max a d.ty.align) a0 = max a0 A
  | [], _, _, h => absurd rfl h
  | [d], a0, hA, _ => by simp [hA d List.mem_cons_self]
  | d :: d2 :: r, a0, hA, _ => by
    rw [List.foldl_cons, foldl_max_const A (d2 :: r) _ (fun y hy => hA y (List.mem_cons_of_mem _ hy)) (by simp),
      hA d List.mem_cons_self]
    omega

/-- `objAlign` is `emit_data`'s alignment rule applied to a type with the composite type's parameters -/
theorem emitAlign_good {D : List ObjDecl} (hv : objValid D = true) (hne : D ≠ [])
    {T : ObjTy} (hT : GoodTy (tyP D) T) : emitAlign T = objAlign D ∧ T.size = objSize D := by
  obtain ⟨⟨hTa, hTr, _⟩, _, hTs⟩ := hT
  refine ⟨?_, hTs⟩
  have hall : ∀ d, d ∈ D → d.ty.align = (D.headD default).ty.align ∧ d.ty.isArray = (D.headD default).ty.isArray :=
    fun d hd => ⟨(objValid_ty hv hd).1.1, (objValid_ty hv hd).1.2.1⟩
  obtain ⟨h0, hh0⟩ : ∃ h0, h0 ∈ D := List.exists_mem_of_ne_nil _ hne
  have hA1 : 1 ≤ (D.headD default).ty.align := by rw [← (hall h0 hh0).1]; exact objValid_align_pos hv hh0
  unfold objAlign emitAlign
  rw [foldl_max_const _ D 1 (fun d hd => (hall d hd).1) hne]
  have hany : D.any (fun d => d.ty.isArray) = (D.headD default).ty.isArray := by
    cases hr : (D.headD default).ty.isArray
    · rw [List.any_eq_false]
      intro y hy
      rw [(hall y hy).2, hr]; simp
    · rw [List.any_eq_true]
      exact ⟨h0, hh0, by rw [(hall h0 hh0).2, hr]⟩
  simp only [tyP] at hTa hTr hTs
  rw [hany, hTa, hTr, hTs]
  have : max 1 (D.headD default).ty.align = (D.headD default).ty.align := by omega
  rw [this]

theorem size_of_allUnknown {D : List ObjDecl} (hv : objValid D = true) (hallU : ∀ d, d ∈ D → d.ty.unknownLen = true)
    {d : ObjDecl} (hd : d ∈ D) : d.ty.size = (tyP D).size := by
  cases hD : D with
  | nil => rw [hD] at hd; cases hd
  | cons h0 rest =>
    have hh0 : h0.ty.unknownLen = true := hallU h0 (by rw [hD]; exact List.mem_cons_self)
    have hsize : objSize (h0 :: rest) = h0.ty.size := by
      unfold objSize
      have : (h0 :: rest).find? (fun d => !d.ty.unknownLen) = none := by
        rw [List.find?_eq_none]
        intro y hy
        have := hallU y (by rw [hD]; exact hy)
        simp [this]
      rw [this]
    have hag := objValid_agree hv
    rw [hD] at hag hd
    simp only [tysAgree, Bool.and_eq_true] at hag
    have hfind : (h0 :: rest).find? (fun d => d.ty.unknownLen) = some h0 := by simp [List.find?, hh0]
    rw [hfind] at hag
    have := hag.2
    rw [List.all_eq_true] at this
    have hd' := this d hd
    simp only [Bool.or_eq_true, Bool.not_eq_true', beq_iff_eq] at hd'
    show d.ty.size = (tyP (h0 :: rest)).size
    simp only [tyP, hsize]
    rcases hd' with h | h
    · rw [hallU d (by rw [hD]; exact hd)] at h; cases h
    · exact h

/-! ### part 1b: `is_static` of an `extern` declaration that inherits (repaired `global_variable`) -/

/-- one more file-scope declaration of `x`, when `extern` declarations inherit -/
def inheritStep (cur : Bool) (d : ObjDecl) : Bool := d.isStatic || (d.isExtern && cur)

theorem foldl_inherit_false : ∀ D : List ObjDecl, (∀ d, d ∈ D → d.isStatic = false) → D.foldl inheritStep false = false
  | [], _ => rfl
  | d :: D, h => by
    rw [List.foldl_cons, inheritStep, h d List.mem_cons_self, Bool.and_false]
    exact foldl_inherit_false D fun y hy => h y (List.mem_cons_of_mem _ hy)

theorem foldl_inherit_true : ∀ D : List ObjDecl, (∀ d, d ∈ D → d.isStatic = true ∨ d.isExtern = true) →
    D.foldl inheritStep true = true
  | [], _ => rfl
  | d :: D, h => by
    have : inheritStep true d = true := by
      rcases h d List.mem_cons_self with h' | h' <;> simp [inheritStep, h']
    rw [List.foldl_cons, this]
    exact foldl_inherit_true D fun y hy => h y (List.mem_cons_of_mem _ hy)

variable [Rules]

/-- when `extern` declarations inherit, a body leaves what is visible about `x` as it is: a block-scope `extern`
    declaration of `x` takes it over -/
theorem envBody_keep (hA : Rules.externInherits = true) (x : Name) : ∀ (b : List BodyItem) (env : SEnv), envBody env b x = env x
  | [], _ => rfl
  | i :: r, env => by
    rw [envBody, envBody_keep hA x r]
    cases i with
    | externObj y tls ty =>
      by_cases hy : x = y
      · subst hy; simp [envItem, envSet, extStatic, hA]
      · simp [envItem, envSet, hy]
    | ref _ => rfl
    | staticLocal _ _ _ => rfl
    | str _ => rfl

/-- with inheritance, what is visible about `x` after `pre` is a fold over the declarations of `x` alone -/
theorem envAfter_eq (hA : Rules.externInherits = true) (x : Name) : ∀ (pre : List Decl) (env : SEnv),
    envAfter env pre x = (objDecls pre x).foldl inheritStep (env x)
  | [], _ => rfl
  | d :: r, env => by
    have ih := envAfter_eq hA x r (envDecl env d)
    simp only [envAfter, List.foldl_cons] at ih ⊢
    rw [ih]
    cases d with
    | func f n s e i body =>
      rw [objDecls_cons_func]
      congr 1
      cases body with
      | none => rfl
      | some b => exact envBody_keep hA x b env
    | obj y s e t ty init =>
      rw [objDecls_cons_obj]
      by_cases hy : y = x
      · subst hy
        simp [envDecl, envSet, varStatic, hA, inheritStep]
      · have : ¬ x = y := fun e' => hy e'.symm
        simp [envDecl, envSet, this, hy]

/-- **`var->is_static` of a file-scope declaration** of a valid object is the linkage C11 gives the object, provided the
    declaration is not an `extern` declaration of an internal object - or `extern` declarations inherit (repaired code) -/
theorem varStatic_eq {ds pre post : List Decl} {x : Name} {s e t : Bool} {ty : ObjTy} {init : Option (List InitItem)}
    (hds : ds = pre ++ Decl.obj x s e t ty init :: post) (hv : objValid (objDecls ds x) = true)
    (hx : Rules.externInherits = false → objInternal (objDecls ds x) = true → e = false) :
    varStatic (envAfter env0 pre) x s e = objInternal (objDecls ds x) := by
  have hD : objDecls ds x = objDecls pre x ++ ⟨s, e, t, ty, init⟩ :: objDecls post x := by
    rw [hds, objDecls_append, objDecls_cons_obj]; simp
  have hmem : (⟨s, e, t, ty, init⟩ : ObjDecl) ∈ objDecls ds x := by rw [hD]; simp
  cases hA : Rules.externInherits
  · have := objValid_static hv hmem (hx hA)
    simp only at this
    simp [varStatic, hA, this]
  · have hv' := hv
    simp only [objValid, Bool.and_eq_true] at hv'
    have hl := hv'.1.1.1.2
    cases hi : objInternal (objDecls ds x)
    · simp only [hi, Bool.false_eq_true, if_false, List.all_eq_true, Bool.not_eq_true'] at hl
      have hs : s = false := hl _ hmem
      have henv : envAfter env0 pre x = false := by
        rw [envAfter_eq hA]
        exact foldl_inherit_false _ (fun d hd => hl d (by rw [hD]; exact List.mem_append_left _ hd))
      simp [varStatic, hs, henv]
    · simp only [hi, if_true, List.all_eq_true, Bool.or_eq_true] at hl
      cases hs : s
      · -- not `static`: an `extern` declaration behind the first one
        have he : e = true := by
          rcases hl _ hmem with h | h
          · simp only at h; rw [hs] at h; cases h
          · exact h
        have henv : envAfter env0 pre x = true := by
          rw [envAfter_eq hA]
          cases hp : objDecls pre x with
          | nil =>
            rw [hD, hp] at hi
            simp only [List.nil_append, objInternal] at hi
            rw [hs] at hi; cases hi
          | cons d0 r =>
            -- the first declaration says `static`; behind it every declaration says `static` or `extern`
            rw [hD, hp] at hi
            have hs0 : d0.isStatic = true := by simpa [objInternal] using hi
            rw [List.foldl_cons, show inheritStep (env0 x) d0 = true by simp [inheritStep, hs0]]
            exact foldl_inherit_true r fun d hd =>
              hl d (by rw [hD, hp]; exact List.mem_append_left _ (List.mem_cons_of_mem _ hd))
        simp [varStatic, he, henv, hA]
      · simp [varStatic]

/-! ### part 2: the objects of the result -/

/-- the tentative definition `a` in the list comes from the declaration `d`: no `extern`, no initializer, and the object
    carries the declaration's type and flags -/
structure TentOf (d : ObjDecl) (a : Obj) : Prop where
  notExtern : d.isExtern = false
  noInit : d.init = none
  ty : a.ty = d.ty
  isStatic : a.isStatic = d.isStatic
  isTls : a.isTls = d.isTls
  datum : a.isFunction = false
  isDef : a.isDefinition = true
  hasInit : a.hasInit = false
  owner : a.owner = none

/-- what `symbols_iff` assumes about the object name `x` (built from `symbolsScope` by `unitOK_of`): its declarations are
    compatible C (`objValid`), `x` is not also a function, block-scope `extern`s state the same array length, and `x` lies
    outside the regions of the two object-side findings whose rule is off -/
structure ObjOK (ds : List Decl) (x : Name) : Prop where
  valid : objValid (objDecls ds x) = true
  noFn : x ∉ fnNames ds
  blockAgree : ∀ ty, (x, ty) ∈ blockExterns ds → ty.unknownLen = false → ty.size = objSize (objDecls ds x)
  noExternInit : Rules.externInherits = true ∨
    ¬ (objInternal (objDecls ds x) = true ∧ (objDecls ds x).any (fun d => d.isExtern && d.init.isSome) = true)
  noComposite : Rules.compositeFromDecls = true ∨
    ¬ (objHasInit (objDecls ds x) = false ∧ objDefined (objDecls ds x) = true ∧
      ((objDecls ds x).filter (fun d => !d.isExtern)).all (fun d => d.ty.unknownLen) = true ∧
      (objDecls ds x).any (fun e => !e.ty.unknownLen) = true)

section
variable {ds : List Decl} {st : PState} {gs1 gs : List Obj} (p : Parsed ds st gs1 gs) {x : Name} (ok : ObjOK ds x)
-- hidden hypotheses below: `p`: `parse` ran on `ds` (`st` after the declarations, `gs1` after the root loop, `gs` returned); `ok`: the object `x` is in the scope of
-- `symbols_iff`.
include p ok

omit ok in
theorem named_src {a : Obj} (ha : a ∈ gs1) (hf : a.isFunction = false) (hs : a.sym = .named x) :
    (∃ s e t ty init k pre post, ds = pre ++ Decl.obj x s e t ty init :: post ∧
      a = varObj k x (varStatic (envAfter env0 pre) x s e) e t ty init) ∨
    (∃ f n s e i b tls ty stc, Decl.func f n s e i (some b) ∈ ds ∧ BodyItem.externObj x tls ty ∈ b ∧ a = externO x tls ty stc) := by
  have ha' : a ∈ allNews 0 env0 ds := by rw [← p.data1]; exact mem_dataOf.mpr ⟨ha, hf⟩
  exact (allNews_kind ds 0 a ha').named hs

theorem realDef_iff : gs1.any (realDefOf (.named x)) = objHasInit (objDecls ds x) := by
  rw [Bool.eq_iff_iff, List.any_eq_true]
  constructor
  · rintro ⟨o, ho, hr⟩
    simp only [realDefOf, Bool.and_eq_true, beq_iff_eq, Bool.not_eq_true'] at hr
    obtain ⟨⟨hdef, hnt⟩, hs⟩ := hr
    cases hf : o.isFunction
    · rcases named_src p ho hf hs with ⟨s, e, t, ty, init, k, pre, post, hd, rfl⟩ | ⟨f, n, s, e, i, b, tls, ty, stc, _, _, rfl⟩
      · rw [varObj_isDefinition] at hdef
        rw [varObj_isTentative] at hnt
        have hinit : init.isSome = true := by cases init <;> simp_all
        unfold objHasInit
        rw [List.any_eq_true]
        exact ⟨⟨s, e, t, ty, init⟩, mem_objDecls.mpr (mem_of_split hd), hinit⟩
      · cases hdef
    · exfalso
      have := p.fn_declared ho hf hs
      exact ok.noFn (firstFlags_isSome.mp this)
  · intro h
    unfold objHasInit at h
    rw [List.any_eq_true] at h
    obtain ⟨d, hd, hi⟩ := h
    obtain ⟨k, stc, hk⟩ := var_mem_allNews ds 0 env0 (mem_objDecls.mp hd)
    rw [← p.data1] at hk
    refine ⟨_, (mem_dataOf.mp hk).1, ?_⟩
    simp only [realDefOf, varObj_isDefinition, varObj_isTentative, varObj_sym, hi]
    cases hdi : d.init <;> simp_all

omit ok in
theorem tent_decl {a : Obj} (ha : a ∈ gs1) (ht : isTentOf (.named x) a = true) :
    ∃ d, d ∈ objDecls ds x ∧ TentOf d a := by
  have htt := isTentOf_tent ht
  have hs := isTentOf_sym ht
  have hf : a.isFunction = false := by
    cases hf : a.isFunction
    · rfl
    · rw [p.fnNotTent1 a ha hf] at htt; cases htt
  rcases named_src p ha hf hs with ⟨s, e, t, ty, init, k, pre, post, hd, rfl⟩ | ⟨f, n, s, e, i, b, tls, ty, stc, _, _, rfl⟩
  · rw [varObj_isTentative] at htt
    simp only [Bool.and_eq_true, Bool.not_eq_true', Option.isNone_iff_eq_none] at htt
    obtain ⟨rfl, rfl⟩ := htt
    refine ⟨⟨s, false, t, ty, none⟩, mem_objDecls.mpr (mem_of_split hd), rfl, rfl, rfl, ?_, rfl, rfl, rfl, rfl, rfl⟩
    simp [varObj, varStatic]
  · cases htt

omit ok in
theorem known_src {k : Obj} (hk : k ∈ gs1) (hka : knownArr (.named x) k = true) :
    (∃ d, d ∈ objDecls ds x ∧ d.ty = k.ty) ∨ (x, k.ty) ∈ blockExterns ds := by
  simp only [knownArr, Bool.and_eq_true, Bool.not_eq_true', beq_iff_eq] at hka
  obtain ⟨⟨⟨hf, _⟩, _⟩, hs⟩ := hka
  rcases named_src p hk hf hs with ⟨s, e, t, ty, init, j, pre, post, hd, rfl⟩ | ⟨f, n, s, e, i, b, tls, ty, stc, hd, hb, rfl⟩
  · exact Or.inl ⟨⟨s, e, t, ty, init⟩, mem_objDecls.mpr (mem_of_split hd), (varObj_ty _ _ _ _ _ _ _).symm⟩
  · exact Or.inr (mem_blockExterns.mpr ⟨f, n, s, e, i, b, tls, hd, hb⟩)

theorem known_size {k : Obj} (hk : k ∈ gs1) (hka : knownArr (.named x) k = true) : k.ty.size = objSize (objDecls ds x) := by
  have hku : k.ty.unknownLen = false := by
    simp only [knownArr, Bool.and_eq_true, Bool.not_eq_true'] at hka
    exact hka.1.2
  rcases known_src p hk hka with ⟨d, hd, hty⟩ | hb
  · rw [← hty]
    exact (objValid_ty ok.valid hd).2.1 (by rw [hty]; exact hku)
  · exact ok.blockAgree _ hb hku

/-- the invariant of the walk holds for the tentative definitions of `x` after the pass in front of `scan_globals` -/
theorem chain_of_valid (hno : objHasInit (objDecls ds x) = false) :
    ChainOK (tyP (objDecls ds x)) (tysOf (.named x) (preScan gs1)) := by
  -- a tentative definition of `x` in `preScan gs1` and where it comes from
  have src : ∀ t, t ∈ tysOf (.named x) (preScan gs1) →
      ∃ a d, a ∈ gs1 ∧ isTentOf (.named x) a = true ∧ d ∈ objDecls ds x ∧ d.isExtern = false ∧ a.ty = d.ty ∧
        t = (preOne gs1 a).ty := by
    intro t ht
    simp only [tysOf, List.mem_map, List.mem_filter] at ht
    obtain ⟨a2, ⟨ha2, hta2⟩, rfl⟩ := ht
    obtain ⟨a, ha, rfl⟩ := mem_preScan.mp ha2
    have hta : isTentOf (.named x) a = true := by
      obtain ⟨T, hT⟩ := preOne_same gs1 a
      rw [hT] at hta2; exact hta2
    obtain ⟨d, hd, hda⟩ := tent_decl p ha hta
    exact ⟨a, d, ha, hta, hd, hda.notExtern, hda.ty, rfl⟩
  have wty : ∀ d, d ∈ objDecls ds x → WTy (tyP (objDecls ds x)) d.ty ∧ (d.ty.unknownLen = false → d.ty.size = objSize (objDecls ds x)) :=
    fun d hd => ⟨(objValid_ty ok.valid hd).1, (objValid_ty ok.valid hd).2.1⟩
  -- where the pass in front of `scan_globals` leaves the objects of `x` alone: `hU` says that, when no tentative definition
  -- states the length, no declaration does
  have idCase : (∀ a, a.sym = .named x → preOne gs1 a = a) →
      ((¬ ∃ d, d ∈ objDecls ds x ∧ d.isExtern = false ∧ d.ty.unknownLen = false) → ∀ d, d ∈ objDecls ds x → d.isExtern = false →
        ∀ d', d' ∈ objDecls ds x → d'.ty.unknownLen = true) →
      ChainOK (tyP (objDecls ds x)) (tysOf (.named x) (preScan gs1)) := by
    intro hid hU
    apply chain_initial
    · intro t ht
      obtain ⟨a, d, _, hta, hd, _, hty, rfl⟩ := src t ht
      rw [hid a (isTentOf_sym hta), hty]; exact wty d hd
    · by_cases hk : ∃ d, d ∈ objDecls ds x ∧ d.isExtern = false ∧ d.ty.unknownLen = false
      · -- a tentative definition gives the length
        left
        obtain ⟨d, hd, he, hu⟩ := hk
        have hin : d.init = none := init_none_of_noInit hno hd
        obtain ⟨k, stc, hk⟩ := var_mem_allNews ds 0 env0 (mem_objDecls.mp hd)
        rw [← p.data1] at hk
        refine ⟨d.ty, ?_, hu⟩
        simp only [tysOf, List.mem_map, List.mem_filter]
        refine ⟨_, ⟨mem_preScan.mpr ⟨_, (mem_dataOf.mp hk).1, rfl⟩, ?_⟩, ?_⟩
        · rw [hid _ (varObj_sym _ _ _ _ _ _ _)]; simp [isTentOf, varObj_isTentative, varObj_sym, hin, he]
        · rw [hid _ (varObj_sym _ _ _ _ _ _ _)]; exact varObj_ty _ _ _ _ _ _ _
      · -- no declaration at all gives the length: all element sizes agree
        right
        intro t ht
        obtain ⟨a, d, ha, hta, hd, he, hty, rfl⟩ := src t ht
        rw [hid a (isTentOf_sym hta), hty]
        exact size_of_allUnknown ok.valid (hU hk d hd he) hd
  cases hC : Rules.compositeFromDecls
  · -- `Rules.compositeFromDecls` off: `preScan` does nothing; outside `compositeSizeRegion`
    refine idCase (fun a _ => preOne_off hC gs1 a) fun hk d hd he d' hd' => ?_
    have hdefd : objDefined (objDecls ds x) = true := by
      unfold objDefined
      rw [List.any_eq_true]
      exact ⟨d, hd, by simp [he]⟩
    have hnoC : ¬ (objHasInit (objDecls ds x) = false ∧ objDefined (objDecls ds x) = true ∧
        ((objDecls ds x).filter (fun d => !d.isExtern)).all (fun d => d.ty.unknownLen) = true ∧
        (objDecls ds x).any (fun e => !e.ty.unknownLen) = true) := by
      rcases ok.noComposite with h | h
      · rw [hC] at h; cases h
      · exact h
    cases hu : d'.ty.unknownLen
    · exfalso
      apply hnoC
      refine ⟨hno, hdefd, ?_, ?_⟩
      · rw [List.all_eq_true]
        intro y hy
        rw [List.mem_filter] at hy
        cases hyu : y.ty.unknownLen
        · exact absurd ⟨y, hy.1, by simpa using hy.2, hyu⟩ hk
        · rfl
      · rw [List.any_eq_true]
        exact ⟨d', hd', by simp [hu]⟩
    · rfl
  · -- `Rules.compositeFromDecls` on: every array of unknown length has taken the length some declaration states
    have hon : ∀ a, preOne gs1 a = completeOne gs1 a := fun a => by simp [preOne, hC]
    cases hK : gs1.find? (knownArr (.named x)) with
    | some k =>
      have hkm : k ∈ gs1 := List.mem_of_find?_eq_some hK
      have hkp := List.find?_some hK
      have hksz := known_size p ok hkm hkp
      -- after the pass every tentative definition of `x` has the composite type
      have good : ∀ t, t ∈ tysOf (.named x) (preScan gs1) → GoodTy (tyP (objDecls ds x)) t := by
        intro t ht
        obtain ⟨a, d, ha, hta, hd, he, hty, rfl⟩ := src t ht
        have hsa : a.sym = .named x := isTentOf_sym hta
        obtain ⟨hw, hsz⟩ := wty d hd
        rw [hon]
        obtain ⟨_, _, hfrom⟩ := tent_decl p ha hta
        have hfa := hfrom.datum
        cases hu : a.ty.unknownLen
        · rw [completeOne_known gs1 hu, hty]
          rw [hty] at hu
          exact ⟨hw, hu, hsz hu⟩
        · have harr : a.ty.isArray = true := by rw [hty] at hu ⊢; exact hw.2.2 hu
          rw [completeOne_hit gs1 hfa harr hu (by rw [hsa]; exact hK)]
          show GoodTy _ { a.ty with size := k.ty.size, unknownLen := false }
          rw [hty]
          exact ⟨⟨hw.1, hw.2.1, fun h => by cases h⟩, rfl, hksz⟩
      refine ⟨fun t ht => (good t ht).1, Or.inl (fun t ht => ?_)⟩
      have hg := good t ht
      rw [complete_of_known hg.2.1]; exact hg
    | none =>
      -- nothing states the length: `preScan` leaves the objects of `x` alone, and a declaration that states it would be
      -- a `knownArr`
      have hnone := List.find?_eq_none.mp hK
      refine idCase (fun a hsa => by rw [hon]; exact completeOne_miss gs1 (by rw [hsa]; exact hK)) fun hk d hd he d' hd' => ?_
      cases hu : d'.ty.unknownLen
      · exfalso
        cases harr : d'.ty.isArray
        · -- not an array: then no declaration is one, and all state their size - also the tentative `d`
          have hdarr : d.ty.isArray = false := by
            rw [(objValid_ty ok.valid hd).1.2.1, ← (objValid_ty ok.valid hd').1.2.1]; exact harr
          have hdu : d.ty.unknownLen = false := by
            cases h : d.ty.unknownLen
            · rfl
            · have := (objValid_ty ok.valid hd).1.2.2 h
              rw [hdarr] at this; cases this
          exact hk ⟨d, hd, he, hdu⟩
        · obtain ⟨j, stc, hj⟩ := var_mem_allNews ds 0 env0 (mem_objDecls.mp hd')
          rw [← p.data1] at hj
          have := hnone _ (mem_dataOf.mp hj).1
          simp [knownArr, varObj_isFunction, varObj_ty, varObj_sym, harr, hu] at this
      · rfl

/-- **the entry of a defined data object.**  Whatever defined data object named `x` the result contains,
    `emit_data` prints for it (and `as` records) exactly the Spec's entry for `x`. -/
theorem data_entry (fc : Bool) {o : Obj} (ho : o ∈ gs) (hf : o.isFunction = false) (hdef : o.isDefinition = true)
    (hs : o.sym = .named x) :
    objDefined (objDecls ds x) = true ∧ o.owner = none ∧ (emitDataVar fc o).map asmView = some (objEntry fc x (objDecls ds x)) := by
  cases ht : o.isTentative
  · -- a definition with initializer
    obtain ⟨a, ha, rfl⟩ := p.data_nt_of_mem ho hf ht
    obtain ⟨T0, hT0⟩ := preOne_same gs1 a
    have hsa : a.sym = .named x := by rw [hT0] at hs; exact hs
    have hda : a.isDefinition = true := by rw [hT0] at hdef; exact hdef
    have hta : a.isTentative = false := by rw [hT0] at ht; exact ht
    rcases (allNews_kind ds 0 a ha).named hsa with ⟨s, e, t, ty, init, k, pre, post, hd, rfl⟩ | ⟨f, n, s, e, i, b, tls, ty, stc, _, _, rfl⟩
    · rw [varObj_isDefinition] at hda
      rw [varObj_isTentative] at hta
      cases init with
      | none => simp_all
      | some items =>
        have hmem : (⟨s, e, t, ty, some items⟩ : ObjDecl) ∈ objDecls ds x := mem_objDecls.mpr (mem_of_split hd)
        have hD : objDefined (objDecls ds x) = true := by
          unfold objDefined; rw [List.any_eq_true]; exact ⟨_, hmem, rfl⟩
        have hI : objHasInit (objDecls ds x) = true := by
          unfold objHasInit; rw [List.any_eq_true]; exact ⟨_, hmem, rfl⟩
        have hstat := varStatic_eq hd ok.valid (fun hA hi => by
          cases he : e
          · rfl
          · exfalso
            rcases ok.noExternInit with h | h
            · rw [hA] at h; cases h
            · apply h
              refine ⟨hi, ?_⟩
              rw [List.any_eq_true]
              exact ⟨_, hmem, by simp [he]⟩)
        have htls := objValid_tls ok.valid hmem
        obtain ⟨hw, hk, hu⟩ := objValid_ty ok.valid hmem
        have hknown : ty.unknownLen = false := by
          cases h : ty.unknownLen
          · rfl
          · have := hu h; cases this
        have hgood : GoodTy (tyP (objDecls ds x)) ty := ⟨hw, hknown, hk hknown⟩
        obtain ⟨hal, _⟩ := emitAlign_good ok.valid
          (by intro h0; rw [h0] at hmem; cases hmem) hgood
        rw [preOne_known gs1 (by rw [varObj_ty]; exact hknown)]
        exact ⟨hD, rfl, entry_of_fields rfl rfl rfl hstat htls.symm hI.symm (by rw [hI]; rfl) hal (hk hknown)⟩
    · cases hda
  · -- a tentative definition
    obtain ⟨a, ha, hkept, T, rfl⟩ := p.data_of_mem ho hf
    have hsa : a.sym = .named x := hs
    have hta : a.isTentative = true := ht
    have hda : a.isDefinition = true := hdef
    have hreal1 : gs1.any (realDefOf (.named x)) = false := (scanPure_kept_tent hkept hsa hda).mp hta
    have hreal : (preScan gs1).any (realDefOf (.named x)) = false := by
      rw [(preScan_tyRel gs1).any (tyBlind_realDefOf _)]; exact hreal1
    have hno : objHasInit (objDecls ds x) = false := by rw [← realDef_iff p ok]; exact hreal1
    have ha1 : a ∈ gs1 := scanPure_sub _ _ a hkept
    obtain ⟨d, hd, hfrom⟩ := tent_decl (x := x) p ha1 (by simp [isTentOf, hta, hsa])
    have hD : objDefined (objDecls ds x) = true := by
      unfold objDefined; rw [List.any_eq_true]; exact ⟨d, hd, by simp [hfrom.notExtern]⟩
    refine ⟨hD, hfrom.owner, ?_⟩
    have hgood : GoodTy (tyP (objDecls ds x)) T := by
      have := scanCore_good hreal (chain_of_valid p ok hno) ({ a with ty := T }) (by
        have := ho; rw [p.hgs] at this; exact this)
        (by simp [isTentOf, hta, hsa])
      exact this
    obtain ⟨hal, hsz⟩ := emitAlign_good ok.valid
      (by intro h0; rw [h0] at hd; cases hd) hgood
    have hstat := objValid_static ok.valid hd (fun _ => hfrom.notExtern)
    have htls := objValid_tls ok.valid hd
    exact entry_of_fields hf hda hsa (hfrom.isStatic.trans hstat) (hfrom.isTls.trans htls.symm) (hfrom.hasInit.trans hno.symm)
      (by rw [hno]; exact hta) hal hsz

theorem data_exists (hD : objDefined (objDecls ds x) = true) :
    ∃ o, o ∈ gs ∧ o.isFunction = false ∧ o.isDefinition = true ∧ o.sym = .named x := by
  cases hI : objHasInit (objDecls ds x)
  · -- only tentative definitions: one survives
    unfold objDefined at hD
    rw [List.any_eq_true] at hD
    obtain ⟨d, hd, hdd⟩ := hD
    have hin : d.init = none := init_none_of_noInit hI hd
    have he : d.isExtern = false := by
      rw [hin] at hdd
      simpa using hdd
    obtain ⟨k, stc, hk⟩ := var_mem_allNews ds 0 env0 (mem_objDecls.mp hd)
    rw [← p.data1] at hk
    have hany1 : gs1.any (isTentOf (.named x)) = true := by
      rw [List.any_eq_true]
      exact ⟨_, (mem_dataOf.mp hk).1, by simp [isTentOf, varObj_isTentative, varObj_sym, hin, he]⟩
    have hreal : gs1.any (realDefOf (.named x)) = false := by rw [realDef_iff p ok]; exact hI
    have hs := scanPure_tent_some gs1 (.named x) hreal gs1 hany1
    rw [← (scanGlobals_tyRel gs1).any (tyBlind_isTentOf _), List.any_eq_true] at hs
    obtain ⟨o, ho, hto⟩ := hs
    obtain ⟨a, ha, T, rfl⟩ := (scanGlobals_tyRel gs1).mem ho
    obtain ⟨_, _, hda⟩ := tent_decl p (scanPure_sub _ _ a ha) hto
    exact ⟨{ a with ty := T }, by rw [p.hgs]; exact ho, hda.datum, hda.isDef, isTentOf_sym hto⟩
  · unfold objHasInit at hI
    rw [List.any_eq_true] at hI
    obtain ⟨d, hd, hi⟩ := hI
    obtain ⟨k, stc, hk⟩ := var_mem_allNews ds 0 env0 (mem_objDecls.mp hd)
    have hnt : (varObj k x stc d.isExtern d.isTls d.ty d.init).isTentative = false := by
      rw [varObj_isTentative]; cases hdi : d.init <;> simp_all
    obtain ⟨T2, hT2⟩ := preOne_same gs1 (varObj k x stc d.isExtern d.isTls d.ty d.init)
    refine ⟨_, p.mem_of_data_nt hk hnt, ?_, ?_, ?_⟩
    · rw [hT2]; exact varObj_isFunction _ _ _ _ _ _ _
    · rw [hT2]; show (varObj k x stc d.isExtern d.isTls d.ty d.init).isDefinition = true
      rw [varObj_isDefinition, hi]; rfl
    · rw [hT2]; exact varObj_sym _ _ _ _ _ _ _

omit ok in
theorem data_named_src {o : Obj} (ho : o ∈ gs) (hf : o.isFunction = false) (hs : o.sym = .named x) :
    (∃ d, d ∈ objDecls ds x) ∨ x ∈ blockExternNames ds := by
  obtain ⟨a, ha, _, T, rfl⟩ := p.data_of_mem ho hf
  rcases (allNews_kind ds 0 a ha).named hs with ⟨s, e, t, ty, init, k, pre, post, hdd, _⟩ | ⟨f, n, s, e, i, b, tls, ty, stc, hd, hb, _⟩
  · exact Or.inl ⟨⟨s, e, t, ty, init⟩, mem_objDecls.mpr (mem_of_split hdd)⟩
  · exact Or.inr (mem_blockExternNames.mpr ⟨f, n, s, e, i, b, tls, ty, hd, hb⟩)

end

end ChibiVerif.Linkage
