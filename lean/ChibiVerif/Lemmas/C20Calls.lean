/-
C20: the call sequence is balanced.

`push_args` classifies every argument (register or stack), pushes the stack arguments and then the
register arguments; the ND_FUNCALL arm re-classifies them while popping the register arguments
into their registers, calls, and drops the stack arguments with one `add`.  The two classifications
run with different counters (`gp++ >= GP_MAX` counts every argument, the popping loop only the
ones it pops); the lemmas here show that they always decide alike, so that what is popped is
exactly what was pushed — for every argument list (aggregate sizes not negative).  A GNU empty
struct (size 0) takes no register and no stack slot in either loop (/repo b298aee).
-/
import ChibiVerif.Lemmas.C20Lemmas
import ChibiVerif.Lemmas.C20ArmForms

namespace ChibiVerif.Lemmas.C20
open ChibiVerif ChibiVerif.Codegen ChibiVerif.Effect ChibiVerif.Asm ChibiVerif.Ast ChibiVerif.C20Scope

variable {K : CodeK} [CodePred K]

/-! ### what an action returns -/

theorem Ret_pure {P : α → Prop} {a : α} (h : P a) : Ret (pure a : M α) P := by
  intro s a' s' ls hm
  simp only [pure, M.pure, Except.ok.injEq, Prod.mk.injEq] at hm
  rw [← hm.1]; exact h

theorem Ret_fail {P : α → Prop} (msg : String) : Ret (fail msg : M α) P := by
  intro s a s' ls hm; cases hm

theorem Ret_bind {m : M α} {f : α → M β} {P : α → Prop} {Q : β → Prop} (h1 : Ret m P)
    (h2 : ∀ a, P a → Ret (f a) Q) : Ret (m >>= f) Q := by
  intro s b s' ls h
  obtain ⟨a, s1, l1, l2, hm, hf, _⟩ := bind_ok h
  exact h2 a (h1 _ _ _ _ hm) _ _ _ _ hf

theorem Ret_liftE (e : Except String α) : Ret (liftE e) (fun a => e = .ok a) := by
  intro s a s' ls hm
  cases e with
  | error m => cases hm
  | ok v =>
    simp only [liftE, M.pure, Except.ok.injEq, Prod.mk.injEq] at hm
    rw [hm.1]

theorem Ret_mono {m : M α} {P Q : α → Prop} (h : Ret m P) (hpq : ∀ a, P a → Q a) : Ret m Q :=
  fun s a s' ls hm => hpq a (h s a s' ls hm)

theorem Sem_liftE_bind {e : Except String α} {f : α → M β} (h : ∀ a, e = .ok a → SemP K (f a) r x d) :
    SemP K (liftE e >>= f) r x d :=
  (Sem_bind_ret (Sem_liftE e) (Ret_liftE e) h).cast (by omega) (by omega) (by omega)

/-- the number of 8-byte stack slots `push_args2` pushes for an argument of this type -/
def slots (ty : Ty) : Int :=
  match ty.kind with
  | .struct | .union => (ty.size + 8 - 1).tdiv 8
  | .ldouble => 2
  | _ => 1

def slotsO : Option Ty → Int
  | some t => slots t
  | none => 0

/-- slots pushed by `push_args2(args, pass)`: the arguments whose `pass_by_stack` equals `pass` -/
def selSlots : List (Arg × Bool) → Bool → Int
  | [], _ => 0
  | (a, b) :: r, p => selSlots r p + (if b == p then slotsO a.ty else 0)

theorem alignTo8 (n : Int) : alignTo n 8 = .ok ((n + 8 - 1).tdiv 8 * 8) := by
  simp [alignTo]

theorem Sem_pushStruct (ty : Ty) : SemP K (pushStruct ty) (-8 * ((ty.size + 8 - 1).tdiv 8)) 0 ((ty.size + 8 - 1).tdiv 8) := by
  unfold pushStruct
  refine Sem_liftE_bind fun sz hsz => ?_
  rw [alignTo8] at hsz
  simp only [Except.ok.injEq] at hsz
  subst hsz
  have hd : ((ty.size + 8 - 1).tdiv 8 * 8).tdiv 8 = (ty.size + 8 - 1).tdiv 8 := by
    rw [Int.mul_tdiv_cancel _ (by decide)]
  rw [hd]
  sem

/-- what `push_args2` does with the value of one argument -/
def pushVal (ty? : Option Ty) : M Unit := do
  let ty ← needTy "args->ty" ty?
  match ty.kind with
  | .struct | .union => pushStruct ty
  | .float | .double => pushf
  | .ldouble => do
    emit (ins2 "sub" (.i 16) rsp)
    emit (ins1 "fstpt" (.m0 "%rsp"))
    addDepth 2
  | _ => push

theorem pushArgs2_cons (arg : Arg) (b : Bool) (rest : List (Arg × Bool)) (p : Bool) :
    pushArgs2 ((arg, b) :: rest) p = (do
      pushArgs2 rest p
      if (p && !b) || (!p && b) then pure () else do arg.gen; pushVal arg.ty) := rfl

instance (ty : Ty) : Eff (pushStruct ty) (-8 * ((ty.size + 8 - 1).tdiv 8)) 0 ((ty.size + 8 - 1).tdiv 8) := ⟨Sem_pushStruct ty⟩

theorem Sem_pushVal (ty? : Option Ty) : SemP K (pushVal ty?) (-8 * slotsO ty?) (-(xOf ty?)) (slotsO ty?) := by
  unfold pushVal
  refine Sem_needTy_bind fun ty hty => ?_
  rw [hty]
  simp only [slotsO, slots, xOf_some]
  cases hk : ty.kind <;> simp only [reduceCtorEq, if_false, if_true] <;> sem

/-- the argument is pushed in the pass `p` that its `pass_by_stack` bit selects -/
theorem skip_iff (b p : Bool) : ((p && !b) || (!p && b)) = !(b == p) := by cases b <;> cases p <;> rfl

theorem Sem_pushArgs2 : ∀ (l : List (Arg × Bool)) (p : Bool),
    (∀ ab ∈ l, SemP K ab.1.gen 0 (xOf ab.1.ty) 0) →
    SemP K (pushArgs2 l p) (-8 * selSlots l p) 0 (selSlots l p)
  | [], p, _ => by
    unfold pushArgs2 selSlots
    exact (Sem_pure ()).cast (by omega) rfl rfl
  | (arg, b) :: rest, p, h => by
    rw [pushArgs2_cons, skip_iff]
    have ih := Sem_pushArgs2 rest p (fun ab hab => h ab (List.mem_cons_of_mem _ hab))
    have hg : SemP K arg.gen 0 (xOf arg.ty) 0 := h (arg, b) List.mem_cons_self
    simp only [selSlots]
    refine Sem_bind_td ih (fun _ => ?_)
    cases hbp : b == p <;> simp only [Bool.not_true, Bool.not_false, Bool.false_eq_true, if_false, if_true]
    · exact (Sem_pure ()).cast (by omega) (by omega) (by omega)
    · exact (Sem_bind hg fun _ => Sem_pushVal arg.ty).cast (by omega) (by omega) (by omega)

/-! ### the two classification loops decide alike -/

/-- the counters of `push_args`' loop (`gpc`, `fpc`: incremented for every argument of the class)
    and of the popping loop (`gpp`, `fpp`: incremented only when a register is loaded) -/
def Eqv (gpc fpc gpp fpp : Int) : Prop := 0 ≤ gpc ∧ 0 ≤ fpc ∧ gpp = min gpc 6 ∧ fpp = min fpc 8

/-- the step `m` of the popping loop agrees with what `push_args` decided for an argument of `sl` slots —
    `b`: passed on the stack, `k` slots counted, counters `gpc'`/`fpc'` after it: it pops the slots of a
    register argument and nothing of a stack argument, and its counters stay equivalent -/
def ArgOK (K : CodeK) (m : M (Int × Int)) (b : Bool) (sl gpc' fpc' k : Int) : Prop :=
  (k = if b then sl else 0) ∧ SemP K m (8 * (if b then 0 else sl)) 0 (-(if b then 0 else sl)) ∧
    Ret m (fun gf => Eqv gpc' fpc' gf.1 gf.2) ∧ 0 ≤ gpc' ∧ 0 ≤ fpc'

theorem argreg64_ne_rsp : ∀ r ∈ argreg64, r ≠ "%rsp" := by decide

theorem Ret_argreg64 (r : Int) : Ret (argreg argreg64 r) (fun n => n ≠ "%rsp") := by
  unfold argreg
  split
  · exact Ret_fail _
  · split
    · rename_i s hs
      exact Ret_pure (argreg64_ne_rsp s (List.mem_of_getElem? hs))
    · exact Ret_fail _

theorem Sem_popGp (gp : Int) : SemP K (popGp gp) 8 0 (-1) := by
  unfold popGp
  exact (Sem_bind_ret (Sem_argreg _ _) (Ret_argreg64 gp) (fun a ha => Sem_pop a ha)).cast
    (by omega) (by omega) (by omega)

instance (gp : Int) : Eff (popGp gp) 8 0 (-1) := ⟨Sem_popGp gp⟩

theorem Ret_seq_pure {m : M α} {v : β} {P : β → Prop} (h : P v) : Ret (m >>= fun _ => (pure v : M β)) P :=
  Ret_bind (Ret_any m) (fun _ _ => Ret_pure h)

/-- an integer-class argument (`hc`: its branch of `classifyArgE`); `fp_class`: a `float`/`double` one -/
theorem gp_class {gpc fpc gpp fpp : Int} {b : Bool} {gpc' fpc' k : Int} (he : Eqv gpc fpc gpp fpp)
    (hc : (if gpc ≥ GP_MAX then (pure (true, gpc + 1, fpc, 1) : Except String _) else pure (false, gpc + 1, fpc, 0))
      = .ok (b, gpc', fpc', k)) :
    ArgOK K (if gpp < GP_MAX then (do popGp gpp; pure (gpp + 1, fpp)) else (pure (gpp, fpp) : M (Int × Int)))
      b 1 gpc' fpc' k := by
  unfold ArgOK
  obtain ⟨h1, h2, h3, h4⟩ := he
  simp only [GP_MAX] at hc ⊢
  by_cases hg : gpc ≥ 6
  · simp only [hg, if_true, pure, Except.pure, Except.ok.injEq, Prod.mk.injEq] at hc
    obtain ⟨rfl, rfl, rfl, rfl⟩ := hc
    have : ¬ gpp < 6 := by omega
    simp only [this, if_false, if_true]
    refine ⟨trivial, ?_, ?_, by omega, by omega⟩
    · exact (Sem_pure _).cast (by omega) rfl (by omega)
    · exact Ret_pure ⟨by omega, h2, by omega, h4⟩
  · simp only [hg, if_false, pure, Except.pure, Except.ok.injEq, Prod.mk.injEq] at hc
    obtain ⟨rfl, rfl, rfl, rfl⟩ := hc
    have : gpp < 6 := by omega
    simp only [this, if_true, Bool.false_eq_true, if_false]
    refine ⟨trivial, ?_, ?_, by omega, by omega⟩
    · sem
    · exact Ret_seq_pure ⟨by omega, h2, by omega, h4⟩

theorem fp_class {gpc fpc gpp fpp : Int} {b : Bool} {gpc' fpc' k : Int} (he : Eqv gpc fpc gpp fpp)
    (hc : (if fpc ≥ FP_MAX then (pure (true, gpc, fpc + 1, 1) : Except String _) else pure (false, gpc, fpc + 1, 0))
      = .ok (b, gpc', fpc', k)) :
    ArgOK K (if fpp < FP_MAX then (do popf fpp.toNat; pure (gpp, fpp + 1)) else (pure (gpp, fpp) : M (Int × Int)))
      b 1 gpc' fpc' k := by
  unfold ArgOK
  obtain ⟨h1, h2, h3, h4⟩ := he
  simp only [FP_MAX] at hc ⊢
  by_cases hg : fpc ≥ 8
  · simp only [hg, if_true, pure, Except.pure, Except.ok.injEq, Prod.mk.injEq] at hc
    obtain ⟨rfl, rfl, rfl, rfl⟩ := hc
    have : ¬ fpp < 8 := by omega
    simp only [this, if_false, if_true]
    refine ⟨trivial, ?_, ?_, by omega, by omega⟩
    · exact (Sem_pure _).cast (by omega) rfl (by omega)
    · exact Ret_pure ⟨h1, by omega, h3, by omega⟩
  · simp only [hg, if_false, pure, Except.pure, Except.ok.injEq, Prod.mk.injEq] at hc
    obtain ⟨rfl, rfl, rfl, rfl⟩ := hc
    have : fpp < 8 := by omega
    simp only [this, if_true, Bool.false_eq_true, if_false]
    refine ⟨trivial, ?_, ?_, by omega, by omega⟩
    · sem
    · exact Ret_seq_pure ⟨h1, by omega, h3, by omega⟩

theorem structCls_ok {env : Env} {ty : Ty} {ngp nfp : Int} (h : structClsE env ty = .ok (ngp, nfp)) :
    ∃ f1, hasFlonum1E env ty = .ok f1 ∧
      (if ty.size > 8 then
        ∃ f2, hasFlonum2E env ty = .ok f2 ∧ ngp = (if f1 then 0 else 1) + (if f2 then 0 else 1) ∧
          nfp = (if f1 then 1 else 0) + (if f2 then 1 else 0)
       else ngp = (if f1 then 0 else 1) ∧ nfp = (if f1 then 1 else 0)) := by
  unfold structClsE at h
  cases h1 : hasFlonum1E env ty with
  | error e => simp [h1] at h
  | ok f1 =>
    refine ⟨f1, rfl, ?_⟩
    simp only [h1] at h
    by_cases hs : ty.size > 8
    · simp only [hs, if_true] at h ⊢
      cases h2 : hasFlonum2E env ty with
      | error e => simp [h2] at h
      | ok f2 =>
        simp only [h2, Except.ok.injEq, Prod.mk.injEq] at h
        exact ⟨f2, rfl, h.1.symm, h.2.symm⟩
    · simp only [hs, if_false, Except.ok.injEq, Prod.mk.injEq] at h ⊢
      exact ⟨h.1.symm, h.2.symm⟩

theorem structCls_nonneg {env : Env} {ty : Ty} {ngp nfp : Int} (h : structClsE env ty = .ok (ngp, nfp)) :
    0 ≤ ngp ∧ 0 ≤ nfp := by
  obtain ⟨f1, _, hrest⟩ := structCls_ok h
  by_cases h8 : ty.size > 8
  · simp only [h8, if_true] at hrest
    obtain ⟨f2, _, e1, e2⟩ := hrest
    subst e1 e2
    cases f1 <;> cases f2 <;> simp
  · simp only [h8, if_false] at hrest
    obtain ⟨e1, e2⟩ := hrest
    subst e1 e2
    cases f1 <;> simp

theorem fits_eqv {gpc fpc gpp fpp ngp nfp : Int} (he : Eqv gpc fpc gpp fpp) (hn : 0 ≤ ngp) (hf : 0 ≤ nfp) :
    fitsRegs gpc fpc ngp nfp = fitsRegs gpp fpp ngp nfp := by
  obtain ⟨h1, h2, h3, h4⟩ := he
  unfold fitsRegs FP_MAX GP_MAX
  have e1 : (nfp == 0 || decide (fpc + nfp ≤ 8)) = (nfp == 0 || decide (fpp + nfp ≤ 8)) := by
    by_cases hz : nfp = 0
    · simp [hz]
    · have : (fpc + nfp ≤ 8) ↔ (fpp + nfp ≤ 8) := by omega
      simp [this]
  have e2 : (ngp == 0 || decide (gpc + ngp ≤ 6)) = (ngp == 0 || decide (gpp + ngp ≤ 6)) := by
    by_cases hz : ngp = 0
    · simp [hz]
    · have : (gpc + ngp ≤ 6) ↔ (gpp + ngp ≤ 6) := by omega
      simp [this]
  rw [e1, e2]

theorem Sem_popEightbyte (f : Bool) (gp fp : Int) : SemP K (popEightbyte f gp fp) 8 0 (-1) := by
  unfold popEightbyte
  cases f <;> simp only [Bool.false_eq_true, if_false, if_true] <;> sem

theorem Ret_popEightbyte (f : Bool) (gp fp : Int) :
    Ret (popEightbyte f gp fp) (fun gf => gf = (if f then (gp, fp + 1) else (gp + 1, fp))) := by
  unfold popEightbyte
  cases f <;> simp only [Bool.false_eq_true, if_false, if_true] <;> exact Ret_seq_pure rfl

/-- a struct/union argument (`hcr`: its branch of `classifyArgE`): both loops ask `struct_in_regs` the same question,
    each with its own counters, and by `fits_eqv` get the same answer -/
theorem struct_class (env : Env) (ty : Ty)
    {gpc fpc gpp fpp : Int} {b : Bool} {gpc' fpc' k : Int} (he : Eqv gpc fpc gpp fpp) (hs1 : 0 ≤ ty.size)
    (hcr : (if ty.size > 16 then (do
        let sz ← alignTo ty.size 8
        pure (true, gpc, fpc, sz.tdiv 8) : Except String _)
      else do
        let (fits, ngp, nfp) ← structInRegsE env ty gpc fpc
        if fits then pure (false, gpc + ngp, fpc + nfp, 0)
        else do
          let sz ← alignTo ty.size 8
          pure (true, gpc, fpc, sz.tdiv 8)) = .ok (b, gpc', fpc', k)) :
    ArgOK K (popStruct env ty gpp fpp) b ((ty.size + 8 - 1).tdiv 8) gpc' fpc' k := by
  unfold ArgOK
  have hal : alignTo ty.size 8 = .ok ((ty.size + 8 - 1).tdiv 8 * 8) := alignTo8 _
  have hd : ((ty.size + 8 - 1).tdiv 8 * 8).tdiv 8 = (ty.size + 8 - 1).tdiv 8 := by
    rw [Int.mul_tdiv_cancel _ (by decide)]
  unfold popStruct
  by_cases h0 : ty.size = 0
  · -- a GNU empty struct: no register, no stack slot
    have hcls : structInRegsE env ty gpc fpc = .ok (true, 0, 0) := by simp [structInRegsE, h0]
    have hnb : ¬ ty.size > 16 := by omega
    simp only [hnb, if_false, hcls, bind, Except.bind, pure, Except.pure, if_true, Except.ok.injEq,
      Prod.mk.injEq] at hcr
    obtain ⟨rfl, rfl, rfl, rfl⟩ := hcr
    simp only [h0]
    obtain ⟨h1, h2, h3, h4⟩ := he
    exact ⟨by simp, (Sem_pure _).cast (by decide) rfl (by decide), Ret_pure ⟨by omega, by omega, by omega, by omega⟩,
      by omega, by omega⟩
  have hs1 : 1 ≤ ty.size := by omega
  have h0b : (ty.size == 0) = false := by simpa using h0
  by_cases hbig : ty.size > 16
  · simp only [hbig, if_true, hal, bind, Except.bind, pure, Except.pure, hd, Except.ok.injEq, Prod.mk.injEq] at hcr
    obtain ⟨rfl, rfl, rfl, rfl⟩ := hcr
    simp only [hbig, decide_true, Bool.true_or, if_true]
    exact ⟨trivial, (Sem_pure _).cast (by omega) rfl (by omega), Ret_pure he, he.1, he.2.1⟩
  · simp only [hbig, if_false] at hcr
    simp only [hbig, decide_false, h0b, Bool.or_self, Bool.false_eq_true, if_false]
    cases hsr : structInRegsE env ty gpc fpc with
    | error e => simp [hsr, bind, Except.bind] at hcr
    | ok r =>
      obtain ⟨fits, ngp, nfp⟩ := r
      simp only [hsr, bind, Except.bind] at hcr
      -- what struct_in_regs computed
      unfold structInRegsE at hsr
      cases hcls : structClsE env ty with
      | error e => simp [hcls, h0] at hsr
      | ok c =>
        obtain ⟨ngp0, nfp0⟩ := c
        simp only [h0b, Bool.false_eq_true, if_false, hcls, Except.ok.injEq, Prod.mk.injEq] at hsr
        obtain ⟨hfits, rfl, rfl⟩ := hsr
        obtain ⟨f1, hf1, hrest⟩ := structCls_ok hcls
        have hn0 := structCls_nonneg hcls
        have hfe := fits_eqv he hn0.1 hn0.2
        -- the popping loop asks the same question with its own counters
        have hsr' : structInRegs env ty gpp fpp = liftE (.ok (fits, ngp0, nfp0)) := by
          unfold structInRegs structInRegsE
          simp only [h0b, Bool.false_eq_true, if_false, hcls, ← hfe, hfits]
        rw [hsr']
        show _ ∧ SemP K (liftE (Except.ok (fits, ngp0, nfp0)) >>= _) _ _ _ ∧
          Ret (liftE (Except.ok (fits, ngp0, nfp0)) >>= _) _ ∧ _
        rw [M_liftE_ok_bind]
        simp only
        cases fits with
        | false =>
          simp only [Bool.false_eq_true, if_false, hal, hd, pure, Except.pure, Except.ok.injEq, Prod.mk.injEq] at hcr ⊢
          obtain ⟨rfl, rfl, rfl, rfl⟩ := hcr
          simp only [if_true]
          exact ⟨trivial, (Sem_pure _).cast (by omega) rfl (by omega), Ret_pure he, he.1, he.2.1⟩
        | true =>
          simp only [if_true, pure, Except.pure, Except.ok.injEq, Prod.mk.injEq] at hcr
          obtain ⟨rfl, rfl, rfl, rfl⟩ := hcr
          simp only [Bool.false_eq_true, if_false, if_true]
          obtain ⟨h1, h2, h3, h4⟩ := he
          suffices hh : _ ∧ _ from ⟨trivial, hh.1, hh.2, by omega, by omega⟩
          have hfits' : fitsRegs gpc fpc ngp0 nfp0 = true := hfits
          unfold fitsRegs FP_MAX GP_MAX at hfits'
          simp only [Bool.and_eq_true, Bool.or_eq_true, beq_iff_eq, decide_eq_true_eq] at hfits'
          unfold hasFlonum1 hasFlonum2
          rw [hf1, M_liftE_ok_bind]
          have s1 := Sem_popEightbyte (K := K) f1 gpp fpp
          have r1 := Ret_popEightbyte f1 gpp fpp
          by_cases h8 : ty.size > 8
          · simp only [h8, if_true] at hrest ⊢
            obtain ⟨f2, hf2, e1, e2⟩ := hrest
            subst e1 e2
            rw [hf2]
            have hS : (ty.size + 8 - 1).tdiv 8 = 2 := by
              have : ty.size ≤ 16 := by omega
              rw [Int.tdiv_eq_ediv_of_nonneg (by omega)]
              omega
            rw [hS]
            constructor
            · refine (Sem_bind s1 (fun gf => ?_)).cast (r := 8 + 8) (x := 0 + 0) (d := -1 + -1) (by omega) (by omega) (by omega)
              rw [M_liftE_ok_bind]
              exact Sem_popEightbyte f2 _ _
            · refine Ret_bind r1 (fun gf hgf => ?_)
              rw [M_liftE_ok_bind]
              refine Ret_mono (Ret_popEightbyte f2 _ _) (fun gf2 hgf2 => ?_)
              subst hgf hgf2
              cases f1 <;> cases f2 <;> simp at hfits' ⊢ <;> exact ⟨by omega, by omega, by omega, by omega⟩
          · simp only [h8, if_false] at hrest ⊢
            obtain ⟨e1, e2⟩ := hrest
            subst e1 e2
            have hS : (ty.size + 8 - 1).tdiv 8 = 1 := by
              rw [Int.tdiv_eq_ediv_of_nonneg (by omega)]
              omega
            rw [hS]
            constructor
            · refine (Sem_bind s1 (fun gf => Sem_pure gf)).cast (by omega) (by omega) (by omega)
            · refine Ret_bind r1 (fun gf hgf => Ret_pure ?_)
              subst hgf
              cases f1 <;> simp at hfits' ⊢ <;> exact ⟨by omega, by omega, by omega, by omega⟩

/-- one argument: the popping loop pops exactly what `push_args2` pushed for it in the register
    pass, and the two loops' counters stay equivalent -/
theorem popArg_spec (env : Env) (ty : Ty) {gpc fpc gpp fpp : Int} {b : Bool} {gpc' fpc' k : Int}
    (he : Eqv gpc fpc gpp fpp) (hs : ty.isStructOrUnion = true → 0 ≤ ty.size)
    (hc : classifyArgE env ty gpc fpc = .ok (b, gpc', fpc', k)) :
    ArgOK K (popArg env ty gpp fpp) b (slots ty) gpc' fpc' k := by
  unfold ArgOK
  unfold classifyArgE at hc
  unfold popArg slots
  cases hk : ty.kind <;> simp only [hk] at hc ⊢
  case struct => exact struct_class env ty he (hs (by simp [Ty.isStructOrUnion, hk])) hc
  case union => exact struct_class env ty he (hs (by simp [Ty.isStructOrUnion, hk])) hc
  case float => exact fp_class he hc
  case double => exact fp_class he hc
  case ldouble =>
    simp only [pure, Except.pure, Except.ok.injEq, Prod.mk.injEq] at hc
    obtain ⟨rfl, rfl, rfl, rfl⟩ := hc
    exact ⟨rfl, (Sem_pure _).cast (by simp) rfl (by simp), Ret_pure he, he.1, he.2.1⟩
  all_goals exact gp_class he hc

/-- the sizes of struct/union arguments are not negative (well-formedness of the type table; an empty
    struct, size 0, takes no register and no stack slot: /repo b298aee) -/
def StructArgsOK (tys : List (Option Ty)) : Prop :=
  ∀ t, some t ∈ tys → t.isStructOrUnion = true → 0 ≤ t.size

theorem popArgs_spec (env : Env) : ∀ (args : List Arg) (gpc fpc gpp fpp stack : Int) (flags : List Bool) (st : Int),
    Eqv gpc fpc gpp fpp → StructArgsOK (args.map (·.ty)) →
    classifyArgsE env (args.map (·.ty)) gpc fpc stack = .ok (flags, st) →
    st = stack + selSlots (args.zip flags) true ∧
    SemP K (popArgs env args gpp fpp) (8 * selSlots (args.zip flags) false) 0 (-(selSlots (args.zip flags) false))
  | [], _, _, _, _, stack, flags, st, _, _, hc => by
    simp only [List.map_nil, classifyArgsE, Except.ok.injEq, Prod.mk.injEq] at hc
    obtain ⟨rfl, rfl⟩ := hc
    unfold popArgs
    simp only [List.zip_nil_right, selSlots]
    exact ⟨by omega, (Sem_pure _).cast (by omega) rfl (by omega)⟩
  | arg :: rest, gpc, fpc, gpp, fpp, stack, flags, st, he, hs, hc => by
    simp only [List.map_cons, classifyArgsE] at hc
    cases hty : arg.ty with
    | none => simp [hty] at hc
    | some ty =>
      simp only [hty] at hc
      cases hca : classifyArgE env ty gpc fpc with
      | error e => simp [hca] at hc
      | ok r =>
        obtain ⟨b, gpc', fpc', k⟩ := r
        simp only [hca] at hc
        cases hrec : classifyArgsE env (rest.map (·.ty)) gpc' fpc' (stack + k) with
        | error e => simp [hrec] at hc
        | ok r2 =>
          obtain ⟨bs, st2⟩ := r2
          simp only [hrec, Except.ok.injEq, Prod.mk.injEq] at hc
          obtain ⟨rfl, rfl⟩ := hc
          have hs1 : ty.isStructOrUnion = true → 0 ≤ ty.size :=
            hs ty (by simp [hty])
          obtain ⟨hk, hsem, hret, hn'⟩ := popArg_spec (K := K) env ty he hs1 hca
          have hsr : StructArgsOK (rest.map (·.ty)) := fun t ht => hs t (by simp only [List.map_cons]; exact List.mem_cons_of_mem _ ht)
          unfold popArgs
          simp only [List.zip_cons_cons, selSlots, hty, slotsO]
          have key : ∀ gf : Int × Int, Eqv gpc' fpc' gf.1 gf.2 →
              st2 = stack + k + selSlots (rest.zip bs) true ∧
              SemP K (popArgs env rest gf.1 gf.2) (8 * selSlots (rest.zip bs) false) 0 (-(selSlots (rest.zip bs) false)) :=
            fun gf hgf => popArgs_spec env rest gpc' fpc' gf.1 gf.2 (stack + k) bs st2 hgf hsr hrec
          -- the facts that do not depend on the popped registers
          have h0 := key (min gpc' 6, min fpc' 8) ⟨hn'.1, hn'.2, rfl, rfl⟩
          refine ⟨?_, ?_⟩
          · have := h0.1
            cases b <;> simp at hk ⊢ <;> omega
          · refine Sem_needTy_bind fun ty' hty' => ?_
            simp only [Option.some.injEq] at hty'
            subst hty'
            refine (Sem_bind_ret hsem hret (fun gf hgf => (key gf hgf).2)).cast ?_ ?_ ?_
            · cases b <;> simp <;> omega
            · omega
            · cases b <;> simp <;> omega

/-- `node->ret_buffer && node->ty->size > 16`, as a value -/
def bigV (i : NInfo) (rb : Option Var) : Bool :=
  match rb, i.ty with
  | some _, some ty => ty.size > 16
  | _, _ => false

theorem Ret_bigRet (i : NInfo) (rb : Option Var) : Ret (bigRet i rb) (fun b => b = bigV i rb) := by
  unfold bigRet bigV
  cases rb with
  | none => exact Ret_pure rfl
  | some v =>
    cases hty : i.ty with
    | none =>
      intro s a s' ls hm
      simp [bind, M.bind, needTy, nullDeref, fail] at hm
    | some ty =>
      simp only [needTy, M_pure_bind]
      exact Ret_pure rfl

theorem Sem_bigRet (i : NInfo) (rb : Option Var) : SemP K (bigRet i rb) 0 0 0 := by
  unfold bigRet
  sem

theorem delta_retBytes (reg1 reg2 : String) (h2 : reg2 ≠ "%rsp") (off : Int) (i n : Nat) :
    delta (retBytes reg1 reg2 off i n) = some ⟨0, 0⟩ := by
  induction n generalizing i with
  | zero => rfl
  | succ n ih => simp [retBytes, delta, lineDelta_ins2, isRsp_rbp, isRsp_of_ne h2, rows_moves, rows_arith, ih]

theorem Sem_retBytes (reg1 reg2 : String) (h2 : reg2 ≠ "%rsp") (off : Int) (i n : Nat) :
    SemP K (emits (retBytes reg1 reg2 off i n)) 0 0 0 :=
  Sem_emits (delta_retBytes reg1 reg2 h2 off i n)

instance (reg1 : String) (off : Int) (i n : Nat) : Eff (emits (retBytes reg1 "%rax" off i n)) 0 0 0 :=
  ⟨Sem_retBytes _ _ (by decide) _ _ _⟩
instance (reg1 : String) (off : Int) (i n : Nat) : Eff (emits (retBytes reg1 "%rdx" off i n)) 0 0 0 :=
  ⟨Sem_retBytes _ _ (by decide) _ _ _⟩
instance (i : NInfo) (rb : Option Var) : Eff (bigRet i rb) 0 0 0 := ⟨Sem_bigRet i rb⟩
instance (env : Env) (ty : Ty) : Eff (hasFlonum1 env ty) 0 0 0 := ⟨Sem_liftE _⟩
instance (env : Env) (ty : Ty) : Eff (hasFlonum2 env ty) 0 0 0 := ⟨Sem_liftE _⟩

theorem Sem_copyRetBuffer (env : Env) (var : Var) : SemP K (copyRetBuffer env var) 0 0 0 := by
  unfold copyRetBuffer
  sem

instance (env : Env) (var : Var) : Eff (copyRetBuffer env var) 0 0 0 := ⟨Sem_copyRetBuffer env var⟩

theorem delta_regBytes (reg1 reg2 : String) (h1 : reg1 ≠ "%rsp") (h2 : reg2 ≠ "%rsp") (lo n : Nat) :
    delta (regBytes reg1 reg2 lo n) = some ⟨0, 0⟩ := by
  induction n with
  | zero => rfl
  | succ n ih => simp [regBytes, delta, lineDelta_ins2, isRsp_of_ne h1, isRsp_of_ne h2, rows_moves, rows_arith, ih]

theorem Sem_regBytes (reg1 reg2 : String) (h1 : reg1 ≠ "%rsp") (h2 : reg2 ≠ "%rsp") (lo n : Nat) :
    SemP K (emits (regBytes reg1 reg2 lo n)) 0 0 0 :=
  Sem_emits (delta_regBytes reg1 reg2 h1 h2 lo n)

instance (lo n : Nat) : Eff (emits (regBytes "%al" "%rax" lo n)) 0 0 0 := ⟨Sem_regBytes _ _ (by decide) (by decide) _ _⟩
instance (lo n : Nat) : Eff (emits (regBytes "%dl" "%rdx" lo n)) 0 0 0 := ⟨Sem_regBytes _ _ (by decide) (by decide) _ _⟩

theorem Sem_copyStructReg (env : Env) : SemP K (copyStructReg env) 0 0 0 := by
  unfold copyStructReg
  sem

theorem Sem_copyStructMem (env : Env) : SemP K (copyStructMem env) 0 0 0 := by
  unfold copyStructMem
  sem

instance (env : Env) : Eff (copyStructReg env) 0 0 0 := ⟨Sem_copyStructReg env⟩
instance (env : Env) : Eff (copyStructMem env) 0 0 0 := ⟨Sem_copyStructMem env⟩

theorem Sem_callTail (env : Env) (rb : Option Var) (ty : Ty) (st : Int) :
    SemP K (callTail env rb ty st) (8 * st) (xOf (some ty)) (-st) := by
  unfold callTail
  rw [xOf_some]
  by_cases hk : ty.kind = .ldouble
  · simp only [hk, beq_self_eq_true, if_true]
    sem
  · have hb : (ty.kind == TyKind.ldouble) = false := by simpa using hk
    simp only [hb, hk, Bool.false_eq_true, if_false]
    sem

/-- the arm after `push_args`, for both answers of `node->ret_buffer && node->ty->size > 16` -/
theorem Sem_callRest (env : Env) (i : NInfo) {fn : M Unit} (rb : Option Var) (args : List Arg) (st pops : Int)
    (hfn : SemP K fn 0 0 0)
    (hpop : SemP K (popArgs env args (if bigV i rb = true then 1 else 0) 0) (8 * pops) 0 (-pops)) :
    SemP K (callRest env i fn rb args st)
      (8 * (st + pops + (if bigV i rb = true then 1 else 0))) (xOf i.ty)
      (-(st + pops + (if bigV i rb = true then 1 else 0))) := by
  unfold callRest
  refine Sem_bind_td hfn (fun _ => ?_)
  refine (Sem_bind_ret (Sem_bigRet i rb) (Ret_bigRet i rb) (fun big hbig => ?_)).cast (r := 0 + _) (x := 0 + _)
    (d := 0 + _) (Int.zero_add _) (Int.zero_add _) (Int.zero_add _)
  subst hbig
  have key : ∀ (gf : Int × Int), SemP K (do
      emit (ins2 "mov" rax (.r "%r10"))
      emit (ins2 "mov" (.i gf.2) rax)
      let ty ← needTy "node->ty" i.ty
      callTail env rb ty st) (8 * st) (xOf i.ty) (-st) := by
    intro gf
    refine Sem_bind_td (Sem_emit (by row)) (fun _ => ?_)
    refine Sem_bind_td (Sem_emit (by row)) (fun _ => ?_)
    refine Sem_needTy_bind fun ty hty => ?_
    rw [hty]
    exact (Sem_callTail env rb ty st).cast (by omega) (by omega) (by omega)
  cases hb : bigV i rb <;> simp only [hb, Bool.false_eq_true, if_false, if_true] at hpop ⊢ <;>
    simp only [M_pure_bind]
  · exact (Sem_bind hpop key).cast (by omega) (by omega) (by omega)
  · exact (Sem_bind (Sem_popGp 0) (fun _ => Sem_bind hpop key)).cast (by omega) (by omega) (by omega)

/-- **the call sequence is balanced**: for every argument list (struct argument sizes not negative),
    whatever the callee expression, with or without a return buffer, for every parity of `depth` -/
theorem Sem_callSeq (env : Env) (i : NInfo) {fn : M Unit} (rb : Option Var) (args : List Arg)
    (hfn : SemP K fn 0 0 0) (hargs : ∀ a ∈ args, SemP K a.gen 0 (xOf a.ty) 0)
    (hs : StructArgsOK (args.map (·.ty))) :
    SemP K (pushArgs env i rb args >>= callRest env i fn rb args) 0 (xOf i.ty) 0 := by
  unfold pushArgs
  simp only [M_bind_assoc]
  refine (Sem_bind_ret (Sem_bigRet i rb) (Ret_bigRet i rb) (fun big hbig => ?_)).cast (r := 0 + 0)
    (x := 0 + xOf i.ty) (d := 0 + 0) (by omega) (by omega) (by omega)
  subst hbig
  unfold classifyArgs
  refine Sem_liftE_bind fun fs hfs => ?_
  obtain ⟨flags, stack⟩ := fs
  simp only
  have heqv : Eqv (if bigV i rb = true then 1 else 0) 0 (if bigV i rb = true then 1 else 0) 0 := by
    cases bigV i rb <;> exact ⟨by decide, by decide, by decide, by decide⟩
  obtain ⟨hst, hpop⟩ := popArgs_spec (K := K) env args _ 0 _ 0 0 flags stack heqv hs hfs
  have hz : ∀ ab ∈ args.zip flags, SemP K ab.1.gen 0 (xOf ab.1.ty) 0 :=
    fun ab hab => hargs ab.1 (List.of_mem_zip hab).1
  have hp1 := Sem_pushArgs2 (args.zip flags) true hz
  have hp2 := Sem_pushArgs2 (args.zip flags) false hz
  have hrest := fun st => Sem_callRest env i rb args st (selSlots (args.zip flags) false) hfn hpop
  refine Sem_bind0 Sem_getDepth (fun depth => ?_)
  have h1 := hrest (stack + 1)
  have h0 := hrest stack
  have hsub : SemP K (emit (ins2 "sub" (.i 8) rsp)) (-8) 0 0 := Sem_emit (by row)
  cases hb : bigV i rb <;> simp only [hb, Bool.false_eq_true, if_false, if_true] at h0 h1 ⊢ <;>
    split <;> simp only [M_bind_assoc, M_pure_bind]
  · exact (Sem_bind hsub fun _ => Sem_bind (Sem_addDepth 1) fun _ => Sem_bind hp1 fun _ =>
      Sem_bind hp2 fun _ => h1).cast (by omega) (by omega) (by omega)
  · exact (Sem_bind hp1 fun _ => Sem_bind hp2 fun _ => h0).cast (by omega) (by omega) (by omega)
  · exact (Sem_bind hsub fun _ => Sem_bind (Sem_addDepth 1) fun _ => Sem_bind hp1 fun _ =>
      Sem_bind hp2 fun _ => Sem_bind (Sem_needVar _ _) fun _ => Sem_bind (Sem_emit (r := 0) (x := 0) (by row)) fun _ =>
      Sem_bind Sem_push fun _ => h1).cast (by omega) (by omega) (by omega)
  · exact (Sem_bind hp1 fun _ => Sem_bind hp2 fun _ => Sem_bind (Sem_needVar _ _) fun _ =>
      Sem_bind (Sem_emit (r := 0) (x := 0) (by row)) fun _ => Sem_bind Sem_push fun _ => h0).cast
      (by omega) (by omega) (by omega)

theorem Sem_funcallArm (env : Env) (i : NInfo) {isAlloca : M Bool} {fn : M Unit} (rb : Option Var)
    (args : List Arg) (hia : SemP K isAlloca 0 0 0) (hna : Ret isAlloca (fun b => b = false))
    (hfn : SemP K fn 0 0 0) (hargs : ∀ a ∈ args, SemP K a.gen 0 (xOf a.ty) 0)
    (hs : StructArgsOK (args.map (·.ty))) :
    SemP K (funcallArm env i isAlloca fn rb args) 0 (xOf i.ty) 0 := by
  unfold funcallArm
  refine (Sem_bind_ret hia hna (fun b hb => ?_)).cast (r := 0 + 0) (x := 0 + xOf i.ty) (d := 0 + 0)
    (by omega) (by omega) (by omega)
  subst hb
  exact Sem_callSeq env i rb args hfn hargs hs

end ChibiVerif.Lemmas.C20
