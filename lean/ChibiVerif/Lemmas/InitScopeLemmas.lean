/-
C05, exhaustive small scopes: what keeps their evaluation short.

* Whatever the type, the specification accepts a brace-enclosed initializer only if its tokens, up to the closing brace, are a
  list of the grammar of 6.7.9 (`initFull_run`): `run` reads a token list with a pushdown automaton whose states are the places
  of that grammar, and every function of the specification moves the automaton as it consumes tokens (`Reads`).
* Every list of a scope that the specification accepts turns out clean, so the scopes are instances of the general theorem
  (`scope_agree`); the scope whose lists switch a union's member (region `over`) runs parser and specification.
* The specification does not look behind the closing brace (`initFull_app`): what it makes of a complete list it makes of the
  list followed by any tokens, which it leaves.
* `words` visits the words over an alphabet front first, one `cons` per letter, and does not extend a prefix that no list of the
  grammar starts with; the test is evaluated on the words that are complete lists only (`grammarWords`).  With a test `cut` a
  complete prefix that passes it answers for all its extensions: `cleanWords`, where `cut` is "the specification's run is clean".
-/
import ChibiVerif.Lemmas.InitFlexLemmas

namespace ChibiVerif.InitSpec
open ChibiVerif.Init

/-- Where a token list stands in C11 6.7.9's `{ initializer-list ,? }` (with the GNU forms the specification has: `{ }`, `{ , }`,
    a designation without `=`); each place is a branch of `initList`:
    * `start` behind `{`: `initList` with `first`;
    * `sep`   behind an initializer: `initList` without `first`, which wants `}`, `, }` or `,`;
    * `comma` behind that `,` (`skipTok .comma`): a `}` here is the `, }` of `consumeEnd`;
    * `only`  behind `{ ,`: `consumeEnd` takes `, }` at the start of a list too, nothing else begins with a comma;
    * `desg`  behind a designator (`desigPaths`): a designator, `=`, or the initializer;
    * `init`  behind the `=` of a designation: the initializer;
    * `done`  the outermost list is closed (what follows is the rest); `dead`: no list begins like this. -/
inductive Ph | start | sep | comma | only | desg | init | done | dead

def Ph.isDone : Ph → Bool | .done => true | _ => false
def Ph.isDead : Ph → Bool | .dead => true | _ => false

/-- behind `}` at depth `d`: the enclosing list has had an initializer -/
def closeSt : Nat → Ph × Nat
  | 0 => (.done, 0)
  | d+1 => (.sep, d)

/-- `initializer`: `{` opens a list one level down, an expression or string literal is an initializer -/
def value (d : Nat) : ITok → Ph × Nat
  | .lbrace => (.start, d+1)
  | .expr _ => (.sep, d)
  | .str .. => (.sep, d)
  | _ => (.dead, d)

/-- `designation? initializer` -/
def item (d : Nat) : ITok → Ph × Nat
  | .dot _ => (.desg, d)
  | .idx _ => (.desg, d)
  | .range .. => (.desg, d)
  | t => value d t

def step : Ph × Nat → ITok → Ph × Nat
  | (.start, d), .rbrace => closeSt d
  | (.start, d), .comma => (.only, d)
  | (.start, d), t => item d t
  | (.sep, d), .rbrace => closeSt d
  | (.sep, d), .comma => (.comma, d)
  | (.sep, d), _ => (.dead, d)
  | (.comma, d), .rbrace => closeSt d
  | (.comma, d), t => item d t
  | (.only, d), .rbrace => closeSt d
  | (.only, d), _ => (.dead, d)
  | (.desg, d), .eq => (.init, d)
  | (.desg, d), t => item d t
  | (.init, d), t => value d t
  | s, _ => s

def run (s : Ph × Nat) (toks : List ITok) : Ph × Nat := toks.foldl step s

theorem run_cons (s : Ph × Nat) (t : ITok) (r : List ITok) : run s (t :: r) = run (step s t) r := rfl

theorem run_done : ∀ (l : List ITok), run (.done, 0) l = (.done, 0)
  | [] => rfl
  | _ :: l => run_done l

theorem run_dead (d : Nat) : ∀ (l : List ITok), run (.dead, d) l = (.dead, d)
  | [] => rfl
  | _ :: l => run_dead d l

def Ph.open : Ph → Bool
  | .start | .comma | .desg | .init => true
  | _ => false

def Ph.desgOk : Ph → Bool
  | .start | .comma | .desg => true
  | _ => false

theorem step_startable {ph : Ph} (h : ph.open = true) (d : Nat) {t : ITok} (ht : startable t = true) :
    step (ph, d) t = value d t := by
  cases ph <;> first | (cases t <;> first | rfl | (cases ht; done)) | (cases h; done)

theorem step_desg {ph : Ph} (h : ph.desgOk = true) (d : Nat) {t : ITok} {r : List ITok} (ht : isDesg (t :: r) = true) :
    step (ph, d) t = (.desg, d) := by
  cases ph <;> first | (cases t <;> first | rfl | (cases ht; done)) | (cases h; done)

theorem parseAssign_run {toks r : List ITok} {e : Expr} (h : parseAssign toks = .ok (e, r)) (d : Nat) {ph : Ph}
    (hp : ph.open = true) : run (ph, d) toks = run (.sep, d) r := by
  unfold parseAssign at h
  split at h <;> cases h <;> rw [run_cons, step_startable hp d rfl] <;> rfl

theorem skipExcess_run : ∀ (f : Nat) (toks r : List ITok) (ph : Ph) (d : Nat), skipExcess f toks = .ok r → ph.open = true →
    run (ph, d) toks = run (.sep, d) r
  | 0, _, _, _, _, h, _ => by cases h
  | f+1, toks, r, ph, d, h, hp => by
    unfold skipExcess at h
    split at h
    · cases h
    · rename_i hf
      cases hf
      obtain ⟨t, ht, h⟩ := bind_eq_ok h
      cases skipTok_ok h
      rw [run_cons, step_startable hp d rfl, value, skipExcess_run f _ _ .start (d+1) ht rfl]
      rfl
    · obtain ⟨⟨e, r'⟩, hpa, h⟩ := bind_eq_ok h
      cases h
      exact parseAssign_run hpa d hp

theorem bracedLit_run {t : Ty} {inner r : List ITok} {tok : ITok} (h : bracedLit t inner = some (tok, r)) (d : Nat) :
    run (.start, d+1) inner = run (.sep, d) r := by
  unfold bracedLit at h
  split at h <;> first | cases h | (split at h <;> cases h; rfl)

/-- a designator list, read behind a designator or where one may begin: an initializer follows -/
theorem desigPaths_run (root : Ty) (top : Bool) (d : Nat) : ∀ (f : Nat) (ps : List (List Nat)) (toks : List ITok)
    (ps' : List (List Nat)) (t' : List ITok) (ph : Ph), desigPaths root top f ps toks = .ok (ps', t') → ph.desgOk = true →
    (isDesg toks = false → ph = .desg) → ∃ ph', ph'.open = true ∧ run (ph, d) toks = run (ph', d) t'
  | 0, _, _, _, _, _, h, _, _ => by cases h
  | f+1, ps, toks, ps', t', ph, h, hp, hd => by
    rcases desigPaths_step h with ⟨hnd, _, rfl | rfl⟩ | ⟨hdg, t, r, rfl, ⟨_, _, h⟩ | ⟨_, _, _, h⟩⟩
    · cases hd hnd; exact ⟨.init, rfl, rfl⟩
    · cases hd hnd; exact ⟨.desg, rfl, rfl⟩
    all_goals
      rw [run_cons, step_desg hp d hdg]
      exact desigPaths_run root top d f _ r ps' t' .desg h rfl (fun _ => rfl)

/-- `rec` reads one brace-enclosed list of the grammar, up to its `}` -/
def Reads (rec : Ty → Bool → Init → Option (List Nat) → List ITok → Bool → Flags → Except Fail Result) : Prop :=
  ∀ ty top obj cur toks first fl res, rec ty top obj cur toks first fl = .ok res →
    ∀ d, run (if first = true then .start else .sep, d) toks = run (closeSt d) res.rest

variable {rec : Ty → Bool → Init → Option (List Nat) → List ITok → Bool → Flags → Except Fail Result}
    {ty : Ty} {top : Bool} {obj : Init} {paths : List (List Nat)} {fl : Flags} {res : Result}

/-- an initializer without braces is an expression or a string literal: nothing else can be stored -/
theorem initTokWith_run (hrec : Reads rec) {tok : ITok} {r : List ITok} (hne : paths ≠ []) (hb : tok ≠ .lbrace)
    (h : initTokWith rec ty top obj paths tok r fl = .ok res) (d : Nat) {ph : Ph} (hp : ph.open = true) :
    run (ph, d) (tok :: r) = run (closeSt d) res.rest := by
  obtain ⟨targets, obj', ht, hm, h⟩ := initTokWith_ok h
  have hst : startable tok = true := by
    cases hs : startable tok with
    | true => rfl
    | false =>
      obtain ⟨p0, rest, rfl⟩ := List.exists_cons_of_ne_nil hne
      obtain ⟨q0, ts, _, _, rfl⟩ := mapM_cons_ok ht
      rw [List.foldlM_cons] at hm
      obtain ⟨o1, hm1, _⟩ := bind_eq_ok hm
      obtain ⟨e, he⟩ := modifyAt_error ty top (storeTok ty top tok q0) (storeTok_not_startable ty top tok q0 hs) q0 ty [] obj
      rw [he] at hm1; cases hm1
  rw [run_cons, step_startable hp d hst]
  have := hrec _ _ _ _ _ _ _ _ h d
  cases tok <;> first | exact this | (cases hst; done) | exact absurd rfl hb

theorem initItemWith_run (hrec : Reads rec) {toks : List ITok}
    (h : initItemWith rec ty top obj paths toks fl = .ok res) (d : Nat) {ph : Ph} (hp : ph.open = true) :
    run (ph, d) toks = run (closeSt d) res.rest := by
  rcases initItemWith_ok h with ⟨_, r, hs, h⟩ | ⟨tok, r, hne, rfl, hnb, h⟩ |
    ⟨_, _, inner, _, rfl, rfl, _, ⟨tok, r, hbl, h⟩ | ⟨_, sub, _, hsub, _, h⟩⟩
  · rw [skipExcess_run _ _ _ ph d hs hp]
    exact hrec _ _ _ _ _ _ _ _ h d
  · exact initTokWith_run hrec hne hnb h d hp
  · obtain ⟨id, bytes, esz, rfl⟩ := bracedLit_str hbl
    rw [run_cons, step_startable hp d rfl, value, bracedLit_run hbl d]
    exact initTokWith_run hrec (List.cons_ne_nil _ _) (by simp) h d (ph := .comma) rfl
  · rw [run_cons, step_startable hp d rfl, value]
    exact (hrec _ _ _ _ _ _ _ _ hsub (d+1)).trans (hrec _ _ _ _ _ _ _ _ h d)

theorem initList_run : ∀ g, Reads (initList g)
  | 0, _, _, _, _, _, _, _, _, h, _ => by cases h
  | g+1, ty, top, obj, cur, toks, first, fl, res, h, d => by
    cases he : consumeEnd toks with
    | some rest =>
      rw [initList_end he] at h
      cases h
      unfold consumeEnd at he
      split at he <;> cases he <;> cases first <;> rfl
    | none =>
      rw [initList_item he] at h
      obtain ⟨toks1, h1, h⟩ := bind_eq_ok h
      obtain ⟨⟨ps, toks2⟩, h2, h⟩ := bind_eq_ok h
      -- behind the comma, or at the start of the list
      obtain ⟨ph, hp, hnd, hrun⟩ : ∃ ph : Ph, ph.desgOk = true ∧ ph.open = true ∧
          run (if first = true then .start else .sep, d) toks = run (ph, d) toks1 := by
        cases first
        · cases skipTok_ok h1; exact ⟨.comma, rfl, rfl, rfl⟩
        · cases h1; exact ⟨.start, rfl, rfl, rfl⟩
      rw [hrun]
      unfold pathsOf at h2
      split at h2
      · rename_i hdg
        obtain ⟨ph', hp', hr⟩ := desigPaths_run ty top d _ _ _ _ _ ph h2 hp (fun hn => by rw [hdg] at hn; cases hn)
        rw [hr]
        exact initItemWith_run (initList_run g) h d hp'
      · cases h2
        exact initItemWith_run (initList_run g) h d hnd

/-- the tokens of a brace-enclosed initializer the specification accepts are a complete list of the grammar, followed by
    whatever it returns as the rest -/
theorem initFull_run {ty : Ty} {l : List ITok} {r : Result} (h : initFull ty (.lbrace :: l) = .ok r) :
    (run (.start, 0) l).1 = .done := by
  unfold initFull at h
  simp only at h
  split at h
  · rename_i hb
    unfold bracedLit at hb
    split at hb <;> first | cases hb | (split at hb <;> cases hb; exact congrArg Prod.fst (run_done _))
  · obtain ⟨res, hres, _⟩ := bind_eq_ok h
    rw [show run (.start, 0) l = run (closeSt 0) res.rest from initList_run _ _ _ _ _ _ _ _ _ hres 0]
    exact congrArg Prod.fst (run_done _)

/-! ### the specification does not look behind the closing brace -/

theorem skipTok_app {t : ITok} {w : String} {toks r : List ITok} (h : skipTok t w toks = .ok r) (s : List ITok) :
    skipTok t w (toks ++ s) = .ok (r ++ s) := by
  cases skipTok_ok h; simp [skipTok]

theorem parseAssign_app {toks r : List ITok} {e : Expr} (h : parseAssign toks = .ok (e, r)) (s : List ITok) :
    parseAssign (toks ++ s) = .ok (e, r ++ s) := by
  unfold parseAssign at h
  split at h <;> cases h <;> rfl

theorem skipExcess_app : ∀ (f f' : Nat) (toks r : List ITok), skipExcess f toks = .ok r → f ≤ f' → ∀ s,
    skipExcess f' (toks ++ s) = .ok (r ++ s)
  | 0, _, _, _, h, _, _ => by cases h
  | f+1, 0, _, _, _, hf, _ => by omega
  | f+1, f'+1, toks, r, h, hf, s => by
    cases toks with
    | nil => cases h
    | cons t r0 =>
      by_cases hb : t = .lbrace
      · subst hb
        rw [skipExcess] at h
        obtain ⟨t1, ht, h⟩ := bind_eq_ok h
        rw [List.cons_append, skipExcess, skipExcess_app f f' r0 t1 ht (by omega) s, ok_bind]
        exact skipTok_app h s
      · rw [skipExcess] at h
        · obtain ⟨⟨e, r'⟩, hpa, h⟩ := bind_eq_ok h
          cases h
          rw [List.cons_append, skipExcess]
          · rw [← List.cons_append, parseAssign_app hpa s]; rfl
          · intro r1 hr; cases hr; exact hb rfl
        · intro r1 hr; cases hr; exact hb rfl

theorem desigPaths_app (root : Ty) (top : Bool) : ∀ (f f' : Nat) (ps : List (List Nat)) (toks : List ITok) (ps' : List (List Nat))
    (t' : List ITok), desigPaths root top f ps toks = .ok (ps', t') → t' ≠ [] → f ≤ f' → ∀ s,
    desigPaths root top f' ps (toks ++ s) = .ok (ps', t' ++ s)
  | 0, _, _, _, _, _, h, _, _, _ => by cases h
  | f+1, 0, _, _, _, _, _, _, hf, _ => by omega
  | f+1, f'+1, ps, toks, ps', t', h, hne, hf, s => by
    cases toks with
    | nil => rw [desigPaths] at h <;> first | (cases h; exact absurd rfl hne) | (intros; contradiction)
    | cons t r =>
      -- the tests the given run made (`split at h`) decide the appended one alike; a designator hands on to the rest of the list
      have ih := fun ps2 (h2 : desigPaths root top f ps2 r = .ok (ps', t')) =>
        desigPaths_app root top f f' ps2 r ps' t' h2 hne (by omega) s
      cases t with
      | dot n =>
        simp only [List.cons_append, desigPaths] at h ⊢
        split at h
        · split at h
          · split at h
            · simp only [*, ↓reduceIte, -ih]; exact ih _ h   -- the member of an aggregate
            · cases h
          · split at h <;> cases h
        · cases h
      | idx a =>
        simp only [List.cons_append, desigPaths] at h ⊢
        split at h
        · split at h
          · cases h
          · simp only [*, ↓reduceIte, -ih]; exact ih _ h     -- an element of an array
        · split at h
          · cases h
          · simp only [*, ↓reduceIte, -ih]; exact ih _ h     -- an element of an array of unknown bound
        · cases h
      | range a b =>
        simp only [List.cons_append, desigPaths] at h ⊢
        split at h
        · split at h
          · cases h
          · simp only [*, ↓reduceIte, -ih]; exact ih _ h     -- elements of an array
        · split at h
          · cases h
          · simp only [*, ↓reduceIte, -ih]; exact ih _ h     -- elements of an array of unknown bound
        · cases h
      | _ =>
        -- `=` ends the designator list, any other token is no designator: the run ended here
        simp only [List.cons_append, desigPaths] at h ⊢
        cases h; rfl

theorem pathsOf_app {ty : Ty} {top : Bool} {cur : Option (List Nat)} {toks t' : List ITok} {ps : List (List Nat)}
    (h : pathsOf ty top cur toks = .ok (ps, t')) (hne : t' ≠ []) (s : List ITok) :
    pathsOf ty top cur (toks ++ s) = .ok (ps, t' ++ s) := by
  cases toks with
  | nil => cases h; exact absurd rfl hne
  | cons t r =>
    unfold pathsOf at h ⊢
    rw [show isDesg ((t :: r) ++ s) = isDesg (t :: r) by cases t <;> rfl]
    split at h
    · simp only [↓reduceIte, *]
      exact desigPaths_app ty top _ _ _ _ _ _ h hne (by simp) s
    · cases h; simp only [*]; rfl

/-- `r` with `s` behind what is left -/
def Result.app (r : Result) (s : List ITok) : Result := { r with rest := r.rest ++ s }

/-- `rec'` does on `toks ++ s` what `rec` does on `toks`, and leaves `s`.  The induction for `initFull_app` goes through it with
    `rec = initList g` and `rec' = initList g'`, `g ≤ g'`: the longer token list gives the specification more fuel. -/
def Frames (rec rec' : Ty → Bool → Init → Option (List Nat) → List ITok → Bool → Flags → Except Fail Result) : Prop :=
  ∀ ty top obj cur toks first fl res, rec ty top obj cur toks first fl = .ok res →
    ∀ s, rec' ty top obj cur (toks ++ s) first fl = .ok (res.app s)

variable {rec' : Ty → Bool → Init → Option (List Nat) → List ITok → Bool → Flags → Except Fail Result}

theorem initTokWith_app (hrec : Frames rec rec') {tok : ITok} {r : List ITok}
    (h : initTokWith rec ty top obj paths tok r fl = .ok res) (s : List ITok) :
    initTokWith rec' ty top obj paths tok (r ++ s) fl = .ok (res.app s) := by
  obtain ⟨targets, obj', ht, hm, h⟩ := initTokWith_ok h
  unfold initTokWith
  rw [ht, ok_bind]
  simp only
  rw [hm, ok_bind]
  exact hrec _ _ _ _ _ _ _ _ h s

theorem bracedLit_app {t : Ty} {inner r : List ITok} {tok : ITok} (h : bracedLit t inner = some (tok, r)) (s : List ITok) :
    bracedLit t (inner ++ s) = some (tok, r ++ s) := by
  unfold bracedLit at h
  split at h <;> first | (cases h; done) | (split at h <;> cases h; simp [bracedLit, *])

/-- a list that is complete without the literal's closing brace is no literal in braces with it -/
theorem bracedLit_app_none {t : Ty} {inner : List ITok} (h : bracedLit t inner = none) (hd : (run (.start, 0) inner).1 = .done)
    (s : List ITok) : bracedLit t (inner ++ s) = none := by
  -- `bracedLit` reads at most three tokens; a list of fewer that starts like a literal in braces is not complete
  rcases inner with _ | ⟨a, i1⟩
  · cases hd
  cases a <;> first | (cases t <;> rfl) | skip
  rcases i1 with _ | ⟨b, i2⟩
  · cases hd
  cases b <;> first | (cases t <;> rfl) | (cases t <;> first | rfl | simpa [bracedLit] using h) | skip
  rcases i2 with _ | ⟨c, i3⟩
  · cases hd
  cases c <;> first | (cases t <;> rfl) | (cases t <;> first | rfl | simpa [bracedLit] using h)

/-- a complete list: what `Reads` says at depth 0 -/
theorem Reads.done (hr : Reads rec) {cur : Option (List Nat)} {toks : List ITok} {first : Bool}
    (h : rec ty top obj cur toks first fl = .ok res) : (run (if first = true then .start else .sep, 0) toks).1 = .done := by
  rw [hr _ _ _ _ _ _ _ _ h 0]; exact congrArg Prod.fst (run_done _)

theorem initItemWith_app (hrec : Frames rec rec') (hreads : Reads rec) {toks : List ITok}
    (h : initItemWith rec ty top obj paths toks fl = .ok res) (s : List ITok) :
    initItemWith rec' ty top obj paths (toks ++ s) fl = .ok (res.app s) := by
  rcases initItemWith_ok h with ⟨rfl, r, hs, h⟩ | ⟨tok, r, hne, rfl, hnb, h⟩ |
    ⟨p0, ps, inner, t0, rfl, rfl, ht0, ⟨tok, r, hbl, h⟩ | ⟨hbl, sub, obj', hsub, hm, h⟩⟩
  · unfold initItemWith
    simp only
    rw [skipExcess_app _ _ _ _ hs (by simp) s, ok_bind]
    exact hrec _ _ _ _ _ _ _ _ h s
  · obtain ⟨p0, ps, rfl⟩ := List.exists_cons_of_ne_nil hne
    unfold initItemWith
    cases tok <;> first | exact absurd rfl hnb | exact initTokWith_app hrec h s
  · unfold initItemWith
    simp only [List.cons_append, ht0, pure_bind']
    -- the `let t := if growable …` of `initItemWith` is `grownTy` by `rfl`, but under another compilation of its `match`
    generalize hT : (if growable ty top p0 = true then _ else t0) = T
    obtain rfl : T = grownTy ty top p0 t0 := hT.symm
    rw [bracedLit_app hbl s]
    exact initTokWith_app hrec h s
  · unfold initItemWith
    simp only [List.cons_append, ht0, pure_bind']
    generalize hT : (if growable ty top p0 = true then _ else t0) = T
    obtain rfl : T = grownTy ty top p0 t0 := hT.symm
    rw [bracedLit_app_none hbl (hreads.done hsub) s]
    simp only
    rw [hrec _ _ _ _ _ _ _ _ hsub s, ok_bind]
    simp only [Result.app]
    rw [hm, ok_bind]
    exact hrec _ _ _ _ _ _ _ _ h s

theorem consumeEnd_app {toks rest : List ITok} (h : consumeEnd toks = some rest) (s : List ITok) :
    consumeEnd (toks ++ s) = some (rest ++ s) := by
  unfold consumeEnd at h
  split at h <;> cases h <;> rfl

theorem consumeEnd_app_none {toks : List ITok} {first : Bool} (h : consumeEnd toks = none)
    (hd : (run (if first = true then .start else .sep, 0) toks).1 = .done) (s : List ITok) : consumeEnd (toks ++ s) = none := by
  rcases toks with _ | ⟨a, _ | ⟨b, r⟩⟩
  · cases first <;> cases hd
  · cases a <;> first | rfl | (cases h; done) | (cases first <;> cases hd)
  · cases a <;> first | rfl | (cases h; done) | (cases b <;> first | rfl | (cases h; done))

theorem initItemWith_nil (h : initItemWith rec ty top obj paths [] fl = .ok res) : False := by
  unfold initItemWith at h
  split at h <;> cases h

theorem initList_app : ∀ (g g' : Nat), g ≤ g' → Frames (initList g) (initList g')
  | 0, _, _, _, _, _, _, _, _, _, _, h, _ => by cases h
  | g+1, 0, hg, _, _, _, _, _, _, _, _, _, _ => by omega
  | g+1, g'+1, hg, ty, top, obj, cur, toks, first, fl, res, h, s => by
    cases he : consumeEnd toks with
    | some rest =>
      rw [initList_end he] at h
      cases h
      rw [initList_end (consumeEnd_app he s)]; rfl
    | none =>
      rw [initList_item (consumeEnd_app_none he ((initList_run (g+1)).done h) s)]
      rw [initList_item he] at h
      obtain ⟨toks1, h1, h⟩ := bind_eq_ok h
      obtain ⟨⟨ps, toks2⟩, h2, h⟩ := bind_eq_ok h
      have hne2 : toks2 ≠ [] := fun e => initItemWith_nil (e ▸ h)
      have hne1 : toks1 ≠ [] := by
        rintro rfl
        cases h2; exact hne2 rfl
      have h1' : (if first = true then pure (toks ++ s) else skipTok .comma "," (toks ++ s)) = .ok (toks1 ++ s) := by
        cases first
        · exact skipTok_app h1 s
        · cases h1; rfl
      rw [h1', ok_bind, pathsOf_app h2 hne2 s, ok_bind]
      rw [show isDesg (toks1 ++ s) = isDesg toks1 by
        cases toks1 with
        | nil => exact absurd rfl hne1
        | cons t r => cases t <;> rfl]
      exact initItemWith_app (initList_app g g' (by omega)) (initList_run g) h s

/-- **the specification does not look behind the closing brace**: what it makes of a brace-enclosed initializer it makes of the
    same tokens followed by any others, which it leaves -/
theorem initFull_app {ty : Ty} {l : List ITok} {r : Result} (h : initFull ty (.lbrace :: l) = .ok r) (s : List ITok) :
    initFull ty (.lbrace :: (l ++ s)) = .ok (r.app s) := by
  unfold initFull at h ⊢
  simp only at h ⊢
  split at h
  · rename_i hbl
    rw [bracedLit_app hbl s]
    obtain ⟨v, hv, h⟩ := bind_eq_ok h
    cases h
    simp only [hv, ok_bind]; rfl
  · rename_i hbl
    obtain ⟨res, hres, h⟩ := bind_eq_ok h
    cases h
    rw [bracedLit_app_none hbl ((initList_run _).done hres) s]
    simp only
    rw [initList_app _ _ (by simp) _ _ _ _ _ _ _ _ hres s, ok_bind]
    rfl

/-- the run of the specification fails or is clean: what `parse_spec_tyOk` asks of a token list -/
def specClean (ty : Ty) (toks : List ITok) : Bool :=
  match initFull ty toks with
  | .ok r => r.fl.clean
  | .error _ => true

end ChibiVerif.InitSpec

namespace ChibiVerif.Init
open InitSpec

/-- The trie of the words of length `n` over `al`, read from `s`: `k (pre w)` for every word `w` that is a complete list of the
    grammar.  A prefix no list begins with is not extended; nor is a prefix `u` that has just become a complete list and passes
    `cut`, which then answers for all its extensions (`words_lists`: `hcut`). -/
def words (al : List ITok) (cut k : List ITok → Bool) : Nat → Ph × Nat → (List ITok → List ITok) → Bool
  | 0, s, pre => !s.1.isDone || k (pre [])
  | n+1, s, pre => al.all fun t =>
    (step s t).1.isDead || (!s.1.isDone && (step s t).1.isDone && cut (pre [t])) ||
      words al cut k n (step s t) fun l => pre (t :: l)

theorem words_lists {al : List ITok} {cut k : List ITok → Bool} {f : Nat → List (List ITok)} (h0 : f 0 = [[]])
    (hs : ∀ n, f (n+1) = (f n).flatMap fun l => al.map fun t => t :: l) (hcut : ∀ u v, cut u = true → k (u ++ v) = true) :
    ∀ {n : Nat} {s : Ph × Nat} {pre : List ITok → List ITok} {p : List ITok}, words al cut k n s pre = true →
      (∀ l, pre l = p ++ l) → ∀ w ∈ f n, (run s w).1 = .done → k (p ++ w) = true
  | 0, s, pre, p, h, hp, w, hw, hd => by
    rw [h0] at hw; cases List.mem_singleton.1 hw
    obtain ⟨ph, d⟩ := s
    cases hd
    rw [← hp]; exact h
  | n+1, s, pre, p, h, hp, w, hw, hd => by
    rw [hs] at hw
    obtain ⟨w', hw', t, ht, rfl⟩ : ∃ w' ∈ f n, ∃ t ∈ al, t :: w' = w := by
      simpa [List.mem_flatMap, List.mem_map] using hw
    rw [run_cons] at hd
    have e : p ++ t :: w' = (p ++ [t]) ++ w' := by simp
    rw [e]
    rcases Bool.or_eq_true_iff.1 (List.all_eq_true.1 h t ht) with h | h
    · rcases Bool.or_eq_true_iff.1 h with h | h
      · -- no list begins with `p ++ [t]`
        generalize step s t = s' at h hd
        obtain ⟨ph, d⟩ := s'
        cases ph <;> first | (cases h; done) | skip
        rw [run_dead] at hd; cases hd
      · exact hcut _ _ (by rw [← hp]; exact (Bool.and_eq_true_iff.1 h).2)
    · exact words_lists h0 hs hcut h (fun l => by rw [hp]; simp) w' hw' hd

/-- `k` holds of every word of length `n` over `al` that, read from `s`, is a complete list of the grammar -/
def grammarWords (al : List ITok) (n : Nat) (s : Ph × Nat) (k : List ITok → Bool) : Bool := words al (fun _ => false) k n s id

theorem grammarWords_lists {al : List ITok} {f : Nat → List (List ITok)} (h0 : f 0 = [[]])
    (hs : ∀ n, f (n+1) = (f n).flatMap fun l => al.map fun t => t :: l) {n : Nat} {s : Ph × Nat} {k : List ITok → Bool}
    (h : grammarWords al n s k = true) : ∀ l ∈ f n, (run s l).1 = .done → k l = true :=
  words_lists (cut := fun _ => false) (p := []) h0 hs (fun _ _ hc => nomatch hc) h fun _ => rfl

/-- the run of the specification succeeds and is clean -/
def specOk (ty : Ty) (toks : List ITok) : Bool :=
  match initFull ty toks with
  | .ok r => r.fl.clean
  | .error _ => false

/-- a complete list on which the specification's run is clean answers for all its extensions (`initFull_app`) -/
theorem specOk_app {ty : Ty} (u v : List ITok) (h : specOk ty (.lbrace :: u) = true) : specClean ty (.lbrace :: (u ++ v)) = true := by
  unfold specOk at h
  split at h
  · rename_i r hr
    unfold specClean
    rw [initFull_app hr v]
    exact h
  · cases h

/-- The test of the scopes: `specClean ty ({ :: pre w)` for every word `w` of length `n` over `al` that, read from `s`, is a
    complete list of the grammar; a complete prefix on which the specification's run is clean is not extended (`specOk_app`). -/
def cleanWords (ty : Ty) (al : List ITok) : Nat → Ph × Nat → (List ITok → List ITok) → Bool :=
  words al (fun u => specOk ty (.lbrace :: u)) (fun u => specClean ty (.lbrace :: u))

/-- A scope `{ first t₁ … tₙ` is an instance of `parse_spec_tyOk`: the specification rejects a list that is not of the grammar,
    and on every other list of the scope its run is evaluated and found to fail or to be clean.  `A` and `B` are the scopes'
    tests of the tree and of the array bound, `f` their list of all words: `agreeOn`, `sameBound` and `allLists` are defined in
    Props/C05.lean, downstream of this module, so their bodies are the hypotheses `hA`, `hB` and `h0`/`hs`, which hold there by `rfl`. -/
theorem scope_agree {ty : Ty} {al : List ITok} {f : Nat → List (List ITok)} (h0 : f 0 = [[]])
    (hs : ∀ n, f (n+1) = (f n).flatMap fun l => al.map fun t => t :: l) {n : Nat} {A B : List ITok → Bool}
    (hA : ∀ toks, A toks = match parseInit ty toks, InitSpec.initFull ty toks with
      | .ok (p, pr), .ok r => r.over || (Init.beq p r.obj && pr == r.rest)
      | _, _ => true)
    (hB : ∀ toks, B toks = match parseInit ty toks, InitSpec.initFull ty toks with
      | .ok (p, _), .ok r => r.over || p.children.length == r.obj.children.length
      | _, _ => true)
    (hty : InitSpec.tyOk ty = true)
    (h : cleanWords ty al (n+1) (.start, 0) id = true) :
    ∀ first ∈ al, ∀ l ∈ (f n).map (fun l => ITok.lbrace :: first :: l), A l = true ∧ B l = true := by
  intro first hf l hl
  obtain ⟨l', hl', rfl⟩ := List.mem_map.1 hl
  rw [hA, hB]
  cases hp : parseInit ty (.lbrace :: first :: l') with
  | error e => exact ⟨rfl, rfl⟩
  | ok p =>
    cases hr : InitSpec.initFull ty (.lbrace :: first :: l') with
    | error e => exact ⟨rfl, rfl⟩
    | ok r =>
      have hc := words_lists (p := []) h0 hs specOk_app h (fun _ => rfl) (first :: l')
        (by rw [hs]; exact List.mem_flatMap.2 ⟨l', hl', List.mem_map.2 ⟨first, hf, rfl⟩⟩) (initFull_run hr)
      unfold InitSpec.specClean at hc
      rw [List.nil_append, hr] at hc
      obtain ⟨e1, e2⟩ := InitSpec.parse_spec_tyOk hty hp hr hc
      obtain ⟨p1, p2⟩ := p
      subst e1 e2
      simp [InitSpec.beq_refl']

end ChibiVerif.Init
