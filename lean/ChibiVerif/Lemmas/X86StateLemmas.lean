/-
Facts about Model/X86 alone, for every client of the machine model: what register, flag and memory updates leave
alone; the equation that separates the text of an instruction (`decode`) from its meaning (`exec`); what `exec` does per
instruction form; running sequences, and the judgment `Post code s Q` (`code` runs from `s` without a fault into a state
satisfying `Q`): `Post.cons` takes one instruction off the code, given its decode fact and its `exec` equation.
Two routes lead from instruction text to meaning: `step_decode` / `run_one` / `Post.cons`, one instruction at a time,
for sequences with symbolic operands (C04X86*, C01Value, C01Frame, C06ArgLemmas, the Fp machine); `decodeAll` / `execs`
/ `run_eq_execs` of Model/X86.lean, the whole sequence decoded once, for closed sequences (C01OpLemmas).
-/
import ChibiVerif.Model.X86
import ChibiVerif.Lemmas.BitVecLemmas

namespace ChibiVerif.X86

/-! Projections of the state updates.  Many of them have no user by name: they are the rewrite rules of the simp sets `fp_step`
    (FpStepLemmas) and `x86_norm` (FpCellLemmas), whose normal forms they fix. -/

theorem State.ea_def (s : State) (d : Int) (b : Reg) : s.ea d b = s.get b + BitVec.ofInt 64 d := rfl

theorem State.ea_zero (s : State) (b : Reg) : s.ea 0 b = s.get b := by
  simp [State.ea]

theorem State.regs_write8 (s : State) (a : BitVec 64) (v : BitVec 8) : (s.write8 a v).regs = s.regs := rfl
theorem State.regs_write16 (s : State) (a : BitVec 64) (v : BitVec 16) : (s.write16 a v).regs = s.regs := by
  simp [State.write16, State.regs_write8]
theorem State.regs_write32 (s : State) (a : BitVec 64) (v : BitVec 32) : (s.write32 a v).regs = s.regs := by
  simp [State.write32, State.regs_write16]
theorem State.regs_write64 (s : State) (a : BitVec 64) (v : BitVec 64) : (s.write64 a v).regs = s.regs := by
  simp [State.write64, State.regs_write32]

theorem State.regs_writeW (s : State) (a : BitVec 64) (w : W) (v : BitVec w.bits) : (s.writeW a w v).regs = s.regs := by
  cases w <;> simp only [State.writeW, State.regs_write8, State.regs_write16, State.regs_write32, State.regs_write64]

@[simp] theorem State.get_write8 (s : State) (a : BitVec 64) (v : BitVec 8) (r : Reg) : (s.write8 a v).get r = s.get r := rfl
@[simp] theorem State.get_write16 (s : State) (a : BitVec 64) (v : BitVec 16) (r : Reg) : (s.write16 a v).get r = s.get r :=
  congrFun (s.regs_write16 a v) r
@[simp] theorem State.get_write32 (s : State) (a : BitVec 64) (v : BitVec 32) (r : Reg) : (s.write32 a v).get r = s.get r :=
  congrFun (s.regs_write32 a v) r
@[simp] theorem State.get_write64 (s : State) (a : BitVec 64) (v : BitVec 64) (r : Reg) : (s.write64 a v).get r = s.get r :=
  congrFun (s.regs_write64 a v) r

@[simp] theorem State.mem_set (s : State) (r : Reg) (v : BitVec 64) : (s.set r v).mem = s.mem := rfl
@[simp] theorem State.get_flags {n : Nat} (s : State) (r : BitVec n) (c o : Bool) (g : Reg) : (s.flags r c o).get g = s.get g := rfl
@[simp] theorem State.mem_flags {n : Nat} (s : State) (r : BitVec n) (c o : Bool) : (s.flags r c o).mem = s.mem := rfl
@[simp] theorem State.read32_flags {n : Nat} (s : State) (r : BitVec n) (c o : Bool) (a : BitVec 64) :
    (s.flags r c o).read32 a = s.read32 a := rfl
@[simp] theorem State.read64_flags {n : Nat} (s : State) (r : BitVec n) (c o : Bool) (a : BitVec 64) :
    (s.flags r c o).read64 a = s.read64 a := rfl
@[simp] theorem State.read32_set (s : State) (g : Reg) (v : BitVec 64) (a : BitVec 64) : (s.set g v).read32 a = s.read32 a := rfl
@[simp] theorem State.read64_set (s : State) (g : Reg) (v : BitVec 64) (a : BitVec 64) : (s.set g v).read64 a = s.read64 a := rfl

theorem State.flagsValid_setW (s : State) (r : Reg) (w : W) (v : BitVec w.bits) :
    (s.setW r w v).flagsValid = s.flagsValid := by cases w <;> rfl
theorem State.cond_set (s : State) (r : Reg) (v : BitVec 64) (c : CC) : (s.set r v).cond c = s.cond c := by
  cases c <;> rfl
theorem State.cond_setW (s : State) (r : Reg) (w : W) (v : BitVec w.bits) (c : CC) :
    (s.setW r w v).cond c = s.cond c := by cases w <;> exact State.cond_set ..
theorem State.cond_e_flags {n : Nat} (s : State) (r : BitVec n) (c o : Bool) : (s.flags r c o).cond .e = (r == 0) := rfl
theorem State.cond_ne_flags {n : Nat} (s : State) (r : BitVec n) (c o : Bool) :
    (s.flags r c o).cond .ne = !(r == 0) := rfl
theorem State.zf_setW (s : State) (r : Reg) (w : W) (v : BitVec w.bits) : (s.setW r w v).zf = s.zf := by
  cases w <;> rfl
theorem State.zf_flags {n : Nat} (s : State) (r : BitVec n) (c o : Bool) : (s.flags r c o).zf = (r == 0) := rfl
theorem State.flagsValid_flags {n : Nat} (s : State) (r : BitVec n) (c o : Bool) :
    (s.flags r c o).flagsValid = true := rfl

theorem State.getW_setW_same (s : State) (r : Reg) (w : W) (v : BitVec w.bits) : (s.setW r w v).getW r w = v := by
  cases w <;> simp only [State.setW, State.getW, State.get_set_same, W.bits]
  · exact BitVec.setWidth_ofNat_low (m := 8) (by decide) _ v
  · exact BitVec.setWidth_ofNat_low (m := 16) (by decide) _ v
  · exact BitVec.setWidth_setWidth_self (by decide) v
  · exact BitVec.setWidth_eq v

theorem State.get_setW_ne (s : State) (r r' : Reg) (w : W) (v : BitVec w.bits) (h : r' ≠ r) :
    (s.setW r w v).get r' = s.get r' := by
  cases w <;> exact State.get_set_ne _ _ _ _ h

theorem State.getW_setW_ne (s : State) (r r' : Reg) (w w' : W) (v : BitVec w.bits) (h : r' ≠ r) :
    (s.setW r w v).getW r' w' = s.getW r' w' := by
  simp only [State.getW, State.get_setW_ne _ _ _ _ _ h]

theorem State.get_setW64 (s : State) (r : Reg) (v : BitVec 64) : (s.setW r .w64 v).get r = v :=
  State.get_set_same ..
theorem State.get_setW32 (s : State) (r : Reg) (v : BitVec 32) : (s.setW r .w32 v).get r = v.setWidth 64 :=
  State.get_set_same ..
theorem State.getW_flags {n : Nat} (s : State) (x : BitVec n) (c o : Bool) (r : Reg) (w : W) :
    (s.flags x c o).getW r w = s.getW r w := rfl

open ChibiVerif.Asm

/-- in this form a rewrite with a `decode` fact looks the instruction up instead of evaluating its text again -/
theorem step_decode (i : Ins) (s : State) : step i s = (decode i).bind fun ins => exec ins s := by
  unfold step; cases decode i <;> rfl

theorem run_one {i : Ins} {d : Instr} (h : decode i = some d) (s : State) : run [i] s = exec d s := by
  simp only [run, step_decode, h, Option.bind]
  cases exec d s <;> rfl

theorem run_append (a b : List Ins) (s : State) : run (a ++ b) s = (run a s).bind (run b) := by
  induction a generalizing s with
  | nil => rfl
  | cons i is ih =>
    simp only [List.cons_append, run]
    cases step i s with
    | none => rfl
    | some s' => exact ih s'

theorem run_append_some {a b : List Ins} {s s1 s2 : State} (h1 : run a s = some s1) (h2 : run b s1 = some s2) :
    run (a ++ b) s = some s2 := by rw [X86.run_append, h1]; exact h2

theorem run_cons_some {i : Ins} {is : List Ins} {s s1 s2 : State} (h1 : step i s = some s1)
    (h2 : run is s1 = some s2) : run (i :: is) s = some s2 := by
  simp only [run, h1]; exact h2

/-! ### instructions whose text varies only in register names -/

theorem step_push (nm : String) (g : Reg) (h : regOf nm = some (g, .w64)) (s : State) :
    step ⟨"push", [.r nm]⟩ s = some ((s.set .rsp (s.get .rsp - 8)).write64 (s.get .rsp - 8) (s.get g)) := by
  simp [step, decode, h, exec]

theorem step_pop (nm : String) (g : Reg) (h : regOf nm = some (g, .w64)) (s : State) :
    step ⟨"pop", [.r nm]⟩ s = some ((s.set .rsp (s.get .rsp + 8)).set g (s.read64 (s.get .rsp))) := by
  simp [step, decode, h, exec]

/-! ### what `exec` does, by instruction form -/

theorem exec_mov_rr (a b : Reg) (s : State) : exec (.mov .w64 (.reg a) (.reg b)) s = some (s.set b (s.get a)) := by
  simp only [exec, State.src, State.dst, State.getW, State.setW, W.bits, BitVec.setWidth_eq]
theorem exec_mov_imm (n : Int) (r : Reg) (s : State) : exec (.mov .w64 (.imm n) (.reg r)) s = some (s.set r (BitVec.ofInt 64 n)) := rfl
theorem exec_load_d (w : W) (d : Int) (b r : Reg) (s : State) :
    exec (.mov w (.mem d b) (.reg r)) s = some (s.setW r w (s.readW (s.ea d b) w)) := rfl
theorem exec_load (w : W) (b r : Reg) (s : State) :
    exec (.mov w (.mem 0 b) (.reg r)) s = some (s.setW r w (s.readW (s.get b) w)) :=
  (exec_load_d ..).trans (by rw [State.ea_zero])
theorem exec_store_d (w : W) (d : Int) (a b : Reg) (s : State) :
    exec (.mov w (.reg a) (.mem d b)) s = some (s.writeW (s.ea d b) w (s.getW a w)) := rfl
theorem exec_store (w : W) (a b : Reg) (s : State) :
    exec (.mov w (.reg a) (.mem 0 b)) s = some (s.writeW (s.get b) w ((s.get a).setWidth w.bits)) :=
  (exec_store_d ..).trans (by rw [State.ea_zero]; rfl)
theorem exec_movsx_load (ws wd : W) (b r : Reg) (s : State) :
    exec (.movsx ws wd (.mem 0 b) r) s = some (s.setW r wd ((s.readW (s.get b) ws).signExtend wd.bits)) := by
  simp only [exec, State.src, State.ea_zero]
theorem step_lea (d : Int) (b r : String) (gb gr : Reg) (hb : regOf b = some (gb, .w64)) (hr : regOf r = some (gr, .w64))
    (s : State) : step ⟨"lea", [.m d b, .r r]⟩ s = some (s.set gr (s.ea d gb)) := by
  simp [step, decode, opdOf, baseOf, hb, hr, exec]

theorem step_mov_imm (n : Int) (r : String) (g : Reg) (hr : regOf r = some (g, .w64)) (s : State) :
    step ⟨"mov", [.i n, .r r]⟩ s = some (s.set g (BitVec.ofInt 64 n)) := by
  simp [step, decode, opdOf, hr, exec, State.src, State.dst, State.setW]

theorem exec_movzx (ws wd : W) (src : Operand) (dst : Reg) (s : State) :
    exec (.movzx ws wd src dst) s = some (s.setW dst wd ((s.src ws src).setWidth wd.bits)) := rfl
theorem exec_movzx_load (ws wd : W) (b r : Reg) (s : State) :
    exec (.movzx ws wd (.mem 0 b) r) s = some (s.setW r wd ((s.readW (s.get b) ws).setWidth wd.bits)) := by
  simp only [exec, State.src, State.ea_zero]
theorem exec_alu_reg (op : Alu) (w : W) (src : Operand) (r : Reg) (s : State) :
    exec (.alu op w src (.reg r)) s =
      if op.writes then (aluExec op w s (s.src w src) (s.getW r w)).2.dst w (.reg r) (aluExec op w s (s.src w src) (s.getW r w)).1
      else some (aluExec op w s (s.src w src) (s.getW r w)).2 := rfl
theorem exec_and (a b : Reg) (s : State) : exec (.alu .and .w64 (.reg a) (.reg b)) s =
    some ((s.flags (s.get b &&& s.get a) false false).set b (s.get b &&& s.get a)) := by
  simp [exec, aluExec, Alu.writes, State.src, State.dst, State.getW, State.setW]
theorem exec_or (a b : Reg) (s : State) : exec (.alu .or .w64 (.reg a) (.reg b)) s =
    some ((s.flags (s.get b ||| s.get a) false false).set b (s.get b ||| s.get a)) := by
  simp [exec, aluExec, Alu.writes, State.src, State.dst, State.getW, State.setW]
theorem exec_add_ir (n : Int) (r : Reg) (s : State) :
    exec (.alu .add .w64 (.imm n) (.reg r)) s =
      some ((s.flags (s.get r + BitVec.ofInt 64 n) ((s.get r).uaddOverflow (BitVec.ofInt 64 n))
        ((s.get r).saddOverflow (BitVec.ofInt 64 n))).set r (s.get r + BitVec.ofInt 64 n)) := by
  simp [exec, aluExec, Alu.writes, State.src, State.dst, State.getW, State.setW]
theorem exec_sub_ir (n : Int) (r : Reg) (s : State) :
    exec (.alu .sub .w64 (.imm n) (.reg r)) s =
      some ((s.flags (s.get r - BitVec.ofInt 64 n) ((s.get r).usubOverflow (BitVec.ofInt 64 n))
        ((s.get r).ssubOverflow (BitVec.ofInt 64 n))).set r (s.get r - BitVec.ofInt 64 n)) := by
  simp [exec, aluExec, Alu.writes, State.src, State.dst, State.getW, State.setW]
theorem exec_cmp_ir (w : W) (n : Int) (r : Reg) (s : State) :
    exec (.alu .cmp w (.imm n) (.reg r)) s =
      some (s.flags (s.getW r w - BitVec.ofInt w.bits n) ((s.getW r w).usubOverflow (BitVec.ofInt w.bits n))
        ((s.getW r w).ssubOverflow (BitVec.ofInt w.bits n))) := rfl
theorem exec_setcc (cc : CC) (dst : Reg) (s : State) :
    exec (.setcc cc dst) s = if s.flagsValid then some (s.setW dst .w8 (if s.cond cc then 1#8 else 0#8)) else none := rfl
theorem exec_push (r : Reg) (s : State) :
    exec (.push r) s = some ((s.set .rsp (s.get .rsp - 8)).write64 (s.get .rsp - 8) (s.get r)) := rfl
theorem exec_pop (r : Reg) (s : State) : exec (.pop r) s = some ((s.set .rsp (s.get .rsp + 8)).set r (s.read64 (s.get .rsp))) := rfl
theorem exec_lea (d : Int) (b r : Reg) (s : State) : exec (.lea d b r) s = some (s.set r (s.ea d b)) := rfl

/-- `code` runs from `s` without a fault into a state satisfying `Q`.  A plain definition: a `Post` term proves the
    spelt-out statement `∃ s', run code s = some s' ∧ Q s'` and the other way round. -/
def Post (code : List Ins) (s : State) (Q : State → Prop) : Prop := ∃ s', run code s = some s' ∧ Q s'

theorem Post.of_run {c : List Ins} {s s1 : State} {Q : State → Prop} (h : run c s = some s1) (q : Q s1) : Post c s Q := ⟨s1, h, q⟩

theorem Post.at {c : List Ins} {s s1 : State} {Q : State → Prop} (h : Post c s Q) (h1 : run c s = some s1) : Q s1 :=
  let ⟨_, r, q⟩ := h; Option.some.inj (r.symm.trans h1) ▸ q

theorem Post.nil {s : State} {Q : State → Prop} (h : Q s) : Post [] s Q := ⟨s, rfl, h⟩

theorem Post.cons {i : Ins} {d : Instr} {is : List Ins} {s s1 : State} {Q : State → Prop}
    (hd : decode i = some d) (he : exec d s = some s1) (h : Post is s1 Q) : Post (i :: is) s Q :=
  let ⟨s', r, q⟩ := h; ⟨s', X86.run_cons_some (by rw [step_decode, hd]; exact he) r, q⟩

theorem Post.append {a b : List Ins} {s : State} {P Q : State → Prop}
    (ha : Post a s P) (hb : ∀ s1, P s1 → Post b s1 Q) : Post (a ++ b) s Q :=
  let ⟨s1, r1, p⟩ := ha; let ⟨s2, r2, q⟩ := hb s1 p; ⟨s2, X86.run_append_some r1 r2, q⟩

theorem Post.seq {a b : List Ins} {s s1 : State} {Q : State → Prop}
    (ha : run a s = some s1) (hb : Post b s1 Q) : Post (a ++ b) s Q :=
  let ⟨s2, r2, q⟩ := hb; ⟨s2, X86.run_append_some ha r2, q⟩

theorem Post.mono {c : List Ins} {s : State} {P Q : State → Prop} (h : Post c s P) (hpq : ∀ s', P s' → Q s') : Post c s Q :=
  let ⟨s', r, p⟩ := h; ⟨s', r, hpq s' p⟩

end ChibiVerif.X86
