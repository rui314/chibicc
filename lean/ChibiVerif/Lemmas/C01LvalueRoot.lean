/-
C01: root forms over general lvalues (Model/C01Lvalue `compileL`): `lv`, `lv = e`, `lv op= e` — the compiler as a relation (`CompL`,
`CompL.of_eq`: the only place where `compileL` is unfolded), the freshness of the labels of their code, the member rewriting of
`op=` on the specification side (`lvAddr_split`), and a concrete frame.
-/
import ChibiVerif.Lemmas.C01Lvalue

namespace ChibiVerif.C01
open ChibiVerif.X86 ChibiVerif.Asm ChibiVerif.Spec.IntSpec ChibiVerif.Gen.CommonType ChibiVerif.C01Codegen ChibiVerif.X86J

/-- `compileL` as a relation: one rule per root form -/
inductive CompL (tys : List ITy) (off toff : Nat → Int) (k c : Nat) : RootL → ITy → List JI → Nat → Nat → Prop
  | load {l t ca k1 c1} : addrCode tys off toff k c l = some (ca, k1, c1) → CompL tys off toff k c (.load l t) t (loadCodeL ca t) k1 c1
  | assign {l t e ca k1 c1 te ce k2 c2} : addrCode tys off toff k c l = some (ca, k1, c1) →
      compileJ tys off toff k1 c1 e = some (te, ce, k2, c2) → CompL tys off toff k c (.assign l t e) t (assignCodeL ca t te ce) k2 c2
  | opassign {op l t e cp k1 c1 te ce k2 c2} : compoundable op = true →
      addrCode tys off toff k c (splitMember l).1 = some (cp, k1, c1) → compileJ tys off toff k1 c1 e = some (te, ce, k2, c2) →
      CompL tys off toff k c (.opassign op l t e) t (opAssignCodeL (nodeOf op).1 op t te (toff k2) cp (splitMember l).2 ce) (k2 + 1) c2

theorem CompL.of_eq {tys : List ITy} {off toff : Nat → Int} {k c : Nat} {r : RootL} {t : ITy} {code : List JI} {k1 c1 : Nat}
    (h : compileL tys off toff k c r = some (t, code, k1, c1)) : CompL tys off toff k c r t code k1 c1 := by
  cases r with
  | load l t0 =>
    simp only [compileL, Option.map_eq_some_iff, Prod.mk.injEq] at h
    obtain ⟨⟨ca, k', c'⟩, ha, rfl, rfl, rfl, rfl⟩ := h
    exact .load ha
  | assign l t0 e =>
    simp only [compileL] at h
    split at h
    · simp only [Option.map_eq_some_iff, Prod.mk.injEq] at h
      obtain ⟨⟨te, ce, ke, cce⟩, he, rfl, rfl, rfl, rfl⟩ := h
      exact .assign ‹_› he
    · cases h
  | opassign op l t0 e =>
    simp only [compileL] at h
    split at h
    · split at h
      · simp only [Option.map_eq_some_iff, Prod.mk.injEq] at h
        obtain ⟨⟨te, ce, ke, cce⟩, he, rfl, rfl, rfl, rfl⟩ := h
        exact .opassign ‹_› ‹_› he
      · cases h
    · cases h

theorem defs_assignCodeL (ca : List JI) (t te : ITy) (ce : List JI) : defs (assignCodeL ca t te ce) = defs ca ++ defs ce := by
  simp [assignCodeL, defs_append, defs_J, defs_cons_ins]

/-- **freshness of the labels of a root form** (`.nodup`: defined once, what `JRun.runJ` needs; `.rng`: numbered in `[c0, c1)`) -/
theorem compileL_nodup (tys : List ITy) (off toff : Nat → Int) (k0 c0 : Nat) (r : RootL) (t : ITy) (code : List JI) (k1 c1 : Nat)
    (h : compileL tys off toff k0 c0 r = some (t, code, k1, c1)) : Fresh c0 c1 (defs code) := by
  cases CompL.of_eq h with
  | load ha =>
    have f := addrCode_facts tys off toff _ k0 c0 _ _ _ ha
    simpa [loadCodeL, defs_append, defs_J] using f.fresh
  | assign ha he =>
    have fa := addrCode_facts tys off toff _ k0 c0 _ _ _ ha
    have fe := compileJ_facts tys off toff _ _ _ _ _ _ _ he
    have ec := fe.c
    rw [defs_assignCodeL]
    exact fa.fresh.append fe.fresh fa.c (by omega)
  | opassign _ ha he =>
    have fa := addrCode_facts tys off toff _ k0 c0 _ _ _ ha
    have fe := compileJ_facts tys off toff _ _ _ _ _ _ _ he
    have ec := fe.c
    rw [defs_opAssignCodeL]
    exact fa.fresh.append fe.fresh fa.c (by omega)

/-- the address of a member lvalue is the address of its parent plus the member offset -/
theorem lvAddr_split (bp : BitVec 64) (off : Nat → Int) (σ : Env) (lv : LVal) (a : BitVec 64) (σ0 : Env)
    (h : lvAddr bp off σ lv = some (a, σ0)) :
    ∃ ap dd, lvAddr bp off σ (splitMember lv).1 = some (ap, σ0) ∧ ap + BitVec.ofInt 64 dd = a ∧ DS (splitMember lv).2 dd := by
  cases lv with
  | member l d =>
    simp only [lvAddr, Option.map_eq_some_iff, Prod.mk.injEq] at h
    obtain ⟨⟨a0, σ'⟩, hl, h1, h2⟩ := h
    simp only at h1 h2
    subst h1 h2
    exact ⟨a0, d, hl, rfl, addimm_run d⟩
  | var i => exact ⟨a, 0, h, by simp, DS.nil⟩
  | deref j => exact ⟨a, 0, h, by simp, DS.nil⟩
  | index i0 esz ie => exact ⟨a, 0, h, by simp, DS.nil⟩
  | pindex j esz ie => exact ⟨a, 0, h, by simp, DS.nil⟩

theorem split_facts (lv : LVal) :
    noConflictL (splitMember lv).1 = noConflictL lv ∧ wfL (splitMember lv).1 = wfL lv ∧ wrL (splitMember lv).1 = wrL lv ∧
      depthL (splitMember lv).1 = depthL lv := by
  cases lv <;> simp [splitMember, noConflictL, wfL, wrL, depthL]

/-! ### a concrete instance: `int x = 7; int *p = &x;` — `p` at -8(%rbp) holds 0x1ff0, `x` at -16(%rbp) -/

def lvEnv : Env := ⟨[.u64, .i32], [0x1ff0, 7]⟩
/-- `%rsp` = 0x1000, `%rbp` = 0x2000; `p` = 0x1ff0 (bytes f0 1f 00 …) at 0x1ff8, `x` = 7 at 0x1ff0 -/
def lvState : State :=
  { regs := fun r => match r with | .rsp => 0x1000#64 | .rbp => 0x2000#64 | _ => 0#64,
    mem := fun a => if a = 0x1ff8#64 then 0xf0#8 else if a = 0x1ff9#64 then 0x1f#8 else if a = 0x1ff0#64 then 7#8 else 0#8 }

theorem lvHolds : Holds exOff lvEnv lvState := by
  intro i t v ht hv
  match i with
  | 0 =>
    simp [lvEnv] at ht hv; subst ht; subst hv
    exact ⟨by decide, by decide⟩
  | 1 =>
    simp [lvEnv] at ht hv; subst ht; subst hv
    exact ⟨by decide, by decide⟩
  | k + 2 => simp [lvEnv] at ht

theorem lvAddr_ex :
    lvAddr (lvState.get .rbp) exOff lvEnv (.deref 0) = some (frameAddr (lvState.get .rbp) (exOff 1), lvEnv) := by
  have h : BitVec.ofInt 64 0x1ff0 = frameAddr (lvState.get .rbp) (exOff 1) := by decide
  simp [lvAddr, lvEnv, ← h]

theorem lvFrameX (K n : Nat) (hK : K ≤ 2) (hn : n ≤ 8) : FrameX lvEnv exOff ptrToff K n lvState :=
  ⟨by have : (lvState.get .rsp).toNat = 4096 := by decide
      omega,
   by
    have h2 : layoutOK lvEnv.tys exOff ptrToff 2 4096 = true := by decide
    have l2 := lay_of_layoutOK lvEnv.tys exOff ptrToff 2 4096 h2 (lvState.get .rbp) (lvState.get .rsp).toNat (by decide) (by decide)
    exact ⟨l2.var_lo, fun k hk => l2.tmp_lo k (by omega), l2.var_var, fun i ti k hi hk => l2.var_tmp i ti k hi (by omega),
      fun k l hk hl => l2.tmp_tmp k l (by omega) (by omega)⟩,
   lvHolds⟩

end ChibiVerif.C01
