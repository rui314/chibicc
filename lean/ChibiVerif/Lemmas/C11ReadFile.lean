/-
`read_file` as translated from tokenize.c (Gen/StrJoinGen.lean `readFileBuf`: the statements after the read loop) is the
final-newline rule `ensureFinalNewline` of Model/Text.lean followed by the terminator; composed with the translated
`tokenize_file` (Lemmas/C11Rewrite.lean) it gives, for every file content without NUL, the text `phase12` that every
`C11_text_*` theorem is about.
-/
import ChibiVerif.Model.StrJoin
import ChibiVerif.Lemmas.C11Rewrite

namespace ChibiVerif.Lemmas.ReadFile
open ChibiVerif.Gen.Literals
open ChibiVerif.Gen.StrJoin
open ChibiVerif.StrJoin
open ChibiVerif.Literals
open ChibiVerif.Text

/-- the final-newline rule written out: a newline is appended iff the file is empty or does not end in one -/
def withFinalNewline (s : List Byte) : List Byte := if s = [] ∨ s.getLast? ≠ some LF then s ++ [LF] else s

theorem ensureFinalNewline_eq (s : List Byte) : ensureFinalNewline s = withFinalNewline s := by
  unfold ensureFinalNewline withFinalNewline
  rcases List.eq_nil_or_concat s with rfl | ⟨l, b, rfl⟩
  · simp
  · by_cases hb : b = LF <;> simp [hb]

theorem readFileBuf_eq (s : List Byte) : readFileBuf s = ensureFinalNewline s ++ [0#8] := by
  unfold readFileBuf ensureFinalNewline
  rcases List.eq_nil_or_concat s with rfl | ⟨l, b, rfl⟩
  · simp [LF]
  · have hb : byteAt (l ++ [b]) l.length = b := by simp [byteAt]
    by_cases hl : b = LF
    · subst hl
      have hb' : byteAt (l ++ [10#8]) l.length = 10#8 := hb
      simp [hb', LF]
    · have hl' : b ≠ 0xA#8 := hl
      simp [hb, hl', LF]

theorem cString_append_nul (t : List Byte) (h : (0#8 : Byte) ∉ t) : cString (t ++ [0#8]) = t := by
  have hp : ∀ a ∈ t, decide (a ≠ 0#8) = true := fun a ha => decide_eq_true fun e => h (e ▸ ha)
  rw [cString, List.takeWhile_append_of_pos hp]
  simp

theorem ensureFinalNewline_no_nul (s : List Byte) (h0 : (0#8 : Byte) ∉ s) : (0#8 : Byte) ∉ ensureFinalNewline s :=
  fun h => (ChibiVerif.Lemmas.Splice.mem_efn s _ h).elim h0 (by decide)

theorem read_file_text (s : List Byte) (h0 : (0#8 : Byte) ∉ s) : cString (readFileBuf s) = ensureFinalNewline s := by
  rw [readFileBuf_eq, cString_append_nul _ (ensureFinalNewline_no_nul s h0)]

theorem source_text (s : List Byte) (h0 : (0#8 : Byte) ∉ s) : sourceText s = some (phase12 s) := by
  unfold sourceText
  rw [read_file_text s h0]
  exact ChibiVerif.Lemmas.Rewrite.phase_order s h0

end ChibiVerif.Lemmas.ReadFile
