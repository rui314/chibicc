/-
C02: "the cell chosen for (from, to) implements the C11 conversion" (`select`), block by block of the cast table.  A block
(integer → floating, floating → integer, floating → `_Bool`) is described by the *shape* of its cells as a function of the
two types: which signed reading of %rax the conversion instruction makes (`srcRead`), or how wide its integer result is and
how the cell brings it into %rax (`truncW`, `reload`).  That the cells have their shape is the machine's business
(Lemmas/FpCellLemmas: `eff_int_f32` …, `eff_f32_int` …); that a shape is right for a type is arithmetic (`srcRead_eq`,
`Ext.rint`, `reload_ok`); the value theorem of a block is one statement over the type (`sel_int_fp`,
`sel_fp_int` with its two special targets `sel_fp_bool` and `sel_fp_u64`, the branching cells; `sel_fp_fp` for the six floating ↔
floating cells), and `select` dispatches over them.  Integers in %rax are read through C01's `Low` (`rint_def`); what a
floating datum denotes is `FpLiteral.valOf` of Model/FpLiteral (`val32` / `val64` / `val80` by the constructor), the only
thing taken from that model.  The integer side is exact BitVec/Int arithmetic; the floating side is one application of an
`FpuSpec` contract.
-/
import ChibiVerif.Lemmas.FpCellLemmas
import ChibiVerif.Lemmas.FpFlagLemmas
import ChibiVerif.Lemmas.FpRoundLemmas
import ChibiVerif.Model.FpLiteral
import ChibiVerif.Lemmas.C01Lemmas

namespace ChibiVerif.Fp
open ChibiVerif.Asm ChibiVerif.X86 ChibiVerif.Spec.Fpu ChibiVerif.FpCodegen ChibiVerif.Spec.FpC11
open ChibiVerif.Spec.IntSpec ChibiVerif.Gen.CommonType ChibiVerif.Gen.CastTable

theorem fpToInt_some (t : ITy) (ht : t ≠ .bool) (v : Val) (i : Int) (h : fpToInt t v = some i) :
    v.trunc? = some i ∧ t.inRange i := by
  cases t <;> simp [fpToInt] at h ht ⊢ <;>
    (cases hv : v.trunc? <;> simp [hv] at h <;> (obtain ⟨h1, h2⟩ := h; subst h2; exact ⟨rfl, h1⟩))

theorem inRange_u64 (v : Int) : ITy.u64.inRange v ↔ 0 ≤ v ∧ v < 18446744073709551616 := by
  simp [ITy.inRange, ITy.min, ITy.max, ITy.signed, ITy.bits]; omega

theorem fpToInt_eq_some (t : ITy) (ht : t ≠ .bool) (v : Val) (i : Int) (h : v.trunc? = some i) (hin : t.inRange i) :
    fpToInt t v = some i := by
  cases t <;> simp_all [fpToInt]

/-! ### integers in %rax: `RInt` is C01's `Represents`, read through `C01.Low` -/

theorem rint_iff (t : ITy) (r : BitVec 64) (v : Int) : RInt t r v ↔ C01.Represents t r v := Iff.rfl

theorem rint_def {t : ITy} {r : BitVec 64} {v : Int} : RInt t r v ↔ t.inRange v ∧ C01.Low (C01.regBits t) r v :=
  (rint_iff t r v).trans C01.represents_def

theorem signExtend_ofInt (m k : Nat) (hm : 0 < m) (i : Int) (lo : -2 ^ (m - 1) ≤ i) (hi : i < 2 ^ (m - 1)) :
    (BitVec.ofInt m i).signExtend k = BitVec.ofInt k i := by
  rw [BitVec.signExtend, BitVec.toInt_ofInt_eq_self hm lo hi]

theorem zeroExtend_ofInt (m k : Nat) (i : Int) (lo : 0 ≤ i) (hi : i < 2 ^ m) :
    (BitVec.ofInt m i).setWidth k = BitVec.ofInt k i := by
  rw [BitVec.setWidth_ofInt, Int.emod_eq_of_lt lo (by rw [Int.natCast_pow]; exact hi)]

/-- a value of `unsigned long` or `_Bool` below 2^63 has the top bit of the register clear -/
theorem msb_clear (t : ITy) (r : BitVec 64) (v : Int) (h : RInt t r v) (ht : t = .u64 ∨ t = .bool)
    (hv : v < 9223372036854775808) : r.msb = false := by
  have h0 : 0 ≤ v := by rcases ht with rfl | rfl <;> exact Int.le_trans (by decide) h.1.1
  have hm : (r.toNat : Int) = v % 18446744073709551616 := by rcases ht with rfl | rfl <;> exact h.2
  rw [BitVec.msb_eq_decide]
  simp only [decide_eq_false_iff_not]; omega

/-- an unsigned long with the top bit set, as the register holds it -/
theorem src_u64_top (r : BitVec 64) (v : Int) (h : RInt .u64 r v) (hv : ¬ v < 9223372036854775808) :
    (r.toNat : Int) = v ∧ 2 ^ 63 ≤ r.toNat ∧ r.msb = true ∧ r.toInt = v - 18446744073709551616 := by
  have hr := (inRange_u64 v).1 h.1
  have hnat : (r.toNat : Int) = v := by have := h.2; simp only at this; omega
  have hlt := r.isLt
  refine ⟨hnat, by omega, ?_, ?_⟩
  · rw [BitVec.msb_eq_decide]; simp; omega
  · rw [BitVec.toInt_eq_toNat_cond]; split <;> omega

/-- the signed reading the conversion instruction makes of the register is the C value -/
theorem srcRead_eq (t : ITy) (r : BitVec 64) (v : Int) (h : RInt t r v) (hv : v < 9223372036854775808) :
    srcRead t r = v := by
  obtain ⟨hin, hl⟩ := rint_def.1 h
  cases t with
  | u32 =>
    have hl : r.setWidth 32 = BitVec.ofInt 32 v := hl
    show ((r.setWidth 32).setWidth 64).toInt = v
    rw [hl, zeroExtend_ofInt 32 64 v hin.1 (Int.lt_of_le_of_lt hin.2 (by decide))]
    exact BitVec.toInt_ofInt_eq_self (by decide) (Int.le_trans (by decide) hin.1) hv
  | i64 | u64 | bool =>
    have hl : r = BitVec.ofInt 64 v := (BitVec.setWidth_eq r).symm.trans hl
    show r.toInt = v
    rw [hl]
    exact BitVec.toInt_ofInt_eq_self (by decide) (Int.le_trans (by decide) hin.1) hv
  | _ =>
    have hl : r.setWidth 32 = BitVec.ofInt 32 v := hl
    show (r.setWidth 32).toInt = v
    rw [hl]
    exact BitVec.toInt_ofInt_eq_self (by decide) (Int.le_trans (by decide) hin.1) (Int.lt_of_le_of_lt hin.2 (by decide))

theorem u64_of_top (t : ITy) (v : Int) (h : t.inRange v) (hv : ¬ v < 9223372036854775808) : t = .u64 := by
  have := h.2
  cases t <;> first | rfl | (simp [ITy.max, ITy.signed, ITy.bits] at this; omega)

/-! ### unsigned long → float / double from 2^63 on: round to odd -/

/-- the register-level halving (`shr`, `and $1`, `or`) read as a signed number is `halveSticky` of the unsigned value -/
theorem halve_toInt (r : BitVec 64) (h : 2 ^ 63 ≤ r.toNat) :
    (r >>> 1 ||| r &&& 1#64).toInt = (halveSticky r.toNat : Int) := by
  have hh := halveSticky_lt _ h r.isLt
  rw [BitVec.toInt_eq_toNat_cond, halve_bv]
  split <;> omega

theorem ofInt_round {α : Type} (p : Nat) (hp1 : 1 ≤ p) (hp : p ≤ 64) (f : Int → α)
    (hf : ∀ a b : Int, a.natAbs ≤ 2 ^ 64 → b.natAbs ≤ 2 ^ 64 → (a < 0 ↔ b < 0) → roundInt p a = roundInt p b → f a = f b)
    (v : Int) (h0 : 0 ≤ v) (h1 : v ≤ 18446744073709551616) : f (roundInt p v) = f v := by
  obtain ⟨n, rfl⟩ := Int.eq_ofNat_of_zero_le h0
  have hb := roundNat_le64 p n hp1 hp (by omega)
  rw [roundInt_nat]
  apply hf
  · simp; omega
  · simp; omega
  · constructor <;> intro h <;> omega
  · rw [roundInt_nat, roundInt_nat, roundNat_idem p n hp1]

/-- converting the halved value (lost bit or-ed back in) and adding the result to itself gives the datum of the unsigned
    value, at any precision `p ≤ 61`: `f` is `ofInt32` / `ofInt64`, `add` is `addss` / `addsd` -/
theorem ofInt_halve {α : Type} (p : Nat) (hp1 : 1 ≤ p) (hp : p ≤ 61) (f : Int → α) (add : α → α → α)
    (hdbl : ∀ k : Int, k.natAbs < 2 ^ 63 → add (f k) (f k) = f (2 * roundInt p k))
    (hf : ∀ a b : Int, a.natAbs ≤ 2 ^ 64 → b.natAbs ≤ 2 ^ 64 → (a < 0 ↔ b < 0) → roundInt p a = roundInt p b → f a = f b)
    (r : BitVec 64) (v : Int) (h : RInt .u64 r v) (hv : ¬ v < 9223372036854775808) :
    add (f (r >>> 1 ||| r &&& 1#64).toInt) (f (r >>> 1 ||| r &&& 1#64).toInt) = f v := by
  obtain ⟨hnat, hn1, _, _⟩ := src_u64_top _ _ h hv
  have hn2 : r.toNat < 2 ^ 64 := r.isLt
  have hh := halveSticky_lt _ hn1 hn2
  rw [halve_toInt _ hn1, hdbl _ (by omega), roundInt_nat]
  have e : (2 * (roundNat p (halveSticky r.toNat) : Int)) = roundInt p v := by
    rw [← hnat, roundInt_nat, round_halve_p p _ hp hn1 hn2]; simp
  rw [e]
  exact ofInt_round p hp1 (by omega) f hf v (by omega) (by omega)

/-! ### integer targets: what the cell leaves in %rax represents the integral part -/

/-- `ofInt 64 i` represents `i` at every type that holds it: either clause of `RInt` reads `i` modulo a power of two -/
theorem rint_ofInt64 (t : ITy) (i : Int) (h : t.inRange i) : RInt t (BitVec.ofInt 64 i) i :=
  rint_def.2 ⟨h, BitVec.setWidth_ofInt_of_le (by cases t <;> decide) i⟩

theorem rint_ofInt32 (t : ITy) (i : Int) (h : t.inRange i) (ht : t.bits ≤ 32 ∧ t ≠ .bool) :
    RInt t ((BitVec.ofInt 32 i).setWidth 64) i := by
  refine rint_def.2 ⟨h, ?_⟩
  cases t <;> first | exact absurd rfl ht.2 | exact absurd ht.1 (by decide) | exact BitVec.setWidth_setWidth_self (by decide) _

theorem b2bv_rint (z : Bool) : RInt .bool (b2bv (!z)) (if z = true then 0 else 1) := by
  cases z <;> simp [RInt, ITy.inRange, ITy.min, ITy.max, ITy.signed, ITy.bits, b2bv]

/-- a truncation to `n` bits reloaded by `e` is right for the type `t`: every value of `t` fits `n` signed bits (so the
    truncation is not the integer indefinite), and the bits the extension keeps -/
def Ext.ok (e : Ext) (t : ITy) (n : Nat) : Prop :=
  t ≠ .bool ∧ -(2 ^ (n - 1) : Int) ≤ t.min ∧ t.max < 2 ^ (n - 1) ∧
  match e with
  | .sx m => t.bits ≤ 32 ∧ 0 < m ∧ m ≤ n ∧ -2 ^ (m - 1) ≤ t.min ∧ t.max < 2 ^ (m - 1)
  | .zx m => t.bits ≤ 32 ∧ m ≤ n ∧ 0 ≤ t.min ∧ t.max < 2 ^ m
  | .id => n = 64 ∨ (n = 32 ∧ t.bits ≤ 32)

instance (e : Ext) (t : ITy) (n : Nat) : Decidable (e.ok t n) := by
  unfold Ext.ok; cases e <;> exact inferInstance

theorem Ext.rint (e : Ext) (t : ITy) (n : Nat) (hok : e.ok t n) (v : Val) (i : Int) (htr : v.trunc? = some i)
    (hin : t.inRange i) : RInt t (e.app (truncTo n v)) i := by
  obtain ⟨hb, lo, hi, h⟩ := hok
  rw [truncTo_fit n v i htr (Int.le_trans lo hin.1) (Int.lt_of_le_of_lt hin.2 hi)]
  cases e with
  | sx m =>
    obtain ⟨h32, hm, hmn, lo', hi'⟩ := h
    rw [Ext.app, BitVec.setWidth_ofInt_of_le hmn, signExtend_ofInt m 32 hm i (Int.le_trans lo' hin.1) (Int.lt_of_le_of_lt hin.2 hi')]
    exact rint_ofInt32 t i hin ⟨h32, hb⟩
  | zx m =>
    obtain ⟨h32, hmn, lo', hi'⟩ := h
    rw [Ext.app, BitVec.setWidth_ofInt_of_le hmn, zeroExtend_ofInt m 32 i (Int.le_trans lo' hin.1) (Int.lt_of_le_of_lt hin.2 hi')]
    exact rint_ofInt32 t i hin ⟨h32, hb⟩
  | id =>
    rcases h with rfl | ⟨rfl, h⟩
    · rw [Ext.app, BitVec.setWidth_eq]; exact rint_ofInt64 t i hin
    · exact rint_ofInt32 t i hin ⟨h, hb⟩

/-- every row of the table's floating → integer block (the two that branch apart) stores and reloads with a width and an
    extension that are right for its target type -/
theorem reload_ok (frm : ATy) (hf : frm.isFp = true) (t : ITy) (ht : t ≠ .bool ∧ t ≠ .u64) :
    (reload frm t).ok t (truncW frm t) := by
  cases frm with
  | int _ => cases hf
  | _ =>
    cases t with
    | bool => exact absurd rfl ht.1
    | u64 => exact absurd rfl ht.2
    | _ => decide

/-! ### unsigned long at ≥ 2^63: comparison with the constant 2^63, the top bit -/

/-- CF after comparing with a constant that denotes 2^63: set exactly when the integral part is below 2^63 -/
theorem cf_two63 (v : Val) (M E : Nat) (hK : M * 2 ^ E = 9223372036854775808) (t : Int) (ht : v.trunc? = some t) :
    ((Val.cmp v (.fin false M (E : Int))).flags.2.2 = true ↔ t < 9223372036854775808) := by
  cases v with
  | nan => simp [Val.trunc?] at ht
  | inf n => simp [Val.trunc?] at ht
  | fin n m e =>
    obtain ⟨h1, h2⟩ := Val.cmp_const n m e M E 9223372036854775808 hK (by decide) t ht
    rw [← (show ((9223372036854775808 : Nat) : Int) = 9223372036854775808 from rfl)]
    rw [← h1]
    cases hc : Val.cmp (Val.fin n m e) (Val.fin false M (E : Int)) <;> simp_all [Rel.flags]

theorem xor_top (x : BitVec 64) (h : x.toNat < 9223372036854775808) :
    (x ^^^ (1#64 <<< 63)).toNat = x.toNat + 9223372036854775808 := by
  have hmsb : x.msb = false := by rw [BitVec.msb_eq_decide]; simp; omega
  have hand : x &&& (1#64 <<< 63) = 0#64 := by
    apply BitVec.eq_of_getLsbD_eq
    intro i hi
    by_cases h63 : i = 63
    · subst h63
      have : x.getLsbD 63 = false := by simpa [BitVec.msb_eq_getLsbD_last] using hmsb
      rw [BitVec.getLsbD_and, this]; simp
    · have h1 : (1#64 <<< 63).getLsbD i = false := by
        rw [BitVec.getLsbD_shiftLeft]
        have : i < 63 := by omega
        simp [this]
      rw [BitVec.getLsbD_and, h1]; simp
  have e : x ^^^ (1#64 <<< 63) = x + (1#64 <<< 63) := by
    rw [BitVec.add_eq_or_of_and_eq_zero _ _ hand]
    apply BitVec.eq_of_getLsbD_eq
    intro i hi
    have hb := congrArg (fun b => b.getLsbD i) hand
    simp only [BitVec.getLsbD_and, BitVec.getLsbD_zero] at hb
    simp only [BitVec.getLsbD_xor, BitVec.getLsbD_or]
    cases hx : x.getLsbD i <;> cases hc : (1#64 <<< 63).getLsbD i <;> simp_all
  rw [e, BitVec.toNat_add]
  simp
  omega

theorem tgt_u64_above (t : Int) (h1 : 9223372036854775808 ≤ t) (h2 : t < 18446744073709551616) :
    RInt .u64 (BitVec.ofInt 64 (t - 9223372036854775808) ^^^ (1#64 <<< 63)) t := by
  have hn : (BitVec.ofInt 64 (t - 9223372036854775808)).toNat = (t - 9223372036854775808).toNat := by
    simp only [BitVec.toNat_ofInt]; omega
  refine ⟨(inRange_u64 t).2 ⟨by omega, h2⟩, ?_⟩
  simp only
  rw [xor_top _ (by rw [hn]; omega), hn]
  omega

/-- floating → unsigned long, the arithmetic of all three cells: the flags are those of comparing the operand `v` with a
    constant that denotes 2^63; below it the signed truncation of the operand, otherwise the signed truncation of the operand
    less 2^63 (`v'`) with bit 63 complemented -/
theorem rint_u64_cmp (v v' : Val) (M E : Nat) (hK : M * 2 ^ E = 9223372036854775808) (i : Int)
    (htr : v.trunc? = some i) (hin : ITy.u64.inRange i)
    (hsub : 9223372036854775808 ≤ i → v'.trunc? = some (i - 9223372036854775808)) :
    RInt .u64 (if (Val.cmp v (.fin false M (E : Int))).flags.2.2 then truncTo 64 v else truncTo 64 v' ^^^ (1#64 <<< 63)) i := by
  have hr := (inRange_u64 i).1 hin
  have hcf := cf_two63 v M E hK i htr
  by_cases hlt : i < 9223372036854775808
  · rw [if_pos (hcf.2 hlt), truncTo_fit 64 _ i htr (by omega) (by omega)]
    exact rint_ofInt64 .u64 i hin
  · rw [if_neg (fun hc => hlt (hcf.1 hc)), truncTo_fit 64 _ _ (hsub (by omega)) (by omega) (by omega)]
    exact tgt_u64_above i (by omega) hr.2

theorem rint_of_eff {F : FpuSpec} {is : List Ins} {s : FState} {t : ITy} {i : Int} {r : BitVec 64} {P : FState → Prop}
    (h : ∃ s', run F is s = some s' ∧ s'.x.get .rax = r ∧ P s') (hr : RInt t r i) :
    ∃ s', run F is s = some s' ∧ RInt t (s'.x.get .rax) i ∧ P s' :=
  let ⟨s', hrun, hrax, hrest⟩ := h
  ⟨s', hrun, hrax ▸ hr, hrest⟩

/-- **integer → floating**, every integer type, every value (all 2^64 of unsigned long), every floating target: below 2^63 the
    conversion instruction reads the value itself; from 2^63 on (unsigned long only) float / double halve, convert and double,
    long double adds 2^64 to what `fildq` read -/
theorem sel_int_fp (F : FpuSpec) (t : ITy) (to : ATy) (s : FState) (v : Int) (y : AVal)
    (h : RInt t (s.x.get .rax) v) (hto : to.isFp = true) (hc : convert F s.cw to (.int v) = some y)
    (hpc : usesX87Arith (.int t) to = true → pc s.cw = 3#2) :
    ∃ s', run F (castSeq (.int t) to) s = some s' ∧ Holds to s' y ∧ s'.cw = s.cw ∧ stBelow to s' = s.st ∧
      s'.x.get .rsp = s.x.get .rsp := by
  by_cases hv : v < 9223372036854775808
  · have hs := srcRead_eq t _ v h hv
    have hm : t = .u64 ∨ t = .bool → (s.x.get .rax).msb = false := fun ht => msb_clear t _ v h ht hv
    cases to with
    | int _ => cases hto
    | f32 =>
      obtain ⟨s', hrun, hx, hst, hcw, hrsp, _⟩ := eff_int_f32 F t s hm
      exact ⟨s', hrun, Option.some.inj hc ▸ hs ▸ hx, hcw, hst, hrsp⟩
    | f64 =>
      obtain ⟨s', hrun, hx, hst, hcw, hrsp, _⟩ := eff_int_f64 F t s hm
      exact ⟨s', hrun, Option.some.inj hc ▸ hs ▸ hx, hcw, hst, hrsp⟩
    | f80 =>
      obtain ⟨s', hrun, hst, hcw, hrsp⟩ := eff_int_f80 F t s hm
      exact ⟨s', hrun, Option.some.inj hc ▸ ⟨s.st, hs ▸ hst⟩, hcw, by rw [stBelow, if_pos rfl, hst]; rfl, hrsp⟩
  · obtain rfl := u64_of_top t v h.1 hv
    obtain ⟨_, _, hmsb, hint⟩ := src_u64_top _ _ h hv
    cases to with
    | int _ => cases hto
    | f32 =>
      obtain ⟨s', hrun, hx, hst, hcw, hrsp, _⟩ := eff_u64f32_neg F s hmsb
      refine ⟨s', hrun, Option.some.inj hc ▸ ?_, hcw, hst, hrsp⟩
      rw [Holds, hx, F.cvtsi2ss64_spec]
      exact ofInt_halve 24 (by decide) (by decide) F.ofInt32 F.addss F.addss_double F.ofInt32_congr _ v h hv
    | f64 =>
      obtain ⟨s', hrun, hx, hst, hcw, hrsp, _⟩ := eff_u64f64_neg F s hmsb
      refine ⟨s', hrun, Option.some.inj hc ▸ ?_, hcw, hst, hrsp⟩
      rw [Holds, hx, F.cvtsi2sd64_spec]
      exact ofInt_halve 53 (by decide) (by decide) F.ofInt64 F.addsd F.addsd_double F.ofInt64_congr _ v h hv
    | f80 =>
      have hr := (inRange_u64 v).1 h.1
      obtain ⟨s', hrun, hst, hcw, hrsp⟩ := eff_u64f80_neg F s hmsb
      rw [F.fild64_spec, hint, F.fadd_two64 s.cw v (hpc rfl) (by omega) (by omega)] at hst
      exact ⟨s', hrun, Option.some.inj hc ▸ ⟨s.st, hst⟩, hcw, by rw [stBelow, if_pos rfl, hst]; rfl, hrsp⟩

/-! ### floating → `_Bool`: `cmp_zero`, `setne %al`, `movzx %al, %eax` -/

theorem truth_cmp_zero (v : Val) (n : Bool) (e : Int) : truth (Val.cmp v (.fin n 0 e)) = !v.isZero := by
  have := Val.cmp_zero_eq v n e
  cases h : Val.cmp v (.fin n 0 e) <;> cases hz : v.isZero <;> simp_all [truth]

theorem truth_cmp_zero_left (v : Val) (n : Bool) (e : Int) : truth (Val.cmp (.fin n 0 e) v) = !v.isZero := by
  have := Val.cmp_zero_left_eq v n e
  cases h : Val.cmp (.fin n 0 e) v <;> cases hz : v.isZero <;> simp_all [truth]

/-- a value held as one of the three floating types, with what it denotes: the view the block theorems split on -/
inductive HeldFp (F : FpuSpec) (s : FState) : ATy → AVal → Val → Prop
  | f32 (b : BitVec 32) (h : s.xmm0.setWidth 32 = b) : HeldFp F s .f32 (.f32 b) (F.val32 b)
  | f64 (b : BitVec 64) (h : s.xmm0 = b) : HeldFp F s .f64 (.f64 b) (F.val64 b)
  | f80 (b : BitVec 80) (rest : List (BitVec 80)) (h : s.st = b :: rest) : HeldFp F s .f80 (.f80 b) (F.val80 b)

theorem heldFp {F : FpuSpec} {frm : ATy} {s : FState} {x : AVal} {v : Val} (hh : Holds frm s x)
    (hv : FpLiteral.valOf F x = some v) : HeldFp F s frm x v := by
  cases frm <;> cases x <;> simp only [Holds, FpLiteral.valOf, Option.some.injEq, reduceCtorEq] at hh hv <;> subst hv
  · exact .f32 _ hh
  · exact .f64 _ hh
  · exact hh.elim fun rest hr => .f80 _ rest hr

/-- `cmp_zero(ty)` on a floating operand of any of the three types: the compare leaves the flags of a relation that is `eq`
    exactly for the two zeros (unordered for a NaN), a long double is popped, and whatever follows runs from there -/
theorem cmpZero_fp (F : FpuSpec) (t : ATy) (tl : List Line) (s : FState) (x : AVal) (v : Val)
    (hh : Holds t s x) (hv : FpLiteral.valOf F x = some v) :
    ∃ s1 r, run F (instrsOf (cmpZero (descr t) ++ tl)) s = run F (instrsOf (cmpZeroTail ++ tl)) (FState.setRel s1 r) ∧
      truth r = !v.isZero ∧ s1.st = stBelow t s ∧ s1.cw = s.cw ∧ s1.x.get .rsp = s.x.get .rsp := by
  cases heldFp hh hv with
  | f32 b hb => exact ⟨_, _, cmpZero_f32 F tl s, by rw [F.ucomiss_spec, F.val32_zero, truth_cmp_zero, hb], rfl, rfl, rfl⟩
  | f64 b hb => exact ⟨_, _, cmpZero_f64 F tl s, by rw [F.ucomisd_spec, F.val64_zero, truth_cmp_zero, hb], rfl, rfl, rfl⟩
  | f80 b rest hr =>
    exact ⟨_, _, cmpZero_f80 F tl s _ rest hr, by rw [F.fcomi_spec, F.val80_fldz, truth_cmp_zero_left], by simp [stBelow, hr], rfl, rfl⟩

/-- floating → `_Bool`, all three sources: `cast` prints `cmp_zero`, `setne %al`, `movzx %al, %eax`; %rax represents 0 exactly for
    the two zeros (1 for a NaN), the operand is popped if it was on the x87 stack -/
theorem sel_fp_bool (F : FpuSpec) (t : ATy) (s : FState) (x : AVal) (v : Val) (hh : Holds t s x)
    (hv : FpLiteral.valOf F x = some v) :
    ∃ s', run F (castSeq t (.int .bool)) s = some s' ∧ RInt .bool (s'.x.get .rax) (if v.isZero = true then 0 else 1) ∧
      s'.st = stBelow t s ∧ s'.cw = s.cw ∧ s'.x.get .rsp = s.x.get .rsp := by
  obtain ⟨s1, r, hrun, htr, hst, hcw, hrsp⟩ :=
    cmpZero_fp F t [ins1 "setne" (.r "%al"), ins2 "movzx" (.r "%al") (.r "%eax")] s x v hh hv
  obtain ⟨s', hrun', hrax, hst', hcw', hrsp'⟩ := truth_bool F r s1
  have hseq : castSeq t (.int .bool) =
      instrsOf (cmpZero (descr t) ++ [ins1 "setne" (.r "%al"), ins2 "movzx" (.r "%al") (.r "%eax")]) := by
    cases t with
    | int _ => cases x <;> simp [Holds, FpLiteral.valOf] at hh hv
    | _ => rfl
  rw [hseq]
  exact ⟨s', hrun.trans hrun', by rw [hrax, htr]; exact b2bv_rint _, hst'.trans hst, hcw'.trans hcw, hrsp'.trans hrsp⟩

/-- floating → unsigned long for **every** value with 0 ≤ trunc x < 2^64, all three sources: below 2^63 the signed truncation;
    from 2^63 on, x − 2^63 (exact; on the x87 in double extended precision), signed truncation, bit 63 complemented -/
theorem sel_fp_u64 (F : FpuSpec) (frm : ATy) (s : FState) (x : AVal) (v : Val) (i : Int) (hh : Holds frm s x)
    (hv : FpLiteral.valOf F x = some v) (htr : v.trunc? = some i) (hin : ITy.u64.inRange i)
    (hpc : usesX87Arith frm (.int .u64) = true → pc s.cw = 3#2) :
    ∃ s', run F (castSeq frm (.int .u64)) s = some s' ∧ RInt .u64 (s'.x.get .rax) i ∧ s'.st = stBelow frm s ∧ s'.cw = s.cw ∧
      s'.x.get .rsp = s.x.get .rsp := by
  have hi := ((inRange_u64 i).1 hin).2
  cases heldFp hh hv with
  | f32 b hb =>
    refine rint_of_eff (eff_f32u64 F s) ?_
    rw [hb, F.comiss_spec, F.val32_two63, F.cvttss2si64_spec, F.cvttss2si64_spec]
    exact rint_u64_cmp _ _ 8388608 40 (by decide) i htr hin fun h => F.subss_two63 _ i htr h hi
  | f64 b hb =>
    refine rint_of_eff (eff_f64u64 F s) ?_
    rw [hb, F.comisd_spec, F.val64_two63, F.cvttsd2si64_spec, F.cvttsd2si64_spec]
    exact rint_u64_cmp _ _ 4503599627370496 11 (by decide) i htr hin fun h => F.subsd_two63 _ i htr h hi
  | f80 b rest hr =>
    rw [stBelow, if_pos rfl, hr]
    refine rint_of_eff (eff_f80u64 F s _ rest hr) ?_
    rw [F.fcomi_spec, F.val80_two63, F.fistp64_rz _ _ (rc_cwOr s.cw), F.fistp64_rz _ _ (rc_cwOr s.cw)]
    exact rint_u64_cmp _ _ 9223372036854775808 0 (by decide) i htr hin fun h => F.fsub_two63 s.cw _ i (hpc rfl) htr h hi

/-- floating → integer, the 27 cells in one statement: if the integral part `i` of the operand's value is a value of `t`
    (`fpToInt`), the code of `cast(frm, t)` leaves `i` in %rax as `t` holds it, pops a long double operand, and restores the
    control word -/
theorem sel_fp_int (F : FpuSpec) (frm : ATy) (t : ITy) (s : FState) (x : AVal) (v : Val) (i : Int)
    (hh : Holds frm s x) (hv : FpLiteral.valOf F x = some v) (hi : fpToInt t v = some i)
    (hpc : usesX87Arith frm (.int t) = true → pc s.cw = 3#2) :
    ∃ s', run F (castSeq frm (.int t)) s = some s' ∧ RInt t (s'.x.get .rax) i ∧ s'.st = stBelow frm s ∧ s'.cw = s.cw ∧
      s'.x.get .rsp = s.x.get .rsp := by
  by_cases hb : t = .bool
  · subst hb
    simp only [fpToInt, Option.some.injEq] at hi; subst hi
    exact sel_fp_bool F frm s x v hh hv
  · obtain ⟨htr, hin⟩ := fpToInt_some t hb _ _ hi
    by_cases hu : t = .u64
    · subst hu; exact sel_fp_u64 F frm s x v i hh hv htr hin hpc
    · have hok := fun hf => Ext.rint _ _ _ (reload_ok frm hf t ⟨hb, hu⟩) v i htr hin
      cases heldFp hh hv with
      | f32 b h32 => exact rint_of_eff (eff_f32_int F t ⟨hb, hu⟩ s) (h32 ▸ hok rfl)
      | f64 b h64 => exact rint_of_eff (eff_f64_int F t ⟨hb, hu⟩ s) (h64 ▸ hok rfl)
      | f80 b rest hr =>
        rw [stBelow, if_pos rfl, hr]
        exact rint_of_eff (eff_f80_int F t ⟨hb, hu⟩ s _ rest hr) (hok rfl)

theorem holds_fp {F : FpuSpec} {frm : ATy} {s : FState} {x : AVal} (hf : frm.isFp = true) (hh : Holds frm s x) :
    ∃ v, FpLiteral.valOf F x = some v ∧ ∀ cw t, convert F cw (.int t) x = (fpToInt t v).map .int := by
  cases frm with
  | int _ => cases hf
  | _ => cases x <;> simp only [Holds] at hh <;> exact ⟨_, rfl, fun _ _ => rfl⟩

/-- floating ↔ floating: the six cells and the three empty ones -/
theorem sel_fp_fp (F : FpuSpec) (frm to : ATy) (s : FState) (x y : AVal) (hf : frm.isFp = true) (ht : to.isFp = true)
    (hh : Holds frm s x) (hc : convert F s.cw to x = some y) :
    ∃ s', run F (castSeq frm to) s = some s' ∧ Holds to s' y ∧ s'.cw = s.cw ∧ stBelow to s' = stBelow frm s ∧
      s'.x.get .rsp = s.x.get .rsp := by
  obtain ⟨s', y', hc', h⟩ := eff_fp_fp F frm to s x hf ht hh
  rw [hc'] at hc
  cases hc
  exact ⟨s', h⟩

/-- **the instruction list chosen for (from, to) implements the C11 conversion**, for every machine state, every operand value
    and every FPU meeting the contract (the two cells that do x87 arithmetic: under the ABI's x87 precision) -/
theorem select (F : FpuSpec) (frm to : ATy) (s : FState) (x y : AVal)
    (hfp : frm.isFp = true ∨ to.isFp = true) (hh : Holds frm s x) (hc : convert F s.cw to x = some y)
    (hpc : usesX87Arith frm to = true → pc s.cw = 3#2) :
    ∃ s', run F (castSeq frm to) s = some s' ∧ Holds to s' y ∧ s'.cw = s.cw ∧ stBelow to s' = stBelow frm s ∧
      s'.x.get .rsp = s.x.get .rsp := by
  cases to with
  | int t =>
    obtain ⟨v, hv, hconv⟩ := holds_fp (F := F) (hfp.resolve_right (by simp [ATy.isFp])) hh
    rw [hconv, Option.map_eq_some_iff] at hc
    obtain ⟨i, hi, rfl⟩ := hc
    obtain ⟨s', hrun, hr, hst, hcw, hrsp⟩ := sel_fp_int F frm t s x v i hh hv hi hpc
    exact ⟨s', hrun, hr, hcw, hst, hrsp⟩
  | _ =>
    cases frm with
    | int f =>
      cases x with
      | int v =>
        obtain ⟨s', hrun, hy, hcw, hst, hrsp⟩ := sel_int_fp F f _ s v y hh rfl hc hpc
        exact ⟨s', hrun, hy, hcw, hst, hrsp⟩
      | _ => exact absurd hh (by simp [Holds])
    | _ => exact sel_fp_fp F _ _ s x y rfl rfl hh hc

end ChibiVerif.Fp
