/- A witness that the contract structure `C07Float.Sound` is satisfiable, so that `C07_fold_float` (Props/C07Float.lean) is not
   vacuous.  It is a *toy* FPU, not IEEE-754 (as Lemmas/FpToy.lean is for C02): a `long double` datum is sign | 79-bit
   magnitude and denotes the integer ±magnitude; a `float` (`double`) datum is the top 32 (64) bits of a `long double`, so that
   widening appends zero bits and narrowing drops them; integer → floating conversions and the SSE conversions are *defined*
   through widening and narrowing; the arithmetic operations, which no contract constrains beyond "the result survives the
   round trip", return their first operand.  The real x87/SSE unit is validated against the folder on every run of the
   check (the software FPU Model/SoftFp.lean against the CPU, bit for bit). -/
import ChibiVerif.Lemmas.C07FloatLemmas

namespace ChibiVerif.C07Float.Toy
open ChibiVerif.Spec.Fpu

def fld32 (x : BitVec 32) : BitVec 80 := (x.setWidth 80) <<< 48
def fst32 (y : BitVec 80) : BitVec 32 := (y >>> 48).setWidth 32
def fld64 (x : BitVec 64) : BitVec 80 := (x.setWidth 80) <<< 16
def fst64 (y : BitVec 80) : BitVec 64 := (y >>> 16).setWidth 64

def val80 (y : BitVec 80) : Val := .fin y.msb (y.toNat % 2 ^ 79) 0
def ofInt80 (v : Int) : BitVec 80 := BitVec.ofNat 80 (v.natAbs % 2 ^ 79 + (if v < 0 then 2 ^ 79 else 0))

theorem rt32 (x : BitVec 32) : fst32 (fld32 x) = x := by
  apply BitVec.eq_of_getLsbD_eq
  intro i hi
  simp only [fst32, fld32, BitVec.getLsbD_setWidth, BitVec.getLsbD_ushiftRight, BitVec.getLsbD_shiftLeft]
  have h1 : 48 + i < 80 := by omega
  have h2 : ¬ (48 + i < 48) := by omega
  simp [hi, h1, h2]
  intro _; omega

theorem rt64 (x : BitVec 64) : fst64 (fld64 x) = x := by
  apply BitVec.eq_of_getLsbD_eq
  intro i hi
  simp only [fst64, fld64, BitVec.getLsbD_setWidth, BitVec.getLsbD_ushiftRight, BitVec.getLsbD_shiftLeft]
  have h1 : 16 + i < 80 := by omega
  have h2 : ¬ (16 + i < 16) := by omega
  simp [hi, h1, h2]
  intro _; omega

theorem neg32 (x : BitVec 32) : fst32 (fld32 x ^^^ (1#80 <<< 79)) = x ^^^ (1#32 <<< 31) := by
  apply BitVec.eq_of_getLsbD_eq
  intro i hi
  simp only [fst32, fld32, BitVec.getLsbD_setWidth, BitVec.getLsbD_ushiftRight, BitVec.getLsbD_shiftLeft, BitVec.getLsbD_xor,
    BitVec.getLsbD_one]
  have h1 : 48 + i < 80 := by omega
  have h2 : ¬ (48 + i < 48) := by omega
  by_cases h31 : i = 31
  · subst h31; simp
  · have e1 : i < 80 := by omega
    have e2 : 48 + i < 79 := by omega
    have e3 : i < 31 := by omega
    simp [hi, h1, h2, e1, e2, e3]

theorem neg64 (x : BitVec 64) : fst64 (fld64 x ^^^ (1#80 <<< 79)) = x ^^^ (1#64 <<< 63) := by
  apply BitVec.eq_of_getLsbD_eq
  intro i hi
  simp only [fst64, fld64, BitVec.getLsbD_setWidth, BitVec.getLsbD_ushiftRight, BitVec.getLsbD_shiftLeft, BitVec.getLsbD_xor,
    BitVec.getLsbD_one]
  have h1 : 16 + i < 80 := by omega
  have h2 : ¬ (16 + i < 16) := by omega
  by_cases h63 : i = 63
  · subst h63; simp
  · have e1 : i < 80 := by omega
    have e2 : 16 + i < 79 := by omega
    have e3 : i < 63 := by omega
    simp [hi, h1, h2, e1, e2, e3]

theorem ofInt80_val (v : Int) (hv : v.natAbs < 2 ^ 64) : (val80 (ofInt80 v)).toInt? = some v := by
  have hm : v.natAbs % 2 ^ 79 = v.natAbs := Nat.mod_eq_of_lt (by omega)
  have hlt : v.natAbs + (if v < 0 then 2 ^ 79 else 0) < 2 ^ 80 := by split <;> omega
  have htn : (ofInt80 v).toNat = v.natAbs + (if v < 0 then 2 ^ 79 else 0) := by
    simp only [ofInt80, BitVec.toNat_ofNat, hm]
    exact Nat.mod_eq_of_lt hlt
  have hmsb : (ofInt80 v).msb = decide (v < 0) := by
    rw [BitVec.msb_eq_decide, htn]
    by_cases h : v < 0
    · simp [h]
    · simp [h]; omega
  have hlow : (ofInt80 v).toNat % 2 ^ 79 = v.natAbs := by
    rw [htn]
    by_cases h : v < 0
    · simp only [h, ite_true]; rw [Nat.add_mod_right]; exact Nat.mod_eq_of_lt (by omega)
    · simp only [h, ite_false, Nat.add_zero]; exact Nat.mod_eq_of_lt (by omega)
  simp only [val80, hmsb, hlow, Val.toInt?, Int.le_refl, true_or, ite_true, Val.magTrunc, Int.toNat_zero, Nat.pow_zero, Nat.mul_one]
  by_cases h : v < 0
  · simp only [h, decide_true, ite_true]; congr 1; omega
  · simp only [h, decide_false, Bool.false_eq_true, ite_false]; congr 1; omega

def ops : FpOps where
  val32 := fun x => val80 (fld32 x)
  val64 := fun x => val80 (fld64 x)
  val80 := val80
  addss := fun a _ => a
  subss := fun a _ => a
  mulss := fun a _ => a
  divss := fun a _ => a
  addsd := fun a _ => a
  subsd := fun a _ => a
  mulsd := fun a _ => a
  divsd := fun a _ => a
  fadd := fun a _ => a
  fsub := fun a _ => a
  fmul := fun a _ => a
  fdiv := fun a _ => a
  fchs := fun x => x ^^^ (1#80 <<< 79)
  ofInt32 := fun v => fst32 (ofInt80 v)
  ofInt64 := fun v => fst64 (ofInt80 v)
  ofInt80 := ofInt80
  cvtss2sd := fun x => fst64 (fld32 x)
  cvtsd2ss := fun x => fst32 (fld64 x)
  fld32 := fld32
  fld64 := fld64
  fst32 := fst32
  fst64 := fst64

theorem sound : Sound ops where
  fld32_exact := fun _ => Val.same_refl _
  fld64_exact := fun _ => Val.same_refl _
  ofInt80_val := ofInt80_val
  fchs_spec := fun _ => rfl
  narrow_int32 := fun _ _ => rfl
  narrow_int64 := fun _ _ => rfl
  narrow_64_32 := fun _ _ => rfl
  widen_32_64 := fun _ _ => rfl
  neg_32 := fun x _ => neg32 x
  neg_64 := fun x _ => neg64 x
  rt_neg32 := fun _ _ => rt32 _
  rt_neg64 := fun _ _ => rt64 _
  rt_fst32 := fun _ => rt32 _
  rt_fst64 := fun _ => rt64 _
  rt_addss := fun _ _ _ _ => rt32 _
  rt_subss := fun _ _ _ _ => rt32 _
  rt_mulss := fun _ _ _ _ => rt32 _
  rt_divss := fun _ _ _ _ => rt32 _
  rt_addsd := fun _ _ _ _ => rt64 _
  rt_subsd := fun _ _ _ _ => rt64 _
  rt_mulsd := fun _ _ _ _ => rt64 _
  rt_divsd := fun _ _ _ _ => rt64 _

end ChibiVerif.C07Float.Toy
