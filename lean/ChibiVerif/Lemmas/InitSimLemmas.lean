/-
C05, parser = specification: the simulation.

Every function of the mutually recursive parser (Model/Init.lean) is related to the run of the specification's cursor machine
(`initList`): a call that works on the subobject at path `p` of the current object corresponds to zero or more steps of the list
of the enclosing braces, after which the specification's object is the old one with the parser's new node at `p`
(`setAtM obj p c'`) and the cursor stands behind `p`.  `Sim f` states this for all functions with fuel `f`; `sim_all` proves it by
induction on the fuel.
-/
import ChibiVerif.Lemmas.InitParseLemmas
import ChibiVerif.Lemmas.ExceptLemmas

namespace ChibiVerif.InitSpec
open ChibiVerif.Init
open Except (Ends)

variable {root : Ty} {top : Bool} {obj : Init} {p : List Nat} {ty : Ty} {c : Init} {k : Nat} {sz : Nat}

/-- the parser works on node `c` of type `ty`, which is the subobject at `p` of the specification's current object `obj`
    (of type `root`; when `root` is a struct with a flexible array member it is the declared object itself, `top`, and `p` is
    neither the struct nor the flexible member: those two nodes are handled by Lemmas/InitFlexLemmas.lean) -/
structure At (root : Ty) (top : Bool) (obj : Init) (p : List Nat) (ty : Ty) (c : Init) : Prop where
  rootOk : tyOk root = true
  topOk : isFlexRoot root = true → top = true
  pok : pathOk root p = true
  shp : shapedR root obj = true
  sub : subTy root p = some ty
  get : getAt obj p = some c
  ok : subOk ty = true

theorem At.shapedc (h : At root top obj p ty c) :
    shaped ty c = true :=
  shapedR_getAt h.shp h.pok h.sub h.get

theorem At.ng (h : At root top obj p ty c) :
    growable root top p = false :=
  growable_false_of h.rootOk h.pok h.sub h.ok

theorem At.modifyAt_eq (h : At root top obj p ty c)
    (f : Ty → Init → Except Fail Init) (hsw : switchesUnion obj p = false) :
    modifyAt root top f root [] p obj = (f ty c >>= fun v => pure (setAtM obj p v)) :=
  modifyAt_eqR root top f h.rootOk h.topOk h.shp h.pok h.sub h.get hsw

theorem pathOk_snoc (h : pathOk root p = true) (k : Nat) : pathOk root (p ++ [k]) = true := by
  cases root with
  | struct ms sz fl =>
    cases fl with
    | false => rfl
    | true =>
      cases p with
      | nil => simp [pathOk] at h
      | cons a p => cases p <;> simp [pathOk]
  | _ => rfl

theorem getAt_one (h : obj.children[k]? = some c) : getAt obj [k] = some c := by
  rw [getAt_cons_of_some _ h]; simp [getAt]

theorem subTy_one (t : Ty) (k : Nat) : subTy t [k] = childTy t k := by
  rw [subTy_cons]; cases childTy t k <;> simp [subTy]

theorem At.child (h : At root top obj p ty c) {tc : Ty} {ck : Init}
    (ht : childTy ty k = some tc) (hk : c.children[k]? = some ck) : At root top obj (p ++ [k]) tc ck where
  rootOk := h.rootOk
  topOk := h.topOk
  pok := pathOk_snoc h.pok k
  shp := h.shp
  sub := by rw [subTy_append p [k] root ty h.sub, subTy_one, ht]
  get := by rw [getAt_append p [k] obj c h.get, getAt_one hk]
  ok := tyOk_child (subOk_tyOk ty h.ok) ht

theorem At.set (h : At root top obj p ty c) {v : Init}
    (hv : shaped ty v = true) : At root top (setAtM obj p v) p ty v where
  rootOk := h.rootOk
  topOk := h.topOk
  pok := h.pok
  shp := shapedR_setAtM h.shp h.pok h.sub h.get hv
  sub := h.sub
  get := getAt_setAtM p obj c v h.get
  ok := h.ok

theorem setAtM_over (h : At root top obj p ty c) (v w : Init) :
    setAtM (setAtM obj p v) p w = setAtM obj p w :=
  setAtM_setAtM p obj c v w h.get

/-- after the parser has replaced child `k` of the node at `p`: the node at `p` is the old one with that child replaced -/
theorem At.set_child (h : At root top obj p ty c) {tc : Ty}
    {ck v : Init} (ht : childTy ty k = some tc) (hk : c.children[k]? = some ck) (hv : shaped tc v = true) :
    setAtM obj (p ++ [k]) v = setAtM obj p (setAtM c [k] v) ∧ At root top (setAtM obj (p ++ [k]) v) p ty (setAtM c [k] v) ∧
      setAtM (setAtM obj (p ++ [k]) v) p (setAtM c [k] v) = setAtM obj (p ++ [k]) v := by
  have e : setAtM obj (p ++ [k]) v = setAtM obj p (setAtM c [k] v) := setAtM_append p [k] obj c v h.get
  have hs : shaped ty (setAtM c [k] v) = true := shaped_set_child h.shapedc ht hk hv
  rw [e]
  exact ⟨rfl, h.set hs, setAtM_over h _ _⟩

/-- `.name` for the struct/union of type `t` at `p`, where the parser's `struct_designator` finds member `k` (`anon`: a member of the
    anonymous struct/union member `k`, for which the parser's recursive call sees the designator again): the specification's
    path runs through child `k`, and is the one the designation of that child computes -/
theorem desigPaths_member {t mty : Ty} {ms : Members} {name : String} {anon : Bool} {mi : MemInfo} (r : List ITok)
    (ht : subTy root p = some t) (hf : findMember t name = findMemberMs ms name 0) (ha : t.isAgg = true)
    (hk : subTy root (p ++ [k]) = some mty) (hsd : structDesignator name ms 0 = .ok (k, anon)) (hm : ms[k]? = some (mi, mty)) :
    (∀ d, desigPaths root top (d+1) [p] (.dot name :: r) =
      desigPaths root top (d + anon.toNat) [p ++ [k]] (if anon = true then .dot name :: r else r)) ∧
    ∃ s, ∀ d, desigPaths root top (d+1) [p] (.dot name :: r) = desigPaths root top d [p ++ k :: s] r := by
  obtain ⟨j, mi', t', hkj, hmj, hcase⟩ := structDesignator_spec name ms 0 k anon hsd
  have hkj' : k = j := by omega
  subst hkj'
  rw [hm] at hmj
  cases hmj
  rw [← hf] at hcase
  rcases hcase with ⟨rfl, hfm⟩ | ⟨rfl, hagg, mp, hfm1, hfm⟩
  · exact ⟨fun d => desigPaths_dot d r ht hfm ha, [], fun d => desigPaths_dot d r ht hfm ha⟩
  · refine ⟨fun d => ?_, mp, fun d => desigPaths_dot d r ht hfm ha⟩
    rw [desigPaths_dot d r ht hfm ha]
    show _ = desigPaths root top (d+1) [p ++ [k]] (.dot name :: r)
    rw [desigPaths_dot d r hk hfm1 hagg, List.append_assoc, List.singleton_append]

theorem arr_of_shaped {elem : Ty} {len : Nat} (h : shaped (.array elem len) c = true) :
    ∃ cs, c = .arr cs ∧ cs.length = len ∧ shapedAll elem cs = true := by
  cases c <;> simp [shaped] at h
  exact ⟨_, rfl, h.1, h.2⟩

theorem struct_of_shaped {ms : Members} {fl0 : Bool} (h : shaped (.struct ms sz fl0) c = true) :
    ∃ e cs, c = .struct e cs ∧ shapedMs ms cs = true := by
  cases c <;> simp [shaped] at h
  exact ⟨_, _, rfl, h⟩

theorem union_of_shaped {ms : Members} {fl0 : Bool} (h : shaped (.union ms sz fl0) c = true) :
    ∃ e m cs, c = .union e m cs ∧ shapedMs ms cs = true := by
  cases c <;> simp [shaped] at h
  exact ⟨_, _, _, rfl, h.1⟩

theorem leaf_of_shaped {k : SKind} (h : shaped (.scalar sz k) c = true) : ∃ e, c = .leaf e := by
  cases c <;> simp [shaped] at h
  exact ⟨_, rfl⟩

theorem skipTok_ok {t : ITok} {what : String} {toks r : List ITok} (h : skipTok t what toks = .ok r) : toks = t :: r := by
  unfold skipTok at h
  split at h
  · split at h
    · rename_i hx; cases h; rw [hx]
    · cases h
  · cases h

/-! ### following the parser

The steps of the simulation follow the parser's body forwards: `Yields x Q` says that `x`, if it returns, returns a value
satisfying `Q`; `Ends.bind` hands the continuation what the first step guarantees (an inversion lemma or a statement of `Sim`
through `Ends.of_forall`), `Ends.ite` the branch taken, and `Ends.use` enters from the run that a statement of `Sim` is about. -/

abbrev Yields {α : Type} (x : Except Fail α) (Q : α → Prop) : Prop := Ends (fun _ => True) Q x

namespace Yields
variable {α β : Type} {x : Except Fail α} {k : α → Except Fail β} {P : α → Prop} {Q : β → Prop}

/-- from the run `hx` a statement is about: the goal `G` is kept, as what every value equal to `a` must satisfy -/
theorem use {a : α} (hx : x = .ok a) {G : Prop} (h : Yields x (fun b => b = a → G)) : G := Ends.use hx h

/-- the first step through what is known of its value (an inversion lemma, a statement of `Sim`) -/
theorem via (hx : ∀ {a}, x = .ok a → P a) (hk : ∀ a, P a → Yields (k a) Q) : Yields (x >>= k) Q :=
  Ends.bind (.of_forall fun _ => hx) hk

/-- the first step, kept as an equation -/
theorem step (hk : ∀ a, x = .ok a → Yields (k a) Q) : Yields (x >>= k) Q := via id hk

/-- the last step (a tail call) -/
theorem last {a : α} {G : Prop} (h : x = .ok a → G) : Yields x (fun b => b = a → G) := .of_forall fun _ hx e => h (e ▸ hx)

end Yields

/-- where the specification stands after the parser has finished the subobject at `p` with result `c'`, `toks'` left -/
abbrev After (root : Ty) (top : Bool) (obj : Init) (p : List Nat) (c' : Init) (toks' : List ITok) (fl : Flags) (g' : Nat) :
    Except Fail Result :=
  initList g' root top (setAtM obj p c') (next root top p.reverse) toks' false fl

/-- behind child `k` of the node at `p` the cursor stands at `k + 1` in `p`'s aggregate -/
theorem After_child (root : Ty) (top : Bool) (obj : Init) (p : List Nat) (k : Nat) (v : Init) (toks : List ITok) (fl : Flags)
    (g : Nat) : After root top obj (p ++ [k]) v toks fl g =
      initList g root top (setAtM obj (p ++ [k]) v) (cursorIn root top p (k + 1)) toks false fl := by
  rw [After, List.reverse_append, List.reverse_singleton, List.singleton_append, next_snoc]

/-- a step that finishes child `k` of the node at `p`, then the parser's continuation behind that child: together they finish
    the node at `p` (`e1`: the object after the child step is the old one with the node at `p` replaced) -/
theorem At.seq (hA : At root top obj p ty c) {x : Except Fail Result} {ck' c1 c' : Init} {toks2 toks' : List ITok} {fl : Flags}
    {g1 g2 : Nat} (e1 : setAtM obj (p ++ [k]) ck' = setAtM obj p c1)
    (h1 : Imp x (After root top obj (p ++ [k]) ck' toks2 fl g1))
    (h2 : Imp (initList g1 root top (setAtM obj (p ++ [k]) ck') (cursorIn root top p (k + 1)) toks2 false fl)
      (After root top (setAtM obj (p ++ [k]) ck') p c' toks' fl g2)) :
    Imp x (After root top obj p c' toks' fl g2) := by
  rw [After_child] at h1
  simp only [After] at h2 ⊢
  have e3 : setAtM (setAtM obj (p ++ [k]) ck') p c' = setAtM obj p c' := by rw [e1, setAtM_over hA]
  rw [e3] at h2
  exact h1.trans h2

/-- the token list starts with an initializer without braces that does not initialise the aggregate `t` as a whole -/
def Elides (t : Ty) (toks : List ITok) : Prop := ∀ tok r, toks = tok :: r → tok ≠ .lbrace ∧ stopsAt t tok = false

/-! ### the statements: one per parser function and way of entering it

`XSt f`, for the parser function X with fuel `f`: if X returns `(c', toks')` on the node `c`, then `c'` still has the shape of the
type, and the run of the specification that stands where the parser stood, if it succeeds outside every region (`Imp`), is the
run that stands behind the finished node (`After`: `c'` at `p`, the cursor behind `p`, the tokens `toks'`).  Where the
specification stands depends on how X was entered:
* `Init2St`, `DesgSt`: an initializer for the subobject at `p` is due (`initItem .. [p] toks`), resp. a designator list relative to
  `p` has been begun (`afterDesg .. (desigPaths .. [p] toks)`).
* no suffix (`Arr2LoopSt`, `Arr2St`, `Struct2St`): X goes on, at child `i` / member `mem`, with an aggregate whose braces are elided:
  the specification is in the list of the ENCLOSING braces, its cursor at that child (`cursorIn root top p i`).
* suffix `0` (`Arr2Loop0St`, `Arr20St`, `Struct20St`, `Union0St`): X is entered at the aggregate's first child by brace elision
  (p20): the specification has not descended yet and has the initializer for `p` itself before it (`initItem .. [p] toks`);
  `Elides`, resp. `startable tok` and `stopsAt .. tok = false`: the token does not initialise the aggregate as a whole.
  `Struct20St`'s `∀ j < mem, .. unnamedBf ..`: what the loop has stepped over so far are unnamed bit-fields.
* suffix `1` and `UnionRestSt`: the aggregate's own brace-enclosed list: the aggregate is the root of that list (path `[]`), the run
  is the whole list and ends in `⟨c', rest, fl⟩`.
Two side conditions recur.  `setAtM obj p c = obj`: the specification's object holds the parser's node as `setAtM` writes it (unions
above marked, aggregate-valued expressions above dropped); so it is once a child has been stored, and the `0` variants, entered
before that, do without.  `hasAggExpr c = false`: the struct node carries no expression of struct type (p13); with one, a further
initializer for a member lies in the region `AggExprOverride`, which the `0` variants show on the spot.
`Union1St` and `UnionRestSt` spell `Imp .. (.ok ⟨c', rest, fl⟩)` out by components: at the end of a union's list the parser's node is
`defaultMember` of the specification's object (p10), and `Union1St` needs the node to be zero (`c = newInit ..`) because the
specification starts a list from zero and records the union's member at first contact. -/

def Init2St (f : Nat) : Prop :=
  ∀ {root : Ty} {top : Bool} {obj : Init} {p : List Nat} {ty : Ty} {c : Init} {toks : List ITok} {c' : Init} {toks' : List ITok},
    At root top obj p ty c → initializer2 f ty toks c = .ok (c', toks') →
    shaped ty c' = true ∧ ∀ g fl, ∃ g', Imp (initItem g root top obj [p] toks fl) (After root top obj p c' toks' fl g')

def DesgSt (f : Nat) : Prop :=
  ∀ {root : Ty} {top : Bool} {obj : Init} {p : List Nat} {ty : Ty} {c : Init} {toks : List ITok} {c' : Init} {toks' : List ITok},
    At root top obj p ty c → designation f ty toks c = .ok (c', toks') →
    shaped ty c' = true ∧ ∀ g d fl, ∃ g', Imp (afterDesg g root top obj fl (desigPaths root top d [p] toks))
      (After root top obj p c' toks' fl g')

def Arr2LoopSt (f : Nat) : Prop :=
  ∀ {root : Ty} {top : Bool} {obj : Init} {p : List Nat} {elem : Ty} {len : Nat} {c : Init} {toks : List ITok} {i : Nat} {c' : Init}
    {toks' : List ITok},
    At root top obj p (.array elem len) c → 0 < i → arrayInit2Loop f elem toks c i = .ok (c', toks') →
    shaped (.array elem len) c' = true ∧ (setAtM obj p c = obj → ∀ g fl, ∃ g',
      Imp (initList g root top obj (cursorIn root top p i) toks false fl) (After root top obj p c' toks' fl g'))

def Arr2Loop0St (f : Nat) : Prop :=
  ∀ {root : Ty} {top : Bool} {obj : Init} {p : List Nat} {elem : Ty} {len : Nat} {c : Init} {toks : List ITok} {c' : Init}
    {toks' : List ITok},
    At root top obj p (.array elem len) c → Elides (.array elem len) toks → arrayInit2Loop f elem toks c 0 = .ok (c', toks') →
    shaped (.array elem len) c' = true ∧ ∀ g fl, ∃ g',
      Imp (initItem g root top obj [p] toks fl) (After root top obj p c' toks' fl g')

def Arr2St (f : Nat) : Prop :=
  ∀ {root : Ty} {top : Bool} {obj : Init} {p : List Nat} {elem : Ty} {len : Nat} {c : Init} {toks : List ITok} {i : Nat} {c' : Init}
    {toks' : List ITok},
    At root top obj p (.array elem len) c → 0 < i → arrayInit2 f elem toks c i = .ok (c', toks') →
    shaped (.array elem len) c' = true ∧ (setAtM obj p c = obj → ∀ g fl, ∃ g',
      Imp (initList g root top obj (cursorIn root top p i) toks false fl) (After root top obj p c' toks' fl g'))

def Arr20St (f : Nat) : Prop :=
  ∀ {root : Ty} {top : Bool} {obj : Init} {p : List Nat} {elem : Ty} {len : Nat} {c : Init} {toks : List ITok} {c' : Init}
    {toks' : List ITok},
    At root top obj p (.array elem len) c → Elides (.array elem len) toks → arrayInit2 f elem toks c 0 = .ok (c', toks') →
    shaped (.array elem len) c' = true ∧ ∀ g fl, ∃ g',
      Imp (initItem g root top obj [p] toks fl) (After root top obj p c' toks' fl g')

def Struct2St (f : Nat) : Prop :=
  ∀ {root : Ty} {top : Bool} {obj : Init} {p : List Nat} {ms : Members} {sz : Nat} {fl0 : Bool} {c : Init} {toks : List ITok}
    {mem : Nat} {c' : Init} {toks' : List ITok},
    At root top obj p (.struct ms sz fl0) c → structInit2 f ms toks c mem false = .ok (c', toks') →
    shaped (.struct ms sz fl0) c' = true ∧ (setAtM obj p c = obj → hasAggExpr c = false → ∀ g fl, ∃ g',
      Imp (initList g root top obj (cursorIn root top p mem) toks false fl) (After root top obj p c' toks' fl g'))

def Struct20St (f : Nat) : Prop :=
  ∀ {root : Ty} {top : Bool} {obj : Init} {p : List Nat} {ms : Members} {sz : Nat} {fl0 : Bool} {c : Init} {tok : ITok}
    {r : List ITok} {mem : Nat} {c' : Init} {toks' : List ITok},
    At root top obj p (.struct ms sz fl0) c → tok ≠ .lbrace → startable tok = true → stopsAt (.struct ms sz fl0) tok = false →
    (∀ j, j < mem → ∃ mi t, ms[j]? = some (mi, t) ∧ unnamedBf mi = true) →
    structInit2 f ms (tok :: r) c mem true = .ok (c', toks') →
    shaped (.struct ms sz fl0) c' = true ∧ ∀ g fl, ∃ g',
      Imp (initItem g root top obj [p] (tok :: r) fl) (After root top obj p c' toks' fl g')

def Union0St (f : Nat) : Prop :=
  ∀ {root : Ty} {top : Bool} {obj : Init} {p : List Nat} {ms : Members} {sz : Nat} {fl0 : Bool} {c : Init} {tok : ITok}
    {r : List ITok} {c' : Init} {toks' : List ITok},
    At root top obj p (.union ms sz fl0) c → tok ≠ .lbrace → startable tok = true → stopsAt (.union ms sz fl0) tok = false →
    unionInit f ms (tok :: r) c = .ok (c', toks') →
    shaped (.union ms sz fl0) c' = true ∧ ∀ g fl, ∃ g',
      Imp (initItem g root top obj [p] (tok :: r) fl) (After root top obj p c' toks' fl g')

def Arr1LoopSt (f : Nat) : Prop :=
  ∀ {elem : Ty} {len : Nat} {c : Init} {toks : List ITok} {i : Nat} {first : Bool} {c' : Init} {rest : List ITok},
    subOk (.array elem len) = true → shaped (.array elem len) c = true →
    arrayInit1Loop f elem toks c i first = .ok (c', rest) →
    shaped (.array elem len) c' = true ∧ ∀ top g fl,
      Imp (initList g (.array elem len) top c (cursorIn (.array elem len) top [] i) toks first fl) (.ok ⟨c', rest, fl⟩)

def Arr1St (f : Nat) : Prop :=
  ∀ {elem : Ty} {len : Nat} {c : Init} {toks : List ITok} {c' : Init} {rest : List ITok},
    subOk (.array elem len) = true → shaped (.array elem len) c = true →
    arrayInit1 f elem toks c = .ok (c', rest) →
    shaped (.array elem len) c' = true ∧ ∃ inner, toks = .lbrace :: inner ∧ ∀ top g fl,
      Imp (initList g (.array elem len) top c (firstCursor (.array elem len)) inner true fl) (.ok ⟨c', rest, fl⟩)

def Struct1LoopSt (f : Nat) : Prop :=
  ∀ {ms : Members} {sz : Nat} {fl0 : Bool} {c : Init} {toks : List ITok} {mem : Nat} {first : Bool} {c' : Init} {rest : List ITok},
    subOk (.struct ms sz fl0) = true → shaped (.struct ms sz fl0) c = true →
    structInit1Loop f ms toks c mem first = .ok (c', rest) →
    shaped (.struct ms sz fl0) c' = true ∧ (hasAggExpr c = false → ∀ top g fl,
      Imp (initList g (.struct ms sz fl0) top c (cursorIn (.struct ms sz fl0) top [] mem) toks first fl) (.ok ⟨c', rest, fl⟩))

def Struct1St (f : Nat) : Prop :=
  ∀ {ms : Members} {sz : Nat} {fl0 : Bool} {c : Init} {toks : List ITok} {c' : Init} {rest : List ITok},
    subOk (.struct ms sz fl0) = true → shaped (.struct ms sz fl0) c = true →
    structInit1 f ms toks c = .ok (c', rest) →
    shaped (.struct ms sz fl0) c' = true ∧ ∃ inner, toks = .lbrace :: inner ∧ (hasAggExpr c = false → ∀ top g fl,
      Imp (initList g (.struct ms sz fl0) top c (firstCursor (.struct ms sz fl0)) inner true fl) (.ok ⟨c', rest, fl⟩))

def Union1St (f : Nat) : Prop :=
  ∀ {ms : Members} {sz : Nat} {fl0 : Bool} {c : Init} {inner : List ITok} {c' : Init} {rest : List ITok},
    subOk (.union ms sz fl0) = true → shaped (.union ms sz fl0) c = true →
    unionInit f ms (.lbrace :: inner) c = .ok (c', rest) →
    shaped (.union ms sz fl0) c' = true ∧ (c = newInit (.union ms sz fl0) false → ∀ top g fl res,
      initList g (.union ms sz fl0) top c (firstCursor (.union ms sz fl0)) inner true fl = .ok res → res.fl.clean = true →
      defaultMember (.union ms sz fl0) res.obj = c' ∧ res.rest = rest ∧ res.fl = fl)

/-- `union_rest`: the remaining initializers of a union's list, after the member `k` has been initialised (the cursor of the
    union's list stands behind its one member: `none`) -/
def UnionRestSt (f : Nat) : Prop :=
  ∀ {ms : Members} {sz : Nat} {fl0 : Bool} {c : Init} {toks : List ITok} {c' : Init} {rest : List ITok},
    subOk (.union ms sz fl0) = true → shaped (.union ms sz fl0) c = true →
    unionRest f ms toks c = .ok (c', rest) →
    shaped (.union ms sz fl0) c' = true ∧
    ∀ k cs, c = .union none (some k) cs →
      (∃ k' cs', c' = .union none (some k') cs') ∧
      ∀ top g fl res, initList g (.union ms sz fl0) top c none toks false fl = .ok res → res.fl.clean = true →
        res.obj = c' ∧ res.rest = rest ∧ res.fl = fl

structure Sim (f : Nat) : Prop where
  init2 : Init2St f
  desg : DesgSt f
  arr2loop : Arr2LoopSt f
  arr2loop0 : Arr2Loop0St f
  arr2 : Arr2St f
  arr20 : Arr20St f
  struct2 : Struct2St f
  struct20 : Struct20St f
  union0 : Union0St f
  arr1loop : Arr1LoopSt f
  arr1 : Arr1St f
  struct1loop : Struct1LoopSt f
  struct1 : Struct1St f
  union1 : Union1St f
  unionrest : UnionRestSt f

theorem sim_zero : Sim 0 := by
  constructor <;> (repeat intro) <;> rename_i h <;> cases h

end ChibiVerif.InitSpec
