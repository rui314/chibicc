/-
Helper lemmas for C15_symbols_partial: facts about a declaration sequence alone (no parser state): what
`refsOrdered` gives (`refs_declared`, `fileRooted_eq`), the one body of a function (`fnBody`), and `is_definition` after
`parse`.
-/
import ChibiVerif.Lemmas.LinkageView

namespace ChibiVerif.Linkage
open ChibiVerif.Spec.Linkage

/-! ### names -/

theorem mem_fnNames_of_mem {ds : List Decl} {f : Name} {n : Nat} {s e i : Bool} {b : Option (List BodyItem)}
    (h : Decl.func f n s e i b ∈ ds) : f ∈ fnNames ds := by
  rw [mem_fnNames]
  intro h0
  have : (⟨s, e, i, b⟩ : FnDecl) ∈ fnDecls ds f := mem_fnDecls.mpr ⟨n, h⟩
  rw [h0] at this; cases this

theorem mem_objNames_of_mem {ds : List Decl} {x : Name} {s e t : Bool} {ty : ObjTy} {init : Option (List InitItem)}
    (h : Decl.obj x s e t ty init ∈ ds) : x ∈ objNames ds := by
  rw [mem_objNames]
  intro h0
  have : (⟨s, e, t, ty, init⟩ : ObjDecl) ∈ objDecls ds x := mem_objDecls.mpr h
  rw [h0] at this; cases this

theorem mem_blockExterns {y : Name} {ty : ObjTy} : (y, ty) ∈ blockExterns ds ↔
    ∃ f n s e i b tls, Decl.func f n s e i (some b) ∈ ds ∧ BodyItem.externObj y tls ty ∈ b := by
  unfold blockExterns
  rw [List.mem_flatMap]
  constructor
  · rintro ⟨d, hd, hm⟩
    cases d with
    | obj => simp at hm
    | func f n s e i body =>
      cases body with
      | none => simp at hm
      | some b =>
        rw [List.mem_filterMap] at hm
        obtain ⟨it, hit, hh⟩ := hm
        cases it with
        | externObj z tls ty' =>
          simp only [Option.some.injEq, Prod.mk.injEq] at hh
          obtain ⟨rfl, rfl⟩ := hh
          exact ⟨f, n, s, e, i, b, tls, hd, hit⟩
        | ref => cases hh
        | staticLocal => cases hh
        | str => cases hh
  · rintro ⟨f, n, s, e, i, b, tls, hd, hb⟩
    exact ⟨_, hd, List.mem_filterMap.mpr ⟨_, hb, rfl⟩⟩

theorem blockExternNames_eq (ds : List Decl) : blockExternNames ds = (blockExterns ds).map (·.1) := by
  unfold blockExternNames blockExterns
  rw [List.map_flatMap]
  congr 1; funext d
  cases d with
  | obj => rfl
  | func f n s e i body =>
    cases body with
    | none => rfl
    | some b =>
      simp only [List.map_filterMap]
      congr 1; funext it; cases it <;> rfl

theorem mem_blockExternNames {ds : List Decl} {x : Name} :
    x ∈ blockExternNames ds ↔ ∃ f n s e i b tls ty, Decl.func f n s e i (some b) ∈ ds ∧ BodyItem.externObj x tls ty ∈ b := by
  rw [blockExternNames_eq, List.mem_map]
  constructor
  · rintro ⟨⟨y, ty⟩, h, rfl⟩
    obtain ⟨f, n, s, e, i, b, tls, h⟩ := mem_blockExterns.mp h
    exact ⟨f, n, s, e, i, b, tls, ty, h⟩
  · rintro ⟨f, n, s, e, i, b, tls, ty, h⟩
    exact ⟨(x, ty), mem_blockExterns.mpr ⟨f, n, s, e, i, b, tls, h⟩, rfl⟩

/-- what the file-scope initializers mention, for either kind of reference (`F` = `initFnRefs` / `initObjRefs`) -/
theorem mem_fileRefs {F : List InitItem → List Name} {ds : List Decl} {g : Name} :
    g ∈ ds.flatMap (fun d => match d with | .obj _ _ _ _ _ (some init) => F init | _ => []) ↔
      ∃ x s e t ty items, Decl.obj x s e t ty (some items) ∈ ds ∧ g ∈ F items := by
  rw [List.mem_flatMap]
  constructor
  · rintro ⟨d, hd, hx⟩
    cases d with
    | func => cases hx
    | obj x s e t ty init =>
      cases init with
      | none => cases hx
      | some items => exact ⟨x, s, e, t, ty, items, hd, hx⟩
  · rintro ⟨x, s, e, t, ty, items, hd, hg⟩
    exact ⟨_, hd, hg⟩

theorem mem_fileFnRefs {ds : List Decl} {g : Name} :
    g ∈ fileFnRefs ds ↔ ∃ x s e t ty items, Decl.obj x s e t ty (some items) ∈ ds ∧ g ∈ initFnRefs items :=
  mem_fileRefs

theorem mem_fileObjRefs {ds : List Decl} {y : Name} :
    y ∈ fileObjRefs ds ↔ ∃ x s e t ty items, Decl.obj x s e t ty (some items) ∈ ds ∧ y ∈ initObjRefs items :=
  mem_fileRefs

/-! ### what `refsOrdered` gives -/

theorem mem_bodyFnRefs {b : List BodyItem} {g : Name} :
    g ∈ bodyFnRefs b ↔ BodyItem.ref (.fn g) ∈ b ∨ ∃ tls ty items, BodyItem.staticLocal tls ty (some items) ∈ b ∧ g ∈ initFnRefs items := by
  unfold bodyFnRefs
  rw [List.mem_flatMap]
  constructor
  · rintro ⟨it, hit, hg⟩
    cases it with
    | ref r =>
      cases r with
      | fn g' => simp only [List.mem_singleton] at hg; subst hg; exact Or.inl hit
      | obj x => simp at hg
    | staticLocal tls ty init =>
      cases init with
      | none => simp at hg
      | some items => exact Or.inr ⟨tls, ty, items, hit, hg⟩
    | str => simp at hg
    | externObj => simp at hg
  · rintro (h | ⟨tls, ty, items, hit, hg⟩)
    · exact ⟨_, h, by simp⟩
    · exact ⟨_, hit, hg⟩

theorem mem_bodyObjRefs {b : List BodyItem} {x : Name} :
    x ∈ bodyObjRefs b ↔ BodyItem.ref (.obj x) ∈ b ∨ ∃ tls ty items, BodyItem.staticLocal tls ty (some items) ∈ b ∧ x ∈ initObjRefs items := by
  unfold bodyObjRefs
  rw [List.mem_flatMap]
  constructor
  · rintro ⟨it, hit, hg⟩
    cases it with
    | ref r =>
      cases r with
      | obj y => simp only [List.mem_singleton] at hg; subst hg; exact Or.inl hit
      | fn g => simp at hg
    | staticLocal tls ty init =>
      cases init with
      | none => simp at hg
      | some items => exact Or.inr ⟨tls, ty, items, hit, hg⟩
    | str => simp at hg
    | externObj => simp at hg
  · rintro (h | ⟨tls, ty, items, hit, hg⟩)
    · exact ⟨_, h, by simp⟩
    · exact ⟨_, hit, hg⟩

theorem bodyOrdered_refs {fs : List Name} : ∀ (b : List BodyItem) (xs : List Name), bodyOrdered fs xs b = true →
    (∀ g, g ∈ bodyFnRefs b → g ∈ fs) ∧
    (∀ x, x ∈ bodyObjRefs b → x ∈ xs ∨ ∃ tls ty, BodyItem.externObj x tls ty ∈ b)
  | [], _, _ => ⟨fun _ h => (nomatch h), fun _ h => (nomatch h)⟩
  | it :: rest, xs, h => by
    have later : ∀ {x}, (∃ tls ty, BodyItem.externObj x tls ty ∈ rest) → ∃ tls ty, BodyItem.externObj x tls ty ∈ it :: rest :=
      fun ⟨tls, ty, h'⟩ => ⟨tls, ty, List.mem_cons_of_mem _ h'⟩
    -- the references of `it :: rest` are those of `it` followed by those of `rest` (by `rfl` in each case below)
    cases it with
    | ref r =>
      cases r with
      | fn g' =>
        simp only [bodyOrdered, Bool.and_eq_true] at h
        obtain ⟨ih1, ih2⟩ := bodyOrdered_refs rest xs h.2
        refine ⟨fun g hg => ?_, fun x hx => (ih2 x hx).imp_right later⟩
        rcases List.mem_cons.mp (show g ∈ g' :: bodyFnRefs rest from hg) with rfl | hg
        · simpa using h.1
        · exact ih1 g hg
      | obj y =>
        simp only [bodyOrdered, Bool.and_eq_true] at h
        obtain ⟨ih1, ih2⟩ := bodyOrdered_refs rest xs h.2
        refine ⟨ih1, fun x hx => ?_⟩
        rcases List.mem_cons.mp (show x ∈ y :: bodyObjRefs rest from hx) with rfl | hx
        · exact Or.inl (by simpa using h.1)
        · exact (ih2 x hx).imp_right later
    | staticLocal tls ty init =>
      cases init with
      | none =>
        obtain ⟨ih1, ih2⟩ := bodyOrdered_refs rest xs h
        exact ⟨ih1, fun x hx => (ih2 x hx).imp_right later⟩
      | some items =>
        simp only [bodyOrdered, Bool.and_eq_true] at h
        obtain ⟨ih1, ih2⟩ := bodyOrdered_refs rest xs h.2
        refine ⟨fun g hg => ?_, fun x hx => ?_⟩
        · rcases List.mem_append.mp (show g ∈ initFnRefs items ++ bodyFnRefs rest from hg) with hg | hg
          · exact all_contains h.1.1 g hg
          · exact ih1 g hg
        · rcases List.mem_append.mp (show x ∈ initObjRefs items ++ bodyObjRefs rest from hx) with hx | hx
          · exact Or.inl (all_contains h.1.2 x hx)
          · exact (ih2 x hx).imp_right later
    | str n =>
      obtain ⟨ih1, ih2⟩ := bodyOrdered_refs rest xs h
      exact ⟨ih1, fun x hx => (ih2 x hx).imp_right later⟩
    | externObj y tls ty =>
      obtain ⟨ih1, ih2⟩ := bodyOrdered_refs rest (y :: xs) h
      refine ⟨ih1, fun x hx => ?_⟩
      rcases ih2 x hx with h' | h'
      · rcases List.mem_cons.mp h' with rfl | h'
        · exact Or.inr ⟨tls, ty, List.mem_cons_self⟩
        · exact Or.inl h'
      · exact Or.inr (later h')

/-- every identifier the tail `ds` of the unit `ds0` mentions is declared in the unit, when those in scope at its start are -/
theorem refsOrdered_declared {ds0 : List Decl} : ∀ (ds : List Decl) (fs xs : List Name), (∀ d, d ∈ ds → d ∈ ds0) →
    (∀ g, g ∈ fs → g ∈ fnNames ds0) → (∀ x, x ∈ xs → x ∈ objNames ds0) → refsOrdered ds fs xs = true →
    (∀ g, g ∈ fileFnRefs ds → g ∈ fnNames ds0) ∧
    (∀ f n s e i b, Decl.func f n s e i (some b) ∈ ds → ∀ g, g ∈ bodyFnRefs b → g ∈ fnNames ds0) ∧
    (∀ y, y ∈ fileObjRefs ds → y ∈ objNames ds0) ∧
    (∀ f n s e i b, Decl.func f n s e i (some b) ∈ ds → ∀ y, y ∈ bodyObjRefs b →
      y ∈ objNames ds0 ∨ ∃ tls ty, BodyItem.externObj y tls ty ∈ b)
  | [], _, _, _, _, _, _ => ⟨fun _ h => (nomatch h), fun _ _ _ _ _ _ h => (nomatch h), fun _ h => (nomatch h),
      fun _ _ _ _ _ _ h => (nomatch h)⟩
  | .func f n s e i body :: ds, fs, xs, hsub, hfs, hxs, h => by
    simp only [refsOrdered, Bool.and_eq_true] at h
    have hfs' : ∀ g, g ∈ f :: fs → g ∈ fnNames ds0 := fun g hg => by
      rcases List.mem_cons.mp hg with rfl | hg
      · exact mem_fnNames_of_mem (hsub _ List.mem_cons_self)
      · exact hfs g hg
    obtain ⟨i1, i2, i3, i4⟩ := refsOrdered_declared ds (f :: fs) xs (fun d hd => hsub d (List.mem_cons_of_mem _ hd)) hfs' hxs h.2
    -- a function declaration adds nothing to `fileFnRefs`, `fileObjRefs` (by `rfl`)
    refine ⟨i1, fun f' n' s' e' i' b' hm g hg => ?_, i3, fun f' n' s' e' i' b' hm y hy => ?_⟩
    · rcases List.mem_cons.mp hm with hm | hm
      · cases hm
        exact hfs' g ((bodyOrdered_refs b' xs h.1).1 g hg)
      · exact i2 f' n' s' e' i' b' hm g hg
    · rcases List.mem_cons.mp hm with hm | hm
      · cases hm
        exact ((bodyOrdered_refs b' xs h.1).2 y hy).imp_left (hxs y)
      · exact i4 f' n' s' e' i' b' hm y hy
  | .obj x s e t ty init :: ds, fs, xs, hsub, hfs, hxs, h => by
    simp only [refsOrdered, Bool.and_eq_true] at h
    have hxs' : ∀ y, y ∈ x :: xs → y ∈ objNames ds0 := fun y hy => by
      rcases List.mem_cons.mp hy with rfl | hy
      · exact mem_objNames_of_mem (hsub _ List.mem_cons_self)
      · exact hxs y hy
    obtain ⟨i1, i2, i3, i4⟩ := refsOrdered_declared ds fs (x :: xs) (fun d hd => hsub d (List.mem_cons_of_mem _ hd)) hfs hxs' h.2
    have tail : ∀ {f' n' s' e' i' b'}, Decl.func f' n' s' e' i' (some b') ∈ Decl.obj x s e t ty init :: ds →
        Decl.func f' n' s' e' i' (some b') ∈ ds := fun hm => by
      rcases List.mem_cons.mp hm with hm | hm
      · cases hm
      · exact hm
    refine ⟨fun g hg => ?_, fun f' n' s' e' i' b' hm => i2 f' n' s' e' i' b' (tail hm), fun y hy => ?_,
      fun f' n' s' e' i' b' hm => i4 f' n' s' e' i' b' (tail hm)⟩
    · cases init with
      | none => exact i1 g hg
      | some items =>
        rw [fileFnRefs_cons_obj_some, List.mem_append] at hg
        simp only [Bool.and_eq_true] at h
        exact hg.elim (fun hg => hfs g (all_contains h.1.1 g hg)) (i1 g)
    · cases init with
      | none => exact i3 y hy
      | some items =>
        rw [fileObjRefs_cons_obj_some, List.mem_append] at hy
        simp only [Bool.and_eq_true] at h
        exact hy.elim (fun hy => hxs' y (all_contains h.1.2 y hy)) (i3 y)

/-- a file-scope initializer names `f` after its declaration: `fileRooted` is plain membership -/
theorem fileRooted_eq : ∀ (ds : List Decl) (fs xs : List Name) (dcl : Bool) (f : Name), refsOrdered ds fs xs = true →
    (f ∈ fs → dcl = true) → fileRooted ds dcl f = (fileFnRefs ds).contains f
  | [], _, _, _, _, _, _ => rfl
  | .func g n s e i body :: ds, fs, xs, dcl, f, h, hd => by
    simp only [refsOrdered, Bool.and_eq_true] at h
    refine fileRooted_eq ds (g :: fs) xs (dcl || g == f) f h.2 fun hm => ?_
    rcases List.mem_cons.mp hm with rfl | hm
    · simp
    · simp [hd hm]
  | .obj x s e t ty none :: ds, fs, xs, dcl, f, h, hd => by
    simp only [refsOrdered, Bool.and_eq_true] at h
    simp only [fileRooted, Bool.and_false, Bool.false_or]
    exact fileRooted_eq ds fs (x :: xs) dcl f h.2 hd
  | .obj x s e t ty (some items) :: ds, fs, xs, dcl, f, h, hd => by
    simp only [refsOrdered, Bool.and_eq_true] at h
    simp only [fileRooted, fileFnRefs_cons_obj_some, List.contains_eq_mem, List.mem_append, Bool.decide_or]
    rw [fileRooted_eq ds fs (x :: xs) dcl f h.2 hd, List.contains_eq_mem]
    by_cases hc : f ∈ initFnRefs items
    · simp [hc, hd (all_contains h.1.1 f hc)]
    · simp [hc]

/-! ### the body of a function -/

theorem firstFlags_isSome {ds : List Decl} {f : Name} : (firstFlags ds f).isSome = true ↔ f ∈ fnNames ds := by
  rw [firstFlags_eq, mem_fnNames]
  cases fnDecls ds f <;> simp

theorem flatMap_bodies_eq : ∀ (D : List FnDecl), (D.filter (fun d => d.body.isSome)).length ≤ 1 →
    D.flatMap declRefs = bodyFnRefs (fnBody D)
  | [], _ => rfl
  | d :: D, h => by
    obtain ⟨h', hrest⟩ := oneBody_cons h
    cases hb : d.body with
    | none =>
      rw [List.flatMap_cons, flatMap_bodies_eq D h']
      simp [declRefs, fnBody, List.findSome?, hb]
    | some b =>
      have : D.flatMap declRefs = [] := by
        rw [List.flatMap_eq_nil_iff]
        intro x hx
        rw [declRefs, hrest (by rw [hb]; rfl) x hx]
      rw [List.flatMap_cons, this]
      simp [declRefs, fnBody, List.findSome?, hb]

theorem fnBody_undefined {D : List FnDecl} (h : fnDefined D = false) : fnBody D = [] := by
  unfold fnDefined at h
  rw [List.any_eq_false] at h
  unfold fnBody
  have : D.findSome? (·.body) = none := by
    rw [List.findSome?_eq_none_iff]
    intro x hx
    have := h x hx
    cases hxb : x.body <;> simp_all
  rw [this]

theorem mem_fnBody {D : List FnDecl} (h : fnDefined D = true) : ∃ d, d ∈ D ∧ d.body = some (fnBody D) := by
  unfold fnBody
  cases hf : D.findSome? (·.body) with
  | none =>
    rw [List.findSome?_eq_none_iff] at hf
    unfold fnDefined at h
    rw [List.any_eq_true] at h
    obtain ⟨d, hd, hb⟩ := h
    have := hf d hd
    rw [this] at hb; cases hb
  | some b =>
    obtain ⟨d, hd, hb⟩ := List.exists_of_findSome?_eq_some hf
    exact ⟨d, hd, hb⟩

theorem body_unique {D : List FnDecl} (h1 : (D.filter (fun d => d.body.isSome)).length ≤ 1) {d : FnDecl} {b : List BodyItem}
    (hd : d ∈ D) (hb : d.body = some b) : b = fnBody D := by
  induction D with
  | nil => cases hd
  | cons a as ih =>
    obtain ⟨h', hrest⟩ := oneBody_cons h1
    cases ha : a.body with
    | none =>
      rcases List.mem_cons.mp hd with rfl | hd
      · rw [ha] at hb; cases hb
      · rw [ih h' hd]
        simp [fnBody, List.findSome?, ha]
    | some b' =>
      rcases List.mem_cons.mp hd with rfl | hd
      · rw [ha] at hb; cases hb
        simp [fnBody, List.findSome?, ha]
      · rw [hrest (by rw [ha]; rfl) d hd] at hb
        cases hb

theorem body_decl {ds : List Decl} {f : Name} (h : fnDefined (fnDecls ds f) = true) :
    ∃ n s e i, Decl.func f n s e i (some (fnBody (fnDecls ds f))) ∈ ds := by
  obtain ⟨d, hd, hb⟩ := mem_fnBody h
  obtain ⟨n, hm⟩ := mem_fnDecls.mp hd
  rw [hb] at hm
  exact ⟨n, _, _, _, hm⟩

theorem refs_declared {ds : List Decl} (h : refsOrdered ds [] [] = true) :
    (∀ g, g ∈ fileFnRefs ds → g ∈ fnNames ds) ∧
    (∀ f g, g ∈ bodyFnRefs (fnBody (fnDecls ds f)) → g ∈ fnNames ds) ∧
    (∀ y, y ∈ fileObjRefs ds → y ∈ objNames ds) ∧
    (∀ f y, y ∈ bodyObjRefs (fnBody (fnDecls ds f)) → y ∈ objNames ds ∨ y ∈ blockExternNames ds) := by
  obtain ⟨r1, r2, r3, r4⟩ := refsOrdered_declared ds [] [] (fun _ h => h) (fun _ h => nomatch h) (fun _ h => nomatch h) h
  have body : ∀ f, fnBody (fnDecls ds f) = [] ∨ ∃ n s e i, Decl.func f n s e i (some (fnBody (fnDecls ds f))) ∈ ds := fun f => by
    cases hD : fnDefined (fnDecls ds f)
    · exact Or.inl (fnBody_undefined hD)
    · exact Or.inr (body_decl hD)
  refine ⟨r1, fun f g hg => ?_, r3, fun f y hy => ?_⟩
  · rcases body f with h0 | ⟨n, s, e, i, hm⟩
    · rw [h0] at hg; cases hg
    · exact r2 f n s e i _ hm g hg
  · rcases body f with h0 | ⟨n, s, e, i, hm⟩
    · rw [h0] at hy; cases hy
    · exact (r4 f n s e i _ hm y hy).imp_right fun ⟨tls, ty, h'⟩ => mem_blockExternNames.mpr ⟨f, n, s, e, i, _, tls, ty, hm, h'⟩

/-! ### `is_definition` after `parse` -/

variable [Rules]

theorem isDefinition_parse {ds : List Decl} {st : PState} (h : declAll {} ds = .ok st) {f : Name} {o : Obj}
    (ho : findFunc st.globals f = some o) : o.isDefinition = fnDefined (fnDecls ds f) := by
  have hT := T_parse h f
  have h1 : (T st.globals f).map flagsOf = some (flagsOf (fview o)) := by simp [T, ho]
  rw [hT, flagsOf_evolve] at h1
  have h2 := flagsAfter_def ds f (Option.map flagsOf none)
  rw [h1] at h2
  by_cases h0 : fnDecls ds f = []
  · simp [h0] at h2
  · simp only [h0, if_false, Option.map_some, Option.map_none, Option.getD_none, Bool.false_or, Option.some.injEq] at h2
    exact h2

end ChibiVerif.Linkage
