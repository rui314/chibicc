/-
C20: the parser's labels occur in the generated code at most as often as in the tree.

`userDistinct ls` — the labels of the emitted code that come from the parser (`break`/`continue`/`case`
labels, labelled statements) occur once each — is what the label-height theorems need to know about the
emitted LINES.  This module derives it from a fact about the TREE:

  `treeDistinct n` (Model/C20Flow.lean): the labels the tree mentions (`labsN n`: every ND_FOR / ND_DO /
  ND_SWITCH / ND_CASE / ND_LABEL node contributes the labels `parse.c` gave it with
  `new_unique_name()`) are pairwise distinct.

The argument is a count: for every label `l`, `labCount l ls` — the number of lines `l:` in the code —
is at most `tcnt l n`, the number of mentions of `l` in the tree, because `gen_expr`/`gen_stmt` print
the code of every operand at most once and a label line `l:` only where the tree has the label
(`UC l m k`: whenever `m` succeeds its code defines `l` at most `k` times).  The labels made up from `count()`
and the numeric local labels are never spelled like a parser label.  The count is derived together with
`Dep` (Lemmas/C20Depth.lean) — both hold of every node kind under `okN` alone — as one judgment `DU`, arm by
arm in the order of the code, by one induction over the tree; `dexpr`/`daddr`/`dstmt` and `uexpr`/`uaddr`/`ustmt`
are its two halves.
-/
import ChibiVerif.Lemmas.C20Depth
import ChibiVerif.Lemmas.C20NodeSteps
import ChibiVerif.Lemmas.C20LabelBlocks

namespace ChibiVerif.Lemmas.C20
open ChibiVerif ChibiVerif.Codegen ChibiVerif.Effect ChibiVerif.Asm ChibiVerif.Ast ChibiVerif.C20Scope

/-- number of lines `l:` in a piece of code -/
def labCount (l : String) (ls : List Line) : Int := ((labelNames (ls.flatMap classify)).count l : Nat)

theorem labCount_append (l : String) (a b : List Line) : labCount l (a ++ b) = labCount l a + labCount l b := by
  simp [labCount, List.flatMap_append, labelNames_append', List.count_append]

theorem labCount_nil (l : String) : labCount l [] = 0 := rfl

theorem labCount_of_delta {l : String} {ls : List Line} {d : H} (h : delta ls = some d) : labCount l ls = 0 := by
  simp [labCount, labelNames_of_delta h]

theorem labCount_single {l : String} {line : Line} (h : lineLab line = none) : labCount l [line] = 0 := by
  simp [labCount, labelNames_classify, h]

/-- 1 if the label `n` is `l` -/
def isL (l n : String) : Int := ((if n == l then 1 else 0 : Nat) : Int)

theorem isL_nonneg (l n : String) : 0 ≤ isL l n := by unfold isL; omega

theorem labCount_label (l n : String) : labCount l [.label n] = isL l n := by
  simp [labCount, labelNames_classify, lineLab, isL, List.count_cons]

/-- number of mentions of `l` among the parser's labels of a tree -/
def tcnt (l : String) (n : Node) : Int := ((labsN n).count l : Nat)
def tcntL (l : String) (ns : NodeList) : Int := ((labsL ns).count l : Nat)

theorem tcnt_nonneg (l : String) (n : Node) : 0 ≤ tcnt l n := by unfold tcnt; omega
theorem tcntL_nonneg (l : String) (ns : NodeList) : 0 ≤ tcntL l ns := by unfold tcntL; omega

section eqs
variable (l : String) (i : NInfo)

theorem tcnt_null : tcnt l .null = 0 := by simp [tcnt, labsN]
theorem tcnt_nullExpr : tcnt l (.nullExpr i) = 0 := by simp [tcnt, labsN]
theorem tcnt_num (a : Int) (b c d e : Nat) : tcnt l (.num i a b c d e) = 0 := by simp [tcnt, labsN]
theorem tcnt_var (v : Option Var) : tcnt l (.var i v) = 0 := by simp [tcnt, labsN]
theorem tcnt_vlaPtr (v : Option Var) : tcnt l (.vlaPtr i v) = 0 := by simp [tcnt, labsN]
theorem tcnt_memzero (v : Option Var) : tcnt l (.memzero i v) = 0 := by simp [tcnt, labsN]
theorem tcnt_labelVal (a b : Option String) : tcnt l (.labelVal i a b) = 0 := by simp [tcnt, labsN]
theorem tcnt_goto (a b : Option String) : tcnt l (.goto_ i a b) = 0 := by simp [tcnt, labsN]
theorem tcnt_asm (a : Option String) : tcnt l (.asm_ i a) = 0 := by simp [tcnt, labsN]
theorem tcnt_neg (a : Node) : tcnt l (.neg i a) = tcnt l a := by simp [tcnt, labsN]
theorem tcnt_deref (a : Node) : tcnt l (.deref i a) = tcnt l a := by simp [tcnt, labsN]
theorem tcnt_not (a : Node) : tcnt l (.not i a) = tcnt l a := by simp [tcnt, labsN]
theorem tcnt_bitnot (a : Node) : tcnt l (.bitnot i a) = tcnt l a := by simp [tcnt, labsN]
theorem tcnt_cast (a : Node) : tcnt l (.cast i a) = tcnt l a := by simp [tcnt, labsN]
theorem tcnt_member (a : Node) (m : Option Member) : tcnt l (.member i a m) = tcnt l a := by simp [tcnt, labsN]
theorem tcnt_addr (a : Node) : tcnt l (.addr i a) = tcnt l a := by simp [tcnt, labsN]
theorem tcnt_gotoExpr (a : Node) : tcnt l (.gotoExpr i a) = tcnt l a := by simp [tcnt, labsN]
theorem tcnt_exprStmt (a : Node) : tcnt l (.exprStmt i a) = tcnt l a := by simp [tcnt, labsN]
theorem tcnt_ret (a : Node) : tcnt l (.ret i a) = tcnt l a := by simp [tcnt, labsN]
theorem tcnt_assign (a b : Node) : tcnt l (.assign i a b) = tcnt l a + tcnt l b := by
  simp [tcnt, labsN, List.count_append]
theorem tcnt_comma (a b : Node) : tcnt l (.comma i a b) = tcnt l a + tcnt l b := by
  simp [tcnt, labsN, List.count_append]
theorem tcnt_binop (op : BinOp) (a b : Node) : tcnt l (.binop i op a b) = tcnt l a + tcnt l b := by
  simp [tcnt, labsN, List.count_append]
theorem tcnt_logand (a b : Node) : tcnt l (.logand i a b) = tcnt l a + tcnt l b := by
  simp [tcnt, labsN, List.count_append]
theorem tcnt_logor (a b : Node) : tcnt l (.logor i a b) = tcnt l a + tcnt l b := by
  simp [tcnt, labsN, List.count_append]
theorem tcnt_exch (a b : Node) : tcnt l (.exch i a b) = tcnt l a + tcnt l b := by
  simp [tcnt, labsN, List.count_append]
theorem tcnt_cond (a b c : Node) : tcnt l (.cond i a b c) = tcnt l a + (tcnt l b + tcnt l c) := by
  simp [tcnt, labsN, List.count_append]
theorem tcnt_cas (a b c : Node) : tcnt l (.cas i a b c) = tcnt l a + (tcnt l b + tcnt l c) := by
  simp [tcnt, labsN, List.count_append]
theorem tcnt_if (a b c : Node) : tcnt l (.if_ i a b c) = tcnt l a + (tcnt l b + tcnt l c) := by
  simp [tcnt, labsN, List.count_append]
theorem tcnt_funcall (f : Node) (fty : Int) (rb : Option Var) (args : NodeList) :
    tcnt l (.funcall i f fty rb args) = tcnt l f + tcntL l args := by
  simp [tcnt, tcntL, labsN, List.count_append]
theorem tcnt_stmtExpr (body : NodeList) : tcnt l (.stmtExpr i body) = tcntL l body := by simp [tcnt, tcntL, labsN]
theorem tcnt_block (body : NodeList) : tcnt l (.block i body) = tcntL l body := by simp [tcnt, tcntL, labsN]
theorem tcnt_for (init c inc t : Node) (brk cont : Option String) :
    tcnt l (.for_ i init c inc t brk cont) =
      tcnt l init + (tcnt l c + (tcnt l inc + (tcnt l t + (isL l (cstr cont) + isL l (cstr brk))))) := by
  simp [tcnt, labsN, List.count_append, List.count_cons, isL]
  omega
theorem tcnt_do (t c : Node) (brk cont : Option String) :
    tcnt l (.do_ i t c brk cont) = tcnt l t + (tcnt l c + (isL l (cstr cont) + isL l (cstr brk))) := by
  simp [tcnt, labsN, List.count_append, List.count_cons, isL]
  omega
theorem tcnt_switch (c t : Node) (brk : Option String) (cases : List Case) (dflt : Option (Option String)) :
    tcnt l (.switch_ i c t brk cases dflt) = tcnt l c + (tcnt l t + isL l (cstr brk)) := by
  simp [tcnt, labsN, List.count_append, List.count_cons, isL]
theorem tcnt_case (a b : Int) (lbl : Option String) (lhs : Node) :
    tcnt l (.case_ i a b lbl lhs) = isL l (cstr lbl) + tcnt l lhs := by
  simp [tcnt, labsN, List.count_cons, isL]
  omega
theorem tcnt_label (a ul : Option String) (lhs : Node) :
    tcnt l (.label i a ul lhs) = isL l (cstr ul) + tcnt l lhs := by
  simp [tcnt, labsN, List.count_cons, isL]
  omega
theorem tcntL_nil : tcntL l .nil = 0 := by simp [tcntL, labsL]
theorem tcntL_cons (n : Node) (rest : NodeList) : tcntL l (.cons n rest) = tcnt l n + tcntL l rest := by
  simp [tcnt, tcntL, labsL, List.count_append]
end eqs

/-- whenever `m` succeeds, its code has at most `k` lines `l:` -/
def UC (l : String) (m : M α) (k : Int) : Prop :=
  ∀ (s : St) (a : α) (s' : St) (ls : List Line), m s = .ok (a, s', ls) → labCount l ls ≤ k

variable {l : String}

theorem UC.cast {m : M α} {k k' : Int} (h : UC l m k) (hk : k ≤ k') : UC l m k' :=
  fun s a s' ls hm => Int.le_trans (h s a s' ls hm) hk

theorem UC.elim {m : M α} {k : Int} (h : UC l m k) {s : St} {a : α} {s' : St} {ls : List Line}
    (hm : m s = .ok (a, s', ls)) : labCount l ls ≤ k := h s a s' ls hm

theorem UC_of_Sem {m : M α} (h : Sem m r x d) : UC l m 0 := by
  intro s a s' ls hm
  have := (h.elim hm).1
  rw [labCount_of_delta this]
  exact Int.le_refl 0

theorem UC_pure (a : α) : UC l (pure a : M α) 0 := UC_of_Sem (Sem_pure a)
theorem UC_fail (msg : String) : UC l (fail msg : M α) k := by
  intro s a s' ls hm; cases hm

theorem UC_emits {ls : List Line} (h : labCount l ls = 0) : UC l (emits ls) 0 := by
  intro s a s' ls' hm
  simp only [emits, Except.ok.injEq, Prod.mk.injEq] at hm
  rw [← hm.2.2, h]
  exact Int.le_refl 0

theorem UC_emit_ins (i : Ins) : UC l (emit (.ins i)) 0 := UC_emits (ls := [.ins i]) (labCount_single rfl)

theorem UC_emit_insA (i : Ins) (note : String) : UC l (emit (.insA i note)) 0 :=
  UC_emits (ls := [.insA i note]) (labCount_single rfl)

/-- a label line: one mention if it is `l` -/
theorem UC_emit_label (n : String) : UC l (emit (.label n)) (isL l n) := by
  intro s a s' ls hm
  simp only [emit, Except.ok.injEq, Prod.mk.injEq] at hm
  rw [← hm.2.2, labCount_label]
  exact Int.le_refl _

/-- a label that is not spelled like a parser label is not the parser label `l` -/
theorem UC_emit_label_other (hl : userLabel l = true) (n : String) (hn : userLabel n = false) :
    UC l (emit (.label n)) 0 := by
  refine (UC_emit_label n).cast ?_
  have : (n == l) = false := by
    simp only [beq_eq_false_iff_ne, ne_eq]
    intro e
    rw [e, hl] at hn
    cases hn
  simp [isL, this]

theorem UC_bind_ret {m : M α} {f : α → M β} {P : α → Prop} {k1 k2 : Int} (h1 : UC l m k1) (hr : Ret m P)
    (h2 : ∀ a, P a → UC l (f a) k2) : UC l (m >>= f) (k1 + k2) := by
  intro s b s' ls h
  obtain ⟨a, s1, l1, l2, hm, hf, rfl⟩ := bind_ok h
  rw [labCount_append]
  have e1 := h1 _ _ _ _ hm
  have e2 := h2 a (hr _ _ _ _ hm) _ _ _ _ hf
  omega

theorem UC_bind {m : M α} {f : α → M β} {k1 k2 : Int} (h1 : UC l m k1) (h2 : ∀ a, UC l (f a) k2) :
    UC l (m >>= f) (k1 + k2) :=
  UC_bind_ret h1 (Ret_any m) fun a _ => h2 a

theorem UC_bind_td {m : M α} {f : α → M β} {k k1 : Int} (h1 : UC l m k1) (h2 : ∀ a, UC l (f a) (k - k1)) :
    UC l (m >>= f) k :=
  (UC_bind h1 h2).cast (by omega)

/-! ### depth and label count together

What holds of the code of every node without any typing is derived in one pass: `depth` moves by `d` and the
parser label `l` is defined at most `k` times.  An arm is accounted for by one chain in the order of its code:
`DU_bind` at an operand (`DU_bind0`: one that leaves `depth` alone), `DU_e` at a block whose effect is on record
(only its `depth` counts: straight-line code has no label; `DU_s`: the same with the effect given), `DU_n` at a
printed line that is not a label, `DU_z` at a step that neither moves `depth` nor can define `l` (a counter
label), `DU_first` for an operand followed by label-free code.  A chain is positional: when a line of the arm
moves in Model/Codegen the error is a unification failure inside the chain; read it against the `do` block (for
`casArm`, `ifArm`, `forArm`, `switchArm`, `returnArm`: against their sequence forms in Lemmas/C20ArmForms.lean). -/

def DU (l : String) (m : M α) (d k : Int) : Prop := Dep m d ∧ UC l m k

theorem DU.cast {m : M α} {d d' k k' : Int} (h : DU l m d k) (hd : d = d') (hk : k ≤ k') : DU l m d' k' :=
  ⟨h.1.cast hd, h.2.cast hk⟩

theorem DU.dep {m : M α} {d k : Int} (h : DU l m d k) : Dep m d := h.1
theorem DU.uc {m : M α} {d k : Int} (h : DU l m d k) : UC l m k := h.2

theorem DU_of_Sem {m : M α} {r x d : Int} (h : Sem m r x d) : DU l m d 0 := ⟨Dep_of_SemP h, UC_of_Sem h⟩

theorem DU_fail (msg : String) {d k : Int} : DU l (fail msg : M α) d k := ⟨Dep_fail _, UC_fail _⟩

theorem DU_emits {ls : List Line} (h : labCount l ls = 0) : DU l (emits ls) 0 0 := ⟨Dep_emits _, UC_emits h⟩

theorem DU_emit {line : Line} (h : lineLab line = none) : DU l (emit line) 0 0 :=
  ⟨Dep_emits [line], UC_emits (ls := [line]) (labCount_single h)⟩

theorem DU_label (n : String) : DU l (emit (.label n)) 0 (isL l n) := ⟨Dep_emits [_], UC_emit_label n⟩

/-- a numeric local label, or any other label not spelled like a parser label -/
theorem DU_other (hl : userLabel l = true) (n : String) (hn : userLabel n = false) : DU l (emit (.label n)) 0 0 :=
  ⟨Dep_emits [_], UC_emit_label_other hl n hn⟩

/-- a label made up from `count()` -/
theorem DU_ctr (hl : userLabel l = true) {t : String} (ht : t ∈ ctrTags) (k : Nat) :
    DU l (emit (.label (ctr t k))) 0 0 :=
  DU_other hl _ (by simp [userLabel, isCtr_ctr ht k])

theorem DU_bind {m : M α} {f : α → M β} {d1 d2 k1 k2 : Int} (h1 : DU l m d1 k1) (h2 : ∀ a, DU l (f a) d2 k2) :
    DU l (m >>= f) (d1 + d2) (k1 + k2) :=
  ⟨Dep_bind h1.1 fun a => (h2 a).1, UC_bind h1.2 fun a => (h2 a).2⟩

theorem DU_s {m : M α} {f : α → M β} {r x d1 d2 k : Int} (h1 : Sem m r x d1) (h2 : ∀ a, DU l (f a) d2 k) :
    DU l (m >>= f) (d1 + d2) k :=
  (DU_bind (DU_of_Sem h1) h2).cast rfl (by omega)

theorem DU_e {m : M α} {f : α → M β} {r x d1 d2 k : Int} [Eff m r x d1] (h2 : ∀ a, DU l (f a) d2 k) :
    DU l (m >>= f) (d1 + d2) k :=
  DU_s Eff.sem h2

theorem DU_z {m : M α} {f : α → M β} {d k : Int} (h1 : DU l m 0 0) (h2 : ∀ a, DU l (f a) d k) :
    DU l (m >>= f) d k :=
  (DU_bind h1 h2).cast (by omega) (by omega)

theorem DU_n {line : Line} {f : Unit → M β} {d k : Int} (hn : lineLab line = none) (h2 : ∀ a, DU l (f a) d k) :
    DU l (emit line >>= f) d k :=
  DU_z (DU_emit hn) h2

/-- an operand, then code without labels -/
theorem DU_first {a : M Unit} {rest : M β} {k r x d : Int} (h : DU l a 0 k) (hr : Sem rest r x d) :
    DU l (a >>= fun _ => rest) d k :=
  (DU_bind h fun _ => DU_of_Sem hr).cast (by omega) (by omega)

attribute [irreducible] UC isL DU

theorem labCount_ladder (wide : Bool) (cases : List Case) : labCount l (cases.flatMap (caseLadder wide)) = 0 := by
  unfold labCount
  rw [nolab_ladder]
  rfl

theorem DU_addrMember {a : M Unit} {k : Int} (h : DU l a 0 k) (mem : Option Member) : DU l (addrMember a mem) 0 k := by
  obtain ⟨tail, ht, e⟩ := addrMember_split mem
  rw [e]
  exact DU_first h ht

theorem DU_negArm (i : NInfo) {lhs : M Unit} {k : Int} (h : DU l lhs 0 k) : DU l (negArm i lhs) 0 k := by
  obtain ⟨tail, ht, e⟩ := negArm_split i
  rw [e]
  exact DU_first h ht

theorem DU_memberArm (i : NInfo) {a : M Unit} {k : Int} (h : DU l a 0 k) (mem : Option Member) (env : Env) :
    DU l (memberArm i a mem env) 0 k := by
  obtain ⟨tail, ht, e⟩ := memberArm_split i mem env
  rw [e]
  exact DU_first (DU_addrMember h mem) ht

theorem DU_notArm {lhs : M Unit} (lty : Option Ty) {k : Int} (h : DU l lhs 0 k) : DU l (notArm lhs lty) 0 k := by
  obtain ⟨tail, ht, e⟩ := notArm_split lty
  rw [e]
  exact DU_first h ht

theorem DU_assignArm (env : Env) (i : NInfo) (bf : Option Member) {a r : M Unit} {ka kr : Int}
    (ha : DU l a 0 ka) (hr : DU l r 0 kr) : DU l (assignArm env i bf a r) 0 (ka + kr) := by
  obtain ⟨tail, ht, e⟩ := assignArm_split env i bf
  rw [e]
  exact DU.cast (DU_bind ha fun _ => DU_e fun _ => DU_bind hr fun _ => DU_of_Sem ht) (by omega) (by omega)

theorem DU_exchArm (env : Env) {lhs rhs : M Unit} (lty : Option Ty) {k1 k2 : Int} (h1 : DU l lhs 0 k1)
    (h2 : DU l rhs 0 k2) : DU l (exchArm env lhs lty rhs) 0 (k1 + k2) := by
  obtain ⟨tail, ht, e⟩ := exchArm_split env lty
  rw [e]
  exact DU.cast (DU_bind h1 fun _ => DU_e fun _ => DU_bind h2 fun _ => DU_e fun _ => DU_of_Sem ht)
    (by omega) (by omega)

theorem DU_binopArm (i : NInfo) (op : BinOp) {lhs rhs : M Unit} (lty : Option Ty) {k1 k2 : Int}
    (h1 : DU l lhs 0 k1) (h2 : DU l rhs 0 k2) : DU l (binopArm i op lhs lty rhs) 0 (k1 + k2) := by
  unfold binopArm
  refine DU.cast (DU_e fun lty' => ?_) (Int.zero_add 0) (Int.le_refl _)
  have g1 : ∀ sz, sz = "ss" ∨ sz = "sd" → DU l (binopFlo sz op lhs rhs) 0 (k1 + k2) := fun sz hsz => by
    obtain ⟨tail, ht, e⟩ := binopFlo_split sz hsz op
    rw [e]
    exact DU.cast (DU_bind h2 fun _ => DU_e fun _ => DU_bind h1 fun _ => DU_e fun _ => DU_of_Sem ht)
      (by omega) (by omega)
  split
  · exact g1 _ (.inl rfl)
  · exact g1 _ (.inr rfl)
  · obtain ⟨tail, ht, e⟩ := binopLd_split op
    rw [e]
    exact DU.cast (DU_bind h1 fun _ => DU_bind h2 fun _ => DU_of_Sem ht) (by omega) (by omega)
  · obtain ⟨tail, ht, e⟩ := binopInt_split i op lty'
    rw [e]
    exact DU.cast (DU_bind h2 fun _ => DU_e fun _ => DU_bind h1 fun _ => DU_e fun _ => DU_of_Sem ht)
      (by omega) (by omega)

theorem DU_optRun (e : Option (M Unit)) {k : Int} (he : ∀ x, e = some x → DU l x 0 k) (hk : 0 ≤ k) :
    DU l (optRun e) 0 k := by
  cases e with
  | none => exact (DU_of_Sem (Sem_pure ())).cast rfl hk
  | some x => exact he x rfl

section arms
variable (hl : userLabel l = true)
include hl

theorem DU_condArm {c t e : M Unit} (cty : Option Ty) {kc kt ke : Int} (hc : DU l c 0 kc) (ht : DU l t 0 kt)
    (he : DU l e 0 ke) : DU l (condArm c cty t e) 0 (kc + (kt + ke)) := by
  unfold condArm
  exact DU.cast (DU_e fun k => DU_bind hc fun _ => DU_e fun _ => DU_n rfl fun _ => DU_bind ht fun _ =>
    DU_n rfl fun _ => DU_z (DU_ctr hl tag_else k) fun _ => DU_bind he fun _ => DU_ctr hl tag_end k)
    (by omega) (by omega)

theorem DU_shortCircuit {jop tag : String} (ht : tag ∈ ctrTags) (v1 v2 : Int) {lhs rhs : M Unit}
    (lty rty : Option Ty) {k1 k2 : Int} (h1 : DU l lhs 0 k1) (h2 : DU l rhs 0 k2) :
    DU l (shortCircuit jop tag v1 v2 lhs lty rhs rty) 0 (k1 + k2) := by
  unfold shortCircuit
  exact DU.cast (DU_e fun k => DU_bind h1 fun _ => DU_e fun _ => DU_n rfl fun _ => DU_bind h2 fun _ =>
    DU_e fun _ => DU_n rfl fun _ => DU_n rfl fun _ => DU_n rfl fun _ => DU_z (DU_ctr hl ht k) fun _ =>
    DU_n rfl fun _ => DU_ctr hl tag_end k) (by omega) (by omega)

theorem DU_casTail (sz : Int) : DU l (casTail sz) 0 0 := by
  unfold casTail
  exact DU.cast (DU_n rfl fun _ => DU_e fun _ => DU_n rfl fun _ => DU_z (DU_other hl "1" (by decide)) fun _ =>
    DU_emit rfl) (by omega) (by omega)

theorem DU_casArm (env : Env) {addr old new : M Unit} (aty oty nty : Option Ty) {ka ko kn : Int}
    (ha : DU l addr 0 ka) (ho : DU l old 0 ko) (hn : DU l new 0 kn) :
    DU l (casArm env addr aty old oty new nty) 0 (ka + (ko + kn)) := by
  rw [casArm_eq]
  exact DU.cast
    -- addr; push; new; nty; bitsToRax; push
    (DU_bind ha fun _ => DU_e fun _ => DU_bind hn fun _ => DU_e fun _ => DU_e fun _ => DU_e fun _ =>
    -- old; mov %rax,%r8; oty; obase; casLoadOld; pop %rdx; pop %rdi
    DU_bind ho fun _ => DU_n rfl fun _ => DU_e fun _ => DU_e fun _ => DU_e fun _ => DU_e fun _ => DU_e fun _ =>
    -- aty; bty; regDx; lock cmpxchg; sete; the tail
    DU_e fun _ => DU_e fun _ => DU_e fun _ => DU_n rfl fun _ => DU_n rfl fun _ => DU_casTail hl _)
    (by omega) (by omega)

theorem DU_ifArm {c t : M Unit} (cty : Option Ty) (e : Option (M Unit)) {kc kt ke : Int} (hc : DU l c 0 kc)
    (ht : DU l t 0 kt) (he : ∀ x, e = some x → DU l x 0 ke) (hke : 0 ≤ ke) :
    DU l (ifArm c cty t e) 0 (kc + (kt + ke)) := by
  rw [ifArm_eq]
  exact DU.cast (DU_e fun k => DU_bind hc fun _ => DU_e fun _ => DU_n rfl fun _ => DU_bind ht fun _ =>
    DU_n rfl fun _ => DU_z (DU_ctr hl tag_else k) fun _ => DU_bind (DU_optRun e he hke) fun _ =>
    DU_ctr hl tag_end k) (by omega) (by omega)

theorem DU_forArm {t : M Unit} (init : Option (M Unit)) (c inc : Option (M Unit × Option Ty)) (brk cont : Option String)
    {ki kc kinc kt : Int}
    (hi : ∀ x, init = some x → DU l x 0 ki) (hc : ∀ x, c = some x → DU l x.1 0 kc) (ht : DU l t 0 kt)
    (hinc : ∀ x, inc = some x → DU l x.1 0 kinc) (h0 : 0 ≤ ki ∧ 0 ≤ kc ∧ 0 ≤ kinc) :
    DU l (forArm init c t inc brk cont) 0 (ki + (kc + (kinc + (kt + (isL l (cstr cont) + isL l (cstr brk)))))) := by
  rw [forArm_eq]
  have hc' : DU l (forCond c brk) 0 kc := by
    unfold forCond
    cases c with
    | none => exact (DU_of_Sem (Sem_pure ())).cast rfl h0.2.1
    | some y =>
      exact DU.cast (DU_bind (hc y rfl) fun _ => DU_e fun _ => DU_emit rfl) (by omega) (by omega)
  have hinc' : DU l (forInc inc) 0 kinc := by
    unfold forInc
    cases inc with
    | none => exact (DU_of_Sem (Sem_pure ())).cast rfl h0.2.2
    | some z => exact DU_first (hinc z rfl) (Sem_discard z.2)
  exact DU.cast (DU_e fun k => DU_bind (DU_optRun init hi h0.1) fun _ => DU_z (DU_ctr hl tag_begin k) fun _ =>
    DU_bind hc' fun _ => DU_bind ht fun _ => DU_bind (DU_label _) fun _ => DU_bind hinc' fun _ => DU_n rfl fun _ =>
    DU_label _) (by omega) (by omega)

theorem DU_doArm {t c : M Unit} (cty : Option Ty) (brk cont : Option String) {kt kc : Int} (ht : DU l t 0 kt)
    (hc : DU l c 0 kc) : DU l (doArm t c cty brk cont) 0 (kt + (kc + (isL l (cstr cont) + isL l (cstr brk)))) := by
  unfold doArm
  exact DU.cast (DU_e fun k => DU_z (DU_ctr hl tag_begin k) fun _ => DU_bind ht fun _ => DU_bind (DU_label _) fun _ =>
    DU_bind hc fun _ => DU_e fun _ => DU_n rfl fun _ => DU_label _) (by omega) (by omega)

omit hl in
theorem DU_switchArm {c t : M Unit} (cty : Option Ty) (brk : Option String) (cases : List Case)
    (dflt : Option (Option String)) {kc kt : Int} (hc : DU l c 0 kc) (ht : DU l t 0 kt) :
    DU l (switchArm c cty t brk cases dflt) 0 (kc + (kt + isL l (cstr brk))) := by
  rw [switchArm_eq]
  have hlad : DU l (swLadder cty cases) 0 0 := by
    unfold swLadder
    split
    · exact DU_of_Sem (Sem_pure ())
    · exact DU.cast (DU_e fun ty => DU_emits (labCount_ladder _ cases)) (by omega) (by omega)
  have hd : DU l (swDflt dflt) 0 0 := by
    unfold swDflt
    cases dflt with
    | none => exact DU_of_Sem (Sem_pure ())
    | some _ => exact DU_emit rfl
  exact DU.cast (DU_bind hc fun _ => DU_z hlad fun _ => DU_z hd fun _ => DU_n rfl fun _ => DU_bind ht fun _ =>
    DU_label _) (by omega) (by omega)

omit hl in
theorem DU_returnArm (env : Env) (lhs : Option (M Unit × Option Ty)) {k : Int} (h : ∀ x, lhs = some x → DU l x.1 0 k)
    (h0 : 0 ≤ k) : DU l (returnArm env lhs) 0 k := by
  rw [returnArm_eq]
  have hv : DU l (retVal env lhs) 0 k := by
    unfold retVal
    cases lhs with
    | none => exact (DU_of_Sem (Sem_pure ())).cast rfl h0
    | some y =>
      refine DU.cast (DU_bind (h y rfl) fun _ => DU_e fun ty => DU_of_Sem (r := 0) (x := 0) (d := 0) ?_) (by omega) (by omega)
      split <;> (try split) <;> exact Eff.sem
  exact DU.cast (DU_bind hv fun _ => DU_emit rfl) (by omega) (by omega)

theorem DU_builtinAlloca (env : Env) : DU l (builtinAlloca env) 0 0 := by
  have key : ∀ s a s' ls, builtinAlloca env s = .ok (a, s', ls) → s' = s ∧ labCount l ls = 0 := by
    intro s a s' ls hm
    obtain ⟨rfl, off, rfl⟩ := builtinAlloca_ok hm
    refine ⟨rfl, ?_⟩
    have e : labelNames ((allocaLines off).flatMap classify) = ["1", "2"] := by
      rw [allocaLines_steps]; rfl
    have h1 : ("1" == l) = false := by
      rw [beq_eq_false_iff_ne]; rintro rfl; revert hl; decide
    have h2 : ("2" == l) = false := by
      rw [beq_eq_false_iff_ne]; rintro rfl; revert hl; decide
    simp [labCount, e, List.count_cons, h1, h2]
  unfold DU Dep UC
  exact ⟨fun s a s' ls hm => by rw [(key s a s' ls hm).1]; simp,
    fun s a s' ls hm => by rw [(key s a s' ls hm).2]; exact Int.le_refl 0⟩

end arms

/-- the code of every argument defines `l` at most as often as its bound says -/
def UCs (l : String) : List Arg → List Int → Prop
  | [], [] => True
  | a :: as, k :: ks => UC l a.gen k ∧ 0 ≤ k ∧ UCs l as ks
  | _, _ => False

/-- the bounds of the arguments evaluated in pass `p` -/
def selK : List Int → List Bool → Bool → Int
  | k :: ks, b :: bs, p => selK ks bs p + (if b == p then k else 0)
  | _, _, _ => 0

def sumK : List Int → Int
  | [] => 0
  | k :: ks => k + sumK ks

theorem selK_nonneg : ∀ (args : List Arg) (ks : List Int) (flags : List Bool) (p : Bool), UCs l args ks →
    0 ≤ selK ks flags p ∧ 0 ≤ sumK ks
  | [], [], _, _, _ => by simp [selK, sumK]
  | [], _ :: _, _, _, h => by cases h
  | _ :: _, [], _, _, h => by cases h
  | a :: as, k :: ks, [], _, h => by
    have := (selK_nonneg as ks [] true h.2.2).2
    have := h.2.1
    simp only [selK, sumK]; omega
  | a :: as, k :: ks, b :: bs, p, h => by
    have := selK_nonneg as ks bs p h.2.2
    have := h.2.1
    simp only [selK, sumK]
    split <;> omega

/-- every argument is evaluated in one of the two passes -/
theorem selK_sum : ∀ (args : List Arg) (ks : List Int) (flags : List Bool), UCs l args ks →
    selK ks flags true + selK ks flags false ≤ sumK ks
  | [], [], _, _ => by simp [selK, sumK]
  | [], _ :: _, _, h => by cases h
  | _ :: _, [], _, h => by cases h
  | a :: as, k :: ks, [], h => by
    have := (selK_nonneg as ks [] true h.2.2).2
    have := h.2.1
    simp only [selK, sumK]; omega
  | a :: as, k :: ks, b :: bs, h => by
    have := selK_sum as ks bs h.2.2
    have := h.2.1
    simp only [selK, sumK]
    cases b <;> simp <;> omega

theorem UC_pushArgs2 : ∀ (args : List Arg) (ks : List Int) (flags : List Bool) (p : Bool), UCs l args ks →
    UC l (pushArgs2 (args.zip flags) p) (selK ks flags p)
  | [], [], flags, p, _ => by
    simp only [List.zip_nil_left]
    unfold pushArgs2 selK
    exact UC_pure ()
  | [], _ :: _, _, _, h => by cases h
  | _ :: _, [], _, _, h => by cases h
  | a :: as, k :: ks, [], p, h => by
    simp only [List.zip_nil_right]
    unfold pushArgs2 selK
    exact UC_pure ()
  | arg :: as, k :: ks, b :: bs, p, h => by
    rw [List.zip_cons_cons, pushArgs2_cons, skip_iff]
    have hk := h.2.1
    simp only [selK]
    refine UC_bind (UC_pushArgs2 as ks bs p h.2.2) (fun _ => ?_)
    cases hbp : b == p <;> simp only [Bool.not_true, Bool.not_false, Bool.false_eq_true, if_false, if_true]
    · exact UC_pure ()
    · exact (UC_bind h.1 fun _ => UC_of_Sem (Sem_pushVal arg.ty)).cast (by omega)

theorem UC_callRest (env : Env) (i : NInfo) {fn : M Unit} (rb : Option Var) (args : List Arg) (st : Int) {kf : Int}
    (hfn : UC l fn kf)
    (hpop : UC l (popArgs env args (if bigV i rb = true then 1 else 0) 0) 0) :
    UC l (callRest env i fn rb args st) kf := by
  unfold callRest
  refine UC_bind_td hfn (fun _ => ?_)
  refine (UC_bind_ret (UC_of_Sem (Sem_bigRet i rb)) (Ret_bigRet i rb) (fun big hbig => ?_)).cast (k := 0 + 0)
    (by omega)
  subst hbig
  have key : ∀ (gf : Int × Int), UC l (do
      emit (ins2 "mov" rax (.r "%r10"))
      emit (ins2 "mov" (.i gf.2) rax)
      let ty ← needTy "node->ty" i.ty
      callTail env rb ty st) 0 := by
    intro gf
    refine UC_bind_td (UC_emit_ins _) (fun _ => ?_)
    refine UC_bind_td (UC_emit_ins _) (fun _ => ?_)
    refine UC_bind_td (k1 := 0) (UC_of_Sem (Sem_needTy _ _)) (fun ty => ?_)
    exact (UC_of_Sem (Sem_callTail env rb ty st)).cast (by omega)
  cases hb : bigV i rb <;> simp only [hb, Bool.false_eq_true, if_false, if_true] at hpop ⊢ <;>
    simp only [M_pure_bind]
  · exact (UC_bind hpop key).cast (by omega)
  · exact (UC_bind (UC_of_Sem (Sem_popGp 0)) (fun _ => UC_bind hpop key)).cast (by omega)

/-- the call sequence defines `l` at most as often as the callee expression and the arguments do -/
theorem UC_callSeq (env : Env) (i : NInfo) {fn : M Unit} (rb : Option Var) (args : List Arg) (ks : List Int) {kf : Int}
    (hfn : UC l fn kf) (hargs : UCs l args ks) (hs : StructArgsOK (args.map (·.ty))) :
    UC l (pushArgs env i rb args >>= callRest env i fn rb args) (kf + sumK ks) := by
  unfold pushArgs
  simp only [M_bind_assoc]
  refine (UC_bind_ret (UC_of_Sem (Sem_bigRet i rb)) (Ret_bigRet i rb) (fun big hbig => ?_)).cast
    (k := 0 + (kf + sumK ks)) (by omega)
  subst hbig
  unfold classifyArgs
  refine (UC_bind_ret (UC_of_Sem (Sem_liftE _)) (Ret_liftE _) (fun fs hfs => ?_)).cast (k := 0 + (kf + sumK ks))
    (by omega)
  obtain ⟨flags, stack⟩ := fs
  simp only
  have heqv : Eqv (if bigV i rb = true then 1 else 0) 0 (if bigV i rb = true then 1 else 0) 0 := by
    cases bigV i rb <;> exact ⟨by decide, by decide, by decide, by decide⟩
  obtain ⟨_, hpop⟩ := popArgs_spec (K := Straight) env args _ 0 _ 0 0 flags stack heqv hs hfs
  have hp1 := UC_pushArgs2 args ks flags true hargs
  have hp2 := UC_pushArgs2 args ks flags false hargs
  have hsum := selK_sum args ks flags hargs
  have hrest := fun st => UC_callRest env i rb args st hfn (UC_of_Sem hpop)
  refine UC_bind_td (k1 := 0) (UC_of_Sem Sem_getDepth) (fun depth => ?_)
  have h1 := hrest (stack + 1)
  have h0' := hrest stack
  cases hb : bigV i rb <;> simp only [Bool.false_eq_true, if_false, if_true] at h0' h1 ⊢ <;>
    split <;> simp only [M_bind_assoc, M_pure_bind]
  · exact (UC_bind (UC_emit_ins _) fun _ => UC_bind (UC_of_Sem (Sem_addDepth 1)) fun _ => UC_bind hp1 fun _ =>
      UC_bind hp2 fun _ => h1).cast (by omega)
  · exact (UC_bind hp1 fun _ => UC_bind hp2 fun _ => h0').cast (by omega)
  · exact (UC_bind (UC_emit_ins _) fun _ => UC_bind (UC_of_Sem (Sem_addDepth 1)) fun _ => UC_bind hp1 fun _ =>
      UC_bind hp2 fun _ => UC_bind (UC_of_Sem (Sem_needVar _ _)) fun _ => UC_bind (UC_emit_ins _) fun _ =>
      UC_bind (UC_of_Sem Sem_push) fun _ => h1).cast (by omega)
  · exact (UC_bind hp1 fun _ => UC_bind hp2 fun _ => UC_bind (UC_of_Sem (Sem_needVar _ _)) fun _ =>
      UC_bind (UC_emit_ins _) fun _ => UC_bind (UC_of_Sem Sem_push) fun _ => h0').cast (by omega)

/-- a call: the builtin `alloca` (its size argument, then `builtin_alloca`), or the call sequence — `depth`
    through `Sem_callSeq` read at `AnyCode`, the labels through `UC_callSeq` -/
theorem DU_funcallArm (hl : userLabel l = true) (env : Env) (i : NInfo) {isAlloca : M Bool} {fn : M Unit}
    (rb : Option Var) (args : List Arg) (ks : List Int) {kf : Int} (hia : DU l isAlloca 0 0) (hfn : DU l fn 0 kf)
    (h0 : 0 ≤ kf) (hd : ∀ a ∈ args, Dep a.gen 0) (hargs : UCs l args ks)
    (hs : StructArgsOK (args.map (·.ty))) : DU l (funcallArm env i isAlloca fn rb args) 0 (kf + sumK ks) := by
  unfold funcallArm
  refine DU.cast (DU_bind hia fun b => ?_) (Int.zero_add 0) (Int.le_of_eq (Int.zero_add _))
  have hsum := (selK_nonneg args ks [] true hargs).2
  cases b with
  | true =>
    simp only [if_true]
    cases args with
    | nil => exact DU_z (DU_fail _) fun _ => DU.cast (DU_n rfl fun _ => DU_builtinAlloca hl env) rfl (by omega)
    | cons a rest =>
      cases ks with
      | nil => cases hargs
      | cons k ks' =>
        have ha : DU l a.gen 0 k := by unfold DU; exact ⟨hd a List.mem_cons_self, hargs.1⟩
        have := (selK_nonneg rest ks' [] true hargs.2.2).2
        simp only [sumK] at hsum ⊢
        exact DU.cast (DU_bind ha fun _ => DU_n rfl fun _ => DU_builtinAlloca hl env) (by omega) (by omega)
  | false =>
    simp only [Bool.false_eq_true, if_false]
    unfold DU at hfn ⊢
    exact ⟨Dep_of_SemP (Sem_callSeq env i rb args hfn.1.any (fun a ha => (hd a ha).any) hs),
      UC_callSeq env i rb args ks hfn.2 hargs hs⟩

/-- the bounds of an argument list -/
def cntsL (l : String) : NodeList → List Int
  | .nil => []
  | .cons n rest => tcnt l n :: cntsL l rest

theorem sumK_cntsL (l : String) : ∀ args : NodeList, sumK (cntsL l args) = tcntL l args
  | .nil => by simp [cntsL, sumK, tcntL_nil]
  | .cons n rest => by simp [cntsL, sumK, tcntL_cons, sumK_cntsL l rest]

theorem DU_loc (i : NInfo) {m : M α} {d k : Int} (h : DU l m d k) : DU l (loc i >>= fun _ => m) d k :=
  (DU_e fun _ => h).cast (Int.zero_add d) (Int.le_refl k)

/-- an operand, then the rest: `depth` as the rest leaves it -/
theorem DU_bind0 {m : M α} {f : α → M β} {d k1 k2 : Int} (h1 : DU l m 0 k1) (h2 : ∀ a, DU l (f a) d k2) :
    DU l (m >>= f) d (k1 + k2) :=
  (DU_bind h1 h2).cast (Int.zero_add d) (Int.le_refl _)

theorem DU_lvalStruct (i : NInfo) {m : M Unit} {d k : Int} (h : DU l m d k) :
    DU l (do
      let ty ← needTy "node->ty" i.ty
      if ty.isStructOrUnion then m else fail "error_tok: not an lvalue") d k := by
  refine DU.cast (DU_e fun ty => ?_) (Int.zero_add d) (Int.le_refl k)
  split
  · exact h
  · exact DU_fail _

theorem DU_body_cons {env : Env} {n : Node} {rest : NodeList} {k1 k2 : Int}
    (hn : ∀ i lhs, n = .exprStmt i lhs → rest = .nil → False) (h1 : DU l (genStmt env n) 0 k1)
    (h2 : DU l (genStmtExprBody env rest) 0 k2) : DU l (genStmtExprBody env (.cons n rest)) 0 (k1 + k2) := by
  rw [genStmtExprBody_cons hn]
  exact DU_bind0 h1 fun _ => h2

section nodes
set_option linter.unusedSectionVars false
variable (hl : userLabel l = true)
include hl

mutual
theorem duexpr (env : Env) : (n : Node) → okN n = true → DU l (genExpr env n) 0 (tcnt l n)
  | .null, _ => by unfold genExpr; exact DU_fail _
  | .nullExpr i, _ => by unfold genExpr; exact DU_of_Sem (Sem_loc i)
  | .num i a b c d e, _ => DU_of_Sem (node_num env i a b c d e)
  | .neg i lhs, h => by
    unfold genExpr
    exact DU_loc i (DU_negArm i (duexpr env lhs h))
  | .var i v, _ => DU_of_Sem (node_var env i v)
  | .member i lhs mem, h => by
    unfold genExpr
    exact DU_loc i (DU_memberArm i (duaddr env lhs h) mem env)
  | .deref i lhs, h => by
    unfold genExpr
    exact DU_loc i (DU_first (duexpr env lhs h) (Sem_load i.ty))
  | .addr i lhs, h => by
    unfold genExpr
    exact DU_loc i (duaddr env lhs h)
  | .assign i lhs rhs, h => by
    unfold genExpr; rw [tcnt_assign]; simp only [okN, Bool.and_eq_true] at h
    exact DU_loc i (DU_assignArm env i (bitfieldOf lhs) (duaddr env lhs h.1) (duexpr env rhs h.2))
  | .stmtExpr i body, h => by
    unfold genExpr
    exact DU_loc i (dubody env body h)
  | .comma i lhs rhs, h => by
    unfold genExpr; rw [tcnt_comma]; simp only [okN, Bool.and_eq_true] at h
    exact DU_loc i (DU_bind0 (duexpr env lhs h.1) fun _ => DU_z (DU_of_Sem (Sem_discard _)) fun _ => duexpr env rhs h.2)
  | .cast i lhs, h => by
    unfold genExpr
    exact DU_loc i (DU_first (duexpr env lhs h) (Sem_cast _ _))
  | .memzero i v, _ => by unfold genExpr; exact DU_loc i (DU_of_Sem (Sem_memzeroArm env v))
  | .cond i c t e, h => by
    unfold genExpr; rw [tcnt_cond]; simp only [okN, Bool.and_eq_true] at h
    exact DU_loc i (DU_condArm hl c.ty? (duexpr env c h.1.1) (duexpr env t h.1.2) (duexpr env e h.2))
  | .not i lhs, h => by
    unfold genExpr
    exact DU_loc i (DU_notArm lhs.ty? (duexpr env lhs h))
  | .bitnot i lhs, h => by
    unfold genExpr; rw [tcnt_bitnot]
    exact DU_loc i (DU.cast (DU_bind0 (duexpr env lhs h) fun _ => DU_emit rfl) rfl (by omega))
  | .logand i lhs rhs, h => by
    unfold genExpr; rw [tcnt_logand, logandArm_eq]; simp only [okN, Bool.and_eq_true] at h
    exact DU_loc i (DU_shortCircuit hl tag_false 1 0 lhs.ty? rhs.ty? (duexpr env lhs h.1) (duexpr env rhs h.2))
  | .logor i lhs rhs, h => by
    unfold genExpr; rw [tcnt_logor, logorArm_eq]; simp only [okN, Bool.and_eq_true] at h
    exact DU_loc i (DU_shortCircuit hl tag_true 0 1 lhs.ty? rhs.ty? (duexpr env lhs h.1) (duexpr env rhs h.2))
  | .funcall i lhs fty rb args, h => by
    rw [genExpr, tcnt_funcall, ← sumK_cntsL]; simp only [okN, Bool.and_eq_true] at h
    have hs : StructArgsOK ((genArgs env args).map (·.ty)) := by
      rw [genArgs_tys]; exact structArgsOK_of_b args h.2
    exact DU_loc i (DU_funcallArm hl env i rb (genArgs env args) (cntsL l args) (DU_of_Sem (Sem_isAllocaCall lhs))
      (duexpr env lhs h.1.1) (tcnt_nonneg l lhs) (duargs env args h.1.2).1 (duargs env args h.1.2).2 hs)
  | .labelVal i a b, _ => by unfold genExpr; exact DU_loc i (DU_emit rfl)
  | .cas i addr old new, h => by
    unfold genExpr; rw [tcnt_cas]; simp only [okN, Bool.and_eq_true] at h
    exact DU_loc i (DU_casArm hl env addr.ty? old.ty? new.ty? (duexpr env addr h.1.1) (duexpr env old h.1.2) (duexpr env new h.2))
  | .exch i lhs rhs, h => by
    unfold genExpr; rw [tcnt_exch]; simp only [okN, Bool.and_eq_true] at h
    exact DU_loc i (DU_exchArm env lhs.ty? (duexpr env lhs h.1) (duexpr env rhs h.2))
  | .binop i op lhs rhs, h => by
    simp only [okN, Bool.and_eq_true] at h
    have := DU_binopArm i op lhs.ty? (duexpr env lhs h.1) (duexpr env rhs h.2)
    rw [tcnt_binop]
    by_cases hn : lhs = .null
    · subst hn; rw [genExpr]; exact DU_loc i (DU_fail _)
    · rw [genExpr_binop env i op rhs hn]
      exact DU_loc i this
  | .vlaPtr i _, _ | .ret i _, _ | .if_ i _ _ _, _ | .for_ i _ _ _ _ _ _, _ | .do_ i _ _ _ _, _
  | .switch_ i _ _ _ _ _, _ | .case_ i _ _ _ _, _ | .block i _, _ | .goto_ i _ _, _ | .gotoExpr i _, _
  | .label i _ _ _, _ | .exprStmt i _, _ | .asm_ i _, _ => DU_loc i (DU_fail _)
theorem duaddr (env : Env) : (n : Node) → okN n = true → DU l (genAddr env n) 0 (tcnt l n)
  | .null, _ => by unfold genAddr; exact DU_fail _
  | .var i v, _ => DU_of_Sem (addr_var env i v)
  | .deref i lhs, h => by
    unfold genAddr
    exact duexpr env lhs h
  | .comma i lhs rhs, h => by
    unfold genAddr; rw [tcnt_comma]; simp only [okN, Bool.and_eq_true] at h
    exact DU_bind0 (duexpr env lhs h.1) fun _ => DU_z (DU_of_Sem (Sem_discard _)) fun _ => duaddr env rhs h.2
  | .member i lhs mem, h => by
    unfold genAddr
    exact DU_addrMember (duaddr env lhs h) mem
  | .funcall i lhs fty rb args, h => by
    simp only [okN, Bool.and_eq_true] at h
    have hs : StructArgsOK ((genArgs env args).map (·.ty)) := by
      rw [genArgs_tys]; exact structArgsOK_of_b args h.2
    have := DU_funcallArm hl env i rb (genArgs env args) (cntsL l args) (DU_of_Sem (Sem_isAllocaCall lhs))
      (duexpr env lhs h.1.1) (tcnt_nonneg l lhs) (duargs env args h.1.2).1 (duargs env args h.1.2).2 hs
    rw [tcnt_funcall, ← sumK_cntsL]
    cases rb with
    | none => rw [genAddr]; exact DU_fail _
    | some v => rw [genAddr]; exact DU_loc i this
  | .assign i lhs rhs, h => by
    unfold genAddr; rw [tcnt_assign]; simp only [okN, Bool.and_eq_true] at h
    exact DU_lvalStruct i (DU_loc i (DU_assignArm env i (bitfieldOf lhs) (duaddr env lhs h.1) (duexpr env rhs h.2)))
  | .cond i c t e, h => by
    unfold genAddr; rw [tcnt_cond]; simp only [okN, Bool.and_eq_true] at h
    exact DU_lvalStruct i (DU_loc i (DU_condArm hl c.ty? (duexpr env c h.1.1) (duexpr env t h.1.2) (duexpr env e h.2)))
  | .vlaPtr i v, _ => DU_of_Sem (addr_vlaPtr env i v)
  | .nullExpr .., _ | .num .., _ | .neg .., _ | .addr .., _ | .binop .., _ | .not .., _ | .bitnot .., _
  | .logand .., _ | .logor .., _ | .ret .., _ | .if_ .., _ | .for_ .., _ | .do_ .., _ | .switch_ .., _
  | .case_ .., _ | .block .., _ | .goto_ .., _ | .gotoExpr .., _ | .label .., _ | .labelVal .., _
  | .exprStmt .., _ | .stmtExpr .., _ | .cast .., _ | .memzero .., _ | .asm_ .., _ | .cas .., _
  | .exch .., _ => DU_fail _
theorem dustmt (env : Env) : (n : Node) → okN n = true → DU l (genStmt env n) 0 (tcnt l n)
  | .null, _ => by unfold genStmt; exact DU_fail _
  | .if_ i c t e, h => by
    unfold genStmt; rw [tcnt_if]; simp only [okN, Bool.and_eq_true] at h
    exact DU_loc i (DU_ifArm hl c.ty? (optGen e (genStmt env e)) (duexpr env c h.1.1) (dustmt env t h.1.2)
      (optGen_some (dustmt env e h.2)) (tcnt_nonneg l e))
  | .for_ i init c inc t brk cont, h => by
    unfold genStmt; rw [tcnt_for]; simp only [okN, Bool.and_eq_true] at h
    exact DU_loc i (DU_forArm hl (t := genStmt env t) (optGen init (genStmt env init))
      ((optGen c (genExpr env c)).map (·, c.ty?)) ((optGen inc (genExpr env inc)).map (·, inc.ty?)) brk cont
      (optGen_some (dustmt env init h.1.1.1)) (optGenMap_some (P := (DU l · 0 (tcnt l c))) (duexpr env c h.1.1.2))
      (dustmt env t h.2) (optGenMap_some (P := (DU l · 0 (tcnt l inc))) (duexpr env inc h.1.2))
      ⟨tcnt_nonneg l init, tcnt_nonneg l c, tcnt_nonneg l inc⟩)
  | .do_ i t c brk cont, h => by
    unfold genStmt; rw [tcnt_do]; simp only [okN, Bool.and_eq_true] at h
    exact DU_loc i (DU_doArm hl c.ty? brk cont (dustmt env t h.1) (duexpr env c h.2))
  | .switch_ i c t brk cases dflt, h => by
    unfold genStmt; rw [tcnt_switch]; simp only [okN, Bool.and_eq_true] at h
    exact DU_loc i (DU_switchArm c.ty? brk cases dflt (duexpr env c h.1) (dustmt env t h.2))
  | .case_ i _ _ lbl lhs, h => by
    unfold genStmt; rw [tcnt_case]
    exact DU_loc i (DU_bind0 (DU_label _) fun _ => dustmt env lhs h)
  | .block i body, h => by
    unfold genStmt
    exact DU_loc i (dustmts env body h)
  | .goto_ i _ ul, _ => by unfold genStmt; exact DU_loc i (DU_emit rfl)
  | .gotoExpr i lhs, h => by
    unfold genStmt; rw [tcnt_gotoExpr]
    exact DU_loc i (DU.cast (DU_bind0 (duexpr env lhs h) fun _ => DU_emit rfl) rfl (by omega))
  | .label i _ ul lhs, h => by
    unfold genStmt; rw [tcnt_label]
    exact DU_loc i (DU_bind0 (DU_label _) fun _ => dustmt env lhs h)
  | .ret i lhs, h => by
    unfold genStmt
    exact DU_loc i (DU_returnArm env ((optGen lhs (genExpr env lhs)).map (·, lhs.ty?))
      (optGenMap_some (P := (DU l · 0 (tcnt l lhs))) (duexpr env lhs h)) (tcnt_nonneg l lhs))
  | .exprStmt i lhs, h => by
    unfold genStmt
    exact DU_loc i (DU_first (duexpr env lhs h) (Sem_discard _))
  | .asm_ i s, _ => DU_of_Sem (stmt_asm env i s)
  | .nullExpr i, _ | .binop i _ _ _, _ | .neg i _, _ | .assign i _ _, _ | .cond i _ _ _, _ | .comma i _ _, _
  | .member i _ _, _ | .addr i _, _ | .deref i _, _ | .not i _, _ | .bitnot i _, _ | .logand i _ _, _
  | .logor i _ _, _ | .labelVal i _ _, _ | .funcall i _ _ _ _, _ | .stmtExpr i _, _ | .var i _, _
  | .vlaPtr i _, _ | .num i _ _ _ _ _, _ | .cast i _, _ | .memzero i _, _ | .cas i _ _ _, _
  | .exch i _ _, _ => DU_loc i (DU_fail _)
theorem dustmts (env : Env) : (ns : NodeList) → okL ns = true → DU l (genStmts env ns) 0 (tcntL l ns)
  | .nil, _ => by rw [genStmts, tcntL_nil]; exact DU_of_Sem (Sem_pure ())
  | .cons n rest, h => by
    rw [genStmts, tcntL_cons]; simp only [okL, Bool.and_eq_true] at h
    exact DU_bind0 (dustmt env n h.1) fun _ => dustmts env rest h.2
theorem dubody (env : Env) : (ns : NodeList) → okL ns = true → DU l (genStmtExprBody env ns) 0 (tcntL l ns)
  | .nil, _ => by rw [genStmtExprBody, tcntL_nil]; exact DU_of_Sem (Sem_pure ())
  | .cons n rest, h => by
    simp only [okL, Bool.and_eq_true] at h
    rw [tcntL_cons]
    cases rest with
    | cons m rest' => exact DU_body_cons (fun _ _ _ hr => by cases hr) (dustmt env n h.1) (dubody env _ h.2)
    | nil =>
      cases n with
      | exprStmt i lhs =>
        rw [genStmtExprBody, tcnt_exprStmt, tcntL_nil]
        simp only [okN] at h
        exact (DU_loc i (duexpr env lhs h.1)).cast rfl (by omega)
      | _ => exact DU_body_cons (fun _ _ hn _ => by cases hn) (dustmt env _ h.1) (dubody env _ h.2)
theorem duargs (env : Env) : (ns : NodeList) → okL ns = true →
    (∀ a ∈ genArgs env ns, Dep a.gen 0) ∧ UCs l (genArgs env ns) (cntsL l ns)
  | .nil, _ => by
    rw [genArgs]; exact ⟨fun a ha => (by cases ha), True.intro⟩
  | .cons n rest, h => by
    rw [genArgs]
    simp only [okL, Bool.and_eq_true] at h
    have h1 := duexpr env n h.1
    have h2 := duargs env rest h.2
    refine ⟨fun a ha => ?_, h1.uc, tcnt_nonneg l n, h2.2⟩
    simp only [List.mem_cons] at ha
    rcases ha with rfl | ha
    · exact h1.dep
    · exact h2.1 a ha
end

theorem uexpr (env : Env) (n : Node) (h : okN n = true) : UC l (genExpr env n) (tcnt l n) := (duexpr hl env n h).uc
theorem uaddr (env : Env) (n : Node) (h : okN n = true) : UC l (genAddr env n) (tcnt l n) := (duaddr hl env n h).uc
theorem ustmt (env : Env) (n : Node) (h : okN n = true) : UC l (genStmt env n) (tcnt l n) := (dustmt hl env n h).uc
theorem ustmts (env : Env) : (ns : NodeList) → okL ns = true → UC l (genStmts env ns) (tcntL l ns) :=
  fun ns h => (dustmts hl env ns h).uc
theorem ubody (env : Env) : (ns : NodeList) → okL ns = true → UC l (genStmtExprBody env ns) (tcntL l ns) :=
  fun ns h => (dubody hl env ns h).uc
theorem uargs (env : Env) : (ns : NodeList) → okL ns = true → UCs l (genArgs env ns) (cntsL l ns) :=
  fun ns h => (duargs hl env ns h).2

end nodes

/-! ### `depth` alone: `DU` read at any parser label -/

theorem userLabel_witness : userLabel ".L..0" = true := by decide

/-- `Dep` mentions no label.  The induction `duexpr` is stated for one parser label `l` because its `UC` half counts the
    lines `l:`; its `Dep` half is the same statement whichever `l` is taken, so it is read off at one that exists
    (`userLabel_witness`).  Likewise `daddr` … `dargs`. -/
theorem dexpr (env : Env) (n : Node) (h : okN n = true) : Dep (genExpr env n) 0 := (duexpr userLabel_witness env n h).dep
theorem daddr (env : Env) (n : Node) (h : okN n = true) : Dep (genAddr env n) 0 := (duaddr userLabel_witness env n h).dep
theorem dstmt (env : Env) (n : Node) (h : okN n = true) : Dep (genStmt env n) 0 := (dustmt userLabel_witness env n h).dep
theorem dstmts (env : Env) : (l : NodeList) → okL l = true → Dep (genStmts env l) 0 :=
  fun l h => (dustmts userLabel_witness env l h).dep
theorem dbody (env : Env) : (l : NodeList) → okL l = true → Dep (genStmtExprBody env l) 0 :=
  fun l h => (dubody userLabel_witness env l h).dep
theorem dargs (env : Env) : (l : NodeList) → okL l = true → ∀ a ∈ genArgs env l, Dep a.gen 0 :=
  fun l h => (duargs userLabel_witness env l h).1

/-- if the code defines every parser label at most as often as the tree mentions it and the tree
    mentions each at most once, the parser labels of the code are pairwise distinct -/
theorem userDistinct_of_counts {n : Node} {ls : List Line} (hd : treeDistinct n = true)
    (hc : ∀ l, userLabel l = true → labCount l ls ≤ tcnt l n) : userDistinct ls = true := by
  simp only [treeDistinct, decide_eq_true_eq] at hd
  simp only [userDistinct, decide_eq_true_eq]
  rw [List.nodup_iff_count] at hd ⊢
  intro a
  by_cases ha : userLabel a = true
  · have h1 := hc a ha
    have h2 := hd a
    rw [List.count_filter ha] at h2 ⊢
    unfold labCount tcnt at h1
    omega
  · have : a ∉ (labelNames (ls.flatMap classify)).filter userLabel := by
      intro hm
      exact ha (List.mem_filter.mp hm).2
    rw [List.count_eq_zero_of_not_mem this]
    omega

/-! ### the scope of the label-height theorems implies the side condition `okN` -/

mutual
theorem okN_of_flowE : (n : Node) → flowE n = true → okN n = true
  | .nullExpr _, _ | .num .., _ | .var .., _ | .memzero .., _ | .labelVal .., _ => by simp [okN]
  | .neg _ a, h | .deref _ a, h | .not _ a, h | .bitnot _ a, h | .cast _ a, h => by
    simp only [flowE] at h; simp only [okN]; exact okN_of_flowE a h
  | .member _ a _, h | .addr _ a, h => by
    simp only [flowE] at h; simp only [okN]; exact okN_of_flowA a h
  | .assign _ a b, h => by
    simp only [flowE, Bool.and_eq_true] at h; simp only [okN, Bool.and_eq_true]
    exact ⟨okN_of_flowA a h.1, okN_of_flowE b h.2⟩
  | .comma _ a b, h | .binop _ _ a b, h | .logand _ a b, h | .logor _ a b, h | .exch _ a b, h => by
    simp only [flowE, Bool.and_eq_true] at h; simp only [okN, Bool.and_eq_true]
    exact ⟨okN_of_flowE a h.1, okN_of_flowE b h.2⟩
  | .cond _ a b c, h | .cas _ a b c, h => by
    simp only [flowE, Bool.and_eq_true] at h; simp only [okN, Bool.and_eq_true]
    exact ⟨⟨okN_of_flowE a h.1.1, okN_of_flowE b h.1.2⟩, okN_of_flowE c h.2⟩
  | .funcall i f _ _ args, h => by
    simp only [flowE, Bool.and_eq_true] at h; simp only [okN, Bool.and_eq_true]
    exact ⟨⟨okN_of_flowE f h.1.1.1, okL_of_flowArgs args h.1.1.2⟩, h.1.2⟩
  | .stmtExpr _ body, h => by
    simp only [flowE] at h; simp only [okN]; exact okL_of_flowBody _ body h
  | .null, h | .ret .., h | .if_ .., h | .for_ .., h | .do_ .., h | .switch_ .., h | .case_ .., h | .block .., h
  | .goto_ .., h | .gotoExpr .., h | .label .., h | .exprStmt .., h | .vlaPtr .., h | .asm_ .., h => by
    simp [flowE] at h
theorem okN_of_flowA : (n : Node) → flowA n = true → okN n = true
  | .var .., _ | .vlaPtr .., _ => by simp [okN]
  | .deref _ a, h => by simp only [flowA] at h; simp only [okN]; exact okN_of_flowE a h
  | .comma _ a b, h => by
    simp only [flowA, Bool.and_eq_true] at h; simp only [okN, Bool.and_eq_true]
    exact ⟨okN_of_flowE a h.1, okN_of_flowA b h.2⟩
  | .member _ a _, h => by simp only [flowA] at h; simp only [okN]; exact okN_of_flowA a h
  | .assign _ a b, h => by
    simp only [flowA, Bool.and_eq_true] at h; simp only [okN, Bool.and_eq_true]
    exact ⟨okN_of_flowA a h.1, okN_of_flowE b h.2⟩
  | .cond _ a b c, h => by
    simp only [flowA, Bool.and_eq_true] at h; simp only [okN, Bool.and_eq_true]
    exact ⟨⟨okN_of_flowE a h.1.1, okN_of_flowE b h.1.2⟩, okN_of_flowE c h.2⟩
  | .funcall i f _ _ args, h => by
    simp only [flowA, Bool.and_eq_true] at h; simp only [okN, Bool.and_eq_true]
    exact ⟨⟨okN_of_flowE f h.1.1.1.1, okL_of_flowArgs args h.1.1.1.2⟩, h.1.1.2⟩
  | .null, h | .nullExpr .., h | .num .., h | .neg .., h | .addr .., h | .binop .., h | .not .., h | .bitnot .., h
  | .logand .., h | .logor .., h | .ret .., h | .if_ .., h | .for_ .., h | .do_ .., h | .switch_ .., h
  | .case_ .., h | .block .., h | .goto_ .., h | .gotoExpr .., h | .label .., h | .labelVal .., h
  | .exprStmt .., h | .stmtExpr .., h | .cast .., h | .memzero .., h | .asm_ .., h | .cas .., h
  | .exch .., h => by simp [flowA] at h
theorem okL_of_flowArgs : (ns : NodeList) → flowArgs ns = true → okL ns = true
  | .nil, _ => by simp [okL]
  | .cons a rest, h => by
    simp only [flowArgs, Bool.and_eq_true] at h; simp only [okL, Bool.and_eq_true]
    exact ⟨okN_of_flowE a h.1, okL_of_flowArgs rest h.2⟩
theorem okN_of_flowS (R : List String) (rl : Option Bool) : (n : Node) → flowS R rl n = true → okN n = true
  | .if_ _ c t e, h => by
    simp only [flowS, Bool.and_eq_true, Bool.or_eq_true] at h; simp only [okN, Bool.and_eq_true]
    refine ⟨⟨okN_of_flowE c h.1.1, okN_of_flowS R rl t h.1.2⟩, ?_⟩
    rcases h.2 with h2 | h2
    · cases e <;> simp [isNull] at h2; simp [okN]
    · exact okN_of_flowS R rl e h2
  | .for_ _ init c inc t brk cont, h => by
    simp only [flowS, Bool.and_eq_true, Bool.or_eq_true] at h; simp only [okN, Bool.and_eq_true]
    obtain ⟨⟨⟨⟨⟨⟨h1, h2⟩, h3⟩, h4⟩, _⟩, _⟩, _⟩ := h
    refine ⟨⟨⟨?_, ?_⟩, ?_⟩, okN_of_flowS R rl t h4⟩
    · rcases h1 with h1 | h1
      · cases init <;> simp [isNull] at h1; simp [okN]
      · exact okN_of_flowS R rl init h1
    · rcases h2 with h2 | h2
      · cases c <;> simp [isNull] at h2; simp [okN]
      · exact okN_of_flowE c h2
    · rcases h3 with h3 | h3
      · cases inc <;> simp [isNull] at h3; simp [okN]
      · exact okN_of_flowE inc h3
  | .do_ _ t c brk cont, h => by
    simp only [flowS, Bool.and_eq_true] at h; simp only [okN, Bool.and_eq_true]
    exact ⟨okN_of_flowS R rl t h.1.1.1, okN_of_flowE c h.1.1.2⟩
  | .switch_ _ c t brk cases dflt, h => by
    simp only [flowS, Bool.and_eq_true] at h; simp only [okN, Bool.and_eq_true]
    exact ⟨okN_of_flowE c h.1.1.1.1, okN_of_flowS R rl t h.1.1.1.2⟩
  | .case_ _ _ _ lbl lhs, h => by
    simp only [flowS, Bool.and_eq_true] at h; simp only [okN]; exact okN_of_flowS R rl lhs h.2
  | .block _ body, h => by
    simp only [flowS] at h; simp only [okN]; exact okL_of_flowSs R rl body h
  | .goto_ .., _ | .asm_ .., _ => by simp [okN]
  | .gotoExpr _ lhs, h => by simp only [flowS] at h; simp only [okN]; exact okN_of_flowE lhs h
  | .label _ _ ul lhs, h => by
    simp only [flowS, Bool.and_eq_true] at h; simp only [okN]; exact okN_of_flowS R rl lhs h.2
  | .ret _ lhs, h => by
    simp only [flowS, Bool.and_eq_true, Bool.or_eq_true] at h; simp only [okN]
    rcases h.2 with h2 | h2
    · cases lhs <;> simp [isNull] at h2; simp [okN]
    · exact okN_of_flowE lhs h2
  | .exprStmt _ lhs, h => by simp only [flowS] at h; simp only [okN]; exact okN_of_flowE lhs h
  | .null, h | .nullExpr .., h | .binop .., h | .neg .., h | .assign .., h | .cond .., h | .comma .., h
  | .member .., h | .addr .., h | .deref .., h | .not .., h | .bitnot .., h | .logand .., h | .logor .., h
  | .labelVal .., h | .funcall .., h | .stmtExpr .., h | .var .., h | .vlaPtr .., h | .num .., h | .cast .., h
  | .memzero .., h | .cas .., h | .exch .., h => by simp [flowS] at h
theorem okL_of_flowSs (R : List String) (rl : Option Bool) : (ns : NodeList) → flowSs R rl ns = true → okL ns = true
  | .nil, _ => by simp [okL]
  | .cons n rest, h => by
    simp only [flowSs, Bool.and_eq_true] at h; simp only [okL, Bool.and_eq_true]
    exact ⟨okN_of_flowS R rl n h.1, okL_of_flowSs R rl rest h.2⟩
theorem okL_of_flowBody (R : List String) : (ns : NodeList) → flowBody R ns = true → okL ns = true
  | .nil, _ => by simp [okL]
  | .cons n rest, h => by
    simp only [okL, Bool.and_eq_true]
    cases rest with
    | cons m rest' =>
      rw [flowBody] at h
      · simp only [Bool.and_eq_true] at h
        exact ⟨okN_of_flowS R none n h.1, okL_of_flowBody R _ h.2⟩
      · intro _ _ ha hb; cases hb
    | nil =>
      cases n with
      | exprStmt i lhs =>
        rw [flowBody] at h
        exact ⟨by simp only [okN]; exact okN_of_flowE lhs h, by simp [okL]⟩
      | _ =>
        rw [flowBody] at h
        · simp only [Bool.and_eq_true] at h
          exact ⟨okN_of_flowS R none _ h.1, by simp [okL]⟩
        · intro _ _ ha hb; cases ha
end

theorem userDistinct_of_tree_expr {env : Env} {n : Node} (hok : okN n = true) (hd : treeDistinct n = true)
    {s s' : St} {ls : List Line} (hg : genExpr env n s = .ok ((), s', ls)) : userDistinct ls = true :=
  userDistinct_of_counts hd (fun _ hl => (uexpr hl env n hok).elim hg)

theorem userDistinct_of_tree_addr {env : Env} {n : Node} (hok : okN n = true) (hd : treeDistinct n = true)
    {s s' : St} {ls : List Line} (hg : genAddr env n s = .ok ((), s', ls)) : userDistinct ls = true :=
  userDistinct_of_counts hd (fun _ hl => (uaddr hl env n hok).elim hg)

theorem userDistinct_of_tree_stmt {env : Env} {n : Node} (hok : okN n = true) (hd : treeDistinct n = true)
    {s s' : St} {ls : List Line} (hg : genStmt env n s = .ok ((), s', ls)) : userDistinct ls = true :=
  userDistinct_of_counts hd (fun _ hl => (ustmt hl env n hok).elim hg)

end ChibiVerif.Lemmas.C20
