/-
C05, parser = specification: trees and paths.

* `subOk` / `tyOk`  — (Spec/InitSpec.lean) the types the simulation is proved for (decidable): arrays of unknown bound only as
                       the declared type itself, a flexible array member only as the last member of the declared struct (`tyOk`; `subOk`
                       admits none), every union has a named member.
* `shaped ty init`  — the tree has the skeleton of the type (what `new_initializer` allocates and both sides preserve); a union node
                       without chosen member has no initialised child.
* `setAtM obj p v`  — replace the subobject at path `p` by `v`, marking every union passed through as initialised through that
                       member and dropping aggregate-valued expressions on the way (what `modifyAt` does when nothing switches:
                       `modifyAt_eq`); `mark obj k` is what it leaves of a node it passes (`setAtM_cons`).  `modifyAt` itself is the step
                       `nodeStep` at the node, the recursion below, the node rebuilt (`modifyAt_cons`; `modifyAt_grow`, `modifyAt_member`).
* `zero_of_shaped`  — a shaped tree without expressions is `newInit`: why a union's untouched member and a brace-enclosed list
                       start from the same value on both sides.
* `isFlexRoot`, `shapedR`, `pathOk` — the same for a declared struct that ends in a flexible array member, whose node is not
                       `shaped` (`shapedR_getAt`, `shapedR_setAtM`, `modifyAt_eqR`); `flexAt`: what is asked of each member's child there.
-/
import ChibiVerif.Model.Init
import ChibiVerif.Spec.InitSpec
import ChibiVerif.Lemmas.ExceptLemmas

namespace ChibiVerif.InitSpec
open ChibiVerif.Init

variable {k : Nat} {obj : Init} {c : Init} {p : List Nat} {t0 : Ty} {tc : Ty} {ck : Init} {root : Ty} {t : Ty}

mutual
  def shaped : Ty → Init → Bool
    | .scalar _ _, .leaf _ => true
    | .array e n, .arr cs => cs.length == n && shapedAll e cs
    | .inc e, .arr cs => shapedAll e cs
    | .struct ms _ _, .struct _ cs => shapedMs ms cs
    | .union ms _ _, .union _ m cs => shapedMs ms cs && (m.isSome || !hasExprList cs)
    | _, _ => false
  def shapedAll : Ty → List Init → Bool
    | _, [] => true
    | e, c :: cs => shaped e c && shapedAll e cs
  def shapedMs : Members → List Init → Bool
    | [], [] => true
    | (_, t) :: ms, c :: cs => shaped t c && shapedMs ms cs
    | _, _ => false
end

def setAtM : Init → List Nat → Init → Init
  | _, [], v => v
  | .arr cs, k :: p, v => .arr (cs.set k (setAtM (cs.getD k .flex) p v))
  | .struct _ cs, k :: p, v => .struct none (cs.set k (setAtM (cs.getD k .flex) p v))
  | .union _ _ cs, k :: p, v => .union none (some k) (cs.set k (setAtM (cs.getD k .flex) p v))
  | o, _ :: _, _ => o

theorem shapedAll_iff (e : Ty) : ∀ (cs : List Init), shapedAll e cs = true ↔ ∀ c ∈ cs, shaped e c = true
  | [] => by simp [shapedAll]
  | c :: cs => by simp [shapedAll, shapedAll_iff e cs]

theorem forall_getElem?_set {α β : Type} {P : Nat → β → α → Prop} {ms : List β} {cs : List α} {j : Nat} {v : α}
    (hg : ∀ (k : Nat) (m : β) (c : α), ms[k]? = some m → cs[k]? = some c → P k m c) (hv : ∀ m, ms[j]? = some m → P j m v)
    (k : Nat) (m : β) (c : α) (hm : ms[k]? = some m) (hc : (cs.set j v)[k]? = some c) : P k m c := by
  rw [List.getElem?_set] at hc
  split at hc
  · rename_i hjk; subst hjk
    split at hc
    · cases hc; exact hv m hm
    · cases hc
  · exact hg k m c hm hc

theorem shapedMs_iff : ∀ (ms : Members) (cs : List Init), shapedMs ms cs = true ↔
    cs.length = ms.length ∧ ∀ (k : Nat) (m : MemInfo × Ty) (c : Init), ms[k]? = some m → cs[k]? = some c → shaped m.2 c = true
  | [], [] => by simp [shapedMs]
  | [], _ :: _ => by simp [shapedMs]
  | _ :: _, [] => by simp [shapedMs]
  | (mi, t) :: ms, c :: cs => by
    simp only [shapedMs, Bool.and_eq_true, shapedMs_iff ms cs, List.length_cons, Nat.add_right_cancel_iff]
    constructor
    · rintro ⟨h0, hl, h⟩
      refine ⟨hl, fun k m c' hm hc => ?_⟩
      cases k with
      | zero => cases hm; cases hc; exact h0
      | succ k => exact h k m c' hm hc
    · rintro ⟨hl, h⟩
      exact ⟨h 0 _ _ rfl rfl, hl, fun k m c' hm hc => h (k + 1) m c' hm hc⟩

theorem shapedMs_length : ∀ (ms : Members) (cs : List Init), shapedMs ms cs = true → cs.length = ms.length :=
  fun ms cs h => ((shapedMs_iff ms cs).1 h).1

theorem shapedMs_get (ms : Members) (cs : List Init) (k : Nat) (mi : MemInfo) (t : Ty) (c : Init) (h : shapedMs ms cs = true)
    (hm : ms[k]? = some (mi, t)) (hc : cs[k]? = some c) : shaped t c = true :=
  ((shapedMs_iff ms cs).1 h).2 k _ c hm hc

theorem shapedMs_set (ms : Members) (cs : List Init) (k : Nat) (mi : MemInfo) (t : Ty) (v : Init) (h : shapedMs ms cs = true)
    (hm : ms[k]? = some (mi, t)) (hv : shaped t v = true) : shapedMs ms (cs.set k v) = true := by
  obtain ⟨hl, hg⟩ := (shapedMs_iff ms cs).1 h
  exact (shapedMs_iff ms _).2 ⟨by simpa using hl, forall_getElem?_set hg fun m hm' => by rw [hm] at hm'; cases hm'; exact hv⟩

theorem shapedAll_set (e : Ty) (cs : List Init) (k : Nat) (v : Init) (h : shapedAll e cs = true) (hv : shaped e v = true) :
    shapedAll e (cs.set k v) = true := by
  rw [shapedAll_iff] at h ⊢
  intro c hc
  rcases List.mem_or_eq_of_mem_set hc with h1 | h1
  · exact h c h1
  · rw [h1]; exact hv

theorem shapedAll_get (e : Ty) (cs : List Init) (k : Nat) (c : Init) (h : shapedAll e cs = true) (hc : cs[k]? = some c) :
    shaped e c = true := by
  rw [shapedAll_iff] at h
  exact h c (List.mem_of_getElem? hc)

theorem getD_of_getElem? {α : Type} {cs : List α} {c d : α} (h : cs[k]? = some c) : cs.getD k d = c := by
  simp [List.getD_eq_getElem?_getD, h]

theorem set_set_same {α : Type} (cs : List α) (k : Nat) (a b : α) : (cs.set k a).set k b = cs.set k b := by
  simp

theorem getD_set_same {α : Type} (cs : List α) (k : Nat) (a d : α) (h : k < cs.length) : (cs.set k a).getD k d = a := by
  simp [List.getD_eq_getElem?_getD, h]

/-- what `setAtM` leaves of a node it passes through child `k`: no expression, the member `k` -/
def mark : Init → Nat → Init
  | .struct _ cs, _ => .struct none cs
  | .union _ _ cs, k => .union none (some k) cs
  | o, _ => o

theorem setAtM_cons' (obj : Init) (k : Nat) (p : List Nat) (v : Init) :
    setAtM obj (k :: p) v = (mark obj k).withChildren (obj.children.set k (setAtM (obj.children.getD k .flex) p v)) := by
  cases obj <;> rfl

theorem setAtM_cons (p : List Nat) (v : Init) (h : obj.children[k]? = some c) :
    setAtM obj (k :: p) v = (mark obj k).withChildren (obj.children.set k (setAtM c p v)) := by
  rw [setAtM_cons', getD_of_getElem? h]

theorem children_mark (cs : List Init) (h : obj.children[k]? = some c) : ((mark obj k).withChildren cs).children = cs := by
  cases obj <;> first | rfl | (simp [Init.children] at h; done)

theorem mark_withChildren (cs cs' : List Init) (j : Nat) (h : obj.children[k]? = some c) :
    (mark ((mark obj k).withChildren cs) j).withChildren cs' = (mark obj j).withChildren cs' := by
  cases obj <;> first | rfl | (simp [Init.children] at h; done)

theorem children_setAtM_cons (obj : Init) (k : Nat) (p : List Nat) (v c : Init) (h : obj.children[k]? = some c) :
    (setAtM obj (k :: p) v).children = obj.children.set k (setAtM c p v) := by
  rw [setAtM_cons p v h, children_mark _ h]

theorem getAt_cons_of_some (p : List Nat) (h : obj.children[k]? = some c) :
    getAt obj (k :: p) = getAt c p := by
  rw [getAt]; simp [h]

theorem getAt_cons_of_none (p : List Nat) (h : obj.children[k]? = none) :
    getAt obj (k :: p) = none := by
  rw [getAt]; simp [h]

theorem getAt_cons_some (h : getAt obj (k :: p) = some c) :
    ∃ ck, obj.children[k]? = some ck ∧ getAt ck p = some c := by
  cases hk : obj.children[k]? with
  | none => rw [getAt_cons_of_none p hk] at h; simp at h
  | some ck => rw [getAt_cons_of_some p hk] at h; exact ⟨ck, rfl, h⟩

theorem getAt_setAtM : ∀ (p : List Nat) (obj c v : Init), getAt obj p = some c → getAt (setAtM obj p v) p = some v
  | [], _, _, _, _ => by simp [getAt, setAtM]
  | k :: p, obj, c, v, h => by
    obtain ⟨ck, hk, hc⟩ := getAt_cons_some h
    have hlt : k < obj.children.length := (List.getElem?_eq_some_iff.mp hk).1
    have h2 : (setAtM obj (k :: p) v).children[k]? = some (setAtM ck p v) := by
      rw [children_setAtM_cons obj k p v ck hk]; simp [hlt]
    rw [getAt_cons_of_some p h2]
    exact getAt_setAtM p ck c v hc

theorem getAt_append : ∀ (p q : List Nat) (obj c : Init), getAt obj p = some c → getAt obj (p ++ q) = getAt c q
  | [], _, _, _, h => by simp [getAt] at h; simp [h]
  | k :: p, q, obj, c, h => by
    obtain ⟨ck, hk, hc⟩ := getAt_cons_some h
    rw [List.cons_append, getAt_cons_of_some _ hk]
    exact getAt_append p q ck c hc

theorem setAtM_append : ∀ (p q : List Nat) (obj c v : Init), getAt obj p = some c →
    setAtM obj (p ++ q) v = setAtM obj p (setAtM c q v)
  | [], _, _, _, _, h => by simp [getAt] at h; simp [setAtM, h]
  | k :: p, q, obj, c, v, h => by
    obtain ⟨ck, hk, hc⟩ := getAt_cons_some h
    rw [List.cons_append, setAtM_cons _ _ hk, setAtM_cons _ _ hk, setAtM_append p q ck c v hc]

theorem setAtM_setAtM : ∀ (p : List Nat) (obj c v w : Init), getAt obj p = some c →
    setAtM (setAtM obj p v) p w = setAtM obj p w
  | [], _, _, _, _, _ => by simp [setAtM]
  | k :: p, obj, c, v, w, h => by
    obtain ⟨ck, hk, hc⟩ := getAt_cons_some h
    have hlt : k < obj.children.length := (List.getElem?_eq_some_iff.mp hk).1
    have h2 : (setAtM obj (k :: p) v).children[k]? = some (setAtM ck p v) := by
      rw [children_setAtM_cons obj k p v ck hk]; simp [hlt]
    rw [setAtM_cons p w h2, setAtM_cons p w hk, setAtM_setAtM p ck c v w hc, children_setAtM_cons obj k p v ck hk,
      List.set_set, setAtM_cons p v hk, mark_withChildren _ _ _ hk]

/-- what the parser's `init.setChild k c'` is in terms of `setAtM` (array node) -/
theorem setAtM_one_arr (cs : List Init) (k : Nat) (v : Init) : setAtM (.arr cs) [k] v = (Init.arr cs).setChild k v :=
  setAtM_cons' _ k [] v

theorem setAtM_one_struct (cs : List Init) (k : Nat) (v : Init) :
    setAtM (.struct none cs) [k] v = (Init.struct none cs).setChild k v :=
  setAtM_cons' _ k [] v

theorem setAtM_one_union (e : Option Expr) (m : Option Nat) (cs : List Init) (k : Nat) (v : Init) :
    setAtM (.union e m cs) [k] v = ((Init.union none m cs).setMem k).setChild k v :=
  setAtM_cons' _ k [] v

theorem subOk_tyOk : ∀ (t : Ty), subOk t = true → tyOk t = true
  | .scalar _ _, h => by simpa [tyOk] using h
  | .array _ _, h => by simpa [tyOk] using h
  | .inc _, h => by simp [subOk] at h
  | .struct _ _ fl, h => by
    cases fl with
    | false => simpa [tyOk] using h
    | true => simp [subOk] at h
  | .union _ _ _, h => by simpa [tyOk] using h

theorem subOkMs_get : ∀ (ms : Members) (k : Nat) (mi : MemInfo) (t : Ty), subOkMs ms = true → ms[k]? = some (mi, t) → subOk t = true
  | [], _, _, _, _, h => by simp at h
  | (_, t0) :: ms, k, mi, t, ho, h => by
    simp only [subOkMs, Bool.and_eq_true] at ho
    cases k with
    | zero => simp at h; rw [← h.2]; exact ho.1
    | succ k => simp at h; exact subOkMs_get ms k mi t ho.2 h

theorem flexOkMs_get : ∀ (ms : Members) (k : Nat) (mi : MemInfo) (t : Ty), flexOkMs ms = true → ms[k]? = some (mi, t) → subOk t = true
  | [], _, _, _, h, _ => by simp [flexOkMs] at h
  | [(mi0, t0)], k, mi, t, ho, h => by
    cases k with
    | zero =>
      simp at h; obtain ⟨_, rfl⟩ := h
      cases t0 <;> simp [flexOkMs] at ho
      simpa [subOk] using ho
    | succ k => simp at h
  | (_, t0) :: m :: r, k, mi, t, ho, h => by
    simp only [flexOkMs, Bool.and_eq_true] at ho
    cases k with
    | zero => simp at h; rw [← h.2]; exact ho.1
    | succ k => simp at h; exact flexOkMs_get (m :: r) k mi t ho.2 (by simpa using h)

theorem tyOk_child {t0 t : Ty} (h0 : tyOk t0 = true) (h : childTy t0 k = some t) : subOk t = true := by
  cases t0 with
  | scalar => simp [childTy] at h
  | array e n => simp [childTy] at h; simp [tyOk, subOk] at h0; rw [← h]; exact h0
  | inc e => simp [childTy] at h; simp [tyOk] at h0; rw [← h]; exact h0
  | struct ms sz fl =>
    simp only [childTy, Option.map_eq_some_iff] at h
    obtain ⟨⟨mi, t'⟩, hm, ht⟩ := h
    simp at ht; rw [← ht]
    cases fl with
    | false =>
      simp [tyOk, subOk] at h0
      exact subOkMs_get ms k mi t' h0 hm
    | true =>
      simp only [tyOk] at h0
      exact flexOkMs_get ms k mi t' h0 hm
  | union ms sz fl =>
    simp [tyOk, subOk] at h0
    simp only [childTy, Option.map_eq_some_iff] at h
    obtain ⟨⟨mi, t'⟩, hm, ht⟩ := h
    simp at ht; rw [← ht]
    exact subOkMs_get ms k mi t' h0.1.2 hm

theorem subTy_cons (t : Ty) (k : Nat) (p : List Nat) :
    subTy t (k :: p) = (childTy t k).bind (fun c => subTy c p) := by
  rw [subTy]; cases childTy t k <;> rfl

theorem subTy_cons_some {t0 t : Ty} (h : subTy t0 (k :: p) = some t) :
    ∃ tc, childTy t0 k = some tc ∧ subTy tc p = some t := by
  rw [subTy_cons] at h
  cases hc : childTy t0 k with
  | none => simp [hc] at h
  | some tc => simp [hc] at h; exact ⟨tc, rfl, h⟩

theorem subTy_append : ∀ (p q : List Nat) (t0 t : Ty), subTy t0 p = some t → subTy t0 (p ++ q) = subTy t q
  | [], _, _, _, h => by simp [subTy] at h; simp [h]
  | k :: p, q, t0, t, h => by
    obtain ⟨tc, hc, ht⟩ := subTy_cons_some h
    rw [List.cons_append, subTy_cons, hc]
    exact subTy_append p q tc t ht

theorem shaped_node (hs : shaped t0 obj = true)
    (ht : childTy t0 k = some tc) :
    (∃ n cs, t0 = .array tc n ∧ obj = .arr cs ∧ cs.length = n ∧ shapedAll tc cs = true) ∨
    (∃ cs, t0 = .inc tc ∧ obj = .arr cs ∧ shapedAll tc cs = true) ∨
    (∃ ms sz fl e cs mi, t0 = .struct ms sz fl ∧ obj = .struct e cs ∧ shapedMs ms cs = true ∧ ms[k]? = some (mi, tc)) ∨
    (∃ ms sz fl e m cs mi, t0 = .union ms sz fl ∧ obj = .union e m cs ∧ shapedMs ms cs = true ∧
      (m.isSome || !hasExprList cs) = true ∧ ms[k]? = some (mi, tc)) := by
  have member : ∀ {ms : Members}, (ms[k]?).map (·.2) = some tc → ∃ mi, ms[k]? = some (mi, tc) := by
    intro ms h
    obtain ⟨⟨mi, t'⟩, hm, rfl⟩ := Option.map_eq_some_iff.1 h
    exact ⟨mi, hm⟩
  cases t0 with
  | scalar sz kd => cases ht
  | array e n =>
    cases ht
    cases obj <;> first | cases hs | skip
    rename_i cs
    simp only [shaped, Bool.and_eq_true, beq_iff_eq] at hs
    exact .inl ⟨n, cs, rfl, rfl, hs⟩
  | inc e =>
    cases ht
    cases obj <;> first | cases hs | skip
    exact .inr (.inl ⟨_, rfl, rfl, hs⟩)
  | struct ms sz fl =>
    obtain ⟨mi, hm⟩ := member ht
    cases obj <;> first | cases hs | skip
    exact .inr (.inr (.inl ⟨ms, sz, fl, _, _, mi, rfl, rfl, hs, hm⟩))
  | union ms sz fl =>
    obtain ⟨mi, hm⟩ := member ht
    cases obj <;> first | cases hs | skip
    simp only [shaped, Bool.and_eq_true] at hs
    exact .inr (.inr (.inr ⟨ms, sz, fl, _, _, _, mi, rfl, rfl, hs.1, hs.2, hm⟩))

theorem shaped_child (hs : shaped t0 obj = true)
    (ht : childTy t0 k = some tc) (hk : obj.children[k]? = some ck) : shaped tc ck = true := by
  rcases shaped_node hs ht with ⟨n, cs, rfl, rfl, _, ha⟩ | ⟨cs, rfl, rfl, ha⟩ | ⟨ms, sz, fl, e, cs, mi, rfl, rfl, hm, hi⟩ |
    ⟨ms, sz, fl, e, m, cs, mi, rfl, rfl, hm, _, hi⟩
  · exact shapedAll_get tc cs k ck ha hk
  · exact shapedAll_get tc cs k ck ha hk
  · exact shapedMs_get ms cs k mi tc ck hm hi hk
  · exact shapedMs_get ms cs k mi tc ck hm hi hk

theorem shaped_getAt : ∀ (p : List Nat) (t0 : Ty) (obj : Init) (t : Ty) (c : Init), shaped t0 obj = true →
    subTy t0 p = some t → getAt obj p = some c → shaped t c = true
  | [], t0, obj, t, c, hs, ht, hc => by
    simp [subTy] at ht; simp [getAt] at hc; subst ht; subst hc; exact hs
  | k :: p, t0, obj, t, c, hs, ht, hc => by
    obtain ⟨tc, htc, ht'⟩ := subTy_cons_some ht
    obtain ⟨ck, hk, hc'⟩ := getAt_cons_some hc
    exact shaped_getAt p tc ck t c (shaped_child hs htc hk) ht' hc'

theorem shaped_set_child {ck v : Init} (hs : shaped t0 obj = true)
    (ht : childTy t0 k = some tc) (hk : obj.children[k]? = some ck) (hv : shaped tc v = true) :
    shaped t0 (setAtM obj [k] v) = true := by
  rcases shaped_node hs ht with ⟨n, cs, rfl, rfl, hn, ha⟩ | ⟨cs, rfl, rfl, ha⟩ | ⟨ms, sz, fl, e, cs, mi, rfl, rfl, hm, hi⟩ |
    ⟨ms, sz, fl, e, m, cs, mi, rfl, rfl, hm, _, hi⟩
  · simp only [setAtM, shaped, Bool.and_eq_true, List.length_set, beq_iff_eq]
    exact ⟨hn, shapedAll_set _ cs k v ha hv⟩
  · exact shapedAll_set _ cs k v ha hv
  · exact shapedMs_set ms cs k mi tc v hm hi hv
  · simp only [setAtM, shaped, Bool.and_eq_true]
    exact ⟨shapedMs_set ms cs k mi tc v hm hi hv, rfl⟩

theorem setAtM_cons_eq (p : List Nat) (v : Init) (hk : obj.children[k]? = some ck) :
    setAtM obj (k :: p) v = setAtM obj [k] (setAtM ck p v) := by
  rw [setAtM_cons p v hk, setAtM_cons [] _ hk]; rfl

theorem shaped_setAtM : ∀ (p : List Nat) (t0 : Ty) (obj : Init) (t : Ty) (c v : Init), shaped t0 obj = true →
    subTy t0 p = some t → getAt obj p = some c → shaped t v = true → shaped t0 (setAtM obj p v) = true
  | [], t0, obj, t, c, v, hs, ht, hc, hv => by
    simp [subTy] at ht; subst ht; simpa [setAtM] using hv
  | k :: p, t0, obj, t, c, v, hs, ht, hc, hv => by
    obtain ⟨tc, htc, ht'⟩ := subTy_cons_some ht
    obtain ⟨ck, hk, hc'⟩ := getAt_cons_some hc
    rw [setAtM_cons_eq p v hk]
    exact shaped_set_child hs htc hk (shaped_setAtM p tc ck t c v (shaped_child hs htc hk) ht' hc' hv)

theorem newInitMs_cons_false (mi : MemInfo) (t : Ty) (ms : Members) :
    newInitMs ((mi, t) :: ms) false = newInit t false :: newInitMs ms false := by
  cases ms with
  | nil => simp [newInitMs]
  | cons m r => simp [newInitMs]

theorem hasExprList_false_iff : ∀ (cs : List Init), hasExprList cs = false ↔ ∀ c ∈ cs, hasExpr c = false
  | [] => by simp [hasExprList]
  | c :: cs => by simp [hasExprList, hasExprList_false_iff cs]

mutual
  theorem zero_of_shaped : ∀ (t : Ty) (c : Init), subOk t = true → shaped t c = true → hasExpr c = false → c = newInit t false
    | t, .leaf e, ho, hs, h => by
      cases t <;> first | (simp [shaped] at hs; done) | (simp [subOk] at ho; done) | skip
      simp [hasExpr] at h; simp [newInit, h]
    | t, .arr cs, ho, hs, h => by
      cases t <;> first | (simp [shaped] at hs; done) | (simp [subOk] at ho; done) | skip
      rename_i e n
      simp only [shaped, Bool.and_eq_true, beq_iff_eq] at hs
      simp only [hasExpr] at h
      simp only [subOk] at ho
      have := zero_all e cs ho hs.2 h
      rw [newInit, ← hs.1, ← this]
    | t, .struct e cs, ho, hs, h => by
      cases t <;> first | (simp [shaped] at hs; done) | (simp [subOk] at ho; done) | skip
      rename_i ms _ fl
      simp only [shaped] at hs
      simp only [hasExpr, Bool.or_eq_false_iff] at h
      simp only [subOk, Bool.and_eq_true] at ho
      have := zero_ms ms cs ho.2 hs h.2
      have he : e = none := by cases e <;> simp_all
      simp [newInit, ← this, he]
    | t, .union e m cs, ho, hs, h => by
      cases t <;> first | (simp [shaped] at hs; done) | (simp [subOk] at ho; done) | skip
      rename_i ms _ fl
      simp only [shaped, Bool.and_eq_true] at hs
      simp only [hasExpr, Bool.or_eq_false_iff] at h
      simp only [subOk, Bool.and_eq_true] at ho
      have := zero_ms ms cs ho.1.2 hs.1 h.2
      have he : e = none := by cases e <;> simp_all
      have hm : m = none := by cases m <;> simp_all
      simp [newInit, ← this, he, hm]
    | t, .flex, ho, hs, _ => by cases t <;> first | (simp [shaped] at hs; done) | (simp [subOk] at ho; done)
  theorem zero_all : ∀ (e : Ty) (cs : List Init), subOk e = true → shapedAll e cs = true → hasExprList cs = false →
      cs = List.replicate cs.length (newInit e false)
    | _, [], _, _, _ => by simp
    | e, c :: cs, ho, hs, h => by
      simp only [shapedAll, Bool.and_eq_true] at hs
      simp only [hasExprList, Bool.or_eq_false_iff] at h
      have h1 := zero_of_shaped e c ho hs.1 h.1
      have h2 := zero_all e cs ho hs.2 h.2
      simp only [List.length_cons, List.replicate_succ]
      rw [← h2, ← h1]
  theorem zero_ms : ∀ (ms : Members) (cs : List Init), subOkMs ms = true → shapedMs ms cs = true → hasExprList cs = false →
      cs = newInitMs ms false
    | [], [], _, _, _ => by simp [newInitMs]
    | [], _ :: _, _, hs, _ => by simp [shapedMs] at hs
    | _ :: _, [], _, hs, _ => by simp [shapedMs] at hs
    | (mi, t) :: ms, c :: cs, ho, hs, h => by
      simp only [shapedMs, Bool.and_eq_true] at hs
      simp only [hasExprList, Bool.or_eq_false_iff] at h
      simp only [subOkMs, Bool.and_eq_true] at ho
      rw [newInitMs_cons_false, ← zero_of_shaped t c ho.1 hs.1 h.1, ← zero_ms ms cs ho.2 hs.2 h.2]
end

mutual
  theorem hasExpr_newInit : ∀ (t : Ty) (b : Bool), hasExpr (newInit t b) = false
    | .scalar _ _, _ => by simp [newInit, hasExpr]
    | .array e n, _ => by
      simp only [newInit, hasExpr]
      rw [hasExprList_false_iff]
      intro c hc
      rw [List.eq_of_mem_replicate hc]
      exact hasExpr_newInit e false
    | .inc _, b => by cases b <;> simp [newInit, hasExpr, hasExprList]
    | .struct ms _ f, b => by simp [newInit, hasExpr, hasExprList_newInitMs ms (b && f)]
    | .union ms _ f, b => by simp [newInit, hasExpr, hasExprList_newInitMs ms (b && f)]
  theorem hasExprList_newInitMs : ∀ (ms : Members) (b : Bool), hasExprList (newInitMs ms b) = false
    | [], _ => by simp [newInitMs, hasExprList]
    | [(_, t)], b => by cases b <;> simp [newInitMs, hasExprList, hasExpr, hasExpr_newInit t false]
    | (_, t) :: m :: r, b => by
      simp [newInitMs, hasExprList, hasExpr_newInit t false, hasExprList_newInitMs (m :: r) b]
end

mutual
  theorem shaped_newInit : ∀ (t : Ty), subOk t = true → shaped t (newInit t false) = true
    | .scalar _ _, _ => by simp [newInit, shaped]
    | .array e n, ho => by
      simp only [subOk] at ho
      simp only [newInit, shaped, List.length_replicate, beq_self_eq_true, Bool.true_and]
      rw [shapedAll_iff]
      intro c hc
      rw [List.eq_of_mem_replicate hc]
      exact shaped_newInit e ho
    | .inc _, ho => by simp [subOk] at ho
    | .struct ms _ f, ho => by
      simp only [subOk, Bool.and_eq_true] at ho
      simp [newInit, shaped, shapedMs_newInitMs ms ho.2]
    | .union ms _ f, ho => by
      simp only [subOk, Bool.and_eq_true] at ho
      simp [newInit, shaped, shapedMs_newInitMs ms ho.1.2, hasExprList_newInitMs]
  theorem shapedMs_newInitMs : ∀ (ms : Members), subOkMs ms = true → shapedMs ms (newInitMs ms false) = true
    | [], _ => by simp [newInitMs, shapedMs]
    | (mi, t) :: ms, ho => by
      simp only [subOkMs, Bool.and_eq_true] at ho
      rw [newInitMs_cons_false]
      simp [shapedMs, shaped_newInit t ho.1, shapedMs_newInitMs ms ho.2]
end

/-- without flexible members `new_initializer(ty, true)` is `new_initializer(ty, false)` -/
theorem newInit_true_eq (t : Ty) (ho : subOk t = true) : newInit t true = newInit t false := by
  cases t with
  | scalar => rfl
  | array => rfl
  | inc => simp [subOk] at ho
  | struct ms sz f => simp [subOk] at ho; simp [newInit, ho.1]
  | union ms sz f => simp [subOk] at ho; simp [newInit, ho.1.1]

theorem except_bind_pure_comp {α β : Type} (x : Except Fail α) (g : α → β) (h : β → β) :
    ((x >>= fun v => pure (g v)) >>= fun c => (pure (h c) : Except Fail β)) = (x >>= fun v => pure (h (g v))) := by
  cases x <;> rfl

theorem switchesUnion_union_some {cs : List Init} (e : Option Expr) (m : Nat) (p : List Nat)
    (h : cs[k]? = some c) : switchesUnion (.union e (some m) cs) (k :: p) = if m = k then switchesUnion c p else true := by
  rw [switchesUnion]; simp [h]

theorem switchesUnion_other (p : List Nat) (h : obj.children[k]? = some c)
    (hn : ∀ e m cs, obj ≠ .union e (some m) cs) : switchesUnion obj (k :: p) = switchesUnion c p := by
  rw [switchesUnion]
  · simp [h]
  · intro e m cs he; exact hn e m cs he

theorem switchesUnion_cons_of_some (hk : obj.children[k]? = some ck)
    (h : switchesUnion obj (k :: p) = false) : switchesUnion ck p = false := by
  by_cases hu : ∃ e m cs, obj = .union e (some m) cs
  · obtain ⟨e, m, cs, rfl⟩ := hu
    simp only [Init.children] at hk
    rw [switchesUnion_union_some e m p hk] at h
    split at h
    · exact h
    · simp at h
  · rw [switchesUnion_other p hk (fun e m cs he => hu ⟨e, m, cs, he⟩)] at h
    exact h

/-- one step of `modifyAt` at a node of type `t` with value `obj` towards child `k` (`done`: the path so far): the child's type, the
    value it starts from, and the node rebuilt around the child's new value -/
def nodeStep (root : Ty) (top : Bool) (t : Ty) (done : List Nat) (k : Nat) (obj : Init) : Except Fail (Ty × Init × (Init → Init)) :=
  match t with
  | .array e len =>
    let cs := match obj with | .arr cs => cs | _ => []
    let cs := if k < cs.length then cs else
      if growable root top done then cs ++ List.replicate (k + 1 - cs.length) (zeroOf e) else cs
    if k < cs.length ∧ (k < len ∨ growable root top done) then pure (e, cs.getD k (zeroOf e), fun c => .arr (cs.set k c))
    else .error (.diag "array index out of bounds")
  | .inc e =>
    let cs := match obj with | .arr cs => cs | _ => []
    let cs := if k < cs.length then cs else cs ++ List.replicate (k + 1 - cs.length) (zeroOf e)
    pure (e, cs.getD k (zeroOf e), fun c => .arr (cs.set k c))
  | .struct ms _ _ =>
    match ms[k]?, obj with
    | some (_, mt), .struct _ cs => pure (mt, cs.getD k (zeroOf mt), fun c => .struct none (cs.set k c))
    | _, _ => .error (.crash "spec: path does not match the type")
  | .union ms _ _ =>
    match ms[k]?, obj with
    | some (_, mt), .union _ m cs =>
      pure (mt, if m = some k then cs.getD k (zeroOf mt) else zeroOf mt, fun c => .union none (some k) (cs.set k c))
    | _, _ => .error (.crash "spec: path does not match the type")
  | .scalar .. => .error (.crash "spec: path through a scalar")

theorem ite_pure_bind {α β : Type} {c : Prop} [Decidable c] (a : α) (e : Fail) (g : α → Except Fail β) :
    ((if c then pure a else .error e : Except Fail α) >>= g) = if c then g a else .error e := by
  split <;> rfl

/-- `modifyAt` along `k :: p`: the step at the node, the subobject below, the node rebuilt -/
theorem modifyAt_cons (root : Ty) (top : Bool) (f : Ty → Init → Except Fail Init) (t : Ty) (done : List Nat) (k : Nat) (p : List Nat)
    (obj : Init) :
    modifyAt root top f t done (k :: p) obj =
      (nodeStep root top t done k obj >>= fun s => modifyAt root top f s.1 (done ++ [k]) p s.2.1 >>= fun c => pure (s.2.2 c)) := by
  cases t with
  | scalar => rw [modifyAt.eq_def]; rfl
  | array => rw [modifyAt.eq_def]; simp only [nodeStep, ite_pure_bind]; rfl
  | inc => rw [modifyAt.eq_def]; rfl
  | struct ms => rw [modifyAt.eq_def]; cases hm : ms[k]? <;> cases obj <;> simp only [nodeStep, hm] <;> rfl
  | union ms => rw [modifyAt.eq_def]; cases hm : ms[k]? <;> cases obj <;> simp only [nodeStep, hm] <;> rfl

/-- at a shaped node, when no union switches: the child as it is, and `setAtM`'s rebuilding -/
theorem nodeStep_shaped (root : Ty) (top : Bool) (done : List Nat) (ho : tyOk t0 = true) (hs : shaped t0 obj = true)
    (htc : childTy t0 k = some tc) (hk : obj.children[k]? = some ck) (hsw : switchesUnion obj (k :: p) = false) :
    nodeStep root top t0 done k obj = .ok (tc, ck, fun c => (mark obj k).withChildren (obj.children.set k c)) := by
  have hlt : k < obj.children.length := (List.getElem?_eq_some_iff.mp hk).1
  rcases shaped_node hs htc with ⟨n, cs, rfl, rfl, hn, _⟩ | ⟨cs, rfl, rfl, _⟩ | ⟨ms, sz, fl, e, cs, mi, rfl, rfl, _, hm⟩ |
    ⟨ms, sz, fl, e, m, cs, mi, rfl, rfl, hms, hu, hm⟩
  · simp only [Init.children] at hk hlt
    simp only [nodeStep, hlt, ↓reduceIte, hn ▸ hlt, true_or, and_self, getD_of_getElem? hk]; rfl
  · simp only [Init.children] at hk hlt
    simp only [nodeStep, hlt, ↓reduceIte, getD_of_getElem? hk]; rfl
  · simp only [Init.children] at hk
    simp only [nodeStep, hm, getD_of_getElem? hk]; rfl
  · simp only [Init.children] at hk
    -- the member the union holds, or (none yet, so no expression below) zero
    have hold : (if m = some k then cs.getD k (zeroOf tc) else zeroOf tc) = ck := by
      cases m with
      | some m' =>
        rw [switchesUnion_union_some e m' p hk] at hsw
        split at hsw
        · rename_i hmk; subst hmk; simp [hk]
        · simp at hsw
      | none =>
        simp only [Option.isSome_none, Bool.false_or, Bool.not_eq_true'] at hu
        have hne : hasExpr ck = false := (hasExprList_false_iff cs).mp hu ck (List.mem_of_getElem? hk)
        have := zero_of_shaped tc ck (tyOk_child ho htc) (shapedMs_get ms cs k mi tc ck hms hm hk) hne
        simp [zeroOf, this]
    simp only [nodeStep, hm, hold]; rfl

theorem modifyAt_eq (root : Ty) (top : Bool) (f : Ty → Init → Except Fail Init) :
    ∀ (q : List Nat) (t0 : Ty) (done : List Nat) (obj0 : Init) (t : Ty) (old : Init),
    tyOk t0 = true → shaped t0 obj0 = true → subTy t0 q = some t → getAt obj0 q = some old → switchesUnion obj0 q = false →
    modifyAt root top f t0 done q obj0 = (f t old >>= fun v => pure (setAtM obj0 q v))
  | [], t0, done, obj0, t, old, _, _, ht, hg, _ => by
    simp [subTy] at ht; simp [getAt] at hg; subst ht; subst hg
    simp [modifyAt, setAtM]
  | k :: p, t0, done, obj0, t, old, ho, hs, ht, hg, hsw => by
    obtain ⟨tc, htc, ht'⟩ := subTy_cons_some ht
    obtain ⟨ck, hk, hg'⟩ := getAt_cons_some hg
    rw [modifyAt_cons, nodeStep_shaped root top done ho hs htc hk hsw, Except.ok_bind,
      modifyAt_eq root top f p tc _ ck t old (subOk_tyOk tc (tyOk_child ho htc)) (shaped_child hs htc hk) ht' hg'
        (switchesUnion_cons_of_some hk hsw), except_bind_pure_comp]
    simp only [setAtM_cons p _ hk]

/-! ### a struct root with a flexible array member

The declared object may be a struct whose last member is a flexible array member.  Its node is `.flex` until the first
initializer reaches it and an array of the counted length afterwards (parser), resp. an array that grows (specification), so the
root object is not `shaped` in the member.  `shapedR` is `shaped` up to that member; `pathOk` are the paths at which the parser works
on an ordinary node: not the root struct itself and not the flexible member itself (their elements and everything else are). -/

def isFlexRoot : Ty → Bool
  | .struct _ _ true => true
  | _ => false

/-- children of a struct with flexible array member: ordinary members shaped; the last member unresolved or an array of any length -/
def shapedFlexMs : Members → List Init → Bool
  | [(_, .array e _)], [c] => (match c with | .flex => true | .arr xs => shapedAll e xs | _ => false)
  | (_, t) :: m :: ms, c :: cs => shaped t c && shapedFlexMs (m :: ms) cs
  | _, _ => false

def shapedR (root : Ty) (obj : Init) : Bool :=
  match root with
  | .struct ms _ true => (match obj with | .struct _ cs => shapedFlexMs ms cs | _ => false)
  | t => shaped t obj

def pathOk (root : Ty) (p : List Nat) : Bool :=
  match root with
  | .struct ms _ true => (match p with | [] => false | [k] => k + 1 != ms.length | _ => true)
  | _ => true

theorem shapedR_of_not_flex (h : isFlexRoot root = false) : shapedR root obj = shaped root obj := by
  cases root with
  | struct ms sz fl => cases fl <;> simp_all [isFlexRoot, shapedR]
  | _ => rfl

theorem pathOk_of_not_flex (h : isFlexRoot root = false) (p : List Nat) : pathOk root p = true := by
  cases root with
  | struct ms sz fl => cases fl <;> simp_all [isFlexRoot, pathOk]
  | _ => rfl

theorem isFlexRoot_subOk (h : subOk t = true) : isFlexRoot t = false := by
  cases t with
  | struct ms sz fl => cases fl <;> simp_all [isFlexRoot, subOk]
  | _ => rfl

theorem isFlexRoot_inc (e : Ty) : isFlexRoot (.inc e) = false := rfl

/-- the flexible member's node -/
def flexNode (e : Ty) (c : Init) : Prop := c = .flex ∨ ∃ xs, c = .arr xs ∧ shapedAll e xs = true

/-- what `shapedFlexMs` asks of the child `c` of member `k` (of type `t`) of `n` members: shaped, but the last one a `flexNode` -/
def flexAt (n k : Nat) (t : Ty) (c : Init) : Prop :=
  (k + 1 ≠ n ∧ shaped t c = true) ∨ (k + 1 = n ∧ ∃ e len, t = .array e len ∧ flexNode e c)

theorem shapedFlexMs_iff : ∀ (ms : Members) (cs : List Init), shapedFlexMs ms cs = true ↔
    ms ≠ [] ∧ cs.length = ms.length ∧
      ∀ (k : Nat) (m : MemInfo × Ty) (c : Init), ms[k]? = some m → cs[k]? = some c → flexAt ms.length k m.2 c
  | [], _ => by simp [shapedFlexMs]
  | [(mi, t)], cs => by
    constructor
    · intro h
      cases t <;> first | (simp [shapedFlexMs] at h; done) | skip
      rename_i e n
      match cs, h with
      | [c], h =>
        refine ⟨by simp, rfl, fun k m c' hm hc => ?_⟩
        cases k with
        | succ k => simp at hm
        | zero =>
          cases hm; cases hc
          refine .inr ⟨rfl, e, n, rfl, ?_⟩
          cases c <;> simp [shapedFlexMs] at h
          · exact .inr ⟨_, rfl, h⟩
          · exact .inl rfl
    · rintro ⟨_, hl, h⟩
      match cs, hl with
      | [c], _ =>
        rcases h 0 _ c rfl rfl with ⟨h1, _⟩ | ⟨_, e, n, rfl, rfl | ⟨xs, rfl, hx⟩⟩
        · simp at h1
        · rfl
        · simpa [shapedFlexMs] using hx
  | (mi, t) :: m :: ms, [] => by simp [shapedFlexMs]
  | (mi, t) :: m :: ms, c :: cs => by
    simp only [shapedFlexMs, Bool.and_eq_true, shapedFlexMs_iff (m :: ms) cs, List.length_cons, Nat.add_right_cancel_iff, ne_eq,
      reduceCtorEq, not_false_eq_true, true_and]
    have e : ∀ k t' c', flexAt (ms.length + 1 + 1) (k + 1) t' c' ↔ flexAt (ms.length + 1) k t' c' := by
      intro k t' c'; simp only [flexAt, Nat.add_right_cancel_iff, ne_eq]
    constructor
    · rintro ⟨h0, hl, h⟩
      refine ⟨hl, fun k m' c' hm hc => ?_⟩
      cases k with
      | zero => cases hm; cases hc; exact .inl ⟨by simp, h0⟩
      | succ k => exact (e ..).2 (h k m' c' hm hc)
    · rintro ⟨hl, h⟩
      refine ⟨?_, hl, fun k m' c' hm hc => (e ..).1 (h (k + 1) m' c' hm hc)⟩
      rcases h 0 _ _ rfl rfl with h0 | ⟨h1, _⟩
      · exact h0.2
      · simp at h1

theorem shapedFlexMs_length (ms : Members) (cs : List Init) (h : shapedFlexMs ms cs = true) : cs.length = ms.length :=
  ((shapedFlexMs_iff ms cs).1 h).2.1

theorem shapedFlexMs_get (ms : Members) (cs : List Init) (j : Nat) (mi : MemInfo) (t : Ty) (c : Init) (h : shapedFlexMs ms cs = true)
    (hm : ms[j]? = some (mi, t)) (hc : cs[j]? = some c) : flexAt ms.length j t c :=
  ((shapedFlexMs_iff ms cs).1 h).2.2 j _ c hm hc

theorem shapedFlexMs_set (ms : Members) (cs : List Init) (j : Nat) (mi : MemInfo) (t : Ty) (v : Init) (h : shapedFlexMs ms cs = true)
    (hm : ms[j]? = some (mi, t)) (hv : flexAt ms.length j t v) : shapedFlexMs ms (cs.set j v) = true := by
  obtain ⟨hne, hl, hg⟩ := (shapedFlexMs_iff ms cs).1 h
  exact (shapedFlexMs_iff ms _).2
    ⟨hne, by simpa using hl, forall_getElem?_set hg fun m hm' => by rw [hm] at hm'; cases hm'; exact hv⟩

theorem growable_false_of {top : Bool} (ho : tyOk root = true) (hp : pathOk root p = true)
    (ht : subTy root p = some t) (hok : subOk t = true) : growable root top p = false := by
  cases root with
  | scalar => simp [growable]
  | array => simp [growable]
  | inc e' =>
    cases p with
    | nil => simp [subTy] at ht; subst ht; simp [subOk] at hok
    | cons k p => simp [growable]
  | struct ms sz fl =>
    cases fl with
    | false => simp [growable]
    | true =>
      cases p with
      | nil => simp [growable]
      | cons k p =>
        cases p with
        | nil => simp only [pathOk, bne_iff_ne, ne_eq] at hp; simp [growable, hp]
        | cons _ _ => simp [growable]
  | union ms sz fl =>
    simp only [tyOk, subOk, Bool.and_eq_true, Bool.not_eq_true'] at ho
    rw [ho.1.1]; simp [growable]

theorem flexNode_child {e : Ty} {c ci : Init} {i : Nat} (h : flexNode e c) (hi : c.children[i]? = some ci) :
    ∃ xs, c = .arr xs ∧ shapedAll e xs = true ∧ xs[i]? = some ci := by
  rcases h with rfl | ⟨xs, rfl, hx⟩
  · simp [Init.children] at hi
  · exact ⟨xs, rfl, hx, by simpa [Init.children] using hi⟩

theorem flexRoot_path (hfr : isFlexRoot root = true) (hs : shapedR root obj = true) (hp : pathOk root p = true)
    (ht : subTy root p = some t) (hc : getAt obj p = some c) :
    ∃ ms sz e0 cs j p' mi tj cj, root = .struct ms sz true ∧ obj = .struct e0 cs ∧ p = j :: p' ∧ shapedFlexMs ms cs = true ∧
      ms[j]? = some (mi, tj) ∧ cs[j]? = some cj ∧ subTy tj p' = some t ∧ getAt cj p' = some c ∧
      ((j + 1 ≠ ms.length ∧ shaped tj cj = true) ∨
       (j + 1 = ms.length ∧ ∃ e n xs i p'' ci, tj = .array e n ∧ cj = .arr xs ∧ shapedAll e xs = true ∧ p' = i :: p'' ∧
          xs[i]? = some ci ∧ subTy e p'' = some t ∧ getAt ci p'' = some c)) := by
  cases root with
  | struct ms sz fl =>
    cases fl with
    | false => simp [isFlexRoot] at hfr
    | true =>
      cases obj with
      | struct e0 cs =>
        simp only [shapedR] at hs
        cases p with
        | nil => simp [pathOk] at hp
        | cons j p' =>
          obtain ⟨tj, htj, ht'⟩ := subTy_cons_some ht
          obtain ⟨cj, hcj, hc'⟩ := getAt_cons_some hc
          simp only [childTy, Option.map_eq_some_iff] at htj
          obtain ⟨⟨mi, tj'⟩, hm, htj⟩ := htj
          simp at htj; subst htj
          simp only [Init.children] at hcj
          refine ⟨ms, sz, e0, cs, j, p', mi, tj', cj, rfl, rfl, rfl, hs, hm, hcj, ht', hc', ?_⟩
          rcases shapedFlexMs_get ms cs j mi tj' cj hs hm hcj with h | ⟨h1, e, n, rfl, hn⟩
          · exact .inl h
          · cases p' with
            | nil => simp [pathOk, h1] at hp
            | cons i p'' =>
              obtain ⟨ti, hti, ht''⟩ := subTy_cons_some ht'
              obtain ⟨ci, hci, hc''⟩ := getAt_cons_some hc'
              simp [childTy] at hti; subst hti
              obtain ⟨xs, rfl, hx, hxi⟩ := flexNode_child hn hci
              exact .inr ⟨h1, e, n, xs, i, p'', ci, rfl, rfl, hx, rfl, hxi, ht'', hc''⟩
      | _ => simp [shapedR] at hs
  | _ => simp [isFlexRoot] at hfr

theorem shapedR_getAt (hs : shapedR root obj = true)
    (hp : pathOk root p = true) (ht : subTy root p = some t) (hc : getAt obj p = some c) : shaped t c = true := by
  cases hfr : isFlexRoot root with
  | false => rw [shapedR_of_not_flex hfr] at hs; exact shaped_getAt p root obj t c hs ht hc
  | true =>
    obtain ⟨ms, sz, e0, cs, j, p', mi, tj, cj, rfl, rfl, rfl, _, _, _, ht', hc', h | ⟨_, e, n, xs, i, p'', ci, rfl, rfl, hx, rfl, hxi,
      ht'', hc''⟩⟩ := flexRoot_path hfr hs hp ht hc
    · exact shaped_getAt p' tj cj t c h.2 ht' hc'
    · exact shaped_getAt p'' e ci t c (shapedAll_get e xs i ci hx hxi) ht'' hc''

theorem shapedR_setAtM {c v : Init} (hs : shapedR root obj = true)
    (hp : pathOk root p = true) (ht : subTy root p = some t) (hc : getAt obj p = some c) (hv : shaped t v = true) :
    shapedR root (setAtM obj p v) = true := by
  cases hfr : isFlexRoot root with
  | false => rw [shapedR_of_not_flex hfr] at hs ⊢; exact shaped_setAtM p root obj t c v hs ht hc hv
  | true =>
    obtain ⟨ms, sz, e0, cs, j, p', mi, tj, cj, rfl, rfl, rfl, hs', hm, hcj, ht', hc', h | ⟨h1, e, n, xs, i, p'', ci, rfl, rfl, hx, rfl,
      hxi, ht'', hc''⟩⟩ := flexRoot_path hfr hs hp ht hc
    · simp only [setAtM, shapedR, getD_of_getElem? hcj]
      exact shapedFlexMs_set ms cs j mi tj _ hs' hm (Or.inl ⟨h.1, shaped_setAtM p' tj cj t c v h.2 ht' hc' hv⟩)
    · simp only [setAtM, shapedR, getD_of_getElem? hcj]
      refine shapedFlexMs_set ms cs j mi _ _ hs' hm (Or.inr ⟨h1, e, n, rfl, Or.inr ⟨xs.set i (setAtM ci p'' v), ?_, ?_⟩⟩)
      · simp only [getD_of_getElem? hxi]
      · exact shapedAll_set e xs i _ hx (shaped_setAtM p'' e ci t c v (shapedAll_get e xs i ci hx hxi) ht'' hc'' hv)

/-- what `modifyAt` makes of the children of an array that may grow before it writes element `i` -/
def padI (xs : List Init) (i : Nat) (z : Init) : List Init :=
  if i < xs.length then xs else xs ++ List.replicate (i + 1 - xs.length) z

theorem padI_length_gt (xs : List Init) (i : Nat) (z : Init) : i < (padI xs i z).length := by
  unfold padI; split
  · assumption
  · simp; omega

def elemsOf : Init → List Init
  | .arr ys => ys
  | _ => []

/-- `modifyAt` at an array that may grow (unknown bound, or the flexible member): pad up to element `k`, go on inside it -/
theorem modifyAt_grow {top : Bool} {f : Ty → Init → Except Fail Init} {e : Ty} {done : List Nat}
    (ht : t = .inc e ∨ ∃ len, t = .array e len ∧ growable root top done = true) (k : Nat) (p : List Nat) (obj : Init) :
    modifyAt root top f t done (k :: p) obj =
      (modifyAt root top f e (done ++ [k]) p ((padI (elemsOf obj) k (zeroOf e)).getD k (zeroOf e)) >>= fun c =>
        pure (.arr ((padI (elemsOf obj) k (zeroOf e)).set k c))) := by
  have hl := fun xs => padI_length_gt xs k (zeroOf e)
  rw [modifyAt_cons]
  rcases ht with rfl | ⟨len, rfl, hg⟩
  · cases obj <;> rfl
  · cases obj <;> simp only [nodeStep, elemsOf, hg, ↓reduceIte, ← padI.eq_1, hl, or_true, and_self] <;> rfl

theorem modifyAt_member {top : Bool} {f : Ty → Init → Except Fail Init} {ms : Members} {sz : Nat} {fl0 : Bool}
    {done : List Nat} {mi : MemInfo} {mt : Ty} {eo : Option Expr} {cs : List Init}
    (hm : ms[k]? = some (mi, mt)) (hk : cs[k]? = some ck) (p : List Nat) :
    modifyAt root top f (.struct ms sz fl0) done (k :: p) (.struct eo cs) =
      (modifyAt root top f mt (done ++ [k]) p ck >>= fun c => pure (.struct none (cs.set k c))) := by
  rw [modifyAt_cons]
  simp only [nodeStep, hm, getD_of_getElem? hk]
  rfl

theorem modifyAt_eqR (root : Ty) (top : Bool) (f : Ty → Init → Except Fail Init) {old : Init}
    (ho : tyOk root = true) (htop : isFlexRoot root = true → top = true) (hs : shapedR root obj = true) (hp : pathOk root p = true)
    (ht : subTy root p = some t) (hg : getAt obj p = some old) (hsw : switchesUnion obj p = false) :
    modifyAt root top f root [] p obj = (f t old >>= fun v => pure (setAtM obj p v)) := by
  cases hfr : isFlexRoot root with
  | false => rw [shapedR_of_not_flex hfr] at hs; exact modifyAt_eq root top f p root [] obj t old ho hs ht hg hsw
  | true =>
    have htt := htop hfr
    subst htt
    obtain ⟨ms, sz, e0, cs, j, p', mi, tj, cj, rfl, rfl, rfl, _, hm, hcj, ht', hg', h | ⟨h1, e, n, xs, i, p'', ci, rfl, rfl, hx, rfl,
      hxi, ht'', hg''⟩⟩ := flexRoot_path hfr hs hp ht hg
    all_goals
      simp only [tyOk] at ho
      have hsw' := switchesUnion_cons_of_some (obj := .struct e0 cs) hcj hsw
      have hoj := flexOkMs_get ms j mi _ ho hm
      rw [modifyAt_member hm hcj]
    · rw [modifyAt_eq _ true f p' tj _ cj t old (subOk_tyOk tj hoj) h.2 ht' hg' hsw']
      rw [except_bind_pure_comp]
      simp [setAtM, hcj]
    · have hlt : i < xs.length := (List.getElem?_eq_some_iff.mp hxi).1
      have hsw'' := switchesUnion_cons_of_some (obj := .arr xs) hxi hsw'
      have hoe : subOk e = true := by simpa [subOk] using hoj
      have hgr : growable (.struct ms sz true) true ([] ++ [j]) = true := by simp [growable, h1]
      rw [modifyAt_grow (.inr ⟨n, rfl, hgr⟩)]
      simp only [elemsOf, padI, hlt, ↓reduceIte, getD_of_getElem? hxi]
      rw [modifyAt_eq _ true f p'' e _ ci t old (subOk_tyOk e hoe) (shapedAll_get e xs i ci hx hxi) ht'' hg'' hsw'']
      rw [except_bind_pure_comp, except_bind_pure_comp]
      simp [setAtM, hcj, hxi]

end ChibiVerif.InitSpec
