/-
A witness that the contract structure `FpuSpec` is satisfiable (so the theorems `∀ F : FpuSpec, …` of Props/C02.lean are
not vacuous), and the FPU on which the witnesses of Findings/C02.lean are exhibited.

It is a *toy* FPU, not IEEE-754: a datum of 32 / 64 / 80 bits is  sign | 6-bit shift s | q  and denotes
(−1)^sign · q · 2^s  (25 / 57 / 73 bits of q: enough for every integer of at most 65 bits rounded to 24 / 53 / 64
significant bits).  There are no NaNs or infinities.  The two patterns the fp → unsigned long cells materialise
(binary32 0x5f000000, binary64 0x43e0000000000000) are given the value the contract names (2^63) by a special case of
`val32`/`val64`; no other operation produces them.  The arithmetic operations return their first operand except where a
contract constrains them: `x + x` doubles exactly, `x − 2^63` is exact for 2^63 ≤ x < 2^64, `fadd` of the constant 2^64
to an integer datum is exact.  All contracts hold (proved below); the real x87/SSE unit is validated against the same
contracts by checklib/C02.py on every run.
-/
import ChibiVerif.Lemmas.FpRoundLemmas

namespace ChibiVerif.Spec.Fpu.Toy

theorem roundQS_bounds (p n : Nat) (hp : p ≤ 64) (hn : n ≤ 2 ^ 64) :
    (roundQS p n).1 ≤ 2 ^ p ∧ (roundQS p n).2 ≤ 65 - p := by
  have hl := bitLen_le_of_lt n 65 (by omega)
  exact ⟨roundQS_fst_le p n, by rw [roundQS_snd]; omega⟩

/-- sign | 6-bit shift | `qb`-bit q -/
def dec (qb : Nat) (b : Nat) : Val :=
  .fin (b / 2 ^ (qb + 6) % 2 = 1) (b % 2 ^ qb) ((b / 2 ^ qb % 64 : Nat) : Int)

def enc (qb : Nat) (neg : Bool) (q s : Nat) : Nat := (if neg then 2 ^ (qb + 6) else 0) + s * 2 ^ qb + q

/-- re-encode a datum with a wider q field -/
def widen (qb qb' : Nat) (b : Nat) : Nat := enc qb' (b / 2 ^ (qb + 6) % 2 = 1) (b % 2 ^ qb) (b / 2 ^ qb % 64)

/-- the integer `v` rounded to `p` significant bits, encoded (only the sign when |v| > 2^64).  The code is computed from the
    *rounded* magnitude, so that it is a function of the sign and of `roundNat p |v|` (contracts `ofInt*_congr`). -/
def ofIntNat (qb p : Nat) (v : Int) : Nat :=
  if v.natAbs ≤ 2 ^ 64 then
    enc qb (decide (v < 0)) (roundQS p (roundNat p v.natAbs)).1 (roundQS p (roundNat p v.natAbs)).2
  else enc qb (decide (v < 0)) 0 0


theorem enc_fields (qb : Nat) (neg : Bool) (q s : Nat) (hq : q < 2 ^ qb) (hs : s < 64) :
    enc qb neg q s < 2 ^ (qb + 7) ∧ enc qb neg q s % 2 ^ qb = q ∧ enc qb neg q s / 2 ^ qb = (if neg then 64 else 0) + s ∧
      enc qb neg q s / 2 ^ qb % 64 = s ∧ decide (enc qb neg q s / 2 ^ (qb + 6) % 2 = 1) = neg :=
  fields_of_code qb 6 neg s q _ (by rw [enc, Nat.add_comm 6 qb]) hq hs

theorem dec_enc (qb : Nat) (neg : Bool) (q s : Nat) (hq : q < 2 ^ qb) (hs : s < 64) :
    dec qb (enc qb neg q s) = .fin neg q s := by
  obtain ⟨_, f1, _, f2, f3⟩ := enc_fields qb neg q s hq hs
  rw [dec, f1, f2, f3]

theorem enc_lt (qb : Nat) (neg : Bool) (q s : Nat) (hq : q < 2 ^ qb) (hs : s < 64) :
    enc qb neg q s < 2 ^ (qb + 7) :=
  (enc_fields qb neg q s hq hs).1

theorem enc_msb (qb : Nat) (neg : Bool) (q s : Nat) (hq : q < 2 ^ qb) (hs : s < 64) :
    (BitVec.ofNat (qb + 7) (enc qb neg q s)).msb = neg := by
  have h : 2 ^ 6 * 2 ^ qb ≤ enc qb neg q s ↔ neg = true := by
    rw [← Nat.le_div_iff_mul_le (Nat.two_pow_pos qb), (enc_fields qb neg q s hq hs).2.2.1]
    cases neg <;> simp <;> omega
  rw [BitVec.msb_eq_decide, BitVec.toNat_ofNat, Nat.mod_eq_of_lt (enc_lt qb neg q s hq hs),
    show qb + 7 - 1 = 6 + qb by omega, Nat.pow_add]
  simp only [h, Bool.decide_eq_true]

/-- re-encoding the fields of a code gives the code back: a code is determined by its quotient and remainder by 2^qb -/
theorem enc_dec_fields (qb x : Nat) (hx : x < 2 ^ (qb + 7)) :
    enc qb (decide (x / 2 ^ (qb + 6) % 2 = 1)) (x % 2 ^ qb) (x / 2 ^ qb % 64) = x := by
  have hP := Nat.two_pow_pos qb
  have hb : x / 2 ^ (qb + 6) = x / 2 ^ qb / 64 := by rw [Nat.pow_add, Nat.div_div_eq_div_mul]
  have ha : x / 2 ^ qb < 2 ^ 7 := by
    rw [Nat.div_lt_iff_lt_mul hP, Nat.mul_comm, ← Nat.pow_add]; exact hx
  rw [hb]
  obtain ⟨_, h2, h1, _⟩ := enc_fields qb (decide (x / 2 ^ qb / 64 % 2 = 1)) (x % 2 ^ qb) (x / 2 ^ qb % 64) (Nat.mod_lt _ hP)
    (Nat.mod_lt _ (by decide))
  have e : enc qb (decide (x / 2 ^ qb / 64 % 2 = 1)) (x % 2 ^ qb) (x / 2 ^ qb % 64) / 2 ^ qb = x / 2 ^ qb := by
    rw [h1]
    generalize x / 2 ^ qb = a at ha ⊢
    by_cases h : a / 64 % 2 = 1 <;> simp [h] <;> omega
  rw [← Nat.div_add_mod (enc _ _ _ _) (2 ^ qb), e, h2, Nat.div_add_mod]

theorem roundInt_eq' (p : Nat) (v : Int) (hp : 1 ≤ p) :
    roundInt p v = (if decide (v < 0) = true
        then -(((roundQS p (roundNat p v.natAbs)).1 * 2 ^ (roundQS p (roundNat p v.natAbs)).2 : Nat) : Int)
        else (((roundQS p (roundNat p v.natAbs)).1 * 2 ^ (roundQS p (roundNat p v.natAbs)).2 : Nat) : Int)) := by
  have := roundNat_idem p v.natAbs hp
  simp only [roundNat] at this
  simp [roundInt, roundNat, this]

theorem toInt_fin (neg : Bool) (q s : Nat) :
    (Val.fin neg q (s : Int)).toInt? = some (if neg then -((q * 2 ^ s : Nat) : Int) else ((q * 2 ^ s : Nat) : Int)) := by
  simp [Val.toInt?, Val.magTrunc]

theorem roundInt_eq (p : Nat) (v : Int) :
    roundInt p v = (if decide (v < 0) = true then -(((roundQS p v.natAbs).1 * 2 ^ (roundQS p v.natAbs).2 : Nat) : Int)
                    else (((roundQS p v.natAbs).1 * 2 ^ (roundQS p v.natAbs).2 : Nat) : Int)) := by
  simp [roundInt, roundNat]

theorem ofIntNat_eq (qb p : Nat) (v : Int) (hp1 : 1 ≤ p) (hp : p ≤ 64) (hqb : p < qb) :
    ∃ q s, ofIntNat qb p v = enc qb (decide (v < 0)) q s ∧ q ≤ 2 ^ p ∧ q < 2 ^ qb ∧ s ≤ 65 - p ∧
      (v.natAbs ≤ 2 ^ 64 → (Val.fin (decide (v < 0)) q (s : Int)).toInt? = some (roundInt p v)) := by
  have hlt : 2 ^ p < 2 ^ qb := Nat.pow_lt_pow_right (by omega) hqb
  unfold ofIntNat
  split
  · rename_i hv
    obtain ⟨hq, hs⟩ := roundQS_bounds p (roundNat p v.natAbs) hp (roundNat_le64 p v.natAbs hp1 hp hv)
    exact ⟨_, _, rfl, hq, by omega, hs, fun _ => by rw [toInt_fin, roundInt_eq' p v hp1]⟩
  · rename_i hv
    exact ⟨0, 0, rfl, Nat.zero_le _, Nat.two_pow_pos _, Nat.zero_le _, fun h => absurd h hv⟩

theorem ofIntNat_congr (qb p : Nat) (a b : Int) (ha : a.natAbs ≤ 2 ^ 64) (hb : b.natAbs ≤ 2 ^ 64) (hs : a < 0 ↔ b < 0)
    (h : roundInt p a = roundInt p b) : ofIntNat qb p a = ofIntNat qb p b := by
  have hn : roundNat p a.natAbs = roundNat p b.natAbs := by
    simp only [roundInt] at h
    by_cases h0 : a < 0
    · have h1 : b < 0 := hs.1 h0
      simp only [h0, h1, if_true] at h; omega
    · have h1 : ¬ b < 0 := fun x => h0 (hs.2 x)
      simp only [h0, h1, if_false] at h; omega
  have hd : decide (a < 0) = decide (b < 0) := by simp [hs]
  simp only [ofIntNat, ha, hb, if_true, hn, hd]

/-- a format that gives one pattern `C` a value of its own reads every code whose fields differ from those of `C` by `dec` -/
theorem val_of_enc {n : Nat} (qb : Nat) (hn : n = qb + 7) (C : BitVec n) (sv : Val) (qC sC : Nat)
    (hC : dec qb C.toNat = .fin false qC sC) (neg : Bool) (q s : Nat) (hq : q < 2 ^ qb) (hs : s < 64) (hne : q = qC → s ≠ sC) :
    (if BitVec.ofNat n (enc qb neg q s) = C then sv else dec qb (BitVec.ofNat n (enc qb neg q s)).toNat) = .fin neg q s := by
  subst hn
  have hlt := enc_lt qb neg q s hq hs
  have hd := dec_enc qb neg q s hq hs
  have hnc : BitVec.ofNat (qb + 7) (enc qb neg q s) ≠ C := by
    intro h
    have h' := congrArg BitVec.toNat h
    simp only [BitVec.toNat_ofNat, Nat.mod_eq_of_lt hlt] at h'
    rw [h', hC] at hd
    simp only [Val.fin.injEq] at hd
    exact hne hd.2.1.symm (by omega)
  simp only [hnc, if_false, BitVec.toNat_ofNat, Nat.mod_eq_of_lt hlt, hd]

/-- fields of a datum whose integer part lies in [2^63, 2^64): it is positive, and q·2^s − 2^63 = (q − 2^(63−s))·2^s -/
theorem dec_sub63 (qb b : Nat) (t : Int) (ht : (dec qb b).trunc? = some t)
    (h1 : 9223372036854775808 ≤ t) (h2 : t < 18446744073709551616) :
    b % 2 ^ qb - 2 ^ (63 - b / 2 ^ qb % 64) < 2 ^ qb ∧ b / 2 ^ qb % 64 < 64 ∧
    (((b % 2 ^ qb - 2 ^ (63 - b / 2 ^ qb % 64)) * 2 ^ (b / 2 ^ qb % 64) : Nat) : Int) = t - 9223372036854775808 ∧
    (Val.fin false (b % 2 ^ qb - 2 ^ (63 - b / 2 ^ qb % 64)) ((b / 2 ^ qb % 64 : Nat) : Int)).trunc? =
      some (t - 9223372036854775808) ∧
    (b / 2 ^ qb % 64 = 47 → b % 2 ^ qb - 2 ^ (63 - b / 2 ^ qb % 64) < 2 ^ 17) := by
  simp only [dec, Val.trunc?, Val.magTrunc, Option.some.injEq] at ht
  have hs : b / 2 ^ qb % 64 < 64 := Nat.mod_lt _ (by decide)
  have hqb : b % 2 ^ qb < 2 ^ qb := Nat.mod_lt _ (Nat.two_pow_pos qb)
  generalize b / 2 ^ qb % 64 = s at *
  generalize b % 2 ^ qb = q at *
  have h0 : (0:Int) ≤ (s:Int) := by omega
  rw [if_pos h0, Int.toNat_natCast] at ht
  have hneg : ¬ (b / 2 ^ (qb + 6) % 2 = 1) := by
    intro hn
    simp only [hn, decide_true, if_true] at ht
    have : (0:Int) ≤ ((q * 2 ^ s : Nat) : Int) := Int.natCast_nonneg _
    omega
  simp only [hneg, decide_false, Bool.false_eq_true, if_false] at ht
  have hpow : 2 ^ (63 - s) * 2 ^ s = 2 ^ 63 := by
    rw [← Nat.pow_add]; congr 1; omega
  have hqs : 2 ^ 63 ≤ q * 2 ^ s ∧ q * 2 ^ s < 2 ^ 64 := by omega
  have hle : 2 ^ (63 - s) ≤ q := by
    have hp : 0 < 2 ^ s := Nat.two_pow_pos s
    rw [← hpow] at hqs
    exact Nat.le_of_mul_le_mul_right hqs.1 hp
  have hval : (((q - 2 ^ (63 - s)) * 2 ^ s : Nat) : Int) = t - 9223372036854775808 := by
    rw [Nat.sub_mul, hpow]
    have : 2 ^ 63 ≤ q * 2 ^ s := hqs.1
    omega
  refine ⟨Nat.lt_of_le_of_lt (Nat.sub_le _ _) hqb, hs, hval, ?_, ?_⟩
  · simp only [Val.trunc?, Val.magTrunc, Bool.false_eq_true, if_false]
    rw [if_pos h0, Int.toNat_natCast, hval]
  · intro h47
    subst h47
    have : q * 2 ^ 47 < 2 ^ 64 := hqs.2
    omega

/-! ### the 32-bit format: q has 25 bits, integers are rounded to 24 significant bits -/

/-- the binary32 pattern of 2^63 -/
def C32 : BitVec 32 := 0x5f000000#32

def val32 (b : BitVec 32) : Val := if b = C32 then .fin false 8388608 40 else dec 25 b.toNat
def ofInt32 (v : Int) : BitVec 32 := BitVec.ofNat 32 (ofIntNat 25 24 v)

/-- every code with a shift field other than 47, or a q field other than 2^24, is read by `dec` -/
theorem val32_mk (neg : Bool) (q s : Nat) (hq : q < 2 ^ 25) (hs : s < 64) (hne : s = 47 → q ≠ 16777216) :
    val32 (BitVec.ofNat 32 (enc 25 neg q s)) = .fin neg q s :=
  val_of_enc 25 rfl C32 _ 16777216 47 (by decide) neg q s hq hs fun hq' hs' => hne hs' hq'

theorem ofInt32_val (v : Int) (hv : v.natAbs ≤ 2 ^ 64) : (val32 (ofInt32 v)).toInt? = some (roundInt 24 v) := by
  obtain ⟨q, s, e, hq2, hq, hs, hval⟩ := ofIntNat_eq 25 24 v (by decide) (by decide) (by decide)
  rw [ofInt32, e, val32_mk _ _ _ hq (by omega) (by omega)]
  exact hval hv

theorem ofInt32_sign (v : Int) : (ofInt32 v).msb = decide (v < 0) := by
  obtain ⟨q, s, e, _, hq, hs, _⟩ := ofIntNat_eq 25 24 v (by decide) (by decide) (by decide)
  rw [ofInt32, e]
  exact enc_msb 25 _ _ _ hq (by omega)

theorem ofInt32_congr (a b : Int) (ha : a.natAbs ≤ 2 ^ 64) (hb : b.natAbs ≤ 2 ^ 64) (hs : a < 0 ↔ b < 0)
    (h : roundInt 24 a = roundInt 24 b) : ofInt32 a = ofInt32 b :=
  congrArg (BitVec.ofNat 32) (ofIntNat_congr 25 24 a b ha hb hs h)

/-- `x − 2^63` on the fields -/
def sub63_32 (a : BitVec 32) : BitVec 32 :=
  if a = C32 then 0#32
  else BitVec.ofNat 32 (enc 25 false (a.toNat % 2 ^ 25 - 2 ^ (63 - a.toNat / 2 ^ 25 % 64)) (a.toNat / 2 ^ 25 % 64))

theorem sub63_32_spec (a : BitVec 32) (t : Int) (ht : (val32 a).trunc? = some t)
    (h1 : 9223372036854775808 ≤ t) (h2 : t < 18446744073709551616) :
    (val32 (sub63_32 a)).trunc? = some (t - 9223372036854775808) := by
  by_cases hc : a = C32
  · subst hc
    have : t = 9223372036854775808 := by
      have : (val32 C32).trunc? = some 9223372036854775808 := by decide
      rw [this] at ht; exact (Option.some.inj ht).symm
    subst this
    decide
  · simp only [val32, hc, if_false] at ht
    obtain ⟨hq, hs, _, htr, h47⟩ := dec_sub63 25 a.toNat t ht h1 h2
    simp only [sub63_32, hc, if_false]
    rw [val32_mk _ _ _ hq hs (fun h => by have := h47 h; omega)]
    exact htr

/-! ### the 64-bit format: q has 57 bits, integers are rounded to 53 significant bits -/

/-- the binary64 pattern of 2^63 -/
def C64 : BitVec 64 := 0x43e0000000000000#64

def val64 (b : BitVec 64) : Val := if b = C64 then .fin false 4503599627370496 11 else dec 57 b.toNat
def ofInt64 (v : Int) : BitVec 64 := BitVec.ofNat 64 (ofIntNat 57 53 v)

/-- every code whose q field is not that of `C64` (15·2^53) is read by `dec` -/
theorem val64_mk (neg : Bool) (q s : Nat) (hq : q < 2 ^ 57) (hs : s < 64) (hne : q ≠ 135107988821114880) :
    val64 (BitVec.ofNat 64 (enc 57 neg q s)) = .fin neg q s :=
  val_of_enc 57 rfl C64 _ 135107988821114880 33 (by decide) neg q s hq hs fun hq' => absurd hq' hne

theorem ofInt64_val (v : Int) (hv : v.natAbs ≤ 2 ^ 64) : (val64 (ofInt64 v)).toInt? = some (roundInt 53 v) := by
  obtain ⟨q, s, e, hq2, hq, hs, hval⟩ := ofIntNat_eq 57 53 v (by decide) (by decide) (by decide)
  rw [ofInt64, e, val64_mk _ _ _ hq (by omega) (by omega)]
  exact hval hv

theorem ofInt64_sign (v : Int) : (ofInt64 v).msb = decide (v < 0) := by
  obtain ⟨q, s, e, _, hq, hs, _⟩ := ofIntNat_eq 57 53 v (by decide) (by decide) (by decide)
  rw [ofInt64, e]
  exact enc_msb 57 _ _ _ hq (by omega)

theorem ofInt64_congr (a b : Int) (ha : a.natAbs ≤ 2 ^ 64) (hb : b.natAbs ≤ 2 ^ 64) (hs : a < 0 ↔ b < 0)
    (h : roundInt 53 a = roundInt 53 b) : ofInt64 a = ofInt64 b :=
  congrArg (BitVec.ofNat 64) (ofIntNat_congr 57 53 a b ha hb hs h)

def sub63_64 (a : BitVec 64) : BitVec 64 :=
  if a = C64 then 0#64
  else BitVec.ofNat 64 (enc 57 false (a.toNat % 2 ^ 57 - 2 ^ (63 - a.toNat / 2 ^ 57 % 64)) (a.toNat / 2 ^ 57 % 64))

theorem sub63_64_spec (a : BitVec 64) (t : Int) (ht : (val64 a).trunc? = some t)
    (h1 : 9223372036854775808 ≤ t) (h2 : t < 18446744073709551616) :
    (val64 (sub63_64 a)).trunc? = some (t - 9223372036854775808) := by
  by_cases hc : a = C64
  · subst hc
    have : t = 9223372036854775808 := by
      have : (val64 C64).trunc? = some 9223372036854775808 := by decide
      rw [this] at ht; exact (Option.some.inj ht).symm
    subst this
    decide
  · simp only [val64, hc, if_false] at ht
    obtain ⟨hq, hs, hval, htr, _⟩ := dec_sub63 57 a.toNat t ht h1 h2
    have hqlt : a.toNat % 2 ^ 57 < 2 ^ 57 := Nat.mod_lt _ (by decide)
    -- the result's q field differs from 15·2^53: q < 2^57 forces s ≥ 7, and 15·2^53·2^7 already exceeds the value t − 2^63 < 2^63
    have hne : a.toNat % 2 ^ 57 - 2 ^ (63 - a.toNat / 2 ^ 57 % 64) ≠ 135107988821114880 := by
      intro he
      rw [he] at hval
      have hp : 1 ≤ 2 ^ (a.toNat / 2 ^ 57 % 64) := Nat.one_le_two_pow
      have : (135107988821114880 * 2 ^ (a.toNat / 2 ^ 57 % 64) : Nat) ≥ 135107988821114880 := Nat.le_mul_of_pos_right _ hp
      have hs7 : 7 ≤ a.toNat / 2 ^ 57 % 64 := by
        by_cases h7 : 7 ≤ a.toNat / 2 ^ 57 % 64
        · exact h7
        · exfalso
          have : 2 ^ 57 ≤ 2 ^ (63 - a.toNat / 2 ^ 57 % 64) := Nat.pow_le_pow_right (by omega) (by omega)
          omega
      have : 2 ^ 7 ≤ 2 ^ (a.toNat / 2 ^ 57 % 64) := Nat.pow_le_pow_right (by omega) hs7
      have : 135107988821114880 * 2 ^ 7 ≤ 135107988821114880 * 2 ^ (a.toNat / 2 ^ 57 % 64) := Nat.mul_le_mul_left _ this
      omega
    simp only [sub63_64, hc, if_false]
    rw [val64_mk _ _ _ hq hs hne]
    exact htr

/-! ### the 80-bit format: q has 73 bits, integers are rounded to 64 significant bits -/

def val80 (b : BitVec 80) : Val := dec 73 b.toNat
def ofInt80 (v : Int) : BitVec 80 := BitVec.ofNat 80 (ofIntNat 73 64 v)

theorem ofInt80_val (v : Int) (hv : v.natAbs ≤ 2 ^ 64) : (val80 (ofInt80 v)).toInt? = some (roundInt 64 v) := by
  obtain ⟨q, s, e, _, hq, hs, hval⟩ := ofIntNat_eq 73 64 v (by decide) (by decide) (by decide)
  have hs' : s < 64 := by omega
  rw [ofInt80, e, val80, BitVec.toNat_ofNat, Nat.mod_eq_of_lt (enc_lt 73 _ q s hq hs'), dec_enc 73 _ q s hq hs']
  exact hval hv

theorem ofInt80_sign (v : Int) : (ofInt80 v).msb = decide (v < 0) := by
  obtain ⟨q, s, e, _, hq, hs, _⟩ := ofIntNat_eq 73 64 v (by decide) (by decide) (by decide)
  rw [ofInt80, e]
  exact enc_msb 73 _ _ _ hq (by omega)

/-- the extended datum of 2^63 that `flds` of `C32` pushes -/
def T80 : BitVec 80 := BitVec.ofNat 80 (enc 73 false 9223372036854775808 0)

/-! ### widening re-encodes exactly (the two special patterns go to the special pattern / the extended 2^63) -/

def cvtss2sd (x : BitVec 32) : BitVec 64 := if x = C32 then C64 else BitVec.ofNat 64 (widen 25 57 x.toNat)
def fld32 (x : BitVec 32) : BitVec 80 := if x = C32 then T80 else BitVec.ofNat 80 (widen 25 73 x.toNat)
def fld64 (x : BitVec 64) : BitVec 80 := if x = C64 then T80 else BitVec.ofNat 80 (widen 57 73 x.toNat)

theorem widen_32_64 (b : BitVec 32) : Val.same (val64 (cvtss2sd b)) (val32 b) = true := by
  by_cases hc : b = C32
  · subst hc; decide
  · have hq : b.toNat % 2 ^ 25 < 2 ^ 57 := by omega
    have hs : b.toNat / 2 ^ 25 % 64 < 64 := by omega
    simp only [cvtss2sd, val32, hc, if_false, widen]
    rw [val64_mk _ _ _ hq hs (by omega)]
    exact Val.same_refl _

theorem widen_32_80 (b : BitVec 32) : Val.same (val80 (fld32 b)) (val32 b) = true := by
  by_cases hc : b = C32
  · subst hc; decide
  · have hq : b.toNat % 2 ^ 25 < 2 ^ 73 := by omega
    have hs : b.toNat / 2 ^ 25 % 64 < 64 := by omega
    have hlt := enc_lt 73 (b.toNat / 2 ^ (25 + 6) % 2 = 1) _ _ hq hs
    simp only [fld32, val80, val32, hc, if_false, widen, BitVec.toNat_ofNat, Nat.mod_eq_of_lt hlt]
    rw [dec_enc 73 _ _ _ hq hs]
    exact Val.same_refl _

theorem widen_64_80 (b : BitVec 64) : Val.same (val80 (fld64 b)) (val64 b) = true := by
  by_cases hc : b = C64
  · subst hc; decide
  · have hq : b.toNat % 2 ^ 57 < 2 ^ 73 := by omega
    have hs : b.toNat / 2 ^ 57 % 64 < 64 := by omega
    have hlt := enc_lt 73 (b.toNat / 2 ^ (57 + 6) % 2 = 1) _ _ hq hs
    simp only [fld64, val80, val64, hc, if_false, widen, BitVec.toNat_ofNat, Nat.mod_eq_of_lt hlt]
    rw [dec_enc 73 _ _ _ hq hs]
    exact Val.same_refl _

/-! ### narrowing: the inverse of the widening on its image (elsewhere: the fields re-encoded, q truncated) -/

def fst32 (_cw : BitVec 16) (y : BitVec 80) : BitVec 32 :=
  if y = T80 then C32
  else BitVec.ofNat 32 (enc 25 (y.toNat / 2 ^ (73 + 6) % 2 = 1) (y.toNat % 2 ^ 73 % 2 ^ 25) (y.toNat / 2 ^ 73 % 64))
def fst64 (_cw : BitVec 16) (y : BitVec 80) : BitVec 64 :=
  if y = T80 then C64
  else BitVec.ofNat 64 (enc 57 (y.toNat / 2 ^ (73 + 6) % 2 = 1) (y.toNat % 2 ^ 73 % 2 ^ 57) (y.toNat / 2 ^ 73 % 64))

theorem T80_fields : dec 73 T80.toNat = .fin false 9223372036854775808 0 := by decide

theorem narrow_widen (qb x : Nat) (hqb : qb ≤ 62) (hx : x < 2 ^ (qb + 7)) :
    widen qb 73 x < 2 ^ 80 ∧ BitVec.ofNat 80 (widen qb 73 x) ≠ T80 ∧
      enc qb (decide (widen qb 73 x / 2 ^ (73 + 6) % 2 = 1)) (widen qb 73 x % 2 ^ 73 % 2 ^ qb) (widen qb 73 x / 2 ^ 73 % 64) = x := by
  have hq62 : x % 2 ^ qb < 2 ^ 62 :=
    Nat.lt_of_lt_of_le (Nat.mod_lt _ (Nat.two_pow_pos _)) (Nat.pow_le_pow_right (by omega) hqb)
  have hq : x % 2 ^ qb < 2 ^ 73 := by omega
  have hs : x / 2 ^ qb % 64 < 64 := Nat.mod_lt _ (by omega)
  obtain ⟨hlt, f1, _, f2, f3⟩ := enc_fields 73 (x / 2 ^ (qb + 6) % 2 = 1) _ _ hq hs
  refine ⟨hlt, ?_, ?_⟩
  · intro h
    have h' := congrArg (fun b => dec 73 b.toNat) h
    simp only [widen, BitVec.toNat_ofNat, Nat.mod_eq_of_lt hlt, dec_enc 73 _ _ _ hq hs, T80_fields, Val.fin.injEq] at h'
    omega
  · rw [widen, f1, f2, f3, Nat.mod_mod]
    exact enc_dec_fields qb x hx

theorem fst32_fld32 (cw : BitVec 16) (x : BitVec 32) : fst32 cw (fld32 x) = x := by
  by_cases hc : x = C32
  · subst hc; rfl
  · obtain ⟨hlt, hne, hn⟩ := narrow_widen 25 x.toNat (by decide) x.isLt
    unfold fld32 fst32
    rw [if_neg hc, if_neg hne]
    simp only [BitVec.toNat_ofNat, Nat.mod_eq_of_lt hlt]
    rw [hn]
    exact BitVec.eq_of_toNat_eq (by simp)

theorem fst64_fld64 (cw : BitVec 16) (x : BitVec 64) : fst64 cw (fld64 x) = x := by
  by_cases hc : x = C64
  · subst hc; rfl
  · obtain ⟨hlt, hne, hn⟩ := narrow_widen 57 x.toNat (by decide) x.isLt
    unfold fld64 fst64
    rw [if_neg hc, if_neg hne]
    simp only [BitVec.toNat_ofNat, Nat.mod_eq_of_lt hlt]
    rw [hn]
    exact BitVec.eq_of_toNat_eq (by simp)

/-- `x + x`: exact doubling of an integer datum -/
def addss (a b : BitVec 32) : BitVec 32 :=
  if a = b then (match (val32 a).toInt? with | some i => ofInt32 (2 * i) | none => a) else a
def addsd (a b : BitVec 64) : BitVec 64 :=
  if a = b then (match (val64 a).toInt? with | some i => ofInt64 (2 * i) | none => a) else a

theorem addss_double (k : Int) (hk : k.natAbs < 2 ^ 63) : addss (ofInt32 k) (ofInt32 k) = ofInt32 (2 * roundInt 24 k) := by
  simp only [addss, if_true, ofInt32_val k (by omega)]

theorem addsd_double (k : Int) (hk : k.natAbs < 2 ^ 63) : addsd (ofInt64 k) (ofInt64 k) = ofInt64 (2 * roundInt 53 k) := by
  simp only [addsd, if_true, ofInt64_val k (by omega)]

def subss (a b : BitVec 32) : BitVec 32 := if b = C32 then sub63_32 a else a
def subsd (a b : BitVec 64) : BitVec 64 := if b = C64 then sub63_64 a else a

/-- x87 `st − 2^63` and `st + 2^64` on integer data (the toy has one precision: the control word is ignored) -/
def fsub (_cw : BitVec 16) (a b : BitVec 80) : BitVec 80 :=
  if b = T80 then (match (val80 a).trunc? with | some t => ofInt80 (t - 9223372036854775808) | none => a) else a
def fadd (_cw : BitVec 16) (a b : BitVec 80) : BitVec 80 :=
  if b = fld32 0x5f800000#32 then (match (val80 a).toInt? with | some i => ofInt80 (i + 18446744073709551616) | none => a) else a

theorem fsub_two63 (cw : BitVec 16) (a : BitVec 80) (t : Int) (ht : (val80 a).trunc? = some t)
    (h1 : 9223372036854775808 ≤ t) (h2 : t < 18446744073709551616) :
    (val80 (fsub cw a (fld32 0x5f000000#32))).trunc? = some (t - 9223372036854775808) := by
  have hb : fld32 0x5f000000#32 = T80 := by decide
  simp only [fsub, hb, if_true, ht]
  apply Val.toInt_trunc
  rw [ofInt80_val _ (by omega), roundInt_exact 64 _ (by decide) (by omega)]

theorem fadd_two64 (cw : BitVec 16) (v : Int) (h1 : 9223372036854775808 ≤ v) (h2 : v < 18446744073709551616) :
    fadd cw (ofInt80 (v - 18446744073709551616)) (fld32 0x5f800000#32) = ofInt80 v := by
  simp only [fadd, if_true, ofInt80_val _ (show (v - 18446744073709551616).natAbs ≤ 2 ^ 64 by omega),
    roundInt_exact 64 (v - 18446744073709551616) (by decide) (by omega)]
  congr 1; omega

/-- **the toy FPU** -/
def toy : FpuSpec where
  val32 := val32
  val64 := val64
  val80 := val80
  addss := addss
  subss := subss
  mulss := fun a _ => a
  divss := fun a _ => a
  addsd := addsd
  subsd := subsd
  mulsd := fun a _ => a
  divsd := fun a _ => a
  fadd := fadd
  fsub := fsub
  fmul := fun _ a _ => a
  fdiv := fun _ a _ => a
  fchs := fun x => x ^^^ (1#80 <<< 79)
  fldz := 0#80
  cvtsi2ss32 := fun x => ofInt32 x.toInt
  cvtsi2ss64 := fun x => ofInt32 x.toInt
  cvtsi2sd32 := fun x => ofInt64 x.toInt
  cvtsi2sd64 := fun x => ofInt64 x.toInt
  fild16 := fun x => ofInt80 x.toInt
  fild32 := fun x => ofInt80 x.toInt
  fild64 := fun x => ofInt80 x.toInt
  ofInt32 := ofInt32
  ofInt64 := ofInt64
  ofInt80 := ofInt80
  cvttss2si32 := fun x => truncTo 32 (val32 x)
  cvttss2si64 := fun x => truncTo 64 (val32 x)
  cvttsd2si32 := fun x => truncTo 32 (val64 x)
  cvttsd2si64 := fun x => truncTo 64 (val64 x)
  fistp16 := fun _ x => truncTo 16 (val80 x)
  fistp32 := fun _ x => truncTo 32 (val80 x)
  fistp64 := fun _ x => truncTo 64 (val80 x)
  cvtss2sd := cvtss2sd
  cvtsd2ss := fun _ => 0#32
  fld32 := fld32
  fld64 := fld64
  fst32 := fst32
  fst64 := fst64
  ucomiss := fun a b => Val.cmp (val32 a) (val32 b)
  ucomisd := fun a b => Val.cmp (val64 a) (val64 b)
  fcomi := fun a b => Val.cmp (val80 a) (val80 b)
  comiss := fun a b => Val.cmp (val32 a) (val32 b)
  comisd := fun a b => Val.cmp (val64 a) (val64 b)
  val32_zero := by decide
  val64_zero := by decide
  val80_fldz := by decide
  ucomiss_spec := fun _ _ => rfl
  ucomisd_spec := fun _ _ => rfl
  fcomi_spec := fun _ _ => rfl
  cvttss2si32_spec := fun _ => rfl
  cvttss2si64_spec := fun _ => rfl
  cvttsd2si32_spec := fun _ => rfl
  cvttsd2si64_spec := fun _ => rfl
  fistp16_rz := fun _ _ _ => rfl
  fistp32_rz := fun _ _ _ => rfl
  fistp64_rz := fun _ _ _ => rfl
  cvtsi2ss32_spec := fun _ => rfl
  cvtsi2ss64_spec := fun _ => rfl
  cvtsi2sd32_spec := fun _ => rfl
  cvtsi2sd64_spec := fun _ => rfl
  fild16_spec := fun _ => rfl
  fild32_spec := fun _ => rfl
  fild64_spec := fun _ => rfl
  ofInt32_val := ofInt32_val
  ofInt64_val := ofInt64_val
  ofInt80_val := ofInt80_val
  ofInt32_sign := ofInt32_sign
  ofInt64_sign := ofInt64_sign
  ofInt80_sign := ofInt80_sign
  cvtss2sd_exact := widen_32_64
  fld32_exact := widen_32_80
  fld64_exact := widen_64_80
  fchs_spec := fun _ => rfl
  fst32_fld32 := fun cw x _ => fst32_fld32 cw x
  fst64_fld64 := fun cw x _ => fst64_fld64 cw x
  comiss_spec := fun _ _ => rfl
  comisd_spec := fun _ _ => rfl
  val32_two63 := by decide
  val64_two63 := by decide
  val80_two63 := by decide
  subss_two63 := fun a t ht h1 h2 => by
    show (val32 (subss a 0x5f000000#32)).trunc? = _
    simp only [subss, show (0x5f000000#32 : BitVec 32) = C32 from rfl, if_true]
    exact sub63_32_spec a t ht h1 h2
  subsd_two63 := fun a t ht h1 h2 => by
    show (val64 (subsd a 0x43e0000000000000#64)).trunc? = _
    simp only [subsd, show (0x43e0000000000000#64 : BitVec 64) = C64 from rfl, if_true]
    exact sub63_64_spec a t ht h1 h2
  fsub_two63 := fun cw a t _ ht h1 h2 => fsub_two63 cw a t ht h1 h2
  fadd_two64 := fun cw v _ h1 h2 => fadd_two64 cw v h1 h2
  addss_double := addss_double
  addsd_double := addsd_double
  ofInt32_congr := ofInt32_congr
  ofInt64_congr := ofInt64_congr

end ChibiVerif.Spec.Fpu.Toy
