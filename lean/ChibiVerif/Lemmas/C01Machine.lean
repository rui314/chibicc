/-
C01: the frame with side effects — layout (`Lay`), what an evaluation may change (`Unch`), the store in the frame (`Holds`),
byte-level congruence of objects (`bytesEq`, `readW_congr_bytes`, `memHolds_congr_sz`), the store with the bytes it writes named
(`store_run`): what the frame `Frame.lay` (Lemmas/C01JumpMachine.lean) is made of.  At the end the machine steps of the hidden pointer
temporary (`movload_step`, `tmp_load`, `rep_u64_ptr`, `read64_keep`) that Lemmas/C01LvalueMachine.lean composes.
-/
import ChibiVerif.Lemmas.C01Value

namespace ChibiVerif.C01
open ChibiVerif.X86 ChibiVerif.Asm ChibiVerif.Spec.IntSpec ChibiVerif.Gen.CommonType ChibiVerif.C01Codegen

/-! ### layout of the frame -/

/-- `[a, a+n)` and `[b, b+m)` do not overlap -/
def sep (a : BitVec 64) (n : Nat) (b : BitVec 64) (m : Nat) : Prop := a.toNat + n ≤ b.toNat ∨ b.toNat + m ≤ a.toNat

/-- `d(%rbp)` as a function of the value of `%rbp`: in a state it is `m.ea d .rbp` (`ea_rbp`), and it is the function `frameAddr` of
    Model/C01Lvalue.lean (`frameAddr_eq`) under the name the machine lemmas use -/
def addrOf (bp : BitVec 64) (d : Int) : BitVec 64 := bp + BitVec.ofInt 64 d

theorem ea_rbp (m : State) (d : Int) : m.ea d .rbp = addrOf (m.get .rbp) d := rfl

/-- the frame: every variable and every hidden temporary (8 bytes) lies at or above `B` (`%rsp ≤ B`: the expression
    stack is below), no address wraps around, and the objects are pairwise disjoint (variable `i` occupies `size` bytes) -/
structure Lay (tys : List ITy) (off toff : Nat → Int) (K B : Nat) (bp : BitVec 64) : Prop where
  var_lo : ∀ i t, tys[i]? = some t → B ≤ (addrOf bp (off i)).toNat ∧ (addrOf bp (off i)).toNat + 8 ≤ 2 ^ 64
  tmp_lo : ∀ k, k < K → B ≤ (addrOf bp (toff k)).toNat ∧ (addrOf bp (toff k)).toNat + 8 ≤ 2 ^ 64
  var_var : ∀ i j ti tj, i ≠ j → tys[i]? = some ti → tys[j]? = some tj →
    sep (addrOf bp (off i)) ti.size (addrOf bp (off j)) tj.size
  var_tmp : ∀ i ti k, tys[i]? = some ti → k < K → sep (addrOf bp (off i)) ti.size (addrOf bp (toff k)) 8
  tmp_tmp : ∀ k l, k < K → l < K → k ≠ l → sep (addrOf bp (toff k)) 8 (addrOf bp (toff l)) 8

/-- the byte at `a` belongs to a variable in `W` -/
def inVar (tys : List ITy) (off : Nat → Int) (bp : BitVec 64) (W : List Nat) (a : BitVec 64) : Prop :=
  ∃ i t, i ∈ W ∧ tys[i]? = some t ∧ (addrOf bp (off i)).toNat ≤ a.toNat ∧ a.toNat < (addrOf bp (off i)).toNat + t.size

/-- the byte at `a` belongs to one of the temporaries `k0 ≤ k < k1` -/
def inTmp (toff : Nat → Int) (bp : BitVec 64) (k0 k1 : Nat) (a : BitVec 64) : Prop :=
  ∃ k, k0 ≤ k ∧ k < k1 ∧ (addrOf bp (toff k)).toNat ≤ a.toNat ∧ a.toNat < (addrOf bp (toff k)).toNat + 8

theorem size_pos (t : ITy) : 0 < t.size := by cases t <;> decide

theorem inVar_mono {tys : List ITy} {off : Nat → Int} {bp : BitVec 64} {W W' : List Nat} {a : BitVec 64}
    (h : inVar tys off bp W a) (hs : ∀ i, i ∈ W → i ∈ W') : inVar tys off bp W' a := by
  obtain ⟨i, t, hi, r⟩ := h; exact ⟨i, t, hs i hi, r⟩

theorem inTmp_mono {toff : Nat → Int} {bp : BitVec 64} {k0 k1 k0' k1' : Nat} {a : BitVec 64}
    (h : inTmp toff bp k0 k1 a) (h0 : k0' ≤ k0) (h1 : k1 ≤ k1') : inTmp toff bp k0' k1' a := by
  obtain ⟨k, a0, a1, r⟩ := h; exact ⟨k, by omega, by omega, r⟩

/-- `%rsp`, `%rbp` unchanged; every byte at or above `%rsp` unchanged, except in the variables `W` and the temporaries
    `k0 ≤ k < k1`: what the code of an expression with side effects guarantees, the last conjunct of `EvG`.  `Frm`
    (Lemmas/C01Effects.lean) is its counterpart on the store -/
structure Unch (tys : List ITy) (off toff : Nat → Int) (W : List Nat) (k0 k1 : Nat) (m m' : State) : Prop where
  rsp : m'.get .rsp = m.get .rsp
  rbp : m'.get .rbp = m.get .rbp
  mem : ∀ a : BitVec 64, (m.get .rsp).toNat ≤ a.toNat → ¬ inVar tys off (m.get .rbp) W a →
    ¬ inTmp toff (m.get .rbp) k0 k1 a → m'.mem a = m.mem a

section
variable {tys : List ITy} {off toff : Nat → Int}

theorem Unch.refl (W : List Nat) (k0 k1 : Nat) (m : State) : Unch tys off toff W k0 k1 m m :=
  ⟨rfl, rfl, fun _ _ _ _ => rfl⟩

theorem Unch.trans {W : List Nat} {k0 k1 : Nat} {a b c : State} (h1 : Unch tys off toff W k0 k1 a b)
    (h2 : Unch tys off toff W k0 k1 b c) : Unch tys off toff W k0 k1 a c :=
  ⟨h2.rsp.trans h1.rsp, h2.rbp.trans h1.rbp, fun x hx hv ht =>
    (h2.mem x (h1.rsp ▸ hx) (h1.rbp ▸ hv) (h1.rbp ▸ ht)).trans (h1.mem x hx hv ht)⟩

theorem Unch.mono {W W' : List Nat} {k0 k1 k0' k1' : Nat} {a b : State} (h : Unch tys off toff W k0 k1 a b)
    (hs : ∀ i, i ∈ W → i ∈ W') (h0 : k0' ≤ k0) (h1 : k1 ≤ k1') : Unch tys off toff W' k0' k1' a b :=
  ⟨h.rsp, h.rbp, fun x hx hv ht => h.mem x hx (fun hh => hv (inVar_mono hh hs)) (fun hh => ht (inTmp_mono hh h0 h1))⟩

theorem Same.unch {a b : State} (h : Same a b) (W : List Nat) (k0 k1 : Nat) : Unch tys off toff W k0 k1 a b :=
  ⟨h.rsp, h.rbp, fun x _ _ _ => congrFun h.mem x⟩

end

/-! ### the store in the frame -/

/-- every variable that has a value holds it at its place in the frame -/
def Holds (off : Nat → Int) (σ : Env) (m : State) : Prop :=
  ∀ i t v, σ.tys[i]? = some t → σ.vals[i]? = some v → MemHolds t m (addrOf (m.get .rbp) (off i)) v

/-- bytes `a .. a+n-1` equal in two states -/
def bytesEq (s s' : State) (a : BitVec 64) (n : Nat) : Prop :=
  ∀ x : BitVec 64, a.toNat ≤ x.toNat → x.toNat < a.toNat + n → s'.mem x = s.mem x

theorem bytesEq_at {s s' : State} {a : BitVec 64} {n : Nat} (h : bytesEq s s' a n) (ha : a.toNat + 8 ≤ 2 ^ 64) (k : Nat)
    (hk : k < n) (hn : n ≤ 8) : s'.mem (a + BitVec.ofNat 64 k) = s.mem (a + BitVec.ofNat 64 k) := by
  apply h <;> rw [BitVec.toNat_add_ofNat _ _ (by omega)] <;> omega

theorem readW_congr_bytes {s s' : State} {a : BitVec 64} (ha : a.toNat + 8 ≤ 2 ^ 64) (w : W) (h : bytesEq s s' a w.bytes) :
    s'.readW a w = s.readW a w :=
  s.readW_congr s' a w fun k hk => bytesEq_at h ha k hk (by cases w <;> decide)

/-- `memHolds_congr_size` with the equal bytes given as an address range (`bytesEq`), under the no-wrap hypothesis of the frame -/
theorem memHolds_congr_sz (t : ITy) (s s' : State) (a : BitVec 64) (v : Int) (ha : a.toNat + 8 ≤ 2 ^ 64)
    (h : bytesEq s s' a t.size) (hm : MemHolds t s a v) : MemHolds t s' a v :=
  memHolds_congr_size t s s' a v (fun k hk => bytesEq_at h ha k hk (size_le8 t)) hm

/-! ### stores write exactly the bytes of the object -/

/-- `pop %rdi; mov %al/%ax/%eax/%rax, (%rdi)`: `store_at` with the bytes written named by their positions -/
theorem store_run (t : ITy) (s : State) (p : BitVec 64) (v : Int) (hp : s.read64 (s.get .rsp) = p)
    (h : Represents t (s.get .rax) v) (hp8 : p.toNat + 8 ≤ 2 ^ 64) :
    ∃ s', X86.run (storeSeq t) s = some s' ∧ MemHolds t s' p v ∧ s'.get .rax = s.get .rax ∧
      s'.get .rsp = s.get .rsp + 8 ∧ s'.get .rbp = s.get .rbp ∧
      (∀ x : BitVec 64, (x.toNat < p.toNat ∨ p.toNat + t.size ≤ x.toNat) → s'.mem x = s.mem x) := by
  obtain ⟨s', hrun, hm, hax, hsp, hbp, hmem⟩ := store_at t s p v hp h
  refine ⟨s', hrun, hm, hax, hsp, hbp, fun x hx => hmem x fun k hk heq => ?_⟩
  have := congrArg BitVec.toNat heq
  rw [BitVec.toNat_add_ofNat _ _ (by have := size_le8 t; omega)] at this
  omega

/-! ### the store in the frame under machine steps -/

section
variable {off toff : Nat → Int}

theorem Holds.of_bytes {σ : Env} {m m' : State} (h : Holds off σ m) (hbp : m'.get .rbp = m.get .rbp)
    (hno : ∀ i t, σ.tys[i]? = some t → (addrOf (m.get .rbp) (off i)).toNat + 8 ≤ 2 ^ 64)
    (hb : ∀ i t, σ.tys[i]? = some t → bytesEq m m' (addrOf (m.get .rbp) (off i)) t.size) : Holds off σ m' := by
  intro i t v ht hv
  rw [hbp]
  exact memHolds_congr_sz t m m' _ v (hno i t ht) (hb i t ht) (h i t v ht hv)

theorem Holds.same {σ : Env} {m m' : State} (h : Holds off σ m) (hs : Same m m') : Holds off σ m' := by
  intro i t v ht hv
  rw [hs.rbp]
  exact memHolds_congr t m m' _ v (fun _ _ => by rw [hs.mem]) (h i t v ht hv)

/-- nothing at or above `B` changed -/
theorem Holds.of_ge {σ : Env} {m m' : State} {K B : Nat} (l : Lay σ.tys off toff K B (m.get .rbp)) (h : Holds off σ m)
    (hbp : m'.get .rbp = m.get .rbp) (hmem : ∀ x : BitVec 64, B ≤ x.toNat → m'.mem x = m.mem x) : Holds off σ m' :=
  h.of_bytes hbp (fun i t ht => (l.var_lo i t ht).2)
    (fun i t ht x hx _ => hmem x (by have := (l.var_lo i t ht).1; omega))

/-- at or above `B` only the bytes of temporary `k` changed -/
theorem Holds.of_tmp {σ : Env} {m m' : State} {K B k : Nat} (l : Lay σ.tys off toff K B (m.get .rbp)) (hk : k < K)
    (h : Holds off σ m) (hbp : m'.get .rbp = m.get .rbp)
    (hmem : ∀ x : BitVec 64, B ≤ x.toNat → (x.toNat < (addrOf (m.get .rbp) (toff k)).toNat ∨
      (addrOf (m.get .rbp) (toff k)).toNat + 8 ≤ x.toNat) → m'.mem x = m.mem x) : Holds off σ m' :=
  h.of_bytes hbp (fun i t ht => (l.var_lo i t ht).2)
    (fun i t ht x hx hx2 => hmem x (by have := (l.var_lo i t ht).1; omega)
      (by have := l.var_tmp i t k ht hk; unfold sep at this; omega))

/-- at or above `B` only the bytes of variable `i` changed, and it now holds `v'` -/
theorem Holds.set {σ : Env} {m m' : State} {K B i : Nat} {ti : ITy} {v' : Int} (l : Lay σ.tys off toff K B (m.get .rbp))
    (h : Holds off σ m) (hti : σ.tys[i]? = some ti) (hbp : m'.get .rbp = m.get .rbp)
    (hm : MemHolds ti m' (addrOf (m.get .rbp) (off i)) v')
    (hmem : ∀ x : BitVec 64, B ≤ x.toNat → (x.toNat < (addrOf (m.get .rbp) (off i)).toNat ∨
      (addrOf (m.get .rbp) (off i)).toNat + ti.size ≤ x.toNat) → m'.mem x = m.mem x) : Holds off (σ.set i v') m' := by
  intro j t v ht hv
  have ht' : σ.tys[j]? = some t := ht
  rw [hbp]
  by_cases hji : j = i
  · subst hji
    rw [hti] at ht'; cases ht'
    simp only [Env.set, List.getElem?_set] at hv
    split at hv
    · split at hv
      · cases hv; exact hm
      · cases hv
    · rename_i hne; exact absurd trivial hne
  · have hv' : σ.vals[j]? = some v := by
      simpa [Env.set, List.getElem?_set_ne (Ne.symm hji)] using hv
    refine memHolds_congr_sz t m m' _ v (l.var_lo j t ht').2 ?_ (h j t v ht' hv')
    intro x hx hx2
    refine hmem x (by have := (l.var_lo j t ht').1; omega) ?_
    have := l.var_var j i t ti hji ht' hti; unfold sep at this; omega

theorem step_of_run_single {i : Ins} {s s' : State} (h : X86.run [i] s = some s') : X86.step i s = some s' := by
  simp only [X86.run] at h
  cases hs : X86.step i s with
  | none => simp [hs] at h
  | some s1 => simp only [hs, Option.some.injEq] at h; rw [h]

end
/-! ### compound assignment through the hidden pointer temporary -/

section
variable {off toff : Nat → Int} {K : Nat}

theorem movload_step (s : State) :
    X86.step ⟨"mov", [.m0 "%rax", .r "%rax"]⟩ s = some (s.set .rax (s.read64 (s.get .rax + BitVec.ofInt 64 0))) := rfl

theorem loadSeq_u64 : loadSeq .u64 = [⟨"mov", [.m0 "%rax", .r "%rax"]⟩] := rfl

/-- `lea tmp(%rbp), %rax; mov (%rax), %rax`: the pointer kept in a temporary -/
theorem tmp_load (s : State) (d : Int) :
    ∃ s', X86.run (iLea d :: loadSeq .u64) s = some s' ∧ s'.get .rax = s.read64 (addrOf (s.get .rbp) d) ∧ Same s s' := by
  refine ⟨_, X86.run_cons_some (lea_step _ _) (X86.run_cons_some (movload_step _) rfl), ?_, ?_⟩
  · rw [State.get_set_same, State.get_set_same]
    have : addrOf (s.get .rbp) d + BitVec.ofInt 64 0 = addrOf (s.get .rbp) d := by simp
    show (s.set .rax _).read64 (s.ea d .rbp + BitVec.ofInt 64 0) = _
    rw [ea_rbp, this]; rfl
  · exact (same_set s .rax _ rfl).trans (same_set _ .rax _ rfl)

theorem rep_u64_ptr (p : BitVec 64) : Represents .u64 p (p.toNat : Int) := (rep_u64 p _).2 rfl

/-- eight bytes at `a` unchanged -/
theorem read64_keep {s s' : State} {a : BitVec 64} (ha : a.toNat + 8 ≤ 2 ^ 64)
    (h : ∀ x : BitVec 64, a.toNat ≤ x.toNat → x.toNat < a.toNat + 8 → s'.mem x = s.mem x) : s'.read64 a = s.read64 a :=
  readW_congr_bytes ha .w64 h

end
end ChibiVerif.C01
