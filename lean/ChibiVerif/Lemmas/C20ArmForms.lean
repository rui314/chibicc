/-
The arms of `gen_expr` / `gen_stmt` as sequences.

do-notation turns an `if`/`match` that is followed by more statements into a join point that every branch calls.  Here
such an arm (`casArm`, `ifArm`, `forArm`, `switchArm`, `returnArm`) is restated as a sequence in which the `if`/`match` is
an action of its own (`bitsToRax`, `casLoadOld`, `optRun`, `forCond`, `forInc`, `swLadder`, `swDflt`, `retVal`), so that a
judgment of the arm accounts for the rest of the arm once.  The equations rest on the monad laws of `Codegen.M`
(`M_pure_bind`, `M_bind_assoc`, `M_ite_bind`) and on nothing else: no judgment is mentioned here.
-/
import ChibiVerif.Model.Codegen

namespace ChibiVerif.Lemmas.C20
open ChibiVerif ChibiVerif.Codegen ChibiVerif.Asm ChibiVerif.Ast

theorem M_pure_bind (v : α) (f : α → M β) : ((pure v : M α) >>= f) = f v := by
  funext s
  simp only [bind, M.bind, pure, M.pure]
  cases f v s with
  | error e => rfl
  | ok r => obtain ⟨b, s2, l2⟩ := r; simp

theorem M_liftE_ok_bind (v : α) (f : α → M β) : (liftE (.ok v) >>= f) = f v := M_pure_bind v f

theorem M_bind_assoc (m : M α) (f : α → M β) (g : β → M γ) :
    ((m >>= f) >>= g) = (m >>= fun a => f a >>= g) := by
  funext s
  simp only [bind, M.bind]
  cases m s with
  | error e => rfl
  | ok r =>
    obtain ⟨a, s1, l1⟩ := r
    simp only
    cases f a s1 with
    | error e => rfl
    | ok r2 =>
      obtain ⟨b, s2, l2⟩ := r2
      simp only
      cases g b s2 with
      | error e => rfl
      | ok r3 => obtain ⟨c, s3, l3⟩ := r3; simp [List.append_assoc]

theorem M_ite_bind (c : Prop) [Decidable c] (a b : M α) (f : α → M β) :
    (if c then a else b) >>= f = if c then a >>= f else b >>= f := by
  split <;> rfl

/-- an optional sub-statement -/
def optRun (o : Option (M Unit)) : M Unit :=
  match o with
  | some x => x
  | none => pure ()

/-- the tail of the ND_CAS arm: store the value found back through `%r8` when the exchange failed -/
def casTail (sz : Int) : M Unit := do
  emit (ins1 "je" (.s "1f"))
  emit (ins2 "mov" (.r (← regAx sz)) (.m0 "%r8"))
  emit (.label "1")
  emit (ins2 "movzbl" (.r "%cl") (.r "%eax"))

def bitsToRax (t : Ty) : M Unit :=
  if t.kind == .float then emit (ins2 "movd" (xmm 0) (.r "%eax"))
  else if t.kind == .double then emit (ins2 "movq" (xmm 0) rax)
  else pure ()

/-- the load of the expected value of ND_CAS: a floating value goes through `%rax` -/
def casLoadOld (t : Ty) : M Unit :=
  if isFlonum t then do emit (ins2 "mov" (.m0 "%rax") (.r (← regAx t.size)))
  else load (some t)

/-- `casArm` as a sequence: the `if`s of the C text are actions of their own, not branches that each
    run the rest of the arm -/
theorem casArm_eq (env : Env) (addr : M Unit) (addrTy : Option Ty) (old : M Unit) (oldTy : Option Ty)
    (new : M Unit) (newTy : Option Ty) :
    casArm env addr addrTy old oldTy new newTy = (do
      addr
      push
      new
      let nty ← needTy "node->cas_new->ty" newTy
      bitsToRax nty
      push
      old
      emit (ins2 "mov" rax (.r "%r8"))
      let oty ← needTy "node->cas_old->ty" oldTy
      let obase ← needTy "node->cas_old->ty->base" (env.ty? oty.base)
      casLoadOld obase
      pop "%rdx"
      pop "%rdi"
      let aty ← needTy "node->cas_addr->ty" addrTy
      let bty ← needTy "node->cas_addr->ty->base" (env.ty? aty.base)
      emit (ins2 "lock cmpxchg" (.r (← regDx bty.size)) (.m0 "%rdi"))
      emit (ins1 "sete" (.r "%cl"))
      casTail bty.size) := by
  unfold casArm bitsToRax casLoadOld casTail
  simp only [M_ite_bind, M_bind_assoc, M_pure_bind]

theorem ifArm_eq (c : M Unit) (cty : Option Ty) (t : M Unit) (e : Option (M Unit)) :
    ifArm c cty t e = (do
      let k ← count
      c
      cmpZero cty
      emit (ins1 "je" (.s s!" .L.else.{k}"))
      t
      emit (ins1 "jmp" (.s s!".L.end.{k}"))
      emit (.label s!".L.else.{k}")
      optRun e
      emit (.label s!".L.end.{k}")) := by
  unfold ifArm optRun
  cases e <;> simp only [M_pure_bind]

/-- the controlling expression of a `for` with its exit jump -/
def forCond (c : Option (M Unit × Option Ty)) (brk : Option String) : M Unit :=
  match c with
  | some (c, cty) => do c; cmpZero cty; emit (ins1 "je" (.s (cstr brk)))
  | none => pure ()

/-- the increment of a `for`, its value discarded -/
def forInc (inc : Option (M Unit × Option Ty)) : M Unit :=
  match inc with
  | some (x, ty) => do x; Codegen.discard ty
  | none => pure ()

theorem forArm_eq (init : Option (M Unit)) (c : Option (M Unit × Option Ty)) (t : M Unit)
    (inc : Option (M Unit × Option Ty)) (brk cont : Option String) :
    forArm init c t inc brk cont = (do
      let k ← count
      optRun init
      emit (.label s!".L.begin.{k}")
      forCond c brk
      t
      emit (.label (cstr cont))
      forInc inc
      emit (ins1 "jmp" (.s s!".L.begin.{k}"))
      emit (.label (cstr brk))) := by
  unfold forArm optRun forCond forInc
  cases init <;> cases c <;> cases inc <;> simp only [M_pure_bind, M_bind_assoc]

/-- the compare ladder of a `switch` -/
def swLadder (cty : Option Ty) (cases : List Case) : M Unit :=
  match cases with
  | [] => pure ()
  | _ => do
    let ty ← needTy "node->cond->ty" cty
    emits (cases.flatMap (caseLadder (ty.size == 8)))

/-- the jump to the `default` label -/
def swDflt (dflt : Option (Option String)) : M Unit :=
  match dflt with
  | some l => emit (ins1 "jmp" (.s (cstr l)))
  | none => pure ()

theorem switchArm_eq (c : M Unit) (cty : Option Ty) (t : M Unit) (brk : Option String) (cases : List Case)
    (dflt : Option (Option String)) :
    switchArm c cty t brk cases dflt = (do
      c
      swLadder cty cases
      swDflt dflt
      emit (ins1 "jmp" (.s (cstr brk)))
      t
      emit (.label (cstr brk))) := by
  unfold switchArm swLadder swDflt
  cases cases <;> cases dflt <;> simp only [M_pure_bind, M_bind_assoc]

/-- the value part of `return`: evaluate the operand, move a struct into its return registers / buffer -/
def retVal (env : Env) (lhs : Option (M Unit × Option Ty)) : M Unit :=
  match lhs with
  | some (x, ty?) => do
    x
    let ty ← needTy "node->lhs->ty" ty?
    match ty.kind with
    | .struct | .union =>
      if ty.size ≤ 16 then copyStructReg env else copyStructMem env
    | _ => pure ()
  | none => pure ()

theorem returnArm_eq (env : Env) (lhs : Option (M Unit × Option Ty)) :
    returnArm env lhs = (do
      retVal env lhs
      emit (ins1 "jmp" (.s s!".L.return.{cstr env.fnName}"))) := by
  unfold returnArm retVal
  cases lhs with
  | none => simp only [M_pure_bind]
  | some y =>
    obtain ⟨x, ty?⟩ := y
    simp only [M_bind_assoc]
    congr 1; funext _; congr 1; funext ty
    cases ty.kind <;> simp only [M_pure_bind] <;> split <;> rfl

end ChibiVerif.Lemmas.C20
