/-
Helper lemmas for C15_symbols_partial: the EXACT list every parser step leaves behind.

`parse.c` only ever pushes new objects at the head of `globals` and mutates (a) the function object named by
`current_fn` / by an identifier (`refs`, `is_root`, `is_definition`, `uses`; at a redeclaration, under `Rules.flagsFollow`,
also `is_static`, `is_inline`, `is_inline_def`: `redeclO`) and (b) the datum it has just created (`is_tls`, `uses`).
So after any step the list is

    <the new data objects, explicit> ++ <the old list with one function object updated>

This file proves that decomposition for `recordFnRef`, `useRef`, `initItems`, `bodyItem`, `bodyItems` and then for a whole
declaration (`declStep_exact`: `declNews` in front of `fnStep` of the old list).  The name-based lookups the model uses for the pointer mutations
(`updFirst (sym == s && !isFunction)`) are resolved here once and for all: the labels `.L..k` handed out by
`new_unique_name` are distinct, so the first match is the object just created.
-/
import ChibiVerif.Lemmas.LinkageParse
import ChibiVerif.Spec.LinkageSpec

namespace ChibiVerif.Linkage
open ChibiVerif.Spec.Linkage (initFnRefs bodyFnRefs)

/-! ### `updFirst` on explicit lists -/

theorem updFirst_skip {p : Obj → Bool} {u : Obj → Obj} : ∀ {l1 : List Obj} (l2 : List Obj),
    (∀ o, o ∈ l1 → p o = false) → updFirst p u (l1 ++ l2) = l1 ++ updFirst p u l2
  | [], _, _ => rfl
  | a :: as, l2, h => by
    have ha : p a = false := h a List.mem_cons_self
    have ih := updFirst_skip (p := p) (u := u) (l1 := as) l2 (fun o ho => h o (List.mem_cons_of_mem _ ho))
    show updFirst p u (a :: (as ++ l2)) = a :: (as ++ updFirst p u l2)
    rw [updFirst, ha]
    simp only [Bool.false_eq_true, if_false]
    rw [ih]

theorem updFirst_id (p : Obj → Bool) : ∀ l : List Obj, updFirst p (fun o => o) l = l
  | [] => rfl
  | a :: as => by
    unfold updFirst
    split
    · rfl
    · rw [updFirst_id p as]

theorem updFirst_updFirst {p : Obj → Bool} {u1 u2 : Obj → Obj} (hp : ∀ o, p (u1 o) = p o) : ∀ l : List Obj,
    updFirst p u2 (updFirst p u1 l) = updFirst p (fun o => u2 (u1 o)) l
  | [] => rfl
  | a :: as => by
    cases ha : p a
    · rw [updFirst_miss _ ha, updFirst_miss _ ha, updFirst_miss _ ha, updFirst_updFirst hp as]
    · rw [updFirst_hit _ ha, updFirst_hit _ ha, updFirst_hit _ (by rw [hp]; exact ha)]

theorem updFunc_updFunc {u1 : Obj → Obj} (h1 : KeepsId u1) (u2 : Obj → Obj) (gs : List Obj) (f : Name) :
    updFunc (updFunc gs f u1) f u2 = updFunc gs f (fun o => u2 (u1 o)) :=
  updFirst_updFirst (p := fun o => o.isFunction && o.sym == .named f) (fun o => fnPred_keeps h1 f o) gs

/-! ### the function-side effect of references -/

def addRefsO (l : List Name) : Obj → Obj := fun o => { o with refs := o.refs ++ l }
def setRootO : Obj → Obj := fun o => { o with isRoot := true }

/-- what the identifiers `l` (function names) do to the list: inside the body of `f` they are appended to
    `f->refs`; at file scope each named function becomes a root -/
def fnEffect (cur : Option Name) (gs : List Obj) (l : List Name) : List Obj :=
  match cur with
  | some f => updFunc gs f (addRefsO l)
  | none => l.foldl (fun gs g => updFunc gs g setRootO) gs

theorem updFunc_addRefsO_append (gs : List Obj) (f : Name) (a b : List Name) :
    updFunc (updFunc gs f (addRefsO a)) f (addRefsO b) = updFunc gs f (addRefsO (a ++ b)) := by
  rw [updFunc_updFunc (u1 := addRefsO a) (fun _ => ⟨rfl, rfl⟩)]
  congr 1
  funext o
  simp [addRefsO, List.append_assoc]

theorem updFunc_cons_data {o : Obj} (h : o.isFunction = false) (gs : List Obj) (f : Name) (u : Obj → Obj) :
    updFunc (o :: gs) f u = o :: updFunc gs f u := by
  unfold updFunc
  rw [updFirst_miss]
  simp [h]

theorem updFunc_data_append {l1 : List Obj} (h : ∀ o, o ∈ l1 → o.isFunction = false) (gs : List Obj) (f : Name)
    (u : Obj → Obj) : updFunc (l1 ++ gs) f u = l1 ++ updFunc gs f u := by
  unfold updFunc
  exact updFirst_skip gs (fun o ho => by simp [h o ho])

theorem fnEffect_cons_data {o : Obj} (h : o.isFunction = false) (cur : Option Name) (gs : List Obj) (l : List Name) :
    fnEffect cur (o :: gs) l = o :: fnEffect cur gs l := by
  cases cur with
  | some f => exact updFunc_cons_data h gs f _
  | none =>
    simp only [fnEffect]
    induction l generalizing gs with
    | nil => rfl
    | cons g rest ih => simp only [List.foldl_cons]; rw [updFunc_cons_data h, ih]

theorem addRefsO_nil : addRefsO [] = fun o => o := by
  funext o; simp [addRefsO]

theorem updFunc_addRefsO_nil (gs : List Obj) (f : Name) : updFunc gs f (addRefsO []) = gs := by
  rw [addRefsO_nil]; exact updFirst_id _ gs

theorem fnEffect_nil (cur : Option Name) (gs : List Obj) : fnEffect cur gs [] = gs := by
  cases cur with
  | some f => exact updFunc_addRefsO_nil gs f
  | none => rfl

theorem fnEffect_append (cur : Option Name) (gs : List Obj) (a b : List Name) :
    fnEffect cur (fnEffect cur gs a) b = fnEffect cur gs (a ++ b) := by
  cases cur with
  | some f => exact updFunc_addRefsO_append gs f a b
  | none => simp [fnEffect, List.foldl_append]

theorem fnEffect_cons (cur : Option Name) (gs : List Obj) (g : Name) (l : List Name) :
    fnEffect cur (fnEffect cur gs [g]) l = fnEffect cur gs (g :: l) := by
  exact fnEffect_append cur gs [g] l

variable [Rules]

/-! ### `function`, up to the body -/

/-- what `function` does to the object of an earlier declaration: linkage flags, `is_definition`, `is_root` -/
def redeclO (e i b : Bool) (o : Obj) : Obj :=
  rootIfO ((fun o : Obj => { o with isDefinition := o.isDefinition || b }) (redeclFlags e i o))

theorem keeps_redeclO (e i b : Bool) : Keeps (redeclO e i b) := fun o => by
  have h1 := keeps_rootIf ((fun o : Obj => { o with isDefinition := o.isDefinition || b }) (redeclFlags e i o))
  have h2 := keeps_redeclFlags e i o
  exact ⟨h1.1.trans h2.1, h1.2.1.trans h2.2.1, h1.2.2.1.trans h2.2.2.1, h1.2.2.2.trans h2.2.2.2⟩

/-- `function`, up to the body, on the list: a redeclaration updates the object `find_func` returns, a first declaration
    pushes one -/
def headUpd (gs : List Obj) (f : Name) (s e i b : Bool) : List Obj :=
  match findFunc gs f with
  | some _ => updFunc gs f (redeclO e i b)
  | none => updFunc (newFnObj f s e i b :: gs) f rootIfO

theorem declFunctionHead_exact {st st' : PState} {f : Name} {s e i b : Bool}
    (h : declFunctionHead st f s e i b = .ok st') : st' = { st with globals := headUpd st.globals f s e i b } := by
  unfold declFunctionHead at h
  unfold headUpd
  cases hfn : findFunc st.globals f with
  | none => rw [hfn] at h; cases h; rfl
  | some fn =>
    rw [hfn] at h
    dsimp only at h ⊢
    split at h
    · cases h
    · split at h <;> cases h
      -- the three pointer updates hit the same object
      rw [updFunc_updFunc (keeps_redeclFlags e i).keepsId,
        updFunc_updFunc (u1 := fun o => { redeclFlags e i o with isDefinition := (redeclFlags e i o).isDefinition || b })
          (fun o => (keeps_redeclFlags e i).keepsId o)]
      rfl


/-! ### string literals and initializers -/

/-- the object `new_string_literal` / the `__func__` arrays push -/
def strObj (cur : Option Name) (k n : Nat) : Obj := { sym := .anon k, ty := strTy n, hasInit := true, owner := ownerOf cur }

def symOfRef : Ref → Sym
  | .fn g => .named g
  | .obj x => .named x

/-- the objects an initializer pushes (newest first) when the label counter is `k` -/
def initNews (cur : Option Name) : Nat → List InitItem → List Obj
  | _, [] => []
  | k, .ref _ :: r => initNews cur k r
  | k, .str n :: r => initNews cur (k + 1) r ++ [strObj cur k n]

def initCount : List InitItem → Nat
  | [] => 0
  | .ref _ :: r => initCount r
  | .str _ :: r => initCount r + 1

/-- the labels of its relocations -/
def initLabels : Nat → List InitItem → List Sym
  | _, [] => []
  | k, .ref r :: rest => symOfRef r :: initLabels k rest
  | k, .str _ :: rest => .anon k :: initLabels (k + 1) rest

omit [Rules] in
theorem recordFnRef_exact {cur : Option Name} {st st' : PState} {g : Name} (h : recordFnRef cur st g = .ok st') :
    st' = { st with globals := fnEffect cur st.globals [g] } := by
  unfold recordFnRef at h
  split at h
  · cases h
  · cases cur with
    | some f => cases h; rfl
    | none => cases h; rfl

omit [Rules] in
theorem useRef_exact {cur : Option Name} {st st' : PState} {r : Ref} {s : Sym} (h : useRef cur st r = .ok (st', s)) :
    st' = { st with globals := fnEffect cur st.globals (initFnRefs [.ref r]) } ∧ s = symOfRef r := by
  cases r with
  | fn g =>
    obtain ⟨st1, h1, h⟩ := Except.bind_eq_ok h
    cases h
    exact ⟨recordFnRef_exact h1, rfl⟩
  | obj x =>
    simp only [useRef] at h
    split at h
    · cases h
    · cases h
      exact ⟨by rw [show initFnRefs [.ref (.obj x)] = [] from rfl, fnEffect_nil], rfl⟩

omit [Rules] in
theorem initFnRefs_cons_ref (r : Ref) (rest : List InitItem) :
    initFnRefs (.ref r :: rest) = initFnRefs [.ref r] ++ initFnRefs rest := by
  cases r <;> simp [initFnRefs]

theorem initItems_exact {cur : Option Name} : ∀ (items : List InitItem) {st st' : PState} {ss : List Sym},
    initItems cur st items = .ok (st', ss) →
      st'.globals = initNews cur st.nextAnon items ++ fnEffect cur st.globals (initFnRefs items) ∧
      st'.nextAnon = st.nextAnon + initCount items ∧ ss = initLabels st.nextAnon items
  | [], st, st', ss, h => by
    cases h
    exact ⟨by simp [initNews, initFnRefs, fnEffect_nil], rfl, rfl⟩
  | .ref r :: rest, st, st', ss, h => by
    obtain ⟨⟨st1, s⟩, h1, h⟩ := Except.bind_eq_ok h
    obtain ⟨⟨st2, ss2⟩, h2, h⟩ := Except.bind_eq_ok h
    cases h
    obtain ⟨rfl, rfl⟩ := useRef_exact h1
    obtain ⟨g2, n2, rfl⟩ := initItems_exact rest h2
    refine ⟨?_, n2, rfl⟩
    rw [g2]
    simp only [initNews]
    rw [fnEffect_append, ← initFnRefs_cons_ref]
  | .str n :: rest, st, st', ss, h => by
    obtain ⟨⟨st2, ss2⟩, h2, h⟩ := Except.bind_eq_ok h
    cases h
    obtain ⟨g2, n2, rfl⟩ := initItems_exact rest h2
    refine ⟨?_, ?_, rfl⟩
    · rw [g2]
      show initNews cur (st.nextAnon + 1) rest ++ fnEffect cur (strObj cur st.nextAnon n :: st.globals) (initFnRefs rest) = _
      rw [fnEffect_cons_data rfl]
      simp [initNews, initFnRefs]
    · rw [n2]
      show st.nextAnon + 1 + initCount rest = st.nextAnon + (initCount rest + 1)
      omega

theorem initNews_spec {cur : Option Name} : ∀ (items : List InitItem) (k : Nat) (o : Obj), o ∈ initNews cur k items →
    o.isFunction = false ∧ ∃ j n, k ≤ j ∧ o = strObj cur j n
  | [], _, _, h => by simp [initNews] at h
  | .ref _ :: r, k, o, h => initNews_spec r k o h
  | .str n :: r, k, o, h => by
    simp only [initNews, List.mem_append, List.mem_singleton] at h
    rcases h with h | h
    · obtain ⟨hf, j, m, hj, ho⟩ := initNews_spec r (k + 1) o h
      exact ⟨hf, j, m, by omega, ho⟩
    · subst h
      exact ⟨rfl, k, n, Nat.le_refl _, rfl⟩

/-! ### the data objects of a list -/

omit [Rules] in
theorem dataOf_append (a b : List Obj) : dataOf (a ++ b) = dataOf a ++ dataOf b := by
  simp [dataOf]

omit [Rules] in
theorem dataOf_of_data {l : List Obj} (h : ∀ o, o ∈ l → o.isFunction = false) : dataOf l = l := by
  unfold dataOf
  rw [List.filter_eq_self]
  intro o ho
  simp [h o ho]

omit [Rules] in
theorem dataOf_cons_fn {o : Obj} (h : o.isFunction = true) (gs : List Obj) : dataOf (o :: gs) = dataOf gs := by
  simp [dataOf, h]

omit [Rules] in
theorem dataOf_fnEffect (cur : Option Name) (gs : List Obj) (l : List Name) : dataOf (fnEffect cur gs l) = dataOf gs := by
  cases cur with
  | some f => exact dataOf_updFunc (u := addRefsO l) (fun _ => ⟨rfl, rfl⟩) gs f
  | none =>
    simp only [fnEffect]
    induction l generalizing gs with
    | nil => rfl
    | cons g rest ih => simp only [List.foldl_cons]; rw [ih, dataOf_updFunc (u := setRootO) (fun _ => ⟨rfl, rfl⟩)]

/-! ### the static-ness of the visible prior declaration (`prevStatic`) on explicit lists -/

/-- the environment `global_variable` reads under `Rules.externInherits`: for each identifier, `is_static` of the object `find_var` finds -/
abbrev SEnv := Name → Bool

def envSet (env : SEnv) (x : Name) (b : Bool) : SEnv := fun y => if y = x then b else env y

omit [Rules] in
theorem findObj_cons_anon {o : Obj} {k : Nat} (h : o.sym = .anon k) (gs : List Obj) (x : Name) :
    findObj (o :: gs) x = findObj gs x := by
  have : (Sym.anon k == Sym.named x) = false := by simp
  simp [findObj, List.find?, h, this]

omit [Rules] in
theorem findObj_append_anon {l : List Obj} (h : ∀ o, o ∈ l → ∃ k, o.sym = .anon k) (gs : List Obj) (x : Name) :
    findObj (l ++ gs) x = findObj gs x := by
  induction l with
  | nil => rfl
  | cons a as ih =>
    obtain ⟨k, hk⟩ := h a List.mem_cons_self
    rw [List.cons_append, findObj_cons_anon hk, ih (fun o ho => h o (List.mem_cons_of_mem _ ho))]

omit [Rules] in
theorem prevStatic_congr {gs gs' : List Obj} (h : ∀ x, findObj gs x = findObj gs' x) : prevStatic gs = prevStatic gs' := by
  funext x; simp [prevStatic, h x]

omit [Rules] in
theorem findObj_dataOf (gs : List Obj) (x : Name) : findObj (dataOf gs) x = findObj gs x := by
  unfold findObj dataOf
  rw [List.find?_filter]
  congr 1
  funext o
  cases o.isFunction
  · simp only [Bool.not_false, Bool.true_and, true_and]
    rw [Bool.eq_iff_iff, decide_eq_true_eq, beq_iff_eq]
  · simp

omit [Rules] in
theorem prevStatic_of_dataOf {gs gs' : List Obj} (h : dataOf gs = dataOf gs') : prevStatic gs = prevStatic gs' :=
  prevStatic_congr fun x => by rw [← findObj_dataOf, h, findObj_dataOf]

omit [Rules] in
theorem prevStatic_append_anon {l : List Obj} (h : ∀ o, o ∈ l → ∃ k, o.sym = .anon k) (gs : List Obj) :
    prevStatic (l ++ gs) = prevStatic gs :=
  prevStatic_congr (fun x => findObj_append_anon h gs x)

omit [Rules] in
theorem prevStatic_cons_named {o : Obj} {x : Name} (hf : o.isFunction = false) (hs : o.sym = .named x) (gs : List Obj) :
    prevStatic (o :: gs) = envSet (prevStatic gs) x o.isStatic := by
  funext y
  by_cases hy : y = x
  · subst hy
    simp [prevStatic, findObj, List.find?, hf, hs, envSet]
  · have : (Sym.named x == Sym.named y) = false := by
      simp only [beq_eq_false_iff_ne, ne_eq, Sym.named.injEq]; exact fun e => hy e.symm
    simp [prevStatic, findObj, List.find?, hf, hs, envSet, hy, this]

theorem initNews_anon {cur : Option Name} (items : List InitItem) (k : Nat) : ∀ o, o ∈ initNews cur k items → ∃ j, o.sym = .anon j := by
  intro o ho
  obtain ⟨_, j, n, _, rfl⟩ := initNews_spec items k o ho
  exact ⟨j, rfl⟩

/-! ### function bodies -/

/-- the object `declaration` makes of `static [_Thread_local] T v [= init];` in the body of `f` when the label counter is `k` -/
def slObj (f : Name) (k : Nat) (tls : Bool) (ty : ObjTy) (init : Option (List InitItem)) : Obj :=
  { sym := .anon k, ty := ty, hasInit := init.isSome, isTls := tls,
    uses := (match init with | none => [] | some items => initLabels (k + 1) items), owner := ownerOf (some f) }

/-- the object of a block-scope `extern` declaration; `stc` = what it inherits from the visible prior declaration -/
def externO (x : Name) (tls : Bool) (ty : ObjTy) (stc : Bool) : Obj :=
  { sym := .named x, isDefinition := false, isStatic := stc, isTls := tls, ty := ty }

/-- `is_static` of a block-scope `extern` declaration of `x` -/
def extStatic (env : SEnv) (x : Name) : Bool := Rules.externInherits && env x

def bodyItemNews (f : Name) (env : SEnv) (k : Nat) : BodyItem → List Obj
  | .ref _ => []
  | .staticLocal tls ty none => [slObj f k tls ty none]
  | .staticLocal tls ty (some items) => initNews (some f) (k + 1) items ++ [slObj f k tls ty (some items)]
  | .str n => [strObj (some f) k n]
  | .externObj x tls ty => [externO x tls ty (extStatic env x)]

/-- what a body item does to the environment of visible declarations -/
def envItem (env : SEnv) : BodyItem → SEnv
  | .externObj x _ _ => envSet env x (extStatic env x)
  | _ => env

def bodyItemCount : BodyItem → Nat
  | .ref _ => 0
  | .staticLocal _ _ none => 1
  | .staticLocal _ _ (some items) => 1 + initCount items
  | .str _ => 1
  | .externObj _ _ _ => 0

def bodyItemLabels (k : Nat) : BodyItem → List Sym
  | .ref r => [symOfRef r]
  | .staticLocal _ _ _ => [.anon k]
  | .str _ => [.anon k]
  | .externObj _ _ _ => []

theorem strObj_sym_ne {cur : Option Name} {j n k : Nat} (h : k < j) :
    ((strObj cur j n).sym == Sym.anon k && !(strObj cur j n).isFunction) = false := by
  have : (Sym.anon j == Sym.anon k) = false := by
    simp only [beq_eq_false_iff_ne, ne_eq, Sym.anon.injEq]; omega
  simp [strObj, this]

theorem bodyItem_exact {f : Name} {st st' : PState} {b : BodyItem} {us : List Sym}
    (h : bodyItem f st b = .ok (st', us)) :
    st'.globals = bodyItemNews f (prevStatic st.globals) st.nextAnon b ++ updFunc st.globals f (addRefsO (bodyFnRefs [b])) ∧
    st'.nextAnon = st.nextAnon + bodyItemCount b ∧ us = bodyItemLabels st.nextAnon b := by
  cases b with
  | ref r =>
    obtain ⟨⟨st1, s⟩, h1, h⟩ := Except.bind_eq_ok h
    cases h
    obtain ⟨rfl, rfl⟩ := useRef_exact h1
    refine ⟨?_, rfl, rfl⟩
    cases r <;> simp [bodyItemNews, fnEffect, initFnRefs, bodyFnRefs]
  | staticLocal tls ty init =>
    cases init with
    | none =>
      simp only [bodyItem, pure, Except.pure, Except.ok.injEq, Prod.mk.injEq] at h
      rw [← h.1, ← h.2]
      refine ⟨?_, rfl, rfl⟩
      simp only [newAnon]
      rw [updFirst_hit _ (by simp)]
      rw [show bodyFnRefs [BodyItem.staticLocal tls ty none] = [] from rfl, updFunc_addRefsO_nil]
      rfl
    | some items =>
      obtain ⟨⟨st1, rel⟩, h1, h⟩ := Except.bind_eq_ok h
      cases h
      obtain ⟨g1, n1, rfl⟩ := initItems_exact items h1
      dsimp only at g1 n1 ⊢
      refine ⟨?_, ?_, rfl⟩
      · rw [g1]
        rw [updFirst_hit _ (by simp)]
        simp only [fnEffect]
        rw [updFunc_cons_data rfl]
        unfold setUses
        rw [updFirst_skip _ (fun o ho => by
          obtain ⟨_, j, m, hj, rfl⟩ := initNews_spec items _ o ho
          exact strObj_sym_ne (by omega))]
        rw [updFirst_hit _ (by simp)]
        simp [bodyItemNews, slObj, bodyFnRefs]
      · rw [n1]; simp [bodyItemCount]; omega
  | str n =>
    simp only [bodyItem, pure, Except.pure, Except.ok.injEq, Prod.mk.injEq] at h
    rw [← h.1, ← h.2]
    refine ⟨?_, rfl, rfl⟩
    rw [show bodyFnRefs [BodyItem.str n] = [] from rfl, updFunc_addRefsO_nil]
    rfl
  | externObj x tls ty =>
    simp only [bodyItem, pure, Except.pure, Except.ok.injEq, Prod.mk.injEq] at h
    rw [← h.1, ← h.2]
    refine ⟨?_, rfl, rfl⟩
    rw [show bodyFnRefs [BodyItem.externObj x tls ty] = [] from rfl, updFunc_addRefsO_nil]
    rfl

theorem initNews_datum {cur : Option Name} (items : List InitItem) (k : Nat) (o : Obj) (h : o ∈ initNews cur k items) :
    o.isFunction = false ∧ o.isLive = false := by
  obtain ⟨_, j, n, _, rfl⟩ := initNews_spec items k o h
  exact ⟨rfl, rfl⟩

theorem prevStatic_bodyItemNews (f : Name) (gs : List Obj) (k : Nat) (b : BodyItem) :
    prevStatic (bodyItemNews f (prevStatic gs) k b ++ gs) = envItem (prevStatic gs) b := by
  cases b with
  | ref r => rfl
  | staticLocal tls ty init =>
    cases init with
    | none => exact prevStatic_append_anon (fun o ho => by
        simp only [bodyItemNews, List.mem_singleton] at ho; subst ho; exact ⟨k, rfl⟩) gs
    | some items => exact prevStatic_append_anon (fun o ho => by
        simp only [bodyItemNews, List.mem_append, List.mem_singleton] at ho
        rcases ho with ho | ho
        · exact initNews_anon items _ o ho
        · subst ho; exact ⟨k, rfl⟩) gs
  | str n => exact prevStatic_append_anon (fun o ho => by
      simp only [bodyItemNews, List.mem_singleton] at ho; subst ho; exact ⟨k, rfl⟩) gs
  | externObj x tls ty =>
    show prevStatic (externO x tls ty (extStatic (prevStatic gs) x) :: gs) = _
    rw [prevStatic_cons_named rfl rfl]
    rfl

def bodyNews (f : Name) : SEnv → Nat → List BodyItem → List Obj
  | _, _, [] => []
  | env, k, b :: rest => bodyNews f (envItem env b) (k + bodyItemCount b) rest ++ bodyItemNews f env k b

def envBody : SEnv → List BodyItem → SEnv
  | env, [] => env
  | env, b :: rest => envBody (envItem env b) rest

def bodyCount : List BodyItem → Nat
  | [] => 0
  | b :: rest => bodyItemCount b + bodyCount rest

def bodyLabels : Nat → List BodyItem → List Sym
  | _, [] => []
  | k, b :: rest => bodyItemLabels k b ++ bodyLabels (k + bodyItemCount b) rest

theorem initNews_str {cur : Option Name} {items : List InitItem} {k : Nat} {o : Obj} (h : o ∈ initNews cur k items) :
    ∃ j n, o = strObj cur j n := by
  obtain ⟨_, j, n, _, rfl⟩ := initNews_spec items k o h
  exact ⟨j, n, rfl⟩

theorem bodyNews_kind (f : Name) : ∀ (b : List BodyItem) (env : SEnv) (k : Nat) (o : Obj), o ∈ bodyNews f env k b →
    (∃ cur j n, o = strObj cur j n) ∨ (∃ x tls ty stc, BodyItem.externObj x tls ty ∈ b ∧ o = externO x tls ty stc) ∨
    (∃ tls ty init j, BodyItem.staticLocal tls ty init ∈ b ∧ o = slObj f j tls ty init)
  | [], _, _, _, h => by simp [bodyNews] at h
  | i :: rest, env, k, o, h => by
    simp only [bodyNews, List.mem_append] at h
    rcases h with h | h
    · rcases bodyNews_kind f rest _ _ o h with h | ⟨x, tls, ty, stc, hm, ho⟩ | ⟨tls, ty, init, j, hm, ho⟩
      · exact Or.inl h
      · exact Or.inr (Or.inl ⟨x, tls, ty, stc, List.mem_cons_of_mem _ hm, ho⟩)
      · exact Or.inr (Or.inr ⟨tls, ty, init, j, List.mem_cons_of_mem _ hm, ho⟩)
    · cases i with
      | ref r => simp [bodyItemNews] at h
      | staticLocal tls ty init =>
        cases init with
        | none =>
          simp only [bodyItemNews, List.mem_singleton] at h
          exact Or.inr (Or.inr ⟨tls, ty, none, k, List.mem_cons_self, h⟩)
        | some items =>
          simp only [bodyItemNews, List.mem_append, List.mem_singleton] at h
          rcases h with h | h
          · obtain ⟨j, n, hh⟩ := initNews_str h
            exact Or.inl ⟨_, j, n, hh⟩
          · exact Or.inr (Or.inr ⟨tls, ty, some items, k, List.mem_cons_self, h⟩)
      | str n =>
        simp only [bodyItemNews, List.mem_singleton] at h
        exact Or.inl ⟨_, k, n, h⟩
      | externObj x tls ty =>
        simp only [bodyItemNews, List.mem_singleton] at h
        exact Or.inr (Or.inl ⟨x, tls, ty, _, List.mem_cons_self, h⟩)

theorem bodyNews_datum (f : Name) (items : List BodyItem) (env : SEnv) (k : Nat) (o : Obj) (h : o ∈ bodyNews f env k items) :
    o.isFunction = false ∧ o.isLive = false := by
  rcases bodyNews_kind f items env k o h with ⟨_, _, _, rfl⟩ | ⟨_, _, _, _, _, rfl⟩ | ⟨_, _, _, _, _, rfl⟩ <;> exact ⟨rfl, rfl⟩

theorem bodyItemNews_datum (f : Name) (env : SEnv) (k : Nat) (b : BodyItem) :
    ∀ o, o ∈ bodyItemNews f env k b → o.isFunction = false ∧ o.isLive = false := fun o h => bodyNews_datum f [b] env k o h

theorem bodyItems_exact {f : Name} : ∀ (items : List BodyItem) {st st' : PState} {us : List Sym},
    bodyItems f st items = .ok (st', us) →
      st'.globals = bodyNews f (prevStatic st.globals) st.nextAnon items ++ updFunc st.globals f (addRefsO (bodyFnRefs items)) ∧
      st'.nextAnon = st.nextAnon + bodyCount items ∧ us = bodyLabels st.nextAnon items ∧
      prevStatic st'.globals = envBody (prevStatic st.globals) items
  | [], st, st', us, h => by
    cases h
    refine ⟨?_, rfl, rfl, rfl⟩
    simp only [bodyNews, bodyFnRefs, List.flatMap_nil, addRefsO_nil, List.nil_append]
    exact (updFirst_id _ _).symm
  | b :: rest, st, st', us, h => by
    obtain ⟨⟨st1, u1⟩, h1, h⟩ := Except.bind_eq_ok h
    obtain ⟨⟨st2, u2⟩, h2, h⟩ := Except.bind_eq_ok h
    cases h
    obtain ⟨g1, n1, rfl⟩ := bodyItem_exact h1
    obtain ⟨g2, n2, rfl, e2⟩ := bodyItems_exact rest h2
    have henv : prevStatic st1.globals = envItem (prevStatic st.globals) b := by
      rw [g1]
      have := prevStatic_bodyItemNews f (updFunc st.globals f (addRefsO (bodyFnRefs [b]))) st.nextAnon b
      rw [prevStatic_of_dataOf (dataOf_updFunc (u := addRefsO (bodyFnRefs [b])) (fun _ => ⟨rfl, rfl⟩) _ _)] at this
      exact this
    refine ⟨?_, ?_, ?_, ?_⟩
    · rw [g2, henv, n1, g1, updFunc_data_append (fun o ho => (bodyItemNews_datum _ _ _ _ o ho).1), updFunc_addRefsO_append]
      simp [bodyNews, bodyFnRefs]
    · rw [n2, n1]; simp only [bodyCount]; omega
    · rw [n1]; rfl
    · rw [e2, henv]; rfl

/-! ### file-scope declarations -/

/-- the object `global_variable` creates for `[static] [extern] [_Thread_local] T x [= init];`
    (`isStatic` = the value it stores in `var->is_static`) -/
def varObj (k : Nat) (x : Name) (isStatic isExtern isTls : Bool) (ty : ObjTy) (init : Option (List InitItem)) : Obj :=
  match init with
  | none => { sym := .named x, isDefinition := !isExtern, isStatic := isStatic, isTls := isTls, ty := ty,
              isTentative := !isExtern }
  | some items => { sym := .named x, isDefinition := true, isStatic := isStatic, isTls := isTls, ty := ty,
                    hasInit := true, uses := initLabels k items }

/-- `var->is_static` of a file-scope object declaration (under `Rules.externInherits` an `extern` declaration inherits) -/
def varStatic (env : SEnv) (x : Name) (s e : Bool) : Bool := s || (Rules.externInherits && e && env x)

/-- `varObj` is `declVar` (Lemmas/LinkageParse.lean: the object as `global_variable` first builds it) with what the two
    branches of `global_variable` then set -/
theorem declVar_none (st : PState) (k : Nat) (x : Name) (s e t : Bool) (ty : ObjTy) :
    ({ declVar st x s e t ty with isTentative := !e } : Obj) = varObj k x (varStatic (prevStatic st.globals) x s e) e t ty none := rfl

theorem declVar_init (st : PState) (k : Nat) (x : Name) (s e t : Bool) (ty : ObjTy) (items : List InitItem) :
    ({ declVar st x s e t ty with hasInit := true, isDefinition := true, uses := initLabels k items } : Obj) =
      varObj k x (varStatic (prevStatic st.globals) x s e) e t ty (some items) := rfl

/-- the data objects one file-scope declaration pushes (newest first) when the label counter is `k` and the visible
    declarations are `env` -/
def declNews (k : Nat) (env : SEnv) : Decl → List Obj
  | .func _ _ _ _ _ none => []
  | .func f n _ _ _ (some b) => bodyNews f env (k + 2) b ++ [strObj (some f) (k + 1) (n + 1), strObj (some f) k (n + 1)]
  | .obj x s e t ty none => [varObj k x (varStatic env x s e) e t ty none]
  | .obj x s e t ty (some items) => initNews none k items ++ [varObj k x (varStatic env x s e) e t ty (some items)]

/-- what a file-scope declaration does to the environment -/
def envDecl (env : SEnv) : Decl → SEnv
  | .func _ _ _ _ _ none => env
  | .func _ _ _ _ _ (some b) => envBody env b
  | .obj x s e _ _ _ => envSet env x (varStatic env x s e)

def declCount : Decl → Nat
  | .func _ _ _ _ _ none => 0
  | .func _ _ _ _ _ (some b) => 2 + bodyCount b
  | .obj _ _ _ _ _ none => 0
  | .obj _ _ _ _ _ (some items) => initCount items

theorem declNews_datum (k : Nat) (env : SEnv) : ∀ (d : Decl) (o : Obj), o ∈ declNews k env d →
    o.isFunction = false ∧ o.isLive = false
  | .func _ _ _ _ _ none, _, h => nomatch h
  | .func f _ _ _ _ (some b), o, h => by
    simp only [declNews, List.mem_append, List.mem_cons, List.not_mem_nil, or_false] at h
    rcases h with h | rfl | rfl
    · exact bodyNews_datum f b _ _ o h
    · exact ⟨rfl, rfl⟩
    · exact ⟨rfl, rfl⟩
  | .obj _ _ _ _ _ none, _, h => by cases List.mem_singleton.mp h; exact ⟨rfl, rfl⟩
  | .obj _ _ _ _ _ (some items), o, h => by
    rcases List.mem_append.mp h with h | h
    · exact initNews_datum items _ o h
    · cases List.mem_singleton.mp h; exact ⟨rfl, rfl⟩

theorem declNews_data (k : Nat) (env : SEnv) (d : Decl) : ∀ o, o ∈ declNews k env d → o.isFunction = false := by
  exact fun o ho => (declNews_datum k env d o ho).1

theorem keepsId_rootIf : KeepsId rootIfO := keeps_rootIf.keepsId

theorem dataOf_headUpd (gs : List Obj) (f : Name) (s e i b : Bool) : dataOf (headUpd gs f s e i b) = dataOf gs := by
  unfold headUpd
  split
  · exact dataOf_updFunc (keeps_redeclO e i b).keepsId gs f
  · rw [dataOf_updFunc keepsId_rootIf, dataOf_cons_fn rfl]

/-- what one declaration does to the objects that exist already (and, for the first declaration of a function, the
    object it pushes) when the label counter is `k` -/
def fnStep (k : Nat) (gs : List Obj) : Decl → List Obj
  | .func f _ s e i none => headUpd gs f s e i false
  | .func f _ s e i (some b) =>
    updFunc (updFunc (headUpd gs f s e i true) f (addRefsO (bodyFnRefs b))) f (setUsesO (bodyLabels (k + 2) b))
  | .obj _ _ _ _ _ none => gs
  | .obj _ _ _ _ _ (some items) => fnEffect none gs (initFnRefs items)

/-- the simulation step every view of the parser's state is read off (`dataOf_declAll`, `evolves_declStep`, `T_declStep`,
    `NU_declStep`) -/
theorem declStep_exact {st st' : PState} {d : Decl} (h : declStep st d = .ok st') :
    st'.globals = declNews st.nextAnon (prevStatic st.globals) d ++ fnStep st.nextAnon st.globals d ∧
    st'.nextAnon = st.nextAnon + declCount d ∧ prevStatic st'.globals = envDecl (prevStatic st.globals) d := by
  cases d with
  | func f n s e i body =>
    obtain ⟨st1, h1, hb⟩ := declFunction_inv h
    rw [declFunctionHead_exact h1] at hb
    cases body with
    | none => cases hb; exact ⟨rfl, rfl, prevStatic_of_dataOf (dataOf_headUpd ..)⟩
    | some items =>
      obtain ⟨st2, uses, hp, rfl⟩ := hb
      obtain ⟨g2, n2, l2, e2⟩ := bodyItems_exact items hp
      simp only [newAnon] at g2 n2 l2 e2
      -- the two `__func__` arrays are anonymous and `function` touches no object declaration: the body sees the environment
      -- the declaration started with
      have henv : ∀ (a b : Obj) (bb : Bool), a.sym = .anon (st.nextAnon + 1) → b.sym = .anon st.nextAnon →
          prevStatic (a :: b :: headUpd st.globals f s e i bb) = prevStatic st.globals := fun a b bb ha hb =>
        prevStatic_congr fun x => by rw [findObj_cons_anon ha, findObj_cons_anon hb, ← findObj_dataOf, dataOf_headUpd, findObj_dataOf]
      rw [henv _ _ _ rfl rfl] at g2 e2
      refine ⟨?_, ?_, ?_⟩
      · dsimp only
        rw [g2, l2, updFunc_cons_data rfl, updFunc_cons_data rfl, updFunc_data_append (fun o ho => (bodyNews_datum _ _ _ _ o ho).1),
          updFunc_cons_data rfl, updFunc_cons_data rfl]
        simp [declNews, fnStep, strObj, Nat.add_assoc]
      · rw [n2]; simp only [declCount]; omega
      · rw [prevStatic_of_dataOf (dataOf_updFunc (u := setUsesO uses) (fun _ => ⟨rfl, rfl⟩) _ _), e2]; rfl
  | obj x s e t ty init =>
    cases init with
    | none =>
      rw [declObject_none_inv h, declVar_none st st.nextAnon]
      exact ⟨rfl, rfl, by dsimp only; rw [prevStatic_cons_named rfl rfl]; rfl⟩
    | some items =>
      obtain ⟨st1, rel, hp, rfl⟩ := declObject_init_inv h
      obtain ⟨g1, n1, l1⟩ := initItems_exact items hp
      dsimp only at g1 n1 l1 ⊢
      rw [g1, fnEffect_cons_data rfl, updFirst_skip _ (fun o ho => by
        obtain ⟨_, j, m, _, rfl⟩ := initNews_spec items _ o ho
        simp [strObj]), updFirst_hit _ (by simp [declVar]), l1]
      refine ⟨by rw [declVar_init]; simp [declNews, fnStep], n1, ?_⟩
      rw [prevStatic_append_anon (initNews_anon items _), prevStatic_cons_named rfl rfl, prevStatic_of_dataOf (dataOf_fnEffect ..)]
      rfl

theorem dataOf_fnStep (k : Nat) (gs : List Obj) : ∀ d : Decl, dataOf (fnStep k gs d) = dataOf gs
  | .func _ _ _ _ _ none => dataOf_headUpd ..
  | .func _ _ _ _ _ (some b) => by
    simp only [fnStep]
    rw [dataOf_updFunc (u := setUsesO _) (fun _ => ⟨rfl, rfl⟩), dataOf_updFunc (u := addRefsO _) (fun _ => ⟨rfl, rfl⟩),
      dataOf_headUpd]
  | .obj _ _ _ _ _ none => rfl
  | .obj _ _ _ _ _ (some items) => dataOf_fnEffect none gs (initFnRefs items)

/-- all data objects `ds` pushes, newest first, when the label counter starts at `k` and the visible declarations are `env` -/
def allNews : Nat → SEnv → List Decl → List Obj
  | _, _, [] => []
  | k, env, d :: ds => allNews (k + declCount d) (envDecl env d) ds ++ declNews k env d

theorem dataOf_declAll : ∀ (ds : List Decl) {st st' : PState}, declAll st ds = .ok st' →
    dataOf st'.globals = allNews st.nextAnon (prevStatic st.globals) ds ++ dataOf st.globals :=
  declAll_rec (P := fun ds st st' => dataOf st'.globals = allNews st.nextAnon (prevStatic st.globals) ds ++ dataOf st.globals)
    (fun _ => rfl) (fun h1 _ ih => by
      obtain ⟨g1, n1, e1⟩ := declStep_exact h1
      rw [ih, n1, e1, g1, dataOf_append, dataOf_of_data (declNews_data _ _ _), dataOf_fnStep]
      simp [allNews, List.append_assoc])

/-- nothing is visible when `parse` starts -/
def env0 : SEnv := fun _ => false

theorem dataOf_parse {ds : List Decl} {st : PState} (h : declAll {} ds = .ok st) : dataOf st.globals = allNews 0 env0 ds := by
  have := dataOf_declAll ds h
  have h0 : prevStatic ([] : List Obj) = env0 := rfl
  simpa [dataOf, h0] using this


omit [Rules] in
theorem Evolves.append_data {gs gs' : List Obj} (h : Evolves gs gs') : ∀ {l : List Obj},
    (∀ o, o ∈ l → o.isFunction = false ∧ o.isLive = false) → Evolves gs (l ++ gs')
  | [], _ => h
  | a :: _, hl => Evolves.consData a (hl a List.mem_cons_self).1 (hl a List.mem_cons_self).2
      (h.append_data fun o ho => hl o (List.mem_cons_of_mem _ ho))

omit [Rules] in
theorem evolves_fnEffect (cur : Option Name) (gs : List Obj) (l : List Name) : Evolves gs (fnEffect cur gs l) := by
  cases cur with
  | some f => exact evolves_updFunc f (fun _ => ⟨rfl, rfl, rfl, rfl⟩)
  | none =>
    have : ∀ (l : List Name) (g : List Obj), Evolves gs g → Evolves gs (l.foldl (fun gs g => updFunc gs g setRootO) g) := by
      intro l
      induction l with
      | nil => exact fun _ h => h
      | cons a as ih => exact fun g h => ih _ (Evolves.upd _ _ (fun _ => ⟨rfl, rfl, rfl, rfl⟩) h)
    exact this l gs Evolves.refl

omit [Rules] in
theorem evolves_useRef {cur : Option Name} {st st' : PState} {r : Ref} {s : Sym} (h : useRef cur st r = .ok (st', s)) :
    Evolves st.globals st'.globals := by
  rw [(useRef_exact h).1]; exact evolves_fnEffect _ _ _

theorem evolves_initItems {cur : Option Name} (items : List InitItem) {st st' : PState} {ss : List Sym}
    (h : initItems cur st items = .ok (st', ss)) : Evolves st.globals st'.globals := by
  rw [(initItems_exact items h).1]
  exact (evolves_fnEffect _ _ _).append_data (initNews_datum items _)

theorem evolves_bodyItem {f : Name} {st st' : PState} {b : BodyItem} {us : List Sym}
    (h : bodyItem f st b = .ok (st', us)) : Evolves st.globals st'.globals := by
  rw [(bodyItem_exact h).1]
  exact (evolves_updFunc (u := addRefsO _) f (fun _ => ⟨rfl, rfl, rfl, rfl⟩)).append_data (bodyItemNews_datum f _ _ b)

theorem evolves_bodyItems {f : Name} (items : List BodyItem) {st st' : PState} {us : List Sym}
    (h : bodyItems f st items = .ok (st', us)) : Evolves st.globals st'.globals := by
  rw [(bodyItems_exact items h).1]
  exact (evolves_updFunc (u := addRefsO _) f (fun _ => ⟨rfl, rfl, rfl, rfl⟩)).append_data (bodyNews_datum f items _ _)

theorem evolves_headUpd (gs : List Obj) (f : Name) (s e i b : Bool) : Evolves gs (headUpd gs f s e i b) := by
  unfold headUpd
  split
  · exact evolves_updFunc f (keeps_redeclO e i b)
  · rename_i hfn
    exact Evolves.upd _ _ keeps_rootIf (Evolves.consFn _ f rfl rfl rfl rfl hfn Evolves.refl)

theorem evolves_fnStep (k : Nat) (gs : List Obj) : ∀ d : Decl, Evolves gs (fnStep k gs d)
  | .func _ _ _ _ _ none => evolves_headUpd ..
  | .func _ _ _ _ _ (some _) =>
    Evolves.upd _ _ (keeps_setUses _) (Evolves.upd _ _ (fun _ => ⟨rfl, rfl, rfl, rfl⟩) (evolves_headUpd ..))
  | .obj _ _ _ _ _ none => Evolves.refl
  | .obj _ _ _ _ _ (some items) => evolves_fnEffect none gs (initFnRefs items)

theorem evolves_declStep {st st' : PState} {d : Decl} (h : declStep st d = .ok st') :
    Evolves st.globals st'.globals := by
  rw [(declStep_exact h).1]
  exact (evolves_fnStep _ _ d).append_data (declNews_datum _ _ d)

theorem evolves_declAll : ∀ (ds : List Decl) {st st' : PState}, declAll st ds = .ok st' → Evolves st.globals st'.globals :=
  declAll_rec (P := fun _ st st' => Evolves st.globals st'.globals) (fun _ => Evolves.refl)
    (fun h1 _ ih => (evolves_declStep h1).trans ih)

theorem wf_declAll {ds : List Decl} {st : PState} (h : declAll {} ds = .ok st) : WF st.globals :=
  WF.evolves (evolves_declAll ds h) wf_nil

end ChibiVerif.Linkage
