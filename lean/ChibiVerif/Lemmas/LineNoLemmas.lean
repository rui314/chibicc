/-
C18 — the line bookkeeping of Model/LineNo.lean against Spec/LineSpec.lean.  The specification counts with one byte of
look-behind, the two text passes of the model look one byte ahead; the passes are instances of Lemmas/TextPhase.lean and every
fact against the specification is an induction over its principles.  `sourceText_split` splits the text at the image of a
token start; the line formula of Props/C18.lean (computed line + pending splices = physical line) adds up the counters on
the prefix.  After it: `add_line_numbers`, `error_at`, `verror_at`; logical lines; the final newline; the `.file` table.
-/
import ChibiVerif.Model.LineNo
import ChibiVerif.Spec.LineSpec
import ChibiVerif.Lemmas.TextPhase

namespace ChibiVerif.LineNo
open ChibiVerif.Spec.Line (countTerm endsTerm physLine pendingAt pendingSplices spliceBefore)
open ChibiVerif.Lemmas.TextPhase

theorem LF_def : LF = 10 := rfl
theorem CR_def : CR = 13 := rfl
theorem BSL_def : BSL = 92 := rfl
theorem sLF_def : Spec.Line.LF = 10 := rfl
theorem sCR_def : Spec.Line.CR = 13 := rfl
theorem sBSL_def : Spec.Line.BSL = 92 := rfl

attribute [local simp] LF_def CR_def BSL_def sLF_def sCR_def sBSL_def

@[simp] theorem countLF_nil : countLF [] = 0 := rfl
@[simp] theorem countLF_cons (a : Nat) (r : List Nat) : countLF (a :: r) = (if a = LF then 1 else 0) + countLF r := rfl

/-- `countLF` is `List.count LF`; its facts are core's `List.count_*` read through this equation -/
theorem countLF_eq_count (l : List Nat) : countLF l = l.count LF := by
  induction l with
  | nil => rfl
  | cons a r ih => rw [countLF_cons, ih, List.count_cons]; by_cases h : a = LF <;> simp [h] <;> omega

theorem countLF_append (l₁ l₂ : List Nat) : countLF (l₁ ++ l₂) = countLF l₁ + countLF l₂ := by
  simp only [countLF_eq_count, List.count_append]

@[simp] theorem countLF_replicate (n : Nat) : countLF (List.replicate n LF) = n := by
  rw [countLF_eq_count, List.count_replicate_self]

theorem lineNo_isCanon : IsCanon CR LF canonicalizeNewline where
  ne := by decide
  nil := rfl
  crlf t := by simp [canonicalizeNewline]
  lone t h := by
    cases t with
    | nil => simp [canonicalizeNewline]
    | cons b r => have : b ≠ LF := by simpa using h
                  simp [canonicalizeNewline, this]
  other a t ha := by cases t <;> simp [canonicalizeNewline, ha]

theorem countLF_canon (prev : Nat) (l : List Nat) (h : ¬ (prev = CR ∧ l.head? = some LF)) :
    countLF (canonicalizeNewline l) = countTerm prev l := by
  induction l using canon_induct CR LF generalizing prev with
  | nil => rfl
  | crlf t ih =>
    -- CR LF: one terminator, counted at the CR; the LF after a CR is not one
    rw [lineNo_isCanon.crlf, countLF_cons, ih LF (by simp)]
    simp [countTerm, endsTerm]
  | lone t hl ih =>
    rw [lineNo_isCanon.lone t hl, countLF_cons, ih CR (by simpa using hl)]
    simp [countTerm, endsTerm]
  | other a t ha ih =>
    rw [lineNo_isCanon.other a t ha, countLF_cons, ih a (by simp [ha])]
    simp only [CR_def] at ha
    by_cases hl : a = 10
    · -- an LF counts unless the byte before it is a CR, which `h` excludes at the head of the text
      have : prev ≠ 13 := fun e => h ⟨e, by simp [hl]⟩
      simp [countTerm, endsTerm, hl, this]
    · simp [countTerm, endsTerm, ha, hl]

theorem canon_head (l : List Nat) (a : Nat) (h : l.head? = some a) (ha : a ≠ CR) :
    (canonicalizeNewline l).head? = some a := by
  cases l with
  | nil => simp at h
  | cons x r =>
    simp at h; subst h
    rw [lineNo_isCanon.other x r ha]; rfl

theorem canon_others (l : List Nat) :
    (canonicalizeNewline l).filter (fun b => b != LF) = l.filter (fun b => b != CR && b != LF) := by
  induction l using canon_induct CR LF with
  | nil => rfl
  | crlf t ih =>
    rw [lineNo_isCanon.crlf]
    simp [ih]
  | lone t hl ih =>
    rw [lineNo_isCanon.lone t hl]
    simp [ih]
  | other a t ha ih =>
    rw [lineNo_isCanon.other a t ha]
    simp only [CR_def] at ha
    by_cases hl : a = 10 <;> simp [ha, hl, ih]

theorem lineNo_isRbn : IsRbn BSL LF removeBackslashNewlineAux where
  ne := by decide
  nil n := rfl
  splice t n := by simp [removeBackslashNewlineAux]
  newline t n := by cases t <;> simp [removeBackslashNewlineAux]
  other a t n h1 h2 := by
    cases t with
    | nil => simp [removeBackslashNewlineAux]
    | cons b r => simp only [LF_def] at h1; simp [removeBackslashNewlineAux, h1, show ¬ (a = 92 ∧ b = 10) by simpa using h2]

/-- `IsRbn.count` for `countLF` -/
theorem countLF_splice (p : List Nat) (n : Nat) : countLF (removeBackslashNewlineAux p n) = n + countLF p := by
  rw [countLF_eq_count, countLF_eq_count, lineNo_isRbn.count, Nat.add_comm]

theorem splice_cons_ne (a : Nat) (t : List Nat) (n : Nat) (h1 : a ≠ LF) (h2 : a ≠ BSL) :
    (removeBackslashNewlineAux (a :: t) n).head? = some a := by
  rw [lineNo_isRbn.other a t n h1 fun e => h2 e.1]; rfl

/-- the counter `n` of `remove_backslash_newline` after a prefix that ends at a scan boundary, read off the prefix with one
    byte of look-behind like the specification's `pendingAt` (`prev` is the byte before the prefix): a newline after a
    backslash is counted, any other newline starts again at 0 -/
def pendCanon (prev n : Nat) : List Nat → Nat
  | [] => n
  | a :: r => pendCanon a (if a = LF then (if prev = BSL then n + 1 else 0) else n) r

/-- `spliceEmit` iteration by iteration, like `removeBackslashNewlineAux` (`IsRbn`) except at the end of the text -/
theorem spliceEmit_splice (t : List Nat) (n : Nat) : spliceEmit (BSL :: LF :: t) n = spliceEmit t (n + 1) := by
  simp [spliceEmit]

theorem spliceEmit_newline (t : List Nat) (n : Nat) :
    spliceEmit (LF :: t) n = LF :: (List.replicate n LF ++ spliceEmit t 0) := by
  cases t <;> simp [spliceEmit]

theorem spliceEmit_other (a : Nat) (t : List Nat) (n : Nat) (h1 : a ≠ LF) (h2 : ¬ (a = BSL ∧ t.head? = some LF)) :
    spliceEmit (a :: t) n = a :: spliceEmit t n := by
  simp only [LF_def] at h1
  cases t with
  | nil => simp [spliceEmit, h1]
  | cons b r => simp [spliceEmit, h1, show ¬ (a = 92 ∧ b = 10) by simpa using h2]

/-- a cut is at a scan boundary unless it separates a backslash from its newline -/
def cutOK (pre rest : List Nat) : Prop := pre.getLast? ≠ some BSL ∨ rest.head? ≠ some LF

theorem cutOK_tail {a : Nat} {pre rest : List Nat} (h : cutOK (a :: pre) rest) : cutOK pre rest := by
  cases pre with
  | nil => exact .inl (by simp)
  | cons c r => unfold cutOK at *; rwa [List.getLast?_cons_cons] at h

/-- the pass over `pre ++ rest` is what it writes for `pre`, then the pass resumed on `rest` with the counter `pre` left
    (`hp`: `pre` itself starts at a scan boundary) -/
theorem splice_append (pre rest : List Nat) (n prev : Nat) (hp : prev ≠ BSL ∨ pre.head? ≠ some LF) (h : cutOK pre rest) :
    removeBackslashNewlineAux (pre ++ rest) n
      = spliceEmit pre n ++ removeBackslashNewlineAux rest (pendCanon prev n pre) := by
  induction pre, n using rbn_induct BSL LF generalizing prev with
  | nil n => rfl
  | splice t n ih =>
    have e : pendCanon prev n (BSL :: LF :: t) = pendCanon LF (n + 1) t := by simp [pendCanon]
    rw [e, spliceEmit_splice, ← ih LF (.inl (by decide)) (cutOK_tail (cutOK_tail h))]
    exact lineNo_isRbn.splice _ n
  | newline t n ih =>
    -- a newline at the head of the prefix: `hp` says the byte before it is no backslash, so it is not spliced
    have hp : prev ≠ 92 := by simpa using hp
    have e : pendCanon prev n (LF :: t) = pendCanon LF 0 t := by simp [pendCanon, hp]
    rw [e, spliceEmit_newline, List.cons_append, lineNo_isRbn.newline, ih LF (.inl (by decide)) (cutOK_tail h)]
    simp
  | other a t n h1 h2 ih =>
    -- `a` does not start a splice in `pre ++ rest` either: inside `pre` by `h2`, at the cut by `cutOK`
    have h2' : ¬ (a = BSL ∧ (t ++ rest).head? = some LF) := by
      cases t with
      | nil =>
        intro e
        rcases h with h | h
        · exact h (by simp [e.1])
        · exact h e.2
      | cons c r => exact h2
    have e : pendCanon prev n (a :: t) = pendCanon a n t := by simp only [LF_def] at h1; simp [pendCanon, h1]
    rw [e, spliceEmit_other a t n h1 h2, List.cons_append, lineNo_isRbn.other a _ n h1 h2',
      ih a (by by_cases hb : a = BSL
               · exact .inr fun e => h2 ⟨hb, e⟩
               · exact .inl hb) (cutOK_tail h)]
    rfl

/-- the whole text is a prefix that ends at a scan boundary: what `spliceEmit` has not written is still in the counter -/
theorem countLF_spliceEmit (p : List Nat) (n prev : Nat) (hp : prev ≠ BSL ∨ p.head? ≠ some LF) :
    countLF (spliceEmit p n) + pendCanon prev n p = n + countLF p := by
  have h := splice_append p [] n prev hp (.inr (by simp))
  rw [List.append_nil, lineNo_isRbn.nil] at h
  rw [← countLF_splice p n, h, countLF_append, countLF_replicate]

/-- `p` is the byte before `l` in the file, `p'` the byte before its image in the canonical text (a CR has become LF there): of
    either only "is it a backslash" matters; `h`: the cut is not inside CR LF -/
theorem pendingAt_canon (l : List Nat) (p p' n : Nat) (hb : p = BSL ↔ p' = BSL)
    (h : ¬ (p = CR ∧ l.head? = some LF)) :
    pendingAt p n l = pendCanon p' n (canonicalizeNewline l) := by
  induction l using canon_induct CR LF generalizing p p' n with
  | nil => rfl
  | crlf t ih =>
    -- after CR LF the byte before the rest is LF on both sides
    rw [lineNo_isCanon.crlf, pendCanon, ← ih LF LF _ (by simp) (by simp)]
    simp at hb
    simp [pendingAt, hb]
  | lone t hl ih =>
    -- after a lone CR the file has CR before the rest, the canonical text LF: neither is a backslash
    rw [lineNo_isCanon.lone t hl, pendCanon, ← ih CR LF _ (by simp) (by simpa using hl)]
    simp at hb
    simp [pendingAt, hb]
  | other a t ha ih =>
    rw [lineNo_isCanon.other a t ha, pendCanon, ← ih a a _ Iff.rfl (by simp [ha])]
    simp at hb ha
    by_cases hl : a = 10
    · have hp : ¬ p = 13 := fun e => h ⟨by simpa using e, by simp [hl]⟩
      simp [pendingAt, hl, hp, hb]
    · simp [pendingAt, ha, hl]

theorem ensureFinalNewline_eq (p : List Nat) :
    ensureFinalNewline p = p ∨ ensureFinalNewline p = p ++ [LF] := by
  unfold ensureFinalNewline
  split
  · split <;> simp
  · rename_i h; simp at h; subst h; right; rfl

theorem ensureFinalNewline_take (p : List Nat) (off : Nat) (h : off ≤ p.length) :
    (ensureFinalNewline p).take off = p.take off := by
  rcases ensureFinalNewline_eq p with e | e <;> rw [e]
  rw [List.take_append_of_le_length h]

theorem ensureFinalNewline_get (p : List Nat) (off : Nat) (h : off < p.length) :
    (ensureFinalNewline p)[off]? = p[off]? := by
  rcases ensureFinalNewline_eq p with e | e <;> rw [e]
  rw [List.getElem?_append_left h]

theorem countTerm_prev (p q : Nat) (l : List Nat) (hp : p ≠ CR) (hq : q ≠ CR) :
    countTerm p l = countTerm q l := by
  cases l with
  | nil => rfl
  | cons a r => simp at hp hq; simp [countTerm, endsTerm, hp, hq]

theorem pendingAt_prev (p q n : Nat) (l : List Nat) (hp : p ≠ CR ∧ p ≠ BSL) (hq : q ≠ CR ∧ q ≠ BSL) :
    pendingAt p n l = pendingAt q n l := by
  cases l with
  | nil => rfl
  | cons a r => simp at hp hq; simp [pendingAt, hp, hq]

/-- the BOM step takes nothing off, or the three bytes of the mark -/
theorem skipBOM_cases (b : List Nat) :
    (bomLen b = 0 ∧ skipBOM b = b) ∨ (bomLen b = 3 ∧ b = 0xEF :: 0xBB :: 0xBF :: skipBOM b) := by
  unfold skipBOM bomLen
  by_cases hb : hasBOM b = true
  · match b, hb with
    | x :: y :: z :: r, h => simp [hasBOM] at h; simp [hasBOM, h]
  · simp [hb]

theorem skipBOM_prefix (b : List Nat) (off : Nat) (h : bomLen b ≤ off) :
    countTerm 0 ((skipBOM b).take (off - bomLen b)) = countTerm 0 (b.take off) ∧
    ∀ n, pendingAt 0 n ((skipBOM b).take (off - bomLen b)) = pendingAt 0 n (b.take off) := by
  rcases skipBOM_cases b with ⟨h0, e⟩ | ⟨h3, e⟩
  · rw [h0, e]; exact ⟨rfl, fun _ => rfl⟩
  · -- the byte before the text proper is 0xBF instead of the start of the file: neither a CR nor a backslash
    generalize skipBOM b = r at e ⊢
    subst e
    rw [h3] at h ⊢
    obtain ⟨k, rfl⟩ : ∃ k, off = k + 3 := ⟨off - 3, by omega⟩
    simp [countTerm, endsTerm, pendingAt]
    exact ⟨countTerm_prev _ _ _ (by simp) (by simp), fun n => pendingAt_prev _ _ _ _ (by simp) (by simp)⟩

theorem countLF_skipBOM (b : List Nat) : countLF (skipBOM b) = countLF b := by
  rcases skipBOM_cases b with ⟨_, e⟩ | ⟨_, e⟩
  · rw [e]
  · generalize skipBOM b = r at e ⊢
    subst e; simp

theorem countTerm_skipBOM (b : List Nat) : countTerm 0 (skipBOM b) = countTerm 0 b := by
  rcases skipBOM_cases b with ⟨_, e⟩ | ⟨_, e⟩
  · rw [e]
  · generalize skipBOM b = r at e ⊢
    subst e
    simp [countTerm, endsTerm]
    exact countTerm_prev _ _ _ (by simp) (by simp)

theorem tokenStart_iff (bytes : List Nat) (off : Nat) :
    tokenStart bytes off = true ↔
      bomLen (ensureFinalNewline bytes) ≤ off ∧ ∃ c, bytes[off]? = some c ∧ c ≠ LF ∧ c ≠ CR := by
  unfold tokenStart
  cases h : bytes[off]? with
  | none => simp
  | some c => simp

/-- the text splits at the image of a token start: `c` is the byte at `off` (not a newline), `pre` the bytes of the file
    before it (after the final-newline and BOM steps), `tail` those after it; `posMap` is the length of what the two passes
    write for `pre`, and the rest of `sourceText` is the splice pass resumed on `c :: …` with the counter `pre` left -/
theorem sourceText_split (bytes : List Nat) (off : Nat) (h : tokenStart bytes off = true) :
    ∃ c pre tail, bytes[off]? = some c ∧ c ≠ LF ∧ off < bytes.length ∧ bomLen (ensureFinalNewline bytes) ≤ off ∧
      pre = (skipBOM (ensureFinalNewline bytes)).take (off - bomLen (ensureFinalNewline bytes)) ∧
      posMap bytes off = (spliceEmit (canonicalizeNewline pre) 0).length ∧
      sourceText bytes = spliceEmit (canonicalizeNewline pre) 0
        ++ removeBackslashNewlineAux (c :: canonicalizeNewline tail) (pendCanon 0 0 (canonicalizeNewline pre)) := by
  obtain ⟨hbom, c, hc, hLF, hCR⟩ := (tokenStart_iff _ _).1 h
  have hlt : off < bytes.length := by
    rcases Nat.lt_or_ge off bytes.length with h | h
    · exact h
    · rw [List.getElem?_eq_none h] at hc; simp at hc
  let b := ensureFinalNewline bytes
  let B := skipBOM b
  let o := off - bomLen b
  have hbom' : bomLen b ≤ off := hbom
  have hget : B[o]? = some c := by
    show (List.drop (bomLen b) b)[off - bomLen b]? = some c
    rw [List.getElem?_drop]
    have : bomLen b + (off - bomLen b) = off := by omega
    rw [this, ensureFinalNewline_get _ _ hlt, hc]
  have hdrop : B.drop o = c :: B.drop (o + 1) := by
    have hlt' : o < B.length := by
      rcases Nat.lt_or_ge o B.length with h | h
      · exact h
      · rw [List.getElem?_eq_none h] at hget; simp at hget
    rw [List.drop_eq_getElem_cons hlt']
    congr 1
    have := List.getElem?_eq_getElem hlt'
    rw [this] at hget; exact Option.some.inj hget
  refine ⟨c, B.take o, B.drop (o + 1), hc, hLF, hlt, hbom, rfl, rfl, ?_⟩
  show removeBackslashNewline (canonicalizeNewline B) = _
  conv => lhs; rw [← List.take_append_drop o B]
  rw [lineNo_isCanon.append _ _ (fun e => by rw [hdrop] at e; exact hLF (by simpa using e.2)), hdrop, lineNo_isCanon.other _ _ hCR]
  unfold removeBackslashNewline
  rw [splice_append _ _ _ 0 (.inl (by decide)) (by right; simpa using hLF)]

theorem lineNoOf_append_length (pre rest : List Nat) : lineNoOf (pre ++ rest) pre.length = 1 + countLF pre := by
  rw [lineNoOf, List.take_left']; rfl

/-- the loop invariant of `add_line_numbers`: with `pre` read and `text` left, `p = pre.length` and `n` is the line of `p` -/
theorem addLineNumbersAux_inv (text : List Nat) : ∀ (pre locs : List Nat),
    locs ≠ [] → locs.Pairwise (· < ·) → (∀ l ∈ locs, pre.length ≤ l) → locs.getLast? = some (pre ++ text).length →
    addLineNumbersAux text pre.length (1 + countLF pre) locs = .ok (locs.map (lineNoOf (pre ++ text))) := by
  induction text with
  | nil =>
    intro pre locs hne hpw hge hlast
    match locs, hne with
    | [l], _ =>
      have : l = pre.length := by simpa using hlast
      subst this
      simp [addLineNumbersAux, ← lineNoOf_append_length pre []]
    | l :: l2 :: ls, _ =>
      -- the last position is `pre.length` and lies above `l`, yet no position lies below `pre.length`
      rw [List.getLast?_cons_cons] at hlast
      have hlt : l < (pre ++ []).length := (List.pairwise_cons.1 hpw).1 _ (List.mem_of_getLast? hlast)
      have hle : pre.length ≤ l := hge l List.mem_cons_self
      rw [List.append_nil] at hlt
      omega
  | cons c rest ih =>
    intro pre locs hne hpw hge hlast
    have hn : (if c = LF then 1 + countLF pre + 1 else 1 + countLF pre) = 1 + countLF (pre ++ [c]) := by
      rw [countLF_append, countLF_cons]
      split <;> simp <;> omega
    have hlen : (pre ++ [c]).length = pre.length + 1 := by simp
    rw [List.append_cons] at hlast ⊢
    match locs, hne with
    | l :: ls, _ =>
      obtain ⟨hl, hpw'⟩ := List.pairwise_cons.1 hpw
      by_cases hpl : pre.length = l
      · subst hpl
        have hls : ls ≠ [] := by intro h; subst h; simp at hlast
        have hlast' : ls.getLast? = some (pre ++ [c] ++ rest).length := by
          match ls, hls with
          | l2 :: ls2, _ => rwa [List.getLast?_cons_cons] at hlast
        rw [addLineNumbersAux, if_pos rfl, hn, ← hlen, ih (pre ++ [c]) ls hls hpw' (fun l' h => by rw [hlen]; exact hl l' h) hlast']
        simp [Except.map, List.append_assoc, lineNoOf_append_length]
      · have hge' : ∀ l' ∈ l :: ls, (pre ++ [c]).length ≤ l' := fun l' h => by
          rw [hlen]
          have := hge l List.mem_cons_self
          rcases List.mem_cons.1 h with e | h
          · omega
          · have := hl l' h; omega
        rw [addLineNumbersAux, if_neg hpl, hn, ← hlen, ih (pre ++ [c]) (l :: ls) (by simp) hpw hge' hlast]

theorem foldl_count (l : List Nat) (n : Nat) :
    l.foldl (fun n c => if c = LF then n + 1 else n) n = n + countLF l := by
  induction l generalizing n with
  | nil => simp
  | cons a r ih => simp only [List.foldl_cons, ih, countLF_cons]; split <;> omega

theorem errorAtLine_eq (text : List Nat) (loc : Nat) : errorAtLine text loc = lineNoOf text loc := by
  unfold errorAtLine lineNoOf; rw [foldl_count]

theorem countLF_take_succ (text : List Nat) (k : Nat) :
    countLF (text.take (k + 1)) = countLF (text.take k) + (if text[k]? = some LF then 1 else 0) := by
  induction text generalizing k with
  | nil => simp
  | cons a r ih =>
    cases k with
    | zero => simp
    | succ k => simp [ih k]; omega

/-- the start of the line shown: on the line of `loc`, not after it, and at the start of the text or right after a '\n' -/
theorem shownStart_spec (text : List Nat) (loc : Nat) :
    lineNoOf text (shownStart text loc) = lineNoOf text loc ∧ shownStart text loc ≤ loc ∧
    (shownStart text loc = 0 ∨ text[shownStart text loc - 1]? = some LF) := by
  induction loc with
  | zero => simp [shownStart]
  | succ k ih =>
    unfold shownStart
    by_cases h : text[k]? = some LF
    · simp [h]
    · -- the byte before `k + 1` is no newline: the line of `k + 1` is the line of `k`
      rw [if_neg h]
      refine ⟨?_, Nat.le_succ_of_le ih.2.1, ih.2.2⟩
      rw [ih.1]
      unfold lineNoOf
      rw [countLF_take_succ]
      simp [h]

theorem pendCanon_snoc (ys : List Nat) (prev n a : Nat) :
    pendCanon prev n (ys ++ [a]) =
      (if a = LF then (if ys.getLast?.getD prev = BSL then pendCanon prev n ys + 1 else 0) else pendCanon prev n ys) := by
  induction ys generalizing prev n with
  | nil => rfl
  | cons y r ih =>
    simp only [List.cons_append, pendCanon, ih]
    cases r with
    | nil => simp
    | cons z r' =>
      obtain ⟨w, hw⟩ : ∃ w, (z :: r').getLast? = some w := ⟨_, List.getLast?_eq_some_getLast (by simp)⟩
      simp [List.getLast?_cons_cons, hw]

/-- a position starts a logical line if it is the start of the text or follows a '\n' that is not preceded by a backslash -/
def startsLogicalLine (pre : List Nat) : Bool :=
  match pre.reverse with
  | [] => true
  | [a] => a == LF
  | a :: b :: _ => a == LF && b != BSL

theorem pendCanon_logical_start (pre : List Nat) (h : startsLogicalLine pre = true) :
    pendCanon 0 0 pre = 0 ∧ ∀ rest, cutOK pre rest := by
  unfold startsLogicalLine at h
  generalize hr : pre.reverse = r at h
  have hp : pre = r.reverse := by rw [← hr, List.reverse_reverse]
  match r, h with
  | [], _ => subst hp; simp [pendCanon, cutOK]
  | [a], h =>
    simp at h; subst h; subst hp
    simp [pendCanon, cutOK]
  | a :: b :: t, h =>
    simp at h; obtain ⟨rfl, hb⟩ := h; subst hp
    constructor
    · have : (10 :: b :: t).reverse = (t.reverse ++ [b]) ++ [10] := by simp
      rw [this, pendCanon_snoc]
      simp [hb]
    · intro rest; left; simp

theorem ensureFinalNewline_last (p : List Nat) : (ensureFinalNewline p).getLast? = some LF := by
  unfold ensureFinalNewline
  split
  · rename_i b hb
    split
    · rename_i h; rw [hb, h]
    · simp
  · rfl

/-- `IsCanon.last` -/
theorem canon_last (l : List Nat) (h : l.getLast? = some LF) : (canonicalizeNewline l).getLast? = some LF :=
  lineNo_isCanon.last l h

theorem replicate_last (n : Nat) (h : 0 < n) : (List.replicate n LF).getLast? = some LF := by
  cases n with
  | zero => omega
  | succ n => simp [List.getLast?_replicate]

/-- `IsRbn.last_lf` -/
theorem splice_last (p : List Nat) (n : Nat) (h : p.getLast? = some LF) :
    (removeBackslashNewlineAux p n).getLast? = some LF :=
  lineNo_isRbn.last_lf p n h

theorem skipBOM_last (b : List Nat) (h : b.getLast? = some LF) : (skipBOM b).getLast? = some LF := by
  rcases skipBOM_cases b with ⟨_, e⟩ | ⟨_, e⟩
  · rwa [e]
  · generalize skipBOM b = r at e ⊢
    subst e
    cases r with
    | nil => simp at h
    | cons x r' => simpa [List.getLast?_cons_cons] using h
/-- enter the files in the order `tokenize_file` is called -/
def enterAll (fs : Files) (paths : List String) : Files := paths.foldl (fun fs p => (enterFile fs p).1) fs

theorem enterAll_spec (paths : List String) : ∀ fs : Files,
    (enterAll fs paths).map (·.fileNo) = fs.map (·.fileNo) ++ List.range' (fs.length + 1) paths.length ∧
    (enterAll fs paths).map (·.name) = fs.map (·.name) ++ paths := by
  induction paths with
  | nil => intro fs; simp [enterAll]
  | cons p ps ih =>
    intro fs
    have := ih (fs ++ [newFile p (fs.length + 1)])
    simp only [enterAll, List.foldl_cons, enterFile] at this ⊢
    rw [this.1, this.2]
    simp [newFile, List.range'_succ]

end ChibiVerif.LineNo
