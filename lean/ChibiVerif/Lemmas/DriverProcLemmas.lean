/-
C14, the driver process model (Model/DriverProc.lean) run on its own.  The file system is an association list read by
`List.lookup`.  At most two small steps compute one action of the big-step presentation (`iter_act`), so a run of `fuel`
steps is `bigRun` (`iter_eq_bigRun`).  One invariant is carried through `doActs`: `Sane` while nothing has failed, `Died` at
`exit(1)` with the `Cause` of the one bad event; with the atexit handler (`cleanupAll_spec`) it gives `runCmd_spec`, the
summary of a whole run from which the property theorems start.
-/
import ChibiVerif.Model.DriverProc
import ChibiVerif.Lemmas.ListLemmas

namespace ChibiVerif.DriverProc

variable {P : Type} [DecidableEq P]

namespace FS

theorem get_eq_lookup (fs : FS P) (p : P) : fs.get p = List.lookup p fs := by
  induction fs with
  | nil => rfl
  | cons e r ih =>
    obtain ⟨q, c⟩ := e
    by_cases h : q = p
    · subst h; simp [get]
    · simp [get, List.lookup_cons, h, ih, beq_false_of_ne (Ne.symm h)]

theorem get_erase_self (fs : FS P) (p : P) : (fs.erase p).get p = none :=
  (get_eq_lookup _ p).trans (List.lookup_filter_self fs p)

theorem get_erase_ne (fs : FS P) {p q : P} (h : q ≠ p) : (fs.erase p).get q = fs.get q := by
  rw [get_eq_lookup, get_eq_lookup]; exact List.lookup_filter_ne fs h

theorem get_set_self (fs : FS P) (p : P) (c : Content) : (fs.set p c).get p = some c := by
  simp [set, get]

theorem get_set_ne (fs : FS P) {p q : P} (c : Content) (h : q ≠ p) : (fs.set p c).get q = fs.get q := by
  have : p ≠ q := fun e => h e.symm
  simp [set, get, this, get_erase_ne fs h]

theorem get_erase_none (fs : FS P) (p q : P) (h : fs.get q = none) : (fs.erase p).get q = none := by
  by_cases e : q = p
  · subst e; exact get_erase_self fs q
  · rw [get_erase_ne fs e]; exact h

theorem get_set (fs : FS P) (p q : P) (c : Content) :
    (fs.set p c).get q = if q = p then some c else fs.get q := by
  by_cases h : q = p
  · subst h; simp [get_set_self]
  · simp [h, get_set_ne fs c h]

theorem get_erase (fs : FS P) (p q : P) :
    (fs.erase p).get q = if q = p then none else fs.get q := by
  by_cases h : q = p
  · subst h; simp [get_erase_self]
  · simp [h, get_erase_ne fs h]

theorem origins_congr {fs gs : FS P} {p : P} (h : fs.get p = gs.get p) : fs.origins p = gs.origins p := by
  simp [origins, h]

end FS

theorem iter_add (env : Env P) (m n : Nat) (x : DState P × FS P) :
    iter env (m + n) x = iter env n (iter env m x) := by
  induction m generalizing x with
  | zero => simp [iter]
  | succ m ih => rw [Nat.add_right_comm]; simp [iter, ih]

theorem step_terminal (env : Env P) (x : DState P × FS P) (h : x.1.phase.terminal = true) :
    step env x.1 x.2 = x := by
  obtain ⟨s, fs⟩ := x
  simp only at h
  unfold step
  cases hp : s.phase <;> simp_all [Phase.terminal]

theorem iter_terminal (env : Env P) (n : Nat) (x : DState P × FS P) (h : x.1.phase.terminal = true) :
    iter env n x = x := by
  induction n with
  | zero => rfl
  | succ n ih => simp [iter, step_terminal env x h, ih]

theorem iter_mono (env : Env P) {m n : Nat} (x : DState P × FS P) (h : m ≤ n)
    (ht : (iter env m x).1.phase.terminal = true) : iter env n x = iter env m x := by
  obtain ⟨k, rfl⟩ := Nat.exists_eq_add_of_le h
  rw [iter_add, iter_terminal env k _ ht]

theorem Reaches.unique (env : Env P) {x0 x y : DState P × FS P}
    (hx : Reaches env x0 x) (hy : Reaches env x0 y) : x = y := by
  obtain ⟨m, rfl, hm⟩ := hx
  obtain ⟨n, rfl, hn⟩ := hy
  rcases Nat.le_total m n with h | h
  · exact (iter_mono env x0 h hm).symm
  · exact iter_mono env x0 h hn

theorem iter_cleanup (env : Env P) (code : Nat) (todo : List P) (s : DState P) (fs : FS P) (n : Nat)
    (hn : todo.length + 1 ≤ n) :
    iter env n ({ s with phase := .exiting code todo }, fs) = cleanupAll code todo (s, fs) := by
  induction todo generalizing s fs n with
  | nil =>
    obtain ⟨m, rfl⟩ : ∃ m, n = m + 1 := ⟨n - 1, by simp at hn; omega⟩
    simp only [iter, step, cleanupAll]
    exact iter_terminal env m _ rfl
  | cons t ts ih =>
    obtain ⟨m, rfl⟩ : ∃ m, n = m + 1 := ⟨n - 1, by simp at hn; omega⟩
    simp only [iter, step, cleanupAll]
    have := ih (({ s with phase := Phase.exiting code ts }).emit (.unlink t)) (fs.erase t) m
      (by simp at hn ⊢; omega)
    simpa [DState.emit] using this

theorem cleanupAll_phase_irrel (code : Nat) (todo : List P) (s : DState P) (ph : Phase P) (fs : FS P) :
    cleanupAll code todo ({ s with phase := ph }, fs) = cleanupAll code todo (s, fs) := by
  cases todo <;> simp [cleanupAll]

theorem bigRun_cons_ok (env : Env P) {s : DState P} {fs : FS P} {a : Act P} {r : List (Act P)}
    {y : DState P × FS P} (ha : s.acts = a :: r)
    (h : doAct env a ({ s with acts := r }, fs) = .ok y) (hy : y.1.acts = r) :
    bigRun env (s, fs) = bigRun env y := by
  simp only [bigRun, ha, doActs, h, hy]

theorem bigRun_cons_error (env : Env P) {s : DState P} {fs : FS P} {a : Act P} {r : List (Act P)}
    {e : DState P × FS P} (ha : s.acts = a :: r)
    (h : doAct env a ({ s with acts := r }, fs) = .error e) :
    bigRun env (s, fs) = finish e := by
  simp only [bigRun, ha, doActs, h]

theorem finish_exiting (s : DState P) (fs : FS P) (code : Nat) :
    finish (s.exitWith code, fs) = cleanupAll code s.tmpfiles (s, fs) := by
  simp only [finish, DState.exitWith]
  exact cleanupAll_phase_irrel code s.tmpfiles s _ fs

omit [DecidableEq P] in
theorem exitWith_of_phase {s : DState P} {code : Nat} (h : s.phase = .exiting code s.tmpfiles) : s = s.exitWith code := by
  cases s; simp only [DState.exitWith] at h ⊢; subst h; rfl

theorem iter_exitWith (env : Env P) (s : DState P) (fs : FS P) (code n : Nat)
    (hn : s.tmpfiles.length + 1 ≤ n) :
    iter env n (s.exitWith code, fs) = finish (s.exitWith code, fs) := by
  rw [finish_exiting]
  exact iter_cleanup env code s.tmpfiles s fs n hn

/-- the state after a child `prog inp o` was spawned and waited for with status `st` -/
def DState.waited (s : DState P) (prog : Prog) (inp : List P) (o : Option P) (st : Status) : DState P :=
  ((s.emit (.spawn prog inp o)).bump prog).emit (.wait prog st)

/-- fork, exec and `wait`: what `doAct` does in its `run` arm and, on the linker's arguments, in its `link` arm -/
def child (env : Env P) (prog : Prog) (inp : List P) (o : Option P) (s : DState P) (fs : FS P) :
    Except (DState P × FS P) (DState P × FS P) :=
  let oc := env.sched prog (s.count prog)
  let fs1 := childEffect env.mode prog oc fs inp o
  if oc.status.wait = 0 then .ok (s.waited prog inp o oc.status, fs1)
  else .error ((s.waited prog inp o oc.status).exitWith 1, fs1)

theorem doAct_run (env : Env P) {s : DState P} (fs : FS P) (prog : Prog) {inp : Ref P} {out : Option (Ref P)} {i : P}
    {o : Option P} (hi : resolve s.tmpfiles inp = some i) (ho : resolveOut s.tmpfiles out = some o) :
    doAct env (.run prog inp out) (s, fs) = child env prog [i] o s fs := by
  simp only [doAct, hi, ho, child, DState.waited]

theorem doAct_link (env : Env P) {s : DState P} (fs : FS P) (o : P) (hl : ¬ s.ldArgs.isEmpty = true) :
    doAct env (.link o) (s, fs) = child env .ld s.ldArgs (some o) s fs := by
  simp only [doAct, hl, child, DState.waited]
  rfl

omit [DecidableEq P] in
theorem waited_fields (s : DState P) (prog : Prog) (inp : List P) (o : Option P) (st : Status) :
    (s.waited prog inp o st).log = s.log ++ [.spawn prog inp o, .wait prog st] ∧
    (s.waited prog inp o st).tmpfiles = s.tmpfiles ∧ (s.waited prog inp o st).acts = s.acts ∧
    (s.waited prog inp o st).phase = s.phase := by
  cases prog <;> simp [DState.waited, DState.emit, DState.bump]

omit [DecidableEq P] in
theorem waited_counts (s : DState P) (prog : Prog) (inp : List P) (o : Option P) (st : Status) :
    (s.waited prog inp o st).nTemp = s.nTemp ∧ (s.waited prog inp o st).ldArgs = s.ldArgs ∧
    (s.waited prog inp o st).nCc1 = s.nCc1 + (if prog = .cc1 then 1 else 0) := by
  cases prog <;> simp [DState.waited, DState.emit, DState.bump]

/-- the configuration an action ends in, whether `main` goes on (`ok`) or `exit` was called (`error`) -/
def merge {α : Type} : Except α α → α
  | .ok x => x
  | .error x => x

theorem iter_one (env : Env P) (x : DState P × FS P) : iter env 1 x = step env x.1 x.2 := rfl

theorem merge_ite {α : Type} (c : Prop) [Decidable c] (a b : α) :
    merge (if c then Except.ok a else Except.error b) = if c then a else b := by
  split <;> rfl

theorem stepWait_spawn (env : Env P) (s : DState P) (fs : FS P) (prog : Prog) (inp : List P) (o : Option P)
    (hp : s.phase = .run) :
    stepWait env (({ s with phase := .waiting prog inp o }).emit (.spawn prog inp o)) fs prog inp o =
      merge (child env prog inp o s fs) := by
  -- the fields of `DState` in the order of its declaration: acts, tmpfiles, ldArgs, nTemp, nCc1, nAs, nLd, phase, log
  obtain ⟨acts, tf, ld, nT, n1, n2, n3, ph, lg⟩ := s
  subst hp
  simp only [stepWait, child, merge_ite]
  cases prog <;> rfl

/-- what the small steps make of one action: `main` goes on with the rest (the fuel left covers the temporaries still
    to come), or the process is stuck or in `exit(1)` with the temporaries it had -/
def ActDone (s : DState P) (a : Act P) (r : List (Act P)) : Except (DState P × FS P) (DState P × FS P) → Prop
  | .ok y => y.1.phase = .run ∧ y.1.acts = r ∧ y.1.tmpfiles.length + mkCount r = s.tmpfiles.length + mkCount (a :: r)
  | .error e => e.1.phase = .stuck ∨ (e.1.phase = .exiting 1 e.1.tmpfiles ∧ e.1.tmpfiles.length = s.tmpfiles.length)

theorem child_done (env : Env P) (prog : Prog) (inp : List P) (o : Option P) {s : DState P} (fs : FS P) {a : Act P}
    {r : List (Act P)} (hp : s.phase = .run) (hr : s.acts = r) (hm : mkCount (a :: r) = mkCount r) :
    ActDone s a r (child env prog inp o s fs) := by
  obtain ⟨-, htmp, hacts, hph⟩ := waited_fields s prog inp o (env.sched prog (s.count prog)).status
  unfold child
  dsimp only
  split
  · exact ⟨hph.trans hp, hacts.trans hr, by rw [htmp, hm]⟩
  · exact .inr ⟨rfl, congrArg List.length htmp⟩

theorem iter_act (env : Env P) (s : DState P) (fs : FS P) (a : Act P) (r : List (Act P))
    (hp : s.phase = .run) (ha : s.acts = a :: r) :
    ∃ k, k ≤ 2 ∧ iter env k (s, fs) = merge (doAct env a ({ s with acts := r }, fs)) ∧
      ActDone s a r (doAct env a ({ s with acts := r }, fs)) := by
  -- the fields of `DState` as in `stepWait_spawn`
  obtain ⟨acts, tf, ld, nT, n1, n2, n3, ph, lg⟩ := s
  simp only at hp ha
  subst hp ha
  cases a with
  | mktemp =>
    refine ⟨1, by omega, ?_⟩
    simp only [iter, step, stepRun, doAct]
    cases env.fresh nT with
    | none => exact ⟨rfl, .inr ⟨rfl, rfl⟩⟩
    | some t => exact ⟨rfl, rfl, rfl, by simp [DState.emit, mkCount]; omega⟩
  | run prog inp out =>
    cases hi : resolve tf inp with
    | none => exact ⟨1, by omega, by simp only [iter, step, stepRun, doAct, hi]; exact ⟨rfl, .inl rfl⟩⟩
    | some i =>
      cases ho : resolveOut tf out with
      | none => exact ⟨1, by omega, by simp only [iter, step, stepRun, doAct, hi, ho]; exact ⟨rfl, .inl rfl⟩⟩
      | some o =>
        rw [doAct_run env fs prog hi ho]
        refine ⟨2, Nat.le_refl _, ?_, child_done env prog [i] o fs rfl rfl rfl⟩
        simp only [iter, step, stepRun, hi, ho]
        exact stepWait_spawn env ⟨r, tf, ld, nT, n1, n2, n3, .run, lg⟩ fs prog [i] o rfl
  | pushLd ref =>
    refine ⟨1, by omega, ?_⟩
    simp only [iter, step, stepRun, doAct]
    cases resolve tf ref with
    | none => exact ⟨rfl, .inl rfl⟩
    | some p => exact ⟨rfl, rfl, rfl, rfl⟩
  | link o =>
    by_cases hl : ld.isEmpty = true
    · exact ⟨1, by omega, by simp only [hl, if_true, iter, step, stepRun, doAct]; exact ⟨rfl, rfl, rfl, rfl⟩⟩
    · rw [doAct_link env fs o hl]
      refine ⟨2, Nat.le_refl _, ?_, child_done env .ld ld (some o) fs rfl rfl rfl⟩
      simp only [iter, step, stepRun, hl, Bool.false_eq_true, if_false]
      exact stepWait_spawn env ⟨r, tf, ld, nT, n1, n2, n3, .run, lg⟩ fs .ld ld (some o) rfl
  | fail why => exact ⟨1, by omega, rfl, .inr ⟨rfl, rfl⟩⟩

theorem iter_eq_bigRun (env : Env P) (s : DState P) (fs : FS P) (n : Nat) (hp : s.phase = .run)
    (hn : fuel s ≤ n) : iter env n (s, fs) = bigRun env (s, fs) := by
  generalize ha : s.acts = acts
  induction acts generalizing s fs n with
  | nil =>
    obtain ⟨m, rfl⟩ : ∃ m, n = m + 1 := ⟨n - 1, by simp [fuel] at hn; omega⟩
    simp only [iter, step, hp, stepRun, ha, bigRun, doActs]
    apply iter_exitWith
    simp [fuel, ha, mkCount] at hn; omega
  | cons a r ih =>
    obtain ⟨j, hj, hit, hdone⟩ := iter_act env s fs a r hp ha
    simp only [fuel, ha, List.length_cons] at hn
    obtain ⟨k, rfl⟩ : ∃ k, n = j + k := ⟨n - j, by omega⟩
    rw [iter_add, hit]
    cases hd : doAct env a ({ s with acts := r }, fs) with
    | ok y =>
      rw [hd] at hdone
      obtain ⟨h1, h2, h3⟩ := hdone
      rw [merge, bigRun_cons_ok env ha hd h2]
      exact ih y.1 y.2 k h1 (by simp only [fuel, h2]; omega) h2
    | error e =>
      rw [hd] at hdone
      rw [merge, bigRun_cons_error env ha hd]
      rcases hdone with h | ⟨h, htf⟩
      · simp only [finish, h]
        exact iter_terminal env k e (by simp [h, Phase.terminal])
      · obtain ⟨es, efs⟩ := e
        rw [exitWith_of_phase (s := es) h]
        apply iter_exitWith
        show es.tmpfiles.length + 1 ≤ k
        simp only at htf
        omega

omit [DecidableEq P] in
theorem created_append (l m : List (Event P)) : created (l ++ m) = created l ++ created m := by
  simp [created, List.filterMap_append]

omit [DecidableEq P] in
theorem created_nil : created ([] : List (Event P)) = [] := rfl

omit [DecidableEq P] in
theorem created_cons (e : Event P) (l : List (Event P)) :
    created (e :: l) = (match e with | .mkstemp p => [p] | _ => []) ++ created l := by
  cases e <;> simp [created]

def Ref.ok (n : Nat) : Ref P → Bool
  | .path _ => true
  | .tmp i => decide (i < n)

/-- every `tmp i` an action uses refers to one of the temporaries created before it -/
def WF : Nat → List (Act P) → Bool
  | _, [] => true
  | n, .mktemp :: r => WF (n + 1) r
  | n, .run _ i o :: r => i.ok n && (match o with | none => true | some x => x.ok n) && WF n r
  | n, .pushLd x :: r => x.ok n && WF n r
  | n, .link _ :: r => WF n r
  | n, .fail _ :: r => WF n r

omit [DecidableEq P] in
theorem WF_append (n : Nat) (a b : List (Act P)) : WF n (a ++ b) = (WF n a && WF (n + mkCount a) b) := by
  induction a generalizing n with
  | nil => simp [WF, mkCount]
  | cons x r ih =>
    cases x <;> simp [WF, mkCount, ih, Bool.and_assoc]
    · congr 2; omega

omit [DecidableEq P] in
theorem resolve_ok {tf : List P} {r : Ref P} (h : r.ok tf.length = true) : ∃ p, resolve tf r = some p := by
  cases r with
  | path p => exact ⟨p, rfl⟩
  | tmp i =>
    simp only [Ref.ok, decide_eq_true_eq] at h
    exact ⟨tf[i], by simp [resolve, h]⟩

omit [DecidableEq P] in
theorem mkCount_append (a b : List (Act P)) : mkCount (a ++ b) = mkCount a + mkCount b := by
  induction a with
  | nil => simp [mkCount]
  | cons x r ih => cases x <;> simp [mkCount, ih] <;> omega

omit [DecidableEq P] in
theorem plan_mkCount (cmd : Cmd P) (n : Nat) (i : Input P) : mkCount (plan cmd n i) = planTemps cmd i := by
  fun_cases plan cmd n i <;> simp_all [mkCount, planTemps]

omit [DecidableEq P] in
theorem plan_WF (cmd : Cmd P) (n : Nat) (i : Input P) : WF n (plan cmd n i) = true := by
  -- only the plans that create temporaries refer to one: `tmp n` after one `mktemp`, `tmp (n + 1)` after two
  fun_cases plan cmd n i <;> simp [WF, Ref.ok]
  · cases cmd.out <;> rfl
  · omega

omit [DecidableEq P] in
theorem compileLoop_WF (cmd : Cmd P) (n : Nat) (l : List (Input P)) : WF n (compileLoop cmd n l) = true := by
  induction l generalizing n with
  | nil => simp only [compileLoop]; split <;> simp [WF]
  | cons i r ih => simp [compileLoop, WF_append, plan_WF, plan_mkCount, ih]

omit [DecidableEq P] in
theorem compile_cases (cmd : Cmd P) :
    (∃ why, compile cmd = [.fail why]) ∨ compile cmd = compileLoop cmd 0 cmd.inputs := by
  unfold compile
  split
  · exact .inl ⟨_, rfl⟩
  · split
    · exact .inl ⟨_, rfl⟩
    · exact .inr rfl

omit [DecidableEq P] in
theorem compile_WF (cmd : Cmd P) : WF 0 (compile cmd) = true := by
  rcases compile_cases cmd with ⟨why, h⟩ | h <;> rw [h]
  · rfl
  · exact compileLoop_WF cmd 0 _

/-- a run that has not failed: `acts`, all among `all`, are still to do, and at most `hi` temporaries will ever be asked for -/
structure Sane (all : List (Act P)) (hi : Nat) (acts : List (Act P)) (x : DState P × FS P) : Prop where
  phase : x.1.phase = .run
  created : created x.1.log = x.1.tmpfiles
  wf : WF x.1.tmpfiles.length acts = true
  good : ∀ e ∈ x.1.log, Event.bad e = false
  budget : x.1.nTemp + mkCount acts ≤ hi
  sub : ∀ a ∈ acts, a ∈ all

/-- where the event that ended a run in `exit(1)` comes from: a wait status the schedule chose, a `fail` action of the
    program, a `none` of the environment's mkstemp within the budget -/
def Cause (env : Env P) (all : List (Act P)) (hi : Nat) : Event P → Prop
  | .wait prog st => st.wait ≠ 0 ∧ ∃ k, st = (env.sched prog k).status
  | .error why => Act.fail why ∈ all
  | .mkstempFailed => ∃ k, k < hi ∧ env.fresh k = none
  | _ => False

/-- a run at the moment it called `exit(1)`: only its last event is bad, and that one has a cause -/
structure Died (env : Env P) (all : List (Act P)) (hi : Nat) (e : DState P × FS P) : Prop where
  phase : e.1.phase = .exiting 1 e.1.tmpfiles
  created : created e.1.log = e.1.tmpfiles
  log : ∃ l b, e.1.log = l ++ [b] ∧ (∀ x ∈ l, Event.bad x = false) ∧ Cause env all hi b

omit [DecidableEq P] in
theorem Cause.bad {env : Env P} {all : List (Act P)} {hi : Nat} {b : Event P} (h : Cause env all hi b) : b.bad = true := by
  cases b <;> simp_all [Cause, Event.bad]

section sane
variable {env : Env P} {all : List (Act P)} {hi : Nat} {s : DState P} {r : List (Act P)}

omit [DecidableEq P] in
theorem died_of_event (fs : FS P) (hcr : created s.log = s.tmpfiles) (hgood : ∀ e ∈ s.log, Event.bad e = false)
    {b : Event P} (hb : Cause env all hi b) (hc : created [b] = []) :
    Died env all hi ((s.emit b).exitWith 1, fs) :=
  ⟨rfl, by show created (s.log ++ [b]) = s.tmpfiles; rw [created_append, hc, hcr, List.append_nil], s.log, b, rfl, hgood, hb⟩

theorem child_sane {prog : Prog} {inp : List P} {o : Option P} (fs : FS P) (h : Sane all hi r (s, fs)) :
    match child env prog inp o s fs with
    | .ok y => Sane all hi r y
    | .error e => Died env all hi e := by
  obtain ⟨hlog, htmp, -, hph⟩ := waited_fields s prog inp o (env.sched prog (s.count prog)).status
  have hnt := (waited_counts s prog inp o (env.sched prog (s.count prog)).status).1
  have hcr : created (s.waited prog inp o (env.sched prog (s.count prog)).status).log = s.tmpfiles := by
    rw [hlog, created_append, h.created]; exact List.append_nil _
  unfold child
  dsimp only
  by_cases hw : (env.sched prog (s.count prog)).status.wait = 0
  · rw [if_pos hw]
    exact {
      phase := hph.trans h.phase
      created := hcr.trans htmp.symm
      wf := by rw [htmp]; exact h.wf
      good := by rw [hlog]; exact List.forall_mem_append.mpr ⟨h.good, by simp [Event.bad, hw]⟩   -- spawn, and a wait with status 0
      budget := by rw [hnt]; exact h.budget
      sub := h.sub }
  · rw [if_neg hw]
    exact {
      phase := rfl
      created := hcr.trans htmp.symm
      -- the log is what it was, the spawn, and as its one bad event the wait with the status the schedule chose
      log := ⟨s.log ++ [.spawn prog inp o], .wait prog _, hlog.trans (List.append_assoc _ [_] [_]).symm,
        List.forall_mem_append.mpr ⟨h.good, by simp [Event.bad]⟩, hw, _, rfl⟩ }

theorem doAct_sane (env : Env P) (a : Act P) (x : DState P × FS P) (h : Sane all hi (a :: r) x) :
    match doAct env a ({ x.1 with acts := r }, x.2) with
    | .ok y => Sane all hi r y
    | .error e => Died env all hi e := by
  obtain ⟨s, fs⟩ := x
  obtain ⟨hph, hcr, hwf, hgood, hbud, hsub⟩ := h
  have hsub' : ∀ b ∈ r, b ∈ all := fun b hb => hsub b (List.mem_cons_of_mem _ hb)
  simp only at hph hcr hwf hgood hbud
  cases a with
  | mktemp =>
    simp only [doAct]
    cases hf : env.fresh s.nTemp with
    | none =>
      refine died_of_event (s := { s with acts := r }) fs hcr hgood (b := .mkstempFailed) ⟨s.nTemp, ?_, hf⟩ rfl
      simp [mkCount] at hbud; omega
    | some t =>
      exact {
        phase := hph
        created := by
          show created (s.log ++ [.mkstemp t]) = s.tmpfiles ++ [t]
          rw [created_append, hcr]; rfl
        wf := by simpa [WF, DState.emit] using hwf
        good := List.forall_mem_append.mpr ⟨hgood, by simp [Event.bad]⟩
        budget := by
          show s.nTemp + 1 + mkCount r ≤ hi
          simp [mkCount] at hbud; omega
        sub := hsub' }
  | run prog inp out =>
    -- `wf` is what rules out the stuck outcomes: both references resolve
    simp only [WF, Bool.and_eq_true] at hwf
    obtain ⟨i, hi'⟩ := resolve_ok hwf.1.1
    obtain ⟨o, ho⟩ : ∃ o, resolveOut s.tmpfiles out = some o := by
      cases out with
      | none => exact ⟨none, rfl⟩
      | some x => obtain ⟨p, hp⟩ := resolve_ok (tf := s.tmpfiles) (r := x) hwf.1.2; exact ⟨some p, by simp [resolveOut, hp]⟩
    rw [doAct_run env (s := { s with acts := r }) fs prog hi' ho]
    exact child_sane fs ⟨hph, hcr, hwf.2, hgood, hbud, hsub'⟩
  | pushLd ref =>
    simp only [WF, Bool.and_eq_true] at hwf
    obtain ⟨p, hp⟩ := resolve_ok hwf.1
    simp only [doAct, hp]
    exact ⟨hph, hcr, hwf.2, hgood, hbud, hsub'⟩
  | link o =>
    by_cases hl : s.ldArgs.isEmpty = true
    · simp only [doAct, hl, if_true]; exact ⟨hph, hcr, hwf, hgood, hbud, hsub'⟩
    · rw [doAct_link env (s := { s with acts := r }) fs o hl]
      exact child_sane fs ⟨hph, hcr, hwf, hgood, hbud, hsub'⟩
  | fail why =>
    exact died_of_event (s := { s with acts := r }) fs hcr hgood (b := .error why) (hsub _ List.mem_cons_self) rfl

end sane

theorem doActs_sane (env : Env P) {all : List (Act P)} {hi : Nat} (acts : List (Act P)) :
    ∀ x : DState P × FS P, Sane all hi acts x →
      match doActs env acts x with
      | .ok y => Sane all hi [] y
      | .error e => Died env all hi e := by
  induction acts with
  | nil => intro x h; exact h
  | cons a r ih =>
    intro x h
    have := doAct_sane env a x h
    simp only [doActs]
    cases hd : doAct env a ({ x.1 with acts := r }, x.2) with
    | ok y => rw [hd] at this; exact ih y this
    | error e => rw [hd] at this; exact this

theorem cleanupAll_spec (code : Nat) (todo : List P) (s : DState P) (fs : FS P) :
    (cleanupAll code todo (s, fs)).1.phase = .done code ∧
    (cleanupAll code todo (s, fs)).1.log = s.log ++ todo.map Event.unlink ++ [Event.exit code] ∧
    (cleanupAll code todo (s, fs)).1.tmpfiles = s.tmpfiles ∧
    (∀ p, (cleanupAll code todo (s, fs)).2.get p = if p ∈ todo then none else fs.get p) := by
  induction todo generalizing s fs with
  | nil => simp [cleanupAll, DState.emit]
  | cons t ts ih =>
    obtain ⟨h1, h2, h3, h4⟩ := ih (({ s with phase := Phase.exiting code ts }).emit (.unlink t)) (fs.erase t)
    simp only [cleanupAll]
    refine ⟨h1, ?_, h3, ?_⟩
    · rw [h2]; simp [DState.emit]
    · intro p
      rw [h4 p, FS.get_erase]
      by_cases hp : p = t
      · simp [hp]
      · by_cases hp2 : p ∈ ts <;> simp [hp, hp2]

/-- summary of a complete run of a command: the configuration `(e, efs)` at the moment `exit`/`return` is reached, and
    what the atexit handler makes of it: the temporaries are unlinked, nothing else changes -/
theorem runCmd_spec (env : Env P) (cmd : Cmd P) (fs : FS P) :
    ∃ (code : Nat) (e : DState P) (efs : FS P),
      (runCmd env cmd fs).1.phase = .done code ∧
      (runCmd env cmd fs).1.log = e.log ++ e.tmpfiles.map Event.unlink ++ [Event.exit code] ∧
      (∀ p, (runCmd env cmd fs).2.get p = if p ∈ e.tmpfiles then none else efs.get p) ∧
      created e.log = e.tmpfiles ∧
      ((code = 0 ∧ doActs env (compile cmd) (init cmd, fs) = .ok (e, efs) ∧ ∀ x ∈ e.log, Event.bad x = false) ∨
       (code = 1 ∧ doActs env (compile cmd) (init cmd, fs) = .error (e, efs) ∧
          ∃ l b, e.log = l ++ [b] ∧ (∀ x ∈ l, Event.bad x = false) ∧
            Cause env (compile cmd) (mkCount (compile cmd)) b)) := by
  have hrun : runCmd env cmd fs = bigRun env (init cmd, fs) :=
    iter_eq_bigRun env (init cmd) fs _ rfl (Nat.le_refl _)
  have hs := doActs_sane env (all := compile cmd) (compile cmd) (init cmd, fs)
    ⟨rfl, rfl, compile_WF cmd, nofun, Nat.le_of_eq (Nat.zero_add _), fun _ h => h⟩
  rw [hrun]
  simp only [bigRun, show (init cmd).acts = compile cmd from rfl]
  cases hd : doActs env (compile cmd) (init cmd, fs) with
  | ok y =>
    rw [hd] at hs
    obtain ⟨h1, h2, -, h4⟩ := cleanupAll_spec 0 y.1.tmpfiles y.1 y.2
    dsimp only
    rw [finish_exiting]
    exact ⟨0, y.1, y.2, h1, h2, h4, hs.created, .inl ⟨rfl, rfl, hs.good⟩⟩
  | error e =>
    rw [hd] at hs
    obtain ⟨es, efs⟩ := e
    obtain ⟨h1, h2, -, h4⟩ := cleanupAll_spec 1 es.tmpfiles es efs
    have hf := finish_exiting es efs 1
    rw [← exitWith_of_phase (s := es) hs.phase] at hf
    dsimp only
    rw [hf]
    exact ⟨1, es, efs, h1, h2, h4, hs.created, .inr ⟨rfl, rfl, hs.log⟩⟩

end ChibiVerif.DriverProc
