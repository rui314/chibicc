/-
C03 × C01: from the simulation (`sim`) to the statement about a whole function body (`fun_core`): the renamed program, the
frame of the caller's choosing, the run to the line after `.L.return`, and a region of memory the function provably does not
touch (`keep`); `keep_above_bp`: with chibicc's frame layout (`layoutOK`) everything at or above `%rbp` is such a region.
-/
import ChibiVerif.Lemmas.C03FunSim

namespace ChibiVerif.C03Fun
open ChibiVerif.Asm ChibiVerif.Spec.IntSpec ChibiVerif.C01 ChibiVerif.X86 ChibiVerif.X86J

/-- the whole-function theorem with a region `keep` of the caller's choosing: the body `compileFn` assembles, started at its first
    line in the frame the prologue leaves (`FrameX`), runs to the line after `.L.return.f:` whenever `execF` terminates; `%rax`
    represents the returned value, `%rsp` / `%rbp` are as before, the frame holds the final store, and no byte of `keep` — bytes at or
    above `%rsp` outside the variables and the hidden temporaries — has changed -/
theorem fun_core (tys : List ITy) (off toff : Nat → Int) (R : ITy) (c0 u0 : Nat) (body : FStmt)
    (prog : List FI) (K c1 u1 : Nat)
    (hc : compileFn tys off toff R c0 u0 body = some (prog, K, c1, u1)) (hnc : noConflictF body = true)
    (σ σ' : Env) (hσ : σ.tys = tys) (fuel : Nat) (o : Out) (hx : execF R fuel body σ = .done o σ')
    (m : State) (hf : FrameX σ off toff K (depthF body) m) (keep : BitVec 64 → Prop)
    (hkeep : ∀ a, keep a → (m.get .rsp).toNat ≤ a.toNat ∧ (∀ W, ¬ inVar tys off (m.get .rbp) W a) ∧
      ¬ inTmp toff (m.get .rbp) 0 K a) :
    ∃ fuel' m', runF fuel' prog 0 m = some m' ∧ (∀ v, o = .ret v → Represents R (m'.get .rax) v) ∧
      m'.get .rsp = m.get .rsp ∧ m'.get .rbp = m.get .rbp ∧ FrameX σ' off toff K (depthF body) m' ∧
      ∀ a, keep a → m'.mem a = m.mem a := by
  have hfresh := (compileFn_fresh tys off toff R c0 u0 body prog K c1 u1 hc).1
  simp only [compileFn, Option.map_eq_some_iff, Prod.mk.injEq] at hc
  obtain ⟨⟨code, K', c1', u1'⟩, hcF, rfl, hK', _, _⟩ := hc
  have hK' : K' = K := hK'
  subst hK'
  let g : Cfg := { tys := tys, off := off, toff := toff, K := K', R := R, C := bound (code ++ [FI.lbl (.s .ret)]),
                   q := (code ++ [FI.lbl (.s .ret)]).map (enc (bound (code ++ [FI.lbl (.s .ret)]))), retPos := code.length,
                   sp := m.get .rsp, bp := m.get .rbp, B := (m.get .rsp).toNat, D := depthF body, keep := keep, mem0 := m.mem }
  have ok : g.OK := by
    refine ⟨nodup_enc _ hfresh, ?_, ?_, hf.1, Nat.le_refl _, hkeep⟩
    · show ((code ++ [FI.lbl (.s .ret)]).map (enc _))[code.length]? = _
      simp [enc, g]
    · have := hf.2.1; rw [hσ] at this; exact this
  have hm : MInv g σ m := ⟨hσ, rfl, rfl, hf.2.2, fun _ _ => rfl⟩
  have hat : At g.q 0 (code.map (enc g.C)) := by
    have := At_mid [] (code.map (enc g.C)) ([FI.lbl (.s .ret)].map (enc g.C))
    simpa [g] using this
  have hret : g.q[code.length]? = some (.lbl (encL g.C (.s .ret))) := ok.ret
  obtain ⟨m', r, hm', hr⟩ := sim g ok (big_iff.1 hx)
    ((comp_of_compile body hcF).lay ok (Nat.le_refl _) hnc (Nat.le_refl _) (bp := code.length) (cp := code.length) hat
      ⟨fun b h => by simp at h, fun ct h => by simp at h⟩) hm
  have htgt : tgt g o (0 + code.length) code.length code.length = code.length := by cases o <;> simp [tgt, g]
  rw [htgt] at r
  obtain ⟨fuel', hrun⟩ := (r.trans (lbl_step hret m')).runJ (by simp [g])
  refine ⟨fuel', m', ?_, hr, hm'.2.1, hm'.2.2.1, ?_, hm'.2.2.2.2⟩
  · rw [runF_eq_runJ]; exact hrun
  · refine ⟨by rw [hm'.2.1]; exact hf.1, ?_, hm'.2.2.2.1⟩
    rw [hm'.1, hm'.2.1, hm'.2.2.1]
    have := hf.2.1; rw [hσ] at this; exact this

/-- with chibicc's frame layout every byte at or above `%rbp` lies outside the variables and the hidden temporaries and above
    `%rsp` -/
theorem keep_above_bp (tys : List ITy) (off toff : Nat → Int) (K : Nat) (N : Int) (hN : 0 ≤ N)
    (hlay : layoutOK tys off toff K N = true) (bp sp : BitVec 64) (hbp : (bp.toNat : Int) = sp.toNat + N) (a : BitVec 64)
    (ha : bp.toNat ≤ a.toNat) :
    sp.toNat ≤ a.toNat ∧ (∀ W, ¬ inVar tys off bp W a) ∧ ¬ inTmp toff bp 0 K a := by
  simp only [layoutOK, Bool.and_eq_true, List.all_eq_true, List.mem_range, inFrame, decide_eq_true_eq] at hlay
  obtain ⟨⟨⟨⟨hv, ht⟩, _⟩, _⟩, _⟩ := hlay
  refine ⟨by omega, ?_, ?_⟩
  · rintro W ⟨i, t, _, hi, h1, h2⟩
    have := hv i (lt_of_getElem? hi)
    rw [szOf_eq hi] at this
    have e := addrOf_toNat bp (off i) N this.1 (by have := size_pos t; omega) (by omega)
    omega
  · rintro ⟨k, _, hk, h1, h2⟩
    have := ht k hk
    have e := addrOf_toNat bp (toff k) N this.1 (by omega) (by omega)
    omega

end ChibiVerif.C03Fun
