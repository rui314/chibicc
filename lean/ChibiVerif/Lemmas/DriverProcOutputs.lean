/-
C14, contents of the files under `Setup` (mkstemp names fresh, requested outputs distinct), for every fault schedule.
`Runs` is a Hoare-style judgment for action lists in front of any continuation; `Piped` relates the configuration before a
loop body to the one after a prefix of it and has a rule for each action a loop body runs (`mktemp`, `pushLd`, `run`), so each
of `plan`'s shapes is a chain of rules (`unit_runs`; its one `fail` arm and the final `link` of `loop_lemma` unfold `doAct`);
`LoopInv` is carried over the inputs (`loop_lemma`).
-/
import ChibiVerif.Lemmas.DriverProcConcurrent

namespace ChibiVerif.DriverProc

variable {P : Type} [DecidableEq P]

/-- the configuration after a `mkstemp` in `y` returned `t`; `r` = the actions still to do -/
def mkY (t : P) (r : List (Act P)) (y : DState P × FS P) : DState P × FS P :=
  (({ y.1 with acts := r, nTemp := y.1.nTemp + 1, tmpfiles := y.1.tmpfiles ++ [t] }).emit (.mkstemp t),
   y.2.set t ⟨.empty, []⟩)

theorem doActs_mktemp (env : Env P) (r : List (Act P)) (y : DState P × FS P) (t : P)
    (h : env.fresh y.1.nTemp = some t) : doActs env (.mktemp :: r) y = doActs env r (mkY t r y) := by
  simp [doActs, doAct, h, mkY]

section proj
variable (env : Env P) (prog : Prog) (i : List P) (o : Option P) (r : List (Act P)) (y : DState P × FS P) (t : P)

@[simp] theorem mkY_tmpfiles : (mkY t r y).1.tmpfiles = y.1.tmpfiles ++ [t] := rfl
@[simp] theorem mkY_nTemp : (mkY t r y).1.nTemp = y.1.nTemp + 1 := rfl
@[simp] theorem mkY_ldArgs : (mkY t r y).1.ldArgs = y.1.ldArgs := rfl
@[simp] theorem mkY_nCc1 : (mkY t r y).1.nCc1 = y.1.nCc1 := rfl
@[simp] theorem mkY_count : (mkY t r y).1.count prog = y.1.count prog := by cases prog <;> rfl
@[simp] theorem mkY_log : (mkY t r y).1.log = y.1.log ++ [.mkstemp t] := rfl
@[simp] theorem mkY_fs : (mkY t r y).2 = y.2.set t ⟨.empty, []⟩ := rfl
set_option linter.unusedSectionVars false in
@[simp] theorem exitWith_tmpfiles (s : DState P) (c : Nat) : (s.exitWith c).tmpfiles = s.tmpfiles := rfl
set_option linter.unusedSectionVars false in
@[simp] theorem exitWith_log (s : DState P) (c : Nat) : (s.exitWith c).log = s.log := rfl
end proj

/-- the command ends with a linker run -/
def linking (cmd : Cmd P) : Prop := cmd.mode = .link ∧ cmd.depsOnly = false

/-- loop invariant: the configuration after the inputs `pre` were processed without failure -/
structure LoopInv (cmd : Cmd P) (fs₀ : FS P) (ts : List P) (pre : List (Input P)) (y : DState P × FS P) : Prop where
  tmps : y.1.tmpfiles = ts.take (totalTemps cmd pre)
  ntemp : y.1.nTemp = totalTemps cmd pre
  ncc1 : y.1.nCc1 = cCount cmd pre
  units : ∀ u ∈ pre, isUnit cmd u = true →
    y.2.get (unitOutput cmd u) = some ⟨unitCls cmd, fs₀.origins u.path⟩
  frame : ∀ p, p ∉ y.1.tmpfiles → (∀ u ∈ pre, isUnit cmd u = true → unitOutput cmd u ≠ p) → y.2.get p = fs₀.get p
  ldOrig : linking cmd → y.1.ldArgs.map y.2.origins = pre.map (fun u => fs₀.origins u.path)
  ldWhere : ∀ p ∈ y.1.ldArgs, p ∈ y.1.tmpfiles ∨ p ∈ cmd.inputs.map (·.path)

omit [DecidableEq P] in
theorem totalTemps_append (cmd : Cmd P) (a b : List (Input P)) :
    totalTemps cmd (a ++ b) = totalTemps cmd a + totalTemps cmd b := by
  induction a with
  | nil => simp [totalTemps]
  | cons x r ih => simp [totalTemps, ih]; omega

omit [DecidableEq P] in
theorem totalTemps_snoc (cmd : Cmd P) (pre : List (Input P)) (u : Input P) :
    totalTemps cmd (pre ++ [u]) = totalTemps cmd pre + planTemps cmd u := by
  rw [totalTemps_append]; rfl

omit [DecidableEq P] in
theorem cCount_append (cmd : Cmd P) (a b : List (Input P)) :
    cCount cmd (a ++ b) = cCount cmd a + cCount cmd b := by
  simp [cCount, List.filter_append]

omit [DecidableEq P] in
theorem take_succ_of_get {ts : List P} {n : Nat} {t : P} (h : ts[n]? = some t) :
    ts.take (n + 1) = ts.take n ++ [t] := by
  rw [List.take_add_one, h]; rfl

omit [DecidableEq P] in
theorem resolve_tmp_append {tf l : List P} {n j : Nat} (h : tf.length = n) :
    resolve (tf ++ l) (.tmp (n + j)) = l[j]? := by
  simp only [resolve]
  rw [List.getElem?_append_right (by omega)]
  congr 1; omega

/-- what a successfully processed input `u` did to the configuration -/
structure UnitOK (env : Env P) (cmd : Cmd P) (ts : List P) (n : Nat) (u : Input P)
    (y z : DState P × FS P) : Prop where
  tmps : z.1.tmpfiles = ts.take (n + planTemps cmd u)
  ntemp : z.1.nTemp = n + planTemps cmd u
  ncc1 : z.1.nCc1 = y.1.nCc1 + (if effKind cmd.mode u.kind = .C then 1 else 0)
  frame : ∀ p, p ∉ z.1.tmpfiles ∨ p ∈ y.1.tmpfiles → (isUnit cmd u = true → p ≠ unitOutput cmd u) → z.2.get p = y.2.get p
  unit : isUnit cmd u = true → z.2.get (unitOutput cmd u) = some ⟨unitCls cmd, y.2.origins u.path⟩
  ld : linking cmd → ∃ q, z.1.ldArgs = y.1.ldArgs ++ [q] ∧ z.2.origins q = y.2.origins u.path
  ldWhere : ∀ q ∈ z.1.ldArgs, q ∈ y.1.ldArgs ∨ q ∈ z.1.tmpfiles ∨ q = u.path

/-- what is known when processing `u` ended in `exit(1)` -/
def UnitFail (env : Env P) (cmd : Cmd P) (ts : List P) (u : Input P) (y e : DState P × FS P) : Prop :=
  ∀ st, e.1.log.getLast? = some (.wait .cc1 st) →
    effKind cmd.mode u.kind = .C ∧ st = (env.sched .cc1 y.1.nCc1).status ∧
    (∀ t ∈ e.1.tmpfiles, t ∈ ts) ∧ (∀ t ∈ y.1.tmpfiles, t ∈ e.1.tmpfiles) ∧
    (∀ p, p ∉ e.1.tmpfiles → e.2.get p =
      if (env.sched .cc1 y.1.nCc1).leaves = .complete ∧ cc1Out cmd u = some p
      then some ⟨unitCls cmd, y.2.origins u.path⟩ else y.2.get p)

theorem childEffect_ok {mode : Mode} {prog : Prog} {oc : Outcome} {fs : FS P} {i : List P} {o : P}
    (h : oc.status.wait = 0) : childEffect mode prog oc fs i (some o) = fs.set o (childOut mode prog fs i) := by
  simp [childEffect, h]

theorem childEffect_cc1_fail {mode : Mode} {oc : Outcome} {fs : FS P} {i : List P} {o : Option P}
    (h : ¬ oc.status.wait = 0) (hl : oc.leaves ≠ .complete) : childEffect mode .cc1 oc fs i o = fs := by
  cases o <;> simp [childEffect, h, hl]

omit [DecidableEq P] in
theorem getLast_ne {l : List (Event P)} {a b : Event P} (h : a ≠ b) : (l ++ [a]).getLast? ≠ some b := by
  simp [List.getLast?_append, h]

/-- `acts`, started in `y` with anything to follow, either get through to a configuration in `R`, from which the run goes on,
    or end in `exit(1)` in a configuration in `X` -/
def Runs (env : Env P) (acts : List (Act P)) (y : DState P × FS P) (R X : DState P × FS P → Prop) : Prop :=
  ∀ rest, (∃ z, doActs env (acts ++ rest) y = doActs env rest z ∧ R z) ∨
    (∃ e, doActs env (acts ++ rest) y = .error e ∧ X e)

/-- `z` is `y` after part of the loop body for the input stored at `src`, `n` temporaries having existed before (`ts`: the names
    mkstemp hands out, in order): the names `new`, the next of `ts`, were created, the front end ran `c` times, `ld` was pushed to the linker's arguments, `q` holds what has
    been made of `src`, and apart from the new temporaries only `w` was written -/
structure Piped (ts : List P) (n : Nat) (src : P) (new : List P) (c : Nat) (ld w : List P) (q : P)
    (y z : DState P × FS P) : Prop where
  nodup : ts.Nodup
  base : y.1.tmpfiles = ts.take n
  tmps : z.1.tmpfiles = ts.take n ++ new
  take : ts.take (n + new.length) = ts.take n ++ new
  ntemp : z.1.nTemp = n + new.length
  ncc1 : z.1.nCc1 = y.1.nCc1 + c
  ld : z.1.ldArgs = y.1.ldArgs ++ ld
  frame : ∀ p, p ∉ new → p ∉ w → z.2.get p = y.2.get p
  made : z.2.origins q = y.2.origins src

/-- the driver's `exit(1)` in `e` after the child `prog i o`, forked in `z`, failed -/
structure Failed (env : Env P) (prog : Prog) (i : P) (o : Option P) (z e : DState P × FS P) : Prop where
  status : ¬ (env.sched prog (z.1.count prog)).status.wait = 0
  tmps : e.1.tmpfiles = z.1.tmpfiles
  fs : e.2 = childEffect env.mode prog (env.sched prog (z.1.count prog)) z.2 [i] o
  log : e.1.log = z.1.log ++ [.spawn prog [i] o, .wait prog (env.sched prog (z.1.count prog)).status]

theorem childOut_origins (mode : Mode) (prog : Prog) (fs : FS P) (inp : List P) :
    (childOut mode prog fs inp).origins = inp.flatMap fs.origins := by
  cases prog <;> rfl

namespace Piped
variable {env : Env P} {ts : List P} {n c : Nat} {src q : P} {new ld w : List P} {y z : DState P × FS P}
  {r : List (Act P)} {R X : DState P × FS P → Prop}

theorem refl (hnd : ts.Nodup) (htm : y.1.tmpfiles = ts.take n) (hnt : y.1.nTemp = n) :
    Piped ts n src [] 0 [] [] src y y :=
  ⟨hnd, htm, by rw [htm, List.append_nil], by rw [List.append_nil]; rfl, hnt, rfl, (List.append_nil _).symm,
    fun _ _ _ => rfl, rfl⟩

variable (p : Piped ts n src new c ld w q y z)
include p

theorem mktemp (hfresh : ∀ k t, ts[k]? = some t → env.fresh k = some t)
    (hlt : n + new.length < ts.length) (hq : q ∉ ts)
    (next : ∀ t z', Piped ts n src (new ++ [t]) c ld w q y z' → Runs env r z' R X) : Runs env (.mktemp :: r) z R X := by
  intro rest
  obtain ⟨t, ht⟩ : ∃ t, ts[n + new.length]? = some t := ⟨_, List.getElem?_eq_getElem hlt⟩
  rw [List.cons_append, doActs_mktemp env (r ++ rest) z t (by rw [p.ntemp]; exact hfresh _ t ht)]
  refine next t (mkY t (r ++ rest) z) ⟨p.nodup, p.base, ?_, ?_, ?_, p.ncc1, p.ld, ?_, ?_⟩ rest
  · rw [mkY_tmpfiles, p.tmps, List.append_assoc]
  · rw [List.length_append, List.length_singleton, ← Nat.add_assoc, take_succ_of_get ht, p.take, List.append_assoc]
  · rw [mkY_nTemp, p.ntemp, List.length_append, Nat.add_assoc]; rfl
  · intro x hx hw
    rw [mkY_fs, FS.get_set_ne _ _ (fun e => hx (by simp [e]))]
    exact p.frame x (fun h => hx (by simp [h])) hw
  · rw [mkY_fs, FS.origins_congr (FS.get_set_ne _ _ fun e : q = t => hq (e ▸ List.mem_of_getElem? ht))]; exact p.made

theorem pushLd {ref : Ref P} {x : P} (hr : resolve z.1.tmpfiles ref = some x)
    (next : ∀ z', Piped ts n src new c (ld ++ [x]) w q y z' → Runs env r z' R X) : Runs env (.pushLd ref :: r) z R X := by
  intro rest
  simp only [List.cons_append, doActs, doAct, hr]
  exact next ({ z.1 with acts := r ++ rest, ldArgs := z.1.ldArgs ++ [x] }, z.2)
    ⟨p.nodup, p.base, p.tmps, p.take, p.ntemp, p.ncc1, by rw [← List.append_assoc, ← p.ld], p.frame, p.made⟩ rest

theorem run {prog : Prog} {inp : Ref P} {out : Option (Ref P)} {o : Option P}
    (hi : resolve z.1.tmpfiles inp = some q) (ho : resolveOut z.1.tmpfiles out = some o)
    (failed : ∀ e, Failed env prog q o z e → X e)
    (next : ∀ z', Piped ts n src new (c + if prog = .cc1 then 1 else 0) ld (w ++ o.toList) (o.getD q) y z' →
      (∀ x, o = some x → z'.2.get x = some ⟨(childOut env.mode prog z.2 [q]).cls, y.2.origins src⟩) → Runs env r z' R X) :
    Runs env (.run prog inp out :: r) z R X := by
  intro rest
  have hc : DState.count { z.1 with acts := r ++ rest } prog = z.1.count prog := by cases prog <;> rfl
  obtain ⟨hlog, htmp, -, -⟩ :=
    waited_fields { z.1 with acts := r ++ rest } prog [q] o (env.sched prog (z.1.count prog)).status
  obtain ⟨hnt, hld, hcc⟩ :=
    waited_counts { z.1 with acts := r ++ rest } prog [q] o (env.sched prog (z.1.count prog)).status
  rw [List.cons_append, doActs, doAct_run env (s := { z.1 with acts := r ++ rest }) z.2 prog hi ho, child, hc]
  dsimp only
  by_cases hw : (env.sched prog (z.1.count prog)).status.wait = 0
  · rw [if_pos hw]
    have hmade : (childOut env.mode prog z.2 [q]).origins = y.2.origins src := by
      rw [childOut_origins, ← p.made]; simp
    refine next _ ⟨p.nodup, p.base, htmp.trans p.tmps, p.take, hnt.trans p.ntemp, by rw [hcc, p.ncc1, Nat.add_assoc],
      hld.trans p.ld, ?_, ?_⟩ ?_ rest
    · intro x hx hxw
      cases o with
      | none => exact p.frame x hx (by simpa using hxw)
      | some a =>
        simp only [Option.toList, List.mem_append, List.mem_singleton, not_or] at hxw
        rw [childEffect_ok hw, FS.get_set_ne _ _ hxw.2]
        exact p.frame x hx hxw.1
    · cases o with
      | none => exact p.made
      | some a => simp only [childEffect_ok hw, Option.getD, FS.origins, FS.get_set_self]; exact hmade
    · intro x hx
      subst hx
      rw [childEffect_ok hw, FS.get_set_self, ← hmade]
  · rw [if_neg hw]
    exact .inr ⟨_, rfl, failed _ ⟨hw, htmp, rfl, hlog⟩⟩

theorem resolve {t : P} (hn : n ≤ ts.length) (i : Nat) (h : new[i]? = some t) :
    resolve z.1.tmpfiles (.tmp (n + i)) = some t := by
  rw [p.tmps, resolve_tmp_append (by simp [hn]), h]

theorem resolveOut {t : P} (hn : n ≤ ts.length) (i : Nat) (h : new[i]? = some t) :
    resolveOut z.1.tmpfiles (some (.tmp (n + i))) = some (some t) := by
  simp only [DriverProc.resolveOut, p.resolve hn i h]; rfl

theorem sub_ts : ∀ t ∈ z.1.tmpfiles, t ∈ ts := fun t h => by
  rw [p.tmps, ← p.take] at h; exact List.mem_of_mem_take h

theorem not_new {x : P} (hx : x ∉ z.1.tmpfiles ∨ x ∈ y.1.tmpfiles) : x ∉ new := by
  intro hn
  rcases hx with hx | hx
  · exact hx (by rw [p.tmps]; simp [hn])
  · have := (List.take_sublist (n + new.length) ts).nodup p.nodup
    rw [p.take] at this
    exact (List.nodup_append.mp this).2.2 x (p.base ▸ hx) x hn rfl

end Piped

theorem effKind_E {k : Kind} (h : effKind Mode.E k ≠ .lib) : effKind Mode.E k = .C := by
  by_cases hl : k = .lib
  · simp [effKind, hl] at h
  · simp [effKind, hl]

section unit
variable {env : Env P} {cmd : Cmd P} {ts : List P} {u : Input P} {n c : Nat} {new ld w : List P} {q : P}
  {y z e : DState P × FS P}

namespace Failed
variable {prog : Prog} {i : P} {o : Option P} (f : Failed env prog i o z e)
include f

theorem last : e.1.log.getLast? = some (.wait prog (env.sched prog (z.1.count prog)).status) := by
  rw [f.log]; simp

/-- only a failing front end leaves a `wait cc1` as the last event -/
theorem unitFail (hp : prog ≠ .cc1) : UnitFail env cmd ts u y e := by
  intro st hst
  rw [f.last] at hst
  cases hst
  exact absurd rfl hp

end Failed

namespace Piped

theorem fail_cc1 {o : Option P} (p : Piped ts n u.path new 0 ld [] u.path y z)
    (hmode : env.mode = cmd.mode) (hk : effKind cmd.mode u.kind = .C)
    (ho : ∀ x, x ∉ z.1.tmpfiles → (o = some x ↔ cc1Out cmd u = some x))
    (f : Failed env .cc1 u.path o z e) : UnitFail env cmd ts u y e := by
  intro st hst
  have hcnt : z.1.count .cc1 = y.1.nCc1 := p.ncc1
  have hfr : ∀ x, x ∉ z.1.tmpfiles → z.2.get x = y.2.get x := fun x hx =>
    p.frame x (fun h => hx (by rw [p.tmps]; simp [h])) (by simp)
  rw [f.last] at hst
  cases hst
  refine ⟨hk, by rw [hcnt], by rw [f.tmps]; exact p.sub_ts,
    fun t h => by rw [f.tmps, p.tmps, ← p.base]; simp [h], ?_⟩
  intro x hx
  rw [f.tmps] at hx
  have hw := f.status
  rw [f.fs, hcnt]
  rw [hcnt] at hw
  by_cases hlv : (env.sched .cc1 y.1.nCc1).leaves = .complete
  · -- the one late failure: the output was written completely
    by_cases hcp : cc1Out cmd u = some x
    · rw [if_pos ⟨hlv, hcp⟩, (ho x hx).mpr hcp]
      simp only [childEffect, hlv, or_true, if_true, FS.get_set_self]
      simp only [childOut, List.flatMap_cons, List.flatMap_nil, List.append_nil, p.made, hmode]
      cases hm : cmd.mode <;> simp [cc1Out, hm] at hcp <;> simp [unitCls, hm]
    · rw [if_neg (fun h => hcp h.2)]
      cases o with
      | none => exact hfr x hx
      | some a =>
        simp only [childEffect, hlv, or_true, if_true]
        rw [FS.get_set_ne _ _ (fun e => hcp ((ho x hx).mp (congrArg some e.symm)))]
        exact hfr x hx
  · rw [if_neg (fun h => hlv h.1), childEffect_cc1_fail hw hlv]
    exact hfr x hx

variable (p : Piped ts n u.path new c ld w q y z)
include p

theorem out_tmp {t : P} (ht : t ∈ new) (hc : cc1Out cmd u = none) :
    ∀ x, x ∉ z.1.tmpfiles → (some t = some x ↔ cc1Out cmd u = some x) := by
  intro x hx
  rw [hc]
  simp only [Option.some.injEq, reduceCtorEq, iff_false]
  rintro rfl
  exact hx (by rw [p.tmps]; simp [ht])

theorem done {X : DState P × FS P → Prop}
    (temps : new.length = planTemps cmd u) (ranCc1 : c = if effKind cmd.mode u.kind = .C then 1 else 0)
    (wrote : ∀ x ∈ w, x ∈ new ∨ (isUnit cmd u = true ∧ x = unitOutput cmd u))
    (unit : isUnit cmd u = true → z.2.get (unitOutput cmd u) = some ⟨unitCls cmd, y.2.origins u.path⟩)
    (pushed : linking cmd → ld = [q]) (pushedWhere : ∀ x ∈ ld, x ∈ new ∨ x = u.path) :
    Runs env [] z (UnitOK env cmd ts n u y) X := fun _ => .inl ⟨z, rfl, {
  tmps := by rw [p.tmps, ← p.take, temps]
  ntemp := by rw [p.ntemp, temps]
  ncc1 := by rw [p.ncc1, ranCc1]
  frame := fun x hx hxu => p.frame x (p.not_new hx) fun h => (wrote x h).elim (p.not_new hx) fun h => hxu h.1 h.2
  unit := unit
  ld := fun h => ⟨q, by rw [p.ld, pushed h], p.made⟩
  ldWhere := fun x hx => by
    rw [p.ld] at hx
    rw [p.tmps]
    exact (List.mem_append.mp hx).imp_right fun h => (pushedWhere x h).imp_left fun h => List.mem_append_right _ h }⟩

end Piped

theorem unit_runs (hmode : env.mode = cmd.mode) (hfresh : ∀ k t, ts[k]? = some t → env.fresh k = some t)
    (hnd : ts.Nodup) (htm : y.1.tmpfiles = ts.take n) (hnt : y.1.nTemp = n) (hn : n + planTemps cmd u ≤ ts.length)
    (hupts : u.path ∉ ts) :
    Runs env (plan cmd n u) y (UnitOK env cmd ts n u y) (UnitFail env cmd ts u y) := by
  have p0 : Piped ts n u.path [] 0 [] [] u.path y y := .refl hnd htm hnt
  have hle : n ≤ ts.length := Nat.le_trans (Nat.le_add_right _ _) hn
  -- each branch reads its plan off `plan` and runs it rule by rule; `done`'s side conditions say how many temporaries the
  -- shape takes, which path outside them it writes, and what it pushes.  Once the mode is known `hk` is restated with it:
  -- `simp` rewrites `cmd.mode` inside `effKind cmd.mode u.kind` before it would try `hk`.
  cases hk : effKind cmd.mode u.kind with
  | lib | obj =>
    have hu : isUnit cmd u = false := by rw [isUnit, hk]; cases cmd.depsOnly <;> cases cmd.mode <;> rfl
    rw [plan, hk]
    exact p0.pushLd rfl fun z p => p.done (temps := by rw [planTemps, hk]; cases cmd.depsOnly <;> rfl)
      (ranCc1 := by simp [hk]) (wrote := nofun) (unit := by simp [hu]) (pushed := fun _ => rfl) (pushedWhere := by simp)
  | unknown =>
    rw [plan, hk]
    exact fun rest => .inr ⟨_, rfl, fun st hst => by simp [DState.emit, DState.exitWith] at hst⟩
  | asm =>
    have hc : (0 : Nat) = if effKind cmd.mode u.kind = .C then 1 else 0 := by simp [hk]
    cases hd : cmd.depsOnly with
    | true =>
      rw [plan, hk, hd]
      exact p0.done (temps := by simp [planTemps, hd]) (ranCc1 := hc) (wrote := nofun) (unit := by simp [isUnit, hd])
        (pushed := fun h => nomatch hd.symm.trans h.2) (pushedWhere := nofun)
    | false =>
      cases hm : cmd.mode <;> rw [hm] at hk <;> rw [plan, hm, hk, hd]
      case E => exact nomatch hk.symm.trans (effKind_E (by simp [hk]))
      case S =>
        exact p0.done (temps := by simp [planTemps, hd, hm, hk]) (ranCc1 := hc) (wrote := nofun)
          (unit := by simp [isUnit, hd, hm, hk]) (pushed := fun h => nomatch hm.symm.trans h.1) (pushedWhere := nofun)
      case c =>
        have hu : isUnit cmd u = true := by simp [isUnit, hd, hm, hk]
        exact p0.run rfl rfl (fun e f => f.unitFail nofun) fun z p hget =>
          p.done (temps := by simp [planTemps, hd, hm, hk]) (ranCc1 := hc) (wrote := by simp [hu])
            (unit := fun _ => by rw [hget _ rfl]; simp [childOut, unitCls, hm])
            (pushed := fun h => nomatch hm.symm.trans h.1) (pushedWhere := nofun)
      case link =>
        have hpt : planTemps cmd u = 1 := by simp [planTemps, hd, hm, hk]
        have hn' : n + 1 ≤ ts.length := hpt ▸ hn
        exact p0.mktemp hfresh hn' hupts fun t z1 p1 =>
          p1.run rfl (p1.resolveOut hle 0 rfl) (fun e f => f.unitFail nofun) fun z2 p2 _ =>
          p2.pushLd (p2.resolve hle 0 rfl) fun z3 p3 =>
          p3.done (temps := hpt.symm) (ranCc1 := hc) (wrote := fun _ h => .inl h) (unit := by simp [isUnit, hd, hm, hk])
            (pushed := fun _ => rfl) (pushedWhere := by simp)
  | C =>
    have hk0 := hk
    have hc : 0 + 1 = if effKind cmd.mode u.kind = .C then 1 else 0 := by simp [hk]
    cases hd : cmd.depsOnly with
    | true =>
      rw [plan, hk, hd]
      exact p0.run rfl rfl (fun e f => p0.fail_cc1 hmode hk (by simp [cc1Out, hd]) f) fun z p _ =>
        p.done (temps := by simp [planTemps, hd]) (ranCc1 := hc) (wrote := nofun) (unit := by simp [isUnit, hd])
          (pushed := fun h => nomatch hd.symm.trans h.2) (pushedWhere := nofun)
    | false =>
      cases hm : cmd.mode <;> rw [hm] at hk <;> rw [plan, hm, hk, hd]
      case E =>
        have hu : isUnit cmd u = cmd.out.isSome := by simp [isUnit, hd, hm, hk]
        have hro : resolveOut y.1.tmpfiles (cmd.out.map Ref.path) = some cmd.out := by cases cmd.out <;> rfl
        exact p0.run rfl hro (fun e f => p0.fail_cc1 hmode hk0 (by simp [cc1Out, hd, hm]) f) fun z p hget =>
          p.done (temps := by simp [planTemps, hd, hm, hk]) (ranCc1 := hc)
            (wrote := fun x hx => by
              have : cmd.out = some x := by simpa using hx
              simp [hu, unitOutput, this])
            (unit := fun h => by
              obtain ⟨o, ho⟩ := Option.isSome_iff_exists.mp (hu ▸ h)
              rw [show unitOutput cmd u = o by simp [unitOutput, ho], hget o ho]
              simp [childOut, unitCls, hm, hmode]) (pushed := fun h => nomatch hm.symm.trans h.1) (pushedWhere := nofun)
      case S =>
        have hu : isUnit cmd u = true := by simp [isUnit, hd, hm, hk]
        exact p0.run rfl rfl (fun e f => p0.fail_cc1 hmode hk0 (by simp [cc1Out, hd, hm]) f) fun z p hget =>
          p.done (temps := by simp [planTemps, hd, hm, hk]) (ranCc1 := hc) (wrote := by simp [hu])
            (unit := fun _ => by rw [hget _ rfl]; simp [childOut, unitCls, hm, hmode])
            (pushed := fun h => nomatch hm.symm.trans h.1) (pushedWhere := nofun)
      case c =>
        have hpt : planTemps cmd u = 1 := by simp [planTemps, hd, hm, hk]
        have hu : isUnit cmd u = true := by simp [isUnit, hd, hm, hk]
        have hn' : n + 1 ≤ ts.length := hpt ▸ hn
        exact p0.mktemp hfresh hn' hupts fun t z1 p1 =>
          p1.run rfl (p1.resolveOut hle 0 rfl)
            (fun e f => p1.fail_cc1 hmode hk0 (p1.out_tmp (by simp) (by simp [cc1Out, hd, hm])) f) fun z2 p2 _ =>
          p2.run (p2.resolve hle 0 rfl) rfl (fun e f => f.unitFail nofun) fun z3 p3 hget =>
          p3.done (temps := hpt.symm) (ranCc1 := hc) (wrote := by simp [hu])
            (unit := fun _ => by rw [hget _ rfl]; simp [childOut, unitCls, hm])
            (pushed := fun h => nomatch hm.symm.trans h.1) (pushedWhere := nofun)
      case link =>
        have hpt : planTemps cmd u = 2 := by simp [planTemps, hd, hm, hk]
        have hn' : n + 2 ≤ ts.length := hpt ▸ hn
        exact p0.mktemp hfresh (Nat.le_of_succ_le hn') hupts fun t z1 p1 =>
          p1.mktemp hfresh hn' hupts fun t' z2 p2 =>
          p2.run rfl (p2.resolveOut hle 0 rfl)
            (fun e f => p2.fail_cc1 hmode hk0 (p2.out_tmp (by simp) (by simp [cc1Out, hd, hm])) f) fun z3 p3 _ =>
          p3.run (p3.resolve hle 0 rfl) (p3.resolveOut hle 1 rfl) (fun e f => f.unitFail nofun)
            fun z4 p4 _ =>
          p4.pushLd (p4.resolve hle 1 rfl) fun z5 p5 =>
          p5.done (temps := hpt.symm) (ranCc1 := hc) (wrote := fun _ h => .inl h) (unit := by simp [isUnit, hd, hm, hk])
            (pushed := fun _ => rfl) (pushedWhere := by simp)

end unit

section step
variable (env : Env P) (cmd : Cmd P) (fs₀ : FS P) (ts : List P) (S : Setup env cmd fs₀ ts)
  (pre : List (Input P)) (u : Input P) (post : List (Input P)) (hin : cmd.inputs = pre ++ u :: post)
include S hin

theorem unit_local : totalTemps cmd pre + planTemps cmd u ≤ ts.length ∧ u.path ∉ ts := by
  refine ⟨?_, fun h => S.notInput _ h (List.mem_map.mpr ⟨u, by rw [hin]; simp, rfl⟩)⟩
  have := S.enough
  rw [hin, totalTemps_append] at this
  exact Nat.le_trans (Nat.add_le_add_left (Nat.le_add_right _ _) _) this

theorem unit_out_distinct (hu : isUnit cmd u = true) :
    ∀ v ∈ pre, isUnit cmd v = true → unitOutput cmd v ≠ unitOutput cmd u := by
  have hnd := S.reqNodup
  unfold requested at hnd
  rw [if_neg (by simp [isUnit_deps hu]), if_neg (isUnit_not_link hu), hin, List.filter_append, List.map_append] at hnd
  simp only [List.filter_cons, hu, if_true, List.map_cons] at hnd
  intro v hv hvu e
  have h1 : unitOutput cmd v ∈ (pre.filter (isUnit cmd)).map (unitOutput cmd) :=
    List.mem_map.mpr ⟨v, List.mem_filter.mpr ⟨hv, hvu⟩, rfl⟩
  exact (List.nodup_append.mp hnd).2.2 _ h1 _ (by simp) e

/-- nothing the loop has done so far has touched the input that comes next -/
theorem input_orig (y : DState P × FS P) (hI : LoopInv cmd fs₀ ts pre y) : y.2.origins u.path = fs₀.origins u.path := by
  have huin : u.path ∈ cmd.inputs.map (·.path) := List.mem_map.mpr ⟨u, by rw [hin]; simp, rfl⟩
  refine FS.origins_congr (hI.frame _ (fun h => ?_) fun v hv hvu e => ?_)
  · rw [hI.tmps] at h; exact S.notInput _ (List.mem_of_mem_take h) huin
  · exact S.reqNotInput _ (unitOutput_requested (by rw [hin]; simp [hv]) hvu) (e ▸ huin)

theorem loopInv_step (y z : DState P × FS P) (hI : LoopInv cmd fs₀ ts pre y)
    (hU : UnitOK env cmd ts (totalTemps cmd pre) u y z) : LoopInv cmd fs₀ ts (pre ++ [u]) z := by
  obtain ⟨-, hupts⟩ := unit_local env cmd fs₀ ts S pre u post hin
  have huin : u ∈ cmd.inputs := by rw [hin]; simp
  have htot := totalTemps_snoc cmd pre u
  have hzsub : ∀ x ∈ z.1.tmpfiles, x ∈ ts := fun x hx => by rw [hU.tmps] at hx; exact List.mem_of_mem_take hx
  have hyz : ∀ x ∈ y.1.tmpfiles, x ∈ z.1.tmpfiles := fun x hx => by
    rw [hI.tmps] at hx; rw [hU.tmps]; exact List.take_subset_take_left ts (Nat.le_add_right _ _) hx
  have hreq_ts : ∀ v ∈ cmd.inputs, isUnit cmd v = true → unitOutput cmd v ∉ ts :=
    fun v hv hvu ht => S.notReq _ ht (unitOutput_requested hv hvu)
  have hpre_in : ∀ v ∈ pre, v ∈ cmd.inputs := fun v hv => by rw [hin]; simp [hv]
  have hupath := input_orig env cmd fs₀ ts S pre u post hin y hI
  refine ⟨by rw [htot]; exact hU.tmps, by rw [htot]; exact hU.ntemp, ?_, ?_, ?_, ?_, ?_⟩
  · rw [hU.ncc1, hI.ncc1, cCount_append]
    simp only [cCount, List.filter_cons, List.filter_nil]
    by_cases hk : effKind cmd.mode u.kind = .C <;> simp [hk]
  · intro v hv hvu
    rcases List.mem_append.mp hv with hv | hv
    · rw [hU.frame _ (Or.inl (fun h => hreq_ts v (hpre_in v hv) hvu (hzsub _ h)))
        (fun hu => unit_out_distinct env cmd fs₀ ts S pre u post hin hu v hv hvu)]
      exact hI.units v hv hvu
    · simp only [List.mem_singleton] at hv
      subst hv
      rw [hU.unit hvu, hupath]
  · intro p hp hne
    rw [hU.frame p (Or.inl hp) (fun hu e => hne u (by simp) hu e.symm)]
    exact hI.frame p (fun h => hp (hyz p h)) (fun v hv hvu => hne v (by simp [hv]) hvu)
  · intro hm
    obtain ⟨q, hq1, hq2⟩ := hU.ld hm
    rw [hq1, List.map_append, List.map_append, ← hI.ldOrig hm]
    congr 1
    · apply List.map_congr_left
      intro x hx
      apply FS.origins_congr
      exact hU.frame x ((hI.ldWhere x hx).symm.imp (fun h hz => S.notInput x (hzsub x hz) h) id)
        fun hu => absurd hm.1 (isUnit_not_link hu)
    · simp [hq2, hupath]
  · intro q hq
    rcases hU.ldWhere q hq with h | h | h
    · exact (hI.ldWhere q h).imp_left (hyz q)
    · exact .inl h
    · exact .inr (h ▸ List.mem_map.mpr ⟨u, huin, rfl⟩)

end step

/-- what is known about a run that ended in `exit(1)` right after a failing front end -/
def FailInfo (env : Env P) (cmd : Cmd P) (fs₀ : FS P) (ts : List P) (e : DState P × FS P) : Prop :=
  ∀ st, e.1.log.getLast? = some (.wait .cc1 st) →
    ∃ (pre : List (Input P)) (u : Input P) (post : List (Input P)) (y : DState P × FS P),
      cmd.inputs = pre ++ u :: post ∧ LoopInv cmd fs₀ ts pre y ∧ UnitFail env cmd ts u y e

/-- what is known about a run that reached `return 0` -/
def Final (cmd : Cmd P) (fs₀ : FS P) (ts : List P) (z : DState P × FS P) : Prop :=
  ∃ y : DState P × FS P, LoopInv cmd fs₀ ts cmd.inputs y ∧ z.1.tmpfiles = y.1.tmpfiles ∧
    z.2 = (if cmd.mode = .link ∧ cmd.depsOnly = false ∧ y.1.ldArgs ≠ [] then
             y.2.set (cmd.out.getD cmd.aout) ⟨.exe, y.1.ldArgs.flatMap (fun p => y.2.origins p)⟩
           else y.2)

theorem loop_lemma (env : Env P) (cmd : Cmd P) (fs₀ : FS P) (ts : List P) (S : Setup env cmd fs₀ ts) :
    ∀ (post pre : List (Input P)) (y : DState P × FS P), cmd.inputs = pre ++ post →
      LoopInv cmd fs₀ ts pre y →
      match doActs env (compileLoop cmd (totalTemps cmd pre) post) y with
      | .ok z => Final cmd fs₀ ts z
      | .error e => FailInfo env cmd fs₀ ts e := by
  intro post
  induction post with
  | nil =>
    intro pre y hin hI
    have hpre : pre = cmd.inputs := by simpa using hin.symm
    subst hpre
    simp only [compileLoop]
    by_cases hm : cmd.mode = .link ∧ cmd.depsOnly = false
    · simp only [hm, and_self, if_true, doActs, doAct]
      by_cases hl : y.1.ldArgs.isEmpty = true
      · simp only [hl, if_true]
        refine ⟨y, hI, rfl, ?_⟩
        have : y.1.ldArgs = [] := by simpa using hl
        simp [this]
      · simp only [hl]
        by_cases hw : (env.sched Prog.ld y.1.nLd).status.wait = 0
        · simp only [hw, if_true]
          refine ⟨y, hI, rfl, ?_⟩
          have : y.1.ldArgs ≠ [] := by simpa using hl
          simp [hm.1, hm.2, this, childEffect, hw, childOut]
        · simp only [hw, if_false]
          intro st hst
          simp [DState.emit, DState.bump, DState.exitWith] at hst
    · simp only [hm, if_false, doActs]
      refine ⟨y, hI, rfl, ?_⟩
      rw [if_neg (fun h => hm ⟨h.1, h.2.1⟩)]
  | cons u post ih =>
    intro pre y hin hI
    simp only [compileLoop]
    obtain ⟨hn, hupts⟩ := unit_local env cmd fs₀ ts S pre u post hin
    rcases unit_runs S.mode S.fresh S.nodup hI.tmps hI.ntemp hn hupts
        (compileLoop cmd (totalTemps cmd pre + planTemps cmd u) post) with ⟨z, hz, hU⟩ | ⟨e, he, hF⟩
    · rw [hz]
      have := ih (pre ++ [u]) z (by rw [hin]; simp) (loopInv_step env cmd fs₀ ts S pre u post hin y z hI hU)
      rw [totalTemps_snoc] at this
      exact this
    · rw [he]
      intro st hst
      exact ⟨pre, u, post, y, hin, hI, hF⟩

theorem loopInv_init (cmd : Cmd P) (fs₀ : FS P) (ts : List P) : LoopInv cmd fs₀ ts [] (init cmd, fs₀) where
  tmps := by simp [init, totalTemps]
  ntemp := rfl
  ncc1 := rfl
  units := by simp
  frame := fun _ _ _ => rfl
  ldOrig := fun _ => rfl
  ldWhere := by simp [init]

omit [DecidableEq P] in
theorem compileLoop_mkCount (cmd : Cmd P) (n : Nat) (l : List (Input P)) :
    mkCount (compileLoop cmd n l) = totalTemps cmd l := by
  induction l generalizing n with
  | nil => simp only [compileLoop, totalTemps]; split <;> rfl
  | cons i r ih => simp [compileLoop, mkCount_append, plan_mkCount, ih, totalTemps]

omit [DecidableEq P] in
theorem compile_accepted {cmd : Cmd P} (h : Accepted cmd) : compile cmd = compileLoop cmd 0 cmd.inputs := by
  unfold compile
  have h1 : cmd.inputs.isEmpty = false := by
    cases hi : cmd.inputs with
    | nil => exact absurd hi h.1
    | cons a r => rfl
  simp [h1, h.2.1]

omit [DecidableEq P] in
theorem plan_no_fail (cmd : Cmd P) (n : Nat) (u : Input P) (why : DrvErr)
    (h : Act.fail why ∈ plan cmd n u) : effKind cmd.mode u.kind = .unknown := by
  revert h
  fun_cases plan cmd n u <;> simp_all

theorem no_cause {env : Env P} {cmd : Cmd P} {fs : FS P} {ts : List P} (S : Setup env cmd fs ts) (hacc : Accepted cmd)
    (hnf : ∀ prog k, (env.sched prog k).status.wait = 0) {b : Event P}
    (h : Cause env (compile cmd) (mkCount (compile cmd)) b) : False := by
  have hcomp := compile_accepted hacc
  cases b with
  | wait prog st => obtain ⟨hw, k, hk⟩ := h; exact hw (hk ▸ hnf prog k)
  | error why =>
    rcases mem_compileLoop (n := 0) (hcomp ▸ h) with ⟨u, hu, k, hk⟩ | ⟨-, hl⟩
    · exact hacc.2.2 u hu (plan_no_fail cmd k u why hk)
    · cases hl
  | mkstempFailed =>
    obtain ⟨k, hk, hf⟩ := h
    rw [hcomp, compileLoop_mkCount] at hk
    have hk' : k < ts.length := Nat.lt_of_lt_of_le hk S.enough
    rw [S.fresh k ts[k] (List.getElem?_eq_getElem hk')] at hf
    cases hf
  | _ => exact h

end ChibiVerif.DriverProc
