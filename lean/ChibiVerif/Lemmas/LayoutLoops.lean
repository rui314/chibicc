/-
The loops of struct_decl / union_decl (Model/Layout.lean) in normal form, for arbitrary member lists (C08, C13).

Both loops carry two accumulators that do not depend on each other.  `ty->align` is in both the same fold of `stepAlign`
over the members (`alignAll`), whatever the positions are and whether or not a division fails; the positions of a struct
are `placeAll`, the size of a union is a fold of `max` over the members' extents.  `structLayout_nf` / `unionLayout_nf`
put the two layout functions in that form; every fact about the alignment (it only grows, it is bounded by the members')
is a fact about the one fold, and the loops divide by zero exactly at a member whose divisor `Mem.step` is 0.

Core Lean only.
-/
import ChibiVerif.Model.Layout

namespace ChibiVerif.Layout
open ChibiVerif.Gen.Declspec

theorem alignToE_ok {n a : Int} (h : a ≠ 0) : alignToE n a = .ok (alignTo n a) := by
  simp [alignToE, h]

/-- the positions `struct_decl` assigns, without the alignment it accumulates on the way -/
def placeAll (packed : Bool) : Int → List Mem → Except Fail (Int × List Placed)
  | bits, [] => .ok (bits, [])
  | bits, m :: ms => do
    let (b, p) ← placeMember packed bits m
    let (b', ps) ← placeAll packed b ms
    pure (b', p :: ps)

/-- `ty->align` after either loop -/
abbrev alignAll (packed : Bool) (a0 : Int) (ms : List Mem) : Int := ms.foldl (stepAlign packed) a0

/-- bytes the member adds to a union, as `union_decl` reads them off a `Member` -/
def Mem.extent (m : Mem) : Int :=
  match m.bitWidth, m.named with
  | some w, false => Int.tdiv (w + 7) 8
  | _, _ => m.size

theorem structLoop_eq_placeAll (packed : Bool) : ∀ (ms : List Mem) (bits al : Int),
    structLoop packed bits al ms = (placeAll packed bits ms).map fun r => (r.1, alignAll packed al ms, r.2)
  | [], _, _ => rfl
  | m :: ms, bits, al => by
    simp only [structLoop, structStep, placeAll, alignAll, List.foldl_cons, bind, Except.bind]
    cases placeMember packed bits m with
    | error e => rfl
    | ok r =>
      simp only [structLoop_eq_placeAll packed ms, alignAll]
      cases placeAll packed r.1 ms <;> rfl

theorem unionStep_snd (packed : Bool) (s a : Int) (m : Mem) : (unionStep packed s a m).2 = stepAlign packed a m := by
  unfold unionStep stepAlign Mem.unnamedBitfield
  cases m.bitWidth <;> cases m.named <;> rfl

theorem unionStep_fst (packed : Bool) (s a : Int) (m : Mem) : (unionStep packed s a m).1 = max s m.extent := by
  unfold unionStep Mem.extent
  cases m.bitWidth <;> cases m.named <;> simp only <;> omega

theorem unionLoop_eq_foldl (packed : Bool) : ∀ (ms : List Mem) (s a : Int),
    unionLoop packed s a ms = (ms.foldl (fun s m => max s m.extent) s, alignAll packed a ms)
  | [], _, _ => rfl
  | m :: ms, s, a => by
    rw [unionLoop, unionLoop_eq_foldl packed ms, unionStep_snd, unionStep_fst]; rfl

theorem structLayout_nf (packed : Bool) (a0 : Int) (ms : List Mem) :
    structLayout packed a0 ms = (do
      let r ← placeAll packed 0 ms
      let s ← alignToE r.1 (alignAll packed a0 ms * 8)
      pure { size := Int.tdiv s 8, align := alignAll packed a0 ms, placed := r.2 }) := by
  rw [structLayout, structLoop_eq_placeAll]
  cases placeAll packed 0 ms with
  | error e => rfl
  | ok r => simp only [Except.map, bind, Except.bind]; cases alignToE r.1 _ <;> rfl

theorem unionLayout_nf (packed : Bool) (a0 : Int) (ms : List Mem) :
    unionLayout packed a0 ms =
      (alignToE (ms.foldl (fun s m => max s m.extent) ((STRUCT_INIT_SIZE : Nat) : Int)) (alignAll packed a0 ms)).map fun s =>
        { size := s, align := alignAll packed a0 ms, placed := ms.map fun _ => { offset := 0, bitOffset := 0 } } := by
  rw [unionLayout, unionLoop_eq_foldl]
  cases alignToE _ _ <;> rfl

theorem stepAlign_ge (packed : Bool) (a : Int) (m : Mem) : a ≤ stepAlign packed a m := by
  unfold stepAlign
  split
  · exact Int.le_refl _
  · split
    · rename_i h; simp only [Bool.and_eq_true, Bool.not_eq_true', decide_eq_true_eq] at h; omega
    · exact Int.le_refl _

theorem stepAlign_le (packed : Bool) (a : Int) (m : Mem) (B : Int) (ha : a ≤ B) (hm : m.align ≤ B) :
    stepAlign packed a m ≤ B := by
  unfold stepAlign
  split
  · exact ha
  · split
    · exact hm
    · exact ha

theorem alignAll_ge (packed : Bool) : ∀ (ms : List Mem) (a : Int), a ≤ alignAll packed a ms
  | [], a => Int.le_refl a
  | m :: ms, a => Int.le_trans (stepAlign_ge packed a m) (alignAll_ge packed ms _)

theorem alignAll_le (packed : Bool) (B : Int) : ∀ (ms : List Mem) (a : Int), a ≤ B → (∀ m ∈ ms, m.align ≤ B) →
    alignAll packed a ms ≤ B
  | [], _, ha, _ => ha
  | m :: ms, a, ha, hm =>
    alignAll_le packed B ms _ (stepAlign_le packed a m B ha (hm m (List.mem_cons_self ..)))
      (fun x hx => hm x (List.mem_cons_of_mem _ hx))

/-- the divisor `struct_decl` uses for the member, in bits: the storage unit of a bit-field, `mem->align * 8` (8 in a packed
    struct) otherwise -/
def Mem.step (packed : Bool) (m : Mem) : Int :=
  match m.bitWidth with
  | some _ => m.size * 8
  | none => if packed then 8 else m.align * 8

theorem placeMember_error_iff (packed : Bool) (bits : Int) (m : Mem) :
    placeMember packed bits m = .error .divByZero ↔ m.step packed = 0 := by
  unfold placeMember Mem.step
  cases m.bitWidth with
  | none =>
    cases packed with
    | true => simp [alignToE]
    | false => by_cases h : m.align * 8 = 0 <;> simp [alignToE, h]
  | some w =>
    by_cases hw : w = 0 <;> by_cases h : m.size * 8 = 0 <;> simp [hw, alignToE, h]

theorem placeAll_error_iff (packed : Bool) : ∀ (ms : List Mem) (bits : Int),
    placeAll packed bits ms = .error .divByZero ↔ ∃ m ∈ ms, m.step packed = 0
  | [], _ => by simp [placeAll]
  | m :: ms, bits => by
    simp only [List.mem_cons, exists_eq_or_imp, ← placeMember_error_iff packed bits m, placeAll, bind, Except.bind]
    cases placeMember packed bits m with
    | error e => cases e; simp
    | ok r =>
      obtain ⟨b, p⟩ := r
      rw [← placeAll_error_iff packed ms b]
      simp only [pure, Except.pure]
      cases placeAll packed b ms with
      | error e => cases e; simp
      | ok v => simp

theorem structLayout_ok_of {packed : Bool} {a0 : Int} {ms : List Mem} (hm : ∀ m ∈ ms, m.step packed ≠ 0)
    (ha : alignAll packed a0 ms ≠ 0) : ∃ l, structLayout packed a0 ms = .ok l ∧ l.align = alignAll packed a0 ms := by
  rw [structLayout_nf]
  cases hp : placeAll packed 0 ms with
  | error e => cases e; obtain ⟨m, hmem, h0⟩ := (placeAll_error_iff packed ms 0).1 hp; exact absurd h0 (hm m hmem)
  | ok r => exact ⟨_, by simp only [bind, Except.bind, alignToE_ok (show alignAll packed a0 ms * 8 ≠ 0 by omega)]; rfl, rfl⟩

theorem unionLayout_ok_of {packed : Bool} {a0 : Int} {ms : List Mem} (ha : alignAll packed a0 ms ≠ 0) :
    ∃ l, unionLayout packed a0 ms = .ok l ∧ l.align = alignAll packed a0 ms := by
  rw [unionLayout_nf, alignToE_ok ha]; exact ⟨_, rfl, rfl⟩

end ChibiVerif.Layout
