/-
C01: the representation invariant, the low bits of a word, and the conversions.

* `Represents t r v`: the representation invariant of codegen.c (comment above `load`): a register holds the value `v`
  of type `t` — 64-bit types and `_Bool` in the whole register, everything else in the low 32 bits, already
  sign- or zero-extended from the type's width (so: `r ≡ v (mod 2^32)` with `v` in the type's range).
* `Low k x v`: the low `k` bits of the word `x` are the two's-complement image of `v`; `regBits t` the number of bits of the
  register that `Represents t` looks at (`represents_def`); the rules `Low.mono` (fewer bits), `Low.sext` / `Low.zext`
  (re-extension), `Low.conv` (conversion), `Low.neg`, `Low.not`, `Low.eq_zero_iff`.
* the conversions: per distinct instruction sequence of `castSeq` (Model/C01Expr.lean, over the *generated* cast table) one
  *effect lemma* (`CastKind.effect`: what it leaves in `%rax`, for every machine state), and the fact that this is the C11
  conversion under a side condition on the two types (`CastKind.suits`, `CastKind.suits_sound`) that every cell of the
  generated table meets (`castSeq_suits`; together: `cast_selected`).  The operators: Lemmas/C01OpLemmas.lean, Lemmas/C01ArithLemmas.lean.

The conversions (`CastKind.suits_sound`) are derived by the rules of `Low`.  Where a register is read as a number (`Represents.low` / `Represents.whole`; comparisons, division, shifts in
Lemmas/C01ArithLemmas.lean), the C11 definitions are used through their equations at the nine types (`convert_eq`,
`inRange_eq`, `fit_eq`), `Int.bmod` through `bmod_8` … `bmod_64`; what remains there is linear arithmetic with literal moduli
(`omega`).
-/
import ChibiVerif.Model.X86
import ChibiVerif.Model.C01Expr
import ChibiVerif.Spec.IntSpec
import ChibiVerif.Lemmas.BitVecLemmas

namespace ChibiVerif.C01
open ChibiVerif.X86 ChibiVerif.Asm ChibiVerif.Spec.IntSpec ChibiVerif.Gen.CommonType ChibiVerif.C01Codegen

/-- the C11 integer type a chibicc descriptor denotes (an enumerated type is compatible with `int`);
    `none` for non-integer descriptors and for descriptors that denote no type (e.g. a 3-byte int) -/
def ityOf (d : TyD) : Option ITy :=
  match d.kind, d.size, d.isUnsigned with
  | .TY_BOOL, 1, false => some .bool
  | .TY_CHAR, 1, false => some .i8 | .TY_CHAR, 1, true => some .u8
  | .TY_SHORT, 2, false => some .i16 | .TY_SHORT, 2, true => some .u16
  | .TY_INT, 4, false => some .i32 | .TY_INT, 4, true => some .u32
  | .TY_ENUM, 4, false => some .i32
  | .TY_LONG, 8, false => some .i64 | .TY_LONG, 8, true => some .u64
  | _, _, _ => none

/-- the ten integer descriptors: the nine C11 types and the enumerated type -/
def allDescr : List TyD := ITy.all.map descr ++ [ty_enum]

/-- **Representation invariant.**  `v` is in the range of `t`; 64-bit types and `_Bool` occupy the whole register,
    all other types the low 32 bits, as the sign- or zero-extension of `v` (i.e. congruent to `v` modulo 2^32). -/
def Represents (t : ITy) (r : BitVec 64) (v : Int) : Prop :=
  t.inRange v ∧
  match t with
  | .i64 | .u64 | .bool => (r.toNat : Int) = v % 18446744073709551616
  | _ => ((r.toNat % 4294967296 : Nat) : Int) = v % 4294967296

/-! ## conversions -/

/-- the distinct conversion sequences -/
inductive CastKind where
  | nop | movsbl | movzbl | movswl | movzwl | movsxd | movl | tobool32 | tobool64
  deriving DecidableEq, Repr

def CastKind.seq : CastKind → List Ins
  | .nop => []
  | .movsbl => [⟨"movsbl", [.r "%al", .r "%eax"]⟩]
  | .movzbl => [⟨"movzbl", [.r "%al", .r "%eax"]⟩]
  | .movswl => [⟨"movswl", [.r "%ax", .r "%eax"]⟩]
  | .movzwl => [⟨"movzwl", [.r "%ax", .r "%eax"]⟩]
  | .movsxd => [⟨"movsxd", [.r "%eax", .r "%rax"]⟩]
  | .movl => [⟨"mov", [.r "%eax", .r "%eax"]⟩]
  | .tobool32 => [⟨"cmp", [.i 0, .r "%eax"]⟩, ⟨"setne", [.r "%al"]⟩, ⟨"movzx", [.r "%al", .r "%eax"]⟩]
  | .tobool64 => [⟨"cmp", [.i 0, .r "%rax"]⟩, ⟨"setne", [.r "%al"]⟩, ⟨"movzx", [.r "%al", .r "%eax"]⟩]

def CastKind.all : List CastKind := [.nop, .movsbl, .movzbl, .movswl, .movzwl, .movsxd, .movl, .tobool32, .tobool64]

/-- which of the known sequences a list of instructions is -/
def classify (is : List Ins) : Option CastKind := CastKind.all.find? (fun k => k.seq == is)

theorem classify_sound {is : List Ins} {k : CastKind} (h : classify is = some k) : is = k.seq := by
  unfold classify at h
  have := List.find?_some h
  simp at this
  exact this.symm

/-- what each sequence leaves in `%rax` -/
def CastKind.fn (k : CastKind) (r : BitVec 64) : BitVec 64 :=
  match k with
  | .nop => r
  | .movsbl => ((r.setWidth 8).signExtend 32).setWidth 64
  | .movzbl => ((r.setWidth 8).setWidth 32).setWidth 64
  | .movswl => ((r.setWidth 16).signExtend 32).setWidth 64
  | .movzwl => ((r.setWidth 16).setWidth 32).setWidth 64
  | .movsxd => (r.setWidth 32).signExtend 64
  | .movl => (r.setWidth 32).setWidth 64
  | .tobool32 => if r.setWidth 32 = 0 then 0 else 1
  | .tobool64 => if r = 0 then 0 else 1

/-- what `setcc %al` leaves in `%rax`: the byte `b` below the untouched upper 56 bits; its low byte is `b` -/
theorem low8_write (r : BitVec 64) (b : BitVec 8) :
    (BitVec.ofNat 64 (r.toNat / 256 * 256 + b.toNat)).setWidth 8 = b :=
  BitVec.setWidth_ofNat_low (n := 64) (m := 8) (by decide) (r.toNat / 256) b

/-- **effect of every conversion sequence, for every machine state** -/
theorem CastKind.effect (k : CastKind) (s : State) :
    ∃ s', X86.run k.seq s = some s' ∧ s'.get .rax = k.fn (s.get .rax) := by
  cases k
  case nop => exact ⟨_, rfl, rfl⟩
  case movsbl => exact ⟨_, rfl, rfl⟩
  case movzbl => exact ⟨_, rfl, rfl⟩
  case movswl => exact ⟨_, rfl, rfl⟩
  case movzwl => exact ⟨_, rfl, rfl⟩
  case movsxd => exact ⟨_, rfl, rfl⟩
  case movl => exact ⟨_, rfl, rfl⟩
  case tobool32 =>
    refine ⟨_, rfl, ?_⟩
    show (((BitVec.ofNat 64 _).setWidth 8).setWidth 32).setWidth 64 = _
    rw [low8_write]
    simp [State.cond, State.flags, State.src, State.getW, CastKind.fn]
    split <;> simp
  case tobool64 =>
    refine ⟨_, rfl, ?_⟩
    show (((BitVec.ofNat 64 _).setWidth 8).setWidth 32).setWidth 64 = _
    rw [low8_write]
    simp [State.cond, State.flags, State.src, State.getW, CastKind.fn]
    split <;> simp

/-- `Int.bmod` in the form `omega` can use: a residue of `v` in the balanced range -/
theorem bmod_spec (v : Int) (m : Nat) :
    (v.bmod m - v) % m = 0 ∧ (0 < m → -((m : Int) / 2) ≤ v.bmod m ∧ v.bmod m < ((m : Int) + 1) / 2) := by
  refine ⟨?_, fun hm => ⟨Int.le_bmod hm, Int.bmod_lt hm⟩⟩
  rw [Int.sub_emod, Int.bmod_emod, ← Int.sub_emod, Int.sub_self, Int.zero_emod]

theorem bmod_8 (v : Int) : (v.bmod 256 - v) % 256 = 0 ∧ -128 ≤ v.bmod 256 ∧ v.bmod 256 ≤ 127 := by
  have := bmod_spec v 256; omega
theorem bmod_16 (v : Int) : (v.bmod 65536 - v) % 65536 = 0 ∧ -32768 ≤ v.bmod 65536 ∧ v.bmod 65536 ≤ 32767 := by
  have := bmod_spec v 65536; omega
theorem bmod_32 (v : Int) :
    (v.bmod 4294967296 - v) % 4294967296 = 0 ∧ -2147483648 ≤ v.bmod 4294967296 ∧ v.bmod 4294967296 ≤ 2147483647 := by
  have := bmod_spec v 4294967296; omega
theorem bmod_64 (v : Int) :
    (v.bmod 18446744073709551616 - v) % 18446744073709551616 = 0 ∧
      -9223372036854775808 ≤ v.bmod 18446744073709551616 ∧ v.bmod 18446744073709551616 ≤ 9223372036854775807 := by
  have := bmod_spec v 18446744073709551616; omega

theorem bmod_congr (m : Nat) {a b : Int} (h : a % m = b % m) : a.bmod m = b.bmod m := by
  rw [← Int.emod_bmod, h, Int.emod_bmod]

theorem convert_eq :
    (convert .bool = fun v => if v = 0 then 0 else 1) ∧ convert .i8 = (Int.bmod · 256) ∧ convert .u8 = (· % 256) ∧
    convert .i16 = (Int.bmod · 65536) ∧ convert .u16 = (· % 65536) ∧
    convert .i32 = (Int.bmod · 4294967296) ∧ convert .u32 = (· % 4294967296) ∧
    convert .i64 = (Int.bmod · 18446744073709551616) ∧ convert .u64 = (· % 18446744073709551616) :=
  ⟨rfl, rfl, rfl, rfl, rfl, rfl, rfl, rfl, rfl⟩

theorem inRange_eq :
    (ITy.inRange .bool = fun v => 0 ≤ v ∧ v ≤ 1) ∧ (ITy.inRange .i8 = fun v => -128 ≤ v ∧ v ≤ 127) ∧
    (ITy.inRange .u8 = fun v => 0 ≤ v ∧ v ≤ 255) ∧ (ITy.inRange .i16 = fun v => -32768 ≤ v ∧ v ≤ 32767) ∧
    (ITy.inRange .u16 = fun v => 0 ≤ v ∧ v ≤ 65535) ∧
    (ITy.inRange .i32 = fun v => -2147483648 ≤ v ∧ v ≤ 2147483647) ∧ (ITy.inRange .u32 = fun v => 0 ≤ v ∧ v ≤ 4294967295) ∧
    (ITy.inRange .i64 = fun v => -9223372036854775808 ≤ v ∧ v ≤ 9223372036854775807) ∧
    (ITy.inRange .u64 = fun v => 0 ≤ v ∧ v ≤ 18446744073709551615) :=
  ⟨rfl, rfl, rfl, rfl, rfl, rfl, rfl, rfl, rfl⟩

theorem fit_eq :
    (fit .i32 = fun z => if -2147483648 ≤ z ∧ z ≤ 2147483647 then some z else none) ∧
    (fit .u32 = fun z => some (z % 4294967296)) ∧
    (fit .i64 = fun z => if -9223372036854775808 ≤ z ∧ z ≤ 9223372036854775807 then some z else none) ∧
    (fit .u64 = fun z => some (z % 18446744073709551616)) :=
  ⟨rfl, rfl, rfl, rfl⟩

theorem bmod32_of_range {v : Int} (h : -2147483648 ≤ v ∧ v ≤ 2147483647) : v.bmod 4294967296 = v :=
  Int.bmod_eq_of_le (by omega) (by omega)
theorem bmod64_of_range {v : Int} (h : -9223372036854775808 ≤ v ∧ v ≤ 9223372036854775807) :
    v.bmod 18446744073709551616 = v :=
  Int.bmod_eq_of_le (by omega) (by omega)

theorem convert_inRange (t : ITy) (v : Int) : t.inRange (convert t v) := by
  cases t <;> simp only [convert_eq, inRange_eq]
  case bool => split <;> decide
  case i8 => have := bmod_8 v; omega
  case i16 => have := bmod_16 v; omega
  case i32 => have := bmod_32 v; omega
  case i64 => have := bmod_64 v; omega
  all_goals omega

theorem convert_of_inRange {t : ITy} {v : Int} (h : t.inRange v) : convert t v = v := by
  cases t <;> simp only [convert_eq, inRange_eq] at h ⊢
  case bool => split <;> omega
  case i8 => exact Int.bmod_eq_of_le (by omega) (by omega)
  case i16 => exact Int.bmod_eq_of_le (by omega) (by omega)
  case i32 => exact bmod32_of_range h
  case i64 => exact bmod64_of_range h
  all_goals omega

/-- outside `_Bool` the conversion to `t` looks at the low `sizeof t` bytes only -/
theorem convert_congr (t : ITy) (ht : t ≠ .bool) (a b : Int)
    (h : a % (2 ^ (8 * t.size) : Nat) = b % (2 ^ (8 * t.size) : Nat)) : convert t a = convert t b := by
  cases t <;> simp only [convert_eq, ITy.size] at h ⊢
  case bool => exact absurd rfl ht
  -- signed: the balanced residue depends on the residue only
  case i8 | i16 | i32 | i64 => exact bmod_congr _ h
  -- unsigned: the conversion is the residue
  case u8 | u16 | u32 | u64 => exact h

theorem range_bounds (t : ITy) : -9223372036854775808 ≤ t.min ∧ t.max ≤ 18446744073709551615 := by
  cases t <;> decide

/-! ### the low bits of a word

`Represents` (a register: `represents_def`), C06's `LowHolds` (the low bytes of a register or stack slot: `lowHolds_def`,
Lemmas/C06ArgLemmas.lean) and `MemHolds` (memory read at the type's width: `memHolds_def`, Lemmas/C01MemLemmas.lean) are
`t.inRange v` together with `Low k x v` for a number of bits `k`; above the `k` bits nothing is claimed. -/

/-- the low `k` bits of the word `x` are the two's-complement image of `v` -/
def Low (k : Nat) (x : BitVec 64) (v : Int) : Prop := x.setWidth k = BitVec.ofInt k v

theorem low_iff {k : Nat} {x : BitVec 64} {v : Int} :
    Low k x v ↔ ((x.toNat % 2 ^ k : Nat) : Int) = v % (2 ^ k : Nat) := by
  rw [Low, ← BitVec.toNat_inj, ← Int.ofNat_inj, BitVec.toNat_setWidth, BitVec.toNat_ofInt_int]

theorem Low.mono {m n : Nat} {x : BitVec 64} {v : Int} (h : Low n x v) (hmn : m ≤ n) : Low m x v := by
  rw [Low, ← BitVec.setWidth_setWidth_of_le x hmn, h, BitVec.setWidth_ofInt_of_le hmn]

/-- what sign extension of the low `m` bits gives, for a value in the signed range of `m` bits -/
theorem Low.sext {m n : Nat} {x y : BitVec 64} {v : Int} (h : Low m x v) (hm : 0 < m) (lo : -2 ^ (m - 1) ≤ v) (hi : v < 2 ^ (m - 1))
    (hy : y.setWidth n = (x.setWidth m).signExtend n) : Low n y v := by
  rw [Low, hy, h, BitVec.signExtend_ofInt, ← BitVec.toInt_ofInt, BitVec.toInt_ofInt_eq_self hm lo hi]

/-- what zero extension of the low `m` bits gives, for a value in the unsigned range of `m` bits -/
theorem Low.zext {m n : Nat} {x y : BitVec 64} {v : Int} (h : Low m x v) (lo : 0 ≤ v) (hi : v < 2 ^ m)
    (hy : y.setWidth n = (x.setWidth m).setWidth n) : Low n y v := by
  rw [Low, hy, h, BitVec.setWidth_ofInt, Int.emod_eq_of_lt lo (by rw [Int.natCast_pow]; exact hi)]

/-- the zero test on the low `k` bits decides `v = 0` for a value of less than `2^k` in absolute value -/
theorem Low.eq_zero_iff {k : Nat} {x : BitVec 64} {v : Int} (h : Low k x v) (lo : -(2 ^ k : Nat) < v) (hi : v < (2 ^ k : Nat)) :
    x.setWidth k = 0 ↔ v = 0 := by
  rw [show x.setWidth k = _ from h, ← BitVec.toNat_inj, ← Int.ofNat_inj, BitVec.toNat_ofInt_int]
  show v % _ = 0 ↔ _
  constructor
  · intro e
    by_cases h0 : 0 ≤ v
    · rwa [Int.emod_eq_of_lt h0 hi] at e
    · rw [← Int.add_emod_right, Int.emod_eq_of_lt (by omega) (by omega)] at e; omega
  · rintro rfl; exact Int.zero_emod _

/-! `Low k` is compatible with negation and complement: what the machine computes on words is what C11 computes on integers,
   in the low bits -/

theorem Low.neg {k : Nat} {x : BitVec 64} {v : Int} (hk : k ≤ 64) (h : Low k x v) : Low k (-x) (-v) := by
  rw [Low, BitVec.setWidth_neg_of_le hk, h, BitVec.ofInt_neg]

theorem ofInt_bitnot (k : Nat) (v : Int) :
    BitVec.ofInt k ((2 ^ k - 1 - (v % (2 ^ k : Nat)).toNat : Nat) : Int) = ~~~ BitVec.ofInt k v := by
  have := Nat.two_pow_pos k
  rw [BitVec.ofInt_natCast]; apply BitVec.eq_of_toNat_eq
  rw [BitVec.toNat_not, BitVec.toNat_ofNat, BitVec.toNat_ofInt, Nat.mod_eq_of_lt (by omega)]

/-- the complement, as C11 defines it on the bit pattern (`toBits`) -/
theorem Low.not {k : Nat} {x : BitVec 64} {v : Int} (hk : k ≤ 64) (h : Low k x v) :
    Low k (~~~x) ((2 ^ k - 1 - (v % (2 ^ k : Nat)).toNat : Nat) : Int) := by
  rw [Low, BitVec.setWidth_not hk, h, ofInt_bitnot]

/-- the bits of the register that `Represents` looks at -/
def regBits : ITy → Nat
  | .i64 | .u64 | .bool => 64
  | _ => 32

/-- the type occupies the whole register: the 64-bit types and `_Bool` -/
def wide (t : ITy) : Bool := regBits t == 64

theorem represents_def {t : ITy} {r : BitVec 64} {v : Int} : Represents t r v ↔ t.inRange v ∧ Low (regBits t) r v := by
  have h64 : r.toNat % 2 ^ 64 = r.toNat := Nat.mod_eq_of_lt r.isLt
  cases t <;> simp only [Represents, regBits, low_iff] <;> first | exact Iff.rfl | (rw [h64]; exact Iff.rfl)

theorem regBits_eq (t : ITy) : regBits t = if wide t = true then 64 else 32 := by cases t <;> rfl

theorem ofInt_convert {t : ITy} (ht : t ≠ .bool) (v : Int) :
    BitVec.ofInt (8 * t.size) (convert t v) = BitVec.ofInt (8 * t.size) v := by
  cases t <;> first | exact absurd rfl ht | exact BitVec.ofInt_bmod _ v | exact BitVec.ofInt_emod _ v

theorem convert_emod {t : ITy} (ht : t ≠ .bool) (v : Int) :
    convert t v % (2 ^ (8 * t.size) : Nat) = v % (2 ^ (8 * t.size) : Nat) := by
  rw [← BitVec.toNat_ofInt_int, ofInt_convert ht, BitVec.toNat_ofInt_int]

/-- outside `_Bool` the conversion to `t` does not change the low `sizeof t` bytes -/
theorem Low.conv {t : ITy} (ht : t ≠ .bool) {k : Nat} (hk : k ≤ 8 * t.size) {x : BitVec 64} {v : Int} (h : Low k x v) :
    Low k x (convert t v) := by
  rw [Low, ← BitVec.setWidth_ofInt_of_le hk, ofInt_convert ht, BitVec.setWidth_ofInt_of_le hk]; exact h

theorem convert_eq_wrap {t : ITy} (ht : t ≠ .bool) (v : Int) : convert t v = wrap t v := by
  cases t <;> first | exact absurd rfl ht | rfl

/-- where `fit` defines a result it is the converted one -/
theorem fit_some {t : ITy} (ht : t ≠ .bool) {z x : Int} (h : fit t z = some x) : x = convert t z := by
  unfold fit at h
  split at h
  · split at h
    · cases h; exact (convert_of_inRange ‹_›).symm
    · cases h
  · cases h; exact (convert_eq_wrap ht z).symm

theorem Represents.low {t : ITy} {r : BitVec 64} {v : Int} (h : Represents t r v) :
    ((r.toNat % 4294967296 : Nat) : Int) = v % 4294967296 :=
  low_iff.1 ((represents_def.1 h).2.mono (m := 32) (by cases t <;> decide))

theorem Represents.whole {t : ITy} {r : BitVec 64} {v : Int} (h : Represents t r v) (hw : wide t = true) :
    (r.toNat : Int) = v % 18446744073709551616 := by
  obtain ⟨_, h⟩ := h
  cases t <;> first | exact h | exact absurd hw (by decide)

/-- a register that represents a value of a 64-bit type (or `_Bool`) IS the image of the value (`rep64_eq`, `rep_u64_of_eq`,
    `rep_u64_ptr` are its variants for pointers; `rep_i64` / `rep_u64` of Lemmas/C01ArithLemmas.lean read the word as a number) -/
theorem Represents.eq_ofInt {t : ITy} {r : BitVec 64} {v : Int} (h : Represents t r v) (hw : wide t = true) :
    r = BitVec.ofInt 64 v := by
  have := h.whole hw
  apply BitVec.eq_of_toNat_eq
  rw [BitVec.toNat_ofInt]; omega

/-! what each conversion does to the register read as a number -/

theorem toNat_eq_toInt_emod {w : Nat} (x : BitVec w) : (x.toNat : Int) = x.toInt % (2 ^ w : Nat) := by
  rw [BitVec.toInt_eq_toNat_bmod, Int.bmod_emod]
  exact (Int.emod_eq_of_lt (Int.natCast_nonneg _) (Int.ofNat_lt.2 x.isLt)).symm

theorem toNat_signExtend_int {w m : Nat} (h : w ≤ m) (b : BitVec w) :
    ((b.signExtend m).toNat : Int) = Int.bmod b.toNat (2 ^ w) % (2 ^ m : Nat) := by
  rw [toNat_eq_toInt_emod, BitVec.toInt_signExtend_of_le h, BitVec.toInt_eq_toNat_bmod]

theorem CastKind.fn_toNat (k : CastKind) (r : BitVec 64) :
    ((k.fn r).toNat : Int) = match k with
      | .nop => r.toNat
      | .movsbl => Int.bmod r.toNat 256 % 4294967296
      | .movzbl => r.toNat % 256
      | .movswl => Int.bmod r.toNat 65536 % 4294967296
      | .movzwl => r.toNat % 65536
      | .movsxd => Int.bmod r.toNat 4294967296 % 18446744073709551616
      | .movl => r.toNat % 4294967296
      | .tobool32 => if r.toNat % 4294967296 = 0 then 0 else 1
      | .tobool64 => if r.toNat = 0 then 0 else 1 := by
  cases k <;> simp only [CastKind.fn]
  case movsbl =>
    rw [BitVec.toNat_setWidth_of_le (by decide), toNat_eq_toInt_emod, BitVec.toInt_signExtend_of_le (by decide),
      BitVec.toInt_setWidth]; rfl
  case movswl =>
    rw [BitVec.toNat_setWidth_of_le (by decide), toNat_eq_toInt_emod, BitVec.toInt_signExtend_of_le (by decide),
      BitVec.toInt_setWidth]; rfl
  case movsxd => rw [toNat_eq_toInt_emod, BitVec.toInt_signExtend_of_le (by decide), BitVec.toInt_setWidth]; rfl
  case tobool32 =>
    have e : r.setWidth 32 = 0 ↔ r.toNat % 4294967296 = 0 := by
      rw [← BitVec.toNat_inj, BitVec.toNat_setWidth]; rfl
    simp only [e]; split <;> rfl
  case tobool64 =>
    have e : r = 0 ↔ r.toNat = 0 := by rw [← BitVec.toNat_inj]; rfl
    simp only [e]; split <;> rfl
  all_goals (simp only [BitVec.toNat_setWidth]; omega)

/-- a sufficient condition, on the ranges of the source type `f` and the target type `t`, for the conversion `k` to turn
    a register representing `v` in `f` into one representing `convert t v` in `t` -/
def CastKind.suits (k : CastKind) (f t : ITy) : Bool :=
  match k with
  | .nop =>
      -- nothing to extend: all of the register that `t` looks at already holds `v`, and `v` fits unless `t` wraps at 32 / 64 bits
      if wide t then t != .bool && wide f else t.bits == 32 || decide (t.min ≤ f.min ∧ f.max ≤ t.max)
  | .movsbl => t == .i8 | .movzbl => t == .u8 | .movswl => t == .i16 | .movzwl => t == .u16
  | .movsxd => t.size == 8 && decide (ITy.i32.min ≤ f.min ∧ f.max ≤ ITy.i32.max)
  | .movl => t.size == 8 && decide (0 ≤ f.min ∧ f.max ≤ ITy.u32.max)
  | .tobool32 => t == .bool && decide (ITy.i32.min ≤ f.min ∧ f.max ≤ ITy.u32.max)
  | .tobool64 => t == .bool && wide f

/-- `_Bool`: 0 or 1 according to a test that decides `v = 0` -/
theorem low_bool {p : Prop} [Decidable p] {v : Int} (e : p ↔ v = 0) : Low 64 (if p then 0 else 1) (convert .bool v) := by
  show Low 64 _ (if v = 0 then 0 else 1)
  by_cases hv : v = 0
  · rw [if_pos (e.2 hv), if_pos hv]; rfl
  · rw [if_neg (mt e.1 hv), if_neg hv]; rfl

/-- by the rules of `Low`: fewer bits (`Low.mono`), the conversion (`Low.conv`), the extension the sequence performs (`Low.sext`,
    `Low.zext`) -/
theorem CastKind.suits_sound {k : CastKind} {f t : ITy} (hs : k.suits f t = true) {r : BitVec 64} {v : Int}
    (h : Represents f r v) : Represents t (k.fn r) (convert t v) := by
  have hc := convert_inRange t v
  refine represents_def.2 ⟨hc, ?_⟩
  obtain ⟨hr, hl⟩ := represents_def.1 h
  have h32 : Low 32 r v := hl.mono (by cases f <;> decide)
  have hr : f.min ≤ v ∧ v ≤ f.max := hr
  have c32 : ITy.i32.min = -2147483648 ∧ ITy.i32.max = 2147483647 ∧ ITy.u32.max = 4294967295 := by decide
  unfold CastKind.suits at hs
  cases k <;> simp only [Bool.and_eq_true, beq_iff_eq, decide_eq_true_eq] at hs
  case movsbl | movswl =>
    subst hs; simp only [inRange_eq] at hc
    exact ((h32.mono (by decide)).conv (by decide) (by decide)).sext (n := 32) (by decide) (by omega) (by omega)
      (BitVec.setWidth_setWidth_self (by decide) _)
  case movzbl | movzwl =>
    subst hs; simp only [inRange_eq] at hc
    exact ((h32.mono (by decide)).conv (by decide) (by decide)).zext (n := 32) (by omega) (by omega)
      (BitVec.setWidth_setWidth_self (by decide) _)
  case movsxd =>
    have L : Low 64 (CastKind.movsxd.fn r) v := h32.sext (n := 64) (by decide) (by omega) (by omega) (BitVec.setWidth_eq _)
    cases t <;> first | exact absurd hs.1 (by decide) | exact L.conv (by decide) (by decide)
  case movl =>
    have L : Low 64 (CastKind.movl.fn r) v := h32.zext (n := 64) (by omega) (by omega) (BitVec.setWidth_eq _)
    cases t <;> first | exact absurd hs.1 (by decide) | exact L.conv (by decide) (by decide)
  case nop =>
    show Low (regBits t) r (convert t v)
    rw [regBits_eq] at hl ⊢
    by_cases hw : wide t = true
    · rw [if_pos hw] at hs ⊢
      simp only [Bool.and_eq_true, bne_iff_ne, ne_eq] at hs
      rw [if_pos hs.2] at hl
      exact hl.conv hs.1 (by cases t <;> first | exact absurd rfl hs.1 | exact absurd hw (by decide) | decide)
    · rw [if_neg hw] at hs ⊢
      have ht : t ≠ .bool := fun e => hw (e ▸ rfl)
      rcases Bool.or_eq_true_iff.1 hs with hb | hin
      · exact h32.conv ht (by cases t <;> first | decide | exact absurd hb (by decide))
      · have hin := of_decide_eq_true hin
        rw [convert_of_inRange (t := t) ⟨Int.le_trans hin.1 hr.1, Int.le_trans hr.2 hin.2⟩]; exact h32
  case tobool32 =>
    obtain ⟨rfl, hs⟩ := hs
    exact low_bool (h32.eq_zero_iff (by omega) (by omega))
  case tobool64 =>
    obtain ⟨rfl, hs⟩ := hs
    rw [regBits_eq, if_pos hs] at hl
    have hb := range_bounds f
    have e := hl.eq_zero_iff (by omega) (by omega)
    rw [BitVec.setWidth_eq] at e
    exact low_bool e

theorem castSeq_suits (f t : ITy) : ∃ k, classify (castSeq f t) = some k ∧ k.suits f t = true := by
  cases f <;> cases t <;> exact ⟨_, rfl, rfl⟩

/-- **every cell of the table among the integer types is one of the analysed sequences, and that sequence is the C11 conversion**
    (`classify` is how the proof of `castSeq_suits` finds the sequence; nothing above this line needs it) -/
theorem cast_selected (f t : ITy) :
    ∃ k : CastKind, castSeq f t = k.seq ∧ ∀ (r : BitVec 64) (v : Int), Represents f r v → Represents t (k.fn r) (convert t v) :=
  let ⟨k, hk, hs⟩ := castSeq_suits f t
  ⟨k, classify_sound hk, fun _ _ => CastKind.suits_sound hs⟩

end ChibiVerif.C01
