/-
C14, dependency overlay (Model/C14Deps.lean): the run with dependency output is the run without it plus the dependency
files.  The dependency paths lie outside the driver's footprint, so the driver cannot tell the difference (`Sim` of the
concurrency proof), and each step writes exactly the dependency file its log records (`depWrite`, `step_depWrites`).
-/
import ChibiVerif.Model.C14Deps
import ChibiVerif.Lemmas.DriverProcConcurrent

namespace ChibiVerif.DriverProc

variable {P : Type} [DecidableEq P]

/-- the dependency write of the step from `s`: `(d, i)` = the list of input `i` goes to `d` -/
def depWrite (denv : DepEnv P) (env : Env P) (s : DState P) : Option (P × P) :=
  match s.phase with
  | .waiting .cc1 [i] _ =>
    if (env.sched .cc1 s.nCc1).status.wait = 0 then (denv.depOf i).map fun d => (d, i) else none
  | _ => none

theorem depEffect_eq (denv : DepEnv P) (env : Env P) (s : DState P) (fs0 fs : FS P) :
    depEffect denv env s fs0 fs =
      match depWrite denv env s with
      | some (d, i) => fs.set d ⟨.deps, fs0.origins i⟩
      | none => fs := by
  unfold depEffect
  split
  · rename_i i o hph
    rw [show depWrite denv env s = if (env.sched .cc1 s.nCc1).status.wait = 0 then
      (denv.depOf i).map fun d => (d, i) else none by simp only [depWrite, hph]]
    split
    · cases denv.depOf i <;> rfl
    · rfl
  · rename_i hno
    rw [show depWrite denv env s = none by
      unfold depWrite
      split
      · rename_i i o hph; exact absurd hph (hno i o)
      · rfl]

omit [DecidableEq P] in
theorem depWrite_some {denv : DepEnv P} {env : Env P} {s : DState P} {d i : P} (h : depWrite denv env s = some (d, i)) :
    (∃ o, s.phase = .waiting .cc1 [i] o) ∧ denv.depOf i = some d := by
  unfold depWrite at h
  split at h
  · rename_i j o hph
    split at h
    · obtain ⟨d', hd', he⟩ := Option.map_eq_some_iff.mp h
      cases he
      exact ⟨⟨o, hph⟩, hd'⟩
    · cases h
  · cases h

theorem depEffect_get_ne (denv : DepEnv P) (env : Env P) (s : DState P) (fs0 fs : FS P) (p : P)
    (hp : ¬ IsDep denv p) : (depEffect denv env s fs0 fs).get p = fs.get p := by
  rw [depEffect_eq]
  cases hw : depWrite denv env s with
  | none => rfl
  | some di => exact FS.get_set_ne _ _ fun e => hp ⟨di.2, e ▸ (depWrite_some (d := di.1) (i := di.2) hw).2⟩

omit [DecidableEq P] in
theorem cc1Runs_append (l : List (Event P)) (e : Event P) :
    cc1Runs (l ++ [e]) = (scanEv (l.foldl scanEv ([], none)) e).1 := by
  simp [cc1Runs, List.foldl_append]

/-- the input of the front end that the last event of a log spawned, if the last event is such a spawn -/
def pendingOf (log : List (Event P)) : Option P := (log.foldl scanEv ([], none)).2

omit [DecidableEq P] in
theorem pendingOf_append (l : List (Event P)) (e : Event P) :
    pendingOf (l ++ [e]) = (scanEv (l.foldl scanEv ([], none)) e).2 := by
  simp [pendingOf, List.foldl_append]

theorem lastWriter_append (w : List (P × P)) (d' i d : P) :
    lastWriter (w ++ [(d', i)]) d = if d' = d then some i else lastWriter w d := by
  unfold lastWriter
  simp only [List.reverse_append, List.reverse_cons, List.reverse_nil, List.nil_append, List.singleton_append,
    List.find?_cons]
  by_cases h : d' = d <;> simp [h]

omit [DecidableEq P] in
theorem depWrites_append_other (denv : DepEnv P) (l : List (Event P)) (e : Event P)
    (h : ∀ st, e ≠ .wait .cc1 st) : depWrites denv (l ++ [e]) = depWrites denv l := by
  unfold depWrites
  rw [cc1Runs_append]
  have : (scanEv (l.foldl scanEv ([], none)) e).1 = (l.foldl scanEv ([], none)).1 := by
    cases e with
    | wait prog st =>
      cases prog with
      | cc1 => exact absurd rfl (h st)
      | as => rfl
      | ld => rfl
    | spawn prog inp out =>
      cases prog with
      | cc1 =>
        cases inp with
        | nil => rfl
        | cons a r => cases r <;> rfl
      | as => rfl
      | ld => rfl
    | _ => rfl
  rw [this]; rfl

omit [DecidableEq P] in
theorem depWrites_append_wait (denv : DepEnv P) (l : List (Event P)) (st : Status) (i : P)
    (hp : pendingOf l = some i) :
    depWrites denv (l ++ [.wait .cc1 st]) =
      depWrites denv l ++ (if st.wait = 0 then (denv.depOf i).map fun d => (d, i) else none).toList := by
  unfold depWrites
  rw [cc1Runs_append]
  unfold pendingOf at hp
  simp only [scanEv, hp, List.filterMap_append, cc1Runs]
  rfl

/-- `x` is the configuration of the run with dependency output and `y` that of the run without, after the same number of
    steps: same driver state, same files on the footprint `F`, nothing else written but dependency paths, and these hold what
    the dependency writes read off the log say -/
structure DRel (denv : DepEnv P) (env : Env P) (W F : P → Prop) (fs₀ : FS P)
    (x y : DState P × FS P) : Prop where
  st : x.1 = y.1
  agree : ∀ p, F p → x.2.get p = y.2.get p
  frame : ∀ p, ¬ W p → ¬ IsDep denv p → x.2.get p = fs₀.get p
  inside : Inside env W F y.1
  pend : ∀ inp o, y.1.phase = .waiting .cc1 inp o → ∃ i, inp = [i] ∧ pendingOf y.1.log = some i
  deps : DepContent denv W fs₀ x.2 (depWrites denv y.1.log)

theorem stepRun_log (env : Env P) (s : DState P) (fs : FS P) :
    (stepRun env s fs).1.log = s.log ∨
      ∃ e, (stepRun env s fs).1.log = s.log ++ [e] ∧ ∀ st, e ≠ .wait .cc1 st := by
  -- every arm leaves the log alone or emits one of mkstemp, mkstempFailed, spawn, error
  fun_cases stepRun env s fs <;> first | exact .inl rfl | exact .inr ⟨_, rfl, nofun⟩

theorem stepRun_waiting (env : Env P) (s : DState P) (fs : FS P) {inp : List P} {o : Option P} (hp : s.phase = .run)
    (h : (stepRun env s fs).1.phase = .waiting .cc1 inp o) :
    ∃ i, inp = [i] ∧ (stepRun env s fs).1.log = s.log ++ [.spawn .cc1 [i] o] := by
  -- an arm that leaves the phase alone contradicts `hp`; one that exits, gets stuck or waits for the linker is not `waiting cc1`
  revert h
  simp only [stepRun]
  cases s.acts with
  | nil => intro h; cases h
  | cons a r =>
    cases a with
    | mktemp =>
      dsimp only
      cases env.fresh s.nTemp with
      | none => intro h; cases h
      | some t => intro h; exact nomatch hp.symm.trans h
    | run prog ri ro =>
      dsimp only
      cases resolve s.tmpfiles ri with
      | none => cases resolveOut s.tmpfiles ro <;> (intro h; cases h)
      | some i =>
        cases resolveOut s.tmpfiles ro with
        | none => intro h; cases h
        | some o' => intro h; cases h; exact ⟨i, rfl, rfl⟩          -- the spawn
    | pushLd ref =>
      dsimp only
      cases resolve s.tmpfiles ref with
      | none => intro h; cases h
      | some q => intro h; exact nomatch hp.symm.trans h
    | link o' =>
      dsimp only
      split
      · intro h; exact nomatch hp.symm.trans h
      · intro h; cases h
    | fail why => intro h; cases h

/-- the driver waits for a front end on the input its log's last event names (`DRel.pend`) -/
def Pend (s : DState P) : Prop :=
  ∀ inp o, s.phase = .waiting .cc1 inp o → ∃ i, inp = [i] ∧ pendingOf s.log = some i

theorem step_pend (env : Env P) (s : DState P) (fs : FS P) : Pend (step env s fs).1 := by
  intro inp o h
  unfold step at h ⊢
  cases hph : s.phase with
  | done c | stuck => rw [hph] at h; exact nomatch hph.symm.trans h
  | exiting c todo => rw [hph] at h; cases todo <;> cases h
  | waiting prog wi wo => rw [hph] at h; simp only [stepWait] at h; split at h <;> cases h
  | run =>
    rw [hph] at h
    obtain ⟨i, rfl, hl⟩ := stepRun_waiting env s fs hph h
    exact ⟨i, rfl, by rw [hl, pendingOf_append]; rfl⟩

/-- the log keeps pace with the overlay: a step adds to the dependency writes of its log exactly its own dependency write -/
theorem step_depWrites (denv : DepEnv P) (env : Env P) (s : DState P) (fs : FS P) (hp : Pend s) :
    depWrites denv (step env s fs).1.log = depWrites denv s.log ++ (depWrite denv env s).toList := by
  have hnone : (∀ i o, s.phase ≠ .waiting .cc1 [i] o) → depWrite denv env s = none := fun hno => by
    unfold depWrite
    split
    · rename_i i o hph; exact absurd hph (hno i o)
    · rfl
  have hother : ∀ e : Event P, (∀ st, e ≠ .wait .cc1 st) → (∀ i o, s.phase ≠ .waiting .cc1 [i] o) →
      depWrites denv (s.log ++ [e]) = depWrites denv s.log ++ (depWrite denv env s).toList := fun e he hno => by
    rw [depWrites_append_other denv _ e he, hnone hno]; exact (List.append_nil _).symm
  unfold step
  cases hph : s.phase with
  | done c | stuck => rw [hnone fun i o h => nomatch hph.symm.trans h]; exact (List.append_nil _).symm
  | exiting c todo => cases todo <;> exact hother _ nofun fun i o h => nomatch hph.symm.trans h
  | waiting prog inp out =>
    have hl : (stepWait env s fs prog inp out).1.log = s.log ++ [.wait prog (env.sched prog (s.count prog)).status] := by
      simp only [stepWait]; split <;> cases prog <;> rfl
    show depWrites denv (stepWait env s fs prog inp out).1.log = _
    rw [hl]
    cases prog with
    | cc1 =>
      obtain ⟨i, rfl, hpi⟩ := hp inp out hph
      rw [depWrites_append_wait denv _ _ i hpi]
      simp only [depWrite, hph]
      rfl
    | as | ld => exact hother _ nofun fun i o h => nomatch hph.symm.trans h
  | run =>
    have hno : ∀ i o, s.phase ≠ .waiting .cc1 [i] o := fun i o h => nomatch hph.symm.trans h
    show depWrites denv (stepRun env s fs).1.log = _
    rcases stepRun_log env s fs with hl | ⟨e, hl, he⟩
    · rw [hl, hnone hno]; exact (List.append_nil _).symm
    · rw [hl]; exact hother e he hno

namespace DepContent
variable {denv : DepEnv P} {W : P → Prop} {fs₀ fs fs' : FS P} {w : List (P × P)} (h : DepContent denv W fs₀ fs w)
include h

theorem keep (hfs : ∀ d, IsDep denv d → fs'.get d = fs.get d) : DepContent denv W fs₀ fs' w := fun d hd => by
  have := h d hd
  rw [hfs d hd]
  exact this

theorem write {d' i : P} {org : List Nat} (hfs : ∀ d, IsDep denv d → d ≠ d' → fs'.get d = fs.get d)
    (hd' : fs'.get d' = some ⟨.deps, org⟩) (horg : ¬ W i → org = fs₀.origins i) :
    DepContent denv W fs₀ fs' (w ++ [(d', i)]) := fun d hd => by
  rw [lastWriter_append]
  by_cases hdd : d' = d
  · subst hdd
    simp only [if_true]
    exact ⟨org, hd', horg⟩
  · simp only [hdd, if_false]
    rw [hfs d hd fun e => hdd e.symm]
    exact h d hd

end DepContent

theorem stepD_rel (denv : DepEnv P) (env : Env P) (W F : P → Prop) (fs₀ : FS P)
    (hdep : ∀ d, IsDep denv d → ¬ F d) (x y : DState P × FS P) (h : DRel denv env W F fs₀ x y) :
    DRel denv env W F fs₀ (stepD denv env x.1 x.2) (step env y.1 y.2) := by
  obtain ⟨hst, hag, hfr, hin, hpend, hdeps⟩ := h
  have hsim : Sim env W F x y := ⟨hst, hag, hin⟩
  have hframe := hsim.frame
  -- one step of the driver, then a write outside what it touches …
  have hD : Sim env W F (stepD denv env x.1 x.2) (step env y.1 y.2) :=
    hsim.step.other fun p hp => depEffect_get_ne denv env x.1 x.2 _ p fun hd => hdep p hd hp
  refine ⟨hD.st, hD.agree, fun p hw hd => ?_, hD.inside, step_pend env y.1 y.2, ?_⟩
  · show (depEffect denv env x.1 x.2 (step env x.1 x.2).2).get p = _
    rw [depEffect_get_ne denv env x.1 x.2 _ p hd, hframe p hw]
    exact hfr p hw hd
  · -- … namely the one the log records
    have hbase : ∀ d, IsDep denv d → (step env x.1 x.2).2.get d = x.2.get d :=
      fun d hd => hframe d fun h => hdep d hd (hin.sub d h)
    have hfsD : (stepD denv env x.1 x.2).2 = _ := depEffect_eq denv env x.1 x.2 (step env x.1 x.2).2
    rw [congrArg (depWrite denv env) hst] at hfsD
    rw [step_depWrites denv env y.1 y.2 hpend]
    cases hw : depWrite denv env y.1 with
    | none =>
      rw [hw] at hfsD
      rw [Option.toList_none, List.append_nil]
      exact hdeps.keep fun d hd => by rw [hfsD]; exact hbase d hd
    | some di =>
      obtain ⟨d', i⟩ := di
      rw [hw] at hfsD
      obtain ⟨⟨o, hph⟩, hdo⟩ := depWrite_some hw
      have hFi : F i := by
        have := hin.ph
        simp only [hph] at this
        exact this.1 i (by simp)
      refine hdeps.write (org := x.2.origins i) (fun d hd hne => ?_) (by rw [hfsD]; exact FS.get_set_self _ _ _)
        fun hw => FS.origins_congr (hfr i hw fun hd => hdep i hd hFi)
      rw [hfsD]
      exact (FS.get_set_ne _ _ hne).trans (hbase d hd)

theorem iterD_rel (denv : DepEnv P) (env : Env P) (W F : P → Prop) (fs₀ : FS P)
    (hdep : ∀ d, IsDep denv d → ¬ F d) :
    ∀ (n : Nat) (x y : DState P × FS P), DRel denv env W F fs₀ x y →
      DRel denv env W F fs₀ (iterD denv env n x) (iter env n y) := by
  intro n
  induction n with
  | zero => intro x y h; exact h
  | succ n ih =>
    intro x y h
    simp only [iterD, iter]
    exact ih _ _ (stepD_rel denv env W F fs₀ hdep x y h)

theorem DRel_init (denv : DepEnv P) (env : Env P) (cmd : Cmd P) (fs : FS P) :
    DRel denv env (Writes env cmd) (Touches env cmd) fs (init cmd, fs) (init cmd, fs) where
  st := rfl
  agree := fun _ _ => rfl
  frame := fun _ _ _ => rfl
  inside := init_inside env cmd
  pend := by intro inp o h; simp [init] at h
  deps := by
    intro d _
    simp [depWrites, cc1Runs, init, lastWriter]

end ChibiVerif.DriverProc
