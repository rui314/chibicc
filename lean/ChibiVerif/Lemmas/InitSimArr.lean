/-
C05, parser = specification: the simulation step for the array functions (`array_initializer2`, `array_initializer1`'s
entry), with what the later steps share: an item of a list where no designator can start (`Imp.of_positional`), the root of a
brace-enclosed list as a node (`At.root`), designators of the wrong kind for the type, the end of a list and an excess element
(`Imp.list_end`, `Imp.of_excess`), and the loop over the designated elements (`desgStep`).
-/
import ChibiVerif.Lemmas.InitSimLemmas

namespace ChibiVerif.InitSpec
open ChibiVerif.Init
open Except (Ends)

variable {top : Bool} {elem : Ty} {len : Nat} {f : Nat}

theorem cursorIn_arr {root : Ty} {p : List Nat} (hg : growable root top p = false)
    (ht : subTy root p = some (.array elem len)) (i : Nat) :
    cursorIn root top p i = if i < len then some (p ++ [i]) else next root top p.reverse := by
  simp [cursorIn, ht, hg]

theorem childTy_arr (elem : Ty) (len k : Nat) : childTy (.array elem len) k = some elem := rfl

theorem Imp.of_positional {g : Nat} {ty : Ty} {obj : Init} {cur : Option (List Nat)} {toks toks1 : List ITok} {first : Bool}
    {fl : Flags} {y : Except Fail Result} (hce : consumeEnd toks = none)
    (hfirst : (if first = true then pure toks else skipTok .comma "," toks) = .ok toks1)
    (hd : isDesg toks1 = true → ∃ e, desigPaths ty top (toks1.length + 1) [[]] toks1 = .error e)
    (hy : isDesg toks1 = false → Imp (initItem g ty top obj (match cur with | some p => [p] | none => []) toks1 fl) y) :
    Imp (initList (g+1) ty top obj cur toks first fl) y := by
  refine Imp.of_item hce ?_
  rw [hfirst, ok_bind]
  cases hdg : isDesg toks1 with
  | true =>
    obtain ⟨e, he⟩ := hd hdg
    simp only [pathsOf, hdg, ↓reduceIte, he]
    exact Imp.of_error rfl
  | false =>
    simp only [pathsOf, hdg, Bool.false_eq_true, ↓reduceIte, pure_bind']
    exact hy hdg

/-- a designator list read from the one path `p`: some paths, all behind `p` -/
theorem desigPaths_single {p : List Nat} {ps : List (List Nat)} {toks t : List ITok}
    (h : desigPaths root top f [p] toks = .ok (ps, t)) : ps ≠ [] ∧ ∀ q ∈ ps, ∃ s, q = p ++ s := by
  obtain ⟨hl, hpre⟩ := desigPaths_inv _ _ _ _ _ _ _ h
  refine ⟨fun h0 => by simp [h0] at hl, fun q hq => ?_⟩
  obtain ⟨_, hp, s, rfl⟩ := hpre q hq
  cases List.mem_singleton.1 hp
  exact ⟨s, rfl⟩

/-- what `mapM` returns, element by element -/
theorem mapM_ok_mem {α β : Type} {f : α → Except Fail β} : ∀ {l : List α} {bs : List β}, l.mapM f = .ok bs →
    ∀ b ∈ bs, ∃ a ∈ l, f a = .ok b
  | [], _, h, b, hb => by simp [List.mapM_nil, pure, Except.pure] at h; subst h; simp at hb
  | a :: l, _, h, b, hb => by
    obtain ⟨b0, bs', h0, h1, rfl⟩ := mapM_cons_ok h
    rcases List.mem_cons.1 hb with rfl | hb
    · exact ⟨a, by simp, h0⟩
    · obtain ⟨a', ha', hf⟩ := mapM_ok_mem h1 b hb
      exact ⟨a', by simp [ha'], hf⟩

/-- the end of a list -/
theorem Imp.list_end {g : Nat} {ty : Ty} {obj : Init} {cur : Option (List Nat)} {toks rest : List ITok} {first : Bool} {fl : Flags}
    (hce : consumeEnd toks = some rest) : Imp (initList g ty top obj cur toks first fl) (.ok ⟨obj, rest, fl⟩) := by
  cases g with
  | zero => exact Imp.of_error rfl
  | succ g => rw [initList_end hce]; exact Imp.refl _

/-- an excess element: the specification skips what the parser's `skip_excess_element` skipped -/
theorem Imp.of_excess {g : Nat} {ty : Ty} {obj : Init} {toks1 toks2 : List ITok} {fl : Flags} {n : Nat}
    (hskip : skipExcess n toks1 = .ok toks2) :
    Imp (initItem g ty top obj [] toks1 fl) (initList g ty top obj none toks2 false fl) := by
  intro res hres _
  rw [initItem_excess] at hres
  obtain ⟨r', hr', hres⟩ := bind_eq_ok hres
  cases skipExcess_fuel hskip hr'
  exact hres

theorem sim_arr2loop (ih : Sim f) : Arr2LoopSt (f+1) := by
  intro root top obj p elem len c toks i c' toks' hA hi h
  obtain ⟨cs, rfl, hlen, hall⟩ := arr_of_shaped hA.shapedc
  refine Yields.use h ?_
  rw [arrayInit2Loop]
  refine Ends.ite (fun hcond => ?_) (fun hcond => Ends.pure ?_)
  · simp only [Init.children, Bool.and_eq_true, Bool.not_eq_true'] at hcond
    simp only [hi, ↓reduceIte]
    refine Yields.via skipTok_ok fun toks1 htoks => ?_
    subst htoks
    refine Ends.ite (fun hd => Ends.pure ?_) (fun hd => ?_)
    · rintro ⟨⟩
      refine ⟨hA.shapedc, fun hM g fl => ⟨g, ?_⟩⟩
      simp only [After, hM]
      exact Imp.of_eq (initList_stopped (Or.inr ⟨toks1, rfl, hd⟩))
    · refine Yields.via getChild_ok fun ci hk => ?_
      have hAi := hA.child (childTy_arr elem len i) hk
      refine Yields.via (ih.init2 hAi) fun r1 ⟨hsi, himp1⟩ => ?_
      obtain ⟨e1, hA1, hM1⟩ := hA.set_child (childTy_arr elem len i) hk hsi
      rw [setAtM_one_arr] at hA1 hM1 e1
      refine Yields.last fun hloop => ?_
      obtain ⟨hs', himp2⟩ := ih.arr2loop hA1 (Nat.succ_pos i) hloop
      refine ⟨hs', fun hM g fl => ?_⟩
      cases g with
      | zero => exact ⟨0, Imp.of_error rfl⟩
      | succ g =>
        obtain ⟨g1, h1⟩ := himp1 g fl
        obtain ⟨g2, h2⟩ := himp2 hM1 g1 fl
        refine ⟨g2, ?_⟩
        rw [cursorIn_arr hA.ng hA.sub, if_pos (hlen ▸ of_decide_eq_true hcond.1)]
        exact Imp.of_positional (consumeEnd_none_of_isEnd hcond.2) rfl (fun h => absurd h hd) fun _ => hA.seq e1 h1 h2
  · rintro ⟨⟩
    refine ⟨hA.shapedc, fun hM g fl => ⟨g, ?_⟩⟩
    simp only [After, hM]
    simp only [Init.children, Bool.and_eq_true, Bool.not_eq_true', not_and, Bool.not_eq_false] at hcond
    by_cases hil : i < cs.length
    · exact Imp.of_eq (initList_stopped (Or.inl (hcond (decide_eq_true hil))))
    · rw [cursorIn_arr hA.ng hA.sub, if_neg (hlen ▸ hil)]
      exact Imp.refl _

theorem Imp.of_lhs_error {x y : Except Fail Result} (h : ∃ e, x = .error e) : Imp x y := by
  obtain ⟨e, he⟩ := h; exact Imp.of_error he

theorem isEnd_not_startable {tok : ITok} {r : List ITok} (h : isEnd (tok :: r) = true) : startable tok = false := by
  cases tok <;> simp [isEnd] at h <;> rfl

theorem isDesg_not_startable {tok : ITok} {r : List ITok} (h : isDesg (tok :: r) = true) : startable tok = false := by
  cases tok <;> simp [isDesg] at h <;> rfl

theorem firstSub_arr {root : Ty} {p : List Nat} (hg : growable root top p = false) :
    firstSub root top p (.array elem len) = if len > 0 then some 0 else none := by
  simp [firstSub, hg]

theorem sim_arr2loop0 (ih : Sim f) : Arr2Loop0St (f+1) := by
  intro root top obj p elem len c toks c' toks' hA hel h
  obtain ⟨cs, rfl, hlen, hall⟩ := arr_of_shaped hA.shapedc
  refine Yields.use h ?_
  rw [arrayInit2Loop]
  refine Ends.ite (fun hcond => ?_) (fun hcond => Ends.pure ?_)
  · simp only [Init.children, Bool.and_eq_true, Bool.not_eq_true'] at hcond
    simp only [gt_iff_lt, Nat.lt_irrefl, ↓reduceIte, pure_bind']
    refine Ends.ite (fun hd => Ends.pure ?_) (fun hd => ?_)
    · rintro ⟨⟩
      refine ⟨hA.shapedc, fun g fl => ⟨g, ?_⟩⟩
      cases toks with
      | nil => simp [isDesg] at hd
      | cons tok r => exact Imp.of_lhs_error (initItem_not_startable _ _ _ _ _ _ _ _ (isDesg_not_startable hd))
    · refine Yields.via getChild_ok fun c0 hk => ?_
      have hA0 := hA.child (childTy_arr elem len 0) hk
      refine Yields.via (ih.init2 hA0) fun r1 ⟨hs0, himp1⟩ => ?_
      obtain ⟨e1, hA1, hM1⟩ := hA.set_child (childTy_arr elem len 0) hk hs0
      rw [setAtM_one_arr] at hA1 hM1 e1
      refine Yields.last fun hloop => ?_
      obtain ⟨hs', himp2⟩ := ih.arr2loop hA1 (Nat.succ_pos 0) hloop
      refine ⟨hs', fun g fl => ?_⟩
      cases toks with
      | nil => exact ⟨0, Imp.of_error (initItem_nil _ _ _ _ _ _)⟩
      | cons tok r =>
        obtain ⟨hb, hst⟩ := hel tok r rfl
        obtain ⟨g1, h1⟩ := himp1 g fl
        obtain ⟨g2, h2⟩ := himp2 hM1 g1 fl
        refine ⟨g2, ?_⟩
        have hfs : firstSub root top p (.array elem len) = some 0 := by
          rw [firstSub_arr hA.ng, if_pos (hlen ▸ of_decide_eq_true hcond.1)]
        exact hA.seq e1 ((initItem_descend_step hb hA.sub hst hfs).trans h1) h2
  · rintro ⟨⟩
    refine ⟨hA.shapedc, fun g fl => ⟨g, ?_⟩⟩
    simp only [Init.children, Bool.and_eq_true, Bool.not_eq_true', not_and, Bool.not_eq_false] at hcond
    cases toks with
    | nil => exact Imp.of_error (initItem_nil _ _ _ _ _ _)
    | cons tok r =>
      obtain ⟨hb, hst⟩ := hel tok r rfl
      by_cases hl0 : 0 < cs.length
      · exact Imp.of_lhs_error (initItem_not_startable _ _ _ _ _ _ _ _ (isEnd_not_startable (hcond (decide_eq_true hl0))))
      · have hfs : firstSub root top p (.array elem len) = none := by
          rw [firstSub_arr hA.ng, if_neg (hlen ▸ hl0)]
        exact Imp.of_lhs_error (initItem_descend_none hb hA.sub hst hfs)

theorem sim_arr2 (ih : Sim f) : Arr2St (f+1) := by
  intro root top obj p elem len c toks i c' toks' hA hi h
  obtain ⟨cs, rfl, hlen, hall⟩ := arr_of_shaped hA.shapedc
  rw [arrayInit2] at h
  · simp only [pure_bind'] at h
    exact ih.arr2loop hA hi h
  · intro he; cases he

theorem sim_arr20 (ih : Sim f) : Arr20St (f+1) := by
  intro root top obj p elem len c toks c' toks' hA hel h
  obtain ⟨cs, rfl, hlen, hall⟩ := arr_of_shaped hA.shapedc
  rw [arrayInit2] at h
  · simp only [pure_bind'] at h
    exact ih.arr2loop0 hA hel h
  · intro he; cases he

theorem foldlM_inv {α β : Type} {P : β → Prop} {step : β → α → Except Fail β}
    (hstep : ∀ b a b', step b a = .ok b' → P b → P b') : ∀ (l : List α) (b b' : β), l.foldlM step b = .ok b' → P b → P b'
  | [], b, b', h, hp => by simp [List.foldlM_nil, pure, Except.pure] at h; subst h; exact hp
  | a :: l, b, b', h, hp => by
    rw [List.foldlM_cons] at h
    obtain ⟨b1, h1, h⟩ := bind_eq_ok h
    exact foldlM_inv hstep l b1 b' h (hstep b a b1 h1 hp)

theorem foldlM_single {α β : Type} {step : β → α → Except Fail β} {a : α} {b b' : β} (h : [a].foldlM step b = .ok b') :
    step b a = .ok b' := by
  rw [List.foldlM_cons] at h
  obtain ⟨b1, h1, h⟩ := bind_eq_ok h
  simp [List.foldlM_nil, pure, Except.pure] at h
  rw [h1, h]

theorem range'_one (b e : Nat) (h : e = b) : List.range' b (e + 1 - b) = [b] := by
  subst h; simp

theorem At.root {ty : Ty} {c : Init} (ho : subOk ty = true) (hs : shaped ty c = true) : At ty top c [] ty c where
  rootOk := subOk_tyOk ty ho
  topOk := fun h => by rw [isFlexRoot_subOk ho] at h; cases h
  pok := pathOk_of_not_flex (isFlexRoot_subOk ho) _
  shp := by rw [shapedR_of_not_flex (isFlexRoot_subOk ho)]; exact hs
  sub := rfl
  get := rfl
  ok := ho

theorem cursorIn_arr_root (elem : Ty) (len : Nat) (top : Bool) (i : Nat) :
    cursorIn (.array elem len) top [] i = if i < len then some [i] else none := by
  rw [cursorIn_arr (by simp [growable]) rfl]; simp [next_nil]

theorem desigPaths_bracket_error {t : Ty} (ht : t.elem? = none) (top : Bool) (d : Nat) {toks : List ITok}
    (h : isBracket toks = true) : ∃ e, desigPaths t top d [[]] toks = .error e := by
  cases d with
  | zero => exact ⟨_, rfl⟩
  | succ d =>
    cases toks with
    | nil => cases h
    | cons tok r =>
      cases tok <;> first | (cases h; done) | (rw [desigPaths]; cases t <;> first | (cases ht; done) | exact ⟨_, rfl⟩)

theorem desigPaths_dot_error {t : Ty} (ht : t.isAgg = false) (top : Bool) (d : Nat) (n : String) (r : List ITok) :
    ∃ e, desigPaths t top d [[]] (.dot n :: r) = .error e := by
  cases d with
  | zero => exact ⟨_, rfl⟩
  | succ d => rw [desigPaths]; cases t <;> first | (cases ht; done) | simp [headTy, subTy, findMember, Ty.isAgg]

theorem isDesg_of_isBracket {toks : List ITok} (h : isBracket toks = true) : isDesg toks = true := by
  cases toks with
  | nil => simp [isBracket] at h
  | cons t r => cases t <;> simp [isBracket] at h <;> rfl

theorem isDesg_cases {toks : List ITok} (h : isDesg toks = true) :
    isBracket toks = true ∨ ∃ n r, toks = .dot n :: r := by
  cases toks with
  | nil => simp [isDesg] at h
  | cons t r => cases t <;> simp [isDesg] at h <;> simp [isBracket]

/-- one round of `for (i = begin; i <= end; i++) designation(&tok2, tok, init->children[i])`: the loop over the designated
    elements in `array_initializer1` and `designation` -/
abbrev desgStep (f : Nat) (elem : Ty) (tok : List ITok) (acc : Init × List ITok) (j : Nat) : Except Fail (Init × List ITok) :=
  getChild acc.1.children j >>= fun c => designation f elem tok c >>= fun y => pure (acc.1.setChild j y.1, y.2)

theorem desgFold_cons {tok : List ITok} {j : Nat} {js : List Nat} {cs : List Init} {t0 : List ITok} {r : Init × List ITok}
    (h : (j :: js).foldlM (desgStep f elem tok) (.arr cs, t0) = .ok r) :
    ∃ c v t, cs[j]? = some c ∧ designation f elem tok c = .ok (v, t) ∧ js.foldlM (desgStep f elem tok) (.arr (cs.set j v), t) = .ok r := by
  rw [List.foldlM_cons] at h
  obtain ⟨_, hstep, hfold⟩ := bind_eq_ok h
  refine Yields.use hstep (Yields.via getChild_ok fun c hk =>
    Yields.step fun ⟨v, t⟩ hd =>
    Ends.pure ?_)
  rintro rfl
  exact ⟨c, v, t, hk, hd, hfold⟩

theorem desgStep_shape (ih : Sim f) (ho : subOk (.array elem len) = true) {tok : List ITok}
    {acc : Init × List ITok} {j : Nat} {acc' : Init × List ITok}
    (h : desgStep f elem tok acc j = .ok acc') (hs : shaped (.array elem len) acc.1 = true) :
    shaped (.array elem len) acc'.1 = true := by
  obtain ⟨cs, hcs, hlen, hall⟩ := arr_of_shaped hs
  rw [hcs] at hs
  refine Yields.use h (Yields.via getChild_ok fun cj hk => ?_)
  rw [hcs] at hk ⊢
  refine Yields.via (ih.desg ((At.root (top := false) ho hs).child (childTy_arr elem len j) hk)) fun r ⟨hsj, _⟩ => Ends.pure ?_
  rintro ⟨⟩
  have := shaped_set_child hs (childTy_arr elem len j) hk hsj
  rwa [setAtM_one_arr] at this

theorem ite_bind_pull {α β : Type} (b : Bool) (a : α) (x : Except Fail α) (k : α → Except Fail β) :
    (if b = true then (pure a >>= k) else (x >>= k)) = ((if b = true then pure a else x) >>= k) := by
  cases b <;> rfl

theorem firstCursor_arr (elem : Ty) (len : Nat) (top : Bool) :
    firstCursor (.array elem len) = cursorIn (.array elem len) top [] 0 := by
  rw [cursorIn_arr_root elem len top 0]; simp [firstCursor]

theorem sim_arr1 (ih : Sim f) : Arr1St (f+1) := by
  intro elem len c toks c' rest ho hs h
  obtain ⟨cs, rfl, hlen, hall⟩ := arr_of_shaped hs
  refine Yields.use h ?_
  rw [arrayInit1]
  refine Yields.via skipTok_ok fun inner hsk => ?_
  subst hsk
  refine Yields.last fun hloop => ?_
  obtain ⟨hs', himp⟩ := ih.arr1loop ho hs hloop
  refine ⟨hs', inner, rfl, fun top g fl => ?_⟩
  rw [firstCursor_arr elem len top]
  exact himp top g fl

end ChibiVerif.InitSpec
