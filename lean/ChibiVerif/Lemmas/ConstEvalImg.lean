/- The values of C07; no node (`CNode`) occurs here, only `BitVec 64`, `Int` and the host operations ConstEvalStep names: `img x`
   is the `int64_t` the folder holds for the C11 value `x`; on images the wrapper of `eval2` is the C11 conversion
   (`wrap_convert`), and the host operation of each arithmetic or comparison arm is the Spec's operator (`raw_arith`, `raw_shl`,
   `raw_shr`, `cmpOps_img`).  Rests on ConstEvalStep for `wrapTy`, `binRaw`, `cmpOps`. -/
import ChibiVerif.Model.ConstElab
import ChibiVerif.Lemmas.ConstEvalStep
import ChibiVerif.Lemmas.BitVecLemmas

namespace ChibiVerif.ConstEvalLemmas
open ChibiVerif.Host ChibiVerif.Gen.ConstEval ChibiVerif.Spec.Const ChibiVerif.ConstElab

/-! ## The int64 image of a mathematical value, and the wrapper as the C11 conversion -/

/-- the `int64_t` the folder holds for the C11 value `x` (two's complement, also for `unsigned long` values ≥ 2^63) -/
abbrev img (x : Int) : BitVec 64 := BitVec.ofInt 64 x

theorem castU64_ofInt {n : Nat} (x : Int) : castU 64 (BitVec.ofInt n x) = img (x % 2 ^ n) := by
  rw [castU, BitVec.setWidth_ofInt, Int.natCast_pow]; rfl

theorem castU_castU_img {n : Nat} (hn : n ≤ 64) (x : Int) : castU 64 (castU n (img x)) = img (x % 2 ^ n) :=
  (congrArg (castU 64) (BitVec.setWidth_ofInt_of_le hn x)).trans (castU64_ofInt x)

theorem castU_castS_img {n : Nat} (hn : n ≤ 64) (x : Int) : castU 64 (castS n (img x)) = img (x % 2 ^ n) :=
  (congrArg (castU 64) (BitVec.signExtend_eq_setWidth_of_le _ hn)).trans (castU_castU_img hn x)

theorem castS_castS_img {n : Nat} (hn : n ≤ 64) (x : Int) : castS 64 (castS n (img x)) = img (x.bmod (2 ^ n)) :=
  (congrArg (castS 64) ((BitVec.signExtend_eq_setWidth_of_le _ hn).trans (BitVec.setWidth_ofInt_of_le hn x))).trans (BitVec.signExtend_ofInt n 64 x)

theorem img_emod (x : Int) : img (x % 2 ^ 64) = img x := BitVec.ofInt_emod 64 x

theorem img_bmod (x : Int) : img (x.bmod (2 ^ 64)) = img x := BitVec.ofInt_bmod 64 x

/-- the balanced residue modulo `2^(n+1)`, in the form in which `ITy.convert` writes C11 6.3.1.3 -/
theorem bmod_two_pow (x : Int) (n : Nat) : x.bmod (2 ^ (n + 1)) = (x + 2 ^ n) % 2 ^ (n + 1) - 2 ^ n := by
  have hm : (0 : Int) < 2 ^ n := Int.pow_pos (by decide)
  have hM : ((2 ^ (n + 1) : Nat) : Int) = 2 * 2 ^ n := by rw [Int.natCast_pow, Int.pow_succ, Int.mul_comm]; rfl
  rw [Int.bmod_def, Int.pow_succ, hM, Int.mul_comm _ 2]
  generalize (2 : Int) ^ n = m at hm
  have h0 := Int.emod_nonneg x (b := 2 * m) (by omega)
  have h1 := Int.emod_lt_of_pos x (b := 2 * m) (by omega)
  have hh : (2 * m + 1) / 2 = m := by omega
  have e : (x + m) % (2 * m) = (x % (2 * m) + m) % (2 * m) := (Int.emod_add_emod ..).symm
  rw [hh, e]
  generalize x % (2 * m) = r at h0 h1
  split
  · rw [Int.emod_eq_of_lt (by omega) (by omega)]; omega
  · rw [← Int.sub_emod_right, Int.emod_eq_of_lt (by omega) (by omega)]; omega

/-- **the wrapper of `eval2` is the C11 conversion to the node's type** (every type but `_Bool`, whose conversion is a test) -/
theorem wrap_convert (t : ITy) (ht : t ≠ .bool) (x : Int) : wrapTy (descr t) (img x) = img (t.convert x) := by
  cases t with
  | bool => exact absurd rfl ht
  | i8 => exact (castS_castS_img (n := 8) (by decide) x).trans (congrArg img (bmod_two_pow x 7))
  | u8 => exact castU_castS_img (n := 8) (by decide) x
  | i16 => exact (castS_castS_img (n := 16) (by decide) x).trans (congrArg img (bmod_two_pow x 15))
  | u16 => exact castU_castS_img (n := 16) (by decide) x
  | i32 => exact (castS_castS_img (n := 32) (by decide) x).trans (congrArg img (bmod_two_pow x 31))
  | u32 => exact castU_castS_img (n := 32) (by decide) x
  | i64 => exact (img_bmod x).symm.trans (congrArg img (bmod_two_pow x 63))
  | u64 => exact (img_emod x).symm

/-! ## Ranges -/

theorem inRange_iff (t : ITy) (v : Int) : t.inRange v = true ↔ (t.minV ≤ v ∧ v ≤ t.maxV) := by
  simp [ITy.inRange]

/-- unfold a range hypothesis / goal to numerals -/
macro "rng" : tactic => `(tactic| simp only [inRange_iff, ITy.minV, ITy.maxV, ITy.signed, ITy.bits, ite_true, ite_false,
   Bool.false_eq_true, Nat.reduceSub, Int.reducePow, Int.reduceNeg, Int.reduceSub, Nat.reducePow] at *)

theorem convert_eq (t : ITy) (ht : t ≠ .bool) (x : Int) :
    t.convert x = if t.signed then (x + 2 ^ (t.bits - 1)) % 2 ^ t.bits - 2 ^ (t.bits - 1) else x % 2 ^ t.bits := by
  cases t <;> first | rfl | exact absurd rfl ht

theorem pow_bits (t : ITy) : (2 : Int) ^ t.bits = 2 * 2 ^ (t.bits - 1) := by
  have : 1 ≤ t.bits := by cases t <;> decide
  rw [← Int.pow_succ', Nat.sub_add_cancel this]

theorem convert_inRange (t : ITy) (x : Int) : t.inRange (t.convert x) = true := by
  rw [inRange_iff]
  by_cases hb : t = .bool
  · subst hb; simp only [ITy.convert]; split <;> decide
  · rw [convert_eq t hb]; simp only [ITy.minV, ITy.maxV]
    have hp := pow_bits t
    have hh : (0 : Int) < 2 ^ (t.bits - 1) := Int.pow_pos (by decide)
    -- a residue modulo `2 * h`, shifted down by `h` for a signed type (`h` is `2^(N-1)`)
    generalize (2 : Int) ^ (t.bits - 1) = h at *
    rw [hp]
    cases t.signed <;> simp only [ite_true, ite_false, Bool.false_eq_true]
    · have := Int.emod_nonneg x (b := 2 * h) (by omega); have := Int.emod_lt_of_pos x (b := 2 * h) (by omega); omega
    · have := Int.emod_nonneg (x + h) (b := 2 * h) (by omega); have := Int.emod_lt_of_pos (x + h) (b := 2 * h) (by omega); omega

theorem convert_id (t : ITy) (x : Int) (hx : t.inRange x = true) : t.convert x = x := by
  rw [inRange_iff] at hx
  by_cases hb : t = .bool
  · subst hb
    have : x = 0 ∨ x = 1 := by
      have : ITy.minV .bool = 0 ∧ ITy.maxV .bool = 1 := by decide
      omega
    rcases this with rfl | rfl <;> rfl
  · rw [convert_eq t hb]; simp only [ITy.minV, ITy.maxV] at hx
    have hp := pow_bits t
    have hh : (0 : Int) < 2 ^ (t.bits - 1) := Int.pow_pos (by decide)
    generalize (2 : Int) ^ (t.bits - 1) = h at *
    rw [hp] at hx ⊢
    cases hs : t.signed <;> simp only [hs, ite_true, ite_false, Bool.false_eq_true] at hx ⊢
    · exact Int.emod_eq_of_lt (by omega) (by omega)
    · rw [Int.emod_eq_of_lt (by omega) (by omega)]; omega

theorem range_wide (t : ITy) : -9223372036854775808 ≤ t.minV ∧ t.maxV ≤ 18446744073709551615 ∧ t.minV ≤ 0 ∧ 0 ≤ t.maxV ∧
    ((descr t).isUnsigned = true → 0 ≤ t.minV) ∧ ((descr t).isUnsigned = false → t.maxV ≤ 9223372036854775807) := by
  cases t <;> decide

theorem inRange_wide (t : ITy) (x : Int) (h : t.inRange x = true) :
    -9223372036854775808 ≤ x ∧ x ≤ 18446744073709551615 := by
  have := range_wide t; rw [inRange_iff] at h; omega

theorem img_toInt (x : Int) (h1 : -9223372036854775808 ≤ x) (h2 : x ≤ 9223372036854775807) : (img x).toInt = x :=
  BitVec.toInt_ofInt_eq_self (by decide) (by omega) (by omega)

theorem img_toNat (x : Int) (h1 : 0 ≤ x) (h2 : x ≤ 18446744073709551615) : ((img x).toNat : Int) = x :=
  BitVec.toNat_ofInt_of_range h1 (by omega)

theorem img_read (t : ITy) (x : Int) (hx : t.inRange x = true) :
    (if (descr t).isUnsigned then ((img x).toNat : Int) else (img x).toInt) = x := by
  obtain ⟨h1, h2, _, _, hu, hs⟩ := range_wide t
  rw [inRange_iff] at hx
  split
  · rename_i h; have := hu h; exact img_toNat x (by omega) (by omega)
  · rename_i h; have := hs (Bool.eq_false_iff.2 h); exact img_toInt x (by omega) (by omega)

theorem img_eq_zero_iff (x : Int) (h1 : -9223372036854775808 ≤ x) (h2 : x ≤ 18446744073709551615) :
    img x = 0#64 ↔ x = 0 := by
  constructor
  · intro h
    have := congrArg BitVec.toNat h
    simp only [img, BitVec.toNat_ofInt, BitVec.toNat_ofNat] at this
    have e : ((2 ^ 64 : Nat) : Int) = 18446744073709551616 := by decide
    rw [e] at this
    omega
  · intro h; subst h; rfl

theorem img_bne_zero (x : Int) (h1 : -9223372036854775808 ≤ x) (h2 : x ≤ 18446744073709551615) :
    (img x != 0#64) = (x != 0) := by
  rw [Bool.eq_iff_iff]; simp only [bne_iff_ne, ne_eq]; exact not_congr (img_eq_zero_iff x h1 h2)

theorem convert_bool (x : Int) : ITy.convert .bool x = b2z (x != 0) := by
  simp only [ITy.convert, b2z]; by_cases h0 : x = 0 <;> simp [h0]

theorem b2i_castS (b : Bool) : castS 64 (b2i b) = img (b2z b) := by cases b <;> decide

theorem wrap_bool01 (b : Bool) : wrapTy (descr .bool) (img (b2z b)) = img (b2z b) := by cases b <;> decide

theorem wrap_int01 (b : Bool) : wrapTy tyInt (img (b2z b)) = img (b2z b) := by cases b <;> decide

/-! ## Host operators on images -/

theorem img_add (x y : Int) : img x + img y = img (x + y) := (BitVec.ofInt_add x y).symm
theorem img_mul (x y : Int) : img x * img y = img (x * y) := (BitVec.ofInt_mul x y).symm
theorem img_neg (x : Int) : - img x = img (-x) := BitVec.ofInt_neg.symm
theorem img_sub (x y : Int) : img x - img y = img (x - y) := (BitVec.ofInt_sub 64 x y).symm

theorem img_of_toInt (b : BitVec 64) : b = img b.toInt := BitVec.ofInt_toInt.symm

theorem img_sdiv (x y : Int) (hx : -9223372036854775808 ≤ x ∧ x ≤ 9223372036854775807)
    (hy : -9223372036854775808 ≤ y ∧ y ≤ 9223372036854775807) :
    (img x).sdiv (img y) = img (x.tdiv y) := by
  rw [img_of_toInt ((img x).sdiv (img y)), BitVec.toInt_sdiv, img_toInt x hx.1 hx.2, img_toInt y hy.1 hy.2]
  exact img_bmod _

theorem img_srem (x y : Int) (hx : -9223372036854775808 ≤ x ∧ x ≤ 9223372036854775807)
    (hy : -9223372036854775808 ≤ y ∧ y ≤ 9223372036854775807) :
    (img x).srem (img y) = img (x.tmod y) := by
  rw [img_of_toInt ((img x).srem (img y)), BitVec.toInt_srem, img_toInt x hx.1 hx.2, img_toInt y hy.1 hy.2]

theorem img_nat (n : Nat) (hn : n ≤ 18446744073709551615) : (img (n : Int)).toNat = n := by
  have := img_toNat (n : Int) (by omega) (by omega)
  omega

theorem img_udiv (x y : Int) (hx : 0 ≤ x ∧ x ≤ 18446744073709551615) (hy : 0 ≤ y ∧ y ≤ 18446744073709551615) :
    img x / img y = img (x.tdiv y) := by
  obtain ⟨nx, rfl⟩ := Int.eq_ofNat_of_zero_le hx.1
  obtain ⟨ny, rfl⟩ := Int.eq_ofNat_of_zero_le hy.1
  apply BitVec.eq_of_toNat_eq
  rw [BitVec.toNat_udiv, ← Int.ofNat_tdiv, img_nat nx (by omega), img_nat ny (by omega), img_nat]
  have : nx / ny ≤ nx := Nat.div_le_self _ _
  omega

theorem img_umod (x y : Int) (hx : 0 ≤ x ∧ x ≤ 18446744073709551615) (hy : 0 ≤ y ∧ y ≤ 18446744073709551615) :
    img x % img y = img (x.tmod y) := by
  obtain ⟨nx, rfl⟩ := Int.eq_ofNat_of_zero_le hx.1
  obtain ⟨ny, rfl⟩ := Int.eq_ofNat_of_zero_le hy.1
  apply BitVec.eq_of_toNat_eq
  have e : ((nx : Int) % (ny : Int)) = ((nx % ny : Nat) : Int) := by norm_cast
  rw [BitVec.toNat_umod, Int.tmod_eq_emod_of_nonneg (by omega), e, img_nat nx (by omega), img_nat ny (by omega), img_nat]
  have : nx % ny ≤ nx := Nat.mod_le _ _
  omega

theorem img_shl (x : Int) (n : Nat) (hn : n < 64) : img x <<< n = img (x * 2 ^ n) := by
  rw [BitVec.shiftLeft_eq_mul_twoPow, ← img_mul]
  congr 1
  apply BitVec.eq_of_toNat_eq
  rw [BitVec.toNat_twoPow]
  have : ((2 : Int) ^ n) = ((2 ^ n : Nat) : Int) := by simp
  have lt : 2 ^ n < 2 ^ 64 := Nat.pow_lt_pow_right (by decide) hn
  rw [this, img_nat _ (by have : (2:Nat) ^ 64 = 18446744073709551616 := by decide
                          omega)]
  exact Nat.mod_eq_of_lt lt

theorem img_ushr (x : Int) (n : Nat) (hx : 0 ≤ x ∧ x ≤ 18446744073709551615) : img x >>> n = img (x / 2 ^ n) := by
  obtain ⟨nx, rfl⟩ := Int.eq_ofNat_of_zero_le hx.1
  apply BitVec.eq_of_toNat_eq
  have : ((nx : Int) / 2 ^ n) = ((nx / 2 ^ n : Nat) : Int) := by simp
  rw [BitVec.toNat_ushiftRight, Nat.shiftRight_eq_div_pow, this, img_nat nx (by omega), img_nat]
  have : nx / 2 ^ n ≤ nx := Nat.div_le_self _ _
  omega

theorem img_sshr (x : Int) (n : Nat) (hx : -9223372036854775808 ≤ x ∧ x ≤ 9223372036854775807) :
    (img x).sshiftRight n = img (x / 2 ^ n) := by
  rw [img_of_toInt ((img x).sshiftRight n), BitVec.toInt_sshiftRight, img_toInt x hx.1 hx.2, Int.shiftRight_eq_div_pow]
  simp


/-! ## The types operations are carried out in -/

/-- the types that survive promotion: results of the usual arithmetic conversions -/
def Wide (t : ITy) : Prop := t = .i32 ∨ t = .u32 ∨ t = .i64 ∨ t = .u64

theorem common_wide (a b : ITy) : Wide (ITy.common a b) := by unfold ITy.common; split <;> simp [Wide]
theorem promote_wide (a : ITy) : Wide a.promote := by cases a <;> simp [Wide, ITy.promote]
theorem Wide.ne_bool {t : ITy} (h : Wide t) : t ≠ .bool := by rcases h with h | h | h | h <;> subst h <;> decide

theorem bits_le (t : ITy) : t.bits ≤ 64 := by cases t <;> decide

theorem convert_unsigned (t : ITy) (ht : t ≠ .bool) (hs : t.signed = false) (z : Int) : t.convert z = z % 2 ^ t.bits := by
  rw [convert_eq t ht, hs]; rfl

theorem arm_result (t : ITy) (ht : t ≠ .bool) (raw : BitVec 64) (r v : Int) (hraw : raw = img r)
    (hv : Spec.Const.arith t r = some v) : wrapTy (descr t) raw = img v ∧ t.inRange v = true := by
  have hc : v = t.convert r := by
    unfold Spec.Const.arith at hv
    split at hv
    · split at hv <;> cases hv
      exact (convert_id t r ‹_›).symm
    · cases hv
      exact (convert_unsigned t ht (Bool.eq_false_iff.2 ‹_›) r).symm
  subst hc hraw
  exact ⟨wrap_convert t ht r, convert_inRange t r⟩

section
variable (t : ITy) (x y : Int)

/-- `/` and `%` on two images: the divisor is not zero, `-1` is answered without dividing, and otherwise the host divides
    with the signedness of the type -/
theorem divmod_img (isDiv : Bool) (hx : t.inRange x = true) (hy : t.inRange y = true) (hy0 : y ≠ 0) :
    divmod .wrapping isDiv (descr t) (img x) (img y) = .ok (img (if isDiv then x.tdiv y else x.tmod y)) := by
  obtain ⟨_, _, _, _, hu, hs⟩ := range_wide t
  have hyw := inRange_wide t y hy
  have hz : img y ≠ 0#64 := fun h => hy0 ((img_eq_zero_iff y hyw.1 hyw.2).1 h)
  have hz' : ¬ (img y = 0) := hz
  rw [inRange_iff] at hx hy
  unfold divmod
  rw [beq_false_of_ne hz]
  cases h : (descr t).isUnsigned
  · have := hs h
    simp only [Bool.false_eq_true, ite_false]
    by_cases h1 : y = -1
    · subst h1
      cases isDiv <;>
        simp only [show (img (-1) == 18446744073709551615#64) = true from by decide, ite_true, pure, Except.pure,
          img_neg, Int.tdiv_neg, Int.tdiv_one, Int.tmod_neg, Int.tmod_one, Bool.false_eq_true, ite_false] <;> rfl
    · have hn : img y ≠ 18446744073709551615#64 := fun h => h1 (by
        have := congrArg BitVec.toInt h
        rwa [img_toInt y (by omega) (by omega)] at this)
      have hn' : img y ≠ -1 := hn
      rw [beq_false_of_ne hn]
      cases isDiv <;>
        simp only [Bool.false_eq_true, divS, modS, hz', hn', ↓reduceIte, and_false,
          img_sdiv x y (by omega) (by omega), img_srem x y (by omega) (by omega)]
  · have := hu h
    cases isDiv <;>
      simp only [Bool.false_eq_true, divU, modU, hz', ↓reduceIte,
        img_udiv x y (by omega) (by omega), img_umod x y (by omega) (by omega)]

theorem divmod_div (hx : t.inRange x = true) (hy : t.inRange y = true) (hy0 : y ≠ 0) :
    divmod .wrapping true (descr t) (img x) (img y) = .ok (img (x.tdiv y)) := divmod_img t x y true hx hy hy0

theorem divmod_mod (hx : t.inRange x = true) (hy : t.inRange y = true) (hy0 : y ≠ 0) :
    divmod .wrapping false (descr t) (img x) (img y) = .ok (img (x.tmod y)) := divmod_img t x y false hx hy hy0

theorem tmod_inRange (hx : t.inRange x = true) : t.inRange (x.tmod y) = true := by
  have h1 := Int.natAbs_tmod x y
  have h2 : x.natAbs % y.natAbs ≤ x.natAbs := Nat.mod_le _ _
  have h3 : 0 ≤ x → 0 ≤ x.tmod y := Int.tmod_nonneg y
  have h4 : x ≤ 0 → x.tmod y ≤ 0 := by
    intro hx0
    have := Int.tmod_nonneg y (show 0 ≤ -x by omega)
    rw [Int.neg_tmod] at this; omega
  have := range_wide t
  rw [inRange_iff] at hx ⊢
  omega

/-- bitwise operators: the raw result is the image of its own signed value, which is what the Spec converts -/
theorem fold_bitwise (f : BitVec 64 → BitVec 64 → BitVec 64) (ht : t ≠ .bool) :
    wrapTy (descr t) (f (img x) (img y)) = img (bitwise f t x y) ∧ t.inRange (bitwise f t x y) = true := by
  unfold bitwise
  refine ⟨?_, convert_inRange t _⟩
  rw [← wrap_convert t ht, ← img_of_toInt]

/-- an arithmetic right shift moves a value towards 0 (or to -1), so it stays in range -/
theorem shift_inRange (t : ITy) (x : Int) (n : Nat) (hx : t.inRange x = true) : t.inRange (x / 2 ^ n) = true := by
  have hd : (0 : Int) < 2 ^ n := Int.pow_pos (by decide)
  have h1 : 0 ≤ x → 0 ≤ x / 2 ^ n ∧ x / 2 ^ n ≤ x := fun hx => ⟨Int.ediv_nonneg hx (Int.le_of_lt hd), Int.ediv_le_self _ hx⟩
  have h2 : x < 0 → x ≤ x / 2 ^ n ∧ x / 2 ^ n < 0 := fun hx =>
    ⟨Int.le_ediv_of_mul_le hd (by
      have := Int.mul_le_mul_of_nonpos_left (a := x) (b := 2 ^ n) (c := 1) (Int.le_of_lt hx) hd
      simpa using this), Int.ediv_neg_of_neg_of_pos hx hd⟩
  have := range_wide t
  rw [inRange_iff] at hx ⊢
  omega

theorem img_inj (hx : t.inRange x = true) (hy : t.inRange y = true) : img x = img y ↔ x = y :=
  ⟨fun h => by rw [← img_read t x hx, ← img_read t y hy, h], congrArg img⟩

theorem cmp_images (hx : t.inRange x = true) (hy : t.inRange y = true) :
    (if (descr t).isUnsigned then BitVec.ult (img x) (img y) else BitVec.slt (img x) (img y)) = decide (x < y)
    ∧ (if (descr t).isUnsigned then BitVec.ule (img x) (img y) else BitVec.sle (img x) (img y)) = decide (x ≤ y) := by
  have rx := img_read t x hx
  have ry := img_read t y hy
  simp only [BitVec.slt_eq_decide, BitVec.sle_eq_decide, BitVec.ult_eq_decide, BitVec.ule_eq_decide]
  split at rx <;> simp only [*, ite_true, ite_false, Bool.false_eq_true] at ry ⊢
  · constructor <;> apply decide_eq_decide.2 <;> omega
  · rw [ry]; exact ⟨rfl, rfl⟩

end

/-! ## The arithmetic arms on images -/

/-- Spec side paired with the folder's side: the eight C11 operators whose node is an arm of `arithKinds` on BOTH operands converted to
    the common type.  `arithKinds` (node kinds of the generated folder) has ten: `<<`, `>>` promote only their left operand and are
    not here (`raw_shl`, `raw_shr`). -/
def arithOps : List (BinOp × NodeKind) :=
  [(.add, .ND_ADD), (.sub, .ND_SUB), (.mul, .ND_MUL), (.div, .ND_DIV), (.mod, .ND_MOD),
   (.band, .ND_BITAND), (.bor, .ND_BITOR), (.bxor, .ND_BITXOR)]

/-- the arm of kind `k` at type `t` on the images of `x` and `y`: the host operation has a result, and the wrapper makes it the
    image of `v`, a value of `t` -/
def RawIs (k : NodeKind) (t : ITy) (x y v : Int) : Prop :=
  ∃ raw, binRaw .wrapping k (descr t) (img x) (img y) = .ok raw ∧ wrapTy (descr t) raw = img v ∧ t.inRange v = true

section
variable {t : ITy} {x y v : Int}

theorem raw_arith {op : BinOp} {k : NodeKind} (hop : (op, k) ∈ arithOps) (hw : Wide t) (hx : t.inRange x = true)
    (hy : t.inRange y = true) (hv : binop op t x y = some v) : RawIs k t x y v := by
  simp only [arithOps, List.mem_cons, Prod.mk.injEq, List.mem_nil_iff, or_false] at hop
  rcases hop with ⟨rfl, rfl⟩ | ⟨rfl, rfl⟩ | ⟨rfl, rfl⟩ | ⟨rfl, rfl⟩ | ⟨rfl, rfl⟩ | ⟨rfl, rfl⟩ | ⟨rfl, rfl⟩ | ⟨rfl, rfl⟩
  · have ⟨h1, h2⟩ := arm_result t hw.ne_bool _ (x + y) v (img_add x y) hv
    exact ⟨_, rfl, h1, h2⟩
  · have ⟨h1, h2⟩ := arm_result t hw.ne_bool _ (x - y) v (img_sub x y) hv
    exact ⟨_, rfl, h1, h2⟩
  · have ⟨h1, h2⟩ := arm_result t hw.ne_bool _ (x * y) v (img_mul x y) hv
    exact ⟨_, rfl, h1, h2⟩
  · simp only [binop] at hv
    split at hv
    · cases hv
    · rename_i hy0
      have ⟨h1, h2⟩ := arm_result t hw.ne_bool _ (x.tdiv y) v rfl hv
      exact ⟨_, (divmod_div t x y hx hy hy0), h1, h2⟩
  · simp only [binop] at hv
    split at hv
    · cases hv
    · rename_i hy0
      split at hv <;> cases hv
      have hr' := tmod_inRange t x y hx
      have h1 : wrapTy (descr t) (img (x.tmod y)) = img (x.tmod y) := by
        rw [wrap_convert t hw.ne_bool, convert_id t _ hr']
      exact ⟨_, (divmod_mod t x y hx hy hy0), h1, hr'⟩
  · cases hv
    have ⟨h1, h2⟩ := fold_bitwise t x y (· &&& ·) hw.ne_bool
    exact ⟨_, rfl, h1, h2⟩
  · cases hv
    have ⟨h1, h2⟩ := fold_bitwise t x y (· ||| ·) hw.ne_bool
    exact ⟨_, rfl, h1, h2⟩
  · cases hv
    have ⟨h1, h2⟩ := fold_bitwise t x y (· ^^^ ·) hw.ne_bool
    exact ⟨_, rfl, h1, h2⟩

theorem raw_shl (hw : Wide t) (hv : binop .shl t x y = some v) : RawIs .ND_SHL t x y v := by
  simp only [binop] at hv
  split at hv
  · cases hv
  · rename_i hc
    have hy : 0 ≤ y ∧ y < 64 := by have := bits_le t; omega
    have hcnt : (img y).toInt = y := img_toInt y (by omega) (by omega)
    have hraw : shlS .wrapping (img x) (img y).toInt = .ok (img (x * 2 ^ y.toNat)) := by
      rw [hcnt]
      simp only [shlS, ovf]
      rw [if_neg (by omega), img_shl x y.toNat (by omega)]
    have hres : wrapTy (descr t) (img (x * 2 ^ y.toNat)) = img v ∧ t.inRange v = true := by
      rw [wrap_convert t hw.ne_bool]
      split at hv
      · split at hv
        · cases hv
        · split at hv
          · cases hv; rename_i hin; exact ⟨by rw [convert_id t _ hin], hin⟩
          · cases hv
      · cases hv
        rename_i hs
        have e := convert_unsigned t hw.ne_bool (Bool.eq_false_iff.2 hs) (x * 2 ^ y.toNat)
        exact ⟨congrArg img e, e ▸ convert_inRange t _⟩
    exact ⟨_, hraw, hres.1, hres.2⟩

theorem raw_shr (hw : Wide t) (hx : t.inRange x = true) (hv : binop .shr t x y = some v) : RawIs .ND_SHR t x y v := by
  simp only [binop] at hv
  split at hv
  · cases hv
  · rename_i hc
    cases hv
    have hy : 0 ≤ y ∧ y < 64 := by have := bits_le t; omega
    have hcnt : (img y).toInt = y := img_toInt y (by omega) (by omega)
    have hin := shift_inRange t x y.toNat hx
    have hwr := wrap_convert t hw.ne_bool (x / 2 ^ y.toNat)
    rw [convert_id t _ hin] at hwr
    have hraw : binRaw .wrapping .ND_SHR (descr t) (img x) (img y) = .ok (img (x / 2 ^ y.toNat)) := by
      simp only [binRaw, hcnt]
      rcases hw with h | h | h | h <;> subst h <;> rng
      · rw [if_neg (by decide), shrS, if_neg (by omega), img_sshr x y.toNat (by omega)]
      · rw [if_neg (by decide), shrS, if_neg (by omega), img_sshr x y.toNat (by omega)]
      · rw [if_neg (by decide), shrS, if_neg (by omega), img_sshr x y.toNat (by omega)]
      · rw [if_pos (by decide), shrU, if_neg (by omega), img_ushr x y.toNat (by omega)]
    exact ⟨_, hraw, hwr, hin⟩

end

/-! ## The comparison arms on images -/

/-- Spec side, integer operands: what the comparison of kind `k` (`cmpKinds`) answers on the values `x`, `y` (`relVal` in
    C07FloatLemmas is its floating counterpart) -/
def cmpVal : NodeKind → Int → Int → Bool
  | .ND_EQ, x, y => x == y
  | .ND_NE, x, y => x != y
  | .ND_LT, x, y => decide (x < y)
  | _, x, y => decide (x ≤ y)

theorem cmpOps_img (fp : FpEnv) {k : NodeKind} {t : ITy} {x y : Int} (hk : k ∈ cmpKinds) (hx : t.inRange x = true)
    (hy : t.inRange y = true) :
    (if (descr t).isUnsigned then (cmpOps fp k).2.1 (img x) (img y) else (cmpOps fp k).2.2 (img x) (img y)) = cmpVal k x y := by
  simp only [cmpKinds, List.mem_cons, List.mem_nil_iff, or_false] at hk
  rcases hk with rfl | rfl | rfl | rfl
  · simp only [cmpOps, cmpVal, ite_self]; rw [Bool.eq_iff_iff]; simpa using img_inj t x y hx hy
  · simp only [cmpOps, cmpVal, ite_self]; rw [Bool.eq_iff_iff]; simpa using not_congr (img_inj t x y hx hy)
  · exact (cmp_images t x y hx hy).1
  · exact (cmp_images t x y hx hy).2

end ChibiVerif.ConstEvalLemmas
