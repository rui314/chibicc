/-
C20: the labels of generated code are pairwise distinct.

From the freshness invariant `LabsR` (Lemmas/C20Labels.lean: the counter labels of a piece of code are
pairwise distinct, numbered from the monotone counter `count()`; every other label is a numeric local
label or a parser label) and `userDistinct` (the parser's labels occur once each in the code) to
`labelsDistinct`: after `Effect.renameLocals` has given every definition of a numeric local label
(`1:`, `2:`) its own name `1#k`, all label names of the skeleton are pairwise distinct, none is the
function's return label, none is spelled `.L.return.*`.
-/
import ChibiVerif.Lemmas.C20Labels

namespace ChibiVerif.Lemmas.C20
open ChibiVerif ChibiVerif.Codegen ChibiVerif.Effect ChibiVerif.Asm ChibiVerif.Ast ChibiVerif.C20Scope

/-- the name `renameLocals` gives to the `c`-th definition of the numeric label `d` -/
def numName (d : String) (c : Nat) : String := s!"{d}#{c}"

/-- what `renameLocals` does to the list of label names -/
def renNames : List String → List (String × Nat) → List String
  | [], _ => []
  | l :: r, seen =>
    if isNumLabel l then
      numName l ((seen.lookup l).getD 0 + 1) :: renNames r ((l, (seen.lookup l).getD 0 + 1) :: seen)
    else l :: renNames r seen

theorem labelNames_renameLocals (ss : List Step) (seen : List (String × Nat)) :
    labelNames (renameLocals ss seen) = renNames (labelNames ss) seen := by
  induction ss generalizing seen with
  | nil => rfl
  | cons s r ih =>
    cases s with
    | label l =>
      by_cases hl : isNumLabel l = true
      · simp only [renameLocals, hl, if_true, labelNames, renNames, ih]
        rfl
      · have hl' : isNumLabel l = false := by simpa using hl
        simp only [renameLocals, hl', Bool.false_eq_true, if_false, labelNames, renNames, ih]
    | _ => simp only [renameLocals, labelNames, ih]

theorem numLabel_toList {d : String} (h : isNumLabel d = true) : ∃ c, d.toList = [c] ∧ c.isDigit = true := by
  unfold isNumLabel at h
  split at h
  · rename_i c hc; exact ⟨c, hc, h⟩
  · cases h

theorem numName_toList (d : String) (c : Nat) : (numName d c).toList = d.toList ++ ('#' :: (toString c).toList) := by
  show (toString d ++ toString "#" ++ toString c).toList = _
  rw [String.toList_append, String.toList_append]
  simp only [List.append_assoc]
  rfl

theorem numName_inj {d d' : String} {c c' : Nat} (hd : isNumLabel d = true) (hd' : isNumLabel d' = true)
    (h : numName d c = numName d' c') : d = d' ∧ c = c' := by
  obtain ⟨x, hx, _⟩ := numLabel_toList hd
  obtain ⟨x', hx', _⟩ := numLabel_toList hd'
  have hl : (numName d c).toList = (numName d' c').toList := by rw [h]
  rw [numName_toList, numName_toList, hx, hx'] at hl
  simp only [List.cons_append, List.nil_append, List.cons.injEq, true_and] at hl
  obtain ⟨e1, e2⟩ := hl
  have edd : d = d' := by
    rw [← String.ofList_toList (s := d), ← String.ofList_toList (s := d'), hx, hx', e1]
  refine ⟨edd, ?_⟩
  have hs : toString c = toString c' := by
    rw [← String.ofList_toList (s := toString c), ← String.ofList_toList (s := toString c'), e2]
  exact Nat.repr_inj.mp hs

theorem numName_not_startsDot {d : String} (hd : isNumLabel d = true) (c : Nat) :
    startsDot (numName d c) = false := by
  obtain ⟨x, hx, hdig⟩ := numLabel_toList hd
  unfold startsDot
  rw [numName_toList, hx]
  simp only [List.cons_append, List.nil_append]
  split
  · rename_i rest heq
    simp only [List.cons.injEq] at heq
    rw [heq.1] at hdig
    exact absurd hdig (by decide)
  · rfl

theorem not_return_of_not_startsDot {l : String} (h : startsDot l = false) : isReturnLabel l = false := by
  unfold isReturnLabel
  unfold startsDot at h
  split at h
  · cases h
  · rename_i hne
    cases hl : l.toList with
    | nil => rfl
    | cons c r =>
      have : c ≠ '.' := by
        intro e
        subst e
        exact hne r hl
      have hc : ('.' == c) = false := by
        simp only [beq_eq_false_iff_ne, ne_eq]
        exact fun e => this e.symm
      show List.isPrefixOf ('.' :: _) (c :: r) = false
      simp [List.isPrefixOf, hc]

/-- a renamed name is an original non-numeric label or a fresh numeric name -/
theorem mem_renNames : ∀ (L : List String) (seen : List (String × Nat)) (n : String), n ∈ renNames L seen →
    (n ∈ L ∧ isNumLabel n = false) ∨
      (∃ d c, isNumLabel d = true ∧ n = numName d c ∧ (seen.lookup d).getD 0 < c)
  | [], _, _, h => by cases h
  | l :: r, seen, n, h => by
    by_cases hl : isNumLabel l = true
    · simp only [renNames, hl, if_true, List.mem_cons] at h
      rcases h with rfl | h
      · exact Or.inr ⟨l, _, hl, rfl, Nat.lt_succ_self _⟩
      · rcases mem_renNames r _ n h with ⟨h1, h2⟩ | ⟨d, c, h1, h2, h3⟩
        · exact Or.inl ⟨List.mem_cons_of_mem _ h1, h2⟩
        · refine Or.inr ⟨d, c, h1, h2, ?_⟩
          by_cases hdl : d = l
          · subst hdl
            simp only [List.lookup, beq_self_eq_true, Option.getD_some] at h3
            omega
          · have : (d == l) = false := by simpa using hdl
            simpa only [List.lookup, this] using h3
    · have hl' : isNumLabel l = false := by simpa using hl
      simp only [renNames, hl', Bool.false_eq_true, if_false, List.mem_cons] at h
      rcases h with rfl | h
      · exact Or.inl ⟨List.mem_cons_self, hl'⟩
      · rcases mem_renNames r _ n h with ⟨h1, h2⟩ | h'
        · exact Or.inl ⟨List.mem_cons_of_mem _ h1, h2⟩
        · exact Or.inr h'

theorem nodup_renNames : ∀ (L : List String) (seen : List (String × Nat)),
    (L.filter (fun l => !isNumLabel l)).Nodup →
    (∀ l, l ∈ L → isNumLabel l = false → startsDot l = true) → (renNames L seen).Nodup
  | [], _, _, _ => List.nodup_nil
  | l :: r, seen, hn, hs => by
    have hs' : ∀ l', l' ∈ r → isNumLabel l' = false → startsDot l' = true :=
      fun l' h1 h2 => hs l' (List.mem_cons_of_mem _ h1) h2
    by_cases hl : isNumLabel l = true
    · simp only [List.filter, hl, Bool.not_true] at hn
      simp only [renNames, hl, if_true, List.nodup_cons]
      refine ⟨?_, nodup_renNames r _ hn hs'⟩
      intro hmem
      rcases mem_renNames r _ _ hmem with ⟨h1, h2⟩ | ⟨d, c, h1, h2, h3⟩
      · have := hs' _ h1 h2
        rw [numName_not_startsDot hl] at this
        cases this
      · obtain ⟨e1, e2⟩ := numName_inj hl h1 h2
        subst e1
        simp only [List.lookup, beq_self_eq_true, Option.getD_some] at h3
        omega
    · have hl' : isNumLabel l = false := by simpa using hl
      simp only [List.filter, hl', Bool.not_false, List.nodup_cons] at hn
      simp only [renNames, hl', Bool.false_eq_true, if_false, List.nodup_cons]
      refine ⟨?_, nodup_renNames r _ hn.2 hs'⟩
      intro hmem
      rcases mem_renNames r _ _ hmem with ⟨h1, h2⟩ | ⟨d, c, h1, h2, _⟩
      · exact hn.1 (List.mem_filter.mpr ⟨h1, by simp [h2]⟩)
      · have := hs l List.mem_cons_self hl'
        rw [h2, numName_not_startsDot h1] at this
        cases this

theorem nodup_of_classes (p q : String → Bool) : ∀ (M : List String),
    (∀ l, l ∈ M → p l = true ∨ q l = true) → (∀ l, p l = true → q l = false) →
    (M.filter p).Nodup → (M.filter q).Nodup → M.Nodup
  | [], _, _, _, _ => List.nodup_nil
  | l :: r, hc, hx, hp, hq => by
    have hc' : ∀ l', l' ∈ r → p l' = true ∨ q l' = true := fun l' h => hc l' (List.mem_cons_of_mem _ h)
    rw [List.nodup_cons]
    rcases hc l List.mem_cons_self with h | h
    · have hql := hx l h
      simp only [List.filter, h, List.nodup_cons] at hp
      simp only [List.filter, hql] at hq
      exact ⟨fun hm => hp.1 (List.mem_filter.mpr ⟨hm, h⟩), nodup_of_classes p q r hc' hx hp.2 hq⟩
    · have hpl : p l = false := by
        cases hpl : p l with
        | false => rfl
        | true => rw [hx l hpl] at h; cases h
      simp only [List.filter, hpl] at hp
      simp only [List.filter, h, List.nodup_cons] at hq
      exact ⟨fun hm => hq.1 (List.mem_filter.mpr ⟨hm, h⟩), nodup_of_classes p q r hc' hx hp hq.2⟩

theorem isNum_not_startsDot {l : String} (h : isNumLabel l = true) : startsDot l = false := by
  cases hs : startsDot l with
  | false => rfl
  | true => rw [isNumLabel_of_startsDot hs] at h; cases h

/-- **the labels of generated code are pairwise distinct**, and none is spelled like a return label -/
theorem labelNames_of_LabsR {ls : List Line} {lo hi : Nat}
    (h : LabsR (ls.flatMap classify) [] lo hi) (hu : userDistinct ls = true) :
    (labelNames (steps ls)).Nodup ∧ ∀ n, n ∈ labelNames (steps ls) → isReturnLabel n = false := by
  obtain ⟨_, hok, F, hp, hnF, _⟩ := h
  simp only [userDistinct, decide_eq_true_eq] at hu
  have hctr : ((labelNames (ls.flatMap classify)).filter isCtr).Nodup := by
    have : (ctrLabels (ls.flatMap classify)).Perm F := by simpa using hp
    exact this.nodup_iff.mpr hnF
  -- the labels that are not numeric: counter labels and parser labels
  have hnonnum : ((labelNames (ls.flatMap classify)).filter (fun l => !isNumLabel l)).Nodup := by
    refine nodup_of_classes isCtr userLabel _ ?_ ?_ ?_ ?_
    · intro l hl
      obtain ⟨h1, h2⟩ := List.mem_filter.mp hl
      rcases hok l h1 with h | h | h
      · exact Or.inl h
      · simp [h] at h2
      · exact Or.inr h
    · intro l hl
      simp [userLabel, hl]
    · rw [List.filter_filter]
      have : (fun a => isCtr a && !isNumLabel a) = isCtr := by
        funext a
        cases hc : isCtr a with
        | false => simp
        | true =>
          have := isCtr_startsDot hc
          cases hn : isNumLabel a with
          | false => rfl
          | true => rw [isNum_not_startsDot hn] at this; cases this
      rw [this]
      exact hctr
    · rw [List.filter_filter]
      have : (fun a => userLabel a && !isNumLabel a) = userLabel := by
        funext a
        cases hc : userLabel a with
        | false => simp
        | true =>
          have := (userLabel_elim hc).1
          cases hn : isNumLabel a with
          | false => rfl
          | true => rw [isNum_not_startsDot hn] at this; cases this
      rw [this]
      exact hu
  have hdot : ∀ l, l ∈ labelNames (ls.flatMap classify) → isNumLabel l = false → startsDot l = true := by
    intro l hl hn
    rcases hok l hl with h | h | h
    · exact isCtr_startsDot h
    · rw [hn] at h; cases h
    · exact (userLabel_elim h).1
  have hnames : labelNames (steps ls) = renNames (labelNames (ls.flatMap classify)) [] :=
    labelNames_renameLocals _ _
  have hnd := nodup_renNames _ [] hnonnum hdot
  have hnr : ∀ n, n ∈ labelNames (steps ls) → isReturnLabel n = false := by
    intro n hn
    rw [hnames] at hn
    rcases mem_renNames _ _ _ hn with ⟨h1, h2⟩ | ⟨d, c, h1, h2, _⟩
    · rcases hok n h1 with h | h | h
      · exact isCtr_not_return h
      · rw [h2] at h; cases h
      · exact (userLabel_elim h).2.2
    · rw [h2]
      exact not_return_of_not_startsDot (numName_not_startsDot h1 c)
  exact ⟨hnames ▸ hnd, hnr⟩

/-- `labelNames_of_LabsR` in the Bool form of the test `labelsDistinct` that the driver evaluates on every dumped function
    (Driver/FlowCmd.lean), for any return label; the proofs read the Prop form, nothing uses this one -/
theorem labelsDistinct_of_LabsR {ret : String} {ls : List Line} {lo hi : Nat} (hr : isReturnLabel ret = true)
    (h : LabsR (ls.flatMap classify) [] lo hi) (hu : userDistinct ls = true) :
    labelsDistinct ret ls = true := by
  obtain ⟨hnd, hnr⟩ := labelNames_of_LabsR h hu
  simp only [labelsDistinct, Bool.and_eq_true, decide_eq_true_eq, List.all_eq_true, Bool.not_eq_true',
    List.nodup_cons]
  refine ⟨⟨?_, hnd⟩, hnr⟩
  intro hm
  rw [hnr ret hm] at hr
  cases hr

end ChibiVerif.Lemmas.C20
