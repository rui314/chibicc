/-
The pp-number arm of `tokenize()` as translated from tokenize.c (Gen/PpNumGen.lean `ppNumberStart`, `ppNumber_loop1`,
`ppNumberEnd`) takes exactly the longest prefix generated by the grammar of C11 6.4.8 (Spec/PpNumberSpec.lean, with the
identifier-nondigit class restricted to the Latin letters); the hand model of the scan (Model/Literals.lean) equals the translation.

Proof: a right-recursive recogniser `tailOk` for what may follow the first character is equivalent to the left-recursive
grammar; the greedy length `scanLen` is the longest `tailOk` prefix; the translated loop computes `scanLen`.
-/
import ChibiVerif.Model.PpNumber
import ChibiVerif.Spec.PpNumberSpec
import ChibiVerif.Lemmas.ByteAt

namespace ChibiVerif.Lemmas.PpNum
open ChibiVerif.Gen.Literals
open ChibiVerif.Literals
open ChibiVerif.PpNumber
open ChibiVerif.Spec.PpNumber
open ChibiVerif.Lemmas.Literals

-- `G.x` stands for the translated `ChibiVerif.Gen.PpNum.x`
namespace G
export ChibiVerif.Gen.PpNum (ppNumberStart ppNumber_loop1 ppNumberEnd isdigit isalnum strchrLit)
end G

/-- a character that continues a pp-number on its own: digit, letter, `.` -/
def cont (c : Byte) : Bool := ChibiVerif.Spec.PpNumber.isDigit c || isLetter c || c == dot

/-- what may follow the first character(s) of a pp-number: `e+`-like pairs and single continuation characters -/
def tailOk : List Byte → Bool
  | [] => true
  | [c] => cont c
  | c :: d :: t => if isExp c && isSign d then tailOk t else cont c && tailOk (d :: t)

/-- number of bytes the scan loop takes -/
def scanLen : List Byte → Nat
  | [] => 0
  | [c] => if cont c then 1 else 0
  | c :: d :: t => if isExp c && isSign d then 2 + scanLen t else if cont c then 1 + scanLen (d :: t) else 0

theorem exp_facts (c : Byte) : isExp c = true → isLetter c = true ∧ isSign c = false ∧ cont c = true := by
  simp only [isExp, Bool.or_eq_true, beq_iff_eq]
  rintro (((rfl | rfl) | rfl) | rfl) <;> decide

theorem digit_facts (c : Byte) : ChibiVerif.Spec.PpNumber.isDigit c = true → isExp c = false ∧ cont c = true := by
  revert c; apply forall_byte; decide +kernel

/-- appending `x` keeps a tail acceptable when `x` is acceptable on its own and after a single continuation character
    (the only way the recogniser can look across the seam is a trailing exponent letter) -/
theorem tailOk_append (x : List Byte) (h0 : tailOk x = true) (h1 : ∀ c, cont c = true → tailOk (c :: x) = true) :
    ∀ t : List Byte, tailOk t = true → tailOk (t ++ x) = true := by
  intro t
  induction t using tailOk.induct with
  | case1 => intro _; exact h0
  | case2 c => intro h; exact h1 c h
  | case3 c d t hcd ih =>
    intro h
    simp only [tailOk, hcd, if_true] at h
    simp only [List.cons_append, tailOk, hcd, if_true]
    exact ih h
  | case4 c d t hcd ih =>
    intro h
    simp only [tailOk, hcd, if_false, Bool.false_eq_true, Bool.and_eq_true] at h
    simp only [List.cons_append, tailOk, hcd, if_false, Bool.false_eq_true, Bool.and_eq_true]
    exact ⟨h.1, ih h.2⟩

theorem tailOk_snoc1 (x : Byte) (hx : cont x = true) : ∀ t : List Byte, tailOk t = true → tailOk (t ++ [x]) = true :=
  tailOk_append [x] hx fun c hc => by simp [tailOk, hc, hx]

theorem tailOk_snoc2 (x g : Byte) (hx : isExp x = true) (hg : isSign g = true) :
    ∀ t : List Byte, tailOk t = true → tailOk (t ++ [x, g]) = true :=
  tailOk_append [x, g] (by simp [tailOk, hx, hg]) fun c hc => by simp [tailOk, hc, hx, hg, (exp_facts x hx).2.1]

theorem pp_snoc_cont (s : List Byte) (c : Byte) (hs : PPNumber isLetter s) (hc : cont c = true) : PPNumber isLetter (s ++ [c]) := by
  simp only [cont, Bool.or_eq_true, beq_iff_eq] at hc
  rcases hc with (h | h) | h
  · exact .appDigit s c hs h
  · exact .appNondigit s c hs h
  · rw [h]; exact .appDot s hs

theorem pp_append_tail : ∀ (tail s : List Byte), PPNumber isLetter s → tailOk tail = true → PPNumber isLetter (s ++ tail) := by
  intro tail
  induction tail using tailOk.induct with
  | case1 => intro s hs _; simpa using hs
  | case2 c => intro s hs h; exact pp_snoc_cont s c hs h
  | case3 c d t hcd ih =>
    intro s hs h
    simp only [tailOk, hcd, if_true] at h
    simp only [Bool.and_eq_true] at hcd
    simpa using ih (s ++ [c, d]) (.appExp s c d hs hcd.1 hcd.2) h
  | case4 c d t hcd ih =>
    intro s hs h
    simp only [tailOk, hcd, if_false, Bool.false_eq_true, Bool.and_eq_true] at h
    simpa using ih (s ++ [c]) (pp_snoc_cont s c hs h.1) h.2

/-- shape of a pp-number: a digit, or `.` and a digit, followed by an acceptable tail -/
def Shape (s : List Byte) : Prop :=
  ∃ c0 tail, s = c0 :: tail ∧
    ((ChibiVerif.Spec.PpNumber.isDigit c0 = true ∧ tailOk tail = true) ∨
     (c0 = dot ∧ ∃ d tail', tail = d :: tail' ∧ ChibiVerif.Spec.PpNumber.isDigit d = true ∧ tailOk tail' = true))

theorem shape_snoc (s x : List Byte) (h : Shape s)
    (hx : ∀ t : List Byte, tailOk t = true → tailOk (t ++ x) = true) : Shape (s ++ x) := by
  obtain ⟨c0, tail, rfl, h⟩ := h
  refine ⟨c0, tail ++ x, by simp, ?_⟩
  rcases h with ⟨h1, h2⟩ | ⟨h1, d, tail', rfl, h3, h4⟩
  · exact Or.inl ⟨h1, hx _ h2⟩
  · exact Or.inr ⟨h1, d, tail' ++ x, by simp, h3, hx _ h4⟩

theorem pp_shape (s : List Byte) : PPNumber isLetter s ↔ Shape s := by
  constructor
  · intro h
    induction h with
    | digit d hd => exact ⟨d, [], rfl, Or.inl ⟨hd, rfl⟩⟩
    | dotDigit d hd => exact ⟨dot, [d], rfl, Or.inr ⟨rfl, d, [], rfl, hd, rfl⟩⟩
    | appDigit s d _ hd ih => exact shape_snoc s [d] ih (tailOk_snoc1 d (digit_facts d hd).2)
    | appNondigit s c _ hc ih =>
      exact shape_snoc s [c] ih (tailOk_snoc1 c (by simp [cont, hc]))
    | appExp s c g _ hc hg ih => exact shape_snoc s [c, g] ih (tailOk_snoc2 c g hc hg)
    | appDot s _ ih => exact shape_snoc s [dot] ih (tailOk_snoc1 dot (by decide))
  · rintro ⟨c0, tail, rfl, h⟩
    rcases h with ⟨h1, h2⟩ | ⟨h1, d, tail', rfl, h3, h4⟩
    · exact pp_append_tail tail [c0] (.digit c0 h1) h2
    · rw [h1]; exact pp_append_tail tail' [dot, d] (.dotDigit d h3) h4

theorem scanLen_le : ∀ t : List Byte, scanLen t ≤ t.length := by
  intro t
  induction t using scanLen.induct with
  | case1 => simp [scanLen]
  | case2 c hc => simp [scanLen, hc]
  | case3 c hc => simp [scanLen, hc]
  | case4 c d t hcd ih => simp only [scanLen, hcd, if_true, List.length_cons]; omega
  | case5 c d t hcd hc ih =>
    simp only [scanLen, hcd, hc, if_true, if_false, Bool.false_eq_true, List.length_cons] at ih ⊢; omega
  | case6 c d t hcd hc => simp [scanLen, hcd, hc]

theorem scanLen_stop (c : Byte) (r : List Byte) (hc : cont c = false) (hs : isSign c = false) :
    ∀ u : List Byte, scanLen (u ++ c :: r) = scanLen u := by
  have he : isExp c = false := by
    cases h : isExp c with
    | false => rfl
    | true => rw [(exp_facts c h).2.2] at hc; cases hc
  have h0 : scanLen (c :: r) = 0 := by cases r <;> simp [scanLen, hc, he]
  intro u
  induction u using scanLen.induct with
  | case1 => exact h0
  | case2 a ha => simp [scanLen, ha, hs, h0]
  | case3 a ha => simp [scanLen, ha, hs]
  | case4 a d t had ih => simp only [List.cons_append, scanLen, had, if_true, ih]
  | case5 a d t had ha ih =>
    rw [List.cons_append] at ih
    simp only [List.cons_append, scanLen, had, ha, if_true, if_false, Bool.false_eq_true, ih]
  | case6 a d t had ha => simp [scanLen, had, ha]

theorem tailOk_take_scanLen : ∀ t : List Byte, tailOk (t.take (scanLen t)) = true := by
  intro t
  induction t using scanLen.induct with
  | case1 => simp [scanLen, tailOk]
  | case2 c hc => simp [scanLen, hc, tailOk]
  | case3 c hc => simp [scanLen, hc, tailOk]
  | case4 c d t hcd ih =>
    rw [scanLen, if_pos hcd, Nat.add_comm, List.take_succ_cons, List.take_succ_cons, tailOk, if_pos hcd]
    exact ih
  | case5 c d t hcd hc ih =>
    rw [scanLen, if_neg hcd, if_pos hc, Nat.add_comm, List.take_succ_cons]
    cases hn : scanLen (d :: t) with
    | zero => exact hc
    | succ n =>
      rw [hn] at ih
      rw [List.take_succ_cons] at ih ⊢
      rw [tailOk, if_neg hcd, hc]
      exact ih
  | case6 c d t hcd hc => simp [scanLen, hcd, hc, tailOk]

/-- the first character of an acceptable tail is a continuation character (an exponent letter is a letter) -/
theorem tailOk_head (c : Byte) (t : List Byte) (h : tailOk (c :: t) = true) : cont c = true := by
  cases t with
  | nil => exact h
  | cons d t =>
    rw [tailOk] at h
    split at h
    · rename_i hcd; rw [Bool.and_eq_true] at hcd; exact (exp_facts c hcd.1).2.2
    · rw [Bool.and_eq_true] at h; exact h.1

theorem scanLen_max : ∀ (t : List Byte) (k : Nat), k ≤ t.length → tailOk (t.take k) = true → k ≤ scanLen t := by
  intro t
  induction t using scanLen.induct with
  | case1 => intro k hk _; exact hk
  | case2 c hc => intro k hk _; rw [scanLen, if_pos hc]; exact hk
  | case3 c hc =>
    intro k hk h
    cases k with
    | zero => omega
    | succ k => exact absurd (tailOk_head c _ h) hc
  | case4 c d t hcd ih =>
    intro k hk h
    rw [scanLen, if_pos hcd]
    match k, hk, h with
    | 0, _, _ => omega
    | 1, _, _ => omega
    | k + 2, hk, h =>
      simp only [List.take_succ_cons, tailOk, hcd, if_true] at h
      have := ih k (by simp at hk; omega) h
      omega
  | case5 c d t hcd hc ih =>
    intro k hk h
    rw [scanLen, if_neg hcd, if_pos hc]
    match k, hk, h with
    | 0, _, _ => omega
    | 1, _, _ => omega
    | k + 2, hk, h =>
      simp only [List.take_succ_cons, tailOk, hcd, if_false, Bool.false_eq_true, Bool.and_eq_true] at h
      have := ih (k + 1) (by simp at hk ⊢; omega) h.2
      omega
  | case6 c d t hcd hc =>
    intro k hk h
    cases k with
    | zero => omega
    | succ k => exact absurd (tailOk_head c _ h) hc

/-- a digit is not an exponent letter, so it is always taken on its own -/
theorem scanLen_digit (c : Byte) (t : List Byte) (hd : ChibiVerif.Spec.PpNumber.isDigit c = true) :
    scanLen (c :: t) = 1 + scanLen t ∧ (tailOk t = true → tailOk (c :: t) = true) := by
  obtain ⟨he, hc⟩ := digit_facts c hd
  cases t with
  | nil => simp [scanLen, tailOk, hc]
  | cons d t => simp [scanLen, tailOk, hc, he]

/-- `strchr("eEpP", c)` and `strchr("+-", d)` with the tests for the terminator in front (`strchr` finds the terminator):
    the four letters and the two signs -/
theorem cond1_iff (c d : Byte) :
    ((((c.signExtend 32 ≠ 0#32) ∧ (d.signExtend 32 ≠ 0#32)) ∧ (G.strchrLit [101, 69, 112, 80] c = true)) ∧
      (G.strchrLit [43, 45] d = true)) ↔ (isExp c && isSign d) = true := by
  rw [Ne, Ne, sext_eq_ofNat c 0 (by decide), sext_eq_ofNat d 0 (by decide)]
  simp only [ChibiVerif.Gen.PpNum.strchrLit, isExp, isSign, Bool.and_eq_true, Bool.or_eq_true, beq_iff_eq, List.contains_cons,
    List.contains_nil, Bool.or_false, ← BitVec.toNat_inj, BitVec.toNat_ofNat, Nat.reducePow, Nat.reduceMod, or_assoc]
  constructor
  · rintro ⟨⟨⟨hc, hd⟩, h1⟩, h2⟩; exact ⟨h1.resolve_left hc, h2.resolve_left hd⟩
  · rintro ⟨h1, h2⟩; exact ⟨⟨⟨by omega, by omega⟩, Or.inr h1⟩, Or.inr h2⟩

theorem hand_cond2 (a : Byte) : (isAlnum a = true ∨ a = 46#8) ↔ cont a = true := by
  simp only [cont, isAlnum, Bool.or_eq_true, beq_iff_eq]; exact Iff.rfl

theorem cond2_iff (c : Byte) : ((G.isalnum c = true) ∨ (c.signExtend 32 = 0x2E#32)) ↔ cont c = true := by
  have e : G.isalnum c = isAlnum c := by
    simp only [ChibiVerif.Gen.PpNum.isalnum, isAlnum, ChibiVerif.Literals.isDigit, isAlpha, Bool.or_assoc]
  rw [sext_eq_ofNat c 0x2E (by decide), e]
  exact hand_cond2 c

theorem zero_facts : isExp (0#8 : Byte) = false ∧ isSign (0#8 : Byte) = false ∧ cont (0#8 : Byte) = false := by decide

theorem loop_eq (p : List Byte) : ∀ (fuel i : Nat), p.length < fuel + i →
    G.ppNumber_loop1 p fuel i = i + scanLen (p.drop i) := by
  intro fuel
  induction fuel with
  | zero => intro i h; rw [List.drop_eq_nil_iff.mpr (by omega)]; rfl
  | succ fuel ih =>
    intro i hf
    unfold ChibiVerif.Gen.PpNum.ppNumber_loop1
    simp only [cond1_iff, cond2_iff]
    cases hd : p.drop i with
    | nil =>
      have h0 := drop_eq_nil_byteAt p i hd
      simp [h0, zero_facts.1, zero_facts.2.2, scanLen]
    | cons c t =>
      obtain ⟨hc, ht⟩ := drop_cons_byteAt p i c t hd
      cases t with
      | nil =>
        have h1 := drop_eq_nil_byteAt p (i + 1) ht
        simp only [hc, h1, zero_facts.2.1, Bool.and_false, Bool.false_eq_true, if_false, scanLen]
        by_cases hcc : cont c = true
        · simp only [hcc, if_true]
          rw [ih (i + 1) (by omega), ht]; simp [scanLen]
        · simp [hcc]
      | cons d t =>
        obtain ⟨hd1, ht2⟩ := drop_cons_byteAt p (i + 1) d t ht
        simp only [hc, hd1, scanLen]
        by_cases hcd : (isExp c && isSign d) = true
        · simp only [hcd, if_true]
          have ht2' : p.drop (i + 2) = t := ht2
          rw [ih (i + 2) (by omega), ht2']; omega
        · simp only [hcd, if_false, Bool.false_eq_true]
          by_cases hcc : cont c = true
          · simp only [hcc, if_true]
            rw [ih (i + 1) (by omega), ht]; omega
          · simp [hcc]

theorem isdigit_eq (c : Byte) : G.isdigit c = ChibiVerif.Spec.PpNumber.isDigit c := rfl

theorem start_iff (p : List Byte) (start : Nat) :
    G.ppNumberStart p start = true ↔
      (ChibiVerif.Spec.PpNumber.isDigit (byteAt p start) = true ∨
        (byteAt p start = dot ∧ ChibiVerif.Spec.PpNumber.isDigit (byteAt p (start + 1)) = true)) := by
  unfold ChibiVerif.Gen.PpNum.ppNumberStart
  simp only [decide_eq_true_eq, sext_eq_ofNat, Nat.reduceLT, isdigit_eq]
  rfl

theorem take_cons_inv {α : Type} (l : List α) (n : Nat) (a : α) (r : List α) (h : l.take n = a :: r) :
    ∃ l' m, l = a :: l' ∧ n = m + 1 ∧ l'.take m = r := by
  cases n with
  | zero => simp at h
  | succ m =>
    cases l with
    | nil => simp at h
    | cons b l' =>
      simp only [List.take_succ_cons, List.cons.injEq] at h
      exact ⟨l', m, by rw [h.1], rfl, h.2⟩

theorem digit_ne_zero (c : Byte) : ChibiVerif.Spec.PpNumber.isDigit c = true → c ≠ 0#8 := by
  rintro h rfl; exact absurd h (by decide)

theorem end_eq (p : List Byte) (start : Nat) : G.ppNumberEnd p start = start + 1 + scanLen (p.drop (start + 1)) := by
  unfold ChibiVerif.Gen.PpNum.ppNumberEnd
  exact loop_eq p (p.length + 1) (start + 1) (by omega)

theorem ppnumber_maximal (p : List Byte) (start : Nat) :
    (G.ppNumberStart p start = true ↔ ∃ e, e ≤ p.length ∧ PPNumber isLetter (slice p start e)) ∧
    (G.ppNumberStart p start = true →
      start < G.ppNumberEnd p start ∧ G.ppNumberEnd p start ≤ p.length ∧
      PPNumber isLetter (slice p start (G.ppNumberEnd p start)) ∧
      ∀ e, e ≤ p.length → PPNumber isLetter (slice p start e) → e ≤ G.ppNumberEnd p start) := by
  have key : G.ppNumberStart p start = true →
      start < G.ppNumberEnd p start ∧ G.ppNumberEnd p start ≤ p.length ∧
      PPNumber isLetter (slice p start (G.ppNumberEnd p start)) ∧
      ∀ e, e ≤ p.length → PPNumber isLetter (slice p start e) → e ≤ G.ppNumberEnd p start := by
    intro hs
    rw [start_iff] at hs
    have hne : byteAt p start ≠ 0#8 := by
      rcases hs with h | ⟨h, _⟩
      · exact digit_ne_zero _ h
      · rw [h]; decide
    have hlt : start < p.length := byteAt_ne_zero_lt p start hne
    obtain ⟨c0, tl, hdrop⟩ : ∃ c0 tl, p.drop start = c0 :: tl := by
      cases hd : p.drop start with
      | nil => have := List.drop_eq_nil_iff.mp hd; omega
      | cons c0 tl => exact ⟨c0, tl, rfl⟩
    obtain ⟨hc0, htl⟩ := drop_cons_byteAt p start c0 tl hdrop
    have hlen : tl.length = p.length - (start + 1) := by rw [← htl]; simp
    have hend := end_eq p start
    rw [htl] at hend
    have hle := scanLen_le tl
    have hslice : ∀ e, slice p start e = (c0 :: tl).take (e - start) := by intro e; unfold slice; rw [hdrop]
    refine ⟨by omega, by omega, ?_, ?_⟩
    · rw [hslice, hend, show start + 1 + scanLen tl - start = scanLen tl + 1 by omega, List.take_succ_cons, pp_shape]
      refine ⟨c0, _, rfl, ?_⟩
      rcases hs with h | ⟨h, hd⟩
      · rw [hc0] at h; exact Or.inl ⟨h, tailOk_take_scanLen tl⟩
      · rw [hc0] at h
        have hd0 : byteAt p (start + 1) ≠ 0#8 := digit_ne_zero _ hd
        cases tl with
        | nil => exact absurd (drop_eq_nil_byteAt p (start + 1) htl) hd0
        | cons d tl' =>
          have hdd : byteAt p (start + 1) = d := (drop_cons_byteAt p (start + 1) d tl' htl).1
          rw [hdd] at hd
          obtain ⟨e1, _⟩ := scanLen_digit d tl' hd
          refine Or.inr ⟨h, d, tl'.take (scanLen tl'), ?_, hd, tailOk_take_scanLen tl'⟩
          rw [e1, Nat.add_comm, List.take_succ_cons]
    · intro e he hpp
      rw [hslice, pp_shape] at hpp
      obtain ⟨c0', tail, hcons, hsh⟩ := hpp
      obtain ⟨l', m, hl, hm, htake⟩ := take_cons_inv _ _ _ _ hcons
      simp only [List.cons.injEq] at hl
      obtain ⟨rfl, rfl⟩ := hl
      have hmle : m ≤ tl.length := by omega
      have htail : tailOk (tl.take m) = true := by
        rcases hsh with ⟨_, h2⟩ | ⟨_, d, tail', rfl, h3, h4⟩
        · rw [htake]; exact h2
        · rw [htake]; exact (scanLen_digit d tail' h3).2 h4
      have := scanLen_max tl m hmle htail
      omega
  refine ⟨⟨fun hs => ⟨_, (key hs).2.1, (key hs).2.2.1⟩, ?_⟩, key⟩
  rintro ⟨e, _, hpp⟩
  rw [pp_shape] at hpp
  obtain ⟨c0, tail, hcons, hsh⟩ := hpp
  unfold slice at hcons
  obtain ⟨l', m, hl, _, htake⟩ := take_cons_inv _ _ _ _ hcons
  obtain ⟨hb0, hl'⟩ := drop_cons_byteAt p start c0 l' hl
  rw [start_iff]
  rcases hsh with ⟨h1, _⟩ | ⟨h1, d, tail', rfl, h3, _⟩
  · exact Or.inl (by rw [hb0]; exact h1)
  · obtain ⟨l'', m', hl2, _, _⟩ := take_cons_inv _ _ _ _ htake
    rw [hl2] at hl'
    have hb1 := (drop_cons_byteAt p (start + 1) d l'' hl').1
    exact Or.inr ⟨by rw [hb0]; exact h1, by rw [hb1]; exact h3⟩

theorem hand_cond1 (a b : Byte) :
    (a ≠ 0#8 ∧ b ≠ 0#8 ∧ (a = 101#8 ∨ a = 69#8 ∨ a = 112#8 ∨ a = 80#8) ∧ (b = 43#8 ∨ b = 45#8)) ↔ (isExp a && isSign b) = true := by
  -- the NUL tests are implied: none of the six characters is NUL
  simp only [Bool.and_eq_true, isExp, isSign, Bool.or_eq_true, beq_iff_eq, or_assoc]
  refine ⟨fun h => h.2.2, fun h => ⟨?_, ?_, h⟩⟩
  · rcases h.1 with rfl | rfl | rfl | rfl <;> decide
  · rcases h.2 with rfl | rfl <;> decide

theorem ppNumberLoop_eq (p : List Byte) : ∀ (fuel i : Nat), ppNumberLoop p fuel i = G.ppNumber_loop1 p fuel i := by
  intro fuel
  induction fuel with
  | zero => intro i; rfl
  | succ fuel ih =>
    intro i
    unfold ppNumberLoop ChibiVerif.Gen.PpNum.ppNumber_loop1
    simp only [hand_cond1, hand_cond2, cond1_iff, cond2_iff, ih]

theorem ppNumberLen_eq (p : List Byte) : ppNumberLen p = G.ppNumberEnd p 0 := by
  unfold ppNumberLen ChibiVerif.Gen.PpNum.ppNumberEnd
  exact ppNumberLoop_eq p _ _

theorem ppNumberLen_line (a : Byte) (l r : List Byte) : ppNumberLen (a :: l ++ 10#8 :: r) = 1 + scanLen l := by
  rw [ppNumberLen_eq, end_eq, Nat.zero_add]
  exact congrArg (1 + ·) (scanLen_stop 10#8 r (by decide) (by decide) l)

theorem ppStart_eq (p : List Byte) :
    (ChibiVerif.Literals.isDigit (byteAt p 0) || (byteAt p 0 = 46#8 && ChibiVerif.Literals.isDigit (byteAt p 1))) =
      G.ppNumberStart p 0 := by
  have h := start_iff p 0
  have e : ∀ c : Byte, ChibiVerif.Literals.isDigit c = ChibiVerif.Spec.PpNumber.isDigit c := fun _ => rfl
  rw [Bool.eq_iff_iff, h]
  simp only [Bool.or_eq_true, Bool.and_eq_true, decide_eq_true_eq, e, dot, Nat.zero_add]

end ChibiVerif.Lemmas.PpNum
