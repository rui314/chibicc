/-
C05: the parser transcription is parametric in its trees and in its budget.

Every function of the mutually recursive block is built from `bind`, `if`, `match` and `foldlM` over calls with less budget and
over the operations `setChild`, `setExpr`, `setMem`, `getChild`, `string_initializer` on the tree.  So two runs, on trees related
by any relation these operations respect (`TreeRel`) and with any two budgets, give related outcomes (`Par`; `par_succ`, one field
per function; `par_le` for the budgets `f` and `f + d`, `par_same` for one budget).  "More fuel never changes an answer" (`par_le` at
equal trees, `TreeRel.eq`: Lemmas/InitFuelLemmas.lean) and "which tokens are consumed does not depend on what the tree holds"
(`par_same` at trees of one skeleton, `TreeRel.sm`: Lemmas/InitEraseLemmas.lean) are its two instances.
-/
import ChibiVerif.Model.Init
import ChibiVerif.Lemmas.ExceptRel

namespace ChibiVerif.Init
open Except (Rel)

/-- `if (init->is_flexible) … else …` on two nodes whose tests agree: the flexible branches are related, and so are the other two -/
theorem flexCases {α : Type} {P : α → α → Prop} {a b : Init} {x x' : α} {y y' : Init → α} (hfl : a = .flex ↔ b = .flex)
    (hx : P x x') (hy : a ≠ .flex → b ≠ .flex → P (y a) (y' b)) :
    P (match (generalizing := false) a with | .flex => x | i => y i) (match (generalizing := false) b with | .flex => x' | i => y' i) := by
  split <;> split
  · exact hx
  · exact (‹b = .flex → False› (hfl.1 rfl)).elim
  · exact (‹a = .flex → False› (hfl.2 rfl)).elim
  · exact hy (fun e => ‹a = .flex → False› e) fun e => ‹b = .flex → False› e

/-- a pair of a tree and whatever travels with it (the rest of the tokens; in the counting loop also the index) -/
def PairRel {β : Type} (R : Init → Init → Prop) (p q : Init × β) : Prop := R p.1 q.1 ∧ p.2 = q.2

/-- a relation between initializer trees that the parser's operations on trees respect, and that the parser's tests
    (number of children, `is_flexible`) do not tell apart -/
structure TreeRel where
  R : Init → Init → Prop
  refl : ∀ a, R a a
  setChild : ∀ {a b v w} (i : Nat), R a b → R v w → R (a.setChild i v) (b.setChild i w)
  setExpr : ∀ {a b} (e : Option Expr), R a b → R (a.setExpr e) (b.setExpr e)
  setMem : ∀ {a b} (k : Nat), R a b → R (a.setMem k) (b.setMem k)
  length : ∀ {a b}, R a b → a.children.length = b.children.length
  getChild : ∀ {a b} (i : Nat), R a b → Rel none R (getChild a.children i) (getChild b.children i)
  flex : ∀ {a b}, R a b → (a = .flex ↔ b = .flex)
  /-- after `init->mem = mem` both nodes name the same member -/
  mem : ∀ {a b} (k j : Nat) (x y : Init), R a b → ((a.setMem k).setChild j x).mem? = ((b.setMem k).setChild j y).mem?
  str : ∀ {a b} (elem : Ty) (bytes : List Nat) (esz : Nat) (r : List ITok), R a b →
    Rel none (PairRel R) (stringInitializer elem bytes esz r a) (stringInitializer elem bytes esz r b)

abbrev TreeRel.P (T : TreeRel) : Init × List ITok → Init × List ITok → Prop := PairRel T.R

variable {T : TreeRel} {lax : Option Fail}

/-- every function of the block, run with budgets `f` and `f'` on related trees, gives related outcomes -/
structure Par (T : TreeRel) (lax : Option Fail) (f f' : Nat) : Prop where
  designation : ∀ ty toks c1 c2, T.R c1 c2 → Rel lax T.P (designation f ty toks c1) (designation f' ty toks c2)
  countLoop : ∀ elem toks d1 d2 i mx first, T.R d1 d2 →
    Rel lax Eq (countLoop f elem toks d1 i mx first) (countLoop f' elem toks d2 i mx first)
  countArrayInit : ∀ elem toks, Rel lax Eq (countArrayInit f elem toks) (countArrayInit f' elem toks)
  arrayInit1Loop : ∀ elem toks c1 c2 i first, T.R c1 c2 →
    Rel lax T.P (arrayInit1Loop f elem toks c1 i first) (arrayInit1Loop f' elem toks c2 i first)
  arrayInit1 : ∀ elem toks c1 c2, T.R c1 c2 → Rel lax T.P (arrayInit1 f elem toks c1) (arrayInit1 f' elem toks c2)
  arrayInit2Loop : ∀ elem toks c1 c2 i, T.R c1 c2 →
    Rel lax T.P (arrayInit2Loop f elem toks c1 i) (arrayInit2Loop f' elem toks c2 i)
  arrayInit2 : ∀ elem toks c1 c2 i, T.R c1 c2 → Rel lax T.P (arrayInit2 f elem toks c1 i) (arrayInit2 f' elem toks c2 i)
  structInit1Loop : ∀ ms toks c1 c2 mem first, T.R c1 c2 →
    Rel lax T.P (structInit1Loop f ms toks c1 mem first) (structInit1Loop f' ms toks c2 mem first)
  structInit1 : ∀ ms toks c1 c2, T.R c1 c2 → Rel lax T.P (structInit1 f ms toks c1) (structInit1 f' ms toks c2)
  structInit2 : ∀ ms toks c1 c2 mem first, T.R c1 c2 →
    Rel lax T.P (structInit2 f ms toks c1 mem first) (structInit2 f' ms toks c2 mem first)
  unionRest : ∀ ms toks c1 c2, T.R c1 c2 → c1.mem? = c2.mem? →
    Rel lax T.P (unionRest f ms toks c1) (unionRest f' ms toks c2)
  unionInit : ∀ ms toks c1 c2, T.R c1 c2 → Rel lax T.P (unionInit f ms toks c1) (unionInit f' ms toks c2)
  initializer2 : ∀ ty toks c1 c2, T.R c1 c2 → Rel lax T.P (initializer2 f ty toks c1) (initializer2 f' ty toks c2)
  skipExcess : ∀ toks, Rel lax Eq (skipExcess f toks) (skipExcess f' toks)

namespace TreeRel

variable {β γ : Type} {W : γ → γ → Prop}

/-- a returned tree -/
theorem tree {a b : Init} {t : β} (h : T.R a b) : Rel lax (PairRel T.R) (.ok (a, t)) (.ok (b, t)) := Rel.ok ⟨h, rfl⟩

/-- a tree chosen by a test that both sides make alike -/
theorem ite {c : Prop} [Decidable c] {a a' b b' : Init} (h1 : c → T.R a a') (h2 : ¬ c → T.R b b') :
    T.R (if c then a else b) (if c then a' else b') := by
  by_cases h : c <;> simp only [h, ↓reduceIte]
  · exact h1 h
  · exact h2 h

/-- a step that returns a tree and what travels with it -/
theorem call {x y : Except Fail (Init × β)} {k k' : Init × β → Except Fail γ} (h : Rel lax (PairRel T.R) x y)
    (hk : ∀ a b t, T.R a b → Rel lax W (k (a, t)) (k' (b, t))) : Rel lax W (x >>= k) (y >>= k') :=
  Rel.bind h (fun p q hpq => by obtain ⟨a, t⟩ := p; obtain ⟨b, t'⟩ := q; obtain ⟨h1, h2⟩ := hpq; cases h2; exact hk a b t h1)

/-- the parser descends into child `i`: `init->children[i]` is handed to `g`, and what `g` returns goes on -/
theorem sub {a b : Init} (i : Nat) {g g' : Init → Except Fail (Init × β)} {k k' : Init × β → Except Fail γ} (h : T.R a b)
    (hg : ∀ c c', T.R c c' → Rel lax (PairRel T.R) (g c) (g' c'))
    (hk : ∀ x y t, T.R x y → Rel lax W (k (x, t)) (k' (y, t))) :
    Rel lax W (Init.getChild a.children i >>= fun c => g c >>= k) (Init.getChild b.children i >>= fun c => g' c >>= k') :=
  Rel.bind (Rel.weaken (T.getChild i h)) fun c c' hc => call (hg c c' hc) hk

theorem fold {α : Type} {s s' : Init × List ITok → α → Init.P}
    (h : ∀ a b t j, T.R a b → Rel lax T.P (s (a, t) j) (s' (b, t) j)) (l : List α) {a b : Init} (t : List ITok) (hab : T.R a b) :
    Rel lax T.P (l.foldlM s (a, t)) (l.foldlM s' (b, t)) :=
  Rel.foldlM (fun p q j hpq => by
    obtain ⟨a, t⟩ := p; obtain ⟨b, t'⟩ := q; obtain ⟨h1, h2⟩ := hpq; cases h2; exact h a b t j h1) l _ _ ⟨hab, rfl⟩

end TreeRel


variable {f f' : Nat}

/-! ### One more unit of budget

Each function with one more unit of budget is its body over the functions with the budgets of `ih`; its field of `par_succ` follows
the body.  What is the same on both sides goes by `Rel.bind_same`, `Rel.ite`, `Rel.ite_bind` (the optional comma) and `split`; the
steps that look at the tree are named: a call (`ih`), a descent into a child (`TreeRel.sub`), a returned tree (`TreeRel.tree` with
the rules of `T`), and the tests on the tree (number of children `T.length`, `is_flexible` `T.flex`, the union's member `hm`).  The
two blocks that occur in two functions come first. -/

/-- `for (i = begin; i <= end; i++) designation(&tok2, tok, init->children[i])` -/
theorem par_range (ih : Par T lax f f') (elem : Ty) (tok : List ITok) (l : List Nat) {a b : Init} (t : List ITok) (h : T.R a b) :
    Rel lax T.P
      (l.foldlM (fun (acc : Init × List ITok) i => do
        let c ← getChild acc.1.children i
        let (c', t2) ← designation f elem tok c
        pure (acc.1.setChild i c', t2)) (a, t))
      (l.foldlM (fun (acc : Init × List ITok) i => do
        let c ← getChild acc.1.children i
        let (c', t2) ← designation f' elem tok c
        pure (acc.1.setChild i c', t2)) (b, t)) := by
  refine TreeRel.fold (fun a b _ i hab => ?_) l t h
  exact TreeRel.sub (a := a) (b := b) i hab (ih.designation _ _) fun _ _ _ hxy => TreeRel.tree (T.setChild i hab hxy)

/-- `if (init->is_flexible)`: the array of a flexible member gets the counted length, any other node stays -/
theorem par_resolve (ih : Par T lax f f') (elem : Ty) (toks : List ITok) {c1 c2 : Init} (h : T.R c1 c2) :
    Rel lax T.R
      (match (generalizing := false) c1 with
        | .flex => do
          let len ← countArrayInit f elem toks
          pure (newInit (.array elem len) false)
        | i => pure i : Except Fail Init)
      (match (generalizing := false) c2 with
        | .flex => do
          let len ← countArrayInit f' elem toks
          pure (newInit (.array elem len) false)
        | i => pure i : Except Fail Init) := by
  exact flexCases (T.flex h) (Rel.bind_eq (ih.countArrayInit _ _) fun _ => Rel.ok (T.refl _)) fun _ _ => Rel.ok h

theorem par_succ (ih : Par T lax f f') : Par T lax (f+1) (f'+1) where
  designation := fun ty toks c1 c2 h => by
    unfold designation
    split
    iterate 2   -- `[i]`, `[i ... j]`
      · split
        · exact Rel.error _
        · -- `if (init->is_flexible)`: the two tests agree
          refine flexCases (T.flex h) (Rel.error _) fun _ _ => ?_
          rw [T.length h]
          exact Rel.bind_same _ fun (_, _, tok) =>
            TreeRel.call (par_range ih _ tok _ tok h) fun _ _ _ hab => ih.arrayInit2 _ _ _ _ _ hab
    · -- `.name`
      split
      · exact Rel.bind_same _ fun (k, _) => Rel.bind_same _ fun _ => TreeRel.sub k h (ih.designation _ _) fun _ _ _ hxy =>
          ih.structInit2 _ _ _ _ _ _ (T.setExpr none (T.setChild k h hxy))
      · exact Rel.bind_same _ fun (k, _) => Rel.bind_same _ fun _ => TreeRel.sub k (T.setMem k h) (ih.designation _ _)
          fun _ _ _ hxy => TreeRel.tree (T.setChild k (T.setMem k h) hxy)
      · exact Rel.error _
    · exact ih.initializer2 _ _ _ _ h
    · exact ih.initializer2 _ _ _ _ h
  countLoop := fun elem toks d1 d2 i mx first h => by
    unfold countLoop
    split
    · exact Rel.ok rfl
    · -- one element: parsed into the dummy, which travels on with the rest and the index
      refine Rel.ite_bind fun toks1 => TreeRel.call (?_ : Rel lax (PairRel T.R) _ _) fun _ _ _ hab => ih.countLoop _ _ _ _ _ _ _ hab
      dsimp only
      split
      · exact TreeRel.call (ih.designation _ _ _ _ h) fun _ _ _ hxy => TreeRel.tree hxy
      · exact TreeRel.call (ih.designation _ _ _ _ h) fun _ _ _ hxy => TreeRel.tree hxy
      · exact TreeRel.call (ih.initializer2 _ _ _ _ h) fun _ _ _ hxy => TreeRel.tree hxy
  countArrayInit := fun elem toks => by
    unfold countArrayInit
    exact Rel.bind_eq (ih.countLoop _ _ _ _ _ _ _ (T.refl _)) fun _ => Rel.ok rfl
  arrayInit1Loop := fun elem toks c1 c2 i first h => by
    unfold arrayInit1Loop
    rw [T.length h]
    split
    · exact TreeRel.tree h
    · refine Rel.ite_bind fun toks1 => Rel.ite (fun _ => ?_) fun _ => Rel.ite (fun _ => ?_) fun _ => ?_
      · -- `[b ... e]`: the designation goes into each of the elements, then on behind `e`
        exact Rel.bind_same _ fun (_, _, tok) =>
          TreeRel.call (par_range ih elem tok _ tok h) fun a b t hab => ih.arrayInit1Loop _ _ _ _ _ _ hab
      · -- the next element
        exact TreeRel.sub i h (ih.initializer2 _ _) fun x y t hxy => ih.arrayInit1Loop _ _ _ _ _ _ (T.setChild i h hxy)
      · -- an excess element
        exact Rel.bind_eq (ih.skipExcess _) fun _ => ih.arrayInit1Loop _ _ _ _ _ _ h
  arrayInit1 := fun elem toks c1 c2 h => by
    unfold arrayInit1
    exact Rel.bind_same _ fun toks1 => Rel.bind (par_resolve ih elem toks1 h) fun a b hab => ih.arrayInit1Loop _ _ _ _ _ _ hab
  arrayInit2Loop := fun elem toks c1 c2 i h => by
    unfold arrayInit2Loop
    rw [T.length h]
    refine Rel.ite (fun _ => Rel.ite_bind fun toks1 => Rel.ite (fun _ => TreeRel.tree h) fun _ => ?_) fun _ => TreeRel.tree h
    exact TreeRel.sub i h (ih.initializer2 _ _) fun x y t hxy => ih.arrayInit2Loop _ _ _ _ _ (T.setChild i h hxy)
  arrayInit2 := fun elem toks c1 c2 i h => by
    unfold arrayInit2
    exact Rel.bind (par_resolve ih elem toks h) fun a b hab => ih.arrayInit2Loop _ _ _ _ _ hab
  structInit1Loop := fun ms toks c1 c2 mem first h => by
    unfold structInit1Loop
    split
    · exact TreeRel.tree h
    · refine Rel.ite_bind fun toks1 => ?_
      dsimp only
      split
      · -- `.name`: the designated member, then on behind it
        exact Rel.bind_same _ fun (k, _) => Rel.bind_same _ fun _ =>
          TreeRel.sub k h (ih.designation _ _) fun x y t hxy => ih.structInit1Loop _ _ _ _ _ _ (T.setChild k h hxy)
      · refine Rel.ite (fun _ => Rel.bind_same _ fun _ => ?_) fun _ => ?_
        · -- the next member
          exact TreeRel.sub _ h (ih.initializer2 _ _) fun x y t hxy => ih.structInit1Loop _ _ _ _ _ _ (T.setChild _ h hxy)
        · -- an excess element
          exact Rel.bind_eq (ih.skipExcess _) fun _ => ih.structInit1Loop _ _ _ _ _ _ h
  structInit1 := fun ms toks c1 c2 h => by
    unfold structInit1
    exact Rel.bind_same _ fun _ => ih.structInit1Loop _ _ _ _ _ _ h
  structInit2 := fun ms toks c1 c2 mem first h => by
    unfold structInit2
    split
    · exact TreeRel.tree h
    · refine Rel.ite (fun _ => TreeRel.tree h) fun _ => Rel.ite (fun _ => ih.structInit2 _ _ _ _ _ _ h) fun _ =>
        Rel.ite_bind fun toks1 => Rel.ite (fun _ => TreeRel.tree h) fun _ => ?_
      exact TreeRel.sub mem h (ih.initializer2 _ _) fun x y t hxy => ih.structInit2 _ _ _ _ _ _ (T.setChild mem h hxy)
  unionRest := fun ms toks c1 c2 h hm => by
    unfold unionRest
    split
    · exact TreeRel.tree h
    · refine Rel.bind_same _ fun toks1 => ?_
      split
      · -- `.name`
        refine Rel.bind_same _ fun (k, _) => Rel.bind_same _ fun mty => ?_
        -- `if (mem != init->mem)`: both nodes name the same member; where it changes, both start from the same zero tree
        rw [hm]
        have hI := TreeRel.ite (c := c2.mem? = some k) (fun _ => h) fun _ => T.setChild k h (T.refl (newInit mty false))
        exact TreeRel.sub k (T.setMem k hI) (ih.designation _ _) fun x y t hxy =>
          ih.unionRest _ _ _ _ (T.setChild k (T.setMem k hI) hxy) (T.mem k k x y hI)
      · -- an excess element
        exact Rel.bind_eq (ih.skipExcess _) fun _ => ih.unionRest _ _ _ _ h hm
  unionInit := fun ms toks c1 c2 h => by
    unfold unionInit
    split
    · -- `{ .name`: the designated member, then the rest of the list
      exact Rel.bind_same _ fun (k, _) => Rel.bind_same _ fun _ =>
        TreeRel.sub k (T.setMem k h) (ih.designation _ _) fun x y t hxy =>
          ih.unionRest _ _ _ _ (T.setChild k (T.setMem k h) hxy) (T.mem k k x y h)
    · refine Rel.ite (fun _ => Rel.ite (fun _ => ih.structInit1 _ _ _ _ h) fun _ => TreeRel.tree h) fun _ => ?_
      -- the first named member, with braces (then the rest of the list) or without
      split
      · exact Rel.bind_same _ fun _ => TreeRel.sub _ (T.setMem _ h) (ih.initializer2 _ _) fun x y t hxy =>
          ih.unionRest _ _ _ _ (T.setChild _ (T.setMem _ h) hxy) (T.mem _ _ x y h)
      · exact Rel.bind_same _ fun _ => TreeRel.sub _ (T.setMem _ h) (ih.initializer2 _ _) fun x y t hxy =>
          TreeRel.tree (T.setChild _ (T.setMem _ h) hxy)
  initializer2 := fun ty toks c1 c2 h => by
    unfold initializer2
    split
    iterate 2   -- an array, of known or unknown length
      · split
        · exact Rel.ite (fun _ => Rel.weaken (T.str _ _ _ _ h)) fun _ => ih.arrayInit2 _ _ _ _ _ h   -- a string literal
        · split                                                                                   -- `{`
          · exact Rel.weaken (T.str _ _ _ _ h)
          · exact ih.arrayInit1 _ _ _ _ h
        · exact ih.arrayInit2 _ _ _ _ _ h
    · -- a struct: a list, an expression of the struct's type, or elided braces
      exact Rel.ite (fun _ => ih.structInit1 _ _ _ _ h) fun _ => Rel.bind_same _ fun (e, _) =>
        Rel.ite (fun _ => TreeRel.tree (T.setExpr (some e) h)) fun _ => ih.structInit2 _ _ _ _ _ _ h
    · -- a union
      exact Rel.ite (fun _ => ih.unionInit _ _ _ _ h) fun _ => Rel.bind_same _ fun (e, _) =>
        Rel.ite (fun _ => TreeRel.tree (T.setExpr (some e) h)) fun _ => ih.unionInit _ _ _ _ h
    · -- a scalar, with or without braces
      split
      · exact TreeRel.call (ih.initializer2 _ _ _ _ h) fun _ _ _ hab => Rel.bind_same _ fun _ => TreeRel.tree hab
      · exact Rel.bind_same _ fun (e, _) => TreeRel.tree (T.setExpr (some e) h)
  skipExcess := fun toks => by
    cases toks with
    | nil => exact Rel.of_eq rfl
    | cons t r => cases t <;> first | exact Rel.of_eq rfl | exact Rel.bind_eq (ih.skipExcess r) (fun _ => Rel.of_eq rfl)

theorem par_out (T : TreeRel) (f' : Nat) : Par T (some .fuel) 0 f' := by
  constructor <;> intros <;> exact Rel.out _ _

theorem par_zero (T : TreeRel) (lax : Option Fail) : Par T lax 0 0 := by
  constructor <;> intros <;> exact Rel.error _

/-- any larger budget: out of fuel with the smaller one, or related outcomes -/
theorem par_le (T : TreeRel) : ∀ f d, Par T (some .fuel) f (f + d)
  | 0, d => by rw [Nat.zero_add]; exact par_out T d
  | f+1, d => by rw [Nat.succ_add]; exact par_succ (par_le T f d)

theorem par_same (T : TreeRel) (lax : Option Fail) : ∀ f, Par T lax f f
  | 0 => par_zero T lax
  | f+1 => par_succ (par_same T lax f)

end ChibiVerif.Init
