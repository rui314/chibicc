/-
Helper lemmas for Props/C06.lean, ABI side: `has_flonum` over a member tree is a statement about the flat list of its
scalars (structural induction on the tree), the psABI merge over that list yields SSE exactly when `has_flonum` holds
for the eightbyte: outside the known-finding regions the psABI's classes of a type are chibicc's (`classify_eq`).  Since
both sides allocate by `alloc`, the rest is congruence: `abi_step`, `abi_loop`, `ret_abi`.
-/
import ChibiVerif.Lemmas.CallConvLemmas
import ChibiVerif.Spec.PsABI
import ChibiVerif.Spec.CallRegions

namespace ChibiVerif.CallConv
open ChibiVerif.Spec.PsABI
open ChibiVerif.Spec.CallRegions
open ChibiVerif.Gen.Templates (GP_MAX FP_MAX)

/-- the leaf test of `has_flonum` -/
def leafOk (lo hi : Nat) (ot : Nat × ATy) : Bool := decide (ot.1 < lo) || decide (hi ≤ ot.1) || ot.2.isFlonum

theorem allBelow_succ (n : Nat) (f : Nat → Bool) : allBelow (n + 1) f = (allBelow n f && f n) := rfl

mutual
/-- **structural induction on member trees**: `has_flonum(ty, lo, hi, offset)` looks at every scalar of the tree once,
    at its absolute offset -/
theorem hasFlonum_leaves : (t : ATy) → (lo hi off : Nat) → hasFlonum t lo hi off = (leaves t off).all (leafOk lo hi)
  | .agg _ _ _ ms, lo, hi, off => by
    simp only [hasFlonum, leaves]; exact hasFlonumMs_leaves ms lo hi off
  | .arr e n, lo, hi, off => by
    simp only [hasFlonum, leaves]
    induction n with
    | zero => simp [allBelow, concatBelow]
    | succ n ih =>
      rw [allBelow_succ, ih]
      simp only [concatBelow, List.all_append]
      rw [hasFlonum_leaves e lo hi (off + e.size * n)]
  | .int _ _ _, lo, hi, off => by simp [hasFlonum, leaves, leafOk, ATy.isFlonum]
  | .ldbl, lo, hi, off => by simp [hasFlonum, leaves, leafOk, ATy.isFlonum]
  | .flt, lo, hi, off => by simp [hasFlonum, leaves, leafOk, ATy.isFlonum]
  | .dbl, lo, hi, off => by simp [hasFlonum, leaves, leafOk, ATy.isFlonum]
theorem hasFlonumMs_leaves : (ms : Members) → (lo hi off : Nat) →
    hasFlonumMs ms lo hi off = (leavesMs ms off).all (leafOk lo hi)
  | .nil, lo, hi, off => by simp [hasFlonumMs, leavesMs]
  | .cons o t r, lo, hi, off => by
    simp only [hasFlonumMs, leavesMs, List.all_append]
    rw [hasFlonum_leaves t lo hi (off + o), hasFlonumMs_leaves r lo hi off]
end

def isScalar : ATy → Bool
  | .agg .. => false
  | .arr .. => false
  | _ => true

mutual
theorem leaves_scalar : (t : ATy) → (off : Nat) → ∀ x ∈ leaves t off, isScalar x.2 = true
  | .agg _ _ _ ms, off => by simp only [leaves]; exact leavesMs_scalar ms off
  | .arr e n, off => by
    simp only [leaves]
    induction n with
    | zero => simp [concatBelow]
    | succ n ih =>
      intro x hx
      simp only [concatBelow, List.mem_append] at hx
      cases hx with
      | inl h => exact ih x h
      | inr h => exact leaves_scalar e _ x h
  | .int _ _ _, off => by simp [leaves, isScalar]
  | .ldbl, off => by simp [leaves, isScalar]
  | .flt, off => by simp [leaves, isScalar]
  | .dbl, off => by simp [leaves, isScalar]
theorem leavesMs_scalar : (ms : Members) → (off : Nat) → ∀ x ∈ leavesMs ms off, isScalar x.2 = true
  | .nil, off => by simp [leavesMs]
  | .cons o t r, off => by
    intro x hx
    simp only [leavesMs, List.mem_append] at hx
    cases hx with
    | inl h => exact leaves_scalar t _ x h
    | inr h => exact leavesMs_scalar r off x h
end

/-- class of an eightbyte from two facts about the scalars that start in it: is there one (`a`), are all of them float/double (`f`) -/
def cls3 (a f : Bool) : Class := if a then (if f then .sse else .integer) else .noClass

def leafClass (t : ATy) : Class := if t.isFlonum then .sse else .integer

theorem merge_cls3 (a f fl : Bool) (h : a = false → f = true) :
    merge (cls3 a f) (if fl then Class.sse else Class.integer) = cls3 true (f && fl) := by
  cases a <;> cases f <;> cases fl <;> simp_all [cls3, merge]

theorem getD_set {α : Type} (l : List α) (i j : Nat) (a d : α) :
    (l.set i a).getD j d = if i = j ∧ i < l.length then a else l.getD j d := by
  simp only [List.getD_eq_getElem?_getD, List.getElem?_set]
  by_cases h : i = j
  · subst h
    by_cases h2 : i < l.length
    · simp [h2]
    · simp [h2]
  · simp [h]

theorem scalarClasses_of (t : ATy) (hs : isScalar t = true) (hl : isLdbl t = false) : scalarClasses t = [leafClass t] := by
  cases t <;> simp_all [isScalar, isLdbl, scalarClasses, leafClass, ATy.isFlonum]

def foldClasses (L : List (Nat × ATy)) (acc : List Class) : List Class :=
  L.foldl (fun acc (ot : Nat × ATy) => mergeAt acc (ot.1 / 8) (scalarClasses ot.2)) acc

theorem merge_ne_sseup (a b : Class) (ha : a ≠ .sseup) (hb : b ≠ .sseup) : merge a b ≠ .sseup := by
  cases a <;> cases b <;> simp_all [merge]

theorem scalarClasses_ne_sseup (t : ATy) : ∀ c ∈ scalarClasses t, c ≠ Class.sseup := by
  cases t <;> simp [scalarClasses]

theorem mergeAt_inv (cs : List Class) : ∀ (acc : List Class) (k : Nat),
    (∀ c ∈ acc, c ≠ Class.sseup) → (∀ c ∈ cs, c ≠ Class.sseup) →
    (mergeAt acc k cs).length = acc.length ∧ ∀ c ∈ mergeAt acc k cs, c ≠ Class.sseup := by
  induction cs with
  | nil => intro acc k h _; exact ⟨rfl, h⟩
  | cons c cs ih =>
    intro acc k hacc hcs
    simp only [mergeAt]
    have hm : merge (acc.getD k .noClass) c ≠ .sseup := by
      apply merge_ne_sseup
      · by_cases hk : k < acc.length
        · have : acc.getD k .noClass ∈ acc := by
            rw [List.getD_eq_getElem?_getD, List.getElem?_eq_getElem hk]; simp
          exact hacc _ this
        · have : acc.getD k .noClass = .noClass := by
            rw [List.getD_eq_getElem?_getD, List.getElem?_eq_none (by omega)]; rfl
          rw [this]; simp
      · exact hcs c List.mem_cons_self
    have hset : ∀ x ∈ acc.set k (merge (acc.getD k .noClass) c), x ≠ Class.sseup := by
      intro x hx
      rcases List.mem_or_eq_of_mem_set hx with h | h
      · exact hacc x h
      · rw [h]; exact hm
    have := ih (acc.set k (merge (acc.getD k .noClass) c)) (k + 1) hset (fun x hx => hcs x (List.mem_cons_of_mem _ hx))
    exact ⟨by rw [this.1]; simp, this.2⟩

theorem foldClasses_inv (L : List (Nat × ATy)) : ∀ (acc : List Class), (∀ c ∈ acc, c ≠ Class.sseup) →
    (foldClasses L acc).length = acc.length ∧ ∀ c ∈ foldClasses L acc, c ≠ Class.sseup := by
  induction L with
  | nil => intro acc h; exact ⟨rfl, h⟩
  | cons x xs ih =>
    intro acc h
    simp only [foldClasses, List.foldl_cons]
    have h1 := mergeAt_inv (scalarClasses x.2) acc (x.1 / 8) h (scalarClasses_ne_sseup x.2)
    have h2 := ih (mergeAt acc (x.1 / 8) (scalarClasses x.2)) h1.2
    simp only [foldClasses] at h2
    exact ⟨by rw [h2.1, h1.1], h2.2⟩

theorem foldClasses_replicate (L : List (Nat × ATy)) (n : Nat) :
    (foldClasses L (List.replicate n Class.noClass)).length = n ∧
    ∀ c ∈ foldClasses L (List.replicate n Class.noClass), c ≠ Class.sseup := by
  have := foldClasses_inv L (List.replicate n Class.noClass) (by intro c hc; rw [List.mem_replicate] at hc; rw [hc.2]; simp)
  rwa [List.length_replicate] at this

/-- the invariant of the merge loop: eightbyte `k` holds `cls3 (some scalar starts in it) (all that do are float/double)` -/
theorem foldClasses_getD (k : Nat) (L : List (Nat × ATy)) : ∀ (acc : List Class) (a f : Bool),
    (∀ x ∈ L, isScalar x.2 = true ∧ isLdbl x.2 = false) → (a = false → f = true) → k < acc.length →
    acc.getD k .noClass = cls3 a f →
    (foldClasses L acc).getD k .noClass =
      cls3 (a || L.any (fun ot => ot.1 / 8 == k)) (f && L.all (fun ot => ot.1 / 8 != k || ot.2.isFlonum)) := by
  induction L with
  | nil => intro acc a f _ _ _ hacc; simpa [foldClasses] using hacc
  | cons x xs ih =>
    intro acc a f h haf hk hacc
    have hx := h x List.mem_cons_self
    simp only [foldClasses, List.foldl_cons]
    rw [scalarClasses_of x.2 hx.1 hx.2]
    simp only [mergeAt, List.any_cons, List.all_cons, ← Bool.or_assoc, ← Bool.and_assoc]
    refine ih _ _ _ (fun y hy => h y (List.mem_cons_of_mem _ hy)) ?_ (by simpa using hk) ?_
    · intro hj
      simp only [Bool.or_eq_false_iff] at hj
      have : ¬ x.1 / 8 = k := by simpa using hj.2
      simp [haf hj.1, this]
    · -- the accumulator after this scalar
      rw [getD_set]
      by_cases e : x.1 / 8 = k
      · subst e
        simp only [hk, and_self, if_true, beq_self_eq_true, Bool.or_true, bne_self_eq_false, Bool.false_or]
        rw [hacc]
        exact merge_cls3 _ _ _ haf
      · have e' : (x.1 / 8 == k) = false := by simpa using e
        have e'' : (x.1 / 8 != k) = true := by simp [bne, e']
        simp only [e, false_and, if_false, e', e'', Bool.or_false, Bool.true_or, Bool.and_true]
        exact hacc

theorem list_len1 {α : Type} (l : List α) (d : α) (h : l.length = 1) : l = [l.getD 0 d] := by
  match l, h with
  | [a], _ => rfl

theorem list_len2 {α : Type} (l : List α) (d : α) (h : l.length = 2) : l = [l.getD 0 d, l.getD 1 d] := by
  match l, h with
  | [a, b], _ => rfl

theorem all_flonum_eq (L : List (Nat × ATy)) (k : Nat) :
    L.all (fun ot => ot.1 / 8 != k || ot.2.isFlonum) = L.all (leafOk (8 * k) (8 * k + 8)) := by
  apply List.all_congr rfl
  intro x
  simp only [leafOk]
  by_cases h : x.1 / 8 = k
  · have h1 : ¬ (x.1 < 8 * k) := by omega
    have h2 : ¬ (8 * k + 8 ≤ x.1) := by omega
    simp [h, h1, h2]
  · have : x.1 < 8 * k ∨ 8 * k + 8 ≤ x.1 := by omega
    have h' : (x.1 / 8 != k) = true := by simp [bne, h]
    rcases this with h1 | h2
    · simp [h', h1]
    · simp [h', h2]

theorem any_eq_not_all (L : List (Nat × ATy)) (k : Nat) :
    L.any (fun ot => ot.1 / 8 == k) = !(L.all (fun ot => ot.1 / 8 != k)) := by
  induction L with
  | nil => rfl
  | cons x xs ih => simp only [List.any_cons, List.all_cons, ih, Bool.not_and, bne, Bool.not_not]

theorem merged_getD (ty : ATy) (n k : Nat) (hk : k < n)
    (hld : (leaves ty 0).any (fun ot => isLdbl ot.2) = false)
    (hne : eightbyteEmpty ty k = false) :
    (foldClasses (leaves ty 0) (List.replicate n Class.noClass)).getD k .noClass = flonumClass ty k := by
  have hsc : ∀ x ∈ leaves ty 0, isScalar x.2 = true ∧ isLdbl x.2 = false := by
    intro x hx
    refine ⟨leaves_scalar ty 0 x hx, ?_⟩
    rw [List.any_eq_false] at hld
    simpa using hld x hx
  have := foldClasses_getD k (leaves ty 0) (List.replicate n Class.noClass) false true hsc (fun _ => rfl) (by simpa using hk)
    (by simp [cls3, List.getD_eq_getElem?_getD, hk])
  rw [this]
  simp only [Bool.false_or, Bool.true_and]
  rw [any_eq_not_all]
  simp only [eightbyteEmpty] at hne
  rw [hne, all_flonum_eq, ← hasFlonum_leaves]
  simp [cls3, flonumClass]

theorem tyOk_agg {u : Bool} {sz al : Nat} {ms : Members} (h : tyOk (.agg u sz al ms) = true) (h16 : sz ≤ 16)
    (hpos : 0 < sz) :
    hasUnaligned (.agg u sz al ms) = false ∧
    (leaves (.agg u sz al ms) 0).any (fun ot => isLdbl ot.2) = false ∧
    eightbyteEmpty (.agg u sz al ms) 0 = false ∧ (sz > 8 → eightbyteEmpty (.agg u sz al ms) 1 = false) := by
  simp only [tyOk, ldblInSmallAgg, packedUnaligned, paddingEightbyte, ATy.isAgg, ATy.size, h16, hpos, decide_true,
    Bool.true_and, Bool.and_eq_true, Bool.not_eq_true', Bool.or_eq_false_iff] at h
  exact ⟨h.1.2, h.1.1, h.2.1, fun h8 => by simpa only [h8, decide_true, Bool.true_and] using h.2.2⟩

theorem classify_small {u : Bool} {sz al : Nat} {ms : Members} (hok : tyOk (.agg u sz al ms) = true) (h16 : sz ≤ 16)
    (hpos0 : 0 < sz) :
    classify (.agg u sz al ms) =
      if sz > 8 then [flonumClass (.agg u sz al ms) 0, flonumClass (.agg u sz al ms) 1]
      else [flonumClass (.agg u sz al ms) 0] := by
  obtain ⟨hu, hl, he0, he1⟩ := tyOk_agg hok h16 hpos0
  have h64 : ¬ sz > 64 := by omega
  have h16' : ¬ sz > 16 := by omega
  simp only [classify, ATy.size, h64, hu, false_or, Bool.false_eq_true, if_false]
  change postMerger (foldClasses (leaves (.agg u sz al ms) 0) (List.replicate (eightbytes sz) Class.noClass)) sz = _
  have hlen := (foldClasses_replicate (leaves (.agg u sz al ms) 0) (eightbytes sz)).1
  by_cases h8 : sz > 8
  · have hn : eightbytes sz = 2 := by unfold eightbytes; omega
    rw [hn] at hlen ⊢
    rw [list_len2 _ Class.noClass hlen, merged_getD _ 2 0 (by omega) hl he0, merged_getD _ 2 1 (by omega) hl (he1 h8)]
    simp only [h8, if_true, flonumClass]
    split <;> split <;> simp [postMerger, x87upOk, h16']
  · have hn : eightbytes sz = 1 := by unfold eightbytes; omega
    rw [hn] at hlen ⊢
    rw [list_len1 _ Class.noClass hlen, merged_getD _ 1 0 (by omega) hl he0]
    simp only [h8, if_false, flonumClass]
    split <;> simp [postMerger, x87upOk, h16']

/-- the GNU empty struct: no eightbyte, no class, passed and returned in nothing (what gcc and clang do in C) -/
theorem classify_empty {u : Bool} {al : Nat} {ms : Members} (hok : tyOk (.agg u 0 al ms) = true) :
    classify (.agg u 0 al ms) = [] := by
  have hu : hasUnaligned (.agg u 0 al ms) = false := by
    simp only [tyOk, Bool.and_eq_true, Bool.not_eq_true'] at hok
    have := hok.1.2
    simpa [packedUnaligned, ATy.isAgg, ATy.size] using this
  simp only [classify, ATy.size, hu]
  change (if (0 > 64 ∨ false = true) then [Class.memory]
    else postMerger (foldClasses (leaves (.agg u 0 al ms) 0) (List.replicate (eightbytes 0) Class.noClass)) 0) = _
  rw [List.eq_nil_of_length_eq_zero (foldClasses_replicate (leaves (.agg u 0 al ms) 0) (eightbytes 0)).1]
  simp [postMerger, x87upOk]

theorem classify_big {u : Bool} {sz al : Nat} {ms : Members} (h : sz > 16) : classify (.agg u sz al ms) = [.memory] := by
  have hsz : (ATy.agg u sz al ms).size = sz := rfl
  simp only [classify]
  by_cases hc : (ATy.agg u sz al ms).size > 64 ∨ hasUnaligned (ATy.agg u sz al ms) = true
  · rw [if_pos hc]
  · rw [if_neg hc, hsz]
    change postMerger (foldClasses (leaves (.agg u sz al ms) 0) (List.replicate (eightbytes sz) Class.noClass)) sz = _
    obtain ⟨hlen, hns⟩ := foldClasses_replicate (leaves (.agg u sz al ms) 0) (eightbytes sz)
    generalize foldClasses (leaves (.agg u sz al ms) 0) (List.replicate (eightbytes sz) Class.noClass) = cs at *
    have hn : 3 ≤ cs.length := by rw [hlen]; unfold eightbytes; omega
    have hdrop : (cs.drop 1).all (· == Class.sseup) = false := by
      match cs, hn, hns with
      | a :: b :: rest, _, hns =>
        have : b ≠ Class.sseup := hns b (by simp)
        simp [this]
    simp only [postMerger, h, hdrop, true_and]
    split
    · rfl
    · split
      · rfl
      · simp

/-- **outside the known-finding regions the psABI's classes of a type are chibicc's** -/
theorem classify_eq (t : ATy) (hok : tyOk t = true) : classify t = chibiClasses t := by
  cases t with
  | agg u sz al ms =>
    simp only [chibiClasses, smallClasses, ATy.size]
    by_cases h16 : sz ≤ 16
    · by_cases hz : sz = 0
      · subst hz; exact classify_empty hok
      · simp only [h16, hz, if_true, if_false]; exact classify_small hok h16 (by omega)
    · simp only [h16, if_false]; exact classify_big (by omega)
  | arr e n => simp [tyOk] at hok
  | _ => rfl

def onStack (st : Nat × Nat × Nat) (ty : ATy) : (Nat × Nat × Nat) × ArgLoc :=
  ((st.1, st.2.1, roundUp st.2.2 (max 8 ty.align) + roundUp ty.size 8), .stack (roundUp st.2.2 (max 8 ty.align)))

theorem assignStep_alloc (st : Nat × Nat × Nat) (t : ATy) :
    assignStep st t = match alloc (classify t) st.1 st.2.1 with
      | some (g, f, ps) => ((g, f, st.2.2), .regs ps)
      | none => onStack st t := by
  obtain ⟨g, f, stk⟩ := st
  simp only [assignStep, alloc]
  split <;> rfl

theorem onStack_eq (g f off : Nat) (ty : ATy) (slots : Nat)
    (hp : ∀ o, (onStack (g, f, off) ty).2 = .stack o → o = off) (hs : (ty.size + 7) / 8 = slots) :
    onStack (g, f, off) ty = ((g, f, off + 8 * slots), .stack off) := by
  simp only [onStack] at hp ⊢
  rw [hp _ rfl, ← hs]
  simp only [roundUp, Prod.mk.injEq, and_true, true_and]
  omega

theorem abi_step (t : ATy) (st : Nat × Nat × Nat) (hsz : aggSizeOk t = true) (hcls : classify t = chibiClasses t)
    (hpad : ∀ o, (assignStep st t).2 = .stack o → o = st.2.2) :
    assignStep st t = refStep st t := by
  rw [assignStep_alloc, hcls] at hpad ⊢
  rw [refStep]
  cases h : alloc (chibiClasses t) st.1 st.2.1 with
  | some r => rfl
  | none =>
    rw [h] at hpad
    exact onStack_eq _ _ _ _ _ hpad (slots_eq t hsz)

theorem assignLoop_cons (st : Nat × Nat × Nat) (t : ATy) (ts : List ATy) :
    assignLoop st (t :: ts) = ((assignLoop (assignStep st t).1 ts).1, (assignStep st t).2 :: (assignLoop (assignStep st t).1 ts).2) := rfl

theorem stackPadLoop_cons (st : Nat × Nat × Nat) (t : ATy) (ts : List ATy) :
    stackPadLoop st (t :: ts) =
      ((match (assignStep st t).2 with
        | .stack off => decide (off ≠ st.2.2)
        | _ => false) || stackPadLoop (assignStep st t).1 ts) := rfl

/-- **induction on the argument list with the (gp, fp, stack) counters as invariant**: on a signature whose types chibicc
    classifies as the psABI does and whose stack arguments need no padding, chibicc's pass is the psABI's, argument by
    argument and counter by counter -/
theorem abi_loop (ts : List ATy) : ∀ (st : Nat × Nat × Nat), ts.all aggSizeOk = true →
    (∀ t ∈ ts, classify t = chibiClasses t) → stackPadLoop st ts = false → assignLoop st ts = refLoop st ts := by
  induction ts with
  | nil => intro _ _ _ _; rfl
  | cons t ts ih =>
    intro st hsz hcls hpad
    simp only [List.all_cons, Bool.and_eq_true] at hsz
    rw [stackPadLoop_cons, Bool.or_eq_false_iff] at hpad
    have hstep := abi_step t st hsz.1 (hcls t List.mem_cons_self)
      (fun o ho => by have h1 := hpad.1; rw [ho] at h1; simpa using h1)
    rw [assignLoop_cons, refLoop_cons, hstep, ih _ hsz.2 (fun x hx => hcls x (List.mem_cons_of_mem _ hx)) (hstep ▸ hpad.2)]

theorem retInMemory_eq (r : Option ATy) (h : retOk r = true) : retInMemory r = retLarge r := by
  cases r with
  | none => rfl
  | some t => rw [retInMemory, classify_eq t h, chibiClasses_memory]

/-- `abi_loop` from the state both sides start in: rdi is taken exactly when the return value is of class MEMORY -/
theorem abi_loop_start (r : Option ATy) (ts : List ATy) (hret : retOk r = true) (hsz : ts.all aggSizeOk = true)
    (hty : ts.all tyOk = true) (hpad : stackPadLoop ((if retInMemory r then 1 else 0), 0, 0) ts = false) :
    assignLoop ((if retInMemory r then 1 else 0), 0, 0) ts = refLoop (b2n (retLarge r), 0, 0) ts := by
  rw [abi_loop ts _ hsz (fun t ht => classify_eq t (List.all_eq_true.1 hty t ht)) hpad, retInMemory_eq r hret]; rfl

theorem ret_abi (r : Option ATy) (h : retOk r = true) (hsz : ∀ t, r = some t → aggSizeOk t = true) :
    retCaller r = .ok (Spec.PsABI.ret r) ∧ retCallee r = .ok (Spec.PsABI.ret r) := by
  cases r with
  | none => exact ⟨rfl, rfl⟩
  | some t => rw [ret_retOf, classify_eq t h]; exact ret_chibi t (hsz t rfl)

end ChibiVerif.CallConv
