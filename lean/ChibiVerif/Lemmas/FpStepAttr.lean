/-
The simp sets of the C02 proofs: `fp_step`, the rewrite rules that run instructions of Model/FpMachine on a symbolic state
(Lemmas/FpStepLemmas); `x86_norm` and `mem_norm`, which read the result of an evaluated run (Lemmas/FpStepLemmas,
Lemmas/FpCellLemmas).
-/
import Lean.Meta.Tactic.Simp.RegisterCommand
import Lean.Meta.Tactic.Simp.BuiltinSimprocs

/-- equations of `Fp.step` per mnemonic, decoded integer instructions, flags and registers through the state updates:
    `simp only [fp_step]` runs a closed instruction list on a symbolic state -/
register_simp_attr fp_step

/-- reads of registers and of a scratch slot pushed through the writes of a cell (same register / same address) -/
register_simp_attr x86_norm

/-- every read and write unfolded to bytes, and the address comparisons `a + k₁ = a + k₂` decided on the offsets: reads
    and writes at different constant offsets from one base -/
register_simp_attr mem_norm
