/-
C09 — `fix:` 5a15c0f of /repo (placemarkers in `subst`) is conservative: on every replacement list / argument list with
`hasPlacemarkerChain args body = false` (no four consecutive tokens `p ## q ##` with both arguments empty) `subst` and the `subst`
before that commit (`substOld`, Lemmas/C09Placemarker.lean) are the same function — same tokens with the same flags, same
diagnostics, same state — for every lexer, every pre-expander, object-like and function-like, `__VA_OPT__` contents included:
`skipEmptyOperands` leaves its arguments alone unless it stands on `p ## q ##` with both empty.  Both loops are iterations of
the same turn (Lemmas/C09Step.lean) with different operand loops.
-/
import ChibiVerif.Model.PP
import ChibiVerif.Lemmas.PPLemmas
import ChibiVerif.Lemmas.C09Placemarker

namespace ChibiVerif.PP

theorem chain_tail {args : List MacroArg} {t : Tok} {r : List Tok}
    (h : hasPlacemarkerChain args (t :: r) = false) : hasPlacemarkerChain args r = false := by
  simp only [hasPlacemarkerChain, Bool.or_eq_false_iff] at h; exact h.2

theorem chain_congr {args args' : List MacroArg} (h : ∀ t, emptyParam args t = emptyParam args' t) :
    ∀ body : List Tok, hasPlacemarkerChain args body = hasPlacemarkerChain args' body := by
  intro body
  induction body with
  | nil => rfl
  | cons p tl ih =>
    simp only [hasPlacemarkerChain, ih]
    congr 1
    split <;> simp [h]

theorem chain_setExpanded (args : List MacroArg) (n : String) (e : List Tok) (body : List Tok) :
    hasPlacemarkerChain (setExpanded args n e) body = hasPlacemarkerChain args body :=
  chain_congr (emptyParam_core (setExpanded_core args n e)) body

/-- a window of the prefix is a window of the whole list -/
theorem chain_prefix {args : List MacroArg} : ∀ {a b : List Tok},
    hasPlacemarkerChain args (a ++ b) = false → hasPlacemarkerChain args a = false := by
  intro a
  induction a with
  | nil => intro b _; rfl
  | cons p tl ih =>
    intro b h
    simp only [List.cons_append, hasPlacemarkerChain, Bool.or_eq_false_iff] at h ⊢
    refine ⟨?_, ih h.2⟩
    rcases tl with _ | ⟨h1, _ | ⟨q, _ | ⟨h2, r⟩⟩⟩
    · rfl
    · rfl
    · rfl
    · simpa using h.1

theorem chain_suffix {args : List MacroArg} {a b : List Tok} (hs : b <:+ a) (h : hasPlacemarkerChain args a = false) :
    hasPlacemarkerChain args b = false := by
  obtain ⟨p, rfl⟩ := hs
  induction p with
  | nil => exact h
  | cons t p ih => exact ih (chain_tail h)

theorem skip_stays {args : List MacroArg} {tok rhs : Tok} {rest rest3 : List Tok} {a : MacroArg}
    (hchain : hasPlacemarkerChain args (tok :: rest) = false)
    (ha : findArg args (some tok) = some a) (hnil : a.toks = []) (hnx : textIs rest.head? "##" = true)
    (hd : rest.drop 1 = rhs :: rest3) : skipEmptyOperands args rhs rest3 = (rhs, rest3) := by
  obtain ⟨hh, rfl⟩ : ∃ hh, rest = hh :: rhs :: rest3 := by
    cases rest with
    | nil => simp at hd
    | cons hh r => exact ⟨hh, by simpa using hd⟩
  have hhh : hh.text = "##" := by simpa [textIs] using hnx
  have hemp : emptyParam args tok = true := by simp [emptyParam, ha, hnil]
  rcases rest3 with _ | ⟨h2, _ | ⟨q, r⟩⟩
  · exact skipEmptyOperands_stop (Or.inr (Or.inr (by simp)))
  · exact skipEmptyOperands_stop (Or.inr (Or.inr (by simp)))
  · simp only [hasPlacemarkerChain, Bool.or_eq_false_iff, hemp, hhh, beq_self_eq_true, Bool.true_and] at hchain
    have h1 := hchain.1
    cases he : emptyParam args rhs with
    | false => exact skipEmptyOperands_stop (Or.inl he)
    | true =>
      rw [he] at h1
      exact skipEmptyOperands_stop (Or.inr (Or.inl (by simpa [textIs] using h1)))

/-- `subst` touches the argument list only through the caches `arg->expanded` -/
theorem substLoop_core (lx : String → LexOne) (pp : PreExpand) {fuel : Nat} {isObj : Bool} {st : St} {args : List MacroArg}
    {body acc out : List Tok} {args' : List MacroArg} {st' : St}
    (h : substLoop lx pp isObj fuel st args body acc = .ok (out, args', st')) : args'.map core = args.map core :=
  substLoop_inv lx pp (fun _ as => as.map core = args.map core)
    (fun _ as a e _ hJ _ _ => (setExpanded_core as a.name e).trans hJ) rfl h

/-- the former loop is the same turn with an operand loop that does not move -/
theorem substLoopOld_succ (lx : String → LexOne) (pp : PreExpand) (isObj : Bool) (n : Nat) (st : St) (args : List MacroArg)
    (tok : Tok) (rest acc : List Tok) :
    substLoopOld lx pp isObj (n + 1) st args (tok :: rest) acc =
      substTurn lx Prod.mk pp (substLoopOld lx pp) n isObj st args tok rest acc :=
  rfl

theorem substLoop_eq_old (lx : String → LexOne) (pp : PreExpand)
    (fuel : Nat) (isObj : Bool) (st : St) (args : List MacroArg) (body acc : List Tok)
    (hchain : hasPlacemarkerChain args body = false) :
    substLoop lx pp isObj fuel st args body acc = substLoopOld lx pp isObj fuel st args body acc := by
  induction fuel generalizing isObj st args body acc with
  | zero => cases body <;> rfl
  | succ n ih =>
    cases body with
    | nil => rfl
    | cons tok rest =>
      have hct := chain_tail hchain
      rw [substLoop_succ, substLoopOld_succ]
      -- the same turn: where the operand loop of `subst` is consulted it does not move either (`skip_stays`)
      refine substArms_rel (R := Eq) (fun _ _ => rfl) ?_ ?_ ?_ (skipEmptyOperands_suffix args)
        fun _ _ _ ha hnil hnx hd => (skip_stays hchain ha hnil hnx hd).symm
      · exact fun r a hr _ => ih _ _ _ _ _ (chain_suffix hr hct)
      · intro a _
        split
        · rfl
        · exact ih _ _ _ _ _ (by rw [chain_setExpanded]; exact hct)
      · -- `__VA_OPT__`: content and rest are windows of the replacement list
        intro c r r0 hc hr
        rw [← ih _ _ _ _ _ (chain_prefix (chain_suffix hc hct))]
        split
        · rfl
        · refine ih _ _ _ _ _ ?_
          rw [chain_congr (emptyParam_core (substLoop_core lx pp ‹_›))]
          exact chain_suffix (hr.trans ((List.suffix_append _ _).trans hc)) hct

theorem subst_eq_old (lx : String → LexOne) (pp : PreExpand) (st : St) (body : List Tok) (args : List MacroArg) (isObj : Bool)
    (h : hasPlacemarkerChain args body = false) : subst lx pp st body args isObj = substOld lx pp st body args isObj := by
  unfold subst substOld
  rw [substLoop_eq_old lx pp _ _ _ _ _ _ h]

end ChibiVerif.PP
