/-
C02 without an `FpuSpec`: the IEEE-754 binary32 / binary64 and x87 double-extended *bit layouts* themselves (Spec/FpuSpec.lean,
namespace `Ieee`: `decode32/64/80`, and the encoders `ofInt32/64/80` that `drv_c02 contract` compares bit for bit with what
`cvtsi2ss/sd` and `fild` produce on the host CPU) satisfy the integer contracts: decoding the encoding of an integer of
magnitude ≤ 2^64 gives that integer rounded to nearest-even to 24 / 53 / 64 significant bits; exactly the integer when it has
that few bits.  Pure `Nat`/`Int` arithmetic over the layouts; no assumption about any FPU.
-/
import ChibiVerif.Lemmas.FpRoundLemmas
namespace ChibiVerif.Spec.Fpu.Ieee
open ChibiVerif.Spec.Fpu

/-- the significand `encodeNat` stores for m ≠ 0: m shifted so that its leading bit is bit t -/
def sigOf (t m : Nat) : Nat :=
  if bitLen m ≤ t + 1 then m * 2 ^ (t + 1 - bitLen m) else m / 2 ^ (bitLen m - (t + 1))

theorem sigOf_bounds (t m : Nat) (hm : m ≠ 0) : 2 ^ t ≤ sigOf t m ∧ sigOf t m < 2 ^ (t + 1) := by
  have h1 := bitLen_pos_le m hm
  have h2 := bitLen_lt' m
  have hb := bitLen_pos m hm
  unfold sigOf
  split
  · rename_i hle
    constructor
    · have : 2 ^ t = 2 ^ (bitLen m - 1) * 2 ^ (t + 1 - bitLen m) := by
        rw [← Nat.pow_add]; congr 1; omega
      rw [this]; exact Nat.mul_le_mul_right _ h1
    · have : 2 ^ (t + 1) = 2 ^ bitLen m * 2 ^ (t + 1 - bitLen m) := by
        rw [← Nat.pow_add]; congr 1; omega
      rw [this]; exact Nat.mul_lt_mul_of_pos_right h2 (Nat.two_pow_pos _)
  · rename_i hgt
    have hk : bitLen m - (t + 1) + (t + 1) = bitLen m := by omega
    constructor
    · have : 2 ^ t = 2 ^ (bitLen m - 1) / 2 ^ (bitLen m - (t + 1)) := by
        rw [Nat.pow_div (by omega) (by omega)]; congr 1; omega
      rw [this]; exact Nat.div_le_div_right h1
    · rw [Nat.div_lt_iff_lt_mul (Nat.two_pow_pos _), ← Nat.pow_add]
      have : t + 1 + (bitLen m - (t + 1)) = bitLen m := by omega
      rw [this]; exact h2

/-- the decoded datum (sign, sigOf, bitLen − 1 − t) denotes ±m when the bits shifted out are zero -/
theorem sigOf_toInt (t m : Nat) (neg : Bool) (hm : m ≠ 0) (hdvd : 2 ^ (bitLen m - (t + 1)) ∣ m) :
    (Val.fin neg (sigOf t m) ((bitLen m : Int) - 1 - t)).toInt? = some (if neg then -(m : Int) else (m : Int)) := by
  have hb := bitLen_pos m hm
  simp only [Val.toInt?, Val.magTrunc]
  by_cases hle : bitLen m ≤ t + 1
  · by_cases heq : bitLen m = t + 1
    · have e0 : ((bitLen m : Int) - 1 - t) = 0 := by omega
      simp [sigOf, heq]
    · have hneg : ¬ (0 ≤ ((bitLen m : Int) - 1 - t)) := by omega
      have hk : (-((bitLen m : Int) - 1 - t)).toNat = t + 1 - bitLen m := by omega
      have hs : sigOf t m = m * 2 ^ (t + 1 - bitLen m) := by simp [sigOf, hle]
      rw [hk, hs, Nat.mul_mod_left]
      simp only [hneg, false_or, if_true, if_false, Nat.mul_div_cancel _ (Nat.two_pow_pos _)]
  · have hpos : 0 ≤ ((bitLen m : Int) - 1 - t) := by omega
    have hk : ((bitLen m : Int) - 1 - t).toNat = bitLen m - (t + 1) := by omega
    have hs : sigOf t m = m / 2 ^ (bitLen m - (t + 1)) := by simp [sigOf, hle]
    simp only [hpos, true_or, if_true, hk, hs, Nat.div_mul_cancel hdvd]


theorem decodeIeee_of_fields (w t B E F : Nat) (neg : Bool) (hex : B / 2 ^ t % 2 ^ w = E) (hfr : B % 2 ^ t = F)
    (hsg : decide (B / 2 ^ (t + w) % 2 = 1) = neg) (hE0 : E ≠ 0) (hE1 : E ≠ 2 ^ w - 1) :
    decodeIeee w t B = .fin neg (2 ^ t + F) ((E : Int) - ((2 : Int) ^ (w - 1) - 1) - t) := by
  simp only [decodeIeee, hex, hfr, hsg, hE0, hE1, if_false]

theorem decode_fields (w t : Nat) (neg : Bool) (E F : Nat) (hE : 0 < E) (hE2 : E < 2 ^ w - 1) (hF : F < 2 ^ t) :
    decodeIeee w t ((if neg then 2 ^ (w + t) else 0) + E * 2 ^ t + F) =
      .fin neg (2 ^ t + F) ((E : Int) - ((2 : Int) ^ (w - 1) - 1) - t) := by
  obtain ⟨_, f1, _, f2, f3⟩ := fields_of_code t w neg E F _ rfl hF (by omega)
  exact decodeIeee_of_fields w t _ E F neg f2 f1 f3 (by omega) (by omega)

theorem decode80_of_fields (neg : Bool) (E S : Nat) (hE : 0 < E) (hE2 : E < 32767) (hS1 : 2 ^ 63 ≤ S) (hS2 : S < 2 ^ 64) :
    decode80 (BitVec.ofNat 80 ((if neg then 2 ^ 79 else 0) + E * 2 ^ 64 + S)) = .fin neg S ((E : Int) - 16383 - 63) := by
  generalize hB : (if neg then 2 ^ 79 else 0) + E * 2 ^ 64 + S = B
  obtain ⟨hlt, h1, _, h2, h3⟩ := fields_of_code 64 15 neg E S B hB.symm hS2 (by omega)
  simp only [Nat.reduceAdd] at hlt h3
  have hE' : E ≠ 32767 := by omega
  have hE0 : E ≠ 0 := by omega
  have hS : ¬ S < 2 ^ 63 := by omega
  simp only [decode80, BitVec.toNat_ofNat, Nat.mod_eq_of_lt hlt, h1, h2, h3, hE', hE0, hS, if_false]

/-- the rounded integer has no non-zero bit below its top `p` bits -/
theorem roundNat_dvd (p k : Nat) (hp : 1 ≤ p) : 2 ^ (bitLen (roundNat p k) - p) ∣ roundNat p k := by
  have hq := roundQS_fst_le p k
  unfold roundNat
  generalize (roundQS p k).1 = q at *
  generalize (roundQS p k).2 = s at *
  by_cases h0 : q = 0
  · subst h0; simp
  rw [bitLen_mul_pow q s h0]
  exact pow_dvd_of_le_pow p q s hp hq h0

theorem toInt_zero (neg : Bool) (e : Int) : (Val.fin neg 0 e).toInt? = some (if neg = true then -((0 : Nat) : Int) else ((0 : Nat) : Int)) := by
  cases neg <;> simp [Val.toInt?, Val.magTrunc]

theorem decode_encodeNat (w t : Nat) (neg : Bool) (m : Nat) (hw : 2 ≤ w) (hl : bitLen m ≤ 2 ^ (w - 1))
    (hdvd : 2 ^ (bitLen m - (t + 1)) ∣ m) :
    encodeNat w t neg m < 2 ^ (t + w + 1) ∧
      (decodeIeee w t (encodeNat w t neg m)).toInt? = some (if neg then -(m : Int) else (m : Int)) := by
  have hw1 : 2 ^ 1 ≤ 2 ^ (w - 1) := Nat.pow_le_pow_right (by omega) (by omega)
  have hw2 : 2 ^ w = 2 * 2 ^ (w - 1) := by rw [← Nat.pow_succ']; congr 1; omega
  simp only [encodeNat]
  by_cases h0 : m = 0
  · subst h0
    obtain ⟨hlt, f1, _, f2, f3⟩ := fields_of_code t w neg 0 0 (if neg then 2 ^ (w + t) else 0) (by simp)
      (Nat.two_pow_pos t) (Nat.two_pow_pos w)
    have hne : ¬ (0 = 2 ^ w - 1) := by omega
    simp only [if_true, decodeIeee, f1, f2, f3, if_neg hne]
    exact ⟨hlt, toInt_zero neg _⟩
  · have hb := bitLen_pos m h0
    obtain ⟨s1, s2⟩ := sigOf_bounds t m h0
    rw [Nat.pow_succ] at s2
    have hsig : (if bitLen m ≤ t + 1 then m * 2 ^ (t + 1 - bitLen m) else m / 2 ^ (bitLen m - (t + 1))) = sigOf t m := rfl
    simp only [h0, if_false, hsig]
    refine ⟨(fields_of_code t w neg _ _ _ rfl (by omega) (by omega)).1, ?_⟩
    rw [decode_fields w t neg _ _ (by omega) (by omega) (by omega)]
    have e1 : 2 ^ t + (sigOf t m - 2 ^ t) = sigOf t m := by omega
    have e2 : (((bitLen m - 1 + (2 ^ (w - 1) - 1) : Nat) : Int) - ((2 : Int) ^ (w - 1) - 1) - t) = (bitLen m : Int) - 1 - t := by
      have hc : ((2 ^ (w - 1) : Nat) : Int) = (2 : Int) ^ (w - 1) := Int.natCast_pow 2 (w - 1)
      omega
    rw [e1, e2]
    exact sigOf_toInt t m neg h0 hdvd

theorem decode_ofInt32 (n : Int) (h : n.natAbs ≤ 2 ^ 64) : (decode32 (ofInt32 n)).toInt? = some (roundInt 24 n) := by
  have hm := roundNat_le64 24 n.natAbs (by decide) (by decide) h
  have hl := bitLen_le_of_lt _ 65 (show roundNat 24 n.natAbs < 2 ^ 65 by omega)
  obtain ⟨hlt, hd⟩ := decode_encodeNat 8 23 (decide (n < 0)) _ (by decide) (by omega) (roundNat_dvd 24 n.natAbs (by decide))
  rw [roundInt_of_nat, decode32, ofInt32, BitVec.toNat_ofNat, Nat.mod_eq_of_lt hlt, hd]

theorem decode_ofInt64 (n : Int) (h : n.natAbs ≤ 2 ^ 64) : (decode64 (ofInt64 n)).toInt? = some (roundInt 53 n) := by
  have hm := roundNat_le64 53 n.natAbs (by decide) (by decide) h
  have hl := bitLen_le_of_lt _ 65 (show roundNat 53 n.natAbs < 2 ^ 65 by omega)
  obtain ⟨hlt, hd⟩ := decode_encodeNat 11 52 (decide (n < 0)) _ (by decide) (by omega) (roundNat_dvd 53 n.natAbs (by decide))
  rw [roundInt_of_nat, decode64, ofInt64, BitVec.toNat_ofNat, Nat.mod_eq_of_lt hlt, hd]

theorem decode_ofInt80 (n : Int) (h : n.natAbs ≤ 2 ^ 64) : (decode80 (ofInt80 n)).toInt? = some (roundInt 64 n) := by
  have hm := roundNat_le64 64 n.natAbs (by decide) (by decide) h
  have hdvd := roundNat_dvd 64 n.natAbs (by decide)
  rw [roundInt_of_nat]
  simp only [ofInt80, encodeNat80]
  generalize roundNat 64 n.natAbs = m at *
  generalize decide (n < 0) = neg
  by_cases h0 : m = 0
  · subst h0
    have : decode80 (BitVec.ofNat 80 (if neg = true then 2 ^ 79 else 0)) = .fin neg 0 (1 - 16383 - 63) := by
      cases neg <;> simp [decode80]
    simp only [if_true, this]
    exact toInt_zero neg _
  · have hl := bitLen_le_of_lt m 65 (by omega)
    have hb := bitLen_pos m h0
    obtain ⟨s1, s2⟩ := sigOf_bounds 63 m h0
    have hsig : (if bitLen m ≤ 64 then m * 2 ^ (64 - bitLen m) else m / 2 ^ (bitLen m - 64)) = sigOf 63 m := rfl
    simp only [h0, if_false, hsig]
    rw [decode80_of_fields neg _ _ (by omega) (by omega) s1 s2]
    have e2 : (((bitLen m - 1 + 16383 : Nat) : Int) - 16383 - 63) = (bitLen m : Int) - 1 - (63 : Nat) := by omega
    rw [e2]
    exact sigOf_toInt 63 m neg h0 hdvd


/-- `cvtt*2si` / `fistp` of a datum that denotes an integer in range returns that integer -/
theorem truncTo_of_toInt (w : Nat) (v : Val) (i : Int) (h : v.toInt? = some i)
    (lo : -(2 ^ (w - 1) : Int) ≤ i) (hi : i < 2 ^ (w - 1)) : truncTo w v = BitVec.ofInt w i :=
  truncTo_fit w v i (Val.toInt_trunc h) lo hi

end ChibiVerif.Spec.Fpu.Ieee
