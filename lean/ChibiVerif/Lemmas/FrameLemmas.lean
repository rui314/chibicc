/-
Helper lemmas for the frame family of C04: `align_to` rounds up to a multiple; invariants of the two loops of
assign_lvar_offsets (`assignParams_spec`, `assignLocals_spec`), by induction over the variable lists; what `%rbp ≡ 0 (mod 16)`
and an offset that is a multiple of the alignment give for the address (`addr_aligned`); the slots next to their variables
(`frame_zip`).
-/
import ChibiVerif.Model.Frame
namespace ChibiVerif.Frame
open ChibiVerif.Gen.C04
open ChibiVerif.Gen.Declspec (alignTo)

theorem alignTo_spec (n a : Int) (hn : 0 ≤ n) (ha : 0 < a) :
    n ≤ alignTo n a ∧ alignTo n a < n + a ∧ alignTo n a % a = 0 := by
  unfold alignTo
  have h0 : 0 ≤ n + a - 1 := by omega
  rw [Int.tdiv_eq_ediv_of_nonneg h0]
  have h1 := Int.mul_ediv_add_emod (n + a - 1) a
  have h2 := Int.emod_nonneg (n + a - 1) (by omega : a ≠ 0)
  have h3 := Int.emod_lt_of_pos (n + a - 1) ha
  have h4 : (n + a - 1) / a * a = a * ((n + a - 1) / a) := Int.mul_comm _ _
  refine ⟨by omega, by omega, ?_⟩
  exact Int.mul_emod_left _ _

theorem localAlign_pos (isArray : Bool) (size align : Int) (ha : 0 < align) : 0 < localAlign isArray size align := by
  unfold localAlign; split <;> omega

theorem localAlign_ge (isArray : Bool) (size align : Int) : align ≤ localAlign isArray size align := by
  unfold localAlign; split <;> omega


/-- hypotheses on the input of the second loop, a list of `(var, var->offset)` where the offset is what the first loop left:
    non-zero exactly for the parameters passed on the stack (already placed at `rbp + offset`), 0 for everything the second
    loop has to place.  What the first loop established for the stack parameters: -/
structure StackOK (l : List (Var × Int)) : Prop where
  wf : ∀ e ∈ l, 0 ≤ e.1.size ∧ 0 < e.1.align
  ge : ∀ e ∈ l, e.2 ≠ 0 → 16 ≤ e.2 ∧ e.2 % 8 = 0
  ord : l.Pairwise fun a b => a.2 ≠ 0 → b.2 ≠ 0 → a.2 + a.1.size ≤ b.2

theorem StackOK.tail {e : Var × Int} {l : List (Var × Int)} (h : StackOK (e :: l)) : StackOK l :=
  ⟨fun x hx => h.wf x (List.mem_cons_of_mem _ hx), fun x hx => h.ge x (List.mem_cons_of_mem _ hx), (List.pairwise_cons.mp h.ord).2⟩

/-- the second loop of assign_lvar_offsets: `bottom` only grows; all slots are pairwise disjoint; a stack parameter keeps its
    offset (≥ 16, a multiple of 8); an object placed in the frame lies in `[-bottom', -b0)` at a multiple of its alignment -/
theorem assignLocals_spec : ∀ (l : List (Var × Int)) (b0 : Int), 0 ≤ b0 → StackOK l →
    b0 ≤ (assignLocals b0 l).2 ∧
    (slotsOf l (assignLocals b0 l).1).Pairwise Slot.Disjoint ∧
    ∀ s ∈ slotsOf l (assignLocals b0 l).1,
      (s.stack = true → 16 ≤ s.off ∧ s.off % 8 = 0 ∧ ∃ e ∈ l, e.2 ≠ 0 ∧ e.2 = s.off ∧ e.1.size = s.size) ∧
      (s.stack = false → -(assignLocals b0 l).2 ≤ s.off ∧ s.off + s.size ≤ -b0 ∧ s.off % s.align = 0 ∧ 0 ≤ s.size) := by
  intro l
  induction l with
  | nil => intro b0 _ _; simp [assignLocals, slotsOf]
  | cons e l ih =>
    intro b0 hb0 hok
    obtain ⟨v, off⟩ := e
    have hv : 0 ≤ v.size ∧ 0 < v.align := hok.wf (v, off) List.mem_cons_self
    by_cases hoff : off ≠ 0
    · -- stack parameter: passes through
      have hge := hok.ge (v, off) List.mem_cons_self hoff
      obtain ⟨ih1, ih2, ih3⟩ := ih b0 hb0 hok.tail
      have hord := (List.pairwise_cons.mp hok.ord).1
      simp only [assignLocals, hoff, if_true, slotsOf, ne_eq, not_false_eq_true, decide_true]
      refine ⟨ih1, List.pairwise_cons.mpr ⟨?_, ih2⟩, ?_⟩
      · intro s hs
        obtain ⟨hst, hfr⟩ := ih3 s hs
        cases hs' : s.stack
        · obtain ⟨_, h2, _, _⟩ := hfr hs'
          right; simp only; omega
        · obtain ⟨_, _, e', he', hne, heq, hsz⟩ := hst hs'
          have := hord e' he' hoff hne
          left; simp only at this ⊢; omega
      · intro s hs
        rcases List.mem_cons.mp hs with rfl | hs
        · simp only [true_implies, Bool.true_eq_false, false_implies, and_true]
          exact ⟨hge.1, hge.2, (v, off), List.mem_cons_self, hoff, rfl, rfl⟩
        · obtain ⟨hst, hfr⟩ := ih3 s hs
          refine ⟨fun h => ?_, hfr⟩
          obtain ⟨a, b, e', he', r⟩ := hst h
          exact ⟨a, b, e', List.mem_cons_of_mem _ he', r⟩
    · -- placed in the frame
      have hoff0 : off = 0 := by omega
      subst hoff0
      have hal := localAlign_pos v.isArray v.size v.align hv.2
      obtain ⟨a1, a2, a3⟩ := alignTo_spec (b0 + v.size) (localAlign v.isArray v.size v.align) (by omega) hal
      have hb : 0 ≤ localBottom b0 v.size (localAlign v.isArray v.size v.align) := by unfold localBottom; omega
      obtain ⟨ih1, ih2, ih3⟩ := ih _ hb hok.tail
      simp only [assignLocals, ne_eq, not_true_eq_false, if_false, slotsOf, decide_false]
      unfold localBottom at ih1 ih2 ih3 hb ⊢
      refine ⟨by omega, List.pairwise_cons.mpr ⟨?_, ih2⟩, ?_⟩
      · intro s hs
        obtain ⟨hst, hfr⟩ := ih3 s hs
        cases hs' : s.stack
        · obtain ⟨_, h2, _, _⟩ := hfr hs'
          right; simp only; omega
        · obtain ⟨h16, _⟩ := hst hs'
          left; simp only; omega
      · intro s hs
        rcases List.mem_cons.mp hs with rfl | hs
        · simp only [Bool.false_eq_true, false_implies, true_implies, true_and]
          refine ⟨by omega, by omega, ?_, hv.1⟩
          simp only [Var.frameAlign]
          exact Int.emod_eq_zero_of_dvd (Int.dvd_neg.mpr (Int.dvd_of_emod_eq_zero a3))
        · obtain ⟨hst, hfr⟩ := ih3 s hs
          refine ⟨fun h => ?_, fun h => ?_⟩
          · obtain ⟨a, b, e', he', r⟩ := hst h
            exact ⟨a, b, e', List.mem_cons_of_mem _ he', r⟩
          · obtain ⟨c1, c2, c3, c4⟩ := hfr h
            exact ⟨c1, by omega, c3, c4⟩


/-- the first loop of assign_lvar_offsets: `top` only grows; only the `byStack` parameters get a (non-zero) offset, a
    multiple of 8 at or above `top`, in ascending non-overlapping order -/
theorem assignParams_spec : ∀ (ps : List Var) (top : Int), 0 ≤ top → (∀ v ∈ ps, 0 ≤ v.size ∧ 0 < v.align) →
    top ≤ (assignParams top ps).2 ∧
    (ps.zip (assignParams top ps).1).length = ps.length ∧
    (∀ e ∈ ps.zip (assignParams top ps).1,
      (e.2 ≠ 0 → top ≤ e.2 ∧ e.2 % 8 = 0 ∧ e.2 + e.1.size ≤ (assignParams top ps).2 ∧ e.1.byStack = true) ∧
      (e.1.byStack = false → e.2 = 0)) ∧
    (ps.zip (assignParams top ps).1).Pairwise fun a b => a.2 ≠ 0 → b.2 ≠ 0 → a.2 + a.1.size ≤ b.2 := by
  intro ps
  induction ps with
  | nil => intro top _ _; simp [assignParams]
  | cons v ps ih =>
    intro top htop hwf
    have hv := hwf v List.mem_cons_self
    have hwf' : ∀ x ∈ ps, 0 ≤ x.size ∧ 0 < x.align := fun x hx => hwf x (List.mem_cons_of_mem _ hx)
    cases hbs : v.byStack
    · obtain ⟨i1, i2, i3, i4⟩ := ih top htop hwf'
      simp only [assignParams, hbs, Bool.false_eq_true, if_false, List.zip_cons_cons, List.length_cons]
      refine ⟨i1, by omega, ?_, List.pairwise_cons.mpr ⟨fun b _ h => absurd rfl h, i4⟩⟩
      intro e he
      rcases List.mem_cons.mp he with rfl | he
      · simp
      · exact i3 e he
    · obtain ⟨a1, a2, a3⟩ := alignTo_spec top 8 htop (by decide)
      have ht' : 0 ≤ stackParamOffset top + v.size := by unfold stackParamOffset; omega
      obtain ⟨i1, i2, i3, i4⟩ := ih _ ht' hwf'
      simp only [assignParams, hbs, if_true, List.zip_cons_cons, List.length_cons]
      unfold stackParamOffset at i1 i2 i3 i4 ht' ⊢
      refine ⟨by omega, by omega, ?_, List.pairwise_cons.mpr ⟨?_, i4⟩⟩
      · intro e he
        rcases List.mem_cons.mp he with rfl | he
        · simp only [hbs, Bool.true_eq_false, false_implies, and_true]
          intro _
          exact ⟨by omega, a3, by omega⟩
        · obtain ⟨j1, j2⟩ := i3 e he
          refine ⟨fun h => ?_, j2⟩
          obtain ⟨k1, k2, k3, k4⟩ := j1 h
          exact ⟨by omega, k2, k3, k4⟩
      · intro e he _ hne
        obtain ⟨j1, _⟩ := i3 e he
        obtain ⟨k1, _⟩ := j1 hne
        simp only; omega

theorem loopInput_ok (body params : List Var) (hwf : ∀ v ∈ body ++ params, 0 ≤ v.size ∧ 0 < v.align) :
    StackOK (loopInput body params) := by
  have hp : ∀ v ∈ params, 0 ≤ v.size ∧ 0 < v.align := fun v hv => hwf v (List.mem_append_right _ hv)
  obtain ⟨p1, p2, p3, p4⟩ := assignParams_spec params FRAME_TOP0 (by decide) hp
  refine ⟨?_, ?_, ?_⟩
  · intro e he
    rcases List.mem_append.mp he with he | he
    · obtain ⟨v, hv, rfl⟩ := List.mem_map.mp he
      exact hwf v (List.mem_append_left _ hv)
    · exact hp e.1 (List.of_mem_zip he).1
  · intro e he hne
    rcases List.mem_append.mp he with he | he
    · obtain ⟨v, hv, rfl⟩ := List.mem_map.mp he
      exact absurd rfl hne
    · obtain ⟨k1, k2, _, _⟩ := (p3 e he).1 hne
      have : FRAME_TOP0 = 16 := rfl
      exact ⟨by omega, k2⟩
  · refine List.pairwise_append.mpr ⟨?_, p4, ?_⟩
    · refine List.Pairwise.imp_of_mem (R := fun _ _ => True) ?_ (List.pairwise_of_forall (fun _ _ => trivial))
      intro a b ha _ _ hne
      obtain ⟨v, _, rfl⟩ := List.mem_map.mp ha
      exact absurd rfl hne
    · intro a ha b _ hne
      obtain ⟨v, _, rfl⟩ := List.mem_map.mp ha
      exact absurd rfl hne


theorem slotsOf_sizes : ∀ (l : List (Var × Int)) (b : Int),
    (slotsOf l (assignLocals b l).1).map (·.size) = l.map (·.1.size) := by
  intro l
  induction l with
  | nil => intro b; simp [slotsOf]
  | cons e l ih =>
    intro b
    obtain ⟨v, off⟩ := e
    by_cases h : off ≠ 0
    · simp [assignLocals, h, slotsOf, ih]
    · have : off = 0 := by omega
      subst this
      simp [assignLocals, slotsOf, ih]

theorem slotsOf_length : ∀ (l : List (Var × Int)) (b : Int), (slotsOf l (assignLocals b l).1).length = l.length := by
  intro l b
  simpa using congrArg List.length (slotsOf_sizes l b)

theorem assignParams_length : ∀ (ps : List Var) (top : Int), (assignParams top ps).1.length = ps.length := by
  intro ps
  induction ps with
  | nil => intro top; simp [assignParams]
  | cons v ps ih => intro top; cases h : v.byStack <;> simp [assignParams, h, ih]

/-- the second loop runs over `fn->locals`: the body's variables, then the parameters -/
theorem loopInput_fst (body params : List Var) : (loopInput body params).map (·.1) = body ++ params := by
  unfold loopInput
  rw [List.map_append, List.map_map, List.map_fst_zip (by rw [assignParams_length]; exact Nat.le_refl _)]
  exact congrArg (· ++ params) (List.map_id' body)

theorem loopInput_sizes (body params : List Var) :
    (loopInput body params).map (·.1.size) = (body ++ params).map (·.size) := by
  rw [← loopInput_fst body params, List.map_map]
  rfl

theorem pow_eq_16_mul (k : Nat) (hk : 4 ≤ k) : ∃ q : Int, 0 < q ∧ (2 : Int) ^ k = 16 * q := by
  obtain ⟨j, rfl⟩ : ∃ j, k = 4 + j := ⟨k - 4, by omega⟩
  exact ⟨2 ^ j, Int.pow_pos (by decide), by rw [Int.pow_add]; rfl⟩

theorem mod16_of_mod_pow (off : Int) (k : Nat) (hk : 4 ≤ k) (h : off % (2 : Int) ^ k = 0) : off % 16 = 0 := by
  obtain ⟨c, hc⟩ := Int.dvd_of_emod_eq_zero h
  obtain ⟨q, _, e⟩ := pow_eq_16_mul k hk
  rw [e, Int.mul_assoc] at hc
  omega

theorem pow_ge_16 (k : Nat) (hk : 4 ≤ k) : (16 : Int) ≤ 2 ^ k := by
  obtain ⟨q, hq, e⟩ := pow_eq_16_mul k hk
  omega

/-- the address `rbp + off` of an object whose offset is a multiple of its alignment `A = 2^k` (or of `max 16 A`, the
    alignment assign_lvar_offsets gives an array of at least 16 bytes) is a multiple of `min A 16` when `%rbp` is a multiple
    of 16 — and of 16 itself for such an array -/
theorem addr_aligned (rbp off A F : Int) (k : Nat) (hA : A = 2 ^ k) (hF : F = A ∨ F = max 16 A) (hrbp : rbp % 16 = 0)
    (hoff : off % F = 0) : (rbp + off) % min A 16 = 0 ∧ (F = max 16 A → (rbp + off) % 16 = 0) := by
  by_cases hk : 4 ≤ k
  · have hge := pow_ge_16 k hk
    have hF' : F = A := by rcases hF with h | h <;> omega
    rw [hF', hA] at hoff
    have h16 := mod16_of_mod_pow off k hk hoff
    have hmin : min A 16 = 16 := by omega
    rw [hmin]
    exact ⟨by omega, fun _ => by omega⟩
  · -- `A` divides 16, hence `%rbp`, and it divides `F`, hence `off`
    have hd : A ∣ 16 := ⟨2 ^ (4 - k), by rw [hA, ← Int.pow_add, show k + (4 - k) = 4 by omega]; rfl⟩
    have hpos : 0 < A := hA ▸ Int.pow_pos (by decide)
    have hle : A ≤ 16 := Int.le_of_dvd (by decide) hd
    have hFA : A ∣ F := by
      rcases hF with h | h
      · exact h ▸ Int.dvd_refl A
      · rw [h, show max 16 A = 16 by omega]; exact hd
    have h1 : A ∣ rbp + off :=
      Int.dvd_add (Int.dvd_trans hd (Int.dvd_of_emod_eq_zero hrbp)) (Int.dvd_trans hFA (Int.dvd_of_emod_eq_zero hoff))
    rw [show min A 16 = A by omega]
    exact ⟨Int.emod_eq_zero_of_dvd h1, fun h => by rw [h, show max 16 A = 16 by omega] at hoff; omega⟩

theorem slotsOf_zip : ∀ (l : List (Var × Int)) (os : List Int), ∀ p ∈ l.zip (slotsOf l os),
    p.2.size = p.1.1.size ∧ p.2.stack = decide (p.1.2 ≠ 0) ∧ p.2.align = (if p.1.2 ≠ 0 then 8 else p.1.1.frameAlign) := by
  intro l
  induction l with
  | nil => intro os p hp; simp at hp
  | cons e l ih =>
    intro os p hp
    obtain ⟨v, off⟩ := e
    cases os with
    | nil => simp [slotsOf] at hp
    | cons o os =>
      simp only [slotsOf, List.zip_cons_cons, List.mem_cons] at hp
      rcases hp with rfl | hp
      · exact ⟨rfl, rfl, rfl⟩
      · exact ih os p hp

/-- the objects of a function's frame paired with their variables, in the order of `fn->locals` -/
theorem frame_zip (body params : List Var) (hwf : ∀ v ∈ body ++ params, 0 ≤ v.size ∧ 0 < v.align) :
    ∀ p ∈ (body ++ params).zip (frameSlots body params),
    p.2 ∈ frameSlots body params ∧ p.2.size = p.1.size ∧
    (p.2.stack = false → p.2.align = p.1.frameAlign) ∧ (p.2.stack = true → p.1.byStack = true) := by
  intro p hp
  rw [← loopInput_fst body params, List.zip_map_left] at hp
  obtain ⟨q, hq, rfl⟩ := List.mem_map.mp hp
  obtain ⟨⟨v, off⟩, sl⟩ := q
  dsimp only [Prod.map, id]
  have hz := slotsOf_zip (loopInput body params) (assignLvarOffsets body params).offsets _ hq
  simp only at hz
  have hmem : sl ∈ frameSlots body params := (List.of_mem_zip hq).2
  have hin : (v, off) ∈ loopInput body params := (List.of_mem_zip hq).1
  refine ⟨hmem, hz.1, ?_, ?_⟩
  · intro hs
    have : ¬ (off ≠ 0) := by
      intro h; rw [hz.2.1] at hs; simp [h] at hs
    rw [hz.2.2, if_neg this]
  · intro hs
    have hoff : off ≠ 0 := by
      intro h; rw [hz.2.1] at hs; simp [h] at hs
    unfold loopInput at hin
    rcases List.mem_append.mp hin with hb | hpz
    · obtain ⟨b, _, hb⟩ := List.mem_map.mp hb
      simp only [Prod.mk.injEq] at hb
      exact absurd hb.2.symm hoff
    · -- a non-zero offset was written by the first loop only for `byStack` parameters
      exact (((assignParams_spec params FRAME_TOP0 (by decide) fun x hx => hwf x (List.mem_append_right _ hx)).2.2.1
        (v, off) hpz).1 hoff).2.2.2

end ChibiVerif.Frame
