/-
C03 × C01: the three counters of `compileF` and the labels it defines (`Comp.facts`); freshness of the labels of a whole
function (`compileFn_fresh`).

`Key c0 c1 u0 u1 l`: the label `l` carries a `count()` number in `[c0, c1)` (the families `.L.else.` `.L.end.` `.L.false.`
`.L.true.` `.L.begin.`) or a `new_unique_name()` number in `[u0, u1)` (`.L..N`).  `Seg c0 c1 u0 u1 L`: the labels `L` all have
such keys and are pairwise distinct.  Segments over adjacent ranges concatenate (`Seg.append`); the code of an expression is a
segment by C01's `compileJ_facts` (`Seg.of_expr`); the labels a statement defines are, up to their order in the code, the
statement's own labels followed by the segments of its parts in the order the counters were handed out (`List.Perm`, decided
by counting).
-/
import ChibiVerif.Lemmas.C03FunCompile

namespace ChibiVerif.C03Fun
open ChibiVerif.Asm ChibiVerif.Spec.IntSpec ChibiVerif.C01 ChibiVerif.X86 ChibiVerif.X86J

/-- the label's number lies in `[c0, c1)` if it was drawn from `count()`, in `[u0, u1)` if from `new_unique_name()` -/
def Key (c0 c1 u0 u1 : Nat) : FL → Prop
  | .x l => c0 ≤ l.n ∧ l.n < c1
  | .s (.begin_ n) => c0 ≤ n ∧ n < c1
  | .s (.uniq n) => u0 ≤ n ∧ n < u1
  | .s .ret => False

theorem Key.mono {c0 c1 u0 u1 c0' c1' u0' u1' : Nat} {l : FL} (h : Key c0 c1 u0 u1 l) (h0 : c0' ≤ c0) (h1 : c1 ≤ c1')
    (h2 : u0' ≤ u0) (h3 : u1 ≤ u1') : Key c0' c1' u0' u1' l := by
  cases l with
  | x l => exact ⟨by have := h.1; omega, by have := h.2; omega⟩
  | s l =>
    cases l with
    | begin_ n | uniq n => exact ⟨by have := h.1; omega, by have := h.2; omega⟩
    | ret => exact h

theorem Key.ne {c0 c1 u0 u1 c2 u2 : Nat} {a b : FL} (ha : Key c0 c1 u0 u1 a) (hb : Key c1 c2 u1 u2 b) : a ≠ b := by
  intro e
  subst e
  cases a with
  | x l => have := ha.2; have := hb.1; omega
  | s l =>
    cases l with
    | begin_ n | uniq n => have := ha.2; have := hb.1; omega
    | ret => exact ha

/-- labels with keys in the two ranges, pairwise distinct -/
structure Seg (c0 c1 u0 u1 : Nat) (L : List FL) : Prop where
  c : c0 ≤ c1
  u : u0 ≤ u1
  keys : ∀ l ∈ L, Key c0 c1 u0 u1 l
  nodup : L.Nodup

theorem Seg.nil {c0 c1 u0 u1 : Nat} (hc : c0 ≤ c1) (hu : u0 ≤ u1) : Seg c0 c1 u0 u1 [] :=
  ⟨hc, hu, fun _ h => by simp at h, List.nodup_nil⟩

theorem Seg.append {c0 c1 c2 u0 u1 u2 : Nat} {A B : List FL} (ha : Seg c0 c1 u0 u1 A) (hb : Seg c1 c2 u1 u2 B) :
    Seg c0 c2 u0 u2 (A ++ B) := by
  have := ha.c; have := hb.c; have := ha.u; have := hb.u
  refine ⟨by omega, by omega, ?_, ?_⟩
  · intro l hl
    rcases List.mem_append.1 hl with h | h
    · exact (ha.keys l h).mono (Nat.le_refl _) (by omega) (Nat.le_refl _) (by omega)
    · exact (hb.keys l h).mono (by omega) (Nat.le_refl _) (by omega) (Nat.le_refl _)
  · exact List.nodup_append.2 ⟨ha.nodup, hb.nodup, fun a ha' b hb' => (ha.keys a ha').ne (hb.keys b hb')⟩

theorem Seg.perm {c0 c1 u0 u1 : Nat} {A B : List FL} (h : Seg c0 c1 u0 u1 A) (p : B.Perm A) : Seg c0 c1 u0 u1 B :=
  ⟨h.c, h.u, fun l hl => h.keys l (p.mem_iff.1 hl), p.nodup_iff.2 h.nodup⟩

theorem Seg.of_expr {tys : List ITy} {off toff : Nat → Int} {k0 c0 : Nat} {e : E} {t : ITy} {code : List JI} {k1 c1 : Nat}
    (h : compileJ tys off toff k0 c0 e = some (t, code, k1, c1)) :
    c1 = c0 + nlbl e ∧ ∀ u, Seg c0 c1 u u ((defs code).map FL.x) := by
  have f := compileJ_facts tys off toff e k0 c0 t code k1 c1 h
  refine ⟨f.c, fun u => ⟨by have := f.c; omega, Nat.le_refl _, ?_, ?_⟩⟩
  · intro l hl
    obtain ⟨l0, hl0, rfl⟩ := List.mem_map.1 hl
    exact f.rng l0 hl0
  · have := f.nodup
    unfold List.Nodup at this ⊢
    rw [List.pairwise_map]
    exact this.imp (fun hne e => hne (FL.x.inj e))

theorem Seg.of_opt {tys : List ITy} {off toff : Nat → Int} {k0 c0 : Nat} {oe : Option E} {code : List JI} {k1 c1 : Nat}
    (h : compileOpt tys off toff k0 c0 oe = some (code, k1, c1)) :
    c1 = c0 + nlblO oe ∧ ∀ u, Seg c0 c1 u u ((defs code).map FL.x) := by
  obtain ⟨rfl, rfl, _, rfl⟩ | ⟨e, t, rfl, hc⟩ := compileOpt_inv h
  · exact ⟨rfl, fun _ => Seg.nil (Nat.le_refl _) (Nat.le_refl _)⟩
  · exact Seg.of_expr hc

theorem defsF_append (a b : List FI) : defsF (a ++ b) = defsF a ++ defsF b := by
  induction a with
  | nil => rfl
  | cons x r ih => cases x <;> simp [defsF, ih]

theorem defsF_embs (c : List JI) : defsF (embs c) = (defs c).map FL.x := by
  induction c with
  | nil => rfl
  | cons x r ih =>
    simp only [embs, List.map_cons] at ih ⊢
    cases x <;> simp [emb, defsF, defs, ih]

theorem defsF_condJump (cc : CC) (t : ITy) (l : FL) : defsF (condJump cc t l) = [] := by
  simp [condJump, defsF_append, defsF_embs, defs_J, defsF]

theorem defsF_cons_lbl (l : FL) (r : List FI) : defsF (FI.lbl l :: r) = l :: defsF r := rfl
theorem defsF_cons_jmp (l : FL) (r : List FI) : defsF (FI.jmp l :: r) = defsF r := rfl
theorem defsF_nil : defsF [] = [] := rfl

theorem Seg.loop_heads (c u : Nat) : Seg c (c + 1) u (u + 2) [FL.s (.begin_ c), FL.s (.uniq u), FL.s (.uniq (u + 1))] := by
  refine ⟨by omega, by omega, ?_, by simp⟩
  intro l hl
  simp only [List.mem_cons, List.mem_nil_iff, or_false] at hl
  rcases hl with rfl | rfl | rfl <;> simp only [Key] <;> omega

theorem Seg.if_heads (c u : Nat) : Seg c (c + 1) u u [FL.x ⟨.else_, c⟩, FL.x ⟨.end_, c⟩] := by
  refine ⟨by omega, by omega, ?_, by simp⟩
  intro l hl
  simp only [List.mem_cons, List.mem_nil_iff, or_false] at hl
  rcases hl with rfl | rfl <;> simp only [Key] <;> omega

theorem defsF_cons_jcc (c : CC) (l : FL) (r : List FI) : defsF (FI.jcc c l :: r) = defsF r := rfl
theorem defsF_cons_ins (i : Ins) (r : List FI) : defsF (FI.ins i :: r) = defsF r := rfl

theorem defsF_map_ins (is : List Ins) : defsF (is.map FI.ins) = [] := by
  induction is with
  | nil => rfl
  | cons i r ih => simpa [defsF] using ih

theorem defsF_caseTest (t : ITy) (lo hi : Int) (l : Nat) : defsF (caseTest t lo hi l) = [] := by
  rw [caseTest_eq, defsF_append, defsF_map_ins]; rfl

theorem defsF_rungs (t : ITy) (ents : List (Option (Int × Int) × Nat)) : defsF (rungs t ents) = [] := by
  induction ents with
  | nil => rfl
  | cons x r ih =>
    obtain ⟨o, l⟩ := x
    cases o with
    | none => simpa [rungs] using ih
    | some cv => obtain ⟨lo, hi⟩ := cv; simp [rungs, defsF_append, ih, defsF_caseTest]

theorem defsF_ladder (t : ITy) (ents : List (Option (Int × Int) × Nat)) (brk : Nat) : defsF (ladder t ents brk) = [] := by
  unfold ladder
  rw [defsF_append, defsF_rungs, defsF_append]
  cases lastDefault ents <;> rfl

theorem Seg.uniq_head (c u : Nat) : Seg c c u (u + 1) [FL.s (.uniq u)] := by
  refine ⟨Nat.le_refl _, by omega, ?_, by simp⟩
  intro l hl
  simp only [List.mem_cons, List.mem_nil_iff, or_false] at hl
  subst hl
  simp only [Key]; omega

/-- **what `compileF` does with its three counters, and the labels it defines**: the temporaries are numbered upwards, the
    statement draws `nuniq s` names from `new_unique_name()` and `nlblF s` numbers from `count()`, and the labels of the code are
    a segment over exactly those two ranges -/
theorem Comp.facts {tys : List ITy} {off toff : Nat → Int} {R : ITy} {ctx : JCtx} {k0 c0 u0 : Nat} {s : FStmt} {code : List FI}
    {k1 c1 u1 : Nat} (h : Comp tys off toff R ctx k0 c0 u0 s code k1 c1 u1) :
    k0 ≤ k1 ∧ u1 = u0 + nuniq s ∧ c1 = c0 + nlblF s ∧ Seg c0 c1 u0 u1 (defsF code) := by
  have hJ := fun {e k0 c0 t cd k1 c1} (h : compileJ tys off toff k0 c0 e = some (t, cd, k1, c1)) =>
    (compileJ_facts tys off toff e k0 c0 t cd k1 c1 h).k
  induction h with
  | skip | brk _ | cont _ => exact ⟨Nat.le_refl _, rfl, rfl, Seg.nil (Nat.le_refl _) (Nat.le_refl _)⟩
  | expr hc => rw [defsF_embs]; exact ⟨hJ hc, rfl, (Seg.of_expr hc).1, (Seg.of_expr hc).2 _⟩
  | ret hc =>
    exact ⟨hJ hc, rfl, by simpa [nlbl, nlblF] using (Seg.of_expr hc).1,
      by simpa [defsF_append, defsF_embs, defsF] using (Seg.of_expr hc).2 _⟩
  | case_ _ _ ih | default_ _ _ ih =>
    obtain ⟨hk, hu, es, ss⟩ := ih
    exact ⟨hk, by dsimp only [nuniq]; omega, es, (Seg.uniq_head _ _).append ss⟩
  | seq _ _ iha ihb =>
    obtain ⟨hka, hua, ea, sa⟩ := iha
    obtain ⟨hkb, hub, eb, sb⟩ := ihb
    rw [defsF_append]
    exact ⟨by omega, by dsimp only [nuniq]; omega, by dsimp only [nlblF]; omega, sa.append sb⟩
  | switch_ he _ ihb =>
    obtain ⟨ee, se⟩ := Seg.of_expr he
    obtain ⟨hkb, hub, eb, sb⟩ := ihb
    have := hJ he
    refine ⟨by omega, by dsimp only [nuniq]; omega, by dsimp only [nlblF]; omega, ?_⟩
    refine ((Seg.uniq_head _ _).append ((se _).append sb)).perm ?_
    rw [List.perm_iff_count]
    intro a
    simp only [defsF_append, defsF_embs, defsF_ladder, defsF_cons_lbl, defsF_nil, List.count_append,
      List.count_cons, List.count_nil, List.nil_append]
    omega
  | ifte he _ _ iht ihf =>
    obtain ⟨ee, se⟩ := Seg.of_expr he
    obtain ⟨hkt, hut, et, st⟩ := iht
    obtain ⟨hkf, huf, ef, sf⟩ := ihf
    have := hJ he
    refine ⟨by omega, by dsimp only [nuniq]; omega, by dsimp only [nlblF]; omega, ?_⟩
    refine ((Seg.if_heads _ _).append ((se _).append (st.append sf))).perm ?_
    rw [List.perm_iff_count]
    intro a
    simp only [defsF_append, defsF_embs, defsF_condJump, defsF_cons_lbl, defsF_cons_jmp, defsF_nil, List.count_append,
      List.count_cons, List.count_nil, List.nil_append]
    omega
  | for_ h0 he hi _ ihb =>
    obtain ⟨e0, s0⟩ := Seg.of_opt h0
    obtain ⟨ee, se⟩ := Seg.of_expr he
    obtain ⟨hkb, hub, eb, sb⟩ := ihb
    obtain ⟨ei, si⟩ := Seg.of_opt hi
    rw [← eb] at ei si
    have := compileOpt_k h0
    have := hJ he
    have := compileOpt_k hi
    refine ⟨by omega, by dsimp only [nuniq]; omega, by dsimp only [nlblF]; omega, ?_⟩
    refine ((Seg.loop_heads _ _).append ((s0 _).append ((se _).append (sb.append (si _))))).perm ?_
    rw [List.perm_iff_count]
    intro a
    simp only [defsF_append, defsF_embs, defsF_condJump, defsF_cons_lbl, defsF_cons_jmp, defsF_nil, List.count_append,
      List.count_cons, List.count_nil, List.nil_append]
    omega
  | doWhile _ he ihb =>
    obtain ⟨hkb, hub, eb, sb⟩ := ihb
    obtain ⟨ee, se⟩ := Seg.of_expr he
    have := hJ he
    refine ⟨by omega, by dsimp only [nuniq]; omega, by dsimp only [nlblF]; omega, ?_⟩
    refine ((Seg.loop_heads _ _).append (sb.append (se _))).perm ?_
    rw [List.perm_iff_count]
    intro a
    simp only [defsF_append, defsF_embs, defsF_condJump, defsF_cons_lbl, defsF_nil, List.count_append,
      List.count_cons, List.count_nil, List.nil_append]
    omega

/-- `C03_function_labels_fresh`: in the body `compileFn` assembles (`gen_stmt(fn->body)`, then `.L.return.f:`) every label is
    defined once, `count()` advanced by `nlblF body`, `new_unique_name()` did not go back -/
theorem compileFn_fresh (tys : List ITy) (off toff : Nat → Int) (R : ITy) (c0 u0 : Nat) (body : FStmt)
    (prog : List FI) (K c1 u1 : Nat) (hc : compileFn tys off toff R c0 u0 body = some (prog, K, c1, u1)) :
    (defsF prog).Nodup ∧ c1 = c0 + nlblF body ∧ u0 ≤ u1 := by
  simp only [compileFn, Option.map_eq_some_iff, Prod.mk.injEq] at hc
  obtain ⟨⟨code, K', c1', u1'⟩, hcF, rfl, _, hc1, hu1⟩ := hc
  have hc1 : c1' = c1 := hc1
  have hu1 : u1' = u1 := hu1
  subst hc1 hu1
  obtain ⟨_, _, ec, sc⟩ := (comp_of_compile body hcF).facts
  refine ⟨?_, ec, sc.u⟩
  rw [defsF_append, List.nodup_append]
  refine ⟨sc.nodup, by simp [defsF], ?_⟩
  intro a ha b hb
  simp only [defsF, List.mem_cons, List.mem_nil_iff, or_false] at hb
  subst hb
  intro e
  subst e
  exact sc.keys _ ha

end ChibiVerif.C03Fun
