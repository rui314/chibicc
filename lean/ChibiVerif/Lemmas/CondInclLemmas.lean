/-
The machine of Model/CondIncl.lean against the grammar tree of Spec/CondInclSpec.lean: on the flattened lines of a closed
group the machine in `proc` mode computes the tree's evaluation and in a skip mode steps over it; the parser's tree flattens
back to its input (plus the #endif lines it supplies), and for an unterminated input those are as many as the machine has
conditionals open (`sdepth` against `depthOf`).  Beside that: how a step depends on the evaluator (`stepLine_cases`, `run_rel`),
files accepted by `detect_include_guard`, and the skip functions as they are written in C.
-/
import ChibiVerif.Spec.CondInclSpec
import ChibiVerif.Lemmas.ExceptLemmas
namespace ChibiVerif.CondIncl
open ChibiVerif.Spec.CondIncl
open Except (Ends)
variable {ε β : Type}

theorem run_nil (ev : ε → Defs β → Except Diag Bool) (m : Mode) (s : St β) : run ev [] m s = .ok (s, m) := rfl

theorem run_cons (ev : ε → Defs β → Except Diag Bool) (l : Line ε β) (ls) (m : Mode) (s : St β) :
    run ev (l :: ls) m s = (match stepLine ev l m s with | .error e => .error e | .ok (s', m') => run ev ls m' s') := rfl

theorem run_append (ev : ε → Defs β → Except Diag Bool) (a b : List (Line ε β)) (m : Mode) (s : St β) :
    run ev (a ++ b) m s = (match run ev a m s with | .error e => .error e | .ok (s', m') => run ev b m' s') := by
  fun_induction run ev a m s with
  | case1 => rfl
  | case2 l ls m s e he => rw [List.cons_append, run_cons, he]
  | case3 l ls m s s1 m1 hst ih => rw [List.cons_append, run_cons, hst]; exact ih

def isCloser : Line ε β → Bool
  | .part _ => true
  | .endif _ => true
  | _ => false

def Line.cond? : Line ε β → Option ε
  | .opens (.ifE c) => some c
  | .part (.elif c) => some c
  | _ => none

theorem procLine_plain (ev : ε → Defs β → Except Diag Bool) (p : Plain β) (s : St β) :
    procLine ev (.plain p) s =
      match procPlain p s.obs with
      | .error e => .error e
      | .ok o => .ok ({ s with obs := o }, .proc) := by
  simp only [procLine]; cases procPlain p s.obs <;> rfl

theorem procLine_opens (ev : ε → Defs β → Except Diag Bool) (h : IfHead ε) (s : St β) :
    procLine ev (.opens h) s =
      match evalHead ev h s.obs.defs with
      | .error e => .error e
      | .ok v => .ok ({ s with stack := ⟨.inThen, v⟩ :: s.stack }, if v then .proc else .skip 0) := by
  simp only [procLine]; cases evalHead ev h s.obs.defs <;> rfl

theorem procLine_elif (ev : ε → Defs β → Except Diag Bool) (c : ε) (o : Obs β) (f : Frame) (st : List Frame) :
    procLine ev (.part (.elif c)) ⟨o, f :: st⟩ =
      if f.ctx = .inElse then .error .strayElif
      else if f.included then .ok (⟨o, ⟨.inElif, true⟩ :: st⟩, .skip 0)
      else match ev c o.defs with
        | .error e => .error e
        | .ok v => .ok (⟨o, ⟨.inElif, v⟩ :: st⟩, if v then .proc else .skip 0) := by
  -- the arm of `procLine` is these tests by computation; only its last branch (a `do` block) is written differently
  show (if f.ctx = .inElse then _ else if f.included then _ else _) = _
  congr 2
  cases ev c o.defs with
  | error e => rfl
  | ok v => cases v <;> rfl

theorem procLine_els (ev : ε → Defs β → Except Diag Bool) (x : Bool) (o : Obs β) (f : Frame) (st : List Frame) :
    procLine ev (.part (.els x)) ⟨o, f :: st⟩ =
      if f.ctx = .inElse then .error .strayElse
      else .ok (⟨o, ⟨.inElse, f.included⟩ :: st⟩, if f.included then .skip 0 else .proc) := rfl

theorem procLine_closer_empty (ev : ε → Defs β → Except Diag Bool) (l : Line ε β) (o : Obs β)
    (hl : isCloser l = true) : procLine ev l ⟨o, []⟩ = .error (strayDiag l) := by
  cases l with
  | plain p => cases hl
  | opens h => cases hl
  | part h => cases h <;> rfl
  | endif x => rfl

theorem procLine_ifndef_defined (ev : ε → Defs β → Except Diag Bool) (g : String) (x : Bool) (s : St β)
    (hdef : s.obs.defs.isDef g = true) :
    procLine ev (.opens (.ifndef g x)) s = .ok ({ s with stack := ⟨.inThen, false⟩ :: s.stack }, .skip 0) := by
  simp [procLine_opens, evalHead, hdef]

theorem stepLine_skip_plain (ev : ε → Defs β → Except Diag Bool) (p : Plain β) (d : Nat) (s : St β) :
    stepLine ev (.plain p) (.skip d) s = .ok (s, .skip d) := by cases d <;> rfl

theorem stepLine_skip_opens (ev : ε → Defs β → Except Diag Bool) (h : IfHead ε) (d : Nat) (s : St β) :
    stepLine ev (.opens h) (.skip d) s = .ok (s, .skip (d+1)) := by cases d <;> rfl

/-- `skip_cond_incl` returns at a #elif/#else/#endif and `preprocess2`'s loop dispatches it -/
theorem stepLine_closer (ev : ε → Defs β → Except Diag Bool) (l : Line ε β) (m : Mode) (s : St β)
    (hm : m = .proc ∨ m = .skip 0) (hl : isCloser l = true) : stepLine ev l m s = procLine ev l s := by
  rcases hm with rfl | rfl
  · rfl
  · cases l with
    | plain p => cases hl
    | opens h => cases hl
    | part h => rfl
    | endif x => rfl

/-- the diagnostics the directive arms raise themselves -/
def ownDiag : Diag → Bool
  | .strayElif | .strayElse | .strayEndif | .errorDirective | .badDirective => true
  | _ => false

/-- a state, or one of the machine's own diagnostics -/
abbrev Own (r : Except Diag (St β × Mode)) : Prop := Ends (ownDiag · = true) (fun _ => True) r

/-- How `procLine` depends on the evaluator: not at all, and then a failure is one of the machine's own diagnostics; or
    through the value of the line's own condition under the current macro table, after which nothing can fail. -/
theorem procLine_cases (l : Line ε β) (s : St β) :
    (∃ r : Except Diag (St β × Mode), Own r ∧ ∀ ev, procLine ev l s = r) ∨
    (∃ (c : ε) (k : Bool → St β × Mode), l.cond? = some c ∧ ∀ ev, procLine ev l s =
      match ev c s.obs.defs with
      | .error e => .error e
      | .ok v => .ok (k v)) := by
  obtain ⟨o, st⟩ := s
  cases l with
  | plain p =>
    refine .inl ⟨_, ?_, fun ev => procLine_plain ev p _⟩
    cases p <;> first | exact rfl | exact trivial
  | opens h =>
    cases h with
    | ifE c => exact .inr ⟨c, _, rfl, fun ev => procLine_opens ev _ _⟩
    | ifdef n x => exact .inl ⟨_, by trivial, fun ev => procLine_opens ev _ _⟩
    | ifndef n x => exact .inl ⟨_, by trivial, fun ev => procLine_opens ev _ _⟩
    | noName => exact .inl ⟨_, by exact rfl, fun ev => procLine_opens ev _ _⟩
  | part h =>
    cases st with
    | nil => exact .inl ⟨_, by cases h <;> exact rfl, fun ev => procLine_closer_empty ev _ o rfl⟩
    | cons f st =>
      cases h with
      | els x => exact .inl ⟨_, by exact .ite (fun _ => rfl) (fun _ => trivial), fun ev => procLine_els ev x o f st⟩
      | elif c =>
        by_cases h1 : f.ctx = .inElse
        · exact .inl ⟨.error .strayElif, rfl, fun ev => by rw [procLine_elif, if_pos h1]⟩
        · by_cases h2 : f.included = true
          · exact .inl ⟨.ok _, trivial, fun ev => by rw [procLine_elif, if_neg h1, if_pos h2]⟩
          · exact .inr ⟨c, _, rfl, fun ev => by rw [procLine_elif, if_neg h1, if_neg h2]⟩
  | endif x =>
    cases st with
    | nil => exact .inl ⟨_, by exact rfl, fun ev => procLine_closer_empty ev _ o rfl⟩
    | cons f st => exact .inl ⟨.ok (⟨o, st⟩, .proc), trivial, fun _ => rfl⟩

/-- … and the same for a step in any mode: the skip functions never evaluate anything -/
theorem stepLine_cases (l : Line ε β) (m : Mode) (s : St β) :
    (∃ r : Except Diag (St β × Mode), Own r ∧ ∀ ev, stepLine ev l m s = r) ∨
    (∃ (c : ε) (k : Bool → St β × Mode), l.cond? = some c ∧ ∀ ev, stepLine ev l m s =
      match ev c s.obs.defs with
      | .error e => .error e
      | .ok v => .ok (k v)) := by
  cases m with
  | proc => exact procLine_cases l s
  | skip d =>
    cases l with
    | plain p => exact .inl ⟨_, by trivial, fun ev => stepLine_skip_plain ev p d s⟩
    | opens h => exact .inl ⟨_, by trivial, fun ev => stepLine_skip_opens ev h d s⟩
    | part h =>
      cases d with
      | zero => exact procLine_cases (.part h) s
      | succ d => exact .inl ⟨.ok (s, .skip (d+1)), trivial, fun _ => rfl⟩
    | endif x =>
      cases d with
      | zero => exact procLine_cases (.endif x) s
      | succ d => exact .inl ⟨.ok (s, .skip d), trivial, fun _ => rfl⟩

mutual
theorem run_skip_item (ev : ε → Defs β → Except Diag Bool) :
    ∀ (t : Item ε β) (d : Nat) (s : St β), run ev t.flatten (.skip d) s = .ok (s, .skip d)
  | .plain p, d, s => by rw [Item.flatten, run_cons, stepLine_skip_plain]; rfl
  | .sec h body rest, d, s => by
    rw [Item.flatten, run_cons, stepLine_skip_opens]
    show run ev (body.flatten ++ rest.flatten) (.skip (d+1)) s = _
    rw [run_append, run_skip_items ev body (d+1) s]
    exact run_skip_parts ev rest d s
theorem run_skip_items (ev : ε → Defs β → Except Diag Bool) :
    ∀ (t : Items ε β) (d : Nat) (s : St β), run ev t.flatten (.skip d) s = .ok (s, .skip d)
  | .nil, d, s => rfl
  | .cons i is, d, s => by
    rw [Items.flatten, run_append, run_skip_item ev i d s]
    exact run_skip_items ev is d s
theorem run_skip_parts (ev : ε → Defs β → Except Diag Bool) :
    ∀ (t : Parts ε β) (d : Nat) (s : St β), run ev t.flatten (.skip (d+1)) s = .ok (s, .skip d)
  | .endif x, d, s => rfl
  | .part h body rest, d, s => by
    rw [Parts.flatten, run_cons]
    show run ev (body.flatten ++ rest.flatten) (.skip (d+1)) s = _
    rw [run_append, run_skip_items ev body (d+1) s]
    exact run_skip_parts ev rest d s
end

/-- the outcome of the specification's evaluation read as an outcome of the machine: the same observable part over the stack `st`,
    in mode `proc` -/
def liftObs (st : List Frame) (r : Except Diag (Obs β)) : Except Diag (St β × Mode) :=
  match r with
  | .error e => .error e
  | .ok o => .ok (⟨o, st⟩, .proc)

@[simp] theorem liftObs_ok (st : List Frame) (o : Obs β) : liftObs st (.ok o) = .ok (⟨o, st⟩, .proc) := rfl
@[simp] theorem liftObs_error (st : List Frame) (e : Diag) : liftObs (β := β) st (.error e) = .error e := rfl

/-- a group and the rest of its section, behind the group's head line: the group is processed (`taken`, mode `proc`) or
    stepped over (mode `skip 0`), then the remaining groups follow under the record `f` the head line left -/
theorem run_group (ev : ε → Defs β → Except Diag Bool) (body : Items ε β) (rest : Parts ε β)
    (hb : ∀ o st, run ev body.flatten .proc ⟨o, st⟩ = liftObs st (body.eval ev o))
    (hr : ∀ o f st m, (m = .proc ∨ m = .skip 0) →
      run ev rest.flatten m ⟨o, f :: st⟩ = liftObs st (rest.eval ev f.included (f.ctx == .inElse) o))
    (taken : Bool) (o : Obs β) (f : Frame) (st : List Frame) :
    run ev (body.flatten ++ rest.flatten) (if taken then .proc else .skip 0) ⟨o, f :: st⟩ =
      liftObs st (if taken then
        (match body.eval ev o with
         | .error e => .error e
         | .ok o' => rest.eval ev f.included (f.ctx == .inElse) o')
        else rest.eval ev f.included (f.ctx == .inElse) o) := by
  rw [run_append]
  cases taken with
  | true =>
    simp only [if_true]
    rw [hb]
    cases body.eval ev o with
    | error e => rfl
    | ok o' => exact hr o' f st .proc (.inl rfl)
  | false =>
    simp only [Bool.false_eq_true, if_false]
    rw [run_skip_items ev body 0]
    exact hr o f st (.skip 0) (.inr rfl)

/-- once the #else of a section has been passed, `taken` no longer matters -/
theorem Parts.eval_seenElse (ev : ε → Defs β → Except Diag Bool) (ps : Parts ε β) (t t' : Bool) (o : Obs β) :
    ps.eval ev t true o = ps.eval ev t' true o := by
  cases ps with
  | endif x => rfl
  | part h body rest => cases h <;> rfl

mutual
theorem run_item (ev : ε → Defs β → Except Diag Bool) :
    ∀ (t : Item ε β) (o : Obs β) (st : List Frame),
      run ev t.flatten .proc ⟨o, st⟩ = liftObs st (t.eval ev o)
  | .plain p, o, st => by
    rw [Item.flatten, run_cons, stepLine, procLine_plain, Item.eval]
    cases procPlain p o <;> rfl
  | .sec h body rest, o, st => by
    rw [Item.flatten, run_cons, stepLine, procLine_opens, Item.eval]
    cases hv : evalHead ev h o.defs with
    | error e => rfl
    | ok v =>
      have := run_group ev body rest (run_items ev body) (run_parts ev rest) v o ⟨.inThen, v⟩ st
      cases v <;> exact this
theorem run_items (ev : ε → Defs β → Except Diag Bool) :
    ∀ (t : Items ε β) (o : Obs β) (st : List Frame),
      run ev t.flatten .proc ⟨o, st⟩ = liftObs st (t.eval ev o)
  | .nil, o, st => rfl
  | .cons i is, o, st => by
    rw [Items.flatten, Items.eval, run_append, run_item ev i o st]
    cases i.eval ev o with
    | error e => rfl
    | ok o' => exact run_items ev is o' st
/-- the remaining groups of a section, reached either after a processed group (`proc`) or at the
    end of a skipped one (`skip 0`): the machine's frame `(ctx, included)` plays the role of the
    specification's `(seenElse, taken)` -/
theorem run_parts (ev : ε → Defs β → Except Diag Bool) :
    ∀ (t : Parts ε β) (o : Obs β) (f : Frame) (st : List Frame) (m : Mode), (m = .proc ∨ m = .skip 0) →
      run ev t.flatten m ⟨o, f :: st⟩ = liftObs st (t.eval ev f.included (f.ctx == .inElse) o)
  | .endif x, o, f, st, m, hm => by
    rw [Parts.flatten, run_cons, stepLine_closer ev _ m _ hm rfl]; rfl
  | .part (.elif c) body rest, o, ⟨ctx, inc⟩, st, m, hm => by
    have grp := run_group ev body rest (run_items ev body) (run_parts ev rest)
    rw [Parts.flatten, run_cons, stepLine_closer ev _ m _ hm rfl, procLine_elif, Parts.eval]
    by_cases hc : ctx = .inElse
    · subst hc; rfl
    · have hc' : (ctx == Ctx.inElse) = false := by simpa using hc
      simp only [hc, hc', if_false, Bool.false_eq_true]
      cases inc with
      | true => exact grp false o ⟨.inElif, true⟩ st
      | false =>
        simp only [Bool.false_eq_true, if_false]
        cases ev c o.defs with
        | error e => rfl
        | ok v => cases v <;> exact grp _ o ⟨.inElif, _⟩ st
  | .part (.els x) body rest, o, ⟨ctx, inc⟩, st, m, hm => by
    have grp := run_group ev body rest (run_items ev body) (run_parts ev rest) (!inc) o ⟨.inElse, inc⟩ st
    rw [Parts.flatten, run_cons, stepLine_closer ev _ m _ hm rfl, procLine_els, Parts.eval]
    by_cases hc : ctx = .inElse
    · subst hc; rfl
    · have hc' : (ctx == Ctx.inElse) = false := by simpa using hc
      simp only [hc, hc', if_false, Bool.false_eq_true]
      cases inc with
      | true => exact grp
      | false =>
        simp only [Parts.eval_seenElse ev rest true false]
        exact grp
end

theorem Items.flatten_append : ∀ (a b : Items ε β), (a.append b).flatten = a.flatten ++ b.flatten
  | .nil, b => by simp [Items.append, Items.flatten]
  | .cons i is, b => by simp [Items.append, Items.flatten, Items.flatten_append is b]

theorem Items.flatten_snoc (a : Items ε β) (i : Item ε β) : (a.snoc i).flatten = a.flatten ++ i.flatten := by
  simp [Items.snoc, Items.flatten_append, Items.flatten]

/-- the lines of the completed groups of a section under construction, each followed by the #elif / #else that ended it -/
def groupLines (gs : List (Items ε β × PartHead ε)) : List (Line ε β) :=
  gs.flatMap (fun g => g.1.flatten ++ [.part g.2])

/-- the lines read so far for a section under construction -/
def frameLines (f : PFrame ε β) : List (Line ε β) :=
  .opens f.head :: (groupLines f.groups ++ f.cur.flatten)

/-- the lines read so far, from the frames of the line parser (not Model/IfUnparse.lean's `unparse`, which prints an expression tree) -/
def unparse : List (PFrame ε β) → Items ε β → List (Line ε β)
  | [], top => top.flatten
  | f :: fs, top => unparse fs top ++ frameLines f

theorem mkParts_flatten (h : PartHead ε) (gs : List (Items ε β × PartHead ε)) (cur : Items ε β) (fin : Parts ε β) :
    (mkParts h gs cur fin).flatten = .part h :: (groupLines gs ++ cur.flatten ++ fin.flatten) := by
  induction gs generalizing h with
  | nil => simp [mkParts, Parts.flatten, groupLines]
  | cons g gs ih =>
    obtain ⟨b, h'⟩ := g
    simp [mkParts, Parts.flatten, ih, groupLines]

theorem close_flatten (f : PFrame ε β) (fin : Parts ε β) :
    (f.close fin).flatten = frameLines f ++ fin.flatten := by
  obtain ⟨head, groups, cur⟩ := f
  cases groups with
  | nil => simp [PFrame.close, Item.flatten, frameLines, groupLines]
  | cons g gs =>
    obtain ⟨b0, h1⟩ := g
    simp [PFrame.close, Item.flatten, frameLines, mkParts_flatten, groupLines]

theorem unparse_addItem (i : Item ε β) (fs : List (PFrame ε β)) (top : Items ε β) :
    unparse (addItem i fs top).1 (addItem i fs top).2 = unparse fs top ++ i.flatten := by
  cases fs with
  | nil => simp [addItem, unparse, Items.flatten_snoc]
  | cons f fs => simp [addItem, unparse, frameLines, Items.flatten_snoc]

theorem addItem_length (i : Item ε β) (fs : List (PFrame ε β)) (top : Items ε β) :
    (addItem i fs top).1.length = fs.length := by
  cases fs <;> simp [addItem]

theorem closeWith_flatten (i : Item ε β) (fs : List (PFrame ε β)) (top : Items ε β) :
    (closeWith i fs top).flatten = unparse fs top ++ i.flatten ++ List.replicate fs.length (.endif false) := by
  induction fs generalizing i with
  | nil => simp [closeWith, unparse, Items.flatten_snoc]
  | cons g fs ih =>
    simp only [closeWith, ih, close_flatten, unparse, frameLines, Items.flatten_snoc, Parts.flatten,
      List.length_cons, List.replicate_succ]
    simp

/-- nesting depth after `ls`, started at depth `k`; `none` if a #elif/#else/#endif occurs at depth 0 -/
def sdepth : List (Line ε β) → Nat → Option Nat
  | [], k => some k
  | l :: ls, k =>
    match l with
    | .plain _ => sdepth ls k
    | .opens _ => sdepth ls (k+1)
    | .part _ => if k = 0 then none else sdepth ls k
    | .endif _ => if k = 0 then none else sdepth ls (k-1)

/-- What the line parser returns, in terms of the lines it was given.  `.done is n`: the tree `is` flattens to the lines read so far,
    the rest `ls`, and `n` supplied #endif lines, `n` being the nesting depth at the end of the input.  `.stray is l rest`: the group
    read so far, then a #elif / #else / #endif `l` that belongs to no section, then whatever follows. -/
theorem parseGo_spec (ls : List (Line ε β)) (fs : List (PFrame ε β)) (top : Items ε β) :
    match parseGo ls fs top with
    | .done is n => is.flatten = unparse fs top ++ ls ++ List.replicate n (.endif false) ∧ sdepth ls fs.length = some n
    | .stray is l rest => is.flatten ++ l :: rest = unparse fs top ++ ls ∧ isCloser l = true := by
  -- in every arm the parser goes on with frames that unparse to one line more.  The arms of `parseGo`: 1 end of the input,
  -- 2 a text or control line, 3 #if/#ifdef/#ifndef, 4 #elif/#else at depth 0, 5 #elif/#else, 6 #endif at depth 0, 7 #endif
  fun_induction parseGo ls fs top with
  | case1 fs top =>
    cases fs <;> simp [closeAll, closeWith_flatten, close_flatten, unparse, Parts.flatten, List.replicate_succ, sdepth]
  | case2 ls fs top p r ih =>
    rw [unparse_addItem, List.append_assoc, addItem_length] at ih
    exact ih
  | case3 ls fs top h ih =>
    rw [show unparse (⟨h, [], .nil⟩ :: fs) top = unparse fs top ++ [.opens h] by simp [unparse, frameLines, groupLines, Items.flatten],
      List.append_assoc] at ih
    exact ih
  | case4 ls top h => simp [unparse, isCloser]
  | case5 ls top h f fs' ih =>
    rw [show unparse ({ f with groups := f.groups ++ [(f.cur, h)], cur := .nil } :: fs') top = unparse (f :: fs') top ++ [.part h] by
      simp [unparse, frameLines, groupLines, Items.flatten], List.append_assoc] at ih
    exact ih
  | case6 ls top x => simp [unparse, isCloser]
  | case7 ls top x f fs' r ih =>
    rw [unparse_addItem, close_flatten, addItem_length,
      show unparse fs' top ++ (frameLines f ++ (Parts.endif x).flatten) = unparse (f :: fs') top ++ [.endif x] by simp [unparse, Parts.flatten],
      List.append_assoc] at ih
    exact ih

/-- `parseGo_spec` from the start (`C10_parse_roundtrip`, Props/C10.lean) -/
theorem parse_spec (ls : List (Line ε β)) :
    match parse ls with
    | .done is n => is.flatten = ls ++ List.replicate n (.endif false) ∧ sdepth ls 0 = some n
    | .stray is l rest => is.flatten ++ l :: rest = ls ∧ isCloser l = true := by
  have := parseGo_spec ls [] (.nil : Items ε β)
  simpa [parse, unparse, Items.flatten] using this

/-- open conditionals as the machine sees them: `cond_incl` records + activations of skip_cond_incl2 -/
def depthOf (m : Mode) (s : St β) : Nat :=
  s.stack.length + (match m with | .proc => 0 | .skip d => d)

theorem procLine_depth (ev : ε → Defs β → Except Diag Bool) (l : Line ε β) (s s' : St β) (m' : Mode) (rest : List (Line ε β))
    (h : procLine ev l s = .ok (s', m')) :
    sdepth (l :: rest) s.stack.length = sdepth rest (depthOf m' s') := by
  obtain ⟨o, st⟩ := s
  cases l with
  | plain p =>
    rw [procLine_plain] at h
    split at h
    · cases h
    · cases h; rfl
  | opens hd =>
    rw [procLine_opens] at h
    split at h
    · cases h
    · rename_i v _; cases h; cases v <;> rfl
  | part ph =>
    cases st with
    | nil => rw [procLine_closer_empty ev _ o rfl] at h; cases h
    | cons f st =>
      cases ph with
      | elif c =>
        rw [procLine_elif] at h
        split at h
        · cases h
        · split at h
          · cases h; rfl
          · split at h
            · cases h
            · rename_i v _; cases h; cases v <;> rfl
      | els x =>
        rw [procLine_els] at h
        split at h
        · cases h
        · cases h; cases f.included <;> rfl
  | endif x =>
    cases st with
    | nil => cases h
    | cons f st => cases h; rfl

theorem stepLine_depth (ev : ε → Defs β → Except Diag Bool) (l : Line ε β) (m m' : Mode) (s s' : St β) (rest : List (Line ε β))
    (h : stepLine ev l m s = .ok (s', m')) :
    sdepth (l :: rest) (depthOf m s) = sdepth rest (depthOf m' s') := by
  cases m with
  | proc => exact procLine_depth ev l s s' m' rest h
  | skip d =>
    cases l with
    | plain p => rw [stepLine_skip_plain] at h; cases h; rfl
    | opens hd => rw [stepLine_skip_opens] at h; cases h; rfl
    | part ph =>
      cases d with
      | zero => exact procLine_depth ev _ s s' m' rest h
      | succ d => cases h; rfl
    | endif x =>
      cases d with
      | zero => exact procLine_depth ev _ s s' m' rest h
      | succ d => cases h; rfl

theorem run_depth (ev : ε → Defs β → Except Diag Bool) (ls : List (Line ε β)) (m m' : Mode) (s s' : St β)
    (h : run ev ls m s = .ok (s', m')) : sdepth ls (depthOf m s) = some (depthOf m' s') := by
  fun_induction run ev ls m s with
  | case1 => cases h; rfl
  | case2 => cases h
  | case3 l ls m s s1 m1 hst ih => rw [stepLine_depth ev l m m1 s s1 ls hst]; exact ih h

theorem run_endifs_proc (ev : ε → Defs β → Except Diag Bool) (o : Obs β) (st : List Frame) :
    run ev (List.replicate st.length (.endif false : Line ε β)) .proc ⟨o, st⟩ = .ok (⟨o, []⟩, .proc) := by
  induction st with
  | nil => rfl
  | cons f st ih => exact ih

theorem run_endifs (ev : ε → Defs β → Except Diag Bool) (m : Mode) (s : St β) :
    run ev (List.replicate (depthOf m s) (.endif false : Line ε β)) m s =
      .ok (if s.stack = [] then (s, match m with | .proc => .proc | .skip _ => .skip 0) else (⟨s.obs, []⟩, .proc)) := by
  obtain ⟨o, stack⟩ := s
  cases m with
  | proc =>
    rw [show depthOf .proc (⟨o, stack⟩ : St β) = stack.length from rfl, run_endifs_proc]
    cases stack <;> rfl
  | skip d =>
    induction d with
    | zero =>
      cases stack with
      | nil => rfl
      | cons f st => exact run_endifs_proc ev o st
    | succ d ih =>
      rw [show depthOf (.skip (d+1)) (⟨o, stack⟩ : St β) = depthOf (.skip d) (⟨o, stack⟩ : St β) + 1 from rfl,
        List.replicate_succ]
      exact ih

/-- machine = specification (`C10_groups`, Props/C10.lean, says it in chibicc's terms) -/
theorem condMachine_eq_groups (ev : ε → Defs β → Except Diag Bool) (ls : List (Line ε β)) (d : Defs β) :
    condMachine ev ls d = groups ev ls d := by
  have hp := parse_spec ls
  have hrun := fun is => run_items ev is ⟨d, []⟩ []
  unfold groups condMachine
  cases hparse : parse ls with
  | stray is l rest =>
    rw [hparse] at hp
    obtain ⟨hfl, hcl⟩ := hp
    rw [Top.eval, ← hfl, run_append, hrun]
    cases is.eval ev ⟨d, []⟩ with
    | error e' => rfl
    | ok o' => simp only [liftObs_ok, run_cons, stepLine, procLine_closer_empty ev l o' hcl, finish]
  | done is n =>
    rw [hparse] at hp
    obtain ⟨hfl, hdep⟩ := hp
    have hrun := hrun is
    rw [hfl, run_append] at hrun
    rw [Top.eval]
    cases hR : run ev ls .proc ⟨⟨d, []⟩, []⟩ with
    | error e =>
      rw [hR] at hrun
      cases hX : is.eval ev ⟨d, []⟩ <;> rw [hX] at hrun <;> cases hrun
      rfl
    | ok p =>
      obtain ⟨⟨o1, stk⟩, m'⟩ := p
      rw [hR] at hrun
      -- the parser supplied as many #endif lines as the machine has conditionals open
      cases hdep.symm.trans (run_depth ev ls .proc m' _ _ hR)
      simp only [run_endifs] at hrun
      cases hX : is.eval ev ⟨d, []⟩ <;> rw [hX] at hrun <;> cases stk <;> cases m' <;> cases hrun
      · rfl
      all_goals exact (if_neg (by simp [depthOf])).symm

mutual
theorem skipFrom_item : ∀ (t : Item ε β) (d : Nat) (r : List (Line ε β)),
    skipFrom d (t.flatten ++ r) = skipFrom d r
  | .plain p, d, r => by cases d <;> simp [Item.flatten, skipFrom]
  | .sec h body rest, d, r => by
    have h1 : skipFrom d ((Item.sec h body rest).flatten ++ r)
        = skipFrom (d+1) (body.flatten ++ (rest.flatten ++ r)) := by
      cases d <;> simp [Item.flatten, skipFrom]
    rw [h1, skipFrom_items body (d+1), skipFrom_parts rest d]
theorem skipFrom_items : ∀ (t : Items ε β) (d : Nat) (r : List (Line ε β)),
    skipFrom d (t.flatten ++ r) = skipFrom d r
  | .nil, d, r => by simp [Items.flatten]
  | .cons i is, d, r => by
    simp only [Items.flatten, List.append_assoc]
    rw [skipFrom_item i d, skipFrom_items is d]
theorem skipFrom_parts : ∀ (t : Parts ε β) (d : Nat) (r : List (Line ε β)),
    skipFrom (d+1) (t.flatten ++ r) = skipFrom d r
  | .endif x, d, r => by simp [Parts.flatten, skipFrom]
  | .part h body rest, d, r => by
    have h1 : skipFrom (d+1) ((Parts.part h body rest).flatten ++ r)
        = skipFrom (d+1) (body.flatten ++ (rest.flatten ++ r)) := by
      simp [Parts.flatten, skipFrom]
    rw [h1, skipFrom_items body (d+1), skipFrom_parts rest d]
end

def PartHead.clearExtra : PartHead ε → PartHead ε
  | .elif c => .elif c
  | .els _ => .els false

def IfHead.clearExtra : IfHead ε → IfHead ε
  | .ifE c => .ifE c
  | .ifdef n _ => .ifdef n false
  | .ifndef n _ => .ifndef n false
  | .noName => .noName

def Plain.clearExtra : Plain β → Plain β
  | .undef n _ => .undef n false
  | p => p

/-- the same line without the tokens `skip_line` drops -/
def Line.clearExtra : Line ε β → Line ε β
  | .plain p => .plain p.clearExtra
  | .opens h => .opens h.clearExtra
  | .part h => .part h.clearExtra
  | .endif _ => .endif false

theorem stepLine_clearExtra (ev : ε → Defs β → Except Diag Bool) (l : Line ε β) (m : Mode) (s : St β) :
    stepLine ev l.clearExtra m s = stepLine ev l m s := by
  have hp : procLine ev l.clearExtra s = procLine ev l s := by
    cases l with
    | plain p => cases p <;> rfl
    | opens h => cases h <;> rfl
    | part h => cases h <;> rfl
    | endif x => cases s.stack <;> rfl
  -- in the skip modes only the kind of the line matters, except that `skip 0` dispatches #elif/#else/#endif
  cases m with
  | proc => exact hp
  | skip d => cases d <;> cases l <;> first | rfl | exact hp

theorem run_clearExtra (ev : ε → Defs β → Except Diag Bool) (ls : List (Line ε β)) (m : Mode) (s : St β) :
    run ev (ls.map Line.clearExtra) m s = run ev ls m s := by
  fun_induction run ev ls m s with
  | case1 => rfl
  | case2 l ls m s e he => rw [List.map_cons, run_cons, stepLine_clearExtra, he]
  | case3 l ls m s s1 m1 hst ih => rw [List.map_cons, run_cons, stepLine_clearExtra, hst]; exact ih

/-- what `detect_include_guard` accepts, for a file whose lines are seen through `t` (`ILine.toLine`, `XLine.toLine`):
    `#ifndef g` alone on its line, `#define g …`, and the scan of the rest (it steps over the #define) -/
theorem detectGuard_map_eq_some {α : Type} (t : α → Line ε β) (ls : List α) (g : String)
    (h : detectGuard (ls.map t) = some g) :
    ∃ l0 l1 ls', ls = l0 :: l1 :: ls' ∧ t l0 = .opens (.ifndef g false) ∧ guardScan 1 ((l1 :: ls').map t) = true := by
  unfold detectGuard at h
  split at h
  · rename_i g0 g' b rest hm
    split at h
    · split at h
      · rename_i hg hs
        cases h
        match ls, hm with
        | [], hm => cases hm
        | [_], hm => simp at hm
        | l0 :: l1 :: ls', hm =>
          simp only [List.map_cons, List.cons.injEq] at hm
          refine ⟨l0, l1, ls', rfl, hm.1, ?_⟩
          rw [List.map_cons, hm.2.1, hm.2.2, ← hg]
          exact hs
      · cases h
    · cases h
  · cases h

/-- One step of the machine along a successful scan of `detect_include_guard`, from inside the skipped #ifndef
    group (`skip k` at scan depth `k+1`): the scan goes on and nothing changes, or this is the #endif of the
    #ifndef, the last line of the file, and the #ifndef's record is popped. -/
theorem guardScan_step (ev : ε → Defs β → Except Diag Bool) (l : Line ε β) (ls : List (Line ε β)) (k : Nat)
    (o : Obs β) (f : Frame) (st : List Frame) (h : guardScan (k+1) (l :: ls) = true) :
    (∃ k', guardScan (k'+1) ls = true ∧ stepLine ev l (.skip k) ⟨o, f :: st⟩ = .ok (⟨o, f :: st⟩, .skip k')) ∨
    (ls = [] ∧ stepLine ev l (.skip k) ⟨o, f :: st⟩ = .ok (⟨o, st⟩, .proc)) := by
  cases l with
  | plain p => exact .inl ⟨k, h, stepLine_skip_plain ..⟩
  | opens hd => exact .inl ⟨k+1, h, stepLine_skip_opens ..⟩
  | part ph =>
    cases k with
    | zero => cases h
    | succ k => exact .inl ⟨k+1, h, rfl⟩
  | endif x =>
    cases k with
    | zero =>
      have : x = false ∧ ls = [] := by simpa [guardScan] using h
      exact .inr ⟨this.2, rfl⟩
    | succ k => exact .inl ⟨k, h, rfl⟩

theorem run_guardScan (ev : ε → Defs β → Except Diag Bool) (ls : List (Line ε β)) (k : Nat)
    (o : Obs β) (f : Frame) (st : List Frame) (h : guardScan (k+1) ls = true) :
    run ev ls (.skip k) ⟨o, f :: st⟩ = .ok (⟨o, st⟩, .proc) := by
  induction ls generalizing k with
  | nil => cases h
  | cons l ls ih =>
    rw [run_cons]
    rcases guardScan_step ev l ls k o f st h with ⟨k', h', hs⟩ | ⟨rfl, hs⟩ <;> rw [hs]
    · exact ih k' h'
    · rfl

def conds (ls : List (Line ε β)) : List ε := ls.filterMap Line.cond?

/-- Two evaluators that, on every condition of the unit, agree or else the first fails with a diagnostic in `Q`, drive the
    machine the same way or else the first run fails with a diagnostic in `Q`.  (`Q` empty: the evaluator only matters on the
    conditions that occur; `Q = {mark}`: a tripwire in front of an evaluator.) -/
theorem run_rel (ev₁ ev₂ : ε → Defs β → Except Diag Bool) (Q : Diag → Prop) (ls : List (Line ε β))
    (h : ∀ c ∈ conds ls, ∀ d, ev₁ c d = ev₂ c d ∨ ∃ e, ev₁ c d = .error e ∧ Q e) (m : Mode) (s : St β) :
    run ev₁ ls m s = run ev₂ ls m s ∨ ∃ e, run ev₁ ls m s = .error e ∧ Q e := by
  induction ls generalizing m s with
  | nil => exact .inl rfl
  | cons l ls ih =>
    have hrest : ∀ c ∈ conds ls, ∀ d, ev₁ c d = ev₂ c d ∨ ∃ e, ev₁ c d = .error e ∧ Q e := fun c hc =>
      have ⟨l', hl', hc'⟩ := List.mem_filterMap.mp hc
      h c (List.mem_filterMap.mpr ⟨l', List.mem_cons_of_mem _ hl', hc'⟩)
    rw [run_cons, run_cons]
    rcases stepLine_cases l m s with ⟨r, _, hr⟩ | ⟨c, k, hc, hk⟩
    · rw [hr, hr]
      cases r with
      | error e => exact .inl rfl
      | ok p => exact ih hrest p.2 p.1
    · rw [hk, hk]
      rcases h c (by simp [conds, hc]) s.obs.defs with he | ⟨e, he, hq⟩
      · rw [he]
        cases ev₂ c s.obs.defs with
        | error e => exact .inl rfl
        | ok v => exact ih hrest _ _
      · rw [he]; exact .inr ⟨e, rfl, hq⟩

/-- `ev` with a tripwire: the marker diagnostic `mark` as soon as a condition is *evaluated* under a macro table where
    `P` holds -/
def guardEv (P : ε → Defs β → Bool) (mark : Diag) (ev : ε → Defs β → Except Diag Bool) : ε → Defs β → Except Diag Bool :=
  fun c d => if P c d then .error mark else ev c d

theorem condMachine_guard (ev₁ ev₂ : ε → Defs β → Except Diag Bool) (P : ε → Defs β → Bool) (mark : Diag)
    (hagree : ∀ c d, P c d = false → ev₁ c d = ev₂ c d) (ls : List (Line ε β)) (d : Defs β)
    (h : condMachine (guardEv P mark ev₁) ls d ≠ .error mark) :
    condMachine ev₁ ls d = condMachine ev₂ ls d := by
  unfold condMachine at h ⊢
  have key : ∀ ev, (∀ c d, P c d = false → ev₁ c d = ev c d) →
      run (guardEv P mark ev₁) ls .proc ⟨⟨d, []⟩, []⟩ = run ev ls .proc ⟨⟨d, []⟩, []⟩ := fun ev hev =>
    (run_rel _ ev (· = mark) ls (fun c _ d => by
      unfold guardEv
      cases hp : P c d
      · exact .inl (hev c d hp)
      · exact .inr ⟨mark, rfl, rfl⟩) _ _).resolve_right (fun ⟨_, h1, hm⟩ => h (by rw [h1, hm]; rfl))
  rw [← key ev₁ (fun _ _ _ => rfl), key ev₂ hagree]

theorem skipCondIncl2C_length (f : Nat) (ls : List (Line ε β)) : (skipCondIncl2C f ls).length ≤ ls.length := by
  fun_induction skipCondIncl2C f ls with
  | case1 ls => exact Nat.le_refl _
  | case2 => exact Nat.le_refl _
  | case3 f ls h ih1 ih2 => exact Nat.le_succ_of_le (Nat.le_trans ih2 ih1)
  | case4 => exact Nat.le_succ _
  | case5 f l ls _ _ ih => exact Nat.le_succ_of_le ih

theorem skipFrom_succ_eq (f : Nat) (ls : List (Line ε β)) : ∀ d, ls.length ≤ f →
    skipFrom (d+1) ls = skipFrom d (skipCondIncl2C f ls) := by
  fun_induction skipCondIncl2C f ls with
  | case1 ls => intro d h; cases List.length_eq_zero_iff.mp (Nat.le_zero.mp h); cases d <;> rfl
  | case2 => intro d _; cases d <;> rfl
  | case3 f ls h ih1 ih2 =>
    intro d hl
    have hl : ls.length ≤ f := Nat.le_of_succ_le_succ hl
    exact (ih1 (d+1) hl).trans (ih2 d (Nat.le_trans (skipCondIncl2C_length f ls) hl))
  | case4 => intro d _; rfl
  | case5 f l ls h1 h2 ih =>
    intro d hl
    cases l with
    | opens x => exact absurd rfl (h1 x)
    | endif x => exact absurd rfl (h2 x)
    | part x => exact ih d (Nat.le_of_succ_le_succ hl)
    | plain x => exact ih d (Nat.le_of_succ_le_succ hl)

theorem skipCondIncl_eq_C (f : Nat) (ls : List (Line ε β)) : ls.length ≤ f → skipCondIncl ls = skipCondInclC f ls := by
  fun_induction skipCondInclC f ls with
  | case1 ls => intro h; cases List.length_eq_zero_iff.mp (Nat.le_zero.mp h); rfl
  | case2 => intro _; rfl
  | case3 f ls h ih =>
    intro hl
    have hl : ls.length ≤ f := Nat.le_of_succ_le_succ hl
    exact (skipFrom_succ_eq f ls 0 hl).trans (ih (Nat.le_trans (skipCondIncl2C_length f ls) hl))
  | case4 => intro _; rfl
  | case5 => intro _; rfl
  | case6 f p ls ih => intro hl; exact ih (Nat.le_of_succ_le_succ hl)

end ChibiVerif.CondIncl
