/-
C18 × the macro-expansion model (Model/PP.lean, tied to `chibicc -E` by the C09 correspondence): what `expand_macro` does to
the `origin` of tokens, in the PP model's own terms (`Tok.origin` = line of the outermost origin, `originLine`).
-/
import ChibiVerif.Model.PP
import ChibiVerif.Model.LineNo

namespace ChibiVerif.LineNo
open ChibiVerif.PP (setOrigin originLine setHeadFlags spliceBody expandMacro findMacro newNumToken newStrToken runBuiltin
  Macro Builtin readMacroArgs hidesetContains textIs)

theorem pp_setOrigin_origin (ts : List PP.Tok) (tok : PP.Tok) :
    ∀ t ∈ setOrigin ts tok, t.origin = some (originLine tok) := by
  intro t ht
  simp only [setOrigin, List.mem_map] at ht
  obtain ⟨u, _, rfl⟩ := ht
  rfl

theorem pp_setHeadFlags_origin (ts : List PP.Tok) (a b : Bool) :
    (setHeadFlags ts a b).map (·.origin) = ts.map (·.origin) := by
  cases ts <;> rfl

theorem pp_setHeadFlags_line (ts : List PP.Tok) (a b : Bool) :
    (setHeadFlags ts a b).map (·.line) = ts.map (·.line) := by
  cases ts <;> rfl

theorem pp_spliceBody_origin (body rest : List PP.Tok) (tok : PP.Tok) :
    (spliceBody body rest tok).map (·.origin) = (body ++ rest).map (·.origin) := by
  unfold spliceBody
  split
  · rename_i h
    have : body = [] := by simpa using h
    simp [this]
  · exact pp_setHeadFlags_origin _ _ _

theorem pp_originLine_of_origin (t tok : PP.Tok) (h : t.origin = some (originLine tok)) : originLine t = originLine tok := by
  simp [originLine, h]

theorem pp_originLine_plain (t : PP.Tok) (h : t.origin = none) : originLine t = t.line := by
  simp [originLine, h]

/-- `out` is given outright: for a macro with a body it is the substituted body, every token of it stamped by `setOrigin` with
    the invoking token's origin line, spliced in front of what is left of the input -/
theorem pp_expandMacro_origin (lx : String → PP.LexOne) (pp : PP.PreExpand) (st st' : PP.St) (tok : PP.Tok)
    (rest out : List PP.Tok) (h : expandMacro lx pp st tok rest = .ok (some (out, st'))) :
    (findMacro st.defs tok = some (.builtin .line) →
        out = newNumToken (originLine tok) (originLine tok) :: rest) ∧
    (findMacro st.defs tok = some (.builtin .file) →
        out = newStrToken st.file (originLine tok) :: rest) ∧
    ((∃ mb, findMacro st.defs tok = some (.obj mb)) ∨ (∃ ps va mb, findMacro st.defs tok = some (.fn ps va mb)) →
        ∃ (body rest' : List PP.Tok), out = spliceBody (setOrigin body tok) rest' tok) := by
  unfold expandMacro at h
  split at h
  · cases h                                     -- `tok` is painted: `none`
  cases hm : findMacro st.defs tok with
  | none => rw [hm] at h; cases h               -- not a macro: `none`
  | some m =>
    rw [hm] at h
    cases m with
    | builtin b =>
      -- `out` is the token `runBuiltin` makes, before `rest`; for `.line` / `.file` that token is the one stated
      simp only [Except.ok.injEq, Option.some.injEq, Prod.mk.injEq] at h
      refine ⟨fun e => ?_, fun e => ?_, fun e => ?_⟩
      · cases e; rw [← h.1]; rfl
      · cases e; rw [← h.1]; rfl
      · rcases e with ⟨_, e⟩ | ⟨_, _, _, e⟩ <;> cases e
    | obj mbody =>
      -- `out` is the substituted body, stamped by `setOrigin`, spliced before `rest`
      refine ⟨nofun, nofun, fun _ => ?_⟩
      dsimp only at h
      split at h
      · cases h                                 -- `subst` failed
      · cases h; exact ⟨_, _, rfl⟩
    | fn params va mbody =>
      -- the same, before what is left of the input behind the closing parenthesis
      refine ⟨nofun, nofun, fun _ => ?_⟩
      dsimp only at h
      split at h
      · cases h                                 -- no `(` follows: `none`
      split at h
      · cases h                                 -- the arguments could not be read
      split at h
      · cases h                                 -- `subst` failed
      · cases h; exact ⟨_, _, rfl⟩

/-- the line at the end of a token's origin chain (`Tok.outermost`): what the PP model keeps in one field, `Tok.origin`
    (`setOrigin` stores `originLine tok`, the line at the end of `tok`'s own chain) -/
def ppSummary : Tok → Int := fun t => t.outermost.info.lineNo

theorem ppSummary_expand (body : TokInfo) (m : Tok) : ppSummary (expandBodyTok body m) = ppSummary m := rfl

theorem ppSummary_plain (i : TokInfo) : ppSummary (.plain i) = i.lineNo := rfl

end ChibiVerif.LineNo
