/-
C09 — termination of `preprocess2` for every macro table (object-like, function-like, variadic, built-in):
one step of `expand_macro` lowers the potential of the level structure (Lemmas/C09Measure.lean), the arguments handed
to the nested `preprocess2` have a smaller potential, and `subst` (Lemmas/C09Subst.lean) adds no fuel problem of its own.
-/
import ChibiVerif.Model.PP
import ChibiVerif.Lemmas.PPLemmas
import ChibiVerif.Lemmas.PPTerm
import ChibiVerif.Lemmas.C09Measure

namespace ChibiVerif.PP

theorem maxBody_pos : ∀ defs, 1 ≤ maxBody defs := by
  intro defs
  induction defs with
  | nil => simp [maxBody]
  | cons d ds ih => simp only [maxBody]; omega

theorem maxBody_ge : ∀ {defs : List (String × Macro)} {n : String} {m : Macro}, (n, m) ∈ defs → bodyLen m ≤ maxBody defs := by
  intro defs
  induction defs with
  | nil => intro n m h; simp at h
  | cons d ds ih =>
    intro n m h
    simp only [List.mem_cons] at h
    simp only [maxBody]
    rcases h with rfl | h
    · simp only; omega
    · have := ih h; omega

theorem repr_ne_rparen (n : Nat) : n.repr ≠ ")" := repr_ne n (c := ')') (by decide) (by decide)

theorem quoteString_ne_rparen (s : String) : quoteString s ≠ ")" := quoteString_ne_single s ')'

theorem respects_runBuiltin (H : Hideset) (st : St) (b : Builtin) (tok : Tok) : Respects H (runBuiltin st b tok).1 := by
  left
  cases b <;> simp [runBuiltin, newNumToken, newStrToken, repr_ne_rparen, quoteString_ne_rparen]

theorem Respects.contains {H : Hideset} {t : Tok} (hr : Respects H t) (hk : t.kind = .ident ∨ t.text = ")") :
    ∀ x ∈ H, hidesetContains t.hide x = true := by
  rcases hr with hr | hr
  · rcases hk with hk | hk
    · exact absurd hk hr.1
    · exact absurd hk hr.2
  · exact hr

/-- an identifier that respects `H` and does not hide its own name: the name is outside `H` -/
theorem not_in_H {H : Hideset} {tok : Tok} (hk : tok.kind = .ident) (hr : Respects H tok)
    (hnot : hidesetContains tok.hide tok.text = false) : hidesetContains H tok.text = false := by
  cases hc : hidesetContains H tok.text with
  | false => rfl
  | true => rw [hr.contains (.inl hk) _ ((hidesetContains_iff _ _).1 hc)] at hnot; cases hnot

theorem respects_spliced {H hs0 : Hideset} {name : String} {new : List Tok}
    (hhide : ∀ t ∈ new, ∀ x, hidesetContains (hidesetUnion hs0 [name]) x = true → hidesetContains t.hide x = true)
    (h0 : ∀ x ∈ H, hidesetContains hs0 x = true) : ∀ t ∈ new, Respects (H ++ [name]) t := by
  intro t ht
  refine Or.inr fun x hx => hhide t ht x ?_
  rw [hidesetContains_union]
  rcases List.mem_append.1 hx with hx | hx
  · rw [h0 x hx]; rfl
  · rw [List.mem_singleton.1 hx]; simp [hidesetContains]

/-- the pending list has a level structure of potential `p` -/
def LvPot (names : List String) (L : Nat) (ts : List Tok) (p : Nat) : Prop :=
  ∃ lv, WF names lv ∧ flat lv = ts ∧ pot L 0 lv = p

/-- `PotGood` (Lemmas/PPTerm.lean) for the level potential -/
abbrev PPGood (pp : PreExpand) (defs : List (String × Macro)) (L n : Nat) : Prop :=
  PotGood defs (LvPot (defs.map (·.1)) L) pp n

theorem expandMacro_fuel (lx : String → LexOne) (pp : PreExpand) (defs : List (String × Macro)) (L n : Nat)
    (hL1 : 1 ≤ L) (hL : ∀ nm m, (nm, m) ∈ defs → bodyLen m ≤ L) (hpp : PPGood pp defs L n)
    (st : St) (tok : Tok) (rest : List Tok) (lv : List Level)
    (hdefs : st.defs = defs) (hnh : NoHash (tok :: rest)) (hwf : WF (defs.map (·.1)) lv) (hflat : flat lv = tok :: rest)
    (hpot : pot L 0 lv ≤ n + 1) :
    NoFuel (fun o => ∀ v ∈ o, ∃ lv', WF (defs.map (·.1)) lv' ∧ flat lv' = v.1 ∧ pot L 0 lv' < pot L 0 lv)
      (expandMacro lx pp st tok rest) := by
  -- an unpainted macro name: it is in the table and outside the name set of its level
  have name : ∀ {m}, findMacro st.defs tok = some m → ¬ hidesetContains tok.hide tok.text = true →
      bodyLen m ≤ L ∧ tok.kind = .ident ∧ tok.text ∈ defs.map (·.1) ∧ hidesetContains tok.hide tok.text = false := by
    intro m hm hh
    obtain ⟨hmem, hkind⟩ := findMacro_mem hm
    rw [hdefs] at hmem
    exact ⟨hL _ _ hmem, hkind, List.mem_map.2 ⟨_, hmem, rfl⟩, by simpa using hh⟩
  -- the function-like arm (cases 8 and 9): whatever `subst` returns, painted and spliced in, has a structure of smaller potential
  have fn : ∀ {ps va mbody args rp rest'}, findMacro st.defs tok = some (.fn ps va mbody) →
      ¬ hidesetContains tok.hide tok.text = true → ¬(!textIs rest.head? "(") = true →
      readMacroArgs ps va (rest.drop 1) = .ok (args, rp, rest') →
      NoFuel (fun r => ∃ lv', WF (defs.map (·.1)) lv' ∧
          flat lv' = spliceBody (setOrigin (addHideset r.1
            (hidesetUnion (hidesetIntersection tok.hide rp.hide) [tok.text])) tok) rest' tok ∧ pot L 0 lv' < pot L 0 lv)
        (subst lx pp { st with pmHit := st.pmHit || hasPlacemarkerChain args mbody,
                               bsHit := st.bsHit || hasUnsafeStringize args mbody } mbody args false) := by
    intro ps va mbody args rp rest' hm hh hlp hargs
    obtain ⟨hbl, hkind, hname, hnot⟩ := name hm hh
    obtain ⟨hrp, l, hl, hsubl⟩ := readMacroArgs_sublist hargs
    have hfresh := ((readMacroArgs_spec _ _ _).of_ok hargs).1
    obtain ⟨lp, hrest⟩ : ∃ lp, rest = lp :: rest.drop 1 := by
      cases rest with
      | nil => simp [textIs] at hlp
      | cons a r => exact ⟨a, by simp⟩
    have hflat' : flat lv = (tok :: lp :: l) ++ rp :: rest' := by
      rw [hflat]; conv => lhs; rw [hrest, hl]
      simp
    obtain ⟨Z, H, hr, hA, hZ, hnest, _, hrep⟩ := replace_core (L := L) hL1 hwf hflat'
    have hrtok : Respects H tok := hA tok (by simp)
    have hA : ArgsOK pp (fun s : St => s.defs = defs) (1 + Z) args := by
      intro a ha
      have hsl : a.toks.Sublist (tok :: lp :: l) :=
        ((hsubl a ha).trans (List.sublist_cons_self _ _)).trans (List.sublist_cons_self _ _)
      obtain ⟨lva, hwfa, hfa, hpa⟩ := hnest a.toks hsl
      have hge := pot_ge (L := L) hL1 lva 0
      rw [hfa] at hge
      refine ⟨by omega, fun e he => (by rw [hfresh a ha] at he; cases he), fun s hs => ?_⟩
      have hnha : NoHash a.toks := fun t ht => hnh t (by
        rw [← hflat, hflat']; exact List.mem_append_left _ (hsl.subset ht))
      rw [addHideset_nil]
      exact (hpp s a.toks _ hs hnha ⟨lva, hwfa, hfa, rfl⟩ (by omega)).imp fun _ hv => ⟨by omega, hv.2⟩
    refine (subst_fuel lx pp (fun s : St => s.defs = defs) (1 + Z) (by omega) _ mbody args false
      (show ({ st with pmHit := st.pmHit || hasPlacemarkerChain args mbody,
                       bsHit := st.bsHit || hasUnsafeStringize args mbody } : St).defs = defs from hdefs) hA).mono
      (fun _ h => h) fun r hsf => ?_
    obtain ⟨new, hnew, hlen, hhide⟩ :=
      spliceBody_shape r.1 (hidesetUnion (hidesetIntersection tok.hide rp.hide) [tok.text]) tok rest'
    rw [hnew]
    apply hrep new tok.text hname (not_in_H hkind hrtok hnot) (respects_spliced hhide fun x hx => by
      rw [hidesetContains_intersection, hrtok.contains (.inl hkind) x hx, hr.contains (.inr hrp) x hx]; rfl)
    rw [hlen]
    exact Nat.le_trans hsf.1 (Nat.mul_le_mul_right _ hbl)
  -- numbering of the cases: see `expandMacro_keeps` (Lemmas/PPLemmas.lean)
  fun_cases expandMacro lx pp st tok rest
  case case1 | case2 | case6 => exact fun _ hv => nomatch hv
  case case3 hh b hm t st1 hb =>
    obtain ⟨_, hkind, hname, hnot⟩ := name hm hh
    obtain ⟨Z, H, hr, _, _, _, _, hrep⟩ := replace_core (L := L) hL1 (A := []) hwf (by simpa using hflat)
    intro v hv
    cases hv
    obtain ⟨lv', h1, h2, h3⟩ := hrep [t] tok.text hname (not_in_H hkind hr hnot)
      (by intro t' ht; rw [List.mem_singleton.1 ht, show t = (runBuiltin st b tok).1 by rw [hb]]
          exact respects_runBuiltin _ _ _ _)
      (Nat.le_trans hL1 (Nat.le_mul_of_pos_right _ (by omega)))
    exact ⟨lv', h1, by simpa using h2, h3⟩
  case case4 hh body hm e hs => exact ((subst_obj lx pp st body).of_error hs : e ≠ .fuel)
  case case5 hh body hm hs0 out st1 hs =>
    obtain ⟨hbl, hkind, hname, hnot⟩ := name hm hh
    obtain ⟨Z, H, hr, _, _, _, _, hrep⟩ := replace_core (L := L) hL1 (A := []) hwf (by simpa using hflat)
    obtain ⟨new, hnew, hlen, hhide⟩ := spliceBody_shape out (hidesetUnion tok.hide [tok.text]) tok rest
    intro v hv
    cases hv
    rw [hnew]
    apply hrep new tok.text hname (not_in_H hkind hr hnot) (respects_spliced hhide (hr.contains (.inl hkind)))
    rw [hlen]
    have h1 : out.length ≤ L := Nat.le_trans ((subst_obj lx pp st body).of_ok hs).2 hbl
    have h2 : L ≤ L * (1 + Z) := Nat.le_mul_of_pos_right _ (by omega)
    omega
  case case7 hh ps va mbody hm hlp e hargs => exact (readMacroArgs_spec _ _ _).of_error hargs
  case case8 hh ps va mbody hm hlp args rp rest' hargs _ e hs => exact (fn hm hh hlp hargs).of_error hs
  case case9 hh ps va mbody hm hlp args rp rest' hargs _ _ out st1 hs =>
    intro v hv
    cases hv
    exact (fn hm hh hlp hargs).of_ok hs

theorem preprocess2_good (lx : String → LexOne) (defs : List (String × Macro)) (L : Nat)
    (hL1 : 1 ≤ L) (hL : ∀ nm m, (nm, m) ∈ defs → bodyLen m ≤ L) :
    ∀ n, PPGood (fun st ts => preprocess2 lx n st ts) defs L n := by
  refine preprocess2_pot lx defs _ ?_ ?_
  · rintro t r _ ⟨lv, hwf, hflat, rfl⟩
    obtain ⟨_, _, _, _, _, _, ⟨lv', hwf', hflat', hpot'⟩, _⟩ := replace_core (L := L) hL1 (A := []) hwf (by simpa using hflat)
    exact ⟨_, hpot', lv', hwf', hflat', rfl⟩
  · rintro n pp hpp st tok rest _ hdefs hnh ⟨lv, hwf, hflat, rfl⟩ hp
    exact (expandMacro_fuel lx pp defs L n hL1 hL hpp st tok rest lv hdefs hnh hwf hflat hp).imp fun o ho v hv =>
      (ho v hv).elim fun lv' ⟨hwf', hflat', hlt⟩ => ⟨_, hlt, lv', hwf', hflat', rfl⟩

/-- the input as a single level: budget bound = number of table entries, no name required in any hide set -/
theorem wf_single (defs : List (String × Macro)) (ts : List Tok) :
    WF (defs.map (·.1)) [{ j := defs.length, H := [], seg := ts }] := by
  refine ⟨?_, by simp⟩
  intro l hl
  simp only [List.mem_singleton] at hl
  subst hl
  refine ⟨?_, fun t _ => Or.inr (by simp)⟩
  have h := List.length_filter_le (fun n => !hidesetContains [] n) (defs.map (·.1))
  simpa [budget] using h

theorem preprocess2_fuelBound (lx : String → LexOne) (st : St) (ts : List Tok) (fuel : Nat)
    (hnh : NoHash ts) (hfuel : fuelBound st.defs ts ≤ fuel) :
    preprocess2 lx fuel st ts ≠ .error .fuel ∧
      ∀ out st', preprocess2 lx fuel st ts = .ok (out, st') → out.length ≤ fuelBound st.defs ts := by
  have hpot : pot (maxBody st.defs) 0 [{ j := st.defs.length, H := [], seg := ts }] = fuelBound st.defs ts := by
    simp [pot, fuelBound]
  have := preprocess2_good lx st.defs (maxBody st.defs) (maxBody_pos _) (fun _ _ h => maxBody_ge h) fuel st ts _ rfl hnh
    ⟨[{ j := st.defs.length, H := [], seg := ts }], wf_single _ _, by simp [flat], hpot⟩ hfuel
  exact ⟨fun h => this.of_error h rfl, fun _ _ h => (this.of_ok h).1⟩

end ChibiVerif.PP
