/-
Locality of the literal readers (Model/Literals.lean `lexLiteral`): the literal token at the start of a text is
determined by the first line of the text — every loop of tokenize()'s literal arms stops at the first newline at the
latest — with two exceptions that the statements carry as hypotheses:
  * `string_literal_end` steps over a newline that directly follows a backslash (`if (*p == '\\' && p[1]) p++;`);
  * `read_char_literal` looks for the closing quote with `strchr`, which does not stop at a newline.
Used by Props/C11.lean `C11_text_first_line` and, through `SpliceEol.lexLiteral_phase12_congr`, by the transparency theorems.
Bytes are written as numerals (`10#8`, `34#8`, `92#8`) here as in Model/Literals.lean, whose definitions the proofs unfold; `LF`, `BSL`,
`CR` are the names Model/Text.lean gives the same bytes.
-/
import ChibiVerif.Lemmas.LiteralsReaderLemmas
import ChibiVerif.Lemmas.C11PpNumber
import ChibiVerif.Lemmas.ListLemmas

namespace ChibiVerif.Lemmas.Locality
open ChibiVerif.Gen.Literals
open ChibiVerif.Literals
open ChibiVerif.Lemmas.Literals
open ChibiVerif.Lemmas.Readers

/-- two texts that agree up to and including a newline at index `m` -/
structure Agree (x y : List Byte) (m : Nat) : Prop where
  eq : ∀ k, k ≤ m → byteAt x k = byteAt y k
  lf : byteAt x m = 10#8
  lx : m < x.length
  ly : m < y.length

theorem Agree.lfy {x y : List Byte} {m : Nat} (h : Agree x y m) : byteAt y m = 10#8 := by
  rw [← h.eq m (Nat.le_refl _)]; exact h.lf

theorem agree_append (l r1 r2 : List Byte) : Agree (l ++ 10#8 :: r1) (l ++ 10#8 :: r2) l.length := by
  refine ⟨?_, ?_, by simp, by simp⟩
  · intro k hk
    by_cases h : k < l.length
    · rw [byteAt_append_left _ _ _ h, byteAt_append_left _ _ _ h]
    · have : k = l.length + 0 := by omega
      rw [this, byteAt_append_right, byteAt_append_right]; rfl
  · have := byteAt_append_right l (10#8 :: r1) 0
    simp only [Nat.add_zero] at this
    rw [this]; rfl

theorem take_agree (l r1 r2 : List Byte) (n : Nat) (hn : n ≤ l.length) :
    (l ++ 10#8 :: r1).take n = (l ++ 10#8 :: r2).take n := by
  rw [List.take_append_of_le_length hn, List.take_append_of_le_length hn]

theorem Agree.drop {x y : List Byte} {m : Nat} (h : Agree x y m) (j : Nat) (hj : j ≤ m) :
    Agree (x.drop j) (y.drop j) (m - j) := by
  refine ⟨?_, ?_, ?_, ?_⟩
  · intro k hk
    rw [byteAt_drop, byteAt_drop]
    exact h.eq _ (by omega)
  · rw [byteAt_drop]
    have : j + (m - j) = m := by omega
    rw [this]; exact h.lf
  · have := h.lx; simp only [List.length_drop]; omega
  · have := h.ly; simp only [List.length_drop]; omega

theorem matchText_agree {x y : List Byte} {m : Nat} (h : Agree x y m) (pat : List Nat) (k : Nat) (hk : k ≤ m)
    (hpat : ∀ c ∈ pat, (BitVec.ofNat 8 c : Byte) ≠ 10#8) :
    matchText x k pat false = matchText y k pat false ∧ (matchText y k pat false = true → k + pat.length ≤ m) := by
  refine matchText_local false (fun k hk => h.eq k (Nat.le_of_lt hk)) pat k hk fun c hc => ?_
  have : hit false 10#8 c = false := by simpa [hit] using fun e => hpat c hc e.symm
  rw [h.lf, h.lfy]; exact ⟨this, this⟩

theorem decodeCont_agree {x y : List Byte} {n : Nat} (h : Agree x y n) : ∀ (fuel i : Nat) (c : BitVec 32), i ≤ n →
    decodeCont x fuel i c = decodeCont y fuel i c := by
  intro fuel
  induction fuel with
  | zero => intro i c _; rfl
  | succ fuel ih =>
    intro i c hi
    simp only [decodeCont, h.eq i hi]
    split
    · rfl
    · rename_i hc
      have hin : i ≠ n := by
        intro e'; subst e'
        rw [h.lfy] at hc
        exact hc (show ((10#8 : Byte).zeroExtend 32).sshiftRight 6 ≠ 2#32 by decide)
      exact ih (i + 1) _ (by omega)

theorem decodeUtf8_agree {x y : List Byte} {n : Nat} (h : Agree x y n) : decodeUtf8 x = decodeUtf8 y := by
  have e0 := h.eq 0 (Nat.zero_le _)
  by_cases hn : n = 0
  · subst hn
    simp [decodeUtf8, h.lf, h.lfy]
  · have el : decodeLead x = decodeLead y := by simp only [decodeLead, e0]
    unfold decodeUtf8
    rw [el, e0]
    split
    · rfl
    · cases decodeLead y with
      | none => rfl
      | some v =>
        obtain ⟨len, c⟩ := v
        simp only
        rw [decodeCont_agree h _ 1 _ (by omega)]

theorem decodeAt_agree {x y : List Byte} {m : Nat} (h : Agree x y m) (i : Nat) (hi : i ≤ m) :
    decodeAt x i = decodeAt y i := by
  unfold decodeAt
  rw [decodeUtf8_agree (h.drop i hi)]

theorem hexLoop_agree {x y : List Byte} {n : Nat} (h : Agree x y n) :
    ∀ (f1 f2 i : Nat) (c : BitVec 32), i ≤ n → n - i < f1 → n - i < f2 →
    hexLoop x f1 i c = hexLoop y f2 i c := by
  intro f1
  induction f1 with
  | zero => intro f2 i c _ h1 _; omega
  | succ f1 ih =>
    intro f2 i c hi h1 h2
    cases f2 with
    | zero => omega
    | succ f2 =>
      simp only [hexLoop, h.eq i hi]
      by_cases hin : i = n
      · subst hin
        simp [h.lfy, show isXDigit (10#8 : Byte) = false by decide]
      · split
        · exact ih f2 (i + 1) _ (by omega) (by omega) (by omega)
        · rfl

theorem readEscapedChar_agree {x y : List Byte} {n : Nat} (h : Agree x y n) :
    readEscapedChar x = readEscapedChar y := by
  have hy := h.lfy
  have lx := h.lx
  have ly := h.ly
  unfold readEscapedChar
  simp only [h.eq 0 (Nat.zero_le _)]
  by_cases ho : isOctDigit (byteAt y 0) = true
  · have hn1 : 1 ≤ n := by
      apply Nat.pos_of_ne_zero; intro e; subst e; rw [hy] at ho; simp [show isOctDigit (10#8 : Byte) = false by decide] at ho
    have e1 := h.eq 1 hn1
    simp only [ho, if_true, e1]
    by_cases ho1 : isOctDigit (byteAt y 1) = true
    · have hn2 : 2 ≤ n := by
        apply Nat.lt_of_le_of_ne hn1; intro e; subst e; rw [hy] at ho1; simp [show isOctDigit (10#8 : Byte) = false by decide] at ho1
      have e2 := h.eq 2 hn2
      simp only [ho1, if_true, e2]
    · simp only [ho1, if_false, Bool.false_eq_true]
  · simp only [ho, if_false, Bool.false_eq_true]
    by_cases hx : byteAt y 0 = 120#8
    · have hn1 : 1 ≤ n := by
        apply Nat.pos_of_ne_zero; intro e; subst e; rw [hy] at hx; exact absurd hx (by decide)
      have e1 := h.eq 1 hn1
      simp only [hx, if_true, e1]
      split
      · rfl
      · rw [hexLoop_agree h (x.length + 1) (y.length + 1) 1 0 hn1 (by omega) (by omega)]
    · simp only [hx, if_false]

theorem strEnd_agree {x y : List Byte} {m : Nat} (h : Agree x y m) (hb : m = 0 ∨ byteAt x (m - 1) ≠ 92#8) :
    ∀ (f1 f2 i : Nat), i ≤ m → m - i < f1 → m - i < f2 →
    strEnd x f1 i = strEnd y f2 i ∧ ∀ e, strEnd x f1 i = .ok e → e < m := by
  intro f1
  induction f1 with
  | zero => intro f2 i _ h1 _; omega
  | succ f1 ih =>
    intro f2 i hi h1 h2
    cases f2 with
    | zero => omega
    | succ f2 =>
      have e := h.eq i hi
      by_cases him : i = m
      · subst him
        simp [strEnd, h.lf, h.lfy]
      · have e1 := h.eq (i + 1) (by omega)
        simp only [strEnd, e, e1]
        by_cases hq : byteAt y i = 34#8
        · rw [if_pos hq, if_pos hq]
          exact ⟨rfl, fun e' he' => by cases he'; omega⟩
        rw [if_neg hq, if_neg hq]
        by_cases hn : byteAt y i = 10#8 ∨ byteAt y i = 0#8
        · rw [if_pos hn, if_pos hn]
          exact ⟨rfl, fun e' he' => by cases he'⟩
        rw [if_neg hn, if_neg hn]
        by_cases hbs : byteAt y i = 92#8 ∧ byteAt y (i + 1) ≠ 0#8
        · rw [if_pos hbs, if_pos hbs]
          have hi2 : i + 2 ≤ m := by
            rcases hb with hb | hb
            · omega
            · have : i ≠ m - 1 := by
                intro e'; rw [← e', e] at hb; exact hb hbs.1
              omega
          exact ih f2 (i + 2) hi2 (by omega) (by omega)
        · rw [if_neg hbs, if_neg hbs]
          exact ih f2 (i + 1) (by omega) (by omega) (by omega)

/-- the loops read the text only through `byteAt`, `readEscapedChar` and `decodeAt` at indices before `endp` -/
theorem loopOf_agree {x y : List Byte} {m : Nat} (h : Agree x y m) (endp : Nat) (he : endp ≤ m) (r : StrReader) :
    ∀ (f i : Nat) (acc : List Nat), loopOf r x endp f i acc = loopOf r y endp f i acc := by
  intro f
  induction f with
  | zero => intro i acc; cases r <;> rfl
  | succ f ih =>
    intro i acc
    by_cases hi : i < endp
    · have e := h.eq i (by omega)
      have er := readEscapedChar_agree (h.drop (i + 1) (by omega))
      have ed := decodeAt_agree h i (by omega)
      cases r <;> simp only [loopOf] at ih ⊢
      · simp only [narrowLoop, e, er, ih]
      · simp only [utf16Loop, e, er, ed, ih]
      · simp only [utf32Loop, e, er, ed, ih]
    · rw [loopOf_stop r x endp f i acc hi, loopOf_stop r y endp f i acc hi]

theorem readString_agree {x y : List Byte} {m : Nat} (h : Agree x y m) (hb : m = 0 ∨ byteAt x (m - 1) ≠ 92#8)
    (htake : ∀ n, n ≤ m → x.take n = y.take n) (r : StrReader) (ty : Ty) (q : Nat) (hq : q + 1 ≤ m) :
    readString r ty x q = readString r ty y q := by
  have hs := strEnd_agree h hb (x.length + 2) (y.length + 2) (q + 1) hq (by have := h.lx; omega) (by have := h.ly; omega)
  rw [readString_loopOf, readString_loopOf]
  unfold stringLiteralEnd
  rw [← hs.1]
  cases hse : strEnd x (x.length + 2) (q + 1) with
  | error err => rfl
  | ok endp =>
    have hlt := hs.2 endp hse
    simp only [bind, Except.bind]
    rw [loopOf_agree h endp (by omega) r (endp + 1) (q + 1) [], htake (endp + 1) (by omega)]

theorem findQuote_agree {x y : List Byte} {m : Nat} (h : Agree x y m) (hy : y.length = m + 1) :
    ∀ (f j e : Nat), findQuote y f j = some e → ∀ k, findQuote x (f + k) j = some e := by
  intro f
  induction f with
  | zero => intro j e h'; simp [findQuote] at h'
  | succ f ih =>
    intro j e h' k
    rw [show f + 1 + k = (f + k) + 1 by omega]
    simp only [findQuote] at h' ⊢
    by_cases hj : j ≥ y.length
    · simp [hj] at h'
    · simp only [hj, if_false] at h'
      have hjx : ¬ j ≥ x.length := by have := h.lx; omega
      simp only [hjx, if_false, h.eq j (by omega)]
      split
      · rename_i hq; simpa [hq] using h'
      · rename_i hq
        simp only [hq, if_false] at h'
        exact ih _ _ h' k

theorem findQuote_line {x y : List Byte} {m : Nat} (h : Agree x y m) (hy : y.length = m + 1) (j e : Nat)
    (hf : findQuote y (y.length + 1) j = some e) : findQuote x (x.length + 1) j = some e := by
  have := findQuote_agree h hy _ _ _ hf (x.length - y.length)
  rwa [show y.length + 1 + (x.length - y.length) = x.length + 1 by have := h.lx; omega] at this

theorem readCharLiteral_agree {x y : List Byte} {m : Nat} (h : Agree x y m) (hy : y.length = m + 1) (q : Nat)
    (hq : q + 1 ≤ m) (hne : readCharLiteral y q ≠ .error .unclosedChar) :
    readCharLiteral x q = readCharLiteral y q := by
  have e := h.eq (q + 1) hq
  unfold readCharLiteral at hne ⊢
  simp only [e] at hne ⊢
  by_cases h0 : byteAt y (q + 1) = 0#8
  · simp [h0, throw, throwThe, MonadExceptOf.throw, bind, Except.bind] at hne
  · simp only [h0, if_false, pure, Except.pure, bind, Except.bind] at hne ⊢
    by_cases hbs : byteAt y (q + 1) = 92#8
    · have hq2 : q + 2 ≤ m := by
        apply Nat.lt_of_le_of_ne hq
        intro e'
        have hl := h.lfy
        rw [← e'] at hl
        rw [hl] at hbs; exact absurd hbs (by decide)
      have e2 := h.eq (q + 1 + 1) hq2
      have er := readEscapedChar_agree (h.drop (q + 1 + 1) hq2)
      simp only [hbs, true_and, if_true, e2, er] at hne ⊢
      split
      · rfl
      · rename_i h1
        simp only [h1, if_false] at hne
        cases hre : readEscapedChar (y.drop (q + 1 + 1)) with
        | error err => rfl
        | ok v =>
          simp only [hre] at hne ⊢
          cases hf : findQuote y (y.length + 1) (q + 1 + 1 + v.2) with
          | none => simp [hf, throw, throwThe, MonadExceptOf.throw] at hne
          | some e' =>
            simp only [findQuote_line h hy _ _ hf]
    · have ed := decodeAt_agree h (q + 1) hq
      simp only [hbs, false_and, if_false, ed] at hne ⊢
      cases hre : decodeAt y (q + 1) with
      | error err => rfl
      | ok v =>
        simp only [hre] at hne ⊢
        cases hf : findQuote y (y.length + 1) (q + 1 + v.2) with
        | none => simp [hf, throw, throwThe, MonadExceptOf.throw] at hne
        | some e' =>
          simp only [findQuote_line h hy _ _ hf]

theorem prefixes_no_lf :
    (∀ e ∈ stringPrefixes, ∀ c ∈ e.1 ++ [34], (BitVec.ofNat 8 c : Byte) ≠ 10#8) ∧
    (∀ e ∈ charPrefixes, ∀ c ∈ e.1 ++ [39], (BitVec.ofNat 8 c : Byte) ≠ 10#8) := by decide

theorem findPrefix_agree {β : Type} {x y : List Byte} {m : Nat} (h : Agree x y m) (tbl : List (List Nat × β)) (q : Nat)
    (hno : ∀ e ∈ tbl, ∀ c ∈ e.1 ++ [q], (BitVec.ofNat 8 c : Byte) ≠ 10#8) :
    tbl.find? (fun e => startsWithStr x (e.1 ++ [q])) = tbl.find? (fun e => startsWithStr y (e.1 ++ [q])) ∧
    ∀ v, tbl.find? (fun e => startsWithStr y (e.1 ++ [q])) = some v → v.1.length + 1 ≤ m := by
  have hm := fun e he => matchText_agree h (e.1 ++ [q]) 0 (Nat.zero_le _) (hno e he)
  refine ⟨List.find?_congr_mem fun e he => (hm e he).1, fun v hf => ?_⟩
  simpa using (hm v (List.mem_of_find?_eq_some hf)).2 (by simpa [startsWithStr] using List.find?_some hf)

/-- the pp-number scan of a line that has a first byte ends on the line, whatever follows the newline -/
theorem ppNumberLen_agree (l r : List Byte) (h1 : 1 ≤ l.length) :
    ppNumberLen (l ++ 10#8 :: r) = ppNumberLen (l ++ [10#8]) ∧ ppNumberLen (l ++ [10#8]) ≤ l.length := by
  cases l with
  | nil => cases h1
  | cons a l' =>
    rw [ChibiVerif.Lemmas.PpNum.ppNumberLen_line a l' r, ChibiVerif.Lemmas.PpNum.ppNumberLen_line a l' []]
    exact ⟨rfl, by have := ChibiVerif.Lemmas.PpNum.scanLen_le l'; simp only [List.length_cons]; omega⟩

theorem lexLiteral_line (l r : List Byte) (hb : l.getLast? ≠ some 92#8)
    (hne : lexLiteral (l ++ [10#8]) ≠ .error .unclosedChar) :
    lexLiteral (l ++ 10#8 :: r) = lexLiteral (l ++ [10#8]) := by
  have h : Agree (l ++ 10#8 :: r) (l ++ [10#8]) l.length := agree_append l r []
  have htake : ∀ n, n ≤ l.length → (l ++ 10#8 :: r).take n = (l ++ [10#8]).take n := fun n hn => take_agree l r [] n hn
  have hy : (l ++ [10#8]).length = l.length + 1 := by simp
  have hb' : l.length = 0 ∨ byteAt (l ++ 10#8 :: r) (l.length - 1) ≠ 92#8 := by
    rcases List.eq_nil_or_concat l with rfl | ⟨l', c, rfl⟩
    · left; rfl
    · right
      rw [List.concat_eq_append, List.length_append, List.length_singleton, Nat.add_sub_cancel, List.append_assoc,
        List.singleton_append, byteAt_length]
      simpa using hb
  have hpp := ppNumberLen_agree l r
  generalize l ++ 10#8 :: r = x at h htake hb' hpp ⊢
  generalize l ++ [10#8] = y at h htake hy hne hpp ⊢
  generalize l.length = m at h htake hy hb' hpp ⊢
  have e0 := h.eq 0 (Nat.zero_le _)
  unfold lexLiteral at hne ⊢
  have econd : (isDigit (byteAt x 0) || (decide (byteAt x 0 = 46#8) && isDigit (byteAt x 1))) =
      (isDigit (byteAt y 0) || (decide (byteAt y 0 = 46#8) && isDigit (byteAt y 1))) := by
    by_cases hm0 : m = 0
    · subst hm0
      simp [h.lf, h.lfy, show isDigit (10#8 : Byte) = false by decide]
    · rw [e0, h.eq 1 (by omega)]
  simp only [econd] at hne ⊢
  split
  · rename_i hnum
    have hm1 : 1 ≤ m := by
      apply Nat.pos_of_ne_zero
      intro e; subst e
      rw [h.lfy] at hnum
      simp [show isDigit (10#8 : Byte) = false by decide] at hnum
    rw [(hpp hm1).1, htake _ (hpp hm1).2]
  · obtain ⟨es, hqs⟩ := findPrefix_agree h stringPrefixes 34 prefixes_no_lf.1
    obtain ⟨ec, hqc⟩ := findPrefix_agree h charPrefixes 39 prefixes_no_lf.2
    rename_i hnum
    simp only [hnum] at hne
    simp only [es, ec] at hne ⊢
    cases hfs : stringPrefixes.find? (fun e => startsWithStr y (e.1 ++ [34])) with
    | some v =>
      simp only
      rw [readString_agree h hb' htake v.2.1 v.2.2 v.1.length (hqs v hfs)]
    | none =>
      simp only [hfs] at hne ⊢
      cases hfc : charPrefixes.find? (fun e => startsWithStr y (e.1 ++ [39])) with
      | some v =>
        simp only [hfc] at hne ⊢
        have hrc : readCharLiteral y v.1.length ≠ .error .unclosedChar := by
          intro hc
          apply hne
          simp [hc, bind, Except.bind]
        rw [readCharLiteral_agree h hy v.1.length (hqc v hfc) hrc]
      | none => rfl

end ChibiVerif.Lemmas.Locality
