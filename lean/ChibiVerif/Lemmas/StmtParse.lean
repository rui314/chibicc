/-
C03 — invariants of `parseStmt` (Model/Stmt.lean), by induction on the source statement with
the parser state as the invariant: the break/continue/switch context is restored, break /
continue / case / default bind to the innermost construct (`Bound`), the tree erases to
the source, unique names are allocated monotonically so that the labels a statement
defines are pairwise distinct and lie in the interval of names allocated while parsing it.
Then `resolve` (what it leaves unchanged: `RInv`) and, from the two, what `parseFn` guarantees of the tree it returns
(`parseFn_spec`): every `goto l` / `goto *&&l` is resolved to the unique label of a labelled statement named `l` of the
same function.
-/
import ChibiVerif.Model.Stmt
import ChibiVerif.Spec.ControlSpecG
import ChibiVerif.Lemmas.ListLemmas
namespace ChibiVerif.Ctl
open ChibiVerif.Spec.Ctl (Val SStmt Event SState truth hasGotoVal)

/-- how the `current_switch` context after a statement relates to the one before -/
def SwFrame (sw sw' : Option SwCtx) (st : Stmt) : Prop :=
  match sw with
  | none => sw' = none ∧ caseEnts st = [] ∧ dflts st = []
  | some ctx => ∃ ctx', sw' = some ctx' ∧
      (∀ e, e ∈ ctx'.cases ↔ e ∈ caseEnts st ∨ e ∈ ctx.cases) ∧
      ((dflts st = [] ∧ ctx'.dflt = ctx.dflt) ∨ (∃ d, ctx'.dflt = some d ∧ d ∈ dflts st))

/-- parsing `s` in state `σ` restores the break / continue context, extends the enclosing switch by the `case` / `default`
    nodes of `s` only, and returns `s` with every jump bound to its innermost construct -/
structure PInv (s : SStmt) (σ : PState) (st : Stmt) (σ' : PState) : Prop where
  brk : σ'.brk = σ.brk
  cont : σ'.cont = σ.cont
  erase : erase st = s
  bound : Bound σ.brk σ.cont st
  sw : SwFrame σ.sw σ'.sw st

theorem SwFrame.refl (sw : Option SwCtx) (st : Stmt) (h1 : caseEnts st = []) (h2 : dflts st = []) :
    SwFrame sw sw st := by
  cases sw with
  | none => exact ⟨rfl, h1, h2⟩
  | some ctx => exact ⟨ctx, rfl, by simp [h1], Or.inl ⟨h2, rfl⟩⟩

theorem SwFrame.congr {sw sw' : Option SwCtx} {a st : Stmt} (h : SwFrame sw sw' a)
    (hc : caseEnts st = caseEnts a) (hd : dflts st = dflts a) : SwFrame sw sw' st := by
  unfold SwFrame at h ⊢
  rw [hc, hd]; exact h

theorem SwFrame.comp {sw sw1 sw2 : Option SwCtx} {a b st : Stmt} (h1 : SwFrame sw sw1 a)
    (h2 : SwFrame sw1 sw2 b) (hc : caseEnts st = caseEnts a ++ caseEnts b)
    (hd : dflts st = dflts a ++ dflts b) : SwFrame sw sw2 st := by
  cases sw with
  | none =>
    obtain ⟨rfl, ha1, ha2⟩ := h1
    obtain ⟨rfl, hb1, hb2⟩ := h2
    exact ⟨rfl, by simp [hc, ha1, hb1], by simp [hd, ha2, hb2]⟩
  | some ctx =>
    obtain ⟨ctx1, rfl, hc1, hd1⟩ := h1
    obtain ⟨ctx2, rfl, hc2, hd2⟩ := h2
    refine ⟨ctx2, rfl, ?_, ?_⟩
    · intro e
      rw [hc2, hc1, hc, List.mem_append]
      constructor
      · rintro (h | h | h)
        · exact Or.inl (Or.inr h)
        · exact Or.inl (Or.inl h)
        · exact Or.inr h
      · rintro ((h | h) | h)
        · exact Or.inr (Or.inl h)
        · exact Or.inl h
        · exact Or.inr (Or.inr h)
    · rcases hd2 with ⟨hb0, hb1⟩ | ⟨d, hb1, hb2⟩
      · rcases hd1 with ⟨ha0, ha1⟩ | ⟨d, ha1, ha2⟩
        · exact Or.inl ⟨by simp [hd, ha0, hb0], by rw [hb1, ha1]⟩
        · exact Or.inr ⟨d, by rw [hb1, ha1], by simp [hd, ha2]⟩
      · exact Or.inr ⟨d, hb1, by simp [hd, hb2]⟩

/-- the unique names drawn while parsing are those of `defs st`: new, pairwise distinct, between the two values of the
    name counter; the label records grow by labelled statements of `st` only -/
structure PInv2 (σ : PState) (st : Stmt) (σ' : PState) : Prop where
  le : σ.uniq ≤ σ'.uniq
  nodup : (defs st).Nodup
  range : ∀ n ∈ defs st, σ.uniq ≤ n ∧ n < σ'.uniq
  labels : ∀ p ∈ σ'.labels, p ∈ σ.labels ∨ p.2 ∈ defs st

/-- what a counter hands out between two of its values -/
def InR (a b : Nat) (L : List Nat) : Prop := ∀ x ∈ L, a ≤ x ∧ x < b

theorem InR.mono {a b a' b' : Nat} {L : List Nat} (h : InR a b L) (h1 : a' ≤ a) (h2 : b ≤ b') : InR a' b' L :=
  fun x hx => ⟨Nat.le_trans h1 (h x hx).1, Nat.lt_of_lt_of_le (h x hx).2 h2⟩

theorem InR.append {a b : Nat} {L M : List Nat} (hL : InR a b L) (hM : InR a b M) : InR a b (L ++ M) :=
  fun x hx => (List.mem_append.1 hx).elim (hL x) (hM x)

/-- what is handed out later is new -/
theorem InR.nodup_append {a b c : Nat} {L M : List Nat} (hL : InR a b L) (hM : InR b c M) (nL : L.Nodup) (nM : M.Nodup) :
    (L ++ M).Nodup :=
  List.nodup_append.2 ⟨nL, nM, fun x hx y hy e => Nat.lt_irrefl _ (Nat.lt_of_lt_of_le (e ▸ (hL x hx).2) (hM y hy).1)⟩

theorem PInv2.leaf (σ : PState) {st : Stmt} (h : defs st = []) : PInv2 σ st σ :=
  ⟨Nat.le_refl _, h ▸ List.nodup_nil, fun n hn => (by rw [h] at hn; cases hn), fun _ hp => Or.inl hp⟩

theorem PInv2.comp {σ σ1 σ2 : PState} {a b st : Stmt} (A : PInv2 σ a σ1) (B : PInv2 σ1 b σ2)
    (hd : defs st = defs a ++ defs b) : PInv2 σ st σ2 := by
  have ra : InR σ.uniq σ1.uniq (defs a) := A.range
  have rb : InR σ1.uniq σ2.uniq (defs b) := B.range
  refine ⟨Nat.le_trans A.le B.le, hd ▸ ra.nodup_append rb A.nodup B.nodup,
    hd ▸ (ra.mono (Nat.le_refl _) B.le).append (rb.mono A.le (Nat.le_refl _)), ?_⟩
  intro p hp
  rw [hd, List.mem_append]
  rcases B.labels p hp with h | h
  · exact (A.labels p h).imp id Or.inl
  · exact Or.inr (Or.inr h)

/-- a construct that draws the names `extra` (its break / continue / own label) before its body is parsed -/
theorem PInv2.wrap {σ σ0 σ1 σ' : PState} {body st : Stmt} {k : Nat} {extra : List Nat} (A : PInv2 σ0 body σ1)
    (h0 : σ0.uniq = σ.uniq + k) (hl0 : σ0.labels = σ.labels) (hu : σ'.uniq = σ1.uniq)
    (hx : InR σ.uniq (σ.uniq + k) extra) (hxn : extra.Nodup) (hd : (defs st).Perm (extra ++ defs body))
    (hl : ∀ p ∈ σ'.labels, p ∈ σ1.labels ∨ p.2 ∈ extra) : PInv2 σ st σ' := by
  have rb : InR (σ.uniq + k) σ'.uniq (defs body) := h0 ▸ hu ▸ A.range
  have hk : σ.uniq + k ≤ σ'.uniq := h0 ▸ hu ▸ A.le
  refine ⟨Nat.le_trans (Nat.le_add_right _ _) hk, hd.nodup_iff.2 (hx.nodup_append rb hxn A.nodup),
    fun n hn => ((hx.mono (Nat.le_refl _) hk).append (rb.mono (Nat.le_add_right _ _) (Nat.le_refl _))) n (hd.mem_iff.1 hn), ?_⟩
  intro p hp
  rcases hl p hp with h | h
  · exact (A.labels p h).imp (hl0 ▸ id) fun h => hd.mem_iff.2 (List.mem_append_right _ h)
  · exact Or.inr (hd.mem_iff.2 (List.mem_append_left _ h))

theorem parse_all (s : SStmt) : ∀ (σ : PState) (st : Stmt) (σ' : PState), parseStmt s σ = .ok (st, σ') →
    PInv s σ st σ' ∧ PInv2 σ st σ' ∧ ∀ p ∈ σ'.labels, p ∈ σ.labels ∨ p ∈ labelPairs st := by
  have one : ∀ u : Nat, InR u (u + 1) [u] := fun u n hn => by
    rw [List.mem_singleton] at hn; omega
  have two : ∀ u : Nat, InR u (u + 2) [u + 1, u] := fun u n hn => by
    simp only [List.mem_cons, List.not_mem_nil, or_false] at hn; omega
  induction s with
  | skip | marker _ | ret | goto_ _ | gotoVal _ =>
    intro σ st σ' h
    simp only [parseStmt, Except.ok.injEq, Prod.mk.injEq] at h
    obtain ⟨rfl, rfl⟩ := h
    exact ⟨⟨rfl, rfl, rfl, trivial, SwFrame.refl _ _ rfl rfl⟩, .leaf _ rfl, fun p hp => Or.inl hp⟩
  | break_ | continue_ =>
    intro σ st σ' h
    simp only [parseStmt] at h
    split at h
    · cases h
    · rename_i b hb
      simp only [Except.ok.injEq, Prod.mk.injEq] at h
      obtain ⟨rfl, rfl⟩ := h
      exact ⟨⟨rfl, rfl, rfl, hb, SwFrame.refl _ _ rfl rfl⟩, .leaf _ rfl, fun p hp => Or.inl hp⟩
  | seq a b iha ihb | ifte _ a b iha ihb =>
    intro σ st σ' h
    simp only [parseStmt] at h
    split at h
    · cases h
    · rename_i a' σ1 ha
      split at h
      · cases h
      · rename_i b' σ2 hb
        simp only [Except.ok.injEq, Prod.mk.injEq] at h
        obtain ⟨rfl, rfl⟩ := h
        obtain ⟨A, A2, AL⟩ := iha _ _ _ ha
        obtain ⟨B, B2, BL⟩ := ihb _ _ _ hb
        refine ⟨⟨by rw [B.brk, A.brk], by rw [B.cont, A.cont], by simp [erase, A.erase, B.erase],
          ⟨A.bound, by have := B.bound; rwa [A.brk, A.cont] at this⟩, SwFrame.comp A.sw B.sw rfl rfl⟩,
          A2.comp B2 rfl, fun p hp => ?_⟩
        simp only [labelPairs, List.mem_append]
        rcases BL p hp with h | h
        · exact (AL p h).imp id Or.inl
        · exact Or.inr (Or.inr h)
  | block s ih =>
    intro σ st σ' h
    simp only [parseStmt] at h
    split at h
    · cases h
    · rename_i s' σ1 hs
      simp only [Except.ok.injEq, Prod.mk.injEq] at h
      obtain ⟨rfl, rfl⟩ := h
      obtain ⟨A, A2, AL⟩ := ih _ _ _ hs
      exact ⟨⟨A.brk, A.cont, by simp [erase, A.erase], A.bound, A.sw.congr rfl rfl⟩, ⟨A2.le, A2.nodup, A2.range, A2.labels⟩, AL⟩
  | for_ _ _ _ body ih | doWhile body _ ih =>
    intro σ st σ' h
    simp only [parseStmt] at h
    split at h
    · cases h
    · rename_i s' σ1 hs
      simp only [Except.ok.injEq, Prod.mk.injEq] at h
      obtain ⟨rfl, rfl⟩ := h
      obtain ⟨A, A2, AL⟩ := ih _ _ _ hs
      exact ⟨⟨rfl, rfl, by simp [erase, A.erase], A.bound, A.sw.congr rfl rfl⟩,
        A2.wrap (k := 2) rfl rfl rfl (two σ.uniq) (by simp) List.perm_append_comm fun _ hp => Or.inl hp, AL⟩
  | label l s ih =>
    intro σ st σ' h
    simp only [parseStmt] at h
    split at h
    · cases h
    · rename_i s' σ1 hs
      simp only [Except.ok.injEq, Prod.mk.injEq] at h
      obtain ⟨rfl, rfl⟩ := h
      obtain ⟨A, A2, AL⟩ := ih _ _ _ hs
      refine ⟨⟨A.brk, A.cont, by simp [erase, A.erase], A.bound, A.sw.congr rfl rfl⟩,
        A2.wrap (k := 1) rfl rfl rfl (one σ.uniq) (by simp) (.refl _) fun p hp => ?_, fun p hp => ?_⟩
      · rcases List.mem_cons.1 hp with rfl | hp
        · exact Or.inr (List.mem_singleton.2 rfl)
        · exact Or.inl hp
      · rcases List.mem_cons.1 hp with rfl | hp
        · exact Or.inr (List.mem_cons_self ..)
        · exact (AL p hp).imp id (List.mem_cons_of_mem _)
  | switch_ w u k body ih =>
    intro σ st σ' h
    simp only [parseStmt] at h
    split at h
    · cases h
    · rename_i body' σ1 hs
      split at h
      · cases h
      · rename_i ctx hctx
        simp only [Except.ok.injEq, Prod.mk.injEq] at h
        obtain ⟨rfl, rfl⟩ := h
        obtain ⟨A, A2, AL⟩ := ih _ _ _ hs
        refine ⟨?_, A2.wrap (k := 1) rfl rfl rfl (one σ.uniq) (by simp) List.perm_append_comm fun _ hp => Or.inl hp, AL⟩
        obtain ⟨ctx', hc', hcases, hd⟩ := A.sw
        rw [hctx] at hc'
        cases hc'
        refine ⟨rfl, A.cont, by simp [erase, A.erase], ⟨A.bound, ?_, ?_⟩, SwFrame.refl _ _ rfl rfl⟩
        · intro e; rw [hcases]; simp
        · rcases hd with ⟨h0, h1⟩ | ⟨d, h1, h2⟩
          · simp only at h1; rw [h1]; exact h0
          · rw [h1]; exact h2
  | case_ lo hi s ih =>
    intro σ st σ' h
    simp only [parseStmt] at h
    split at h
    · cases h
    · rename_i ctx0 hctx0
      split at h
      · cases h
      · split at h
        · cases h
        · rename_i s' σ1 hs
          split at h
          · cases h
          · rename_i ctx1 hctx1
            simp only [Except.ok.injEq, Prod.mk.injEq] at h
            obtain ⟨rfl, rfl⟩ := h
            obtain ⟨A, A2, AL⟩ := ih _ _ _ hs
            refine ⟨⟨A.brk, A.cont, by simp [erase, A.erase], A.bound, ?_⟩,
              A2.wrap (k := 1) rfl rfl rfl (one σ.uniq) (by simp) (.refl _) fun _ hp => Or.inl hp, AL⟩
            have hsw := A.sw
            simp only [hctx0] at hsw ⊢
            obtain ⟨ctx', hc', hcases, hd⟩ := hsw
            rw [hctx1] at hc'
            cases hc'
            refine ⟨_, rfl, ?_, hd⟩
            intro e
            simp only [caseEnts, List.mem_cons, hcases]
            constructor
            · rintro (h | h | h)
              · exact Or.inl (Or.inl h)
              · exact Or.inl (Or.inr h)
              · exact Or.inr h
            · rintro ((h | h) | h)
              · exact Or.inl h
              · exact Or.inr (Or.inl h)
              · exact Or.inr (Or.inr h)
  | default_ s ih =>
    intro σ st σ' h
    simp only [parseStmt] at h
    split at h
    · cases h
    · rename_i ctx0 hctx0
      split at h
      · cases h
      · rename_i s' σ1 hs
        split at h
        · cases h
        · rename_i ctx1 hctx1
          simp only [Except.ok.injEq, Prod.mk.injEq] at h
          obtain ⟨rfl, rfl⟩ := h
          obtain ⟨A, A2, AL⟩ := ih _ _ _ hs
          refine ⟨⟨A.brk, A.cont, by simp [erase, A.erase], A.bound, ?_⟩,
            A2.wrap (k := 1) rfl rfl rfl (one σ.uniq) (by simp) (.refl _) fun _ hp => Or.inl hp, AL⟩
          have hsw := A.sw
          simp only [hctx0] at hsw ⊢
          obtain ⟨ctx', hc', hcases, hd⟩ := hsw
          rw [hctx1] at hc'
          cases hc'
          exact ⟨_, rfl, hcases, Or.inr ⟨_, rfl, by simp [dflts]⟩⟩

theorem lookupLabel_pair {L : List (Nat × Nat)} {l u : Nat} (h : lookupLabel L l = some u) : (l, u) ∈ L :=
  List.find?_fst_mem h

/-- what `resolve` with the label list `L` preserves, and that it binds every jump to an entry of `L` of its name -/
structure RInv (L : List (Nat × Nat)) (st st' : Stmt) : Prop where
  goto : GotoR (fun l t => (l, t) ∈ L) True st'
  defs : defs st' = defs st
  cases : caseEnts st' = caseEnts st
  dflts : dflts st' = dflts st
  erase : erase st' = erase st
  pairs : labelPairs st' = labelPairs st
  bound : ∀ b c, Bound b c st → Bound b c st'

theorem RInv.refl_of {L : List (Nat × Nat)} {st : Stmt} (h : GotoR (fun l t => (l, t) ∈ L) True st) : RInv L st st :=
  ⟨h, rfl, rfl, rfl, rfl, rfl, fun _ _ h => h⟩

theorem resolve_inv (L : List (Nat × Nat)) (st : Stmt) : ∀ st', resolve L st = .ok st' → RInv L st st' := by
  induction st with
  | skip | marker _ | ret => intro st' h; simp only [resolve, Except.ok.injEq] at h; subst h; exact .refl_of trivial
  | goto_ k t =>
    intro st' h
    cases k with
    | brk | cont => simp only [resolve, Except.ok.injEq] at h; subst h; exact .refl_of trivial
    | user l =>
      simp only [resolve] at h
      split at h
      · cases h
      · rename_i u hu
        simp only [Except.ok.injEq] at h
        subst h
        exact ⟨lookupLabel_pair hu, rfl, rfl, rfl, rfl, rfl, fun _ _ _ => trivial⟩
  | gotoN l =>
    intro st' h
    simp only [resolve] at h
    split at h
    · cases h
    · rename_i u hu
      simp only [Except.ok.injEq] at h
      subst h
      exact ⟨lookupLabel_pair hu, rfl, rfl, rfl, rfl, rfl, fun _ _ _ => trivial⟩
  | gotoVal l _ | gotoValN l =>
    intro st' h
    simp only [resolve] at h
    split at h
    · cases h
    · rename_i u hu
      simp only [Except.ok.injEq] at h
      subst h
      exact ⟨⟨lookupLabel_pair hu, trivial⟩, rfl, rfl, rfl, rfl, rfl, fun _ _ _ => trivial⟩
  | seq a b iha ihb | ifte _ a b iha ihb =>
    intro st' h
    simp only [resolve] at h
    split at h
    · cases h
    · rename_i a' ha
      split at h
      · cases h
      · rename_i b' hb
        simp only [Except.ok.injEq] at h
        subst h
        have A := iha _ ha
        have B := ihb _ hb
        exact ⟨⟨A.goto, B.goto⟩, by simp only [defs, A.defs, B.defs], by simp only [caseEnts, A.cases, B.cases],
          by simp only [dflts, A.dflts, B.dflts], by simp only [erase, A.erase, B.erase],
          by simp only [labelPairs, A.pairs, B.pairs], fun b c hb => ⟨A.bound b c hb.1, B.bound b c hb.2⟩⟩
  | block s ih | for_ _ _ _ _ _ s ih | doWhile _ _ s _ ih | case_ _ _ _ s ih | default_ _ s ih | label _ _ s ih =>
    intro st' h
    simp only [resolve] at h
    split at h
    · cases h
    · rename_i s' hs
      simp only [Except.ok.injEq] at h
      subst h
      have A := ih _ hs
      exact ⟨A.goto, by simp only [defs, A.defs], by simp only [caseEnts, A.cases], by simp only [dflts, A.dflts],
        by simp only [erase, A.erase], by simp only [labelPairs, A.pairs], fun _ _ hb => A.bound _ _ hb⟩
  | switch_ w u k cs d brk body ih =>
    intro st' h
    simp only [resolve] at h
    split at h
    · cases h
    · rename_i s' hs
      simp only [Except.ok.injEq] at h
      subst h
      have A := ih _ hs
      exact ⟨A.goto, by simp [defs, A.defs], by simp [caseEnts], by simp [dflts],
        by simp [erase, A.erase], A.pairs, fun b c hb => ⟨A.bound _ _ hb.1, by rw [A.cases]; exact hb.2.1, by rw [A.dflts]; exact hb.2.2⟩⟩

/-- the relation a resolved jump satisfies: `(name, unique label)` is a labelled statement of the function -/
def RPairs (fbT : Stmt) : Nat → Nat → Prop := fun l t => (l, t) ∈ labelPairs fbT

/-- the side condition `V` is only asked for where a computed goto occurs -/
theorem GotoR.imp {R R' : Nat → Nat → Prop} {V V' : Prop} (hR : ∀ l t, R l t → R' l t) (st : Stmt) :
    GotoR R V st → (hasGotoVal (erase st) = true → V → V') → GotoR R' V' st := by
  induction st with
  | seq a b iha ihb | ifte _ a b iha ihb =>
    intro h hv
    simp only [erase, hasGotoVal, Bool.or_eq_true] at hv
    exact ⟨iha h.1 (fun x => hv (Or.inl x)), ihb h.2 (fun x => hv (Or.inr x))⟩
  | block s ih | for_ _ _ _ _ _ s ih | doWhile _ _ s _ ih | switch_ _ _ _ _ _ _ s ih | case_ _ _ _ s ih | default_ _ s ih
  | label _ _ s ih => exact ih
  | goto_ k t =>
    intro h _
    cases k with
    | brk | cont => trivial
    | user l => exact hR _ _ h
  | gotoVal l t => intro h hv; exact ⟨hR _ _ h.1, hv rfl h.2⟩
  | gotoN _ | gotoValN _ => intro h _; exact h
  | skip | marker _ | ret => intro _ _; trivial

/-- what `parseFn` guarantees of the tree `st` it returns for the source `s`: jumps bound to the innermost construct, the
    source with labels added, unique labels pairwise distinct, every `goto` / `&&label` resolved to a labelled statement of
    that name in the same function -/
structure ParsedFn (s : SStmt) (st : Stmt) : Prop where
  bound : Bound none none st
  erase : erase st = s
  nodup : (defs st).Nodup
  goto : GotoR (RPairs st) True st

theorem parseFn_spec {u0 u1 : Nat} {s : SStmt} {st : Stmt} (h : parseFn u0 s = .ok (st, u1)) : ParsedFn s st := by
  unfold parseFn at h
  split at h
  · cases h
  · rename_i st0 σ1 hp
    split at h
    · cases h
    · rename_i st' hr
      simp only [Except.ok.injEq, Prod.mk.injEq] at h
      obtain ⟨rfl, rfl⟩ := h
      obtain ⟨A, A2, AL⟩ := parse_all s _ st0 σ1 hp
      have R := resolve_inv σ1.labels st0 _ hr
      refine ⟨R.bound _ _ A.bound, by rw [R.erase, A.erase], by rw [R.defs]; exact A2.nodup,
        GotoR.imp (fun l t hlt => ?_) _ R.goto fun _ => id⟩
      unfold RPairs
      rw [R.pairs]
      exact (AL _ hlt).resolve_left List.not_mem_nil

theorem gotoR_names {R : Nat → Nat → Prop} {V : Prop} (st : Stmt) :
    GotoR R V st → ∀ l ∈ jumpNames (erase st), ∃ t, R l t := by
  induction st with
  | seq a b iha ihb | ifte _ a b iha ihb =>
    intro h l hl
    simp only [erase, jumpNames, List.mem_append] at hl
    rcases hl with hl | hl
    · exact iha h.1 l hl
    · exact ihb h.2 l hl
  | block s ih | for_ _ _ _ _ _ s ih | doWhile _ _ s _ ih | switch_ _ _ _ _ _ _ s ih | case_ _ _ _ s ih | default_ _ s ih
  | label _ _ s ih => exact ih
  | goto_ k t =>
    intro h l hl
    cases k with
    | brk | cont => simp [erase, jumpNames] at hl
    | user l' =>
      simp only [erase, jumpNames, List.mem_singleton] at hl
      subst hl; exact ⟨t, h⟩
  | gotoVal l' t =>
    intro h l hl
    simp only [erase, jumpNames, List.mem_singleton] at hl
    subst hl; exact ⟨t, h.1⟩
  | gotoN _ | gotoValN _ => intro h; exact absurd h (by simp [GotoR])
  | skip | marker _ | ret => intro _ l hl; simp [erase, jumpNames] at hl

end ChibiVerif.Ctl
