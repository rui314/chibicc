/-
Lemmas about Model/IfUnparse.lean: the C11 grammar of Spec/IfGrammar.lean derives the minimally parenthesised printing of a
well-formed tree, at the nonterminal of the tree's outermost construct; and every tree the grammar derives is well-formed.
Core Lean only.
-/
import ChibiVerif.Model.IfUnparse
import ChibiVerif.Lemmas.IfParseLemmas

namespace ChibiVerif.IfParse
open ChibiVerif.PPExpr ChibiVerif.Spec.IfGrammar

/-- the nonterminal of a position: 0 … 10 the levels, 11 conditional-expression, ≥ 12 expression -/
def ntOf (k : Nat) : NT := if k ≤ 10 then .lvl k else if k = 11 then .cond else .expr

theorem ntOf_lvl {k : Nat} (h : k ≤ 10) : ntOf k = .lvl k := if_pos h

theorem ntOf_expr {k : Nat} (h : 11 < k) : ntOf k = .expr :=
  (if_neg (Nat.not_le_of_gt (Nat.lt_of_succ_lt h))).trans (if_neg (Nat.ne_of_gt h))

theorem ntOf_le {k k' : Nat} {ts : List PTok} {t : PT} (h : Derives (ntOf k) ts t) (hk : k ≤ k') : Derives (ntOf k') ts t := by
  induction hk with
  | refl => exact h
  | @step k _ ih =>
    -- one position up: the rules `up`, `condUp`, `exprUp`, or nothing above `expression`
    rcases Nat.lt_or_ge k 10 with h1 | h1
    · rw [ntOf_lvl (Nat.le_of_lt h1)] at ih
      rw [ntOf_lvl h1]
      exact .up ih
    · rcases Nat.eq_or_lt_of_le h1 with rfl | h2
      · exact .condUp ih
      · rcases Nat.eq_or_lt_of_le h2 with rfl | h3
        · exact .exprUp ih
        · rw [ntOf_expr h3] at ih
          rw [ntOf_expr (Nat.lt_succ_of_lt h3)]
          exact ih

theorem unSym_mem {op : UnOp} : (unSym op, op) ∈ c11Unary := by cases op <;> decide +kernel

/-- the printed spelling of an operator is an entry of its C11 level; the odd shape (one Boolean
    instead of the three facts of `binSym_mem`) is there so that `cases op <;> decide` evaluates each operator once -/
theorem binSym_check (op : BinOp) :
    (decide (1 ≤ binLevel op) && decide (binLevel op ≤ 10) && (c11Ops (binLevel op)).contains (binSym op, op)) = true := by
  cases op <;> decide +kernel

theorem binSym_mem (op : BinOp) : 1 ≤ binLevel op ∧ binLevel op ≤ 10 ∧ (binSym op, op) ∈ c11Ops (binLevel op) := by
  simpa [and_assoc] using binSym_check op

theorem prec_le (t : PT) : t.prec ≤ 12 := by
  cases t with
  | bin op _ _ =>
    exact Nat.le_trans (binSym_mem op).2.1 (Nat.le_of_ble_eq_true rfl)
  | _ => exact Nat.le_of_ble_eq_true rfl

/-- an operand printed for a position that allows levels ≤ `k` is derived at that position -/
theorem atLvl_derives {t : PT} (h : Derives (ntOf t.prec) (unparse t) t) (k : Nat) : Derives (ntOf k) (atLvl k t (unparse t)) t := by
  unfold atLvl
  by_cases hk : t.prec ≤ k
  · rw [if_pos hk]; exact ntOf_le h hk
  · rw [if_neg hk]
    have he : Derives .expr (unparse t) t := ntOf_le (k' := 12) h (prec_le t)
    have h0 : Derives (ntOf 0) (parens (unparse t)) t := Derives.paren he
    exact ntOf_le h0 (Nat.zero_le _)

theorem unTree_of_ne {op : UnOp} (h : op ≠ .plus) (e : PT) : unTree op e = .un op e := by
  unfold unTree
  split
  · exact absurd rfl h
  · rfl

/-- the grammar derives the printing of a well-formed tree, at the nonterminal of its outermost construct -/
theorem derives_unparse (t : PT) (h : t.WF = true) : Derives (ntOf t.prec) (unparse t) t := by
  induction t with
  | num v u => exact .num v u
  | un op e ih =>
    simp only [PT.WF, Bool.and_eq_true, bne_iff_ne, ne_eq] at h
    have hd := Derives.unop (unSym_mem (op := op)) (atLvl_derives (ih h.2) 0)
    rwa [unTree_of_ne h.1] at hd
  | bin op a b iha ihb =>
    simp only [PT.WF, Bool.and_eq_true, bne_iff_ne, ne_eq] at h
    obtain ⟨h1, h10, hm⟩ := binSym_mem op
    have ha := atLvl_derives (iha h.1.2) (binLevel op)
    have hb := atLvl_derives (ihb h.2) (binLevel op - 1)
    rw [ntOf_lvl h10] at ha
    rw [ntOf_lvl (Nat.le_trans (Nat.sub_le _ _) h10)] at hb
    show Derives (ntOf (binLevel op)) (atLvl (binLevel op) a (unparse a) ++ .punct (binSym op) :: atLvl (binLevel op - 1) b (unparse b)) _
    rw [ntOf_lvl h10]
    -- the rule `binop` speaks of a level `d + 1`
    obtain ⟨d, hd⟩ : ∃ d, binLevel op = d + 1 := ⟨binLevel op - 1, (Nat.sub_add_cancel h1).symm⟩
    rw [hd] at hm ha hb ⊢
    have := Derives.binop hm ha hb
    rwa [binTree_of_ne h.1.1.1 h.1.1.2] at this
  | cond c a b ihc iha ihb =>
    simp only [PT.WF, Bool.and_eq_true] at h
    have hc := atLvl_derives (ihc h.1.1) 10
    have ha : Derives .expr (unparse a) a := ntOf_le (k' := 12) (iha h.1.2) (prec_le a)
    have hb := atLvl_derives (ihb h.2) 11
    exact Derives.cond hc ha hb
  | comma a b iha ihb =>
    simp only [PT.WF, Bool.and_eq_true] at h
    have ha := atLvl_derives (iha h.1) 11
    have hb : Derives .expr (unparse b) b := ntOf_le (k' := 12) (ihb h.2) (prec_le b)
    exact Derives.comma ha hb

theorem derives_unparseTop (t : PT) (h : t.WF = true) : Derives .cond (unparseTop t) t :=
  atLvl_derives (derives_unparse t h) 11

/-- every tree the grammar derives is well-formed (`unTree`, `binTree` build no unary-plus node and no `>` / `>=` node) -/
theorem derives_wf {nt : NT} {ts : List PTok} {t : PT} (h : Derives nt ts t) : t.WF = true := by
  induction h with
  | num v u => rfl
  | paren _ ih => exact ih
  | @unop _ op _ _ _ _ ih => cases op <;> simp [unTree, PT.WF, ih]
  | up _ ih => exact ih
  | binop _ _ _ iha ihb =>
    unfold binTree
    split
    · simp [PT.WF, iha, ihb]
    · simp [PT.WF, iha, ihb]
    · next h1 h2 => simpa [PT.WF, iha, ihb] using ⟨h1, h2⟩
  | condUp _ ih => exact ih
  | cond _ _ _ ihc iha ihb => simp [PT.WF, ihc, iha, ihb]
  | exprUp _ ih => exact ih
  | comma _ _ iha ihb => simp [PT.WF, iha, ihb]

end ChibiVerif.IfParse
