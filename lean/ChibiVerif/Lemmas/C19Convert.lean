/-
Lemmas for the same-program half of C19 (Props/C19Program.lean): the kinds of re-read tokens, `convert_pp_tokens` as a function
of (kind, spelling), and printers in general (`printWith`).
-/
import ChibiVerif.Model.C19Convert
import ChibiVerif.Lemmas.LexSeq
import ChibiVerif.Lemmas.LexClosure

namespace ChibiVerif.C19Convert
open ChibiVerif ChibiVerif.Lex

theorem lexedAlone_spec (t : Tok) (h : lexedAlone t = true) :
    selfLexing t.text = true ∧ kindOf t.text = t.kind := by
  unfold lexedAlone at h
  unfold selfLexing kindOf
  cases hs : lexStep t.text true false with
  | done => rw [hs] at h; cases h
  | skip r b p => rw [hs] at h; cases h
  | err e => rw [hs] at h; cases h
  | tok t' r =>
    rw [hs] at h
    cases r with
    | cons x r' => cases h
    | nil =>
      simp only [Bool.and_eq_true, beq_iff_eq] at h
      simp only [beq_iff_eq]
      exact ⟨h.1, h.2⟩

theorem lexedAlone_of_lexStep (s : List Nat) (bol sp : Bool) (t : Tok) (r : List Nat)
    (h : lexStep s bol sp = .tok t r) : lexedAlone t = true := by
  rw [lexedAlone, lexStep_alone s bol sp t r h]
  simp

theorem tokensOf_kind (f : Bool × Bool) (items : List Item) :
    (tokensOf f items).map (·.kind) = items.map (fun it => kindOf it.2) := by
  induction items generalizing f with
  | nil => rfl
  | cons it r ih => simp [tokensOf, ih]

theorem relexed_kind (ts : List Tok) : (relexed ts).map (·.kind) = ts.map (fun t => kindOf t.text) := by
  rw [relexed, tokensOf_kind]
  simpa [List.map_map, Function.comp_def] using congrArg (List.map kindOf) (itemsWith_text sepBefore ts none)

theorem relexed_kind_of_lexedAlone (ts : List Tok) (h : ∀ t ∈ ts, lexedAlone t = true) :
    (relexed ts).map (·.kind) = ts.map (·.kind) := by
  rw [relexed_kind]
  apply List.map_congr_left
  intro t ht
  exact (lexedAlone_spec t (h t ht)).2

theorem convertTok_congr (numOk : List Nat → Bool) (u t : Tok) (hk : u.kind = t.kind) (ht : u.text = t.text) :
    convertTok numOk u = convertTok numOk t := by
  unfold convertTok
  rw [hk, ht]

theorem convertPP_congr (numOk : List Nat → Bool) : ∀ (us ts : List Tok),
    us.map (·.kind) = ts.map (·.kind) → us.map (·.text) = ts.map (·.text) →
    convertPP numOk us = convertPP numOk ts := by
  intro us
  induction us with
  | nil =>
    intro ts h1 _
    cases ts with
    | nil => rfl
    | cons t ts => simp at h1
  | cons u us ih =>
    intro ts h1 h2
    cases ts with
    | nil => simp at h1
    | cons t ts =>
      simp only [List.map_cons, List.cons.injEq] at h1 h2
      simp only [convertPP]
      rw [convertTok_congr numOk u t h1.1 h2.1, ih ts h1.2 h2.2]

theorem printWith_render (sep : Option Tok → Tok → List Nat) (prev : Option Tok) (ts : List Tok) :
    printWith sep prev ts = render (itemsWith sep prev ts) ++ [10] := by
  induction ts generalizing prev with
  | nil => rfl
  | cons t ts ih => simp [printWith, itemsWith, render, ih]

theorem lex_printWith (sep : Option Tok → Tok → List Nat)
    (hb : ∀ p t, isBlank (sep p t) = true)
    (hn : ∀ p t, sep (some p) t = [] → Gen.Lex.needSpace p.text t.text = false)
    (ts : List Tok) (h : ∀ t ∈ ts, selfLexing t.text = true) :
    lex (printWith sep none ts) = .ok (tokensOf (true, false) (itemsWith sep none ts)) := by
  rw [printWith_render]
  exact lex_items _ [10] (okItems_itemsWith sep hb hn ts h none) rfl

theorem printWith_sepBefore (prev : Option Tok) (ts : List Tok) : printWith sepBefore prev ts = printFrom prev ts := by
  induction ts generalizing prev with
  | nil => rfl
  | cons t ts ih => simp [printWith, printFrom, ih]

end ChibiVerif.C19Convert
