/-
The table of hashmap.c (`Model/HashMap.lean`) refines an association list: abstraction function `absGet`, representation
invariant `WF` (`Inv` adds the zero-initialised map), and one lemma per operation saying that it does not abort, keeps the
invariant and commutes with `absGet`.  Every write goes through `WF.set` (the invariant) and `absGet_set` (the dictionary),
every lookup through the two outcomes of the probe loop (`insLoop_found`, `insLoop_absent`; `get_entry`'s loop is a projection
of it).  Then `rehash`: the specification of the capacity it must choose (`IsRehashCap`, met by `growCap`), the reinsertion
fold (`rehash_fold`, over a list without repeated names, `KeysNodup`), `WF.rehash_spec`; `hashmap_put2` (`Inv.put_spec_length`);
and two facts about abstract histories (`arun_append`, `arun_get_eq_foldl`).

The generated constants `INIT_SIZE`, `HIGH_WATERMARK`, `LOW_WATERMARK` are used through their definitions (`unfold … ; omega`),
so the proofs stop checking if the constants in hashmap.c change to values for which the argument is no longer valid (e.g.
`HIGH_WATERMARK = 100`).
-/
import ChibiVerif.Model.HashMap
import ChibiVerif.Lemmas.ListLemmas

namespace ChibiVerif.HashMap
open ChibiVerif.Gen.HashMap (INIT_SIZE HIGH_WATERMARK LOW_WATERMARK)

variable {α β : Type}

def Slot.key : Slot α β → Option α
  | .full k _ => some k
  | _ => none

/-- the slot is not `.empty` (it is full or a tombstone): `ent->key != NULL` -/
def Slot.occ : Slot α β → Bool
  | .empty => false
  | _ => true

/-- the slot at probe offset `i` from the hash value `hk` -/
def probe (b : List (Slot α β)) (hk i : Nat) : Slot α β :=
  HM.slotAt b ((hk + i) % b.length)

@[simp] theorem Slot.key_full (k : α) (v : β) : (Slot.full k v).key = some k := rfl
@[simp] theorem Slot.key_tomb : (Slot.tomb : Slot α β).key = none := rfl
@[simp] theorem Slot.key_empty : (Slot.empty : Slot α β).key = none := rfl
@[simp] theorem Slot.occ_full (k : α) (v : β) : (Slot.full k v).occ = true := rfl
@[simp] theorem Slot.occ_tomb : (Slot.tomb : Slot α β).occ = true := rfl
@[simp] theorem Slot.occ_empty : (Slot.empty : Slot α β).occ = false := rfl

theorem Slot.key_eq_some {s : Slot α β} {k : α} : s.key = some k ↔ ∃ v, s = .full k v := by
  cases s <;> simp [Slot.key]

theorem Slot.occ_eq_false {s : Slot α β} : s.occ = false ↔ s = .empty := by
  cases s <;> simp [Slot.occ]

theorem slotAt_eq_getElem?_getD (b : List (Slot α β)) (i : Nat) :
    HM.slotAt b i = (b[i]?).getD .empty := by
  simp [HM.slotAt]

theorem slotAt_of_length_le {b : List (Slot α β)} {i : Nat} (hi : b.length ≤ i) :
    HM.slotAt b i = .empty := by
  simp [HM.slotAt, List.getD_eq_getElem?_getD, List.getElem?_eq_none hi]

theorem lt_length_of_occ {b : List (Slot α β)} {i : Nat} (ho : (HM.slotAt b i).occ = true) :
    i < b.length := by
  apply Nat.lt_of_not_le
  intro hle
  rw [slotAt_of_length_le hle] at ho
  simp at ho

theorem lt_length_of_key {b : List (Slot α β)} {i : Nat} {k : α}
    (hk : (HM.slotAt b i).key = some k) : i < b.length := by
  apply lt_length_of_occ
  obtain ⟨v, hv⟩ := Slot.key_eq_some.1 hk
  rw [hv]; rfl

theorem slotAt_eq_getElem {b : List (Slot α β)} {i : Nat} (hi : i < b.length) :
    HM.slotAt b i = b[i] := by
  simp [HM.slotAt, List.getD_eq_getElem?_getD, List.getElem?_eq_getElem hi]

theorem slotAt_set {b : List (Slot α β)} {j : Nat} (hj : j < b.length) (s : Slot α β) (x : Nat) :
    HM.slotAt (b.set j s) x = if x = j then s else HM.slotAt b x := by
  simp only [HM.slotAt, List.getD_eq_getElem?_getD, List.getElem?_set]
  by_cases hx : x = j
  · subst hx; simp [hj]
  · have : ¬ j = x := fun e => hx e.symm
    simp [hx, this]

theorem slotAt_replicate_empty (n i : Nat) :
    HM.slotAt (List.replicate n (Slot.empty : Slot α β)) i = .empty := by
  simp only [HM.slotAt, List.getD_eq_getElem?_getD, List.getElem?_replicate]
  split <;> rfl

theorem probe_inj {c hk i d : Nat} (hid : i ≤ d) (hd : d < c)
    (he : (hk + i) % c = (hk + d) % c) : i = d := by
  have h1 := Nat.sub_mod_eq_zero_of_mod_eq he.symm
  have h2 : hk + d - (hk + i) = d - i := by omega
  rw [h2, Nat.mod_eq_of_lt (by omega)] at h1
  omega

theorem probe_inj' {c hk i d : Nat} (hi : i < c) (hd : d < c)
    (he : (hk + i) % c = (hk + d) % c) : i = d := by
  rcases Nat.le_total i d with h | h
  · exact probe_inj h hd he
  · exact (probe_inj h hi he.symm).symm

theorem probe_surj {c : Nat} (hk : Nat) {e : Nat} (he : e < c) :
    ∃ i, i < c ∧ (hk + i) % c = e := by
  have hc : 0 < c := by omega
  have hr : hk % c < c := Nat.mod_lt _ hc
  refine ⟨(e + c - hk % c) % c, Nat.mod_lt _ hc, ?_⟩
  have : hk % c + (e + c - hk % c) = e + c := by omega
  rw [Nat.add_mod_mod, ← Nat.mod_add_mod, this, Nat.add_mod_right, Nat.mod_eq_of_lt he]

variable [DecidableEq α]

theorem insLoop_succ (b : List (Slot α β)) (hk : Nat) (k : α) (n i : Nat) (t : Option Nat) :
    HM.insLoop b hk k (n + 1) i t =
      match HM.slotAt b ((hk + i) % b.length) with
      | .full k' _ =>
        if k' = k then .ok (.found ((hk + i) % b.length)) else HM.insLoop b hk k n (i + 1) t
      | .tomb => HM.insLoop b hk k n (i + 1)
          (match t with | some j => some j | none => some ((hk + i) % b.length))
      | .empty => match t with
        | some j => .ok (.reuse j)
        | none => .ok (.fresh ((hk + i) % b.length)) := by
  cases t <;> rfl

theorem insLoop_found (b : List (Slot α β)) (hk : Nat) (k : α) (v : β) (d : Nat) :
    ∀ n i t, i ≤ d → d < i + n → probe b hk d = .full k v →
      (∀ j, i ≤ j → j < d → (probe b hk j).occ = true ∧ (probe b hk j).key ≠ some k) →
      HM.insLoop b hk k n i t = .ok (.found ((hk + d) % b.length)) := by
  intro n
  induction n with
  | zero => intro i t h1 h2; omega
  | succ n ih =>
    intro i t h1 h2 hd hpre
    rw [insLoop_succ]
    by_cases hid : i = d
    · subst hid
      simp only [probe] at hd
      simp [hd]
    · have hlt : i < d := by omega
      have hp := hpre i (Nat.le_refl _) hlt
      have hrec := fun t => ih (i + 1) t (by omega) (by omega) hd
        (fun j hj1 hj2 => hpre j (by omega) hj2)
      simp only [probe] at hp
      revert hp
      cases hs : HM.slotAt b ((hk + i) % b.length) with
      | empty => simp
      | tomb => intro _; simpa using hrec _
      | full k' v' =>
        intro hp
        have : k' ≠ k := by simpa using hp.2
        simp [this, hrec]

/-- `d` is the first offset whose slot is not FULL (not the first empty one): that is where `applyIns` writes, and stating
    the answer at `d` needs no notion of "first tombstone before the empty slot".  The remembered tombstone `t` is general for
    the induction only; the one use (`WF.insLoop_spec`) is at `t = none`. -/
theorem insLoop_absent (b : List (Slot α β)) (hk : Nat) (k : α)
    (habs : ∀ j, (probe b hk j).key ≠ some k) :
    ∀ n i t, (∃ e, i ≤ e ∧ e < i + n ∧ (probe b hk e).occ = false) →
      ∃ d, i ≤ d ∧ d < i + n ∧
        (∀ j, i ≤ j → j < d → (probe b hk j).occ = true) ∧
        ((probe b hk d = .empty ∧ HM.insLoop b hk k n i t =
            .ok (match t with | some j0 => .reuse j0 | none => .fresh ((hk + d) % b.length))) ∨
         (probe b hk d = .tomb ∧
            HM.insLoop b hk k n i t = .ok (.reuse (t.getD ((hk + d) % b.length))))) := by
  intro n
  induction n with
  | zero => intro i t ⟨e, h1, h2, _⟩; omega
  | succ n ih =>
    intro i t ⟨e, h1, h2, he⟩
    rw [insLoop_succ]
    have ha := habs i
    simp only [probe] at ha
    revert ha
    cases hs : HM.slotAt b ((hk + i) % b.length) with
    | empty =>
      intro _
      exact ⟨i, Nat.le_refl _, by omega, fun j h1 h2 => by omega,
        Or.inl ⟨by simp [probe, hs], by cases t <;> rfl⟩⟩
    | tomb =>
      intro _
      have hei : e ≠ i := by
        intro hei; subst hei; simp [probe, hs] at he
      refine ⟨i, Nat.le_refl _, by omega, fun j h1 h2 => by omega, Or.inr ⟨by simp [probe, hs], ?_⟩⟩
      -- from here on a tombstone is remembered (`t`'s, or this slot), and with one remembered the loop answers `.reuse` of it
      -- whatever comes: both outcomes of the induction hypothesis say so, for `t = some j` and for `t = none` alike
      obtain ⟨_, _, _, _, h | h⟩ := ih (i + 1) (match t with | some j => some j | none => some ((hk + i) % b.length))
        ⟨e, by omega, by omega, he⟩ <;> cases t <;> simpa using h.2
    | full k' v' =>
      intro ha
      have hne : k' ≠ k := by simpa using ha
      have hei : e ≠ i := by
        intro hei; subst hei; simp [probe, hs] at he
      obtain ⟨d, hd1, hd2, hd3, hd4⟩ := ih (i + 1) t ⟨e, by omega, by omega, he⟩
      refine ⟨d, by omega, by omega, ?_, ?_⟩
      · intro j hj1 hj2
        by_cases hji : j = i
        · subst hji; simp [probe, hs]
        · exact hd3 j (by omega) hj2
      · simpa [hne] using hd4

/-- for EVERY remembered tombstone `t`: the projection forgets `reuse`/`fresh`, the only answers `t` enters -/
theorem getLoop_eq_insLoop (b : List (Slot α β)) (hk : Nat) (k : α) : ∀ n i t,
    HM.getLoop b hk k n i =
      (HM.insLoop b hk k n i t).map fun p => match p with | .found idx => some idx | _ => none := by
  intro n
  induction n with
  | zero => intro i t; rfl
  | succ n ih =>
    intro i t
    rw [HM.getLoop, insLoop_succ]
    cases HM.slotAt b ((hk + i) % b.length) with
    | empty => cases t <;> rfl
    | tomb => exact ih (i + 1) _
    | full k' v' =>
      by_cases hk' : k' = k
      · simp only [hk', if_true]; rfl
      · simp only [hk', if_false]; exact ih (i + 1) t

theorem AMap.get_eq_none_iff {l : List (α × β)} {k : α} :
    AMap.get (α := α) (β := β) l k = none ↔ ∀ v, (k, v) ∉ l := by
  simp only [AMap.get, Option.map_eq_none_iff, List.find?_eq_none]
  constructor
  · intro hn v hm
    have := hn (k, v) hm
    simp at this
  · intro hn ⟨k', v'⟩ hm hk
    simp at hk
    subst hk
    exact hn v' hm

theorem AMap.get_put (m : AMap α β) (k : α) (v : β) (k' : α) :
    (m.put k v).get k' = if k' = k then some v else m.get k' := by
  -- `AMap` is a synonym of `List (α × β)`: seen as a list, `get` is `List.lookup` and its lemmas fire
  change List (α × β) at m
  simp only [AMap.put, AMap.get, AMap.erase, List.find?_fst_map_snd]
  by_cases h : k' = k
  · subst h; simp
  · simp [h, List.lookup_cons, beq_false_of_ne h, List.lookup_filter_ne _ h]

theorem AMap.get_erase (m : AMap α β) (k : α) (k' : α) :
    (m.erase k).get k' = if k' = k then none else m.get k' := by
  change List (α × β) at m
  simp only [AMap.get, AMap.erase, List.find?_fst_map_snd]
  by_cases h : k' = k
  · subst h; simp only [List.lookup_filter_self, if_true]
  · simp [h, List.lookup_filter_ne _ h]

theorem AMap.get_empty (k : α) : (AMap.empty : AMap α β).get k = none := rfl

/-- the value of a full slot holding key `k` (the first one in bucket order; under the
    invariant there is at most one) -/
def absGet (m : HM α β) (k : α) : Option β := AMap.get (HM.liveEntries m.buckets) k

def occCount (b : List (Slot α β)) : Nat := b.countP Slot.occ

/-- Representation invariant of a table with allocated buckets.
* capacity is at least `INIT_SIZE`;
* (I1) no two different slots hold the same key;
* (I2) every stored key is reachable from its hash by linear probing without passing
  an empty slot;
* (I3) `used` counts the non-empty slots and at least one slot is empty. -/
def WF (h : α → Nat) (m : HM α β) : Prop :=
  INIT_SIZE ≤ m.buckets.length ∧
  (∀ i, i < m.buckets.length → ∀ j, j < m.buckets.length → ∀ k,
      (HM.slotAt m.buckets i).key = some k → (HM.slotAt m.buckets j).key = some k → i = j) ∧
  (∀ j, j < m.buckets.length → ∀ k, (HM.slotAt m.buckets j).key = some k →
      ∃ d, d < m.buckets.length ∧ ((h k + d) % m.buckets.length = j ∧
        ∀ i, i < d → (probe m.buckets (h k) i).occ = true)) ∧
  m.used = occCount m.buckets ∧
  m.used < m.buckets.length

/-- Representation invariant: the zero-initialised map (`buckets == NULL`), or a
    well-formed allocated table. -/
def Inv (h : α → Nat) (m : HM α β) : Prop :=
  (m.buckets.length = 0 ∧ m.used = 0) ∨ WF h m

instance (h : α → Nat) (m : HM α β) : Decidable (WF h m) := by
  unfold WF; infer_instance

instance (h : α → Nat) (m : HM α β) : Decidable (Inv h m) := by
  unfold Inv; infer_instance

omit [DecidableEq α] in
theorem Inv_empty (h : α → Nat) : Inv h (HM.empty : HM α β) := Or.inl ⟨rfl, rfl⟩

namespace WF
variable {h : α → Nat} {m : HM α β}

omit [DecidableEq α] in
theorem cap_ge (w : WF h m) : INIT_SIZE ≤ m.buckets.length := w.1

omit [DecidableEq α] in
theorem cap_pos (w : WF h m) : 0 < m.buckets.length := by
  have := w.1; unfold INIT_SIZE at this; omega

omit [DecidableEq α] in
/-- (I1) -/
theorem uniq (w : WF h m) {i j : Nat} {k : α} (hi : (HM.slotAt m.buckets i).key = some k)
    (hj : (HM.slotAt m.buckets j).key = some k) : i = j :=
  w.2.1 i (lt_length_of_key hi) j (lt_length_of_key hj) k hi hj

omit [DecidableEq α] in
/-- (I2) -/
theorem path (w : WF h m) {j : Nat} {k : α} (hj : (HM.slotAt m.buckets j).key = some k) :
    ∃ d, d < m.buckets.length ∧ (h k + d) % m.buckets.length = j ∧
      ∀ i, i < d → (probe m.buckets (h k) i).occ = true :=
  w.2.2.1 j (lt_length_of_key hj) k hj

omit [DecidableEq α] in
/-- (I3), first half -/
theorem used_eq (w : WF h m) : m.used = occCount m.buckets := w.2.2.2.1
omit [DecidableEq α] in
/-- (I3), second half: an empty slot exists -/
theorem used_lt (w : WF h m) : m.used < m.buckets.length := w.2.2.2.2

end WF

omit [DecidableEq α] in
theorem mem_liveEntries {b : List (Slot α β)} {k : α} {v : β} :
    (k, v) ∈ HM.liveEntries b ↔ ∃ j, HM.slotAt b j = .full k v := by
  simp only [HM.liveEntries, List.mem_filterMap]
  constructor
  · rintro ⟨s, hs, hf⟩
    cases s with
    | empty => simp at hf
    | tomb => simp at hf
    | full k' v' =>
      simp at hf
      obtain ⟨rfl, rfl⟩ := hf
      obtain ⟨j, hj⟩ := List.mem_iff_getElem?.1 hs
      exact ⟨j, by simp [HM.slotAt, List.getD_eq_getElem?_getD, hj]⟩
  · rintro ⟨j, hj⟩
    refine ⟨.full k v, ?_, rfl⟩
    have hlt : j < b.length := lt_length_of_occ (by rw [hj]; rfl)
    rw [slotAt_eq_getElem hlt] at hj
    rw [← hj]
    exact List.getElem_mem hlt

theorem slot_of_absGet_eq_some {m : HM α β} {k : α} {v : β} (hg : absGet m k = some v) :
    ∃ j, HM.slotAt m.buckets j = .full k v :=
  mem_liveEntries.1 (List.find?_fst_mem hg)

theorem absGet_eq_none_iff {m : HM α β} {k : α} :
    absGet m k = none ↔ ∀ j, (HM.slotAt m.buckets j).key ≠ some k := by
  unfold absGet
  rw [AMap.get_eq_none_iff]
  constructor
  · intro hn j hj
    obtain ⟨v, hv⟩ := Slot.key_eq_some.1 hj
    exact hn v (mem_liveEntries.2 ⟨j, hv⟩)
  · intro hn v hm
    obtain ⟨j, hj⟩ := mem_liveEntries.1 hm
    exact hn j (by rw [hj]; rfl)

theorem WF.absGet_of_slot {h : α → Nat} {m : HM α β} (w : WF h m) {j : Nat} {k : α} {v : β}
    (hj : HM.slotAt m.buckets j = .full k v) : absGet m k = some v := by
  cases hg : absGet m k with
  | none =>
    exact absurd (by rw [hj]; rfl) (absGet_eq_none_iff.1 hg j)
  | some v' =>
    obtain ⟨j', hj'⟩ := slot_of_absGet_eq_some hg
    have := w.uniq (i := j) (j := j') (k := k) (by rw [hj]; rfl) (by rw [hj']; rfl)
    subst this
    rw [hj] at hj'
    injection hj' with _ hv
    rw [hv]

theorem absGet_of_length_zero {m : HM α β} (h0 : m.buckets.length = 0) (k : α) :
    absGet m k = none := by
  have : m.buckets = [] := List.eq_nil_of_length_eq_zero h0
  simp [absGet, this, HM.liveEntries, AMap.get]

omit [DecidableEq α] in
theorem exists_empty_of_occCount_lt {b : List (Slot α β)} (hlt : occCount b < b.length) :
    ∃ e, e < b.length ∧ (HM.slotAt b e).occ = false := by
  have : ¬ ∀ a ∈ b, Slot.occ a = true := fun hall => by
    have := List.countP_eq_length.2 hall; unfold occCount at hlt; omega
  obtain ⟨a, ha, hoa⟩ : ∃ a, a ∈ b ∧ Slot.occ a = false := by
    simpa using this
  obtain ⟨e, he, hea⟩ := List.mem_iff_getElem.1 ha
  exact ⟨e, he, by rw [slotAt_eq_getElem he, hea]; exact hoa⟩

omit [DecidableEq α] in
theorem WF.exists_empty_probe {h : α → Nat} {m : HM α β} (w : WF h m) (hk : Nat) :
    ∃ e, e < m.buckets.length ∧ (probe m.buckets hk e).occ = false := by
  have hlt : occCount m.buckets < m.buckets.length := by
    rw [← w.used_eq]; exact w.used_lt
  obtain ⟨e, he, hoe⟩ := exists_empty_of_occCount_lt hlt
  obtain ⟨i, hi, hie⟩ := probe_surj hk he
  exact ⟨i, hi, by simp only [probe]; rw [hie]; exact hoe⟩

omit [DecidableEq α] in
theorem WF.probe_of_slot {h : α → Nat} {m : HM α β} (w : WF h m) {j : Nat} {k : α}
    (hj : (HM.slotAt m.buckets j).key = some k) :
    ∃ d, d < m.buckets.length ∧ (h k + d) % m.buckets.length = j ∧
      ∀ i, i < d → (probe m.buckets (h k) i).occ = true ∧ (probe m.buckets (h k) i).key ≠ some k := by
  obtain ⟨d, hd, hdj, hpre⟩ := w.path hj
  refine ⟨d, hd, hdj, fun i hi => ⟨hpre i hi, ?_⟩⟩
  intro hki
  have := w.uniq hki hj
  rw [← hdj] at this
  have := probe_inj (Nat.le_of_lt hi) hd this
  omega

theorem WF.insLoop_spec {h : α → Nat} {m : HM α β} (w : WF h m) (k : α) :
    (∀ j, (HM.slotAt m.buckets j).key = some k →
      HM.insLoop m.buckets (h k) k m.buckets.length 0 none = .ok (.found j)) ∧
    ((∀ j, (HM.slotAt m.buckets j).key ≠ some k) → ∃ d, d < m.buckets.length ∧
      (∀ i, i < d → (probe m.buckets (h k) i).occ = true) ∧
      ((probe m.buckets (h k) d = .empty ∧ HM.insLoop m.buckets (h k) k m.buckets.length 0 none =
          .ok (.fresh ((h k + d) % m.buckets.length))) ∨
       (probe m.buckets (h k) d = .tomb ∧ HM.insLoop m.buckets (h k) k m.buckets.length 0 none =
          .ok (.reuse ((h k + d) % m.buckets.length))))) := by
  refine ⟨fun j hj => ?_, fun habs => ?_⟩
  · obtain ⟨v, hv⟩ := Slot.key_eq_some.1 hj
    obtain ⟨d, hd, hdj, hpre⟩ := w.probe_of_slot hj
    rw [← hdj]
    exact insLoop_found m.buckets (h k) k v d m.buckets.length 0 none (Nat.zero_le _) (by omega)
      (by simp only [probe]; rw [hdj]; exact hv) (fun i _ hi => hpre i hi)
  · obtain ⟨e, he, hoe⟩ := w.exists_empty_probe (h k)
    obtain ⟨d, _, hd, hpre, hcase⟩ := insLoop_absent m.buckets (h k) k (fun j => habs _)
      m.buckets.length 0 none ⟨e, Nat.zero_le _, by omega, hoe⟩
    exact ⟨d, by omega, fun i hi => hpre i (Nat.zero_le _) hi, hcase⟩

omit [DecidableEq α] in
theorem isEmpty_eq_false_of_WF {h : α → Nat} {m : HM α β} (w : WF h m) :
    m.buckets.isEmpty = false := by
  have := w.cap_pos
  cases hb : m.buckets with
  | nil => simp [hb] at this
  | cons _ _ => rfl

theorem WF.getEntry_of_slot {h : α → Nat} {m : HM α β} (w : WF h m) {j : Nat} {k : α}
    (hj : (HM.slotAt m.buckets j).key = some k) : HM.getEntry h m k = .ok (some j) := by
  rw [HM.getEntry, isEmpty_eq_false_of_WF w, if_neg (by simp), getLoop_eq_insLoop _ _ _ _ _ none, (w.insLoop_spec k).1 j hj]
  rfl

theorem WF.getEntry_absent {h : α → Nat} {m : HM α β} (w : WF h m) {k : α}
    (habs : ∀ j, (HM.slotAt m.buckets j).key ≠ some k) : HM.getEntry h m k = .ok none := by
  rw [HM.getEntry, isEmpty_eq_false_of_WF w, if_neg (by simp), getLoop_eq_insLoop _ _ _ _ _ none]
  obtain ⟨_, _, _, ⟨_, hl⟩ | ⟨_, hl⟩⟩ := (w.insLoop_spec k).2 habs <;> rw [hl] <;> rfl

theorem Inv.get_eq {h : α → Nat} {m : HM α β} (hinv : Inv h m) (k : α) :
    HM.get h m k = .ok (absGet m k) := by
  rcases hinv with ⟨h0, _⟩ | w
  · have hb : m.buckets = [] := List.eq_nil_of_length_eq_zero h0
    rw [absGet_of_length_zero h0]
    simp [HM.get, HM.getEntry, hb, bind, Except.bind, pure, Except.pure]
  · cases hg : absGet m k with
    | none =>
      have := w.getEntry_absent (absGet_eq_none_iff.1 hg)
      simp [HM.get, this, bind, Except.bind, pure, Except.pure]
    | some v =>
      obtain ⟨j, hj⟩ := slot_of_absGet_eq_some hg
      have := w.getEntry_of_slot (k := k) (j := j) (by rw [hj]; rfl)
      simp [HM.get, this, hj, bind, Except.bind, pure, Except.pure]

omit [DecidableEq α] in
theorem occCount_set_occ {b : List (Slot α β)} {j : Nat} (hj : j < b.length) {s : Slot α β}
    (hold : (HM.slotAt b j).occ = true) (hs : s.occ = true) :
    occCount (b.set j s) = occCount b := by
  rw [slotAt_eq_getElem hj] at hold
  have hpos : 0 < occCount b :=
    List.countP_pos_iff.2 ⟨b[j], List.getElem_mem hj, hold⟩
  unfold occCount at *
  rw [List.countP_set hj]
  simp only [hold, hs, if_true]
  omega

omit [DecidableEq α] in
theorem occCount_set_empty {b : List (Slot α β)} {j : Nat} (hj : j < b.length) {s : Slot α β}
    (hold : (HM.slotAt b j).occ = false) (hs : s.occ = true) :
    occCount (b.set j s) = occCount b + 1 := by
  rw [slotAt_eq_getElem hj] at hold
  unfold occCount
  rw [List.countP_set hj]
  simp [hold, hs]

omit [DecidableEq α] in
theorem probe_set_occ {b : List (Slot α β)} {j : Nat} (hj : j < b.length) {s : Slot α β}
    (hs : s.occ = true) {hk i : Nat} (ho : (probe b hk i).occ = true) :
    (probe (b.set j s) hk i).occ = true := by
  simp only [probe, List.length_set] at *
  rw [slotAt_set hj]
  split
  · exact hs
  · exact ho

omit [DecidableEq α] in
theorem WF.set {h : α → Nat} {m : HM α β} (w : WF h m) {j : Nat} (hj : j < m.buckets.length)
    {s : Slot α β} {u : Nat} (hs : s.occ = true)
    (huniq : ∀ k, s.key = some k → ∀ x, x ≠ j → (HM.slotAt m.buckets x).key ≠ some k)
    (hpath : ∀ k, s.key = some k → ∃ d, d < m.buckets.length ∧
      (h k + d) % m.buckets.length = j ∧ ∀ i, i < d → (probe m.buckets (h k) i).occ = true)
    (hu : u = occCount (m.buckets.set j s)) (hult : u < m.buckets.length) :
    WF h ⟨m.buckets.set j s, u⟩ := by
  refine ⟨?_, ?_, ?_, hu, ?_⟩
  · simp only [List.length_set]; exact w.cap_ge
  · simp only [List.length_set]
    intro i _ j' _ k hi hj'
    rw [slotAt_set hj] at hi hj'
    by_cases hij : i = j <;> by_cases hjj : j' = j
    · rw [hij, hjj]
    · simp only [hij, hjj, if_true, if_false] at hi hj'
      exact absurd hj' (huniq k hi j' hjj)
    · simp only [hij, hjj, if_true, if_false] at hi hj'
      exact absurd hi (huniq k hj' i hij)
    · simp only [hij, hjj, if_false] at hi hj'
      exact w.uniq hi hj'
  · simp only [List.length_set]
    intro x _ k hx
    rw [slotAt_set hj] at hx
    by_cases hxj : x = j
    · simp only [hxj, if_true] at hx
      obtain ⟨d, hd, hdj, hpre⟩ := hpath k hx
      exact ⟨d, hd, by rw [hxj]; exact hdj, fun i hi => probe_set_occ hj hs (hpre i hi)⟩
    · simp only [hxj, if_false] at hx
      obtain ⟨d, hd, hdj, hpre⟩ := w.path hx
      exact ⟨d, hd, hdj, fun i hi => probe_set_occ hj hs (hpre i hi)⟩
  · simp only [List.length_set]; exact hult

theorem absGet_set {h : α → Nat} {m : HM α β} (w : WF h m) {j : Nat}
    (hj : j < m.buckets.length) {s : Slot α β} {u : Nat} (w' : WF h ⟨m.buckets.set j s, u⟩)
    {k' : α} (hs : s.key ≠ some k') :
    absGet ⟨m.buckets.set j s, u⟩ k' = if (HM.slotAt m.buckets j).key = some k' then none else absGet m k' := by
  have new_slot : ∀ {x v}, HM.slotAt (m.buckets.set j s) x = .full k' v → x ≠ j ∧ HM.slotAt m.buckets x = .full k' v := by
    intro x v hx
    rw [slotAt_set hj] at hx
    by_cases hxj : x = j
    · rw [if_pos hxj] at hx; rw [hx] at hs; exact absurd rfl hs
    · rw [if_neg hxj] at hx; exact ⟨hxj, hx⟩
  split
  · rename_i hold
    rw [absGet_eq_none_iff]
    intro x hx
    obtain ⟨v, hv⟩ := Slot.key_eq_some.1 hx
    obtain ⟨hxj, hx'⟩ := new_slot hv
    exact hxj (w.uniq (by rw [hx']; rfl) hold)
  · rename_i hold
    apply Option.ext
    intro v
    constructor
    · intro hg
      obtain ⟨x, hx⟩ := slot_of_absGet_eq_some hg
      exact w.absGet_of_slot (new_slot hx).2
    · intro hg
      obtain ⟨x, hx⟩ := slot_of_absGet_eq_some hg
      have hxj : x ≠ j := fun e => hold (by rw [← e, hx]; rfl)
      exact w'.absGet_of_slot (j := x) (by simp only; rw [slotAt_set hj, if_neg hxj]; exact hx)

/-- no tombstones (the fresh table built by `rehash`) -/
def NoTomb (m : HM α β) : Prop := ∀ j, HM.slotAt m.buckets j ≠ .tomb

theorem WF.insert_spec {h : α → Nat} {m : HM α β} (w : WF h m) (k : α) (v : β)
    (hroom : m.used + 1 < m.buckets.length) :
    ∃ p, HM.insLoop m.buckets (h k) k m.buckets.length 0 none = .ok p ∧
      WF h (HM.applyIns m k v p) ∧
      (HM.applyIns m k v p).buckets.length = m.buckets.length ∧
      (∀ k', absGet (HM.applyIns m k v p) k' = if k' = k then some v else absGet m k') ∧
      (NoTomb m → NoTomb (HM.applyIns m k v p) ∧
        (absGet m k = none → (HM.applyIns m k v p).used = m.used + 1)) := by
  have tail : ∀ (j u : Nat) (hj : j < m.buckets.length),
      WF h ⟨m.buckets.set j (.full k v), u⟩ →
      (∀ k', k' ≠ k → (HM.slotAt m.buckets j).key ≠ some k') →
      ∀ k', absGet ⟨m.buckets.set j (.full k v), u⟩ k' = if k' = k then some v else absGet m k' := by
    intro j u hj w' hold k'
    by_cases hk : k' = k
    · subst hk
      simp only [if_true]
      apply w'.absGet_of_slot (j := j)
      simp only
      rw [slotAt_set hj]; simp
    · rw [if_neg hk, absGet_set w hj w' (by simpa using fun e => hk e.symm), if_neg (hold k' hk)]
  have notomb : ∀ (j u : Nat) (hj : j < m.buckets.length), NoTomb m →
      NoTomb ⟨m.buckets.set j (.full k v), u⟩ := by
    intro j u hj hn x
    simp only
    rw [slotAt_set hj]
    split
    · intro e; cases e
    · exact hn x
  by_cases hpres : ∃ j, (HM.slotAt m.buckets j).key = some k
  · obtain ⟨j, hj⟩ := hpres
    obtain ⟨v0, hv0⟩ := Slot.key_eq_some.1 hj
    have hjlt := lt_length_of_key hj
    have hloop := (w.insLoop_spec k).1 j hj
    have w' : WF h ⟨m.buckets.set j (.full k v), m.used⟩ := by
      apply w.set hjlt rfl
      · intro k1 hk1 x hxj hx
        simp at hk1; subst hk1
        exact hxj (w.uniq hx hj)
      · intro k1 hk1
        simp at hk1; subst hk1
        exact w.path hj
      · rw [occCount_set_occ hjlt (by rw [hv0]; rfl) rfl]; exact w.used_eq
      · exact w.used_lt
    refine ⟨.found j, hloop, w', by simp [HM.applyIns], ?_, ?_⟩
    · apply tail j m.used hjlt w'
      intro k' hk' e
      rw [hj] at e
      injection e with e
      exact hk' e.symm
    · intro hn
      refine ⟨notomb j m.used hjlt hn, ?_⟩
      intro hnone
      exact absurd hj (absGet_eq_none_iff.1 hnone j)
  · have habs : ∀ j, (HM.slotAt m.buckets j).key ≠ some k := fun j hj => hpres ⟨j, hj⟩
    obtain ⟨d, hd, hpre, hcase⟩ := (w.insLoop_spec k).2 habs
    have hjlt : (h k + d) % m.buckets.length < m.buckets.length := Nat.mod_lt _ w.cap_pos
    have hold : ∀ k', k' ≠ k →
        (HM.slotAt m.buckets ((h k + d) % m.buckets.length)).key ≠ some k' := by
      intro k' _
      rcases hcase with ⟨hs, _⟩ | ⟨hs, _⟩ <;> (simp only [probe] at hs; rw [hs]; simp)
    have hwf : ∀ u, u = occCount (m.buckets.set ((h k + d) % m.buckets.length) (.full k v)) →
        u < m.buckets.length →
        WF h ⟨m.buckets.set ((h k + d) % m.buckets.length) (.full k v), u⟩ := by
      intro u hu hult
      apply w.set hjlt rfl
      · intro k1 hk1 x _
        simp at hk1; subst hk1
        exact habs x
      · intro k1 hk1
        simp at hk1; subst hk1
        exact ⟨d, hd, rfl, hpre⟩
      · exact hu
      · exact hult
    rcases hcase with ⟨hs, hloop⟩ | ⟨hs, hloop⟩
    · have w' := hwf (m.used + 1)
        (by rw [occCount_set_empty hjlt (by simp only [probe] at hs; rw [hs]; rfl) rfl, w.used_eq])
        (by omega)
      refine ⟨_, hloop, w', by simp [HM.applyIns], tail _ _ hjlt w' hold, ?_⟩
      intro hn
      exact ⟨notomb _ _ hjlt hn, fun _ => rfl⟩
    · have w' := hwf m.used
        (by rw [occCount_set_occ hjlt (by simp only [probe] at hs; rw [hs]; rfl) rfl, w.used_eq])
        w.used_lt
      refine ⟨_, hloop, w', by simp [HM.applyIns], tail _ _ hjlt w' hold, ?_⟩
      intro hn
      simp only [probe] at hs
      exact absurd hs (hn _)

theorem Inv.delete_spec {h : α → Nat} {m : HM α β} (hinv : Inv h m) (k : α) :
    ∃ m', HM.delete h m k = .ok m' ∧ Inv h m' ∧
      ∀ k', absGet m' k' = if k' = k then none else absGet m k' := by
  rcases hinv with ⟨h0, hu⟩ | w
  · have hb : m.buckets = [] := List.eq_nil_of_length_eq_zero h0
    refine ⟨m, ?_, Or.inl ⟨h0, hu⟩, ?_⟩
    · simp [HM.delete, HM.getEntry, hb, bind, Except.bind, pure, Except.pure]
    · intro k'; rw [absGet_of_length_zero h0]; simp
  · by_cases hpres : ∃ j, (HM.slotAt m.buckets j).key = some k
    · obtain ⟨j, hj⟩ := hpres
      have hjlt := lt_length_of_key hj
      have hocc : (HM.slotAt m.buckets j).occ = true := by
        obtain ⟨v0, hv0⟩ := Slot.key_eq_some.1 hj
        rw [hv0]; rfl
      have w' : WF h ⟨m.buckets.set j .tomb, m.used⟩ := by
        apply w.set hjlt rfl
        · intro k1 hk1; simp at hk1
        · intro k1 hk1; simp at hk1
        · rw [occCount_set_occ hjlt hocc rfl]; exact w.used_eq
        · exact w.used_lt
      refine ⟨⟨m.buckets.set j .tomb, m.used⟩, ?_, Or.inr w', ?_⟩
      · simp [HM.delete, w.getEntry_of_slot hj, bind, Except.bind, pure, Except.pure]
      · intro k'
        rw [absGet_set w hjlt w' (by simp), hj]
        simp [eq_comm]
    · have habs : ∀ j, (HM.slotAt m.buckets j).key ≠ some k := fun j hj => hpres ⟨j, hj⟩
      refine ⟨m, ?_, Or.inr w, ?_⟩
      · simp [HM.delete, w.getEntry_absent habs, bind, Except.bind, pure, Except.pure]
      · intro k'
        by_cases hk : k' = k
        · subst hk; simp only [if_true]; exact absGet_eq_none_iff.2 habs
        · simp [hk]

/-- **Specification of the new capacity** (no fuel, no loop): `cap'` is `cap` doubled `e` times,
    the load of `nkeys` live names in `cap'` buckets is below the low watermark, and it was not
    below it after fewer doublings.  (`e = 0`: the capacity stays — a rehash that only drops
    tombstones.) -/
def IsRehashCap (nkeys cap cap' : Nat) : Prop :=
  ∃ e, cap' = cap * 2 ^ e ∧ nkeys * 100 / cap' < LOW_WATERMARK ∧
    ∀ e', e' < e → LOW_WATERMARK ≤ nkeys * 100 / (cap * 2 ^ e')

theorem pow2_shift (c e : Nat) : c * 2 * 2 ^ e = c * 2 ^ (e + 1) := by
  rw [Nat.pow_succ, Nat.mul_assoc, Nat.mul_comm 2]

theorem growCap_isRehashCap (nkeys : Nat) : ∀ f cap, 0 < cap →
    nkeys * 100 < LOW_WATERMARK * cap * 2 ^ f → IsRehashCap nkeys cap (HM.growCap nkeys f cap) := by
  intro f
  induction f with
  | zero =>
    intro cap hc hlt
    simp only [HM.growCap, Nat.pow_zero, Nat.mul_one] at *
    exact ⟨0, by simp, (Nat.div_lt_iff_lt_mul hc).2 hlt, fun e' he' => by omega⟩
  | succ f ih =>
    intro cap hc hlt
    rw [HM.growCap]
    split
    · rename_i hge
      have h2 : nkeys * 100 < LOW_WATERMARK * (cap * 2) * 2 ^ f := by
        have : LOW_WATERMARK * (cap * 2) * 2 ^ f = LOW_WATERMARK * cap * 2 ^ (f + 1) := by
          rw [Nat.pow_succ, Nat.mul_comm (2 ^ f) 2, ← Nat.mul_assoc, ← Nat.mul_assoc]
        rw [this]; exact hlt
      obtain ⟨e, he1, he2, he3⟩ := ih (cap * 2) (by omega) h2
      refine ⟨e + 1, by rw [he1, pow2_shift], he2, ?_⟩
      intro e' he'
      cases e' with
      | zero => simpa using hge
      | succ e'' =>
        have := he3 e'' (by omega)
        rwa [pow2_shift] at this
    · rename_i hnot
      exact ⟨0, by simp, by omega, fun e' he' => by omega⟩

theorem growCap_top_isRehashCap (nkeys cap : Nat) (hc : 0 < cap) :
    IsRehashCap nkeys cap (HM.growCap nkeys (nkeys + 2) cap) := by
  apply growCap_isRehashCap nkeys (nkeys + 2) cap hc
  have h1 : nkeys < 2 ^ nkeys := Nat.lt_two_pow_self
  have h2 : 2 ^ (nkeys + 2) = 2 ^ nkeys * 4 := by rw [Nat.pow_add]
  have h3 : LOW_WATERMARK * 1 * 2 ^ (nkeys + 2) ≤ LOW_WATERMARK * cap * 2 ^ (nkeys + 2) :=
    Nat.mul_le_mul_right _ (Nat.mul_le_mul_left _ hc)
  rw [h2] at h3 ⊢
  unfold LOW_WATERMARK at h3 ⊢
  omega

/-- no two entries of an association list have the same key -/
def KeysNodup (l : List (α × β)) : Prop := l.Pairwise (fun a b => a.1 ≠ b.1)

omit [DecidableEq α] in
theorem WF.live_pairwise {h : α → Nat} {m : HM α β} (w : WF h m) : KeysNodup (HM.liveEntries m.buckets) := by
  have hp : m.buckets.Pairwise (fun s t => ∀ k, s.key = some k → t.key ≠ some k) := by
    rw [List.pairwise_iff_getElem]
    intro i j hi hj hij k hik hjk
    rw [← slotAt_eq_getElem hi] at hik
    rw [← slotAt_eq_getElem hj] at hjk
    have := w.uniq hik hjk
    omega
  unfold HM.liveEntries
  refine List.Pairwise.filterMap _ ?_ hp
  intro a a' hR b hb b' hb'
  cases a with
  | empty => simp at hb
  | tomb => simp at hb
  | full k v =>
    cases a' with
    | empty => simp at hb'
    | tomb => simp at hb'
    | full k' v' =>
      simp at hb hb'
      subst hb; subst hb'
      intro e
      have e' : k = k' := e
      exact hR k rfl (by rw [e']; rfl)

omit [DecidableEq α] in
theorem WF_replicate (h : α → Nat) {cap : Nat} (hc : INIT_SIZE ≤ cap) :
    WF h (⟨List.replicate cap .empty, 0⟩ : HM α β) := by
  have hpos : 0 < cap := by unfold INIT_SIZE at hc; omega
  refine ⟨by simpa using hc, ?_, ?_, ?_, by simpa using hpos⟩
  · intro i _ j _ k hi
    simp only [slotAt_replicate_empty] at hi
    simp at hi
  · intro j _ k hj
    simp only [slotAt_replicate_empty] at hj
    simp at hj
  · simp [occCount, List.countP_replicate]

theorem absGet_replicate (cap : Nat) (k : α) : absGet (⟨List.replicate cap .empty, 0⟩ : HM α β) k = none := by
  rw [absGet_eq_none_iff]; intro j; simp only [slotAt_replicate_empty]; simp

/-- the reinsertion loop of `rehash`; the hypothesis on `l` is `KeysNodup l` written out -/
theorem rehash_fold {h : α → Nat} (N cap : Nat) (hN : N * 100 / cap < LOW_WATERMARK) :
    ∀ (l : List (α × β)) (acc : HM α β), WF h acc → NoTomb acc → acc.buckets.length = cap →
      l.Pairwise (fun a b => a.1 ≠ b.1) → (∀ kv, kv ∈ l → absGet acc kv.1 = none) →
      acc.used + l.length ≤ N →
      ∃ r, l.foldlM (fun acc kv => HM.putNoRehash h acc kv.1 kv.2) acc = .ok r ∧
        WF h r ∧ NoTomb r ∧ r.buckets.length = cap ∧ r.used = acc.used + l.length ∧
        ∀ k v, absGet r k = some v ↔ ((k, v) ∈ l ∨ absGet acc k = some v) := by
  intro l
  induction l with
  | nil =>
    intro acc w hn hc _ _ _
    exact ⟨acc, rfl, w, hn, hc, rfl, by simp⟩
  | cons kv l ih =>
    intro acc w hn hc hpw hnone hle
    obtain ⟨k1, v1⟩ := kv
    have hcpos : 0 < cap := by rw [← hc]; exact w.cap_pos
    have hN' : N * 100 < LOW_WATERMARK * cap := (Nat.div_lt_iff_lt_mul hcpos).1 hN
    simp only [List.length_cons] at hle
    have hroom : acc.used + 1 < acc.buckets.length := by
      rw [hc]; unfold LOW_WATERMARK at hN'; omega
    obtain ⟨p, hloop, w', hlen', habs', hnt'⟩ := w.insert_spec k1 v1 hroom
    have hk1none : absGet acc k1 = none := hnone (k1, v1) (List.mem_cons_self)
    obtain ⟨hn', hused'⟩ := hnt' hn
    have hused' := hused' hk1none
    have hguard : ¬ (acc.used * 100 / acc.buckets.length ≥ HIGH_WATERMARK) := by
      have h1 : acc.used * 100 / cap ≤ N * 100 / cap :=
        Nat.div_le_div_right (Nat.mul_le_mul_right _ (by omega))
      rw [hc]
      unfold LOW_WATERMARK at hN
      unfold HIGH_WATERMARK
      omega
    have hstep : HM.putNoRehash h acc k1 v1 = .ok (HM.applyIns acc k1 v1 p) := by
      simp [HM.putNoRehash, isEmpty_eq_false_of_WF w, hguard, hloop, bind, Except.bind, pure,
        Except.pure]
    rw [List.pairwise_cons] at hpw
    obtain ⟨r, hr, wr, hnr, hcr, hur, har⟩ := ih (HM.applyIns acc k1 v1 p) w' hn'
      (by rw [hlen', hc]) hpw.2
      (by
        intro kv hkv
        rw [habs']
        have : kv.1 ≠ k1 := fun e => hpw.1 kv hkv e.symm
        simp only [this, if_false]
        exact hnone kv (List.mem_cons_of_mem _ hkv))
      (by rw [hused']; omega)
    refine ⟨r, ?_, wr, hnr, hcr, by rw [hur, hused', List.length_cons]; omega, ?_⟩
    · rw [List.foldlM_cons]
      simp only [bind, Except.bind, hstep]
      exact hr
    · intro k v
      rw [har, habs', List.mem_cons]
      by_cases hk : k = k1
      · subst hk
        simp only [if_true, hk1none, Prod.mk.injEq, true_and]
        constructor
        · rintro (hm | hv)
          · exact Or.inl (Or.inr hm)
          · injection hv with hv; exact Or.inl (Or.inl hv.symm)
        · rintro ((hv | hm) | hf)
          · exact Or.inr (by rw [hv])
          · exact Or.inl hm
          · simp at hf
      · simp [hk]

theorem WF.rehash_spec {h : α → Nat} {m : HM α β} (w : WF h m) :
    ∃ m2, HM.rehash h m = .ok m2 ∧ WF h m2 ∧ NoTomb m2 ∧ (∀ k, absGet m2 k = absGet m k) ∧
      IsRehashCap (HM.liveEntries m.buckets).length m.buckets.length m2.buckets.length ∧
      m2.used = (HM.liveEntries m.buckets).length ∧ m2.used + 1 < m2.buckets.length := by
  -- all that is used of the capacity `rehash` computes is its specification
  obtain ⟨cap', hcap'⟩ : ∃ c, HM.growCap (HM.liveEntries m.buckets).length
      ((HM.liveEntries m.buckets).length + 2) m.buckets.length = c := ⟨_, rfl⟩
  have hspec := growCap_top_isRehashCap (HM.liveEntries m.buckets).length m.buckets.length w.cap_pos
  rw [hcap'] at hspec
  have ⟨e, he, hlow, _⟩ := hspec
  have hcap : INIT_SIZE ≤ cap' := by
    rw [he]; exact Nat.le_trans w.cap_ge (Nat.le_mul_of_pos_right _ (Nat.two_pow_pos e))
  have hcpos : 0 < cap' := by unfold INIT_SIZE at hcap; omega
  have hnt0 : NoTomb (⟨List.replicate cap' .empty, 0⟩ : HM α β) := by
    intro j; simp only [slotAt_replicate_empty]; intro e; cases e
  obtain ⟨r, hr, wr, hntr, hcr, hur, har⟩ := rehash_fold (h := h) _ _ hlow
    (HM.liveEntries m.buckets) _ (WF_replicate (β := β) h hcap) hnt0 (by simp) w.live_pairwise
    (fun kv _ => absGet_replicate _ kv.1) (by simp)
  simp only [Nat.zero_add] at hur
  refine ⟨r, ?_, wr, hntr, ?_, hcr ▸ hspec, hur, ?_⟩
  · have hc0 : ¬ cap' = 0 := by omega
    simp [HM.rehash, isEmpty_eq_false_of_WF w, hcap', hc0, hr, hur, bind, Except.bind, pure, Except.pure]
  · intro k
    apply Option.ext
    intro v
    rw [har, absGet_replicate]
    constructor
    · rintro (hm | hf)
      · obtain ⟨j, hj⟩ := mem_liveEntries.1 hm
        exact w.absGet_of_slot hj
      · simp at hf
    · intro hg
      exact Or.inl (mem_liveEntries.2 (slot_of_absGet_eq_some hg))
  · rw [hur, hcr]
    have := (Nat.div_lt_iff_lt_mul hcpos).1 hlow
    unfold LOW_WATERMARK at this
    unfold INIT_SIZE at hcap
    omega

theorem Inv.put_spec_length {h : α → Nat} {m : HM α β} (hinv : Inv h m) (k : α) (v : β) :
    ∃ m', HM.put h m k v = .ok m' ∧ WF h m' ∧
      (∀ k', absGet m' k' = if k' = k then some v else absGet m k') ∧
      if m.buckets.length = 0 then m'.buckets.length = INIT_SIZE
      else if m.used * 100 / m.buckets.length ≥ HIGH_WATERMARK then
        IsRehashCap (HM.liveEntries m.buckets).length m.buckets.length m'.buckets.length
      else m'.buckets.length = m.buckets.length := by
  rcases hinv with ⟨h0, hu⟩ | w
  · have hb : m.buckets = [] := List.eq_nil_of_length_eq_zero h0
    have w0 := WF_replicate (β := β) h (Nat.le_refl INIT_SIZE)
    have hroom : (⟨List.replicate INIT_SIZE .empty, 0⟩ : HM α β).used + 1 <
        (⟨List.replicate INIT_SIZE .empty, 0⟩ : HM α β).buckets.length := by
      simp only [List.length_replicate]; unfold INIT_SIZE; omega
    obtain ⟨p, hloop, w', hlen, habs', _⟩ := w0.insert_spec k v hroom
    refine ⟨_, ?_, w', ?_, by rw [if_pos h0, hlen, List.length_replicate]⟩
    · simp only [List.length_replicate] at hloop
      simp [HM.put, hb, hu, hloop, bind, Except.bind, pure, Except.pure]
    · intro k'
      rw [habs', absGet_of_length_zero h0, absGet_replicate]
  · have hne : ¬ m.buckets.length = 0 := Nat.ne_of_gt w.cap_pos
    by_cases hhigh : m.used * 100 / m.buckets.length ≥ HIGH_WATERMARK
    · obtain ⟨m2, hm2, w2, _, habs2, hcap2, _, hroom2⟩ := w.rehash_spec
      obtain ⟨p, hloop, w', hlen, habs', _⟩ := w2.insert_spec k v hroom2
      refine ⟨_, ?_, w', ?_, by rw [if_neg hne, if_pos hhigh, hlen]; exact hcap2⟩
      · simp [HM.put, isEmpty_eq_false_of_WF w, hhigh, hm2, hloop, bind, Except.bind, pure,
          Except.pure]
      · intro k'; rw [habs', habs2]
    · have hroom : m.used + 1 < m.buckets.length := by
        have h1 := w.cap_ge
        have h2 : m.used * 100 / m.buckets.length < HIGH_WATERMARK := by omega
        have h3 := (Nat.div_lt_iff_lt_mul w.cap_pos).1 h2
        unfold INIT_SIZE at h1
        unfold HIGH_WATERMARK at h3
        omega
      obtain ⟨p, hloop, w', hlen, habs', _⟩ := w.insert_spec k v hroom
      refine ⟨_, ?_, w', habs', by rw [if_neg hne, if_neg hhigh, hlen]⟩
      simp [HM.put, isEmpty_eq_false_of_WF w, hhigh, hloop, bind, Except.bind, pure,
        Except.pure]

theorem Inv.put_spec {h : α → Nat} {m : HM α β} (hinv : Inv h m) (k : α) (v : β) :
    ∃ m', HM.put h m k v = .ok m' ∧ WF h m' ∧
      ∀ k', absGet m' k' = if k' = k then some v else absGet m k' :=
  let ⟨m', h1, h2, h3, _⟩ := hinv.put_spec_length k v
  ⟨m', h1, h2, h3⟩

/-- the base case of the refinement, with the abstract side left as it is stated there (both sides are `none`) -/
theorem absGet_empty (k : α) : absGet (HM.empty : HM α β) k = (AMap.empty : AMap α β).get k :=
  absGet_of_length_zero rfl k

theorem arun_append (ops1 ops2 : List (Op α β)) : ∀ A : AMap α β,
    arun A (ops1 ++ ops2) =
      ((arun (arun A ops1).1 ops2).1, (arun A ops1).2 ++ (arun (arun A ops1).1 ops2).2) := by
  induction ops1 with
  | nil => intro A; simp [arun]
  | cons op ops ih =>
    intro A
    cases op <;> simp [arun, ih]

/-- the abstract dictionary after a history answers `k` with the last write to `k`
    (the fold is `Props.C17.lastWrite` started from the initial answer) -/
theorem arun_get_eq_foldl (ops : List (Op α β)) (k : α) : ∀ A : AMap α β,
    (arun A ops).1.get k =
      ops.foldl (fun acc op => match op with
        | .put k' v => if k' = k then some v else acc
        | .del k' => if k' = k then none else acc
        | .get _ => acc) (A.get k) := by
  induction ops with
  | nil => intro A; rfl
  | cons op ops ih =>
    intro A
    cases op with
    | put k' v => simp only [arun, List.foldl_cons, ih, AMap.get_put, eq_comm (a := k)]
    | del k' => simp only [arun, List.foldl_cons, ih, AMap.get_erase, eq_comm (a := k)]
    | get k' => simp only [arun, List.foldl_cons, ih]

end ChibiVerif.HashMap
