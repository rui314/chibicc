/-
C04 over the executable x86 semantics (Model/X86.lean, the one C01 validates against the host CPU).

The bit-field theorems of Props/C04.lean are about hand-written meanings (`BitField.loadUnit`, `storeUnit`, `extract`,
`bfAssign`).  This file runs the *regenerated* instruction lists (`Gen.C04.loadIntLine`, `storeIntLines`,
`bfExtractLines`, `bfAssignLines`) with `X86.run` and proves, as `Post` statements (X86StateLemmas), that the machine
state they leave is the one those meanings describe — for every declared type, width and offset, every register file
and every memory.  The memory after the store of a storage unit is described by `Stored` of X86MemLemmas (`setUnit_stored`),
a unit read by `BytesAt` (`unitAt_bytes`); the `Int`-addressed memory theorems of BitFieldLemmas (`readLE` / `writeLE`) are not
used here, BitFieldLemmas is imported for `loadUnit_bit`.
-/
import ChibiVerif.Lemmas.X86MemLemmas
import ChibiVerif.Lemmas.BitFieldLemmas

namespace ChibiVerif.C04X86
open ChibiVerif.X86 ChibiVerif.Asm ChibiVerif.BitField ChibiVerif.Gen.C04

/-- the instructions of a list of printed lines (labels and directives dropped): what `X86.run` is given -/
def insOf (ls : List Line) : List Ins := ls.flatMap Line.instrs

/-- the storage unit of a bit-field (or the object of an integer type) at address `p`, read little endian -/
def unitAt (s : State) (p : BitVec 64) : (u : BitField.USize) → BitVec u.bits
  | .b1 => s.read8 p
  | .b2 => s.read16 p
  | .b4 => s.read32 p
  | .b8 => s.read64 p

/-- the state after `store` of a unit at `p` (`setUnit_stored`: its memory is the old one with the unit's bytes at `p`) -/
def setUnit (s : State) (p : BitVec 64) : (u : BitField.USize) → BitVec u.bits → State
  | .b1, v => s.write8 p v
  | .b2, v => s.write16 p v
  | .b4, v => s.write32 p v
  | .b8, v => s.write64 p v

theorem ofInt0 : BitVec.ofInt 64 0 = 0#64 := by decide

@[simp] theorem get_flags {n : Nat} (s : State) (r : BitVec n) (cf of : Bool) (x : Reg) : (s.flags r cf of).get x = s.get x := rfl
@[simp] theorem mem_flags {n : Nat} (s : State) (r : BitVec n) (cf of : Bool) : (s.flags r cf of).mem = s.mem := rfl
/-- a state whose flags are architecturally undefined (after a shift) -/
def noFlags (s : State) : State := { s with flagsValid := false }
@[simp] theorem get_noFlags (s : State) (x : Reg) : (noFlags s).get x = s.get x := rfl
@[simp] theorem mem_noFlags (s : State) : (noFlags s).mem = s.mem := rfl

theorem exec_shiftImm (sh : Sh) (k : Int) (r : Reg) (s : State) :
    exec (.shiftImm sh .w64 k.toNat r) s = some (noFlags (s.set r (match sh with
      | .shl => s.get r <<< shiftCount k
      | .shr => s.get r >>> shiftCount k
      | .sar => (s.get r).sshiftRight (shiftCount k)))) := by
  cases sh <;> simp [exec, State.getW, State.setW, noFlags, shiftCount]

/-! the instructions as chibicc prints them.  Decoding is evaluation, done once per instruction text; where an operand is a
    variable the fact is `rfl` with every definition unfoldable. -/

theorem dec_mov_rax_rdi : decode ⟨"mov", [.r "%rax", .r "%rdi"]⟩ = some (.mov .w64 (.reg .rax) (.reg .rdi)) := by decide +kernel
theorem dec_mov_imm_r9 (n : Int) : decode ⟨"mov", [.i n, .r "%r9"]⟩ = some (.mov .w64 (.imm n) (.reg .r9)) := by with_unfolding_all rfl
theorem dec_and_r9_rdi : decode ⟨"and", [.r "%r9", .r "%rdi"]⟩ = some (.alu .and .w64 (.reg .r9) (.reg .rdi)) := by decide +kernel
theorem dec_and_r9_rax : decode ⟨"and", [.r "%r9", .r "%rax"]⟩ = some (.alu .and .w64 (.reg .r9) (.reg .rax)) := by decide +kernel
theorem dec_or_rdi_rax : decode ⟨"or", [.r "%rdi", .r "%rax"]⟩ = some (.alu .or .w64 (.reg .rdi) (.reg .rax)) := by decide +kernel
theorem dec_mov_rsp_rax : decode ⟨"mov", [.m0 "%rsp", .r "%rax"]⟩ = some (.mov .w64 (.mem 0 .rsp) (.reg .rax)) := by decide +kernel
theorem dec_pop_rdi : decode ⟨"pop", [.r "%rdi"]⟩ = some (.pop .rdi) := by decide +kernel

theorem dec_shl_rax (k : Int) (h0 : 0 ≤ k) (h1 : k < 64) : decode ⟨"shl", [.i k, .r "%rax"]⟩ = some (.shiftImm .shl .w64 k.toNat .rax) :=
  (by with_unfolding_all rfl : decode ⟨"shl", [.i k, .r "%rax"]⟩ = if 0 ≤ k ∧ k < 64 then _ else none).trans (if_pos ⟨h0, h1⟩)
theorem dec_shl_rdi (k : Int) (h0 : 0 ≤ k) (h1 : k < 64) : decode ⟨"shl", [.i k, .r "%rdi"]⟩ = some (.shiftImm .shl .w64 k.toNat .rdi) :=
  (by with_unfolding_all rfl : decode ⟨"shl", [.i k, .r "%rdi"]⟩ = if 0 ≤ k ∧ k < 64 then _ else none).trans (if_pos ⟨h0, h1⟩)
theorem dec_shr_rax (k : Int) (h0 : 0 ≤ k) (h1 : k < 64) : decode ⟨"shr", [.i k, .r "%rax"]⟩ = some (.shiftImm .shr .w64 k.toNat .rax) :=
  (by with_unfolding_all rfl : decode ⟨"shr", [.i k, .r "%rax"]⟩ = if 0 ≤ k ∧ k < 64 then _ else none).trans (if_pos ⟨h0, h1⟩)
theorem dec_sar_rax (k : Int) (h0 : 0 ≤ k) (h1 : k < 64) : decode ⟨"sar", [.i k, .r "%rax"]⟩ = some (.shiftImm .sar .w64 k.toNat .rax) :=
  (by with_unfolding_all rfl : decode ⟨"sar", [.i k, .r "%rax"]⟩ = if 0 ≤ k ∧ k < 64 then _ else none).trans (if_pos ⟨h0, h1⟩)

theorem sw64_32_8 (x : BitVec 8) : BitVec.setWidth 64 (BitVec.setWidth 32 x) = BitVec.setWidth 64 x := by
  apply BitVec.eq_of_getLsbD_eq; intro i hi; simp [BitVec.getLsbD_setWidth]

theorem dec_movsbl : decode ⟨"movsbl", [.m0 "%rax", .r "%eax"]⟩ = some (.movsx .w8 .w32 (.mem 0 .rax) .rax) := by decide +kernel
theorem dec_movzbl : decode ⟨"movzbl", [.m0 "%rax", .r "%eax"]⟩ = some (.movzx .w8 .w32 (.mem 0 .rax) .rax) := by decide +kernel
theorem dec_movswl : decode ⟨"movswl", [.m0 "%rax", .r "%eax"]⟩ = some (.movsx .w16 .w32 (.mem 0 .rax) .rax) := by decide +kernel
theorem dec_movzwl : decode ⟨"movzwl", [.m0 "%rax", .r "%eax"]⟩ = some (.movzx .w16 .w32 (.mem 0 .rax) .rax) := by decide +kernel
theorem dec_movsxd : decode ⟨"movsxd", [.m0 "%rax", .r "%rax"]⟩ = some (.movsx .w32 .w64 (.mem 0 .rax) .rax) := by decide +kernel
theorem dec_mov_rax_rax : decode ⟨"mov", [.m0 "%rax", .r "%rax"]⟩ = some (.mov .w64 (.mem 0 .rax) (.reg .rax)) := by decide +kernel

theorem load_step (t : BfType) (s : State) :
    X86.run (insOf [loadIntLine t.implSize t.implUnsigned]) s =
      some (s.set .rax (loadUnit t.usize t.implUnsigned (unitAt s (s.get .rax) t.usize))) :=
  match t with
  | .uchar => (run_one dec_movzbl s).trans (exec_movzx_load ..)
  | .bool | .char => (run_one dec_movsbl s).trans (exec_movsx_load ..)
  | .ushort => (run_one dec_movzwl s).trans (exec_movzx_load ..)
  | .short => (run_one dec_movswl s).trans (exec_movsx_load ..)
  | .int | .uint => (run_one dec_movsxd s).trans (exec_movsx_load ..)
  | .long | .ulong => (run_one dec_mov_rax_rax s).trans (exec_load ..)

@[simp] theorem get_setUnit (s : State) (p : BitVec 64) (u : BitField.USize) (v : BitVec u.bits) (x : Reg) :
    (setUnit s p u v).get x = s.get x := by
  cases u <;> simp only [setUnit, State.get_write8, State.get_write16, State.get_write32, State.get_write64]

theorem setUnit_stored (s : State) (p : BitVec 64) : ∀ (u : BitField.USize) (v : BitVec u.bits), Stored (setUnit s p u v).mem s.mem p u.bytes v
  | .b1 => s.write8_stored p | .b2 => s.write16_stored p | .b4 => s.write32_stored p | .b8 => s.write64_stored p

theorem unitAt_bytes (s : State) (p : BitVec 64) : ∀ u : BitField.USize, BytesAt s.mem p u.bytes (unitAt s p u)
  | .b1 => s.read8_bytes p | .b2 => s.read16_bytes p | .b4 => s.read32_bytes p | .b8 => s.read64_bytes p

theorem unitAt_bit (s : State) (p : BitVec 64) (u : BitField.USize) (k b : Nat) (hk : k < u.bytes) (hb : b < 8) :
    (unitAt s p u).getLsbD (8 * k + b) = (s.mem (p + BitVec.ofNat 64 k)).getLsbD b :=
  unitAt_bytes s p u k b hk hb

/-- the unit read where one has just been stored -/
theorem _root_.ChibiVerif.X86.Stored.unitAt {s' : State} {m : Mem64} {p : BitVec 64} {u : BitField.USize} {v : BitVec u.bits}
    (h : Stored s'.mem m p u.bytes v) : unitAt s' p u = v :=
  h.bytesAt.eq (unitAt_bytes s' p u) fun _ _ => rfl

theorem unitAt_congr (s s' : State) (p : BitVec 64) (u : BitField.USize)
    (h : ∀ k : Nat, k < u.bytes → s'.mem (p + BitVec.ofNat 64 k) = s.mem (p + BitVec.ofNat 64 k)) : unitAt s' p u = unitAt s p u :=
  (unitAt_bytes s p u).eq (unitAt_bytes s' p u) h

theorem unitAt_mem (s s' : State) (h : s'.mem = s.mem) (p : BitVec 64) (u : BitField.USize) : unitAt s' p u = unitAt s p u :=
  unitAt_congr s s' p u fun _ _ => by rw [h]

/-- is `x` one of the addresses `p, p+1, …, p+n-1` (modulo 2^64)? -/
def inUnit (p : BitVec 64) (n : Nat) (x : BitVec 64) : Prop := ∃ k : Nat, k < n ∧ x = p + BitVec.ofNat 64 k

theorem dec_mov_al : decode ⟨"mov", [.r "%al", .m0 "%rdi"]⟩ = some (.mov .w8 (.reg .rax) (.mem 0 .rdi)) := by decide +kernel
theorem dec_mov_ax : decode ⟨"mov", [.r "%ax", .m0 "%rdi"]⟩ = some (.mov .w16 (.reg .rax) (.mem 0 .rdi)) := by decide +kernel
theorem dec_mov_eax : decode ⟨"mov", [.r "%eax", .m0 "%rdi"]⟩ = some (.mov .w32 (.reg .rax) (.mem 0 .rdi)) := by decide +kernel
theorem dec_mov_rax : decode ⟨"mov", [.r "%rax", .m0 "%rdi"]⟩ = some (.mov .w64 (.reg .rax) (.mem 0 .rdi)) := by decide +kernel

theorem run_pop_store {i : Ins} {w : W} (hi : decode i = some (.mov w (.reg .rax) (.mem 0 .rdi))) (s : State) :
    X86.run [⟨"pop", [.r "%rdi"]⟩, i] s =
      some (((s.set .rsp (s.get .rsp + 8)).set .rdi (s.read64 (s.get .rsp))).writeW (s.read64 (s.get .rsp)) w
        ((s.get .rax).setWidth w.bits)) := by
  simp [X86.run, step_decode, hi, dec_pop_rdi, exec_pop, exec_store]

/-- `pop %rdi; mov %al|%ax|%eax|%rax, (%rdi)`: the unit at the popped address receives the low bits of %rax -/
theorem store_step (t : BfType) (s : State) :
    X86.run (insOf (storeIntLines t.implSize)) s =
      some (setUnit ((s.set .rsp (s.get .rsp + 8)).set .rdi (s.read64 (s.get .rsp))) (s.read64 (s.get .rsp)) t.usize
        (storeUnit t.usize (s.get .rax))) :=
  match t with
  | .bool | .uchar | .char => run_pop_store dec_mov_al s
  | .ushort | .short => run_pop_store dec_mov_ax s
  | .int | .uint => run_pop_store dec_mov_eax s
  | .long | .ulong => run_pop_store dec_mov_rax s

/-- `pop %rdi; mov %al|%ax|%eax|%rax, (%rdi)` in observational form -/
theorem store_run (t : BfType) (s : State) :
    Post (insOf (storeIntLines t.implSize)) s fun s' =>
      Stored s'.mem s.mem (s.read64 (s.get .rsp)) t.usize.bytes (storeUnit t.usize (s.get .rax)) ∧
      s'.get .rsp = s.get .rsp + 8 ∧ s'.get .rdi = s.read64 (s.get .rsp) ∧
      ∀ x, x ≠ .rdi → x ≠ .rsp → s'.get x = s.get x :=
  .of_run (store_step t s) ⟨setUnit_stored .., by simp, by simp, fun x h1 h2 => by simp [h1, h2]⟩

/-- `load(ty)` in observational form -/
theorem load_run (t : BfType) (s : State) :
    Post (insOf [loadIntLine t.implSize t.implUnsigned]) s fun s' =>
      s'.get .rax = loadUnit t.usize t.implUnsigned (unitAt s (s.get .rax) t.usize) ∧ s'.mem = s.mem ∧
      ∀ x, x ≠ .rax → s'.get x = s.get x :=
  .of_run (load_step t s) ⟨by simp, rfl, fun x hx => by simp [hx]⟩

/-- the value `load` leaves in %rax, bit by bit: the unit's bits, then copies of the sign bit (signed types) or zeros
    (unsigned types) up to bit 31; a 4-byte unit is sign-extended to 64 bits whatever its signedness (`movsxd`), an 8-byte
    unit fills the register -/
theorem loadUnit_bits (u : BitField.USize) (isU : Bool) (x : BitVec u.bits) (i : Nat) (hi : i < 32 ∨ u = .b4) (hi64 : i < 64) :
    (loadUnit u isU x).getLsbD i =
      if i < u.bits then x.getLsbD i else (!(isU && decide (u.bits < 32)) && x.getLsbD (u.bits - 1)) := by
  have hw : i < if u.bits < 32 then 32 else 64 := by
    rcases hi with h | rfl
    · split <;> omega
    · exact hi64
  rw [loadUnit_bit u isU x i hi64, decide_eq_true hw, Bool.true_and]

/-- a 1- or 2-byte load writes %eax: bits 32..63 of %rax are cleared -/
theorem loadUnit_high (u : BitField.USize) (isU : Bool) (x : BitVec u.bits) (hu : u.bits < 32) (i : Nat) (h32 : 32 ≤ i) :
    (loadUnit u isU x).getLsbD i = false := by
  by_cases h64 : i < 64
  · rw [loadUnit_bit u isU x i h64, if_neg (by omega), if_pos hu, decide_eq_false (by omega), Bool.false_and, Bool.false_and]
  · exact BitVec.getLsbD_of_ge _ _ (by omega)

/-! ### extraction: `shl $(64-w-o), %rax; shr|sar $(64-w), %rax` -/

theorem extract_step (w o : Nat) (hw : 1 ≤ w) (hwo : o + w ≤ 64) (isU isB : Bool) (s : State) :
    X86.run (insOf (bfExtractLines w o isU isB)) s =
      some (noFlags ((noFlags (s.set .rax (s.get .rax <<< shiftCount (bfShlCount w o)))).set .rax (extract w o isU isB (s.get .rax)))) := by
  have h0 : 0 ≤ bfShlCount w o := by unfold bfShlCount; omega
  have h1 : bfShlCount w o < 64 := by unfold bfShlCount; omega
  have h2 : 0 ≤ bfShrCount w := by unfold bfShrCount; omega
  have h3 : bfShrCount w < 64 := by unfold bfShrCount; omega
  unfold extract
  cases hl : bfLogical isU isB <;>
    simp [insOf, bfExtractLines, Line.instrs, X86.run, hl, exec_shiftImm,
      step_decode, dec_shl_rax _ h0 h1, dec_shr_rax _ h2 h3, dec_sar_rax _ h2 h3]

theorem insOf_cons (l : Line) (ls : List Line) : insOf (l :: ls) = insOf [l] ++ insOf ls := by
  simp [insOf]
theorem insOf_append (a b : List Line) : insOf (a ++ b) = insOf a ++ insOf b := by
  simp [insOf]

theorem get_set (s : State) (r r' : Reg) (v : BitVec 64) : (s.set r v).get r' = if r' = r then v else s.get r' := by
  simp [State.get, State.set]

/-- **reading a bit-field on the machine**: with the unit's address in %rax, `load(mem->ty); shl; shr|sar` leaves the
    value `bfLoadT` computes from the unit's bytes in %rax and changes neither memory nor any other register -/
theorem bf_load_run (t : BfType) (w o : Nat) (hw : 1 ≤ w) (hwo : o + w ≤ t.usize.bits) (s : State) :
    Post (insOf (loadSeq t w o)) s fun s' =>
      s'.get .rax = bfLoadT t w o (unitAt s (s.get .rax) t.usize) ∧ s'.mem = s.mem ∧
      ∀ x, x ≠ .rax → s'.get x = s.get x := by
  have hb := t.usize.bits_le
  rw [loadSeq, insOf_cons]
  refine .seq (load_step t s) <| .of_run (extract_step w o hw (by omega) _ _ _) ⟨?_, rfl, fun x hx => ?_⟩
  · simp [bfLoadT, bfLoad]
  · simp [hx]

/-- the new field value, masked and shifted into place in %rdi -/
theorem blockA (w o : Nat) (ho : o < 64) (s : State) :
    Post [⟨"mov", [.r "%rax", .r "%rdi"]⟩, ⟨"mov", [.i (bfMask w).toInt, .r "%r9"]⟩, ⟨"and", [.r "%r9", .r "%rdi"]⟩,
          ⟨"shl", [.i (o : Int), .r "%rdi"]⟩] s fun s' =>
      s'.get .rdi = (s.get .rax &&& bfMask w) <<< shiftCount (o : Int) ∧ s'.mem = s.mem ∧
      ∀ x, x ≠ .rdi → x ≠ .r9 → s'.get x = s.get x := by
  refine .cons dec_mov_rax_rdi (exec_mov_rr ..) <| .cons (dec_mov_imm_r9 _) (exec_mov_imm ..) <|
    .cons dec_and_r9_rdi (exec_and ..) <| .cons (dec_shl_rdi _ (by omega) (by omega)) (exec_shiftImm ..) <|
    .nil ⟨?_, rfl, fun x h1 h2 => ?_⟩
  · simp
  · simp [h1, h2]

/-- the field's bits of %rax cleared and replaced by %rdi -/
theorem blockB (n : BitVec 64) (s : State) :
    Post [⟨"mov", [.i n.toInt, .r "%r9"]⟩, ⟨"and", [.r "%r9", .r "%rax"]⟩, ⟨"or", [.r "%rdi", .r "%rax"]⟩] s fun s' =>
      s'.get .rax = (s.get .rax &&& n) ||| s.get .rdi ∧ s'.mem = s.mem ∧
      ∀ x, x ≠ .rax → x ≠ .r9 → s'.get x = s.get x := by
  refine .cons (dec_mov_imm_r9 _) (exec_mov_imm ..) <| .cons dec_and_r9_rax (exec_and ..) <|
    .cons dec_or_rdi_rax (exec_or ..) <| .nil ⟨?_, rfl, fun x h1 h2 => ?_⟩
  · simp
  · simp [h1, h2]

theorem assign_split (t : BfType) (w o : Nat) :
    insOf (assignSeq t w o) =
      [⟨"mov", [.r "%rax", .r "%rdi"]⟩, ⟨"mov", [.i (bfMask w).toInt, .r "%r9"]⟩, ⟨"and", [.r "%r9", .r "%rdi"]⟩,
       ⟨"shl", [.i (o : Int), .r "%rdi"]⟩] ++
      (⟨"mov", [.m0 "%rsp", .r "%rax"]⟩ ::
      (insOf [loadIntLine t.implSize t.implUnsigned] ++
      ([⟨"mov", [.i (~~~(bfMask w <<< o)).toInt, .r "%r9"]⟩, ⟨"and", [.r "%r9", .r "%rax"]⟩, ⟨"or", [.r "%rdi", .r "%rax"]⟩] ++
      (insOf (storeIntLines t.implSize) ++
      insOf (bfExtractLines w o t.implUnsigned t.implBool))))) := by
  simp [assignSeq, bfAssignLines, insOf, Line.instrs]

/-- **assigning to a bit-field on the machine**: with the unit's address on top of the stack and the right-hand side in
    %rax, the emitted read-modify-write leaves `bfAssignT …` — the new unit in memory at that address (nothing else
    written), the value of the assignment in %rax — pops the address, and changes only %rax, %rdi, %r9, %rsp -/
theorem bf_assign_run (t : BfType) (w o : Nat) (hw : 1 ≤ w) (hwo : o + w ≤ t.usize.bits) (s : State) :
    Post (insOf (assignSeq t w o)) s fun s' =>
      s'.get .rax = (bfAssignT t w o (unitAt s (s.read64 (s.get .rsp)) t.usize) (s.get .rax)).rax ∧
      Stored s'.mem s.mem (s.read64 (s.get .rsp)) t.usize.bytes
        (bfAssignT t w o (unitAt s (s.read64 (s.get .rsp)) t.usize) (s.get .rax)).unit ∧
      s'.get .rsp = s.get .rsp + 8 ∧
      ∀ x, x ≠ .rax → x ≠ .rdi → x ≠ .r9 → x ≠ .rsp → s'.get x = s.get x := by
  have hb := t.usize.bits_le
  rw [assign_split]
  refine (blockA w o (by omega) s).append fun sA ⟨a1, a2, a3⟩ => ?_
  refine .cons dec_mov_rsp_rax (exec_load ..) <| .seq (load_step t _) ?_
  refine (blockB (~~~(bfMask w <<< o)) _).append fun sB ⟨b1, b2, b3⟩ => ?_
  refine (store_run t sB).append fun sC ⟨c1, c2, _, c4⟩ => .of_run (extract_step w o hw (by omega) _ _ _) ?_
  simp only [State.setW, State.readW] at b1 b2 b3
  -- what `sB` holds, in terms of `s`; the four facts about the final state then read off `c1 c2 c4`
  have hA : sA.read64 (sA.get .rsp) = s.read64 (s.get .rsp) := by
    rw [a3 .rsp (by decide) (by decide)]; exact read64_mem s sA a2 _
  have hsp : sB.get .rsp = s.get .rsp := by
    rw [b3 .rsp (by decide) (by decide), State.get_set_ne _ _ _ _ (by decide), State.get_set_ne _ _ _ _ (by decide),
      a3 .rsp (by decide) (by decide)]
  have hm : sB.mem = s.mem := b2.trans a2
  have hp : sB.read64 (sB.get .rsp) = s.read64 (s.get .rsp) := by rw [hsp]; exact read64_mem s sB hm _
  have hax : sB.get .rax = (loadUnit t.usize t.implUnsigned (unitAt s (s.read64 (s.get .rsp)) t.usize) &&& ~~~(bfMask w <<< o)) |||
      (s.get .rax &&& bfMask w) <<< shiftCount (o : Int) := by
    rw [b1, State.get_set_same, State.get_set_same, State.get_set_ne _ _ _ _ (by decide), State.get_set_ne _ _ _ _ (by decide), a1, hA,
      unitAt_mem s (sA.set _ _) a2]
  refine ⟨?_, ?_, ?_, fun x h1 h2 h3 h4 => ?_⟩
  · rw [get_noFlags, State.get_set_same, c4 .rax (by decide) (by decide), hax]; rfl
  · rw [hm, hp, hax] at c1; exact c1
  · rw [get_noFlags, State.get_set_ne _ _ _ _ (by decide), get_noFlags, State.get_set_ne _ _ _ _ (by decide), c2, hsp]
  · rw [get_noFlags, State.get_set_ne _ _ _ _ h1, get_noFlags, State.get_set_ne _ _ _ _ h1, c4 x h2 h4, b3 x h1 h3,
      State.get_set_ne _ _ _ _ h1, State.get_set_ne _ _ _ _ h1, a3 x h2 h3]

theorem dec_cmp_eax : decode ⟨"cmp", [.i 0, .r "%eax"]⟩ = some (.alu .cmp .w32 (.imm 0) (.reg .rax)) := by decide +kernel
theorem dec_cmp_rax : decode ⟨"cmp", [.i 0, .r "%rax"]⟩ = some (.alu .cmp .w64 (.imm 0) (.reg .rax)) := by decide +kernel
theorem dec_setne_al : decode ⟨"setne", [.r "%al"]⟩ = some (.setcc .ne .rax) := by decide +kernel
theorem dec_movzx_al_eax : decode ⟨"movzx", [.r "%al", .r "%eax"]⟩ = some (.movzx .w8 .w32 (.reg .rax) .rax) := by decide +kernel

/-- `cmp $0, %eax|%rax; setne %al; movzx %al, %eax`: %rax becomes 1 if the tested part of it is non-zero, else 0 -/
theorem bool_cast_run (small : Bool) (s : State) :
    Post (insOf (boolCastLines small)) s fun s' =>
      s'.get .rax = (if (if small then (s.get .rax).setWidth 32 = 0#32 else s.get .rax = 0#64) then 0#64 else 1#64) ∧
      s'.mem = s.mem ∧ ∀ x, x ≠ .rax → s'.get x = s.get x := by
  have key : ∀ (w : W) (i : Ins), decode i = some (.alu .cmp w (.imm 0) (.reg .rax)) →
      Post [i, ⟨"setne", [.r "%al"]⟩, ⟨"movzx", [.r "%al", .r "%eax"]⟩] s fun s' =>
        s'.get .rax = (if s.getW .rax w = 0 then 0#64 else 1#64) ∧ s'.mem = s.mem ∧ ∀ x, x ≠ .rax → s'.get x = s.get x := by
    intro w i hi
    refine .cons hi (exec_cmp_ir ..) <| .cons dec_setne_al ((exec_setcc ..).trans (if_pos rfl)) <|
      .cons dec_movzx_al_eax (exec_movzx ..) <| .nil ⟨?_, ?_, fun x hx => ?_⟩
    · rw [State.get_setW32, State.src, State.getW_setW_same, State.cond_ne_flags]
      rw [show s.getW .rax w - BitVec.ofInt w.bits 0 = s.getW .rax w by simp]
      by_cases h : s.getW .rax w = 0
      · rw [if_pos h, beq_iff_eq.mpr h]; rfl
      · rw [if_neg h, beq_eq_false_iff_ne.mpr h]; rfl
    · cases w <;> rfl
    · rw [State.get_setW_ne _ _ _ _ _ hx, State.get_setW_ne _ _ _ _ _ hx]; rfl
  cases small
  · have := key .w64 _ dec_cmp_rax
    simp only [State.getW, W.bits, BitVec.setWidth_eq] at this
    exact this
  · exact key .w32 _ dec_cmp_eax
end ChibiVerif.C04X86
