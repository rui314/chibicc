/-
C03 — assembly of the simulation for a whole function (`goto_sim`): the parsed tree's jumps are resolved
(`parseFn_spec`, Lemmas/StmtParse.lean); if the name a jump uses is defined once (6.8.1p3) the jump arrives at the
statement `Spec.Ctl.find` designates (`hitLabels_lbl`, `filter_of_count_one`, `find_erase`).
-/
import ChibiVerif.Lemmas.StmtGotoSim
import ChibiVerif.Lemmas.StmtLabels

namespace ChibiVerif.Ctl
open ChibiVerif.Spec.Ctl

theorem hitLabels_lbl (l : Nat) (st : Stmt) :
    hitLabels (.lbl l) st = ((labelPairs st).filter (fun p => l == p.1)).map (·.2) := by
  induction st with
  | seq a b iha ihb | ifte _ a b iha ihb =>
    simp only [hitLabels, labelPairs, List.filter_append, List.map_append, iha, ihb]
  | block s ih | for_ _ _ _ _ _ s ih | doWhile _ _ s _ ih => exact ih
  | switch_ w u key cs d brk body ih => simpa [hitLabels, labelPairs, Target.enters] using ih
  | case_ l' lo hi s ih => simpa [hitLabels, labelPairs, Target.hitCase] using ih
  | default_ l' s ih => simpa [hitLabels, labelPairs, Target.hitDflt] using ih
  | label l' u s ih =>
    simp only [hitLabels, labelPairs, Target.hitLabel, List.filter_cons]
    by_cases h : (l == l') = true <;> simp [h, ih]
  | _ => simp [hitLabels, labelPairs]

theorem filter_of_count_one (l t : Nat) : ∀ L : List (Nat × Nat), (L.map (·.1)).count l = 1 → (l, t) ∈ L →
    (L.filter (fun p => l == p.1)).map (·.2) = [t] := by
  intro L
  induction L with
  | nil => intro _ h; cases h
  | cons a r ih =>
    intro hc hm
    obtain ⟨a1, a2⟩ := a
    simp only [List.map_cons, List.count_cons] at hc
    by_cases ha : a1 = l
    · subst ha
      simp only [beq_self_eq_true, if_true] at hc
      have h0 : (r.map (·.1)).count a1 = 0 := by omega
      have hnot : ∀ p ∈ r, p.1 ≠ a1 := by
        intro p hp he
        have hmem : a1 ∈ r.map (·.1) := by rw [← he]; exact List.mem_map_of_mem hp
        exact (List.count_eq_zero.1 h0) hmem
      have hf : r.filter (fun p => a1 == p.1) = [] := by
        rw [List.filter_eq_nil_iff]
        intro p hp
        simp only [beq_iff_eq]
        exact fun h => hnot p hp h.symm
      simp only [List.filter_cons, beq_self_eq_true, if_true, hf, List.map_cons, List.map_nil]
      rcases List.mem_cons.1 hm with h | h
      · cases h; rfl
      · exact absurd rfl (hnot _ h)
    · have hb : (a1 == l) = false := by simpa using ha
      have hb' : (l == a1) = false := by simpa using fun h : l = a1 => ha h.symm
      simp only [hb, Bool.false_eq_true, if_false, Nat.add_zero] at hc
      simp only [List.filter_cons, hb', Bool.false_eq_true, if_false]
      rcases List.mem_cons.1 hm with h | h
      · cases h; exact absurd rfl ha
      · exact ih hc h

theorem goto_sim (ω : Nat → Val) {s : SStmt} {st : Stmt} (c0 : Nat) (hp : ParsedFn s st) (hv : validG s = true)
    (hsz : hasGotoVal s = true → (genFn st c0).length < 2 ^ 64) (fuel : Nat) (σ : SState) :
    match execG ω fuel s σ with
    | .done _ σ' => Runs ω (genFn st c0) (0, σ) ((genFn st c0).length, σ')
    | .timeout σ' => ∃ q, Runs ω (genFn st c0) (0, σ) (q, σ')
    | .unsupported => False := by
  have hu := unique_of_nodup _ (hp.labels c0).1
  obtain ⟨hB, he, _, hgr⟩ := hp
  subst he
  have hcode : CodeAt (genFn st c0) 0 (genStmt st c0).1 := ⟨[], [.label .ret], by simp [genFn], rfl⟩
  have hret : (genFn st c0)[(genStmt st c0).1.length]? = some (CIns.label .ret) := by simp [genFn]
  have hlen : (genFn st c0).length = (genStmt st c0).1.length + 1 := by simp [genFn]
  have hgood : Good (erase st) (RPairs st) ((genFn st c0).length < 2 ^ 64) none none st :=
    ⟨hB, GotoR.imp (fun _ _ => id) st hgr fun h _ => hsz h, hv⟩
  have hk0 : MatchK ω (genFn st c0) (erase st) (RPairs st) ((genFn st c0).length < 2 ^ 64) .stop
      (0 + (genStmt st c0).1.length) none none :=
    .stop (by rw [Nat.zero_add]; exact hret)
  have H : FnOK ω (genFn st c0) (erase st) (RPairs st) ((genFn st c0).length < 2 ^ 64) (genStmt st c0).1.length := by
    refine ⟨hu, hret, hlen, id, ?_⟩
    intro l t hR hok
    have hhit : hitLabels (.lbl l) st = [t] := by
      rw [hitLabels_lbl]
      apply filter_of_count_one l t _ _ hR
      rw [← labelNames_erase]
      simpa [labelOK] using hok
    have ha := find_erase hu (.lbl l) st c0 0 .stop none none ⟨hcode, hgood, hk0⟩
    rw [hhit] at ha
    cases hf : find (.lbl l) (erase st) .stop with
    | none => rw [hf] at ha; cases ha
    | some r =>
      rw [hf] at ha
      obtain ⟨u, q, h1, h2, h3⟩ := ha
      cases List.mem_singleton.1 h1
      exact ⟨r, q, rfl, h2, h3⟩
  exact run_sim H fuel (erase st) .stop 0 σ ⟨st, c0, none, none, rfl, hcode, hgood, hk0⟩

end ChibiVerif.Ctl
