/-
The scope model (C03): the chain walk agrees with the backward reading of
the history; a balanced block leaves the bindings unchanged; the chain of hashmap.c tables
refines the chain of dictionaries (through C17's `Inv.put_spec` / `Inv.get_eq`).
-/
import ChibiVerif.Model.Scope
import ChibiVerif.Lemmas.HashMapLemmas

namespace ChibiVerif.Scope
open ChibiVerif.HashMap (AMap HM Crash Inv absGet)

variable {V T : Type}

theorem run_append (ops1 ops2 : List (Op V T)) : ∀ s : Stack V T,
    run s (ops1 ++ ops2) = match run s ops1 with
      | .ok s' => run s' ops2
      | .error e => .error e := by
  induction ops1 with
  | nil => intro s; rfl
  | cons op ops ih =>
    intro s
    simp only [List.cons_append, run]
    cases step s op with
    | ok s' => exact ih s'
    | error e => rfl

theorem run_snoc (ops : List (Op V T)) (op : Op V T) (s s' : Stack V T)
    (h : run s (ops ++ [op]) = .ok s') :
    ∃ s1, run s ops = .ok s1 ∧ step s1 op = .ok s' := by
  rw [run_append] at h
  cases h1 : run s ops with
  | error e => rw [h1] at h; cases h
  | ok s1 =>
    rw [h1] at h
    refine ⟨s1, rfl, ?_⟩
    simp only [run] at h
    cases h2 : step s1 op with
    | error e => rw [h2] at h; cases h
    | ok s2 => rw [h2] at h; exact h

theorem find_init_drop (k : Nat) (name : String) :
    findVar ((Stack.init : Stack V T).drop k) name = none ∧ findTag ((Stack.init : Stack V T).drop k) name = none := by
  cases k with
  | zero => exact ⟨rfl, rfl⟩
  | succ k => simp [Stack.init, findVar, findTag]

/-- the chain walk, started `k` scopes out, finds what the backward reading of the history finds after skipping `k`
    closed scopes; the two name spaces side by side: a declaration in one is invisible to the other -/
theorem find_eq_spec_rev (name : String) (r : List (Op V T)) :
    ∀ (s : Stack V T), run Stack.init r.reverse = .ok s → ∀ k,
      findVar (s.drop k) name = specVar name r k ∧ findTag (s.drop k) name = specTag name r k := by
  induction r with
  | nil =>
    intro s h k
    change Except.ok Stack.init = Except.ok s at h
    cases h
    simpa [specVar, specTag] using find_init_drop k name
  | cons op r ih =>
    intro s h k
    rw [List.reverse_cons] at h
    obtain ⟨s1, h1, hstep⟩ := run_snoc _ op _ s h
    have ih1 := ih s1 h1
    cases op with
    | enter =>
      simp only [step, enter] at hstep
      cases hstep
      cases k with
      | zero =>
        have := ih1 0
        simp only [List.drop_zero] at this
        simp only [specVar, specTag, List.drop_zero, findVar, findTag, Frame.empty, AMap.get_empty, this, and_self]
      | succ k => simpa [specVar, specTag] using ih1 k
    | leave =>
      cases s1 with
      | nil => simp [step, leave] at hstep
      | cons f rest =>
        simp only [step, leave] at hstep
        cases hstep
        simpa [specVar, specTag] using ih1 (k + 1)
    | declVar n v =>
      cases s1 with
      | nil => simp [step, declareVar] at hstep
      | cons f rest =>
        simp only [step, declareVar] at hstep
        cases hstep
        cases k with
        | zero =>
          have := ih1 0
          simp only [List.drop_zero] at this
          simp only [specVar, specTag, List.drop_zero, findVar, findTag, AMap.get_put]
          refine ⟨?_, this.2⟩
          by_cases hn : name = n
          · subst hn; simp
          · have hn' : ¬ n = name := fun e => hn e.symm
            simp only [hn, hn', if_false]
            exact this.1
        | succ k => simpa [specVar, specTag] using ih1 (k + 1)
    | declTag n t =>
      cases s1 with
      | nil => simp [step, declareTag] at hstep
      | cons f rest =>
        simp only [step, declareTag] at hstep
        cases hstep
        cases k with
        | zero =>
          have := ih1 0
          simp only [List.drop_zero] at this
          simp only [specVar, specTag, List.drop_zero, findVar, findTag, AMap.get_put]
          refine ⟨this.1, ?_⟩
          by_cases hn : name = n
          · subst hn; simp
          · have hn' : ¬ n = name := fun e => hn e.symm
            simp only [hn, hn', if_false]
            exact this.2
        | succ k => simpa [specVar, specTag] using ih1 (k + 1)

theorem run_balancedFrom (ops : List (Op V T)) :
    ∀ (d : Nat) (pre s s' : Stack V T), pre.length = d + 1 → balancedFrom d ops = true →
      run (pre ++ s) ops = .ok s' → ∃ f, s' = f :: s := by
  induction ops with
  | nil =>
    intro d pre s s' hd hb h
    simp only [balancedFrom, beq_iff_eq] at hb
    subst hb
    cases pre with
    | nil => simp at hd
    | cons f pre =>
      have : pre = [] := List.eq_nil_of_length_eq_zero (by simpa using hd)
      subst this
      change Except.ok _ = Except.ok s' at h
      cases h
      exact ⟨f, rfl⟩
  | cons op ops ih =>
    intro d pre s s' hd hb h
    simp only [run] at h
    cases pre with
    | nil => simp at hd
    | cons f pre =>
      cases op with
      | enter =>
        simp only [balancedFrom] at hb
        simp only [step, enter] at h
        exact ih (d + 1) (Frame.empty :: f :: pre) s s' (by simp at hd ⊢; omega) hb h
      | leave =>
        cases d with
        | zero => simp [balancedFrom] at hb
        | succ d =>
          simp only [balancedFrom] at hb
          simp only [step, leave, List.cons_append] at h
          exact ih d pre s s' (by simpa using hd) hb h
      | declVar n v =>
        have hb' : balancedFrom d ops = true := by
          cases d <;> simpa [balancedFrom] using hb
        simp only [step, declareVar, List.cons_append] at h
        exact ih d (_ :: pre) s s' (by simpa using hd) hb' h
      | declTag n t =>
        have hb' : balancedFrom d ops = true := by
          cases d <;> simpa [balancedFrom] using hb
        simp only [step, declareTag, List.cons_append] at h
        exact ih d (_ :: pre) s s' (by simpa using hd) hb' h

theorem run_block (body : List (Op V T)) (hb : balanced body = true) (s s' : Stack V T)
    (h : run s ([Op.enter] ++ body ++ [Op.leave]) = .ok s') : s' = s := by
  rw [run_append] at h
  cases h1 : run s ([Op.enter] ++ body) with
  | error e => rw [h1] at h; cases h
  | ok s1 =>
    rw [h1] at h
    simp only [List.singleton_append, run, step, enter] at h1
    obtain ⟨f, hf⟩ := run_balancedFrom body 0 [Frame.empty] s s1 rfl hb h1
    subst hf
    simp only [run, step, leave] at h
    cases h; rfl

/-- per-scope representation relation: both tables satisfy C17's invariant and denote the
    dictionaries of the abstract frame -/
def FrameRel (h : String → Nat) (c : CFrame V T) (a : Frame V T) : Prop :=
  Inv h c.vars ∧ (∀ k, absGet c.vars k = a.vars.get k) ∧
  Inv h c.tags ∧ (∀ k, absGet c.tags k = a.tags.get k)

def StackRel (h : String → Nat) : CStack V T → Stack V T → Prop
  | [], [] => True
  | c :: cs, a :: as => FrameRel h c a ∧ StackRel h cs as
  | _, _ => False

theorem FrameRel_empty (h : String → Nat) :
    FrameRel h (CFrame.empty : CFrame V T) (Frame.empty : Frame V T) := by
  refine ⟨HashMap.Inv_empty h, ?_, HashMap.Inv_empty h, ?_⟩ <;>
  · intro k
    rw [HashMap.absGet_of_length_zero rfl]
    rfl

theorem StackRel_init (h : String → Nat) :
    StackRel h (CStack.init : CStack V T) (Stack.init : Stack V T) :=
  ⟨FrameRel_empty h, trivial⟩

theorem cstep_refines (h : String → Nat) (op : Op V T) :
    ∀ (cs : CStack V T) (s s' : Stack V T), StackRel h cs s → step s op = .ok s' →
      ∃ cs', cstep h cs op = .ok cs' ∧ StackRel h cs' s' := by
  intro cs s s' hr hs
  cases op with
  | enter =>
    simp only [step, enter] at hs
    cases hs
    exact ⟨_, rfl, FrameRel_empty h, hr⟩
  | leave =>
    cases s with
    | nil => simp [step, leave] at hs
    | cons a as =>
      cases cs with
      | nil => exact absurd hr (by simp [StackRel])
      | cons c cs =>
        simp only [step, leave] at hs
        cases hs
        exact ⟨cs, rfl, hr.2⟩
  | declVar n v =>
    cases s with
    | nil => simp [step, declareVar] at hs
    | cons a as =>
      cases cs with
      | nil => exact absurd hr (by simp [StackRel])
      | cons c cs =>
        simp only [step, declareVar] at hs
        cases hs
        obtain ⟨⟨hv, hva, ht, hta⟩, hrest⟩ := hr
        obtain ⟨m', hm', w', habs'⟩ := hv.put_spec n v
        refine ⟨{ c with vars := m' } :: cs, ?_, ⟨Or.inr w', ?_, ht, hta⟩, hrest⟩
        · simp [cstep, hm', liftC, bind, Except.bind, pure, Except.pure]
        · intro k
          rw [habs', HashMap.AMap.get_put, hva]
  | declTag n t =>
    cases s with
    | nil => simp [step, declareTag] at hs
    | cons a as =>
      cases cs with
      | nil => exact absurd hr (by simp [StackRel])
      | cons c cs =>
        simp only [step, declareTag] at hs
        cases hs
        obtain ⟨⟨hv, hva, ht, hta⟩, hrest⟩ := hr
        obtain ⟨m', hm', w', habs'⟩ := ht.put_spec n t
        refine ⟨{ c with tags := m' } :: cs, ?_, ⟨hv, hva, Or.inr w', ?_⟩, hrest⟩
        · simp [cstep, hm', liftC, bind, Except.bind, pure, Except.pure]
        · intro k
          rw [habs', HashMap.AMap.get_put, hta]

theorem crun_refines (h : String → Nat) (ops : List (Op V T)) :
    ∀ (cs : CStack V T) (s s' : Stack V T), StackRel h cs s → run s ops = .ok s' →
      ∃ cs', crun h cs ops = .ok cs' ∧ StackRel h cs' s' := by
  induction ops with
  | nil =>
    intro cs s s' hr hs
    change Except.ok s = Except.ok s' at hs
    cases hs
    exact ⟨cs, rfl, hr⟩
  | cons op ops ih =>
    intro cs s s' hr hs
    simp only [run] at hs
    cases h1 : step s op with
    | error e => rw [h1] at hs; cases hs
    | ok s1 =>
      rw [h1] at hs
      obtain ⟨cs1, hc1, hr1⟩ := cstep_refines h op cs s s1 hr h1
      obtain ⟨cs', hc', hr'⟩ := ih cs1 s1 s' hr1 hs
      exact ⟨cs', by simp only [crun, hc1, hc'], hr'⟩

theorem cfind_refines (h : String → Nat) (name : String) :
    ∀ (cs : CStack V T) (s : Stack V T), StackRel h cs s →
      cfindVar h cs name = .ok (findVar s name) ∧ cfindTag h cs name = .ok (findTag s name) := by
  intro cs
  induction cs with
  | nil =>
    intro s hr
    cases s with
    | nil => exact ⟨rfl, rfl⟩
    | cons a as => exact absurd hr (by simp [StackRel])
  | cons c cs ih =>
    intro s hr
    cases s with
    | nil => exact absurd hr (by simp [StackRel])
    | cons a as =>
      obtain ⟨⟨hv, hva, ht, hta⟩, hrest⟩ := hr
      simp only [cfindVar, findVar, hv.get_eq name, hva name, cfindTag, findTag, ht.get_eq name, hta name]
      constructor
      · cases a.vars.get name with
        | some v => rfl
        | none => exact (ih as hrest).1
      · cases a.tags.get name with
        | some v => rfl
        | none => exact (ih as hrest).2

end ChibiVerif.Scope
