/-
Helper lemmas for C15: the linkage flags `function()` ends up with (`fnFlags`) encode the class C11 gives the function
(`Spec.fnClass`): always for the repaired code (`Rules.flagsFollow`), and outside `flagsFrozenDefRegion` for the code that
takes the flags from the first declaration only.  (`hB`, `_B`: with `Rules.flagsFollow`.)
-/
import ChibiVerif.Lemmas.LinkageView

namespace ChibiVerif.Linkage
open ChibiVerif.Spec.Linkage

variable [Rules]

/-- how `emit_text` / the root loop read (`is_static`, `is_inline`) -/
def classOf (stc inl : Bool) : FnClass :=
  if stc then (if inl then .localIfNeeded else .localAlways) else .globalAlways

omit [Rules] in
theorem classOf_ne_ifNeeded (stc inl : Bool) : (classOf stc inl != .localIfNeeded) = !(stc && inl) := by
  cases stc <;> cases inl <;> rfl

omit [Rules] in
theorem classOf_first (d : FnDecl) (rest : List FnDecl) : classOf (effFlags d).1 (effFlags d).2 = fnClassFirst (d :: rest) := rfl

/-! ### the automaton against `Spec.fnClass` (repaired code) -/

section
variable (hB : Rules.flagsFollow = true)
include hB

theorem redeclF_B (e i b : Bool) (q : Flags) :
    redeclF e i b q =
      (let q1 : Flags := if q.isInlineDef && (!i || e) then { q with isInlineDef := false, isStatic := false } else q
       let q2 : Flags := if q1.isStatic && !q1.isInlineDef && i && !q1.isDefinition then { q1 with isInline := true } else q1
       { q2 with isDefinition := q2.isDefinition || b }) := by
  simp [redeclF, hB]

/-- internal linkage: `is_inline` becomes true if a declaration up to the definition says `inline` -/
theorem foldF_internal : ∀ (r : List FnDecl) (q : Flags), q.isStatic = true → q.isInlineDef = false →
    (foldF r q).isStatic = true ∧
    (foldF r q).isInline = (q.isInline || (!q.isDefinition && (uptoDef r).any (·.isInline)))
  | [], q, hs, _ => ⟨hs, by simp [foldF, uptoDef]⟩
  | n :: r, q, hs, hd => by
    have h1 := redeclF_B hB n.isExtern n.isInline n.body.isSome q
    obtain ⟨qs, qi, qd, qf⟩ := q
    simp only at hs hd
    subst hs hd
    have hstep : redeclF n.isExtern n.isInline n.body.isSome ⟨true, qi, false, qf⟩ =
        ⟨true, qi || (n.isInline && !qf), false, qf || n.body.isSome⟩ := by
      rw [h1]
      cases n.isInline <;> cases n.isExtern <;> cases qf <;> cases qi <;> rfl
    obtain ⟨ih1, ih2⟩ := foldF_internal r ⟨true, qi || (n.isInline && !qf), false, qf || n.body.isSome⟩ rfl rfl
    simp only [foldF, List.foldl_cons] at ih1 ih2 ⊢
    rw [hstep]
    refine ⟨ih1, ?_⟩
    rw [ih2]
    clear h1 hstep ih1 ih2
    have hup : (uptoDef (n :: r)).any (·.isInline) = (n.isInline || (!n.body.isSome && (uptoDef r).any (·.isInline))) := by
      simp only [uptoDef]
      cases hb : n.body.isSome <;> simp
    rw [hup]
    generalize n.isInline = ni
    generalize n.body.isSome = nb
    generalize (uptoDef r).any (·.isInline) = X
    cases nb <;> cases qf <;> cases qi <;> cases ni <;> cases X <;> rfl

/-- external linkage, settled: nothing changes any more -/
theorem foldF_global : ∀ (r : List FnDecl) (q : Flags), q.isStatic = false → q.isInlineDef = false →
    (foldF r q).isStatic = false
  | [], _, hs, _ => hs
  | n :: r, q, hs, hd => by
    have h1 := redeclF_B hB n.isExtern n.isInline n.body.isSome q
    obtain ⟨qs, qi, qd, qf⟩ := q
    simp only at hs hd
    subst hs hd
    have hstep : redeclF n.isExtern n.isInline n.body.isSome ⟨false, qi, false, qf⟩ = ⟨false, qi, false, qf || n.body.isSome⟩ := by
      rw [h1]; rfl
    simp only [foldF, List.foldl_cons]
    rw [hstep]
    exact foldF_global r _ rfl rfl

/-- an inline definition stays one as long as every declaration says `inline` without `extern` -/
theorem foldF_inlineDef : ∀ (r : List FnDecl) (q : Flags), q.isStatic = true → q.isInline = true → q.isInlineDef = true →
    (r.all (fun d => d.isInline && !d.isExtern) = true → (foldF r q).isStatic = true ∧ (foldF r q).isInline = true) ∧
    (r.all (fun d => d.isInline && !d.isExtern) = false → (foldF r q).isStatic = false)
  | [], q, hs, hi, _ => ⟨fun _ => ⟨hs, hi⟩, fun h => by simp at h⟩
  | n :: r, q, hs, hi, hd => by
    have h1 := redeclF_B hB n.isExtern n.isInline n.body.isSome q
    obtain ⟨qs, qi, qd, qf⟩ := q
    simp only at hs hi hd
    subst hs hi hd
    have hcons : ∀ q0, foldF (n :: r) q0 = foldF r (redeclF n.isExtern n.isInline n.body.isSome q0) := fun _ => rfl
    rw [hcons, List.all_cons]
    cases hk : (n.isInline && !n.isExtern)
    · -- this declaration makes the definition external
      have hstep : redeclF n.isExtern n.isInline n.body.isSome ⟨true, true, true, qf⟩ = ⟨false, true, false, qf || n.body.isSome⟩ := by
        rw [h1]
        cases hi' : n.isInline <;> cases he' : n.isExtern <;> simp_all
      rw [hstep]
      refine ⟨fun h => by simp at h, fun _ => ?_⟩
      exact foldF_global hB r _ rfl rfl
    · have hstep : redeclF n.isExtern n.isInline n.body.isSome ⟨true, true, true, qf⟩ = ⟨true, true, true, qf || n.body.isSome⟩ := by
        rw [h1]
        cases hi' : n.isInline <;> cases he' : n.isExtern <;> simp_all
      rw [hstep, Bool.true_and]
      exact foldF_inlineDef r ⟨true, true, true, qf || n.body.isSome⟩ rfl rfl rfl

/-- **the repaired `function()` computes the class C11 gives the function** -/
theorem foldF_class (d : FnDecl) (r : List FnDecl) (hv : fnValid (d :: r) = true) :
    classOf (foldF r (newFlags d.isStatic d.isExtern d.isInline d.body.isSome)).isStatic
      (foldF r (newFlags d.isStatic d.isExtern d.isInline d.body.isSome)).isInline = fnClass (d :: r) := by
  simp only [fnValid, Bool.and_eq_true, decide_eq_true_eq, Bool.or_eq_true] at hv
  obtain ⟨⟨_, hse⟩, _⟩ := hv
  have hse0 : (!(d.isStatic && d.isExtern)) = true := by
    rw [List.all_eq_true] at hse; exact hse d List.mem_cons_self
  cases hs : d.isStatic
  · have hint : fnInternal (d :: r) = false := by simp [fnInternal, hs]
    cases hk : (d.isInline && !d.isExtern)
    · -- not an inline definition: global from the start
      have hq : newFlags false d.isExtern d.isInline d.body.isSome = ⟨false, d.isInline, false, d.body.isSome⟩ := by
        simp only [newFlags, hB, Bool.false_or, Bool.not_false, Bool.and_true, Bool.true_and]
        rw [hk]
      rw [hq, foldF_global hB r _ rfl rfl]
      have : fnInlineDefOnly (d :: r) = false := by simp [fnInlineDefOnly, hk]
      simp [classOf, fnClass, hint, this]
    · simp only [Bool.and_eq_true, Bool.not_eq_true'] at hk
      have hq : newFlags false d.isExtern d.isInline d.body.isSome = ⟨true, true, true, d.body.isSome⟩ := by
        simp [newFlags, hB, hk.1, hk.2]
      rw [hq]
      obtain ⟨h1, h2⟩ := foldF_inlineDef hB r ⟨true, true, true, d.body.isSome⟩ rfl rfl rfl
      cases hall : r.all (fun d => d.isInline && !d.isExtern)
      · rw [h2 hall]
        have : fnInlineDefOnly (d :: r) = false := by simp [fnInlineDefOnly, hall]
        simp [classOf, fnClass, hint, this]
      · obtain ⟨e1, e2⟩ := h1 hall
        rw [e1, e2]
        have : fnInlineDefOnly (d :: r) = true := by simp [fnInlineDefOnly, hall, hk.1, hk.2]
        simp [classOf, fnClass, hint, this]
  · have hint : fnInternal (d :: r) = true := by simp [fnInternal, hs]
    have he : d.isExtern = false := by
      cases he : d.isExtern
      · rfl
      · rw [hs, he] at hse0; cases hse0
    have hq : newFlags true d.isExtern d.isInline d.body.isSome = ⟨true, d.isInline, false, d.body.isSome⟩ := by
      simp [newFlags, he]
    rw [hq]
    obtain ⟨e1, e2⟩ := foldF_internal hB r ⟨true, d.isInline, false, d.body.isSome⟩ rfl rfl
    rw [e1, e2]
    have : fnInlineAny (d :: r) = (d.isInline || (!d.body.isSome && (uptoDef r).any (·.isInline))) := by
      simp only [fnInlineAny, uptoDef]
      cases d.body.isSome <;> simp
    simp only [classOf, fnClass, hint, this, if_true]

end

/-- **the class the recorded flags encode** is the class C11 gives the function: for the repaired code (`Rules.flagsFollow`) always, for the
    code without that rule when the class of the first declaration is the C11 class (outside `flagsFrozenDefRegion`) -/
theorem fnFlags_class {ds : List Decl} {f : Name} {S I : Bool} (hv : fnValid (fnDecls ds f) = true)
    (hc : Rules.flagsFollow = true ∨ fnClass (fnDecls ds f) = fnClassFirst (fnDecls ds f))
    (hfl : fnFlags ds f = some (S, I)) : classOf S I = fnClass (fnDecls ds f) := by
  cases hB : Rules.flagsFollow
  · rw [fnFlags_noB hB, firstFlags_eq] at hfl
    cases hD : fnDecls ds f with
    | nil => rw [hD] at hfl; cases hfl
    | cons d r =>
      rw [hD] at hfl hc
      simp only [List.head?_cons, Option.map_some, Option.some.injEq] at hfl
      rcases hc with h | h
      · rw [hB] at h; cases h
      · rw [h, ← classOf_first d r, hfl]
  · rw [fnFlags_eq] at hfl
    cases hD : fnDecls ds f with
    | nil => rw [hD] at hfl; cases hfl
    | cons d r =>
      rw [hD] at hfl hv
      simp only [Option.some.injEq, Prod.mk.injEq] at hfl
      rw [← hfl.1, ← hfl.2]
      exact foldF_class hB d r hv

end ChibiVerif.Linkage
