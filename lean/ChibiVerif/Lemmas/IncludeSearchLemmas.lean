/-
#include resolution of Model/IncludeSearch.lean: the search functions against the documented order of Spec/IncludeSearchSpec.lean;
the filename cache never changes an answer as long as every entry is what an uncached search would return (`CacheOK`).  And what
both include machines need of the tables of `include_file`: `guardOf_putGuard`, `putGuard_inv`, `shortcutFires_cases`,
`ILine.toLine_eq_opens`.  The shortcut theories are Lemmas/IncludeDepthShortcuts.lean (machine with the nesting limit) and
Lemmas/IncludeSearchShortcuts.lean (machine without it).
-/
import ChibiVerif.Spec.IncludeSearchSpec
import ChibiVerif.Lemmas.CondInclLemmas
import ChibiVerif.Model.IncludeDepth
import ChibiVerif.Lemmas.ListLemmas
namespace ChibiVerif.IncludeSearch
open ChibiVerif.CondIncl ChibiVerif.Spec.IncludeSearch
open ChibiVerif.IncludeDepth (shortcutFires)
variable {ε β : Type}

theorem includePaths_eq_chain (c : Config) : includePaths c = chain c := by
  simp [includePaths, ChibiVerif.Gen.C10Incl.pathOrder, Config.seg, chain]

theorem firstExisting_eq_firstIn (fsx : String → Bool) (dirs : List String) (name : String) :
    firstExisting fsx dirs name = firstIn fsx dirs name := by
  induction dirs with
  | nil => rfl
  | cons d ds ih =>
    simp only [firstExisting, List.map_cons, List.find?_cons, firstIn] at ih ⊢
    cases fsx (joinPath d name) <;> simp [ih]

/-- every cache entry is what an uncached search would return now -/
def CacheOK (fsx : String → Bool) (paths : List String) (cache : Cache) : Prop :=
  ∀ n p, cache.get n = some p → firstExisting fsx paths n = some p

theorem CacheOK_nil (fsx : String → Bool) (paths : List String) : CacheOK fsx paths [] := by
  intro n p h; simp [Cache.get] at h

theorem Cache.get_cons (n p : String) (c : Cache) (m : String) :
    Cache.get ((n, p) :: c) m = if n == m then some p else Cache.get c m := by
  simp only [Cache.get, List.find?_cons]
  cases h : (n == m) <;> simp

theorem searchIncludePaths_nil (fsx : String → Bool) (paths : List String) (name : String) :
    (searchIncludePaths fsx paths [] name).1 = if isAbs name then some name else firstExisting fsx paths name := by
  fun_cases searchIncludePaths fsx paths [] name with
  | case1 ha => rw [if_pos ha]
  | case2 ha p hg => cases hg
  | case3 ha hg p hf => rw [if_neg ha, hf]
  | case4 ha hg hf => rw [if_neg ha, hf]

theorem searchIncludePaths_cache (fsx : String → Bool) (paths : List String) (cache : Cache) (name : String)
    (hc : CacheOK fsx paths cache) :
    (searchIncludePaths fsx paths cache name).1 = (searchIncludePaths fsx paths [] name).1 ∧
    CacheOK fsx paths (searchIncludePaths fsx paths cache name).2 := by
  rw [searchIncludePaths_nil]
  fun_cases searchIncludePaths fsx paths cache name with
  | case1 ha => exact ⟨by rw [if_pos ha], hc⟩
  | case2 ha p hg => exact ⟨by rw [if_neg ha, hc name p hg], hc⟩
  | case4 ha hg hf => exact ⟨by rw [if_neg ha, hf], hc⟩
  | case3 ha hg p hf =>
    refine ⟨by rw [if_neg ha, hf], fun n q hq => ?_⟩
    rw [Cache.get_cons] at hq
    split at hq
    · rename_i hn; cases hq; cases eq_of_beq hn; exact hf
    · exact hc n q hq

/-- `#include`: the model opens the file the documented order names (or, when there is none, hands
    the name itself to `include_file`) -/
theorem resolveInclude_eq_search (fsx : String → Bool) (c : Config) (cache : Cache) (cur : String) (dq : Bool)
    (name : String) (hc : CacheOK fsx (includePaths c) cache) :
    (resolveInclude fsx (includePaths c) cache cur dq name).1 = (search fsx c (dirname cur) dq name).getD name := by
  unfold resolveInclude search
  have hs := (searchIncludePaths_cache fsx (includePaths c) cache name hc).1
  rw [searchIncludePaths_nil] at hs
  by_cases ha : isAbs name = true
  · simp [ha, hs]
  · simp only [ha, Bool.false_eq_true, if_false, Bool.not_false, Bool.true_and] at hs ⊢
    rw [← includePaths_eq_chain]
    cases dq with
    | false =>
      simp only [Bool.false_and, Bool.false_eq_true, if_false, List.nil_append, hs, firstExisting_eq_firstIn]
    | true =>
      simp only [Bool.true_and, if_true, List.singleton_append, firstIn]
      cases hx : fsx (joinPath (dirname cur) name) with
      | true => simp
      | false => simp [hs, firstExisting_eq_firstIn]

theorem searchIncludeNext_eq (fsx : String → Bool) (c : Config) (name cur : String) :
    searchIncludeNext fsx (includePaths c) name cur = searchNext fsx c (dirPrefixIdx (includePaths c) cur) name := by
  simp only [searchIncludeNext, searchNext, firstExisting_eq_firstIn, includePaths_eq_chain]
  cases dirPrefixIdx (chain c) cur <;> rfl

theorem isDirPrefix_join (d n : String) : isDirPrefix d (joinPath d n) = true := by
  simp [isDirPrefix, joinPath, String.toList_append, List.isPrefixOf_iff_prefix]

theorem guardOf_putGuard (guards : List (String × String)) (path g p : String) :
    guardOf (putGuard guards path g) p = if path = p then some g else guardOf guards p := by
  unfold putGuard guardOf
  simp only [List.find?_fst_map_snd, bne]
  by_cases hp : path = p
  · subst hp; split <;> simp [*]
  · split
    · simp
    · simp [List.lookup_cons, beq_false_of_ne (Ne.symm hp), List.lookup_filter_ne _ (Ne.symm hp)]

theorem putGuard_inv (P : String → String → Prop) (guards : List (String × String)) (path g : String)
    (hok : ∀ p g, guardOf guards p = some g → P p g) (hnew : P path g) :
    ∀ p g', guardOf (putGuard guards path g) p = some g' → P p g' := by
  intro p g' h
  rw [guardOf_putGuard] at h
  by_cases hp : path = p
  · rw [if_pos hp] at h; cases h; exact hp ▸ hnew
  · rw [if_neg hp] at h; exact hok p g' h

theorem ILine.toLine_eq_opens {l : ILine ε β} {h : IfHead ε} (hl : l.toLine = .opens h) : l = .c (.opens h) := by
  cases l <;> cases hl; rfl

/-- where the guard shortcut makes a difference: the path has an entry in `include_guards` whose macro is defined -/
theorem shortcutFires_cases (path : String) (s : IState β) :
    shortcutFires true path s = shortcutFires false path s ∨
    (shortcutFires true path s = true ∧ shortcutFires false path s = false ∧
      ∃ g, guardOf s.guards path = some g ∧ s.st.obs.defs.isDef g = true) := by
  unfold shortcutFires
  cases s.once.contains path with
  | true => exact .inl rfl
  | false =>
    cases hgo : guardOf s.guards path with
    | none => exact .inl rfl
    | some g =>
      cases hdef : s.st.obs.defs.isDef g with
      | false => left; simp [hdef]
      | true => right; simp [hdef]

/-- the `#define` / `#undef` lines that correspond to the -D / -U options, in command-line order -/
def duLines (os : List (Opt β)) : List (Line ε β) :=
  os.filterMap (fun o => match o with
    | .D n b => some (.plain (.define n b))
    | .U n => some (.plain (.undef n false))
    | _ => none)

end ChibiVerif.IncludeSearch
