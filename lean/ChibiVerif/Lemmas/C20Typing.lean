/-
C20: declares nothing.  The typing side condition of the full statements (`typedE/typedA/typedS`) is defined in
Model/C20Scope.lean; tools/tasks/C13.task refers to it under this module name, which is why the module exists: it
re-exports Lemmas/C20Induction.lean.
-/
import ChibiVerif.Lemmas.C20Induction
