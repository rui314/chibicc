/-
Byte memory of Model/X86.  `wr8` is `State.write8` on a memory alone (`State.mem_write8_wr`).  `Stored m' m p j v` (`m'` is
`m` with the `j` bytes of `v` at `p`, little endian) and `BytesAt m p j x` (`x` is the `j` bytes of `m` at `p`) are each built
from one byte by doubling, the writes of a state by `State.write8_stored` … `write64_stored`; from them read-after-write at
every width (`State.read16_write16` …, `State.readW_writeW`), partial reads (`read8_write16` …, `read32_low` …, `readW_low`),
"a write changes only its bytes" (`State.write64_mem`, `State.mem_writeW_of_ne` over `W.bytes`) and "a read depends only on
its bytes" (`State.readW_congr`, `read64_mem`).
-/
import ChibiVerif.Lemmas.X86StateLemmas

namespace ChibiVerif.X86

abbrev Mem64 := BitVec 64 → BitVec 8

/-- `State.write8` on a memory alone (`State.mem_write8_wr`), for statements that mention no state -/
def wr8 (m : Mem64) (a : BitVec 64) (v : BitVec 8) : Mem64 := fun x => if x = a then v else m x

theorem State.mem_write8_wr (s : State) (a : BitVec 64) (v : BitVec 8) : (s.write8 a v).mem = wr8 s.mem a v := rfl

theorem ofNat_inj_lt (p : BitVec 64) (j k : Nat) (hj : j < 2 ^ 64) (hk : k < 2 ^ 64) (h : p + BitVec.ofNat 64 j = p + BitVec.ofNat 64 k) :
    j = k := by
  have h' : BitVec.ofNat 64 j = BitVec.ofNat 64 k := by
    have := congrArg (fun x => x - p) h
    simp only [BitVec.add_comm p, BitVec.add_sub_cancel] at this
    exact this
  have := congrArg BitVec.toNat h'
  simp only [BitVec.toNat_ofNat] at this
  omega

def Stored (m' m : Mem64) (p : BitVec 64) (j : Nat) (v : BitVec (8 * j)) : Prop :=
  (∀ k : Nat, k < j → m' (p + BitVec.ofNat 64 k) = v.extractLsb' (8 * k) 8) ∧
  ∀ x : BitVec 64, (∀ k : Nat, k < j → x ≠ p + BitVec.ofNat 64 k) → m' x = m x

theorem Stored.outside {m' m : Mem64} {p : BitVec 64} {j : Nat} {v : BitVec (8 * j)} (h : Stored m' m p j v) (x : BitVec 64)
    (hx : ∀ k : Nat, k < j → x ≠ p + BitVec.ofNat 64 k) : m' x = m x := h.2 x hx

def BytesAt (m : Mem64) (p : BitVec 64) (j : Nat) (x : BitVec (8 * j)) : Prop :=
  ∀ k b : Nat, k < j → b < 8 → x.getLsbD (8 * k + b) = (m (p + BitVec.ofNat 64 k)).getLsbD b

theorem Stored.one (m : Mem64) (p : BitVec 64) (v : BitVec 8) : Stored (wr8 m p v) m p 1 v := by
  refine ⟨fun k hk => ?_, fun x hx => ?_⟩
  · obtain rfl : k = 0 := by omega
    simp [wr8]
  · have := hx 0 (by omega)
    simp at this
    simp [wr8, this]

theorem Stored.append {m m1 m2 : Mem64} {p : BitVec 64} {j : Nat} (hj : 2 * j ≤ 2 ^ 64) {v : BitVec (8 * (2 * j))}
    (hlo : Stored m1 m p j (v.setWidth (8 * j))) (hhi : Stored m2 m1 (p + BitVec.ofNat 64 j) j ((v >>> (8 * j)).setWidth (8 * j))) :
    Stored m2 m p (2 * j) v := by
  have haddr : ∀ k, p + BitVec.ofNat 64 j + BitVec.ofNat 64 k = p + BitVec.ofNat 64 (j + k) := fun k => by
    rw [BitVec.add_assoc, ← BitVec.ofNat_add]
  refine ⟨fun k hk => ?_, fun x hx => ?_⟩
  · by_cases h : k < j
    · rw [hhi.2 _ (fun k' hk' e => by rw [haddr] at e; have := ofNat_inj_lt p _ _ (by omega) (by omega) e; omega), hlo.1 k h]
      apply BitVec.eq_of_getLsbD_eq
      intro i hi
      simp only [BitVec.getLsbD_extractLsb', BitVec.getLsbD_setWidth, hi, decide_true, Bool.true_and]
      rw [decide_eq_true (by omega : 8 * k + i < 8 * j), Bool.true_and]
    · have := hhi.1 (k - j) (by omega)
      rw [haddr, show j + (k - j) = k by omega] at this
      rw [this]
      apply BitVec.eq_of_getLsbD_eq
      intro i hi
      simp only [BitVec.getLsbD_extractLsb', BitVec.getLsbD_setWidth, BitVec.getLsbD_ushiftRight, hi, decide_true, Bool.true_and]
      rw [decide_eq_true (by omega : 8 * (k - j) + i < 8 * j), Bool.true_and, show 8 * j + (8 * (k - j) + i) = 8 * k + i by omega]
  · rw [hhi.2 x (fun k hk => by rw [haddr]; exact hx _ (by omega)), hlo.2 x (fun k hk => hx k (by omega))]

theorem State.write8_stored (s : State) (a : BitVec 64) (v : BitVec 8) : Stored (s.write8 a v).mem s.mem a 1 v := Stored.one ..
theorem State.write16_stored (s : State) (a : BitVec 64) (v : BitVec 16) : Stored (s.write16 a v).mem s.mem a 2 v :=
  Stored.append (j := 1) (by decide) (s.write8_stored a (v.setWidth 8)) (State.write8_stored _ (a + 1) ((v >>> 8).setWidth 8))
theorem State.write32_stored (s : State) (a : BitVec 64) (v : BitVec 32) : Stored (s.write32 a v).mem s.mem a 4 v :=
  Stored.append (j := 2) (by decide) (s.write16_stored a (v.setWidth 16)) (State.write16_stored _ (a + 2) ((v >>> 16).setWidth 16))
theorem State.write64_stored (s : State) (a : BitVec 64) (v : BitVec 64) : Stored (s.write64 a v).mem s.mem a 8 v :=
  Stored.append (j := 4) (by decide) (s.write32_stored a (v.setWidth 32)) (State.write32_stored _ (a + 4) ((v >>> 32).setWidth 32))

theorem BytesAt.one (m : Mem64) (p : BitVec 64) : BytesAt m p 1 (m p) := by
  intro k b hk hb
  obtain rfl : k = 0 := by omega
  simp

theorem BytesAt.append {m : Mem64} {p : BitVec 64} {j : Nat} {lo hi : BitVec (8 * j)}
    (hlo : BytesAt m p j lo) (hhi : BytesAt m (p + BitVec.ofNat 64 j) j hi) : BytesAt m p (2 * j) ((hi ++ lo).cast (by omega)) := by
  intro k b hk hb
  rw [BitVec.getLsbD_cast, BitVec.getLsbD_append]
  by_cases h : k < j
  · rw [if_pos (by omega)]; exact hlo k b h hb
  · rw [if_neg (by omega), show 8 * k + b - 8 * j = 8 * (k - j) + b by omega, hhi (k - j) b (by omega) hb,
      BitVec.add_assoc, ← BitVec.ofNat_add, show j + (k - j) = k by omega]

theorem State.read8_bytes (s : State) (a : BitVec 64) : BytesAt s.mem a 1 (s.read8 a) := BytesAt.one s.mem a
theorem State.read16_bytes (s : State) (a : BitVec 64) : BytesAt s.mem a 2 (s.read16 a) := (s.read8_bytes a).append (s.read8_bytes (a + 1))
theorem State.read32_bytes (s : State) (a : BitVec 64) : BytesAt s.mem a 4 (s.read32 a) := (s.read16_bytes a).append (s.read16_bytes (a + 2))
theorem State.read64_bytes (s : State) (a : BitVec 64) : BytesAt s.mem a 8 (s.read64 a) := (s.read32_bytes a).append (s.read32_bytes (a + 4))

theorem BytesAt.eq {m m' : Mem64} {p : BitVec 64} {j : Nat} {x y : BitVec (8 * j)} (hx : BytesAt m p j x) (hy : BytesAt m' p j y)
    (h : ∀ k : Nat, k < j → m' (p + BitVec.ofNat 64 k) = m (p + BitVec.ofNat 64 k)) : y = x := by
  apply BitVec.eq_of_getLsbD_eq
  intro i hi
  have e : 8 * (i / 8) + i % 8 = i := by omega
  rw [← e, hx _ _ (by omega) (by omega), hy _ _ (by omega) (by omega), h _ (by omega)]

theorem Stored.bytesAt {m' m : Mem64} {p : BitVec 64} {j : Nat} {v : BitVec (8 * j)} (h : Stored m' m p j v) : BytesAt m' p j v := by
  intro k b hk hb
  rw [h.1 k hk, BitVec.getLsbD_extractLsb']
  simp [hb]

theorem BytesAt.low {m : Mem64} {p : BitVec 64} {j : Nat} {x : BitVec (8 * (2 * j))} (h : BytesAt m p (2 * j) x) :
    BytesAt m p j (x.setWidth (8 * j)) := by
  intro k b hk hb
  rw [BitVec.getLsbD_setWidth, decide_eq_true (by omega : 8 * k + b < 8 * j), Bool.true_and]
  exact h k b (by omega) hb

theorem Stored.low {m' m : Mem64} {p : BitVec 64} {j : Nat} {v : BitVec (8 * (2 * j))} (h : Stored m' m p (2 * j) v) :
    BytesAt m' p j (v.setWidth (8 * j)) := h.bytesAt.low

theorem State.read16_write16 (s : State) (a : BitVec 64) (v : BitVec 16) : (s.write16 a v).read16 a = v :=
  (s.write16_stored a v).bytesAt.eq (State.read16_bytes _ a) fun _ _ => rfl
theorem State.read32_write32 (s : State) (a : BitVec 64) (v : BitVec 32) : (s.write32 a v).read32 a = v :=
  (s.write32_stored a v).bytesAt.eq (State.read32_bytes _ a) fun _ _ => rfl
theorem State.read64_write64 (s : State) (a : BitVec 64) (v : BitVec 64) : (s.write64 a v).read64 a = v :=
  (s.write64_stored a v).bytesAt.eq (State.read64_bytes _ a) fun _ _ => rfl
theorem State.read8_write16 (s : State) (a : BitVec 64) (v : BitVec 16) : (s.write16 a v).read8 a = v.setWidth 8 :=
  (s.write16_stored a v).low.eq (State.read8_bytes _ a) fun _ _ => rfl
theorem State.read16_write32 (s : State) (a : BitVec 64) (v : BitVec 32) : (s.write32 a v).read16 a = v.setWidth 16 :=
  (s.write32_stored a v).low.eq (State.read16_bytes _ a) fun _ _ => rfl
theorem State.read32_write64 (s : State) (a : BitVec 64) (v : BitVec 64) : (s.write64 a v).read32 a = v.setWidth 32 :=
  (s.write64_stored a v).low.eq (State.read32_bytes _ a) fun _ _ => rfl

theorem read32_low (s : State) (a : BitVec 64) : s.read32 a = (s.read64 a).setWidth 32 :=
  (BytesAt.low (j := 4) (s.read64_bytes a)).eq (s.read32_bytes a) fun _ _ => rfl
theorem read16_low (s : State) (a : BitVec 64) : s.read16 a = (s.read32 a).setWidth 16 :=
  (BytesAt.low (j := 2) (s.read32_bytes a)).eq (s.read16_bytes a) fun _ _ => rfl
theorem read8_low (s : State) (a : BitVec 64) : s.read8 a = (s.read16 a).setWidth 8 :=
  (BytesAt.low (j := 1) (s.read16_bytes a)).eq (s.read8_bytes a) fun _ _ => rfl

def W.bytes : W → Nat
  | .w8 => 1 | .w16 => 2 | .w32 => 4 | .w64 => 8

theorem State.mem_writeW_of_ne (s : State) (p : BitVec 64) : ∀ (w : W) (v : BitVec w.bits) (x : BitVec 64),
    (∀ k : Nat, k < w.bytes → x ≠ p + BitVec.ofNat 64 k) → (s.writeW p w v).mem x = s.mem x
  | .w8, v => (s.write8_stored p v).outside
  | .w16, v => (s.write16_stored p v).outside
  | .w32, v => (s.write32_stored p v).outside
  | .w64, v => (s.write64_stored p v).outside

theorem State.write64_mem (s : State) (a v x : BitVec 64) (h : ∀ k : Nat, k < 8 → x ≠ a + BitVec.ofNat 64 k) :
    (s.write64 a v).mem x = s.mem x := s.mem_writeW_of_ne a .w64 v x h

theorem State.readW_writeW (s : State) (p : BitVec 64) : ∀ (w : W) (v : BitVec w.bits), (s.writeW p w v).readW p w = v
  -- a byte: `(s.write8 p v).read8 p` is `if p = p then v else s.mem p`
  | .w8, _ => rfl.trans (if_pos rfl)
  | .w16, v => s.read16_write16 p v
  | .w32, v => s.read32_write32 p v
  | .w64, v => s.read64_write64 p v

theorem State.readW_congr (s s' : State) (p : BitVec 64) : ∀ (w : W),
    (∀ k : Nat, k < w.bytes → s'.mem (p + BitVec.ofNat 64 k) = s.mem (p + BitVec.ofNat 64 k)) → s'.readW p w = s.readW p w
  | .w8 => (s.read8_bytes p).eq (s'.read8_bytes p)
  | .w16 => (s.read16_bytes p).eq (s'.read16_bytes p)
  | .w32 => (s.read32_bytes p).eq (s'.read32_bytes p)
  | .w64 => (s.read64_bytes p).eq (s'.read64_bytes p)

theorem read64_mem (s s' : State) (h : s'.mem = s.mem) (a : BitVec 64) : s'.read64 a = s.read64 a :=
  s.readW_congr s' a .w64 fun _ _ => by rw [h]

theorem readW_low (s : State) (a : BitVec 64) : ∀ w : W, s.readW a w = (s.read64 a).setWidth w.bits
  | .w64 => (BitVec.setWidth_eq _).symm
  | .w32 => read32_low s a
  | .w16 => (read16_low s a).trans (by rw [read32_low, BitVec.setWidth_setWidth_of_le _ (by decide)])
  | .w8 => (read8_low s a).trans (by
      rw [read16_low, read32_low, BitVec.setWidth_setWidth_of_le _ (by decide), BitVec.setWidth_setWidth_of_le _ (by decide)])

end ChibiVerif.X86
