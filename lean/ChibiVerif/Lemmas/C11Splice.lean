/-
How the phases of Model/Text.lean act on the lines of a text: the algebra of `firstLine` / `splitOn`;
`remove_backslash_newline` and `convert_universal_chars` line by line (`firstLine_rbn`, `cuc_line`, `cuc_lines`); `ensureFinalNewline`
and `skipBOM` on a text that is extended at its end (for Lemmas/C11SpliceEol.lean); the composition `firstLine_phase12`,
`phase12_lines`, `phase12_count` behind Props/C11.lean `C11_text_lines`; `phase1_last` (phase 1 ends in a new-line) and from it and
`phase12_count` `phase12_has_lf`, which `SpliceEol.lexLiteral_phase12_congr` uses.
In the lemma names: `efn` = `ensureFinalNewline`, `rbn` = `removeBackslashNewline`, `cuc` = `convertUniversalChars`, `ruc` =
`readUniversalChar`.
-/
import ChibiVerif.Lemmas.TextLemmas

namespace ChibiVerif.Lemmas.Splice
open ChibiVerif.Text
open ChibiVerif.Gen.Literals
open ChibiVerif.Spec.Literals
open ChibiVerif.Literals (Byte isXDigit fromHex)
open ChibiVerif.Lemmas.Text
open ChibiVerif.Lemmas.Literals (encode_ne_ascii encode_ne_nil)

theorem getLast?_tail_ne {α : Type} {x : α} {rest : List α} {b : α} (h : (x :: rest).getLast? ≠ some b) :
    rest.getLast? ≠ some b :=
  fun e => h (by simp [List.getLast?_cons, e])

theorem unsplice_append (a t : List Byte) (ha : a.getLast? ≠ some BSL) :
    unsplice BSL LF (a ++ t) = unsplice BSL LF a ++ unsplice BSL LF t := by
  induction a using unsplice.induct BSL LF with
  | case1 => simp [unsplice]
  | case2 x =>
    have hx : x ≠ BSL := by simpa using ha
    cases t with
    | nil => simp [unsplice]
    | cons b rest => simp [unsplice, hx]
  | case3 x y rest h ih =>
    have h2 : rest.getLast? ≠ some BSL := getLast?_tail_ne (getLast?_tail_ne ha)
    simp only [List.cons_append, unsplice, h, and_self, if_true]
    exact ih h2
  | case4 x y rest h ih =>
    have h2 : (y :: rest).getLast? ≠ some BSL := getLast?_tail_ne ha
    have := ih h2
    simp only [List.cons_append] at this
    simp only [List.cons_append, unsplice, h, if_false, this]

theorem unsplice_splice (a b : List Byte) (ha : a.getLast? ≠ some BSL) :
    unsplice BSL LF (a ++ BSL :: LF :: b) = unsplice BSL LF (a ++ b) := by
  rw [unsplice_append a _ ha, unsplice_append a _ ha]
  simp [unsplice]

theorem firstLine_nil : firstLine [] = [] := rfl

theorem firstLine_cons_lf (t : List Byte) : firstLine (LF :: t) = [] := by simp [firstLine]

theorem firstLine_cons_ne (a : Byte) (t : List Byte) (h : a ≠ LF) : firstLine (a :: t) = a :: firstLine t := by
  simp [firstLine, h]

theorem firstLine_append_single_lf (u : List Byte) : firstLine (u ++ [LF]) = firstLine u := by
  induction u with
  | nil => simp [firstLine]
  | cons a u ih =>
    by_cases h : a = LF
    · subst h; simp [firstLine_cons_lf]
    · simp only [List.cons_append]
      rw [firstLine_cons_ne _ _ h, firstLine_cons_ne _ _ h, ih]

theorem splitOn_head (x : List Byte) : ∃ ls, splitOn LF x = firstLine x :: ls := by
  induction x with
  | nil => exact ⟨[], rfl⟩
  | cons a x ih =>
    by_cases h : a = LF
    · subst h; exact ⟨splitOn LF x, by simp [splitOn, firstLine_cons_lf]⟩
    · obtain ⟨ls, hls⟩ := ih
      refine ⟨ls, ?_⟩
      simp only [splitOn, h, if_false, hls, consLine]
      rw [firstLine_cons_ne _ _ h]

theorem splitOn_line (u w : List Byte) (h : LF ∉ u) : splitOn LF (u ++ LF :: w) = u :: splitOn LF w := by
  induction u with
  | nil => simp [splitOn]
  | cons a u ih =>
    have ha : a ≠ LF := fun h' => h (by simp [h'])
    have hu : LF ∉ u := fun h' => h (List.mem_cons_of_mem _ h')
    simp only [List.cons_append, splitOn, ha, if_false, ih hu, consLine]

theorem splitOn_no_lf (u : List Byte) (h : LF ∉ u) : splitOn LF u = [u] := by
  induction u with
  | nil => rfl
  | cons a u ih =>
    have ha : a ≠ LF := fun h' => h (by simp [h'])
    have hu : LF ∉ u := fun h' => h (List.mem_cons_of_mem _ h')
    simp only [splitOn, ha, if_false, ih hu, consLine]

theorem firstLine_append_lf (u w : List Byte) (h : LF ∉ u) : firstLine (u ++ LF :: w) = u := by
  obtain ⟨ls, hls⟩ := splitOn_head (u ++ LF :: w)
  rw [splitOn_line u w h] at hls
  exact (List.cons.inj hls).1.symm

theorem split_at_lf (t : List Byte) (h : LF ∈ t) : ∃ w, t = firstLine t ++ LF :: w := by
  obtain ⟨u, w, rfl, hu⟩ := List.eq_append_cons_of_mem h
  exact ⟨w, by rw [firstLine_append_lf u w hu]⟩

theorem firstLine_of_not_mem (u : List Byte) (h : LF ∉ u) : firstLine u = u :=
  (firstLine_append_single_lf u).symm.trans (firstLine_append_lf u [] h)

theorem firstLine_of_logical {x y : List Byte}
    (h : logicalLines (splitOn LF x) = logicalLines (splitOn LF y)) : firstLine x = firstLine y := by
  obtain ⟨l1, h1⟩ := splitOn_head x
  obtain ⟨l2, h2⟩ := splitOn_head y
  rw [h1, h2] at h
  simp only [logicalLines, List.cons.injEq] at h
  exact h.1

theorem firstLine_rbn (t : List Byte) : firstLine (removeBackslashNewline t) = firstLine (unsplice BSL LF t) :=
  firstLine_of_logical (splice_lines t 0)

theorem lf_mem_of_count {x : List Byte} (h : 0 < x.count LF) : LF ∈ x := List.count_pos_iff.mp h

theorem cuc_nil : convertUniversalChars [] = [] := rfl

/-- fewer than `k` bytes: `read_universal_char` hits the terminator and returns 0 -/
theorem ruc_short : ∀ (k : Nat) (p : List Byte) (c : BitVec 32), p.length < k → readUniversalChar p k c = 0#32 := by
  intro k
  induction k with
  | zero => intro p c h; omega
  | succ k ih =>
    intro p c h
    cases p with
    | nil => simp [readUniversalChar]
    | cons b rest =>
      simp only [readUniversalChar]
      split
      · rfl
      · exact ih rest _ (by simp at h; omega)

theorem ruc_line : ∀ (k : Nat) (u w : List Byte) (c : BitVec 32), LF ∉ u →
    readUniversalChar (u ++ LF :: w) k c = readUniversalChar u k c := by
  intro k
  induction k with
  | zero => intro u w c h; simp [readUniversalChar]
  | succ k ih =>
    intro u w c h
    cases u with
    | nil => simp [readUniversalChar, show isXDigit LF = false by decide]
    | cons b rest =>
      have hr : LF ∉ rest := fun h' => h (List.mem_cons_of_mem _ h')
      simp only [List.cons_append, readUniversalChar]
      split
      · rfl
      · exact ih rest w _ hr

theorem encode_no_lf (c : BitVec 32) (hc : c ≠ 10#32) : LF ∉ encodeUtf8 c := fun h =>
  encode_ne_ascii c LF (by decide) (fun e => hc (BitVec.eq_of_toNat_eq e)) LF h rfl

theorem cuc_line (u w : List Byte) (h : LF ∉ u) :
    convertUniversalChars (u ++ LF :: w) = convertUniversalChars u ++ LF :: convertUniversalChars w := by
  induction u using cuc_induct with
  | nil => exact cuc_other LF w lf_ne_bsl
  | other a t ha ih => rw [List.cons_append, cuc_other a _ ha, cuc_other a t ha, ih fun hm => h (List.mem_cons_of_mem _ hm)]; rfl
  | ucn l n hln t ih1 ih2 =>
    have ht : LF ∉ t := fun hm => h (List.mem_cons_of_mem _ (List.mem_cons_of_mem _ hm))
    rw [show BSL :: l :: t ++ LF :: w = BSL :: l :: (t ++ LF :: w) from rfl, cuc_ucn_step l n hln, cuc_ucn_step l n hln,
      ruc_line n t w 0 ht]
    by_cases hv : readUniversalChar t n 0 ≠ 0#32 ∧ readUniversalChar t n 0 ≠ 10#32
    · -- the digits stand before the newline: a shorter text reads as 0
      rw [if_pos hv, if_pos hv, List.drop_append_of_le_length (Nat.le_of_not_lt fun hl => hv.1 (ruc_short n t 0 hl)),
        ih1 fun hm => ht (List.mem_of_mem_drop hm), List.append_assoc]
    · rw [if_neg hv, if_neg hv, ← List.cons_append, ih2 fun hm => h (List.mem_cons_of_mem _ hm)]; rfl
  | bsl b t hu hU ih =>
    rw [show BSL :: b :: t ++ LF :: w = BSL :: b :: (t ++ LF :: w) from rfl, cuc_bsl b _ hu hU, cuc_bsl b t hu hU,
      ih fun hm => h (List.mem_cons_of_mem _ (List.mem_cons_of_mem _ hm))]; rfl
  | bslEnd => rw [cuc_bsl_end]; exact cuc_bsl LF w (by decide) (by decide)

theorem cuc_no_lf (u : List Byte) (h : LF ∉ u) : LF ∉ convertUniversalChars u := by
  induction u using cuc_induct with
  | nil => exact h
  | other a t ha ih =>
    rw [cuc_other a t ha]
    exact fun hm => (List.mem_cons.mp hm).elim (fun e => h (e ▸ List.mem_cons_self ..)) (ih fun hm => h (List.mem_cons_of_mem _ hm))
  | ucn l n hln t ih1 ih2 =>
    rw [cuc_ucn_step l n hln]
    by_cases hv : readUniversalChar t n 0 ≠ 0#32 ∧ readUniversalChar t n 0 ≠ 10#32
    · rw [if_pos hv]
      exact fun hm => (List.mem_append.mp hm).elim (encode_no_lf _ hv.2)
        (ih1 fun hm => h (List.mem_cons_of_mem _ (List.mem_cons_of_mem _ (List.mem_of_mem_drop hm))))
    · rw [if_neg hv]
      exact fun hm => (List.mem_cons.mp hm).elim (fun e => h (e ▸ List.mem_cons_self ..)) (ih2 fun hm => h (List.mem_cons_of_mem _ hm))
  | bsl b t hu hU ih =>
    rw [cuc_bsl b t hu hU]
    simp only [List.mem_cons, not_or] at h ⊢
    exact ⟨h.1, h.2.1, ih h.2.2⟩
  | bslEnd => rw [cuc_bsl_end]; exact h

theorem cuc_eq_nil (u : List Byte) : convertUniversalChars u = [] ↔ u = [] := by
  refine ⟨?_, fun h => by subst h; rfl⟩
  -- every iteration puts out at least one byte
  induction u using cuc_induct with
  | nil => exact fun _ => rfl
  | other a t ha _ => intro h; rw [cuc_other a t ha] at h; cases h
  | ucn l n hln t _ _ =>
    intro h
    rw [cuc_ucn_step l n hln] at h
    by_cases hv : readUniversalChar t n 0 ≠ 0#32 ∧ readUniversalChar t n 0 ≠ 10#32
    · rw [if_pos hv] at h; exact absurd (List.append_eq_nil_iff.mp h).1 (encode_ne_nil _)
    · rw [if_neg hv] at h; cases h
  | bsl b t hu hU _ => intro h; rw [cuc_bsl b t hu hU] at h; cases h
  | bslEnd => intro h; rw [cuc_bsl_end] at h; cases h

theorem firstLine_cuc (x : List Byte) : firstLine (convertUniversalChars x) = convertUniversalChars (firstLine x) := by
  by_cases h : LF ∈ x
  · obtain ⟨u, w, rfl, hu⟩ := List.eq_append_cons_of_mem h
    rw [cuc_line u w hu, firstLine_append_lf _ _ (cuc_no_lf u hu), firstLine_append_lf u w hu]
  · rw [firstLine_of_not_mem x h, firstLine_of_not_mem _ (cuc_no_lf x h)]

theorem cuc_lines (x : List Byte) :
    splitOn LF (convertUniversalChars x) = (splitOn LF x).map convertUniversalChars := by
  generalize hn : x.length = n
  induction n using Nat.strongRecOn generalizing x with
  | _ n ih =>
    by_cases h : LF ∈ x
    · obtain ⟨u, w, rfl, hu⟩ := List.eq_append_cons_of_mem h
      have hwl : w.length < n := by
        simp only [List.length_append, List.length_cons] at hn
        omega
      rw [cuc_line u w hu, splitOn_line _ _ (cuc_no_lf u hu), splitOn_line u w hu, ih _ hwl w rfl]
      rfl
    · rw [splitOn_no_lf _ h, splitOn_no_lf _ (cuc_no_lf x h)]
      rfl

theorem logicalLines_map_cuc (ls : List (List Byte)) :
    logicalLines (ls.map convertUniversalChars) = (logicalLines ls).map convertUniversalChars := by
  cases ls with
  | nil => rfl
  | cons l ls =>
    simp only [List.map_cons, logicalLines, List.cons.injEq, true_and]
    induction ls with
    | nil => rfl
    | cons m ms ih =>
      by_cases hm : m = []
      · subst hm
        simp only [List.map_cons, cuc_nil, List.filter_cons, ne_eq, not_true_eq_false, decide_false, Bool.false_eq_true,
          if_false]
        exact ih
      · have : convertUniversalChars m ≠ [] := fun h => hm ((cuc_eq_nil m).mp h)
        simp only [List.map_cons, List.filter_cons, ne_eq, hm, this, not_false_eq_true, decide_true, if_true, ih]

theorem efn_of_last (p : List Byte) (h : p.getLast? = some LF) : ensureFinalNewline p = p := by
  unfold ensureFinalNewline
  rw [h]
  simp

theorem efn_of_not_last (p : List Byte) (h : p.getLast? ≠ some LF) : ensureFinalNewline p = p ++ [LF] := by
  unfold ensureFinalNewline
  cases hl : p.getLast? with
  | none => rw [List.getLast?_eq_none_iff.mp hl]; rfl
  | some b => exact if_neg fun e => h (by rw [hl, e])

theorem efn_cases (p : List Byte) : ensureFinalNewline p = p ∨ ensureFinalNewline p = p ++ [LF] :=
  (Classical.em _).imp (efn_of_last p) (efn_of_not_last p)

theorem efn_last (p : List Byte) : (ensureFinalNewline p).getLast? = some LF := by
  by_cases h : p.getLast? = some LF
  · rw [efn_of_last p h]; exact h
  · rw [efn_of_not_last p h, List.getLast?_append]; rfl

theorem skipBOM_eq (t : List Byte) : skipBOM t = if t.take 3 = BOM then t.drop 3 else t := by
  match t with
  | [] | [_] | [_, _] => simp [skipBOM, BOM]
  | a :: b :: c :: r => simp [skipBOM, BOM]

theorem skipBOM_cases (t : List Byte) : skipBOM t = t ∨ t = BOM ++ skipBOM t := by
  rw [skipBOM_eq]
  split
  · rename_i h; right; rw [← h, List.take_append_drop]
  · left; rfl

theorem skipBOM_last_lf (t : List Byte) (h : t.getLast? = some LF) : (skipBOM t).getLast? = some LF := by
  rw [skipBOM_eq]
  split
  · rename_i hb
    rw [List.getLast?_drop]
    split
    · -- a text of at most three bytes that starts with the BOM is the BOM
      rename_i hl
      rw [List.take_of_length_le hl] at hb
      rw [hb] at h
      simp [BOM, LF] at h
    · exact h
  · exact h

theorem phase1_last (s : List Byte) : (phase1 s).getLast? = some LF :=
  canon_isCanon.last _ (skipBOM_last_lf _ (efn_last s))

theorem phase12_eq (s : List Byte) : phase12 s = convertUniversalChars (removeBackslashNewline (phase1 s)) := rfl

theorem firstLine_phase12 (s : List Byte) :
    firstLine (phase12 s) = convertUniversalChars (firstLine (unsplice BSL LF (phase1 s))) := by
  rw [phase12_eq, firstLine_cuc, firstLine_rbn]

theorem mem_skipBOM (t : List Byte) : ∀ x ∈ skipBOM t, x ∈ t := by
  intro x hx
  rcases skipBOM_cases t with e | e
  · rw [e] at hx; exact hx
  · rw [e]; exact List.mem_append_right _ hx

theorem mem_efn (p : List Byte) : ∀ x ∈ ensureFinalNewline p, x ∈ p ∨ x = LF := by
  intro x hx
  rcases efn_cases p with e | e
  · rw [e] at hx; left; exact hx
  · rw [e] at hx
    rcases List.mem_append.mp hx with h | h
    · left; exact h
    · right; simpa using h

theorem phase1_no_cr (s : List Byte) (h : CR ∉ s) : phase1 s = skipBOM (ensureFinalNewline s) := by
  unfold phase1
  apply canon_isCanon.id
  intro hm
  rcases mem_efn s _ (mem_skipBOM _ _ hm) with h' | h'
  · exact h h'
  · exact cr_ne_lf h'

theorem efn_append (p q : List Byte) (hq : q ≠ []) : ensureFinalNewline (p ++ q) = p ++ ensureFinalNewline q := by
  have hpq : (p ++ q).getLast? = q.getLast? := by
    rw [List.getLast?_append]
    cases h : q.getLast? with
    | none => exact absurd (List.getLast?_eq_none_iff.mp h) hq
    | some b => rfl
  by_cases h : q.getLast? = some LF
  · rw [efn_of_last q h, efn_of_last _ (hpq ▸ h)]
  · rw [efn_of_not_last q h, efn_of_not_last _ (hpq ▸ h), List.append_assoc]

theorem skipBOM_append_of_le (a t : List Byte) (h : 3 ≤ a.length) : skipBOM (a ++ t) = skipBOM a ++ t := by
  rw [skipBOM_eq, skipBOM_eq, List.take_append_of_le_length h, List.drop_append_of_le_length h]
  split <;> rfl

theorem skipBOM_last_ne_bsl (a : List Byte) (ha : a.getLast? ≠ some BSL) : (skipBOM a).getLast? ≠ some BSL := by
  rw [skipBOM_eq]
  split
  · rw [List.getLast?_drop]
    split
    · simp
    · exact ha
  · exact ha

theorem skipBOM_of_take (t : List Byte) (h : t.take 3 ≠ BOM) : skipBOM t = t := by
  rw [skipBOM_eq, if_neg h]

theorem take3_efn (x : List Byte) (h : x.take 3 ≠ BOM) : (ensureFinalNewline x).take 3 ≠ BOM := by
  rcases efn_cases x with e | e
  · rw [e]; exact h
  · rw [e]
    match x with
    | [] => simp [BOM]
    | [p] => simp [BOM, LF]
    | [p, q] => simp [BOM, LF]
    | p :: q :: r :: t => simpa using h

theorem consLine_length (a : Byte) (ls : List (List Byte)) (h : ls ≠ []) : (consLine a ls).length = ls.length := by
  cases ls with
  | nil => exact absurd rfl h
  | cons l ls => rfl

theorem splitOn_length (x : List Byte) : (splitOn LF x).length = x.count LF + 1 := by
  induction x with
  | nil => rfl
  | cons a x ih =>
    by_cases h : a = LF
    · subst h; simp [splitOn, ih]
    · have h' : ¬ LF = a := fun e => h e.symm
      simp only [splitOn, h, if_false, consLine_length _ _ (splitOn_ne_nil LF x), ih, List.count_cons, beq_iff_eq, if_false, Nat.add_zero]

theorem cuc_count (x : List Byte) : (convertUniversalChars x).count LF = x.count LF := by
  have h1 := splitOn_length (convertUniversalChars x)
  have h2 := splitOn_length x
  rw [cuc_lines, List.length_map] at h1
  omega

theorem phase12_count (s : List Byte) : (phase12 s).count LF = (phase1 s).count LF := by
  rw [phase12_eq, cuc_count]
  have := rbn_isRbn.count (phase1 s) 0
  simpa [removeBackslashNewline] using this

/-- the final newline of phase 1 is still there: no phase after it changes the number of newlines -/
theorem phase12_has_lf (s : List Byte) : LF ∈ phase12 s :=
  lf_mem_of_count (by rw [phase12_count]; exact List.count_pos_iff.mpr (List.mem_of_getLast? (phase1_last s)))

theorem phase12_lines (s : List Byte) :
    logicalLines (splitOn LF (phase12 s)) =
      (logicalLines (splitOn LF (unsplice BSL LF (phase1 s)))).map convertUniversalChars := by
  rw [phase12_eq, cuc_lines, logicalLines_map_cuc]
  have := splice_lines (phase1 s) 0
  unfold removeBackslashNewline
  rw [this]

end ChibiVerif.Lemmas.Splice
