/-
C06, callee-saved registers: a one-pass inclusion test for two lists that run in the same order (the generated template table
and the list of known mnemonics are both sorted), so that the kernel compares each mnemonic once instead of searching the
whole list for every template.
-/
namespace ChibiVerif.CallConv

/-- every element of `xs` is met in `ys`, walking both in the same order (repetitions in `xs` allowed) -/
def allIn {α : Type} [BEq α] : List α → List α → Bool
  | xs, [] => xs.isEmpty
  | xs, b :: bs => allIn (xs.dropWhile (· == b)) bs

theorem allIn_sound {α : Type} [BEq α] [LawfulBEq α] : ∀ (ys xs : List α), allIn xs ys = true → ∀ x ∈ xs, ys.contains x = true
  | [], xs, h, x, hx => by
    have : xs = [] := List.isEmpty_iff.1 h
    subst this; exact nomatch hx
  | b :: bs, xs, h, x, hx => by
    rw [List.contains_cons]
    by_cases hxb : (x == b) = true
    · rw [hxb, Bool.true_or]
    · -- `x` is not among the leading copies of `b` that the walk drops
      have hmem : x ∈ xs.dropWhile (· == b) := by
        induction xs with
        | nil => exact nomatch hx
        | cons a as ih =>
          rw [List.dropWhile_cons]
          split
          · rename_i hab
            rcases List.mem_cons.1 hx with rfl | hx
            · exact absurd hab hxb
            · exact ih (by rw [allIn, List.dropWhile_cons, if_pos hab] at h; exact h) hx
          · exact hx
      rw [allIn_sound bs _ h x hmem, Bool.or_true]

end ChibiVerif.CallConv
