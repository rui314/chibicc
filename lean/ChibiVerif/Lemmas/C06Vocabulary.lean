/-
The conditions and predicates that the statements of Props/C06*.lean use and that are not part of a model or a specification:
which signatures the placement theorems are about (`aggSizeOk`, `sizesOk`, `vaArgOk`), how the outcome of `funcall()` is
compared with C11 6.5.2.2 (`descrS`, `narrowInt`, `passedAs`, `allPassed`, `agrees`), and what a callee may rely on in an
argument register or a caller in %rax (`gpReg`, `LowHolds`).  Definitions only.  What a single statement needs stands beside it:
`namedSig`, the tests of the callee-saved table check and the record `Frame` in Props/C06.lean, `pushSeqOf` and `SlotHolds` in
Props/C06Fp.lean.
-/
import ChibiVerif.Model.CallConv
import ChibiVerif.Model.C06Args
import ChibiVerif.Model.X86
import ChibiVerif.Spec.C06ArgsSpec

namespace ChibiVerif.CallConv

/-- a parameter or return type, aggregate or scalar, with sizes for which neither side reaches an abort site and both sides use
    the same number of stack slots: in an aggregate
    of 1..16 bytes an eightbyte stored with `movss`/`movsd` has 4 or 8 bytes (an empty aggregate is fine: it takes nothing),
    an integer-class scalar has 1..8 bytes, and the type is not an array (arrays are never passed by value) -/
def aggSizeOk (ty : ATy) : Bool :=
  match ty with
  | .agg _ sz _ _ =>
    !(decide (sz ≤ 16)) || decide (sz = 0) || ((!(hasFlonum1 ty) || decide (sz = 4) || decide (8 ≤ sz))
      && (!(decide (sz > 8) && hasFlonum2 ty) || decide (sz = 12) || decide (sz = 16)))
  | .int sz _ _ => decide (1 ≤ sz) && decide (sz ≤ 8)    -- one 8-byte slot / one register
  | .arr .. => false                                     -- not an argument type
  | _ => true

/-- every parameter type and the return type of `s` is `aggSizeOk` -/
def sizesOk (s : Sig) : Bool :=
  s.params.all aggSizeOk && (match s.ret with | some t => aggSizeOk t | none => true)

/-- variadic argument types whose `va_arg` is claimed: promoted integers and pointers, double, long double, aggregates of
    more than 16 bytes with alignment at most 8 or exactly 16.  (Aggregates of at most 16 bytes: known finding
    C06-va-arg-small-struct.) -/
def vaArgOk : ATy → Bool
  | .int sz _ _ => sz == 4 || sz == 8
  | .dbl => true
  | .ldbl => true
  | .agg _ sz al _ => decide (sz > 16) && (decide (al ≤ 8) || decide (al = 16))
  | _ => false

end ChibiVerif.CallConv

namespace ChibiVerif.C06Args
open ChibiVerif.Gen.CommonType
open ChibiVerif.Spec.IntSpec ChibiVerif.Spec.FpC11 ChibiVerif.Spec.CallArgs

/-- the chibicc `Type` descriptor of a passable C type -/
def descrS : STy → TyD
  | .arith a => descrA a
  | .ptr => ty_ptr
  | .enum => ty_enum
  | .agg u sz => ⟨if u then .TY_UNION else .TY_STRUCT, sz, false, false⟩

/-- integer types of rank below `int`: the promotion changes the type but not the register image (`C06_arg_default_promotions`) -/
def narrowInt : STy → Bool
  | .arith (.int t) => decide (t.rank < ITy.i32.rank)
  | _ => false

/-- argument of type `a` wrapped in `casts` is passed with the type `t` the specification asks for: the converted type is
    `t`; or `t` is a struct/union type and the argument is handed over unchanged (6.5.2.2p2: it has that type); or `a` is an
    integer type narrower than `int`, `t = int` and no cast was inserted -/
def passedAs (a : STy) (casts : List TyD) (t : STy) : Bool :=
  match t with
  | .agg .. => casts.isEmpty
  | _ => tyAfter (descrS a) casts == descrS t || (casts.isEmpty && narrowInt a && t == .arith (.int .i32))

def allPassed : List STy → List (List TyD) → List STy → Bool
  | [], [], [] => true
  | a :: as, c :: cs, t :: ts => passedAs a c t && allPassed as cs ts
  | _, _, _ => false

/-- the outcome of `funcall()` is the outcome 6.5.2.2 prescribes -/
def agrees (spec : Except Diag (List STy)) (impl : Except String (List (List TyD))) (args : List STy) : Prop :=
  match spec, impl with
  | .error .tooFew, .error m => m = "too few arguments"
  | .error .tooMany, .error m => m = "too many arguments"
  | .ok ts, .ok cs => allPassed args cs ts = true
  | _, _ => False

open ChibiVerif.X86 in
/-- the r-th INTEGER argument register -/
def gpReg : Nat → Reg
  | 0 => .rdi | 1 => .rsi | 2 => .rdx | 3 => .rcx | 4 => .r8 | _ => .r9

/-- the low `sizeof t` bytes of the 8-byte register or stack slot `x` are the object representation of `w`: all the psABI
    promises of a narrow integer argument or return value -/
def LowHolds (t : ITy) (x : BitVec 64) (w : Int) : Prop :=
  t.inRange w ∧ ((x.toNat % 2 ^ (8 * t.size) : Nat) : Int) = w % (2 ^ (8 * t.size) : Nat)

end ChibiVerif.C06Args
