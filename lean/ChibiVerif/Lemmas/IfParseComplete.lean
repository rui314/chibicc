/-
Lemmas about Model/IfParse.lean, part 3: completeness of the `#if` parser with respect to the C11 grammar of
Spec/IfGrammar.lean – every token list the grammar derives (with tree `t`) is parsed, and parsed to `t`.

Method.  The statement is proved for any fixed point `F` of `step` (the functions of parse.c calling each other; `parse` of
Lemmas/IfParseGrammar.lean is one), for every nonterminal in continuation form over an arbitrary rest of the line whose first
token cannot continue the phrase (`Stop`): for a binary level `d`, "the function of level `d` on `ts ++ rest` does what the loop
of level `d` does when entered with the tree `t` at `rest`" (this is what makes the left-recursive rule `binop` go through a loop
that runs left to right); for conditional-expression and expression, "the function on `ts ++ rest` ends with `(t, rest)`".
Induction on the derivation.  Core Lean only.
-/
import ChibiVerif.Lemmas.IfParseGrammar

namespace ChibiVerif.IfParse
open ChibiVerif.PPExpr ChibiVerif.CondIncl ChibiVerif.Spec.IfGrammar
open ChibiVerif.Gen.C10IfParse

/-- the first token of `rest`, if a punctuator, satisfies `P` -/
def Stop (P : String → Prop) (rest : List PTok) : Prop := ∀ s r, rest = .punct s :: r → P s

theorem Stop.cons {P : String → Prop} {s : String} (h : P s) (r : List PTok) : Stop P (.punct s :: r) := by
  intro s' r' he
  cases he
  exact h

theorem Stop.mono {P Q : String → Prop} {rest : List PTok} (h : Stop P rest) (k : ∀ s, P s → Q s) : Stop Q rest :=
  fun s r he => k s (h s r he)

/-- `s` is no postfix operator and no binary operator of a level below `d` -/
def belowS (d : Nat) (s : String) : Prop := postfixOps.contains s = false ∧ ∀ d' ∈ List.range d, lookupOp d' s = none

instance (d : Nat) (s : String) : Decidable (belowS d s) := by unfold belowS; infer_instance

/-- `s` cannot continue a conditional-expression -/
def condS (s : String) : Prop := belowS 11 s ∧ s ≠ "?"

/-- `s` cannot continue an expression -/
def exprS (s : String) : Prop := (belowS 11 s ∧ s ≠ "?") ∧ assignOps.contains s = false ∧ s ≠ ","

instance (s : String) : Decidable (condS s) := by unfold condS; infer_instance
instance (s : String) : Decidable (exprS s) := by unfold exprS; infer_instance

theorem belowS_succ {d : Nat} {s : String} (h : belowS (d+1) s) : belowS d s ∧ lookupOp d s = none :=
  ⟨⟨h.1, fun d' hd' => h.2 d' (by simp only [List.mem_range] at hd' ⊢; omega)⟩, h.2 d (by simp only [List.mem_range]; omega)⟩

theorem sep_facts : exprS ")" ∧ exprS ":" ∧ condS "," ∧ belowS 11 "?" ∧ lookupUn "(" = none ∧ unaryOther.contains "(" = false ∧
    assignOps.contains "," = false := by decide +kernel

theorem table_look : ∀ d ∈ List.range 11, ∀ e ∈ c11Ops d,
    belowS d e.1 ∧ ∃ x ∈ opsAt d, lookupOp d e.1 = some x.2 ∧ c11of x.2.1 x.2.2 = e.2 ∧ entryOK x.2.1 x.2.2 = true := by decide +kernel

theorem unary_look : ∀ e ∈ c11Unary, lookupUn e.1 = some e.2 ∧ e.1 ≠ ":" ∧ e.1 ≠ "{" := by decide +kernel

theorem derives_start {nt : NT} {ts : List PTok} {t : PT} (h : Derives nt ts t) :
    ∃ x r, ts = x :: r ∧ x ≠ .punct ":" ∧ x ≠ .punct "{" := by
  induction h with
  | num v u => refine ⟨_, _, rfl, ?_, ?_⟩ <;> (intro h; cases h)
  | paren _ _ => exact ⟨_, _, rfl, by decide, by decide⟩
  | unop hm _ _ =>
    have := unary_look _ hm
    refine ⟨_, _, rfl, ?_, ?_⟩
    · intro he; cases he; exact this.2.1 rfl
    · intro he; cases he; exact this.2.2 rfl
  | up _ ih => exact ih
  | binop _ _ _ iha _ => obtain ⟨x, r, rfl, h1, h2⟩ := iha; exact ⟨x, _, rfl, h1, h2⟩
  | condUp _ ih => exact ih
  | cond _ _ _ ihc _ _ => obtain ⟨x, r, rfl, h1, h2⟩ := ihc; exact ⟨x, _, rfl, h1, h2⟩
  | exprUp _ ih => exact ih
  | comma _ _ iha _ => obtain ⟨x, r, rfl, h1, h2⟩ := iha; exact ⟨x, _, rfl, h1, h2⟩

section Step
variable (p : Mode → List PTok → Res)

theorem loopAt_stop (d : Nat) (t : PT) (rest : List PTok) (h : Stop (fun s => lookupOp d s = none) rest) :
    loopAt p d t rest = .ok (t, rest) := by
  unfold loopAt
  split
  · next s r => rw [h s r rfl]
  · rfl

theorem loopAt_zero (t : PT) (rest : List PTok) : loopAt p 0 t rest = .ok (t, rest) :=
  loopAt_stop p 0 t rest (fun _ _ _ => rfl)

theorem postfixP_of_primary {ts : List PTok} {t : PT} {rest : List PTok} (h : primary p ts = .ok (t, rest))
    (hs : Stop (fun s => postfixOps.contains s = false) rest) : postfixP p ts = .ok (t, rest) := by
  unfold postfixP
  simp only [h]
  split
  · next s r => simp only [hs s r rfl, Bool.false_eq_true, if_false]
  · rfl

end Step

section
variable {F : Mode → List PTok → Res}

/-- the statement proved for each nonterminal (see the header) -/
def Goal (F : Mode → List PTok → Res) : NT → List PTok → PT → Prop
  | .lvl d, ts, t => ∀ rest, Stop (belowS d) rest → lvlD F d (ts ++ rest) = loopAt F d t rest
  | .cond, ts, t => ∀ rest, Stop condS rest → condAt F (ts ++ rest) = .ok (t, rest)
  | .expr, ts, t => ∀ rest, Stop exprS rest → exprAt F (ts ++ rest) = .ok (t, rest)

theorem goal_lvl_ok {d : Nat} {ts : List PTok} {t : PT} (h : Goal F (.lvl d) ts t) (rest : List PTok)
    (hs : Stop (belowS (d+1)) rest) : lvlD F d (ts ++ rest) = .ok (t, rest) :=
  (h rest (hs.mono fun _ hb => (belowS_succ hb).1)).trans
    (loopAt_stop F d t rest (hs.mono fun _ hb => (belowS_succ hb).2))

variable (hF : ∀ m ts, F m ts = step F m ts)
include hF

/-- completeness for every nonterminal, in continuation form -/
theorem derives_goal {nt : NT} {ts : List PTok} {t : PT} (h : Derives nt ts t) : Goal F nt ts t := by
  -- what may follow `(` expr, `?` expr, a comma operand, a condition; `(` is no unary operator; `,` no assignment operator
  obtain ⟨rparenS, colonS, commaS, questS, lparenUn, lparenOther, commaAssign⟩ := sep_facts
  induction h with
  | num v u =>
    exact fun rest hs => (postfixP_of_primary F (ts := .num v u :: rest) rfl (hs.mono fun _ hb => hb.1)).trans
      (loopAt_zero F _ rest).symm
  | @paren ts t hd ih =>
    intro rest hs
    obtain ⟨x, r, rfl, _, hx⟩ := derives_start hd
    have h1 : F .expr (x :: (r ++ .punct ")" :: rest)) = .ok (t, .punct ")" :: rest) :=
      (hF ..).trans (ih (.punct ")" :: rest) (Stop.cons rparenS _))
    have he : (PTok.punct "(" :: (x :: r) ++ [PTok.punct ")"]) ++ rest = .punct "(" :: x :: (r ++ .punct ")" :: rest) := by simp
    have hpr : primary F (.punct "(" :: x :: (r ++ .punct ")" :: rest)) = .ok (t, rest) := by
      unfold primary
      simp only [if_true]
      split
      · next heq => exact absurd (List.cons.inj heq).1 hx
      · rw [h1]; simp only [skipTok, if_true]
    rw [he, loopAt_zero]
    show unary F _ = _
    unfold unary
    simp only [lparenUn, lparenOther, Bool.false_eq_true, if_false]
    exact postfixP_of_primary F hpr (hs.mono fun _ hb => hb.1)
  | @unop s op ts t hm _ ih =>
    intro rest hs
    have h1 : F (.lvl 0) (ts ++ rest) = .ok (t, rest) := (hF ..).trans ((ih rest hs).trans (loopAt_zero F t rest))
    rw [loopAt_zero]
    show unary F (.punct s :: (ts ++ rest)) = _
    simp only [unary, (unary_look _ hm).1, h1, mkUnary_unTree]
  | up _ ih => exact fun rest hs => by simp only [lvlD, goal_lvl_ok ih rest hs]
  | @binop d s op as bs a b hm _ _ iha ihb =>
    intro rest hs
    have hd : d + 1 < 11 := Nat.lt_of_not_le fun hl => by
      obtain ⟨k, hk⟩ := Nat.exists_eq_add_of_le' (Nat.succ_le_of_lt hl)
      rw [hk] at hm
      cases (show (s, op) ∈ ([] : List (String × BinOp)) from hm)
    obtain ⟨hbel, x, _, hl, hc, hok⟩ := table_look (d + 1) (List.mem_range.2 hd) (s, op) hm
    have hb : F (.lvl d) (bs ++ rest) = .ok (b, rest) := (hF ..).trans (goal_lvl_ok ihb rest hs)
    rw [List.append_assoc, List.cons_append, iha _ (Stop.cons hbel _)]
    simp only [loopAt, hl, Nat.add_sub_cancel, hb, mkNode_binTree _ _ hok, hc]
    rw [hF]
    rfl
  | condUp _ ih =>
    intro rest hs
    unfold condAt
    simp only [table_c11.1, goal_lvl_ok ih rest (hs.mono fun _ hc => hc.1)]
    split
    · next s r => simp only [if_neg (hs s r rfl).2]
    · rfl
  | @cond cs as bs c a b _ hda _ ihc iha ihb =>
    intro rest hs
    obtain ⟨x, r, rfl, hx, _⟩ := derives_start hda
    have he : (cs ++ PTok.punct "?" :: (x :: r ++ PTok.punct ":" :: bs)) ++ rest
        = cs ++ .punct "?" :: x :: (r ++ .punct ":" :: (bs ++ rest)) := by simp
    have h0 := goal_lvl_ok ihc (.punct "?" :: x :: (r ++ .punct ":" :: (bs ++ rest))) (Stop.cons questS _)
    have h1 : F .expr (x :: (r ++ .punct ":" :: (bs ++ rest))) = .ok (a, .punct ":" :: (bs ++ rest)) :=
      (hF ..).trans (iha _ (Stop.cons colonS _))
    have h2 : F .cond (bs ++ rest) = .ok (b, rest) := (hF ..).trans (ihb rest hs)
    rw [he]
    unfold condAt
    rw [table_c11.1, h0]
    simp only [if_true]
    split
    · next heq => exact absurd (List.cons.inj heq).1 hx
    · rw [h1]; simp only [skipTok, if_true, h2]
  | exprUp _ ih =>
    intro rest hs
    unfold exprAt assignAt
    rw [ih rest (hs.mono fun _ he => he.1)]
    rcases rest with _ | ⟨_ | s | _, r⟩
    · rfl
    · rfl
    · simp only [(hs s r rfl).2.1, Bool.false_eq_true, if_false, if_neg (hs s r rfl).2.2]
    · rfl
  | @comma as bs a b _ _ iha ihb =>
    intro rest hs
    rw [List.append_assoc, List.cons_append]
    have h2 : F .expr (bs ++ rest) = .ok (b, rest) := (hF ..).trans (ihb rest hs)
    unfold exprAt assignAt
    rw [iha _ (Stop.cons commaS _)]
    simp only [commaAssign, Bool.false_eq_true, if_false, if_true, h2]

end

/-- a derived conditional-expression is parsed completely, to the derived tree, with the fuel `ifParse` uses -/
theorem derives_parseN {ts : List PTok} {t : PT} (h : Derives .cond ts t) : parseN (ts.length + 1) .cond ts = .ok (t, []) := by
  have hg := derives_goal parse_step h [] (fun _ _ he => nomatch he)
  rw [List.append_nil] at hg
  exact (parse_step .cond ts).trans hg

end ChibiVerif.IfParse
