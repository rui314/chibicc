/-
C09 — the `#` operator.

1. The repaired defect (`fix:` 6fecbd6, former known finding C09-stringize-backslash-outside-literal).  Before the repair
   `stringize` was `quote_string(join_tokens(arg))` (`stringizeOld`, Lemmas/C09Vocabulary.lean).  That formula gives the string of C11 6.10.3.2p2
   only if every token of the argument is literal-safe (`strSafeTok`: a string literal, a character constant, or a token
   without `\` and `"`): one token that is not makes the old string strictly longer than the standard's (every `\`/`"`
   outside a literal is doubled, nothing ever gets shorter) — `stringizeOld_ne_spec`.  The present `stringize` equals
   the specification for every argument (`stringize_eq_spec`, first section: the two copy loops against the left fold of 6.10.3.2).
2. What the model leaves out of the C function: `stringize` hands its buffer to `tokenize()`.  `stringize_wellformed`:
   if every token of the argument is literal-safe and no spelling contains a new-line character, the buffer is exactly
   one string literal for the lexer (`Lex.lexOne … = .one .str`), so `tokenize` returns precisely the token of the model.
-/
import ChibiVerif.Model.PP
import ChibiVerif.Spec.PPSpec
import ChibiVerif.Lemmas.C09Vocabulary

namespace ChibiVerif.PP
open ChibiVerif.Spec.PPSpec

/-! ## `#`: the copy loops of `stringize` build the string of 6.10.3.2 — for every argument -/

def escChars (cs : List Char) : List Char := cs.flatMap fun c => if c == '\\' || c == '"' then ['\\', c] else [c]

theorem escChars_append (a b : List Char) : escChars (a ++ b) = escChars a ++ escChars b := by
  simp [escChars, List.flatMap_append]

theorem escChars_cons (c : Char) (r : List Char) :
    escChars (c :: r) = (if c == '\\' || c == '"' then ['\\', c] else [c]) ++ escChars r :=
  List.flatMap_cons

theorem escChars_id : ∀ (cs : List Char), (cs.any fun c => c == '\\' || c == '"') = false → escChars cs = cs := by
  intro cs
  induction cs with
  | nil => intro _; rfl
  | cons c r ih =>
    intro h
    rw [List.any_cons, Bool.or_eq_false_iff] at h
    rw [escChars_cons, h.1, ih h.2]
    rfl

theorem strzCopy_true : ∀ (cs : List Char), strzCopy true cs = escChars cs := by
  intro cs
  induction cs with
  | nil => rfl
  | cons c r ih =>
    rw [escChars_cons, strzCopy, ih]
    cases (c == '\\' || c == '"') <;> rfl

theorem strzCopy_false : ∀ (cs : List Char), strzCopy false cs = cs := by
  intro cs
  induction cs with
  | nil => rfl
  | cons c r ih => simp [strzCopy, ih]

theorem strzCopy_piece (t : Tok) : strzCopy (t.kind == .str || t.kind == .other) t.text.toList = (strPiece t).toList := by
  unfold strPiece
  cases hk : (t.kind == .str || t.kind == .other)
  · simp [strzCopy_false]
  · simp [strzCopy_true, escapeLit, escChars, String.toList_ofList]

/-- the outer loop after the first token: the specification's left fold, started from any accumulator -/
theorem foldl_strzLoop : ∀ (ts : List Tok) (acc : String),
    (ts.foldl (fun acc u => acc ++ (if spaced u then " " else "") ++ strPiece u) acc).toList =
      acc.toList ++ strzLoop false ts := by
  intro ts
  induction ts with
  | nil => intro acc; simp [strzLoop]
  | cons u r ih =>
    intro acc
    simp only [List.foldl_cons]
    rw [ih, strzLoop, strzCopy_piece]
    cases hsp : (u.hasSpace || u.atBol) <;> simp [spaced, hsp, String.toList_append]

theorem strzLoop_eq_spec (arg : List Tok) : strzLoop true arg = (stringizeText arg).toList := by
  cases arg with
  | nil => simp [strzLoop, stringizeText]
  | cons t ts =>
    simp only [stringizeText]
    rw [foldl_strzLoop, strzLoop, strzCopy_piece]
    simp

theorem stringize_eq_spec (hash : Tok) (arg : List Tok) :
    (stringize hash arg).text = (stringizeSpec hash arg).text ∧ (stringize hash arg).kind = (stringizeSpec hash arg).kind := by
  refine ⟨?_, rfl⟩
  simp only [stringize, stringizeSpec]
  rw [← String.ofList_toList (s := "\"" ++ stringizeText arg ++ "\"")]
  congr 1
  simp only [String.toList_append, strzLoop_eq_spec]
  rfl

theorem unsafe_tail {args : List MacroArg} {t : Tok} {r : List Tok}
    (h : hasUnsafeStringize args (t :: r) = false) : hasUnsafeStringize args r = false := by
  simp only [hasUnsafeStringize, Bool.or_eq_false_iff] at h; exact h.2

theorem escChars_length (cs : List Char) :
    (escChars cs).length = cs.length + cs.countP fun c => c == '\\' || c == '"' := by
  induction cs with
  | nil => rfl
  | cons c r ih =>
    rw [escChars_cons, List.length_append, ih, List.countP_cons, List.length_cons]
    split <;> simp only [List.length_cons, List.length_nil] <;> omega

theorem strPiece_len (t : Tok) :
    (strPiece t).toList.length + (if (!strSafeTok t) = true then 1 else 0) ≤ (escChars t.text.toList).length := by
  unfold strPiece strSafeTok
  cases (t.kind == .str || t.kind == .other)
  · rw [escChars_length]
    cases h : t.text.toList.any fun c => c == '\\' || c == '"'
    · exact Nat.le_add_right _ _
    · obtain ⟨c, hc, hp⟩ := List.any_eq_true.1 h
      exact Nat.add_le_add_left (List.countP_pos_iff.2 ⟨c, hc, hp⟩) _
  · simp only [if_true, Bool.true_or, escapeLit, String.toList_ofList, escChars, Bool.not_true, Bool.false_eq_true, if_false,
      Nat.add_zero, Nat.le_refl]

theorem esc_space (b : Bool) : escChars (if b then " " else "").toList = (if b then " " else "").toList := by
  cases b <;> rfl

/-- the two left folds of `stringizeText` and `joinTokens` side by side: what the specification's string gains over the
    escaped old one is at least one character per token that is not literal-safe -/
theorem foldl_len_stringize : ∀ (ts : List Tok) (accJ accS : String),
    (ts.foldl (fun acc u => acc ++ (if spaced u then " " else "") ++ strPiece u) accS).toList.length +
        (escChars accJ.toList).length + ts.countP (fun t => !strSafeTok t) ≤
      (escChars (ts.foldl (fun acc u => acc ++ (if u.hasSpace || u.atBol then " " else "") ++ u.text) accJ).toList).length +
        accS.toList.length := by
  intro ts
  induction ts with
  | nil => intro accJ accS; simp only [List.foldl_nil, List.countP_nil]; omega
  | cons u r ih =>
    intro accJ accS
    have h := ih (accJ ++ (if u.hasSpace || u.atBol then " " else "") ++ u.text) (accS ++ (if spaced u then " " else "") ++ strPiece u)
    have hu := strPiece_len u
    have hsp : (if spaced u then " " else "").toList.length = (if u.hasSpace || u.atBol then " " else "").toList.length := rfl
    simp only [String.toList_append, escChars_append, esc_space, List.length_append] at h
    simp only [List.foldl_cons, List.countP_cons]
    omega

theorem stringizeOld_ne_spec (hash : Tok) (arg : List Tok) (h : ∃ t ∈ arg, strSafeTok t = false) :
    (stringizeOld hash arg).text ≠ (stringizeSpec hash arg).text := by
  intro heq
  have hlen : (stringizeText arg).toList.length < (escChars (joinTokens arg).toList).length := by
    obtain ⟨u, hu, hun⟩ := h
    cases arg with
    | nil => cases hu
    | cons t ts =>
      have h1 := foldl_len_stringize ts t.text (strPiece t)
      have h2 := strPiece_len t
      have h3 : 0 < (t :: ts).countP fun t => !strSafeTok t := List.countP_pos_iff.2 ⟨u, hu, by rw [hun]; rfl⟩
      simp only [List.countP_cons] at h3
      simp only [stringizeText, joinTokens]
      omega
  have h2 := congrArg (fun s : String => s.toList.length) heq
  simp only [stringizeOld, stringizeSpec, quoteString, String.toList_ofList, String.toList_append, List.length_append,
    List.length_cons, List.length_nil] at h2
  have h3 : (escChars (joinTokens arg).toList).length =
      (List.flatMap (fun c => if (c == '\\' || c == '"') = true then ['\\', c] else [c]) (joinTokens arg).toList).length := rfl
  have h4 : ("\"" : String).toList.length = 1 := by decide
  omega

/-- character lists in which every `\` starts a complete two-character escape and no `"` or new-line stands outside one:
    `string_literal_end` passes over them and is back at a character boundary -/
inductive Closed : List Char → Prop
  | nil : Closed []
  | plain (c : Char) (r : List Char) : c ≠ '"' → c ≠ '\\' → c ≠ '\n' → Closed r → Closed (c :: r)
  | esc (d : Char) (r : List Char) : Closed r → Closed ('\\' :: d :: r)

theorem Closed.append {a b : List Char} (ha : Closed a) (hb : Closed b) : Closed (a ++ b) := by
  induction ha with
  | nil => simpa using hb
  | plain c r h1 h2 h3 _ ih => exact Closed.plain c _ h1 h2 h3 ih
  | esc d r _ ih => exact Closed.esc d _ ih

theorem strLitLen_closed {cs : List Char} (h : Closed cs) : Lex.strLitLen (cs ++ ['"']) = some (cs.length + 1) := by
  induction h with
  | nil => simp [Lex.strLitLen]
  | plain c r h1 h2 h3 _ ih =>
    have e1 : (c == '"') = false := by simpa using h1
    have e2 : (c == '\\') = false := by simpa using h2
    have e3 : (c == '\n') = false := by simpa using h3
    rw [List.cons_append, Lex.strLitLen.eq_def]
    simp only [e1, e2, e3, Bool.false_eq_true, if_false, ih, Option.map_some, List.length_cons]
  | esc d r _ ih =>
    have h1 : ('\\' == '"') = false := by decide
    have h2 : ('\\' == '\n') = false := by decide
    simp only [List.cons_append, Lex.strLitLen, h1, h2, Bool.false_eq_true, if_false, beq_self_eq_true, if_true, ih,
      Option.map_some, List.length_cons]

theorem closed_escChars : ∀ (cs : List Char), cs.all (· != '\n') = true → Closed (escChars cs) := by
  intro cs
  induction cs with
  | nil => intro _; exact Closed.nil
  | cons c r ih =>
    intro h
    simp only [List.all_cons, Bool.and_eq_true, bne_iff_ne, ne_eq] at h
    rw [escChars_cons]
    by_cases hc : (c == '\\' || c == '"') = true
    · simp only [hc, if_true, List.cons_append, List.nil_append]
      exact Closed.esc c _ (ih h.2)
    · have hc' : (c == '\\' || c == '"') = false := by simpa using hc
      simp only [hc', Bool.false_eq_true, if_false, List.cons_append, List.nil_append]
      simp only [Bool.or_eq_false_iff, beq_eq_false_iff_ne, ne_eq] at hc'
      exact Closed.plain c _ hc'.2 hc'.1 h.1 (ih h.2)

theorem closed_plain : ∀ (cs : List Char), (cs.any fun c => c == '\\' || c == '"') = false → cs.all (· != '\n') = true →
    Closed cs := by
  intro cs h1 h2
  have := closed_escChars cs h2
  rwa [escChars_id cs h1] at this

theorem closed_strzCopy (t : Tok) (h : strzOkTok t = true) :
    Closed (strzCopy (t.kind == .str || t.kind == .other) t.text.toList) := by
  simp only [strzOkTok, Bool.and_eq_true] at h
  cases hk : (t.kind == .str || t.kind == .other)
  · rw [strzCopy_false]
    have hs := h.1
    simp only [strSafeTok, Bool.or_assoc] at hs
    rw [← Bool.or_assoc, hk, Bool.false_or] at hs
    exact closed_plain _ (by simpa using hs) h.2
  · rw [strzCopy_true]
    exact closed_escChars _ h.2

theorem closed_strzLoop : ∀ (arg : List Tok) (first : Bool), (∀ t ∈ arg, strzOkTok t = true) → Closed (strzLoop first arg) := by
  intro arg
  induction arg with
  | nil => intro _ _; exact Closed.nil
  | cons t ts ih =>
    intro first h
    rw [strzLoop]
    refine Closed.append ?_ (Closed.append (closed_strzCopy t (h t (by simp))) (ih false (fun u hu => h u (by simp [hu]))))
    split
    · exact Closed.plain ' ' [] (by decide) (by decide) (by decide) Closed.nil
    · exact Closed.nil

/-- on text that starts with `"` every earlier test of `tokenize` fails by evaluation on that character: what is left is
    `string_literal_end` on the rest -/
theorem lexFirst_quote (cs : List Char) :
    Lex.lexFirst ('"' :: cs) = (match Lex.strLitLen cs with | some n => .tok .str (1 + n) | none => .err) := rfl

theorem stringize_wellformed (hash : Tok) (arg : List Tok) (h : ∀ t ∈ arg, strzOkTok t = true) :
    Lex.lexOne (stringize hash arg).text = .one .str := by
  have hlen := strLitLen_closed (closed_strzLoop arg true h)
  simp only [Lex.lexOne, stringize, String.toList_ofList, lexFirst_quote, hlen, List.length_cons, List.length_append,
    List.length_nil]
  rw [if_pos (by simp only [beq_iff_eq]; omega)]

end ChibiVerif.PP
