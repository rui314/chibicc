/-
The vocabulary of the statements of Props/C15.lean that is neither model nor Spec: how an `Obj` list is read through
`find_func` (`isFn`, `liveFn`, `refsOf`, `Reach`), the closed forms of what `parse` records per function (`firstFlags`,
`allBodyRefs`, `fileRooted`, the flag automaton `fnFlags`), and the hypotheses of the theorems on tentative definitions
(`NameOK`, `ChainOK`).  Definitions only; the lemma modules rest on it.
-/
import ChibiVerif.Model.Linkage
import ChibiVerif.Spec.LinkageSpec

namespace ChibiVerif.Linkage
open ChibiVerif.Spec.Linkage (initFnRefs bodyFnRefs)

/-- evaluate a check on the result of a parse (for `decide`d examples and findings) -/
def holdsOn {ε α : Type} (r : Except ε α) (p : α → Bool) : Bool :=
  match r with
  | .ok a => p a
  | .error _ => false

/-- `find_func(f) != NULL` -/
def isFn (gs : List Obj) (f : Name) : Bool := (findFunc gs f).isSome

/-- `find_func(f)->is_live` -/
def liveFn (gs : List Obj) (f : Name) : Bool :=
  match findFunc gs f with | some o => o.isLive | none => false

/-- `find_func(f)->refs` -/
def refsOf (gs : List Obj) (f : Name) : List Name :=
  match findFunc gs f with | some o => o.refs | none => []

/-- reachability in the graph chibicc builds: through the references `primary` recorded in `fn->refs`; names that
    `find_func` does not resolve are skipped, exactly as `if (fn) mark_live(fn)` does.  What `mark_live` computes is stated
    with it (C15_live); `ReachD` (Props/C15.lean) is the same graph in terms of the declarations, `ReachS`
    (Lemmas/LinkageClosure.lean) the graph of an arbitrary successor function, used for the Spec's closure. -/
inductive Reach (gs : List Obj) : Name → Name → Prop where
  | refl {a} : isFn gs a = true → Reach gs a a
  | step {a b c} : Reach gs a b → c ∈ refsOf gs b → isFn gs c = true → Reach gs a c

/-- no `is_live` flag is set (the state `parse` is in before the root loop) -/
def NoneLive (gs : List Obj) : Prop := ∀ o, o ∈ gs → o.isLive = false

/-! ### tentative definitions -/

/-- a definition of the name `s` that is not tentative: one with an initializer -/
def realDefOf (s : Sym) (o : Obj) : Bool := o.isDefinition && !o.isTentative && o.sym == s

/-- an object (not a function) that is a definition of the name `s` -/
def dataDefOf (s : Sym) (o : Obj) : Bool := !o.isFunction && o.isDefinition && o.sym == s

/-- hypotheses of C15_tentative about the name `s` in the list `gs` -/
structure NameOK (gs : List Obj) (s : Sym) : Prop where
  /-- `s` names objects only -/
  noFn : ∀ o, o ∈ gs → o.sym = s → o.isFunction = false
  /-- at most one declaration of `s` is a definition that is not tentative (C11 6.9p5) -/
  oneReal : (gs.filter (realDefOf s)).length ≤ 1
  /-- a tentative definition is a definition (parse.c: `is_definition = !extern`, `is_tentative` only if `!extern`) -/
  tentDef : ∀ o, o ∈ gs → o.isTentative = true → o.isDefinition = true

/-- `array_of(base, 1)` for an array of unknown length: `completeArray` of the model, on the type -/
def completeTy (t : ObjTy) : ObjTy := if t.isArray && t.unknownLen then { t with unknownLen := false } else t

/-- size, alignment and array-ness of the composite type -/
structure TyParams where
  size : Nat
  align : Nat
  isArray : Bool

/-- alignment and array-ness are those of the composite type -/
def WTy (P : TyParams) (t : ObjTy) : Prop :=
  t.align = P.align ∧ t.isArray = P.isArray ∧ (t.unknownLen = true → t.isArray = true)

/-- ... and the length is known and gives the composite type's size -/
def GoodTy (P : TyParams) (t : ObjTy) : Prop := WTy P t ∧ t.unknownLen = false ∧ t.size = P.size

instance (P : TyParams) (t : ObjTy) : Decidable (WTy P t) := by unfold WTy; infer_instance
instance (P : TyParams) (t : ObjTy) : Decidable (GoodTy P t) := by unfold GoodTy; infer_instance

/-- the invariant on the types of the tentative definitions of one name that are still to be visited (newest first); it
    guarantees that the one `scan_globals` keeps ends with the composite type `P`: either every completed type is already
    right, or behind a declaration `g` that has the right length only declarations follow that take it over (length
    unknown) or have it themselves -/
def ChainOK (P : TyParams) (ts : List ObjTy) : Prop :=
  (∀ t, t ∈ ts → WTy P t) ∧
  ((∀ t, t ∈ ts → GoodTy P (completeTy t)) ∨
   ∃ pre g post, ts = pre ++ g :: post ∧ GoodTy P g ∧ ∀ p, p ∈ post → p.unknownLen = true ∨ GoodTy P p)

/-- the types of the tentative definitions of `s` in `l`, in list order -/
def tysOf (s : Sym) (l : List Obj) : List ObjTy := (l.filter (isTentOf s)).map (·.ty)

/-! ### what `parse` records per function, in terms of the declarations -/

/-- the references recorded in all bodies of `f` (a valid unit has at most one) -/
def allBodyRefs (ds : List Decl) (f : Name) : List Name :=
  ds.flatMap (fun d => match d with | .func g _ _ _ _ (some b) => if g = f then bodyFnRefs b else [] | _ => [])

/-- `f` is named in a file-scope initializer at a point where it is declared -/
def fileRooted : List Decl → Bool → Name → Bool
  | [], _, _ => false
  | .func g _ _ _ _ _ :: ds, dcl, f => fileRooted ds (dcl || g == f) f
  | .obj _ _ _ _ _ init :: ds, dcl, f =>
    (dcl && (match init with | some items => (initFnRefs items).contains f | none => false)) || fileRooted ds dcl f

/-- (`is_static`, `is_inline`) as `function` sets them on the FIRST declaration of `f` in `ds`, if there is one: found by
    search through the unit -/
def firstFlags (ds : List Decl) (f : Name) : Option (Bool × Bool) :=
  ds.findSome? (fun d => match d with
    | .func g _ s e i _ => if g = f then some (s || (i && !e), i) else none
    | _ => none)

-- the automaton depends on the rule set through `Rules.flagsFollow`
variable [Rules]

/-- `is_static`, `is_inline`, `is_inline_def`, `is_definition` -/
structure Flags where
  isStatic : Bool
  isInline : Bool
  isInlineDef : Bool
  isDefinition : Bool
  deriving DecidableEq, Repr

/-- a redeclaration `[extern] [inline] f(..) [body]`: `redeclFlags` of the model followed by `is_definition |= body`, on the four
    flags (the same logic acts on whole objects as `redeclO`, Lemmas/LinkageExact.lean, and on the view as `redeclV`,
    Lemmas/LinkageView.lean) -/
def redeclF (e i b : Bool) (q : Flags) : Flags :=
  let q0 : Flags :=
    if Rules.flagsFollow then
      let q1 : Flags := if q.isInlineDef && (!i || e) then { q with isInlineDef := false, isStatic := false } else q
      if q1.isStatic && !q1.isInlineDef && i && !q1.isDefinition then { q1 with isInline := true } else q1
    else q
  { q0 with isDefinition := q0.isDefinition || b }

/-- all four flags of the object `function()` creates, from the bits of that one declaration (`firstFlags ds f` is the
    (`isStatic`, `isInline`) part of it for the first declaration of `f`) -/
def newFlags (s e i b : Bool) : Flags := ⟨s || (i && !e), i, Rules.flagsFollow && i && !s && !e, b⟩

/-- one declaration, on the flags of `f` -/
def stepFlags (d : Decl) (f : Name) (cur : Option Flags) : Option Flags :=
  match d with
  | .func g _ s e i body =>
    if f = g then some (match cur with | some q => redeclF e i body.isSome q | none => newFlags s e i body.isSome) else cur
  | .obj .. => cur

/-- the declarations `ds`, on the flags of `f` -/
def flagsAfter (ds : List Decl) (f : Name) (cur : Option Flags) : Option Flags := ds.foldl (fun cur d => stepFlags d f cur) cur

/-- **the flags `parse` ends up with**: (`is_static`, `is_inline`) of `find_func(f)` after all declarations.
    Without `Rules.flagsFollow` these are the flags of the first declaration (`firstFlags`). -/
def fnFlags (ds : List Decl) (f : Name) : Option (Bool × Bool) := (flagsAfter ds f none).map (fun q => (q.isStatic, q.isInline))

end ChibiVerif.Linkage
