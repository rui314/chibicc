/-
C13 — the initializer parser of parse.c (Model/Init.lean) never reaches one of its abort sites: vocabulary and the facts
about the helpers.  The induction over the thirteen mutually recursive functions is in Lemmas/C13Init.lean.

Abort sites of the model (`Fail.crash`): `children[i]` outside the allocated block (`getChild`, `strFill`), member index
outside the member list (`memTy`), `tok->str` read past its end, `unreachable()` in string_initializer, array_designator
on a token that is not `[`.  (`init->mem->next` on a union without members is no site of the model: `unionInit` tests `ms.isEmpty`, as
union_initializer does.)

Core Lean only.
-/
import ChibiVerif.Model.Init
import ChibiVerif.Lemmas.ExceptLemmas

namespace ChibiVerif.C13Init
open ChibiVerif.Init
open Except (Ends)

/-- the outcome is a value satisfying `Q`, a diagnostic, or the exhausted recursion budget — never an abort site.  This is
    `Except.Ends (fun e => ∀ w, e ≠ .crash w) Q` (`Safe.iff_ends`), written out because the property statements name it. -/
def Safe {α : Type} (Q : α → Prop) : Except Fail α → Prop
  | .ok a => Q a
  | .error (.crash _) => False
  | .error (.diag _) => True
  | .error .fuel => True

theorem Safe.ok {α : Type} {Q : α → Prop} {a : α} (h : Q a) : Safe Q (.ok a) := h
theorem Safe.pure {α : Type} {Q : α → Prop} {a : α} (h : Q a) : Safe Q (Pure.pure a : Except Fail α) := h
theorem Safe.diag {α : Type} {Q : α → Prop} {m : String} : Safe Q (.error (.diag m) : Except Fail α) := trivial
theorem Safe.fuel {α : Type} {Q : α → Prop} : Safe Q (.error .fuel : Except Fail α) := trivial

theorem Safe.iff_ends {α : Type} {Q : α → Prop} {x : Except Fail α} : Safe Q x ↔ Ends (fun e => ∀ w, e ≠ .crash w) Q x := by
  cases x with
  | ok a => exact Iff.rfl
  | error e => cases e <;> simp [Safe, Ends]

theorem Safe.mono {α : Type} {P Q : α → Prop} {x : Except Fail α} (h : Safe P x) (hpq : ∀ a, P a → Q a) : Safe Q x :=
  iff_ends.2 ((iff_ends.1 h).mono (fun _ => id) hpq)

theorem Safe.bind {α β : Type} {P : α → Prop} {Q : β → Prop} {x : Except Fail α} {k : α → Except Fail β}
    (hx : Safe P x) (hk : ∀ a, P a → Safe Q (k a)) : Safe Q (x >>= k) :=
  iff_ends.2 ((iff_ends.1 hx).bind fun a ha => iff_ends.1 (hk a ha))

/-- a loop invariant, for a step that is safe on the elements of the list -/
theorem Safe.foldlM_mem {α β : Type} {I : β → Prop} {s : β → α → Except Fail β} (l : List α) (b : β)
    (hs : ∀ b a, a ∈ l → I b → Safe I (s b a)) (hb : I b) : Safe I (l.foldlM s b) :=
  iff_ends.2 (Ends.foldlM_mem l b (fun b a ha hb => iff_ends.1 (hs b a ha hb)) hb)

theorem Safe.foldlM {α β : Type} {I : β → Prop} {s : β → α → Except Fail β}
    (hs : ∀ b a, I b → Safe I (s b a)) : ∀ (l : List α) (b : β), I b → Safe I (l.foldlM s b)
  | l, b, hb => Safe.foldlM_mem l b (fun b a _ => hs b a) hb

theorem Safe.not_crash {α : Type} {Q : α → Prop} {x : Except Fail α} (h : Safe Q x) (w : String) : x ≠ .error (.crash w) := by
  intro e; rw [e] at h; exact h

/-- a string-literal token has the element size of one of chibicc's string types -/
def tokOK : ITok → Bool
  | .str _ _ esz => esz == 1 || esz == 2 || esz == 4
  | _ => true

def toksOK (toks : List ITok) : Bool := toks.all tokOK

theorem toksOK_tail {t : ITok} {r : List ITok} (h : toksOK (t :: r) = true) : toksOK r = true := by
  simp only [toksOK, List.all_cons, Bool.and_eq_true] at h; exact h.2

theorem toksOK_rest {toks r : List ITok} (h : toksOK toks = true) (hr : ∃ x, toks = x :: r) : toksOK r = true := by
  obtain ⟨x, rfl⟩ := hr; exact toksOK_tail h

theorem toksOK_head {t : ITok} {r : List ITok} (h : toksOK (t :: r) = true) : tokOK t = true := by
  simp only [toksOK, List.all_cons, Bool.and_eq_true] at h; exact h.1

/-- `ty->is_flexible` is set by struct_members only when the last member is an array of unknown bound -/
def lastIsArr : Members → Bool
  | [] => true
  | [(_, t)] => t.elem?.isSome
  | _ :: m :: r => lastIsArr (m :: r)

mutual
  /-- types as struct_members / union_decl build them: a flexible aggregate ends in an array member -/
  def tyOK : Ty → Bool
    | .scalar _ _ => true
    | .array e _ => tyOK e
    | .inc e => tyOK e
    | .struct ms _ fl => msOK ms && (!fl || lastIsArr ms)
    | .union ms _ fl => msOK ms && (!fl || lastIsArr ms)
  def msOK : Members → Bool
    | [] => true
    | (_, t) :: r => tyOK t && msOK r
end

mutual
  /-- the initializer tree has the shape `new_initializer` gives it for the type (an array node may have any number of
      children once its bound has been counted; `.flex` is a node whose bound is still unknown).  Weaker than C05's `shaped`
      (Lemmas/InitPathLemmas.lean), which is about finished trees: that one fixes the number of children of an array, has no
      `.flex`, and constrains the member a union node records. -/
  def shape : Ty → Init → Bool
    | .scalar _ _, .leaf _ => true
    | .array e _, .arr cs => shapeAll e cs
    | .array _ _, .flex => true
    | .inc e, .arr cs => shapeAll e cs
    | .inc _, .flex => true
    | .struct ms _ _, .struct _ cs => shapeMs ms cs
    | .union ms _ _, .union _ _ cs => shapeMs ms cs
    | _, _ => false
  def shapeAll : Ty → List Init → Bool
    | _, [] => true
    | e, c :: cs => shape e c && shapeAll e cs
  def shapeMs : Members → List Init → Bool
    | [], [] => true
    | (_, t) :: ms, c :: cs => shape t c && shapeMs ms cs
    | _, _ => false
end

/-- an array node with its bound known -/
def arrOK (elem : Ty) (init : Init) : Prop := ∃ cs, init = .arr cs ∧ shapeAll elem cs = true
def stOK (ms : Members) (init : Init) : Prop := ∃ e cs, init = .struct e cs ∧ shapeMs ms cs = true
def unOK (ms : Members) (init : Init) : Prop := ∃ e m cs, init = .union e m cs ∧ shapeMs ms cs = true
/-- a struct node (`u = false`) or a union node (`u = true`): struct_initializer1/2 are also run on the node of a union
    without members -/
def aggOK : Bool → Members → Init → Prop
  | false, ms, init => stOK ms init
  | true, ms, init => unOK ms init

abbrev Post (ty : Ty) (r : Init × List ITok) : Prop := shape ty r.1 = true ∧ toksOK r.2 = true
abbrev PostA (elem : Ty) (r : Init × List ITok) : Prop := arrOK elem r.1 ∧ toksOK r.2 = true
abbrev PostU (ms : Members) (r : Init × List ITok) : Prop := unOK ms r.1 ∧ toksOK r.2 = true
abbrev PostG (u : Bool) (ms : Members) (r : Init × List ITok) : Prop := aggOK u ms r.1 ∧ toksOK r.2 = true

theorem shape_array_iff (e : Ty) (n : Nat) (init : Init) : shape (.array e n) init = true ↔ (init = .flex ∨ arrOK e init) := by
  cases init <;> simp [shape, arrOK]

theorem shape_inc_iff (e : Ty) (init : Init) : shape (.inc e) init = true ↔ (init = .flex ∨ arrOK e init) := by
  cases init <;> simp [shape, arrOK]

theorem shape_struct_iff (ms : Members) (n : Nat) (fl : Bool) (init : Init) : shape (.struct ms n fl) init = true ↔ stOK ms init := by
  cases init with
  | struct e cs =>
    simp only [shape, stOK]
    exact ⟨fun h => ⟨e, cs, rfl, h⟩, fun ⟨_, _, he, h⟩ => by cases he; exact h⟩
  | _ => simp [shape, stOK]

theorem shape_union_iff (ms : Members) (n : Nat) (fl : Bool) (init : Init) : shape (.union ms n fl) init = true ↔ unOK ms init := by
  cases init with
  | union e m cs =>
    simp only [shape, unOK]
    exact ⟨fun h => ⟨e, m, cs, rfl, h⟩, fun ⟨_, _, _, he, h⟩ => by cases he; exact h⟩
  | _ => simp [shape, unOK]

theorem shapeAll_get : ∀ (e : Ty) (cs : List Init) (i : Nat), shapeAll e cs = true → i < cs.length →
    ∃ c, cs[i]? = some c ∧ shape e c = true
  | _, [], _, _, h => by simp at h
  | e, c :: cs, 0, hs, _ => by
    simp only [shapeAll, Bool.and_eq_true] at hs
    exact ⟨c, rfl, hs.1⟩
  | e, c :: cs, i + 1, hs, h => by
    simp only [shapeAll, Bool.and_eq_true] at hs
    simpa using shapeAll_get e cs i hs.2 (by simpa using h)

theorem shapeAll_set : ∀ (e : Ty) (cs : List Init) (i : Nat) (c' : Init), shapeAll e cs = true → shape e c' = true →
    shapeAll e (cs.set i c') = true
  | _, [], _, _, _, _ => by simp [shapeAll]
  | e, c :: cs, 0, c', hs, h => by
    simp only [shapeAll, Bool.and_eq_true] at hs
    simp [shapeAll, h, hs.2]
  | e, c :: cs, i + 1, c', hs, h => by
    simp only [shapeAll, Bool.and_eq_true] at hs
    simp [shapeAll, hs.1, shapeAll_set e cs i c' hs.2 h]

theorem shapeAll_replicate (e : Ty) (c : Init) (h : shape e c = true) : ∀ n, shapeAll e (List.replicate n c) = true
  | 0 => rfl
  | n + 1 => by simp [List.replicate_succ, shapeAll, h, shapeAll_replicate e c h n]

theorem shapeMs_length : ∀ (ms : Members) (cs : List Init), shapeMs ms cs = true → cs.length = ms.length
  | [], [], _ => rfl
  | [], _ :: _, h | _ :: _, [], h => by simp [shapeMs] at h
  | (_, t) :: ms, c :: cs, h => by
    simp only [shapeMs, Bool.and_eq_true] at h
    simp [shapeMs_length ms cs h.2]

theorem shapeMs_get : ∀ (ms : Members) (cs : List Init) (k : Nat) (mi : MemInfo) (t : Ty), shapeMs ms cs = true →
    ms[k]? = some (mi, t) → ∃ c, cs[k]? = some c ∧ shape t c = true
  | [], _, _, _, _, _, h => by simp at h
  | _ :: _, [], _, _, _, hs, _ => by simp [shapeMs] at hs
  | (mi0, t0) :: ms, c :: cs, 0, mi, t, hs, h => by
    simp only [shapeMs, Bool.and_eq_true] at hs
    simp only [List.getElem?_cons_zero, Option.some.injEq, Prod.mk.injEq] at h
    exact ⟨c, rfl, by rw [← h.2]; exact hs.1⟩
  | (mi0, t0) :: ms, c :: cs, k + 1, mi, t, hs, h => by
    simp only [shapeMs, Bool.and_eq_true] at hs
    simpa using shapeMs_get ms cs k mi t hs.2 (by simpa using h)

theorem shapeMs_set : ∀ (ms : Members) (cs : List Init) (k : Nat) (mi : MemInfo) (t : Ty) (c' : Init), shapeMs ms cs = true →
    ms[k]? = some (mi, t) → shape t c' = true → shapeMs ms (cs.set k c') = true
  | [], _, _, _, _, _, _, h, _ => by simp at h
  | _ :: _, [], _, _, _, _, hs, _, _ => by simp [shapeMs] at hs
  | (mi0, t0) :: ms, c :: cs, 0, mi, t, c', hs, h, hc => by
    simp only [shapeMs, Bool.and_eq_true] at hs
    simp only [List.getElem?_cons_zero, Option.some.injEq, Prod.mk.injEq] at h
    simp only [List.set_cons_zero, shapeMs, Bool.and_eq_true]
    exact ⟨by rw [h.2]; exact hc, hs.2⟩
  | (mi0, t0) :: ms, c :: cs, k + 1, mi, t, c', hs, h, hc => by
    simp only [shapeMs, Bool.and_eq_true] at hs
    simp only [List.set_cons_succ, shapeMs, Bool.and_eq_true]
    exact ⟨hs.1, shapeMs_set ms cs k mi t c' hs.2 (by simpa using h) hc⟩

theorem msOK_get : ∀ (ms : Members) (k : Nat) (mi : MemInfo) (t : Ty), msOK ms = true → ms[k]? = some (mi, t) → tyOK t = true
  | [], _, _, _, _, h => by simp at h
  | (mi0, t0) :: ms, 0, mi, t, hs, h => by
    simp only [msOK, Bool.and_eq_true] at hs
    simp only [List.getElem?_cons_zero, Option.some.injEq, Prod.mk.injEq] at h
    rw [← h.2]; exact hs.1
  | (mi0, t0) :: ms, k + 1, mi, t, hs, h => by
    simp only [msOK, Bool.and_eq_true] at hs
    exact msOK_get ms k mi t hs.2 (by simpa using h)

/-! ## new_initializer -/

theorem elem_shape_flex (t : Ty) (h : t.elem?.isSome = true) : shape t .flex = true := by
  cases t <;> simp [Ty.elem?] at h <;> rfl

mutual
  theorem newInit_shape : ∀ (ty : Ty) (fl : Bool), tyOK ty = true → shape ty (newInit ty fl) = true
    | .scalar _ _, _, _ => rfl
    | .array e n, _, h => by
      simp only [tyOK] at h
      simp only [newInit, shape]
      exact shapeAll_replicate e _ (newInit_shape e false h) n
    | .inc e, fl, _ => by cases fl <;> simp [newInit, shape, shapeAll]
    | .struct ms _ f, fl, h | .union ms _ f, fl, h => by
      simp only [tyOK, Bool.and_eq_true, Bool.or_eq_true, Bool.not_eq_true'] at h
      simp only [newInit, shape]
      apply newInitMs_shape ms (fl && f) h.1
      intro hf
      simp only [Bool.and_eq_true] at hf
      rcases h.2 with h2 | h2
      · rw [hf.2] at h2; cases h2
      · exact h2
  theorem newInitMs_shape : ∀ (ms : Members) (fl : Bool), msOK ms = true → (fl = true → lastIsArr ms = true) →
      shapeMs ms (newInitMs ms fl) = true
    | [], _, _, _ => rfl
    | [(_, t)], fl, h, hl => by
      simp only [msOK, Bool.and_eq_true] at h
      cases fl with
      | true =>
        simp only [newInitMs, if_true, shapeMs, Bool.and_true]
        exact elem_shape_flex t (by simpa [lastIsArr] using hl rfl)
      | false =>
        simp only [newInitMs, Bool.false_eq_true, if_false, shapeMs, Bool.and_true]
        exact newInit_shape t false h.1
    | (_, t) :: m :: r, fl, h, hl => by
      simp only [msOK, Bool.and_eq_true] at h
      simp only [newInitMs, shapeMs, Bool.and_eq_true]
      exact ⟨newInit_shape t false h.1, newInitMs_shape (m :: r) fl (by simp [msOK, h.2]) (fun hf => by simpa [lastIsArr] using hl hf)⟩
end

/-! ## token helpers never abort and return a suffix of their input -/

theorem skipTok_safe (t : ITok) (w : String) (toks : List ITok) (h : toksOK toks = true) :
    Safe (fun r => toksOK r = true) (skipTok t w toks) := by
  cases toks with
  | nil => exact Safe.diag
  | cons x r =>
    simp only [skipTok]
    split
    · exact toksOK_tail h
    · exact Safe.diag

theorem parseAssign_safe (toks : List ITok) (h : toksOK toks = true) :
    Safe (fun r => toksOK r.2 = true) (parseAssign toks) := by
  cases toks with
  | nil => exact Safe.diag
  | cons x r => cases x <;> first | exact Safe.diag | exact toksOK_tail h

theorem consumeEnd_ok (toks rest : List ITok) (h : toksOK toks = true) (hc : consumeEnd toks = some rest) : toksOK rest = true := by
  cases toks with
  | nil => simp [consumeEnd] at hc
  | cons x r =>
    cases x with
    | rbrace => simp only [consumeEnd, Option.some.injEq] at hc; rw [← hc]; exact toksOK_tail h
    | comma =>
      cases r with
      | nil => simp [consumeEnd] at hc
      | cons y r' =>
        cases y <;> simp only [consumeEnd, Option.some.injEq, reduceCtorEq] at hc
        rw [← hc]; exact toksOK_tail (toksOK_tail h)
    | _ => simp [consumeEnd] at hc

theorem dropComma_ok (toks : List ITok) : toksOK toks = true →
    toksOK (match toks with | .comma :: t => t | t => t) = true := by
  intro h
  cases toks with
  | nil => exact h
  | cons x r => cases x <;> first | exact toksOK_tail h | exact h

theorem skipExcess_safe : ∀ (f : Nat) (toks : List ITok), toksOK toks = true →
    Safe (fun r => toksOK r = true) (skipExcess f toks)
  | 0, _, _ => Safe.fuel
  | f + 1, toks, h => by
    cases toks with
    | nil =>
      simp only [skipExcess]
      exact Safe.bind (parseAssign_safe [] h) (fun a ha => Safe.pure ha)
    | cons x r =>
      cases x with
      | lbrace =>
        simp only [skipExcess]
        exact Safe.bind (skipExcess_safe f r (toksOK_tail h)) (fun t ht => skipTok_safe _ _ t ht)
      | _ =>
        simp only [skipExcess]
        exact Safe.bind (parseAssign_safe _ h) (fun a ha => Safe.pure ha)

theorem getChild_of_get {cs : List Init} {i : Nat} {c : Init} (h : cs[i]? = some c) : getChild cs i = .ok c := by
  simp [getChild, h]

theorem memTy_of_get {ms : Members} {k : Nat} {mi : MemInfo} {t : Ty} (h : ms[k]? = some (mi, t)) : memTy ms k = .ok t := by
  simp [memTy, h]

theorem setExpr_shape (ty : Ty) (init : Init) (e : Option Expr) (h : shape ty init = true) : shape ty (init.setExpr e) = true := by
  cases init <;> cases ty <;> simp_all [Init.setExpr, shape]

theorem setMem_shape (ty : Ty) (init : Init) (k : Nat) (h : shape ty init = true) : shape ty (init.setMem k) = true := by
  cases init <;> cases ty <;> simp_all [Init.setMem, shape]

/-- `array_designator` on a `[`: the diagnostic, or a range inside `children` and the tokens after the designator -/
theorem arrayDesignator_safe (len : Nat) (toks : List ITok) (hb : isBracket toks = true) :
    Safe (fun r => r.1 ≤ r.2.1 ∧ r.2.1 < len ∧ ∃ x, toks = x :: r.2.2) (arrayDesignator len toks) := by
  cases toks with
  | nil => cases hb
  | cons x r =>
    cases x with
    | idx a =>
      rw [arrayDesignator]
      split
      · exact Safe.diag
      · refine ⟨Nat.le_refl _, ?_, _, rfl⟩
        show a.toNat < len
        omega
    | range a b =>
      rw [arrayDesignator]
      split
      · exact Safe.diag
      · split
        · exact Safe.diag
        · split
          · exact Safe.diag
          · refine ⟨?_, ?_, _, rfl⟩
            · show a.toNat ≤ b.toNat
              omega
            · show b.toNat < len
              omega
    | _ => cases hb

theorem structDesignator_safe (name : String) : ∀ (ms : Members) (i : Nat),
    Safe (fun r => i ≤ r.1 ∧ r.1 < i + ms.length) (structDesignator name ms i)
  | [], _ => Safe.diag
  | (mi, t) :: r, i => by
    have ih := structDesignator_safe name r (i + 1)
    have ih' : Safe (fun x => i ≤ x.1 ∧ x.1 < i + ((mi, t) :: r).length) (structDesignator name r (i + 1)) :=
      ih.mono (fun a ha => ⟨by omega, by simp only [List.length_cons]; omega⟩)
    simp only [structDesignator]
    split
    · split
      · exact ⟨Nat.le_refl _, by simp⟩
      · exact ih'
    · split
      · exact ih'
      · split
        · exact ⟨Nat.le_refl _, by simp⟩
        · exact ih'

/-! ## string_initializer -/

theorem strElem_some (bytes : List Nat) (w i : Nat) (h : (i + 1) * w ≤ bytes.length) : ∃ v, strElem bytes w i = some v := by
  unfold strElem
  have : ((bytes.drop (i * w)).take w).length = w := by
    rw [List.length_take, List.length_drop]
    have : i * w + w ≤ bytes.length := by rw [Nat.add_mul] at h; omega
    omega
  simp [this]

theorem strFill_safe (bytes : List Nat) (w : Nat) (e : Ty) :
    ∀ (cs : List Init) (i n : Nat), shapeAll e cs = true → n ≤ cs.length → (i + n) * w ≤ bytes.length →
      Safe (fun r => shapeAll e r = true) (strFill bytes w cs i n)
  | cs, _, 0, hs, _, _ => by simp only [strFill]; exact hs
  | [], _, n + 1, _, hn, _ => by simp at hn
  | c :: cs, i, n + 1, hs, hn, hb => by
    simp only [shapeAll, Bool.and_eq_true] at hs
    obtain ⟨v, hv⟩ := strElem_some bytes w i (Nat.le_trans (Nat.mul_le_mul_right w (by omega)) hb)
    simp only [strFill, hv]
    refine Safe.bind (strFill_safe bytes w e cs (i + 1) n hs.2 (by simpa using hn)
      (by have : i + 1 + n = i + (n + 1) := by omega
          rw [this]; exact hb)) ?_
    intro rest hrest
    exact Safe.pure (by simp [shapeAll, setExpr_shape e c _ hs.1, hrest])

theorem stringInitializer_safe (elem : Ty) (bytes : List Nat) (esz : Nat) (rest : List ITok) (init : Init)
    (hty : tyOK elem = true) (hesz : esz = 1 ∨ esz = 2 ∨ esz = 4) (hi : init = .flex ∨ arrOK elem init) (hr : toksOK rest = true) :
    Safe (PostA elem) (stringInitializer elem bytes esz rest init) := by
  by_cases hsz : elem.size = (esz : Int)
  · have hw : (esz : Int) = 1 ∨ (esz : Int) = 2 ∨ (esz : Int) = 4 := by omega
    have hwn : (esz : Int).toNat = esz := by simp
    rcases hi with rfl | ⟨cs, rfl, hcs⟩
    · simp only [stringInitializer, ne_eq, hsz, not_true_eq_false, if_false, if_pos hw, hwn, newInit, Init.children, Init.withChildren]
      refine Safe.bind (strFill_safe bytes esz elem _ 0 _
        (shapeAll_replicate elem _ (newInit_shape elem false hty) _) (Nat.min_le_left ..) ?_) ?_
      · rw [Nat.zero_add]
        exact Nat.le_trans (Nat.mul_le_mul_right esz (Nat.min_le_right ..)) (Nat.div_mul_le_self ..)
      · intro cs' hcs'
        exact Safe.pure ⟨⟨cs', rfl, hcs'⟩, hr⟩
    · simp only [stringInitializer, ne_eq, hsz, not_true_eq_false, if_false, if_pos hw, hwn, Init.children, Init.withChildren]
      refine Safe.bind (strFill_safe bytes esz elem cs 0 _
        hcs (Nat.min_le_left ..) ?_) ?_
      · rw [Nat.zero_add]
        exact Nat.le_trans (Nat.mul_le_mul_right esz (Nat.min_le_right ..)) (Nat.div_mul_le_self ..)
      · intro cs' hcs'
        exact Safe.pure ⟨⟨cs', rfl, hcs'⟩, hr⟩
  · unfold stringInitializer
    rw [if_pos (show elem.size ≠ (esz : Int) from hsz)]
    exact Safe.diag

end ChibiVerif.C13Init
