/-
Helper lemmas for C15_symbols_partial: the TYPE of the tentative definition `scan_globals` keeps.

`scan_globals` walks the list newest first; a tentative definition that is followed (in the list: preceded, in
the source) by another tentative definition of the same name is dropped, after handing its (completed) type to
that earlier one if the earlier one leaves the array length open.  So lengths travel towards the oldest
tentative definition, which is the one that stays.  `ChainOK` is the invariant of that walk which guarantees
that the survivor ends up with the composite type's size: either no declaration gives a length (then every
completed type is already right), or behind some declaration that gives the right length only declarations
follow that give the right length or none.
-/
import ChibiVerif.Lemmas.LinkageScan
import ChibiVerif.Lemmas.LinkageLemmas

namespace ChibiVerif.Linkage

theorem completeArray_eq (o : Obj) : completeArray o = { o with ty := completeTy o.ty } := by
  unfold completeArray completeTy
  split <;> rfl

theorem wty_complete {P : TyParams} {t : ObjTy} (h : WTy P t) : WTy P (completeTy t) := by
  unfold completeTy
  split
  · exact ⟨h.1, h.2.1, fun hh => by cases hh⟩
  · exact h

theorem complete_of_known {t : ObjTy} (h : t.unknownLen = false) : completeTy t = t := by
  simp [completeTy, h]

theorem complete_known {P : TyParams} {t : ObjTy} (h : WTy P t) : (completeTy t).unknownLen = false := by
  unfold completeTy
  cases hu : t.unknownLen
  · simp [hu]
  · simp [h.2.2 hu]

theorem chain_nil (P : TyParams) : ChainOK P [] :=
  ⟨fun _ h => absurd h List.not_mem_nil, Or.inl (fun _ h => absurd h List.not_mem_nil)⟩

theorem chain_single {P : TyParams} {t : ObjTy} (h : ChainOK P [t]) : GoodTy P (completeTy t) := by
  rcases h.2 with h | ⟨pre, g, post, he, hg, _⟩
  · exact h t List.mem_cons_self
  · cases pre with
    | nil =>
      simp only [List.nil_append, List.cons.injEq] at he
      rw [he.1, complete_of_known hg.2.1]
      exact hg
    | cons a as =>
      simp only [List.cons_append, List.cons.injEq] at he
      have := he.2
      cases as <;> simp at this

theorem chain_step {P : TyParams} {t t2 : ObjTy} {r : List ObjTy} (h : ChainOK P (t :: t2 :: r)) :
    ChainOK P ((if t2.unknownLen then completeTy t else t2) :: r) := by
  have hw := h.1
  have hwt : WTy P t := hw t List.mem_cons_self
  have hwt2 : WTy P t2 := hw t2 (List.mem_cons_of_mem _ List.mem_cons_self)
  refine ⟨?_, ?_⟩
  · intro x hx
    rcases List.mem_cons.mp hx with rfl | hx
    · split
      · exact wty_complete hwt
      · exact hwt2
    · exact hw x (List.mem_cons_of_mem _ (List.mem_cons_of_mem _ hx))
  · rcases h.2 with hall | ⟨pre, g, post, he, hg, hpost⟩
    · left
      intro x hx
      rcases List.mem_cons.mp hx with rfl | hx
      · split
        · have := hall t List.mem_cons_self
          rw [complete_of_known this.2.1]
          exact this
        · exact hall t2 (List.mem_cons_of_mem _ List.mem_cons_self)
      · exact hall x (List.mem_cons_of_mem _ (List.mem_cons_of_mem _ hx))
    · right
      cases pre with
      | nil =>
        -- `t` is the good one; `t2` heads `post`
        simp only [List.nil_append, List.cons.injEq] at he
        obtain ⟨rfl, rfl⟩ := he
        refine ⟨[], _, r, rfl, ?_, fun p hp => hpost p (List.mem_cons_of_mem _ hp)⟩
        cases hu : t2.unknownLen
        · simp only [Bool.false_eq_true, if_false]
          rcases hpost t2 List.mem_cons_self with h' | h'
          · rw [hu] at h'; cases h'
          · exact h'
        · simp only [if_true]
          rw [complete_of_known hg.2.1]
          exact hg
      | cons a as =>
        simp only [List.cons_append, List.cons.injEq] at he
        obtain ⟨rfl, he⟩ := he
        cases as with
        | nil =>
          -- `t2` is the good one: it is not overwritten
          simp only [List.nil_append, List.cons.injEq] at he
          obtain ⟨rfl, rfl⟩ := he
          refine ⟨[], _, r, rfl, ?_, hpost⟩
          rw [hg.2.1]
          simp only [Bool.false_eq_true, if_false]
          exact hg
        | cons b bs =>
          simp only [List.cons_append, List.cons.injEq] at he
          obtain ⟨rfl, rfl⟩ := he
          exact ⟨_ :: bs, g, post, rfl, hg, hpost⟩

/-- a sufficient condition for `ChainOK` by membership alone (that a valid object meets it: `chain_of_valid`,
    Lemmas/LinkageObjSym.lean) -/
theorem chain_initial {P : TyParams} {ts : List ObjTy}
    (hw : ∀ t, t ∈ ts → WTy P t ∧ (t.unknownLen = false → t.size = P.size))
    (h : (∃ t, t ∈ ts ∧ t.unknownLen = false) ∨ (∀ t, t ∈ ts → t.size = P.size)) : ChainOK P ts := by
  refine ⟨fun t ht => (hw t ht).1, ?_⟩
  rcases h with ⟨t, ht, hk⟩ | hall
  · right
    obtain ⟨pre, post, rfl⟩ := List.append_of_mem ht
    refine ⟨pre, t, post, rfl, ⟨(hw t ht).1, hk, (hw t ht).2 hk⟩, fun p hp => ?_⟩
    have hp' : p ∈ pre ++ t :: post := List.mem_append_right _ (List.mem_cons_of_mem _ hp)
    cases hu : p.unknownLen
    · exact Or.inr ⟨(hw p hp').1, hu, (hw p hp').2 hu⟩
    · exact Or.inl rfl
  · left
    intro t ht
    refine ⟨wty_complete (hw t ht).1, complete_known (hw t ht).1, ?_⟩
    have := hall t ht
    unfold completeTy
    split <;> exact this

/-! ### the walk -/

theorem tysOf_cons_hit {s : Sym} {o : Obj} (h : isTentOf s o = true) (l : List Obj) : tysOf s (o :: l) = o.ty :: tysOf s l := by
  simp [tysOf, h]

theorem tysOf_cons_miss {s : Sym} {o : Obj} (h : isTentOf s o = false) (l : List Obj) : tysOf s (o :: l) = tysOf s l := by
  simp [tysOf, h]

theorem tysOf_find_none {s : Sym} : ∀ {l : List Obj}, l.find? (isTentOf s) = none → tysOf s l = []
  | [], _ => rfl
  | a :: as, h => by
    simp only [List.find?] at h
    cases ha : isTentOf s a
    · rw [ha] at h
      rw [tysOf_cons_miss ha]
      exact tysOf_find_none h
    · rw [ha] at h; cases h

theorem tysOf_find_some {s : Sym} (T : ObjTy) : ∀ {l : List Obj} {v : Obj}, l.find? (isTentOf s) = some v →
    ∃ r, tysOf s l = v.ty :: r ∧ tysOf s (updFirst (isTentOf s) (fun o => { o with ty := T }) l) = T :: r
  | [], _, h => by cases h
  | a :: as, v, h => by
    simp only [List.find?] at h
    cases ha : isTentOf s a
    · rw [ha] at h
      obtain ⟨r, h1, h2⟩ := tysOf_find_some T h
      refine ⟨r, by rw [tysOf_cons_miss ha]; exact h1, ?_⟩
      rw [updFirst_miss _ ha, tysOf_cons_miss ha]
      exact h2
    · rw [ha] at h
      simp only [Option.some.injEq] at h
      subst h
      refine ⟨tysOf s as, tysOf_cons_hit ha as, ?_⟩
      rw [updFirst_hit _ ha]
      exact tysOf_cons_hit (o := { a with ty := T }) ha as

theorem tysOf_updFirst_other {s s' : Sym} (hne : s' ≠ s) (T : ObjTy) : ∀ l : List Obj,
    tysOf s (updFirst (isTentOf s') (fun o => { o with ty := T }) l) = tysOf s l
  | [] => rfl
  | a :: as => by
    cases ha : isTentOf s' a
    · rw [updFirst_miss _ ha]
      cases hb : isTentOf s a
      · rw [tysOf_cons_miss hb, tysOf_cons_miss hb, tysOf_updFirst_other hne T as]
      · rw [tysOf_cons_hit hb, tysOf_cons_hit hb, tysOf_updFirst_other hne T as]
    · rw [updFirst_hit _ ha]
      have hb : isTentOf s a = false := by
        have := isTentOf_sym ha
        simp only [isTentOf, Bool.and_eq_false_iff, beq_eq_false_iff_ne, ne_eq]
        right; rw [this]; exact hne
      rw [tysOf_cons_miss hb, tysOf_cons_miss (o := { a with ty := T }) hb]

/-- **the survivor has the composite type.**  If no non-tentative definition of `s` exists and the tentative
    definitions still to be visited satisfy `ChainOK`, every tentative definition of `s` that `scan_globals`
    keeps has a type with known length and the composite type's size, alignment and array-ness. -/
theorem scanLoop_good {P : TyParams} {s : Sym} {all : List Obj} (hreal : all.any (realDefOf s) = false) :
    ∀ (n : Nat) (l : List Obj), l.length ≤ n → ChainOK P (tysOf s l) →
      ∀ o, o ∈ scanLoop all n l → isTentOf s o = true → GoodTy P o.ty := by
  intro n
  induction n with
  | zero =>
    intro l _ _ o ho
    simp [scanLoop] at ho
  | succ n ih =>
    intro l hn hc o ho hs
    cases l with
    | nil => simp [scanLoop] at ho
    | cons var rest =>
      have hn' : rest.length ≤ n := by simp at hn; omega
      unfold scanLoop at ho
      cases ht : var.isTentative
      · -- not tentative: kept, and not what we are looking at
        simp only [ht, Bool.not_false, if_true] at ho
        have hm : isTentOf s var = false := by simp [isTentOf, ht]
        rw [tysOf_cons_miss hm] at hc
        rcases List.mem_cons.mp ho with rfl | ho
        · rw [hm] at hs; cases hs
        · exact ih rest hn' hc o ho hs
      · simp only [ht, Bool.not_true, Bool.false_eq_true, if_false] at ho
        have hsym : (completeArray var).sym = var.sym := by rw [completeArray_eq]
        have hcty : (completeArray var).ty = completeTy var.ty := by rw [completeArray_eq]
        rw [hsym] at ho
        by_cases hvs : var.sym = s
        · -- a tentative definition of `s`
          have hm : isTentOf s var = true := by simp [isTentOf, ht, hvs]
          rw [tysOf_cons_hit hm] at hc
          have hall : (all.any fun o => o.isDefinition && !o.isTentative && o.sym == var.sym) = false := by
            rw [hvs]; exact hreal
          rw [hall] at ho
          simp only [Bool.false_eq_true, if_false] at ho
          rw [hvs] at ho
          cases hf : rest.find? (isTentOf s) with
          | none =>
            rw [hf] at ho
            have h0 := tysOf_find_none hf
            rw [h0] at hc
            rcases List.mem_cons.mp ho with rfl | ho
            · rw [hcty]; exact chain_single hc
            · exact ih rest hn' (by rw [h0]; exact chain_nil P) o ho hs
          | some var2 =>
            rw [hf] at ho
            obtain ⟨r, h1, h2⟩ := tysOf_find_some (completeArray var).ty hf
            rw [h1] at hc
            have hstep := chain_step hc
            cases hu : var2.ty.unknownLen
            · simp only [hu, Bool.false_eq_true, if_false] at ho hstep
              exact ih rest hn' (by rw [h1]; exact hstep) o ho hs
            · simp only [hu, if_true] at ho hstep
              refine ih _ (by rw [length_updFirst]; exact hn') ?_ o ho hs
              rw [h2, hcty]; exact hstep
        · -- a tentative definition of another name: the types of `s` are not touched
          have hm : isTentOf s var = false := by
            simp only [isTentOf, Bool.and_eq_false_iff, beq_eq_false_iff_ne, ne_eq]
            right; exact hvs
          rw [tysOf_cons_miss hm] at hc
          split at ho
          · exact ih rest hn' hc o ho hs
          · split at ho
            · split at ho
              · refine ih _ (by rw [length_updFirst]; exact hn') ?_ o ho hs
                rw [tysOf_updFirst_other hvs]; exact hc
              · exact ih rest hn' hc o ho hs
            · rcases List.mem_cons.mp ho with rfl | ho
              · have : isTentOf s (completeArray var) = false := by
                  simp only [isTentOf, Bool.and_eq_false_iff, beq_eq_false_iff_ne, ne_eq]
                  right; rw [hsym]; exact hvs
                rw [this] at hs; cases hs
              · exact ih rest hn' hc o ho hs

theorem scanCore_good {P : TyParams} {s : Sym} {gs : List Obj} (hreal : gs.any (realDefOf s) = false)
    (hc : ChainOK P (tysOf s gs)) : ∀ o, o ∈ scanCore gs → isTentOf s o = true → GoodTy P o.ty :=
  scanLoop_good hreal gs.length gs (Nat.le_refl _) hc

end ChibiVerif.Linkage
