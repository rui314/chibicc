/-
Helper lemmas for C15_symbols_partial: which data objects `parse` creates (`allNews`), by membership:
every one of them comes from a file-scope object declaration, a block-scope `extern`, a static local or a
string literal of the unit, and each of those declarations has its object.
-/
import ChibiVerif.Lemmas.LinkageExact

namespace ChibiVerif.Linkage
open ChibiVerif.Spec.Linkage

variable [Rules]

/-- the visible declarations after the file-scope declarations `ds` -/
def envAfter (env : SEnv) (ds : List Decl) : SEnv := ds.foldl envDecl env

theorem envAfter_snoc (env : SEnv) (pre : List Decl) (d : Decl) : envAfter env (pre ++ [d]) = envDecl (envAfter env pre) d := by
  simp [envAfter, List.foldl_append]

/-- where a data object of the unit comes from.  For a file-scope object declaration the value `global_variable` stores in
    `is_static` is given by the declarations in front of it (`varStatic` of the environment they leave). -/
inductive NewsKind (ds : List Decl) : Obj → Prop where
  | var {x : Name} {s e t : Bool} {ty : ObjTy} {init : Option (List InitItem)} {k : Nat} (pre post : List Decl) :
      ds = pre ++ Decl.obj x s e t ty init :: post →
      NewsKind ds (varObj k x (varStatic (envAfter env0 pre) x s e) e t ty init)
  | ext {f : Name} {n : Nat} {s e i : Bool} {b : List BodyItem} {x : Name} {tls : Bool} {ty : ObjTy} (stc : Bool) :
      Decl.func f n s e i (some b) ∈ ds → BodyItem.externObj x tls ty ∈ b → NewsKind ds (externO x tls ty stc)
  | sl {f : Name} {n : Nat} {s e i : Bool} {b : List BodyItem} {tls : Bool} {ty : ObjTy} {init : Option (List InitItem)} {k : Nat} :
      Decl.func f n s e i (some b) ∈ ds → BodyItem.staticLocal tls ty init ∈ b → NewsKind ds (slObj f k tls ty init)
  | str {cur : Option Name} {k n : Nat} : NewsKind ds (strObj cur k n)

omit [Rules] in
theorem mem_of_split {ds pre post : List Decl} {d : Decl} (h : ds = pre ++ d :: post) : d ∈ ds := by
  rw [h]; exact List.mem_append_right _ List.mem_cons_self

theorem declNews_kind (pre post : List Decl) (d : Decl) (k : Nat) (o : Obj) (h : o ∈ declNews k (envAfter env0 pre) d) :
    NewsKind (pre ++ d :: post) o := by
  have hmem : d ∈ pre ++ d :: post := List.mem_append_right _ List.mem_cons_self
  cases d with
  | func f n s e i body =>
    cases body with
    | none => simp [declNews] at h
    | some b =>
      simp only [declNews, List.mem_append, List.mem_cons, List.not_mem_nil, or_false] at h
      rcases h with h | h | h
      · rcases bodyNews_kind f b _ _ o h with ⟨cur, j, m, rfl⟩ | ⟨x, tls, ty, stc, hm, rfl⟩ | ⟨tls, ty, init, j, hm, rfl⟩
        · exact .str
        · exact .ext stc hmem hm
        · exact .sl hmem hm
      · subst h; exact .str
      · subst h; exact .str
  | obj x s e t ty init =>
    cases init with
    | none =>
      simp only [declNews, List.mem_singleton] at h
      subst h
      exact .var pre post rfl
    | some items =>
      simp only [declNews, List.mem_append, List.mem_singleton] at h
      rcases h with h | h
      · obtain ⟨j, n, rfl⟩ := initNews_str h
        exact .str
      · subst h
        exact .var pre post rfl

theorem allNews_kind_gen : ∀ (post pre : List Decl) (k : Nat) (o : Obj), o ∈ allNews k (envAfter env0 pre) post →
    NewsKind (pre ++ post) o
  | [], _, _, _, h => by simp [allNews] at h
  | d :: ds, pre, k, o, h => by
    simp only [allNews, List.mem_append] at h
    rcases h with h | h
    · rw [← envAfter_snoc] at h
      have := allNews_kind_gen ds (pre ++ [d]) _ o h
      simpa [List.append_assoc] using this
    · exact declNews_kind pre ds d k o h

theorem allNews_kind (ds : List Decl) (k : Nat) (o : Obj) (h : o ∈ allNews k env0 ds) : NewsKind ds o := by
  have := allNews_kind_gen ds [] k o (by simpa [envAfter] using h)
  simpa using this

theorem var_mem_allNews : ∀ (ds : List Decl) (k : Nat) (env : SEnv) {x : Name} {s e t : Bool} {ty : ObjTy} {init : Option (List InitItem)},
    Decl.obj x s e t ty init ∈ ds → ∃ k' stc, varObj k' x stc e t ty init ∈ allNews k env ds
  | [], _, _, _, _, _, _, _, _, h => by cases h
  | d :: ds, k, env, x, s, e, t, ty, init, h => by
    rcases List.mem_cons.mp h with h | h
    · subst h
      refine ⟨k, varStatic env x s e, ?_⟩
      simp only [allNews, List.mem_append]
      right
      cases init <;> simp [declNews]
    · obtain ⟨k', stc, hk⟩ := var_mem_allNews ds (k + declCount d) (envDecl env d) h
      exact ⟨k', stc, by simp only [allNews, List.mem_append]; exact Or.inl hk⟩

theorem sl_mem_bodyNews (f : Name) : ∀ (b : List BodyItem) (env : SEnv) (k : Nat) {tls : Bool} {ty : ObjTy} {init : Option (List InitItem)},
    BodyItem.staticLocal tls ty init ∈ b → ∃ k', slObj f k' tls ty init ∈ bodyNews f env k b
  | [], _, _, _, _, _, h => by cases h
  | i :: rest, env, k, tls, ty, init, h => by
    rcases List.mem_cons.mp h with h | h
    · subst h
      refine ⟨k, ?_⟩
      simp only [bodyNews, List.mem_append]
      right
      cases init <;> simp [bodyItemNews]
    · obtain ⟨k', hk⟩ := sl_mem_bodyNews f rest (envItem env i) (k + bodyItemCount i) h
      exact ⟨k', by simp only [bodyNews, List.mem_append]; exact Or.inl hk⟩

theorem sl_mem_allNews : ∀ (ds : List Decl) (k : Nat) (env : SEnv) {f : Name} {n : Nat} {s e i : Bool} {b : List BodyItem} {tls : Bool}
    {ty : ObjTy} {init : Option (List InitItem)}, Decl.func f n s e i (some b) ∈ ds → BodyItem.staticLocal tls ty init ∈ b →
    ∃ k', slObj f k' tls ty init ∈ allNews k env ds
  | [], _, _, _, _, _, _, _, _, _, _, _, h, _ => by cases h
  | d :: ds, k, env, f, n, s, e, i, b, tls, ty, init, h, hb => by
    rcases List.mem_cons.mp h with h | h
    · subst h
      obtain ⟨k', hk⟩ := sl_mem_bodyNews f b env (k + 2) hb
      refine ⟨k', ?_⟩
      simp only [allNews, List.mem_append, declNews]
      exact Or.inr (Or.inl hk)
    · obtain ⟨k', hk⟩ := sl_mem_allNews ds (k + declCount d) (envDecl env d) h hb
      exact ⟨k', by simp only [allNews, List.mem_append]; exact Or.inl hk⟩

/-! ### fields of the objects -/

omit [Rules] in
theorem varObj_sym (k : Nat) (x : Name) (s e t : Bool) (ty : ObjTy) (init : Option (List InitItem)) :
    (varObj k x s e t ty init).sym = .named x := by cases init <;> rfl
omit [Rules] in
theorem varObj_isFunction (k : Nat) (x : Name) (s e t : Bool) (ty : ObjTy) (init : Option (List InitItem)) :
    (varObj k x s e t ty init).isFunction = false := by cases init <;> rfl
omit [Rules] in
theorem varObj_isStatic (k : Nat) (x : Name) (s e t : Bool) (ty : ObjTy) (init : Option (List InitItem)) :
    (varObj k x s e t ty init).isStatic = s := by cases init <;> rfl
omit [Rules] in
theorem varObj_isTls (k : Nat) (x : Name) (s e t : Bool) (ty : ObjTy) (init : Option (List InitItem)) :
    (varObj k x s e t ty init).isTls = t := by cases init <;> rfl
omit [Rules] in
theorem varObj_ty (k : Nat) (x : Name) (s e t : Bool) (ty : ObjTy) (init : Option (List InitItem)) :
    (varObj k x s e t ty init).ty = ty := by cases init <;> rfl
omit [Rules] in
theorem varObj_hasInit (k : Nat) (x : Name) (s e t : Bool) (ty : ObjTy) (init : Option (List InitItem)) :
    (varObj k x s e t ty init).hasInit = init.isSome := by cases init <;> rfl
omit [Rules] in
theorem varObj_isDefinition (k : Nat) (x : Name) (s e t : Bool) (ty : ObjTy) (init : Option (List InitItem)) :
    (varObj k x s e t ty init).isDefinition = (init.isSome || !e) := by cases init <;> rfl
omit [Rules] in
theorem varObj_isTentative (k : Nat) (x : Name) (s e t : Bool) (ty : ObjTy) (init : Option (List InitItem)) :
    (varObj k x s e t ty init).isTentative = (init.isNone && !e) := by cases init <;> rfl
omit [Rules] in
theorem varObj_uses (k : Nat) (x : Name) (s e t : Bool) (ty : ObjTy) (init : Option (List InitItem)) :
    (varObj k x s e t ty init).uses = match init with | none => [] | some items => initLabels k items := by cases init <;> rfl

theorem NewsKind.named {ds : List Decl} {o : Obj} {x : Name} (h : NewsKind ds o) (hs : o.sym = .named x) :
    (∃ s e t ty init k pre post, ds = pre ++ Decl.obj x s e t ty init :: post ∧
      o = varObj k x (varStatic (envAfter env0 pre) x s e) e t ty init) ∨
    (∃ f n s e i b tls ty stc, Decl.func f n s e i (some b) ∈ ds ∧ BodyItem.externObj x tls ty ∈ b ∧ o = externO x tls ty stc) := by
  cases h with
  | @var y s e t ty init k pre post hd =>
    rw [varObj_sym] at hs
    cases hs
    exact Or.inl ⟨s, e, t, ty, init, k, pre, post, hd, rfl⟩
  | @ext f n s e i b y tls ty stc hd hb =>
    have : y = x := by simpa [externO] using hs
    subst this
    exact Or.inr ⟨f, n, s, e, i, b, tls, ty, stc, hd, hb, rfl⟩
  | sl hd hb => simp [slObj] at hs
  | str => simp [strObj] at hs

theorem NewsKind.anon {ds : List Decl} {o : Obj} {j : Nat} (h : NewsKind ds o) (hs : o.sym = .anon j) :
    o.isDefinition = true ∧ o.isTentative = false ∧
    (o.uses = [] ∨ ∃ f n s e i b tls ty items k, Decl.func f n s e i (some b) ∈ ds ∧
      BodyItem.staticLocal tls ty (some items) ∈ b ∧ o.uses = initLabels k items) := by
  cases h with
  | var pre post hd => rw [varObj_sym] at hs; cases hs
  | ext stc hd hb => simp [externO] at hs
  | @sl f n s e i b tls ty init k hd hb =>
    refine ⟨rfl, rfl, ?_⟩
    cases init with
    | none => exact Or.inl rfl
    | some items => exact Or.inr ⟨f, n, s, e, i, b, tls, ty, items, k + 1, hd, hb, rfl⟩
  | str => exact ⟨rfl, rfl, Or.inl rfl⟩

end ChibiVerif.Linkage
