/-
C20: freshness of the labels `gen_expr`/`gen_stmt` make up from the monotone counter `count()`.

* `ctr tag k` — the label `.L.<tag>.<k>`; injective in (tag, k), never spelled like a parser label or
  like `.L.return.*`.
* `LabsR ss own lo hi` — the labels a skeleton `ss` defines, for code printed while `count()` went
  from `lo` to `hi`: those spelled like counter labels are, up to order, `own` (labels of the
  enclosing arm, whose number was drawn before `lo`) followed by pairwise distinct labels with
  numbers in [lo, hi); every other label is a numeric local label (`1:`) or a parser label.
  Closed under concatenation of code printed one after the other.
* Lines: straight-line code defines no label (`labelNames_of_delta`); the label a line defines, whatever the line
  (`lineLab`, `labelNames_classify`); a jump mnemonic with a label operand is a `cond` step, `jmp` a `jump` step (`classify_jump`, `CondOp`).
-/
import ChibiVerif.Model.C20Flow
import ChibiVerif.Lemmas.ListLemmas
import ChibiVerif.Lemmas.C20Table
import Std.Data.String.ToNat

namespace ChibiVerif.Lemmas.C20
open ChibiVerif ChibiVerif.Codegen ChibiVerif.Effect ChibiVerif.Asm ChibiVerif.Ast ChibiVerif.C20Scope

/-- `.L.<tag>.<k>` (`tag` is one of `ctrTags`, written with its dots) -/
def ctr (tag : String) (k : Nat) : String := tag ++ toString k

theorem tag_no_digit : ∀ t ∈ ctrTags, ∀ c ∈ t.toList, (!c.isDigit) = true := by decide +kernel

theorem ctr_toList (t : String) (k : Nat) : (ctr t k).toList = t.toList ++ (toString k).toList := by
  unfold ctr
  rw [String.toList_append]

theorem ctr_inj {t t' : String} {k k' : Nat} (ht : t ∈ ctrTags) (ht' : t' ∈ ctrTags)
    (h : ctr t k = ctr t' k') : t = t' ∧ k = k' := by
  have hl : t.toList ++ (toString k).toList = t'.toList ++ (toString k').toList := by
    rw [← ctr_toList, ← ctr_toList, h]
  have e1 := List.takeWhile_append_of (p := fun c : Char => !c.isDigit) (x := (toString k).toList) (tag_no_digit t ht)
    (fun c hc => by simp [Nat.isDigit_of_mem_toString k c hc])
  have e2 := List.takeWhile_append_of (p := fun c : Char => !c.isDigit) (x := (toString k').toList) (tag_no_digit t' ht')
    (fun c hc => by simp [Nat.isDigit_of_mem_toString k' c hc])
  rw [hl, e2] at e1
  have ett : t = t' := by
    rw [← String.ofList_toList (s := t), ← String.ofList_toList (s := t'), e1]
  subst ett
  refine ⟨rfl, ?_⟩
  have := List.append_cancel_left hl
  have hs : toString k = toString k' := by
    rw [← String.ofList_toList (s := toString k), ← String.ofList_toList (s := toString k'), this]
  exact Nat.repr_inj.mp hs

theorem isCtr_ctr {t : String} (ht : t ∈ ctrTags) (k : Nat) : isCtr (ctr t k) = true := by
  unfold isCtr
  rw [List.any_eq_true]
  exact ⟨t, ht, by simp [ctr_toList]⟩

theorem startsDot_of_tag : ∀ t ∈ ctrTags, startsDot t = true := by decide +kernel

theorem startsDot_append (a b : String) (h : startsDot a = true) : startsDot (a ++ b) = true := by
  unfold startsDot at h ⊢
  rw [String.toList_append]
  split at h
  · rename_i rest hl
    rw [hl]
    rfl
  · cases h

theorem startsDot_ctr {t : String} (ht : t ∈ ctrTags) (k : Nat) : startsDot (ctr t k) = true :=
  startsDot_append _ _ (startsDot_of_tag t ht)

theorem tag_ret_incomparable : ∀ t ∈ ctrTags,
    (".L.return.".toList.isPrefixOf t.toList || t.toList.isPrefixOf ".L.return.".toList) = false := by
  decide +kernel

/-- two prefixes of one spelling are comparable; no tag is comparable with `.L.return.` -/
theorem isCtr_not_return {l : String} (h : isCtr l = true) : isReturnLabel l = false := by
  unfold isCtr at h
  rw [List.any_eq_true] at h
  obtain ⟨t, ht, hp⟩ := h
  have hn := tag_ret_incomparable t ht
  rw [Bool.or_eq_false_iff] at hn
  unfold isReturnLabel
  cases hq : ".L.return.".toList.isPrefixOf l.toList with
  | false => rfl
  | true =>
    rcases List.prefix_or_prefix_of_prefix (List.isPrefixOf_iff_prefix.mp hq)
      (List.isPrefixOf_iff_prefix.mp hp) with h1 | h1
    · rw [List.isPrefixOf_iff_prefix.mpr h1] at hn; cases hn.1
    · rw [List.isPrefixOf_iff_prefix.mpr h1] at hn; cases hn.2

/-- no label of `count()` is spelled `.L.return.*` -/
theorem ctr_not_return {t : String} (ht : t ∈ ctrTags) (k : Nat) : isReturnLabel (ctr t k) = false :=
  isCtr_not_return (isCtr_ctr ht k)

theorem isCtr_startsDot {l : String} (h : isCtr l = true) : startsDot l = true := by
  unfold isCtr at h
  rw [List.any_eq_true] at h
  obtain ⟨t, ht, hp⟩ := h
  obtain ⟨r, hr⟩ := List.isPrefixOf_iff_prefix.mp hp
  have hs := startsDot_of_tag t ht
  unfold startsDot at hs ⊢
  rw [← hr]
  split at hs
  · rename_i rest hl; rw [hl]; rfl
  · cases hs

theorem startsDot_elim {l : String} (h : startsDot l = true) : ∃ rest, l.toList = '.' :: rest := by
  unfold startsDot at h
  split at h
  · rename_i rest hl; exact ⟨rest, hl⟩
  · cases h

theorem isNumLabel_of_startsDot {l : String} (h : startsDot l = true) : isNumLabel l = false := by
  obtain ⟨rest, hl⟩ := startsDot_elim h
  unfold isNumLabel
  rw [hl]
  split
  · rename_i c hc
    simp only [List.cons.injEq] at hc
    rw [← hc.1]; decide
  · rfl

theorem userLabel_elim {l : String} (h : userLabel l = true) :
    startsDot l = true ∧ isCtr l = false ∧ isReturnLabel l = false := by
  have := by simpa [userLabel] using h
  exact ⟨this.1.1, this.1.2, this.2⟩

/-- the labels of a skeleton spelled like counter labels -/
def ctrLabels (ss : List Step) : List String := (labelNames ss).filter isCtr

/-- `l` is a counter label whose number is in [lo, hi) -/
def InRange (lo hi : Nat) (l : String) : Prop := ∃ t, t ∈ ctrTags ∧ ∃ k, l = ctr t k ∧ lo ≤ k ∧ k < hi

/-- every label is a counter label, a numeric local label or a parser label -/
def LabOK (ss : List Step) : Prop :=
  ∀ l, l ∈ labelNames ss → isCtr l = true ∨ isNumLabel l = true ∨ userLabel l = true

/-- see the head of this file -/
def LabsR (ss : List Step) (own : List String) (lo hi : Nat) : Prop :=
  lo ≤ hi ∧ LabOK ss ∧
    ∃ F : List String, (ctrLabels ss).Perm (own ++ F) ∧ F.Nodup ∧ ∀ l, l ∈ F → InRange lo hi l

theorem labelNames_append' (a b : List Step) : labelNames (a ++ b) = labelNames a ++ labelNames b := by
  induction a with
  | nil => rfl
  | cons s r ih => cases s <;> simp [labelNames, ih]

theorem ctrLabels_append (a b : List Step) : ctrLabels (a ++ b) = ctrLabels a ++ ctrLabels b := by
  simp [ctrLabels, labelNames_append']

theorem perm_4 (a b c d : List String) : ((a ++ b) ++ (c ++ d)).Perm ((a ++ c) ++ (b ++ d)) := by
  simp only [List.append_assoc]
  refine List.Perm.append_left a ?_
  rw [← List.append_assoc, ← List.append_assoc]
  exact List.Perm.append_right d List.perm_append_comm

theorem LabsR_append {a b : List Step} {own1 own2 : List String} {lo mid hi : Nat}
    (h1 : LabsR a own1 lo mid) (h2 : LabsR b own2 mid hi) : LabsR (a ++ b) (own1 ++ own2) lo hi := by
  obtain ⟨l1, k1, F1, p1, n1, r1⟩ := h1
  obtain ⟨l2, k2, F2, p2, n2, r2⟩ := h2
  refine ⟨Nat.le_trans l1 l2, ?_, F1 ++ F2, ?_, ?_, ?_⟩
  · intro l hl
    rw [labelNames_append', List.mem_append] at hl
    rcases hl with hl | hl
    · exact k1 l hl
    · exact k2 l hl
  · rw [ctrLabels_append]
    exact (List.Perm.append p1 p2).trans (perm_4 own1 F1 own2 F2)
  · rw [List.nodup_append]
    refine ⟨n1, n2, ?_⟩
    intro x hx y hy hxy
    subst hxy
    obtain ⟨t, ht, k, e, _, hk⟩ := r1 x hx
    obtain ⟨t', ht', k', e', hk', _⟩ := r2 x hy
    have := (ctr_inj ht ht' (e ▸ e')).2
    omega
  · intro l hl
    rcases List.mem_append.mp hl with hl | hl
    · obtain ⟨t, ht, k, e, h3, h4⟩ := r1 l hl
      exact ⟨t, ht, k, e, h3, by omega⟩
    · obtain ⟨t, ht, k, e, h3, h4⟩ := r2 l hl
      exact ⟨t, ht, k, e, by omega, h4⟩

theorem labelNames_deltas' (ds : List H) : labelNames (ds.map Step.delta) = [] := by
  induction ds with
  | nil => rfl
  | cons d r ih => simpa [labelNames] using ih

theorem LabsR_noLabels {ss : List Step} {lo hi : Nat} (h : labelNames ss = []) (hl : lo ≤ hi) :
    LabsR ss [] lo hi := by
  refine ⟨hl, ?_, [], ?_, List.nodup_nil, fun l hm => (List.not_mem_nil hm).elim⟩
  · intro l hm
    rw [h] at hm
    cases hm
  · simp [ctrLabels, h]

theorem LabsR_own {t : String} (ht : t ∈ ctrTags) (k n : Nat) : LabsR [.label (ctr t k)] [ctr t k] n n := by
  refine ⟨Nat.le_refl _, ?_, [], ?_, List.nodup_nil, fun l hm => (List.not_mem_nil hm).elim⟩
  · intro l hm
    simp only [labelNames, List.mem_singleton] at hm
    subst hm
    exact Or.inl (isCtr_ctr ht k)
  · simp [ctrLabels, labelNames, isCtr_ctr ht k]

theorem LabsR_user {l : String} (hu : userLabel l = true) (n : Nat) : LabsR [.label l] [] n n := by
  refine ⟨Nat.le_refl _, ?_, [], ?_, List.nodup_nil, fun l hm => (List.not_mem_nil hm).elim⟩
  · intro l' hm
    simp only [labelNames, List.mem_singleton] at hm
    subst hm
    exact Or.inr (Or.inr hu)
  · simp [ctrLabels, labelNames, (userLabel_elim hu).2.1]

theorem LabsR_numeric {ss : List Step} {lo hi : Nat} (h : ∀ l, l ∈ labelNames ss → isNumLabel l = true ∧ isCtr l = false)
    (hl : lo ≤ hi) : LabsR ss [] lo hi := by
  refine ⟨hl, fun l hm => Or.inr (Or.inl (h l hm).1), [], ?_, List.nodup_nil,
    fun l hm => (List.not_mem_nil hm).elim⟩
  have : ctrLabels ss = [] := by
    unfold ctrLabels
    rw [List.filter_eq_nil_iff]
    intro l hm
    simp [(h l hm).2]
  rw [this]
  exact List.Perm.refl _

/-- closing an arm: the labels the arm drew from `count()` (number `k`, the counter value at its
    start) join the fresh ones -/
theorem LabsR_close {ss : List Step} {own : List String} {k hi : Nat} (h : LabsR ss own (k + 1) hi)
    (hn : own.Nodup) (ho : ∀ l, l ∈ own → ∃ t, t ∈ ctrTags ∧ l = ctr t k) : LabsR ss [] k hi := by
  obtain ⟨hle, hok, F, hp, hnF, hr⟩ := h
  refine ⟨by omega, hok, own ++ F, by simpa using hp, ?_, ?_⟩
  · rw [List.nodup_append]
    refine ⟨hn, hnF, ?_⟩
    intro x hx y hy hxy
    subst hxy
    obtain ⟨t, ht, e⟩ := ho x hx
    obtain ⟨t', ht', k', e', hk', _⟩ := hr x hy
    have := (ctr_inj ht ht' (e ▸ e')).2
    omega
  · intro l hl
    rcases List.mem_append.mp hl with hl | hl
    · obtain ⟨t, ht, e⟩ := ho l hl
      exact ⟨t, ht, k, e, Nat.le_refl _, by omega⟩
    · obtain ⟨t, ht, k', e, h3, h4⟩ := hr l hl
      exact ⟨t, ht, k', e, by omega, h4⟩

theorem LabsR_mono {ss : List Step} {own : List String} {lo hi lo' hi' : Nat} (h : LabsR ss own lo hi)
    (h1 : lo' ≤ lo) (h2 : hi ≤ hi') : LabsR ss own lo' hi' := by
  obtain ⟨hle, hok, F, hp, hnF, hr⟩ := h
  refine ⟨by omega, hok, F, hp, hnF, ?_⟩
  intro l hl
  obtain ⟨t, ht, k, e, h3, h4⟩ := hr l hl
  exact ⟨t, ht, k, e, by omega, by omega⟩

/-- the tags the arms of `gen_expr`/`gen_stmt` use are tags of counter labels -/
theorem tag_else : ".L.else." ∈ ctrTags := by decide +kernel
theorem tag_end : ".L.end." ∈ ctrTags := by decide +kernel
theorem tag_false : ".L.false." ∈ ctrTags := by decide +kernel
theorem tag_true : ".L.true." ∈ ctrTags := by decide +kernel
theorem tag_begin : ".L.begin." ∈ ctrTags := by decide +kernel

/-! ### lines: what `classify` makes of straight-line code, of a label line, of a jump -/

theorem labelNames_of_delta {ls : List Line} {d : H} (h : delta ls = some d) :
    labelNames (ls.flatMap classify) = [] := by
  obtain ⟨ds, e1, _⟩ := flatMap_classify_of_delta ls d h
  rw [e1, labelNames_deltas']

def lineLab : Line → Option String
  | .label n => some n
  | _ => none

theorem labelNames_classifyIns (i : Ins) : labelNames [classifyIns i] = [] := by
  unfold classifyIns
  repeat' split
  all_goals rfl

theorem labelNames_classify (line : Line) : labelNames (classify line) = (lineLab line).toList := by
  cases line with
  | label n => rfl
  | ins i =>
    unfold classify
    split
    · rfl
    · exact labelNames_classifyIns i
  | insA i note => unfold classify; split <;> rfl
  | multi is => unfold classify; split <;> rfl
  | multiT t is => unfold classify; split <;> rfl
  | raw t => unfold classify; split <;> rfl

theorem classify_jump {op t l : String} (hd : insDelta ⟨op, []⟩ = none) (hj : jumpOps.contains op = true)
    (h : jumpTarget ⟨op, [.s t]⟩ = some l) :
    classify (ins1 op (.s t)) = [if op == "jmp" then .jump l else .cond l] := by
  have hd' : insDelta ⟨op, [.s t]⟩ = none := (insDelta_op rfl).trans hd
  simp only [classify, lineDelta, ins1, hd', classifyIns, hj, h, if_true]

def CondOp (op : String) : Prop :=
  ∀ t l, jumpTarget ⟨op, [.s t]⟩ = some l → classify (ins1 op (.s t)) = [.cond l]

theorem condOp_je : CondOp "je" := fun _ _ h => classify_jump (by decide +kernel) (by decide +kernel) h
theorem condOp_jne : CondOp "jne" := fun _ _ h => classify_jump (by decide +kernel) (by decide +kernel) h
theorem condOp_jbe : CondOp "jbe" := fun _ _ h => classify_jump (by decide +kernel) (by decide +kernel) h

end ChibiVerif.Lemmas.C20
