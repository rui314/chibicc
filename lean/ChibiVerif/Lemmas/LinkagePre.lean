/-
Helper lemmas for C15: the pass in front of `scan_globals` (`preScan`, the repair of C15-tentative-composite-size):
it changes types of data objects only.  So with it `scan_globals` leaves the function objects alone (`fnsOf_scanGlobals`), and,
since which nodes are kept does not depend on types, `scanGlobals gs` is the filter `scanPure gs gs` up to types
(`scanGlobals_tyRel`); hence at most one definition of a name is left (`scanGlobals_count_le_one`).
-/
import ChibiVerif.Lemmas.LinkageEmit
import ChibiVerif.Lemmas.LinkageTent

namespace ChibiVerif.Linkage

theorem completeOne_same (gs : List Obj) (o : Obj) : SameButTy (completeOne gs o) o := by
  unfold completeOne
  split
  · split
    · exact ⟨_, rfl⟩
    · exact SameButTy.rfl' o
  · exact SameButTy.rfl' o

variable [Rules]

theorem preOne_same (gs : List Obj) (o : Obj) : SameButTy (preOne gs o) o := by
  unfold preOne
  split
  · exact completeOne_same gs o
  · exact SameButTy.rfl' o

omit [Rules] in
theorem completeOne_fn (gs : List Obj) {o : Obj} (h : o.isFunction = true) : completeOne gs o = o := by
  simp [completeOne, h]

theorem preOne_fn (gs : List Obj) {o : Obj} (h : o.isFunction = true) : preOne gs o = o := by
  unfold preOne; split
  · exact completeOne_fn gs h
  · rfl

omit [Rules] in
theorem completeOne_known (gs : List Obj) {o : Obj} (h : o.ty.unknownLen = false) : completeOne gs o = o := by
  simp [completeOne, h]

omit [Rules] in
theorem completeOne_hit (gs : List Obj) {o k : Obj} (hf : o.isFunction = false) (ha : o.ty.isArray = true)
    (hu : o.ty.unknownLen = true) (hk : gs.find? (knownArr o.sym) = some k) :
    completeOne gs o = { o with ty := { o.ty with size := k.ty.size, unknownLen := false } } := by
  simp [completeOne, hf, ha, hu, hk]

omit [Rules] in
theorem completeOne_miss (gs : List Obj) {o : Obj} (hk : gs.find? (knownArr o.sym) = none) : completeOne gs o = o := by
  unfold completeOne
  split
  · rw [hk]
  · rfl

theorem preOne_known (gs : List Obj) {o : Obj} (h : o.ty.unknownLen = false) : preOne gs o = o := by
  unfold preOne; split
  · exact completeOne_known gs h
  · rfl

theorem preOne_off (h : Rules.compositeFromDecls = false) (gs : List Obj) (o : Obj) : preOne gs o = o := by
  simp [preOne, h]

theorem preScan_off (h : Rules.compositeFromDecls = false) (gs : List Obj) : preScan gs = gs := by
  unfold preScan
  rw [show preOne gs = id from funext (fun o => preOne_off h gs o)]
  exact List.map_id gs

omit [Rules] in
theorem tyRel_map {φ : Obj → Obj} (h : ∀ o, SameButTy (φ o) o) : ∀ l : List Obj, TyRel l (l.map φ)
  | [] => .nil
  | a :: as => .cons (h a) (tyRel_map h as)

theorem preScan_tyRel (gs : List Obj) : TyRel gs (preScan gs) := tyRel_map (preOne_same gs) gs

theorem mem_preScan {gs : List Obj} {o : Obj} : o ∈ preScan gs ↔ ∃ a, a ∈ gs ∧ o = preOne gs a := by
  unfold preScan
  rw [List.mem_map]
  constructor
  · rintro ⟨a, ha, rfl⟩; exact ⟨a, ha, rfl⟩
  · rintro ⟨a, ha, rfl⟩; exact ⟨a, ha, rfl⟩

theorem fnNotTent_preScan {gs : List Obj} (h : FnNotTent gs) : FnNotTent (preScan gs) :=
  fnNotTent_of_tyRel (preScan_tyRel gs) h

omit [Rules] in
theorem fnsOf_map_same {φ : Obj → Obj} (hs : ∀ o, SameButTy (φ o) o) (hf : ∀ o, o.isFunction = true → φ o = o) :
    ∀ l : List Obj, fnsOf (l.map φ) = fnsOf l
  | [] => rfl
  | a :: as => by
    have ih := fnsOf_map_same hs hf as
    unfold fnsOf at ih ⊢
    cases ha : a.isFunction
    · have : (φ a).isFunction = false := by obtain ⟨t, ht⟩ := hs a; rw [ht]; exact ha
      rw [List.map_cons, List.filter_cons_of_neg (by simp [this]), List.filter_cons_of_neg (by simp [ha]), ih]
    · rw [List.map_cons, hf a ha, List.filter_cons_of_pos ha, List.filter_cons_of_pos ha, ih]

theorem fnsOf_preScan (gs : List Obj) : fnsOf (preScan gs) = fnsOf gs :=
  fnsOf_map_same (preOne_same gs) (fun _ h => preOne_fn gs h) gs

theorem fnNamesOf_preScan (gs : List Obj) : fnNamesOf (preScan gs) = fnNamesOf gs := by
  rw [← fnNamesOf_fnsOf, fnsOf_preScan, fnNamesOf_fnsOf]

theorem fnsOf_scanGlobals {gs : List Obj} (hf : FnNotTent gs) : fnsOf (scanGlobals gs) = fnsOf gs := by
  unfold scanGlobals
  rw [fnsOf_scanCore (fnNotTent_preScan hf), fnsOf_preScan]

theorem findFunc_scanGlobals {gs : List Obj} (hf : FnNotTent gs) (f : Name) : findFunc (scanGlobals gs) f = findFunc gs f := by
  rw [← findFunc_fnsOf, fnsOf_scanGlobals hf, findFunc_fnsOf]

theorem emitText_scanGlobals {gs : List Obj} (hf : FnNotTent gs) : emitText (scanGlobals gs) = emitText gs := by
  rw [← emitText_fnsOf, fnsOf_scanGlobals hf, emitText_fnsOf]

theorem mem_scanGlobals_fn {gs : List Obj} (hf : FnNotTent gs) {o : Obj} (hfun : o.isFunction = true) :
    o ∈ scanGlobals gs ↔ o ∈ gs := by
  have := @mem_fnsOf (scanGlobals gs) o
  rw [fnsOf_scanGlobals hf, mem_fnsOf] at this
  simpa [hfun] using this.symm

omit [Rules] in
theorem scanKeeps_map_same {φ : Obj → Obj} (h : ∀ o, SameButTy (φ o) o) (all rest : List Obj) (var : Obj) :
    scanKeeps (all.map φ) (rest.map φ) (φ var) = scanKeeps all rest var := by
  obtain ⟨t, ht⟩ := h var
  unfold scanKeeps
  rw [(tyRel_map h all).any (tyBlind_realDefOf _), (tyRel_map h rest).any (tyBlind_isTentOf _), ht]

omit [Rules] in
/-- which nodes `scan_globals` keeps does not depend on types -/
theorem scanPure_map_same {φ : Obj → Obj} (h : ∀ o, SameButTy (φ o) o) (all : List Obj) :
    ∀ l : List Obj, scanPure (all.map φ) (l.map φ) = (scanPure all l).map φ
  | [] => rfl
  | a :: as => by
    rw [List.map_cons, scanPure_cons, scanPure_cons, scanKeeps_map_same h, scanPure_map_same h all as]
    split <;> rfl

/-- `scan_globals`, the pass in front of it included, is the mutation-free filter up to types -/
theorem scanGlobals_tyRel (gs : List Obj) : TyRel (scanPure gs gs) (scanGlobals gs) := by
  refine (tyRel_map (preOne_same gs) (scanPure gs gs)).trans ?_
  rw [← scanPure_map_same (preOne_same gs)]
  exact scanCore_tyRel (preScan gs)

omit [Rules] in
theorem emitData_count_le (fc : Bool) (s : Sym) (l : List Obj) :
    ((emitData fc l).filter (fun e => e.sym == s)).length ≤ (l.filter (dataDefOf s)).length := by
  rw [← emitDataVar_count fc s l]
  unfold emitData
  exact ((List.filter_sublist.filterMap _).filter _).length_le

/-- the count behind C15_tentative's first conjunct and `data_count_le_one` -/
theorem scanGlobals_count_le_one {gs : List Obj} {s : Sym} (ok : NameOK gs s) :
    ((scanGlobals gs).filter (dataDefOf s)).length ≤ 1 := by
  rw [(scanGlobals_tyRel gs).filter_length (tyBlind_dataDefOf s)]
  exact scanPure_count_le_one ok

end ChibiVerif.Linkage
