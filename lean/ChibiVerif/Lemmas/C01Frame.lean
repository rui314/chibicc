/-
C01: frame lemmas for the composition theorem `C01_value`.

* `safeInstr` — a syntactic criterion on decoded instructions: does not write memory, `%rsp` or `%rbp`; `exec_safe`
  proves that such an instruction preserves all three, `run_safe` lifts it to sequences.  Every conversion / unary /
  operator / load sequence of the model satisfies it (`castSeq_safe`, `unKind_safe`, `opKind_safe`, `loadSeq_safe`: by
  evaluation over the classified sequences).
* `push %rax` / `pop %rdi` against byte-addressed memory: what they write, and that nothing at or above the old `%rsp`
  (in particular no object of the frame) is disturbed.
* `Same s s'` (memory, `%rsp`, `%rbp` unchanged: what `run_safe` gives, used by every later file) and `Keeps m m'` (`%rsp`, `%rbp`
  and every byte at or above `%rsp` unchanged — what evaluating a pure expression guarantees); `memHolds_congr`,
  `FrameHolds.mono`: an object, a frame depend only on the bytes above `%rsp` (`FrameHolds.keeps`: Lemmas/C01Plain.lean).
* per-sequence runs with `Same`: `cast_run`, `binop_run`, `shift_run`, `lognot_run`, `neg_run`, `bitnot_run`.
-/
import ChibiVerif.Lemmas.C01Compose
import ChibiVerif.Lemmas.C01Select

namespace ChibiVerif.C01
open ChibiVerif.X86 ChibiVerif.Asm ChibiVerif.Spec.IntSpec ChibiVerif.Gen.CommonType ChibiVerif.C01Codegen

/-! ### instructions that leave memory, `%rsp` and `%rbp` alone -/

def scratchReg (r : Reg) : Bool := r != .rsp && r != .rbp

/-- the instruction writes neither memory nor `%rsp` nor `%rbp` -/
def safeInstr : Instr → Bool
  | .mov _ _ (.reg r) => scratchReg r
  | .mov _ _ _ => false
  | .movsx _ _ _ r | .movzx _ _ _ r => scratchReg r
  | .alu op _ _ (.reg r) => !op.writes || scratchReg r
  | .alu op _ _ _ => !op.writes
  | .imul _ _ r | .neg _ r | .not _ r | .inc _ r | .dec _ r | .shiftCl _ _ r | .shiftImm _ _ _ r | .setcc _ r
  | .lea _ _ r => scratchReg r
  | .cdq | .cqo | .idiv _ _ | .div _ _ => true
  | .push _ | .pop _ => false

def safeIns (i : Ins) : Bool :=
  match decode i with
  | some d => safeInstr d
  | none => true

/-- memory, `%rsp`, `%rbp` unchanged: what a register-only instruction sequence guarantees (`run_safe`).  The strongest of the
    "nothing else changed" relations: `Same` implies `Keeps` (`Same.keeps`), and `Keeps` is `Unch` (Lemmas/C01Machine.lean) with
    nothing written -/
structure Same (s s' : State) : Prop where
  mem : s'.mem = s.mem
  rsp : s'.get .rsp = s.get .rsp
  rbp : s'.get .rbp = s.get .rbp

theorem Same.refl (s : State) : Same s s := ⟨rfl, rfl, rfl⟩
theorem Same.trans {a b c : State} (h1 : Same a b) (h2 : Same b c) : Same a c :=
  ⟨h2.mem.trans h1.mem, h2.rsp.trans h1.rsp, h2.rbp.trans h1.rbp⟩

theorem scratch_ne {r : Reg} (h : scratchReg r = true) : Reg.rsp ≠ r ∧ Reg.rbp ≠ r := by
  cases r <;> simp [scratchReg] at h ⊢

theorem same_set (s : State) (r : Reg) (v : BitVec 64) (h : scratchReg r = true) : Same s (s.set r v) :=
  ⟨rfl, State.get_set_ne _ _ _ _ (scratch_ne h).1, State.get_set_ne _ _ _ _ (scratch_ne h).2⟩

theorem same_setW (s : State) (r : Reg) (w : W) (v : BitVec w.bits) (h : scratchReg r = true) : Same s (s.setW r w v) := by
  cases w <;> exact same_set _ _ _ h

theorem same_flagsValid (s : State) (b : Bool) : Same s { s with flagsValid := b } := ⟨rfl, rfl, rfl⟩

theorem same_aluExec (op : Alu) (w : W) (s : State) (a b : BitVec w.bits) : Same s (aluExec op w s a b).2 := by
  cases op <;> exact ⟨rfl, rfl, rfl⟩

theorem exec_safe (i : Instr) (s s' : State) (hs : safeInstr i = true) (h : exec i s = some s') : Same s s' := by
  cases i with
  | mov w src dst =>
    cases dst with
    | reg r => simp only [exec, State.dst, Option.some.injEq] at h; subst h; exact same_setW _ _ _ _ hs
    | imm n => simp [safeInstr] at hs
    | mem d b => simp [safeInstr] at hs
  | movsx ws wd src dst => simp only [exec, Option.some.injEq] at h; subst h; exact same_setW _ _ _ _ hs
  | movzx ws wd src dst => simp only [exec, Option.some.injEq] at h; subst h; exact same_setW _ _ _ _ hs
  | alu op w src dst =>
    cases dst with
    | imm n => simp [exec] at h
    | reg r =>
      simp only [exec] at h
      by_cases hw : op.writes = true
      · simp only [hw, if_true, State.dst, Option.some.injEq] at h
        subst h
        simp [safeInstr, hw] at hs
        exact (same_aluExec op w s _ _).trans (same_setW _ _ _ _ hs)
      · have hw' : op.writes = false := by simpa using hw
        simp only [hw', Bool.false_eq_true, if_false, Option.some.injEq] at h
        subst h
        exact same_aluExec op w s _ _
    | mem d b =>
      simp only [exec] at h
      have hw : op.writes = false := by simpa [safeInstr] using hs
      simp only [hw, Bool.false_eq_true, if_false, Option.some.injEq] at h
      subst h
      exact same_aluExec op w s _ _
  | imul w src dst =>
    simp only [exec, Option.some.injEq] at h; subst h
    exact (same_setW _ _ _ _ hs).trans (same_flagsValid _ _)
  | neg w dst =>
    simp only [exec, Option.some.injEq] at h; subst h
    exact (same_setW s _ _ _ hs).trans ⟨rfl, rfl, rfl⟩
  | not w dst => simp only [exec, Option.some.injEq] at h; subst h; exact same_setW _ _ _ _ hs
  | inc w dst =>
    simp only [exec, Option.some.injEq] at h; subst h
    exact (same_setW s _ _ _ hs).trans ⟨rfl, rfl, rfl⟩
  | dec w dst =>
    simp only [exec, Option.some.injEq] at h; subst h
    exact (same_setW s _ _ _ hs).trans ⟨rfl, rfl, rfl⟩
  | cdq => simp only [exec, Option.some.injEq] at h; subst h; exact same_setW _ _ _ _ rfl
  | cqo => simp only [exec, Option.some.injEq] at h; subst h; exact same_set _ _ _ rfl
  | idiv w src =>
    cases w with
    | w8 => simp [exec] at h
    | w16 => simp [exec] at h
    | w32 =>
      simp only [exec] at h
      split at h
      · exact absurd h (fun h => by cases h)
      · split at h
        · exact absurd h (fun h => by cases h)
        · simp only [Option.some.injEq] at h; subst h
          exact ((same_setW s .rax .w32 _ rfl).trans (same_setW _ .rdx .w32 _ rfl)).trans (same_flagsValid _ _)
    | w64 =>
      simp only [exec] at h
      split at h
      · exact absurd h (fun h => by cases h)
      · split at h
        · exact absurd h (fun h => by cases h)
        · simp only [Option.some.injEq] at h; subst h
          exact ((same_set s .rax _ rfl).trans (same_set _ .rdx _ rfl)).trans (same_flagsValid _ _)
  | div w src =>
    cases w with
    | w8 => simp [exec] at h
    | w16 => simp [exec] at h
    | w32 =>
      simp only [exec] at h
      split at h
      · exact absurd h (fun h => by cases h)
      · split at h
        · exact absurd h (fun h => by cases h)
        · simp only [Option.some.injEq] at h; subst h
          exact ((same_setW s .rax .w32 _ rfl).trans (same_setW _ .rdx .w32 _ rfl)).trans (same_flagsValid _ _)
    | w64 =>
      simp only [exec] at h
      split at h
      · exact absurd h (fun h => by cases h)
      · split at h
        · exact absurd h (fun h => by cases h)
        · simp only [Option.some.injEq] at h; subst h
          exact ((same_set s .rax _ rfl).trans (same_set _ .rdx _ rfl)).trans (same_flagsValid _ _)
  | shiftCl op w dst =>
    simp only [exec, Option.some.injEq] at h; subst h
    exact (same_setW _ _ _ _ hs).trans (same_flagsValid _ _)
  | shiftImm op w n dst =>
    simp only [exec, Option.some.injEq] at h; subst h
    exact (same_setW _ _ _ _ hs).trans (same_flagsValid _ _)
  | setcc cc dst =>
    simp only [exec] at h
    split at h
    · simp only [Option.some.injEq] at h; subst h; exact same_setW _ _ _ _ hs
    · exact absurd h (fun h => by cases h)
  | push src => simp [safeInstr] at hs
  | pop dst => simp [safeInstr] at hs
  | lea d b dst => simp only [exec, Option.some.injEq] at h; subst h; exact same_set _ _ _ hs

theorem run_safe (is : List Ins) (s s' : State) (hs : is.all safeIns = true) (h : X86.run is s = some s') : Same s s' := by
  induction is generalizing s with
  | nil => simp [X86.run] at h; subst h; exact Same.refl _
  | cons i is ih =>
    simp only [List.all_cons, Bool.and_eq_true] at hs
    simp only [X86.run, X86.step] at h
    cases hd : decode i with
    | none => simp [hd] at h
    | some d =>
      simp only [hd] at h
      cases he : exec d s with
      | none => simp [he] at h
      | some s1 =>
        simp only [he] at h
        have h1 : safeInstr d = true := by have := hs.1; simpa [safeIns, hd] using this
        exact (exec_safe d s s1 h1 he).trans (ih s1 hs.2 h)

/-! ### the sequences of the model are safe -/

theorem castKind_safe (k : CastKind) : k.seq.all safeIns = true := by cases k <;> rfl
theorem all_safeIns_of_decodeAll {is : List Ins} {ds : List Instr} (h : decodeAll is = some ds) :
    is.all safeIns = ds.all safeInstr := by
  induction is generalizing ds with
  | nil => cases h; rfl
  | cons i is ih =>
    simp only [decodeAll] at h
    cases hd : decode i <;> cases hr : decodeAll is <;> simp only [hd, hr, reduceCtorEq] at h
    cases h
    simp only [List.all_cons, safeIns, hd, ih hr]

theorem opKind_safe (k : OpKind) : k.seq.all safeIns = true := by
  rw [all_safeIns_of_decodeAll k.decode_seq]; cases k <;> rfl
theorem unKind_safe (k : UnKind) : k.seq.all safeIns = true := by cases k <;> rfl

theorem castSeq_safe (f t : ITy) : (castSeq f t).all safeIns = true := by
  obtain ⟨k, hk, _⟩ := cast_selected f t
  rw [hk]; exact castKind_safe k

theorem loadSeq_safe (t : ITy) : (loadSeq t).all safeIns = true := by cases t <;> rfl

/-! ### the per-node facts, with what they leave alone -/

theorem cast_run (frm to : ITy) (s : State) (v : Int) (h : Represents frm (s.get .rax) v) :
    ∃ s', X86.run (castSeq frm to) s = some s' ∧ Represents to (s'.get .rax) (convert to v) ∧ Same s s' := by
  obtain ⟨k, hk, hc⟩ := cast_selected frm to
  have hsafe := castSeq_safe frm to
  rw [hk] at hsafe ⊢
  obtain ⟨s', h1, h2⟩ := k.effect s
  exact ⟨s', h1, h2 ▸ hc _ _ h, run_safe _ _ _ hsafe h1⟩

theorem lognot_run (t : ITy) (s : State) (v : Int) (h : Represents t (s.get .rax) v) :
    ∃ s', X86.run (unSeq .ND_NOT t) s = some s' ∧ Represents .i32 (s'.get .rax) (b2i (v = 0)) ∧ Same s s' := by
  rw [unSeq_not_eq]
  obtain ⟨s', h1, h2⟩ := (if t.size = 8 then UnKind.lognot64 else UnKind.lognot32).effect s
  exact ⟨s', h1, h2 ▸ lognot_computes t _ _ h, run_safe _ _ _ (unKind_safe _) h1⟩

theorem neg_run (t : ITy) (ht : t = .i32 ∨ t = .u32 ∨ t = .i64 ∨ t = .u64) (s : State) (v x : Int)
    (h : Represents t (s.get .rax) v) (hx : unop .neg t v = some x) :
    ∃ s', X86.run (unSeq .ND_NEG t) s = some s' ∧ Represents t (s'.get .rax) x ∧ Same s s' := by
  rw [unSeq_neg_eq t ht]
  obtain ⟨s', h1, h2⟩ := UnKind.neg.effect s
  exact ⟨s', h1, h2 ▸ neg_computes t ht _ _ _ h hx, run_safe _ _ _ (unKind_safe _) h1⟩

theorem bitnot_run (t : ITy) (ht : t = .i32 ∨ t = .u32 ∨ t = .i64 ∨ t = .u64) (s : State) (v x : Int)
    (h : Represents t (s.get .rax) v) (hx : unop .bitnot t v = some x) :
    ∃ s', X86.run (unSeq .ND_BITNOT t) s = some s' ∧ Represents t (s'.get .rax) x ∧ Same s s' := by
  rw [unSeq_bitnot_eq t ht]
  obtain ⟨s', h1, h2⟩ := UnKind.not.effect s
  exact ⟨s', h1, h2 ▸ not_computes t ht _ _ _ h hx, run_safe _ _ _ (unKind_safe _) h1⟩

theorem binop_run (k : NK) (op : BinOp) (hop : specOp k = some op) (hns : op.isShift = false)
    (t : ITy) (ht : t = .i32 ∨ t = .u32 ∨ t = .i64 ∨ t = .u64)
    (s : State) (va vb x : Int)
    (ha : Represents t (s.get .rax) va) (hb : Represents t (s.get .rdi) vb)
    (hx : arith op t va vb = some x) :
    ∃ s', X86.run (opSeq k t) s = some s' ∧ Represents (binopType op t t) (s'.get .rax) x ∧ Same s s' := by
  obtain ⟨kind, hk, hc⟩ := binop_selected k op hop hns t ht
  rw [hk]
  obtain ⟨y, hy, hr⟩ := hc _ _ _ _ _ ha hb hx
  have he := kind.effect s
  simp only [hy] at he
  obtain ⟨s', h1, h2⟩ := he
  exact ⟨s', h1, h2 ▸ hr, run_safe _ _ _ (opKind_safe _) h1⟩

theorem shift_run (k : NK) (op : BinOp) (hop : specOp k = some op) (hs : op.isShift = true)
    (t : ITy) (ht : t = .i32 ∨ t = .u32 ∨ t = .i64 ∨ t = .u64) (t2 : ITy)
    (s : State) (va vb x : Int)
    (ha : Represents t (s.get .rax) va) (hb : Represents t2 (s.get .rdi) vb)
    (hx : arith op t va vb = some x) :
    ∃ s', X86.run (opSeq k t) s = some s' ∧ Represents t (s'.get .rax) x ∧ Same s s' := by
  obtain ⟨kind, hk, hc⟩ := shift_selected k op hop hs t ht
  rw [hk]
  obtain ⟨y, hy, hr⟩ := hc t2 _ _ _ _ _ ha hb hx
  have he := kind.effect s
  simp only [hy] at he
  obtain ⟨s', h1, h2⟩ := he
  exact ⟨s', h1, h2 ▸ hr, run_safe _ _ _ (opKind_safe _) h1⟩

/-! ### an object depends on its bytes only -/

theorem write8_regs (s : State) (a : BitVec 64) (v : BitVec 8) : (s.write8 a v).regs = s.regs := rfl
theorem write64_get (s : State) (a v : BitVec 64) (r : Reg) : (s.write64 a v).get r = s.get r := State.get_write64 s a v r

/-- `memHolds_congr_size` with all eight bytes at `a` equal (enough for every type; the form the frame lemmas have at hand) -/
theorem memHolds_congr (t : ITy) (s s' : State) (a : BitVec 64) (v : Int)
    (h : ∀ k : Nat, k < 8 → s'.mem (a + BitVec.ofNat 64 k) = s.mem (a + BitVec.ofNat 64 k)) (hm : MemHolds t s a v) :
    MemHolds t s' a v :=
  memHolds_congr_size t s s' a v (fun k hk => h k (Nat.lt_of_lt_of_le hk (size_le8 t))) hm

/-! ### `push %rax`, `pop %rdi` -/

/-- what the frame lemmas need of `push %rax` (`X86.step_push` at `%rax`), in one statement: the registers, the pushed slot, and
    that no other byte changes -/
theorem push_rax (s : State) (h8 : 8 ≤ (s.get .rsp).toNat) :
    ∃ s1, X86.run [⟨"push", [.r "%rax"]⟩] s = some s1 ∧ s1.get .rsp = s.get .rsp - 8 ∧ s1.get .rbp = s.get .rbp ∧
      s1.get .rax = s.get .rax ∧ s1.read64 (s.get .rsp - 8) = s.get .rax ∧
      (s1.get .rsp).toNat = (s.get .rsp).toNat - 8 ∧
      (∀ x : BitVec 64, (x.toNat < (s.get .rsp).toNat - 8 ∨ (s.get .rsp).toNat ≤ x.toNat) → s1.mem x = s.mem x) := by
  have hsub : (s.get .rsp - 8).toNat = (s.get .rsp).toNat - 8 := by
    have := (s.get .rsp).isLt
    rw [BitVec.toNat_sub]; simp; omega
  refine ⟨_, rfl, rfl, rfl, rfl, ?_, hsub, ?_⟩
  · exact State.read64_write64 _ _ _
  · intro x hx
    show (State.write64 _ (s.get .rsp - 8) _).mem x = _
    rw [State.write64_mem]
    · rfl
    · intro k hk heq
      have := congrArg BitVec.toNat heq
      rw [BitVec.toNat_add_ofNat _ _ (by have := (s.get .rsp).isLt; omega)] at this
      omega

theorem pop_rdi (s : State) :
    ∃ s2, X86.run [⟨"pop", [.r "%rdi"]⟩] s = some s2 ∧ s2.get .rdi = s.read64 (s.get .rsp) ∧
      s2.get .rsp = s.get .rsp + 8 ∧ s2.get .rbp = s.get .rbp ∧ s2.get .rax = s.get .rax ∧ s2.mem = s.mem :=
  ⟨_, rfl, rfl, rfl, rfl, rfl, rfl⟩

/-! ### what evaluating a pure expression leaves alone -/

/-- `%rsp`, `%rbp` and every byte at or above `%rsp` are unchanged (the stack below `%rsp` may have been used): what the code of a
    side-effect-free expression guarantees (the last conjunct of `Ev`, Lemmas/C01Value.lean; in the statement of `C01_value` its three fields are conjuncts of
    their own) -/
structure Keeps (m m' : State) : Prop where
  rsp : m'.get .rsp = m.get .rsp
  rbp : m'.get .rbp = m.get .rbp
  mem : ∀ a : BitVec 64, (m.get .rsp).toNat ≤ a.toNat → m'.mem a = m.mem a

theorem Keeps.refl (m : State) : Keeps m m := ⟨rfl, rfl, fun _ _ => rfl⟩
theorem Keeps.trans {a b c : State} (h1 : Keeps a b) (h2 : Keeps b c) : Keeps a c :=
  ⟨h2.rsp.trans h1.rsp, h2.rbp.trans h1.rbp, fun x hx => (h2.mem x (h1.rsp ▸ hx)).trans (h1.mem x hx)⟩
theorem Same.keeps {a b : State} (h : Same a b) : Keeps a b := ⟨h.rsp, h.rbp, fun x _ => congrFun h.mem x⟩

theorem FrameHolds.mono {σ : Env} {off : Nat → Int} {n k : Nat} {m : State} (h : FrameHolds σ off n m) (hk : k ≤ n) :
    FrameHolds σ off k m := ⟨by have := h.1; omega, h.2⟩

end ChibiVerif.C01
