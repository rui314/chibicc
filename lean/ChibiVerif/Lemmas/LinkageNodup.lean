/-
The last step of C15_symbols_partial / C15_symbols_exact_partial: no symbol appears twice, neither in the symbol table of the
output nor in `Spec.symbols`; together with `symbols_iff` (same entries) the two tables are permutations of each other
(`symbols_perm_lemma`, and `symbols_partial_lemma` from it: the lemma forms of the two theorems).

* the labels `.L..k` of the unit are `k = 0 .. n-1`, each used once (`anonIdx_allNews`);
* at most one declaration of an object has an initializer (`objValid`), so at most one non-tentative definition
  of a name is in the list; `scan_globals` leaves at most one definition per name (`scanGlobals_count_le_one`, Lemmas/LinkagePre);
* function objects have distinct names (`WF.nodup`);
* functions, objects and block-scope externs use different identifiers (`valid`).
-/
import ChibiVerif.Lemmas.LinkageSym
import ChibiVerif.Lemmas.LinkageOk

namespace ChibiVerif.Linkage
open ChibiVerif.Spec.Linkage

/-! ### generic list facts -/

theorem nodup_dedup {α : Type} [DecidableEq α] : ∀ (l : List α), (dedup l).Nodup
  | [] => List.nodup_nil
  | a :: as => by
    unfold dedup
    by_cases h : a ∈ as
    · simp only [h, if_true]; exact nodup_dedup as
    · simp only [h, if_false]
      exact List.nodup_cons.mpr ⟨fun hm => h (mem_dedup.mp hm), nodup_dedup as⟩

theorem nodup_reverse' {α : Type} {l : List α} (h : l.Nodup) : l.reverse.Nodup := by
  unfold List.Nodup at h ⊢
  rw [List.pairwise_reverse]
  exact h.imp (fun hab => fun e => hab e.symm)

theorem nodup_map_of_count {α : Type} (f : α → Sym) : ∀ (l : List α),
    (∀ s, (l.filter (fun e => f e == s)).length ≤ 1) → (l.map f).Nodup
  | [], _ => List.nodup_nil
  | a :: as, h => by
    rw [List.map_cons, List.nodup_cons]
    refine ⟨fun hm => ?_, nodup_map_of_count f as (fun s => ?_)⟩
    · rw [List.mem_map] at hm
      obtain ⟨b, hb, hfb⟩ := hm
      have := h (f a)
      simp only [List.filter_cons, beq_self_eq_true, if_true, List.length_cons] at this
      have hpos : 0 < (as.filter (fun e => f e == f a)).length :=
        List.length_pos_of_mem (List.mem_filter.mpr ⟨hb, by simp [hfb]⟩)
      omega
    · have := h s
      simp only [List.filter_cons] at this
      split at this
      · simp only [List.length_cons] at this; omega
      · exact this

theorem sublist_filterMap_map {α β γ : Type} {g : α → Option β} {h : β → γ} {k : α → γ}
    (hg : ∀ a e, g a = some e → h e = k a) : ∀ l : List α, ((l.filterMap g).map h).Sublist (l.map k)
  | [] => List.Sublist.slnil
  | a :: as => by
    simp only [List.filterMap_cons, List.map_cons]
    cases hga : g a with
    | none => exact List.Sublist.cons _ (sublist_filterMap_map hg as)
    | some e =>
      simp only [List.map_cons]
      rw [hg a e hga]
      exact List.Sublist.cons_cons _ (sublist_filterMap_map hg as)

/-! ### the labels `.L..k` are used once -/

def anonIdx (l : List Obj) : List Nat := l.filterMap (fun o => match o.sym with | .anon j => some j | .named _ => none)

theorem anonIdx_append (a b : List Obj) : anonIdx (a ++ b) = anonIdx a ++ anonIdx b := by
  simp [anonIdx, List.filterMap_append]

/-- `(range' k n).reverse`, built by appending at the end -/
theorem range_rev_succ (k n : Nat) : (List.range' k (n + 1)).reverse = (List.range' (k + 1) n).reverse ++ [k] := by
  rw [List.range'_succ, List.reverse_cons]

theorem range_rev_append (k m n : Nat) :
    (List.range' (k + m) n).reverse ++ (List.range' k m).reverse = (List.range' k (m + n)).reverse := by
  rw [← List.reverse_append, List.range'_append_1]

variable [Rules]

theorem anonIdx_initNews (cur : Option Name) : ∀ (items : List InitItem) (k : Nat), anonIdx (initNews cur k items) = (List.range' k (initCount items)).reverse
  | [], _ => rfl
  | .ref _ :: r, k => by simp only [initNews, initCount]; exact anonIdx_initNews cur r k
  | .str n :: r, k => by
    simp only [initNews, initCount, anonIdx_append, anonIdx_initNews cur r (k + 1)]
    rw [range_rev_succ]
    rfl

theorem anonIdx_bodyItemNews (f : Name) (env : SEnv) (k : Nat) (b : BodyItem) : anonIdx (bodyItemNews f env k b) = (List.range' k (bodyItemCount b)).reverse := by
  cases b with
  | ref r => rfl
  | staticLocal tls ty init =>
    cases init with
    | none => rfl
    | some items =>
      simp only [bodyItemNews, bodyItemCount, anonIdx_append, anonIdx_initNews]
      rw [Nat.add_comm 1, range_rev_succ]
      rfl
  | str n => rfl
  | externObj x tls ty => rfl

theorem anonIdx_bodyNews (f : Name) : ∀ (b : List BodyItem) (env : SEnv) (k : Nat), anonIdx (bodyNews f env k b) = (List.range' k (bodyCount b)).reverse
  | [], _, _ => rfl
  | i :: rest, env, k => by
    simp only [bodyNews, bodyCount, anonIdx_append, anonIdx_bodyNews f rest, anonIdx_bodyItemNews]
    exact range_rev_append k _ _

theorem anonIdx_declNews (k : Nat) (env : SEnv) (d : Decl) : anonIdx (declNews k env d) = (List.range' k (declCount d)).reverse := by
  cases d with
  | func f n s e i body =>
    cases body with
    | none => rfl
    | some b =>
      simp only [declNews, declCount, anonIdx_append, anonIdx_bodyNews]
      have : anonIdx [strObj (some f) (k + 1) (n + 1), strObj (some f) k (n + 1)] = (List.range' k 2).reverse := rfl
      rw [this]
      exact range_rev_append k 2 _
  | obj x s e t ty init =>
    cases init with
    | none => rfl
    | some items =>
      simp only [declNews, declCount, anonIdx_append, anonIdx_initNews]
      have : anonIdx [varObj k x (varStatic env x s e) e t ty (some items)] = [] := rfl
      rw [this, List.append_nil]

def totalCount : List Decl → Nat
  | [] => 0
  | d :: ds => declCount d + totalCount ds

theorem anonIdx_allNews : ∀ (ds : List Decl) (k : Nat) (env : SEnv), anonIdx (allNews k env ds) = (List.range' k (totalCount ds)).reverse
  | [], _, _ => rfl
  | d :: ds, k, env => by
    simp only [allNews, totalCount, anonIdx_append, anonIdx_allNews ds, anonIdx_declNews]
    exact range_rev_append k _ _

theorem nodup_anonIdx_allNews (ds : List Decl) (k : Nat) (env : SEnv) : (anonIdx (allNews k env ds)).Nodup := by
  rw [anonIdx_allNews]
  exact nodup_reverse' List.nodup_range'

omit [Rules] in
theorem count_anon_le_one : ∀ (l : List Obj) (j : Nat), (anonIdx l).Nodup → (l.filter (fun o => o.sym == .anon j)).length ≤ 1
  | [], _, _ => Nat.zero_le _
  | a :: as, j, h => by
    simp only [List.filter_cons]
    cases hs : a.sym with
    | named n =>
      have : anonIdx (a :: as) = anonIdx as := by simp [anonIdx, hs]
      rw [this] at h
      simpa using count_anon_le_one as j h
    | anon i =>
      have hidx : anonIdx (a :: as) = i :: anonIdx as := by simp [anonIdx, hs]
      rw [hidx, List.nodup_cons] at h
      by_cases hij : i = j
      · subst hij
        simp only [beq_self_eq_true, if_true, List.length_cons]
        have : as.filter (fun o => o.sym == .anon i) = [] := by
          rw [List.filter_eq_nil_iff]
          intro o ho hso
          apply h.1
          simp only [anonIdx, List.mem_filterMap]
          exact ⟨o, ho, by simp only [beq_iff_eq] at hso; rw [hso]⟩
        rw [this]; exact Nat.le_refl _
      · have : (Sym.anon i == Sym.anon j) = false := by simp [hij]
        simp only [this, Bool.false_eq_true, if_false]
        exact count_anon_le_one as j h.2

/-! ### at most one non-tentative definition per object name -/

theorem realDef_bodyNews {f : Name} {b : List BodyItem} {env : SEnv} {k : Nat} {x : Name} : (bodyNews f env k b).filter (realDefOf (.named x)) = [] := by
  rw [List.filter_eq_nil_iff]
  intro o ho
  rcases bodyNews_kind f b env k o ho with ⟨cur, j, n, rfl⟩ | ⟨y, tls, ty, stc, _, rfl⟩ | ⟨tls, ty, init, j, _, rfl⟩ <;>
    simp [realDefOf, strObj, externO, slObj]

theorem realDef_initNews {cur : Option Name} {items : List InitItem} {k : Nat} {x : Name} : (initNews cur k items).filter (realDefOf (.named x)) = [] := by
  rw [List.filter_eq_nil_iff]
  intro o ho
  obtain ⟨j, n, rfl⟩ := initNews_str ho
  simp [realDefOf, strObj]

theorem realDef_count_allNews (x : Name) : ∀ (ds : List Decl) (k : Nat) (env : SEnv),
    ((allNews k env ds).filter (realDefOf (.named x))).length = ((objDecls ds x).filter (fun d => d.init.isSome)).length
  | [], _, _ => rfl
  | d :: ds, k, env => by
    simp only [allNews, List.filter_append, List.length_append, realDef_count_allNews x ds]
    cases d with
    | func f n s e i body =>
      rw [objDecls_cons_func]
      cases body with
      | none => simp [declNews]
      | some b =>
        simp only [declNews, List.filter_append, realDef_bodyNews, List.nil_append]
        simp [realDefOf, strObj]
    | obj y s e t ty init =>
      cases init with
      | none =>
        have h0 : (declNews k env (.obj y s e t ty none)).filter (realDefOf (.named x)) = [] := by
          simp only [declNews, List.filter_eq_nil_iff, List.mem_singleton]
          intro o ho; subst ho
          cases e <;> simp [realDefOf, varObj]
        rw [h0, objDecls_cons_obj]
        by_cases hy : y = x
        · simp [hy]
        · simp [hy]
      | some items =>
        simp only [declNews, List.filter_append, realDef_initNews, List.nil_append]
        rw [objDecls_cons_obj]
        by_cases hy : y = x
        · subst hy
          simp [realDefOf, varObj]
        · have : (Sym.named y == Sym.named x) = false := by simp [hy]
          simp [realDefOf, varObj, hy, this]

/-! ### the output -/

section
variable {ds : List Decl} (u : UnitOK ds) {st : PState} {gs1 gs : List Obj} (p : Parsed ds st gs1 gs)
-- hidden hypotheses below: `u`: the unit is in the scope of `symbols_iff`; `p`: `parse` ran on `ds` (`st` after the declarations, `gs1` after the root loop, `gs` returned)
include u p

omit u in
theorem fnNamed1 : FnNamed gs1 := by
  intro o ho hf
  obtain ⟨o0, ho0, hh⟩ := p.ext.upd.mem ho
  have hf0 : o0.isFunction = true := by rcases hh with rfl | rfl <;> exact hf
  obtain ⟨f, hs0⟩ := (wf_declAll p.hst).named o0 ho0 hf0
  exact ⟨f, by rcases hh with rfl | rfl <;> exact hs0⟩

omit u in
theorem filter_data1 (q : Obj → Bool) (hq : ∀ o, o ∈ gs1 → q o = true → o.isFunction = false) :
    gs1.filter q = (allNews 0 env0 ds).filter q := by
  rw [← p.data1]
  unfold dataOf
  rw [List.filter_filter]
  apply List.filter_congr
  intro o ho
  cases hqo : q o
  · rfl
  · simp [hq o ho hqo]

omit u in
theorem tentDef1 : ∀ o, o ∈ gs1 → o.isTentative = true → o.isDefinition = true := by
  intro o ho ht
  have hf : o.isFunction = false := by
    cases hf : o.isFunction
    · rfl
    · rw [p.fnNotTent1 o ho hf] at ht; cases ht
  have ha : o ∈ allNews 0 env0 ds := by rw [← p.data1]; exact mem_dataOf.mpr ⟨ho, hf⟩
  cases allNews_kind ds 0 o ha with
  | @var x s e t ty init k pre post hd =>
    rw [varObj_isTentative] at ht
    rw [varObj_isDefinition]
    cases init <;> simp_all
  | ext => cases ht
  | sl => cases ht
  | str => cases ht

theorem data_count_le_one (fc : Bool) (s : Sym) : ((emitData fc gs).filter (fun e => e.sym == s)).length ≤ 1 := by
  refine Nat.le_trans (emitData_count_le fc s gs) ?_
  rw [p.hgs]
  cases s with
  | anon j =>
    refine scanGlobals_count_le_one ⟨fun o ho hs => ?_, ?_, tentDef1 p⟩
    · cases hf : o.isFunction
      · rfl
      · obtain ⟨f, hsf⟩ := fnNamed1 p o ho hf
        rw [hsf] at hs; cases hs
    · have hle : (gs1.filter (realDefOf (.anon j))).length ≤ (gs1.filter (fun o => o.sym == .anon j)).length :=
        length_filter_le_of_imp (fun o ho => by
          simp only [realDefOf, Bool.and_eq_true] at ho; exact ho.2) gs1
      rw [filter_data1 p (fun o => o.sym == .anon j) (fun o ho hs => by
        cases hf : o.isFunction
        · rfl
        · obtain ⟨f, hsf⟩ := fnNamed1 p o ho hf
          simp only [beq_iff_eq] at hs
          rw [hsf] at hs; cases hs)] at hle
      exact Nat.le_trans hle (count_anon_le_one _ j (nodup_anonIdx_allNews ds 0 env0))
  | named x =>
    by_cases hfn : x ∈ fnNames ds
    · -- a function name: no datum carries it
      rw [(scanGlobals_tyRel gs1).filter_length (tyBlind_dataDefOf _)]
      have : (scanPure gs1 gs1).filter (dataDefOf (.named x)) = [] := by
        rw [List.filter_eq_nil_iff]
        intro a ha hd
        simp only [dataDefOf, Bool.and_eq_true, Bool.not_eq_true', beq_iff_eq] at hd
        have ha : a ∈ allNews 0 env0 ds := by rw [← p.data1]; exact mem_dataOf.mpr ⟨scanPure_sub _ _ a ha, hd.1.1⟩
        rcases (allNews_kind ds 0 a ha).named hd.2 with ⟨s, e, t, ty, init, k, pre, post, hdd, _⟩ | ⟨f, n, s, e, i, b, tls, ty, stc, _, _, rfl⟩
        · exact (u.disjoint hfn).1 (mem_objNames_of_mem (mem_of_split hdd))
        · have := hd.1.2; cases this
      rw [this]; exact Nat.zero_le _
    · refine scanGlobals_count_le_one ⟨fun o ho hs => ?_, ?_, tentDef1 p⟩
      · cases hf : o.isFunction
        · rfl
        · exact absurd (firstFlags_isSome.mp (p.fn_declared ho hf hs)) hfn
      · rw [filter_data1 p (realDefOf (.named x)) (fun o ho hr => by
          simp only [realDefOf, Bool.and_eq_true, beq_iff_eq] at hr
          cases hf : o.isFunction
          · rfl
          · exact absurd (firstFlags_isSome.mp (p.fn_declared ho hf hr.2)) hfn), realDef_count_allNews]
        by_cases hx : x ∈ objNames ds
        · have := (u.objs x hx).valid
          simp only [objValid, Bool.and_eq_true, decide_eq_true_eq] at this
          exact this.1.1.1.1.1
        · rw [mem_objNames, Classical.not_not] at hx
          rw [hx]; exact Nat.zero_le _

omit [Rules] u p in
theorem text_syms_sublist : ∀ (l : List Obj), FnNamed l →
    ((l.filterMap emitTextFn).map (·.sym)).Sublist ((fnNamesOf l).map Sym.named)
  | [], _ => List.Sublist.slnil
  | a :: as, h => by
    have ih := text_syms_sublist as (fun o ho => h o (List.mem_cons_of_mem _ ho))
    simp only [List.filterMap_cons, fnNamesOf]
    cases hf : a.isFunction
    · have h1 : emitTextFn a = none := by simp [emitTextFn, hf]
      have h2 : fnName a = none := by simp [fnName, hf]
      rw [h1, h2]; exact ih
    · obtain ⟨f, hs⟩ := h a List.mem_cons_self hf
      have h2 : fnName a = some f := by simp [fnName, hf, hs]
      rw [h2]
      cases he : emitTextFn a with
      | none => exact List.Sublist.cons _ ih
      | some e =>
        have : e.sym = .named f := by rw [(emitTextFn_some he).2.2.2]; exact hs
        simp only [List.map_cons, this]
        exact List.Sublist.cons_cons _ ih

omit u in
theorem text_nodup : ((emitText gs).map (·.sym)).Nodup := by
  rw [p.hgs, emitText_scanGlobals p.fnNotTent1]
  refine (text_syms_sublist gs1 (fnNamed1 p)).nodup ?_
  have := p.nodup1
  unfold List.Nodup at this ⊢
  rw [List.pairwise_map]
  exact this.imp (fun hab => fun e => hab (by cases e; rfl))

theorem objectSymbols_nodup (fc : Bool) : ((objectSymbols fc gs).map (·.sym)).Nodup := by
  have hsub : ((objectSymbols fc gs).map (·.sym)).Sublist ((emit fc gs).map (·.sym) ++ undefs fc gs) := by
    unfold objectSymbols
    refine (List.filter_sublist.map _).trans ?_
    rw [List.map_append, List.map_map, List.map_map]
    have h1 : ((fun e : SymEntry => e.sym) ∘ asmView) = (fun e => e.sym) := by funext e; exact asmView_sym e
    have h2 : ((fun e : SymEntry => e.sym) ∘ fun s => (⟨s, .global, .undef, none, 0⟩ : SymEntry)) = id := by funext s; rfl
    rw [h1, h2, List.map_id]
    exact List.Sublist.refl _
  refine hsub.nodup ?_
  rw [List.nodup_append]
  refine ⟨?_, ?_, ?_⟩
  · unfold emit
    rw [List.map_append, List.nodup_append]
    refine ⟨nodup_map_of_count _ _ (data_count_le_one u p fc), text_nodup p, ?_⟩
    intro a ha b hb hab
    subst hab
    rw [List.mem_map] at ha hb
    obtain ⟨e1, he1, hs1⟩ := ha
    obtain ⟨e2, he2, hs2⟩ := hb
    unfold emitData at he1
    unfold emitText at he2
    rw [List.mem_filterMap] at he1 he2
    obtain ⟨o1, ho1', hoe1⟩ := he1
    have ho1 := (List.mem_filter.mp ho1').1
    obtain ⟨o2, ho2, hoe2⟩ := he2
    have hd1 := emitDataVar_def hoe1
    have hf2 : o2.isFunction = true ∧ e2.sym = o2.sym :=
      ⟨(emitTextFn_some hoe2).1, by rw [(emitTextFn_some hoe2).2.2.2]⟩
    obtain ⟨f, o0, h0, rfl⟩ := p.fn_of_mem ho2 hf2.1
    have hp' := List.find?_some h0
    simp only [Bool.and_eq_true, beq_iff_eq] at hp'
    have hsym1 : o1.sym = .named f := by
      rw [← emitDataVar_sym hoe1, hs1, ← hs2, hf2.2]; exact hp'.2
    have hx := data_def_objName p ho1 hd1.1 hd1.2 hsym1
    exact (u.disjoint (fn_declared_of_find p h0)).1 hx
  · exact nodup_dedup _
  · intro a ha b hb hab
    subst hab
    have := (mem_undefs.mp hb).2
    rw [List.any_eq_false] at this
    rw [List.mem_map] at ha
    obtain ⟨e, he, hs⟩ := ha
    exact this e he (by simp [hs])

end

/-! ### the Spec -/

omit [Rules] in
theorem fnSymbol_sym {ds : List Decl} {f : Name} {e : SymEntry} (h : fnSymbol ds f = some e) : e.sym = .named f := by
  cases hD : fnDefined (fnDecls ds f)
  · rw [((fnSymbol_undefined hD).mp h).2]; rfl
  · unfold fnSymbol at h
    simp only [hD, if_true] at h
    cases hc : fnClass (fnDecls ds f) <;> rw [hc] at h <;> simp only at h
    · cases h; rfl
    · cases h; rfl
    · by_cases hn : (neededList ds).contains f = true
      · rw [if_pos hn] at h; cases h; rfl
      · rw [if_neg hn] at h; cases h

omit [Rules] in
theorem objSymbol_sym {fc : Bool} {ds : List Decl} {x : Name} {e : SymEntry} (h : objSymbol fc ds x = some e) : e.sym = .named x := by
  cases hD : objDefined (objDecls ds x)
  · rw [((objSymbol_undefined hD).mp h).2]; rfl
  · rw [objSymbol_defined hD] at h
    cases h; rfl

omit [Rules] in
theorem nodup_names_map {l : List Name} (h : l.Nodup) : (l.map Sym.named).Nodup := by
  unfold List.Nodup at h ⊢
  rw [List.pairwise_map]
  exact h.imp (fun hab => fun e => hab (by cases e; rfl))

omit [Rules] in
theorem nodup_fnNames (ds : List Decl) : (fnNames ds).Nodup := nodup_reverse' (nodup_dedup _)
omit [Rules] in
theorem nodup_objNames (ds : List Decl) : (objNames ds).Nodup := nodup_reverse' (nodup_dedup _)

omit [Rules] in
theorem symbols_nodup (fc : Bool) {ds : List Decl} (hv : valid ds = true) : ((symbols fc ds).map (·.sym)).Nodup := by
  have hdis : ∀ f, f ∈ fnNames ds → f ∉ objNames ds ∧ f ∉ blockExternNames ds := (valid_parts hv).2.2.1
  unfold symbols
  rw [List.map_append, List.map_append, List.nodup_append, List.nodup_append]
  have s1 := sublist_filterMap_map (g := fnSymbol ds) (h := fun e => e.sym) (k := Sym.named) (fun a e h => fnSymbol_sym h) (fnNames ds)
  have s2 := sublist_filterMap_map (g := objSymbol fc ds) (h := fun e => e.sym) (k := Sym.named) (fun a e h => objSymbol_sym h) (objNames ds)
  have mem1 : ∀ s, s ∈ ((fnNames ds).filterMap (fnSymbol ds)).map (·.sym) → ∃ f, f ∈ fnNames ds ∧ s = .named f := by
    intro s hs
    have := s1.subset hs
    rw [List.mem_map] at this
    obtain ⟨f, hf, rfl⟩ := this
    exact ⟨f, hf, rfl⟩
  have mem2 : ∀ s, s ∈ ((objNames ds).filterMap (objSymbol fc ds)).map (·.sym) → ∃ x, x ∈ objNames ds ∧ s = .named x := by
    intro s hs
    have := s2.subset hs
    rw [List.mem_map] at this
    obtain ⟨x, hx, rfl⟩ := this
    exact ⟨x, hx, rfl⟩
  refine ⟨⟨s1.nodup (nodup_names_map (nodup_fnNames ds)), s2.nodup (nodup_names_map (nodup_objNames ds)), ?_⟩, ?_, ?_⟩
  · intro a ha b hb hab
    subst hab
    obtain ⟨f, hf, rfl⟩ := mem1 _ ha
    obtain ⟨x, hx, hfx⟩ := mem2 _ hb
    cases hfx
    exact (hdis f hf).1 hx
  · rw [List.map_map]
    have : ((fun e : SymEntry => e.sym) ∘ fun x => (⟨.named x, .global, .undef, none, 0⟩ : SymEntry)) = Sym.named := by
      funext x; rfl
    rw [this]
    exact nodup_names_map ((nodup_dedup _).sublist List.filter_sublist)
  · intro a ha b hb hab
    subst hab
    rw [List.map_map, List.mem_map] at hb
    obtain ⟨x, hx, rfl⟩ := hb
    rw [List.mem_filter, mem_dedup] at hx
    simp only [Bool.and_eq_true, Bool.not_eq_true', List.contains_eq_mem, decide_eq_false_iff_not] at hx
    rcases List.mem_append.mp ha with ha | ha
    · obtain ⟨f, hf, hfx⟩ := mem1 _ ha
      have hfx' : x = f := by simpa using hfx
      subst hfx'
      exact (hdis x hf).2 hx.1
    · obtain ⟨y, hy, hyx⟩ := mem2 _ ha
      have hyx' : x = y := by simpa using hyx
      subst hyx'
      exact hx.2.1 hy

/-- **C15_symbols, outside the regions of the known findings the code still has, with multiplicities**: the symbol
    table of the output is a permutation of `Spec.symbols` -/
theorem symbols_perm_lemma (fcommon : Bool) {ds : List Decl} (hsc : symbolsScope ds = true) :
    ∃ gs, parseUnit ds = .ok gs ∧ (objectSymbols fcommon gs).Perm (symbols fcommon ds) := by
  have u := unitOK_of hsc
  obtain ⟨st, hst⟩ := parse_ok u.valid
  obtain ⟨gs1, p⟩ := parsed_of_declAll hst
  refine ⟨scanGlobals gs1, p.parseUnit, ?_⟩
  have n1 : (objectSymbols fcommon (scanGlobals gs1)).Nodup :=
    List.Pairwise.of_map (fun e => e.sym) (fun a b hab e => hab (by rw [e])) (objectSymbols_nodup u p fcommon)
  have n2 : (symbols fcommon ds).Nodup :=
    List.Pairwise.of_map (fun e => e.sym) (fun a b hab e => hab (by rw [e])) (symbols_nodup fcommon u.valid)
  exact (List.perm_ext_iff_of_nodup n1 n2).mpr (fun e => symbols_iff u p fcommon e)

/-- **C15_symbols, outside the regions of the known findings the code still has** (lemma form): the same entries -/
theorem symbols_partial_lemma (fcommon : Bool) {ds : List Decl} (hsc : symbolsScope ds = true) :
    ∃ gs, parseUnit ds = .ok gs ∧ (∀ e, e ∈ objectSymbols fcommon gs ↔ e ∈ symbols fcommon ds) := by
  obtain ⟨gs, hp, hperm⟩ := symbols_perm_lemma fcommon hsc
  exact ⟨gs, hp, fun _ => hperm.mem_iff⟩

end ChibiVerif.Linkage
