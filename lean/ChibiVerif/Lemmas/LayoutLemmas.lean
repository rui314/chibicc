/-
The layout model against the layout specification (C08, Props/C08.lean):

* arithmetic: chibicc's `align_to`/`align_down` on non-negative C ints (`Int`, truncating division) are the specification's
  `roundUp` / round-down; the straddle test of `struct_decl` `bits / (sz*8) != (bits + width - 1) / (sz*8)` on C ints is the
  psABI containment rule `bits % unit + width > unit`;
* over the normal form of the two loops (Lemmas/LayoutLoops.lean), one fact per component: `placeAll_eq` (positions of
  `struct_decl` against `Spec.allocateAll`, from `placeMember_eq`), `alignAll_eq` (`ty->align` of either loop against
  `Spec.aggAlign`, from `stepAlign_eq`), `unionSize_eq` (invariant `UInv`: the code takes the whole declared type of a named
  bit-field as its extent, the spec only its bits; equal after rounding to the alignment); `structLayout_eq`,
  `unionLayout_eq` put them together;
* whole type descriptions: `layout_eq` by mutual induction, `sizeof`/`_Alignof` as its projection (`ty_eq`).

Core Lean only.
-/
import ChibiVerif.Spec.LayoutRegions
import ChibiVerif.Lemmas.LayoutTotal
import ChibiVerif.Lemmas.LayoutSpecLemmas

namespace ChibiVerif.Layout
open ChibiVerif.Gen.Declspec ChibiVerif.Spec.Layout

theorem alignTo_natCast (n a : Nat) (ha : 0 < a) : alignTo (n : Int) (a : Int) = ((roundUp n a : Nat) : Int) := by
  unfold alignTo
  have h : ((n : Int) + (a : Int) - 1) = ((n + a - 1 : Nat) : Int) := by omega
  rw [h, Int.tdiv_eq_ediv_of_nonneg (Int.natCast_nonneg _), ← Int.natCast_ediv, ← Int.natCast_mul, roundUp_eq n a ha]

theorem alignDown_natCast (n a : Nat) : alignDown (n : Int) (a : Int) = ((n / a * a : Nat) : Int) := by
  unfold alignDown alignTo
  have h : ((n : Int) - (a : Int) + 1 + (a : Int) - 1) = (n : Int) := by omega
  rw [h, Int.tdiv_eq_ediv_of_nonneg (Int.natCast_nonneg _), ← Int.natCast_ediv, ← Int.natCast_mul]

theorem natCast_mul8 (n : Nat) : (n : Int) * 8 = ((8 * n : Nat) : Int) := by omega

theorem tdiv_natCast (n a : Nat) : Int.tdiv (n : Int) (a : Int) = ((n / a : Nat) : Int) := (Int.ofNat_tdiv n a).symm

theorem tmod_natCast (n a : Nat) : Int.tmod (n : Int) (a : Int) = ((n % a : Nat) : Int) := (Int.ofNat_tmod n a).symm

/-- the test as `struct_decl` evaluates it, on the quotients as C ints -/
theorem straddle_cast_iff (cur w u : Nat) (hu : 0 < u) (hw : 0 < w) :
    ((cur / u : Nat) : Int) ≠ ((cur + w - 1) / u : Nat) ↔ ¬ (cur % u + w ≤ u) := by
  rw [Ne, Int.natCast_inj]; exact straddle_iff cur w u hu hw

theorem alignToE_natCast (n a : Nat) (ha : 0 < a) : alignToE (n : Int) (a : Int) = .ok ((roundUp n a : Nat) : Int) := by
  unfold alignToE
  have : ¬ a = 0 := by omega
  simp [this, alignTo_natCast n a ha]

theorem tdiv_natCast8 (n : Nat) : Int.tdiv (n : Int) 8 = ((n / 8 : Nat) : Int) := tdiv_natCast n 8

/- What the proofs read off the three known-finding regions (Spec/LayoutRegions.lean), each for a packed aggregate outside it. -/

theorem alignas_le_one {packed : Bool} {ms : List SMem} (h : PackedWithMemberAlign packed ms = false) (hp : packed = true) :
    ∀ m ∈ ms, m.alignas ≤ 1 := by
  subst hp
  simp only [PackedWithMemberAlign, Bool.true_and, List.any_eq_false, decide_eq_true_eq] at h
  exact fun m hm => Nat.le_of_not_lt (h m hm)

theorem packedStraddle_cons {cur : Nat} {m : SMem} {ms : List SMem} (h : packedStraddle cur (m :: ms) = false) :
    (∀ w, m.bitWidth = some w → straddlesAt cur m.size w = false) ∧ packedStraddle (allocate true cur m).2 ms = false := by
  simp only [packedStraddle, Bool.or_eq_false_iff] at h
  exact ⟨fun w hw => by rw [hw] at h; exact h.1, h.2⟩

theorem unionField_fills {packed : Bool} {ms : List SMem} (h : PackedUnionBitfield packed ms = false) (hp : packed = true) :
    ∀ m ∈ ms, ∀ w, m.bitWidth = some w → m.named = true → m.size ≤ (w + 7) / 8 := by
  subst hp
  simp only [PackedUnionBitfield, Bool.true_and, List.any_eq_false] at h
  intro m hm w hw hn
  have := h m hm
  rw [hw, hn] at this
  simp only [Bool.true_and, decide_eq_true_eq] at this
  omega

theorem placeMember_eq (packed : Bool) (cur : Nat) (m : SMem) (hwf : m.WF) (ha : packed = true → m.alignas ≤ 1)
    (hs : packed = true → ∀ w, m.bitWidth = some w → straddlesAt cur m.size w = false) :
    placeMember packed cur m.toMem =
      .ok (((allocate packed cur m).2 : Nat), (placedAt m (allocate packed cur m).1).toPlaced) := by
  obtain ⟨size, tyAlign, alignas, bw, named⟩ := m
  obtain ⟨hta, hbf⟩ := hwf
  simp only at hta hbf ha hs
  cases bw with
  | none =>
    cases packed with
    | false =>
      have hA : 0 < (if alignas ≠ 0 then alignas else tyAlign) := by split <;> omega
      simp only [placeMember, SMem.toMem, allocate, placedAt, SMem.reqAlign, Bool.false_eq_true, if_false]
      generalize (if alignas ≠ 0 then alignas else tyAlign) = A at hA ⊢
      rw [natCast_mul8, alignToE_natCast _ _ (by omega)]
      simp only [SPlaced.toPlaced, Except.ok.injEq, Prod.mk.injEq, Placed.mk.injEq, tdiv_natCast8]
      refine ⟨by omega, by omega, rfl⟩
    | true =>
      have ha1 := ha rfl
      have hr : (if alignas ≠ 0 then alignas else 1) = 1 := by split <;> omega
      simp only [placeMember, SMem.toMem, allocate, placedAt, SMem.reqAlign, if_true, hr, Nat.mul_one]
      have e8 : (8 : Int) = ((8 : Nat) : Int) := rfl
      rw [e8, alignToE_natCast _ _ (by omega)]
      simp only [SPlaced.toPlaced, Except.ok.injEq, Prod.mk.injEq, Placed.mk.injEq, tdiv_natCast]
      refine ⟨by omega, by omega, rfl⟩
  | some w =>
    obtain ⟨hsz, ha0, hts, hw8, hnm⟩ := hbf
    subst ha0
    subst hts
    by_cases hw : w = 0
    · subst hw
      simp only [placeMember, SMem.toMem, allocate, placedAt, if_true, Int.natCast_eq_zero]
      rw [natCast_mul8, alignToE_natCast _ _ (by omega)]
      simp [SPlaced.toPlaced]
    · have hwz : ¬ ((w : Int) = 0) := by omega
      have hu : ¬ ((8 * tyAlign : Nat) : Int) = 0 := by omega
      -- in a packed struct the field is in scope only if it fits: then the spec's `packed` arm and its `fits` arm coincide
      have hpk : packed = true → cur % (8 * tyAlign) + w ≤ 8 * tyAlign := by
        intro hp
        have := hs hp w rfl
        simpa [straddlesAt, hw] using this
      rw [allocate_field (m := ⟨tyAlign, tyAlign, 0, some w, named⟩) rfl hw hpk]
      simp only [placeMember, SMem.toMem, placedAt, hw, hwz, if_false]
      rw [natCast_mul8]
      simp only [hu, if_false]
      have e2 : ((cur : Int) + (w : Int) - 1) = ((cur + w - 1 : Nat) : Int) := by omega
      rw [e2, tdiv_natCast, tdiv_natCast, alignTo_natCast _ _ (by omega)]
      have hst := straddle_cast_iff cur w (8 * tyAlign) (by omega) (by omega)
      by_cases hfit : cur % (8 * tyAlign) + w ≤ 8 * tyAlign <;>
        simp only [hst, hfit, not_true_eq_false, not_false_eq_true, if_true, if_false, tdiv_natCast8, alignDown_natCast, tmod_natCast,
          SPlaced.toPlaced, ← Int.natCast_add, Nat.div_div_eq_div_mul]

theorem stepAlign_eq (packed : Bool) (al : Nat) (m : SMem) (hwf : m.WF) (hsc : packed = true → m.alignas ≤ 1) (hal : 0 < al) :
    stepAlign packed al m.toMem = ((max al (m.contrib packed) : Nat) : Int) := by
  obtain ⟨size, tyAlign, alignas, bw, named⟩ := m
  obtain ⟨hta, hbf⟩ := hwf
  simp only at hta hbf hsc
  cases bw with
  | none =>
    cases packed with
    | false =>
      simp only [stepAlign, Mem.unnamedBitfield, SMem.toMem, SMem.contrib, SMem.reqAlign, Option.isSome, Bool.false_and,
        Bool.false_eq_true, if_false, Bool.not_false, Bool.true_and, decide_eq_true_eq]
      generalize (if alignas ≠ 0 then alignas else tyAlign) = A
      omega
    | true =>
      have ha1 := hsc rfl
      have hr : (if alignas ≠ 0 then alignas else 1) = 1 := by split <;> omega
      simp only [stepAlign, Mem.unnamedBitfield, SMem.toMem, SMem.contrib, SMem.reqAlign, Option.isSome, Bool.false_and,
        Bool.false_eq_true, if_false, Bool.not_true, if_true, hr]
      omega
  | some w =>
    obtain ⟨hsz, ha0, hts, hw8, hnm⟩ := hbf
    subst ha0
    subst hts
    cases named <;> cases packed <;>
      simp only [stepAlign, Mem.unnamedBitfield, SMem.toMem, SMem.contrib, Option.isSome, Bool.true_and, Bool.not_false,
        Bool.not_true, if_true, if_false, Bool.false_eq_true, Bool.and_false, Bool.and_true, Bool.false_and, ne_eq,
        not_true_eq_false, decide_eq_true_eq] <;>
      omega

theorem alignAll_eq (packed : Bool) (ms : List SMem) : ∀ (al : Nat), 0 < al → (∀ m ∈ ms, m.WF) →
    (packed = true → ∀ m ∈ ms, m.alignas ≤ 1) →
    alignAll packed al (ms.map SMem.toMem) = ((aggAlign packed al ms : Nat) : Int) := by
  induction ms with
  | nil => intro _ _ _ _; rfl
  | cons m ms ih =>
    intro al hal hwf hsc
    have hm := List.mem_cons_self (a := m) (l := ms)
    rw [List.map_cons, alignAll, List.foldl_cons, stepAlign_eq packed al m (hwf m hm) (fun hp => hsc hp m hm) hal, aggAlign_cons]
    exact ih _ (by omega) (fun x hx => hwf x (List.mem_cons_of_mem _ hx))
      (fun hp x hx => hsc hp x (List.mem_cons_of_mem _ hx))

theorem placeAll_eq (packed : Bool) (ms : List SMem) : ∀ (cur : Nat), (∀ m ∈ ms, m.WF) →
    (packed = true → ∀ m ∈ ms, m.alignas ≤ 1) → (packed = true → packedStraddle cur ms = false) →
    placeAll packed cur (ms.map SMem.toMem) =
      .ok (((allocateAll packed cur ms).1 : Nat), (allocateAll packed cur ms).2.map SPlaced.toPlaced) := by
  induction ms with
  | nil => intro _ _ _ _; rfl
  | cons m ms ih =>
    intro cur hwf ha hs
    have hs' : packed = true → (∀ w, m.bitWidth = some w → straddlesAt cur m.size w = false) ∧
        packedStraddle (allocate packed cur m).2 ms = false := fun hp => by subst hp; exact packedStraddle_cons (hs rfl)
    simp only [List.map_cons, placeAll,
      placeMember_eq packed cur m (hwf m (List.mem_cons_self ..)) (fun hp => ha hp m (List.mem_cons_self ..)) (fun hp => (hs' hp).1),
      ih _ (fun x hx => hwf x (List.mem_cons_of_mem _ hx)) (fun hp x hx => ha hp x (List.mem_cons_of_mem _ hx))
        (fun hp => (hs' hp).2), allocateAll_cons, bind, Except.bind]
    rfl

theorem structLayout_eq (packed : Bool) (aligned : Option Nat) (ms : List SMem)
    (hal : ∀ n, aligned = some n → 0 < n) (hwf : ∀ m ∈ ms, m.WF)
    (hB : PackedWithBitfield packed ms = false) (hA : PackedWithMemberAlign packed ms = false) :
    structLayout packed ((aligned.getD STRUCT_INIT_ALIGN : Nat) : Int) (ms.map SMem.toMem) =
      .ok (specStruct packed aligned ms).toLayout := by
  have ha0 := getD_pos hal
  have hpos := aggAlign_pos packed ms ha0
  have hp := placeAll_eq packed ms 0 hwf (alignas_le_one hA) (fun hp => by rw [PackedWithBitfield, hp] at hB; exact hB)
  rw [Int.natCast_zero] at hp
  rw [structLayout_nf, hp, show STRUCT_INIT_ALIGN = 1 from rfl, alignAll_eq packed ms _ ha0 hwf (alignas_le_one hA)]
  simp only [bind, Except.bind, natCast_mul8, alignToE_natCast _ _ (show 0 < 8 * aggAlign packed (aligned.getD 1) ms by omega),
    pure, Except.pure, tdiv_natCast8, specStruct, SLayout.toLayout]

/-- `ty->size` after one member, as `union_decl` computes it -/
def codeExtent (m : SMem) : Nat :=
  match m.bitWidth, m.named with
  | some w, false => (w + 7) / 8
  | _, _ => m.size

theorem extent_toMem (m : SMem) : m.toMem.extent = ((codeExtent m : Nat) : Int) := by
  unfold Mem.extent codeExtent SMem.toMem
  cases m.bitWidth <;> cases m.named <;> simp only [] <;>
    first | rfl | (rw [show ((_ : Nat) : Int) + 7 = ((_ + 7 : Nat) : Int) from rfl, tdiv_natCast8])

/-- what relates the running size of `union_decl` (`sm`) to the running extent of the spec (`ss`):
    they are equal, or both are positive and at most the alignment (then both round up to it) -/
def UInv (sm ss a : Nat) : Prop := ss ≤ sm ∧ (sm = ss ∨ (0 < ss ∧ sm ≤ a))

theorem UInv.max {sm ss a ce ext c : Nat} (h : UInv sm ss a) (h' : UInv ce ext c) :
    UInv (max sm ce) (max ss ext) (max a c) := by
  simp only [UInv] at *
  omega

/-- one member alone: the code's extent is the spec's, except for a named bit-field, where the code takes the whole declared
    type; unpacked that is the member's alignment, packed the member is in scope only if the field fills its type -/
theorem UInv_member (packed : Bool) (m : SMem) (hwf : m.WF)
    (hsc : packed = true → ∀ w, m.bitWidth = some w → m.named = true → m.size ≤ (w + 7) / 8) :
    UInv (codeExtent m) m.extent (m.contrib packed) := by
  obtain ⟨size, tyAlign, alignas, bw, named⟩ := m
  obtain ⟨hta, hbf⟩ := hwf
  cases bw with
  | none => exact ⟨Nat.le_refl _, Or.inl rfl⟩
  | some w =>
    obtain ⟨hsz, ha0, hts, hw8, hnm⟩ := hbf
    cases named with
    | false => exact ⟨Nat.le_refl _, Or.inl rfl⟩
    | true =>
      have hw0 := hnm rfl
      simp only at hts hw8 hsz
      subst hts
      cases packed with
      | false =>
        simp only [UInv, codeExtent, SMem.extent, SMem.contrib, Bool.not_false, Bool.and_true, if_true]
        omega
      | true =>
        have hge := hsc rfl w rfl rfl
        simp only [UInv, codeExtent, SMem.extent] at hge ⊢
        omega

theorem unionSize_eq (packed : Bool) (ms : List SMem) : ∀ (sm ss a : Nat), (∀ m ∈ ms, m.WF) →
    (packed = true → ∀ m ∈ ms, ∀ w, m.bitWidth = some w → m.named = true → m.size ≤ (w + 7) / 8) → UInv sm ss a →
    ∃ sm' : Nat, (ms.map SMem.toMem).foldl (fun s m => max s m.extent) (sm : Int) = (sm' : Int) ∧
      UInv sm' (ms.foldl (fun s m => max s m.extent) ss) (aggAlign packed a ms) := by
  induction ms with
  | nil => intro sm ss a _ _ h; exact ⟨sm, rfl, h⟩
  | cons m ms ih =>
    intro sm ss a hwf hsc h
    have hm := List.mem_cons_self (a := m) (l := ms)
    rw [List.map_cons, List.foldl_cons, extent_toMem,
      show max (sm : Int) (codeExtent m : Nat) = ((max sm (codeExtent m) : Nat) : Int) by omega, List.foldl_cons, aggAlign_cons]
    exact ih _ _ _ (fun x hx => hwf x (List.mem_cons_of_mem _ hx)) (fun hp x hx => hsc hp x (List.mem_cons_of_mem _ hx))
      (h.max (UInv_member packed m (hwf m hm) (fun hp => hsc hp m hm)))

theorem unionLayout_eq (packed : Bool) (aligned : Option Nat) (ms : List SMem)
    (hal : ∀ n, aligned = some n → 0 < n) (hwf : ∀ m ∈ ms, m.WF)
    (hU : PackedUnionBitfield packed ms = false) (hA : PackedWithMemberAlign packed ms = false) :
    unionLayout packed ((aligned.getD STRUCT_INIT_ALIGN : Nat) : Int) (ms.map SMem.toMem) =
      .ok (specUnion packed aligned ms).toLayout := by
  have ha0 := getD_pos hal
  have hpos := aggAlign_pos packed ms ha0
  obtain ⟨sm', hs, hle, hinv⟩ := unionSize_eq packed ms 0 0 (aligned.getD 1) hwf (unionField_fills hU) ⟨Nat.le_refl _, Or.inl rfl⟩
  rw [unionLayout_nf, show STRUCT_INIT_ALIGN = 1 from rfl, alignAll_eq packed ms _ ha0 hwf (alignas_le_one hA),
    show ((STRUCT_INIT_SIZE : Nat) : Int) = ((0 : Nat) : Int) from rfl, hs, alignToE_natCast _ _ hpos]
  have hr : roundUp sm' (aggAlign packed (aligned.getD 1) ms) =
      roundUp (ms.foldl (fun s m => max s m.extent) 0) (aggAlign packed (aligned.getD 1) ms) := by
    rcases hinv with h | ⟨h2, h3⟩
    · rw [h]
    · rw [roundUp_small (by omega) h3, roundUp_small h2 (by omega)]
  simp only [Except.map, hr, specUnion, SLayout.toLayout, List.map_map, Except.ok.injEq, Layout.mk.injEq, true_and]
  exact List.map_congr_left fun _ _ => rfl

theorem isPow2le28_eq (n : Int) : isPow2le28 n = pow2le28 n := rfl

theorem prim_eq (t : TyName) : primSize t = ((psabiScalar t).1 : Nat) ∧ primAlign t = ((psabiScalar t).2 : Nat) ∧
    0 < (psabiScalar t).2 := by
  cases t <;> decide

theorem bitfieldBase_props {ty : Ty} (h : isBitfieldBase ty = true) :
    0 < (specSizeAlign ty).1 ∧ (specSizeAlign ty).2 = (specSizeAlign ty).1 ∧ (specSizeAlign ty).1 ≤ 8 := by
  cases ty with
  | prim t => cases t <;> first | (simp [isBitfieldBase] at h; done) | decide
  | enum => decide
  | _ => simp [isBitfieldBase] at h

/-- the declared types the specification allows for a bit-field are exactly those type.c `is_integer` accepts (the guard of
    struct_members' diagnostic "bit-field has non-integer type") -/
theorem isBitfieldBase_eq_isInteger (ty : Ty) : isBitfieldBase ty = ty.isInteger := by
  cases ty with
  | prim t => cases t <;> decide
  | enum => decide
  | ptr => decide
  | arr _ _ => exact (by decide : false = integerKinds.contains "TY_ARRAY")
  | flex _ => exact (by decide : false = integerKinds.contains "TY_ARRAY")
  | struct _ _ _ => exact (by decide : false = integerKinds.contains "TY_STRUCT")
  | union _ _ _ => exact (by decide : false = integerKinds.contains "TY_UNION")

theorem specSizeAlign_struct (p : Bool) (al : Option Int) (ms : Members) :
    specSizeAlign (.struct p al ms) =
      ((specStruct p (specAligned al) (specMembers ms)).size, (specStruct p (specAligned al) (specMembers ms)).align) := by
  simp [specSizeAlign]

theorem specSizeAlign_union (p : Bool) (al : Option Int) (ms : Members) :
    specSizeAlign (.union p al ms) =
      ((specUnion p (specAligned al) (specMembers ms)).size, (specUnion p (specAligned al) (specMembers ms)).align) := by
  simp [specSizeAlign]

theorem aligned_cast {al : Option Int} (h : alignedOk al = true) :
    alignAttr ((STRUCT_INIT_ALIGN : Nat) : Int) al = .ok ((((specAligned al).getD STRUCT_INIT_ALIGN : Nat)) : Int) ∧
    (∀ n, specAligned al = some n → 0 < n) := by
  rw [alignAttr_eq]
  cases al with
  | none => simp [specAligned]
  | some n =>
    simp only [alignedOk, isPow2le28_eq, Bool.or_eq_true, beq_iff_eq] at h
    by_cases h0 : n = 0
    · subst h0; simp [specAligned]
    · have hp : pow2le28 n = true := by
        rcases h with h | h
        · exact absurd h h0
        · exact h
      have hpos := (pow2le28_bounds hp).1
      simp only [h0, hp, if_false, if_true, specAligned, Option.getD_some, Option.some.injEq, Except.ok.injEq]
      refine ⟨by omega, ?_⟩
      intro m hm; omega

theorem specMembers_cons (d : MemDecl) (as : Aligns) (ty : Ty) (rest : Members) :
    specMembers (.cons d as ty rest) =
      { size := (specSizeAlign ty).1, tyAlign := (specSizeAlign ty).2, alignas := specAligns as,
        bitWidth := d.bitWidth.map Int.toNat, named := d.named } :: specMembers rest := by
  simp [specMembers]

theorem sizeAlign_eq_layout (t : Ty) : t.sizeAlign = t.layout >>= fun l => pure (l.size, l.align) := by
  cases t <;> simp only [Ty.sizeAlign, Ty.layout, bind_assoc, pure_bind]
  all_goals rfl

theorem aggregate_eq {β : Type} {al : Option Int} {ms : Members} (hal : alignedOk al = true)
    (hms : ms.toMems = .ok ((specMembers ms).map SMem.toMem)) (k : Int → List Mem → Except TyFail β) :
    (alignAttr ((STRUCT_INIT_ALIGN : Nat) : Int) al >>= fun a0 => ms.toMems >>= fun mems => k a0 mems) =
      k (((specAligned al).getD STRUCT_INIT_ALIGN : Nat) : Int) ((specMembers ms).map SMem.toMem) := by
  rw [(aligned_cast hal).1, hms]; rfl

theorem ty_of_layout {t : Ty} (h : t.layout = .ok (specTy t).toLayout) :
    t.sizeAlign = .ok (((specSizeAlign t).1 : Nat), ((specSizeAlign t).2 : Nat)) := by
  rw [sizeAlign_eq_layout, h]
  cases t <;> first | rfl | (simp only [specTy, specSizeAlign_struct, specSizeAlign_union]; rfl)

/- The walk is stated for `Ty.layout`; what `_Alignas(type-name)` and `struct_members` need of a sub-description, its size and
   alignment, is the projection `ty_of_layout`. -/
mutual
  theorem layout_eq : ∀ (t : Ty), t.ok true = true → t.layout = .ok (specTy t).toLayout
    | .prim t, _ => by
      have := prim_eq t
      simp only [Ty.layout, Ty.sizeAlign, specTy, specSizeAlign, this.1, this.2.1]; rfl
    | .enum, _ => rfl
    | .ptr, _ => rfl
    | .arr e n, h => by
      simp only [Ty.ok, Bool.and_eq_true, decide_eq_true_eq] at h
      have : ((n.toNat : Nat) : Int) = n := Int.toNat_of_nonneg h.2
      simp only [Ty.layout, Ty.sizeAlign, ty_of_layout (layout_eq e h.1), bind, Except.bind, pure, Except.pure, specTy,
        specSizeAlign, SLayout.toLayout, List.map_nil, Int.natCast_mul, this]
    | .flex e, h => by
      simp only [Ty.ok] at h
      simp only [Ty.layout, Ty.sizeAlign, ty_of_layout (layout_eq e h), bind, Except.bind, pure, Except.pure, specTy,
        specSizeAlign, SLayout.toLayout, List.map_nil, Int.mul_zero, Int.natCast_zero]
    | .struct p al ms, h => by
      simp only [Ty.ok, Bool.not_true, Bool.false_or, Bool.and_eq_true, Bool.not_eq_true'] at h
      obtain ⟨⟨hms, hal⟩, hB, hA⟩ := h
      have ih := ms_eq ms hms
      rw [Ty.layout, aggregate_eq hal ih.1,
        structLayout_eq p (specAligned al) (specMembers ms) (aligned_cast hal).2 ih.2 hB hA]
      rfl
    | .union p al ms, h => by
      simp only [Ty.ok, Bool.not_true, Bool.false_or, Bool.and_eq_true, Bool.not_eq_true'] at h
      obtain ⟨⟨hms, hal⟩, hU, hA⟩ := h
      have ih := ms_eq ms hms
      rw [Ty.layout, aggregate_eq hal ih.1,
        unionLayout_eq p (specAligned al) (specMembers ms) (aligned_cast hal).2 ih.2 hU hA]
      rfl
  theorem as_eq : ∀ (as : Aligns), as.ok true = true → ∀ acc : Nat,
      as.eval (acc : Int) = .ok (((max acc (specAligns as) : Nat)) : Int)
    | .nil, _, acc => by simp [Aligns.eval, specAligns]
    | .const n rest, h, acc => by
      simp only [Aligns.ok, Bool.and_eq_true] at h
      have hgood : alignedAttrBad n = false := (alignedAttrBad_iff n).2 (by simpa [isPow2le28_eq] using h.1)
      have hn0 : 0 ≤ n := by
        rcases (alignedAttrBad_iff n).1 hgood with h0 | hp
        · omega
        · have := pow2le28_bounds hp; omega
      replace h := And.intro hn0 h.2
      have hbad : ¬ alignasConstBad n = true := by rw [alignasConstBad_eq, hgood]; simp
      have ih := as_eq rest h.2 (max acc n.toNat)
      have hc : alignasCombine (acc : Int) (alignasOfConst n) = ((max acc n.toNat : Nat) : Int) := by
        unfold alignasCombine alignasOfConst; omega
      simp only [Aligns.eval, hbad, Bool.false_eq_true, if_false, hc, ih, specAligns, Nat.max_assoc]
    | .type t rest, h, acc => by
      simp only [Aligns.ok, Bool.and_eq_true] at h
      have iht := ty_of_layout (layout_eq t h.1)
      have ih := as_eq rest h.2 (max acc (specSizeAlign t).2)
      have hc : alignasCombine (acc : Int) (alignasOfType ((specSizeAlign t).1 : Nat) ((specSizeAlign t).2 : Nat)) =
          ((max acc (specSizeAlign t).2 : Nat) : Int) := by
        unfold alignasCombine alignasOfType; omega
      simp only [Aligns.eval, iht, bind, Except.bind, hc, ih, specAligns, Nat.max_assoc]
  theorem ms_eq : ∀ (ms : Members), ms.ok true = true →
      ms.toMems = .ok ((specMembers ms).map SMem.toMem) ∧ ∀ m ∈ specMembers ms, m.WF
    | .nil, _ => by
      refine ⟨rfl, ?_⟩
      intro m hm
      simp [specMembers] at hm
    | .cons d as ty rest, h => by
      simp only [Members.ok, Bool.and_eq_true] at h
      obtain ⟨⟨⟨hty, hrest⟩, has⟩, hbf⟩ := h
      have ih1 := ty_of_layout (layout_eq ty hty)
      have ih2 := ms_eq rest hrest
      have iha := as_eq as has 0
      simp only [Nat.zero_max, Int.natCast_zero] at iha
      have hsm := specMembers_cons d as ty rest
      have hal : memberAlign ((specAligns as : Nat) : Int) (((specSizeAlign ty).2 : Nat) : Int) =
          ((if specAligns as ≠ 0 then specAligns as else (specSizeAlign ty).2 : Nat) : Int) := by
        unfold memberAlign
        by_cases h0 : specAligns as = 0
        · simp [h0]
        · simp [h0]
      have hguard : (d.bitWidth.isSome && !ty.isInteger) = false := by
        cases hb : d.bitWidth with
        | none => rfl
        | some w =>
          rw [hb] at hbf
          simp only [Bool.and_eq_true] at hbf
          rw [← isBitfieldBase_eq_isInteger, hbf.1.1.1.1]; rfl
      constructor
      · simp only [Members.toMems, iha, ih1, ih2.1, bind, Except.bind, hguard, Bool.false_eq_true, if_false, pure, Except.pure, hsm,
          List.map_cons, SMem.toMem, Except.ok.injEq, List.cons.injEq, and_true, Mem.mk.injEq, hal, true_and]
        cases hb : d.bitWidth with
        | none => simp
        | some w =>
          rw [hb] at hbf
          simp only [Bool.and_eq_true, decide_eq_true_eq] at hbf
          have : ((w.toNat : Nat) : Int) = w := Int.toNat_of_nonneg hbf.1.1.2
          simp [this]
      · intro m hm
        rw [hsm] at hm
        rcases List.mem_cons.mp hm with rfl | hm'
        · refine ⟨show 0 < (specSizeAlign ty).2 by have := (sizeAlign_align_pos ih1).1; omega, ?_⟩
          cases hb : d.bitWidth with
          | none => simp
          | some w =>
            rw [hb] at hbf
            simp only [Bool.and_eq_true, decide_eq_true_eq, Bool.or_eq_true, Bool.not_eq_true', beq_iff_eq] at hbf
            obtain ⟨⟨⟨⟨hbase, ha0⟩, hw0⟩, hw8⟩, hnm⟩ := hbf
            have hp := bitfieldBase_props hbase
            simp only [Option.map_some]
            refine ⟨hp.1, ha0, hp.2.1, by omega, ?_⟩
            intro hn
            rcases hnm with hnm | hnm
            · rw [hn] at hnm; cases hnm
            · omega
        · exact ih2.2 m hm'
end

theorem ty_eq (t : Ty) (h : t.ok true = true) :
    t.sizeAlign = .ok (((specSizeAlign t).1 : Nat), ((specSizeAlign t).2 : Nat)) :=
  ty_of_layout (layout_eq t h)

theorem alignedAccepted_eq (al : Option Int) : alignedAccepted al = alignedOk al := by
  cases al <;> rfl

mutual
  theorem accepted_eq_ty : ∀ (t : Ty), t.accepted = specAccepted t
    | .prim _ => rfl
    | .enum => rfl
    | .ptr => rfl
    | .arr e _ => by simp only [Ty.accepted, specAccepted]; exact accepted_eq_ty e
    | .flex e => by simp only [Ty.accepted, specAccepted]; exact accepted_eq_ty e
    | .struct _ al ms => by simp only [Ty.accepted, specAccepted, alignedAccepted_eq, accepted_eq_ms ms]
    | .union _ al ms => by simp only [Ty.accepted, specAccepted, alignedAccepted_eq, accepted_eq_ms ms]
  theorem accepted_eq_as : ∀ (as : Aligns), as.accepted = specAcceptedAs as
    | .nil => rfl
    | .const n rest => by simp only [Aligns.accepted, specAcceptedAs, isPow2le28_eq, accepted_eq_as rest]
    | .type t rest => by simp only [Aligns.accepted, specAcceptedAs, accepted_eq_ty t, accepted_eq_as rest]
  theorem accepted_eq_ms : ∀ (ms : Members), ms.accepted = specAcceptedMs ms
    | .nil => rfl
    | .cons d as ty rest => by
      simp only [Members.accepted, specAcceptedMs, accepted_eq_as as, accepted_eq_ty ty, accepted_eq_ms rest,
        isBitfieldBase_eq_isInteger]
end

mutual
  theorem ok_accepted_ty : ∀ (r : Bool) (t : Ty), t.ok r = true → t.accepted = true
    | _, .prim _, _ => rfl
    | _, .enum, _ => rfl
    | _, .ptr, _ => rfl
    | r, .arr e n, h => by
      simp only [Ty.ok, Bool.and_eq_true] at h
      simp only [Ty.accepted]; exact ok_accepted_ty r e h.1
    | r, .flex e, h => by
      simp only [Ty.ok] at h
      simp only [Ty.accepted]; exact ok_accepted_ty r e h
    | r, .struct p al ms, h => by
      simp only [Ty.ok, Bool.and_eq_true] at h
      simp only [Ty.accepted, Bool.and_eq_true]
      exact ⟨h.1.2, ok_accepted_ms r ms h.1.1⟩
    | r, .union p al ms, h => by
      simp only [Ty.ok, Bool.and_eq_true] at h
      simp only [Ty.accepted, Bool.and_eq_true]
      exact ⟨h.1.2, ok_accepted_ms r ms h.1.1⟩
  theorem ok_accepted_as : ∀ (r : Bool) (as : Aligns), as.ok r = true → as.accepted = true
    | _, .nil, _ => rfl
    | r, .const n rest, h => by
      simp only [Aligns.ok, Bool.and_eq_true] at h
      simp only [Aligns.accepted, Bool.and_eq_true]
      exact ⟨by simpa [isPow2le28_eq] using h.1, ok_accepted_as r rest h.2⟩
    | r, .type t rest, h => by
      simp only [Aligns.ok, Bool.and_eq_true] at h
      simp only [Aligns.accepted, Bool.and_eq_true]
      exact ⟨ok_accepted_ty r t h.1, ok_accepted_as r rest h.2⟩
  theorem ok_accepted_ms : ∀ (r : Bool) (ms : Members), ms.ok r = true → ms.accepted = true
    | _, .nil, _ => rfl
    | r, .cons d as ty rest, h => by
      simp only [Members.ok, Bool.and_eq_true] at h
      obtain ⟨⟨⟨hty, hrest⟩, has⟩, hbf⟩ := h
      simp only [Members.accepted, Bool.and_eq_true, Bool.or_eq_true]
      refine ⟨⟨⟨ok_accepted_as r as has, ok_accepted_ty r ty hty⟩, ?_⟩, ok_accepted_ms r rest hrest⟩
      cases hb : d.bitWidth with
      | none => left; rfl
      | some w =>
        right
        rw [hb] at hbf
        simp only [Bool.and_eq_true] at hbf
        rw [← isBitfieldBase_eq_isInteger]; exact hbf.1.1.1.1
end

/-! ### a well-formed description that touches no known-finding region is in the domain `Ty.ok true` (`Ty.inRegion`,
    Spec/LayoutRegions.lean, is what `drv_c08 regions` prints; the check attributes a mismatch between chibicc and gcc to a known
    finding only inside a region) -/

mutual
  theorem ok_of_noRegion_ty : ∀ (t : Ty), t.ok false = true → (∀ k, k < 3 → t.inRegion k = false) → t.ok true = true
    | .prim _, _, _ => rfl
    | .enum, _, _ => rfl
    | .ptr, _, _ => rfl
    | .arr e n, h, hr => by
      simp only [Ty.ok, Bool.and_eq_true] at h ⊢
      exact ⟨ok_of_noRegion_ty e h.1 (fun k hk => by simpa [Ty.inRegion] using hr k hk), h.2⟩
    | .flex e, h, hr => by
      simp only [Ty.ok] at h ⊢
      exact ok_of_noRegion_ty e h (fun k hk => by simpa [Ty.inRegion] using hr k hk)
    | .struct p al ms, h, hr => by
      simp only [Ty.ok, Bool.and_eq_true] at h
      have h0 := hr 0 (by omega)
      have h1 := hr 1 (by omega)
      simp only [Ty.inRegion, nodeInRegion, Bool.or_eq_false_iff, Bool.true_and] at h0 h1
      have ih := ok_of_noRegion_ms ms h.1.1 (fun k hk => by
        have := hr k hk; simp only [Ty.inRegion, Bool.or_eq_false_iff] at this; exact this.2)
      simp only [Ty.ok, Bool.and_eq_true, ih, h.1.2, h0.1, h1.1, Bool.not_true, Bool.false_or, Bool.not_false, and_self]
    | .union p al ms, h, hr => by
      simp only [Ty.ok, Bool.and_eq_true] at h
      have h2 := hr 2 (by omega)
      have h1 := hr 1 (by omega)
      simp only [Ty.inRegion, nodeInRegion, Bool.or_eq_false_iff, Bool.not_false, Bool.true_and] at h2 h1
      have ih := ok_of_noRegion_ms ms h.1.1 (fun k hk => by
        have := hr k hk; simp only [Ty.inRegion, Bool.or_eq_false_iff] at this; exact this.2)
      simp only [Ty.ok, Bool.and_eq_true, ih, h.1.2, h2.1, h1.1, Bool.not_true, Bool.false_or, Bool.not_false, and_self]
  theorem ok_of_noRegion_as : ∀ (as : Aligns), as.ok false = true → (∀ k, k < 3 → as.inRegion k = false) → as.ok true = true
    | .nil, _, _ => rfl
    | .const n rest, h, hr => by
      simp only [Aligns.ok, Bool.and_eq_true] at h ⊢
      exact ⟨h.1, ok_of_noRegion_as rest h.2 (fun k hk => by simpa [Aligns.inRegion] using hr k hk)⟩
    | .type t rest, h, hr => by
      simp only [Aligns.ok, Bool.and_eq_true] at h ⊢
      have hr' : ∀ k, k < 3 → t.inRegion k = false ∧ rest.inRegion k = false := fun k hk => by
        have := hr k hk; simpa [Aligns.inRegion] using this
      exact ⟨ok_of_noRegion_ty t h.1 (fun k hk => (hr' k hk).1), ok_of_noRegion_as rest h.2 (fun k hk => (hr' k hk).2)⟩
  theorem ok_of_noRegion_ms : ∀ (ms : Members), ms.ok false = true → (∀ k, k < 3 → ms.inRegion k = false) → ms.ok true = true
    | .nil, _, _ => rfl
    | .cons d as ty rest, h, hr => by
      simp only [Members.ok, Bool.and_eq_true] at h ⊢
      have hr' : ∀ k, k < 3 → (as.inRegion k = false ∧ ty.inRegion k = false) ∧ rest.inRegion k = false := fun k hk => by
        have := hr k hk; simpa [Members.inRegion] using this
      exact ⟨⟨⟨ok_of_noRegion_ty ty h.1.1.1 (fun k hk => (hr' k hk).1.2), ok_of_noRegion_ms rest h.1.1.2 (fun k hk => (hr' k hk).2)⟩,
        ok_of_noRegion_as as h.1.2 (fun k hk => (hr' k hk).1.1)⟩, h.2⟩
end

end ChibiVerif.Layout
