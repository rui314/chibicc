/-
C13 — the recursion budget of the initializer parser (Model/Init.lean) is never exhausted: every C call or loop iteration of
the thirteen mutually recursive functions consumes a token, descends one level of the type, or steps over one member.
`wt ty` bounds the calls that consume no token (4 per array level: initializer2 → array_initializer2 →
count_array_init_elements → its loop; 4 per struct/union level plus 1 per member); every token pays for at most two
further calls.  Induction over the budget for all functions at once, with the invariant "the rest is no longer than the input".
It is a second walk over the thirteen functions beside the one of Lemmas/C13Init.lean and not a conjunct of it: this one needs
no hypothesis on the type or the tokens (`tyOK`, `toksOK`, `shape`) and carries a budget the other knows nothing of.
-/
import ChibiVerif.Model.Init
import ChibiVerif.Lemmas.InitBracedStr
import ChibiVerif.Lemmas.ExceptLemmas

namespace ChibiVerif.C13InitFuel
open ChibiVerif.Init
open Except (Ends)

/-- the outcome is a value satisfying `Q`, a diagnostic or an abort site — never the exhausted recursion budget.  This is
    `Except.Ends (· ≠ .fuel) Q` (`NF.iff_ends`), written out because the property statements name it. -/
def NF {α : Type} (Q : α → Prop) : Except Fail α → Prop
  | .ok a => Q a
  | .error .fuel => False
  | .error (.diag _) => True
  | .error (.crash _) => True

theorem NF.iff_ends {α : Type} {Q : α → Prop} {x : Except Fail α} : NF Q x ↔ Ends (· ≠ .fuel) Q x := by
  cases x with
  | ok a => exact Iff.rfl
  | error e => cases e <;> simp [NF, Ends]

theorem NF.mono {α : Type} {P Q : α → Prop} {x : Except Fail α} (h : NF P x) (hpq : ∀ a, P a → Q a) : NF Q x :=
  iff_ends.2 ((iff_ends.1 h).mono (fun _ => id) hpq)

theorem NF.rest_le {α : Type} {x : Except Fail (α × List ITok)} {n m : Nat} (h : NF (fun r => r.2.length ≤ n) x)
    (hnm : n ≤ m) : NF (fun r => r.2.length ≤ m) x :=
  h.mono fun _ hr => Nat.le_trans hr hnm

theorem NF.bind {α β : Type} {P : α → Prop} {Q : β → Prop} {x : Except Fail α} {k : α → Except Fail β}
    (hx : NF P x) (hk : ∀ a, P a → NF Q (k a)) : NF Q (x >>= k) :=
  iff_ends.2 ((iff_ends.1 hx).bind fun a ha => iff_ends.1 (hk a ha))

theorem NF.foldlM {α β : Type} {I : β → Prop} {s : β → α → Except Fail β}
    (hs : ∀ b a, I b → NF I (s b a)) (l : List α) (b : β) (hb : I b) : NF I (l.foldlM s b) :=
  iff_ends.2 (Ends.foldlM_mem l b (fun b a _ hb => iff_ends.1 (hs b a hb)) hb)

theorem NF.iteBind {α β : Type} {c : Prop} [Decidable c] {x y : Except Fail α} {k : α → Except Fail β}
    {P : α → Prop} {Q : β → Prop} (h : NF P (if c then x else y)) (hk : ∀ a, P a → NF Q (k a)) :
    NF Q (if c then x >>= k else y >>= k) := by
  by_cases hc : c <;> simp only [hc, ↓reduceIte] at h ⊢ <;> exact NF.bind h hk

theorem NF.ne_fuel {α : Type} {Q : α → Prop} {x : Except Fail α} (h : NF Q x) : x ≠ .error .fuel := by
  intro e; rw [e] at h; exact h

mutual
  /-- calls of the parser on a value of type `ty` that consume no token, along one chain of the recursion -/
  def wt : Ty → Nat
    | .scalar .. => 1
    | .array e _ => wt e + 4
    | .inc e => wt e + 4
    | .struct ms _ _ => wtMs ms + 4
    | .union ms _ _ => wtMs ms + 4
  def wtMs : Members → Nat
    | [] => 0
    | (_, t) :: r => wt t + wtMs r + 1
end

mutual
  theorem wt_le : ∀ ty : Ty, wt ty ≤ 4 * ty.nodes
    | .scalar .. => by simp only [wt, Ty.nodes]; omega
    | .array e _ | .inc e => by have := wt_le e; simp only [wt, Ty.nodes]; omega
    | .struct ms _ _ | .union ms _ _ => by have := wtMs_le ms; simp only [wt, Ty.nodes]; omega
  theorem wtMs_le : ∀ ms : Members, wtMs ms ≤ 4 * nodesMs ms
    | [] => by simp only [wtMs, nodesMs]; omega
    | (_, t) :: r => by have := wt_le t; have := wtMs_le r; simp only [wtMs, nodesMs]; omega
end

theorem wt_pos (ty : Ty) : 1 ≤ wt ty := by cases ty <;> simp only [wt] <;> omega

theorem wtMs_drop_get : ∀ (ms : Members) (k : Nat) (mi : MemInfo) (t : Ty), ms[k]? = some (mi, t) →
    wtMs (ms.drop k) = wt t + wtMs (ms.drop (k+1)) + 1
  | [], k, _, _, h => by simp at h
  | (m, t') :: r, 0, mi, t, h => by
    simp only [List.getElem?_cons_zero, Option.some.injEq, Prod.mk.injEq] at h
    obtain ⟨_, rfl⟩ := h
    simp [wtMs]
  | _ :: r, k+1, mi, t, h => by
    simp only [List.getElem?_cons_succ] at h
    simpa using wtMs_drop_get r k mi t h

theorem wtMs_drop_le : ∀ (ms : Members) (k : Nat), wtMs (ms.drop k) ≤ wtMs ms
  | [], k => by simp
  | _ :: _, 0 => by simp
  | (m, t) :: r, k+1 => by have := wtMs_drop_le r k; simp only [List.drop_succ_cons, wtMs]; omega

theorem wt_mem_le (ms : Members) (k : Nat) (mi : MemInfo) (t : Ty) (h : ms[k]? = some (mi, t)) : wt t + 1 ≤ wtMs ms := by
  have h1 := wtMs_drop_get ms k mi t h
  have h2 := wtMs_drop_le ms k
  omega

theorem skipTok_nf (t : ITok) (w : String) (toks : List ITok) :
    NF (fun r => r.length + 1 = toks.length) (skipTok t w toks) := by
  cases toks with
  | nil => simp [skipTok, NF]
  | cons x r => simp only [skipTok]; split <;> simp [NF]

theorem parseAssign_nf (toks : List ITok) : NF (fun r => r.2.length + 1 = toks.length) (parseAssign toks) := by
  unfold parseAssign; split <;> simp [NF]

def b2n : Bool → Nat
  | true => 1
  | false => 0

/-- the comma that precedes every element but the first: skipping it pays for the call that follows, and the first element
    has the extra unit `b2n first` in its budget -/
theorem optComma_nf (c : Bool) (toks : List ITok) :
    NF (fun r => r.length ≤ toks.length ∧ 2 * r.length + 1 ≤ 2 * toks.length + b2n c)
      (if c = true then (pure toks : Except Fail (List ITok)) else skipTok .comma "," toks) := by
  cases c
  · simp only [Bool.false_eq_true, ↓reduceIte]
    exact (skipTok_nf _ _ _).mono (fun r hr => ⟨by omega, by omega⟩)
  · simp only [↓reduceIte]; exact ⟨Nat.le_refl _, Nat.le_refl _⟩

/-- the same for `array_initializer2`, whose first element is the one with index 0 -/
theorem optComma'_nf (i : Nat) (toks : List ITok) :
    NF (fun r => r.length ≤ toks.length ∧ 2 * r.length + 1 ≤ 2 * toks.length + (1 - i))
      (if i > 0 then skipTok .comma "," toks else (pure toks : Except Fail (List ITok))) := by
  split
  · exact (skipTok_nf _ _ _).mono (fun r hr => ⟨by omega, by omega⟩)
  · exact ⟨Nat.le_refl _, by omega⟩

theorem skipExcess_nf : ∀ (f : Nat) (toks : List ITok), toks.length + 1 ≤ f →
    NF (fun r => r.length ≤ toks.length) (skipExcess f toks)
  | 0, _, h => by omega
  | f+1, toks, h => by
    have hfall : ∀ toks : List ITok, NF (fun r => r.length ≤ toks.length)
        (do let (_, r) ← parseAssign toks; pure r : Except Fail (List ITok)) := by
      intro toks
      exact NF.bind (parseAssign_nf toks) (fun a ha => by show a.2.length ≤ _; omega)
    cases toks with
    | nil => exact hfall _
    | cons t r =>
      cases t <;> first | exact hfall _ | skip
      simp only [skipExcess]
      simp only [List.length_cons] at h
      refine NF.bind (skipExcess_nf f r (by omega)) ?_
      intro a ha
      exact (skipTok_nf _ _ a).mono (fun b hb => by simp only [List.length_cons]; omega)

theorem arrayDesignator_nf (len : Nat) (toks : List ITok) :
    NF (fun r => r.2.2.length + 1 = toks.length) (arrayDesignator len toks) := by
  unfold arrayDesignator
  repeat' split
  all_goals simp [NF]

theorem structDesignator_nf (name : String) : ∀ (ms : Members) (i : Nat), NF (fun _ => True) (structDesignator name ms i)
  | [], i => by simp [structDesignator, NF]
  | (mi, t) :: r, i => by
    have := structDesignator_nf name r (i+1)
    simp only [structDesignator]
    repeat' split
    all_goals first | exact this | simp [NF]

theorem getChild_nf (cs : List Init) (i : Nat) : NF (fun _ => True) (getChild cs i) := by
  unfold getChild; split <;> simp [NF]

theorem memTy_nf (ms : Members) (k : Nat) : NF (fun t => ∃ mi, ms[k]? = some (mi, t)) (memTy ms k) := by
  unfold memTy
  split
  · rename_i mi t h; exact ⟨mi, h⟩
  · trivial

theorem strFill_nf (bytes : List Nat) (w : Nat) : ∀ (n : Nat) (cs : List Init) (i : Nat),
    NF (fun _ => True) (strFill bytes w cs i n)
  | 0, cs, i => by cases cs <;> simp [strFill, NF]
  | n+1, [], i => by simp [strFill, NF]
  | n+1, c :: cs, i => by
    simp only [strFill]
    split
    · trivial
    · exact NF.bind (strFill_nf bytes w n cs (i+1)) (fun _ _ => trivial)

theorem stringInitializer_nf (elem : Ty) (bytes : List Nat) (esz : Nat) (rest : List ITok) (init : Init) :
    NF (fun r => r.2 = rest) (stringInitializer elem bytes esz rest init) := by
  unfold stringInitializer
  split
  · trivial
  · simp only []
    split
    · exact NF.bind (strFill_nf ..) (fun _ _ => rfl)
    · trivial

/-- all functions of the block at one budget: enough budget ⇒ not "out of fuel", and the rest is no longer than the input -/
structure NH (f : Nat) : Prop where
  designation : ∀ ty toks init, 2 * toks.length + wt ty + 1 ≤ f →
    NF (fun r => r.2.length ≤ toks.length) (designation f ty toks init)
  countLoop : ∀ elem toks d i mx first, 2 * toks.length + wt elem + b2n first ≤ f →
    NF (fun _ => True) (countLoop f elem toks d i mx first)
  countArrayInit : ∀ elem toks, 2 * toks.length + wt elem + 2 ≤ f → NF (fun _ => True) (countArrayInit f elem toks)
  arrayInit1Loop : ∀ elem toks init i first, 2 * toks.length + wt elem + b2n first ≤ f →
    NF (fun r => r.2.length ≤ toks.length) (arrayInit1Loop f elem toks init i first)
  arrayInit1 : ∀ elem toks init, 2 * toks.length + wt elem + 3 ≤ f →
    NF (fun r => r.2.length ≤ toks.length) (arrayInit1 f elem toks init)
  arrayInit2Loop : ∀ elem toks init i, 2 * toks.length + wt elem + (1 - i) ≤ f →
    NF (fun r => r.2.length ≤ toks.length) (arrayInit2Loop f elem toks init i)
  arrayInit2 : ∀ elem toks init i, 2 * toks.length + wt elem + 3 ≤ f →
    NF (fun r => r.2.length ≤ toks.length) (arrayInit2 f elem toks init i)
  structInit1Loop : ∀ ms toks init mem first, 2 * toks.length + wtMs ms + 1 + b2n first ≤ f →
    NF (fun r => r.2.length ≤ toks.length) (structInit1Loop f ms toks init mem first)
  structInit1 : ∀ ms toks init, 2 * toks.length + wtMs ms + 2 ≤ f →
    NF (fun r => r.2.length ≤ toks.length) (structInit1 f ms toks init)
  structInit2 : ∀ ms toks init mem first, 2 * toks.length + wtMs (ms.drop mem) + 1 + b2n first ≤ f →
    NF (fun r => r.2.length ≤ toks.length) (structInit2 f ms toks init mem first)
  unionRest : ∀ ms toks init, 2 * toks.length + wtMs ms + 1 ≤ f →
    NF (fun r => r.2.length ≤ toks.length) (unionRest f ms toks init)
  unionInit : ∀ ms toks init, 2 * toks.length + wtMs ms + 3 ≤ f →
    NF (fun r => r.2.length ≤ toks.length) (unionInit f ms toks init)
  initializer2 : ∀ ty toks init, 2 * toks.length + wt ty ≤ f →
    NF (fun r => r.2.length ≤ toks.length) (initializer2 f ty toks init)

/-- an element: `initializer2(&tok, tok, init->children[i])` -/
theorem elemStep_nf {f : Nat} (ih : NH f) {α : Type} {Q : α → Prop} {ty : Ty} {cs : List Init} {i : Nat} {toks : List ITok}
    {K : Init × List ITok → Except Fail α} (hf : 2 * toks.length + wt ty ≤ f)
    (hK : ∀ r, r.2.length ≤ toks.length → NF Q (K r)) :
    NF Q (getChild cs i >>= fun c => initializer2 f ty toks c >>= K) :=
  NF.bind (getChild_nf _ _) fun c _ => NF.bind (ih.initializer2 ty toks c hf) hK

/-- the same for member `k` of a struct or union: its type weighs less than the member list -/
theorem memberStep_nf {f : Nat} (ih : NH f) {α : Type} {Q : α → Prop} {ms : Members} {cs : List Init} {k : Nat}
    {toks : List ITok} {K : Ty → Init × List ITok → Except Fail α} (hf : 2 * toks.length + wtMs ms ≤ f + 1)
    (hK : ∀ mty r, r.2.length ≤ toks.length → NF Q (K mty r)) :
    NF Q (memTy ms k >>= fun mty => getChild cs k >>= fun c => initializer2 f mty toks c >>= K mty) :=
  NF.bind (memTy_nf ms k) fun mty ⟨mi, hget⟩ =>
    elemStep_nf ih (by have := wt_mem_le ms k mi mty hget; omega) (hK mty)

/-- the node `array_initializer1/2` work on: a `.flex` node gets its bound from count_array_init_elements -/
theorem resolveFlex_nf {f : Nat} (ih : NH f) (elem : Ty) (toks : List ITok) (hf : 2 * toks.length + wt elem + 2 ≤ f) (init : Init) :
    NF (fun _ => True) (match init with
      | .flex => do
        let len ← countArrayInit f elem toks
        pure (newInit (.array elem len) false)
      | i => pure i : Except Fail Init) := by
  split
  · exact NF.bind (ih.countArrayInit elem toks hf) fun _ _ => trivial
  · trivial

theorem wt_elem {ty e : Ty} (h : ty.elem? = some e) : wt ty = wt e + 4 := by
  cases ty <;> simp only [Ty.elem?, Option.some.injEq] at h <;> first | (subst h; simp only [wt]) | cases h

theorem rangeLoop_nf (f : Nat) (ih : NH f) (elem : Ty) (tok : List ITok) (hf : 2 * tok.length + wt elem + 1 ≤ f)
    (init : Init) (l : List Nat) :
    NF (fun r => r.2.length ≤ tok.length)
      (l.foldlM (fun (acc : Init × List ITok) i => do
          let c ← getChild acc.1.children i
          let __x ← designation f elem tok c
          pure (acc.1.setChild i __x.1, __x.2)) (init, tok)) := by
  refine NF.foldlM (I := fun r => r.2.length ≤ tok.length) ?_ l (init, tok) (Nat.le_refl _)
  intro b a _
  refine NF.bind (getChild_nf _ _) (fun c _ => ?_)
  refine NF.bind (ih.designation elem tok c hf) (fun r hr => ?_)
  exact hr

theorem desg_tok_len (anon : Bool) (name : String) (r : List ITok) :
    (if anon = true then (ITok.dot name :: r) else r).length ≤ r.length + 1 := by
  cases anon <;> simp

/-- a `.name` designator, once the member is found: `designation` on the member's type, on the tokens after the name (or, for
    an anonymous member, on the same tokens again) -/
theorem desgMember_nf {f : Nat} (ih : NH f) {ms : Members} {k : Nat} {mty : Ty} (hm : ∃ mi, ms[k]? = some (mi, mty))
    (anon : Bool) (name : String) (r : List ITok) (c : Init) (hf : 2 * r.length + wtMs ms + 2 ≤ f) :
    NF (fun r2 => r2.2.length ≤ r.length + 1) (designation f mty (if anon = true then .dot name :: r else r) c) := by
  obtain ⟨mi, hget⟩ := hm
  have hw := wt_mem_le ms _ mi mty hget
  have hl := desg_tok_len anon name r
  exact (ih.designation mty _ c (by omega)).mono (fun r2 hr2 => Nat.le_trans hr2 hl)

theorem desgChain_nf {f : Nat} (ih : NH f) {α : Type} {Q : α → Prop} (name : String) (ms : Members) (r : List ITok)
    (hf : 2 * r.length + wtMs ms + 2 ≤ f) (cs : Nat × Bool → Ty → List Init)
    {K : Nat × Bool → Ty → Init → Init × List ITok → Except Fail α}
    (hK : ∀ kd mty c r2, r2.2.length ≤ r.length + 1 → NF Q (K kd mty c r2)) :
    NF Q (structDesignator name ms 0 >>= fun kd => memTy ms kd.1 >>= fun mty => getChild (cs kd mty) kd.1 >>= fun c =>
      designation f mty (if kd.2 = true then .dot name :: r else r) c >>= fun r2 => K kd mty c r2) :=
  NF.bind (structDesignator_nf name ms 0) fun kd _ => NF.bind (memTy_nf ms kd.1) fun mty hm =>
    NF.bind (getChild_nf _ _) fun c _ => NF.bind (desgMember_nf ih hm kd.2 name r c hf) fun r2 hr2 => hK kd mty c r2 hr2

theorem nh_zero : NH 0 where
  designation := fun _ _ _ h => by omega
  countLoop := fun e _ _ _ _ _ h => by have := wt_pos e; omega
  countArrayInit := fun _ _ h => by omega
  arrayInit1Loop := fun e _ _ _ _ h => by have := wt_pos e; omega
  arrayInit1 := fun _ _ _ h => by omega
  arrayInit2Loop := fun e _ _ _ h => by have := wt_pos e; omega
  arrayInit2 := fun _ _ _ _ h => by omega
  structInit1Loop := fun _ _ _ _ _ h => by omega
  structInit1 := fun _ _ _ h => by omega
  structInit2 := fun _ _ _ _ _ h => by omega
  unionRest := fun _ _ _ h => by omega
  unionInit := fun _ _ _ h => by omega
  initializer2 := fun t _ _ h => by have := wt_pos t; omega

-- unfolding idioms: see the note above `nc_succ` (Lemmas/C13Init.lean)
theorem nh_succ (f : Nat) (ih : NH f) : NH (f + 1) where
  initializer2 := by
    intro ty toks init hf
    unfold initializer2; dsimp only
    split
    -- `.array` and `.inc`: the same arm
    iterate 2
      · simp only [wt] at hf
        split
        · split
          · refine (stringInitializer_nf ..).mono ?_
            intro r hr; rw [hr]; simp only [List.length_cons]; omega
          · exact ih.arrayInit2 _ _ _ _ (by omega)
        · split
          · rename_i hbs
            refine (stringInitializer_nf ..).mono ?_
            intro r hr; rw [hr]; have := bracedStr_length hbs; simp only [List.length_cons]; omega
          · exact ih.arrayInit1 _ _ _ (by omega)
        · exact ih.arrayInit2 _ _ _ _ (by omega)
    · -- struct
      simp only [wt] at hf
      split
      · exact ih.structInit1 _ _ _ (by omega)
      · refine NF.bind (parseAssign_nf toks) (fun r hr => ?_)
        split
        · show r.2.length ≤ _; omega
        · refine ih.structInit2 _ toks init 0 true ?_
          simp only [List.drop_zero, b2n]; omega
    · simp only [wt] at hf
      split
      · exact ih.unionInit _ _ _ (by omega)
      · refine NF.bind (parseAssign_nf toks) (fun r hr => ?_)
        split
        · show r.2.length ≤ _; omega
        · exact ih.unionInit _ _ _ (by omega)
    · -- scalar
      simp only [wt] at hf
      split
      · rename_i r
        try simp only [List.length_cons] at hf
        refine NF.bind (ih.initializer2 _ r init (by simp only [wt]; omega)) (fun a ha => ?_)
        refine NF.bind (skipTok_nf _ _ _) (fun b hb => ?_)
        show b.length ≤ _
        simp only [List.length_cons]
        split at hb
        · rename_i t heq
          have ha' : a.2.length ≤ r.length := ha
          rw [heq] at ha'
          simp only [List.length_cons] at ha'
          omega
        · have ha' : a.2.length ≤ r.length := ha
          omega
      · refine NF.bind (parseAssign_nf toks) (fun r hr => ?_)
        show r.2.length ≤ _; omega
  countArrayInit := by
    intro elem toks hf
    rw [countArrayInit]
    exact NF.bind (ih.countLoop elem toks _ 0 0 true (by simp only [b2n]; omega)) (fun _ _ => trivial)
  arrayInit2 := by
    intro elem toks init i hf
    unfold arrayInit2
    refine NF.bind (resolveFlex_nf ih elem toks (by omega) init) fun x _ => ?_
    exact ih.arrayInit2Loop elem toks x i (by omega)
  arrayInit1 := by
    intro elem toks init hf
    rw [arrayInit1]
    refine NF.bind (skipTok_nf _ _ toks) (fun t ht => ?_)
    refine NF.bind (resolveFlex_nf ih elem t (by omega) init) fun x _ => ?_
    exact (ih.arrayInit1Loop elem t x 0 true (by simp only [b2n]; omega)).rest_le (by omega)
  structInit1 := by
    intro ms toks init hf
    rw [structInit1]
    refine NF.bind (skipTok_nf _ _ toks) (fun t ht => ?_)
    exact (ih.structInit1Loop ms t init 0 true (by simp only [b2n]; omega)).rest_le (by omega)
  arrayInit2Loop := by
    intro elem toks init i hf
    unfold arrayInit2Loop; dsimp only
    split
    · refine NF.iteBind (optComma'_nf i toks) (fun t ht => ?_)
      split
      · exact Nat.le_refl _
      · have := ht.2
        refine elemStep_nf ih (by omega) fun r hr => ?_
        have := ht.1
        exact (ih.arrayInit2Loop elem r.2 _ (i + 1) (by omega)).rest_le (by omega)
    · exact Nat.le_refl _
  structInit2 := by
    intro ms toks init mem first hf
    unfold structInit2; dsimp only
    split
    · exact Nat.le_refl _
    · rename_i mi mty hget
      have hd := wtMs_drop_get ms mem mi mty hget
      split
      · exact Nat.le_refl _
      · split
        · exact ih.structInit2 ms toks init (mem + 1) first (by omega)
        · refine NF.iteBind (optComma_nf first toks) (fun t ht => ?_)
          split
          · exact Nat.le_refl _
          · have h1 : 2 * t.length + wt mty ≤ f ∧ 2 * t.length + wtMs (ms.drop (mem + 1)) + 1 ≤ f := by
              have := ht.2; omega
            refine elemStep_nf ih h1.1 fun r hr => ?_
            have := ht.1
            exact (ih.structInit2 ms r.2 _ (mem + 1) false (by simp only [b2n]; omega)).rest_le (by omega)
  countLoop := by
    intro elem toks d i mx first hf
    rw [countLoop]
    split
    · trivial
    · refine NF.iteBind (optComma_nf first toks) (fun t ht => ?_)
      have h1 : 2 * t.length + wt elem ≤ f := by
        have := ht.2; omega
      refine NF.bind (P := fun x => x.2.1.length ≤ t.length) ?_ (fun x hx => ?_)
      · split
        -- `[i] …` and `[i ... j] …`: the same arm
        iterate 2
          · simp only [List.length_cons] at h1 ⊢
            refine NF.bind (ih.designation elem _ d (by omega)) ?_
            intro y hy
            show y.2.length ≤ _; omega
        · refine NF.bind (ih.initializer2 elem t d h1) (fun y hy => ?_)
          exact hy
      · have hx' : x.2.1.length ≤ t.length := hx
        exact ih.countLoop elem x.2.1 x.1 _ _ false (by simp only [b2n]; omega)
  arrayInit1Loop := by
    intro elem toks init i first hf
    unfold arrayInit1Loop; dsimp only
    split
    · rename_i rest hce
      have := consumeEnd_length hce
      show rest.length ≤ _; omega
    · refine NF.iteBind (optComma_nf first toks) (fun t ht => ?_)
      have h1 : 2 * t.length + wt elem ≤ f := by
        have := ht.2; omega
      have htl := ht.1
      have hwp := wt_pos elem
      have fin : ∀ (t2 : List ITok) (x : Init) (j : Nat), t2.length ≤ t.length →
          NF (fun r => r.2.length ≤ toks.length) (arrayInit1Loop f elem t2 x j false) := by
        intro t2 x j h2
        exact (ih.arrayInit1Loop elem t2 x j false (by simp only [b2n]; omega)).rest_le (by omega)
      split
      · refine NF.bind (arrayDesignator_nf _ t) (fun r hr => ?_)
        have hr' : r.2.2.length + 1 = t.length := hr
        refine NF.bind (rangeLoop_nf f ih elem r.2.2 (by omega) init _) ?_
        intro r2 hr2
        exact fin _ _ _ (by omega)
      · split
        · exact elemStep_nf ih h1 fun r hr => fin _ _ _ hr
        · exact NF.bind (skipExcess_nf f t (by omega)) fun r hr => fin _ _ _ hr
  structInit1Loop := by
    intro ms toks init mem first hf
    unfold structInit1Loop; dsimp only
    split
    · rename_i rest hce
      have := consumeEnd_length hce
      show rest.length ≤ _; omega
    · refine NF.iteBind (optComma_nf first toks) (fun t ht => ?_)
      have h1 : 2 * t.length + wtMs ms + 1 ≤ f := by
        have := ht.2; omega
      have htl := ht.1
      have fin : ∀ (t2 : List ITok) (x : Init) (j : Nat), t2.length ≤ t.length →
          NF (fun r => r.2.length ≤ toks.length) (structInit1Loop f ms t2 x j false) := by
        intro t2 x j h2
        exact (ih.structInit1Loop ms t2 x j false (by simp only [b2n]; omega)).rest_le (by omega)
      split
      · rename_i name r
        simp only [List.length_cons] at h1 htl
        refine desgChain_nf ih name ms r (by omega) _ fun kd mty c r2 hr2 => ?_
        exact fin _ _ _ (by simp only [List.length_cons]; omega)
      · split
        · exact memberStep_nf ih (by omega) fun mty r hr => fin _ _ _ hr
        · exact NF.bind (skipExcess_nf f t (by omega)) fun r hr => fin _ _ _ hr
  unionRest := by
    intro ms toks init hf
    rw [unionRest]
    split
    · rename_i rest hce
      have := consumeEnd_length hce
      show rest.length ≤ _; omega
    · refine NF.bind (skipTok_nf _ _ toks) (fun t ht => ?_)
      have ht' : t.length + 1 = toks.length := ht
      have fin : ∀ (t2 : List ITok) (x : Init), t2.length ≤ t.length →
          NF (fun r => r.2.length ≤ toks.length) (unionRest f ms t2 x) := by
        intro t2 x h2
        exact (ih.unionRest ms t2 x (by omega)).rest_le (by omega)
      split
      · rename_i name r
        simp only [List.length_cons] at ht'
        refine desgChain_nf ih name ms r (by omega) _ fun kd mty c r2 hr2 => ?_
        exact fin _ _ (by simp only [List.length_cons]; omega)
      · exact NF.bind (skipExcess_nf f t (by omega)) fun r hr => fin _ _ hr
  unionInit := by
    intro ms toks init hf
    unfold unionInit; dsimp only
    have fin : ∀ (t2 : List ITok) (x : Init), t2.length + 1 ≤ toks.length →
        NF (fun r => r.2.length ≤ toks.length) (unionRest f ms t2 x) := by
      intro t2 x h2
      exact (ih.unionRest ms t2 x (by omega)).rest_le (by omega)
    split
    · rename_i name r
      simp only [List.length_cons] at hf fin ⊢
      refine desgChain_nf ih name ms r (by omega) _ fun kd mty c r2 hr2 => ?_
      exact fin _ _ (by omega)
    · split
      · split
        · exact ih.structInit1 ms toks init (by omega)
        · exact Nat.le_refl _
      · split
        · rename_i r _
          simp only [List.length_cons] at hf fin ⊢
          exact memberStep_nf ih (by omega) fun mty r2 hr2 => fin _ _ (by have : r2.2.length ≤ r.length := hr2; omega)
        · exact memberStep_nf ih (by omega) fun mty r2 hr2 => hr2
  designation := by
    intro ty toks init hf
    unfold designation; dsimp only
    split
    -- `[i]` and `[i ... j]`: the same arm
    iterate 2
      · split
        · trivial
        · rename_i elem hel
          have hw := wt_elem hel
          split
          · trivial
          · refine NF.bind (arrayDesignator_nf _ _) ?_
            intro r hr
            refine NF.bind (rangeLoop_nf f ih elem r.2.2 (by omega) init _) ?_
            intro r2 hr2
            exact (ih.arrayInit2 elem r2.2 r2.1 _ (by omega)).rest_le (by omega)
    · rename_i name r
      simp only [List.length_cons] at hf ⊢
      split
      · rename_i ms sz fl
        simp only [wt] at hf
        refine desgChain_nf ih name ms r (by omega) _ fun kd mty c r2 hr2 => ?_
        have hdl := wtMs_drop_le ms (kd.1 + 1)
        exact (ih.structInit2 ms r2.2 _ (kd.1 + 1) false (by simp only [b2n]; omega)).rest_le (by omega)
      · rename_i ms sz fl
        simp only [wt] at hf
        refine desgChain_nf ih name ms r (by omega) _ fun kd mty c r2 hr2 => ?_
        show r2.2.length ≤ _; omega
      · trivial
    · rename_i r
      simp only [List.length_cons] at hf ⊢
      exact (ih.initializer2 ty r init (by omega)).rest_le (by omega)
    · exact ih.initializer2 ty toks init (by omega)

theorem nh_all : ∀ f, NH f
  | 0 => nh_zero
  | f + 1 => nh_succ f (nh_all f)

/-- the explicit budget: two calls per token, `wt ty` calls that consume no token -/
def needFuel (ty : Ty) (toks : List ITok) : Nat := 2 * toks.length + wt ty

theorem needFuel_le_stdFuel (ty : Ty) (toks : List ITok) : needFuel ty toks ≤ stdFuel ty toks := by
  have h1 := wt_le ty
  have h2 : 1 ≤ ty.nodes := by cases ty <;> simp only [Ty.nodes] <;> omega
  unfold needFuel stdFuel
  have h3 : (toks.length + 2) * (2 * ty.nodes + 6) = 2 * (toks.length * ty.nodes) + 6 * toks.length + 4 * ty.nodes + 12 := by
    simp only [Nat.add_mul, Nat.mul_add, Nat.mul_comm, Nat.mul_left_comm]; omega
  have h4 : toks.length * 1 ≤ toks.length * ty.nodes := Nat.mul_le_mul_left _ h2
  omega

/-- with at least `needFuel` the parser does not run out of budget, and its rest is no longer than its input -/
theorem initializer2_enough (ty : Ty) (toks : List ITok) (init : Init) (f : Nat) (h : needFuel ty toks ≤ f) :
    NF (fun r => r.2.length ≤ toks.length) (initializer2 f ty toks init) :=
  (nh_all f).initializer2 ty toks init h

end ChibiVerif.C13InitFuel
