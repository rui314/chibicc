/-
The hand-written cursor functions of Model/Literals.lean and Model/Text.lean are equal, on every input, to the
functions translated from tokenize.c (Gen/LitReadersGen.lean): `from_hex`, `read_escaped_char` (octal arm, hexadecimal
arm with its loop, simple escapes), `read_universal_char`, `string_literal_end`.
-/
import ChibiVerif.Model.LitReaders
import ChibiVerif.Model.Text
import ChibiVerif.Lemmas.ByteAt

namespace ChibiVerif.Lemmas.Translated
open ChibiVerif.Gen.Literals
open ChibiVerif.Literals
open ChibiVerif.LitReaders
open ChibiVerif.Lemmas.Literals

-- `T.x` stands for the translated `ChibiVerif.Gen.LitReaders.x`, whose hand-written counterpart has the same short name
namespace T
export ChibiVerif.Gen.LitReaders (isxdigit fromHex escapeSwitch readEscapedChar readEscapedChar_loop1 readUniversalChar
  readUniversalChar_loop1 stringLiteralEnd stringLiteralEnd_loop1 ReadErr)
end T

theorem mapError_ok {ε ε' α : Type} (f : ε → ε') (x : Except ε α) (v : α) (h : x.mapError f = .ok v) : x = .ok v := by
  cases x with
  | error e => simp [Except.mapError] at h
  | ok a => simpa [Except.mapError] using h

theorem isxdigit_eq (b : Byte) : T.isxdigit b = isXDigit b := rfl

theorem fromHex_eq (b : Byte) : T.fromHex b = ChibiVerif.Literals.fromHex b := by
  revert b; apply forall_byte; decide +kernel

theorem oct_cond (b : Byte) :
    (((0x30#32).toInt ≤ (b.signExtend 32).toInt) ∧ ((b.signExtend 32).toInt ≤ (0x37#32).toInt)) ↔ isOctDigit b = true := by
  revert b; apply forall_byte; decide +kernel

theorem escapeSwitch_eq (b : Byte) : T.escapeSwitch b = escapeValue b := rfl

theorem hexLoop_eq (p : List Byte) : ∀ (fuel i : Nat) (c : BitVec 32),
    T.readEscapedChar_loop1 p fuel i c = .ok (hexLoop p fuel i c) := by
  intro fuel
  induction fuel with
  | zero => intro i c; rfl
  | succ fuel ih =>
    intro i c
    simp only [ChibiVerif.Gen.LitReaders.readEscapedChar_loop1, hexLoop, isxdigit_eq, fromHex_eq]
    split
    · exact ih _ _
    · rfl

theorem readEscapedChar_eq (p : List Byte) :
    ChibiVerif.Literals.readEscapedChar p = (T.readEscapedChar p).mapError ofReadErr := by
  unfold ChibiVerif.Literals.readEscapedChar ChibiVerif.Gen.LitReaders.readEscapedChar
  simp only [oct_cond, sext_eq_ofNat, Nat.reduceLT, isxdigit_eq, escapeSwitch_eq, hexLoop_eq]
  by_cases h0 : isOctDigit (byteAt p 0) = true
  · simp only [h0, if_true]
    by_cases h1 : isOctDigit (byteAt p 1) = true
    · simp only [h1, if_true]
      by_cases h2 : isOctDigit (byteAt p 2) = true
      · simp only [h2, if_true]; rfl
      · simp only [h2, if_false, Bool.false_eq_true]; rfl
    · simp only [h1, if_false, Bool.false_eq_true]; rfl
  · simp only [h0, if_false, Bool.false_eq_true]
    by_cases hx : byteAt p 0 = 120#8
    · simp only [hx, if_true]
      by_cases hd : isXDigit (byteAt p 1) = true
      · simp [hd, Except.mapError]
      · simp [hd, Except.mapError, ofReadErr]
    · simp only [hx, if_false]; rfl

theorem ruc_loop_eq (p : List Byte) (len : Nat) : ∀ (rem i : Nat) (c : BitVec 32),
    T.readUniversalChar_loop1 p len rem i c = ChibiVerif.Text.readUniversalChar (p.drop i) rem c := by
  intro rem
  induction rem with
  | zero => intro i c; simp only [ChibiVerif.Gen.LitReaders.readUniversalChar_loop1, ChibiVerif.Text.readUniversalChar]
  | succ rem ih =>
    intro i c
    cases hd : p.drop i with
    | nil =>
      have hb := drop_eq_nil_byteAt p i hd
      simp [ChibiVerif.Gen.LitReaders.readUniversalChar_loop1, ChibiVerif.Text.readUniversalChar, hb,
        ChibiVerif.Gen.LitReaders.isxdigit]
    | cons b rest =>
      obtain ⟨hb, hr⟩ := drop_cons_byteAt p i b rest hd
      simp only [ChibiVerif.Gen.LitReaders.readUniversalChar_loop1, ChibiVerif.Text.readUniversalChar, isxdigit_eq,
        fromHex_eq, hb]
      by_cases hx : isXDigit b = true
      · simp only [hx, not_true_eq_false, if_false, Bool.not_true, Bool.false_eq_true]
        rw [ih, hr]
      · simp [hx]

theorem readUniversalChar_eq (p : List Byte) (len : Nat) :
    ChibiVerif.Text.readUniversalChar p len 0 = T.readUniversalChar p len := by
  unfold ChibiVerif.Gen.LitReaders.readUniversalChar
  rw [ruc_loop_eq]; rfl

theorem strEnd_eq (p : List Byte) : ∀ (f1 f2 i : Nat), 1 ≤ f1 → p.length + 1 - i ≤ f1 → 1 ≤ f2 → p.length + 1 - i ≤ f2 →
    strEnd p f1 i = (T.stringLiteralEnd_loop1 p f2 i).mapError ofReadErr := by
  intro f1
  induction f1 with
  | zero => intro f2 i h; omega
  | succ f1 ih =>
    intro f2 i _ h1 h2 h3
    cases f2 with
    | zero => omega
    | succ f2 =>
      simp only [strEnd, ChibiVerif.Gen.LitReaders.stringLiteralEnd_loop1, sext_eq_ofNat, Nat.reduceLT, ne_eq, ite_not]
      by_cases hq : byteAt p i = 34#8
      · rw [if_pos hq, if_pos hq]; rfl
      · rw [if_neg hq, if_neg hq]
        by_cases hz : byteAt p i = 10#8 ∨ byteAt p i = 0#8
        · rw [if_pos hz, if_pos hz]; rfl
        · rw [if_neg hz, if_neg hz]
          have hlt : i < p.length := byteAt_ne_zero_lt p i (fun h => hz (Or.inr h))
          split
          · rename_i hb
            have hlt2 : i + 1 < p.length := byteAt_ne_zero_lt p (i + 1) hb.2
            exact ih f2 (i + 2) (by omega) (by omega) (by omega) (by omega)
          · exact ih f2 (i + 1) (by omega) (by omega) (by omega) (by omega)

theorem stringLiteralEnd_eq (p : List Byte) (i : Nat) :
    ChibiVerif.Literals.stringLiteralEnd p i = (T.stringLiteralEnd p i).mapError ofReadErr := by
  unfold ChibiVerif.Literals.stringLiteralEnd ChibiVerif.Gen.LitReaders.stringLiteralEnd
  exact strEnd_eq p _ _ i (by omega) (by omega) (by omega) (by omega)

end ChibiVerif.Lemmas.Translated
