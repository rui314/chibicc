/-
C01: the frame of `C01_value` (`FrameHolds`, Lemmas/C01Compose.lean) as an instance of `Frame`: the variables that have a
value lie at or above `%rsp` and hold it; they may overlap, so none can be written (`sepv := fun _ => False`) and there are
no temporaries.  On the `compileE` fragment nothing is written (`pure_facts`), so the one induction applies: `value_pure`
is `value_g` at this frame, and a judgment `EvG (Frame.plain off) …` about jump-free code gives, at a state whose frame holds
the store, the conclusion `Ev` (`Ev.of_EvG`) that the proofs of `C01_value` and `C01_ptr_scale` / `_add` / `_diff` take apart.
`pure_ev` is the theorem as a judgment (`EvG` in `Frame.plain`, what `EvG.scale` / `EvG.ptradd` compose with), `value_pure` the same
at a machine state (`Ev`).  `EvG.of_Ev` is the converse of `Ev.of_EvG`; through it `bin_glue` (the push/pop discipline in the terms
of `Ev`) is `EvG.under_push` at this frame, and `FrameHolds.keeps` is the law `keep` of this frame.
-/
import ChibiVerif.Lemmas.C01ValueFull

namespace ChibiVerif.C01
open ChibiVerif.X86 ChibiVerif.Asm ChibiVerif.Spec.IntSpec ChibiVerif.Gen.CommonType ChibiVerif.C01Codegen ChibiVerif.X86J

def Frame.plain (off : Nat → Int) : Frame where
  off := off
  toff _ := 0
  K := 0
  inv σ B m := ∀ i t v, σ.tys[i]? = some t → σ.vals[i]? = some v →
    MemHolds t m (addrOf (m.get .rbp) (off i)) v ∧ B ≤ (addrOf (m.get .rbp) (off i)).toNat ∧
      (addrOf (m.get .rbp) (off i)).toNat + 8 ≤ 2 ^ 64
  sepv _ := False
  keep h hbp hm i t v ht hv := by
    obtain ⟨a, b, c⟩ := h i t v ht hv
    rw [hbp]
    exact ⟨memHolds_congr t _ _ _ v (fun k hk => hm _ (by rw [BitVec.toNat_add_ofNat _ _ (by omega)]; omega)) a, b, c⟩
  load h ht hv := (h _ _ _ ht hv).1
  var_lo _ hs := hs.elim
  tmp_lo _ hk := absurd hk (Nat.not_lt_zero _)
  set _ hs := hs.elim
  set_tmp _ hk := absurd hk (Nat.not_lt_zero _)
  var_tmp _ hs := hs.elim
  tmp_tmp _ hk := absurd hk (Nat.not_lt_zero _)

/-- the objects of the frame lie at or above `%rsp`: whatever keeps that region keeps the frame (`keep` of the plain frame at
    `B = %rsp`) -/
theorem FrameHolds.keeps {σ : Env} {off : Nat → Int} {n : Nat} {m m' : State} (h : FrameHolds σ off n m) (hk : Keeps m m') :
    FrameHolds σ off n m' := by
  rw [FrameHolds, hk.rsp]; exact ⟨h.1, (Frame.plain off).keep h.2 hk.rbp hk.mem⟩

/-- a judgment in the plain frame about jump-free code that writes nothing, at a state whose frame holds the store -/
theorem Ev.of_EvG {off : Nat → Int} {c : List Ins} {σ σ' : Env} {R : BitVec 64 → Prop} {k d n : Nat} {m : State}
    (h : EvG (Frame.plain off) (fun _ => True) (J c) σ σ' R [] k k d) (hf : FrameHolds σ off n m) (hd : d ≤ n) : Ev c m R := by
  obtain ⟨m', r, p, _, u⟩ := h.2 m n (m.get .rsp).toNat trivial hf.2 hd hf.1 (Nat.le_refl _)
  exact ⟨m', run_of_JRun r, p, u.rsp, u.rbp, fun a ha => u.mem a ha (by rintro ⟨_, _, h, _⟩; simp at h)
    (by rintro ⟨_, h1, h2, _⟩; omega)⟩

/-- the converse of `Ev.of_EvG`: jump-free code that runs to `R` from every state whose frame holds the store with `n` free
    slots is a judgment in the plain frame -/
theorem EvG.of_Ev {off : Nat → Int} {c : List Ins} {σ : Env} {R : BitVec 64 → Prop} {k n : Nat}
    (h : ∀ m, FrameHolds σ off n m → Ev c m R) : EvG (Frame.plain off) (fun _ => True) (J c) σ σ R [] k k n := by
  refine ⟨rfl, fun m n' B _ hI hd hsp hB => ?_⟩
  obtain ⟨m', r, p, kp⟩ := h m ⟨by omega, fun i t v ht hv => let ⟨a, b, c⟩ := hI i t v ht hv; ⟨a, Nat.le_trans hB b, c⟩⟩
  exact ⟨m', JRun.ins r, p, (Frame.plain off).keep hI kp.rbp (fun x hx => kp.mem x (by omega)), kp.rsp, kp.rbp,
    fun a ha _ _ => kp.mem a ha⟩

/-- **the push/pop discipline of a binary node**: right operand, `push`, left operand (one slot deeper), `pop %rdi`,
    operator.  The left operand's code runs below the pushed value and does not disturb it. -/
theorem bin_glue {σ : Env} {off : Nat → Int} {n : Nat} {m : State} (crhs clhs cop : List Ins)
    (Rr Rl Rres : BitVec 64 → Prop)
    (hf : FrameHolds σ off (n + 1) m)
    (hr : Ev crhs m Rr)
    (hl : ∀ m2, FrameHolds σ off n m2 → Ev clhs m2 Rl)
    (hop : ∀ s, Rl (s.get .rax) → Rr (s.get .rdi) → ∃ s', X86.run cop s = some s' ∧ Rres (s'.get .rax) ∧ Same s s') :
    Ev (crhs ++ ([⟨"push", [.r "%rax"]⟩] ++ (clhs ++ ([⟨"pop", [.r "%rdi"]⟩] ++ cop)))) m Rres := by
  obtain ⟨m1, r1, p1, k1⟩ := hr
  have hf1 := hf.keeps k1
  -- `EvG.under_push` in the plain frame: no variable can be written, there is no temporary
  obtain ⟨m3, r3, p3, _, sp3, bp3, top3, mem3⟩ := (EvG.of_Ev (k := 0) hl).under_push (fun _ h => by simp at h) (Nat.le_refl _) m1 n
    (m1.get .rsp).toNat trivial hf1.2 (Nat.le_refl _) hf1.1 (Nat.le_refl _)
  obtain ⟨m4, r4, di4, sp4, bp4, ax4, mem4⟩ := pop_rdi m3
  obtain ⟨m5, r5, p5, k5⟩ := hop m4 (by rw [ax4]; exact p3) (by rw [di4, sp3, top3]; exact p1)
  have r3 : X86.run (iPush :: clhs) m1 = some m3 := run_of_JRun r3
  refine ⟨m5, X86.run_append_some r1 (X86.run_append_some (b := [iPopRdi] ++ cop) r3 (X86.run_append_some r4 r5)), p5,
    by rw [k5.rsp, sp4, sp3, k1.rsp, BitVec.sub_add_cancel], by rw [k5.rbp, bp4, bp3, k1.rbp], fun x hx => ?_⟩
  rw [congrFun k5.mem x, congrFun mem4 x, mem3 x (by rw [k1.rsp]; exact hx) (by rintro ⟨_, _, h, _⟩; simp at h)
    (by rintro ⟨_, h1, h2, _⟩; omega), k1.mem x hx]

/-- **value of every side-effect-free expression**: the induction `value_a` in the plain frame -/
theorem pure_ev (σ : Env) (off : Nat → Int) (e : E) (t : ITy) (code : List Ins) (v : Int) (σ' : Env)
    (hc : compileE σ.tys off e = some (t, code)) (hv : evalE σ e = some (v, σ')) :
    σ' = σ ∧ EvG (Frame.plain off) (fun _ => True) (J code) σ σ' (fun r => Represents t r v) [] 0 0 (depthE e) := by
  obtain ⟨hw, hn, hdep⟩ := pure_facts σ.tys off e t code hc
  refine ⟨(Eval.of_evalE e hv).store_of_wr_nil hw, ?_⟩
  have := value_g (Frame.plain off) (fun _ => True) e σ t (J code) v σ' 0 0 0 0
    (compileJ_pure σ.tys off (fun _ => 0) e t code 0 0 hc) hv hn (by rw [hw]; exact fun _ h => by simp at h) (Nat.le_refl 0)
  rwa [hw, hdep] at this

theorem value_pure (σ : Env) (off : Nat → Int) (e : E) (t : ITy) (code : List Ins) (v : Int) (σ' : Env) (m : State) (n : Nat)
    (hc : compileE σ.tys off e = some (t, code)) (hv : evalE σ e = some (v, σ')) (hd : depthE e ≤ n) (hf : FrameHolds σ off n m) :
    σ' = σ ∧ Ev code m (fun r => Represents t r v) :=
  let ⟨h1, h2⟩ := pure_ev σ off e t code v σ' hc hv
  ⟨h1, Ev.of_EvG h2 hf hd⟩

end ChibiVerif.C01
