/-
C02, arithmetic of `Spec.Fpu.roundNat` (round to nearest, ties to even, to `p` significant bits) and of `Val`, over `Nat`/`Int`.
The branchy cells `u64f32` / `u64f64` (unsigned long → float / double when the top bit is set): halving with the lost bit
or-ed back in ("sticky"), converting, and doubling rounds exactly like converting the 64-bit value itself, for all 2^63
inputs and every precision `p ≤ 61` (`round_halve_p`).  Numbers with at most `p` significant bits are their own rounding
(`roundNat_exact`, `roundInt_exact`); comparing a datum with an integer constant compares its integral part (`Val.cmp_const`);
the fields of a code `sign | E | F` (`fields_of_code`, shared by the IEEE layouts and the toy format).  Also what the two witness
modules (FpToy, FpIeeeLemmas) and FpCastLemmas share: the `bitLen_*` bounds, `roundNat_le64`, `truncTo_fit`.
-/
import ChibiVerif.Lemmas.C07ValLemmas

namespace ChibiVerif.Spec.Fpu

theorem or_one_eq (a : Nat) : a ||| 1 = 2 * (a / 2) + 1 := by
  apply Nat.eq_of_testBit_eq
  intro i
  cases i with
  | zero => simp
  | succ j =>
    rw [Nat.testBit_succ, Nat.testBit_succ, Nat.or_div_two]
    have : (2 * (a / 2) + 1) / 2 = a / 2 := by omega
    simp [this]

/-- `shr %rdi` after `mov %rax, %rdi`, then `or` with `%rax & 1` -/
def halveSticky (n : Nat) : Nat := n / 2 ||| n % 2

theorem halveSticky_eq (n : Nat) : halveSticky n = if n % 2 = 1 then 2 * (n / 4) + 1 else n / 2 := by
  unfold halveSticky
  split
  · rename_i h; rw [h, or_one_eq]; omega
  · rename_i h
    have : n % 2 = 0 := by omega
    rw [this]; simp

theorem bitLen_of (n k : Nat) (h1 : 2 ^ k ≤ n) (h2 : n < 2 ^ (k + 1)) : bitLen n = k + 1 := by
  unfold bitLen
  have hn : n ≠ 0 := by
    have := Nat.two_pow_pos k
    omega
  simp [hn]
  exact (Nat.log2_eq_iff hn).2 ⟨h1, h2⟩

theorem halveSticky_lt (n : Nat) (h1 : 2 ^ 63 ≤ n) (h2 : n < 2 ^ 64) : 2 ^ 62 ≤ halveSticky n ∧ halveSticky n < 2 ^ 63 := by
  rw [halveSticky_eq]; split <;> omega

theorem roundNat_of_bitLen (p n l : Nat) (hl : bitLen n = l) (h : p < l) :
    roundNat p n = (n / 2 ^ (l - p) +
      if 2 ^ (l - p - 1) < n % 2 ^ (l - p) ∨ n % 2 ^ (l - p) = 2 ^ (l - p - 1) ∧ n / 2 ^ (l - p) % 2 = 1 then 1 else 0)
      * 2 ^ (l - p) := by
  simp only [roundNat, roundQS, hl, if_neg (Nat.not_le.2 h)]
  split <;> rfl

/-- **round_p(n) = 2 · round_p(⌊n/2⌋ | (n & 1))** for every 64-bit n with the top bit set, at any precision `p ≤ 61`:
    the sticky bit stands for the lost one only if at least two more bits are discarded below the rounding position -/
theorem round_halve_p (p n : Nat) (hp : p ≤ 61) (h1 : 2 ^ 63 ≤ n) (h2 : n < 2 ^ 64) :
    roundNat p n = 2 * roundNat p (halveSticky n) := by
  obtain ⟨g1, g2⟩ := halveSticky_lt n h1 h2
  rw [roundNat_of_bitLen p n 64 (bitLen_of n 63 h1 h2) (by omega),
    roundNat_of_bitLen p _ 63 (bitLen_of _ 62 g1 g2) (by omega)]
  -- with e = 2^(61-p) the discarded parts are n % 8e (half 4e) and h % 4e (half 2e)
  have pw : ∀ k c, c + (61 - p) = k → 2 ^ k = 2 ^ c * 2 ^ (61 - p) := by
    intro k c h; rw [← Nat.pow_add, h]
  rw [pw (64 - p) 3 (by omega), pw (64 - p - 1) 2 (by omega), pw (63 - p) 2 (by omega), pw (63 - p - 1) 1 (by omega)]
  have he := Nat.two_pow_pos (61 - p)
  clear h1 h2 g1 g2 pw
  generalize 2 ^ (61 - p) = e at *
  have hn := Nat.div_add_mod n (2 ^ 3 * e)
  have hr := Nat.mod_lt n (show 0 < 2 ^ 3 * e by omega)
  generalize n / (2 ^ 3 * e) = q at *
  generalize n % (2 ^ 3 * e) = r at *
  rw [Nat.mul_assoc] at hn
  have hs := halveSticky_eq n
  generalize halveSticky n = h at *
  have key : (h - 4 * (e * q) + 2 ^ 2 * (e * q) = h ∧ h - 4 * (e * q) < 2 ^ 2 * e) ∧
      ((2 ^ 1 * e < h - 4 * (e * q) ∨ h - 4 * (e * q) = 2 ^ 1 * e ∧ q % 2 = 1) ↔
        (2 ^ 2 * e < r ∨ r = 2 ^ 2 * e ∧ q % 2 = 1)) := by
    subst hs; split <;> omega
  obtain ⟨hd, hc⟩ := key
  obtain ⟨hq, hm⟩ := (Nat.div_mod_unique (c := h - 4 * (e * q)) (d := q) (show 0 < 2 ^ 2 * e by omega)).2
    (by rw [Nat.mul_assoc]; exact hd)
  simp only [hq, hm, hc]
  rw [show 2 ^ 3 * e = 2 * (2 ^ 2 * e) by omega, Nat.mul_left_comm]

theorem halve_bv (x : BitVec 64) : ((x >>> 1) ||| (x &&& 1#64)).toNat = halveSticky x.toNat := by
  simp only [BitVec.toNat_or, BitVec.toNat_ushiftRight, BitVec.toNat_and, BitVec.toNat_ofNat, halveSticky,
    Nat.shiftRight_eq_div_pow]
  have : x.toNat &&& 1 % 2 ^ 64 = x.toNat % 2 := by simp [Nat.and_one_is_mod]
  rw [this]

theorem bitLen_lt' (n : Nat) : n < 2 ^ bitLen n := by
  unfold bitLen
  split
  · subst_vars; simp
  · exact Nat.lt_log2_self

theorem bitLen_le_of_lt (n k : Nat) (h : n < 2 ^ k) : bitLen n ≤ k := by
  unfold bitLen
  split
  · omega
  · rename_i h0
    have := (Nat.log2_lt h0).2 h
    omega

theorem bitLen_pos_le (n : Nat) (h : n ≠ 0) : 2 ^ (bitLen n - 1) ≤ n := by
  unfold bitLen
  simp [h]
  exact Nat.log2_self_le h

theorem bitLen_pos (n : Nat) (h : n ≠ 0) : 1 ≤ bitLen n := by
  unfold bitLen; simp [h]

theorem bitLen_mul_pow (q s : Nat) (hq : q ≠ 0) : bitLen (q * 2 ^ s) = bitLen q + s := by
  have h1 := bitLen_pos_le q hq
  have h2 := bitLen_lt' q
  have hb := bitLen_pos q hq
  have : bitLen q + s = (bitLen q - 1 + s) + 1 := by omega
  rw [this]
  apply bitLen_of
  · rw [Nat.pow_add]; exact Nat.mul_le_mul_right _ h1
  · have : bitLen q - 1 + s + 1 = bitLen q + s := by omega
    rw [this, Nat.pow_add]; exact Nat.mul_lt_mul_of_pos_right h2 (Nat.two_pow_pos s)

theorem roundQS_fst_le (p n : Nat) : (roundQS p n).1 ≤ 2 ^ p := by
  have hl := bitLen_lt' n
  unfold roundQS
  simp only
  split
  · rename_i h
    have : 2 ^ bitLen n ≤ 2 ^ p := Nat.pow_le_pow_right (by omega) h
    simp; omega
  · rename_i h
    have hq : n / 2 ^ (bitLen n - p) < 2 ^ p := by
      rw [Nat.div_lt_iff_lt_mul (Nat.two_pow_pos _)]
      rw [← Nat.pow_add]
      have : p + (bitLen n - p) = bitLen n := by omega
      rw [this]; exact hl
    split <;> simp <;> omega

theorem roundQS_snd (p n : Nat) : (roundQS p n).2 = bitLen n - p := by
  unfold roundQS
  simp only
  split
  · simp only; omega
  · split <;> rfl

/-- q·2^s with 0 < q ≤ 2^p has no non-zero bit below its top `p` bits -/
theorem pow_dvd_of_le_pow (p q s : Nat) (hp : 1 ≤ p) (hq : q ≤ 2 ^ p) (h0 : q ≠ 0) : 2 ^ (bitLen q + s - p) ∣ q * 2 ^ s := by
  have hq1 := bitLen_pos_le q h0
  by_cases hk : bitLen q + s - p ≤ s
  · exact Nat.dvd_trans (Nat.pow_dvd_pow 2 hk) (Nat.dvd_mul_left _ _)
  · -- bitLen q = p + 1, so q = 2^p
    have hblq : bitLen q ≤ p + 1 := by
      by_cases hle : bitLen q ≤ p + 1
      · exact hle
      · have : 2 ^ (p + 1) ≤ 2 ^ (bitLen q - 1) := Nat.pow_le_pow_right (by omega) (by omega)
        have : (2:Nat) ^ p < 2 ^ (p + 1) := Nat.pow_lt_pow_right (by omega) (by omega)
        omega
    have hbq : bitLen q = p + 1 := by omega
    have : 2 ^ p ≤ q := by rw [hbq] at hq1; simpa using hq1
    have hqe : q = 2 ^ p := by omega
    have hk2 : bitLen q + s - p = s + 1 := by omega
    have hqs : q * 2 ^ s = 2 ^ (p + s) := by rw [hqe, Nat.pow_add]
    rw [hk2, hqs]
    exact Nat.pow_dvd_pow 2 (by omega)

theorem roundNat_exact (p q s : Nat) (hp : 1 ≤ p) (hq : q ≤ 2 ^ p) : roundNat p (q * 2 ^ s) = q * 2 ^ s := by
  by_cases h0 : q = 0
  · subst h0; simp [roundNat, roundQS, bitLen]
  have hbl := bitLen_mul_pow q s h0
  simp only [roundNat, roundQS, hbl]
  split
  · simp
  · rename_i hgt
    have hdvd := pow_dvd_of_le_pow p q s hp hq h0
    have hmod : q * 2 ^ s % 2 ^ (bitLen q + s - p) = 0 := Nat.mod_eq_zero_of_dvd hdvd
    have hpos : 0 < 2 ^ (bitLen q + s - p - 1) := Nat.two_pow_pos _
    simp only [hmod]
    have hne : ¬ (0 > 2 ^ (bitLen q + s - p - 1) ∨ 0 = 2 ^ (bitLen q + s - p - 1) ∧ q * 2 ^ s / 2 ^ (bitLen q + s - p) % 2 = 1) := by
      omega
    rw [if_neg hne]
    exact Nat.div_mul_cancel hdvd

theorem roundNat_idem (p n : Nat) (hp : 1 ≤ p) : roundNat p (roundNat p n) = roundNat p n := by
  unfold roundNat
  exact roundNat_exact p _ _ hp (roundQS_fst_le p n)

theorem roundInt_idem (p : Nat) (v : Int) (hp : 1 ≤ p) : roundInt p (roundInt p v) = roundInt p v := by
  unfold roundInt
  by_cases h : v < 0
  · simp only [h, if_true]
    by_cases h2 : (roundNat p v.natAbs : Int) = 0
    · simp [h2]
      have : roundNat p v.natAbs = 0 := by omega
      simp [roundNat, roundQS, bitLen]
    · have : -(roundNat p v.natAbs : Int) < 0 := by omega
      simp only [this, if_true, Int.natAbs_neg, Int.natAbs_natCast, roundNat_idem p _ hp]
  · simp only [h, if_false]
    have : ¬ ((roundNat p v.natAbs : Int) < 0) := by omega
    simp only [this, if_false, Int.natAbs_natCast, roundNat_idem p _ hp]

theorem roundInt_nat (p n : Nat) : roundInt p (n : Int) = (roundNat p n : Int) := by
  simp [roundInt]; intro h; omega

theorem roundInt_of_nat (p : Nat) (n : Int) :
    roundInt p n = (if decide (n < 0) = true then -(roundNat p n.natAbs : Int) else (roundNat p n.natAbs : Int)) := by
  simp [roundInt]

theorem roundInt_exact (p : Nat) (n : Int) (hp : 1 ≤ p) (h : n.natAbs ≤ 2 ^ p) : roundInt p n = n := by
  have e := roundNat_exact p n.natAbs 0 hp h
  simp only [Nat.pow_zero, Nat.mul_one] at e
  simp only [roundInt, e]
  split <;> omega

theorem truncTo_fit (n : Nat) (v : Val) (i : Int) (h : v.trunc? = some i)
    (lo : -(2 ^ (n - 1) : Int) ≤ i) (hi : i < 2 ^ (n - 1)) : truncTo n v = BitVec.ofInt n i := by
  simp [truncTo, h, lo, hi]

theorem roundNat_le (p n l : Nat) (hl : bitLen n ≤ l) (hp : p ≤ l) : roundNat p n ≤ 2 ^ l := by
  unfold roundNat
  rw [roundQS_snd]
  refine Nat.le_trans (Nat.mul_le_mul_right _ (roundQS_fst_le p n)) ?_
  rw [← Nat.pow_add]
  exact Nat.pow_le_pow_right (by omega) (by omega)

theorem roundNat_le64 (p n : Nat) (hp1 : 1 ≤ p) (hp : p ≤ 64) (hn : n ≤ 2 ^ 64) : roundNat p n ≤ 2 ^ 64 := by
  by_cases h : n = 2 ^ 64
  · subst h
    have := roundNat_exact p 1 64 hp1 (Nat.one_le_two_pow)
    simp only [Nat.one_mul] at this
    omega
  · have hlt : n < 2 ^ 64 := by omega
    exact roundNat_le p n 64 (bitLen_le_of_lt n 64 hlt) hp

/-- comparison of a finite value with the positive constant K = M·2^E (given in any spelling) is comparison of its
    integer part with K, for an integer K -/
theorem Val.cmp_const (n : Bool) (m : Nat) (e : Int) (M E K : Nat) (hK : M * 2 ^ E = K) (hK0 : 0 < K) (t : Int)
    (ht : (Val.fin n m e).trunc? = some t) :
    (Val.cmp (.fin n m e) (.fin false M (E : Int)) = .lt ↔ t < (K : Int)) ∧
    Val.cmp (.fin n m e) (.fin false M (E : Int)) ≠ .un := by
  -- compare at the exponent min e 0 (below both): there the constant is K·2^(−min e 0) and the integral part of the datum is
  -- its scaled significand divided by 2^(−min e 0)
  rw [Val.cmp_fin, ← Val.cmpAt_lower (min e 0) (min e E) _ _ _ _ _ _ (by omega) (by omega) (by omega)]
  refine ⟨?_, Val.cmpAt_ne_un _ _ _ _ _ _ _⟩
  rw [Val.cmpAt_lt_iff, Val.scaled_false]
  simp only [Val.trunc?, Option.some.injEq, Val.magTrunc_sc m e (min e 0) (by omega) (by omega)] at ht
  have hP := Nat.two_pow_pos (-(min e 0)).toNat
  have hb : Val.sc M E (min e 0) = K * 2 ^ (-(min e 0)).toNat := by
    rw [Val.sc, ← hK, show ((E : Int) - min e 0).toNat = E + (-(min e 0)).toNat by omega, Nat.pow_add, Nat.mul_assoc]
  have hq := Nat.div_lt_iff_lt_mul (x := Val.sc m e (min e 0)) (y := K) hP
  subst ht
  cases n
  · rw [Val.scaled_false, hb]; simp only [Bool.false_eq_true, if_false]; exact_mod_cast hq.symm
  · have hKP : 0 < K * 2 ^ (-(min e 0)).toNat := Nat.mul_pos hK0 hP
    have h0 := Int.natCast_nonneg (Val.sc m e (min e 0) / 2 ^ (-(min e 0)).toNat)
    rw [Val.scaled_true, hb]; simp only [if_true]; constructor <;> intro _ <;> omega

/-- the fields of a code  sign | `b`-bit E | `a`-bit F : the layout of binary32/64, of the x87 format and of the toy data -/
theorem fields_of_code (a b : Nat) (neg : Bool) (E F B : Nat) (hB : B = (if neg then 2 ^ (b + a) else 0) + E * 2 ^ a + F)
    (hF : F < 2 ^ a) (hE : E < 2 ^ b) :
    B < 2 ^ (a + b + 1) ∧ B % 2 ^ a = F ∧ B / 2 ^ a = (if neg then 2 ^ b else 0) + E ∧ B / 2 ^ a % 2 ^ b = E ∧
      decide (B / 2 ^ (a + b) % 2 = 1) = neg := by
  have hd : B / 2 ^ a = (if neg then 2 ^ b else 0) + E ∧ B % 2 ^ a = F := by
    refine (Nat.div_mod_unique (Nat.two_pow_pos a)).2 ⟨?_, hF⟩
    rw [hB, Nat.pow_add, Nat.mul_add, Nat.mul_comm _ E]
    cases neg
    · simp only [Bool.false_eq_true, if_false, Nat.mul_zero, Nat.zero_add]; omega
    · simp only [if_true, Nat.mul_comm (2 ^ a) (2 ^ b)]; omega
  have hb := Nat.two_pow_pos b
  have hlt : B / 2 ^ a < 2 * 2 ^ b := by
    rw [hd.1]; cases neg <;> simp <;> omega
  have e : 2 ^ (a + b + 1) = 2 * 2 ^ b * 2 ^ a := by rw [Nat.pow_succ, Nat.pow_add]; ac_rfl
  rw [e, Nat.pow_add 2 a b, ← Nat.div_div_eq_div_mul, hd.1]
  refine ⟨(Nat.div_lt_iff_lt_mul (Nat.two_pow_pos a)).1 hlt, hd.2, rfl, ?_, ?_⟩
  · cases neg <;> simp [Nat.mod_eq_of_lt hE]
  · cases neg <;> simp [Nat.add_div_left _ hb, Nat.div_eq_of_lt hE]

end ChibiVerif.Spec.Fpu
