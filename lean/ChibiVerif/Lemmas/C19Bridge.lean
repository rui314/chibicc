/-
C19 — lemmas for the second preprocessing pass (Model/C19Bridge.lean):

* `preprocess2_inert`: the loop of `preprocess2` (Model/PP.lean) returns its input list unchanged — every field of every
  token, and the state — when no token is a directive `#` and `find_macro` finds none of them.
* the bridge: for a freshly tokenized token, `is_hash` / `find_macro` in the table of `init_macros` are decided by the
  spelling (`isInitMacro`, `[35]`), with no assumption on the code points; the way back (`ofPP ∘ toPP = id`) needs every
  code point to be a Unicode scalar value.
* `preprocess2_out_not_hash`: no token the loop of `preprocess2` emits is a directive `#` (at_bol, no origin).
* evaluation on concrete token lists: `isInitMacro` goes through the code points of every name of the table; `inertInit_eq`
  (through `isInitMacro_eq_contains`) states inertness with string comparisons instead, and `cps_ofList` gives the code points of
  a literal from its characters.  The examples of Props/C19*.lean and Findings/C19.lean discharge inertness as
  `(inertInit_eq _ (by decide +kernel)).trans (by decide +kernel)`.
-/
import ChibiVerif.Model.C19Bridge
import ChibiVerif.Lemmas.LexSeq

namespace ChibiVerif.C19Bridge
open ChibiVerif ChibiVerif.PP

theorem preprocess2_inert (lx : String → LexOne) (st : St) :
    ∀ (us : List PP.Tok) (n : Nat), us.length ≤ n →
      (∀ u ∈ us, isHash u = false ∧ findMacro st.defs u = none) →
      preprocess2 lx n st us = .ok (us, st) := by
  intro us
  induction us with
  | nil => intro n _ _; cases n <;> rfl
  | cons u us ih =>
    intro n hn h
    cases n with
    | zero => simp at hn
    | succ n =>
      have hu := h u (List.mem_cons_self ..)
      have hi := ih n (by simpa using hn) (fun x hx => h x (List.mem_cons_of_mem _ hx))
      have he : expandMacro lx (fun st ts => preprocess2 lx n st ts) st u us = .ok none := by
        unfold expandMacro
        rw [hu.2]
        split <;> rfl
      rw [preprocess2, he]
      simp only [hu.1, hi]
      rfl

theorem preprocess2_out_not_hash (lx : String → LexOne) :
    ∀ (n : Nat) (st : St) (ts out : List PP.Tok) (st' : St),
      preprocess2 lx n st ts = .ok (out, st') → ∀ u ∈ out, isHash u = false := by
  intro n st ts out st' h
  fun_induction preprocess2 lx n st ts generalizing out st'
  · cases h; nofun
  · cases h
  · cases h
  · rename_i ih; exact ih _ _ h
  · -- the pass-through arm: the one place where a token is emitted
    rename_i ih
    cases hr : preprocess2 lx _ _ _ with
    | error e => rw [hr] at h; cases h
    | ok p =>
      rw [hr] at h; cases h
      intro u hu
      rcases List.mem_cons.mp hu with rfl | hm
      · simpa using ‹(!isHash _) = true›
      · exact ih _ _ hr u hm
  · cases h
  · rename_i ih; exact ih _ _ h

theorem ofNat_eq (x : Nat) (c : Char) (h : Char.ofNat x = c) (hc : c ≠ '\x00') : x = c.toNat := by
  unfold Char.ofNat at h
  split at h
  · subst h; rfl
  · exact absurd h.symm hc

theorem toNat_ofNat (x : Nat) (h : Nat.isValidChar x) : (Char.ofNat x).toNat = x := by
  unfold Char.ofNat
  rw [dif_pos h]; rfl

theorem map_ofNat_eq (a : List Nat) (l : List Char) (h : a.map Char.ofNat = l) (hl : ∀ c ∈ l, c ≠ '\x00') :
    a = l.map Char.toNat := by
  subst h
  rw [List.map_map]
  exact (List.map_id a).symm.trans
    (List.map_congr_left fun x hx => ofNat_eq x _ rfl (hl _ (List.mem_map_of_mem hx)))

/-- a spelling whose `String` form is a NUL-free string IS that string's code points (no validity assumption: an invalid
    code point becomes NUL under `Char.ofNat`) -/
theorem str_eq (a : List Nat) (s : String) (h : str a = s) (hs : ∀ c ∈ s.toList, c ≠ '\x00') : a = cps s := by
  unfold str at h
  have : a.map Char.ofNat = s.toList := by rw [← h, String.toList_ofList]
  exact map_ofNat_eq a _ this hs

theorem cps_str (a : List Nat) (h : ∀ c ∈ a, Nat.isValidChar c) : cps (str a) = a := by
  rw [cps, str, String.toList_ofList, List.map_map]
  exact (List.map_congr_left fun x hx => toNat_ofNat x (h x hx)).trans (List.map_id a)

/-- A string literal unifies with `String.ofList` of its characters: rewriting `cps "…"` with this lemma before an evaluation
    gives the kernel the character list in place of the literal's UTF-8 bytes. -/
theorem cps_ofList (l : List Char) : cps (String.ofList l) = l.map Char.toNat := by
  rw [cps, String.toList_ofList]

theorem str_cps (s : String) : str (cps s) = s := by
  have : Char.ofNat ∘ Char.toNat = id := funext Char.ofNat_toNat
  rw [str, cps, List.map_map, this, List.map_id, String.ofList_toList]

/-- A spelling of Unicode scalar values can be looked up as a `String`: the form to evaluate on a concrete token list (no name
    of the table is taken apart into code points). -/
theorem isInitMacro_eq_contains (a : List Nat) (h : ∀ c ∈ a, Nat.isValidChar c) :
    isInitMacro a = initNames.contains (str a) := by
  rw [isInitMacro, List.contains_eq_any_beq]
  refine List.any_congr rfl fun n => ?_
  rw [Bool.eq_iff_iff, beq_iff_eq, beq_iff_eq]
  exact ⟨fun e => by rw [← e, str_cps], fun e => by rw [← e, cps_str a h]⟩

theorem all_isInitMacro (p : Lex.Tok → Bool → Bool) (ts : List Lex.Tok) (hv : validText ts = true) :
    ts.all (fun t => p t (isInitMacro t.text)) = ts.all (fun t => p t (initNames.contains (str t.text))) :=
  List.all_congr_mem fun t ht => congrArg (p t) (isInitMacro_eq_contains t.text fun c hc =>
    of_decide_eq_true (List.all_eq_true.mp (List.all_eq_true.mp hv t ht) c hc))

theorem inertInit_eq (ts : List Lex.Tok) (hv : validText ts = true) :
    inertInit ts = ts.all (fun t => !(t.atBol && t.text == [35]) && !initNames.contains (str t.text)) :=
  all_isInitMacro (fun t b => !(t.atBol && t.text == [35]) && !b) ts hv

/-- the two tables of `init_macros` are unfolded and each name's characters are checked; the literal is unified with
    `String.ofList` of its characters (as in `cps_ofList`), so no name is decoded -/
theorem initNames_nul_free : ∀ n ∈ initNames, ∀ c ∈ n.toList, c ≠ '\x00' := by
  have hb : ∀ p ∈ Gen.PP.builtins, ∀ c ∈ p.1.toList, c ≠ '\x00' := by
    unfold Gen.PP.builtins
    simp only [List.forall_mem_cons, List.not_mem_nil, false_imp_iff, implies_true, and_true]
    repeat' apply And.intro
    all_goals (rw [String.toList_ofList]; decide)
  have hp : ∀ p ∈ Gen.PP.predefined, ∀ c ∈ p.1.toList, c ≠ '\x00' := by
    unfold Gen.PP.predefined
    simp only [List.forall_mem_cons, List.not_mem_nil, false_imp_iff, implies_true, and_true]
    repeat' apply And.intro
    all_goals (rw [String.toList_ofList]; decide)
  intro n hn
  simp only [initNames, PP.initDefs, List.map_append, List.map_reverse, List.map_map, List.mem_append,
    List.mem_reverse, List.mem_map] at hn
  rcases hn with ⟨p, hm, rfl⟩ | ⟨p, hm, rfl⟩
  · exact hb p hm
  · exact hp p hm

theorem lookup_init_none (a : List Nat) (h : isInitMacro a = false) : PP.initDefs.lookup (str a) = none := by
  rw [List.lookup_eq_none_iff]
  intro p hp
  rw [bne_iff_ne]
  intro he
  have hn : p.1 ∈ initNames := List.mem_map.mpr ⟨p, hp, rfl⟩
  have ha := str_eq a p.1 he (initNames_nul_free p.1 hn)
  have : isInitMacro a = true := by
    unfold isInitMacro
    rw [List.any_eq_true]
    exact ⟨p.1, hn, by rw [ha]; exact beq_self_eq_true _⟩
  rw [h] at this; cases this

theorem findMacro_toPP_none (t : Lex.Tok) (l : Nat) (h : isInitMacro t.text = false) :
    PP.findMacro PP.initDefs (toPP t l) = none := by
  unfold PP.findMacro
  split
  · exact lookup_init_none t.text h
  · rfl

theorem isHash_toPP (t : Lex.Tok) (l : Nat) (h : (t.atBol && t.text == [35]) = false) :
    PP.isHash (toPP t l) = false := by
  unfold PP.isHash
  cases hb : t.atBol
  · simp [toPP, hb]
  · rw [hb, Bool.true_and] at h
    have hne : str t.text ≠ "#" := by
      intro he
      have := str_eq t.text "#" he (by decide)
      rw [this] at h
      revert h; decide
    simp [toPP, hne]

theorem mem_toPPsFrom : ∀ (ts : List Lex.Tok) (l : Nat) (u : PP.Tok), u ∈ toPPsFrom l ts → ∃ t ∈ ts, ∃ l', u = toPP t l' := by
  intro ts
  induction ts with
  | nil => intro l u h; cases h
  | cons t ts ih =>
    intro l u h
    simp only [toPPsFrom] at h
    cases h with
    | head => exact ⟨t, List.mem_cons_self .., _, rfl⟩
    | tail _ hm =>
      obtain ⟨t', ht', l', hl'⟩ := ih _ u hm
      exact ⟨t', List.mem_cons_of_mem _ ht', l', hl'⟩

theorem length_toPPsFrom : ∀ (ts : List Lex.Tok) (l : Nat), (toPPsFrom l ts).length = ts.length := by
  intro ts
  induction ts with
  | nil => intro l; rfl
  | cons t ts ih => intro l; simp [toPPsFrom, ih]

theorem kindOfPP_kindToPP (k : Lex.Kind) : kindOfPP (kindToPP k) = k := by cases k <;> rfl

theorem ofPP_toPP (t : Lex.Tok) (l : Nat) (h : ∀ c ∈ t.text, Nat.isValidChar c) : ofPP (toPP t l) = t := by
  cases t with
  | mk k a b s =>
    simp only [ofPP, toPP, kindOfPP_kindToPP]
    rw [cps_str a h]

theorem map_ofPP_toPPsFrom : ∀ (ts : List Lex.Tok) (l : Nat), validText ts = true → (toPPsFrom l ts).map ofPP = ts := by
  intro ts
  induction ts with
  | nil => intro l _; rfl
  | cons t ts ih =>
    intro l h
    simp only [validText, List.all_cons, Bool.and_eq_true] at h
    have ht : ∀ c ∈ t.text, Nat.isValidChar c := by
      intro c hc
      have := List.all_eq_true.mp h.1 c hc
      simpa using this
    simp only [toPPsFrom, List.map_cons]
    rw [ofPP_toPP t _ ht, ih _ h.2]

theorem secondPassX_inert (fuel : Nat) (file : String) (ts' : List Lex.Tok) (hf : ts'.length ≤ fuel)
    (hin : inertInit ts' = true) : secondPassX fuel file ts' = .ok (toPPs ts') := by
  unfold secondPassX PP.preprocess
  have := preprocess2_inert Lex.lexOne (PP.initSt file) (toPPs ts') fuel
    (by unfold toPPs; rw [length_toPPsFrom]; exact hf)
    (by
      intro u hu
      obtain ⟨t, ht, l, rfl⟩ := mem_toPPsFrom ts' 0 u hu
      have h := List.all_eq_true.mp hin t ht
      simp only [Bool.and_eq_true, Bool.not_eq_true'] at h
      exact ⟨isHash_toPP t l h.1, findMacro_toPP_none t l h.2⟩)
  rw [this]
  rfl

theorem secondPass_inert (fuel : Nat) (file : String) (ts' : List Lex.Tok) (hf : ts'.length ≤ fuel)
    (hin : inertInit ts' = true) (hv : validText ts' = true) : secondPass fuel file ts' = ts' := by
  unfold secondPass
  rw [secondPassX_inert fuel file ts' hf hin]
  exact map_ofPP_toPPsFrom ts' 0 hv

theorem validText_congr (us ts : List Lex.Tok) (h : us.map (·.text) = ts.map (·.text)) :
    validText us = validText ts := by
  have key : ∀ l : List Lex.Tok, validText l = (l.map (·.text)).all fun a => a.all fun c => decide (Nat.isValidChar c) :=
    fun l => by rw [List.all_map]; rfl
  rw [key, key, h]

theorem length_eq_of_map_text (us ts : List Lex.Tok) (h : us.map (·.text) = ts.map (·.text)) : us.length = ts.length := by
  have := congrArg List.length h
  simpa using this

open ChibiVerif.Lex in
theorem printFrom_prev_congr (p p' : Lex.Tok) (ts : List Lex.Tok) (h : p.text = p'.text) :
    printFrom (some p) ts = printFrom (some p') ts := by
  cases ts with
  | nil => rfl
  | cons t r => simp [printFrom, sepBefore, h]

open ChibiVerif.Lex in
theorem relexed_cons (t : Lex.Tok) (r : List Lex.Tok) :
    ∃ s rest, relexed (t :: r) = ⟨kindOf t.text, t.text, true, s⟩ :: rest ∧
      printFrom (some ⟨kindOf t.text, t.text, true, s⟩) rest = printFrom (some t) r ∧
      rest.map (·.atBol) = r.map (·.atBol) := by
  have hr := fun s => printFrom_relex r t ⟨kindOf t.text, t.text, true, s⟩ rfl
  have hc : ∃ s, relexed (t :: r) = ⟨kindOf t.text, t.text, true, s⟩ :: tokensOf (false, false) (itemsWith sepBefore (some t) r) := by
    unfold relexed
    simp only [itemsWith, tokensOf]
    cases hb : t.atBol <;> cases hs : t.hasSpace <;> simp [sepBefore, blankFlags, hb, hs]
  obtain ⟨s, hs⟩ := hc
  exact ⟨s, _, hs, hr s⟩

open ChibiVerif.Lex in
theorem printTokens_relexed (ts : List Lex.Tok) : printTokens (relexed ts) = printTokens (normFirst ts) := by
  cases ts with
  | nil => rfl
  | cons t r =>
    obtain ⟨s, rest, hs, hp, _⟩ := relexed_cons t r
    rw [hs]
    simp only [printTokens, normFirst, printFrom]
    rw [hp, printFrom_prev_congr { t with atBol := true } t r rfl]
    simp [sepBefore]

open ChibiVerif.Lex in
theorem relexed_atBol (ts : List Lex.Tok) : (relexed ts).map (·.atBol) = (normFirst ts).map (·.atBol) := by
  cases ts with
  | nil => rfl
  | cons t r =>
    obtain ⟨s, rest, hs, _, hb⟩ := relexed_cons t r
    rw [hs]
    simp only [normFirst, List.map_cons, hb]

theorem normFirst_text (ts : List Lex.Tok) : (normFirst ts).map (·.text) = ts.map (·.text) := by
  cases ts <;> rfl

open ChibiVerif.Lex in
theorem inertInit_relexed (ts : List Lex.Tok) : inertInit (relexed ts) = inertInit (normFirst ts) :=
  all_congr_of_maps (fun x b => !(b && x == [35]) && !isInitMacro x) (fun _ => rfl) _ _
    ((relexed_text ts).trans (normFirst_text ts).symm) (relexed_atBol ts)

open ChibiVerif.Lex in
theorem printTokens_normFirst (ts : List Lex.Tok) :
    printTokens ts = printTokens (normFirst ts) ∨ printTokens ts = 32 :: printTokens (normFirst ts) := by
  cases ts with
  | nil => exact .inl rfl
  | cons t r =>
    simp only [printTokens, normFirst, printFrom]
    rw [printFrom_prev_congr { t with atBol := true } t r rfl]
    cases hb : t.atBol <;> cases hs : t.hasSpace <;> simp [sepBefore, hb, hs]

theorem normFirst_of_head (ts : List Lex.Tok) (h : ∀ t ∈ ts.head?, t.atBol = true) : normFirst ts = ts := by
  cases ts with
  | nil => rfl
  | cons t r =>
    have := h t rfl
    cases t with
    | mk k a b s => simp only at this; subst this; rfl

open ChibiVerif.Lex in
theorem passTokens_printTokens (ts : List Lex.Tok) (h : ∀ t ∈ ts, selfLexing t.text = true)
    (hin : inertInit (relexed ts) = true) (hv : validText ts = true)
    (fuel : Nat) (hfuel : ts.length ≤ fuel) (file : String) :
    passTokens fuel file (printTokens ts) = .ok (relexed ts) := by
  have ht := relexed_text ts
  have hv' : validText (relexed ts) = true := by rw [validText_congr _ _ ht]; exact hv
  have hp := secondPassX_inert fuel file (relexed ts) (by rw [length_eq_of_map_text _ _ ht]; exact hfuel) hin
  unfold passTokens
  rw [lex_printTokens ts h]
  simp only [hp]
  rw [show toPPs (relexed ts) = toPPsFrom 0 (relexed ts) from rfl, map_ofPP_toPPsFrom _ 0 hv']

end ChibiVerif.C19Bridge
