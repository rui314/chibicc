/-
C03 — label discipline of the emitted code: `genStmt` defines every unique label of the tree
exactly once, numbers its own `.L.begin/.L.else/.L.end` labels from the monotone `count()`
interval it consumes, and jumps only to labels that are defined in the same function.
-/
import ChibiVerif.Lemmas.StmtParse
import ChibiVerif.Lemmas.StmtMachine

namespace ChibiVerif.Ctl
open ChibiVerif.Spec.Ctl (Val SStmt Event SState truth)

theorem labelsOf_append (a b : List CIns) : labelsOf (a ++ b) = labelsOf a ++ labelsOf b := by
  simp [labelsOf, List.filterMap_append]

theorem targetsOf_append (a b : List CIns) : targetsOf (a ++ b) = targetsOf a ++ targetsOf b := by
  simp [targetsOf, List.filterMap_append]

theorem labelsOf_cons_label (l : Lbl) (r : List CIns) : labelsOf (.label l :: r) = l :: labelsOf r := by
  simp [labelsOf]

theorem cmpCode_labels (w : Bool) (c : Val) (r t : Reg) :
    labelsOf (cmpCode w c r t) = [] ∧ targetsOf (cmpCode w c r t) = [] := by
  unfold cmpCode; split <;> exact ⟨rfl, rfl⟩

theorem subCode_labels (w : Bool) (c : Val) : labelsOf (subCode w c) = [] ∧ targetsOf (subCode w c) = [] := by
  unfold subCode; split <;> exact ⟨rfl, rfl⟩

theorem ladderEnt_labels (w : Bool) (e : CaseEnt) :
    labelsOf (ladderEnt w e) = [] ∧ targetsOf (ladderEnt w e) = [.u e.lbl] := by
  by_cases h : e.lo = e.hi
  · rw [ladderEnt_eq w e h]
    simp only [labelsOf_append, targetsOf_append, cmpCode_labels]
    exact ⟨rfl, rfl⟩
  · rw [ladderEnt_range w e h]
    simp only [labelsOf_append, targetsOf_append, cmpCode_labels, subCode_labels]
    exact ⟨rfl, rfl⟩

theorem labelsOf_ladderEnt (w : Bool) (e : CaseEnt) : labelsOf (ladderEnt w e) = [] := (ladderEnt_labels w e).1
theorem targetsOf_ladderEnt (w : Bool) (e : CaseEnt) : targetsOf (ladderEnt w e) = [.u e.lbl] := (ladderEnt_labels w e).2

theorem labelsOf_ladder (w : Bool) (cs : List CaseEnt) (d : Option Nat) (b : Nat) :
    labelsOf (ladder w cs d b) = [] := by
  unfold ladder
  rw [labelsOf_append, labelsOf_append]
  have h1 : labelsOf (cs.flatMap (ladderEnt w)) = [] := by
    induction cs with
    | nil => rfl
    | cons e r ih => rw [List.flatMap_cons, labelsOf_append, labelsOf_ladderEnt, ih]; rfl
  rw [h1]
  cases d <;> simp [labelsOf]

theorem labelsOf_callOpt (o : Option Nat) : labelsOf (callOpt o) = [] := by
  cases o <;> rfl

@[simp] theorem labelsOf_nil : labelsOf [] = [] := rfl
@[simp] theorem labelsOf_cons (i : CIns) (r : List CIns) :
    labelsOf (i :: r) = (match i with | .label l => [l] | _ => []) ++ labelsOf r := by
  cases i <;> rfl


theorem labelsOf_gen_for (i cnd inc : Option Nat) (brk cont : Nat) (body : Stmt) (c : Nat) :
    labelsOf (genStmt (.for_ i cnd inc brk cont body) c).1 =
      .begin_ c :: (labelsOf (genStmt body (c + 1)).1 ++ [.u cont, .u brk]) := by
  cases cnd <;> simp [genStmt, labelsOf_append, labelsOf_callOpt, cmpZero]

theorem labelsOf_gen_do (brk cont : Nat) (body : Stmt) (k c : Nat) :
    labelsOf (genStmt (.doWhile brk cont body k) c).1 =
      .begin_ c :: (labelsOf (genStmt body (c + 1)).1 ++ [.u cont, .u brk]) := by
  simp [genStmt, labelsOf_append, cmpZero]

theorem labelsOf_gen_switch (w u : Bool) (k : Nat) (cases : List CaseEnt) (dflt : Option Nat) (brk : Nat) (body : Stmt) (c : Nat) :
    labelsOf (genStmt (.switch_ w u k cases dflt brk body) c).1 = labelsOf (genStmt body c).1 ++ [.u brk] := by
  simp [genStmt, labelsOf_append, labelsOf_ladder]

theorem labelsOf_gen_ifte (k : Nat) (t e : Stmt) (c : Nat) :
    labelsOf (genStmt (.ifte k t e) c).1 =
      labelsOf (genStmt t (c + 1)).1 ++ (.else_ c :: (labelsOf (genStmt e (genStmt t (c + 1)).2).1 ++ [.end_ c])) := by
  simp [genStmt, labelsOf_append, cmpZero]

theorem nodup_of_keys {α β γ : Type} (f : α → Option β) (g : α → Option γ) (hfg : ∀ x, f x = none → g x = none → False) :
    ∀ L : List α, (L.filterMap f).Nodup → (L.filterMap g).Nodup → L.Nodup := by
  intro L
  induction L with
  | nil => intro _ _; exact List.nodup_nil
  | cons x r ih =>
    intro hf hg
    rw [List.filterMap_cons] at hf hg
    rw [List.nodup_cons]
    cases hfx : f x with
    | some b =>
      rw [hfx, List.nodup_cons] at hf
      exact ⟨fun hx => hf.1 (List.mem_filterMap.2 ⟨x, hx, hfx⟩), ih hf.2 (by split at hg; exact hg; exact (List.nodup_cons.1 hg).2)⟩
    | none =>
      rw [hfx] at hf
      cases hgx : g x with
      | none => exact (hfg x hfx hgx).elim
      | some c =>
        rw [hgx, List.nodup_cons] at hg
        exact ⟨fun hx => hg.1 (List.mem_filterMap.2 ⟨x, hx, hgx⟩), ih hf hg.2⟩

def Lbl.uniq? : Lbl → Option Nat
  | .u n => some n
  | _ => none

/-- `.L.return` gets 0, below every key of a `count()` label -/
def Lbl.cnt? : Lbl → Option Nat
  | .u _ => none
  | .ret => some 0
  | .begin_ k => some (3 * k + 1)
  | .else_ k => some (3 * k + 2)
  | .end_ k => some (3 * k + 3)

def ulabels (code : List CIns) : List Nat := (labelsOf code).filterMap Lbl.uniq?
def ckeys (code : List CIns) : List Nat := (labelsOf code).filterMap Lbl.cnt?

theorem gen_ulabels (st : Stmt) : ∀ c, ulabels (genStmt st c).1 = defs st := by
  unfold ulabels
  induction st with
  | seq a b iha ihb => intro c; simp only [genStmt, labelsOf_append, List.filterMap_append, iha, ihb, defs]
  | ifte k t e iht ihe =>
    intro c; simp only [labelsOf_gen_ifte, List.filterMap_append, List.filterMap_cons, List.filterMap_nil, iht, ihe, defs, Lbl.uniq?, List.append_nil]
  | block s ih => exact ih
  | case_ _ _ _ s ih | default_ _ s ih | label _ _ s ih =>
    intro c; simp only [genStmt, labelsOf_cons_label, List.filterMap_cons, ih, defs, Lbl.uniq?]
  | switch_ w u k cs d brk body ih =>
    intro c; simp only [labelsOf_gen_switch, List.filterMap_append, List.filterMap_cons, List.filterMap_nil, ih, defs, Lbl.uniq?]
  | for_ i cnd inc brk cont body ih =>
    intro c; simp only [labelsOf_gen_for, List.filterMap_append, List.filterMap_cons, List.filterMap_nil, ih, defs, Lbl.uniq?]
  | doWhile brk cont body k ih =>
    intro c; simp only [labelsOf_gen_do, List.filterMap_append, List.filterMap_cons, List.filterMap_nil, ih, defs, Lbl.uniq?]
  | _ => intro c; simp [genStmt, defs]

theorem gen_ckeys (st : Stmt) : ∀ c, c ≤ (genStmt st c).2 ∧ (ckeys (genStmt st c).1).Nodup ∧
    InR (3 * c + 1) (3 * (genStmt st c).2 + 1) (ckeys (genStmt st c).1) := by
  have K : ∀ {a b : Nat}, a ≤ b → 3 * a + 1 ≤ 3 * b + 1 := fun h => Nat.succ_le_succ (Nat.mul_le_mul_left 3 h)
  unfold ckeys
  -- a loop: its own `.L.begin.c`, then the body from `c + 1`
  have loop : ∀ {st body : Stmt} {c brk cont : Nat},
      labelsOf (genStmt st c).1 = .begin_ c :: (labelsOf (genStmt body (c + 1)).1 ++ [.u cont, .u brk]) →
      (genStmt st c).2 = (genStmt body (c + 1)).2 →
      (c + 1 ≤ (genStmt body (c + 1)).2 ∧ (List.filterMap Lbl.cnt? (labelsOf (genStmt body (c + 1)).1)).Nodup ∧
        InR (3 * (c + 1) + 1) (3 * (genStmt body (c + 1)).2 + 1) (List.filterMap Lbl.cnt? (labelsOf (genStmt body (c + 1)).1))) →
      c ≤ (genStmt st c).2 ∧ (List.filterMap Lbl.cnt? (labelsOf (genStmt st c).1)).Nodup ∧
        InR (3 * c + 1) (3 * (genStmt st c).2 + 1) (List.filterMap Lbl.cnt? (labelsOf (genStmt st c).1)) := by
    intro st body c brk cont hl h2 ⟨la, na, ra⟩
    rw [hl, h2]
    simp only [List.filterMap_append, List.filterMap_cons, List.filterMap_nil, Lbl.cnt?, List.append_nil]
    have hown : InR (3 * c + 1) (3 * (c + 1) + 1) [3 * c + 1] := fun x hx => by cases List.mem_singleton.1 hx; omega
    exact ⟨Nat.le_of_succ_le la, hown.nodup_append ra (by simp) na,
      (hown.mono (Nat.le_refl _) (K la)).append (ra.mono (K (Nat.le_succ c)) (Nat.le_refl _))⟩
  induction st with
  | seq a b iha ihb =>
    intro c
    obtain ⟨la, na, ra⟩ := iha c
    obtain ⟨lb, nb, rb⟩ := ihb (genStmt a c).2
    simp only [genStmt, labelsOf_append, List.filterMap_append]
    exact ⟨Nat.le_trans la lb, ra.nodup_append rb na nb, (ra.mono (Nat.le_refl _) (K lb)).append (rb.mono (K la) (Nat.le_refl _))⟩
  | ifte k t e iht ihe =>
    intro c
    obtain ⟨la, na, ra⟩ := iht (c + 1)
    obtain ⟨lb, nb, rb⟩ := ihe (genStmt t (c + 1)).2
    have h2 : (genStmt (.ifte k t e) c).2 = (genStmt e (genStmt t (c + 1)).2).2 := rfl
    have hc : c + 1 ≤ (genStmt e (genStmt t (c + 1)).2).2 := Nat.le_trans la lb
    -- the two labels of the `if` itself come first in the numbering: `[else, end] ++ (then ++ else)` up to order
    have hp : (List.filterMap Lbl.cnt? (labelsOf (genStmt (.ifte k t e) c).1)).Perm
        ([3 * c + 2, 3 * c + 3] ++ (List.filterMap Lbl.cnt? (labelsOf (genStmt t (c + 1)).1) ++
          List.filterMap Lbl.cnt? (labelsOf (genStmt e (genStmt t (c + 1)).2).1))) := by
      rw [labelsOf_gen_ifte]
      simp only [List.filterMap_append, List.filterMap_cons, List.filterMap_nil, Lbl.cnt?]
      refine List.perm_middle.trans (List.Perm.cons _ ?_)
      rw [← List.append_assoc]
      exact List.perm_append_comm
    have hown : InR (3 * c + 1) (3 * (c + 1) + 1) [3 * c + 2, 3 * c + 3] := fun x hx => by
      simp only [List.mem_cons, List.not_mem_nil, or_false] at hx; omega
    have hsub := (ra.mono (Nat.le_refl _) (K lb)).append (rb.mono (K la) (Nat.le_refl _))
    rw [h2]
    exact ⟨Nat.le_of_succ_le hc, hp.nodup_iff.2 (hown.nodup_append hsub (by simp) (ra.nodup_append rb na nb)),
      fun x hx => ((hown.mono (Nat.le_refl _) (K hc)).append (hsub.mono (K (Nat.le_succ c)) (Nat.le_refl _))) x (hp.mem_iff.1 hx)⟩
  | block s ih => exact ih
  | case_ _ _ _ s ih | default_ _ s ih | label _ _ s ih =>
    intro c; simp only [genStmt, labelsOf_cons_label, List.filterMap_cons, Lbl.cnt?]; exact ih c
  | switch_ w u k cs d brk body ih =>
    intro c
    have h2 : (genStmt (.switch_ w u k cs d brk body) c).2 = (genStmt body c).2 := rfl
    rw [labelsOf_gen_switch, h2]
    simp only [List.filterMap_append, List.filterMap_cons, List.filterMap_nil, Lbl.cnt?, List.append_nil]; exact ih c
  | for_ i cnd inc brk cont body ih => intro c; exact loop (labelsOf_gen_for i cnd inc brk cont body c) rfl (ih (c + 1))
  | doWhile brk cont body k ih => intro c; exact loop (labelsOf_gen_do brk cont body k c) rfl (ih (c + 1))
  | _ => intro c; exact ⟨Nat.le_refl _, List.nodup_nil, fun _ h => absurd h List.not_mem_nil⟩

theorem gen_ckeys_nodup (st : Stmt) (c : Nat) : (ckeys (genStmt st c).1).Nodup := (gen_ckeys st c).2.1
theorem gen_ckeys_range (st : Stmt) (c : Nat) : InR (3 * c + 1) (3 * (genStmt st c).2 + 1) (ckeys (genStmt st c).1) :=
  (gen_ckeys st c).2.2

/-- two partial keys: `Lbl.uniq?` on the `.L..n` labels (distinct because the parser drew them from one counter) and
    `Lbl.cnt?` on the others (distinct because `count()` is threaded); a list is duplicate-free if both key lists are -/
theorem gen_nodup (st : Stmt) (c : Nat) (hn : (defs st).Nodup) : (labelsOf (genStmt st c).1).Nodup :=
  nodup_of_keys Lbl.uniq? Lbl.cnt? (fun x h1 h2 => by cases x <;> cases h1 <;> cases h2) _
    (by rw [← ulabels, gen_ulabels]; exact hn) (gen_ckeys_nodup st c)

theorem mem_gen_u (st : Stmt) (c n : Nat) : Lbl.u n ∈ labelsOf (genStmt st c).1 ↔ n ∈ defs st := by
  rw [← gen_ulabels st c, ulabels, List.mem_filterMap]
  constructor
  · intro h; exact ⟨_, h, rfl⟩
  · rintro ⟨x, hx, hxn⟩
    cases x <;> cases hxn
    exact hx

theorem ret_not_mem_gen (st : Stmt) (c : Nat) : Lbl.ret ∉ labelsOf (genStmt st c).1 := fun h => by
  exact Nat.not_lt_zero _ (gen_ckeys_range st c 0 (List.mem_filterMap.2 ⟨_, h, rfl⟩)).1

@[simp] theorem targetsOf_nil : targetsOf [] = [] := rfl
@[simp] theorem targetsOf_cons (i : CIns) (r : List CIns) :
    targetsOf (i :: r) = (match i with
      | .jmp l => [l] | .je l => [l] | .jne l => [l] | .jbe l => [l] | .lea l => [l] | _ => []) ++ targetsOf r := by
  cases i <;> rfl

theorem targetsOf_callOpt (o : Option Nat) : targetsOf (callOpt o) = [] := by
  cases o <;> rfl

theorem targetsOf_ladder (w : Bool) (cs : List CaseEnt) (d : Option Nat) (b : Nat) :
    ∀ t ∈ targetsOf (ladder w cs d b), (∃ e ∈ cs, t = .u e.lbl) ∨ (∃ x, d = some x ∧ t = .u x) ∨ t = .u b := by
  intro t ht
  unfold ladder at ht
  rw [targetsOf_append, targetsOf_append, List.mem_append, List.mem_append] at ht
  rcases ht with (ht | ht) | ht
  · left
    induction cs with
    | nil => simp at ht
    | cons e r ih =>
      rw [List.flatMap_cons, targetsOf_append, List.mem_append, targetsOf_ladderEnt] at ht
      rcases ht with ht | ht
      · exact ⟨e, by simp, by simpa using ht⟩
      · obtain ⟨e', he', h⟩ := ih ht
        exact ⟨e', by simp [he'], h⟩
  · cases d with
    | none => simp at ht
    | some x =>
      simp at ht
      subst ht
      exact Or.inr (Or.inl ⟨x, rfl, rfl⟩)
  · simp at ht
    exact Or.inr (Or.inr ht)

theorem defs_sublists (st : Stmt) : ((caseEnts st).map (·.lbl)).Sublist (defs st) ∧ (dflts st).Sublist (defs st) ∧
    ((labelPairs st).map (·.2)).Sublist (defs st) := by
  induction st with
  | seq a b iha ihb | ifte _ a b iha ihb =>
    simp only [caseEnts, dflts, labelPairs, defs, List.map_append]
    exact ⟨iha.1.append ihb.1, iha.2.1.append ihb.2.1, iha.2.2.append ihb.2.2⟩
  | block s ih => exact ih
  | for_ _ _ _ _ _ s ih | doWhile _ _ s _ ih =>
    exact ⟨ih.1.trans (List.sublist_append_left ..), ih.2.1.trans (List.sublist_append_left ..), ih.2.2.trans (List.sublist_append_left ..)⟩
  | switch_ _ _ _ _ _ _ s ih => exact ⟨List.nil_sublist _, List.nil_sublist _, ih.2.2.trans (List.sublist_append_left ..)⟩
  | case_ _ _ _ s ih => exact ⟨ih.1.cons_cons _, ih.2.1.cons _, ih.2.2.cons _⟩
  | default_ _ s ih => exact ⟨ih.1.cons _, ih.2.1.cons_cons _, ih.2.2.cons _⟩
  | label l u s ih => exact ⟨ih.1.cons _, ih.2.1.cons _, ih.2.2.cons_cons _⟩
  | _ => exact ⟨List.nil_sublist _, List.nil_sublist _, List.nil_sublist _⟩

theorem caseLbls_sublist (st : Stmt) : ((caseEnts st).map (·.lbl)).Sublist (defs st) := (defs_sublists st).1
theorem dflts_sublist (st : Stmt) : (dflts st).Sublist (defs st) := (defs_sublists st).2.1
theorem labelPairs_sublist (st : Stmt) : ((labelPairs st).map (·.2)).Sublist (defs st) := (defs_sublists st).2.2

/-- where a jump of the code of `st` may go: a label defined in the same code, the break /
    continue label of the enclosing construct, a resolved user label, the function's return label -/
def TargetOK (U : List Nat) (b ct : Option Nat) (code : List CIns) (t : Lbl) : Prop :=
  t ∈ labelsOf code ∨ (∃ n, t = .u n ∧ (b = some n ∨ ct = some n ∨ n ∈ U)) ∨ t = .ret

theorem TargetOK.weaken {U : List Nat} {b ct b' ct' : Option Nat} {sub code : List CIns} {t : Lbl}
    (h : TargetOK U b' ct' sub t) (hl : ∀ l ∈ labelsOf sub, l ∈ labelsOf code)
    (hb : ∀ n, b' = some n → Lbl.u n ∈ labelsOf code ∨ b = some n)
    (hc : ∀ n, ct' = some n → Lbl.u n ∈ labelsOf code ∨ ct = some n) : TargetOK U b ct code t := by
  rcases h with h | ⟨n, rfl, h | h | h⟩ | h
  · exact Or.inl (hl t h)
  · rcases hb n h with h | h
    · exact Or.inl h
    · exact Or.inr (Or.inl ⟨n, rfl, Or.inl h⟩)
  · rcases hc n h with h | h
    · exact Or.inl h
    · exact Or.inr (Or.inl ⟨n, rfl, Or.inr (Or.inl h)⟩)
  · exact Or.inr (Or.inl ⟨n, rfl, Or.inr (Or.inr h)⟩)
  · exact Or.inr (Or.inr h)

theorem TargetOK.sub {U : List Nat} {b ct : Option Nat} {sub code : List CIns} {t : Lbl} (h : TargetOK U b ct sub t)
    (hl : ∀ l ∈ labelsOf sub, l ∈ labelsOf code) : TargetOK U b ct code t :=
  h.weaken hl (fun _ h => Or.inr h) (fun _ h => Or.inr h)

theorem gen_targets (U : List Nat) (st : Stmt) : ∀ (c : Nat) (b ct : Option Nat), Bound b ct st → GotoR (fun _ t => t ∈ U) True st →
    ∀ t ∈ targetsOf (genStmt st c).1, TargetOK U b ct (genStmt st c).1 t := by
  induction st with
  | skip | marker _ => intro c b ct _ _ t ht; simp [genStmt] at ht
  | ret => intro c b ct _ _ t ht; simp [genStmt] at ht; exact Or.inr (Or.inr ht)
  | gotoN _ | gotoValN _ => intro c b ct _ hg; exact hg.elim
  | gotoVal l u =>
    intro c b ct _ hg t ht
    simp [genStmt] at ht
    exact Or.inr (Or.inl ⟨u, ht, Or.inr (Or.inr hg.1)⟩)
  | goto_ k u =>
    intro c b ct hb hg t ht
    simp [genStmt] at ht
    cases k with
    | brk => exact Or.inr (Or.inl ⟨u, ht, Or.inl hb⟩)
    | cont => exact Or.inr (Or.inl ⟨u, ht, Or.inr (Or.inl hb)⟩)
    | user l => exact Or.inr (Or.inl ⟨u, ht, Or.inr (Or.inr hg)⟩)
  | block s ih =>
    intro c b ct hb hg t ht
    exact ih c b ct hb hg t ht
  | seq x y ihx ihy =>
    intro c b ct hb hg t ht
    simp only [genStmt, targetsOf_append, List.mem_append] at ht
    rcases ht with ht | ht
    · exact (ihx c b ct hb.1 hg.1 t ht).sub (by intro l hl; simp [genStmt, labelsOf_append, hl])
    · exact (ihy _ b ct hb.2 hg.2 t ht).sub (by intro l hl; simp [genStmt, labelsOf_append, hl])
  | case_ _ _ _ s ih | default_ _ s ih | label _ _ s ih =>
    intro c b ct hb hg t ht
    simp only [genStmt, targetsOf_cons, List.nil_append] at ht
    exact (ih c b ct hb hg t ht).sub (by intro l hl; simp [genStmt, hl])
  | ifte k x y ihx ihy =>
    intro c b ct hb hg t ht
    simp only [genStmt, targetsOf_append, targetsOf_cons, targetsOf_nil, cmpZero, List.mem_append, List.mem_cons,
      List.nil_append, List.append_nil, List.not_mem_nil, or_false] at ht
    rcases ht with ((rfl | ht) | rfl) | ht
    · exact Or.inl (by rw [labelsOf_gen_ifte]; simp)
    · exact (ihx _ b ct hb.1 hg.1 t ht).sub (by intro l hl; rw [labelsOf_gen_ifte]; simp [hl])
    · exact Or.inl (by rw [labelsOf_gen_ifte]; simp)
    · exact (ihy _ b ct hb.2 hg.2 t ht).sub (by intro l hl; rw [labelsOf_gen_ifte]; simp [hl])
  | doWhile brk cont body k ih =>
    intro c b ct hb hg t ht
    simp only [genStmt, targetsOf_append, targetsOf_cons, targetsOf_nil, cmpZero, List.mem_append, List.mem_cons,
      List.nil_append, List.append_nil, List.not_mem_nil, or_false] at ht
    rcases ht with ht | rfl
    · refine (ih _ _ _ hb hg t ht).weaken (by intro l hl; rw [labelsOf_gen_do]; simp [hl]) ?_ ?_
      · intro n h; cases h; exact Or.inl (by rw [labelsOf_gen_do]; simp)
      · intro n h; cases h; exact Or.inl (by rw [labelsOf_gen_do]; simp)
    · exact Or.inl (by rw [labelsOf_gen_do]; simp)
  | for_ i cnd inc brk cont body ih =>
    intro c b ct hb hg t ht
    have hlab : ∀ l, l ∈ labelsOf (genStmt (.for_ i cnd inc brk cont body) c).1 ↔
        l = .begin_ c ∨ l ∈ labelsOf (genStmt body (c + 1)).1 ∨ l = .u cont ∨ l = .u brk := by
      intro l; rw [labelsOf_gen_for]; simp
    have htar : t ∈ targetsOf (genStmt body (c + 1)).1 ∨ t = .begin_ c ∨ t = .u brk := by
      cases cnd with
      | none =>
        simp [genStmt, targetsOf_append, targetsOf_callOpt] at ht
        rcases ht with h | h
        · exact Or.inl h
        · exact Or.inr (Or.inl h)
      | some kk =>
        simp [genStmt, targetsOf_append, targetsOf_callOpt, cmpZero] at ht
        rcases ht with h | h | h
        · exact Or.inr (Or.inr h)
        · exact Or.inl h
        · exact Or.inr (Or.inl h)
    rcases htar with ht | rfl | rfl
    · refine (ih _ _ _ hb hg t ht).weaken (by intro l hl; rw [hlab]; simp [hl]) ?_ ?_
      · intro n h; cases h; exact Or.inl (by rw [hlab]; simp)
      · intro n h; cases h; exact Or.inl (by rw [hlab]; simp)
    · exact Or.inl (by rw [hlab]; simp)
    · exact Or.inl (by rw [hlab]; simp)
  | switch_ w u k cases dflt brk body ih =>
    intro c b ct hb hg t ht
    obtain ⟨hbb, hcases, hdf⟩ := hb
    have hlab : ∀ l, l ∈ labelsOf (genStmt (.switch_ w u k cases dflt brk body) c).1 ↔
        l ∈ labelsOf (genStmt body c).1 ∨ l = .u brk := by
      intro l; rw [labelsOf_gen_switch]; simp
    simp only [genStmt, targetsOf_append, targetsOf_cons, targetsOf_nil, List.mem_append,
      List.nil_append, List.append_nil] at ht
    rcases ht with ht | ht
    · rcases targetsOf_ladder w cases dflt brk t ht with ⟨e, he, rfl⟩ | ⟨x, rfl, rfl⟩ | rfl
      · exact Or.inl (by rw [hlab]; exact Or.inl ((mem_gen_u ..).2 ((caseLbls_sublist body).subset (List.mem_map_of_mem ((hcases e).1 he)))))
      · exact Or.inl (by rw [hlab]; exact Or.inl ((mem_gen_u ..).2 ((dflts_sublist body).subset hdf)))
      · exact Or.inl (by rw [hlab]; exact Or.inr rfl)
    · refine (ih _ _ _ hbb hg t ht).weaken (by intro l hl; rw [hlab]; exact Or.inl hl) ?_ (fun n h => Or.inr h)
      intro n h; cases h; exact Or.inl (by rw [hlab]; exact Or.inr rfl)

theorem genFn_labels (st : Stmt) (c0 : Nat) (hB : Bound none none st) (hU : GotoR (fun _ t => t ∈ defs st) True st)
    (hn : (defs st).Nodup) :
    (labelsOf (genFn st c0)).Nodup ∧ ∀ t ∈ targetsOf (genFn st c0), t ∈ labelsOf (genFn st c0) := by
  unfold genFn
  rw [labelsOf_append, targetsOf_append]
  constructor
  · exact List.nodup_append.2 ⟨gen_nodup st c0 hn, by simp, fun x hx y hy e => by
      simp only [labelsOf_cons, labelsOf_nil, List.append_nil, List.mem_singleton] at hy
      subst hy; subst e; exact ret_not_mem_gen st c0 hx⟩
  · intro t ht
    rw [List.mem_append] at ht ⊢
    rcases ht with ht | ht
    · rcases gen_targets (defs st) st c0 none none hB hU t ht with h | ⟨n, rfl, h | h | h⟩ | h
      · exact Or.inl h
      · cases h
      · cases h
      · exact Or.inl ((mem_gen_u ..).2 h)
      · subst h; exact Or.inr (by simp)
    · simp at ht

/-- in the code of a parsed function all defined labels are pairwise distinct and every jump goes to one of them (a
    resolved jump goes to a labelled statement of the function, and the code defines its label) -/
theorem ParsedFn.labels {s : SStmt} {st : Stmt} (h : ParsedFn s st) (c0 : Nat) :
    (labelsOf (genFn st c0)).Nodup ∧ ∀ t ∈ targetsOf (genFn st c0), t ∈ labelsOf (genFn st c0) :=
  genFn_labels st c0 h.bound
    (GotoR.imp (fun _ _ hlt => (labelPairs_sublist st).subset (List.mem_map_of_mem (f := (·.2)) hlt)) _ h.goto fun _ => id) h.nodup

end ChibiVerif.Ctl
