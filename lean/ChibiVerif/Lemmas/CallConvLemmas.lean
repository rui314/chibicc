/-
Helper lemmas for Props/C06.lean, chibicc's side.  chibicc places arguments by the psABI's allocation algorithm (`alloc`:
all eightbytes of an argument find a register of their class, or the argument goes to the stack) run on its own view of a
type (`chibiClasses`: `has_flonum` per eightbyte), with stack arguments in 8-byte slots and no padding: `refStep`, `refLoop`.
Each of the five loops that take part in a call is that pass: `popStep_alloc` and `classifyStep_alloc` say what the step of the
pop loop / of `push_args` does in either outcome of `alloc`, `storeStep_alloc` what the prologue does with a parameter that `alloc`
sends to registers (it skips the others), `offsetStep_classify` that `assign_lvar_offsets` decides as `push_args` does; then
`caller_loop` and `callee_loop`.  The loops of `push_args` and `assign_lvar_offsets` count on after the registers are exhausted; the others,
and the reference, stop: hence `min · 6`, `min · 8` on the counters of those two and nowhere else.  Return values likewise:
`ret_chibi`.
-/
import ChibiVerif.Lemmas.C06Vocabulary
import ChibiVerif.Spec.PsABI

namespace ChibiVerif.CallConv
open ChibiVerif.Spec.PsABI
open ChibiVerif.Gen.Templates (GP_MAX FP_MAX)

theorem GP_MAX_eq : GP_MAX = 6 := rfl
theorem FP_MAX_eq : FP_MAX = 8 := rfl

/-- a counter below its maximum, saturated: the `gp++ >= GP_MAX` tests of the caller count on, the pop and store loops stop -/
theorem sat_lt {g n : Nat} (h : g < n) : ¬ g ≥ n ∧ min g n = g ∧ min (g + 1) n = g + 1 := by omega
theorem sat_ge {g n : Nat} (h : ¬ g < n) : g ≥ n ∧ min g n = n ∧ min (g + 1) n = n := by omega

theorem min_b2n (b : Bool) : min (b2n b) 6 = b2n b := by cases b <;> rfl

/-- INTEGER / SSE registers an aggregate of at most 16 bytes takes, as `struct_in_regs` counts them (whatever is taken already) -/
def ngp (ty : ATy) : Nat := (structInRegs ty 0 0).2.1
def nfp (ty : ATy) : Nat := (structInRegs ty 0 0).2.2

/-- class of eightbyte `k` as chibicc sees it -/
def flonumClass (ty : ATy) (k : Nat) : Class := if hasFlonum ty (8 * k) (8 * k + 8) 0 then .sse else .integer

theorem flonumClass0 (ty : ATy) : flonumClass ty 0 = if hasFlonum1 ty then Class.sse else Class.integer := by
  rfl

theorem flonumClass1 (ty : ATy) : flonumClass ty 1 = if hasFlonum2 ty then Class.sse else Class.integer := by
  rfl

/-- the classes `has_flonum` gives the eightbytes of an aggregate of at most 16 bytes -/
def smallClasses (ty : ATy) : List Class :=
  if ty.size = 0 then [] else if ty.size > 8 then [flonumClass ty 0, flonumClass ty 1] else [flonumClass ty 0]

/-- the classes chibicc takes the eightbytes of an argument or return value to have -/
def chibiClasses : ATy → List Class
  | .agg u sz al ms => if sz ≤ 16 then smallClasses (.agg u sz al ms) else [.memory]
  | t => scalarClasses t

/-- the psABI's register test for an argument whose eightbytes have the classes `cs`, with `g` INTEGER and `f` SSE registers
    taken: the counters afterwards and the registers of the eightbytes, or `none` for the stack -/
def alloc (cs : List Class) (g f : Nat) : Option (Nat × Nat × List Reg) :=
  if !inMemory cs ∧ g + countClass .integer cs ≤ 6 ∧ f + countClass .sse cs ≤ 8 then
    some (g + countClass .integer cs, f + countClass .sse cs, regPieces cs g f)
  else none

theorem alloc_le {cs : List Class} {g f : Nat} {r : Nat × Nat × List Reg} (h : alloc cs g f = some r) :
    r.1 ≤ 6 ∧ r.2.1 ≤ 8 := by
  unfold alloc at h
  split at h
  · rename_i hfit; cases h; exact hfit.2
  · cases h

/-- chibicc's placement of one argument.  State: (INTEGER registers taken, SSE registers taken, byte offset of the next
    stack argument) -/
def refStep (st : Nat × Nat × Nat) (t : ATy) : (Nat × Nat × Nat) × ArgLoc :=
  match alloc (chibiClasses t) st.1 st.2.1 with
  | some (g, f, ps) => ((g, f, st.2.2), .regs ps)
  | none => ((st.1, st.2.1, st.2.2 + 8 * pushSlots t), .stack st.2.2)

def refLoop : (Nat × Nat × Nat) → List ATy → (Nat × Nat × Nat) × List ArgLoc
  | st, [] => (st, [])
  | st, t :: ts =>
    let r := refStep st t
    let r' := refLoop r.1 ts
    (r'.1, r.2 :: r'.2)

theorem structInRegs_snd (ty : ATy) (gp fp : Nat) : (structInRegs ty gp fp).2 = (ngp ty, nfp ty) := by
  simp only [ngp, nfp, structInRegs]; split <;> rfl

theorem aggSizeOk_agg {u : Bool} {sz al : Nat} {ms : Members} (h : aggSizeOk (.agg u sz al ms) = true) (h16 : sz ≤ 16)
    (hpos : 0 < sz) :
    (hasFlonum1 (.agg u sz al ms) = true → sz = 4 ∨ 8 ≤ sz) ∧
    (sz > 8 → hasFlonum2 (.agg u sz al ms) = true → sz = 12 ∨ sz = 16) := by
  simp only [aggSizeOk] at h
  have hz : ¬ sz = 0 := by omega
  generalize hasFlonum1 (.agg u sz al ms) = f1 at *
  generalize hasFlonum2 (.agg u sz al ms) = f2 at *
  cases f1 <;> cases f2 <;> simp [h16, hz] at h ⊢ <;> omega

theorem alignTo8_div (s : Nat) : alignTo s 8 / 8 = (s + 7) / 8 := by
  unfold alignTo; omega

theorem structInRegs_fst_iff (ty : ATy) (gp fp : Nat) :
    (structInRegs ty gp fp).1 = true ↔
      min gp 6 + ngp ty ≤ 6 ∧ min fp 8 + nfp ty ≤ 8 := by
  by_cases hz : ty.size = 0
  · simp only [ngp, nfp, structInRegs, hz, if_true, Nat.add_zero, true_iff]; omega
  · simp only [ngp, nfp, structInRegs, hz, if_false, Bool.and_eq_true, Bool.or_eq_true, beq_iff_eq, decide_eq_true_eq]
    rw [GP_MAX_eq, FP_MAX_eq]
    omega

theorem structInRegs_min (ty : ATy) (gp fp : Nat) :
    (structInRegs ty (min gp 6) (min fp 8)).1 = (structInRegs ty gp fp).1 := by
  rw [Bool.eq_iff_iff, structInRegs_fst_iff, structInRegs_fst_iff]
  omega

theorem slots_eq (t : ATy) (hsz : aggSizeOk t = true) : (t.size + 7) / 8 = pushSlots t := by
  cases t with
  | agg u sz al ms => exact (alignTo8_div sz).symm
  | int sz u b =>
    simp only [aggSizeOk, Bool.and_eq_true, decide_eq_true_eq] at hsz
    simp only [ATy.size, pushSlots]; omega
  | arr e n => simp [aggSizeOk] at hsz
  | _ => rfl

theorem popStep_agg (u : Bool) (sz al : Nat) (ms : Members) (g f : Nat) (h16 : sz ≤ 16)
    (hok : (structInRegs (.agg u sz al ms) g f).1 = true) :
    (popStep (g, f) (.agg u sz al ms)).1 = (g + ngp (.agg u sz al ms), f + nfp (.agg u sz al ms)) ∧
    (popStep (g, f) (.agg u sz al ms)).2.map Pop.reg = regPieces (smallClasses (.agg u sz al ms)) g f ∧
    (popStep (g, f) (.agg u sz al ms)).2.length = pushSlots (.agg u sz al ms) := by
  by_cases hz : sz = 0
  · subst hz
    simp [popStep, ATy.size, ngp, nfp, structInRegs, smallClasses, regPieces, pushSlots, alignTo]
  have h16' : ¬ sz > 16 := by omega
  simp only [popStep, ATy.size, h16', hz, or_self, if_false, hok, if_true, pushSlots, alignTo]
  simp only [ngp, nfp, structInRegs, smallClasses, flonumClass0, flonumClass1, ATy.size, b2n, hz, if_false]
  generalize hasFlonum1 (.agg u sz al ms) = f1
  generalize hasFlonum2 (.agg u sz al ms) = f2
  -- the eight shapes of the two-eightbyte ladder (first eightbyte fp or gp) x (second fp or gp) x (one eightbyte or two): in each
  -- the pops, the pieces and the counts are literals and agree; a finite fact, so a sweep
  cases f1 <;> cases f2 <;> by_cases h8 : sz > 8 <;>
    simp only [h8, if_true, if_false, Bool.false_eq_true, Bool.not_true, Bool.not_false, List.map, Pop.reg, regPieces,
      List.length_cons, List.length_nil, Nat.add_zero, Nat.zero_add, Nat.add_assoc, true_and] <;> omega

theorem storeStep_agg (u : Bool) (sz al : Nat) (ms : Members) (g f : Nat) (h16 : sz ≤ 16)
    (hsz : aggSizeOk (.agg u sz al ms) = true) (hok : (structInRegs (.agg u sz al ms) g f).1 = true) :
    ∃ ss, storeStep (g, f) (.agg u sz al ms) =
        .ok ((g + ngp (.agg u sz al ms), f + nfp (.agg u sz al ms)), ss) ∧
      ss.map Store.reg = regPieces (smallClasses (.agg u sz al ms)) g f := by
  by_cases hz : sz = 0
  · subst hz
    refine ⟨[], ?_, ?_⟩ <;> simp [storeStep, ATy.size, ngp, nfp, structInRegs, smallClasses, regPieces, pure, Except.pure]
  obtain ⟨hf1, hf2⟩ := aggSizeOk_agg hsz h16 (by omega)
  -- `store_fp` is reached with 4 or 8 bytes only
  have w1 : hasFlonum1 (.agg u sz al ms) = true → (min 8 sz = 4 ∨ min 8 sz = 8) := fun h => by have := hf1 h; omega
  have w2 : sz > 8 → hasFlonum2 (.agg u sz al ms) = true → (sz - 8 = 4 ∨ sz - 8 = 8) := fun h8 h => by have := hf2 h8 h; omega
  simp only [storeStep, ATy.size, h16, hz, if_true, if_false, storeFp, storeGp]
  simp only [ngp, nfp, structInRegs, smallClasses, flonumClass, ATy.size, b2n, hz, if_false, hasFlonum1, hasFlonum2, GP_MAX_eq,
    FP_MAX_eq] at hok w1 w2 ⊢
  -- the same eight shapes; in each, `w1` / `w2` discharge `store_fp`'s size test for an fp eightbyte and `hok` (the registers
  -- fit) `store_gp`'s index test for a gp one (`if_pos (by omega)`), then stores and pieces are literals
  by_cases e1 : hasFlonum (.agg u sz al ms) 0 8 0 = true <;> by_cases e2 : hasFlonum (.agg u sz al ms) 8 16 0 = true <;>
    by_cases h8 : sz > 8 <;>
    simp only [e1, e2, h8, w1, w2, bind, Except.bind, pure, Except.pure, if_true, if_false, Bool.not_true, Bool.not_false,
      Bool.false_eq_true, Nat.add_zero, Nat.zero_add, beq_iff_eq, Bool.and_eq_true, Bool.or_eq_true,
      decide_eq_true_eq] at hok ⊢ <;>
    (repeat rw [if_pos (by omega)]) <;>
    exact ⟨_, rfl, rfl⟩

theorem classifyStep_agg (u : Bool) (sz al : Nat) (ms : Members) (gp fp stk : Nat) :
    classifyStep (gp, fp, stk) (.agg u sz al ms) =
      if sz ≤ 16 ∧ (structInRegs (.agg u sz al ms) gp fp).1 = true then
        ((gp + ngp (.agg u sz al ms), fp + nfp (.agg u sz al ms), stk), false)
      else ((gp, fp, stk + alignTo sz 8 / 8), true) := by
  simp only [classifyStep, ATy.size]
  by_cases h16 : sz ≤ 16
  · have : ¬ sz > 16 := by omega
    simp only [h16, this, true_and, if_false, structInRegs_snd]
  · have : sz > 16 := by omega
    simp only [h16, this, false_and, if_true, if_false]

theorem smallClasses_spec (ty : ATy) :
    inMemory (smallClasses ty) = false ∧
    countClass .integer (smallClasses ty) = ngp ty ∧
    countClass .sse (smallClasses ty) = nfp ty := by
  simp only [smallClasses, flonumClass0, flonumClass1, ngp, nfp, structInRegs, b2n]
  by_cases hz : ty.size = 0
  · simp [hz, inMemory, countClass]
  · simp only [hz, if_false]
    -- the eight shapes again: the class list is a literal of one or two of SSE / INTEGER, its counts are numerals
    cases hasFlonum1 ty <;> cases hasFlonum2 ty <;> by_cases h8 : ty.size > 8 <;>
      simp [h8, inMemory, countClass]

theorem alloc_int (sz : Nat) (u b : Bool) (g f : Nat) (hf : f ≤ 8) :
    alloc (chibiClasses (.int sz u b)) g f = if g < 6 then some (g + 1, f, [.gp g]) else none := by
  simp only [alloc, chibiClasses, scalarClasses, inMemory, countClass, regPieces]
  by_cases h : g < 6
  · have : g + 1 ≤ 6 := h
    simp [h, this, hf]
  · have : ¬ g + 1 ≤ 6 := by omega
    simp [h, this]

theorem alloc_flt (t : ATy) (ht : t = .flt ∨ t = .dbl) (g f : Nat) (hg : g ≤ 6) :
    alloc (chibiClasses t) g f = if f < 8 then some (g, f + 1, [.sse f]) else none := by
  rcases ht with rfl | rfl <;>
  · simp only [alloc, chibiClasses, scalarClasses, inMemory, countClass, regPieces]
    by_cases h : f < 8
    · have : f + 1 ≤ 8 := h
      simp [h, this, hg]
    · have : ¬ f + 1 ≤ 8 := by omega
      simp [h, this]

theorem alloc_agg (u : Bool) (sz al : Nat) (ms : Members) (g f : Nat) (hg : g ≤ 6) (hf : f ≤ 8) :
    alloc (chibiClasses (.agg u sz al ms)) g f =
      if sz ≤ 16 ∧ (structInRegs (.agg u sz al ms) g f).1 = true then
        some (g + ngp (.agg u sz al ms), f + nfp (.agg u sz al ms), regPieces (smallClasses (.agg u sz al ms)) g f)
      else none := by
  simp only [chibiClasses]
  by_cases h16 : sz ≤ 16
  · obtain ⟨hm, hi, hs⟩ := smallClasses_spec (.agg u sz al ms)
    simp only [h16, if_true, alloc, hm, hi, hs, structInRegs_fst_iff, Nat.min_eq_left hg, Nat.min_eq_left hf,
      Bool.not_false, true_and]
  · simp only [h16, if_false, false_and]; rfl

/-- the pop loop of `ND_FUNCALL` on one argument: registers of the reference placement popped in order, as many as
    `push_args2` pushed slots; nothing for a stack argument -/
theorem popStep_alloc (t : ATy) (g f : Nat) (hg : g ≤ 6) (hf : f ≤ 8) (hok : aggSizeOk t = true) :
    match alloc (chibiClasses t) g f with
    | some (g', f', ps) => (popStep (g, f) t).1 = (g', f') ∧ (popStep (g, f) t).2.map Pop.reg = ps ∧
        (popStep (g, f) t).2.length = pushSlots t
    | none => popStep (g, f) t = ((g, f), []) := by
  cases t with
  | agg u sz al ms =>
    rw [alloc_agg u sz al ms g f hg hf]
    by_cases hreg : sz ≤ 16 ∧ (structInRegs (.agg u sz al ms) g f).1 = true
    · simp only [hreg, and_self, if_true]
      exact popStep_agg u sz al ms g f hreg.1 hreg.2
    · simp only [hreg, if_false, popStep, ATy.size]
      by_cases hc : sz > 16 ∨ sz = 0
      · simp only [hc, if_true]
      · have hn : ¬ (structInRegs (.agg u sz al ms) g f).1 = true := fun h => hreg ⟨by omega, h⟩
        simp only [hc, hn, if_false, Bool.false_eq_true]
  | int sz u b =>
    rw [alloc_int sz u b g f hf]
    by_cases h : g < 6 <;> simp [popStep, GP_MAX_eq, h, pushSlots, Pop.reg]
  | flt | dbl =>
    rw [alloc_flt _ (by simp) g f hg]
    by_cases h : f < 8 <;> simp [popStep, FP_MAX_eq, h, pushSlots, Pop.reg]
  | ldbl => rfl
  | arr e n => simp [aggSizeOk] at hok

/-- the classification loop: it counts on after the registers are exhausted; saturated, its counters are the reference's -/
theorem classifyStep_alloc (t : ATy) (cg cf stk : Nat) (hok : aggSizeOk t = true) :
    ∃ cg' cf',
    match alloc (chibiClasses t) (min cg 6) (min cf 8) with
    | some (g', f', _) => classifyStep (cg, cf, stk) t = ((cg', cf', stk), false) ∧ min cg' 6 = g' ∧ min cf' 8 = f'
    | none => classifyStep (cg, cf, stk) t = ((cg', cf', stk + pushSlots t), true) ∧ min cg' 6 = min cg 6 ∧ min cf' 8 = min cf 8 := by
  refine ⟨(classifyStep (cg, cf, stk) t).1.1, (classifyStep (cg, cf, stk) t).1.2.1, ?_⟩
  cases t with
  | agg u sz al ms =>
    rw [alloc_agg u sz al ms _ _ (Nat.min_le_right ..) (Nat.min_le_right ..), classifyStep_agg, structInRegs_min]
    by_cases hreg : sz ≤ 16 ∧ (structInRegs (.agg u sz al ms) cg cf).1 = true
    · obtain ⟨h1, h2⟩ := (structInRegs_fst_iff _ _ _).1 hreg.2
      simp only [hreg, and_self, if_true, true_and]; omega
    · simp only [hreg, if_false, pushSlots, and_self]
  | int sz u b =>
    rw [alloc_int sz u b _ _ (Nat.min_le_right ..)]
    by_cases h : cg < 6
    · obtain ⟨h1, h2, h3⟩ := sat_lt h
      simp only [classifyStep, GP_MAX_eq, h, h1, h2, h3, if_true, if_false, and_self]
    · obtain ⟨h1, h2, h3⟩ := sat_ge h
      simp only [classifyStep, GP_MAX_eq, h1, h2, h3, Nat.lt_irrefl, if_true, if_false, pushSlots, and_self]
  | flt | dbl =>
    rw [alloc_flt _ (by simp) _ _ (Nat.min_le_right ..)]
    by_cases h : cf < 8
    · obtain ⟨h1, h2, h3⟩ := sat_lt h
      simp only [classifyStep, FP_MAX_eq, h, h1, h2, h3, if_true, if_false, and_self]
    · obtain ⟨h1, h2, h3⟩ := sat_ge h
      simp only [classifyStep, FP_MAX_eq, h1, h2, h3, Nat.lt_irrefl, if_true, if_false, pushSlots, and_self]
  | ldbl => exact ⟨rfl, rfl, rfl⟩
  | arr e n => simp [aggSizeOk] at hok

theorem classifyLoop_cons (st : Nat × Nat × Nat) (t : ATy) (ts : List ATy) :
    classifyLoop st (t :: ts) =
      ((classifyLoop (classifyStep st t).1 ts).1, (classifyStep st t).2 :: (classifyLoop (classifyStep st t).1 ts).2) := rfl

theorem popLoop_cons (st : Nat × Nat) (t : ATy) (ts : List ATy) :
    popLoop st (t :: ts) = ((popLoop (popStep st t).1 ts).1, (popStep st t).2 :: (popLoop (popStep st t).1 ts).2) := rfl

theorem refLoop_cons (st : Nat × Nat × Nat) (t : ATy) (ts : List ATy) :
    refLoop st (t :: ts) = ((refLoop (refStep st t).1 ts).1, (refStep st t).2 :: (refLoop (refStep st t).1 ts).2) := rfl

/-- the caller's three loops against the reference pass, from any state: (1) what `push_args` flagged and pushed and the pop
    loop popped combine, without `assert(depth == 0)` failing, to the reference placement; (2) `push_args`' `stack` counts
    the slots of the first pushing pass; (3) the second pass pushes as many slots as the pop loop pops; (4) the pop loop ends
    with the reference's SSE count (`mov $fp, %rax`) -/
theorem caller_loop (ts : List ATy) : ∀ (cg cf stk off : Nat), ts.all aggSizeOk = true →
    combineCaller ts (stackOffsets off ts (classifyLoop (cg, cf, stk) ts).2) (popLoop (min cg 6, min cf 8) ts).2
      = .ok (refLoop (min cg 6, min cf 8, off) ts).2 ∧
    (classifyLoop (cg, cf, stk) ts).1.2.2 = stk + firstPassSlots ts (classifyLoop (cg, cf, stk) ts).2 ∧
    secondPassSlots ts (classifyLoop (cg, cf, stk) ts).2 = popCount (popLoop (min cg 6, min cf 8) ts).2 ∧
    (popLoop (min cg 6, min cf 8) ts).1.2 = (refLoop (min cg 6, min cf 8, off) ts).1.2.1 := by
  induction ts with
  | nil => intro cg cf stk off _; simp [combineCaller, classifyLoop, popLoop, refLoop, firstPassSlots, secondPassSlots, popCount]
  | cons t ts ih =>
    intro cg cf stk off hok
    simp only [List.all_cons, Bool.and_eq_true] at hok
    obtain ⟨cg', cf', hc⟩ := classifyStep_alloc t cg cf stk hok.1
    have hp := popStep_alloc t (min cg 6) (min cf 8) (Nat.min_le_right ..) (Nat.min_le_right ..) hok.1
    rw [classifyLoop_cons, popLoop_cons, refLoop_cons, refStep]
    cases h : alloc (chibiClasses t) (min cg 6) (min cf 8) with
    | none =>
      simp only [h] at hc hp ⊢
      obtain ⟨hc, hg, hf⟩ := hc
      have ih' := ih cg' cf' (stk + pushSlots t) (off + 8 * pushSlots t) hok.2
      rw [hg, hf] at ih'
      rw [hc, hp]
      simp only [stackOffsets, combineCaller, firstPassSlots, secondPassSlots, popCount, List.map_cons, List.sum_cons,
        if_true, List.isEmpty_nil, ih'.1, Except.map, List.length_nil]
      refine ⟨trivial, ?_, ?_, ih'.2.2.2⟩
      · rw [ih'.2.1]; omega
      · rw [ih'.2.2.1]; simp [popCount]
    | some r =>
      obtain ⟨g', f', ps⟩ := r
      simp only [h] at hc hp ⊢
      obtain ⟨hc, hg, hf⟩ := hc
      obtain ⟨hp1, hp2, hp3⟩ := hp
      have ih' := ih cg' cf' stk off hok.2
      rw [hg, hf] at ih'
      rw [hc, hp1]
      simp only [stackOffsets, combineCaller, firstPassSlots, secondPassSlots, popCount, List.map_cons, List.sum_cons,
        Bool.false_eq_true, if_false, hp3, if_true, ih'.1, hp2, Except.map]
      refine ⟨trivial, ?_, ?_, ih'.2.2.2⟩
      · rw [ih'.2.1]; omega
      · rw [ih'.2.2.1]; simp [popCount]

theorem callerAssign_eq (s : Sig) (h : s.params.all aggSizeOk = true) :
    callerAssign s = .ok (refLoop (b2n (retLarge s.ret), 0, 0) s.params).2 := by
  have := (caller_loop s.params (b2n (retLarge s.ret)) 0 0 0 h).1
  rw [min_b2n, Nat.zero_min] at this
  simpa [callerAssign, classifyArgs, popPhase] using this

/-- a parameter that `assign_lvar_offsets` leaves on the stack: `top` stays 16 + (the psABI offset) up to 8-byte alignment -/
theorem onStack_inv (top off sz : Nat) (hinv : alignTo top 8 = 16 + off) :
    alignTo (alignTo top 8 + sz) 8 = 16 + (off + 8 * ((sz + 7) / 8)) ∧
    ∀ v, some (alignTo top 8) = some v → ArgLoc.stack off = ArgLoc.stack (v - 16) := by
  refine ⟨?_, fun v h => ?_⟩
  · simp only [alignTo] at hinv ⊢; omega
  · cases h; rw [hinv]; congr; omega

/-- `assign_lvar_offsets` counts registers and decides register / stack exactly as `push_args` does -/
theorem offsetStep_classify (t : ATy) (cg cf top stk : Nat) :
    offsetStep (cg, cf, top) t =
      (((classifyStep (cg, cf, stk) t).1.1, (classifyStep (cg, cf, stk) t).1.2.1,
         if (classifyStep (cg, cf, stk) t).2 then alignTo top 8 + t.size else top),
       if (classifyStep (cg, cf, stk) t).2 then some (alignTo top 8) else none) := by
  cases t with
  | agg u sz al ms =>
    rw [classifyStep_agg]
    simp only [offsetStep, ATy.size]
    by_cases h16 : sz ≤ 16
    · simp only [h16, true_and, if_true, structInRegs_snd]; split <;> rfl
    · simp only [h16, false_and, if_false, if_true]
  | int _ _ _ | arr _ _ =>
    simp only [offsetStep, classifyStep]
    by_cases h : cg < GP_MAX
    · have : ¬ cg ≥ GP_MAX := by omega
      simp [h, this]
    · have : cg ≥ GP_MAX := by omega
      simp [h, this]
  | flt | dbl =>
    simp only [offsetStep, classifyStep]
    by_cases h : cf < FP_MAX
    · have : ¬ cf ≥ FP_MAX := by omega
      simp [h, this]
    · have : cf ≥ FP_MAX := by omega
      simp [h, this]
  | ldbl => rfl

/-- a register parameter in the prologue: `store_gp` / `store_fp` from the registers of the reference placement without
    reaching `unreachable()`, and the counting loop of the variadic prologue moves as the reference does -/
theorem storeStep_alloc (t : ATy) (g f ov : Nat) (hg : g ≤ 6) (hf : f ≤ 8) (hok : aggSizeOk t = true) :
    match alloc (chibiClasses t) g f with
    | some (g', f', ps) => (∃ ss, storeStep (g, f) t = .ok ((g', f'), ss) ∧ ss.map Store.reg = ps) ∧
        vaCountStep (g, f, ov) t none = (g', f', ov)
    | none => True := by
  cases t with
  | agg u sz al ms =>
    rw [alloc_agg u sz al ms g f hg hf]
    by_cases hreg : sz ≤ 16 ∧ (structInRegs (.agg u sz al ms) g f).1 = true
    · simp only [hreg, and_self, if_true]
      exact ⟨storeStep_agg u sz al ms g f hreg.1 hok hreg.2, by simp only [vaCountStep, structInRegs_snd]⟩
    · simp only [hreg, if_false]
  | int sz u b =>
    simp only [aggSizeOk, Bool.and_eq_true, decide_eq_true_eq] at hok
    rw [alloc_int sz u b g f hf]
    by_cases h : g < 6
    · simp [h, storeStep, storeGp, vaCountStep, Store.reg, bind, Except.bind, pure, Except.pure]
    · simp only [h, if_false]
  | flt | dbl =>
    rw [alloc_flt _ (by simp) g f hg]
    by_cases h : f < 8
    · simp [h, storeStep, storeFp, vaCountStep, ATy.size, Store.reg, bind, Except.bind, pure, Except.pure]
    · simp only [h, if_false]
  | ldbl => trivial
  | arr e n => simp [aggSizeOk] at hok

theorem offsetLoop_cons (st : Nat × Nat × Nat) (t : ATy) (ts : List ATy) :
    offsetLoop st (t :: ts) =
      ((offsetLoop (offsetStep st t).1 ts).1, (offsetStep st t).2 :: (offsetLoop (offsetStep st t).1 ts).2) := rfl

/-- the callee's loops against the reference pass, from any state with `top` 16 + the reference's stack offset (up to 8-byte
    alignment): the prologue's store loop reaches no abort site and, with the offsets of `assign_lvar_offsets`, reads every
    parameter from the reference placement; and the counting loop of the variadic prologue ends in the reference's state
    (gp_offset, fp_offset, overflow_arg_area) -/
theorem callee_loop (ts : List ATy) : ∀ (cg cf top off : Nat), ts.all aggSizeOk = true → alignTo top 8 = 16 + off →
    (∃ stores, storeLoop (min cg 6, min cf 8) ts (offsetLoop (cg, cf, top) ts).2 = .ok stores ∧
      combineCallee (offsetLoop (cg, cf, top) ts).2 stores = (refLoop (min cg 6, min cf 8, off) ts).2) ∧
    vaCountLoop (min cg 6, min cf 8, 16 + off) ts (offsetLoop (cg, cf, top) ts).2 =
      ((refLoop (min cg 6, min cf 8, off) ts).1.1, (refLoop (min cg 6, min cf 8, off) ts).1.2.1,
       16 + (refLoop (min cg 6, min cf 8, off) ts).1.2.2) := by
  induction ts with
  | nil => intro _ _ _ _ _ _; exact ⟨⟨[], rfl, rfl⟩, rfl⟩
  | cons t ts ih =>
    intro cg cf top off hok hinv
    simp only [List.all_cons, Bool.and_eq_true] at hok
    obtain ⟨cg', cf', hc⟩ := classifyStep_alloc t cg cf 0 hok.1
    have hs := storeStep_alloc t (min cg 6) (min cf 8) (16 + off) (Nat.min_le_right ..) (Nat.min_le_right ..) hok.1
    rw [offsetLoop_cons, refLoop_cons, refStep, offsetStep_classify t cg cf top 0]
    cases h : alloc (chibiClasses t) (min cg 6) (min cf 8) with
    | none =>
      -- a stack parameter: the store loop skips it; the register counters do not move
      simp only [h] at hc ⊢
      obtain ⟨hc, hg, hf⟩ := hc
      obtain ⟨h1, h2⟩ := onStack_inv top off t.size hinv
      rw [slots_eq t hok.1] at h1
      obtain ⟨⟨stores, hst, hcomb⟩, hva⟩ := ih cg' cf' (alignTo top 8 + t.size) (off + 8 * pushSlots t) hok.2 h1
      rw [hg, hf] at hst hcomb hva
      rw [hc]
      refine ⟨⟨[] :: stores, ?_, ?_⟩, ?_⟩
      · simp only [if_true, storeLoop, hst]; rfl
      · simp only [if_true, combineCallee, hcomb, h2 _ rfl]
      · simp only [if_true, vaCountLoop, vaCountStep]
        rw [← hva, h1, Nat.max_eq_right (by omega)]
    | some r =>
      obtain ⟨g', f', ps⟩ := r
      simp only [h] at hc hs ⊢
      obtain ⟨hc, hg, hf⟩ := hc
      obtain ⟨⟨ss, hss, hps⟩, hv⟩ := hs
      obtain ⟨⟨stores, hst, hcomb⟩, hva⟩ := ih cg' cf' top off hok.2 hinv
      rw [hg, hf] at hst hcomb hva
      rw [hc]
      refine ⟨⟨ss :: stores, ?_, ?_⟩, ?_⟩
      · simp only [Bool.false_eq_true, if_false, storeLoop, hss, hst, bind, Except.bind, pure, Except.pure]
      · simp only [Bool.false_eq_true, if_false, combineCallee, hcomb, hps]
      · simp only [Bool.false_eq_true, if_false, vaCountLoop, hv, hva]

theorem refLoop_take (ts : List ATy) : ∀ (n : Nat) (st : Nat × Nat × Nat),
    (refLoop st (ts.take n)).2 = (refLoop st ts).2.take n := by
  induction ts with
  | nil => intro n st; simp [refLoop]
  | cons t ts ih =>
    intro n st
    cases n with
    | zero => simp [refLoop]
    | succ n => simp only [List.take_succ_cons, refLoop_cons, ih]

theorem all_take {α : Type} (p : α → Bool) (l : List α) (n : Nat) (h : l.all p = true) : (l.take n).all p = true :=
  List.all_eq_true.2 fun x hx => List.all_eq_true.1 h x (List.mem_of_mem_take hx)

theorem calleeParams_ok (s : Sig) (h : s.params.all aggSizeOk = true) : (calleeParams s).all aggSizeOk = true := by
  have hn : s.named.all aggSizeOk = true := all_take _ _ _ h
  simp only [calleeParams]
  cases retLarge s.ret <;> simp [hn, aggSizeOk]

/-- the hidden pointer takes rdi and nothing else -/
theorem refLoop_calleeParams (s : Sig) :
    (refLoop (0, 0, 0) (calleeParams s)).1 = (refLoop (b2n (retLarge s.ret), 0, 0) s.named).1 ∧
    (if retLarge s.ret then (refLoop (0, 0, 0) (calleeParams s)).2.drop 1 else (refLoop (0, 0, 0) (calleeParams s)).2) =
      (refLoop (b2n (retLarge s.ret), 0, 0) s.named).2 := by
  cases hl : retLarge s.ret
  · simp [calleeParams, hl, b2n]
  · simp only [calleeParams, hl, if_true, List.singleton_append, refLoop_cons, refStep, alloc_int _ _ _ 0 0 (by omega)]
    exact ⟨rfl, rfl⟩

theorem calleeAssign_eq (s : Sig) (h : s.params.all aggSizeOk = true) :
    calleeAssign s = .ok (refLoop (b2n (retLarge s.ret), 0, 0) s.named).2 := by
  obtain ⟨⟨stores, hs, hc⟩, _⟩ := callee_loop (calleeParams s) 0 0 16 0 (calleeParams_ok s h) (by decide)
  have hs' : prologueStores s = .ok stores := by
    simpa [prologueStores, calleeOffsets] using hs
  simp only [calleeAssign, hs', bind, Except.bind, pure, Except.pure, calleeOffsets, hc, Nat.zero_min]
  exact congrArg _ (refLoop_calleeParams s).2

theorem vaInit_eq (s : Sig) (h : s.params.all aggSizeOk = true) :
    vaInit s = { gpOffset := (refLoop (b2n (retLarge s.ret), 0, 0) s.named).1.1 * 8,
                 fpOffset := (refLoop (b2n (retLarge s.ret), 0, 0) s.named).1.2.1 * 16 + 48,
                 overflow := (refLoop (b2n (retLarge s.ret), 0, 0) s.named).1.2.2 } := by
  have hc := (callee_loop (calleeParams s) 0 0 16 0 (calleeParams_ok s h) (by decide)).2
  rw [Nat.zero_min, Nat.zero_min, (refLoop_calleeParams s).1] at hc
  simp only [vaInit, calleeOffsets]
  rw [show (16 : Nat) = 16 + 0 from rfl, hc, Nat.add_sub_cancel_left]

theorem refLoop_bounds (ts : List ATy) : ∀ (g f off : Nat), g ≤ 6 → f ≤ 8 → off % 8 = 0 →
    (refLoop (g, f, off) ts).1.1 ≤ 6 ∧ (refLoop (g, f, off) ts).1.2.1 ≤ 8 ∧ (refLoop (g, f, off) ts).1.2.2 % 8 = 0 := by
  induction ts with
  | nil => intro _ _ _ hg hf h; exact ⟨hg, hf, h⟩
  | cons t ts ih =>
    intro g f off hg hf h
    rw [refLoop_cons, refStep]
    cases ha : alloc (chibiClasses t) g f with
    | none => exact ih _ _ _ hg hf (by simp only; omega)
    | some r => exact ih _ _ _ (alloc_le ha).1 (alloc_le ha).2 h

/-- at the `call` instruction exactly the padding and the first-pass pushes are on the stack: the second pass and the
    hidden pointer have been popped into registers, and the `stack` counter of the classification loop counted exactly
    what the first pass pushed -/
theorem depthAtCall_eq (depth : Nat) (s : Sig) (h : s.params.all aggSizeOk = true) :
    depthAtCall depth s = (depth : Int) + stackArgs depth s := by
  obtain ⟨_, h2, h3, _⟩ := caller_loop s.params (b2n (retLarge s.ret)) 0 0 0 h
  rw [min_b2n, Nat.zero_min] at h3
  simp only [depthAtCall, stackArgs, classifyArgs, popPhase]
  rw [h2, h3]
  simp only [Nat.zero_add]
  omega

theorem stackArgs_parity (depth : Nat) (s : Sig) : (depth + stackArgs depth s) % 2 = 0 := by
  simp only [stackArgs, padSlots]
  split <;> omega

theorem chibiClasses_memory (t : ATy) : (chibiClasses t).contains .memory = retLarge (some t) := by
  cases t with
  | agg u sz al ms =>
    have := (smallClasses_spec (.agg u sz al ms)).1
    simp only [inMemory, Bool.or_eq_false_iff] at this
    by_cases h16 : sz ≤ 16
    · simp only [chibiClasses, h16, if_true, this.1.1.1, retLarge, ATy.isAgg, ATy.size, Bool.true_and]
      exact (decide_eq_false (by omega)).symm
    · simp only [chibiClasses, h16, if_false, retLarge, ATy.isAgg, ATy.size, Bool.true_and]
      exact (decide_eq_true (by omega)).symm
  | _ => rfl

/-- psABI 3.2.3 "Returning of Values" for a value whose eightbytes have the classes `cs` -/
def retOf (cs : List Class) : RetLoc := if cs.contains .memory then .memory true else .regs (retPieces cs 0 0)

theorem ret_retOf (t : ATy) : Spec.PsABI.ret (some t) = retOf (classify t) := rfl

theorem ret_chibi (t : ATy) (hsz : aggSizeOk t = true) :
    retCaller (some t) = .ok (retOf (chibiClasses t)) ∧ retCallee (some t) = .ok (retOf (chibiClasses t)) := by
  cases t with
  | int sz u b | flt | dbl | ldbl => exact ⟨rfl, rfl⟩
  | arr e n => simp [aggSizeOk] at hsz
  | agg u sz al ms =>
    by_cases h16 : sz ≤ 16
    · by_cases hz : sz = 0
      · subst hz
        simp [retCaller, retCallee, retOf, chibiClasses, smallClasses, retPiecesCaller, retPiecesCallee, ATy.size, retPieces,
          pure, Except.pure, Except.map]
      obtain ⟨hf1, hf2⟩ := aggSizeOk_agg hsz h16 (by omega)
      simp only [retCaller, retCallee, retOf, chibiClasses, smallClasses, flonumClass0, flonumClass1, retPiecesCaller,
        retPiecesCallee, ATy.size, h16, if_true, hz, if_false]
      simp only [hasFlonum1, hasFlonum2] at hf1 hf2 ⊢
      -- the eight shapes of the return ladder; where an eightbyte is fp, `hf1` / `hf2` (the `assert`s on the size hold)
      -- decide the remaining `if`, which is why the last step is tried only there
      by_cases h8 : sz > 8 <;> by_cases e1 : hasFlonum (.agg u sz al ms) 0 8 0 = true <;>
        by_cases e2 : hasFlonum (.agg u sz al ms) 8 16 0 = true <;>
        simp [h8, e1, e2, retPieces, bind, Except.bind, pure, Except.pure, Except.map, throw, throwThe, MonadExceptOf.throw] at hf1 hf2 ⊢ <;>
        (try simp [hf1, hf2])
    · simp [retCaller, retCallee, retOf, chibiClasses, ATy.size, h16]

end ChibiVerif.CallConv
