/-
C01: the judgment of the composition theorems, stated over an abstract frame, and its combinators.

`Frame`: a way of keeping a store of typed variables (and hidden pointer temporaries) in a stack frame — an invariant
`inv σ B m` ("the frame, all of it at or above `B`, holds `σ`") with the few laws the combinators need: it survives whatever
leaves `%rbp` and the bytes at or above `B` alone (`keep`), a variable that has a value is found at its place (`load`), and a
variable whose place is separate from everything else (`sepv`) can be overwritten (`set`).  Two frames are used:
`Frame.lay off toff K` (`Lay` + `Holds`: every variable separate, `K` temporaries — `C01_value_effects` and all later
theorems, defined here) and `Frame.plain off` (`FrameHolds`: the variables may overlap, nothing can be written — `C01_value`;
defined in Lemmas/C01Plain.lean); `Frame.withTmp` (Lemmas/C01LvalueMachine.lean) adds "temporary `kt` holds `ap`" to a frame (the
frame rule `EvG.lift_tmp`).

`EvG Φ P code σ σ' R W k0 k1 d`: from every machine state whose frame holds `σ` (and whose `%rbp` satisfies `P`), wherever
`code` sits in a program with fresh labels, execution entering `code` at its first line leaves it after its last line (going
forward, in at most `code.length` steps: `JRun`), with `R` true of `%rax`, the frame holding `σ'`, and nothing at or above
`%rsp` changed but the variables `W` and the temporaries `k0 ≤ k < k1`; `d` stack slots are needed.  `P` restricts the
machine states to those whose `%rbp` satisfies it (`fun _ => True` for expressions over variables; `· = bp` when the store holds
absolute addresses of the frame: Lemmas/C01LvalueMachine.lean); `%rbp` never changes, so every combinator passes it on.  On
jump-free code `JRun` is `X86.run` (`run_of_JRun`).

* `EvG.lit`, `EvG.var`, `EvG.then_same`, `EvG.then_jrun`, `EvG.weaken`, `EvG.seq`: leaves and sequencing;
* `EvG.under_push`: the push/pop discipline, once; `EvG.bin`: a binary node;
* `cmpz_run`: `cmp_zero` sets ZF iff the represented value is 0 (`zero_test`);
* the test `cmp_zero; je / jne` over `z : Bool`: `cond_test` (the one place where `State.cond` meets `cmp_zero`), `EvG.test_fall`,
  `EvG.test_skip`; `scCode z` the common shape of ND_LOGAND (`z`) and ND_LOGOR (`!z`) with `EvG.sc_short`, `EvG.sc_full`;
* `EvG.land_*`, `EvG.lor_*`, `EvG.cond_*`: ND_LOGAND / ND_LOGOR / ND_COND, one lemma per path through the code, from these.
-/
import ChibiVerif.Lemmas.C01Jump
import ChibiVerif.Lemmas.C01Machine
import ChibiVerif.Model.C01ExprJ

namespace ChibiVerif.C01
open ChibiVerif.X86 ChibiVerif.Asm ChibiVerif.Spec.IntSpec ChibiVerif.Gen.CommonType ChibiVerif.C01Codegen ChibiVerif.X86J

/-! ### frames -/

/-- a way of keeping a store in a stack frame: variable `i` at `off i (%rbp)`, temporary `k < K` at `toff k (%rbp)` -/
structure Frame where
  off : Nat → Int
  toff : Nat → Int
  K : Nat
  /-- the frame, all of it at or above `B`, holds the store -/
  inv : Env → Nat → State → Prop
  /-- the place of the variable is separate from every other object of the frame: it may be written -/
  sepv : Nat → Prop
  keep : ∀ {σ B m m'}, inv σ B m → m'.get .rbp = m.get .rbp → (∀ x : BitVec 64, B ≤ x.toNat → m'.mem x = m.mem x) → inv σ B m'
  load : ∀ {σ B m i t v}, inv σ B m → σ.tys[i]? = some t → σ.vals[i]? = some v → MemHolds t m (addrOf (m.get .rbp) (off i)) v
  var_lo : ∀ {σ B m i t}, inv σ B m → sepv i → σ.tys[i]? = some t →
    B ≤ (addrOf (m.get .rbp) (off i)).toNat ∧ (addrOf (m.get .rbp) (off i)).toNat + 8 ≤ 2 ^ 64
  tmp_lo : ∀ {σ B m k}, inv σ B m → k < K →
    B ≤ (addrOf (m.get .rbp) (toff k)).toNat ∧ (addrOf (m.get .rbp) (toff k)).toNat + 8 ≤ 2 ^ 64
  set : ∀ {σ B m m' i ti v'}, inv σ B m → sepv i → σ.tys[i]? = some ti → m'.get .rbp = m.get .rbp →
    MemHolds ti m' (addrOf (m.get .rbp) (off i)) v' →
    (∀ x : BitVec 64, B ≤ x.toNat → (x.toNat < (addrOf (m.get .rbp) (off i)).toNat ∨
      (addrOf (m.get .rbp) (off i)).toNat + ti.size ≤ x.toNat) → m'.mem x = m.mem x) → inv (σ.set i v') B m'
  set_tmp : ∀ {σ B m m' k}, inv σ B m → k < K → m'.get .rbp = m.get .rbp →
    (∀ x : BitVec 64, B ≤ x.toNat → (x.toNat < (addrOf (m.get .rbp) (toff k)).toNat ∨
      (addrOf (m.get .rbp) (toff k)).toNat + 8 ≤ x.toNat) → m'.mem x = m.mem x) → inv σ B m'
  var_tmp : ∀ {σ B m i ti k}, inv σ B m → sepv i → σ.tys[i]? = some ti → k < K →
    sep (addrOf (m.get .rbp) (off i)) ti.size (addrOf (m.get .rbp) (toff k)) 8
  tmp_tmp : ∀ {σ B m k l}, inv σ B m → k < K → l < K → k ≠ l →
    sep (addrOf (m.get .rbp) (toff k)) 8 (addrOf (m.get .rbp) (toff l)) 8

namespace Frame
variable (Φ : Frame)

theorem same {σ : Env} {B : Nat} {m m' : State} (h : Φ.inv σ B m) (hs : Same m m') : Φ.inv σ B m' :=
  Φ.keep h hs.rbp (fun x _ => congrFun hs.mem x)

/-- below `B` there is no byte of a writable variable … -/
theorem not_inVar {σ : Env} {B : Nat} {m : State} (h : Φ.inv σ B m) {W : List Nat} (hW : ∀ i, i ∈ W → Φ.sepv i) (a : BitVec 64)
    (ha : a.toNat < B) : ¬ inVar σ.tys Φ.off (m.get .rbp) W a := by
  rintro ⟨i, t, hi, ht, h1, _⟩
  have := (Φ.var_lo h (hW i hi) ht).1; omega

/-- … nor of a temporary -/
theorem not_inTmp {σ : Env} {B : Nat} {m : State} (h : Φ.inv σ B m) (k0 k1 : Nat) (hk : k1 ≤ Φ.K) (a : BitVec 64)
    (ha : a.toNat < B) : ¬ inTmp Φ.toff (m.get .rbp) k0 k1 a := by
  rintro ⟨k, _, hk1, h1, _⟩
  have := (Φ.tmp_lo h (show k < Φ.K by omega)).1; omega

/-- every variable separate from the others and from `K` temporaries (`Lay`), holding the store (`Holds`) -/
def lay (off toff : Nat → Int) (K : Nat) : Frame where
  off := off
  toff := toff
  K := K
  inv σ B m := Lay σ.tys off toff K B (m.get .rbp) ∧ Holds off σ m
  sepv _ := True
  keep h hbp hm := ⟨hbp ▸ h.1, h.2.of_ge h.1 hbp hm⟩
  load h ht hv := h.2 _ _ _ ht hv
  var_lo h _ ht := h.1.var_lo _ _ ht
  tmp_lo h hk := h.1.tmp_lo _ hk
  set h _ hti hbp hm hmem := ⟨hbp ▸ h.1, h.2.set h.1 hti hbp hm hmem⟩
  set_tmp h hk hbp hmem := ⟨hbp ▸ h.1, h.2.of_tmp h.1 hk hbp hmem⟩
  var_tmp h _ ht hk := h.1.var_tmp _ _ _ ht hk
  tmp_tmp h hk hl hkl := h.1.tmp_tmp _ _ hk hl hkl

end Frame

/-! ### the judgment -/

section
variable {Φ : Frame} {P : BitVec 64 → Prop}

/-- **the judgment** of the composition theorems (`G`: generic in the frame): from a state whose frame `Φ` holds `σ` with `d` free
    stack slots (and whose `%rbp` satisfies `P`), `code` runs (`JRun`) to a state where `R` holds of `%rax` and the frame holds `σ'`,
    having changed above `%rsp` at most the variables `W` and the temporaries `k0 ≤ k < k1` (`Unch`) -/
def EvG (Φ : Frame) (P : BitVec 64 → Prop) (code : List JI) (σ σ' : Env) (R : BitVec 64 → Prop) (W : List Nat)
    (k0 k1 d : Nat) : Prop :=
  σ'.tys = σ.tys ∧
  ∀ (m : State) (n B : Nat), P (m.get .rbp) → Φ.inv σ B m → d ≤ n → 8 * n ≤ (m.get .rsp).toNat → (m.get .rsp).toNat ≤ B →
    ∃ m', JRun code m m' ∧ R (m'.get .rax) ∧ Φ.inv σ' B m' ∧ Unch σ.tys Φ.off Φ.toff W k0 k1 m m'

/-- `mov $v, %rax` -/
theorem mov_imm_same (v : Int) (t : ITy) (hr : t.inRange v) (s : State) :
    ∃ s', X86.run [iMovImm v] s = some s' ∧ Represents t (s'.get .rax) v ∧ Same s s' := by
  refine ⟨s.set .rax (BitVec.ofInt 64 (immOf v)), X86.run_cons_some (movimm_step _ _) rfl, ?_, same_set _ _ _ rfl⟩
  rw [State.get_set_same]; exact lit_represents _ _ hr

theorem EvG.lit (σ : Env) (t : ITy) (v : Int) (hr : t.inRange v) (k : Nat) :
    EvG Φ P (J [iMovImm v]) σ σ (fun r => Represents t r v) [] k k 0 :=
  ⟨rfl, fun m _ _ _ hI _ _ _ =>
    let ⟨m', r, p, hs⟩ := mov_imm_same v t hr m
    ⟨m', JRun.ins r, p, Φ.same hI hs, hs.unch _ _ _⟩⟩

theorem EvG.var (σ : Env) (i : Nat) (t : ITy) (v : Int) (ht : σ.tys[i]? = some t) (hv : σ.vals[i]? = some v) (k : Nat) :
    EvG Φ P (J (iLea (Φ.off i) :: loadSeq t)) σ σ (fun r => Represents t r v) [] k k 0 := by
  refine ⟨rfl, fun m n B _ hI _ _ _ => ?_⟩
  have hm1 : MemHolds t (m.set .rax (m.ea (Φ.off i) .rbp)) ((m.set .rax (m.ea (Φ.off i) .rbp)).get .rax) v := by
    rw [State.get_set_same]; exact memHolds_congr t m _ _ _ (fun _ _ => rfl) (Φ.load hI ht hv)
  obtain ⟨m2, r2, p2, _⟩ := load_ok t _ v hm1
  have s2 := (same_set m .rax _ rfl).trans (run_safe _ _ _ (loadSeq_safe t) r2)
  exact ⟨m2, JRun.ins (X86.run_cons_some (lea_step _ _) r2), p2, Φ.same hI s2, s2.unch _ _ _⟩

/-- continue with a piece of code (possibly with jumps) that only touches registers and flags -/
theorem EvG.then_jrun {c c2 : List JI} {σ σ' : Env} {R R2 : BitVec 64 → Prop} {W : List Nat} {k0 k1 d : Nat}
    (h : EvG Φ P c σ σ' R W k0 k1 d)
    (h2 : ∀ s, R (s.get .rax) → ∃ s', JRun c2 s s' ∧ R2 (s'.get .rax) ∧ Same s s') :
    EvG Φ P (c ++ c2) σ σ' R2 W k0 k1 d := by
  refine ⟨h.1, fun m n B hP hI hd hsp hB => ?_⟩
  obtain ⟨m1, r1, p1, I1, u1⟩ := h.2 m n B hP hI hd hsp hB
  obtain ⟨m2, r2, p2, s2⟩ := h2 m1 p1
  exact ⟨m2, JRun.append r1 r2, p2, Φ.same I1 s2, u1.trans (s2.unch _ _ _)⟩

/-- continue with jump-free code that only touches registers and flags (a conversion, an operator) -/
theorem EvG.then_same {c : List JI} {c2 : List Ins} {σ σ' : Env} {R R2 : BitVec 64 → Prop} {W : List Nat} {k0 k1 d : Nat}
    (h : EvG Φ P c σ σ' R W k0 k1 d)
    (h2 : ∀ s, R (s.get .rax) → ∃ s', X86.run c2 s = some s' ∧ R2 (s'.get .rax) ∧ Same s s') :
    EvG Φ P (c ++ J c2) σ σ' R2 W k0 k1 d :=
  h.then_jrun (fun s hs => by obtain ⟨s', r, p, sm⟩ := h2 s hs; exact ⟨s', JRun.ins r, p, sm⟩)

/-- more variables and temporaries allowed to change, more stack allowed to be used -/
theorem EvG.weaken {c : List JI} {σ σ' : Env} {R : BitVec 64 → Prop} {W W' : List Nat} {k0 k1 k0' k1' d d' : Nat}
    (h : EvG Φ P c σ σ' R W k0 k1 d) (hs : ∀ i, i ∈ W → i ∈ W') (h0 : k0' ≤ k0) (h1 : k1 ≤ k1') (hd : d ≤ d') :
    EvG Φ P c σ σ' R W' k0' k1' d' := by
  refine ⟨h.1, fun m n B hP hI hdn hsp hB => ?_⟩
  obtain ⟨m1, r1, p1, I1, u1⟩ := h.2 m n B hP hI (by omega) hsp hB
  exact ⟨m1, r1, p1, I1, u1.mono hs h0 h1⟩

/-- a weaker postcondition on `%rax` -/
theorem EvG.post {c : List JI} {σ σ' : Env} {R R2 : BitVec 64 → Prop} {W : List Nat} {k0 k1 d : Nat}
    (h : EvG Φ P c σ σ' R W k0 k1 d) (hr : ∀ r, R r → R2 r) : EvG Φ P c σ σ' R2 W k0 k1 d := by
  refine ⟨h.1, fun m n B hP hI hdn hsp hB => ?_⟩
  obtain ⟨m1, r1, p1, I1, u1⟩ := h.2 m n B hP hI hdn hsp hB
  exact ⟨m1, r1, hr _ p1, I1, u1⟩

/-- **sequencing**: `ca` then `cb` (the value of `ca` is dropped); the effects and the stack needs add up -/
theorem EvG.seq {ca cb : List JI} {σ σ1 σ2 : Env} {Ra Rb : BitVec 64 → Prop} {Wa Wb : List Nat}
    {k0 k1 ka0 ka1 kb0 kb1 da db : Nat}
    (ha : EvG Φ P ca σ σ1 Ra Wa ka0 ka1 da) (hb : EvG Φ P cb σ1 σ2 Rb Wb kb0 kb1 db)
    (hk : k0 ≤ ka0 ∧ ka1 ≤ k1 ∧ k0 ≤ kb0 ∧ kb1 ≤ k1) :
    EvG Φ P (ca ++ cb) σ σ2 Rb (Wa ++ Wb) k0 k1 (max da db) := by
  refine ⟨hb.1.trans ha.1, fun m n B hP hI hd hsp hB => ?_⟩
  obtain ⟨m1, r1, _, I1, u1⟩ := ha.2 m n B hP hI (by omega) hsp hB
  obtain ⟨m2, r2, p2, I2, u2⟩ := hb.2 m1 n B (by rw [u1.rbp]; exact hP) I1 (by omega) (by rw [u1.rsp]; exact hsp)
    (by rw [u1.rsp]; exact hB)
  rw [ha.1] at u2
  exact ⟨m2, JRun.append r1 r2, p2, I2,
    (u1.mono (fun i hi => List.mem_append_left _ hi) hk.1 hk.2.1).trans
      (u2.mono (fun i hi => List.mem_append_right _ hi) hk.2.2.1 hk.2.2.2)⟩

/-- **the push/pop discipline**: `push %rax`, then code that runs one slot deeper — afterwards the pushed value is still on top
    of the stack (the code changes nothing below the frame but its own slots), the frame holds the new store, and at or above
    the old `%rsp` only the variables `W` and the temporaries `k0 ≤ k < k1` have changed -/
theorem EvG.under_push {c : List JI} {σ σ1 : Env} {R : BitVec 64 → Prop} {W : List Nat} {k0 k1 d : Nat}
    (he : EvG Φ P c σ σ1 R W k0 k1 d) (hW : ∀ i, i ∈ W → Φ.sepv i) (hK : k1 ≤ Φ.K)
    (m : State) (n B : Nat) (hP : P (m.get .rbp)) (hI : Φ.inv σ B m) (hd : d ≤ n)
    (hsp : 8 * (n + 1) ≤ (m.get .rsp).toNat) (hB : (m.get .rsp).toNat ≤ B) :
    ∃ m', JRun (JI.ins iPush :: c) m m' ∧ R (m'.get .rax) ∧ Φ.inv σ1 B m' ∧ m'.get .rsp = m.get .rsp - 8 ∧
      m'.get .rbp = m.get .rbp ∧ m'.read64 (m.get .rsp - 8) = m.get .rax ∧
      (∀ a : BitVec 64, (m.get .rsp).toNat ≤ a.toNat → ¬ inVar σ.tys Φ.off (m.get .rbp) W a →
        ¬ inTmp Φ.toff (m.get .rbp) k0 k1 a → m'.mem a = m.mem a) := by
  obtain ⟨m2, r2, sp2, bp2, ax2, top2, spn2, mem2⟩ := push_rax m (by omega)
  have I2 : Φ.inv σ B m2 := Φ.keep hI bp2 (fun x hx => mem2 x (Or.inr (by omega)))
  obtain ⟨m3, r3, p3, I3, u3⟩ := he.2 m2 n B (by rw [bp2]; exact hP) I2 hd (by rw [spn2]; omega) (by rw [spn2]; omega)
  refine ⟨m3, JRun.cons_ins (step_of_run_single r2) r3, p3, I3, by rw [u3.rsp, sp2], by rw [u3.rbp, bp2], ?_, ?_⟩
  · rw [← top2]
    refine m2.readW_congr m3 _ .w64 fun k (hk : k < 8) => ?_
    have hx : ((m.get .rsp - 8) + BitVec.ofNat 64 k).toNat = (m.get .rsp).toNat - 8 + k := by
      rw [BitVec.toNat_add_ofNat _ _ (by have := (m.get .rsp).isLt; rw [← sp2, spn2]; omega), ← sp2, spn2]
    have hlt : ((m.get .rsp - 8) + BitVec.ofNat 64 k).toNat < B := by rw [hx]; omega
    exact u3.mem _ (by rw [hx, spn2]; omega) (Φ.not_inVar I2 hW _ hlt) (Φ.not_inTmp I2 _ _ hK _ hlt)
  · intro a ha hv ht
    rw [u3.mem a (by rw [spn2]; omega) (by rw [bp2]; exact hv) (by rw [bp2]; exact ht)]
    exact mem2 a (Or.inr ha)

/-- **binary node**: right operand, `push`, left operand one slot deeper, `pop %rdi`, operator -/
theorem EvG.bin {cr cl : List JI} {cop : List Ins} {σ σr σl : Env} {Rr Rl Rres : BitVec 64 → Prop} {Wr Wl : List Nat}
    {k0 k1 kr0 kr1 kl0 kl1 dr dl : Nat}
    (hr : EvG Φ P cr σ σr Rr Wr kr0 kr1 dr) (hl : EvG Φ P cl σr σl Rl Wl kl0 kl1 dl)
    (hop : ∀ s, Rl (s.get .rax) → Rr (s.get .rdi) → ∃ s', X86.run cop s = some s' ∧ Rres (s'.get .rax) ∧ Same s s')
    (hk : k0 ≤ kr0 ∧ kr1 ≤ k1 ∧ k0 ≤ kl0 ∧ kl1 ≤ k1) (hW : ∀ i, i ∈ Wl → Φ.sepv i) (hK : k1 ≤ Φ.K) :
    EvG Φ P (cr ++ (JI.ins iPush :: (cl ++ (JI.ins iPopRdi :: J cop)))) σ σl Rres (Wr ++ Wl) k0 k1 (max dr (dl + 1)) := by
  refine ⟨hl.1.trans hr.1, fun m n B hP hI hd hsp hB => ?_⟩
  obtain ⟨n', rfl⟩ : ∃ n', n = n' + 1 := ⟨n - 1, by omega⟩
  obtain ⟨m1, r1, p1, I1, u1⟩ := hr.2 m (n' + 1) B hP hI (by omega) hsp hB
  obtain ⟨m3, r3, p3, I3, sp3, bp3, top3, mem3⟩ := hl.under_push hW (by omega) m1 n' B (by rw [u1.rbp]; exact hP) I1 (by omega)
    (by rw [u1.rsp]; exact hsp) (by rw [u1.rsp]; exact hB)
  obtain ⟨m4, r4, di4, sp4, bp4, ax4, mem4⟩ := pop_rdi m3
  obtain ⟨m5, r5, p5, s5⟩ := hop m4 (by rw [ax4]; exact p3) (by rw [di4, sp3, top3]; exact p1)
  refine ⟨m5, JRun.append r1 (JRun.append r3 (JRun.cons_ins (step_of_run_single r4) (JRun.ins r5))), p5,
    Φ.same (Φ.keep I3 bp4 (fun x _ => congrFun mem4 x)) s5, ?_, ?_, ?_⟩
  · rw [s5.rsp, sp4, sp3, u1.rsp, BitVec.sub_add_cancel]
  · rw [s5.rbp, bp4, bp3, u1.rbp]
  · intro x hx hv ht
    rw [congrFun s5.mem x, congrFun mem4 x]
    rw [mem3 x (by rw [u1.rsp]; exact hx)
      (by rw [hr.1, u1.rbp]; exact fun hh => hv (inVar_mono hh (fun i hi => List.mem_append_right _ hi)))
      (by rw [u1.rbp]; exact fun hh => ht (inTmp_mono hh hk.2.2.1 hk.2.2.2))]
    exact u1.mem x hx (fun hh => hv (inVar_mono hh (fun i hi => List.mem_append_left _ hi)))
      (fun hh => ht (inTmp_mono hh hk.1 hk.2.1))

end

/-! ### `cmp_zero` -/

theorem cmpZeroSeq_eq (t : ITy) :
    cmpZeroSeq t = [⟨"cmp", [.i 0, .r (if t.size = 8 then "%rax" else "%eax")]⟩] := by cases t <;> rfl

/-- **`cmp_zero(ty)`**: `cmp $0, %eax` (types of at most 4 bytes) / `cmp $0, %rax` leaves the flags defined with ZF set iff
    the value is 0, and changes nothing else -/
theorem cmpz_run (t : ITy) (s : State) (v : Int) (h : Represents t (s.get .rax) v) :
    ∃ s', X86.run (cmpZeroSeq t) s = some s' ∧ s'.flagsValid = true ∧ s'.zf = decide (v = 0) ∧ Same s s' ∧
      s'.get .rax = s.get .rax := by
  have hz := zero_test t (s.get .rax) v h
  rw [cmpZeroSeq_eq]
  by_cases h8 : t.size = 8
  · simp only [h8, if_true] at hz ⊢
    have hz : decide (s.get .rax = 0) = decide (v = 0) := decide_eq_decide.2 hz
    refine ⟨_, rfl, rfl, ?_, ⟨rfl, rfl, rfl⟩, rfl⟩
    rw [← hz]
    apply Bool.eq_iff_iff.mpr
    simp [State.flags, State.src, State.getW]
  · simp only [h8, if_false] at hz ⊢
    have hz : decide ((s.get .rax).setWidth 32 = 0) = decide (v = 0) := decide_eq_decide.2 hz
    refine ⟨_, rfl, rfl, ?_, ⟨rfl, rfl, rfl⟩, rfl⟩
    rw [← hz]
    apply Bool.eq_iff_iff.mpr
    simp [State.flags, State.src, State.getW]

/-! ### `&&`, `||`, `?:` -/

section
variable {Φ : Frame} {P : BitVec 64 → Prop}

/-- the tail of ND_LOGAND after the second `cmp_zero`, and of ND_LOGOR with the roles of 0 and 1 exchanged: from a state
    with defined flags, `jCC tgt; mov $a; jmp end; tgt: mov $b; end:` leaves `a` if the condition is false, `b` otherwise -/
theorem tail_run (cc : CC) (lt le : Lbl) (a b : Int) (ha : ITy.i32.inRange a) (hb : ITy.i32.inRange b) (s : State)
    (hv : s.flagsValid = true) :
    ∃ s', JRun [JI.jcc cc lt, JI.ins (iMovImm a), JI.jmp le, JI.lbl lt, JI.ins (iMovImm b), JI.lbl le] s s' ∧
      Represents .i32 (s'.get .rax) (if s.cond cc then b else a) ∧ Same s s' := by
  by_cases hc : s.cond cc = true
  · obtain ⟨s1, r1, p1, sm1⟩ := mov_imm_same b .i32 hb s
    refine ⟨s1, ?_, by simpa [hc] using p1, sm1⟩
    have j1 : JRun (JI.jcc cc lt :: ([JI.ins (iMovImm a), JI.jmp le] ++ [JI.lbl lt])) s s := JRun.jcc_skip lt _ hv hc
    have := JRun.append j1 (JRun.append (JRun.ins (is := [iMovImm b]) r1) (JRun.lbl le s1))
    simpa [J] using this
  · have hc' : s.cond cc = false := by simpa using hc
    obtain ⟨s1, r1, p1, sm1⟩ := mov_imm_same a .i32 ha s
    refine ⟨s1, ?_, by simpa [hc'] using p1, sm1⟩
    have j1 : JRun [JI.jcc cc lt] s s := JRun.jcc_fall lt hv hc'
    have j3 : JRun (JI.jmp le :: ([JI.lbl lt, JI.ins (iMovImm b)] ++ [JI.lbl le])) s1 s1 := JRun.jmp_skip le _ s1
    have := JRun.append j1 (JRun.append (JRun.ins (is := [iMovImm a]) r1) j3)
    simpa [J] using this

/-- after `cmp_zero` of `v`, `je` (`z`) / `jne` (`!z`) is taken iff `(v = 0) = z` -/
theorem cond_test (z : Bool) {s : State} {v : Int} (h : s.zf = decide (v = 0)) :
    s.cond (if z then .e else .ne) = (decide (v = 0) == z) := by cases z <;> simp [State.cond, h]

/-- **the test**, jump not taken: `cmp_zero; je l` (`z`) or `cmp_zero; jne l` (`!z`) after code that leaves `v` -/
theorem EvG.test_fall {c : List JI} {t : ITy} {v : Int} {σ σ' : Env} {W : List Nat} {k0 k1 d : Nat} (z : Bool) (l : Lbl)
    (hz : (decide (v = 0) == z) = false) (h : EvG Φ P c σ σ' (fun r => Represents t r v) W k0 k1 d) :
    EvG Φ P (c ++ (J (cmpZeroSeq t) ++ [JI.jcc (if z then .e else .ne) l])) σ σ' (fun _ => True) W k0 k1 d :=
  h.then_jrun fun s hs =>
    let ⟨s1, r1, v1, z1, sm1, _⟩ := cmpz_run t s v hs
    ⟨s1, JRun.append (JRun.ins r1) (JRun.jcc_fall l v1 ((cond_test z z1).trans hz)), trivial, sm1⟩

/-- **the test**, jump taken: `cmp_zero; jCC l; mid; l:` -/
theorem EvG.test_skip {c : List JI} {t : ITy} {v : Int} {σ σ' : Env} {W : List Nat} {k0 k1 d : Nat} (z : Bool) (l : Lbl)
    (mid : List JI) (hz : (decide (v = 0) == z) = true) (h : EvG Φ P c σ σ' (fun r => Represents t r v) W k0 k1 d) :
    EvG Φ P (c ++ (J (cmpZeroSeq t) ++ (JI.jcc (if z then .e else .ne) l :: (mid ++ [JI.lbl l])))) σ σ' (fun _ => True) W k0 k1 d :=
  h.then_jrun fun s hs =>
    let ⟨s1, r1, v1, z1, sm1, _⟩ := cmpz_run t s v hs
    ⟨s1, JRun.append (JRun.ins r1) (JRun.jcc_skip l mid v1 ((cond_test z z1).trans hz)), trivial, sm1⟩

/-- the code of ND_LOGAND (`z`: `je .L.false`) and of ND_LOGOR (`!z`: `jne .L.true`): an operand with `(v = 0) = z` decides -/
def scCode (z : Bool) (lt le : Lbl) (ta tb : ITy) (ca cb : List JI) : List JI :=
  ca ++ (J (cmpZeroSeq ta) ++ (JI.jcc (if z then .e else .ne) lt :: (cb ++ (J (cmpZeroSeq tb) ++
    [JI.jcc (if z then .e else .ne) lt, JI.ins (iMovImm (b2i z)), JI.jmp le, JI.lbl lt, JI.ins (iMovImm (b2i !z)), JI.lbl le]))))

/-- the left operand decides: the right operand is skipped, the value is `a != 0` -/
theorem EvG.sc_short {ca cb : List JI} {ta tb : ITy} {va : Int} {σ σ1 : Env} {Wa : List Nat} {k0 k1 d : Nat} {z : Bool}
    {lt le : Lbl} (hz : (decide (va = 0) == z) = true) (ha : EvG Φ P ca σ σ1 (fun r => Represents ta r va) Wa k0 k1 d) :
    EvG Φ P (scCode z lt le ta tb ca cb) σ σ1 (fun r => Represents .i32 r (b2i (va ≠ 0))) Wa k0 k1 d := by
  have := (ha.test_skip z lt (cb ++ (J (cmpZeroSeq tb) ++ [JI.jcc (if z then .e else .ne) lt, JI.ins (iMovImm (b2i z)), JI.jmp le]))
    hz).then_jrun (c2 := [JI.ins (iMovImm (b2i !z)), JI.lbl le]) (R2 := fun r => Represents .i32 r (b2i (va ≠ 0))) fun s _ =>
      let ⟨s1, r1, p1, sm1⟩ := mov_imm_same (b2i !z) .i32 (by cases z <;> decide) s
      ⟨s1, JRun.cons_ins (step_of_run_single r1) (JRun.lbl le s1), by rw [← eq_of_beq hz, ← decide_not] at p1; exact p1, sm1⟩
  simpa [scCode, List.append_assoc] using this

/-- the left operand does not decide: the value is `b != 0` -/
theorem EvG.sc_full {ca cb : List JI} {ta tb : ITy} {va vb : Int} {σ σ1 σ2 : Env} {Wa Wb : List Nat}
    {k0 k1 ka0 ka1 kb0 kb1 da db : Nat} {z : Bool} {lt le : Lbl} (hz : (decide (va = 0) == z) = false)
    (ha : EvG Φ P ca σ σ1 (fun r => Represents ta r va) Wa ka0 ka1 da)
    (hb : EvG Φ P cb σ1 σ2 (fun r => Represents tb r vb) Wb kb0 kb1 db)
    (hk : k0 ≤ ka0 ∧ ka1 ≤ k1 ∧ k0 ≤ kb0 ∧ kb1 ≤ k1) :
    EvG Φ P (scCode z lt le ta tb ca cb) σ σ2 (fun r => Represents .i32 r (b2i (vb ≠ 0))) (Wa ++ Wb) k0 k1 (max da db) := by
  have h2 := hb.then_jrun (R2 := fun r => Represents .i32 r (b2i (vb ≠ 0)))
    (c2 := J (cmpZeroSeq tb) ++ [JI.jcc (if z then .e else .ne) lt, JI.ins (iMovImm (b2i z)), JI.jmp le, JI.lbl lt,
      JI.ins (iMovImm (b2i !z)), JI.lbl le])
    fun s hs => by
      obtain ⟨s1, r1, v1, z1, sm1, _⟩ := cmpz_run tb s vb hs
      obtain ⟨s2, r2, p2, sm2⟩ := tail_run (if z then .e else .ne) lt le (b2i z) (b2i !z) (by cases z <;> decide)
        (by cases z <;> decide) s1 v1
      refine ⟨s2, JRun.append (JRun.ins r1) r2, ?_, sm1.trans sm2⟩
      rw [cond_test z z1] at p2
      by_cases h0 : vb = 0 <;> cases z <;> simpa [h0, b2i] using p2
  have := EvG.seq (ha.test_fall z lt hz) h2 hk
  simpa [scCode, List.append_assoc] using this

/-- ND_LOGAND is the short-circuit shape with `je .L.false.c` -/
theorem landCode_eq (c : Nat) (ta tb : ITy) (ca cb : List JI) :
    landCode c ta tb ca cb = scCode true ⟨.false_, c⟩ ⟨.end_, c⟩ ta tb ca cb := rfl

/-- ND_LOGOR is the short-circuit shape with `jne .L.true.c` -/
theorem lorCode_eq (c : Nat) (ta tb : ITy) (ca cb : List JI) :
    lorCode c ta tb ca cb = scCode false ⟨.true_, c⟩ ⟨.end_, c⟩ ta tb ca cb := rfl

/-- ND_LOGAND, left operand 0: the right operand is skipped -/
theorem EvG.land_short {ca cb : List JI} {ta tb : ITy} {σ σ1 : Env} {Wa : List Nat} {k0 k1 d c : Nat}
    (ha : EvG Φ P ca σ σ1 (fun r => Represents ta r 0) Wa k0 k1 d) :
    EvG Φ P (landCode c ta tb ca cb) σ σ1 (fun r => Represents .i32 r 0) Wa k0 k1 d :=
  landCode_eq c ta tb ca cb ▸ (EvG.sc_short (z := true) (by simp) ha).post fun r h => by simpa [b2i] using h

/-- ND_LOGAND, left operand not 0: the value is `b != 0` -/
theorem EvG.land_full {ca cb : List JI} {ta tb : ITy} {va vb : Int} {σ σ1 σ2 : Env} {Wa Wb : List Nat}
    {k0 k1 ka0 ka1 kb0 kb1 da db c : Nat} (hva : va ≠ 0)
    (ha : EvG Φ P ca σ σ1 (fun r => Represents ta r va) Wa ka0 ka1 da)
    (hb : EvG Φ P cb σ1 σ2 (fun r => Represents tb r vb) Wb kb0 kb1 db)
    (hk : k0 ≤ ka0 ∧ ka1 ≤ k1 ∧ k0 ≤ kb0 ∧ kb1 ≤ k1) :
    EvG Φ P (landCode c ta tb ca cb) σ σ2 (fun r => Represents .i32 r (b2i (vb ≠ 0))) (Wa ++ Wb) k0 k1 (max da db) :=
  landCode_eq c ta tb ca cb ▸ EvG.sc_full (z := true) (by simp [hva]) ha hb hk

/-- ND_LOGOR, left operand not 0: the right operand is skipped -/
theorem EvG.lor_short {ca cb : List JI} {ta tb : ITy} {va : Int} {σ σ1 : Env} {Wa : List Nat} {k0 k1 d c : Nat} (hva : va ≠ 0)
    (ha : EvG Φ P ca σ σ1 (fun r => Represents ta r va) Wa k0 k1 d) :
    EvG Φ P (lorCode c ta tb ca cb) σ σ1 (fun r => Represents .i32 r 1) Wa k0 k1 d :=
  lorCode_eq c ta tb ca cb ▸ (EvG.sc_short (z := false) (by simp [hva]) ha).post fun r h => by simpa [b2i, hva] using h

/-- ND_LOGOR, left operand 0: the value is `b != 0` -/
theorem EvG.lor_full {ca cb : List JI} {ta tb : ITy} {vb : Int} {σ σ1 σ2 : Env} {Wa Wb : List Nat}
    {k0 k1 ka0 ka1 kb0 kb1 da db c : Nat}
    (ha : EvG Φ P ca σ σ1 (fun r => Represents ta r 0) Wa ka0 ka1 da)
    (hb : EvG Φ P cb σ1 σ2 (fun r => Represents tb r vb) Wb kb0 kb1 db)
    (hk : k0 ≤ ka0 ∧ ka1 ≤ k1 ∧ k0 ≤ kb0 ∧ kb1 ≤ k1) :
    EvG Φ P (lorCode c ta tb ca cb) σ σ2 (fun r => Represents .i32 r (b2i (vb ≠ 0))) (Wa ++ Wb) k0 k1 (max da db) :=
  lorCode_eq c ta tb ca cb ▸ EvG.sc_full (z := false) (by simp) ha hb hk

/-- ND_COND, condition not 0: the second operand is evaluated, the third skipped -/
theorem EvG.cond_then {cc ca cb : List JI} {tc : ITy} {vc : Int} {σ σ1 σ2 : Env} {R : BitVec 64 → Prop} {Wc Wa : List Nat}
    {k0 k1 kc0 kc1 ka0 ka1 dc da c : Nat} (hvc : vc ≠ 0)
    (hc : EvG Φ P cc σ σ1 (fun r => Represents tc r vc) Wc kc0 kc1 dc)
    (ha : EvG Φ P ca σ1 σ2 R Wa ka0 ka1 da)
    (hk : k0 ≤ kc0 ∧ kc1 ≤ k1 ∧ k0 ≤ ka0 ∧ ka1 ≤ k1) :
    EvG Φ P (condCode c tc cc ca cb) σ σ2 R (Wc ++ Wa) k0 k1 (max dc da) := by
  have h2 : EvG Φ P (ca ++ (JI.jmp ⟨.end_, c⟩ :: ((JI.lbl ⟨.else_, c⟩ :: cb) ++ [JI.lbl ⟨.end_, c⟩]))) σ1 σ2 R Wa ka0 ka1 da :=
    ha.then_jrun (fun s hs => ⟨s, JRun.jmp_skip _ _ s, hs, Same.refl s⟩)
  have := EvG.seq (hc.test_fall true ⟨.else_, c⟩ (by simp [hvc])) h2 hk
  simpa [condCode, List.append_assoc] using this

/-- ND_COND, condition 0: the second operand is skipped, the third evaluated -/
theorem EvG.cond_else {cc ca cb : List JI} {tc : ITy} {σ σ1 σ2 : Env} {R : BitVec 64 → Prop} {Wc Wb : List Nat}
    {k0 k1 kc0 kc1 kb0 kb1 dc db c : Nat}
    (hc : EvG Φ P cc σ σ1 (fun r => Represents tc r 0) Wc kc0 kc1 dc)
    (hb : EvG Φ P cb σ1 σ2 R Wb kb0 kb1 db)
    (hk : k0 ≤ kc0 ∧ kc1 ≤ k1 ∧ k0 ≤ kb0 ∧ kb1 ≤ k1) :
    EvG Φ P (condCode c tc cc ca cb) σ σ2 R (Wc ++ Wb) k0 k1 (max dc db) := by
  have h2 : EvG Φ P (cb ++ [JI.lbl ⟨.end_, c⟩]) σ1 σ2 R Wb kb0 kb1 db :=
    hb.then_jrun (fun s hs => ⟨s, JRun.lbl _ s, hs, Same.refl s⟩)
  have := EvG.seq (hc.test_skip true ⟨.else_, c⟩ (ca ++ [JI.jmp ⟨.end_, c⟩]) (by simp)) h2 hk
  simpa [condCode, List.append_assoc] using this

end

/-! ### jump-free code -/

theorem run_of_JRun {is : List Ins} {m m' : State} (h : JRun (J is) m m') : X86.run is m = some m' := by
  have := h.runJ (by rw [defs_J]; exact List.nodup_nil)
  rwa [length_J, runJ_ins] at this

end ChibiVerif.C01
