/-
C18 — `convert_universal_chars` (Model/LineNo.lean `convertUCNAux`) keeps the line of every byte it keeps: it leaves `\u000a`
alone, so every '\n' it writes is a copy of one it read.  One step lemma (`convertUCNAux_step`), one invariant (`LinesKept`)
with a closure lemma per kind of step, one induction.
-/
import ChibiVerif.Model.LineNo
import ChibiVerif.Lemmas.LineNoLemmas

namespace ChibiVerif.LineNo

theorem readUniversalChar_ne_zero (r : List Nat) (n c : Nat) (h : readUniversalChar r n c ≠ 0) :
    n ≤ r.length ∧ countLF (r.take n) = 0 := by
  induction n generalizing r c with
  | zero => simp
  | succ n ih =>
    cases r with
    | nil => simp [readUniversalChar] at h
    | cons b t =>
      simp only [readUniversalChar] at h
      by_cases hb : isXDigit b = true
      · simp only [hb, if_true] at h
        have := ih t _ h
        have hne : b ≠ LF := by intro e; subst e; exact absurd hb (by decide)
        simp [hne, this.2]; omega
      · simp [hb] at h

theorem encodeUtf8_no_LF (c : Nat) (hc : c ≠ LF) : ∀ b ∈ encodeUtf8 c, b ≠ LF := by
  intro b hb
  unfold encodeUtf8 at hb
  have h80 : ∀ x : Nat, 0x80 ||| x ≠ LF := fun x => by have := @Nat.left_le_or 0x80 x; simp only [LF]; omega
  split at hb
  · simp at hb; subst hb; exact hc
  · split at hb
    · simp at hb
      rcases hb with rfl | rfl
      · have := @Nat.left_le_or 0xC0 (c >>> 6); simp only [LF]; omega
      · exact h80 _
    · split at hb
      · simp at hb
        rcases hb with rfl | rfl | rfl
        · have := @Nat.left_le_or 0xE0 (c >>> 12); simp only [LF]; omega
        · exact h80 _
        · exact h80 _
      · simp at hb
        rcases hb with rfl | rfl | rfl | rfl
        · have h1 : (0xF0 ||| (c >>> 18)) % 256 = 0xF0 % 256 ||| (c >>> 18) % 256 := Nat.or_mod_two_pow (n := 8)
          have h2 := @Nat.left_le_or (0xF0 % 256) ((c >>> 18) % 256)
          simp only [LF]; omega
        · exact h80 _
        · exact h80 _
        · exact h80 _

theorem countLF_zero_of_no_LF (l : List Nat) (h : ∀ b ∈ l, b ≠ LF) : countLF l = 0 := by
  rw [countLF_eq_count]; exact List.count_eq_zero.2 fun hm => h LF hm rfl

theorem countLF_take_le_zero (l : List Nat) (k : Nat) (h : countLF l = 0) : countLF (l.take k) = 0 := by
  rw [countLF_eq_count] at *; exact Nat.le_zero.1 (h ▸ (List.take_sublist k l).count_le _)

/-- One iteration either copies one byte, or two (a backslash and what follows it), or replaces the `n` bytes of a universal
    character name — backslash, `u`/`U`, hexadecimal digits: no newline among them — by the encoding of a code point other
    than '\n'. -/
theorem convertUCNAux_step (f a : Nat) (rest : List Nat) (s : Nat) :
    convertUCNAux (f + 1) (a :: rest) s = (a, s) :: convertUCNAux f rest (s + 1) ∨
    (∃ b rest', rest = b :: rest' ∧
      convertUCNAux (f + 1) (a :: rest) s = (a, s) :: (b, s + 1) :: convertUCNAux f rest' (s + 1 + 1)) ∨
    ∃ n c, c ≠ LF ∧ countLF ((a :: rest).take n) = 0 ∧
      convertUCNAux (f + 1) (a :: rest) s = (encodeUtf8 c).map (·, s) ++ convertUCNAux f ((a :: rest).drop n) (s + n) := by
  have hnil : ∀ s', convertUCNAux f [] s' = [] := fun s' => by cases f <;> rfl
  have hex : ∀ (b : Nat) (rest' : List Nat) (n : Nat), b = 117 ∨ b = 85 → readUniversalChar rest' n 0 ≠ 0 →
      countLF ((BSL :: b :: rest').take (n + 2)) = 0 := by
    intro b rest' n hb hr
    have := (readUniversalChar_ne_zero rest' n 0 hr).2
    rcases hb with rfl | rfl <;> simp [this, LF, BSL]
  generalize hout : convertUCNAux (f + 1) (a :: rest) s = out
  simp only [convertUCNAux] at hout
  split at hout
  · rename_i ha
    subst ha
    split at hout
    · exact .inl (by rw [hnil, hout])
    · rename_i b rest'
      split at hout
      · split at hout
        · rename_i hb hc
          exact .inr (.inr ⟨6, _, hc.2, hex b rest' 4 (.inl hb) hc.1, hout.symm⟩)
        · exact .inl hout.symm
      · split at hout
        · split at hout
          · rename_i hb hc
            exact .inr (.inr ⟨10, _, hc.2, hex b rest' 8 (.inr hb) hc.1, hout.symm⟩)
          · exact .inl hout.symm
        · exact .inr (.inl ⟨b, rest', rfl, hout.symm⟩)
  · exact .inl hout.symm

/-- `out` is the annotated output for the text `T`, which starts at offset `s` of the whole input: every output byte comes from
    an offset at or after `s`, has as many '\n' before it as its source has in `T`, and is a '\n' only if its source is -/
def LinesKept (out : List (Nat × Nat)) (T : List Nat) (s : Nat) : Prop :=
  ∀ (k : Nat) (e : Nat × Nat), out[k]? = some e →
    s ≤ e.2 ∧ countLF ((out.map (·.1)).take k) = countLF (T.take (e.2 - s)) ∧ (e.1 = LF → T[e.2 - s]? = some LF)

theorem linesKept_cons (a : Nat) (out : List (Nat × Nat)) (rest : List Nat) (s : Nat)
    (h : LinesKept out rest (s + 1)) : LinesKept ((a, s) :: out) (a :: rest) s := by
  intro k e hk
  cases k with
  | zero => simp at hk; subst hk; simp
  | succ k =>
    simp at hk
    obtain ⟨h1, h2, h3⟩ := h k e hk
    obtain ⟨d, hd⟩ : ∃ d, e.2 = s + 1 + d := ⟨e.2 - (s + 1), by omega⟩
    have e1 : e.2 - s = d + 1 := by omega
    have e2 : e.2 - (s + 1) = d := by omega
    rw [e2] at h2 h3
    rw [e1]
    exact ⟨by omega, by simp only [List.map_cons, List.take_succ_cons, countLF_cons, h2], h3⟩

theorem linesKept_ucn (enc : List Nat) (out : List (Nat × Nat)) (T : List Nat) (s n : Nat)
    (henc : ∀ b ∈ enc, b ≠ LF) (hT : countLF (T.take n) = 0)
    (h : LinesKept out (T.drop n) (s + n)) : LinesKept (enc.map (·, s) ++ out) T s := by
  intro k e hk
  have hmap : (enc.map (·, s) ++ out).map (·.1) = enc ++ out.map (·.1) := by simp [Function.comp_def]
  rw [hmap]
  by_cases hlt : k < enc.length
  · rw [List.getElem?_append_left (by simpa using hlt)] at hk
    simp at hk
    obtain ⟨b, hb, rfl⟩ := hk
    refine ⟨Nat.le_refl _, ?_, fun hl => absurd hl (henc b (List.mem_of_getElem? hb))⟩
    rw [List.take_append_of_le_length (Nat.le_of_lt hlt)]
    simp [countLF_take_le_zero _ _ (countLF_zero_of_no_LF enc henc)]
  · have hge : enc.length ≤ k := Nat.le_of_not_lt hlt
    rw [List.getElem?_append_right (by simpa using hge)] at hk
    simp only [List.length_map] at hk
    obtain ⟨h1, h2, h3⟩ := h _ e hk
    have e1 : e.2 - s = n + (e.2 - (s + n)) := by omega
    refine ⟨by omega, ?_, fun hl => by rw [e1, ← List.getElem?_drop]; exact h3 hl⟩
    rw [List.take_append, countLF_append, List.take_of_length_le hge, countLF_zero_of_no_LF enc henc, h2,
      e1, List.take_add, countLF_append, hT]

theorem convertUCNAux_linesKept (f : Nat) : ∀ (T : List Nat) (s : Nat), LinesKept (convertUCNAux f T s) T s := by
  induction f with
  | zero => intro T s k e h; simp [convertUCNAux] at h
  | succ f ih =>
    intro T s
    cases T with
    | nil => intro k e h; simp [convertUCNAux] at h
    | cons a rest =>
      rcases convertUCNAux_step f a rest s with h | ⟨b, rest', rfl, h⟩ | ⟨n, c, hc, hT, h⟩ <;> rw [h]
      · exact linesKept_cons _ _ _ _ (ih _ _)
      · exact linesKept_cons _ _ _ _ (linesKept_cons _ _ _ _ (ih _ _))
      · exact linesKept_ucn _ _ _ _ n (encodeUtf8_no_LF c hc) hT (ih _ _)

theorem noNewlineUCN_always (T : List Nat) : noNewlineUCN T = true := by
  unfold noNewlineUCN convertUCN
  apply List.all_eq_true.2
  intro e he
  obtain ⟨k, hk⟩ := List.getElem?_of_mem he
  by_cases hl : e.1 = LF
  · have := (convertUCNAux_linesKept _ T 0 k e hk).2.2 hl
    simp at this
    simp [this]
  · simp [hl]

theorem convertUCN_lines (T : List Nat) (k : Nat) (e : Nat × Nat)
    (hk : (convertUCN T)[k]? = some e) :
    countLF ((convertUniversalChars T).take k) = countLF (T.take e.2) := by
  have := (convertUCNAux_linesKept (T.length + 1) T 0 k e hk).2.1
  simpa [convertUniversalChars, convertUCN] using this

end ChibiVerif.LineNo
