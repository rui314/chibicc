/-
`subst` of the model against the phase-structured specification of C11 6.10.3.1–6.10.3.3 (property C09; what
`C09_subst_spec_partial` of Props/C09.lean rests on is `subst_spec_of_region` at the end).  The two are compared turn by turn: the model through the arms of Lemmas/C09Step.lean, the
specification through `SpecAt` — its three phases run from the start of a turn — with one lemma for what `##` does (`SpecAt.op`)
and one for every other token (`SpecAt.step`).
-/
import ChibiVerif.Model.PP
import ChibiVerif.Spec.PPSpec
import ChibiVerif.Lemmas.PPLemmas
import ChibiVerif.Lemmas.C09Stringize

namespace ChibiVerif.PP
open ChibiVerif.Spec.PPSpec

/-- every cached expansion is the pure expansion of the argument -/
def CacheOK (full : List Tok → List Tok) (args : List MacroArg) : Prop :=
  ∀ a ∈ args, a.expanded = none ∨ a.expanded = some (full a.toks)

theorem cacheOK_setExpanded {full : List Tok → List Tok} {args : List MacroArg} {a : MacroArg}
    (h : CacheOK full args) (hf : findArg args (some t) = some a) : CacheOK full (setExpanded args a.name (full a.toks)) := by
  intro x hx
  rcases mem_setExpanded hx with hx | ⟨a', ha', rfl⟩
  · exact h x hx
  · have hn : a.name = t.text := by simpa using List.find?_some hf
    rw [hn] at ha'
    cases ha'.symm.trans hf
    exact Or.inr rfl

/-- the pre-expander of the theorem: a pure function of the argument's tokens -/
def purePP (full : List Tok → List Tok) : PreExpand := fun st ts => .ok (full ts, st)

/-- a placemarker is on top of the paste stack of the specification -/
def PmTop : List Elem → Bool
  | .pm :: _ => true
  | _ => false

theorem pasteAll_push (lx : String → LexOne) : ∀ (e1 more d : List Elem), (∀ x ∈ e1, x ≠ .op) →
    pasteAll lx (e1 ++ more) d = pasteAll lx more (e1.reverse ++ d) := by
  intro e1
  induction e1 with
  | nil => intro more d _; rfl
  | cons x r ih =>
    intro more d h
    have hr := ih more (x :: d) fun y hy => h y (List.mem_cons_of_mem _ hy)
    rw [List.reverse_cons, List.append_assoc, List.singleton_append, ← hr]
    cases x with
    | op => exact absurd rfl (h _ List.mem_cons_self)
    | _ => rfl

theorem pasteAll_toks (lx : String → LexOne) (ts : List Tok) (more done : List Elem) :
    pasteAll lx (ts.map Elem.tok ++ more) done = pasteAll lx more ((ts.map Elem.tok).reverse ++ done) :=
  pasteAll_push lx _ _ _ fun x hx => by obtain ⟨_, _, rfl⟩ := List.mem_map.1 hx; nofun

theorem pasteAll_pm (lx : String → LexOne) (more done : List Elem) :
    pasteAll lx (.pm :: more) done = pasteAll lx more (.pm :: done) := by simp [pasteAll]

theorem pasteAll_op_ok (lx : String → LexOne) {r : Elem} (more : List Elem) {l : Elem} (done : List Elem) {x : Elem}
    (h : combine lx l r = .ok x) : pasteAll lx (.op :: r :: more) (l :: done) = pasteAll lx more (x :: done) := by
  simp [pasteAll, h]

theorem pasteAll_op_err (lx : String → LexOne) {r : Elem} (more : List Elem) {l : Elem} (done : List Elem) {e : Err}
    (h : combine lx l r = .error e) : pasteAll lx (.op :: r :: more) (l :: done) = .error e := by
  simp [pasteAll, h]

theorem dropPlacemarkers_reverse (es : List Elem) : dropPlacemarkers es.reverse = (dropPlacemarkers es).reverse := by
  simp [dropPlacemarkers, List.filterMap_reverse]

theorem dropPlacemarkers_toks (ts : List Tok) : dropPlacemarkers (ts.map Elem.tok) = ts := by
  induction ts with
  | nil => rfl
  | cons t r ih => simpa [dropPlacemarkers] using ih

theorem dropPlacemarkers_append (a b : List Elem) : dropPlacemarkers (a ++ b) = dropPlacemarkers a ++ dropPlacemarkers b := by
  simp [dropPlacemarkers, List.filterMap_append]

theorem isParam_iff (args0 : List MacroArg) (t : Tok) : isParam args0 t = (findArg args0 (some t)).isSome := by
  rw [Bool.eq_iff_iff]
  simp [isParam, findArg]

theorem findArg_of_isParam {args0 : List MacroArg} {t : Tok} (h : isParam args0 t = true) :
    ∃ a, findArg args0 (some t) = some a :=
  Option.isSome_iff_exists.1 (by rw [← isParam_iff]; exact h)

theorem findArg_of_not_isParam {args0 : List MacroArg} {t : Tok} (h : isParam args0 t = false) :
    findArg args0 (some t) = none :=
  Option.not_isSome_iff_eq_none.1 (by rw [← isParam_iff, h]; simp)

theorem argToks_of_findArg {args0 : List MacroArg} {t : Tok} {a0 : MacroArg} (h : findArg args0 (some t) = some a0) :
    argToks args0 t.text = a0.toks := by
  simp only [findArg] at h
  simp [argToks, h]

theorem isVaParam_eq (args0 : List MacroArg) (v : Tok) :
    isVaParam args0 v = ((findArg args0 (some v)).filter (·.isVa)).isSome := by
  simp only [isVaParam, findArg]
  cases args0.find? (fun a => a.name == v.text) with
  | none => rfl
  | some a => cases h : a.isVa <;> simp [Option.filter, h]

theorem spell_reverse (ts : List Tok) : spell ts.reverse = (spell ts).reverse := by simp [spell]
theorem spell_append (a b : List Tok) : spell (a ++ b) = spell a ++ spell b := by simp [spell]
theorem spell_setHeadFlags (ts : List Tok) (b s : Bool) : spell (setHeadFlags ts b s) = spell ts := by
  cases ts <;> simp [setHeadFlags, spell, spell1]

theorem anyBad_tail {isFn : Bool} {args : List MacroArg} {t : Tok} {r : List Tok}
    (h : anyBad isFn args (t :: r) = false) : badHead isFn args (t :: r) = false ∧ anyBad isFn args r = false := by
  simpa [anyBad, Bool.or_eq_false_iff] using h

theorem paste_congr2 (lx : String → LexOne) {a a' b b' : Tok} (h : spell1 a = spell1 a') (hb : b.text = b'.text) :
    (∀ p, paste lx a b = .ok p → ∃ p', paste lx a' b' = .ok p' ∧ spell1 p' = spell1 p) := by
  intro p hp
  simp only [spell1, Prod.mk.injEq] at h
  unfold paste at hp ⊢
  dsimp only at hp ⊢
  rw [← h.2, ← hb]
  split at hp
  · rename_i k hk
    simp only [Except.ok.injEq] at hp
    subst hp
    simp [spell1]
  all_goals simp at hp

theorem paste_congr (lx : String → LexOne) {a a' b : Tok} (h : spell1 a = spell1 a') :
    (∀ p, paste lx a b = .ok p → ∃ p', paste lx a' b = .ok p' ∧ spell1 p' = spell1 p) :=
  paste_congr2 lx h rfl

private theorem exists_succ {a b : Nat} (h : a < b) : ∃ k, b = k + 1 := ⟨b - 1, by omega⟩

theorem gnuCond_eq (args : List MacroArg) (r : List Tok) :
    (((r.drop 1).head?.map (isVaParam args)).getD false) = ((findArg args (r.drop 1).head?).filter (·.isVa)).isSome := by
  cases (r.drop 1).head? with
  | none => simp [findArg]
  | some v => simp [isVaParam_eq]

/-- the item a token other than `#` is parsed to when `badHead` is false there -/
def headItem (args : List MacroArg) (tok : Tok) : Item :=
  if tok.text == "##" then .op else if isParam args tok then .par tok tok.text else .lit tok

theorem parseBody_cons {isFn : Bool} {args : List MacroArg} {tok : Tok} {rest : List Tok} (n : Nat)
    (hbad : badHead isFn args (tok :: rest) = false) :
    parseBody isFn args (n + 1) (tok :: rest) =
      if tok.text == "#" && isFn then
        match (generalizing := false) rest with
        | p :: rest' =>
          if isParam args p then (parseBody isFn args n rest').map (Item.strz tok p.text :: ·) else .error .hashNotParam
        | [] => .error .hashNotParam
      else (parseBody isFn args n rest).map (headItem args tok :: ·) := by
  simp only [badHead, Bool.or_eq_false_iff] at hbad
  obtain ⟨⟨hg, hv⟩, _⟩ := hbad
  rw [← gnuCond_eq] at hg
  by_cases h1 : (tok.text == "#" && isFn) = true
  · simp only [parseBody, h1, if_true]
    cases rest <;> rfl
  · by_cases h3 : (tok.text == "##") = true <;> by_cases h4 : isParam args tok = true <;>
      simp only [parseBody, h1, hg, hv, h3, h4, headItem, Bool.false_eq_true, if_false, if_true]

/-- the elements an item other than `__VA_OPT__` is substituted by -/
def itemElems (args : List MacroArg) (fa : String → List Tok) (p nextOp : Bool) : Item → List Elem
  | .lit t => [.tok t]
  | .op => [.op]
  | .strz h a => [.tok (stringizeSpec h (argToks args a))]
  | .par q a =>
    if p || nextOp then rawOrPlacemarker (if nextOp then withSpacingOf q (argToks args a) else argToks args a)
    else (withSpacingOf q (fa a)).map .tok
  | .gnuComma c a => if (argToks args a).isEmpty then [] else .tok c :: (argToks args a).map .tok
  | .vaopt _ => []

theorem substItems_cons {args : List MacroArg} {vaP : Bool} {fa : String → List Tok} {inner : List Tok → Except Err (List Tok)}
    (p : Bool) (it : Item) (rest : List Item) (hv : ∀ c, it ≠ .vaopt c) :
    substItems args vaP fa inner p (it :: rest) =
      (substItems args vaP fa inner (isOp it) rest).map (itemElems args fa p ((rest.head?.map isOp).getD false) it ++ ·) := by
  cases it with
  | vaopt c => exact absurd rfl (hv c)
  | par q a =>
    rw [substItems, itemElems]
    by_cases h : (p || (rest.head?.map isOp).getD false) = true <;> simp only [h, if_true, Bool.false_eq_true, if_false] <;> rfl
  | _ => rfl

theorem isOp_headItem (args : List MacroArg) (tok : Tok) : isOp (headItem args tok) = (tok.text == "##") := by
  unfold headItem
  split
  · simp [isOp, *]
  · split <;> simp [isOp, *]

theorem headItem_ne_vaopt (args : List MacroArg) (tok : Tok) (c : List Tok) : headItem args tok ≠ .vaopt c := by
  unfold headItem
  split
  · nofun
  · split <;> nofun

theorem parse_head_isOp {isFn : Bool} {args : List MacroArg} {n : Nat} {rest : List Tok} {items : List Item}
    (hlen : rest.length < n) (hbad : anyBad isFn args rest = false) (h : parseBody isFn args n rest = .ok items) :
    (items.head?.map isOp).getD false = textIs rest.head? "##" := by
  cases rest with
  | nil => cases n <;> cases h <;> rfl
  | cons t r =>
    obtain ⟨k, rfl⟩ := exists_succ hlen
    rw [parseBody_cons k (anyBad_tail hbad).1] at h
    split at h
    · rename_i h1
      simp only [Bool.and_eq_true, beq_iff_eq] at h1
      cases r with
      | nil => cases h
      | cons p r' =>
        simp only at h
        split at h
        · obtain ⟨_, _, rfl⟩ := Except.map_eq_ok h
          simp [isOp, textIs, h1.1]
        · cases h
    · obtain ⟨_, _, rfl⟩ := Except.map_eq_ok h
      simp [isOp_headItem, textIs]

theorem spell_cons (t : Tok) (ts : List Tok) : spell (t :: ts) = spell1 t :: spell ts := rfl

theorem dropPM_cons_tok (t : Tok) (es : List Elem) : dropPlacemarkers (.tok t :: es) = t :: dropPlacemarkers es := by
  simp [dropPlacemarkers]

theorem dropPM_cons_pm (es : List Elem) : dropPlacemarkers (.pm :: es) = dropPlacemarkers es := by
  simp [dropPlacemarkers]

/-- the head of `done` when it is not a placemarker and `acc` is not empty -/
theorem top_of_R {acc : List Tok} {done : List Elem} {cur : Tok} {acc' : List Tok}
    (hR : spell (cur :: acc') = spell (dropPlacemarkers done)) (hpm : PmTop done = false) (hop : ∀ d', done ≠ .op :: d') :
    ∃ lt done', done = .tok lt :: done' ∧ spell1 lt = spell1 cur ∧ spell acc' = spell (dropPlacemarkers done') := by
  cases done with
  | nil => simp [spell, dropPlacemarkers] at hR
  | cons d done' =>
    cases d with
    | pm => simp [PmTop] at hpm
    | op => exact absurd rfl (hop done')
    | tok lt =>
      rw [dropPM_cons_tok, spell_cons, spell_cons] at hR
      simp only [List.cons.injEq] at hR
      exact ⟨lt, done', rfl, hR.1.symm, hR.2⟩

/-- `done` never holds a `##` -/
def NoOp (done : List Elem) : Prop := ∀ e ∈ done, e ≠ Elem.op

theorem dropPM_push (ts : List Tok) (done : List Elem) :
    dropPlacemarkers ((ts.map Elem.tok).reverse ++ done) = ts.reverse ++ dropPlacemarkers done := by
  rw [dropPlacemarkers_append, ← List.map_reverse, dropPlacemarkers_toks]

theorem spell_withSpacingOf (p : Tok) (ts : List Tok) : spell (withSpacingOf p ts) = spell ts := by
  simp [withSpacingOf, spell_setHeadFlags]

theorem withSpacingOf_nil_iff (p : Tok) (ts : List Tok) : withSpacingOf p ts = [] ↔ ts = [] := by
  cases ts <;> simp [withSpacingOf, setHeadFlags]

theorem spell_push_tok {acc : List Tok} {done : List Elem} {a b : Tok}
    (hR : spell acc = spell (dropPlacemarkers done)) (h : spell1 a = spell1 b) :
    spell (a :: acc) = spell (dropPlacemarkers (.tok b :: done)) := by
  rw [spell_cons, dropPM_cons_tok, spell_cons, h, hR]

theorem spell_push_toks {acc : List Tok} {done : List Elem} {as bs : List Tok}
    (hR : spell acc = spell (dropPlacemarkers done)) (h : spell as = spell bs) :
    spell (as.reverse ++ acc) = spell (dropPlacemarkers ((bs.map Elem.tok).reverse ++ done)) := by
  rw [spell_append, spell_reverse, dropPM_push, spell_append, spell_reverse, h, hR]

theorem pasteAll_op_last (lx : String → LexOne) (d es : List Elem) : pasteAll lx [.op] d ≠ .ok es := by
  cases d <;> simp [pasteAll]

/-- `## ##`: a `##` is never accepted as the right operand of a `##` (6.10.3.3: the result would not be a token) -/
theorem pasteAll_op_op (lx : String → LexOne) (e d es : List Elem) : pasteAll lx (.op :: .op :: e) d ≠ .ok es := by
  cases d with
  | nil => simp [pasteAll]
  | cons l d' => cases l <;> simp [pasteAll, combine]

theorem pmTop_push {ts : List Tok} (d : List Elem) (h : ts ≠ []) : PmTop ((ts.map Elem.tok).reverse ++ d) = false := by
  rw [← List.map_reverse]
  cases hr : ts.reverse with
  | nil => exact absurd (List.reverse_eq_nil_iff.1 hr) h
  | cons x xs => rfl

theorem pmTop_push_tok (ws : List Tok) (x : Tok) (d : List Elem) :
    PmTop ((ws.map Elem.tok).reverse ++ Elem.tok x :: d) = false := by
  simpa using pmTop_push d (List.cons_ne_nil x ws)

theorem combine_op_left (lx : String → LexOne) (r : Elem) : ∃ e, combine lx .op r = .error e := by
  cases r <;> exact ⟨_, rfl⟩

theorem model_gnu_none {args args0 : List MacroArg} (hcore : args.map core = args0.map core) {tok : Tok} {rest : List Tok}
    (hb : (tok.text == "," && textIs rest.head? "##" && ((findArg args0 (rest.drop 1).head?).filter (·.isVa)).isSome) = false) :
    (if (tok.text == "," && textIs rest.head? "##") = true then
        (findArg args (rest.drop 1).head?).filter (·.isVa) else none) = none := by
  by_cases hc : (tok.text == "," && textIs rest.head? "##") = true
  · simp only [hc, if_true]
    simp only [hc, Bool.true_and] at hb
    cases hf : findArg args (rest.drop 1).head? with
    | none => rfl
    | some a =>
      obtain ⟨a0, hf0, _, hva, _⟩ := findArg_some_core hcore hf
      rw [hf0] at hb
      cases hv : a.isVa with
      | false => simp [Option.filter, hv]
      | true => simp [Option.filter, hva, hv] at hb
  · simp [hc]

section spec
variable (lx : String → LexOne) (isFn : Bool) (args0 : List MacroArg) (vaP : Bool) (full : List Tok → List Tok)
  (inner : List Tok → Except Err (List Tok))

/-- parsing and substitution of the specification in one: the elements `body` is substituted by; `p`: the item before was `##` -/
def specElems (p : Bool) (k : Nat) (body : List Tok) : Except Err (List Elem) :=
  parseBody isFn args0 k body >>= substItems args0 vaP (fun a => full (argToks args0 a)) inner p

/-- the specification, run from the start of a turn: the rest `body` of the replacement list has none of the constructs of `anyBad`, and parsing
    it, substituting (the item before was not `##`) and pasting onto the stack `d` ends in `es` -/
def SpecAt (body : List Tok) (d es : List Elem) : Prop :=
  anyBad isFn args0 body = false ∧ ∃ k e, body.length < k ∧ specElems isFn args0 vaP full inner false k body = .ok e ∧
    pasteAll lx e d = .ok es

variable {lx isFn args0 vaP full inner}

theorem specElems_nil (p : Bool) (k : Nat) : specElems isFn args0 vaP full inner p k [] = .ok [] := by
  cases k <;> rfl

theorem specElems_cons {p : Bool} {k : Nat} {tok : Tok} {rest : List Tok} {e : List Elem}
    (hbad : anyBad isFn args0 (tok :: rest) = false) (hk : rest.length < k)
    (h : specElems isFn args0 vaP full inner p (k + 1) (tok :: rest) = .ok e) :
    if tok.text = "#" ∧ isFn = true then
      ∃ q rest' a0 e2, rest = q :: rest' ∧ findArg args0 (some q) = some a0 ∧
        specElems isFn args0 vaP full inner false k rest' = .ok e2 ∧ e = .tok (stringizeSpec tok a0.toks) :: e2
    else
      ∃ e2, specElems isFn args0 vaP full inner (tok.text == "##") k rest = .ok e2 ∧
        e = itemElems args0 (fun a => full (argToks args0 a)) p (textIs rest.head? "##") (headItem args0 tok) ++ e2 := by
  obtain ⟨items, hp, hs⟩ := Except.bind_eq_ok h
  rw [parseBody_cons k (anyBad_tail hbad).1] at hp
  split
  · rename_i h1
    rw [if_pos (by simpa using h1)] at hp
    cases rest with
    | nil => cases hp
    | cons q rest' =>
      simp only at hp
      split at hp
      · rename_i hip
        obtain ⟨items', hp', rfl⟩ := Except.map_eq_ok hp
        rw [substItems_cons p (.strz tok q.text) items' (fun _ h => nomatch h)] at hs
        obtain ⟨e2, hs', rfl⟩ := Except.map_eq_ok hs
        obtain ⟨a0, ha0⟩ := findArg_of_isParam hip
        exact ⟨q, rest', a0, e2, rfl, ha0, by rw [specElems, hp']; exact hs', by simp [itemElems, argToks_of_findArg ha0]⟩
      · cases hp
  · rename_i h1
    rw [if_neg (by simpa using h1)] at hp
    obtain ⟨items', hp', rfl⟩ := Except.map_eq_ok hp
    rw [substItems_cons _ _ _ (headItem_ne_vaopt args0 tok), isOp_headItem,
      parse_head_isOp hk (anyBad_tail hbad).2 hp'] at hs
    obtain ⟨e2, hs', rfl⟩ := Except.map_eq_ok hs
    exact ⟨e2, by rw [specElems, hp']; exact hs', rfl⟩

theorem rawOrPlacemarker_noOp (W : List Tok) : ∀ x ∈ rawOrPlacemarker W, x ≠ .op := by
  unfold rawOrPlacemarker
  split <;> simp

/-- `rawOrPlacemarker W` is this element followed by `W.tail` -/
def opHead : List Tok → Elem
  | [] => .pm
  | w :: _ => .tok w

theorem rawOrPlacemarker_eq (W : List Tok) : rawOrPlacemarker W = opHead W :: W.tail.map .tok := by
  cases W <;> rfl

namespace SpecAt

theorem nil {d es : List Elem} (h : SpecAt lx isFn args0 vaP full inner [] d es) : es = d.reverse := by
  obtain ⟨_, k, e, _, hs, hpaste⟩ := h
  cases (specElems_nil false k).symm.trans hs
  exact (Except.ok.inj hpaste).symm

/-- **`##` in the specification.**  The stack is not empty, a right operand `rhs` follows, and with `W` the tokens it
    stands for (up to spacing) its first element — a placemarker if there is none — is combined with the top of the stack and
    the others are pushed. -/
theorem op {hh : Tok} {rest : List Tok} {d es : List Elem}
    (h : SpecAt lx isFn args0 vaP full inner (hh :: rest) d es) (hhh : hh.text = "##") :
    ∃ l d' rhs rest2 W x, d = l :: d' ∧ rest = rhs :: rest2 ∧ spell W = spell (opToks args0 rhs) ∧
      (W = [] ↔ opToks args0 rhs = []) ∧ combine lx l (opHead W) = .ok x ∧
      SpecAt lx isFn args0 vaP full inner rest2 ((W.tail.map Elem.tok).reverse ++ x :: d') es := by
  obtain ⟨hbad, k, e, hk, hs, hpaste⟩ := h
  obtain ⟨k1, rfl⟩ := exists_succ hk
  obtain ⟨hbh, hbt⟩ := anyBad_tail hbad
  simp only [List.length_cons] at hk
  have h1 := specElems_cons hbad (by omega) hs
  rw [if_neg (by simp [hhh])] at h1
  obtain ⟨e2, hs2, rfl⟩ := h1
  simp only [headItem, hhh, beq_self_eq_true, if_true, itemElems, List.singleton_append] at hs2 hpaste
  cases rest with
  | nil =>
    cases (specElems_nil true k1).symm.trans hs2
    exact absurd hpaste (pasteAll_op_last lx _ _)
  | cons rhs rest2 =>
    simp only [List.length_cons] at hk
    obtain ⟨k2, rfl⟩ := exists_succ (Nat.lt_of_succ_lt_succ hk)
    have h2 := specElems_cons hbt (by omega) hs2
    simp only [badHead, Bool.or_eq_false_iff, hhh, beq_self_eq_true, Bool.true_and, List.head?_cons, textIs] at hbh
    rw [if_neg (by rintro ⟨h1, hfn⟩; simp [h1, hfn] at hbh)] at h2
    obtain ⟨e3, hs3, rfl⟩ := h2
    -- the right operand: `W` and the elements `opHead W :: W.tail` it is substituted by
    obtain ⟨W, hW, hWnil, he2, hrhs⟩ : ∃ W, spell W = spell (opToks args0 rhs) ∧ (W = [] ↔ opToks args0 rhs = []) ∧
        itemElems args0 (fun a => full (argToks args0 a)) true (textIs rest2.head? "##") (headItem args0 rhs) =
          rawOrPlacemarker W ∧ (rhs.text == "##") = false := by
      by_cases hne : (rhs.text == "##") = true
      · simp only [headItem, hne, if_true, itemElems, List.singleton_append] at hpaste
        exact absurd hpaste (pasteAll_op_op lx _ _ _)
      · simp only [headItem, hne, Bool.false_eq_true, if_false]
        split
        · obtain ⟨a2, ha2⟩ := findArg_of_isParam ‹_›
          refine ⟨_, ?_, ?_, by simp only [itemElems, Bool.true_or, if_true]; rfl, trivial⟩ <;>
            simp only [opToks, ha2, argToks_of_findArg ha2]
          · split
            · exact spell_withSpacingOf _ _
            · rfl
          · split
            · exact withSpacingOf_nil_iff _ _
            · exact Iff.rfl
        · have hf := findArg_of_not_isParam (Bool.eq_false_iff.2 ‹_›)
          exact ⟨[rhs], by simp [opToks, hf], by simp [opToks, hf], rfl, trivial⟩
    rw [he2, rawOrPlacemarker_eq, List.cons_append] at hpaste
    rw [hrhs] at hs3
    cases d with
    | nil => simp [pasteAll] at hpaste
    | cons l d' =>
      cases hc : combine lx l (opHead W) with
      | error er => rw [pasteAll_op_err lx _ _ hc] at hpaste; cases hpaste
      | ok x =>
        rw [pasteAll_op_ok lx _ _ hc, pasteAll_toks] at hpaste
        exact ⟨l, d', rhs, rest2, W, x, rfl, rfl, hW, hWnil, hc, (anyBad_tail hbt).2, k2, e3, by omega, hs3, hpaste⟩

/-- **any other token in the specification**: `#` with its parameter pushes the stringized argument; a parameter pushes
    its argument as written (a placemarker if it is empty) when `##` follows, completely macro-replaced otherwise; any other
    token is pushed -/
theorem step {tok : Tok} {rest : List Tok} {d es : List Elem}
    (h : SpecAt lx isFn args0 vaP full inner (tok :: rest) d es) (h2 : tok.text ≠ "##") :
    (tok.text = "#" ∧ isFn = true ∧ ∃ q rest' a0, rest = q :: rest' ∧ findArg args0 (some q) = some a0 ∧
        SpecAt lx isFn args0 vaP full inner rest' (.tok (stringizeSpec tok a0.toks) :: d) es) ∨
    (¬(tok.text = "#" ∧ isFn = true) ∧
      ((∃ a0, findArg args0 (some tok) = some a0 ∧
          SpecAt lx isFn args0 vaP full inner rest
            ((if textIs rest.head? "##" = true then rawOrPlacemarker (withSpacingOf tok a0.toks)
              else (withSpacingOf tok (full a0.toks)).map .tok).reverse ++ d) es) ∨
       (findArg args0 (some tok) = none ∧ SpecAt lx isFn args0 vaP full inner rest (.tok tok :: d) es))) := by
  obtain ⟨hbad, k, e, hk, hs, hpaste⟩ := h
  obtain ⟨k1, rfl⟩ := exists_succ hk
  obtain ⟨_, hbt⟩ := anyBad_tail hbad
  simp only [List.length_cons] at hk
  have h1 := specElems_cons hbad (by omega) hs
  split at h1
  · rename_i hash
    obtain ⟨q, rest', a0, e2, rfl, ha0, hs', rfl⟩ := h1
    simp only [List.length_cons] at hk
    exact .inl ⟨hash.1, hash.2, q, rest', a0, rfl, ha0, (anyBad_tail hbt).2, k1, e2, by omega, hs', hpaste⟩
  · rename_i hn
    obtain ⟨e2, hs', rfl⟩ := h1
    have h2' : (tok.text == "##") = false := by simpa using h2
    rw [h2'] at hs'
    refine .inr ⟨hn, ?_⟩
    unfold headItem at hpaste
    rw [if_neg (by simp [h2'])] at hpaste
    split at hpaste
    · obtain ⟨a0, ha0⟩ := findArg_of_isParam ‹_›
      refine .inl ⟨a0, ha0, hbt, k1, e2, by omega, hs', ?_⟩
      simp only [itemElems, Bool.false_or, argToks_of_findArg ha0] at hpaste
      rw [← pasteAll_push _ _ _ _ ?_, ← hpaste]
      · split <;> rfl
      · split
        · exact rawOrPlacemarker_noOp _
        · simp
    · exact .inr ⟨findArg_of_not_isParam (Bool.eq_false_iff.2 ‹_›), hbt, k1, e2, by omega, hs', hpaste⟩

end SpecAt

theorem rawOrPlacemarker_ne {W : List Tok} (h : W ≠ []) : rawOrPlacemarker W = W.map .tok := by
  cases W with
  | nil => exact absurd rfl h
  | cons => rfl

theorem dropPM_op (W : List Tok) (d : List Elem) :
    dropPlacemarkers ((W.tail.map Elem.tok).reverse ++ opHead W :: d) = W.reverse ++ dropPlacemarkers d := by
  cases W with
  | nil => exact dropPM_cons_pm d
  | cons w ws => simpa [opHead] using dropPM_push (w :: ws) d

/-- **the placemarker loop against 6.10.3.3p3.**  A placemarker is on top of the paste stack and the specification is about
    to apply `## rhs …`.  Every turn of the loop of `subst` (`rhs` an empty argument, then `##`, then a further operand) is
    one `placemarker ## placemarker = placemarker` of the specification: afterwards the placemarker is on top again and the
    specification is about to apply `## rhs' …` for the operand `rhs'` the loop stops at.  The loop stops at an empty
    argument followed by `##` only when that `##` is the last token of the replacement list. -/
theorem skip_sim {d es : List Elem} : ∀ (rest3 : List Tok) (rhs : Tok) {hh rhs' : Tok} {rest4 : List Tok},
    skipEmptyOperands args0 rhs rest3 = (rhs', rest4) → hh.text = "##" →
    SpecAt lx isFn args0 vaP full inner (hh :: rhs :: rest3) (.pm :: d) es →
    ∃ hh', hh'.text = "##" ∧ SpecAt lx isFn args0 vaP full inner (hh' :: rhs' :: rest4) (.pm :: d) es ∧
      (emptyParam args0 rhs' = true → textIs rest4.head? "##" = true → rest4.length = 1) := by
  intro rest3 rhs
  fun_induction skipEmptyOperands args0 rhs rest3 with
  | case1 rhs h q rest hc ih =>
    intro hh rhs' rest4 hsk hhh hS
    simp only [Bool.and_eq_true, beq_iff_eq] at hc
    obtain ⟨l, d', rhs1, rest2, W, x, hd, hr, _, hWnil, hcomb, hS'⟩ := hS.op hhh
    cases hd; cases hr
    cases hWnil.2 ((emptyParam_iff _ _).1 hc.1)
    cases hcomb
    exact ih hsk hc.2 hS'
  | case2 rhs h q rest hc =>
    intro hh rhs' rest4 hsk hhh hS
    cases hsk
    refine ⟨hh, hhh, hS, fun hemp hx => (hc ?_).elim⟩
    simp only [List.head?_cons, textIs, beq_iff_eq] at hx
    simp [hemp, hx]
  | case3 rhs rest hne =>
    intro hh rhs' rest4 hsk hhh hS
    cases hsk
    refine ⟨hh, hhh, hS, fun _ hx => ?_⟩
    rcases rest with _ | ⟨x, _ | ⟨y, r⟩⟩
    · simp [textIs] at hx
    · rfl
    · exact absurd rfl (hne x y r)

end spec

/-- **the simulation.**  `acc` (output of `subst` so far, newest first) against `d` (the paste stack of the specification,
    newest first, placemarkers included): same spellings once the placemarkers are dropped (`hR`), and when a placemarker is
    on top of the stack the next token of the replacement list is not `##` (`hpm`) — the model has no placemarker, so it must
    never be asked to paste onto one.  The arm "parameter with an empty argument before `##`" keeps this by consuming the whole
    run `p ## q ## … ## r` of empty operands in ONE turn (`skip_sim`). -/
theorem subst_sim (lx : String → LexOne) (full : List Tok → List Tok) (isObj : Bool) (args0 : List MacroArg) (vaP : Bool)
    (inner : List Tok → Except Err (List Tok)) :
    ∀ (fuel : Nat) (st : St) (args : List MacroArg) {body acc : List Tok} {d es : List Elem},
      body.length < fuel → args.map core = args0.map core → CacheOK full args →
      (PmTop d = true → textIs body.head? "##" = false) → spell acc = spell (dropPlacemarkers d) →
      SpecAt lx (!isObj) args0 vaP full inner body d es →
      ∃ out args' st', substLoop lx (purePP full) isObj fuel st args body acc = .ok (out, args', st') ∧
        spell out = spell (dropPlacemarkers es) := by
  intro fuel
  induction fuel with
  | zero => intro st args body acc d es h; omega
  | succ n ih =>
    intro st args body acc d es hfuel hcore hcache hpm hR hS
    cases body with
    | nil =>
      cases hS.nil
      exact ⟨acc.reverse, args, st, rfl, by rw [spell_reverse, hR, dropPlacemarkers_reverse, spell_reverse]⟩
    | cons tok rest =>
      simp only [List.length_cons] at hfuel
      have hbh := (anyBad_tail hS.1).1
      simp only [badHead, Bool.or_eq_false_iff] at hbh
      rw [substLoop_succ, substTurn, substArms, armSel]
      by_cases hh : (tok.text == "#" && !isObj) = true
      · -- `#` parameter
        have h1 : tok.text = "#" ∧ (!isObj) = true := by simpa using hh
        rcases hS.step (by rw [h1.1]; decide) with ⟨_, _, q, rest', a0, rfl, ha0, hS'⟩ | ⟨hn, _⟩
        · obtain ⟨a, ha, _, _, htoks⟩ := findArg_some_core hcore.symm ha0
          obtain ⟨hst, hsk⟩ := stringize_eq_spec tok a0.toks
          simp only [List.length_cons] at hfuel
          rw [if_pos hh]
          simp only [hashArm, List.head?_cons, ha, List.drop_succ_cons, List.drop_zero]
          exact ih st args (by omega) hcore hcache (by simp [PmTop])
            (spell_push_tok hR (by rw [htoks]; simp [spell1, hst, hsk])) hS'
        · exact absurd h1 hn
      -- every other arm: in the model the `#` test and the GNU-comma test fail
      rw [if_neg hh, model_gnu_none hcore (tok := tok) (rest := rest) hbh.1.1]
      by_cases h2 : tok.text = "##"
      · -- `##`: the top of the stack is a token, the newest output token has its spelling
        rw [if_pos (by simp [h2])]
        obtain ⟨l, d', nxt, rest2, W, x, rfl, rfl, hWs, hWnil, hc, hS'⟩ := hS.op h2
        obtain ⟨lt, rfl⟩ : ∃ lt, l = .tok lt := by
          cases l with
          | tok lt => exact ⟨lt, rfl⟩
          | pm => simp [PmTop, textIs, h2] at hpm
          | op => obtain ⟨e, he⟩ := combine_op_left lx (opHead W); rw [he] at hc; cases hc
        obtain ⟨cur, acc', rfl⟩ : ∃ cur acc', acc = cur :: acc' := by
          cases acc with
          | nil => simp [spell, dropPlacemarkers] at hR
          | cons cur acc' => exact ⟨cur, acc', rfl⟩
        rw [dropPM_cons_tok, spell_cons, spell_cons, List.cons.injEq] at hR
        simp only [List.length_cons] at hfuel
        rw [pasteArm_cons, opToks_core hcore]
        cases W with
        | nil =>
          cases hc
          rw [hWnil.1 rfl]
          exact ih st args (by omega) hcore hcache (by simp [PmTop]) (spell_push_tok hR.2 hR.1) hS'
        | cons w0 ws =>
          obtain ⟨t0, ts, hM⟩ : ∃ t0 ts, opToks args0 nxt = t0 :: ts := by
            cases hM : opToks args0 nxt with
            | nil => cases hWnil.2 hM
            | cons t0 ts => exact ⟨t0, ts, rfl⟩
          rw [hM, spell_cons, spell_cons, List.cons.injEq] at hWs
          obtain ⟨p, hp, rfl⟩ := Except.map_eq_ok (hc : (paste lx lt w0).map Elem.tok = .ok x)
          obtain ⟨p', hp'ok, hp'sp⟩ :=
            paste_congr2 lx hR.1.symm (by simpa [spell1] using congrArg Prod.snd hWs.1) p hp
          simp only [hM, hp'ok]
          exact ih st args (by omega) hcore hcache (by rw [pmTop_push_tok]; exact nofun)
            (spell_push_toks (spell_push_tok hR.2 hp'sp) hWs.2.symm) hS'
      rw [if_neg (by simpa using h2)]
      rcases hS.step h2 with ⟨h1, hfn, _⟩ | ⟨_, ⟨a0, ha0, hS'⟩ | ⟨hf0, hS'⟩⟩
      · exact absurd (by simp [h1, hfn]) hh
      · -- a parameter
        obtain ⟨a, ha, hname, _, htoks⟩ := findArg_some_core hcore.symm ha0
        simp only [ha]
        by_cases hnx : textIs rest.head? "##" = true
        · -- followed by `##`: the argument as written, or a placemarker
          rw [if_pos hnx] at hS'
          obtain ⟨hh2, rest2, rfl⟩ : ∃ hh2 rest2, rest = hh2 :: rest2 := by
            cases rest with
            | nil => simp [textIs] at hnx
            | cons hh2 rest2 => exact ⟨hh2, rest2, rfl⟩
          have hhh : hh2.text = "##" := by simpa [textIs] using hnx
          -- an operand follows that `##`: were it the last token, the specification would fail too (`SpecAt.op`)
          obtain ⟨_, _, rhs, rest3, _, _, _, rfl, _⟩ := hS'.op hhh
          simp only [List.length_cons] at hfuel
          by_cases htk : a0.toks = []
          · -- empty: the specification puts a placemarker, the model copies the operand its loop stops at
            rw [htk] at hS'
            replace hS' : SpecAt lx (!isObj) args0 vaP full inner _ (.pm :: d) es := hS'
            rw [paramArm_empty (htoks.trans htk) hhh, skipEmptyOperands_congr (emptyParam_core hcore) rest3 rhs]
            rcases hsk : skipEmptyOperands args0 rhs rest3 with ⟨rhs', rest4⟩
            have hskl := (skipEmptyOperands_suffix args0 rhs rest3).length_le
            rw [hsk] at hskl
            obtain ⟨hh', hhh', hS4, hstop⟩ := skip_sim rest3 rhs hsk hhh hS'
            obtain ⟨_, _, _, _, W, x, hd, hr, hWs, hWnil, hc, hS5⟩ := hS4.op hhh'
            cases hd; cases hr
            obtain rfl : x = opHead W := by cases W <;> cases hc <;> rfl
            refine ih st args (by simp only at hskl ⊢; omega) hcore hcache (fun hpt => ?_)
              (by rw [dropPM_op, spell_append, spell_append, spell_reverse, spell_reverse, hWs, hR, opToks_core hcore]) hS5
            -- a placemarker stays on top only when the loop stopped at an empty argument: then no `##` follows
            cases W with
            | cons w ws => rw [opHead, pmTop_push_tok] at hpt; cases hpt
            | nil =>
              cases hx : textIs rest4.head? "##" with
              | false => rfl
              | true =>
                obtain ⟨h3, rfl⟩ := List.length_eq_one_iff.1 (hstop ((emptyParam_iff _ _).2 (hWnil.1 rfl)) hx)
                obtain ⟨_, _, _, _, _, _, _, hr, _⟩ := hS5.op (by simpa [textIs] using hx)
                cases hr
          · rw [rawOrPlacemarker_ne (mt (withSpacingOf_nil_iff _ _).1 htk)] at hS'
            rw [paramArm_raw (htoks ▸ htk) hhh]
            exact ih st args (by simp only [List.length_cons]; omega) hcore hcache
              (by rw [pmTop_push d (mt (withSpacingOf_nil_iff _ _).1 htk)]; exact nofun)
              (spell_push_toks hR (by rw [spell_setHeadFlags, spell_withSpacingOf, htoks])) hS'
        · -- a plain parameter: the completely macro-replaced argument
          rw [if_neg hnx] at hS'
          have hR' : spell ((setHeadFlags (full a.toks) tok.atBol tok.hasSpace).reverse ++ acc) =
              spell (dropPlacemarkers (((withSpacingOf tok (full a0.toks)).map Elem.tok).reverse ++ d)) :=
            spell_push_toks hR (by rw [spell_setHeadFlags, spell_withSpacingOf, htoks])
          have hnx' : textIs rest.head? "##" = false := by simpa using hnx
          unfold paramArm
          rw [if_neg hnx]
          rcases hcache a (findArg_mem ha) with hex | hex
          · -- first use: a copy is expanded
            simp only [hex, purePP, addHideset_nil]
            exact ih st _ (by omega) (by rw [setExpanded_core]; exact hcore) (cacheOK_setExpanded hcache ha)
              (fun _ => hnx') hR' hS'
          · simp only [hex]
            exact ih st args (by omega) hcore hcache (fun _ => hnx') hR' hS'
      · -- any other token
        simp only [findArg_none_core hcore.symm hf0, otherArm, hbh.1.2, Bool.false_eq_true, if_false]
        exact ih st args (by omega) hcore hcache (by simp [PmTop]) (spell_push_tok hR rfl) hS'



/-- `subst` (function-like macro, pure pre-expander) produces the spellings of `Spec.subst` whenever the specification defines
    them, for every replacement list without the three constructs of `NoExtension` -/
theorem subst_spec_of_region (lx : String → LexOne) (full : List Tok → List Tok) (body : List Tok) (args : List MacroArg)
    (s : List Tok)
    (hext : NoExtension body args) (hfresh : FreshArgs args)
    (hspec : ChibiVerif.Spec.PPSpec.subst lx full true body args = .ok s) :
    ∃ m st', subst lx (purePP full) {} body args false = .ok (m, st') ∧ spell m = spell s := by
  unfold ChibiVerif.Spec.PPSpec.subst substPhases at hspec
  split at hspec
  · simp at hspec
  · rename_i items hparse
    split at hspec
    · simp at hspec
    · simp only [Except.map] at hspec
      split at hspec
      · simp at hspec
      · rename_i elems hsub
        split at hspec
        · simp at hspec
        · rename_i es hpaste
          simp only [Except.ok.injEq] at hspec
          subst hspec
          obtain ⟨out, args', st', hm, hs⟩ := subst_sim lx full false args _ _ (body.length + 1) {} args
            (acc := []) (d := []) (by omega) rfl (fun a ha => Or.inl (hfresh a ha)) (by simp [PmTop])
            (by simp [spell, dropPlacemarkers]) ⟨hext, body.length + 1, elems, by omega, by simp only [specElems, Bool.not_false, hparse, Except.ok_bind]; exact hsub, hpaste⟩
          refine ⟨out, st', ?_, hs⟩
          simp [subst, hm, Except.map]

end ChibiVerif.PP
