/-
Machine effects for C02: what the strings of the *generated* cast table (`Gen/CastTableGen`) leave in the machine of
Model/FpMachine, for every start state and every `F : FpuSpec`.  The floating ↔ floating block is one lemma over both types,
stated with `Holds` (`eff_fp_fp`); the integer cells that go through a scratch slot below %rsp or branch have a lemma under their
own name; then each other block of the table (integer → floating, floating → integer) has one
lemma per floating format whose cases are the cells of the block and whose statement gives the effect through the *shape*
of the row: which signed reading of %rax the conversion instruction makes (`srcRead`), how wide its integer result is and
how it comes into %rax (`truncW`, `reload`).  That the shapes are right for the types is arithmetic, in
Lemmas/FpCastLemmas.lean.

How code is run here.  A cell without a branch whose instructions are all of the floating machine or few is run whole by
evaluation (`⟨_, rfl, …⟩`: the instruction strings are closed terms); what remains are read-after-write facts about the
scratch slots (Lemmas/X86MemLemmas through the set `x86_norm`) and small BitVec identities.  Where a cell branches, or shares a
run of instructions with other cells (`test; js`, the compare with 2^63, FROM_F80_1 … `fldcw`), or has an immediate that is
to be parsed as a closed term, it is taken one instruction at a time with `runFrom_step` / `runFrom_jcc` up to the point of
interest, in a lemma whose continuation is a variable, and the rest is evaluated.  Rewriting with the set `fp_step`
(Lemmas/FpStepLemmas) is for code that is run for many flag states, the `setcc` tails of Lemmas/FpFlagLemmas; no cell needs it.
The shapes (`srcRead`, `Ext`, `truncW`, `reload`) are defined here, on the machine side, because the block lemmas are stated
with them; that they are right for the types is `Ext.ok` / `reload_ok` of Lemmas/FpCastLemmas.
-/
import ChibiVerif.Lemmas.FpStepLemmas
import ChibiVerif.Lemmas.X86MemLemmas
import ChibiVerif.Gen.CastTableGen
import ChibiVerif.Lemmas.FpVocabulary

namespace ChibiVerif.Fp
open ChibiVerif.Asm ChibiVerif.X86 ChibiVerif.Spec.Fpu ChibiVerif.Gen.CastTable ChibiVerif.FpCodegen ChibiVerif.Spec.FpC11
open ChibiVerif.Spec.IntSpec ChibiVerif.Gen.CommonType

-- definitions of Model/X86 and lemmas of Lemmas/X86StateLemmas, X86MemLemmas used as rewrite rules: a change of one of their
-- statements changes the normal form the cell proofs work with
attribute [x86_norm] State.src State.readW State.writeW State.setW State.getW State.ea_def State.get_set_same
  State.get_write16 State.get_write32 State.get_write64 State.get_set_ne ne_eq not_false_eq_true
  W.bits State.get_flags State.read32_flags State.read64_flags State.read32_set State.read64_set
  State.read16_write16 State.read32_write32 State.read64_write64 State.read8_write16
  State.read16_write32 State.read32_write64 and_self and_true true_and
attribute [x86_norm_proc] reduceCtorEq BitVec.reduceOfInt

/-- the signed number that the conversion instruction of the cell for an integer source of type `t` reads: `%eax`
    (`cvtsi2s?l`, `fildl`), `%rax` after `mov %eax, %eax` (unsigned int), or `%rax` -/
def srcRead (t : ITy) (r : BitVec 64) : Int :=
  match t with
  | .i64 | .u64 | .bool => r.toInt
  | .u32 => ((r.setWidth 32).setWidth 64).toInt
  | _ => (r.setWidth 32).toInt

/-- how a floating → integer cell brings the truncated result into %rax: the low `m` bits sign- or zero-extended to 32
    (`movs?l` / `movz?l`), or the result as it is (`mov`, or the conversion wrote the register itself) -/
inductive Ext where
  | sx (m : Nat) | zx (m : Nat) | id
  deriving DecidableEq

def Ext.app {n : Nat} : Ext → BitVec n → BitVec 64
  | .sx m, x => ((x.setWidth m).signExtend 32).setWidth 64
  | .zx m, x => ((x.setWidth m).setWidth 32).setWidth 64
  | .id, x => x.setWidth 64

/-- width of the integer result of the conversion instruction (`cvtt*2si{l,q}`, `fistp{s,l,q}`) in the cell for (floating
    source, integer target) -/
def truncW : ATy → ITy → Nat
  | .f80, .i8 | .f80, .u8 | .f80, .i16 => 16
  | .f80, .u16 | .f80, .i32 => 32
  | .f80, _ => 64
  | _, .i64 | _, .u32 | _, .u64 => 64
  | _, _ => 32

def reload : ATy → ITy → Ext
  | _, .i8 => .sx 8 | _, .u8 => .zx 8
  | _, .i16 => .sx 16 | _, .u16 => .zx 16
  | .f80, .u32 => .zx 32
  | _, _ => .id

/-- floating ↔ floating, the six cells and the three empty ones: the datum of the C11 conversion where values of the target
    type live.  To and from long double through a scratch slot below %rsp. -/
theorem eff_fp_fp (F : FpuSpec) (frm to : ATy) (s : FState) (x : AVal) (hf : frm.isFp = true) (ht : to.isFp = true)
    (hh : Holds frm s x) :
    ∃ s' y, convert F s.cw to x = some y ∧ run F (castSeq frm to) s = some s' ∧ Holds to s' y ∧ s'.cw = s.cw ∧
      stBelow to s' = stBelow frm s ∧ s'.x.get .rsp = s.x.get .rsp := by
  obtain ⟨x0, xmm0, xmm1, st, cw⟩ := s
  cases frm with
  | int _ => cases hf
  | f32 =>
    cases x with
    | int _ | f64 _ | f80 _ => exact hh.elim
    | f32 b =>
      cases hh
      cases to with
      | int _ => cases ht
      -- `stBelow to s' = stBelow frm s` is closed by `simp` in every arm: `rfl` on the evaluated `s'` is accepted by the elaborator
      -- and makes the kernel run into deep recursion
      | f32 => exact ⟨_, _, rfl, rfl, rfl, rfl, by simp [stBelow], rfl⟩
      | f64 => exact ⟨_, _, rfl, rfl, rfl, rfl, by simp [stBelow], rfl⟩
      | f80 => refine ⟨_, _, rfl, rfl, ⟨st, ?_⟩, rfl, by simp [stBelow], ?_⟩ <;> dsimp only <;> simp only [x86_norm]
  | f64 =>
    cases x with
    | int _ | f32 _ | f80 _ => exact hh.elim
    | f64 b =>
      cases hh
      cases to with
      | int _ => cases ht
      | f32 => exact ⟨⟨x0, setLow32 xmm0 (F.cvtsd2ss xmm0), xmm1, st, cw⟩, _, rfl, rfl, setLow32_low _ _, rfl, by simp [stBelow], rfl⟩
      | f64 => exact ⟨_, _, rfl, rfl, rfl, rfl, by simp [stBelow], rfl⟩
      | f80 => refine ⟨_, _, rfl, rfl, ⟨st, ?_⟩, rfl, by simp [stBelow], ?_⟩ <;> dsimp only <;> simp only [x86_norm]
  | f80 =>
    cases x with
    | int _ | f32 _ | f64 _ => exact hh.elim
    | f80 b =>
      obtain ⟨rest, hh⟩ := hh
      cases hh
      cases to with
      | int _ => cases ht
      | f32 =>
        refine ⟨_, _, rfl, rfl, ?_, rfl, by simp [stBelow], ?_⟩ <;> dsimp only [Holds] <;> simp only [x86_norm]
        simp
      | f64 => refine ⟨_, _, rfl, rfl, ?_, rfl, by simp [stBelow], ?_⟩ <;> dsimp only [Holds] <;> simp only [x86_norm]
      | f80 => exact ⟨_, _, rfl, rfl, ⟨rest, rfl⟩, rfl, by simp [stBelow], rfl⟩

theorem eff_i32f80 (F : FpuSpec) (s : FState) : ∃ s', run F i32f80.instrs s = some s' ∧
    s'.st = F.fild32 ((s.x.get .rax).setWidth 32) :: s.st ∧ s'.cw = s.cw ∧ s'.x.get .rsp = s.x.get .rsp := by
  obtain ⟨x, xmm0, xmm1, st, cw⟩ := s
  refine ⟨_, rfl, ?_⟩
  dsimp only
  simp only [x86_norm]

theorem eff_i64f80 (F : FpuSpec) (s : FState) : ∃ s', run F i64f80.instrs s = some s' ∧
    s'.st = F.fild64 (s.x.get .rax) :: s.st ∧ s'.cw = s.cw ∧ s'.x.get .rsp = s.x.get .rsp := by
  obtain ⟨x, xmm0, xmm1, st, cw⟩ := s
  refine ⟨_, rfl, ?_⟩
  dsimp only
  simp only [x86_norm]
  simp

theorem eff_u32f80 (F : FpuSpec) (s : FState) : ∃ s', run F u32f80.instrs s = some s' ∧
    s'.st = F.fild64 (((s.x.get .rax).setWidth 32).setWidth 64) :: s.st ∧ s'.cw = s.cw ∧ s'.x.get .rsp = s.x.get .rsp := by
  obtain ⟨x, xmm0, xmm1, st, cw⟩ := s
  refine ⟨_, rfl, ?_⟩
  dsimp only
  simp only [x86_norm]
  simp

/-! ### long double → integer: FROM_F80_1 <fistp> FROM_F80_2 <load>.
    The control word is saved, its RC field set to 11b (`or $12, %ah`), the store is done, the saved word restored. -/

theorem cwOr (cw : BitVec 16) :
    BitVec.setWidth 16 (BitVec.setWidth 64 (BitVec.setWidth 32 cw) ||| (12#64 &&& 255) <<< 8) = cw ||| 3072#16 := by
  apply BitVec.eq_of_getLsbD_eq
  intro i hi
  simp [hi]

theorem rc_cwOr (cw : BitVec 16) : rc (cw ||| 3072#16) = 3#2 := by
  apply BitVec.eq_of_getLsbD_eq
  intro i hi
  have : i = 0 ∨ i = 1 := by omega
  rcases this with h | h <;> subst h <;> simp [rc]

/-- FROM_F80_1 of codegen.c: the control word is saved at -10(%rsp) and loaded again with RC = 11b (toward zero) -/
def fromF80_1 : List Ins :=
  [⟨"fnstcw", [.m (-10) "%rsp"]⟩, ⟨"movzwl", [.m (-10) "%rsp", .r "%eax"]⟩, ⟨"or", [.i 12, .r "%ah"]⟩,
   ⟨"mov", [.r "%ax", .m (-12) "%rsp"]⟩, ⟨"fldcw", [.m (-12) "%rsp"]⟩]

theorem runFrom_fromF80_1 (F : FpuSpec) (s : FState) :
    ∃ x1 : State, (∀ is, runFrom F (fromF80_1 ++ is) none s = runFrom F is none { s with x := x1, cw := s.cw ||| 3072#16 }) ∧
      (∀ r, r ≠ .rax → x1.get r = s.x.get r) ∧ x1.read16 (s.x.get .rsp + BitVec.ofInt 64 (-10)) = s.cw := by
  obtain ⟨x, xmm0, xmm1, st, cw⟩ := s
  refine ⟨(((x.write16 (x.get .rsp + BitVec.ofInt 64 (-10)) cw).set .rax ((cw.setWidth 32).setWidth 64)).set .rax
      ((cw.setWidth 32).setWidth 64 ||| (12#64 &&& 255) <<< 8)).write16 (x.get .rsp + BitVec.ofInt 64 (-12)) (cw ||| 3072#16),
    fun is => ?_, fun r hr => ?_, ?_⟩
  · simp only [fromF80_1, List.cons_append, List.nil_append]
    rw [runFrom_step F _ _ _ _ rfl rfl rfl, runFrom_step F _ _ _ _ rfl rfl rfl, runFrom_step F _ _ _ _ rfl rfl rfl,
      runFrom_step F _ _ _ _ rfl rfl rfl, runFrom_step F _ _ _ _ rfl rfl rfl]
    dsimp only
    simp only [x86_norm]
    rw [cwOr]
  · simp only [State.get_write16, State.get_set_ne _ _ _ _ hr]
  · simp only [mem_norm]
    exact split16 _

/-- FROM_F80_1, the store `i` of the operand as an integer of width `w` at -24(%rsp) (`fistps`, `fistpl`, `fistpq`: `hi`),
    then the first instruction of FROM_F80_2 (`fldcw -10(%rsp)`): the store is done under RC = 11b, the operand is popped,
    the control word is the saved one again -/
theorem runFrom_f80_store (F : FpuSpec) (i : Ins) (w : W) (T : BitVec 16 → BitVec 80 → BitVec w.bits)
    (hs : straightB i = true)
    (hi : ∀ (s : FState) v rest, s.st = v :: rest →
      step F i s = some { s with st := rest, x := s.x.writeW (s.x.get .rsp + BitVec.ofInt 64 (-24)) w (T s.cw v) })
    (s : FState) (v : BitVec 80) (rest : List (BitVec 80)) (h : s.st = v :: rest) :
    ∃ x1 : State, (∀ is, runFrom F (fromF80_1 ++ i :: ⟨"fldcw", [.m (-10) "%rsp"]⟩ :: is) none s =
        runFrom F is none
          { s with st := rest, x := x1.writeW (s.x.get .rsp + BitVec.ofInt 64 (-24)) w (T (s.cw ||| 3072#16) v) }) ∧
      ∀ r, r ≠ .rax → x1.get r = s.x.get r := by
  obtain ⟨x1, h1, h2, h3⟩ := runFrom_fromF80_1 F s
  refine ⟨x1, fun is => ?_, h2⟩
  have e : ∀ val, (x1.writeW (s.x.get .rsp + BitVec.ofInt 64 (-24)) w val).read16 (s.x.get .rsp + BitVec.ofInt 64 (-10)) =
      s.cw := by
    intro val
    rw [← h3]
    cases w <;> simp only [mem_norm]
  rw [h1, runFrom_cons F i _ _ hs, hi { s with x := x1, cw := s.cw ||| 3072#16 } v rest h, Option.bind_some,
    runFrom_step F _ _ _ _ rfl rfl rfl]
  have hrsp : ∀ a val, (x1.writeW a w val).get .rsp = s.x.get .rsp := fun a val => by
    rw [State.get, State.regs_writeW]; exact h2 .rsp (by decide)
  simp only [State.ea_def, hrsp, h2 .rsp (by decide), e]

/-- %rdx survives the cell of long double → long: `f80u64` keeps its carry in %dl across it -/
theorem eff_f80i64_rdx (F : FpuSpec) (s : FState) (v : BitVec 80) (rest : List (BitVec 80)) (h : s.st = v :: rest) :
    ∃ s', run F f80i64.instrs s = some s' ∧
    s'.x.get .rax = F.fistp64 (s.cw ||| 3072#16) v ∧
    s'.st = rest ∧ s'.cw = s.cw ∧ s'.x.get .rsp = s.x.get .rsp ∧ s'.x.get .rdx = s.x.get .rdx := by
  obtain ⟨x1, h1, h2⟩ := runFrom_f80_store F ⟨"fistpq", [.m (-24) "%rsp"]⟩ .w64 F.fistp64 rfl
    (fun s v rest h => by cases s; cases h; rfl) s v rest h
  -- the reload is evaluated; what is read back at -24(%rsp) is what `fistpq` stored there
  refine ⟨_, (h1 _).trans rfl, ?rax, rfl, rfl, ?rsp, ?rdx⟩ <;> dsimp only <;> simp only [x86_norm]
  case rax => rw [h2 .rsp (by decide), State.read64_write64]
  case rsp => exact h2 _ (by decide)
  case rdx => exact h2 _ (by decide)

theorem runFrom_test_js (F : FpuSpec) (is : List Ins) (s : FState) :
    runFrom F (⟨"test", [.r "%rax", .r "%rax"]⟩ :: ⟨"js", [.s "1f"]⟩ :: is) none s =
      runFrom F is (if (s.x.get .rax).msb then some "1:" else none)
        { s with x := s.x.flags (s.x.get .rax &&& s.x.get .rax) false false } := by
  obtain ⟨x, xmm0, xmm1, st, cw⟩ := s
  rw [runFrom_step F _ _ _ _ rfl rfl rfl, runFrom_jcc F _ _ _ true _ "1f" "1:" rfl rfl (fun _ => rfl) rfl]
  dsimp only
  simp only [State.flags, State.src, State.getW, W.bits, BitVec.setWidth_eq, BitVec.and_self]
  cases (x.get Reg.rax).msb <;> rfl

/-- `and $1, %eax` keeps bit 0 of %rax -/
theorem and_one_low (r : BitVec 64) : (r.setWidth 32 &&& BitVec.ofInt 32 1).setWidth 64 = r &&& 1#64 := by
  apply BitVec.eq_of_getLsbD_eq
  intro i hi
  by_cases h0 : i = 0
  · subst h0; simp
  · simp [h0]

/-- top bit clear: `test %rax,%rax; js 1f` falls through to the plain signed conversion -/
theorem eff_u64f64_nonneg (F : FpuSpec) (s : FState) (h : (s.x.get .rax).msb = false) :
    ∃ s', run F u64f64.instrs s = some s' ∧ s'.xmm0 = F.cvtsi2sd64 (s.x.get .rax) ∧
    s'.st = s.st ∧ s'.cw = s.cw ∧ s'.x.get .rsp = s.x.get .rsp ∧ s'.x.mem = s.x.mem := by
  simp only [run, u64f64, Line.instrs, runFrom_test_js, h]
  exact ⟨_, rfl, rfl, rfl, rfl, rfl, rfl⟩

/-- top bit set: halve with the lost bit or-ed back in (sticky), convert, double -/
theorem eff_u64f64_neg (F : FpuSpec) (s : FState) (h : (s.x.get .rax).msb = true) :
    ∃ s', run F u64f64.instrs s = some s' ∧
    s'.xmm0 = F.addsd (F.cvtsi2sd64 ((s.x.get .rax) >>> 1 ||| ((s.x.get .rax) &&& 1#64)))
                      (F.cvtsi2sd64 ((s.x.get .rax) >>> 1 ||| ((s.x.get .rax) &&& 1#64))) ∧
    s'.st = s.st ∧ s'.cw = s.cw ∧ s'.x.get .rsp = s.x.get .rsp ∧ s'.x.mem = s.x.mem := by
  obtain ⟨x, xmm0, xmm1, st, cw⟩ := s
  simp only at h
  simp only [run, u64f64, Line.instrs, runFrom_test_js, h]
  refine ⟨_, rfl, ?_, rfl, rfl, rfl, rfl⟩
  dsimp only
  simp only [State.flags, State.src, State.getW, State.setW, W.bits, State.get, State.set, reduceCtorEq, if_false,
    if_true, BitVec.setWidth_eq, and_one_low]

/-- `u64f80` stores and `fildq`s first and branches with `jns` after the `test`, so `runFrom_test_js` (`test; js` at the head of
    `u64f32` / `u64f64`) does not apply: the four instructions are taken one by one -/
theorem eff_u64f80_nonneg (F : FpuSpec) (s : FState) (h : (s.x.get .rax).msb = false) :
    ∃ s', run F u64f80.instrs s = some s' ∧ s'.st = F.fild64 (s.x.get .rax) :: s.st ∧
    s'.cw = s.cw ∧ s'.x.get .rsp = s.x.get .rsp := by
  obtain ⟨x, xmm0, xmm1, st, cw⟩ := s
  simp only at h
  have hsf : ((x.get Reg.rax) &&& (x.get Reg.rax)).msb = false := by simpa using h
  refine ⟨?w, ?hrun, ?rest⟩
  case hrun =>
    simp only [run, u64f80, Line.instrs]
    rw [runFrom_step F _ _ _ _ rfl rfl rfl]
    rw [runFrom_step F _ _ _ _ rfl rfl rfl]
    rw [runFrom_step F _ _ _ _ rfl rfl rfl]
    rw [runFrom_jcc F _ _ _ true _ "1f" "1:" rfl rfl (fun _ => rfl) rfl]
    dsimp only
    simp only [x86_norm]
    simp only [State.flags, BitVec.setWidth_eq, hsf, Bool.not_false, if_true]
    rfl
  case rest =>
    refine ⟨?_, rfl, ?_⟩
    · dsimp only
    · dsimp only
      simp only [State.get, State.regs_write64]

/-- top bit set: `fildq` read the pattern as a negative number; 2^64 (the float 0x5F800000) is added -/
theorem eff_u64f80_neg (F : FpuSpec) (s : FState) (h : (s.x.get .rax).msb = true) :
    ∃ s', run F u64f80.instrs s = some s' ∧
    s'.st = F.fadd s.cw (F.fild64 (s.x.get .rax)) (F.fld32 1602224128#32) :: s.st ∧
    s'.cw = s.cw ∧ s'.x.get .rsp = s.x.get .rsp := by
  obtain ⟨x, xmm0, xmm1, st, cw⟩ := s
  simp only at h
  have hsf : ((x.get Reg.rax) &&& (x.get Reg.rax)).msb = true := by simpa using h
  refine ⟨?w, ?hrun, ?rest⟩
  case hrun =>
    simp only [run, u64f80, Line.instrs]
    rw [runFrom_step F _ _ _ _ rfl rfl rfl]
    rw [runFrom_step F _ _ _ _ rfl rfl rfl]
    rw [runFrom_step F _ _ _ _ rfl rfl rfl]
    rw [runFrom_jcc F _ _ _ true _ "1f" "1:" rfl rfl (fun _ => rfl) rfl]
    dsimp only
    simp only [x86_norm]
    simp only [State.flags, BitVec.setWidth_eq, hsf, Bool.not_true, Bool.false_eq_true,
      if_false]
    rfl
  case rest =>
    refine ⟨?_, rfl, ?_⟩
    · dsimp only; simp only [x86_norm]; simp
    · dsimp only; simp only [x86_norm]
      simp only [State.get, State.regs_write64]

/-- `mov $0x…, %reg`: the alternative of `step`, immediate and register name left variable, so that the two constants
    below are parsed and the register looked up as closed terms -/
theorem step_mov_hex (F : FpuSpec) (imm g : String) (s : FState) :
    step F ⟨"mov", [.s imm, .r g]⟩ s =
      (match hexImm? imm, regOf g with
      | some v, some (r, .w64) => if v < 2 ^ 64 then some { s with x := s.x.set r (BitVec.ofNat 64 v) } else none
      | some v, some (r, .w32) => if v < 2 ^ 32 then some { s with x := s.x.setW r .w32 (BitVec.ofNat 32 v) } else none
      | _, _ => none) := by rfl

theorem step_mov_c32 (F : FpuSpec) (s : FState) :
    step F ⟨"mov", [.s "$0x5f000000", .r "%eax"]⟩ s = some { s with x := s.x.setW .rax .w32 0x5f000000#32 } := by
  rw [step_mov_hex, show hexImm? "$0x5f000000" = some 0x5f000000 by decide +kernel,
    show regOf "%eax" = some (.rax, .w32) by decide +kernel]
  rfl

theorem step_mov_c64 (F : FpuSpec) (s : FState) :
    step F ⟨"mov", [.s "$0x43e0000000000000", .r "%rax"]⟩ s = some { s with x := s.x.set .rax 0x43e0000000000000#64 } := by
  rw [step_mov_hex, show hexImm? "$0x43e0000000000000" = some 0x43e0000000000000 by decide +kernel,
    show regOf "%rax" = some (.rax, .w64) by decide +kernel]
  rfl

/-- unsigned long → float, top bit clear: the plain signed conversion -/
theorem eff_u64f32_nonneg (F : FpuSpec) (s : FState) (h : (s.x.get .rax).msb = false) :
    ∃ s', run F u64f32.instrs s = some s' ∧ s'.xmm0.setWidth 32 = F.cvtsi2ss64 (s.x.get .rax) ∧
    s'.st = s.st ∧ s'.cw = s.cw ∧ s'.x.get .rsp = s.x.get .rsp ∧ s'.x.mem = s.x.mem := by
  simp only [run, u64f32, Line.instrs, runFrom_test_js, h]
  exact ⟨_, rfl, setLow32_low _ _, rfl, rfl, rfl, rfl⟩

/-- unsigned long → float, top bit set: halve with the lost bit or-ed back in (sticky), convert, double -/
theorem eff_u64f32_neg (F : FpuSpec) (s : FState) (h : (s.x.get .rax).msb = true) :
    ∃ s', run F u64f32.instrs s = some s' ∧
    s'.xmm0.setWidth 32 = F.addss (F.cvtsi2ss64 ((s.x.get .rax) >>> 1 ||| ((s.x.get .rax) &&& 1#64)))
                                  (F.cvtsi2ss64 ((s.x.get .rax) >>> 1 ||| ((s.x.get .rax) &&& 1#64))) ∧
    s'.st = s.st ∧ s'.cw = s.cw ∧ s'.x.get .rsp = s.x.get .rsp ∧ s'.x.mem = s.x.mem := by
  obtain ⟨x, xmm0, xmm1, st, cw⟩ := s
  simp only at h
  simp only [run, u64f32, Line.instrs, runFrom_test_js, h]
  refine ⟨_, rfl, ?_, rfl, rfl, rfl, rfl⟩
  dsimp only
  rw [setLow32_low, setLow32_low]
  simp only [State.flags, State.src, State.getW, State.setW, W.bits, State.get, State.set, reduceCtorEq, if_false,
    if_true, BitVec.setWidth_eq, and_one_low]

/-- `mov $0x5f000000, %eax; movd %eax, %xmm1; comiss %xmm1, %xmm0; jae 1f`: 2^63 as a float goes to %xmm1, and the jump is
    taken exactly when the compare clears CF (operand ≥ 2^63, ordered) -/
theorem runFrom_two63_f32 (F : FpuSpec) (is : List Ins) (s : FState) :
    runFrom F (⟨"mov", [.s "$0x5f000000", .r "%eax"]⟩ :: ⟨"movd", [.r "%eax", .r "%xmm1"]⟩ ::
        ⟨"comiss", [.r "%xmm1", .r "%xmm0"]⟩ :: ⟨"jae", [.s "1f"]⟩ :: is) none s =
      runFrom F is (if (F.comiss (s.xmm0.setWidth 32) 0x5f000000#32).flags.2.2 then none else some "1:")
        ({ s with x := s.x.setW .rax .w32 0x5f000000#32, xmm1 := (0x5f000000#32).setWidth 64 }.setRel
          (F.comiss (s.xmm0.setWidth 32) 0x5f000000#32)) := by
  obtain ⟨x, xmm0, xmm1, st, cw⟩ := s
  rw [runFrom_step F _ _ _ _ rfl rfl (step_mov_c32 F _), runFrom_step F _ _ _ _ rfl rfl rfl,
    runFrom_step F _ _ _ _ rfl rfl rfl, runFrom_jcc F _ _ _ true _ "1f" "1:" rfl rfl (fun _ => rfl) rfl]
  dsimp only
  have e : (x.setW Reg.rax W.w32 0x5f000000#32).getW Reg.rax W.w32 = 0x5f000000#32 := State.getW_setW_same ..
  have e2 : BitVec.setWidth 32 (BitVec.setWidth 64 1593835520#32) = 1593835520#32 := by decide
  simp only [FState.setRel, e, e2]
  cases (F.comiss (xmm0.setWidth 32) 0x5f000000#32).flags.2.2 <;> rfl

/-- float → unsigned long: below 2^63 (`comiss` sets CF; also when unordered) the plain signed truncation; otherwise 2^63 is
    subtracted, the difference truncated and bit 63 complemented -/
theorem eff_f32u64 (F : FpuSpec) (s : FState) :
    ∃ s', run F f32u64.instrs s = some s' ∧
    s'.x.get .rax = (if (F.comiss (s.xmm0.setWidth 32) 0x5f000000#32).flags.2.2 then F.cvttss2si64 (s.xmm0.setWidth 32)
                     else F.cvttss2si64 (F.subss (s.xmm0.setWidth 32) 0x5f000000#32) ^^^ (1#64 <<< 63)) ∧
    s'.st = s.st ∧ s'.cw = s.cw ∧ s'.x.get .rsp = s.x.get .rsp := by
  simp only [run, f32u64, Line.instrs, runFrom_two63_f32]
  cases (F.comiss (s.xmm0.setWidth 32) 0x5f000000#32).flags.2.2
  · refine ⟨_, rfl, ?_, rfl, rfl, rfl⟩
    dsimp only
    rw [setLow32_low]
    simp [State.get, State.set, State.setW, FState.setRel]
  · exact ⟨_, rfl, rfl, rfl, rfl, rfl⟩

theorem runFrom_two63_f64 (F : FpuSpec) (is : List Ins) (s : FState) :
    runFrom F (⟨"mov", [.s "$0x43e0000000000000", .r "%rax"]⟩ :: ⟨"movq", [.r "%rax", .r "%xmm1"]⟩ ::
        ⟨"comisd", [.r "%xmm1", .r "%xmm0"]⟩ :: ⟨"jae", [.s "1f"]⟩ :: is) none s =
      runFrom F is (if (F.comisd s.xmm0 0x43e0000000000000#64).flags.2.2 then none else some "1:")
        ({ s with x := s.x.set .rax 0x43e0000000000000#64, xmm1 := 0x43e0000000000000#64 }.setRel
          (F.comisd s.xmm0 0x43e0000000000000#64)) := by
  obtain ⟨x, xmm0, xmm1, st, cw⟩ := s
  rw [runFrom_step F _ _ _ _ rfl rfl (step_mov_c64 F _), runFrom_step F _ _ _ _ rfl rfl rfl,
    runFrom_step F _ _ _ _ rfl rfl rfl, runFrom_jcc F _ _ _ true _ "1f" "1:" rfl rfl (fun _ => rfl) rfl]
  dsimp only
  simp only [FState.setRel, State.get_set_same]
  cases (F.comisd xmm0 0x43e0000000000000#64).flags.2.2 <;> rfl

/-- double → unsigned long: the same with `comisd`, `subsd`, `cvttsd2siq` -/
theorem eff_f64u64 (F : FpuSpec) (s : FState) :
    ∃ s', run F f64u64.instrs s = some s' ∧
    s'.x.get .rax = (if (F.comisd s.xmm0 0x43e0000000000000#64).flags.2.2 then F.cvttsd2si64 s.xmm0
                     else F.cvttsd2si64 (F.subsd s.xmm0 0x43e0000000000000#64) ^^^ (1#64 <<< 63)) ∧
    s'.st = s.st ∧ s'.cw = s.cw ∧ s'.x.get .rsp = s.x.get .rsp := by
  simp only [run, f64u64, Line.instrs, runFrom_two63_f64]
  cases (F.comisd s.xmm0 0x43e0000000000000#64).flags.2.2
  · refine ⟨_, rfl, ?_, rfl, rfl, rfl⟩
    dsimp only
    simp [State.get, State.set, FState.setRel]
  · exact ⟨_, rfl, rfl, rfl, rfl, rfl⟩

def f80u64Pre : List Ins :=
  [⟨"mov", [.s "$0x5f000000", .r "%eax"]⟩, ⟨"mov", [.r "%eax", .m (-4) "%rsp"]⟩, ⟨"flds", [.m (-4) "%rsp"]⟩,
   ⟨"fxch", [.r "%st(1)"]⟩, ⟨"fcomi", [.r "%st(1)", .r "%st"]⟩, ⟨"setae", [.r "%dl"]⟩]

def f80u64Mid : List Ins :=
  [⟨"jae", [.s "1f"]⟩, ⟨"fstp", [.r "%st(1)"]⟩, ⟨"jmp", [.s "2f"]⟩, ⟨"1:", []⟩, ⟨"fsub", [.r "%st(1)", .r "%st"]⟩,
   ⟨"fstp", [.r "%st(1)"]⟩, ⟨"2:", []⟩]

def f80u64Post : List Ins :=
  [⟨"movzbl", [.r "%dl", .r "%edx"]⟩, ⟨"shl", [.i 63, .r "%rdx"]⟩, ⟨"xor", [.r "%rdx", .r "%rax"]⟩]

/-- the generated cell is: prefix, branch, the cell of long double → long, and the three instructions that set bit 63 -/
theorem f80u64_split : f80u64.instrs = f80u64Pre ++ (f80u64Mid ++ (f80i64.instrs ++ f80u64Post)) := by decide

/-- prefix: 2^63 is loaded below the operand, the two are compared, %dl := (operand ≥ 2^63) -/
theorem eff_f80u64_pre (F : FpuSpec) (s : FState) (v : BitVec 80) (rest : List (BitVec 80)) (h : s.st = v :: rest) :
    ∃ s', runFrom F f80u64Pre none s = some s' ∧
      s'.st = v :: F.fld32 0x5f000000#32 :: rest ∧ s'.cw = s.cw ∧ s'.x.get .rsp = s.x.get .rsp ∧
      s'.x.flagsValid = true ∧ s'.x.cf = (F.fcomi v (F.fld32 0x5f000000#32)).flags.2.2 ∧
      (s'.x.get .rdx).setWidth 8 = (if (F.fcomi v (F.fld32 0x5f000000#32)).flags.2.2 then 0#8 else 1#8) := by
  obtain ⟨x, xmm0, xmm1, st, cw⟩ := s
  simp only at h; subst h
  refine ⟨?w, ?hrun, ?rest⟩
  case hrun =>
    simp only [f80u64Pre]
    rw [runFrom_step F _ _ _ _ rfl rfl (step_mov_c32 F _)]
    rfl
  case rest =>
    dsimp only
    simp only [x86_norm]
    have e2 : BitVec.setWidth 32 (BitVec.setWidth 64 1593835520#32) = 1593835520#32 := by decide
    simp only [State.get, State.regs_write32, FState.setRel, State.cond, e2]
    generalize (F.fcomi v (F.fld32 1593835520#32)).flags.2.2 = c
    refine ⟨trivial, trivial, ?_, rfl, rfl, ?_⟩
    · simp [State.set]
    · cases c <;> simp [State.set] <;>
        (apply BitVec.eq_of_toNat_eq; simp only [BitVec.toNat_ofNat]; omega)

/-- branch: below 2^63 (CF = 1) the constant is dropped; otherwise it is subtracted first -/
theorem eff_f80u64_mid (F : FpuSpec) (tl : List Ins) (s : FState) (v c : BitVec 80) (rest : List (BitVec 80))
    (h : s.st = v :: c :: rest) (hv : s.x.flagsValid = true) :
    runFrom F (f80u64Mid ++ tl) none s =
      runFrom F tl none { s with st := (if s.x.cf then v else F.fsub s.cw v c) :: rest } := by
  obtain ⟨x, xmm0, xmm1, st, cw⟩ := s
  simp only at h hv; subst h
  simp only [f80u64Mid, List.cons_append, List.nil_append]
  rw [runFrom_jcc F _ _ _ true (!x.cf) "1f" "1:" rfl rfl (fun _ => hv) rfl]
  cases hcf : x.cf
  · simp only [Bool.not_false, if_true, Bool.false_eq_true, if_false]
    rfl
  · simp only [Bool.not_true, Bool.false_eq_true, if_false, if_true]
    rfl

/-- the last three instructions: bit 63 of %rax is complemented when %dl = 1 -/
theorem eff_f80u64_post (F : FpuSpec) (s : FState) :
    ∃ s', runFrom F f80u64Post none s = some s' ∧
    s'.x.get .rax = s.x.get .rax ^^^ ((((s.x.get .rdx).setWidth 8).setWidth 32).setWidth 64 <<< 63) ∧
    s'.st = s.st ∧ s'.cw = s.cw ∧ s'.x.get .rsp = s.x.get .rsp := by
  obtain ⟨x, xmm0, xmm1, st, cw⟩ := s
  refine ⟨_, rfl, ?_, rfl, rfl, ?_⟩
  · dsimp only
    simp [State.flags, State.src, State.getW, State.setW, State.get, State.set]
  · dsimp only
    simp [State.flags, State.src, State.getW, State.setW, State.get, State.set]

/-- **long double → unsigned long**, the whole cell: with c = the extended 2^63 that `flds` pushed, below c (`fcomi` sets
    CF; also when unordered) the operand is stored by `fistpq` under RC = 11b; otherwise c is subtracted first and bit 63 of
    the stored integer is complemented.  The control word is restored, the operand and the constant are popped. -/
theorem eff_f80u64 (F : FpuSpec) (s : FState) (v : BitVec 80) (rest : List (BitVec 80)) (h : s.st = v :: rest) :
    ∃ s', run F f80u64.instrs s = some s' ∧
    s'.x.get .rax = (if (F.fcomi v (F.fld32 0x5f000000#32)).flags.2.2 then F.fistp64 (s.cw ||| 3072#16) v
                     else F.fistp64 (s.cw ||| 3072#16) (F.fsub s.cw v (F.fld32 0x5f000000#32)) ^^^ (1#64 <<< 63)) ∧
    s'.st = rest ∧ s'.cw = s.cw ∧ s'.x.get .rsp = s.x.get .rsp := by
  obtain ⟨s1, hrun1, hst1, hcw1, hrsp1, hfv1, hcf1, hdl1⟩ := eff_f80u64_pre F s v rest h
  have hmid := eff_f80u64_mid F (f80i64.instrs ++ f80u64Post) s1 v (F.fld32 0x5f000000#32) rest hst1 hfv1
  obtain ⟨s2, hrun2, hrax2, hst2, hcw2, hrsp2, hrdx2⟩ :=
    eff_f80i64_rdx F { s1 with st := (if s1.x.cf then v else F.fsub s1.cw v (F.fld32 0x5f000000#32)) :: rest } _ rest rfl
  obtain ⟨s3, hrun3, hrax3, hst3, hcw3, hrsp3⟩ := eff_f80u64_post F s2
  refine ⟨s3, ?_, ?_, by rw [hst3, hst2], by rw [hcw3, hcw2, hcw1], by rw [hrsp3, hrsp2, hrsp1]⟩
  · simp only [run] at hrun2 ⊢
    rw [f80u64_split, runFrom_append_done F _ _ none s s1 hrun1, hmid, runFrom_append_done F _ _ none _ s2 hrun2]
    exact hrun3
  · rw [hrax3, hrax2, hrdx2]
    simp only at hcw1 ⊢
    rw [hcf1, hcw1, hdl1]
    cases (F.fcomi v (F.fld32 0x5f000000#32)).flags.2.2
    · simp
    · simp

/-- integer → float, the cells on the path without the halving (every type; `unsigned long` and `_Bool`, which share the
    branching cell, with the top bit clear): the datum of the signed reading.  Registers only. -/
theorem eff_int_f32 (F : FpuSpec) (t : ITy) (s : FState) (hm : t = .u64 ∨ t = .bool → (s.x.get .rax).msb = false) :
    ∃ s', run F (castSeq (.int t) .f32) s = some s' ∧ s'.xmm0.setWidth 32 = F.ofInt32 (srcRead t (s.x.get .rax)) ∧
      s'.st = s.st ∧ s'.cw = s.cw ∧ s'.x.get .rsp = s.x.get .rsp ∧ s'.x.mem = s.x.mem := by
  cases t with
  | u64 =>
    obtain ⟨s', hrun, hx, hrest⟩ := eff_u64f32_nonneg F s (hm (.inl rfl))
    exact ⟨s', hrun, hx.trans (F.cvtsi2ss64_spec _), hrest⟩
  | bool =>
    obtain ⟨s', hrun, hx, hrest⟩ := eff_u64f32_nonneg F s (hm (.inr rfl))
    exact ⟨s', hrun, hx.trans (F.cvtsi2ss64_spec _), hrest⟩
  | i64 | u32 => exact ⟨_, rfl, (setLow32_low _ _).trans (F.cvtsi2ss64_spec _), rfl, rfl, rfl, rfl⟩
  | _ => exact ⟨_, rfl, (setLow32_low _ _).trans (F.cvtsi2ss32_spec _), rfl, rfl, rfl, rfl⟩

theorem eff_int_f64 (F : FpuSpec) (t : ITy) (s : FState) (hm : t = .u64 ∨ t = .bool → (s.x.get .rax).msb = false) :
    ∃ s', run F (castSeq (.int t) .f64) s = some s' ∧ s'.xmm0 = F.ofInt64 (srcRead t (s.x.get .rax)) ∧
      s'.st = s.st ∧ s'.cw = s.cw ∧ s'.x.get .rsp = s.x.get .rsp ∧ s'.x.mem = s.x.mem := by
  cases t with
  | u64 =>
    obtain ⟨s', hrun, hx, hrest⟩ := eff_u64f64_nonneg F s (hm (.inl rfl))
    exact ⟨s', hrun, hx.trans (F.cvtsi2sd64_spec _), hrest⟩
  | bool =>
    obtain ⟨s', hrun, hx, hrest⟩ := eff_u64f64_nonneg F s (hm (.inr rfl))
    exact ⟨s', hrun, hx.trans (F.cvtsi2sd64_spec _), hrest⟩
  | i64 | u32 => exact ⟨_, rfl, F.cvtsi2sd64_spec _, rfl, rfl, rfl, rfl⟩
  | _ => exact ⟨_, rfl, F.cvtsi2sd32_spec _, rfl, rfl, rfl, rfl⟩

/-- integer → long double: through a scratch slot of the width that `fild` reads -/
theorem eff_int_f80 (F : FpuSpec) (t : ITy) (s : FState) (hm : t = .u64 ∨ t = .bool → (s.x.get .rax).msb = false) :
    ∃ s', run F (castSeq (.int t) .f80) s = some s' ∧ s'.st = F.ofInt80 (srcRead t (s.x.get .rax)) :: s.st ∧
      s'.cw = s.cw ∧ s'.x.get .rsp = s.x.get .rsp := by
  cases t with
  | u64 =>
    obtain ⟨s', hrun, hst, hrest⟩ := eff_u64f80_nonneg F s (hm (.inl rfl))
    exact ⟨s', hrun, hst.trans (congrArg (· :: s.st) (F.fild64_spec _)), hrest⟩
  | bool =>
    obtain ⟨s', hrun, hst, hrest⟩ := eff_u64f80_nonneg F s (hm (.inr rfl))
    exact ⟨s', hrun, hst.trans (congrArg (· :: s.st) (F.fild64_spec _)), hrest⟩
  | i64 =>
    obtain ⟨s', hrun, hst, hrest⟩ := eff_i64f80 F s
    exact ⟨s', hrun, hst.trans (congrArg (· :: s.st) (F.fild64_spec _)), hrest⟩
  | u32 =>
    obtain ⟨s', hrun, hst, hrest⟩ := eff_u32f80 F s
    exact ⟨s', hrun, hst.trans (congrArg (· :: s.st) (F.fild64_spec _)), hrest⟩
  | _ =>
    obtain ⟨s', hrun, hst, hrest⟩ := eff_i32f80 F s
    exact ⟨s', hrun, hst.trans (congrArg (· :: s.st) (F.fild32_spec _)), hrest⟩

/-- machine effect of the float → integer cells (all but `_Bool` and `unsigned long`): truncation, then the reload of the row -/
theorem eff_f32_int (F : FpuSpec) (t : ITy) (ht : t ≠ .bool ∧ t ≠ .u64) (s : FState) :
    ∃ s', run F (castSeq .f32 (.int t)) s = some s' ∧
      s'.x.get .rax = (reload .f32 t).app (truncTo (truncW .f32 t) (F.val32 (s.xmm0.setWidth 32))) ∧
      s'.st = s.st ∧ s'.cw = s.cw ∧ s'.x.get .rsp = s.x.get .rsp := by
  cases t with
  | bool => exact absurd rfl ht.1
  | u64 => exact absurd rfl ht.2
  | _ =>
    refine ⟨_, rfl, ?_, rfl, rfl, rfl⟩
    simp only [reload, truncW, Ext.app, ← F.cvttss2si32_spec, ← F.cvttss2si64_spec]
    rfl

theorem eff_f64_int (F : FpuSpec) (t : ITy) (ht : t ≠ .bool ∧ t ≠ .u64) (s : FState) :
    ∃ s', run F (castSeq .f64 (.int t)) s = some s' ∧
      s'.x.get .rax = (reload .f64 t).app (truncTo (truncW .f64 t) (F.val64 s.xmm0)) ∧
      s'.st = s.st ∧ s'.cw = s.cw ∧ s'.x.get .rsp = s.x.get .rsp := by
  cases t with
  | bool => exact absurd rfl ht.1
  | u64 => exact absurd rfl ht.2
  | _ =>
    refine ⟨_, rfl, ?_, rfl, rfl, rfl⟩
    simp only [reload, truncW, Ext.app, ← F.cvttsd2si32_spec, ← F.cvttsd2si64_spec]
    rfl

/-- long double → integer: `fistp` of the row's width under RC = 11b, then the reload of the row from the slot -/
theorem eff_f80_int (F : FpuSpec) (t : ITy) (ht : t ≠ .bool ∧ t ≠ .u64) (s : FState) (v : BitVec 80)
    (rest : List (BitVec 80)) (h : s.st = v :: rest) :
    ∃ s', run F (castSeq .f80 (.int t)) s = some s' ∧
      s'.x.get .rax = (reload .f80 t).app (truncTo (truncW .f80 t) (F.val80 v)) ∧
      s'.st = rest ∧ s'.cw = s.cw ∧ s'.x.get .rsp = s.x.get .rsp := by
  cases t with
  | bool => exact absurd rfl ht.1
  | u64 => exact absurd rfl ht.2
  | i8 | u8 | i16 =>
    obtain ⟨x1, h1, h2⟩ := runFrom_f80_store F ⟨"fistps", [.m (-24) "%rsp"]⟩ .w16 F.fistp16 rfl
      (fun s v rest h => by cases s; cases h; rfl) s v rest h
    refine ⟨_, (h1 _).trans rfl, ?rax, rfl, rfl, ?rsp⟩ <;> dsimp only <;> simp only [x86_norm]
    case rax =>
      simp only [h2 .rsp (by decide), State.read8_write16, State.read16_write16, F.fistp16_rz _ _ (rc_cwOr _), reload, truncW,
          Ext.app, BitVec.setWidth_eq]
    case rsp => exact h2 _ (by decide)
  | u16 | i32 =>
    obtain ⟨x1, h1, h2⟩ := runFrom_f80_store F ⟨"fistpl", [.m (-24) "%rsp"]⟩ .w32 F.fistp32 rfl
      (fun s v rest h => by cases s; cases h; rfl) s v rest h
    refine ⟨_, (h1 _).trans rfl, ?rax, rfl, rfl, ?rsp⟩ <;> dsimp only <;> simp only [x86_norm]
    case rax =>
      simp only [h2 .rsp (by decide), State.read16_write32, State.read32_write32, F.fistp32_rz _ _ (rc_cwOr _), reload, truncW,
          Ext.app]
    case rsp => exact h2 _ (by decide)
  | i64 =>
    obtain ⟨s', hrun, hrax, hst, hcw, hrsp, _⟩ := eff_f80i64_rdx F s v rest h
    exact ⟨s', hrun, by rw [hrax, F.fistp64_rz _ _ (rc_cwOr _)]; simp only [reload, truncW, Ext.app, BitVec.setWidth_eq],
      hst, hcw, hrsp⟩
  | u32 =>
    obtain ⟨x1, h1, h2⟩ := runFrom_f80_store F ⟨"fistpq", [.m (-24) "%rsp"]⟩ .w64 F.fistp64 rfl
      (fun s v rest h => by cases s; cases h; rfl) s v rest h
    refine ⟨_, (h1 _).trans rfl, ?rax, rfl, rfl, ?rsp⟩ <;> dsimp only <;> simp only [x86_norm]
    case rax =>
      simp only [h2 .rsp (by decide), State.read32_write64, F.fistp64_rz _ _ (rc_cwOr _), reload, truncW, Ext.app,
          BitVec.setWidth_eq]
    case rsp => exact h2 _ (by decide)

end ChibiVerif.Fp
