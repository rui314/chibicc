/- C12: the two evaluations over the regenerated lists that the statements of Props/C12.lean are read off: `classify` is
   evaluated once per imported symbol and `reviewed` once per audited site, and each statement about the whole list is a
   projection of one of the two. -/
import ChibiVerif.Gen.EnvReadsGen
import ChibiVerif.Model.EnvDep
import ChibiVerif.Gen.C12AuditGen
import ChibiVerif.Model.C12Audit

namespace ChibiVerif.C12Lemmas
open ChibiVerif.EnvDep ChibiVerif.Gen.EnvReads

/-- what `C12_imports_classified`, `C12_no_ambient_import` and `C12_env_imports_have_sites` ask of one imported symbol -/
def importOk (f : String) : Bool :=
  match classify f with
  | none | some .ambient => false
  | some .clock | some .fsmeta | some .tmpname => watchedCallSites.any (·.1 == f)
  | some _ => true

theorem importOk_spec {f : String} (h : importOk f = true) :
    (classify f).isSome = true ∧ classify f ≠ some .ambient ∧
      ((classify f = some .clock ∨ classify f = some .fsmeta ∨ classify f = some .tmpname) →
        ∃ s ∈ watchedCallSites, s.1 = f) := by
  unfold importOk at h
  generalize classify f = c at h ⊢
  refine ⟨?_, ?_, fun hc => ?_⟩
  · cases c <;> trivial
  · rintro rfl; cases h
  · have ⟨s, hs, e⟩ : ∃ s ∈ watchedCallSites, (s.1 == f) = true := by
      rcases hc with rfl | rfl | rfl <;> exact List.any_eq_true.1 h
    exact ⟨s, hs, eq_of_beq e⟩

theorem imports_ok : ∀ f ∈ libcImports, importOk f = true := by decide +kernel

open ChibiVerif.C12Audit ChibiVerif.Gen.C12Audit

/-- Each site is settled in exactly one way: by its effect sets (an internal-error exit disregarded) or by an entry of
    the reviewed table (`C12_no_unsequenced_effects` and `C12_reviewed_only_where_needed` are read off). -/
theorem sites_settled : ∀ s ∈ sites,
    ((storeFree s && pairsFree (conflict (mask ioLocs) false) s.ops) != (reviewed s.file s.fn s.text).isSome) = true := by
  decide +kernel

end ChibiVerif.C12Lemmas
