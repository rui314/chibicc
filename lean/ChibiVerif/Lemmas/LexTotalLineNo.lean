/-
Model/LexTotal.lean (C13) and Model/LineNo.lean (C18) each transcribe `read_file`'s final newline, the BOM skip,
`canonicalize_newline`, `remove_backslash_newline` and the newline count over `List Nat`.  The transcriptions are the same
functions, so what Lemmas/LineNoLemmas.lean proves about one holds of the other.
-/
import ChibiVerif.Model.LexTotal
import ChibiVerif.Lemmas.LineNoLemmas

namespace ChibiVerif.LexTotal
open ChibiVerif

theorem readFile_eq_lineNo : readFile = LineNo.ensureFinalNewline := by
  funext b
  unfold readFile LineNo.ensureFinalNewline
  cases h : b.getLast? with
  | none => simp_all [List.getLast?_eq_none_iff]
  | some x => by_cases hx : x = 10 <;> simp [hx]

theorem skipBOM_eq_lineNo : skipBOM = LineNo.skipBOM := by
  funext l
  unfold skipBOM LineNo.skipBOM LineNo.bomLen LineNo.hasBOM
  split
  · rename_i a b c rest
    by_cases h : a = 0xEF ∧ b = 0xBB ∧ c = 0xBF
    · simp [h]
    · have : ¬ ((a = 239 ∧ b = 187) ∧ c = 191) := fun e => h ⟨e.1.1, e.1.2, e.2⟩
      simp [h, this]
  · rename_i hne
    split
    · rename_i a b c rest; exact absurd rfl (hne a b c rest)
    · simp

theorem canonNL_eq_lineNo : canonNL = LineNo.canonicalizeNewline := by
  funext l
  fun_induction canonNL l <;> simp_all [LineNo.canonicalizeNewline]

theorem rmBsNlAux_eq_lineNo : rmBsNlAux = LineNo.removeBackslashNewlineAux := by
  funext l n
  fun_induction rmBsNlAux l n <;> simp_all [LineNo.removeBackslashNewlineAux, LineNo.BSL, LineNo.LF]

theorem rmBsNl_eq_lineNo : rmBsNl = LineNo.removeBackslashNewline := by
  funext l
  rw [rmBsNl, rmBsNlAux_eq_lineNo]; rfl

theorem countLF_eq_lineNo : countLF = LineNo.countLF := by
  funext l
  induction l with
  | nil => rfl
  | cons a r ih => simp [countLF, LineNo.countLF, ih]

end ChibiVerif.LexTotal
