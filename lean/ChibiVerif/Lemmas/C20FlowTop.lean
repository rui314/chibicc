/-
C20: from the label-height judgment (`SemP FlowP`, `SemF`) to the statements of Props/C20.lean:
`Effect.Balanced` / `Effect.BalancedOrLeaves` (the relative scan `scanRel`) and `FnBalanced`
(`verifyL`: `Effect.verify` without the range check), for code whose labels are pairwise distinct.
-/
import ChibiVerif.Lemmas.C20FlowArms
import ChibiVerif.Lemmas.C20Fresh
import ChibiVerif.Lemmas.C20Complete

namespace ChibiVerif.Lemmas.C20
open ChibiVerif ChibiVerif.Codegen ChibiVerif.Effect ChibiVerif.Asm ChibiVerif.Ast ChibiVerif.C20Scope

theorem lookup_of_mem_nodup : ∀ (hf : Labelling), (hf.map Prod.fst).Nodup → ∀ l v, (l, v) ∈ hf → hf.lookup l = some v
  | [], _, _, _, hm => by cases hm
  | (k, w) :: rest, hn, l, v, hm => by
    simp only [List.map_cons, List.nodup_cons] at hn
    simp only [List.mem_cons, Prod.mk.injEq] at hm
    rcases hm with ⟨rfl, rfl⟩ | hm
    · simp [List.lookup]
    · have hne : l ≠ k := by
        intro e
        subst e
        exact hn.1 (List.mem_map.mpr ⟨(l, v), hm, rfl⟩)
      have : (l == k) = false := by simpa using hne
      simp only [List.lookup, this]
      exact lookup_of_mem_nodup rest hn.2 l v hm

theorem Ext_self {hf : Labelling} (hn : (hf.map Prod.fst).Nodup) : Ext hf hf :=
  fun l v hm => lookup_of_mem_nodup hf hn l v hm

/-- closed generated code whose parser labels are pairwise distinct is balanced in the sense of `scanRel` -/
theorem balancedOrLeaves_of_FlowP {lo hi : Nat} {ls : List Line} {r x : Int} (h : FlowP lo hi ls r x)
    (hu : userDistinct ls = true) : BalancedOrLeaves ls ⟨r, x⟩ := by
  have hn : (labelNames (steps ls)).Nodup := (labelNames_of_LabsR h.2 hu).1
  obtain ⟨hf, hk, _, hc⟩ := h.1 H.zero []
  have hk' : hf.map Prod.fst = labelNames (steps ls) := hk
  obtain ⟨e, he, hd⟩ := hc hf (Ext_self (hk' ▸ hn)) (fun l r hm => (List.not_mem_nil hm).elim) (some H.zero) (Or.inr rfl)
  refine ⟨hf, e, he, ?_⟩
  rw [H.zero_add'] at hd
  exact hd

theorem liveEnd_cons (s : Step) (r : List Step) (live : Bool) : liveEnd (s :: r) live = liveEnd r (liveEnd [s] live) := by
  cases s <;> rfl

/-- one step that `scanRel` passes: where the scan goes on, whether it is live there, and that `verifyL` takes the
    same step — a label line not spelled `.L.return.*` is treated alike, and a jump arrives at the height of its label
    whether or not that is spelled `.L.return.*` -/
theorem scanRel_cons_ok {h : Labelling} {s : Step} {r : List Step} {cur e : Option H}
    (hs : scanRel h (s :: r) cur = .ok e) :
    ∃ c', scanRel h r c' = .ok e ∧ c'.isSome = liveEnd [s] cur.isSome ∧
      ((∀ l v, isReturnLabel l = true → h.lookup l = some v → v.rsp = 0) →
        (∀ l, s = .label l → isReturnLabel l = false) → vstepL h s cur = some c') := by
  cases s with
  | delta d => exact ⟨_, hs, Option.isSome_map, fun _ _ => rfl⟩
  | leave => exact ⟨none, hs, rfl, fun _ _ => rfl⟩
  | bad w => cases hs
  | cond l | jump l =>
    cases cur with
    | none => exact ⟨none, hs, rfl, fun _ _ => rfl⟩
    | some c =>
      simp only [scanRel] at hs
      split at hs
      · rename_i hlk
        have hlk' : h.lookup l = some c := by simpa using hlk
        refine ⟨_, hs, rfl, fun hret _ => ?_⟩
        have : arrives h l c = true := by
          unfold arrives
          by_cases hr : isReturnLabel l = true
          · simp [hr, hret l c hr hlk']
          · simp [hr, hlk']
        simp [vstepL, this]
      · cases hs
  | label l =>
    simp only [scanRel] at hs
    split at hs
    · cases hs
    · rename_i hv hlk
      split at hs
      · rename_i hcur
        refine ⟨some hv, hs, rfl, fun _ hl => ?_⟩
        simp only [vstepL, hl l rfl, Bool.false_eq_true, if_false, hlk]
        cases cur with
        | none => rfl
        | some c =>
          have : c = hv := by simpa using hcur
          simp [this]
      · cases hs

theorem scanRel_live (h : Labelling) : ∀ (ss : List Step) (cur e : Option H), scanRel h ss cur = .ok e →
    e.isSome = liveEnd ss cur.isSome
  | [], cur, e, hs => by cases hs; rfl
  | s :: r, cur, e, hs => by
    obtain ⟨c', h2, h1, _⟩ := scanRel_cons_ok hs
    rw [liveEnd_cons, ← h1]
    exact scanRel_live h r c' e h2

/-- balanced-or-leaves code that falls out of its end is balanced -/
theorem balanced_of_fallsThrough {ls : List Line} {d : H} (h : BalancedOrLeaves ls d)
    (hf : fallsThrough ls = true) : Balanced ls d := by
  obtain ⟨lab, e, he, hd⟩ := h
  have hl := scanRel_live lab (steps ls) (some H.zero) e he
  have hf' : liveEnd (steps ls) true = true := hf
  simp only [Option.isSome_some, hf'] at hl
  rcases hd with rfl | rfl
  · simp at hl
  · exact ⟨lab, he⟩

theorem verifyL_of_scanRel (h : Labelling)
    (hret : ∀ l v, isReturnLabel l = true → h.lookup l = some v → v.rsp = 0) :
    ∀ (ss : List Step) (cur : Option H) (e : Option H), scanRel h ss cur = .ok e →
      (∀ l, l ∈ labelNames ss → isReturnLabel l = false) → verifyL h ss cur = .ok ()
  | [], _, _, _, _ => rfl
  | s :: r, cur, e, hs, hl => by
    obtain ⟨c', h2, _, h1⟩ := scanRel_cons_ok hs
    exact (verifyL_cons_iff h s r cur).mpr ⟨c', h1 hret fun l e => hl l (e ▸ List.mem_cons_self),
      verifyL_of_scanRel h hret r c' e h2 fun l hm => hl l (by cases s <;> simp [labelNames, hm])⟩

theorem retLabel_isReturn (env : Env) : isReturnLabel (retLabel env) = true := by
  unfold isReturnLabel retLabel
  show List.isPrefixOf _ (toString ".L.return." ++ toString (cstr env.fnName)).toList = true
  rw [String.toList_append]
  exact List.isPrefixOf_iff_prefix.mpr (List.prefix_append _ _)

/-- the code of a function body in scope, with pairwise distinct labels, passes `verifyL` -/
theorem fnBalanced_of_SemF {env : Env} {R : List String} {xr : Int} {ls : List Line} {G : List (String × H)}
    (h : FlowR ((retLabel env, ⟨0, xr⟩) :: at0 R) ⟨0, 0⟩ (ls.flatMap classify) G ⟨0, 0⟩)
    (hg : ∀ l, l ∈ R → (l, (⟨0, 0⟩ : H)) ∈ G) {lo hi : Nat}
    (hl : LabsR (ls.flatMap classify) [] lo hi) (hu : userDistinct ls = true) :
    FnBalanced ls ∧ BalancedOrLeaves ls ⟨0, 0⟩ := by
  obtain ⟨hnd, hnr⟩ := labelNames_of_LabsR hl hu
  have hnotin : retLabel env ∉ labelNames (steps ls) := fun hm => by
    have := hnr _ hm
    rw [retLabel_isReturn env] at this
    cases this
  obtain ⟨hf, hk, hgg, hc⟩ := h H.zero []
  have hk' : hf.map Prod.fst = labelNames (steps ls) := hk
  let hh : Labelling := (retLabel env, ⟨0, xr⟩) :: hf
  have hx : Ext hh hf := by
    intro l v hm
    have hne : l ≠ retLabel env := by
      intro e
      subst e
      exact hnotin (hk' ▸ List.mem_map.mpr ⟨(_, v), hm, rfl⟩)
    have : (l == retLabel env) = false := by simpa using hne
    simp only [hh, List.lookup, this]
    exact lookup_of_mem_nodup hf (hk' ▸ hnd) l v hm
  have ha : ∀ l r, (l, r) ∈ (retLabel env, (⟨0, xr⟩ : H)) :: at0 R → hh.lookup l = some (H.zero + ⟨0, 0⟩ + r) := by
    intro l r hm
    have e0 : H.zero + ⟨0, 0⟩ + r = r := by harith
    rw [e0]
    simp only [List.mem_cons, Prod.mk.injEq] at hm
    rcases hm with ⟨rfl, rfl⟩ | hm
    · simp [hh, List.lookup]
    · obtain ⟨h1, rfl⟩ := mem_at0.mp hm
      have := hgg l _ (hg l h1)
      have e1 : H.zero + ⟨0, 0⟩ + ⟨0, 0⟩ = (⟨0, 0⟩ : H) := by decide
      rw [e1] at this
      exact hx l _ this
  obtain ⟨e, he, hde⟩ := hc hh hx ha (some H.zero) (Or.inr rfl)
  have he' : scanRel hh (steps ls) (some H.zero) = .ok e := he
  refine ⟨⟨hh, ?_⟩, ⟨hh, e, he', ?_⟩⟩
  · refine verifyL_of_scanRel hh ?_ (steps ls) _ e he' (fun l hm => hnr l hm)
    intro l v hr hlk
    by_cases hl : l = retLabel env
    · subst hl
      simp only [hh, List.lookup, beq_self_eq_true, Option.some.injEq] at hlk
      rw [← hlk]
    · have : (l == retLabel env) = false := by simpa using hl
      simp only [hh, List.lookup, this] at hlk
      have hmem : l ∈ hf.map Prod.fst := by
        by_cases hn : l ∈ hf.map Prod.fst
        · exact hn
        · rw [(lookup_none_iff hf l).2 hn] at hlk
          cases hlk
      have := hnr l (hk' ▸ hmem)
      rw [this] at hr
      cases hr
  · rw [H.zero_add'] at hde
    exact hde

end ChibiVerif.Lemmas.C20
