/-
Helper lemmas for C15_symbols_partial: the labels the emitted text of a function mentions (`fn->uses` in the
model: what `gen_expr` prints for the identifiers, static locals and string literals of the body), as a
function of the declaration sequence.
-/
import ChibiVerif.Lemmas.LinkageExact
import ChibiVerif.Lemmas.LinkageSpecEqns

namespace ChibiVerif.Linkage
open ChibiVerif.Spec.Linkage

/-- "uses": `find_func(g)->uses` -/
def U (gs : List Obj) (g : Name) : Option (List Sym) := (findFunc gs g).map (·.uses)

theorem U_updFunc {u : Obj → Obj} (hu : KeepsId u) (hk : ∀ o, (u o).uses = o.uses) (gs : List Obj) (f : Name) :
    U (updFunc gs f u) = U gs := by
  funext g
  simp only [U, findFunc_updFunc hu]
  by_cases hg : g = f
  · subst hg
    simp only [if_true, Option.map_map]
    congr 1
    funext o
    exact hk o
  · simp [hg]

theorem U_fnEffect (cur : Option Name) (gs : List Obj) (l : List Name) : U (fnEffect cur gs l) = U gs := by
  cases cur with
  | some f => exact U_updFunc (u := addRefsO l) (fun _ => ⟨rfl, rfl⟩) (fun _ => rfl) gs f
  | none =>
    simp only [fnEffect]
    induction l generalizing gs with
    | nil => rfl
    | cons g rest ih =>
      simp only [List.foldl_cons]
      rw [ih, U_updFunc (u := setRootO) (fun _ => ⟨rfl, rfl⟩) (fun _ => rfl)]

theorem U_data_append {l1 : List Obj} (h : ∀ o, o ∈ l1 → o.isFunction = false) (gs : List Obj) : U (l1 ++ gs) = U gs := by
  funext g
  simp only [U, findFunc_data_append h]

variable [Rules]

theorem rootIfO_uses (o : Obj) : (rootIfO o).uses = o.uses := by
  obtain ⟨r, h⟩ := rootIfO_eq o
  rw [h]

theorem redeclFlags_uses (e i : Bool) (o : Obj) : (redeclFlags e i o).uses = o.uses := by
  obtain ⟨s, il, d, h⟩ := redeclFlags_eq e i o
  rw [h]

theorem U_headUpd (gs : List Obj) (f : Name) (s e i b : Bool) (g : Name) :
    U (headUpd gs f s e i b) g = if g = f then some ((U gs f).getD []) else U gs g := by
  unfold headUpd
  cases hfn : findFunc gs f with
  | some fn =>
    dsimp only
    rw [U_updFunc (keeps_redeclO e i b).keepsId (fun o => (rootIfO_uses _).trans (redeclFlags_uses e i o))]
    by_cases hg : g = f
    · subst hg; simp [U, hfn]
    · simp [hg]
  | none =>
    dsimp only
    rw [U_updFunc keepsId_rootIf rootIfO_uses]
    by_cases hg : g = f
    · subst hg
      rw [show U gs g = none from by simp [U, hfn]]
      simp [U, findFunc, List.find?, newFnObj]
    · have : ((Sym.named f == Sym.named g) = false) := by
        simp only [beq_eq_false_iff_ne, ne_eq, Sym.named.injEq]; exact fun e' => hg e'.symm
      simp [U, hg, findFunc, List.find?, this, newFnObj]

/-! ### the identifiers among the labels -/

def namedOf (l : List Sym) : List Name := l.filterMap (fun s => match s with | .named n => some n | .anon _ => none)

/-- the identifiers (functions and objects with linkage) a body mentions in expressions -/
def directRefs (b : List BodyItem) : List Name :=
  b.filterMap (fun i => match i with | .ref (.fn g) => some g | .ref (.obj x) => some x | _ => none)

omit [Rules] in
theorem namedOf_append (a b : List Sym) : namedOf (a ++ b) = namedOf a ++ namedOf b := by
  simp [namedOf, List.filterMap_append]

omit [Rules] in
theorem namedOf_bodyLabels : ∀ (b : List BodyItem) (k : Nat), namedOf (bodyLabels k b) = directRefs b
  | [], _ => rfl
  | i :: rest, k => by
    simp only [bodyLabels, namedOf_append, namedOf_bodyLabels rest]
    cases i with
    | ref r => cases r <;> simp [bodyItemLabels, namedOf, directRefs, symOfRef]
    | staticLocal tls ty init => simp [bodyItemLabels, namedOf, directRefs]
    | str n => simp [bodyItemLabels, namedOf, directRefs]
    | externObj x tls ty => simp [bodyItemLabels, namedOf, directRefs]

omit [Rules] in
theorem namedOf_initLabels : ∀ (items : List InitItem) (k : Nat),
    namedOf (initLabels k items) = items.filterMap (fun i => match i with | .ref (.fn g) => some g | .ref (.obj x) => some x | _ => none)
  | [], _ => rfl
  | i :: rest, k => by
    cases i with
    | ref r =>
      cases r <;> simp [initLabels, namedOf, symOfRef] <;> exact namedOf_initLabels rest k
    | str n =>
      simp only [initLabels, namedOf, List.filterMap_cons]
      exact namedOf_initLabels rest (k + 1)

/-- "named uses": `find_func(g)->uses`, identifiers only -/
def NU (gs : List Obj) (g : Name) : Option (List Name) := (U gs g).map namedOf

def stepNU (d : Decl) (g : Name) (cur : Option (List Name)) : Option (List Name) :=
  match d with
  | .func f _ _ _ _ none => if g = f then some (cur.getD []) else cur
  | .func f _ _ _ _ (some b) => if g = f then some (directRefs b) else cur
  | .obj .. => cur

theorem NU_declStep {st st' : PState} {d : Decl} (h : declStep st d = .ok st') (g : Name) :
    NU st'.globals g = stepNU d g (NU st.globals g) := by
  simp only [NU]
  rw [(declStep_exact h).1, U_data_append (declNews_data _ _ _)]
  cases d with
  | func f n s e i body =>
    cases body with
    | none =>
      simp only [fnStep, stepNU, U_headUpd]
      by_cases hg : g = f
      · subst hg
        cases U st.globals g <;> simp [namedOf]
      · simp [hg]
    | some b =>
      simp only [fnStep, stepNU]
      by_cases hg : g = f
      · subst hg
        simp only [U, findFunc_updFunc (u := setUsesO _) (fun _ => ⟨rfl, rfl⟩), if_true, Option.map_map]
        -- `find_func(f)` succeeds once `function` has run its head
        have := U_headUpd st.globals g s e i true g
        rw [← U_updFunc (u := addRefsO (bodyFnRefs b)) (fun _ => ⟨rfl, rfl⟩) (fun _ => rfl) _ g] at this
        simp only [U, if_true] at this
        cases hf : findFunc (updFunc (headUpd st.globals g s e i true) g (addRefsO (bodyFnRefs b))) g with
        | none => simp [hf] at this
        | some o => exact congrArg some (namedOf_bodyLabels b _)
      · simp only [hg, if_false]
        have : ∀ X, U (updFunc X f (setUsesO (bodyLabels (st.nextAnon + 2) b))) g = U X g := fun X => by
          simp only [U, findFunc_updFunc (u := setUsesO _) (fun _ => ⟨rfl, rfl⟩), hg, if_false]
        rw [this, U_updFunc (u := addRefsO _) (fun _ => ⟨rfl, rfl⟩) (fun _ => rfl), U_headUpd, if_neg hg]
  | obj x s e t ty init =>
    cases init with
    | none => rfl
    | some items => exact congrArg (Option.map namedOf) (congrFun (U_fnEffect none st.globals (initFnRefs items)) g)

def foldNU (ds : List Decl) (g : Name) (cur : Option (List Name)) : Option (List Name) :=
  ds.foldl (fun cur d => stepNU d g cur) cur

theorem NU_declAll : ∀ (ds : List Decl) {st st' : PState}, declAll st ds = .ok st' → ∀ g,
    NU st'.globals g = foldNU ds g (NU st.globals g) :=
  declAll_rec (P := fun ds st st' => ∀ g, NU st'.globals g = foldNU ds g (NU st.globals g)) (fun _ _ => rfl)
    (fun h1 _ ih g => by rw [ih g, NU_declStep h1 g]; rfl)

/-- the identifiers the text of a function mentions, one more declaration of it -/
def stepND (cur : Option (List Name)) (d : FnDecl) : Option (List Name) :=
  match d.body with | none => some (cur.getD []) | some b => some (directRefs b)

omit [Rules] in
theorem foldNU_eq (ds : List Decl) (g : Name) (cur : Option (List Name)) :
    foldNU ds g cur = (fnDecls ds g).foldl stepND cur :=
  foldl_fnDecls g (fun cur d => stepNU d g cur) stepND (fun _ _ _ _ _ b => by cases b <;> simp [stepNU, stepND])
    (fun _ _ _ _ _ _ b h => by cases b <;> simp [stepNU, Ne.symm h]) (fun _ _ _ _ _ _ _ => rfl) ds cur

omit [Rules] in
theorem foldl_stepND_noBody : ∀ (D : List FnDecl) (v : List Name), (∀ d, d ∈ D → d.body = none) →
    D.foldl stepND (some v) = some v
  | [], _, _ => rfl
  | d :: D, v, h => by
    rw [List.foldl_cons, stepND, h d List.mem_cons_self]
    exact foldl_stepND_noBody D v (fun x hx => h x (List.mem_cons_of_mem _ hx))

omit [Rules] in
theorem foldl_stepND_defined : ∀ (D : List FnDecl) (cur : Option (List Name)),
    (D.filter (fun d => d.body.isSome)).length ≤ 1 → fnDefined D = true → D.foldl stepND cur = some (directRefs (fnBody D))
  | [], _, _, h => nomatch h
  | d :: D, cur, h1, h2 => by
    obtain ⟨h1', hrest⟩ := oneBody_cons h1
    rw [List.foldl_cons, stepND]
    cases hb : d.body with
    | some b =>
      rw [foldl_stepND_noBody D _ (hrest (by rw [hb]; rfl))]
      simp [fnBody, List.findSome?, hb]
    | none =>
      simp only [fnDefined, List.any_cons, hb, Option.isSome_none, Bool.false_or] at h2
      rw [foldl_stepND_defined D _ h1' h2]
      simp [fnBody, List.findSome?, hb]

theorem NU_parse {ds : List Decl} {st : PState} (h : declAll {} ds = .ok st) (g : Name)
    (h1 : ((fnDecls ds g).filter (fun d => d.body.isSome)).length ≤ 1) (h2 : fnDefined (fnDecls ds g) = true) :
    NU st.globals g = some (directRefs (fnBody (fnDecls ds g))) := by
  rw [NU_declAll ds h g, foldNU_eq]
  exact foldl_stepND_defined _ _ h1 h2

end ChibiVerif.Linkage
