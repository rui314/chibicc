/-
C06, argument conversions with a floating side: the conversion is C02's (`Fp.castSeq`, the sequence `C02_select` is about), the
transfer is `pushf()` / `sub $16, %rsp; fstpt (%rsp)` of `push_args2`.  What the 8-byte (16-byte) slot holds afterwards is what the pop phase moves into
%xmmN with `movsd (%rsp), %xmmN` or what the callee reads in place.
-/
import ChibiVerif.Lemmas.C06ArgSpecLemmas
import ChibiVerif.Lemmas.FpCastLemmas
import ChibiVerif.Lemmas.FpStepLemmas

namespace ChibiVerif.C06Args
open ChibiVerif.X86 ChibiVerif.Asm ChibiVerif.Fp ChibiVerif.Spec.Fpu ChibiVerif.Spec.FpC11 ChibiVerif.Spec.IntSpec
open ChibiVerif.Gen.CommonType ChibiVerif.Gen.Funcall ChibiVerif.C01
open ChibiVerif.X86.State (read16_write16 read64_write64)

/-- C02's descriptors are the ones of the model -/
theorem descrA_eq (a : ATy) : descrA a = Fp.descr a := by
  cases a with
  | int t => cases t <;> rfl
  | f32 => rfl
  | f64 => rfl
  | f80 => rfl

/-- `pushf()`: the 8-byte slot at the new %rsp holds the low quadword of %xmm0 -/
theorem pushf_ok (F : FpuSpec) (s : FState) :
    ∃ s', Fp.run F pushfSeq s = some s' ∧ s'.x.read64 (s'.x.get .rsp) = s.xmm0 ∧ s'.x.get .rsp = s.x.get .rsp - 8 ∧
      s'.st = s.st ∧ s'.cw = s.cw := by
  obtain ⟨x, xmm0, xmm1, st, cw⟩ := s
  refine ⟨_, rfl, ?_, ?_, rfl, rfl⟩
  · rw [State.get_write64, ← State.ea_zero]; exact State.read64_write64 _ _ _
  · rw [State.get_write64]
    simp [State.src, State.setW, State.getW, State.flags, State.get, State.set]

theorem mem_write16_ne (s : State) (a b : BitVec 64) (v : BitVec 16) (h1 : b ≠ a) (h2 : b ≠ a + 1) :
    (s.write16 a v).mem b = s.mem b :=
  (s.write16_stored a v).2 b fun k hk => by
    obtain rfl | rfl : k = 0 ∨ k = 1 := by omega
    · simpa using h1
    · exact h2

/-- the two bytes `fstpt` writes above the low quadword do not disturb it -/
theorem read64_write16_above (s : State) (a : BitVec 64) (v : BitVec 16) :
    (s.write16 (a + 8) v).read64 a = s.read64 a := by
  -- none of the eight addresses read is one of the two written
  simp only [State.read64, State.read32, State.read16, BitVec.add_assoc, BitVec.reduceAdd, mem_write16_ne, ne_eq,
    BitVec.add_right_inj, BitVec.self_eq_add_right, BitVec.reduceEq, not_false_eq_true]

theorem read80_write80 (s : State) (a : BitVec 64) (v : BitVec 80) : read80 (write80 s a v) a = v := by
  simp only [read80, write80, State.read16_write16, read64_write16_above, State.read64_write64, split80]

/-- `sub $16, %rsp; fstpt (%rsp)`: the ten bytes at the new %rsp are %st(0), which is popped -/
theorem pushld_ok (F : FpuSpec) (s : FState) (b : BitVec 80) (rest : List (BitVec 80)) (h : s.st = b :: rest) :
    ∃ s', Fp.run F pushLdSeq s = some s' ∧ read80 s'.x (s'.x.get .rsp) = b ∧ s'.x.get .rsp = s.x.get .rsp - 16 ∧
      s'.st = rest ∧ s'.cw = s.cw := by
  obtain ⟨x, xmm0, xmm1, st, cw⟩ := s
  simp only at h
  subst h
  have hg : ∀ (y : State) (a : BitVec 64) (v : BitVec 80), (write80 y a v).get .rsp = y.get .rsp := by
    intro y a v; simp only [write80, State.get_write16, State.get_write64]
  refine ⟨_, rfl, ?_, ?_, rfl, rfl⟩
  · rw [hg, ← State.ea_zero]; exact read80_write80 _ _ _
  · rw [hg]
    simp [State.src, State.setW, State.getW, State.flags, State.get, State.set]

/-- one cast between arithmetic types, as `funcall()` and `return` insert it: exactly the sequence C02's theorems are about -/
theorem castChain_arith (frm to : ATy) : (castChain (descrA frm) [descrA to]).flatMap Line.instrs = Fp.castSeq frm to := by
  rw [Fp.castSeq, ← descrA_eq, ← descrA_eq]
  simp [castChain, instrsOf]

theorem argSeq_arith (frm to : ATy) (variadic : Bool) :
    argSeq variadic (some (descrA to)) (descrA frm) = some (Fp.castSeq frm to) :=
  (argSeq_scalar _ _ _ (descrA_scalar to)).trans (congrArg some (castChain_arith frm to))

theorem argSeq_tail_f32 : argSeq true none (descrA .f32) = some (Fp.castSeq .f32 .f64) := rfl
theorem argSeq_tail_f64 : argSeq true none (descrA .f64) = some [] := rfl
theorem argSeq_tail_f80 : argSeq true none (descrA .f80) = some [] := rfl

end ChibiVerif.C06Args
