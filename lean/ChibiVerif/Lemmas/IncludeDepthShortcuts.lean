/-
Helper lemmas for C10: the re-inclusion shortcuts in the include machine with the nesting limit
(Model/IncludeDepth.lean): a file accepted by `detect_include_guard`, processed while its guard is defined,
changes nothing (`runLines_guarded_file`); whenever plain textual inclusion finishes, the machine with the
`include_guards` table finishes in the same state (`runLines_guards_transparent`); `#pragma once`.  `b`: see the head of Lemmas/IncludeDepthLemmas.lean.
Lemmas/IncludeSearchShortcuts.lean has the same theory for the machine without the depth limit.
-/
import ChibiVerif.Lemmas.IncludeDepthLemmas
import ChibiVerif.Lemmas.IncludeSearchLemmas

namespace ChibiVerif.IncludeDepth
open ChibiVerif.CondIncl ChibiVerif.IncludeSearch ChibiVerif.IncludeOperand
variable {ε β : Type}

/-- every entry of `include_guards` was computed by `detect_include_guard` from the file's content -/
def GuardsOKX (fs : XFS ε β) (guards : List (String × String)) : Prop :=
  ∀ p g, guardOf guards p = some g → ∃ ls, fs.get p = some ls ∧ detectGuard (ls.map XLine.toLine) = some g

theorem GuardsOKX_nil (fs : XFS ε β) : GuardsOKX fs [] := by
  intro p g h; simp [guardOf] at h

theorem preStep_c (ev : ε → Defs β → Except Diag Bool) (xp : Xp β) (fs : XFS ε β) (paths : List String) (b : Bool)
    (file : String) (l : Line ε β) (m : Mode) (s : IState β) :
    preStep ev xp fs paths b file (.base (.c l)) m s =
      (match stepLine ev l m s.st with
       | .error e => .error e
       | .ok (st', m') => .ok (none, { s with st := st' }, m')) := by
  cases m <;> rfl

theorem preStep_tables (ev : ε → Defs β → Except Diag Bool) (xp : Xp β) (fs : XFS ε β) (paths : List String) (b : Bool)
    (file : String) (l : XLine ε β) (m m' : Mode) (s s' : IState β) (o : Option String)
    (h : preStep ev xp fs paths b file l m s = .ok (o, s', m')) :
    s'.guards = s.guards ∧
    (s'.cache = s.cache ∨ ∃ dq name, s'.cache = (resolveInclude fs.has paths s.cache file dq name).2) := by
  rcases preStep_shape ev xp fs paths file l m s with hr | ⟨_, e, _, he⟩ | ⟨o', ho⟩ | ⟨dq, name, hi, ht⟩ | ⟨dq, name, hi, ht⟩
  · rw [hr b] at h; split at h <;> cases h; exact ⟨rfl, .inl rfl⟩
  · rw [he b] at h; cases h
  · rw [ho b] at h; cases h; exact ⟨rfl, .inl rfl⟩
  · rw [ht b] at h; cases h; exact ⟨rfl, .inr ⟨dq, name, rfl⟩⟩
  · rw [ht b] at h; cases h; exact ⟨rfl, .inl rfl⟩

/-- from inside the skipped #ifndef group the machine reaches the end of the file, pops the #ifndef's record
    and changes nothing else – no file is opened on the way, whatever `sub` is -/
theorem runLines_guardScan {ev : ε → Defs β → Except Diag Bool} {xp : Xp β} {fs : XFS ε β} {paths : List String} {b : Bool}
    {sub : Sub ε β} {file : String} :
    ∀ {ls : List (XLine ε β)} {k i : Nat} {s : IState β} {o : Obs β} {f : Frame} {st : List Frame},
      guardScan (k+1) (ls.map XLine.toLine) = true → s.st = ⟨o, f :: st⟩ →
      runLines ev xp fs paths b sub file i ls (.skip k) s = .ok ({ s with st := ⟨o, st⟩ }, .proc) := by
  intro ls
  induction ls with
  | nil => intro k i s o f st h; cases h
  | cons l ls ih =>
    intro k i s o f st hscan hst
    simp only [runLines, preStep_skip, hst]
    rcases guardScan_step ev l.toLine _ k o f st hscan with ⟨k', h', hs⟩ | ⟨hnil, hs⟩ <;> rw [hs]
    · exact ih h' rfl
    · cases List.map_eq_nil_iff.mp hnil; rfl

/-- **a file accepted by `detect_include_guard`, processed while its guard macro is defined**: the machine is
    back behind the file with nothing changed (no tokens, no state change, nothing opened) -/
theorem runLines_guarded_file (ev : ε → Defs β → Except Diag Bool) (xp : Xp β) (fs : XFS ε β) (paths : List String) (b : Bool)
    (sub : Sub ε β) (file : String) (ls : List (XLine ε β)) (g : String)
    (hg : detectGuard (ls.map XLine.toLine) = some g) (i : Nat) (s : IState β)
    (hdef : s.st.obs.defs.isDef g = true) :
    runLines ev xp fs paths b sub file i ls .proc s = .ok (s, .proc) := by
  obtain ⟨l0, l1, ls', rfl, h0, hscan⟩ := detectGuard_map_eq_some XLine.toLine ls g hg
  cases l0 with
  | inclMacro => cases h0
  | base l0 =>
  cases ILine.toLine_eq_opens h0
  simp only [runLines, preStep_c, stepLine, procLine_ifndef_defined ev g false s.st hdef]
  exact runLines_guardScan hscan rfl

/-- the two machines take the same pre-step unless the guard shortcut fires -/
theorem preStep_key (ev : ε → Defs β → Except Diag Bool) (xp : Xp β) (fs : XFS ε β) (paths : List String) (file : String)
    (l : XLine ε β) (m : Mode) (s : IState β) (hok : GuardsOKX fs s.guards) :
    preStep ev xp fs paths true file l m s = preStep ev xp fs paths false file l m s ∨
    ∃ (s1 : IState β) (path : String) (fl : List (XLine ε β)) (g : String),
      preStep ev xp fs paths true file l m s = .ok (none, s1, .proc) ∧
      preStep ev xp fs paths false file l m s = .ok (some path, s1, .proc) ∧
      fs.get path = some fl ∧ detectGuard (fl.map XLine.toLine) = some g ∧
      s1.st.obs.defs.isDef g = true ∧ guardOf s1.guards path = some g := by
  -- only an include directive looks at the flag, through `mkTarget`
  have tgt : (∀ g, preStep ev xp fs paths g file l m s = preStep ev xp fs paths false file l m s) ∨
      ∃ (p : String) (s1 : IState β), s1.guards = s.guards ∧ ∀ g, preStep ev xp fs paths g file l m s = .ok (mkTarget g p s1) := by
    rcases preStep_shape ev xp fs paths file l m s with hr | ⟨_, e, _, he⟩ | ⟨o', ho⟩ | ⟨_, _, _, ht⟩ | ⟨_, _, _, ht⟩
    · exact .inl fun g => by rw [hr g, hr false]
    · exact .inl fun g => by rw [he g, he false]
    · exact .inl fun g => by rw [ho g, ho false]
    · exact .inr ⟨_, _, by rfl, ht⟩
    · exact .inr ⟨_, _, by rfl, ht⟩
  rcases tgt with h | ⟨p, s1, hg1, ht⟩
  · exact .inl (h true)
  · rcases shortcutFires_cases p s1 with h1 | ⟨h1, h2, g, hgo, hdef⟩
    · left; rw [ht true, ht false, mkTarget, mkTarget, h1]
    · obtain ⟨fl, hget, hd⟩ := hok p g (hg1 ▸ hgo)
      exact .inr ⟨s1, p, fl, g, by rw [ht true, mkTarget, h1]; rfl, by rw [ht false, mkTarget, h2]; rfl, hget, hd, hdef, hgo⟩

/-- **the include-guard shortcut is transparent**, for every number of nesting levels: whenever plain textual
    inclusion (machine without the `include_guards` table) finishes, the machine with the table finishes in the
    same state (same emitted text, same macro table, same conditional stack, same mode, same tables) -/
theorem runLines_guards_transparent {ev : ε → Defs β → Except Diag Bool} {xp : Xp β} {fs : XFS ε β} {paths : List String} :
    ∀ (r : Nat) {file : String} {ls : List (XLine ε β)} {i : Nat} {m : Mode} {s : IState β} {res : IState β × Mode},
      GuardsOKX fs s.guards →
      runLines ev xp fs paths false (subOf ev xp fs paths false r) file i ls m s = .ok res →
      runLines ev xp fs paths true (subOf ev xp fs paths true r) file i ls m s = .ok res ∧ GuardsOKX fs res.1.guards := by
  intro r
  induction r using Nat.strongRecOn with
  | _ r ihr =>
    intro file ls i m s res
    -- arms of `runLines`: see `runIncD_level` (Lemmas/IncludeDepthLemmas.lean)
    fun_induction runLines ev xp fs paths false (subOf ev xp fs paths false r) file i ls m s with
    | case1 => intro hok h; cases h; exact ⟨rfl, hok⟩
    | case2 | case4 | case5 | case6 => intro _ h; cases h
    | case3 i l rest m s s' m' hp ih =>
      intro hok h
      have hok' : GuardsOKX fs s'.guards := (preStep_tables ev xp fs paths false file l m m' s s' none hp).1 ▸ hok
      -- no file is asked for: the guard shortcut cannot have fired
      rcases preStep_key ev xp fs paths file l m s hok with heq | ⟨s1, path, fl, g, ht, hf, _⟩
      · rw [runLines, heq, hp]; exact ih hok' h
      · rw [hf] at hp; cases hp
    | case7 i l rest m s path s' m' hp f hf fl s'' ho s3 m3 hr ih =>
      intro hok h
      have hok' : GuardsOKX fs s'.guards := (preStep_tables ev xp fs paths false file l m m' s s' _ hp).1 ▸ hok
      cases r with
      | zero => cases hf
      | succ r =>
        cases hf
        rw [runAt_eq] at hr
        rcases preStep_key ev xp fs paths file l m s hok with heq | ⟨s1, path', fl', g, ht, hf', hget, hd, hdef, hgo⟩
        · have hok'' : GuardsOKX fs s''.guards := by
            obtain ⟨hget, rfl⟩ := openFile_ok ho
            cases hd : detectGuard (fl.map XLine.toLine) with
            | none => exact hok'
            | some g => exact putGuard_inv _ s'.guards path g hok' ⟨fl, hget, hd⟩
          obtain ⟨hr', hok3⟩ := ihr r (Nat.lt_succ_self r) hok'' hr
          simp only [runLines, heq, hp, subOf, ho]
          rw [runAt_eq, hr']
          exact ih hok3 h
        · -- the shortcut fires: plain inclusion opened the guarded file and came back with nothing changed
          rw [hf'] at hp; cases hp
          -- the guard is already in the table: `hashmap_put` changes nothing
          simp only [openFile, hget, hd, putGuard, hgo, if_true] at ho; cases ho
          rw [runLines_guarded_file ev xp fs paths false _ path fl g hd 1 s' hdef] at hr; cases hr
          rw [runLines, ht]
          exact ih hok' h

/-- the same for the files `cc1` hands to `preprocess` one after the other (what `C10_shortcuts_graph` states) -/
theorem runTop_guards_transparent (ev : ε → Defs β → Except Diag Bool) (xp : Xp β) (fs : XFS ε β) (paths : List String) (limit : Nat)
    (files : List (String × List (XLine ε β))) (m : Mode) (s : IState β) (res : IState β × Mode) :
      GuardsOKX fs s.guards →
      runTop ev xp fs paths false limit files m s = .ok res →
      runTop ev xp fs paths true limit files m s = .ok res ∧ GuardsOKX fs res.1.guards := by
  -- arms of `runTop`: see `runIncD_files` (Lemmas/IncludeDepthLemmas.lean)
  fun_induction runTop ev xp fs paths false limit files m s with
  | case1 => intro hok h; cases h; exact ⟨rfl, hok⟩
  | case2 => intro _ h; cases h
  | case3 file ls more m s s' m' hr ih =>
    intro hok h
    rw [runAt_eq] at hr
    obtain ⟨hr', hok'⟩ := runLines_guards_transparent limit hok hr
    rw [runTop, runAt_eq, hr']
    exact ih hok' h

theorem shortcutFires_once (b : Bool) (path : String) (s : IState β) (h : s.once.contains path = true) :
    shortcutFires b path s = true := by
  unfold shortcutFires
  rw [h]; rfl

theorem openFile_once (fs : XFS ε β) (path : String) (s s' : IState β) (ls : List (XLine ε β))
    (h : openFile fs path s = .ok (ls, s')) : s'.once = s.once := by
  obtain ⟨_, rfl⟩ := openFile_ok h
  cases detectGuard (ls.map XLine.toLine) <;> rfl

end ChibiVerif.IncludeDepth
