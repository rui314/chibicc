/-
C03 — forward simulation for *all* statements (goto, computed goto, `case` labels nested in
other statements): definitions.  The relation between a configuration `(s, k)` of the small-step
abstract machine `Spec.Ctl.step` (Spec/ControlSpecG.lean) and a position in the generated code:
the code of (an annotated copy of) `s` starts at the position, and the continuation `k` is
matched, frame by frame, by what the code does after it (`MatchK`); `StmtAt` packs the placement
of the code, what is known of the annotated statement (`Good`) and `MatchK`, and descends from a
statement to its parts.  Also the code layouts of the compound statements and the labels a control
transfer can arrive at (`hitLabels`).
-/
import ChibiVerif.Lemmas.StmtMachine
import ChibiVerif.Spec.ControlSpecG

namespace ChibiVerif.Ctl
open ChibiVerif.Spec.Ctl

/-- unique labels of the label nodes the target designates, in the order `Spec.Ctl.find` visits them -/
def hitLabels (t : Target) : Stmt → List Nat
  | .seq a b => hitLabels t a ++ hitLabels t b
  | .block s => hitLabels t s
  | .ifte _ a b => hitLabels t a ++ hitLabels t b
  | .for_ _ _ _ _ _ body => hitLabels t body
  | .doWhile _ _ body _ => hitLabels t body
  | .switch_ _ _ _ _ _ _ body => if t.enters then hitLabels t body else []
  | .case_ l lo hi s => if t.hitCase lo hi then l :: hitLabels t s else hitLabels t s
  | .default_ l s => if t.hitDflt then l :: hitLabels t s else hitLabels t s
  | .label l u s => if t.hitLabel l then u :: hitLabels t s else hitLabels t s
  | _ => []

theorem erase_folds (st : Stmt) : freeCases (erase st) = (caseEnts st).map (fun e => (e.lo, e.hi)) ∧
    freeDefaults (erase st) = (dflts st).length ∧ labelNames (erase st) = (labelPairs st).map (·.1) := by
  induction st with
  | seq a b iha ihb | ifte _ a b iha ihb =>
    simp only [erase, freeCases, freeDefaults, labelNames, caseEnts, dflts, labelPairs, List.map_append, List.length_append,
      iha, ihb, and_self]
  | block s ih | for_ _ _ _ _ _ s ih | doWhile _ _ s _ ih => exact ih
  | switch_ _ _ _ _ _ _ s ih => exact ⟨rfl, rfl, ih.2.2⟩
  | case_ l lo hi s ih => exact ⟨congrArg ((lo, hi) :: ·) ih.1, ih.2⟩
  | default_ l s ih => exact ⟨ih.1, congrArg (· + 1) ih.2.1, ih.2.2⟩
  | label l u s ih => exact ⟨ih.1, ih.2.1, congrArg (l :: ·) ih.2.2⟩
  | goto_ kind t => cases kind <;> exact ⟨rfl, rfl, rfl⟩
  | _ => exact ⟨rfl, rfl, rfl⟩

theorem freeCases_erase (st : Stmt) : freeCases (erase st) = (caseEnts st).map (fun e => (e.lo, e.hi)) := (erase_folds st).1
theorem freeDefaults_erase (st : Stmt) : freeDefaults (erase st) = (dflts st).length := (erase_folds st).2.1
theorem labelNames_erase (st : Stmt) : labelNames (erase st) = (labelPairs st).map (·.1) := (erase_folds st).2.2

theorem hitLabels_switch (w u : Bool) (v : Val) (st : Stmt) :
    hitLabels (.case_ w u v) st = ((caseEnts st).filter (fun e => caseMatches w u e.lo e.hi v)).map (·.lbl) ∧
    hitLabels .dflt st = dflts st := by
  induction st with
  | seq a b iha ihb | ifte _ a b iha ihb =>
    simp only [hitLabels, caseEnts, dflts, List.filter_append, List.map_append, iha, ihb, and_self]
  | block s ih | for_ _ _ _ _ _ s ih | doWhile _ _ s _ ih | label _ _ s ih => exact ih
  | case_ l lo hi s ih =>
    refine ⟨?_, ih.2⟩
    simp only [hitLabels, caseEnts, Target.hitCase, List.filter_cons]
    by_cases h : caseMatches w u lo hi v = true <;> simp [h, ih.1]
  | default_ l s ih => exact ⟨ih.1, congrArg (l :: ·) ih.2⟩
  | _ => exact ⟨rfl, rfl⟩

theorem hitLabels_case (w u : Bool) (v : Val) (st : Stmt) :
    hitLabels (.case_ w u v) st = ((caseEnts st).filter (fun e => caseMatches w u e.lo e.hi v)).map (·.lbl) :=
  (hitLabels_switch w u v st).1
theorem hitLabels_dflt (st : Stmt) : hitLabels .dflt st = dflts st := (hitLabels_switch false false 0 st).2

def condCode (cnd : Option Nat) (brk : Nat) : List CIns :=
  match cnd with
  | some k => [.call (.c k), cmpZero, .je (.u brk)]
  | none => []

theorem gen_for_none (cnd inc : Option Nat) (brk cont : Nat) (body : Stmt) (c0 : Nat) :
    (genStmt (.for_ none cnd inc brk cont body) c0).1 =
      [.label (.begin_ c0)] ++ condCode cnd brk ++ (genStmt body (c0 + 1)).1 ++ [.label (.u cont)] ++ callOpt inc ++
        [.jmp (.begin_ c0), .label (.u brk)] := by
  cases cnd <;> simp [genStmt, callOpt, condCode]

theorem gen_for_some (i : Nat) (cnd inc : Option Nat) (brk cont : Nat) (body : Stmt) (c0 : Nat) :
    (genStmt (.for_ (some i) cnd inc brk cont body) c0).1 =
      [.call (.m i)] ++ (genStmt (.for_ none cnd inc brk cont body) c0).1 := by
  simp [genStmt, callOpt, List.append_assoc]

theorem if_layout {P : Prog} {p c0 k : Nat} {t e : Stmt} (hcode : CodeAt P p (genStmt (.ifte k t e) c0).1) :
    CodeAt P p [.call (.c k), cmpZero, .je (.else_ c0)] ∧
    CodeAt P (p + 3) (genStmt t (c0 + 1)).1 ∧
    P[p + 3 + (genStmt t (c0 + 1)).1.length]? = some (.jmp (.end_ c0)) ∧
    P[p + 3 + (genStmt t (c0 + 1)).1.length + 1]? = some (.label (.else_ c0)) ∧
    CodeAt P (p + 3 + (genStmt t (c0 + 1)).1.length + 2) (genStmt e (genStmt t (c0 + 1)).2).1 ∧
    P[p + 3 + (genStmt t (c0 + 1)).1.length + 2 + (genStmt e (genStmt t (c0 + 1)).2).1.length]? = some (.label (.end_ c0)) ∧
    (genStmt (.ifte k t e) c0).1.length =
      3 + (genStmt t (c0 + 1)).1.length + 2 + (genStmt e (genStmt t (c0 + 1)).2).1.length + 1 := by
  simp only [genStmt] at hcode ⊢
  have hJ := hcode.left.left.right
  refine ⟨hcode.left.left.left.left, hcode.left.left.left.right, (hJ.cast ?_).head, (hJ.tail.cast ?_).head,
    hcode.left.right.cast ?_, (hcode.right.cast ?_).head, ?_⟩
  all_goals simp only [List.length_append, List.length_cons, List.length_nil] <;> omega

theorem for_layout {P : Prog} {p c0 : Nat} {cnd inc : Option Nat} {brk cont : Nat} {body : Stmt}
    (hcode : CodeAt P p (genStmt (.for_ none cnd inc brk cont body) c0).1) :
    P[p]? = some (.label (.begin_ c0)) ∧
    CodeAt P (p + 1) (condCode cnd brk) ∧
    CodeAt P (p + 1 + (condCode cnd brk).length) (genStmt body (c0 + 1)).1 ∧
    P[p + 1 + (condCode cnd brk).length + (genStmt body (c0 + 1)).1.length]? = some (.label (.u cont)) ∧
    CodeAt P (p + 1 + (condCode cnd brk).length + (genStmt body (c0 + 1)).1.length + 1) (callOpt inc) ∧
    P[p + 1 + (condCode cnd brk).length + (genStmt body (c0 + 1)).1.length + 1 + (callOpt inc).length]? =
      some (.jmp (.begin_ c0)) ∧
    P[p + 1 + (condCode cnd brk).length + (genStmt body (c0 + 1)).1.length + 1 + (callOpt inc).length + 1]? =
      some (.label (.u brk)) ∧
    (genStmt (.for_ none cnd inc brk cont body) c0).1.length =
      1 + (condCode cnd brk).length + (genStmt body (c0 + 1)).1.length + 1 + (callOpt inc).length + 2 := by
  rw [gen_for_none] at hcode ⊢
  have hTail := hcode.right
  refine ⟨hcode.left.left.left.left.left.head, hcode.left.left.left.left.right, hcode.left.left.left.right.cast ?_,
    (hcode.left.left.right.cast ?_).head, hcode.left.right.cast ?_, (hTail.cast ?_).head, (hTail.tail.cast ?_).head, ?_⟩
  all_goals simp only [List.length_append, List.length_cons, List.length_nil] <;> omega

theorem do_layout {P : Prog} {p c0 k : Nat} {brk cont : Nat} {body : Stmt}
    (hcode : CodeAt P p (genStmt (.doWhile brk cont body k) c0).1) :
    P[p]? = some (.label (.begin_ c0)) ∧
    CodeAt P (p + 1) (genStmt body (c0 + 1)).1 ∧
    P[p + 1 + (genStmt body (c0 + 1)).1.length]? = some (.label (.u cont)) ∧
    CodeAt P (p + 1 + (genStmt body (c0 + 1)).1.length + 1) [.call (.c k), cmpZero, .jne (.begin_ c0)] ∧
    P[p + 1 + (genStmt body (c0 + 1)).1.length + 4]? = some (.label (.u brk)) ∧
    (genStmt (.doWhile brk cont body k) c0).1.length = 1 + (genStmt body (c0 + 1)).1.length + 5 := by
  have hgen : (genStmt (.doWhile brk cont body k) c0).1 =
      [.label (.begin_ c0)] ++ (genStmt body (c0 + 1)).1 ++
        [.label (.u cont), .call (.c k), cmpZero, .jne (.begin_ c0), .label (.u brk)] := by
    simp [genStmt]
  rw [hgen] at hcode ⊢
  have hTail := hcode.right
  refine ⟨hcode.left.left.head, hcode.left.right, (hTail.cast ?_).head, (hTail.tail.cast ?_).left (b := [.label (.u brk)]),
    (hTail.tail.tail.tail.tail.cast ?_).head, ?_⟩
  all_goals simp only [List.length_append, List.length_cons, List.length_nil] <;> omega

theorem switch_layout {P : Prog} {p c0 k : Nat} {w u : Bool} {cases : List CaseEnt} {dflt : Option Nat} {brk : Nat}
    {body : Stmt} (hcode : CodeAt P p (genStmt (.switch_ w u k cases dflt brk body) c0).1) :
    CodeAt P p ([.call (.inp k)] ++ ladder w cases dflt brk) ∧
    CodeAt P (p + (1 + (ladder w cases dflt brk).length)) (genStmt body c0).1 ∧
    P[p + (1 + (ladder w cases dflt brk).length) + (genStmt body c0).1.length]? = some (.label (.u brk)) ∧
    (genStmt (.switch_ w u k cases dflt brk body) c0).1.length =
      (1 + (ladder w cases dflt brk).length) + (genStmt body c0).1.length + 1 := by
  simp only [genStmt] at hcode ⊢
  refine ⟨hcode.left.left, ?_, ?_, ?_⟩
  · exact hcode.left.right.cast (by simp only [List.length_append, List.length_cons, List.length_nil] <;> omega)
  · exact (hcode.right.cast (by simp only [List.length_append, List.length_cons, List.length_nil]; omega)).head
  · simp only [List.length_append, List.length_cons, List.length_nil]

theorem Runs.castPos {ω : Nat → Val} {P : Prog} {p q p' q' : Nat} {σ σ' : SState}
    (h : Runs ω P (p, σ) (q, σ')) (hp : p = p') (hq : q = q') : Runs ω P (p', σ) (q', σ') := hp ▸ hq ▸ h


section
variable (ω : Nat → Val) (P : Prog) (fb : SStmt) (R : Nat → Nat → Prop) (V : Prop)

def Silent (q q' : Nat) : Prop := ∀ σ, Runs ω P (q, σ) (q', σ)

variable {ω P}
theorem Silent.trans {a b c : Nat} (h1 : Silent ω P a b) (h2 : Silent ω P b c) : Silent ω P a c :=
  fun σ => (h1 σ).trans (h2 σ)

theorem Silent.jmp {p q : Nat} {l : Lbl} (h : P[p]? = some (.jmp l)) (hl : findLabel P l = some q) : Silent ω P p q :=
  fun _ => Runs.jmp h hl
variable (ω P)

/-- what the simulation needs to know about an annotated statement in the context of its
    enclosing constructs (`b`/`ct` = their break / continue labels) -/
def Good (b ct : Option Nat) (st : Stmt) : Prop :=
  Bound b ct st ∧ GotoR R V st ∧ okStmt fb (erase st) = true

/-- `MatchK k q b ct`: started at `q`, the code does what the continuation `k` says; `b`/`ct` are the
    break / continue labels of the innermost loop-or-switch / loop among the frames of `k` -/
inductive MatchK : Cont → Nat → Option Nat → Option Nat → Prop where
  | silent {q q' : Nat} {k : Cont} {b ct : Option Nat} : Silent ω P q q' → MatchK k q' b ct → MatchK k q b ct
  | stop {q : Nat} : P[q]? = some (.label .ret) → MatchK .stop q none none
  | seq {q c : Nat} {st : Stmt} {s : SStmt} {k : Cont} {b ct : Option Nat} :
      erase st = s → CodeAt P q (genStmt st c).1 → Good fb R V b ct st →
      MatchK k (q + (genStmt st c).1.length) b ct → MatchK (.seq s k) q b ct
  | forK {p0 c0 : Nat} {cnd inc : Option Nat} {brk cont : Nat} {bodyT : Stmt} {body : SStmt} {k : Cont} {b ct : Option Nat} :
      erase bodyT = body → CodeAt P p0 (genStmt (.for_ none cnd inc brk cont bodyT) c0).1 →
      Good fb R V (some brk) (some cont) bodyT →
      MatchK k (p0 + (genStmt (.for_ none cnd inc brk cont bodyT) c0).1.length) b ct →
      MatchK (.forK cnd inc body k) (p0 + 1 + (condCode cnd brk).length + (genStmt bodyT (c0 + 1)).1.length) (some brk) (some cont)
  | doK {p0 c0 c : Nat} {brk cont : Nat} {bodyT : Stmt} {body : SStmt} {k : Cont} {b ct : Option Nat} :
      erase bodyT = body → CodeAt P p0 (genStmt (.doWhile brk cont bodyT c) c0).1 →
      Good fb R V (some brk) (some cont) bodyT →
      MatchK k (p0 + (genStmt (.doWhile brk cont bodyT c) c0).1.length) b ct →
      MatchK (.doK body c k) (p0 + 1 + (genStmt bodyT (c0 + 1)).1.length) (some brk) (some cont)
  | swK {q brk : Nat} {k : Cont} {b ct : Option Nat} :
      P[q]? = some (.label (.u brk)) → MatchK k (q + 1) b ct → MatchK (.swK k) q (some brk) ct

/-- the code of the annotated statement `st` (generated at counter `c`) stands at `p`, and what follows it does what
    the continuation `k` says -/
structure StmtAt (st : Stmt) (c p : Nat) (k : Cont) (b ct : Option Nat) : Prop where
  code : CodeAt P p (genStmt st c).1
  good : Good fb R V b ct st
  cont : MatchK ω P fb R V k (p + (genStmt st c).1.length) b ct

def MatchS (s : SStmt) (k : Cont) (p : Nat) : Prop :=
  ∃ (st : Stmt) (c : Nat) (b ct : Option Nat), erase st = s ∧ StmtAt ω P fb R V st c p k b ct

variable {ω P fb R V}

theorem MatchK.cast {k : Cont} {q q' : Nat} {b ct : Option Nat} (h : MatchK ω P fb R V k q b ct) (e : q = q') :
    MatchK ω P fb R V k q' b ct := e ▸ h

theorem MatchK.exits {k : Cont} {q : Nat} {b ct : Option Nat} (h : MatchK ω P fb R V k q b ct) :
    (∀ t, b = some t → ∃ (k' : Cont) (q' : Nat) (b' ct' : Option Nat), breakK k = some k' ∧
      P[q']? = some (.label (.u t)) ∧ MatchK ω P fb R V k' (q' + 1) b' ct') ∧
    (∀ t, ct = some t → ∃ (k' : Cont) (q' : Nat) (b' ct' : Option Nat), contK k = some k' ∧
      P[q']? = some (.label (.u t)) ∧ MatchK ω P fb R V k' q' b' ct') := by
  induction h with
  | silent _ _ ih => exact ih
  | stop _ => exact ⟨fun t ht => (by cases ht), fun t ht => (by cases ht)⟩
  | seq _ _ _ _ ih => exact ih
  | @forK p0 c0 cnd inc brk cont bodyT body k b ct h2 h3 h5 h6 ih =>
    obtain ⟨_, _, _, hC, _, _, hB, hlen⟩ := for_layout h3
    refine ⟨fun t ht => ?_, fun t ht => ?_⟩ <;> cases ht
    · exact ⟨k, _, b, ct, rfl, hB, (hlen ▸ h6).cast (by omega)⟩
    · exact ⟨_, _, _, _, rfl, hC, .forK h2 h3 h5 h6⟩
  | @doK p0 c0 c brk cont bodyT body k b ct h2 h3 h5 h6 ih =>
    obtain ⟨_, _, hC, _, hB, hlen⟩ := do_layout h3
    refine ⟨fun t ht => ?_, fun t ht => ?_⟩ <;> cases ht
    · exact ⟨k, _, b, ct, rfl, hB, (hlen ▸ h6).cast (by omega)⟩
    · exact ⟨_, _, _, _, rfl, hC, .doK h2 h3 h5 h6⟩
  | @swK q brk k b ct h2 h3 ih =>
    exact ⟨fun t ht => by cases ht; exact ⟨k, q, b, ct, rfl, h2, h3⟩, ih.2⟩

theorem Good.bound {b ct : Option Nat} {st : Stmt} (h : Good fb R V b ct st) : Bound b ct st := h.1
theorem Good.gotoR {b ct : Option Nat} {st : Stmt} (h : Good fb R V b ct st) : GotoR R V st := h.2.1

theorem MatchK.break_ {k : Cont} {q : Nat} {b ct : Option Nat} (h : MatchK ω P fb R V k q b ct) {t : Nat} (ht : b = some t) :
    ∃ (k' : Cont) (q' : Nat) (b' ct' : Option Nat), breakK k = some k' ∧
      P[q']? = some (.label (.u t)) ∧ MatchK ω P fb R V k' (q' + 1) b' ct' := h.exits.1 t ht

theorem MatchK.continue_ {k : Cont} {q : Nat} {b ct : Option Nat} (h : MatchK ω P fb R V k q b ct) {t : Nat} (ht : ct = some t) :
    ∃ (k' : Cont) (q' : Nat) (b' ct' : Option Nat), contK k = some k' ∧
      P[q']? = some (.label (.u t)) ∧ MatchK ω P fb R V k' q' b' ct' := h.exits.2 t ht

/-- a loop passes its own break / continue labels to its body: `Bound`, `GotoR` and `okStmt ∘ erase` each unfold that way -/
theorem Good.for_ {b ct i cnd inc : Option Nat} {brk cont : Nat} {body : Stmt} :
    Good fb R V b ct (.for_ i cnd inc brk cont body) ↔ Good fb R V (some brk) (some cont) body := Iff.rfl

theorem Good.doWhile {b ct : Option Nat} {c brk cont : Nat} {body : Stmt} :
    Good fb R V b ct (.doWhile brk cont body c) ↔ Good fb R V (some brk) (some cont) body := Iff.rfl

theorem Good.seq {b ct : Option Nat} {x y : Stmt} (h : Good fb R V b ct (.seq x y)) :
    Good fb R V b ct x ∧ Good fb R V b ct y := by
  obtain ⟨h1, h2, h3⟩ := h
  simp only [erase, okStmt, Bool.and_eq_true] at h3
  exact ⟨⟨h1.1, h2.1, h3.1⟩, ⟨h1.2, h2.2, h3.2⟩⟩

theorem Good.ifte {b ct : Option Nat} {c : Nat} {x y : Stmt} (h : Good fb R V b ct (.ifte c x y)) :
    Good fb R V b ct x ∧ Good fb R V b ct y := by
  obtain ⟨h1, h2, h3⟩ := h
  simp only [erase, okStmt, Bool.and_eq_true] at h3
  exact ⟨⟨h1.1, h2.1, h3.1⟩, ⟨h1.2, h2.2, h3.2⟩⟩

theorem Good.switch_ {b ct : Option Nat} {w u : Bool} {k : Nat} {cs : List CaseEnt} {d : Option Nat} {brk : Nat} {body : Stmt}
    (h : Good fb R V b ct (.switch_ w u k cs d brk body)) : Good fb R V (some brk) ct body := by
  obtain ⟨h1, h2, h3⟩ := h
  simp only [erase, okStmt, Bool.and_eq_true] at h3
  exact ⟨h1.1, h2, h3.2⟩

/-! from a statement to its parts: where the code of a part stands, with the continuation `Spec.Ctl.find` and
`Spec.Ctl.step` give the part -/

namespace StmtAt
variable {c p : Nat} {k : Cont} {b ct : Option Nat} {x y body : Stmt}

theorem block (h : StmtAt ω P fb R V (.block x) c p k b ct) : StmtAt ω P fb R V x c p k b ct := ⟨h.code, h.good, h.cont⟩

theorem seq (h : StmtAt ω P fb R V (.seq x y) c p k b ct) :
    StmtAt ω P fb R V x c p (.seq (erase y) k) b ct ∧ StmtAt ω P fb R V y (genStmt x c).2 (p + (genStmt x c).1.length) k b ct := by
  obtain ⟨hcode, hg, hk⟩ := h
  simp only [genStmt, List.length_append, ← Nat.add_assoc] at hcode hk
  exact ⟨⟨hcode.left, hg.seq.1, .seq rfl hcode.right hg.seq.2 hk⟩, hcode.right, hg.seq.2, hk⟩

/-- the end of the `then` branch jumps over the `else` branch -/
theorem ifte {cnd : Nat} (hu : UniqueLabels P) (h : StmtAt ω P fb R V (.ifte cnd x y) c p k b ct) :
    StmtAt ω P fb R V x (c + 1) (p + 3) k b ct ∧
    StmtAt ω P fb R V y (genStmt x (c + 1)).2 (p + 3 + (genStmt x (c + 1)).1.length + 2) k b ct := by
  obtain ⟨hcode, hg, hk⟩ := h
  obtain ⟨_, hX, hJ, _, hY, hEnd, hlen⟩ := if_layout hcode
  rw [hlen] at hk
  have hTail : Silent ω P (p + 3 + (genStmt x (c + 1)).1.length + 2 + (genStmt y (genStmt x (c + 1)).2).1.length)
      (p + (3 + (genStmt x (c + 1)).1.length + 2 + (genStmt y (genStmt x (c + 1)).2).1.length + 1)) :=
    fun _ => (Runs.label hEnd).castPos rfl (by omega)
  exact ⟨⟨hX, hg.ifte.1, .silent ((Silent.jmp hJ (findLabel_of_unique hu hEnd)).trans hTail) hk⟩, hY, hg.ifte.2, .silent hTail hk⟩

theorem for_init {i : Nat} {cnd inc : Option Nat} {brk cont : Nat} (h : StmtAt ω P fb R V (.for_ (some i) cnd inc brk cont body) c p k b ct) :
    StmtAt ω P fb R V (.for_ none cnd inc brk cont body) c (p + 1) k b ct := by
  obtain ⟨hcode, hg, hk⟩ := h
  rw [gen_for_some] at hcode hk
  exact ⟨hcode.right, hg, hk.cast (by simp only [List.length_append, List.length_singleton]; omega)⟩

theorem for_body {cnd inc : Option Nat} {brk cont : Nat} (h : StmtAt ω P fb R V (.for_ none cnd inc brk cont body) c p k b ct) :
    StmtAt ω P fb R V body (c + 1) (p + 1 + (condCode cnd brk).length) (.forK cnd inc (erase body) k) (some brk) (some cont) := by
  obtain ⟨_, _, hBody, _⟩ := for_layout h.code
  exact ⟨hBody, Good.for_.1 h.good, .forK rfl h.code (Good.for_.1 h.good) h.cont⟩

theorem do_body {cnd brk cont : Nat} (h : StmtAt ω P fb R V (.doWhile brk cont body cnd) c p k b ct) :
    StmtAt ω P fb R V body (c + 1) (p + 1) (.doK (erase body) cnd k) (some brk) (some cont) := by
  obtain ⟨_, hBody, _⟩ := do_layout h.code
  exact ⟨hBody, Good.doWhile.1 h.good, .doK rfl h.code (Good.doWhile.1 h.good) h.cont⟩

theorem switch_body {w u : Bool} {key : Nat} {cs : List CaseEnt} {d : Option Nat} {brk : Nat}
    (h : StmtAt ω P fb R V (.switch_ w u key cs d brk body) c p k b ct) :
    StmtAt ω P fb R V body c (p + (1 + (ladder w cs d brk).length)) (.swK k) (some brk) ct := by
  obtain ⟨hcode, hg, hk⟩ := h
  obtain ⟨_, hX, hB, hlen⟩ := switch_layout hcode
  exact ⟨hX, hg.switch_, .swK hB ((hlen ▸ hk).cast (by omega))⟩

/-- `case` / `default` / a named label: the definition of the label, then the statement -/
theorem labelled {st : Stmt} {l : Nat} (h : StmtAt ω P fb R V st c p k b ct)
    (e : genStmt st c = (.label (.u l) :: (genStmt x c).1, (genStmt x c).2)) (g : Good fb R V b ct st → Good fb R V b ct x) :
    P[p]? = some (.label (.u l)) ∧ StmtAt ω P fb R V x c (p + 1) k b ct := by
  obtain ⟨hcode, hg, hk⟩ := h
  rw [e] at hcode hk
  exact ⟨hcode.head, hcode.tail, g hg, hk.cast (by simp only [List.length_cons]; omega)⟩

end StmtAt

end

end ChibiVerif.Ctl
