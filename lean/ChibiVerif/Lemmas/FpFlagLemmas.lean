/-
Flag lemmas for C02: the `setcc` / `jcc` combinations chibicc prints after `ucomis*` / `fcomip` / `cmp_zero`, evaluated
with the flag semantics of Model/X86 on the (ZF, PF, CF) triple the compare instruction leaves for each of the four
relation outcomes (`Rel.flags`, Intel SDM).  All lemmas are for every start state.
-/
import ChibiVerif.Lemmas.FpStepLemmas
import ChibiVerif.Lemmas.FpVocabulary

namespace ChibiVerif.Fp
open ChibiVerif.Asm ChibiVerif.X86 ChibiVerif.Spec.Fpu ChibiVerif.FpCodegen ChibiVerif.Spec.FpC11 ChibiVerif.Gen.CommonType

/-- the low byte written by `setcc`/`and`/`or`/`xor` on `%al`/`%dl` is what is read back -/
theorem low8_write (r : BitVec 64) (b : BitVec 8) :
    (BitVec.ofNat 64 (r.toNat / 256 * 256 + b.toNat)).setWidth 8 = b :=
  BitVec.setWidth_ofNat_low (n := 64) (m := 8) (by decide) (r.toNat / 256) b

/-- the `setcc` lines of a comparison, whatever follows them: after `ucomis*` / `fcomip` left the flags of relation `r`
    (= rhs ? lhs) they leave the C11 value of `lhs OP rhs` in %al, as 0 or 1 -/
theorem setcc_run (F : FpuSpec) (op : FOp) (hop : op.isCmp = true) (r : Rel) (s : FState) (tl : List Line) :
    ∃ x' : State, run F (instrsOf (setccLines op ++ tl)) (s.setRel r) = run F (instrsOf tl) { s with x := x' } ∧
      x'.getW .rax .w8 = if op.cmpOp.holds r.swap then 1#8 else 0#8 := by
  cases op <;> simp only [FOp.isCmp, Bool.false_eq_true] at hop <;>
    simp only [instrsOf, setccLines, ins1, ins2, List.cons_append, List.nil_append, List.flatMap_cons, Line.instrs, fp_step] <;>
    cases r <;> simp only [fp_step, Rel.flags] <;> refine ⟨_, rfl, ?_⟩ <;> simp only [fp_step] <;> decide

/-- **SSE path**: `and $1, %al` and `movzb %al, %rax` widen that to %rax -/
theorem sse_tail (F : FpuSpec) (op : FOp) (hop : op.isCmp = true) (r : Rel) (s : FState) :
    ∃ s', run F (instrsOf (setccLines op ++ [ins2 "and" (.i 1) (.r "%al"), ins2 "movzb" (.r "%al") (.r "%rax")]))
        (s.setRel r) = some s' ∧
      s'.x.get .rax = b2bv (op.cmpOp.holds r.swap) := by
  obtain ⟨x', hrun, hal⟩ := setcc_run F op hop r s [ins2 "and" (.i 1) (.r "%al"), ins2 "movzb" (.r "%al") (.r "%rax")]
  rw [hrun]
  simp only [instrsOf, ins2, List.flatMap_cons, List.flatMap_nil, Line.instrs, List.cons_append, List.nil_append, fp_step, hal]
  cases op.cmpOp.holds r.swap <;> rfl

/-- **x87 path**: the same after `fcomip; fstp %st(0)` (no `and $1`) -/
theorem x87_tail (F : FpuSpec) (op : FOp) (hop : op.isCmp = true) (r : Rel) (s : FState) :
    ∃ s', run F (instrsOf (setccLines op ++ [ins2 "movzb" (.r "%al") (.r "%rax")])) (s.setRel r) = some s' ∧
      s'.x.get .rax = b2bv (op.cmpOp.holds r.swap) := by
  obtain ⟨x', hrun, hal⟩ := setcc_run F op hop r s [ins2 "movzb" (.r "%al") (.r "%rax")]
  rw [hrun]
  simp only [instrsOf, ins2, List.flatMap_cons, List.flatMap_nil, Line.instrs, List.cons_append, List.nil_append, fp_step, hal]
  cases op.cmpOp.holds r.swap <;> rfl

/-! ### truth tests: `cmp_zero` leaves the flags of `e ? 0` (SSE) or `0 ? e` (x87); its tail
    `sete %al; setnp %dl; and %dl, %al; xor $1, %al` turns them into ZF = "ordered and equal" -/

/-- the tail, whatever follows it: the flags are defined and ZF is set exactly when `e` is false (ordered and equal to zero) -/
theorem cmpZeroTail_run (F : FpuSpec) (r : Rel) (s : FState) (tl : List Line) :
    ∃ x' : State, run F (instrsOf (cmpZeroTail ++ tl)) (s.setRel r) = run F (instrsOf tl) { s with x := x' } ∧
      x'.flagsValid = true ∧ x'.zf = !truth r ∧ x'.get .rsp = s.x.get .rsp := by
  cases r <;>
    simp only [instrsOf, cmpZeroTail, ins1, ins2, List.cons_append, List.nil_append, List.flatMap_cons, Line.instrs, fp_step,
      Rel.flags] <;>
    refine ⟨_, rfl, ?_⟩ <;> simp only [fp_step] <;> decide

/-- `!e`: `cmp_zero` tail, `sete %al; movzx %al, %rax` -/
theorem truth_not (F : FpuSpec) (r : Rel) (s : FState) :
    ∃ s', run F (instrsOf (cmpZeroTail ++ [ins1 "sete" (.r "%al"), ins2 "movzx" (.r "%al") (.r "%rax")]))
        (s.setRel r) = some s' ∧
      s'.x.get .rax = b2bv (!truth r) ∧ s'.st = s.st ∧ s'.cw = s.cw ∧ s'.x.get .rsp = s.x.get .rsp := by
  obtain ⟨x', hrun, hfv, hzf, hrsp⟩ := cmpZeroTail_run F r s [ins1 "sete" (.r "%al"), ins2 "movzx" (.r "%al") (.r "%rax")]
  rw [hrun]
  simp only [instrsOf, ins1, ins2, List.flatMap_cons, List.flatMap_nil, Line.instrs, List.cons_append, List.nil_append, fp_step, hfv,
    State.cond, hzf, hrsp]
  cases truth r <;> rfl

/-- `(_Bool)e`: `cmp_zero` tail, `setne %al; movzx %al, %eax` -/
theorem truth_bool (F : FpuSpec) (r : Rel) (s : FState) :
    ∃ s', run F (instrsOf (cmpZeroTail ++ [ins1 "setne" (.r "%al"), ins2 "movzx" (.r "%al") (.r "%eax")]))
        (s.setRel r) = some s' ∧
      s'.x.get .rax = b2bv (truth r) ∧ s'.st = s.st ∧ s'.cw = s.cw ∧ s'.x.get .rsp = s.x.get .rsp := by
  obtain ⟨x', hrun, hfv, hzf, hrsp⟩ := cmpZeroTail_run F r s [ins1 "setne" (.r "%al"), ins2 "movzx" (.r "%al") (.r "%eax")]
  rw [hrun]
  simp only [instrsOf, ins1, ins2, List.flatMap_cons, List.flatMap_nil, Line.instrs, List.cons_append, List.nil_append, fp_step, hfv,
    State.cond, hzf, hrsp]
  cases truth r <;> rfl

/-- the branches: `je` is taken iff `e` is false and `jne` iff `e` is true (a NaN is true) -/
theorem truth_jcc (F : FpuSpec) (r : Rel) (s : FState) (l : String) :
    ∃ s', run F (instrsOf cmpZeroTail) (s.setRel r) = some s' ∧
      jumpOf ⟨"je", [.s l]⟩ s' = some (true, !truth r, l) ∧
      jumpOf ⟨"jne", [.s l]⟩ s' = some (true, truth r, l) ∧
      s'.x.flagsValid = true ∧ s'.xmm0 = s.xmm0 ∧ s'.xmm1 = s.xmm1 ∧ s'.st = s.st ∧ s'.cw = s.cw ∧
      s'.x.get .rsp = s.x.get .rsp := by
  obtain ⟨x', hrun, hfv, hzf, hrsp⟩ := cmpZeroTail_run F r s []
  rw [List.append_nil] at hrun
  exact ⟨_, hrun, by rw [jumpOf_je, hzf], by rw [jumpOf_jne, hzf, Bool.not_not], hfv, rfl, rfl, rfl, rfl, hrsp⟩

/-- `cmp_zero(ty)`: the compare with zero leaves the flags of `e ? 0` (SSE) / `0 ? e` (x87); whatever follows it in the
    instruction list (the `setcc` tail and its consumers) runs from there -/
theorem cmpZero_f32 (F : FpuSpec) (tl : List Line) (s : FState) :
    run F (instrsOf (cmpZero ty_float ++ tl)) s =
      run F (instrsOf (cmpZeroTail ++ tl)) ({ s with xmm1 := 0#64 }.setRel (F.ucomiss (s.xmm0.setWidth 32) 0#32)) := by
  obtain ⟨x, xmm0, xmm1, st, cw⟩ := s
  show run F (⟨"xorps", [.r "%xmm1", .r "%xmm1"]⟩ :: ⟨"ucomiss", [.r "%xmm1", .r "%xmm0"]⟩ :: instrsOf (cmpZeroTail ++ tl)) _ = _
  simp only [run]
  rw [runFrom_step F _ _ _ _ rfl rfl rfl, runFrom_step F _ _ _ _ rfl rfl rfl]
  show runFrom F _ none (FState.setRel ⟨x, xmm0, xmm1 ^^^ xmm1, st, cw⟩
    (F.ucomiss (xmm0.setWidth 32) ((xmm1 ^^^ xmm1).setWidth 32))) = _
  rw [BitVec.xor_self, BitVec.setWidth_zero]

theorem cmpZero_f64 (F : FpuSpec) (tl : List Line) (s : FState) :
    run F (instrsOf (cmpZero ty_double ++ tl)) s =
      run F (instrsOf (cmpZeroTail ++ tl)) ({ s with xmm1 := 0#64 }.setRel (F.ucomisd s.xmm0 0#64)) := by
  obtain ⟨x, xmm0, xmm1, st, cw⟩ := s
  show run F (⟨"xorpd", [.r "%xmm1", .r "%xmm1"]⟩ :: ⟨"ucomisd", [.r "%xmm1", .r "%xmm0"]⟩ :: instrsOf (cmpZeroTail ++ tl)) _ = _
  simp only [run]
  rw [runFrom_step F _ _ _ _ rfl rfl rfl, runFrom_step F _ _ _ _ rfl rfl rfl]
  show runFrom F _ none (FState.setRel ⟨x, xmm0, xmm1 ^^^ xmm1, st, cw⟩ (F.ucomisd xmm0 (xmm1 ^^^ xmm1))) = _
  rw [BitVec.xor_self]

theorem cmpZero_f80 (F : FpuSpec) (tl : List Line) (s : FState) (b : BitVec 80) (rest : List (BitVec 80))
    (h : s.st = b :: rest) :
    run F (instrsOf (cmpZero ty_ldouble ++ tl)) s =
      run F (instrsOf (cmpZeroTail ++ tl)) ({ s with st := rest }.setRel (F.fcomi F.fldz b)) := by
  obtain ⟨x, xmm0, xmm1, st, cw⟩ := s
  subst h
  show run F (⟨"fldz", []⟩ :: ⟨"fucomip", []⟩ :: ⟨"fstp", [.r "%st(0)"]⟩ :: instrsOf (cmpZeroTail ++ tl)) _ = _
  simp only [run]
  rw [runFrom_step F _ _ _ _ rfl rfl rfl, runFrom_step F _ _ _ _ rfl rfl rfl, runFrom_step F _ _ _ _ rfl rfl rfl]
  rfl

end ChibiVerif.Fp
