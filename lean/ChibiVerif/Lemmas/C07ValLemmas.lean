/- Pure facts about `Spec.Fpu.Val` (what a floating datum denotes), for C02 and the floating half of C07.  Two finite values are
   compared, and the integral part of one is taken, at any common exponent below both (`cmpAt`, `cmpAt_lower`, `magTrunc_sc`):
   from this, comparison with a zero and with exchanged operands, and that two spellings m·2^e of one number (`Val.same`) have
   the same integral part, the same zero-ness and compare alike; an integer-valued datum is zero iff its integer is.
   The lemmas are declared in the specification's namespaces `ChibiVerif.Spec.Fpu.Val` / `ChibiVerif.Spec.Fpu`. -/
import ChibiVerif.Spec.FpuSpec

namespace ChibiVerif.Spec.Fpu
namespace Val

/-- m·2^(e−E) for E ≤ e -/
def sc (m : Nat) (e E : Int) : Nat := m * 2 ^ (e - E).toNat

theorem scaled_false (m : Nat) (e E : Int) : scaled false m e E = (sc m e E : Int) := by simp [scaled, sc]
theorem scaled_true (m : Nat) (e E : Int) : scaled true m e E = -(sc m e E : Int) := by simp [scaled, sc]

theorem sc_lower (m : Nat) (e E E' : Int) (h1 : E ≤ E') (h2 : E' ≤ e) : sc m e E = sc m e E' * 2 ^ (E' - E).toNat := by
  unfold sc
  rw [Nat.mul_assoc, ← Nat.pow_add]
  congr 2
  omega

theorem scaled_lower (n : Bool) (m : Nat) (e E E' : Int) (h1 : E ≤ E') (h2 : E' ≤ e) :
    scaled n m e E = scaled n m e E' * ((2 ^ (E' - E).toNat : Nat) : Int) := by
  cases n
  · rw [scaled_false, scaled_false, sc_lower m e E E' h1 h2]; simp
  · rw [scaled_true, scaled_true, sc_lower m e E E' h1 h2]; simp [Int.neg_mul]

/-- comparison of two finite values at a common exponent `E` below both -/
def cmpAt (E : Int) (n1 : Bool) (m1 : Nat) (e1 : Int) (n2 : Bool) (m2 : Nat) (e2 : Int) : Rel :=
  let a := scaled n1 m1 e1 E
  let b := scaled n2 m2 e2 E
  if a < b then .lt else if a = b then .eq else .gt

theorem cmp_fin (n1 : Bool) (m1 : Nat) (e1 : Int) (n2 : Bool) (m2 : Nat) (e2 : Int) :
    cmp (.fin n1 m1 e1) (.fin n2 m2 e2) = cmpAt (min e1 e2) n1 m1 e1 n2 m2 e2 := rfl

theorem cmpAt_lower (E E' : Int) (n1 : Bool) (m1 : Nat) (e1 : Int) (n2 : Bool) (m2 : Nat) (e2 : Int)
    (h : E ≤ E') (h1 : E' ≤ e1) (h2 : E' ≤ e2) : cmpAt E n1 m1 e1 n2 m2 e2 = cmpAt E' n1 m1 e1 n2 m2 e2 := by
  unfold cmpAt
  simp only
  rw [scaled_lower n1 m1 e1 E E' h h1, scaled_lower n2 m2 e2 E E' h h2]
  have hc : (0 : Int) < ((2 ^ (E' - E).toNat : Nat) : Int) := by
    have := Nat.two_pow_pos (E' - E).toNat
    omega
  simp only [Int.mul_lt_mul_right hc, Int.mul_eq_mul_right_iff (Int.ne_of_gt hc)]

/-- below: the first branch of `cmpAt`; otherwise the answer is `eq` or `gt` -/
theorem cmpAt_lt_iff (E : Int) (n1 : Bool) (m1 : Nat) (e1 : Int) (n2 : Bool) (m2 : Nat) (e2 : Int) :
    cmpAt E n1 m1 e1 n2 m2 e2 = .lt ↔ scaled n1 m1 e1 E < scaled n2 m2 e2 E := by
  unfold cmpAt
  simp only
  by_cases hlt : scaled n1 m1 e1 E < scaled n2 m2 e2 E
  · rw [if_pos hlt]
    exact ⟨fun _ => hlt, fun _ => rfl⟩
  · rw [if_neg hlt]
    refine ⟨fun h => ?_, fun h => absurd h hlt⟩
    split at h <;> cases h

theorem cmpAt_eq_iff (E : Int) (n1 : Bool) (m1 : Nat) (e1 : Int) (n2 : Bool) (m2 : Nat) (e2 : Int) :
    cmpAt E n1 m1 e1 n2 m2 e2 = .eq ↔ scaled n1 m1 e1 E = scaled n2 m2 e2 E := by
  unfold cmpAt
  simp only
  by_cases hlt : scaled n1 m1 e1 E < scaled n2 m2 e2 E
  · rw [if_pos hlt]
    exact ⟨fun h => (nomatch h), fun h => absurd h (Int.ne_of_lt hlt)⟩
  · rw [if_neg hlt]
    by_cases heq : scaled n1 m1 e1 E = scaled n2 m2 e2 E
    · rw [if_pos heq]
      exact ⟨fun _ => heq, fun _ => rfl⟩
    · rw [if_neg heq]
      exact ⟨fun h => (nomatch h), fun h => absurd h heq⟩

/-- two finite values are ordered: each of the three branches of `cmpAt` is `lt`, `eq` or `gt` -/
theorem cmpAt_ne_un (E : Int) (n1 : Bool) (m1 : Nat) (e1 : Int) (n2 : Bool) (m2 : Nat) (e2 : Int) :
    cmpAt E n1 m1 e1 n2 m2 e2 ≠ .un := by
  unfold cmpAt
  simp only
  split
  · decide
  · split <;> decide

theorem scaled_zero (neg : Bool) (e e0 : Int) : scaled neg 0 e e0 = 0 := by
  simp [scaled]

theorem scaled_eq_zero (n : Bool) (m : Nat) (e E : Int) : scaled n m e E = 0 ↔ m = 0 := by
  have h : sc m e E = 0 ↔ m = 0 := by
    have := Nat.two_pow_pos (e - E).toNat
    unfold sc; rw [Nat.mul_eq_zero]; omega
  cases n
  · rw [scaled_false]; omega
  · rw [scaled_true]; omega

theorem same_sc {n1 n2 : Bool} {m1 m2 : Nat} {e1 e2 : Int} (h : same (.fin n1 m1 e1) (.fin n2 m2 e2) = true) (E : Int)
    (h1 : E ≤ e1) (h2 : E ≤ e2) : n1 = n2 ∧ sc m1 e1 E = sc m2 e2 E := by
  simp only [same, Bool.and_eq_true, beq_iff_eq] at h
  refine ⟨h.1, ?_⟩
  have hs := h.2
  rw [scaled_false, scaled_false] at hs
  have hs : sc m1 e1 (min e1 e2) = sc m2 e2 (min e1 e2) := by exact_mod_cast hs
  rw [sc_lower m1 e1 E (min e1 e2) (by omega) (by omega), sc_lower m2 e2 E (min e1 e2) (by omega) (by omega), hs]

theorem same_scaled {n1 n2 : Bool} {m1 m2 : Nat} {e1 e2 : Int} (h : same (.fin n1 m1 e1) (.fin n2 m2 e2) = true) (E : Int)
    (h1 : E ≤ e1) (h2 : E ≤ e2) : scaled n1 m1 e1 E = scaled n2 m2 e2 E := by
  obtain ⟨hn, hs⟩ := same_sc h E h1 h2
  subst hn
  cases n1
  · rw [scaled_false, scaled_false, hs]
  · rw [scaled_true, scaled_true, hs]

theorem cmp_same_left {a a' : Val} (h : same a a' = true) (b : Val) : cmp a b = cmp a' b := by
  cases a with
  | nan => cases a' <;> simp_all [same, cmp]
  | inf s =>
    cases a' with
    | inf s' => simp only [same, beq_iff_eq] at h; subst h; rfl
    | _ => simp [same] at h
  | fin n1 m1 e1 =>
    cases a' with
    | fin n2 m2 e2 =>
      cases b with
      | nan => rfl
      | inf t => rfl
      | fin n3 m3 e3 =>
        rw [cmp_fin, cmp_fin]
        rw [← cmpAt_lower (min (min e1 e2) e3) (min e1 e3) _ _ _ _ _ _ (by omega) (by omega) (by omega)]
        rw [← cmpAt_lower (min (min e1 e2) e3) (min e2 e3) _ _ _ _ _ _ (by omega) (by omega) (by omega)]
        unfold cmpAt
        rw [same_scaled h (min (min e1 e2) e3) (by omega) (by omega)]
    | _ => simp [same] at h

theorem same_refl (v : Val) : same v v = true := by
  cases v <;> simp [same]

theorem same_symm {a b : Val} (h : same a b = true) : same b a = true := by
  cases a with
  | nan => cases b <;> simp_all [same]
  | inf s => cases b <;> simp_all [same]
  | fin n1 m1 e1 =>
    cases b with
    | fin n2 m2 e2 =>
      simp only [same, Bool.and_eq_true, beq_iff_eq] at h ⊢
      refine ⟨h.1.symm, ?_⟩
      rw [Int.min_comm e2 e1]; exact h.2.symm
    | _ => simp [same] at h

theorem same_isZero {a b : Val} (h : same a b = true) : a.isZero = b.isZero := by
  cases a with
  | fin n1 m1 e1 =>
    cases b with
    | fin n2 m2 e2 =>
      have hs := (same_sc h (min e1 e2) (by omega) (by omega)).2
      unfold sc at hs
      have p1 := Nat.two_pow_pos (e1 - min e1 e2).toNat
      have p2 := Nat.two_pow_pos (e2 - min e1 e2).toNat
      have hz : m1 = 0 ↔ m2 = 0 := by
        constructor <;> intro h0 <;> subst h0 <;> rw [Nat.zero_mul] at hs
        · exact (Nat.mul_eq_zero.1 hs.symm).resolve_right (by omega)
        · exact (Nat.mul_eq_zero.1 hs).resolve_right (by omega)
      cases m1 <;> cases m2 <;> first | rfl | (exfalso; omega)
    | _ => simp [same] at h
  | nan => cases b <;> simp_all [same, isZero]
  | inf s => cases b <;> simp_all [same, isZero]

theorem same_isNaN {a b : Val} (h : same a b = true) : a.isNaN = b.isNaN := by
  cases a <;> cases b <;> simp_all [same, isNaN]

theorem magTrunc_sc (m : Nat) (e E : Int) (h1 : E ≤ e) (h2 : E ≤ 0) : magTrunc m e = sc m e E / 2 ^ (-E).toNat := by
  unfold magTrunc sc
  split
  · rename_i he
    have : (e - E).toNat = e.toNat + (-E).toNat := by omega
    rw [this, Nat.pow_add, ← Nat.mul_assoc, Nat.mul_div_cancel _ (Nat.two_pow_pos _)]
  · rename_i he
    have : (-E).toNat = (e - E).toNat + (-e).toNat := by omega
    rw [this, Nat.pow_add, Nat.mul_comm m, Nat.mul_div_mul_left _ _ (Nat.two_pow_pos _)]

theorem same_trunc {a b : Val} (h : same a b = true) : a.trunc? = b.trunc? := by
  cases a with
  | fin n1 m1 e1 =>
    cases b with
    | fin n2 m2 e2 =>
      obtain ⟨hn, hs⟩ := same_sc h (min (min e1 e2) 0) (by omega) (by omega)
      subst hn
      simp only [trunc?]
      rw [magTrunc_sc m1 e1 (min (min e1 e2) 0) (by omega) (by omega),
          magTrunc_sc m2 e2 (min (min e1 e2) 0) (by omega) (by omega), hs]
    | _ => simp [same] at h
  | nan => cases b <;> simp_all [same, trunc?]
  | inf s => cases b <;> simp_all [same, trunc?]

theorem toInt_zero_iff {v : Val} {k : Int} (h : v.toInt? = some k) : (v.isZero = true ↔ k = 0) ∧ v.isNaN = false := by
  cases v with
  | fin n m e =>
    refine ⟨?_, rfl⟩
    simp only [toInt?] at h
    split at h
    · rename_i hc
      cases h
      constructor
      · intro hz
        have : m = 0 := by cases m <;> simp_all [isZero]
        subst this
        simp [magTrunc]
      · intro hk
        have hm : magTrunc m e = 0 := by
          cases n <;> simp at hk <;> omega
        unfold magTrunc at hm
        have hm0 : m = 0 := by
          split at hm
          · have := Nat.two_pow_pos e.toNat
            rcases Nat.mul_eq_zero.1 hm with h | h
            · exact h
            · omega
          · rename_i he
            rcases hc with hc | hc
            · omega
            · have := Nat.div_add_mod m (2 ^ (-e).toNat)
              rw [hm, hc] at this
              simpa using this.symm
        subst hm0; rfl
    · cases h
  | nan => simp [toInt?] at h
  | inf s => simp [toInt?] at h

theorem toInt_zero_form {v : Val} (h : v.toInt? = some 0) : ∃ n e, v = .fin n 0 e := by
  have hz := (toInt_zero_iff h).1.2 rfl
  cases v with
  | fin n m e => cases m with
    | zero => exact ⟨n, e, rfl⟩
    | succ k => simp [isZero] at hz
  | nan => simp [toInt?] at h
  | inf s => simp [toInt?] at h

/-- a datum that denotes an integer has that integer as its integral part -/
theorem toInt_trunc {v : Val} {k : Int} (h : v.toInt? = some k) : v.trunc? = some k := by
  cases v with
  | fin n m e =>
    simp only [toInt?] at h
    split at h
    · exact h
    · cases h
  | nan => simp [toInt?] at h
  | inf s => simp [toInt?] at h

end Val

/-! Comparison with a zero, with exchanged operands, and of two spellings of the operands (statements written with qualified
    names, outside the namespace). -/

/-- comparing with a zero: equal exactly for the two zeros; NaN is unordered -/
theorem Val.cmp_zero_eq (v : Val) (n : Bool) (e : Int) : (Val.cmp v (.fin n 0 e) = .eq) = (v.isZero = true) := by
  cases v with
  | nan => simp [Val.cmp, Val.isZero]
  | inf s => cases s <;> simp [Val.cmp, Val.isZero]
  | fin s m e1 =>
    rw [Val.cmp_fin, Val.cmpAt_eq_iff, Val.scaled_zero, Val.scaled_eq_zero]
    cases m <;> simp [Val.isZero]

theorem Val.cmp_zero_un (v : Val) (n : Bool) (e : Int) : (Val.cmp v (.fin n 0 e) = .un) = (v.isNaN = true) := by
  cases v with
  | nan => simp [Val.cmp, Val.isNaN]
  | inf s => cases s <;> simp [Val.cmp, Val.isNaN]
  | fin s m e1 => simp [Val.cmp_fin, Val.cmpAt_ne_un, Val.isNaN]

/-- exchanging the operands of a comparison exchanges `<` and `>` -/
theorem Val.cmp_swap (a b : Val) : Val.cmp a b = (Val.cmp b a).swap := by
  cases a with
  | nan => cases b <;> simp [Val.cmp, Rel.swap]
  | inf s =>
    cases b with
    | nan => simp [Val.cmp, Rel.swap]
    | inf t => cases s <;> cases t <;> simp [Val.cmp, Rel.swap]
    | fin t m e => cases s <;> simp [Val.cmp, Rel.swap]
  | fin s m e =>
    cases b with
    | nan => simp [Val.cmp, Rel.swap]
    | inf t => cases t <;> simp [Val.cmp, Rel.swap]
    | fin t m2 e2 =>
      simp only [Val.cmp]
      rw [Int.min_comm e2 e]
      generalize Val.scaled s m e (min e e2) = x
      generalize Val.scaled t m2 e2 (min e e2) = y
      by_cases h1 : x < y
      · have h2 : ¬ y < x := by omega
        have h3 : ¬ y = x := by omega
        simp [h1, h2, h3, Rel.swap]
      · by_cases h4 : x = y
        · subst h4; simp [Rel.swap]
        · have h5 : y < x := by omega
          simp [h1, h4, h5, Rel.swap]

theorem Val.cmp_zero_left_eq (v : Val) (n : Bool) (e : Int) : (Val.cmp (.fin n 0 e) v = .eq) = (v.isZero = true) := by
  rw [Val.cmp_swap, ← Val.cmp_zero_eq v n e]
  cases Val.cmp v (.fin n 0 e) <;> simp [Rel.swap]

theorem Val.cmp_same {a a' b b' : Val} (ha : Val.same a a' = true) (hb : Val.same b b' = true) : Val.cmp a b = Val.cmp a' b' := by
  rw [Val.cmp_same_left ha b, Val.cmp_swap a' b, Val.cmp_same_left hb a', ← Val.cmp_swap]

end ChibiVerif.Spec.Fpu
