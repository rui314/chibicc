/-
C16: lemmas about the typing arms of ND_CAS / ND_EXCH (Model/C16Typing.lean) and the bridge from the byte-exact
code-generation model (Model/Codegen.lean: `casArm`, `exchArm`, `load`, `store`) to the instruction sequences of the
interleaving model (Model/Atomics.lean: `casArmLines`, `xchgLines`, `aloadLines`, `astoreLines`).
-/
import ChibiVerif.Model.C16Typing
import ChibiVerif.Model.Codegen


namespace ChibiVerif.C16Typing
open ChibiVerif.Ast ChibiVerif.Atomics ChibiVerif.Asm ChibiVerif.Codegen
open ChibiVerif.Gen

theorem casCheck_ok {types : List Ty} {addr old : Option Ty} {ab ob : Ty}
    (h : casCheck types addr old = .ok (ab, ob)) :
    ∃ a o, addr = some a ∧ old = some o ∧ a.kind = .ptr ∧ o.kind = .ptr ∧
      baseOf types a = some ab ∧ baseOf types o = some ob ∧
      ab.size ≤ 8 ∧ isAtomicOperand ab = true ∧ isAtomicOperand ob = true ∧ ob.size = ab.size := by
  cases addr <;> cases old <;> first | cases h; done | skip
  rename_i a o
  refine ⟨a, o, rfl, rfl, ?_⟩
  unfold casCheck at h
  dsimp only at h
  by_cases h1 : a.kind = .ptr
  case neg => rw [if_pos (by simpa using h1)] at h; cases h
  by_cases h2 : o.kind = .ptr
  case neg => rw [if_neg (by simp [h1]), if_pos (by simpa using h2)] at h; cases h
  rw [if_neg (by simp [h1]), if_neg (by simp [h2])] at h
  cases hab : baseOf types a <;> rw [hab] at h <;> dsimp only at h
  case none => cases h
  rename_i ab'
  by_cases h3 : ab'.size > 8
  case pos => rw [if_pos h3] at h; cases h
  cases h4 : isAtomicOperand ab'
  case false => rw [if_neg h3, if_pos (by simp [h4])] at h; cases h
  rw [if_neg h3, if_neg (by simp [h4])] at h
  cases hob : baseOf types o <;> rw [hob] at h <;> dsimp only at h
  case none => cases h
  rename_i ob'
  cases h5 : isAtomicOperand ob'
  case false => rw [if_pos (by simp [h5])] at h; cases h
  by_cases h6 : ob'.size = ab'.size
  case neg => rw [if_neg (by simp [h5]), if_pos (by simpa using h6)] at h; cases h
  rw [if_neg (by simp [h5]), if_neg (by simp [h6])] at h
  cases h
  exact ⟨h1, h2, rfl, rfl, by omega, h4, h5, h6⟩
theorem exchCheck_ok {types : List Ty} {lhs : Option Ty} {ab : Ty} (h : exchCheck types lhs = .ok ab) :
    ∃ a, lhs = some a ∧ a.kind = .ptr ∧ baseOf types a = some ab ∧ ab.size ≤ 8 ∧ isAtomicOperand ab = true := by
  unfold exchCheck at h
  split at h
  · rename_i a
    refine ⟨a, rfl, ?_⟩
    split at h; · cases h
    split at h; · cases h
    split at h; · cases h
    split at h; · cases h
    rename_i h1 _ ab' hab h3 h4
    cases h
    simp at h1 h3 h4
    exact ⟨h1, hab, by omega, h4⟩
  · cases h

/-- the unsigned `Type` literals of type.c have the sizes of the signed ones (so `scalarSize`, which reads the
    signed literal, is the size of every object of the kind) -/
theorem scalarSize_unsigned :
    (Declspec.primInfo .uchar).1 = (Declspec.primInfo .char).1 ∧ (Declspec.primInfo .ushort).1 = (Declspec.primInfo .short).1 ∧
    (Declspec.primInfo .uint).1 = (Declspec.primInfo .int).1 ∧ (Declspec.primInfo .ulong).1 = (Declspec.primInfo .long).1 := by
  decide

/-- the scalar kinds of at most 8 bytes, each with the width type.c gives it -/
inductive Operand : TyKind → Width → Prop
  | bool : Operand .bool .w8 | char : Operand .char .w8 | short : Operand .short .w16 | int : Operand .int .w32
  | long : Operand .long .w64 | enum : Operand .enum .w32 | float : Operand .float .w32 | double : Operand .double .w64
  | ptr : Operand .ptr .w64

theorem operand_cases {b : Ty} (hop : isAtomicOperand b = true) (hwf : SizeWf b = true) (hsz : b.size ≤ 8) :
    ∃ w, Operand b.kind w ∧ b.size = (w.bytes : Int) := by
  unfold isAtomicOperand isNumeric isInteger isFlonum at hop
  unfold SizeWf scalarSize primOf at hwf
  cases hk : b.kind <;> simp [hk] at hop hwf <;>
    simp [Declspec.primInfo, Declspec.ENUM_SIZE, Declspec.PTR_SIZE] at hwf
  case bool => exact ⟨.w8, .bool, hwf⟩
  case char => exact ⟨.w8, .char, hwf⟩
  case short => exact ⟨.w16, .short, hwf⟩
  case int => exact ⟨.w32, .int, hwf⟩
  case long => exact ⟨.w64, .long, hwf⟩
  case enum => exact ⟨.w32, .enum, hwf⟩
  case float => exact ⟨.w32, .float, hwf⟩
  case double => exact ⟨.w64, .double, hwf⟩
  case ptr => exact ⟨.w64, .ptr, hwf⟩
  case ldouble => omega

theorem widthOf_bytes {b : Ty} {w : Width} (h : b.size = (w.bytes : Int)) : widthOf b = some w := by
  unfold widthOf
  rw [h]
  cases w <;> rfl

theorem bytes_inj {w w' : Width} (h : (w.bytes : Int) = w'.bytes) : w = w' := by
  cases w <;> cases w' <;> first | rfl | cases h

theorem width_of_operand {b : Ty} (hop : isAtomicOperand b = true) (hwf : SizeWf b = true) (hsz : b.size ≤ 8) :
    ∃ w, widthOf b = some w ∧ b.size = (w.bytes : Int) :=
  let ⟨w, _, hs⟩ := operand_cases hop hwf hsz
  ⟨w, widthOf_bytes hs, hs⟩

/-- the same with the width known -/
theorem operand_width {b : Ty} {w : Width} (hop : isAtomicOperand b = true) (hwf : SizeWf b = true)
    (hsz : b.size = (w.bytes : Int)) : Operand b.kind w := by
  obtain ⟨w', hkw, hs⟩ := operand_cases hop hwf (by rw [hsz]; cases w <;> decide)
  obtain rfl : w' = w := bytes_inj (hs.symm.trans hsz)
  exact hkw

theorem run_bind {α β : Type} (m : M α) (f : α → M β) (s : St) :
    (m >>= f) s = match m s with
      | .error e => .error e
      | .ok (a, s1, l1) =>
        match f a s1 with
        | .error e => .error e
        | .ok (b, s2, l2) => .ok (b, s2, l1 ++ l2) := rfl

theorem run_pure {α : Type} (a : α) (s : St) : (pure a : M α) s = .ok (a, s, []) := rfl
theorem run_emit (l : Line) (s : St) : emit l s = .ok ((), s, [l]) := rfl
theorem run_emits (ls : List Line) (s : St) : emits ls s = .ok ((), s, ls) := rfl
theorem run_addDepth (d : Int) (s : St) : addDepth d s = .ok ((), { s with depth := s.depth + d }, []) := rfl
theorem run_push (s : St) : push s = .ok ((), { s with depth := s.depth + 1 }, [pushRax]) := rfl
theorem run_pop (r : String) (s : St) : Codegen.pop r s = .ok ((), { s with depth := s.depth + -1 }, [Atomics.pop r]) := rfl
theorem run_needTy (what : String) (t : Ty) (s : St) : needTy what (some t) s = .ok (t, s, []) := rfl

theorem regAx_width (w : Width) (s : St) : Codegen.regAx (w.bytes : Int) s = .ok (Atomics.regAx w, s, []) := by
  cases w <;> rfl

theorem regDx_width (w : Width) (s : St) : Codegen.regDx (w.bytes : Int) s = .ok (Atomics.regDx w, s, []) := by
  cases w <;> rfl

theorem env_ty?_eq (env : Env) (t : Ty) : env.ty? t.base = baseOf env.types t := rfl

theorem casOld_load {ob : Ty} {w : Width} (hop : isAtomicOperand ob = true) (hwf : SizeWf ob = true)
    (hsz : ob.size = (w.bytes : Int)) (s : St) :
    (if Codegen.isFlonum ob then (do emit (ins2 "mov" (.m0 "%rax") (.r (← Codegen.regAx ob.size)))) else load (some ob)) s
      = .ok ((), s, [casOldLoadLine w (kindOf ob)]) := by
  have hkw := operand_width hop hwf hsz
  -- the `Ty` record is taken apart (all fields of `Ast.Ty`, in order) so that what `load`, `store` and the two arms print for
  -- each of the nine kinds is a computation; the same step opens `run_flonumToRax`, `casOld_flo`, `exchArm_lines`, `load_single`,
  -- `store_single`
  obtain ⟨id, kind, size, align, isUnsigned, x1, x2, x3, x4, x5, x6, x7, x8, x9, x10⟩ := ob
  cases hkw <;> cases hsz <;> cases isUnsigned <;> rfl

/-- ND_CAS: the bits of a floating desired value go to %rax (`node->cas_new->ty->kind`; `cas_new` has been cast to the
    object type); `K` is the rest of the arm -/
theorem run_flonumToRax {nt ab : Ty} {w : Width} (hnk : nt.kind = ab.kind) (hkw : Operand ab.kind w) (K : M Unit) (s : St) :
    (if nt.kind == .float then emit (ins2 "movd" (xmm 0) (.r "%eax")) >>= fun _ => K
     else if nt.kind == .double then emit (ins2 "movq" (xmm 0) rax) >>= fun _ => K else K) s =
      match K s with
      | .error e => .error e
      | .ok (x, s', l) => .ok (x, s', flonumToRax w (kindOf ab) ++ l) := by
  rw [hnk]
  obtain ⟨id, kind, size, align, isUnsigned, x1, x2, x3, x4, x5, x6, x7, x8, x9, x10⟩ := ab
  cases hkw <;> cases isUnsigned <;> simp only [beq_iff_eq, reduceCtorEq, if_false, if_true, run_bind, run_emit] <;> cases K s <;> rfl

theorem load_operand {ob : Ty} {w : Width} (hop : isAtomicOperand ob = true) (hwf : SizeWf ob = true)
    (hsz : ob.size = (w.bytes : Int)) (hnf : Codegen.isFlonum ob = false) (s : St) :
    load (some ob) s = .ok ((), s, [casOldLoadLine w (kindOf ob)]) := by
  have := casOld_load hop hwf hsz s
  simpa [hnf] using this

theorem casOld_flo {ob : Ty} {w : Width} (hop : isAtomicOperand ob = true) (hwf : SizeWf ob = true)
    (hsz : ob.size = (w.bytes : Int)) (hf : Codegen.isFlonum ob = true) :
    casOldLoadLine w (kindOf ob) = ins2 "mov" (.m0 "%rax") (.r (Atomics.regAx w)) := by
  have hkw := operand_width hop hwf hsz
  obtain ⟨id, kind, size, align, isUnsigned, x1, x2, x3, x4, x5, x6, x7, x8, x9, x10⟩ := ob
  cases hkw <;> first | cases hf; done | (cases isUnsigned <;> rfl)

/-- **bridge for ND_CAS.**  For an ND_CAS the type checker accepts (well-formed type table), whatever the three
    argument expressions print, `casArm` prints: `addr`; `push %rax`; `new`; the move of a floating value to %rax;
    `push %rax`; `old`; and then exactly `casArmLines w k` of the interleaving model, where `w` is the ONE width
    `|*addr| = |*old|` and `k` the kind of `*old`. -/
theorem casArm_lines (env : Env) (addr old new : M Unit) (aty oty nty : Option Ty) (ab ob nt : Ty)
    (hchk : casCheck env.types aty oty = .ok (ab, ob))
    (hwa : SizeWf ab = true) (hwo : SizeWf ob = true)
    (hnty : nty = some nt) (hnk : nt.kind = ab.kind)
    (s0 s1 s2 s3 : St) (la ln lo : List Line)
    (ha : addr s0 = .ok ((), s1, la))
    (hn : new { s1 with depth := s1.depth + 1 } = .ok ((), s2, ln))
    (ho : old { s2 with depth := s2.depth + 1 } = .ok ((), s3, lo)) :
    ∃ w, widthOf ab = some w ∧ widthOf ob = some w ∧
      casArm env addr aty old oty new nty s0 =
        .ok ((), { s3 with depth := s3.depth + -1 + -1 },
          la ++ [pushRax] ++ ln ++ flonumToRax w (kindOf ab) ++ [pushRax] ++ lo ++ casArmLines w (kindOf ob)) := by
  obtain ⟨a, o, rfl, rfl, hak, hok, hab, hob, hle, hopa, hopo, hsz⟩ := casCheck_ok hchk
  obtain ⟨w, hw, hws⟩ := width_of_operand hopa hwa hle
  have hwo' : widthOf ob = some w := by unfold widthOf at hw ⊢; rw [hsz]; exact hw
  refine ⟨w, hw, hwo', ?_⟩
  subst hnty
  have hos : ob.size = (w.bytes : Int) := by rw [hsz, hws]
  have hka := operand_width hopa hwa hws
  unfold casArm
  simp only [run_bind, ha, run_push, hn, run_needTy]
  rw [run_flonumToRax hnk hka]
  cases hfo : Codegen.isFlonum ob
  · simp [run_bind, run_emit, run_push, ho, run_needTy, env_ty?_eq, hob, hab, hfo, load_operand hopo hwo hos hfo,
      run_pop, hws, regDx_width, regAx_width, casArmLines, rmwLines, Codegen.rax, pushRax, Atomics.pop]
  · simp [run_bind, run_emit, run_push, ho, run_needTy, env_ty?_eq, hob, hab, hfo, casOld_flo hopo hwo hos hfo,
      run_pop, hws, hos, regDx_width, regAx_width, casArmLines, rmwLines, Codegen.rax, pushRax, Atomics.pop]

/-- **bridge for ND_EXCH.**  For an ND_EXCH the type checker accepts, `exchArm` prints `lhs`; `push %rax`; `rhs`; and then
    exactly `xchgLines w k` of the interleaving model (`pop %rdi`, the move of a floating value to %rax, the `xchg` on the
    `w`-bit sub-register, the move back / the extension of a 1- or 2-byte value). -/
theorem exchArm_lines (env : Env) (lhs rhs : M Unit) (lty : Option Ty) (ab : Ty)
    (hchk : exchCheck env.types lty = .ok ab) (hwa : SizeWf ab = true)
    (s0 s1 s2 : St) (ll lr : List Line)
    (hl : lhs s0 = .ok ((), s1, ll))
    (hr : rhs { s1 with depth := s1.depth + 1 } = .ok ((), s2, lr)) :
    ∃ w, widthOf ab = some w ∧
      exchArm env lhs lty rhs s0 =
        .ok ((), { s2 with depth := s2.depth + -1 }, ll ++ [pushRax] ++ lr ++ xchgLines w (kindOf ab)) := by
  obtain ⟨a, rfl, hak, hab, hle, hopa⟩ := exchCheck_ok hchk
  obtain ⟨w, hkw, hws⟩ := operand_cases hopa hwa hle
  refine ⟨w, widthOf_bytes hws, ?_⟩
  unfold exchArm
  simp only [run_bind, hl, run_push, hr, run_pop, run_needTy, env_ty?_eq, hab]
  rw [List.append_assoc, List.append_assoc, List.singleton_append]
  obtain ⟨id, kind, size, align, isUnsigned, x1, x2, x3, x4, x5, x6, x7, x8, x9, x10⟩ := ab
  cases hkw <;> cases hws <;> cases isUnsigned <;> rfl

/-- plain read of an object the read-modify-write checker accepts: `load` prints exactly one instruction, the one of
    the interleaving model's `atomic_load` step -/
theorem load_single {b : Ty} (hop : isAtomicOperand b = true) (hwf : SizeWf b = true) (hle : b.size ≤ 8) (s : St) :
    ∃ w, widthOf b = some w ∧ load (some b) s = .ok ((), s, aloadLines w (kindOf b)) := by
  obtain ⟨w, hkw, hs⟩ := operand_cases hop hwf hle
  refine ⟨w, widthOf_bytes hs, ?_⟩
  obtain ⟨id, kind, size, align, isUnsigned, x1, x2, x3, x4, x5, x6, x7, x8, x9, x10⟩ := b
  cases hkw <;> cases hs <;> cases isUnsigned <;> rfl

/-- plain write: `store` prints `pop %rdi` and exactly one store instruction of the object's width -/
theorem store_single {b : Ty} (hop : isAtomicOperand b = true) (hwf : SizeWf b = true) (hle : b.size ≤ 8) (s : St) :
    ∃ w, widthOf b = some w ∧
      store (some b) s = .ok ((), { s with depth := s.depth + -1 }, astoreLines w (kindOf b)) := by
  obtain ⟨w, hkw, hs⟩ := operand_cases hop hwf hle
  refine ⟨w, widthOf_bytes hs, ?_⟩
  obtain ⟨id, kind, size, align, isUnsigned, x1, x2, x3, x4, x5, x6, x7, x8, x9, x10⟩ := b
  cases hkw <;> cases hs <;> cases isUnsigned <;> rfl

/-- the converse of `casCheck_ok`: the checker accepts exactly these operands -/
theorem casCheck_accepts {types : List Ty} {a o ab ob : Ty} (hak : a.kind = .ptr) (hok : o.kind = .ptr)
    (hab : baseOf types a = some ab) (hob : baseOf types o = some ob) (hle : ab.size ≤ 8)
    (hopa : isAtomicOperand ab = true) (hopo : isAtomicOperand ob = true) (hsz : ob.size = ab.size) :
    casCheck types (some a) (some o) = .ok (ab, ob) := by
  have : ¬ ab.size > 8 := by omega
  simp [casCheck, hak, hok, hab, hob, this, hopa, hopo, hsz]

end ChibiVerif.C16Typing
