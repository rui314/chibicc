/-
Closure lemmas for C19: scanning the spelling of a produced token again gives that token (so every token of
`tokenize` is self-lexing), and the fuel of `lex` is never exhausted.
-/
import ChibiVerif.Lemmas.LexLemmas
namespace ChibiVerif.Lex
open ChibiVerif.LexChar ChibiVerif.Gen.Lex

theorem ppTake_headDigit (a : List Nat) (h : headIs isDigit a = true) : headIs isDigit (ppTake a).1 = true := by
  cases a with
  | nil => simp [headIs] at h
  | cons d t =>
    simp only [headIs] at h
    have hexp : ppExpChars.contains d = false := by
      simp [isDigit] at h
      simp [ppExpChars]
      omega
    have hal : (isAlnum d || d == 46) = true := by simp [isAlnum, h]
    rw [ppTake_cons_alnum d t (by rw [hexp]; simp) hal]
    exact h

theorem find?_mono' {α : Type} (l : List α) (p q : α → Bool) (k : α)
    (h : l.find? p = some k) (hqp : ∀ y ∈ l, q y = true → p y = true) (hk : q k = true) :
    l.find? q = some k := by
  induction l with
  | nil => simp at h
  | cons y l ih =>
    rw [List.find?_cons] at h ⊢
    cases hpy : p y with
    | true =>
      rw [hpy] at h
      cases h
      rw [hk]
    | false =>
      rw [hpy] at h
      have hqy : q y = false := by
        cases hq : q y with
        | false => rfl
        | true => rw [hqp y (List.mem_cons_self ..) hq] at hpy; cases hpy
      rw [hqy]
      exact ih h (fun z hz => hqp z (List.mem_cons_of_mem _ hz))

theorem readPunct_idem (c : Nat) (a : List Nat) (hn : readPunct (c :: a) ≠ 0) :
    readPunct ((c :: a).take (readPunct (c :: a))) = readPunct (c :: a) := by
  unfold readPunct
  cases hf : punctKw.find? (fun k => k.isPrefixOf (c :: a)) with
  | some k =>
    simp only
    have hk := List.find?_some hf
    have hkp : k <+: c :: a := List.isPrefixOf_iff_prefix.mp hk
    have htake : (c :: a).take k.length = k := by
      obtain ⟨r, hr⟩ := hkp
      rw [← hr, List.take_left']
      rfl
    rw [htake]
    have : punctKw.find? (fun k' => k'.isPrefixOf k) = some k := by
      apply find?_mono' punctKw _ _ k hf
      · intro y _ hy
        rw [List.isPrefixOf_iff_prefix] at hy ⊢
        exact hy.trans hkp
      · rw [List.isPrefixOf_iff_prefix]; exact List.prefix_refl k
    rw [this]
  | none =>
    have hn' := hn
    unfold readPunct at hn'
    rw [hf] at hn'
    simp only at hn' ⊢
    have hp : isPunct c = true := by
      cases hpc : isPunct c with
      | true => rfl
      | false => rw [hpc] at hn'; simp at hn'
    rw [hp]
    simp only [if_true, List.take_succ_cons, List.take_zero]
    have : punctKw.find? (fun k' => k'.isPrefixOf [c]) = none := by
      rw [List.find?_eq_none] at hf ⊢
      intro y hy hyc
      apply hf y hy
      rw [List.isPrefixOf_iff_prefix] at hyc ⊢
      exact hyc.trans ⟨a, rfl⟩
    rw [this]
    simp [hp]

theorem pre_mono_false (q x a : List Nat) (c : Nat) (hp : x <+: a) (h : q.isPrefixOf (c :: a) = false) :
    q.isPrefixOf (c :: x) = false :=
  Bool.eq_false_iff.mpr fun hh => Bool.eq_false_iff.mp h <| List.isPrefixOf_iff_prefix.mpr <|
    (List.isPrefixOf_iff_prefix.mp hh).trans ((List.prefix_cons_inj c).mpr hp)

theorem NotSkip.mono {c : Nat} {x a : List Nat} (hp : x <+: a) (h : NotSkip c a) : NotSkip c x :=
  ⟨pre_mono_false _ _ _ _ hp h.1, pre_mono_false _ _ _ _ hp h.2.1, h.2.2.1, h.2.2.2⟩

theorem NoOpener.mono {c : Nat} {x a : List Nat} (hp : x <+: a) (h : NoOpener (c :: a)) : NoOpener (c :: x) :=
  fun p hm => pre_mono_false p x a c hp (h p hm)

theorem numStart_mono_false {c : Nat} {x a : List Nat} (hp : x <+: a)
    (h : (isDigit c || c == 46 && headIs isDigit a) = false) :
    (isDigit c || c == 46 && headIs isDigit x) = false := by
  refine Bool.eq_false_iff.mpr fun hh => Bool.eq_false_iff.mp h ?_
  simp only [Bool.or_eq_true, Bool.and_eq_true] at hh ⊢
  exact hh.imp_right fun hd => ⟨hd.1, headIs_mono _ _ _ hp hd.2⟩

/-- scanning the spelling of a token again, alone, gives that token and consumes everything: the spelling is `c :: x` with
    `x` a prefix of the text, and every test that failed on the text fails on a prefix of it -/
theorem lexStep_restrict (s : List Nat) (bol sp : Bool) (t : Tok) (r : List Nat)
    (h : lexStep s bol sp = .tok t r) : lexStep t.text bol sp = .tok t [] := by
  cases s with
  | nil => simp [lexStep] at h
  | cons c a =>
  cases lexStep_branch c a bol sp with
  | lineComment e | newline e | space e => rw [e] at h; cases h
  | blockComment e => rcases e with e | ⟨_, _, e⟩ <;> rw [e] at h <;> cases h
  | ppnum hs hn e =>
    rw [e] at h; cases h
    obtain ⟨hpart, hloc⟩ := ppTake_local a
    have hpre : (ppTake a).1 <+: a := ⟨(ppTake a).2, hpart⟩
    have hn' : (isDigit c || c == 46 && headIs isDigit (ppTake a).1) = true := by
      simp only [Bool.or_eq_true, Bool.and_eq_true] at hn ⊢
      exact hn.imp_right fun hd => ⟨hd.1, ppTake_headDigit a hd.2⟩
    have := hloc c [] (ppStop_nil _)
    rw [List.append_nil] at this
    rw [lexStep_ppnum c _ bol sp (hs.mono hpre) hn', this]
  | str pre t' hp _ e =>
    rw [e] at h
    obtain ⟨b, rfl, _, happ⟩ := strTok_tok h
    have := happ [] bol sp
    rwa [List.append_nil, ← lexStep_str pre b bol sp hp] at this
  | chr pre t' hp _ e =>
    rw [e] at h
    obtain ⟨b, rfl, _, happ⟩ := chrTok_tok h
    have := happ [] bol sp
    rwa [List.append_nil, ← lexStep_chr pre b bol sp hp] at this
  | word hs hn ho e =>
    rw [e] at h
    have word := fun x (hx : x <+: a) =>
      lexStep_word c x bol sp (hs.mono hx) (numStart_mono_false hx hn) (ho.mono hx)
    split at h
    · rename_i hid
      cases h
      obtain ⟨hpart, -, hloc⟩ := identTake_local a
      have := hloc [] rfl
      rw [List.append_nil] at this
      rw [word _ ⟨(identTake a).2, hpart⟩, if_pos hid, this]
    · rename_i hid
      split at h
      · cases h
      · rename_i hn0
        cases h
        have hne : readPunct (c :: a) ≠ 0 := by simpa using hn0
        obtain ⟨n, hn⟩ : ∃ n, readPunct (c :: a) = n + 1 := ⟨readPunct (c :: a) - 1, by omega⟩
        have hidem := readPunct_idem c a hne
        simp only
        rw [hn] at hidem ⊢
        rw [List.take_succ_cons] at hidem ⊢
        rw [word _ (List.take_prefix n a), if_neg hid, hidem, if_neg (by simp)]
        have hlen : (c :: List.take n a).length = n + 1 := by
          have := readPunct_le_length (c :: a)
          rw [hn] at this
          simp only [List.length_cons] at this
          simp only [List.length_cons, List.length_take]
          omega
        rw [List.take_of_length_le (by omega), List.drop_of_length_le (by omega)]

/-- `lexStep_restrict` with the flags of a text of its own (`at_bol`, no `has_space`), which is how `selfLexing` scans -/
theorem lexStep_alone (s : List Nat) (bol sp : Bool) (t : Tok) (r : List Nat)
    (h : lexStep s bol sp = .tok t r) : lexStep t.text true false = .tok ⟨t.kind, t.text, true, false⟩ [] := by
  have h1 := lexStep_restrict s bol sp t r h
  have inv := lexStep_tok_inv _ _ _ _ _ h
  obtain ⟨k, x, b, p⟩ := t
  cases x with
  | nil => exact absurd rfl inv.ne
  | cons c a =>
    have hb := inv.bol
    have hp := inv.sp
    simp only at hb hp h1
    subst hb; subst hp
    -- a step only copies the flags: scanning with other flags is `lexStep_append` with nothing appended
    have := lexStep_append c a [] k _ _ true false h1 (noFuse_nil c a)
    rwa [List.append_nil] at this

theorem selfLexing_of_lexStep (s : List Nat) (bol sp : Bool) (t : Tok) (r : List Nat)
    (h : lexStep s bol sp = .tok t r) : selfLexing t.text = true := by
  rw [selfLexing, lexStep_alone s bol sp t r h]
  exact beq_self_eq_true _

theorem lexLoop_tokens (P : Tok → Prop) (hP : ∀ s bol sp t r, lexStep s bol sp = .tok t r → P t) (n : Nat) :
    ∀ (s : List Nat) (bol sp : Bool) (ts : List Tok), lexLoop n s bol sp = .ok ts → ∀ t ∈ ts, P t := by
  induction n with
  | zero => intro s bol sp ts h; simp [lexLoop] at h
  | succ n ih =>
    intro s bol sp ts h
    rw [lexLoop] at h
    cases hs : lexStep s bol sp with
    | done => rw [hs] at h; cases h; intro t ht; cases ht
    | skip r b p => rw [hs] at h; exact ih r b p ts h
    | err e => rw [hs] at h; cases h
    | tok t0 r =>
      rw [hs] at h
      simp only at h
      cases hl : lexLoop n r false false with
      | error e => rw [hl] at h; cases h
      | ok ts' =>
        rw [hl] at h
        cases h
        intro t ht
        rcases List.mem_cons.mp ht with rfl | ht
        · exact hP s bol sp _ r hs
        · exact ih r false false ts' hl t ht

theorem skipLine_length (a : List Nat) : (skipLine a).length ≤ a.length := by
  induction a with
  | nil => simp [skipLine]
  | cons c t ih =>
    rw [skipLine]
    split
    · exact Nat.le_refl _
    · simp only [List.length_cons]; omega

theorem findCommentEnd_length (a r : List Nat) (h : findCommentEnd a = some r) : r.length ≤ a.length := by
  induction a with
  | nil => simp [findCommentEnd] at h
  | cons c t ih =>
    rw [findCommentEnd] at h
    split at h
    · cases h; simp only [List.length_tail, List.length_cons]; omega
    · have := ih h; simp only [List.length_cons]; omega

theorem strTok_ne_skip (pre x : List Nat) (bol sp : Bool) (r : List Nat) (b p : Bool) :
    strTok pre x bol sp ≠ .skip r b p := by
  unfold strTok
  split
  · exact Step.noConfusion
  · split <;> exact Step.noConfusion

theorem chrTok_ne_skip (pre x : List Nat) (bol sp : Bool) (r : List Nat) (b p : Bool) :
    chrTok pre x bol sp ≠ .skip r b p := by
  unfold chrTok
  split <;> exact Step.noConfusion

theorem lexStep_skip_length (s : List Nat) (bol sp : Bool) (r : List Nat) (b p : Bool)
    (h : lexStep s bol sp = .skip r b p) : r.length < s.length := by
  cases s with
  | nil => simp [lexStep] at h
  | cons c a =>
  cases lexStep_branch c a bol sp with
  | lineComment e =>
    rw [e] at h; cases h
    have := skipLine_length (List.drop 1 a)
    simp only [List.length_drop, List.length_cons] at this ⊢
    omega
  | blockComment e =>
    rcases e with e | ⟨r0, ho, e⟩ <;> rw [e] at h <;> cases h
    have := findCommentEnd_length _ _ ho
    simp only [List.length_drop, List.length_cons] at this ⊢
    omega
  | newline e | space e => rw [e] at h; cases h; simp
  | ppnum _ _ e => rw [e] at h; cases h
  | str pre t' _ _ e => rw [e] at h; exact absurd h (strTok_ne_skip _ _ _ _ _ _ _)
  | chr pre t' _ _ e => rw [e] at h; exact absurd h (chrTok_ne_skip _ _ _ _ _ _ _)
  | word _ _ _ e =>
    rw [e] at h
    split at h
    · cases h
    · split at h <;> cases h

theorem strEnd_ne_fuel (a : List Nat) : strEnd a ≠ .error .fuel := by
  induction a using strEnd.induct with
  | case1 => simp [strEnd]
  | case2 c t hc => rw [strEnd_cons_quote c t hc]; simp
  | case3 c t h1 h2 =>
    cases t with
    | nil => rw [strEnd.eq_2, if_neg h1, if_pos h2]; simp
    | cons d t' => rw [strEnd.eq_3, if_neg h1, if_pos h2]; simp
  | case4 c h1 h2 h3 => rw [strEnd.eq_2, if_neg h1, if_neg h2, if_pos h3]; simp
  | case5 c h1 h2 h3 d t r0 hr ih => rw [strEnd_cons_bs c d t h1 h2 h3, hr]; simp
  | case6 c h1 h2 h3 d t e he ih =>
    rw [strEnd_cons_bs c d t h1 h2 h3, he]
    rw [he] at ih
    simpa using ih
  | case7 c t h1 h2 h3 r0 hr ih => rw [strEnd_cons_other c t h1 h2 h3, hr]; simp
  | case8 c t h1 h2 h3 e he ih =>
    rw [strEnd_cons_other c t h1 h2 h3, he]
    rw [he] at ih
    simpa using ih

theorem charEnd_ne_fuel (a : List Nat) : charEnd a ≠ .error .fuel := by
  match a with
  | [] => simp [charEnd]
  | [c] => rw [charEnd.eq_2]; split <;> simp [findQuote]
  | c :: d :: t' =>
    rw [charEnd.eq_3]
    split
    · split
      · simp
      · cases findQuote t' <;> simp
    · cases findQuote (d :: t') <;> simp

theorem strTok_ne_fuel (pre x : List Nat) (bol sp : Bool) : strTok pre x bol sp ≠ .err .fuel := by
  unfold strTok
  split
  · rename_i e he
    exact fun hh => strEnd_ne_fuel x (by rw [he, Step.err.inj hh])
  · split <;> exact fun hh => by cases hh

theorem chrTok_ne_fuel (pre x : List Nat) (bol sp : Bool) : chrTok pre x bol sp ≠ .err .fuel := by
  unfold chrTok
  split
  · rename_i e he
    exact fun hh => charEnd_ne_fuel x (by rw [he, Step.err.inj hh])
  · exact fun hh => by cases hh

theorem lexStep_ne_fuel (s : List Nat) (bol sp : Bool) : lexStep s bol sp ≠ .err .fuel := by
  cases s with
  | nil => simp [lexStep]
  | cons c a =>
  intro h
  cases lexStep_branch c a bol sp with
  | lineComment e | newline e | space e | ppnum _ _ e => rw [e] at h; cases h
  | blockComment e => rcases e with e | ⟨_, _, e⟩ <;> rw [e] at h <;> cases h
  | str pre t' _ _ e => rw [e] at h; exact strTok_ne_fuel _ _ _ _ h
  | chr pre t' _ _ e => rw [e] at h; exact chrTok_ne_fuel _ _ _ _ h
  | word _ _ _ e =>
    rw [e] at h
    split at h
    · cases h
    · split at h <;> cases h

theorem lexLoop_no_fuel (n : Nat) : ∀ (s : List Nat) (bol sp : Bool), s.length < n →
    lexLoop n s bol sp ≠ .error .fuel := by
  induction n with
  | zero => intro s bol sp h; omega
  | succ n ih =>
    intro s bol sp hlen
    rw [lexLoop]
    cases hs : lexStep s bol sp with
    | done => simp
    | err e =>
      simp only
      intro hh
      injection hh with hh
      subst hh
      exact absurd hs (lexStep_ne_fuel s bol sp)
    | skip r b p =>
      have := lexStep_skip_length s bol sp r b p hs
      exact ih r b p (by omega)
    | tok t r =>
      have inv := lexStep_tok_inv _ _ _ _ _ hs
      have hl : r.length < s.length := by
        have h1 := congrArg List.length inv.part
        have h2 : t.text.length ≥ 1 := by
          cases ht : t.text with
          | nil => exact absurd ht inv.ne
          | cons _ _ => simp
        simp only [List.length_append] at h1
        omega
      simp only
      cases hl2 : lexLoop n r false false with
      | ok ts => simp
      | error e =>
        simp only
        intro hh
        injection hh with hh
        subst hh
        exact ih r false false (by omega) hl2

end ChibiVerif.Lex
