/-
Helper lemmas for C15_symbols_partial: `parse` accepts every unit that is `valid` (`parse_ok`; of `valid` it uses `fnValid`
and `refsOrdered`: identifiers are declared before use).  (`_ok` here: the call succeeds.)  None of the three diagnostics of the modelled code can fire:
"redefinition of f", "static declaration follows a non-static declaration", "undefined variable".
-/
import ChibiVerif.Lemmas.LinkageView
import ChibiVerif.Lemmas.LinkageExact

namespace ChibiVerif.Linkage
open ChibiVerif.Spec.Linkage

/-! ### lookups only ever gain answers -/

def IdPred (q : Obj → Bool) : Prop := ∀ o o', o.isFunction = o'.isFunction → o.sym = o'.sym → q o = q o'

theorem any_updFirst_keeps {q : Obj → Bool} (hq : IdPred q) {u : Obj → Obj} (hu : Keeps u) (p : Obj → Bool) :
    ∀ l : List Obj, (updFirst p u l).any q = l.any q
  | [] => rfl
  | a :: as => by
    unfold updFirst
    split
    · simp only [List.any_cons]
      rw [hq (u a) a (hu a).1 (hu a).2.1]
    · simp only [List.any_cons]
      rw [any_updFirst_keeps hq hu p as]

theorem any_evolves {q : Obj → Bool} (hq : IdPred q) {gs gs' : List Obj} (h : Evolves gs gs') :
    gs.any q = true → gs'.any q = true := by
  induction h with
  | refl => exact id
  | upd p u hu _ ih => intro h; rw [any_updFirst_keeps hq hu]; exact ih h
  | consData o _ _ _ ih => intro h; simp [ih h]
  | consFn o f _ _ _ _ _ _ ih => intro h; simp [ih h]

theorem idPred_fn (g : Name) : IdPred (fun o => o.isFunction && o.sym == .named g) := by
  intro o o' h1 h2; simp only [h1, h2]
theorem idPred_obj (x : Name) : IdPred (fun o => !o.isFunction && o.sym == .named x) := by
  intro o o' h1 h2; simp only [h1, h2]

theorem find?_evolves {q : Obj → Bool} (hq : IdPred q) {gs gs' : List Obj} (h : Evolves gs gs') :
    (gs.find? q).isSome = true → (gs'.find? q).isSome = true := by
  rw [List.isSome_find?, List.isSome_find?]
  exact any_evolves hq h

/-- the identifiers in `fs` / `xs` resolve -/
def Knows (gs : List Obj) (fs xs : List Name) : Prop :=
  (∀ g, g ∈ fs → isFn gs g = true) ∧ (∀ x, x ∈ xs → (findObj gs x).isSome = true)

theorem Knows.evolves {gs gs' : List Obj} {fs xs : List Name} (h : Evolves gs gs') (k : Knows gs fs xs) : Knows gs' fs xs :=
  ⟨fun g hg => find?_evolves (idPred_fn g) h (k.1 g hg), fun x hx => find?_evolves (idPred_obj x) h (k.2 x hx)⟩

theorem Knows.cons_obj {gs : List Obj} {fs xs : List Name} (k : Knows gs fs xs) {o : Obj} {x : Name}
    (hf : o.isFunction = false) (hl : o.isLive = false) (hs : o.sym = .named x) : Knows (o :: gs) fs (x :: xs) := by
  have k1 := k.evolves (Evolves.consData o hf hl Evolves.refl)
  refine ⟨k1.1, fun y hy => ?_⟩
  rcases List.mem_cons.mp hy with rfl | hy
  · simp [findObj, List.find?, hf, hs]
  · exact k1.2 y hy

/-! ### references resolve -/

theorem useRef_ok {cur : Option Name} {st : PState} {fs xs : List Name} (k : Knows st.globals fs xs) :
    ∀ r : Ref, (match r with | .fn g => g ∈ fs | .obj x => x ∈ xs) → ∃ st' s, useRef cur st r = .ok (st', s)
  | .fn g, h => by
    have := k.1 g h
    cases hf : findFunc st.globals g with
    | none => simp [isFn, hf] at this
    | some o =>
      cases cur with
      | some f =>
        simp only [useRef, recordFnRef, hf, bind, Except.bind, pure, Except.pure]
        exact ⟨_, _, rfl⟩
      | none =>
        simp only [useRef, recordFnRef, hf, bind, Except.bind, pure, Except.pure]
        exact ⟨_, _, rfl⟩
  | .obj x, h => by
    have := k.2 x h
    cases hf : findObj st.globals x with
    | none => simp [hf] at this
    | some o =>
      simp only [useRef, hf, pure, Except.pure]
      exact ⟨_, _, rfl⟩

theorem initFnRefs_mono {g : Name} {it : InitItem} {rest : List InitItem} (h : g ∈ initFnRefs rest) :
    g ∈ initFnRefs (it :: rest) := ((List.sublist_cons_self it rest).filterMap _).subset h

theorem initObjRefs_mono {x : Name} {it : InitItem} {rest : List InitItem} (h : x ∈ initObjRefs rest) :
    x ∈ initObjRefs (it :: rest) := ((List.sublist_cons_self it rest).filterMap _).subset h

variable [Rules]

theorem initItems_ok {cur : Option Name} {fs xs : List Name} : ∀ (items : List InitItem) (st : PState),
    Knows st.globals fs xs → (∀ g, g ∈ initFnRefs items → g ∈ fs) → (∀ x, x ∈ initObjRefs items → x ∈ xs) →
    ∃ st' ss, initItems cur st items = .ok (st', ss)
  | [], st, _, _, _ => ⟨st, [], rfl⟩
  | .ref r :: rest, st, k, hf, hx => by
    obtain ⟨st1, s, h1⟩ := useRef_ok (cur := cur) k r (by
      cases r with
      | fn g => exact hf g (show g ∈ g :: initFnRefs rest from List.mem_cons_self)
      | obj x => exact hx x (show x ∈ x :: initObjRefs rest from List.mem_cons_self))
    have k1 := k.evolves (evolves_useRef h1)
    obtain ⟨st2, ss, h2⟩ := initItems_ok (cur := cur) rest st1 k1
      (fun g hg => hf g (initFnRefs_mono hg)) (fun x hx' => hx x (initObjRefs_mono hx'))
    simp only [initItems, h1, h2, bind, Except.bind, pure, Except.pure]
    exact ⟨_, _, rfl⟩
  | .str n :: rest, st, k, hf, hx => by
    have k1 : Knows (newAnon cur st (strTy n) true).1.globals fs xs := k.evolves (evolves_newAnon cur st (strTy n) true [])
    obtain ⟨st2, ss, h2⟩ := initItems_ok (cur := cur) rest _ k1
      (fun g hg => hf g (initFnRefs_mono hg)) (fun x hx' => hx x (initObjRefs_mono hx'))
    simp only [initItems, h2, bind, Except.bind, pure, Except.pure]
    exact ⟨_, _, rfl⟩

theorem bodyItems_ok {f : Name} {fs : List Name} : ∀ (items : List BodyItem) (st : PState) (xs : List Name),
    Knows st.globals fs xs → bodyOrdered fs xs items = true → ∃ st' us, bodyItems f st items = .ok (st', us)
  | [], st, _, _, _ => ⟨st, [], rfl⟩
  | b :: rest, st, xs, k, h => by
    have step : ∃ st1 u xs1, bodyItem f st b = .ok (st1, u) ∧ Knows st1.globals fs xs1 ∧ bodyOrdered fs xs1 rest = true := by
      cases b with
      | ref r =>
        cases r with
        | fn g =>
          simp only [bodyOrdered, Bool.and_eq_true] at h
          obtain ⟨st1, s, h1⟩ := useRef_ok (cur := some f) k (.fn g) (by simpa using h.1)
          exact ⟨st1, [s], xs, by simp [bodyItem, h1, bind, Except.bind, pure, Except.pure],
            k.evolves (evolves_useRef h1), h.2⟩
        | obj x =>
          simp only [bodyOrdered, Bool.and_eq_true] at h
          obtain ⟨st1, s, h1⟩ := useRef_ok (cur := some f) k (.obj x) (by simpa using h.1)
          exact ⟨st1, [s], xs, by simp [bodyItem, h1, bind, Except.bind, pure, Except.pure],
            k.evolves (evolves_useRef h1), h.2⟩
      | staticLocal tls ty init =>
        cases init with
        | none =>
          simp only [bodyOrdered] at h
          refine ⟨_, _, xs, rfl, ?_, h⟩
          exact k.evolves (Evolves.upd _ _ (fun _ => ⟨rfl, rfl, rfl, rfl⟩) (evolves_newAnon (some f) st ty false []))
        | some items =>
          simp only [bodyOrdered, Bool.and_eq_true] at h
          have k0 : Knows ({ (newAnon (some f) st ty true).1 with
              globals := updFirst (fun o => o.sym == (newAnon (some f) st ty true).2 && !o.isFunction) (fun o => { o with isTls := tls })
                (newAnon (some f) st ty true).1.globals } : PState).globals fs xs :=
            k.evolves (Evolves.upd _ _ (fun _ => ⟨rfl, rfl, rfl, rfl⟩) (evolves_newAnon (some f) st ty true []))
          obtain ⟨st1, ss, h1⟩ := initItems_ok (cur := some f) items _ k0 (all_contains h.1.1) (all_contains h.1.2)
          have hb : bodyItem f st (.staticLocal tls ty (some items)) =
              .ok ({ st1 with globals := setUses st1.globals (newAnon (some f) st ty true).2 ss }, [(newAnon (some f) st ty true).2]) := by
            simp only [bodyItem, Option.isSome_some, bind, Except.bind]
            rw [h1]
            rfl
          refine ⟨_, _, xs, hb, ?_, h.2⟩
          exact k.evolves (evolves_bodyItem hb)
      | str n =>
        simp only [bodyOrdered] at h
        exact ⟨_, _, xs, rfl, k.evolves (evolves_newAnon (some f) st (strTy n) true []), h⟩
      | externObj x tls ty =>
        simp only [bodyOrdered] at h
        exact ⟨_, _, x :: xs, rfl, k.cons_obj (o := externO x tls ty _) rfl rfl rfl, h⟩
    obtain ⟨st1, u, xs1, h1, k1, ho⟩ := step
    obtain ⟨st2, us, h2⟩ := bodyItems_ok (f := f) rest st1 xs1 k1 ho
    simp only [bodyItems, h1, h2, bind, Except.bind, pure, Except.pure]
    exact ⟨_, _, rfl⟩

/-! ### redeclarations are compatible -/

/-- no diagnostic of `function` fires on the declarations `D` of one function, starting from the recorded flags
    (the checks read `is_definition` and `is_static`; with `Rules.flagsFollow` the latter changes along the way) -/
def fnOKFrom : Option Flags → List FnDecl → Bool
  | _, [] => true
  | none, d :: D => fnOKFrom (some (newFlags d.isStatic d.isExtern d.isInline d.body.isSome)) D
  | some q, d :: D =>
    !(q.isDefinition && d.body.isSome) && !(!q.isStatic && d.isStatic) &&
      fnOKFrom (some (redeclF d.isExtern d.isInline d.body.isSome q)) D

theorem redeclF_internal (e i b : Bool) (q : Flags) (h : q.isStatic = true ∧ q.isInlineDef = false) :
    (redeclF e i b q).isStatic = true ∧ (redeclF e i b q).isInlineDef = false := by
  unfold redeclF
  obtain ⟨st, inl, idf, df⟩ := q
  obtain ⟨h1, h2⟩ := h
  simp only at h1 h2
  subst h1 h2
  cases Rules.flagsFollow
  · exact ⟨rfl, rfl⟩
  · cases i <;> cases e <;> cases df <;> exact ⟨rfl, rfl⟩

theorem fnOKFrom_some : ∀ (D : List FnDecl) (q : Flags), (q.isDefinition = true → ∀ x, x ∈ D → x.body = none) →
    (D.filter (fun d => d.body.isSome)).length ≤ 1 →
    (¬ (q.isStatic = true ∧ q.isInlineDef = false) → D.all (fun d => !d.isStatic) = true) →
    fnOKFrom (some q) D = true
  | [], _, _, _, _ => rfl
  | d :: D, q, h1, h2, h3 => by
    obtain ⟨h2', hrest⟩ := oneBody_cons h2
    simp only [fnOKFrom, Bool.and_eq_true, Bool.not_eq_true', Bool.and_eq_false_iff]
    refine ⟨⟨?_, ?_⟩, fnOKFrom_some D _ ?_ h2' ?_⟩
    · cases hdf : q.isDefinition
      · exact Or.inl rfl
      · exact Or.inr (by rw [h1 hdf d List.mem_cons_self]; rfl)
    · by_cases hint : q.isStatic = true ∧ q.isInlineDef = false
      · exact Or.inl (by rw [hint.1]; rfl)
      · have := h3 hint
        simp only [List.all_cons, Bool.and_eq_true, Bool.not_eq_true'] at this
        exact Or.inr this.1
    · intro hdf'
      rw [redeclF_isDefinition, Bool.or_eq_true] at hdf'
      rcases hdf' with hq | hb
      · exact fun x hx => h1 hq x (List.mem_cons_of_mem _ hx)
      · exact hrest hb
    · intro hnot
      by_cases hint : q.isStatic = true ∧ q.isInlineDef = false
      · exact absurd (redeclF_internal _ _ _ q hint) hnot
      · have := h3 hint
        simp only [List.all_cons, Bool.and_eq_true] at this
        exact this.2

theorem fnOKFrom_valid (D : List FnDecl) (h : fnValid D = true) : fnOKFrom none D = true := by
  cases D with
  | nil => rfl
  | cons d D =>
    simp only [fnValid, Bool.and_eq_true, decide_eq_true_eq, Bool.or_eq_true] at h
    obtain ⟨⟨h1, _⟩, h3⟩ := h
    obtain ⟨h1', hrest⟩ := oneBody_cons h1
    simp only [fnOKFrom]
    refine fnOKFrom_some D _ hrest h1' fun hnot => ?_
    have hs : d.isStatic = false := by
      cases hds : d.isStatic
      · rfl
      · exact absurd (by simp [newFlags, hds]) hnot
    rcases h3 with h3 | h3
    · simp [fnInternal, hs] at h3
    · simp only [List.all_cons, Bool.and_eq_true] at h3
      exact h3.2

/-- every function's remaining declarations are compatible with what has been recorded -/
def FnsOK (gs : List Obj) (ds : List Decl) : Prop :=
  ∀ g, fnOKFrom ((T gs g).map flagsOf) (fnDecls ds g) = true

theorem declFunctionHead_ok {st : PState} {f : Name} {s e i b : Bool} {D : List FnDecl} {body : Option (List BodyItem)}
    (hb : b = body.isSome) (h : fnOKFrom ((T st.globals f).map flagsOf) (⟨s, e, i, body⟩ :: D) = true) :
    ∃ st', declFunctionHead st f s e i b = .ok st' := by
  unfold declFunctionHead
  cases hf : findFunc st.globals f with
  | none => exact ⟨_, rfl⟩
  | some fn =>
    have hT : (T st.globals f).map flagsOf = some (flagsOf (fview fn)) := by simp [T, hf]
    rw [hT] at h
    simp only [fnOKFrom, Bool.and_eq_true, Bool.not_eq_true', flagsOf, fview] at h
    simp only [hb, h.1.1, h.1.2]
    exact ⟨_, rfl⟩

/-! ### the whole unit -/

theorem declStep_ok {st : PState} {d : Decl} {ds : List Decl} {fs xs : List Name}
    (hF : FnsOK st.globals (d :: ds)) (k : Knows st.globals fs xs) (hr : refsOrdered (d :: ds) fs xs = true) :
    ∃ st' fs' xs', declStep st d = .ok st' ∧ FnsOK st'.globals ds ∧ Knows st'.globals fs' xs' ∧
      refsOrdered ds fs' xs' = true := by
  have table : ∀ st', declStep st d = .ok st' → FnsOK st'.globals ds := by
    intro st' h g
    rw [T_declStep h g, flagsOf_stepFV]
    have hg := hF g
    cases d with
    | func f n s e i body =>
      rw [fnDecls_cons_func] at hg
      simp only [stepFlags]
      by_cases hfg : g = f
      · subst hfg
        simp only [if_true] at hg ⊢
        cases hc : (T st.globals g).map flagsOf with
        | none => rw [hc] at hg; simpa [fnOKFrom] using hg
        | some q =>
          rw [hc] at hg
          simp only [fnOKFrom, Bool.and_eq_true] at hg
          exact hg.2
      · have : ¬ f = g := fun e' => hfg e'.symm
        simp only [this, if_false] at hg
        simp only [hfg, if_false]
        exact hg
    | obj x s e t ty init =>
      rw [fnDecls_cons_obj] at hg
      exact hg
  cases d with
  | func f n s e i body =>
    simp only [refsOrdered, Bool.and_eq_true] at hr
    have hg := hF f
    rw [fnDecls_cons_func] at hg
    simp only [if_true] at hg
    obtain ⟨st1, h1⟩ := declFunctionHead_ok (b := body.isSome) rfl hg
    have k1 : Knows st1.globals (f :: fs) xs := by
      rw [declFunctionHead_exact h1]
      have k1 := k.evolves (evolves_headUpd st.globals f s e i body.isSome)
      refine ⟨fun g hg' => ?_, k1.2⟩
      rcases List.mem_cons.mp hg' with rfl | hg'
      · -- after `function` has run its head, find_func(f) succeeds
        have : (T (headUpd st.globals g s e i body.isSome) g).isSome = true := by
          rw [T_headUpd, if_pos rfl]; rfl
        simpa [T, isFn] using this
      · exact k1.1 g hg'
    cases body with
    | none =>
      have hd : declStep st (.func f n s e i none) = .ok st1 := by
        simp only [declStep, declFunction, Option.isSome_none] at h1 ⊢
        rw [h1]
      exact ⟨st1, f :: fs, xs, hd, table _ hd, k1, hr.2⟩
    | some items =>
      simp only at hr
      let stA := (newAnon (some f) (newAnon (some f) st1 (strTy (n + 1)) true).1 (strTy (n + 1)) true).1
      have kA : Knows stA.globals (f :: fs) xs :=
        k1.evolves (Evolves.consData _ rfl rfl (Evolves.consData _ rfl rfl Evolves.refl))
      obtain ⟨st2, us, h2⟩ := bodyItems_ok (f := f) items stA xs kA hr.1
      have hd : declStep st (.func f n s e i (some items)) =
          .ok { st2 with globals := updFunc st2.globals f (fun o => { o with uses := us }) } := by
        simp only [declStep, declFunction, Option.isSome_some] at h1 ⊢
        rw [h1]
        simp only
        rw [h2]
      refine ⟨_, f :: fs, xs, hd, table _ hd, ?_, hr.2⟩
      exact (kA.evolves (evolves_bodyItems items h2)).evolves (evolves_updFunc f (keeps_setUses us))
  | obj x s e t ty init =>
    simp only [refsOrdered, Bool.and_eq_true] at hr
    cases init with
    | none =>
      exact ⟨_, fs, x :: xs, rfl, table _ rfl,
        k.cons_obj (o := varObj 0 x (varStatic (prevStatic st.globals) x s e) e t ty none) rfl rfl rfl, hr.2⟩
    | some items =>
      simp only [Bool.and_eq_true] at hr
      let var : Obj := { sym := .named x, isDefinition := true, isStatic := varStatic (prevStatic st.globals) x s e, isTls := t, ty := ty, hasInit := true }
      have k1 : Knows (var :: st.globals) fs (x :: xs) := k.cons_obj rfl rfl rfl
      obtain ⟨st1, ss, h1⟩ := initItems_ok (cur := none) items { st with globals := var :: st.globals } k1
        (all_contains hr.1.1) (all_contains hr.1.2)
      have hd : declStep st (.obj x s e t ty (some items)) = .ok { st1 with
          globals := updFirst (fun o => o.sym == .named x && !o.isFunction) (fun o => { o with uses := ss }) st1.globals } := by
        simp only [declStep, declObject, bind, Except.bind]
        have h1' := h1
        simp only [var, varStatic] at h1'
        rw [h1']
        rfl
      refine ⟨_, fs, x :: xs, hd, table _ hd, ?_, hr.2⟩
      exact (k1.evolves (evolves_initItems items h1)).evolves (Evolves.upd _ _ (keeps_setUses ss) Evolves.refl)

theorem declAll_ok : ∀ (ds : List Decl) (st : PState) (fs xs : List Name), FnsOK st.globals ds → Knows st.globals fs xs →
    refsOrdered ds fs xs = true → ∃ st', declAll st ds = .ok st'
  | [], st, _, _, _, _, _ => ⟨st, rfl⟩
  | d :: ds, st, fs, xs, hF, k, hr => by
    obtain ⟨st1, fs1, xs1, h1, hF1, k1, hr1⟩ := declStep_ok hF k hr
    obtain ⟨st2, h2⟩ := declAll_ok ds st1 fs1 xs1 hF1 k1 hr1
    exact ⟨st2, by simp [declAll, h1, h2, bind, Except.bind]⟩

theorem parse_ok {ds : List Decl} (hv : valid ds = true) : ∃ st, declAll {} ds = .ok st := by
  refine declAll_ok ds {} [] [] ?_ ⟨fun _ h => absurd h List.not_mem_nil, fun _ h => absurd h List.not_mem_nil⟩ (valid_ordered hv)
  intro g
  have hT : (T ({} : PState).globals g).map flagsOf = none := rfl
  rw [hT]
  by_cases hg : g ∈ fnNames ds
  · exact fnOKFrom_valid _ ((valid_parts hv).1 g hg)
  · rw [mem_fnNames, Classical.not_not] at hg
    rw [hg]; rfl

end ChibiVerif.Linkage
