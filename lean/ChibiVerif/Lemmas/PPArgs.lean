/-
Argument identification (`read_macro_arg_one`, `read_macro_args`) for property C09: one-step equations of the reader of one
argument against parenthesis depth (`scanDepth`, `noTopComma`), and one specification per reader of the argument list
(`readMacroArgs_spec`, in `NoFuel` form: what is returned, and that no diagnostic is `fuel`), with what the termination and
painting proofs take from it: every argument is a sublist of the consumed text (`readMacroArgs_sublist`).
-/
import ChibiVerif.Model.PP
import ChibiVerif.Lemmas.C09Vocabulary
import ChibiVerif.Lemmas.ExceptLemmas

namespace ChibiVerif.PP
open Except (Ends)


def nextLvl (lvl : Nat) (t : Tok) : Nat := if t.text = "(" then lvl + 1 else if t.text = ")" then lvl - 1 else lvl

theorem ite_or {α : Type} (a b : Bool) (x y : α) :
    (if a = true then x else if b = true then x else y) = if (a || b) = true then x else y := by
  cases a <;> cases b <;> rfl

theorem argOne_cons (rr : Bool) (lvl : Nat) (t : Tok) (r : List Tok) :
    readMacroArgOne rr lvl (t :: r) =
      if (lvl == 0 && isTerm rr t) = true then .ok ([], t :: r)
      else (readMacroArgOne rr (nextLvl lvl t) r).map fun (a, r') => (t :: a, r') := by
  have hc : (lvl == 0 && t.text == ")" || lvl == 0 && !rr && t.text == ",") = (lvl == 0 && isTerm rr t) := by
    cases lvl == 0 <;> rfl
  have hn : (if (t.text == "(") = true then lvl + 1 else if (t.text == ")") = true then lvl - 1 else lvl) = nextLvl lvl t := by
    simp only [nextLvl, beq_iff_eq]
  rw [readMacroArgOne, ite_or, hc, hn]

theorem scanDepth_cons (d : Nat) (t : Tok) (r : List Tok) :
    scanDepth d (t :: r) = if d = 0 ∧ t.text = ")" then none else scanDepth (nextLvl d t) r := by
  rw [scanDepth, nextLvl]
  by_cases ho : t.text = "(" <;> by_cases hc : t.text = ")" <;> by_cases hd : d = 0 <;> simp_all

theorem noTopComma_cons (d : Nat) (t : Tok) (r : List Tok) :
    noTopComma d (t :: r) = ((d != 0 || t.text != ",") && noTopComma (nextLvl d t) r) := by
  rw [noTopComma, nextLvl]
  by_cases ho : t.text = "(" <;> by_cases hc : t.text = ")" <;> simp_all

/-- `read_macro_arg_one` from depth `lvl`: what it returns, and that its only diagnostic is "premature end of input" -/
theorem argOne_spec (rr : Bool) : ∀ (ts : List Tok) (lvl : Nat),
    Ends (· = .prematureEnd) (fun v => ts = v.1 ++ v.2 ∧ scanDepth lvl v.1 = some 0 ∧
      (rr = true ∨ noTopComma lvl v.1 = true) ∧ ∃ t r', v.2 = t :: r' ∧ isTerm rr t = true) (readMacroArgOne rr lvl ts) := by
  intro ts
  induction ts with
  | nil => exact fun _ => rfl
  | cons tok rest ih =>
    intro lvl
    rw [argOne_cons]
    split
    · rename_i hs
      simp only [Bool.and_eq_true, beq_iff_eq] at hs
      exact ⟨rfl, by rw [hs.1]; rfl, Or.inr rfl, tok, rest, rfl, hs.2⟩
    · rename_i hs
      refine ((ih (nextLvl lvl tok)).imp fun v hv => ?_).map
      obtain ⟨h1, h2, h3, h4⟩ := hv
      simp only [isTerm, Bool.and_eq_true, beq_iff_eq, Bool.or_eq_true, Bool.not_eq_true', not_and, not_or] at hs
      refine ⟨by rw [h1]; rfl, ?_, ?_, h4⟩
      · rw [scanDepth_cons, if_neg fun hc => (hs hc.1).1 hc.2]; exact h2
      · cases rr with
        | true => exact Or.inl rfl
        | false =>
          right
          rw [noTopComma_cons, h3.resolve_left nofun, Bool.and_true]
          by_cases h0 : lvl = 0
          · simpa [h0] using (hs h0).2 rfl
          · simp [h0]

theorem argOne_complete (rr : Bool) : ∀ (a : List Tok) (lvl : Nat) (t : Tok) (r : List Tok),
    scanDepth lvl a = some 0 → (rr = true ∨ noTopComma lvl a = true) → isTerm rr t = true →
    readMacroArgOne rr lvl (a ++ t :: r) = .ok (a, t :: r) := by
  intro a
  induction a with
  | nil =>
    intro lvl t r hd _ ht
    cases hd
    rw [List.nil_append, argOne_cons, if_pos (by simpa using ht)]
  | cons x a' ih =>
    intro lvl t r hd hc ht
    rw [scanDepth_cons] at hd
    split at hd
    · cases hd
    · rename_i hx
      rw [noTopComma_cons, Bool.and_eq_true] at hc
      have hns : ¬(lvl == 0 && isTerm rr x) = true := by
        simp only [isTerm, Bool.and_eq_true, beq_iff_eq, Bool.or_eq_true, Bool.not_eq_true', not_and, not_or]
        intro h0
        refine ⟨fun hp => hx ⟨h0, hp⟩, fun hrr hcm => ?_⟩
        rcases hc with hc | hc
        · rw [hrr] at hc; cases hc
        · simp [h0, hcm] at hc
      rw [List.cons_append, argOne_cons, if_neg hns, ih _ t r hd (hc.imp id And.right) ht]
      rfl

/-- separated lists concatenate, the second with its leading `,`; an empty first list must itself expect the `,` -/
theorem Sep.append {first : Bool} {as bs : List (List Tok)} {l m : List Tok} (h : Sep first as l) (hb : Sep false bs m)
    (hne : as = [] → first = false) : Sep first (as ++ bs) (l ++ m) := by
  induction h with
  | nil => exact hne rfl ▸ hb
  | first a as l _ ih => exact List.append_assoc a l m ▸ Sep.first a _ _ (ih fun _ => rfl)
  | next c a as l hc _ ih => exact (List.append_assoc a l m ▸ Sep.next c a _ _ hc (ih fun _ => rfl) : Sep false _ (c :: (a ++ l ++ m)))

/-- the run did not end in `.error .fuel`, and its result, if any, satisfies `P` -/
abbrev NoFuel {α : Type} (P : α → Prop) (r : Except Err α) : Prop := Ends (· ≠ .fuel) P r

theorem skip_spec (ts : List Tok) (s : String) : NoFuel (fun r => ∃ c, c.text = s ∧ ts = c :: r) (skip ts s) := by
  unfold skip
  split
  · split
    · rename_i hc; exact ⟨_, by simpa using hc, rfl⟩
    · exact nofun
  · exact nofun

theorem readNamedArgs_spec (ps : List String) (first : Bool) (ts : List Tok) :
    NoFuel (fun v => ∃ l, ts = l ++ v.2 ∧ Sep first (v.1.map (·.toks)) l ∧ v.1.map (·.name) = ps ∧
      ∀ a ∈ v.1, scanDepth 0 a.toks = some 0 ∧ noTopComma 0 a.toks = true ∧ a.isVa = false ∧ a.expanded = none)
      (readNamedArgs ps first ts) := by
  fun_induction readNamedArgs ps first ts
  · exact ⟨[], rfl, Sep.nil _, rfl, fun _ ha => nomatch ha⟩
  · rename_i hsk
    split at hsk
    · cases hsk
    · exact (skip_spec _ _).of_error hsk
  · exact (argOne_spec _ _ _).of_error ‹_› ▸ nofun
  · rename_i p ps first ts ts1 hskip a r1 hone ih
    refine (ih.imp fun v hv => ?_).map
    obtain ⟨l', hl, hsep, hnames, hgood⟩ := hv
    obtain ⟨rfl, h2, h3, _⟩ := (argOne_spec false _ _).of_ok hone
    have hall : ∀ x ∈ ({ name := p, toks := a } : MacroArg) :: v.1,
        scanDepth 0 x.toks = some 0 ∧ noTopComma 0 x.toks = true ∧ x.isVa = false ∧ x.expanded = none := by
      intro x hx
      rcases List.mem_cons.1 hx with rfl | hx
      · exact ⟨h2, h3.resolve_left nofun, rfl, rfl⟩
      · exact hgood x hx
    cases first with
    | true =>
      cases hskip
      exact ⟨a ++ l', by simp [hl], by simpa using Sep.first a _ _ hsep, by simp [hnames], hall⟩
    | false =>
      obtain ⟨c, hc, rfl⟩ := (skip_spec _ _).of_ok hskip
      exact ⟨c :: (a ++ l'), by simp [hl], by simpa using Sep.next c a _ _ hc hsep, by simp [hnames], hall⟩

/-- the check for the closing `)` at the end of `read_macro_args` -/
theorem fin_spec (args : List MacroArg) (r : List Tok) :
    NoFuel (fun v => v.1 = args ∧ v.2.1.text = ")" ∧ r = v.2.1 :: v.2.2)
      (match r with
       | t :: r' => if t.text == ")" then (Except.ok (args, t, r') : Except Err _) else .error (.expected ")")
       | [] => .error (.expected ")")) := by
  split
  · split
    · rename_i hc; exact ⟨rfl, by simpa using hc, rfl⟩
    · exact nofun
  · exact nofun

/-- what `read_macro_args` returns, read backwards: the consumed text is the arguments separated by commas, and no argument
    has been macro-replaced yet; its diagnostics are never `fuel` -/
theorem readMacroArgs_spec (ps : List String) (va : Option String) (ts : List Tok) :
    NoFuel (fun v =>
      (∀ a ∈ v.1, a.expanded = none) ∧
      v.2.1.text = ")" ∧ v.1.map (·.name) = ps ++ va.toList ∧
      (∀ a ∈ v.1, Balanced a.toks) ∧ (∀ a ∈ v.1, a.isVa = false → noTopComma 0 a.toks = true) ∧
      ∃ l, ts = l ++ v.2.1 :: v.2.2 ∧
        match (generalizing := false) va with
        | none => Sep true (v.1.map (·.toks)) l
        | some _ => ∃ named vaArg, v.1 = named ++ [vaArg] ∧ vaArg.isVa = true ∧ (∀ a ∈ named, a.isVa = false) ∧
            (Sep true (v.1.map (·.toks)) l ∨ (vaArg.toks = [] ∧ Sep true (named.map (·.toks)) l)))
      (readMacroArgs ps va ts) := by
  have named := fun {nargs r} (h : readNamedArgs ps true ts = .ok (nargs, r)) => (readNamedArgs_spec ps true ts).of_ok h
  -- the named arguments together with a variable argument `x` whose parentheses match
  have all : ∀ {nargs : List MacroArg} (x : MacroArg), (∀ a ∈ nargs, scanDepth 0 a.toks = some 0 ∧
      noTopComma 0 a.toks = true ∧ a.isVa = false ∧ a.expanded = none) → Balanced x.toks → x.isVa = true → x.expanded = none →
      ∀ a ∈ nargs ++ [x], a.expanded = none ∧ Balanced a.toks ∧ (a.isVa = false → noTopComma 0 a.toks = true) := by
    intro nargs x hgood hb hv he a ha
    rcases List.mem_append.1 ha with ha | ha
    · exact ⟨(hgood a ha).2.2.2, (hgood a ha).1, fun _ => (hgood a ha).2.1⟩
    · rw [List.mem_singleton.1 ha]; exact ⟨he, hb, fun h => by rw [hv] at h; cases h⟩
  fun_cases readMacroArgs ps va ts
  case case1 e he => exact (readNamedArgs_spec ps true ts).of_error he
  case case2 nargs r hnamed fin =>
    obtain ⟨l, hl, hsep, hnames, hgood⟩ := named hnamed
    refine (fin_spec nargs r).imp fun v hv => ?_
    obtain ⟨h1, hrp, rfl⟩ := hv
    rw [h1]
    exact ⟨fun a ha => (hgood a ha).2.2.2, hrp, by simp [hnames], fun a ha => (hgood a ha).1, fun a ha _ => (hgood a ha).2.1,
      l, hl, hsep⟩
  case case3 nargs r hnamed fin vn _ =>
    obtain ⟨l, hl, hsep, hnames, hgood⟩ := named hnamed
    refine (fin_spec _ r).imp fun v hv => ?_
    obtain ⟨h1, hrp, rfl⟩ := hv
    rw [h1]
    have hP := all { name := vn, isVa := true, toks := [] } hgood rfl rfl rfl
    exact ⟨fun a ha => (hP a ha).1, hrp, by simp [hnames], fun a ha => (hP a ha).2.1, fun a ha => (hP a ha).2.2,
      l, hl, nargs, _, rfl, rfl, fun a ha => (hgood a ha).2.2.1, Or.inr ⟨rfl, hsep⟩⟩
  case case4 nargs r hnamed vn hnrp e hsk =>
    split at hsk
    · cases hsk
    · exact (skip_spec _ _).of_error hsk
  case case5 => exact (argOne_spec _ _ _).of_error ‹_› ▸ nofun
  case case6 nargs r hnamed fin vn hnrp ts1 hskip a r2 hone =>
    obtain ⟨l, hl, hsep, hnames, hgood⟩ := named hnamed
    refine (fin_spec _ r2).imp fun v hv => ?_
    obtain ⟨hv1, hrp, rfl⟩ := hv
    rw [hv1]
    obtain ⟨h1, h2, _, _⟩ := (argOne_spec true _ _).of_ok hone
    have hP := all { name := vn, isVa := true, toks := a } hgood h2 rfl rfl
    refine ⟨fun a ha => (hP a ha).1, hrp, by simp [hnames], fun a ha => (hP a ha).2.1, fun a ha => (hP a ha).2.2, ?_⟩
    by_cases hemp : ps.isEmpty = true
    · simp only [hemp, if_true, Except.ok.injEq] at hskip
      subst hskip
      have hps : ps = [] := by simpa using hemp
      subst hps
      simp only [readNamedArgs, Except.ok.injEq, Prod.mk.injEq] at hnamed
      obtain ⟨rfl, rfl⟩ := hnamed
      cases hsep
      refine ⟨a, by rw [hl, h1]; simp, [], _, rfl, rfl, by simp, Or.inl ?_⟩
      simpa using Sep.first a [] [] (Sep.nil false)
    · simp only [hemp, Bool.false_eq_true, if_false] at hskip
      obtain ⟨c, hc, rfl⟩ := (skip_spec _ _).of_ok hskip
      refine ⟨l ++ c :: a, by rw [hl, h1]; simp, nargs, _, rfl, rfl, fun x hx => (hgood x hx).2.2.1, Or.inl ?_⟩
      have hne : nargs.map (·.toks) ≠ [] := by
        intro hnil
        have : nargs = [] := by simpa using hnil
        subst this
        simp at hnames
        exact hemp (by simp [← hnames])
      simpa using hsep.append (Sep.next c a [] [] hc (Sep.nil false)) fun h => absurd h hne

theorem Sep_sublist {first : Bool} {as : List (List Tok)} {l : List Tok} (h : Sep first as l) :
    ∀ a ∈ as, a.Sublist l := by
  induction h with
  | nil => intro a ha; simp at ha
  | first a as l _ ih =>
    intro x hx
    simp only [List.mem_cons] at hx
    rcases hx with rfl | hx
    · exact List.sublist_append_left _ _
    · exact (ih x hx).trans (List.sublist_append_right _ _)
  | next c a as l _ _ ih =>
    intro x hx
    simp only [List.mem_cons] at hx
    rcases hx with rfl | hx
    · exact (List.sublist_append_left _ _).trans (List.sublist_cons_self _ _)
    · exact ((ih x hx).trans (List.sublist_append_right _ _)).trans (List.sublist_cons_self _ _)

theorem readMacroArgs_sublist {ps : List String} {va : Option String} {ts : List Tok}
    {args : List MacroArg} {rp : Tok} {rest : List Tok}
    (h : readMacroArgs ps va ts = .ok (args, rp, rest)) :
    rp.text = ")" ∧ ∃ l, ts = l ++ rp :: rest ∧ ∀ a ∈ args, a.toks.Sublist l := by
  obtain ⟨_, hrp, _, _, _, l, hl, hshape⟩ := (readMacroArgs_spec _ _ _).of_ok h
  refine ⟨hrp, l, hl, fun a ha => ?_⟩
  cases va with
  | none => exact Sep_sublist hshape _ (List.mem_map_of_mem ha)
  | some v =>
    obtain ⟨named, vaArg, rfl, _, _, hsep | ⟨hemp, hsep⟩⟩ := hshape
    · exact Sep_sublist hsep _ (List.mem_map_of_mem ha)
    · rcases List.mem_append.1 ha with ha | ha
      · exact Sep_sublist hsep _ (List.mem_map_of_mem ha)
      · rw [List.mem_singleton.1 ha, hemp]; exact List.nil_sublist _

theorem readMacroArgs_mem {ps : List String} {va : Option String} {ts : List Tok}
    {args : List MacroArg} {rp : Tok} {rest : List Tok}
    (h : readMacroArgs ps va ts = .ok (args, rp, rest)) :
    (∀ a ∈ args, ∀ t ∈ a.toks, t ∈ ts) ∧ (∀ t ∈ rest, t ∈ ts) ∧ rp ∈ ts := by
  obtain ⟨_, l, rfl, hsub⟩ := readMacroArgs_sublist h
  exact ⟨fun a ha t ht => by simp [(hsub a ha).subset ht], fun t ht => by simp [ht], by simp⟩

end ChibiVerif.PP
