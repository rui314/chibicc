/-
C01: which of the analysed instruction sequences the model (Model/C01Codegen over the generated tables) selects for each
(operator, computation type) and for the unary operators (`unSeq_not_eq` …) — by kernel evaluation — and the C11 operator each node
kind stands for (`specOp`, `specUnOp`).  At the end: promotion lands in the four computation types (`promote_mem`,
`promote_promote`, `unop_promote`; the sibling facts about `usualArith` are in Lemmas/C01Value.lean).
-/
import ChibiVerif.Lemmas.C01ArithLemmas

namespace ChibiVerif.C01
open ChibiVerif.X86 ChibiVerif.Asm ChibiVerif.Spec.IntSpec ChibiVerif.Gen.CommonType ChibiVerif.C01Codegen

/-- the C11 operator a node kind of `add_type`'s switch stands for (`a > b` is parsed as `b < a`) -/
def specOp : NK → Option BinOp
  | .ND_ADD => some .add | .ND_SUB => some .sub | .ND_MUL => some .mul | .ND_DIV => some .div | .ND_MOD => some .mod
  | .ND_BITAND => some .band | .ND_BITOR => some .bor | .ND_BITXOR => some .bxor
  | .ND_SHL => some .shl | .ND_SHR => some .shr
  | .ND_EQ => some .eq | .ND_NE => some .ne | .ND_LT => some .lt | .ND_LE => some .le
  | _ => none

def specUnOp : NK → Option UnOp
  | .ND_NEG => some .neg | .ND_BITNOT => some .bitnot | .ND_NOT => some .lognot
  | _ => none


/-- a row of the selection: `k1 … k4` are the sequences `opSeq k ·` selects at `int`, `unsigned`, `long`, `unsigned long` (each row
    below names them; the four cells are evaluated by `rfl`), next to what the four sequences compute -/
theorem selected_of {P : OpKind → ITy → Prop} {k : NK} {k1 k2 k3 k4 : OpKind}
    (hc : P k1 .i32 ∧ P k2 .u32 ∧ P k3 .i64 ∧ P k4 .u64)
    (hs : opSeq k .i32 = k1.seq ∧ opSeq k .u32 = k2.seq ∧ opSeq k .i64 = k3.seq ∧ opSeq k .u64 = k4.seq)
    {t : ITy} (ht : t = .i32 ∨ t = .u32 ∨ t = .i64 ∨ t = .u64) :
    ∃ kind : OpKind, opSeq k t = kind.seq ∧ P kind t := by
  rcases ht with rfl | rfl | rfl | rfl
  · exact ⟨_, hs.1, hc.1⟩
  · exact ⟨_, hs.2.1, hc.2.1⟩
  · exact ⟨_, hs.2.2.1, hc.2.2.1⟩
  · exact ⟨_, hs.2.2.2, hc.2.2.2⟩

/-- the sequence the model selects for `(k, t)` is one of the analysed sequences and computes the C11 operation -/
theorem binop_selected (k : NK) (op : BinOp) (hop : specOp k = some op) (hns : op.isShift = false)
    (t : ITy) (ht : t = .i32 ∨ t = .u32 ∨ t = .i64 ∨ t = .u64) :
    ∃ kind : OpKind, opSeq k t = kind.seq ∧ kind.Computes op t := by
  cases k <;> simp [specOp] at hop <;> subst hop <;> simp [BinOp.isShift] at hns
  case ND_ADD => exact selected_of (k1 := .add32) (k2 := .add32) (k3 := .add64) (k4 := .add64) add_computes ⟨rfl, rfl, rfl, rfl⟩ ht
  case ND_SUB => exact selected_of (k1 := .sub32) (k2 := .sub32) (k3 := .sub64) (k4 := .sub64) sub_computes ⟨rfl, rfl, rfl, rfl⟩ ht
  case ND_MUL => exact selected_of (k1 := .mul32) (k2 := .mul32) (k3 := .mul64) (k4 := .mul64) mul_computes ⟨rfl, rfl, rfl, rfl⟩ ht
  case ND_DIV => exact selected_of (k1 := .divs32) (k2 := .divu32) (k3 := .divs64) (k4 := .divu64) ⟨divmod_i32.1, divmod_u32.1, divmod_i64.1, divmod_u64.1⟩ ⟨rfl, rfl, rfl, rfl⟩ ht
  case ND_MOD => exact selected_of (k1 := .mods32) (k2 := .modu32) (k3 := .mods64) (k4 := .modu64) ⟨divmod_i32.2, divmod_u32.2, divmod_i64.2, divmod_u64.2⟩ ⟨rfl, rfl, rfl, rfl⟩ ht
  case ND_BITAND => exact selected_of (k1 := .and32) (k2 := .and32) (k3 := .and64) (k4 := .and64) and_computes ⟨rfl, rfl, rfl, rfl⟩ ht
  case ND_BITOR => exact selected_of (k1 := .or32) (k2 := .or32) (k3 := .or64) (k4 := .or64) or_computes ⟨rfl, rfl, rfl, rfl⟩ ht
  case ND_BITXOR => exact selected_of (k1 := .xor32) (k2 := .xor32) (k3 := .xor64) (k4 := .xor64) xor_computes ⟨rfl, rfl, rfl, rfl⟩ ht
  case ND_EQ => exact selected_of (k1 := .eq32) (k2 := .eq32) (k3 := .eq64) (k4 := .eq64) eq_computes ⟨rfl, rfl, rfl, rfl⟩ ht
  case ND_NE => exact selected_of (k1 := .ne32) (k2 := .ne32) (k3 := .ne64) (k4 := .ne64) ne_computes ⟨rfl, rfl, rfl, rfl⟩ ht
  case ND_LT => exact selected_of (k1 := .lts32) (k2 := .ltu32) (k3 := .lts64) (k4 := .ltu64) lt_computes ⟨rfl, rfl, rfl, rfl⟩ ht
  case ND_LE => exact selected_of (k1 := .les32) (k2 := .leu32) (k3 := .les64) (k4 := .leu64) le_computes ⟨rfl, rfl, rfl, rfl⟩ ht

theorem shift_selected (k : NK) (op : BinOp) (hop : specOp k = some op) (hs : op.isShift = true)
    (t : ITy) (ht : t = .i32 ∨ t = .u32 ∨ t = .i64 ∨ t = .u64) :
    ∃ kind : OpKind, opSeq k t = kind.seq ∧ kind.ComputesShift op t := by
  cases k <;> simp [specOp] at hop <;> subst hop <;> simp [BinOp.isShift] at hs
  case ND_SHL => exact selected_of (k1 := .shl32) (k2 := .shl32) (k3 := .shl64) (k4 := .shl64) ⟨shl_i32, shl_u32, shl_i64, shl_u64⟩ ⟨rfl, rfl, rfl, rfl⟩ ht
  case ND_SHR => exact selected_of (k1 := .sar32) (k2 := .shr32) (k3 := .sar64) (k4 := .shr64) ⟨shr_i32, shr_u32, shr_i64, shr_u64⟩ ⟨rfl, rfl, rfl, rfl⟩ ht

/-! ### the sequences of the unary operators -/

theorem unSeq_not_eq (t : ITy) : unSeq .ND_NOT t = (if t.size = 8 then UnKind.lognot64 else UnKind.lognot32).seq := by
  cases t <;> rfl
theorem unSeq_neg_eq (t : ITy) (ht : t = .i32 ∨ t = .u32 ∨ t = .i64 ∨ t = .u64) : unSeq .ND_NEG t = UnKind.neg.seq := by
  rcases ht with rfl | rfl | rfl | rfl <;> rfl
theorem unSeq_bitnot_eq (t : ITy) (ht : t = .i32 ∨ t = .u32 ∨ t = .i64 ∨ t = .u64) : unSeq .ND_BITNOT t = UnKind.not.seq := by
  rcases ht with rfl | rfl | rfl | rfl <;> rfl

/-! ### promotion lands in the four computation types -/

theorem promote_mem (t : ITy) : promote t = .i32 ∨ promote t = .u32 ∨ promote t = .i64 ∨ promote t = .u64 := by
  cases t <;> simp [promote, ITy.rank, ITy.min, ITy.max, ITy.signed, ITy.bits]

theorem promote_promote (t : ITy) : promote (promote t) = promote t := by
  cases t <;> simp [promote, ITy.rank, ITy.min, ITy.max, ITy.signed, ITy.bits]

theorem convert_convert_promote (t : ITy) (v : Int) : convert (promote t) (convert (promote t) v) = convert (promote t) v :=
  convert_of_inRange (convert_inRange _ _)

/-- Spec: a unary operator on `t` is the operator on the promoted type applied to the promoted operand -/
theorem unop_promote (op : UnOp) (hne : op ≠ .lognot) (t : ITy) (v : Int) :
    unop op t v = unop op (promote t) (convert (promote t) v) := by
  cases op <;> simp [unop, promote_promote, convert_convert_promote] at *
end ChibiVerif.C01
