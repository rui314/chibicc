/-
C03 × C01: the abstract machine `execF` as a relation.  `Big R n s σ o σ'`: with fuel `n` the statement `s` run from `σ` ends
with outcome `o` in `σ'` — one rule for each way an `execF` call returns `done` (`big_iff`).  The proofs about terminating runs
(fuel monotonicity `Big.exec_le` here, the simulation in Lemmas/C03FunSim.lean) are inductions over these derivations: a loop
iteration has the run of the body AND the run of the rest of the loop as premises.  `execF_le`, `execF_unique`: the fuel only bounds
the recursion depth, so "terminates with outcome `o` and store `σ'`" does not depend on it.
-/
import ChibiVerif.Model.C03Fun

namespace ChibiVerif.C03Fun
open ChibiVerif.Spec.IntSpec

/-- the outcome of a `switch` whose statement list ended with `o`: `break` leaves the `switch` normally -/
def Out.unbrk : Out → Out
  | .brk => .normal
  | o => o

/-- the statement list a `switch` on `v` runs: from the selected `case`, else from `default` (`execF`'s two nested matches as one) -/
def selected (P : ITy) (v : Int) (body : FStmt) : Option FStmt :=
  (selectCase P v body).orElse fun _ => selectDefault body

/-- the rules of `execF`, one for each way a call returns `done`; the first index is the fuel the call needs.  `expr`: 6.8.3;
    `seq` / `seqStop`: 6.8.2, a jump leaves the block; `ifteT` / `ifteF`: 6.8.4.1p2; `forInit`: 6.8.5.3 (the first clause once); `forExit` /
    `forNext` / `forStop`, `doNext` / `doExit` / `doStop`: 6.8.5p4 with 6.8.6.2 (`continue` goes to the end of the body) and 6.8.6.3 (`break`
    ends the loop); `switch` / `switchMiss` / `case_` / `default_`: 6.8.4.2p4–7; `ret`: 6.8.6.4p3 -/
inductive Big (R : ITy) : Nat → FStmt → Env → Out → Env → Prop
  | skip {n σ} : Big R (n + 1) .skip σ .normal σ
  | expr {n σ e v σ'} : evalE σ e = some (v, σ') → Big R (n + 1) (.expr e) σ .normal σ'
  | brk {n σ} : Big R (n + 1) .brk σ .brk σ
  | cont {n σ} : Big R (n + 1) .cont σ .cont σ
  | ret {n σ e v σ'} : evalE σ (.cast R e) = some (v, σ') → Big R (n + 1) (.ret e) σ (.ret v) σ'
  | seq {n a b σ σ1 o σ'} : Big R n a σ .normal σ1 → Big R n b σ1 o σ' → Big R (n + 1) (.seq a b) σ o σ'
  | seqStop {n a b σ o σ'} : Big R n a σ o σ' → o ≠ .normal → Big R (n + 1) (.seq a b) σ o σ'
  | ifteT {n c t f σ v σ1 o σ'} : evalE σ c = some (v, σ1) → v ≠ 0 → Big R n t σ1 o σ' → Big R (n + 1) (.ifte c t f) σ o σ'
  | ifteF {n c t f σ σ1 o σ'} : evalE σ c = some (0, σ1) → Big R n f σ1 o σ' → Big R (n + 1) (.ifte c t f) σ o σ'
  | forInit {n i c inc b σ v σ0 o σ'} : evalE σ i = some (v, σ0) → Big R n (.for_ none c inc b) σ0 o σ' →
      Big R (n + 1) (.for_ (some i) c inc b) σ o σ'
  | forExit {n c inc b σ σ'} : evalE σ c = some (0, σ') → Big R (n + 1) (.for_ none c inc b) σ .normal σ'
  | forNext {n c inc b σ v σ1 ob σ2 σ3 o σ'} : evalE σ c = some (v, σ1) → v ≠ 0 → Big R n b σ1 ob σ2 →
      ob = .normal ∨ ob = .cont → evalOpt σ2 inc = some σ3 → Big R n (.for_ none c inc b) σ3 o σ' →
      Big R (n + 1) (.for_ none c inc b) σ o σ'
  | forStop {n c inc b σ v σ1 ob σ'} : evalE σ c = some (v, σ1) → v ≠ 0 → Big R n b σ1 ob σ' → ob ≠ .normal → ob ≠ .cont →
      Big R (n + 1) (.for_ none c inc b) σ ob.unbrk σ'
  | doNext {n b c σ ob σ2 v σ3 o σ'} : Big R n b σ ob σ2 → ob = .normal ∨ ob = .cont → evalE σ2 c = some (v, σ3) → v ≠ 0 →
      Big R n (.doWhile b c) σ3 o σ' → Big R (n + 1) (.doWhile b c) σ o σ'
  | doExit {n b c σ ob σ2 σ'} : Big R n b σ ob σ2 → ob = .normal ∨ ob = .cont → evalE σ2 c = some (0, σ') →
      Big R (n + 1) (.doWhile b c) σ .normal σ'
  | doStop {n b c σ ob σ'} : Big R n b σ ob σ' → ob ≠ .normal → ob ≠ .cont → Big R (n + 1) (.doWhile b c) σ ob.unbrk σ'
  | switch {n e body σ t v σ1 rest ob σ'} : typeOf σ e = some t → evalE σ e = some (v, σ1) → switchOK (promote t) body = true →
      selected (promote t) v body = some rest → Big R n rest σ1 ob σ' → Big R (n + 1) (.switch_ e body) σ ob.unbrk σ'
  | switchMiss {n e body σ t v σ'} : typeOf σ e = some t → evalE σ e = some (v, σ') → switchOK (promote t) body = true →
      selected (promote t) v body = none → Big R (n + 1) (.switch_ e body) σ .normal σ'
  | case_ {n lo hi s σ o σ'} : Big R n s σ o σ' → Big R (n + 1) (.case_ lo hi s) σ o σ'
  | default_ {n s σ o σ'} : Big R n s σ o σ' → Big R (n + 1) (.default_ s) σ o σ'


theorem big_of_exec (R : ITy) : ∀ (n : Nat) (s : FStmt) (σ : Env) (o : Out) (σ' : Env),
    execF R n s σ = .done o σ' → Big R n s σ o σ' := by
  intro n
  induction n with
  | zero => intro s σ o σ' h; cases h
  | succ n ih =>
    intro s σ o σ' h
    cases s with
    | skip => cases h; exact .skip
    | brk => cases h; exact .brk
    | cont => cases h; exact .cont
    | expr e =>
      simp only [execF] at h
      split at h
      · cases h; exact .expr ‹_›
      · cases h
    | ret e =>
      simp only [execF] at h
      split at h
      · cases h; exact .ret ‹_›
      · cases h
    | case_ lo hi s => exact .case_ (ih _ _ _ _ h)
    | default_ s => exact .default_ (ih _ _ _ _ h)
    | seq a b =>
      rw [execF] at h
      generalize ha : execF R n a σ = ra at h
      cases ra with
      | timeout | undef | unsupported => cases h
      | done oa σ1 =>
        cases oa with
        | normal => exact .seq (ih _ _ _ _ ha) (ih _ _ _ _ h)
        | brk | cont | ret _ => cases h; exact .seqStop (ih _ _ _ _ ha) (by simp)
    | ifte c t f =>
      simp only [execF] at h
      split at h
      · rename_i v σ1 hv
        by_cases hv0 : v = 0
        · subst hv0; exact .ifteF hv (ih _ _ _ _ (by simpa using h))
        · exact .ifteT hv hv0 (ih _ _ _ _ (by simpa [hv0] using h))
      · cases h
    | for_ init c inc body =>
      cases init with
      | some i =>
        simp only [execF] at h
        split at h
        · exact .forInit ‹_› (ih _ _ _ _ h)
        · cases h
      | none =>
        simp only [execF] at h
        split at h
        · cases h
        · rename_i v σ1 hv
          by_cases hv0 : v = 0
          · subst hv0; simp only [if_true] at h; cases h; exact .forExit hv
          · simp only [hv0, if_false] at h
            generalize hb : execF R n body σ1 = rb at h
            cases rb with
            | timeout | undef | unsupported => cases h
            | done ob σ2 =>
              have hb := ih _ _ _ _ hb
              cases ob with
              | normal | cont =>
                simp only at h
                split at h
                · exact .forNext hv hv0 hb (by simp) ‹_› (ih _ _ _ _ h)
                · cases h
              | brk | ret w => cases h; exact .forStop hv hv0 hb (by simp) (by simp)
    | doWhile body c =>
      simp only [execF] at h
      generalize hb : execF R n body σ = rb at h
      cases rb with
      | timeout | undef | unsupported => cases h
      | done ob σ2 =>
        have hb := ih _ _ _ _ hb
        cases ob with
        | normal | cont =>
          simp only at h
          split at h
          · rename_i v σ3 hv
            by_cases hv0 : v = 0
            · subst hv0; simp only [ne_eq, not_true_eq_false, if_false] at h; cases h; exact .doExit hb (by simp) hv
            · exact .doNext hb (by simp) hv hv0 (ih _ _ _ _ (by simpa [hv0] using h))
          · cases h
        | brk | ret w => cases h; exact .doStop hb (by simp) (by simp)
    | switch_ e body =>
      simp only [execF] at h
      split at h
      · rename_i t v σ1 ht hv
        by_cases hok : switchOK (promote t) body = true
        · simp only [hok, if_true] at h
          cases hs : selected (promote t) v body with
          | none =>
            have h1 : selectCase (promote t) v body = none := by
              cases h1 : selectCase (promote t) v body <;> simp [selected, h1] at hs ⊢
            have h2 : selectDefault body = none := by simpa [selected, h1] using hs
            simp only [h1, h2] at h
            cases h; exact .switchMiss ht hv hok hs
          | some rest =>
            have h : (match execF R n rest σ1 with | .done .brk σ2 => FRes.done .normal σ2 | r => r) = .done o σ' := by
              cases h1 : selectCase (promote t) v body with
              | some r1 => simp only [selected, h1, Option.orElse, Option.some.injEq] at hs; subst hs; simp only [h1] at h; exact h
              | none =>
                simp only [selected, h1, Option.orElse] at hs
                simp only [h1, hs] at h; exact h
            generalize hb : execF R n rest σ1 = rb at h
            cases rb with
            | timeout | undef | unsupported => cases h
            | done ob σ2 => cases ob <;> cases h <;> exact .switch ht hv hok hs (ih _ _ _ _ hb)
        · simp [hok] at h
      · cases h

theorem succ_le_cases {n n' : Nat} (h : n + 1 ≤ n') : ∃ k, n' = k + 1 ∧ n ≤ k := by
  cases n' with
  | zero => cases h
  | succ k => exact ⟨k, rfl, Nat.le_of_succ_le_succ h⟩

/-- a derivation with fuel `n` is the answer of `execF` with every fuel from `n` on: each rule spends one unit and hands the rest to
    its premises -/
theorem Big.exec_le {R : ITy} {n : Nat} {s : FStmt} {σ σ' : Env} {o : Out} (h : Big R n s σ o σ') :
    ∀ {n'}, n ≤ n' → execF R n' s σ = .done o σ' := by
  -- in every case: the rule spent one unit, so `n' = k + 1`, and the premises are asked with fuel `k`
  induction h with
  | skip | brk | cont => intro n' hn; obtain ⟨k, rfl, hk⟩ := succ_le_cases hn; rfl
  | expr hv | ret hv => intro n' hn; obtain ⟨k, rfl, hk⟩ := succ_le_cases hn; simp [execF, hv]
  | seq _ _ iha ihb => intro n' hn; obtain ⟨k, rfl, hk⟩ := succ_le_cases hn; simp [execF, iha hk, ihb hk]
  | @seqStop n a b σ o σ' _ ho iha =>
    intro n' hn; obtain ⟨k, rfl, hk⟩ := succ_le_cases hn
    -- `execF` passes on every outcome of `a` but `normal`
    cases o with
    | normal => exact absurd rfl ho
    | brk | cont | ret _ => simp [execF, iha hk]
  | ifteT hv hv0 _ ih => intro n' hn; obtain ⟨k, rfl, hk⟩ := succ_le_cases hn; simp [execF, hv, hv0, ih hk]
  | ifteF hv _ ih => intro n' hn; obtain ⟨k, rfl, hk⟩ := succ_le_cases hn; simp [execF, hv, ih hk]
  | forInit hv _ ih => intro n' hn; obtain ⟨k, rfl, hk⟩ := succ_le_cases hn; simp [execF, hv, ih hk]
  | forExit hv => intro n' hn; obtain ⟨k, rfl, hk⟩ := succ_le_cases hn; simp [execF, hv]
  | forNext hv hv0 _ hob hi _ ihb ih =>
    intro n' hn; obtain ⟨k, rfl, hk⟩ := succ_le_cases hn
    rcases hob with rfl | rfl <;> simp [execF, hv, hv0, ihb hk, hi, ih hk]
  | @forStop n c inc b σ v σ1 ob σ' hv hv0 _ h1 h2 ihb =>
    intro n' hn; obtain ⟨k, rfl, hk⟩ := succ_le_cases hn
    cases ob with
    | normal => exact absurd rfl h1
    | cont => exact absurd rfl h2
    | brk | ret _ => simp [execF, hv, hv0, ihb hk, Out.unbrk]
  | doNext _ hob hv hv0 _ ihb ih =>
    intro n' hn; obtain ⟨k, rfl, hk⟩ := succ_le_cases hn
    rcases hob with rfl | rfl <;> simp [execF, hv, hv0, ihb hk, ih hk]
  | doExit _ hob hv ihb =>
    intro n' hn; obtain ⟨k, rfl, hk⟩ := succ_le_cases hn
    rcases hob with rfl | rfl <;> simp [execF, hv, ihb hk]
  | @doStop n b c σ ob σ' _ h1 h2 ihb =>
    intro n' hn; obtain ⟨k, rfl, hk⟩ := succ_le_cases hn
    cases ob with
    | normal => exact absurd rfl h1
    | cont => exact absurd rfl h2
    | brk | ret _ => simp [execF, ihb hk, Out.unbrk]
  | @switch n e body σ t v σ1 rest ob σ' ht hv hok hs _ ih =>
    intro n' hn; obtain ⟨k, rfl, hk⟩ := succ_le_cases hn
    simp only [selected] at hs
    cases h1 : selectCase (promote t) v body with
    | some r =>
      simp only [h1, Option.orElse, Option.some.injEq] at hs; subst hs
      cases ob <;> simp [execF, ht, hv, hok, h1, ih hk, Out.unbrk]
    | none =>
      simp only [h1, Option.orElse] at hs
      cases ob <;> simp [execF, ht, hv, hok, h1, hs, ih hk, Out.unbrk]
  | @switchMiss n e body σ t v σ' ht hv hok hs =>
    intro n' hn; obtain ⟨k, rfl, hk⟩ := succ_le_cases hn
    simp only [selected] at hs
    cases h1 : selectCase (promote t) v body with
    | some r => simp [h1, Option.orElse] at hs
    | none => simp only [h1, Option.orElse] at hs; simp [execF, ht, hv, hok, h1, hs]
  | case_ _ ih | default_ _ ih => intro n' hn; obtain ⟨k, rfl, hk⟩ := succ_le_cases hn; simpa [execF] using ih hk

theorem big_iff {R : ITy} {n : Nat} {s : FStmt} {σ σ' : Env} {o : Out} : execF R n s σ = .done o σ' ↔ Big R n s σ o σ' :=
  ⟨big_of_exec R n s σ o σ', fun h => h.exec_le (Nat.le_refl _)⟩

theorem execF_le (R : ITy) {n n' : Nat} (hn : n ≤ n') {s : FStmt} {σ σ' : Env} {o : Out}
    (h : execF R n s σ = .done o σ') : execF R n' s σ = .done o σ' :=
  (big_iff.1 h).exec_le hn

theorem execF_unique (R : ITy) {n1 n2 : Nat} {s : FStmt} {σ σ1 σ2 : Env} {o1 o2 : Out}
    (h1 : execF R n1 s σ = .done o1 σ1) (h2 : execF R n2 s σ = .done o2 σ2) : o1 = o2 ∧ σ1.vals = σ2.vals ∧ σ1.tys = σ2.tys := by
  have a := execF_le R (Nat.le_max_left n1 n2) h1
  have b := execF_le R (Nat.le_max_right n1 n2) h2
  rw [a] at b
  simp only [FRes.done.injEq] at b
  obtain ⟨rfl, rfl⟩ := b
  exact ⟨rfl, rfl, rfl⟩

end ChibiVerif.C03Fun
