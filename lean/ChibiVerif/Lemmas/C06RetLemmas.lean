/-
C06, return values: the machine side (integer-class values in %rax).

* which instructions `return e;` adds (`retSeq_int`: the cast-table cell of C01),
* the epilogue `mov %rbp, %rsp; pop %rbp` leaves %rax alone (`epilogue_ok`),
* the caller's normalisation after `call`, for *any* callee that obeys the psABI minimum (`caller_norm_ok`): `LowHolds t x w`
  — the low `sizeof t` bytes of %rax are the object representation of `w` — is all that is needed.
-/
import ChibiVerif.Model.C06Ret
import ChibiVerif.Lemmas.C06ArgLemmas

namespace ChibiVerif.C06Ret
open ChibiVerif.X86 ChibiVerif.Asm ChibiVerif.Spec.IntSpec ChibiVerif.C01 ChibiVerif.C06Args
open ChibiVerif.Gen.CommonType ChibiVerif.Gen.ReturnStmt

theorem retSeq_scalar (rt e : TyD) (hp : (rt.kind != Kind.TY_STRUCT && rt.kind != Kind.TY_UNION) = true) :
    retSeq rt e = (castChain e [rt]).flatMap Line.instrs := by
  simp [retSeq, retStep, hp]

theorem retSeq_int (frm to : ITy) : retSeq (descr to) (descr frm) = castSeq frm to :=
  (retSeq_scalar _ _ (descrA_scalar (.int to))).trans (castChain_int frm to)

/-- a pointer / enumeration is returned like `unsigned long` / `int` -/
theorem retSeq_ptr_enum :
    retSeq ty_ptr ty_ptr = [] ∧ retSeq ty_enum ty_enum = [] ∧ retSeq ty_enum (descr .i32) = [] ∧
    retSeq (descr .i32) ty_enum = [] := ⟨rfl, rfl, rfl, rfl⟩

/-- the generated epilogue is `mov %rbp, %rsp; pop %rbp; ret` -/
theorem epilogue_shape : epilogue = epilogueSeq ++ [⟨"ret", []⟩] ∧
    epilogueSeq = [⟨"mov", [.r "%rbp", .r "%rsp"]⟩, ⟨"pop", [.r "%rbp"]⟩] := ⟨rfl, rfl⟩

/-- `mov %rbp, %rsp; pop %rbp`: %rax and memory are untouched; %rsp points at the return address, %rbp is the word the
    prologue saved -/
theorem epilogue_ok (s : State) :
    Post epilogueSeq s fun s' => s'.get .rax = s.get .rax ∧ s'.get .rsp = s.get .rbp + 8 ∧
      s'.get .rbp = s.read64 (s.get .rbp) ∧ s'.mem = s.mem := by
  refine Post.of_run (s1 := ((s.set .rsp (s.get .rbp)).set .rsp (s.get .rbp + 8)).set .rbp (s.read64 (s.get .rbp))) rfl
    ⟨?_, ?_, ?_, rfl⟩
  · rw [State.get_set_ne _ _ _ _ (by decide), State.get_set_ne _ _ _ _ (by decide), State.get_set_ne _ _ _ _ (by decide)]
  · rw [State.get_set_ne _ _ _ _ (by decide), State.get_set_same]
  · rw [State.get_set_same]

/-- the caller's instruction per return type, as generated from the `switch (node->ty->kind)` of `case ND_FUNCALL` -/
theorem callerRetSeq_int :
    callerRetSeq (descr .bool) = [⟨"movzx", [.r "%al", .r "%eax"]⟩] ∧
    callerRetSeq (descr .i8) = CastKind.movsbl.seq ∧ callerRetSeq (descr .u8) = CastKind.movzbl.seq ∧
    callerRetSeq (descr .i16) = CastKind.movswl.seq ∧ callerRetSeq (descr .u16) = CastKind.movzwl.seq ∧
    callerRetSeq (descr .i32) = [] ∧ callerRetSeq (descr .u32) = [] ∧ callerRetSeq (descr .i64) = [] ∧
    callerRetSeq (descr .u64) = [] ∧ callerRetSeq ty_ptr = [] ∧ callerRetSeq ty_enum = [] := by
  refine ⟨rfl, rfl, rfl, rfl, rfl, rfl, rfl, rfl, rfl, rfl, rfl⟩

/-- **the caller's normalisation**: whatever the bits of %rax above the low `sizeof t` bytes are, after the instruction that
    `case ND_FUNCALL` prints for the return type `t` %rax represents `w` (codegen.c's invariant: extended to 32 bits, `_Bool` and
    64-bit types in the whole register); no other register changes.  Per type the re-extension of the low bytes, as in
    `load_ok` for a value read from memory. -/
theorem caller_norm_ok (t : ITy) (c : State) (w : Int) (h : LowHolds t (c.get .rax) w) :
    Post (callerRetSeq (descr t)) c fun c' => Represents t (c'.get .rax) w ∧ ∀ r, r ≠ .rax → c'.get r = c.get r := by
  obtain ⟨hr, hl⟩ := lowHolds_def.1 h
  cases t <;> simp only [inRange_eq] at hr <;> simp only [ITy.size, Nat.reduceMul] at hl
  case i32 | u32 | i64 | u64 => exact Post.nil ⟨represents_def.2 ⟨hr, hl⟩, fun _ _ => rfl⟩
  -- each of the instructions writes %eax only
  all_goals refine Post.of_run rfl ⟨represents_def.2 ⟨hr, ?_⟩, fun r hr => State.get_setW_ne c .rax r .w32 _ hr⟩
  case i8 => exact hl.sext (n := 32) (by decide) (by omega) (by omega) (BitVec.setWidth_setWidth_self (by decide) _)
  case i16 => exact hl.sext (n := 32) (by decide) (by omega) (by omega) (BitVec.setWidth_setWidth_self (by decide) _)
  case u8 | u16 => exact hl.zext (n := 32) (by omega) (by omega) (BitVec.setWidth_setWidth_self (by decide) _)
  case bool =>
    show Low 64 ((((c.get .rax).setWidth 8).setWidth 32).setWidth 64) w
    exact (hl.zext (n := 32) (by omega) (by omega) (BitVec.setWidth_setWidth_self (by decide) _)).zext (n := 64)
      (by omega) (by omega) (by rw [BitVec.setWidth_eq, BitVec.setWidth_setWidth_self (n := 32) (m := 64) (by decide)])

end ChibiVerif.C06Ret
