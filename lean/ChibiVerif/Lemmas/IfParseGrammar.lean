/-
Lemmas about Model/IfParse.lean, part 2: ONE walk over the functions of parse.c.  `Run E ts D r' r`: `r` is a proper outcome of
parsing `ts` – a tree `t` and a rest such that the tokens in front of the rest are a `D`-phrase with tree `t` (each parser
function applies the grammar rule of Spec/IfGrammar.lean it implements), or a diagnostic of a kind in `E` located inside
`ts` – and `r'` is that same outcome.  The rules `run_bind`, `run_imp`, `run_skip`, `run_peek` follow the ways parse.c's
functions are put together (a call and what is done with its result, `skip`, a test of the next token).  One unfolding of
the parser is `Run` when its recursive calls are, on shorter inputs (`step_run`); read off this: fuel `length + 1` suffices
and results are located inside the input (`parseN_wb`), one more level of unfolding changes nothing (`parseN_stable`, so the
parser is the function `parse` of the token list alone, a fixed point of `step`), and every tree delivered is derived by the
C11 grammar for exactly the tokens consumed (`parseN_snd`).  Core Lean only.
-/
import ChibiVerif.Lemmas.IfParseLemmas
import ChibiVerif.Lemmas.ListLemmas

namespace ChibiVerif.IfParse
open ChibiVerif.PPExpr ChibiVerif.CondIncl ChibiVerif.Spec.IfGrammar
open ChibiVerif.Gen.C10IfParse

/-- what the tokens an entry point consumes are: a phrase of its nonterminal; for the loop of level `d` entered with `node`,
    what extends any phrase with tree `node` to a phrase of level `d` -/
def phrase : Mode → List PTok → PT → Prop
  | .expr => Derives .expr
  | .cond => Derives .cond
  | .lvl d => Derives (.lvl d)
  | .loop d node => fun pre t => ∀ pre0, Derives (.lvl d) pre0 node → Derives (.lvl d) (pre0 ++ pre) t

/-- `r'` is the outcome `r`, and `r` is proper for the input `ts`.  `E`: the diagnostics the recursive calls may end with – the
    parser's own (`EKok`) when their fuel suffices, anything ("out of fuel" included) when nothing is known about the fuel -/
def Run (E : EK → Prop) (ts : List PTok) (D : List PTok → PT → Prop) (r' r : Res) : Prop :=
  r' = r ∧ match r with
    | .ok (t, rest) => ∃ pre, ts = pre ++ rest ∧ D pre t
    | .error (k, rest) => E k ∧ rest.length ≤ ts.length

/-- the recursive calls are `Run` on inputs shorter than `n` -/
def Calls (E : EK → Prop) (prev' prev : Mode → List PTok → Res) (n : Nat) : Prop :=
  ∀ m ts, ts.length < n → Run E ts (phrase m) (prev' m ts) (prev m ts)

theorem len_le {ts pre rest : List PTok} (e : ts = pre ++ rest) : rest.length ≤ ts.length := by
  rw [e, List.length_append]; exact Nat.le_add_left _ _

section
variable {E : EK → Prop} {ts : List PTok} {D : List PTok → PT → Prop}

theorem run_ok {t : PT} {rest : List PTok} (pre : List PTok) (e : ts = pre ++ rest) (h : D pre t) :
    Run E ts D (.ok (t, rest)) (.ok (t, rest)) := ⟨rfl, pre, e, h⟩

theorem run_err {k : EK} {rest : List PTok} (hk : E k) (h : rest.length ≤ ts.length) :
    Run E ts D (.error (k, rest)) (.error (k, rest)) := ⟨rfl, hk, h⟩

/-- a call on the rest `r0` of the input, and what is done with its result -/
theorem run_bind {r0 : List PTok} {P : List PTok → PT → Prop} {x' x : Res} {k' k : PT → List PTok → Res}
    (hx : Run E r0 P x' x) (h0 : r0.length ≤ ts.length)
    (hk : ∀ t r pre, r0 = pre ++ r → P pre t → Run E ts D (k' t r) (k t r)) :
    Run E ts D (match (generalizing := false) x' with | .error e => .error e | .ok (t, r) => k' t r)
      (match (generalizing := false) x with | .error e => .error e | .ok (t, r) => k t r) := by
  obtain ⟨rfl, h⟩ := hx
  rcases x' with _ | ⟨t, r⟩
  · exact ⟨rfl, h.1, Nat.le_trans h.2 h0⟩
  · obtain ⟨pre, e, hd⟩ := h
    exact hk t r pre e hd

/-- the result of a call on the rest `r0`, returned as it is -/
theorem run_imp {r0 : List PTok} {P : List PTok → PT → Prop} {x' x : Res} (hx : Run E r0 P x' x) (h0 : r0.length ≤ ts.length)
    (hk : ∀ t r pre, r0 = pre ++ r → P pre t → ∃ pre', ts = pre' ++ r ∧ D pre' t) : Run E ts D x' x := by
  obtain ⟨rfl, h⟩ := hx
  rcases x' with _ | ⟨t, r⟩
  · exact ⟨rfl, h.1, Nat.le_trans h.2 h0⟩
  · obtain ⟨pre, e, hd⟩ := h
    exact ⟨rfl, hk t r pre e hd⟩

theorem run_skip {s : String} {r : List PTok} {k' k : List PTok → Res} (hs : E (.expected s)) (hr : r.length ≤ ts.length)
    (hk : ∀ r', r = .punct s :: r' → Run E ts D (k' r') (k r')) :
    Run E ts D (match skipTok s r with | .error e => .error e | .ok r' => k' r')
      (match skipTok s r with | .error e => .error e | .ok r' => k r') := by
  rcases skipTok_cases s r with ⟨r', e, h⟩ | h <;> rw [h]
  · exact hk r' e
  · exact run_err hs hr

theorem run_peek {t : PT} {r : List PTok} (hu : E .unmodelled) (pre : List PTok) (e : ts = pre ++ r) (h : D pre t) (c : String → Bool) :
    Run E ts D
      (match (generalizing := false) r with
        | .punct s :: _ => if c s then .error (.unmodelled, r) else .ok (t, r)
        | _ => .ok (t, r))
      (match (generalizing := false) r with
        | .punct s :: _ => if c s then .error (.unmodelled, r) else .ok (t, r)
        | _ => .ok (t, r)) := by
  split
  · split
    · exact run_err hu (len_le e)
    · exact run_ok pre e h
  · exact run_ok pre e h

end

section
variable {E : EK → Prop} (prev' prev : Mode → List PTok → Res)

theorem loopAt_run (d : Nat) (node : PT) (ts : List PTok) (hp : Calls E prev' prev ts.length) :
    Run E ts (phrase (.loop d node)) (loopAt prev' d node ts) (loopAt prev d node ts) := by
  have stop : Run E ts (phrase (.loop d node)) (.ok (node, ts)) (.ok (node, ts)) :=
    run_ok [] rfl fun pre0 hnode => by rw [List.append_nil]; exact hnode
  unfold loopAt
  split
  · next s r =>
    split
    · next op sw hop =>
      -- the entry found is an operator of C11's level `d`, with the node kind that denotes it
      have hmem := List.find?_fst_mem hop
      cases d with
      | zero => cases hmem
      | succ d' =>
        have hd : d' + 1 < 11 := Nat.lt_of_not_le fun hd => by rw [opsAt_large _ hd] at hmem; cases hmem
        have ht := table_c11.2 (d' + 1) (List.mem_range.2 hd) _ hmem
        refine run_bind (hp (.lvl (d' + 1 - 1)) r (Nat.lt_succ_self _)) (Nat.le_succ _) fun rhs r' p1 e1 hd1 => ?_
        refine run_imp (hp (.loop (d' + 1) (mkNode op sw node rhs)) r' (Nat.lt_succ_of_le (len_le e1)))
          (Nat.le_succ_of_le (len_le e1)) fun t rest p2 e2 hd2 => ⟨.punct s :: (p1 ++ p2), by rw [e1, e2]; simp, fun pre0 hnode => ?_⟩
        simpa using hd2 (pre0 ++ .punct s :: p1) (by rw [mkNode_binTree op sw ht.2]; exact .binop ht.1 hnode hd1)
    · exact stop
  · exact stop


variable (hE : ∀ k, EKok k = true → E k)
include hE

theorem postfixP_run (ts : List PTok) (hp : Calls E prev' prev ts.length) :
    Run E ts (Derives (.lvl 0)) (postfixP prev' ts) (postfixP prev ts) := by
  refine run_bind (x' := primary prev' ts) (x := primary prev ts) (P := Derives (.lvl 0)) (r0 := ts) ?_ (Nat.le_refl _)
    fun _ _ pre e h => run_peek (hE _ rfl) pre e h _
  -- primary()
  rcases ts with _ | ⟨⟨v, u⟩ | s | _, r⟩
  · exact run_err (hE _ rfl) (Nat.le_refl _)
  · exact run_ok [.num v u] rfl (.num v u)
  · simp only [primary]
    split
    · next hs =>
      subst hs
      split
      · exact run_err (hE _ rfl) (Nat.le_refl _)
      · refine run_bind (hp .expr r (Nat.lt_succ_self _)) (Nat.le_succ _) fun t r' pre e1 hd => ?_
        refine run_skip (hE _ rfl) (Nat.le_succ_of_le (len_le e1)) fun r'' e => ?_
        subst e e1
        exact run_ok (.punct "(" :: pre ++ [.punct ")"]) (by simp) (.paren hd)
    · exact run_err (hE _ rfl) (Nat.le_refl _)
  · exact run_err (hE _ rfl) (Nat.le_refl _)

theorem lvlD_run (d : Nat) (ts : List PTok) (hp : Calls E prev' prev ts.length) :
    Run E ts (Derives (.lvl d)) (lvlD prev' d ts) (lvlD prev d ts) := by
  induction d with
  | zero =>
    -- level 0 is cast()/unary()
    show Run E ts _ (unary prev' ts) (unary prev ts)
    have h0 := postfixP_run prev' prev hE ts hp
    unfold unary
    split
    · next s r =>
      split
      · next op hop =>
        simp only [mkUnary_unTree]
        exact run_bind (hp (.lvl 0) r (Nat.lt_succ_self _)) (Nat.le_succ _) fun _ _ pre e hd =>
          run_ok (.punct s :: pre) (by rw [e]; rfl) (.unop (unary_c11.1 _ (List.find?_fst_mem hop)) hd)
      · split
        · exact run_err (hE _ rfl) (Nat.le_refl _)
        · exact h0
    · exact h0
  | succ d ih =>
    refine run_bind ih (Nat.le_refl _) fun node r pre0 e0 hd0 => ?_
    refine run_imp (loopAt_run prev' prev (d+1) node r fun m ts' h => hp m ts' (Nat.lt_of_lt_of_le h (len_le e0))) (len_le e0)
      fun t rest pre e hd => ⟨pre0 ++ pre, by rw [e0, e, List.append_assoc], hd pre0 (.up hd0)⟩

theorem condAt_run (ts : List PTok) (hp : Calls E prev' prev ts.length) :
    Run E ts (Derives .cond) (condAt prev' ts) (condAt prev ts) := by
  have h0 := lvlD_run prev' prev hE top ts hp
  unfold condAt
  rw [table_c11.1] at h0 ⊢
  refine run_bind h0 (Nat.le_refl _) fun c r pc ec hdc => ?_
  have up : Run E ts (Derives .cond) (.ok (c, r)) (.ok (c, r)) := run_ok pc ec (.condUp hdc)
  split
  · next s r1 =>
    have l1 : r1.length < ts.length := Nat.lt_of_succ_le (len_le ec)
    split
    · next hs =>
      subst hs
      split
      · exact run_err (hE _ rfl) (len_le ec)
      · refine run_bind (hp .expr r1 l1) (Nat.le_of_lt l1) fun a r2 pa ea hda => ?_
        have l2 : r2.length < ts.length := Nat.lt_of_le_of_lt (len_le ea) l1
        refine run_skip (hE _ rfl) (Nat.le_of_lt l2) fun r3 e => ?_
        subst e
        have l3 : r3.length < ts.length := Nat.lt_of_succ_lt l2
        refine run_bind (hp .cond r3 l3) (Nat.le_of_lt l3) fun _ _ pb eb hdb => ?_
        exact run_ok (pc ++ .punct "?" :: (pa ++ .punct ":" :: pb)) (by rw [ec, ea, eb]; simp) (.cond hdc hda hdb)
    · exact up
  · exact up

theorem exprAt_run (ts : List PTok) (hp : Calls E prev' prev ts.length) :
    Run E ts (Derives .expr) (exprAt prev' ts) (exprAt prev ts) := by
  refine run_bind (x' := assignAt prev' ts) (x := assignAt prev ts) (P := Derives .cond) (r0 := ts)
    (run_bind (condAt_run prev' prev hE ts hp) (Nat.le_refl _) fun _ _ pre e h => run_peek (hE _ rfl) pre e h _)
    (Nat.le_refl _) fun a r pa ea hda => ?_
  have up : Run E ts (Derives .expr) (.ok (a, r)) (.ok (a, r)) := run_ok pa ea (.exprUp hda)
  split
  · next s r1 =>
    split
    · next hs =>
      subst hs
      have l1 : r1.length < ts.length := Nat.lt_of_succ_le (len_le ea)
      exact run_bind (hp .expr r1 l1) (Nat.le_of_lt l1) fun _ _ pb eb hdb =>
        run_ok (pa ++ .punct "," :: pb) (by rw [ea, eb]; simp) (.comma hda hdb)
    · exact up
  · exact up

/-- one unfolding: a proper outcome, and the same for `prev` and `prev'`, when the recursive calls are on shorter inputs -/
theorem step_run (m : Mode) (ts : List PTok) (hp : Calls E prev' prev ts.length) :
    Run E ts (phrase m) (step prev' m ts) (step prev m ts) :=
  match m with
  | .expr => exprAt_run prev' prev hE ts hp
  | .cond => condAt_run prev' prev hE ts hp
  | .lvl d => lvlD_run prev' prev hE d ts hp
  | .loop d node => loopAt_run prev' prev d node ts hp

end

/-- with fuel above the number of tokens: a proper outcome that is not "out of fuel", unchanged by one more unfolding -/
theorem parseN_run (f : Nat) : Calls (EKok · = true) (parseN (f+1)) (parseN f) f := by
  induction f with
  | zero => exact fun _ _ h => absurd h (Nat.not_lt_zero _)
  | succ f ih =>
    exact fun m ts h => step_run (parseN (f+1)) (parseN f) (fun _ h => h) m ts fun m' ts' h' =>
      ih m' ts' (Nat.lt_of_lt_of_le h' (Nat.le_of_lt_succ h))

/-- with any fuel: what is delivered is a phrase -/
theorem parseN_phrase (f : Nat) : ∀ m ts, Run (fun _ => True) ts (phrase m) (parseN f m ts) (parseN f m ts) := by
  induction f with
  | zero => exact fun _ ts => run_err trivial (Nat.le_refl _)
  | succ f ih => exact fun m ts => step_run (parseN f) (parseN f) (fun _ _ => trivial) m ts fun m' ts' _ => ih m' ts'

theorem parseN_wb (f : Nat) (m : Mode) (ts : List PTok) (h : ts.length < f) : WB (parseN f m ts) ts.length := by
  have := (parseN_run f m ts h).2
  generalize parseN f m ts = r at this
  rcases r with _ | _
  · exact this
  · obtain ⟨_, e, _⟩ := this; exact len_le e

/-- what a successful result of an entry point means -/
def Snd : Mode → Res → List PTok → Prop
  | .expr, r, ts => ∀ t rest, r = .ok (t, rest) → ∃ pre, ts = pre ++ rest ∧ Derives .expr pre t
  | .cond, r, ts => ∀ t rest, r = .ok (t, rest) → ∃ pre, ts = pre ++ rest ∧ Derives .cond pre t
  | .lvl d, r, ts => ∀ t rest, r = .ok (t, rest) → ∃ pre, ts = pre ++ rest ∧ Derives (.lvl d) pre t
  | .loop d node, r, ts => ∀ t rest, r = .ok (t, rest) → ∀ pre0, Derives (.lvl d) pre0 node →
      ∃ pre, ts = pre ++ rest ∧ Derives (.lvl d) (pre0 ++ pre) t

theorem parseN_snd (f : Nat) (m : Mode) (ts : List PTok) : Snd m (parseN f m ts) ts := by
  have := (parseN_phrase f m ts).2
  cases m <;> intro t rest e <;> rw [e] at this
  · exact this
  · exact this
  · exact this
  · intro pre0 h0
    obtain ⟨pre, e, hd⟩ := this
    exact ⟨pre, e, hd pre0 h0⟩

theorem parseN_stable (ts : List PTok) (m : Mode) (f : Nat) (h : ts.length < f) : parseN f m ts = parseN (ts.length + 1) m ts := by
  induction h with
  | refl => rfl
  | step hf ih => rw [(parseN_run _ m ts hf).1, ih]

def parse (m : Mode) (ts : List PTok) : Res := parseN (ts.length + 1) m ts

theorem parse_step (m : Mode) (ts : List PTok) : parse m ts = step parse m ts :=
  ((step_run parse (parseN ts.length) (fun _ h => h) m ts fun m' ts' h =>
    ⟨(parseN_stable ts' m' _ h).symm, (parseN_run _ m' ts' h).2⟩).1).symm

end ChibiVerif.IfParse
