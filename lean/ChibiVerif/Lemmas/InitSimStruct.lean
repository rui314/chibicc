/-
C05, parser = specification: the simulation step for the struct and union functions (`struct_initializer2`,
`struct_initializer1`, `union_initializer`, `union_rest`).  `struct_initializer1`'s loop is stated for a root struct that may be
the declared struct with its flexible array member (`Loop1`, `struct1loop_step`), so that Lemmas/InitFlexLemmas.lean runs the same
loop; `init2_stops`: `initializer2` where a list ends or a designator stands.
-/
import ChibiVerif.Lemmas.InitSimArr

namespace ChibiVerif.InitSpec
open ChibiVerif.Init
open Except (Ends)

variable {root : Ty} {top : Bool} {p : List Nat} {ms : Members} {sz : Nat} {fl0 : Bool} {k : Nat} {t : Ty} {tok : ITok}
    {r : List ITok} {f : Nat} {toks : List ITok}

theorem cursorIn_struct_some {i j : Nat}
    (ht : subTy root p = some (.struct ms sz fl0)) (hn : nextNamed ms ms.length i = some j) :
    cursorIn root top p i = some (p ++ [j]) := by
  simp [cursorIn, ht, hn]

theorem cursorIn_struct_none {i : Nat}
    (ht : subTy root p = some (.struct ms sz fl0)) (hn : nextNamed ms ms.length i = none) :
    cursorIn root top p i = next root top p.reverse := by
  simp [cursorIn, ht, hn]

theorem cursorIn_struct_congr {i i' : Nat}
    (ht : subTy root p = some (.struct ms sz fl0)) (hn : nextNamed ms ms.length i = nextNamed ms ms.length i') :
    cursorIn root top p i = cursorIn root top p i' := by
  simp only [cursorIn, ht, hn]

theorem cursorIn_union
    (ht : subTy root p = some (.union ms sz fl0)) (i : Nat) : cursorIn root top p i = next root top p.reverse := by
  simp [cursorIn, ht]

theorem childTy_struct {mi : MemInfo} (h : ms[k]? = some (mi, t)) :
    childTy (.struct ms sz fl0) k = some t := by
  simp [childTy, h]

theorem childTy_union {mi : MemInfo} (h : ms[k]? = some (mi, t)) :
    childTy (.union ms sz fl0) k = some t := by
  simp [childTy, h]

theorem shaped_setChild_struct {e : Option Expr} {cs : List Init} {mi : MemInfo} {v : Init}
    (hms : shapedMs ms cs = true) (hm : ms[k]? = some (mi, t)) (hv : shaped t v = true) :
    shaped (.struct ms sz fl0) ((Init.struct e cs).setChild k v) = true := by
  simp only [Init.setChild, Init.withChildren, Init.children, shaped]
  exact shapedMs_set ms cs k mi t v hms hm hv

theorem shaped_setMem_union {e : Option Expr} {m : Option Nat} {cs : List Init} {mi : MemInfo} {v : Init}
    (hms : shapedMs ms cs = true) (hm : ms[k]? = some (mi, t)) (hv : shaped t v = true) :
    shaped (.union ms sz fl0) (((Init.union e m cs).setMem k).setChild k v) = true := by
  simp only [Init.setMem, Init.setChild, Init.withChildren, Init.children, shaped, Bool.and_eq_true]
  exact ⟨shapedMs_set ms cs k mi t v hms hm hv, by simp⟩

theorem nextNamed_prefix : ∀ (mem : Nat), (∀ j, j < mem → ∃ mi t, ms[j]? = some (mi, t) ∧ unnamedBf mi = true) →
    nextNamed ms ms.length 0 = nextNamed ms ms.length mem
  | 0, _ => rfl
  | mem+1, h => by
    rw [nextNamed_prefix mem (fun j hj => h j (by omega))]
    obtain ⟨mi, t, hm, hu⟩ := h mem (by omega)
    exact nextNamed_skip hm hu

/-- an initializer without braces for (a part of) a struct/union that an expression of struct/union type initialised lies in
    the region `AggExprOverride` -/
theorem Imp.of_tok_xover {g : Nat} {obj : Init} {fl : Flags} {c : Init} {y : Except Fail Result}
    (hb : tok ≠ .lbrace) (ht : subTy root p = some t) (hs : stopsAt t tok = false)
    (hg : getAt obj p = some c) (ha : hasAggExpr c = true) : Imp (initItem g root top obj [p] (tok :: r) fl) y := by
  intro res hr hc
  exfalso
  rw [initItem_tok hb] at hr
  obtain ⟨q, hq, hr⟩ := bind_eq_ok hr
  obtain ⟨obj', _, hr⟩ := bind_eq_ok hr
  obtain ⟨k, s, rfl⟩ := descend_below ht hs hq
  have := (Flags.clean_mk (Flags.clean_join (initList_clean hr hc)).2).2.1
  rw [exprAbove_below hg ha] at this
  cases this

theorem hasAggExpr_struct_none (cs : List Init) : hasAggExpr (.struct none cs) = false := rfl

theorem struct_expr_none {e : Option Expr} {cs : List Init} (h : hasAggExpr (.struct e cs) = false) : e = none := by
  cases e <;> simp [hasAggExpr] at h ⊢

theorem union_expr_none {e : Option Expr} {m : Option Nat} {cs : List Init} (h : hasAggExpr (.union e m cs) = false) : e = none := by
  cases e <;> simp [hasAggExpr] at h ⊢

theorem sim_struct2 (ih : Sim f) : Struct2St (f+1) := by
  intro root top obj p ms sz fl0 c toks mem c' toks' hA h
  obtain ⟨e, cs, rfl, hms⟩ := struct_of_shaped hA.shapedc
  refine Yields.use h ?_
  rw [structInit2]
  cases hm : ms[mem]? with
  | none =>
    refine Ends.pure ?_
    rintro ⟨⟩
    refine ⟨hA.shapedc, fun hM _ g fl => ⟨g, ?_⟩⟩
    simp only [After, hM, cursorIn_struct_none hA.sub (nextNamed_past hm)]
    exact Imp.refl _
  | some m =>
    obtain ⟨mi, mty⟩ := m
    refine Ends.ite (fun hend => Ends.pure ?_) fun hend => Ends.ite (fun hu => ?_) fun hu => ?_
    · rintro ⟨⟩
      refine ⟨hA.shapedc, fun hM _ g fl => ⟨g, ?_⟩⟩
      simp only [After, hM]
      exact Imp.of_eq (initList_stopped (Or.inl hend))
    · refine Yields.last fun hrec => ?_
      obtain ⟨hs', himp⟩ := ih.struct2 hA hrec
      refine ⟨hs', fun hM hE g fl => ?_⟩
      obtain ⟨g', h'⟩ := himp hM hE g fl
      refine ⟨g', ?_⟩
      rw [cursorIn_struct_congr hA.sub (nextNamed_skip hm hu)]
      exact h'
    · simp only [Bool.false_eq_true, ↓reduceIte]
      refine Yields.via skipTok_ok fun toks1 htoks => ?_
      subst htoks
      refine Ends.ite (fun hd => Ends.pure ?_) fun hd => ?_
      · rintro ⟨⟩
        refine ⟨hA.shapedc, fun hM _ g fl => ⟨g, ?_⟩⟩
        simp only [After, hM]
        exact Imp.of_eq (initList_stopped (Or.inr ⟨toks1, rfl, hd⟩))
      · refine Yields.via getChild_ok fun cm hk => ?_
        have hAm := hA.child (childTy_struct hm) hk
        refine Yields.via (ih.init2 hAm) fun r1 ⟨hsm, himp1⟩ => ?_
        refine Yields.last fun hloop => ?_
        -- the shape of the result does not depend on the specification's object
        have hs1 := shaped_setChild_struct (sz := sz) (fl0 := fl0) (e := e) hms hm hsm
        obtain ⟨hs', _⟩ := ih.struct2 (top := top) (At.root hA.ok hs1) hloop
        refine ⟨hs', fun hM hE g fl => ?_⟩
        cases struct_expr_none hE
        obtain ⟨e1, hA1, hM1⟩ := hA.set_child (childTy_struct hm) hk hsm
        rw [setAtM_one_struct] at hA1 hM1 e1
        obtain ⟨_, himp2⟩ := ih.struct2 hA1 hloop
        cases g with
        | zero => exact ⟨0, Imp.of_error rfl⟩
        | succ g =>
          obtain ⟨g1, h1⟩ := himp1 g fl
          obtain ⟨g2, h2⟩ := himp2 hM1 rfl g1 fl
          refine ⟨g2, ?_⟩
          rw [cursorIn_struct_some hA.sub (nextNamed_here hm (Bool.eq_false_iff.mpr hu))]
          exact Imp.of_positional (consumeEnd_none_of_isEnd (by simpa using hend)) rfl (fun h => absurd h hd)
            fun _ => hA.seq e1 h1 h2

theorem firstSub_struct (root : Ty) (top : Bool) (p : List Nat) (ms : Members) (sz : Nat) (fl0 : Bool) :
    firstSub root top p (.struct ms sz fl0) = nextNamed ms ms.length 0 := rfl

theorem firstSub_union (root : Ty) (top : Bool) (p : List Nat) (ms : Members) (sz : Nat) (fl0 : Bool) :
    firstSub root top p (.union ms sz fl0) = nextNamed ms ms.length 0 := rfl

theorem startable_not_isEnd (h : startable tok = true) : isEnd (tok :: r) = false := by
  cases he : isEnd (tok :: r) with
  | false => rfl
  | true => rw [isEnd_not_startable he] at h; cases h

theorem startable_not_isDesg (h : startable tok = true) : isDesg (tok :: r) = false := by
  cases he : isDesg (tok :: r) with
  | false => rfl
  | true => rw [isDesg_not_startable he] at h; cases h

theorem sim_struct20 (ih : Sim f) : Struct20St (f+1) := by
  intro root top obj p ms sz fl0 c tok r mem c' toks' hA hb hst hns hpre h
  obtain ⟨e, cs, rfl, hms⟩ := struct_of_shaped hA.shapedc
  refine Yields.use h ?_
  rw [structInit2]
  cases hm : ms[mem]? with
  | none =>
    refine Ends.pure ?_
    rintro ⟨⟩
    refine ⟨hA.shapedc, fun g fl => ⟨g, ?_⟩⟩
    have hfs : firstSub root top p (.struct ms sz fl0) = none := by
      rw [firstSub_struct, nextNamed_prefix mem hpre, nextNamed_past hm]
    exact Imp.of_lhs_error (initItem_descend_none hb hA.sub hns hfs)
  | some m =>
    obtain ⟨mi, mty⟩ := m
    simp only [startable_not_isEnd hst, Bool.false_eq_true, ↓reduceIte]
    refine Ends.ite (fun hu => ?_) fun hu => ?_
    · refine Yields.last fun hrec => ?_
      refine ih.struct20 hA hb hst hns (fun j hj => ?_) hrec
      by_cases hj' : j < mem
      · exact hpre j hj'
      · cases show j = mem by omega
        exact ⟨mi, mty, hm, hu⟩
    · have hu' : unnamedBf mi = false := Bool.eq_false_iff.mpr hu
      simp only [pure_bind', startable_not_isDesg hst, Bool.false_eq_true, ↓reduceIte]
      refine Yields.via getChild_ok fun cm hk => ?_
      have hAm := hA.child (childTy_struct hm) hk
      refine Yields.via (ih.init2 hAm) fun r1 ⟨hsm, himp1⟩ => ?_
      refine Yields.last fun hloop => ?_
      have hs1 := shaped_setChild_struct (sz := sz) (fl0 := fl0) (e := e) hms hm hsm
      obtain ⟨hs', _⟩ := ih.struct2 (top := top) (At.root hA.ok hs1) hloop
      refine ⟨hs', fun g fl => ?_⟩
      cases e with
      | some e0 =>
        exact ⟨0, Imp.of_tok_xover hb hA.sub hns hA.get rfl⟩
      | none =>
        obtain ⟨e1, hA1, hM1⟩ := hA.set_child (childTy_struct hm) hk hsm
        rw [setAtM_one_struct] at hA1 hM1 e1
        obtain ⟨_, himp2⟩ := ih.struct2 hA1 hloop
        obtain ⟨g1, h1⟩ := himp1 g fl
        obtain ⟨g2, h2⟩ := himp2 hM1 rfl g1 fl
        refine ⟨g2, ?_⟩
        have hfs : firstSub root top p (.struct ms sz fl0) = some mem := by
          rw [firstSub_struct, nextNamed_prefix mem hpre, nextNamed_here hm hu']
        exact hA.seq e1 ((initItem_descend_step hb hA.sub hns hfs).trans h1) h2

theorem subOk_union_named (h : subOk (.union ms sz fl0) = true) :
    ∃ k, nextNamed ms ms.length 0 = some k ∧ firstNamed ms ms.length 0 = k ∧ ms.isEmpty = false := by
  simp only [subOk, Bool.and_eq_true] at h
  cases hn : nextNamed ms ms.length 0 with
  | none => simp [hn] at h
  | some k =>
    refine ⟨k, rfl, firstNamed_spec ms _ 0 k hn, ?_⟩
    cases ms with
    | nil => simp [nextNamed] at hn
    | cons _ _ => rfl

theorem sim_union0 (ih : Sim f) : Union0St (f+1) := by
  intro root top obj p ms sz fl0 c tok r c' toks' hA hb hst hns h
  obtain ⟨e, m, cs, rfl, hms⟩ := union_of_shaped hA.shapedc
  obtain ⟨k, hnn, hfn, hne⟩ := subOk_union_named hA.ok
  refine Yields.use h ?_
  unfold unionInit
  split
  · rename_i heq; cases heq; exact absurd rfl hb
  · simp only [hne, Bool.false_eq_true, ↓reduceIte, hfn]
    split
    · rename_i heq; cases heq; exact absurd rfl hb
    · refine Yields.via memTy_ok fun mty ⟨mi, hm⟩ => ?_
      refine Yields.via getChild_ok fun ck hk => ?_
      replace hk : (Init.union e m cs).children[k]? = some ck := by simpa [Init.setMem, Init.children] using hk
      have hAk := hA.child (childTy_union hm) hk
      refine Yields.via (ih.init2 hAk) fun r1 ⟨hsk, himp1⟩ => Ends.pure ?_
      rintro ⟨⟩
      refine ⟨shaped_setMem_union (sz := sz) (fl0 := fl0) (e := e) (m := m) hms hm hsk, fun g fl => ?_⟩
      cases e with
      | some e0 =>
        exact ⟨0, Imp.of_tok_xover hb hA.sub hns hA.get rfl⟩
      | none =>
        obtain ⟨e1, _, _⟩ := hA.set_child (childTy_union hm) hk hsk
        rw [setAtM_one_union] at e1
        obtain ⟨g1, h1⟩ := himp1 g fl
        refine ⟨g1, ?_⟩
        have hfs : firstSub root top p (.union ms sz fl0) = some k := by rw [firstSub_union, hnn]
        have h0 := initItem_descend_step (g := g) (obj := obj) (r := r) (fl := fl) hb hA.sub hns hfs
        rw [After]
        rw [After_child, cursorIn_union hA.sub, e1] at h1
        exact h0.trans h1

theorem cursorIn_struct_root (top : Bool) (i : Nat) :
    cursorIn (.struct ms sz fl0) top [] i = (nextNamed ms ms.length i).map (fun j => [j]) := by
  cases hn : nextNamed ms ms.length i with
  | none => rw [cursorIn_struct_none rfl hn]; simp [next_nil]
  | some j => rw [cursorIn_struct_some rfl hn]; simp

theorem isDesg_not_dot (hd : isDesg toks = true) (hn : ∀ n r, toks ≠ .dot n :: r) : isBracket toks = true := by
  rcases isDesg_cases hd with h | ⟨n, r, h⟩
  · exact h
  · exact absurd h (hn n r)

/-! ### `struct_initializer1`'s loop

The loop runs on the root of a brace-enclosed list.  That root may be the declared struct with its flexible array member; the
loop is the same, only the last member's node is not an ordinary one (`FlexMem` below; proved in Lemmas/InitFlexLemmas.lean:
`flexMem`). -/

/-- `struct_initializer1`'s loop with budget `f` on a root struct (`fl0`: with flexible array member), from member `mem` on,
    against the specification's list with the cursor at that member -/
def Loop1 (ms : Members) (sz : Nat) (fl0 top : Bool) (f : Nat) : Prop :=
  ∀ {c : Init} {toks : List ITok} {mem : Nat} {first : Bool} {c' : Init} {rest : List ITok},
    shapedR (.struct ms sz fl0) c = true → structInit1Loop f ms toks c mem first = .ok (c', rest) →
    shapedR (.struct ms sz fl0) c' = true ∧ (hasAggExpr c = false → ∀ g fl,
      Imp (initList g (.struct ms sz fl0) top c (cursorIn (.struct ms sz fl0) top [] mem) toks first fl) (.ok ⟨c', rest, fl⟩))

/-- what the loop needs of the flexible array member `ms[k] : t` of the declared struct: the parser's call on the member's node
    (`.flex`, or an array once an initializer has reached it) against the specification's initializer for `[k]`, positional and
    designated; afterwards no member is left -/
structure FlexMem (ms : Members) (sz : Nat) (k : Nat) (t : Ty) (f : Nat) : Prop where
  pos : ∀ {cs : List Init} {ck : Init} {toks : List ITok} {ck' : Init} {toks2 : List ITok}, shapedFlexMs ms cs = true →
    cs[k]? = some ck → initializer2 f t toks ck = .ok (ck', toks2) →
    shapedFlexMs ms (cs.set k ck') = true ∧ ∀ g fl res,
      initItem g (.struct ms sz true) true (.struct none cs) [[k]] toks
        (fl.join (reinitFl (.struct ms sz true) true (.struct none cs) false [[k]])) = .ok res → res.fl.clean = true →
      ∃ g', initList g' (.struct ms sz true) true (.struct none (cs.set k ck')) none toks2 false fl = .ok res
  desg : ∀ {cs : List Init} {ck : Init} {r : List ITok} {ck' : Init} {tok2 : List ITok}, shapedFlexMs ms cs = true →
    cs[k]? = some ck → designation f t r ck = .ok (ck', tok2) →
    shapedFlexMs ms (cs.set k ck') = true ∧ ∀ g d fl res,
      (desigPaths (.struct ms sz true) true (d+1) [[k]] r >>= fun pt =>
        initItem g (.struct ms sz true) true (.struct none cs) pt.1 pt.2
          (fl.join (reinitFl (.struct ms sz true) true (.struct none cs) true pt.1))) = .ok res → res.fl.clean = true →
      ∃ g', initList g' (.struct ms sz true) true (.struct none (cs.set k ck')) none tok2 false fl = .ok res

theorem struct_of_shapedR {c : Init} (h : shapedR (.struct ms sz fl0) c = true) : ∃ e cs, c = .struct e cs := by
  cases fl0 <;> cases c <;> first | exact ⟨_, _, rfl⟩ | simp [shapedR, shaped] at h

theorem root_member {e : Option Expr} {cs : List Init} {j : Nat} {mi : MemInfo} {cj : Init}
    (hs : shapedR (.struct ms sz fl0) (.struct e cs) = true) (hm : ms[j]? = some (mi, t)) (hc : cs[j]? = some cj) :
    (shaped t cj = true ∧ (fl0 = true → j + 1 ≠ ms.length)) ∨ (fl0 = true ∧ j + 1 = ms.length ∧ t.isAgg = false) := by
  cases fl0 with
  | false => exact .inl ⟨shapedMs_get ms cs j mi t cj hs hm hc, fun h => by cases h⟩
  | true =>
    rcases shapedFlexMs_get ms cs j mi t cj hs hm hc with ⟨h1, h2⟩ | ⟨h1, _, _, rfl, _⟩
    · exact .inl ⟨h2, fun _ => h1⟩
    · exact .inr ⟨rfl, h1, rfl⟩

theorem shapedR_setMember {e : Option Expr} {cs : List Init} {j : Nat} {mi : MemInfo} {v : Init}
    (hs : shapedR (.struct ms sz fl0) (.struct e cs) = true) (hm : ms[j]? = some (mi, t))
    (hj : fl0 = true → j + 1 ≠ ms.length) (hv : shaped t v = true) :
    shapedR (.struct ms sz fl0) ((Init.struct e cs).setChild j v) = true := by
  cases fl0 with
  | false => exact shaped_setChild_struct (sz := sz) (fl0 := false) hs hm hv
  | true => exact shapedFlexMs_set ms cs j mi t v hs hm (.inl ⟨hj rfl, hv⟩)

theorem At.member (ho : tyOk (.struct ms sz fl0) = true) (htop : fl0 = true → top = true) {e : Option Expr} {cs : List Init}
    (hs : shapedR (.struct ms sz fl0) (.struct e cs) = true) {j : Nat} {mi : MemInfo} {cj : Init}
    (hm : ms[j]? = some (mi, t)) (hc : cs[j]? = some cj) (hj : fl0 = true → j + 1 ≠ ms.length) :
    At (.struct ms sz fl0) top (.struct e cs) [j] t cj where
  rootOk := ho
  topOk := fun h => by
    cases fl0 with
    | false => cases h
    | true => exact htop rfl
  pok := by
    cases fl0 with
    | false => rfl
    | true => simpa [pathOk] using hj rfl
  shp := hs
  sub := by rw [subTy_one]; simp [childTy, hm]
  get := getAt_one (by simpa [Init.children] using hc)
  ok := by
    cases fl0 with
    | false => exact subOkMs_get ms j mi t (by simpa [tyOk, subOk] using ho) hm
    | true => exact flexOkMs_get ms j mi t (by simpa [tyOk] using ho) hm

/-- one round of the loop: the end of the list, a `.name` designator, the next member, or an excess element; `hrec`: the rest of
    the loop -/
theorem struct1loop_step (ih : Sim f) (ho : tyOk (.struct ms sz fl0) = true) (htop : fl0 = true → top = true)
    (hrec : Loop1 ms sz fl0 top f)
    (hflex : ∀ k mi t, fl0 = true → k + 1 = ms.length → ms[k]? = some (mi, t) → FlexMem ms sz k t f) :
    Loop1 ms sz fl0 top (f+1) := by
  intro c toks mem first c' rest hs h
  obtain ⟨e, cs, rfl⟩ := struct_of_shapedR hs
  have hlen : cs.length = ms.length := by
    cases fl0 with
    | false => exact shapedMs_length ms cs hs
    | true => exact shapedFlexMs_length ms cs hs
  -- behind the flexible member no member is left
  have past : ∀ {k : Nat}, k + 1 = ms.length → cursorIn (.struct ms sz fl0) top [] (k + 1) = none := by
    intro k hk
    rw [cursorIn_struct_root, nextNamed_past (List.getElem?_eq_none (by omega))]; rfl
  refine Yields.use h ?_
  rw [structInit1Loop]
  cases hce : consumeEnd toks with
  | some rest0 =>
    refine Ends.ok ?_
    rintro ⟨⟩
    exact ⟨hs, fun _ _ _ => Imp.list_end hce⟩
  | none =>
    simp only []
    rw [ite_bind_pull]
    refine Yields.step fun toks1 hfirst => ?_
    split
    · -- `.name` designator
      rename_i name r
      refine Yields.step fun ⟨k, anon⟩ hsd => ?_
      refine Yields.via memTy_ok fun mty ⟨mi, hm⟩ => ?_
      refine Yields.via getChild_ok fun ck hk => ?_
      replace hk : cs[k]? = some ck := by simpa [Init.children] using hk
      refine Yields.step fun ⟨ck', tok2⟩ hd => Yields.last fun hloop => ?_
      rcases root_member hs hm hk with ⟨_, hj⟩ | ⟨rfl, hlast, hna⟩
      · have hAk := At.member (top := top) ho htop hs hm hk hj
        obtain ⟨hsk, himp1⟩ := ih.desg hAk hd
        obtain ⟨hs', himp2⟩ := hrec (shapedR_setMember hs hm hj hsk) hloop
        refine ⟨hs', fun hE g fl => ?_⟩
        cases struct_expr_none hE
        cases g with
        | zero => exact Imp.of_error rfl
        | succ g =>
          refine Imp.of_item hce ?_
          rw [hfirst, ok_bind]
          simp only [pathsOf, isDesg, ↓reduceIte]
          rw [(desigPaths_member (p := []) r rfl (by rw [findMember]) rfl hAk.sub hsd hm).1]
          obtain ⟨g1, h1⟩ := himp1 g ((ITok.dot name :: r).length + anon.toNat) fl
          simp only [List.nil_append, After, List.reverse_cons, List.reverse_nil, setAtM_one_struct] at h1 ⊢
          exact h1.trans (himp2 rfl g1 fl)
      · -- the flexible member, found under its own name
        cases htop rfl
        obtain ⟨j, mi', t', hkj, hmj, hcase⟩ := structDesignator_spec name ms 0 k anon hsd
        cases show k = j by omega
        cases hm.symm.trans hmj
        rcases hcase with ⟨rfl, hfm⟩ | ⟨_, hagg, _⟩
        case inr => rw [hna] at hagg; cases hagg
        simp only [Bool.false_eq_true, ↓reduceIte] at hd
        obtain ⟨hs1, himp1⟩ := (hflex k mi mty rfl hlast hm).desg hs hk hd
        obtain ⟨hs', himp2⟩ := hrec (c := (Init.struct e cs).setChild k ck') hs1 hloop
        refine ⟨hs', fun hE g fl => ?_⟩
        cases struct_expr_none hE
        cases g with
        | zero => exact Imp.of_error rfl
        | succ g =>
          intro res hres hcl
          rw [initList_item hce, hfirst, ok_bind] at hres
          simp only [pathsOf, isDesg, ↓reduceIte, List.length_cons] at hres
          rw [desigPaths_dot (p := []) (t := .struct ms sz true) _ r rfl (by rw [findMember]; exact hfm) rfl] at hres
          obtain ⟨g', h1⟩ := himp1 g r.length fl res hres hcl
          rw [← past hlast] at h1
          exact himp2 rfl g' fl res h1 hcl
    · -- positional
      rename_i hnd
      have hderr : isDesg toks1 = true → ∃ e, desigPaths (.struct ms sz fl0) top (toks1.length + 1) [[]] toks1 = .error e :=
        fun hdg => desigPaths_bracket_error (t := .struct ms sz fl0) rfl top _ (isDesg_not_dot hdg hnd)
      have hnn := skipUnnamedBf_spec ms ms.length mem (by omega)
      refine Ends.ite (fun hlt => ?_) fun hlt => ?_
      · simp only [hlt, ↓reduceIte] at hnn
        generalize skipUnnamedBf ms ms.length mem = j at *
        refine Yields.via memTy_ok fun mty ⟨mi, hm⟩ => ?_
        refine Yields.via getChild_ok fun cm hk => ?_
        replace hk : cs[j]? = some cm := by simpa [Init.children] using hk
        refine Yields.step fun ⟨cm', toks2⟩ hinit => Yields.last fun hloop => ?_
        rcases root_member hs hm hk with ⟨_, hj⟩ | ⟨rfl, hlast, _⟩
        · have hAm := At.member (top := top) ho htop hs hm hk hj
          obtain ⟨hsm, himp1⟩ := ih.init2 hAm hinit
          obtain ⟨hs', himp2⟩ := hrec (shapedR_setMember hs hm hj hsm) hloop
          refine ⟨hs', fun hE g fl => ?_⟩
          cases struct_expr_none hE
          cases g with
          | zero => exact Imp.of_error rfl
          | succ g =>
            refine Imp.of_positional hce hfirst hderr fun _ => ?_
            simp only [cursorIn_struct_root, hnn, Option.map_some]
            obtain ⟨g1, h1⟩ := himp1 g fl
            simp only [List.nil_append, After, List.reverse_cons, List.reverse_nil, setAtM_one_struct] at h1
            exact h1.trans (himp2 rfl g1 fl)
        · -- the flexible member
          cases htop rfl
          obtain ⟨hs1, himp1⟩ := (hflex j mi mty rfl hlast hm).pos hs hk hinit
          obtain ⟨hs', himp2⟩ := hrec (c := (Init.struct e cs).setChild j cm') hs1 hloop
          refine ⟨hs', fun hE g fl => ?_⟩
          cases struct_expr_none hE
          cases g with
          | zero => exact Imp.of_error rfl
          | succ g =>
            intro res hres hcl
            rw [initList_item hce, hfirst, ok_bind, cursorIn_struct_root, hnn] at hres
            cases hdg : isDesg toks1 with
            | true =>
              obtain ⟨err, he⟩ := hderr hdg
              simp only [pathsOf, hdg, ↓reduceIte, he] at hres
              cases hres
            | false =>
              simp only [pathsOf, hdg, Bool.false_eq_true, ↓reduceIte, pure_bind', Option.map_some] at hres
              obtain ⟨g', h1⟩ := himp1 g fl res hres hcl
              rw [← past hlast] at h1
              exact himp2 rfl g' fl res h1 hcl
      · refine Yields.step fun toks2 hskip => Yields.last fun hloop => ?_
        obtain ⟨hs', himp2⟩ := hrec hs hloop
        refine ⟨hs', fun hE g fl => ?_⟩
        cases g with
        | zero => exact Imp.of_error rfl
        | succ g =>
          refine Imp.of_positional hce hfirst hderr fun _ => ?_
          simp only [hlt, ↓reduceIte] at hnn
          simp only [cursorIn_struct_root, hnn, Option.map_none]
          have hc2 : cursorIn (.struct ms sz fl0) top [] (skipUnnamedBf ms ms.length mem) = none := by
            rw [cursorIn_struct_root, nextNamed_past (List.getElem?_eq_none (by omega))]; rfl
          have := himp2 hE g fl
          rw [hc2] at this
          exact (Imp.of_excess hskip).trans this

theorem sim_struct1loop (ih : Sim f) : Struct1LoopSt (f+1) := by
  intro ms sz fl0 c toks mem first c' rest ho hs h
  cases show fl0 = false by simp only [subOk, Bool.and_eq_true, Bool.not_eq_true'] at ho; exact ho.1
  have step : ∀ top, Loop1 ms sz false top (f+1) := fun top =>
    struct1loop_step ih (subOk_tyOk _ ho) (fun h => by cases h) (fun hs h => ih.struct1loop ho hs h |>.imp_right fun hi hE => hi hE top)
      (fun _ _ _ h => by cases h)
  exact ⟨(step false hs h).1, fun hE top => (step top hs h).2 hE⟩

theorem sim_struct1 (ih : Sim f) : Struct1St (f+1) := by
  intro ms sz fl0 c toks c' rest ho hs h
  refine Yields.use h ?_
  rw [structInit1]
  refine Yields.via skipTok_ok fun inner hsk => Yields.last fun hloop => ?_
  subst hsk
  obtain ⟨hs', himp⟩ := ih.struct1loop ho hs hloop
  refine ⟨hs', inner, rfl, fun hE top g fl => ?_⟩
  have : firstCursor (.struct ms sz fl0) = cursorIn (.struct ms sz fl0) top [] 0 := by
    rw [cursorIn_struct_root]; rfl
  rw [this]
  exact himp hE top g fl

theorem isEnd_cases (h : isEnd toks = true) :
    (∃ r, toks = .rbrace :: r) ∨ (∃ r, toks = .comma :: .rbrace :: r) := by
  unfold isEnd at h
  split at h
  · exact Or.inl ⟨_, rfl⟩
  · exact Or.inr ⟨_, rfl⟩
  · cases h

theorem not_startable_head (h : startable tok = false) :
    (∃ e, parseAssign (tok :: r) = .error e) ∧ startsBrace (tok :: r) = false := by
  cases tok <;> first | (cases h; done) | exact ⟨⟨_, rfl⟩, rfl⟩

/-- at the end of a list and before a designator `initializer2` consumes nothing and changes nothing (it succeeds for arrays
    only: `array_initializer2` leaves both to the enclosing list) -/
theorem init2_stops {ty : Ty} {c c' : Init} {toks' : List ITok} (hs : shaped ty c = true) (ho : subOk ty = true)
    (he : isEnd toks = true ∨ isDesg toks = true) (h : initializer2 f ty toks c = .ok (c', toks')) : c' = c ∧ toks' = toks := by
  obtain ⟨tok, r, rfl⟩ : ∃ tok r, toks = tok :: r := by
    cases toks with
    | nil => rcases he with he | he <;> cases he
    | cons tok r => exact ⟨tok, r, rfl⟩
  have hst : startable tok = false := he.elim isEnd_not_startable isDesg_not_startable
  obtain ⟨⟨e, hpa⟩, hsb⟩ := not_startable_head (r := r) hst
  cases f with
  | zero => cases h
  | succ f =>
    cases ty with
    | inc => simp [subOk] at ho
    | scalar sz k =>
      rw [initializer2] at h
      · rw [hpa] at h; cases h
      · intro r' hr; cases hr; cases hst
    | struct ms sz fl0 | union ms sz fl0 =>
      rw [initializer2] at h
      simp only [hsb, Bool.false_eq_true, ↓reduceIte, hpa] at h
      cases h
    | array elem len =>
      obtain ⟨cs, rfl, hlen, hall⟩ := arr_of_shaped hs
      rw [initializer2] at h
      · cases f with
        | zero => cases h
        | succ f =>
          rw [arrayInit2] at h
          · simp only [pure_bind'] at h
            cases f with
            | zero => cases h
            | succ f =>
              rw [arrayInit2Loop] at h
              split at h
              · rename_i hc
                rcases he with he | he
                · simp [he] at hc
                · simp only [Nat.lt_irrefl, ↓reduceIte, pure_bind', he] at h
                  cases h; exact ⟨rfl, rfl⟩
              · cases h; exact ⟨rfl, rfl⟩
          · intro hh; cases hh
      · intro _ _ _ _ hh; cases hh; cases hst
      · intro _ hh; cases hh; cases hst

theorem strip_comma_rbrace {tok2 rest : List ITok}
    (h : skipTok .rbrace "}" (match tok2 with | .comma :: t => t | t => t) = .ok rest) : consumeEnd tok2 = some rest := by
  split at h
  · have := skipTok_ok h; subst this; rfl
  · rename_i hn
    have := skipTok_ok h; subst this; rfl

theorem firstCursor_union (h : nextNamed ms ms.length 0 = some k) :
    firstCursor (.union ms sz fl0) = some [k] := by
  simp [firstCursor, h]

theorem set_same {α : Type} {cs : List α} {c : α} (h : cs[k]? = some c) : cs.set k c = cs := by
  obtain ⟨hlt, hc⟩ := List.getElem?_eq_some_iff.mp h
  subst hc
  exact List.set_getElem_self hlt

theorem union_finish {g1 : Nat} {ms : Members} {sz : Nat} {fl0 : Bool} {top : Bool} {c1 : Init} {cur : Option (List Nat)}
    {tok2 rest : List ITok} {fl : Flags} {res : Result} {e : Option Expr} {k : Nat} {cs : List Init}
    (hc1 : c1 = .union e (some k) cs) (hce : consumeEnd tok2 = some rest)
    (h : initList g1 (.union ms sz fl0) top c1 cur tok2 false fl = .ok res) :
    defaultMember (.union ms sz fl0) res.obj = c1 ∧ res.rest = rest ∧ res.fl = fl := by
  cases g1 with
  | zero => cases h
  | succ g1 =>
    rw [initList_end hce] at h
    cases h
    subst hc1
    exact ⟨rfl, rfl, rfl⟩

theorem next_union_member (top : Bool) (k : Nat) :
    next (.union ms sz fl0) top ([] ++ [k]).reverse = none := by
  have h := next_snoc (.union ms sz fl0) top [] k
  simp only [List.reverse_nil] at h
  simp only [List.nil_append, List.reverse_cons, List.reverse_nil]
  rw [h, cursorIn_union rfl]
  exact next_nil _ _

theorem sim_unionrest {f : Nat} (ih : Sim f) : UnionRestSt (f+1) := by
  intro ms sz fl0 c toks c' rest ho hs h
  obtain ⟨e, m, cs, rfl, hms⟩ := union_of_shaped hs
  refine Yields.use h ?_
  rw [unionRest]
  cases hce : consumeEnd toks with
  | some rest0 =>
    refine Ends.ok ?_
    rintro ⟨⟩
    refine ⟨hs, fun k cs0 hc => ⟨⟨k, cs0, hc⟩, fun top g fl res hres hcl => ?_⟩⟩
    cases Imp.list_end hce res hres hcl
    exact ⟨rfl, rfl, rfl⟩
  | none =>
    simp only []
    refine Yields.step fun toks1 hcomma => ?_
    have hfirst : (if false = true then pure toks else skipTok ITok.comma "," toks) = .ok toks1 := by simpa using hcomma
    split
    · -- a designated initializer
      rename_i name r
      refine Yields.step fun ⟨k', anon⟩ hsd => ?_
      refine Yields.via memTy_ok fun mty ⟨mi, hm⟩ => ?_
      have hom : subOk mty = true := by
        simp only [subOk, Bool.and_eq_true] at ho
        exact subOkMs_get ms k' mi mty ho.1.2 hm
      -- the node after `if (mem != init->mem) reset; init->mem = mem`
      obtain ⟨cs1, hinit1, hms1, hsame⟩ : ∃ cs1, ((if (Init.union e m cs).mem? = some k' then Init.union e m cs
          else (Init.union e m cs).setChild k' (newInit mty false)).setMem k') = .union e (some k') cs1 ∧ shapedMs ms cs1 = true ∧
          (m = some k' → cs1 = cs) := by
        by_cases hmk : m = some k'
        · refine ⟨cs, ?_, hms, fun _ => rfl⟩
          simp [Init.mem?, hmk, Init.setMem]
        · refine ⟨cs.set k' (newInit mty false), ?_, shapedMs_set ms cs k' mi mty _ hms hm (shaped_newInit mty hom), fun h' => absurd h' hmk⟩
          simp [Init.mem?, hmk, Init.setMem, Init.setChild, Init.withChildren, Init.children]
      simp only []
      rw [hinit1]
      refine Yields.via getChild_ok fun ck hk => ?_
      replace hk : cs1[k']? = some ck := by simpa [Init.children] using hk
      refine Yields.step fun ⟨ck', tok2⟩ hd => Yields.last fun hur => ?_
      have hsk : shaped mty ck = true := shapedMs_get ms cs1 k' mi mty ck hms1 hm hk
      obtain ⟨hsk', _⟩ := ih.desg (top := false) (At.root hom hsk) hd
      replace hur : unionRest f ms tok2 (.union e (some k') (cs1.set k' ck')) = .ok (c', rest) := hur
      have hs1 : shaped (.union ms sz fl0) (.union e (some k') (cs1.set k' ck')) = true := by
        simp only [shaped, Bool.and_eq_true]
        exact ⟨shapedMs_set ms cs1 k' mi mty ck' hms1 hm hsk', by simp⟩
      obtain ⟨hshape, hrestspec⟩ := ih.unionrest ho hs1 hur
      refine ⟨hshape, fun k cs0 hc => ?_⟩
      cases hc
      obtain ⟨hform, hsp⟩ := hrestspec k' (cs1.set k' ck') rfl
      refine ⟨hform, fun top g fl res hres hcl => ?_⟩
      cases g with
      | zero => cases hres
      | succ g =>
      replace hres := initList_item_imp hce hres hcl
      rw [hfirst, ok_bind] at hres
      simp only [pathsOf, isDesg, ↓reduceIte, List.length_cons] at hres
      have hsubk : subTy (.union ms sz fl0) ([] ++ [k']) = some mty := by
        rw [List.nil_append, subTy_one]; exact childTy_union hm
      obtain ⟨hdp1, s, hdps⟩ := desigPaths_member (top := top) (p := []) r rfl (by rw [findMember]) rfl hsubk hsd hm
      by_cases hkk : k = k'
      · -- the member initialised so far
        subst hkk
        have hcs1 : cs1 = cs := hsame rfl
        subst hcs1
        have hAk := (At.root (top := top) ho hs).child (childTy_union hm) (show (Init.union none (some k) cs1).children[k]? = some ck by
          simpa [Init.children] using hk)
        obtain ⟨_, himp1⟩ := ih.desg hAk hd
        rw [hdp1] at hres
        obtain ⟨g1, h1⟩ := himp1 g (r.length + 1 + anon.toNat) fl
        have hh := h1 res hres hcl
        simp only [After] at hh
        rw [next_union_member top k] at hh
        have e1 : setAtM (.union none (some k) cs1) ([] ++ [k]) ck' = .union none (some k) (cs1.set k ck') := by
          simp [setAtM]
        rw [e1] at hh
        exact hsp top g1 fl res hh hcl
      · -- another member: the specification's run notes the switch (`over`)
        exfalso
        rw [hdps] at hres
        obtain ⟨⟨ps, t⟩, hdp, hitem⟩ := bind_eq_ok hres
        obtain ⟨hne, hpre⟩ := desigPaths_single hdp
        have := initItem_switch_dirty (k := k') hne hkk (fun q hq => by
          obtain ⟨s', rfl⟩ := hpre q hq
          exact ⟨s ++ s', by simp⟩) hitem
        rw [hcl] at this; cases this
    · -- an excess element
      rename_i hnd
      refine Yields.step fun toks2 hskip => Yields.last fun hur => ?_
      obtain ⟨hshape, hrestspec⟩ := ih.unionrest ho hs hur
      refine ⟨hshape, fun k cs0 hc => ?_⟩
      obtain ⟨hform, hsp⟩ := hrestspec k cs0 hc
      refine ⟨hform, fun top g fl res hres hcl => ?_⟩
      cases g with
      | zero => cases hres
      | succ g =>
      exact hsp top g fl res (Imp.of_positional hce hfirst
        (fun hdg => desigPaths_bracket_error (t := .union ms sz fl0) rfl top _ (isDesg_not_dot hdg hnd))
        (fun _ => Imp.of_excess hskip) res hres hcl) hcl

theorem unionRest_end {toks rest0 : List ITok} {init c' : Init} {rest : List ITok}
    (hce : consumeEnd toks = some rest0) (h : unionRest f ms toks init = .ok (c', rest)) : c' = init ∧ rest = rest0 := by
  cases f with
  | zero => cases h
  | succ f =>
    rw [unionRest] at h
    simp only [hce] at h
    cases h
    exact ⟨rfl, rfl⟩

theorem sim_union1 (ih : Sim f) : Union1St (f+1) := by
  intro ms sz fl0 c inner c' rest ho hs h
  obtain ⟨e, m, cs, rfl, hms⟩ := union_of_shaped hs
  obtain ⟨k0, hnn, hfn, hne⟩ := subOk_union_named ho
  have hA := fun top => At.root (top := top) ho hs
  have fin : ∀ {k : Nat} {ck' : Init} {tok2 : List ITok} {mi : MemInfo} {mty : Ty}, ms[k]? = some (mi, mty) → shaped mty ck' = true →
      unionRest f ms tok2 (((Init.union e m cs).setMem k).setChild k ck') = .ok (c', rest) →
      shaped (.union ms sz fl0) c' = true ∧ (Init.union e m cs = newInit (.union ms sz fl0) false → ∀ top g1 fl res,
        After (.union ms sz fl0) top (.union e m cs) ([] ++ [k]) ck' tok2 fl g1 = .ok res → res.fl.clean = true →
        defaultMember (.union ms sz fl0) res.obj = c' ∧ res.rest = rest ∧ res.fl = fl) := by
    intro k ck' tok2 mi mty hm hsk hur
    obtain ⟨hsc, hrest⟩ := ih.unionrest ho (shaped_setMem_union hms hm hsk) hur
    refine ⟨hsc, fun hz top g1 fl res hh hcl => ?_⟩
    simp only [newInit, Init.union.injEq] at hz
    obtain ⟨rfl, rfl, _⟩ := hz
    simp only [After] at hh
    have e1 : setAtM (.union none none cs) ([] ++ [k]) ck' = ((Init.union none none cs).setMem k).setChild k ck' := by
      simp only [List.nil_append]; exact setAtM_one_union none none cs k ck'
    rw [e1, next_union_member top k] at hh
    obtain ⟨⟨k2, cs2, hform⟩, hsp⟩ := hrest k (cs.set k ck') rfl
    obtain ⟨q2, q3, q4⟩ := hsp top g1 fl res hh hcl
    refine ⟨?_, q3, q4⟩
    rw [q2, hform]; rfl
  refine Yields.use h ?_
  unfold unionInit
  split
  · -- `{ .name …`
    rename_i name r heq
    cases heq
    refine Yields.step fun ⟨k, anon⟩ hsd => ?_
    refine Yields.via memTy_ok fun mty ⟨mi, hm⟩ => ?_
    refine Yields.via getChild_ok fun ck hk => ?_
    replace hk : (Init.union e m cs).children[k]? = some ck := by simpa [Init.setMem, Init.children] using hk
    refine Yields.step fun ⟨ck', tok2⟩ hd => Yields.last fun hur => ?_
    have hAk := fun top => (hA top).child (childTy_union hm) hk
    obtain ⟨hsc, hfin⟩ := fin hm (ih.desg (hAk false) hd).1 hur
    refine ⟨hsc, fun hz top g fl res hres hcl => ?_⟩
    obtain ⟨_, himp1⟩ := ih.desg (hAk top) hd
    cases g with
    | zero => cases hres
    | succ g =>
      replace hres := initList_item_imp (by rfl) hres hcl
      simp only [↓reduceIte, pure_bind', pathsOf, isDesg] at hres
      rw [(desigPaths_member (p := []) r rfl (by rw [findMember]) rfl (hAk false).sub hsd hm).1] at hres
      obtain ⟨g1, h1⟩ := himp1 g ((ITok.dot name :: r).length + anon.toNat) fl
      exact hfin hz top g1 fl res (h1 res hres hcl) hcl
  · -- the first named member
    rename_i hnd
    simp only [hne, Bool.false_eq_true, ↓reduceIte, hfn]
    refine Yields.via memTy_ok fun mty ⟨mi, hm⟩ => ?_
    refine Yields.via getChild_ok fun ck hk => ?_
    replace hk : (Init.union e m cs).children[k0]? = some ck := by simpa [Init.setMem, Init.children] using hk
    refine Yields.step fun ⟨ck', tok2⟩ hinit => Yields.last fun hur => ?_
    have hAk := fun top => (hA top).child (childTy_union hm) hk
    obtain ⟨hsc, hfin⟩ := fin hm (ih.init2 (hAk false) hinit).1 hur
    refine ⟨hsc, fun hz top g fl res hres hcl => ?_⟩
    obtain ⟨_, himp1⟩ := ih.init2 (hAk top) hinit
    rw [firstCursor_union hnn] at hres
    cases g with
    | zero => cases hres
    | succ g =>
      cases hce : consumeEnd inner with
      | some rest0 =>
        -- an empty list: the parser's `initializer2` consumed nothing
        rw [initList_end hce] at hres
        cases hres
        obtain ⟨e1, e2⟩ := init2_stops (hAk false).shapedc (hAk false).ok (.inl (consumeEnd_some_isEnd hce)) hinit
        subst e1 e2
        obtain ⟨q1, q2⟩ := unionRest_end hce hur
        subst q1 q2
        simp only [newInit, Init.union.injEq] at hz
        obtain ⟨rfl, rfl, _⟩ := hz
        simp only [Init.children] at hk
        refine ⟨?_, rfl, rfl⟩
        simp [defaultMember, hnn, Init.setMem, Init.setChild, Init.withChildren, Init.children, set_same hk]
      | none =>
        replace hres := Imp.of_positional hce rfl (fun hdg => desigPaths_bracket_error (t := .union ms sz fl0) rfl top _
          (isDesg_not_dot hdg fun n r hh => hnd n r (by rw [hh]))) (fun _ => Imp.refl _) res hres hcl
        obtain ⟨g1, h1⟩ := himp1 g fl
        exact hfin hz top g1 fl res (h1 res hres hcl) hcl

end ChibiVerif.InitSpec
