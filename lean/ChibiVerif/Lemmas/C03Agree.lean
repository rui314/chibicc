/-
C03 — the two specification machines for `SStmt` agree on the structured fragment:
whenever the big-step machine `Spec.Ctl.exec` (ControlSpec.lean) answers, the small-step continuation machine
`Spec.Ctl.execG` (ControlSpecG.lean) gives the same answer (outcome, oracle position, trace); a `timeout σ'` of
`exec` is a state the small-step machine passes through.

`Steps` = reflexive-transitive closure of `step`; `Post` says what a result of `exec` means for the
small-step machine started at `(s, k, σ)`; `MProp n` (every structured statement, every continuation) by induction on
the fuel of `exec`.  `exec` runs the body of a `switch` as a re-associated list of items, the small-step machine runs
the tree under a continuation: `items_sim` walks the tree once under a continuation of which only `Exe` is assumed
(it goes on with a given item list), and also says where `find` lands.
`Post` here is not the Hoare judgment `X86.Post` of Lemmas/X86StateLemmas.lean.
-/
import ChibiVerif.Spec.ControlSpecG


namespace ChibiVerif.Spec.Ctl

inductive Steps (ω : Nat → Val) (fb : SStmt) : SStmt → Cont → SState → SStmt → Cont → SState → Prop
  | refl (s : SStmt) (k : Cont) (σ : SState) : Steps ω fb s k σ s k σ
  | head {s k σ s1 k1 σ1 s2 k2 σ2} : step ω fb s k σ = .next s1 k1 σ1 → Steps ω fb s1 k1 σ1 s2 k2 σ2 →
      Steps ω fb s k σ s2 k2 σ2

section
variable {ω : Nat → Val} {fb : SStmt}

theorem Steps.trans {s k σ s1 k1 σ1 s2 k2 σ2} (h1 : Steps ω fb s k σ s1 k1 σ1)
    (h2 : Steps ω fb s1 k1 σ1 s2 k2 σ2) : Steps ω fb s k σ s2 k2 σ2 := by
  induction h1 with
  | refl => exact h2
  | head hs _ ih => exact .head hs (ih h2)

theorem Steps.one {s k σ s1 k1 σ1} (h : step ω fb s k σ = .next s1 k1 σ1) : Steps ω fb s k σ s1 k1 σ1 :=
  .head h (.refl _ _ _)

theorem run_of_steps {s k σ s2 k2 σ2} (h : Steps ω fb s k σ s2 k2 σ2) (m2 : Nat) :
    ∃ m, run ω fb m s k σ = run ω fb m2 s2 k2 σ2 := by
  induction h with
  | refl => exact ⟨m2, rfl⟩
  | head hs _ ih =>
    obtain ⟨m, hm⟩ := ih
    exact ⟨m + 1, by simp only [run, hs]; exact hm⟩

end

/-- agreement of the two control-flow specifications, per result of `exec`: the small-step machine started at `(s, k, σ)`,
    relative to the base continuation `kb`:
    normal completion arrives at `(skip, kb)`; `break`/`continue` arrive at the jump statement under a
    continuation that resolves the jump like `kb` does; `timeout σ'` is a state passed through; `unsupported`
    does not occur -/
def Post (ω : Nat → Val) (fb : SStmt) (s : SStmt) (k : Cont) (σ : SState) (kb : Cont) : Res → Prop
  | .done .normal σ' => Steps ω fb s k σ .skip kb σ'
  | .done .brk σ' => ∃ k2, Steps ω fb s k σ .break_ k2 σ' ∧ breakK k2 = breakK kb
  | .done .cont σ' => ∃ k2, Steps ω fb s k σ .continue_ k2 σ' ∧ contK k2 = contK kb
  | .done .ret σ' => ∃ k2, Steps ω fb s k σ .ret k2 σ'
  | .timeout σ' => ∃ s' k', Steps ω fb s k σ s' k' σ'
  | .unsupported => False

/-- `seq`: the second statement runs iff the first completes normally -/
def seqK (ra : Res) (f : SState → Res) : Res :=
  match ra with
  | .done .normal σ1 => f σ1
  | r => r

/-- a loop body: normal completion and `continue` go on with `f`, `break` leaves the loop -/
def loopK (rb : Res) (f : SState → Res) : Res :=
  match rb with
  | .done .normal σ2 => f σ2
  | .done .cont σ2 => f σ2
  | .done .brk σ2 => .done .normal σ2
  | r => r

/-- a `switch` body: `break` leaves the switch -/
def swR (r0 : Res) : Res :=
  match r0 with
  | .done .brk σ2 => .done .normal σ2
  | r => r

def swSel (ω : Nat → Val) (n : Nat) (σ1 : SState) : Option (List SStmt) → Res
  | none => .done .normal σ1
  | some rest => swR (exec ω n (seqOf rest) σ1)

section
variable {ω : Nat → Val} {fb : SStmt}

theorem Post_steps {s k σ s1 k1 σ1 kb} {r : Res} (h1 : Steps ω fb s k σ s1 k1 σ1)
    (h2 : Post ω fb s1 k1 σ1 kb r) : Post ω fb s k σ kb r := by
  cases r with
  | unsupported => exact h2
  | timeout σ' =>
    obtain ⟨s', k', h⟩ := h2
    exact ⟨s', k', h1.trans h⟩
  | done o σ' =>
    cases o with
    | normal => exact h1.trans h2
    | brk | cont => obtain ⟨k2, h, hb⟩ := h2; exact ⟨k2, h1.trans h, hb⟩
    | ret => obtain ⟨k2, h⟩ := h2; exact ⟨k2, h1.trans h⟩

theorem Post_timeout_self (s : SStmt) (k : Cont) (σ : SState) (kb : Cont) : Post ω fb s k σ kb (.timeout σ) :=
  ⟨s, k, .refl _ _ _⟩

theorem post_seqK {s k σ kb} {ra : Res} {f : SState → Res} (hra : Post ω fb s k σ k ra)
    (hb : breakK k = breakK kb) (hc : contK k = contK kb)
    (hn : ∀ σ1, Post ω fb .skip k σ1 kb (f σ1)) : Post ω fb s k σ kb (seqK ra f) := by
  cases ra with
  | unsupported => exact hra
  | timeout σ' => exact hra
  | done o σ' =>
    cases o with
    | normal => exact Post_steps hra (hn σ')
    | brk => obtain ⟨k2, h, hb2⟩ := hra; exact ⟨k2, h, hb2.trans hb⟩
    | cont => obtain ⟨k2, h, hc2⟩ := hra; exact ⟨k2, h, hc2.trans hc⟩
    | ret => exact hra

theorem step_break {k2 k : Cont} (σ : SState) (h : breakK k2 = some k) : step ω fb .break_ k2 σ = .next .skip k σ := by
  simp only [step, h]

theorem step_continue {k2 k : Cont} (σ : SState) (h : contK k2 = some k) :
    step ω fb .continue_ k2 σ = .next .skip k σ := by
  simp only [step, h]

theorem post_loopK {body K σ k} {rb : Res} {f : SState → Res} (hrb : Post ω fb body K σ K rb)
    (hb : breakK K = some k) (hc : contK K = some K)
    (hn : ∀ σ2, Post ω fb .skip K σ2 k (f σ2)) : Post ω fb body K σ k (loopK rb f) := by
  cases rb with
  | unsupported => exact hrb
  | timeout σ' => exact hrb
  | done o σ' =>
    cases o with
    | normal => exact Post_steps hrb (hn σ')
    | brk =>
      obtain ⟨k2, h, hb2⟩ := hrb
      exact h.trans (Steps.one (step_break σ' (hb2.trans hb)))
    | cont =>
      obtain ⟨k2, h, hc2⟩ := hrb
      exact Post_steps (h.trans (Steps.one (step_continue σ' (hc2.trans hc)))) (hn σ')
    | ret => exact hrb

theorem post_swR {s k' σ k} {r0 : Res} (h0 : Post ω fb s k' σ (.swK k) r0) : Post ω fb s k' σ k (swR r0) := by
  cases r0 with
  | unsupported => exact h0
  | timeout σ' => exact h0
  | done o σ' =>
    cases o with
    | normal => exact Steps.trans h0 (Steps.one rfl)
    | brk =>
      obtain ⟨k2, h, hb2⟩ := h0
      exact h.trans (Steps.one (step_break σ' hb2))
    | cont => obtain ⟨k2, h, hc2⟩ := h0; exact ⟨k2, h, hc2⟩
    | ret => exact h0

end

theorem exec_fuel0 (ω : Nat → Val) (s : SStmt) (σ : SState) : exec ω 0 s σ = .timeout σ := by
  cases s <;> rfl

theorem exec_seq (ω : Nat → Val) (n : Nat) (a b : SStmt) (σ : SState) :
    exec ω (n + 1) (.seq a b) σ = seqK (exec ω n a σ) (exec ω n b) := rfl

theorem exec_ifte (ω : Nat → Val) (n : Nat) (c : Nat) (t e : SStmt) (σ : SState) :
    exec ω (n + 1) (.ifte c t e) σ =
      if truth (σ.call ω (.c c)).1 then exec ω n t (σ.call ω (.c c)).2 else exec ω n e (σ.call ω (.c c)).2 := rfl

theorem exec_for_none (ω : Nat → Val) (n : Nat) (inc : Option Nat) (body : SStmt) (σ : SState) :
    exec ω (n + 1) (.for_ none none inc body) σ =
      loopK (exec ω n body σ) (fun σ2 => exec ω n (.for_ none none inc body) (σ2.emitOpt inc)) := rfl

theorem exec_for_some (ω : Nat → Val) (n : Nat) (c : Nat) (inc : Option Nat) (body : SStmt) (σ : SState) :
    exec ω (n + 1) (.for_ none (some c) inc body) σ =
      if truth (σ.call ω (.c c)).1 then
        loopK (exec ω n body (σ.call ω (.c c)).2)
          (fun σ2 => exec ω n (.for_ none (some c) inc body) (σ2.emitOpt inc))
      else .done .normal (σ.call ω (.c c)).2 := rfl

theorem exec_doWhile (ω : Nat → Val) (n : Nat) (body : SStmt) (c : Nat) (σ : SState) :
    exec ω (n + 1) (.doWhile body c) σ =
      loopK (exec ω n body σ) (fun σ2 =>
        if truth (σ2.call ω (.c c)).1 then exec ω n (.doWhile body c) (σ2.call ω (.c c)).2
        else .done .normal (σ2.call ω (.c c)).2) := rfl

theorem exec_switch (ω : Nat → Val) (n : Nat) (w u : Bool) (key : Nat) (body : SStmt) (σ : SState) :
    exec ω (n + 1) (.switch_ w u key body) σ =
      if switchOK w u (items body) then
        swSel ω n (σ.call ω (.inp key)).2 (select w u (σ.call ω (.inp key)).1 (items body))
      else .unsupported := rfl

/-- induction along `items`: `seq`, `block` and `skip` are transparent, any other statement is one item -/
theorem items_ind {P : SStmt → Prop} (skip : P .skip) (seq : ∀ a b, P a → P b → P (.seq a b))
    (block : ∀ s, P s → P (.block s)) (item : ∀ s, items s = [s] → P s) : ∀ s, P s := by
  intro s
  induction s with
  | skip => exact skip
  | seq a b iha ihb => exact seq a b iha ihb
  | block s ih => exact block s ih
  | _ => exact item _ rfl

theorem structured_items (s : SStmt) : structured s = true → ∀ it ∈ items s, structured it = true := by
  induction s using items_ind with
  | skip => intro _ it h; simp [items] at h
  | seq a b iha ihb =>
    intro h it hit
    simp only [structured, Bool.and_eq_true] at h
    simp only [items, List.mem_append] at hit
    rcases hit with hit | hit
    · exact iha h.1 it hit
    · exact ihb h.2 it hit
  | block s ih => intro h it hit; exact ih h it hit
  | item s hi => intro h it hit; rw [hi, List.mem_singleton] at hit; subst hit; exact h

theorem dropUntil_some (p : SStmt → Bool) : ∀ (l r : List SStmt), dropUntil p l = some r → ∃ it post, r = it :: post := by
  intro l
  induction l with
  | nil => intro r h; simp [dropUntil] at h
  | cons a t ih =>
    intro r h
    simp only [dropUntil] at h
    by_cases hp : p a = true
    · simp only [hp, if_true, Option.some.injEq] at h
      exact ⟨a, t, h.symm⟩
    · simp only [hp] at h
      exact ih r h

theorem dropUntil_append (p : SStmt → Bool) : ∀ (l1 l2 : List SStmt), dropUntil p (l1 ++ l2) =
    match dropUntil p l1 with
    | some r => some (r ++ l2)
    | none => dropUntil p l2 := by
  intro l1
  induction l1 with
  | nil => intro l2; simp [dropUntil]
  | cons a t ih =>
    intro l2
    simp only [List.cons_append, dropUntil]
    by_cases hp : p a = true
    · simp [hp]
    · simp only [hp]
      exact ih l2

/-- the label prefix of an item holds a label the target designates: the test `find` makes at a `case` / `default` node;
    for the two targets of a `switch` it is the item predicate `select` uses -/
def tp (t : Target) : SStmt → Bool
  | .case_ lo hi s => t.hitCase lo hi || tp t s
  | .default_ s => t.hitDflt || tp t s
  | _ => false

theorem tp_case (w u : Bool) (v : Val) : tp (.case_ w u v) = hasCase w u v := by
  funext it
  induction it with
  | case_ lo hi s ih => simp only [tp, hasCase, Target.hitCase, ih]
  | default_ s ih => simp only [tp, hasCase, Target.hitDflt, ih, Bool.false_or]
  | _ => rfl

theorem tp_dflt : tp .dflt = hasDefault := by
  funext it
  induction it with
  | case_ lo hi s ih => simp only [tp, hasDefault, Target.hitCase, ih, Bool.false_or]
  | default_ s ih => simp only [tp, hasDefault, Target.hitDflt, Bool.true_or]
  | _ => rfl

/-- `it` does what `s'` does when entered with part of the fuel: `s'` is `it` without an initial part of its
    `case`/`default` prefix -/
def Under (ω : Nat → Val) (it s' : SStmt) : Prop :=
  (structured it = true → structured s' = true) ∧
  ∀ (n : Nat) (σ : SState), exec ω n it σ = .timeout σ ∨ ∃ m, m ≤ n ∧ exec ω m s' σ = exec ω n it σ

theorem Under.refl (ω : Nat → Val) (s : SStmt) : Under ω s s := ⟨id, fun n _ => .inr ⟨n, Nat.le_refl n, rfl⟩⟩

theorem Under.label {ω : Nat → Val} {it s s' : SStmt} (hs : structured it = structured s)
    (he : ∀ n σ, exec ω (n + 1) it σ = exec ω n s σ) (h : Under ω s s') : Under ω it s' :=
  ⟨fun hi => h.1 (hs ▸ hi), fun n σ => by
    cases n with
    | zero => exact .inl (exec_fuel0 ω it σ)
    | succ n =>
      rw [he]
      exact (h.2 n σ).imp id fun ⟨m, hm, e⟩ => ⟨m, Nat.le_succ_of_le hm, e⟩⟩

theorem hitLabel_of_not_enters (t : Target) (ht : t.enters = false) (l : Nat) : t.hitLabel l = false := by
  cases t <;> simp [Target.enters, Target.hitLabel] at *

theorem nfc_spec (s : SStmt) : noFreeCase s = true →
    freeCases s = [] ∧ freeDefaults s = 0 ∧ ∀ (t : Target), t.enters = false → ∀ k, find t s k = none := by
  induction s with
  | seq a b iha ihb | ifte _ a b iha ihb =>
    intro h
    simp only [noFreeCase, Bool.and_eq_true] at h
    obtain ⟨a1, a2, a3⟩ := iha h.1
    obtain ⟨b1, b2, b3⟩ := ihb h.2
    exact ⟨by simp only [freeCases, a1, b1, List.append_nil], by simp only [freeDefaults, a2, b2],
      fun t ht k => by simp only [find, a3 t ht, b3 t ht]⟩
  | block s ih | for_ _ _ _ s ih | doWhile s _ ih =>
    intro h
    obtain ⟨a1, a2, a3⟩ := ih h
    exact ⟨a1, a2, fun t ht k => a3 t ht _⟩
  | label l s ih =>
    intro h
    obtain ⟨a1, a2, a3⟩ := ih h
    exact ⟨a1, a2, fun t ht k => by simp only [find, hitLabel_of_not_enters t ht l]; exact a3 t ht k⟩
  | switch_ w u key body ih => intro _; exact ⟨rfl, rfl, fun t ht k => by simp [find, ht]⟩
  | case_ _ _ _ _ | default_ _ _ => intro h; cases h
  | _ => intro _; exact ⟨rfl, rfl, fun _ _ _ => rfl⟩

theorem nfc_free (s : SStmt) (h : noFreeCase s = true) : freeCases s = [] ∧ freeDefaults s = 0 :=
  ⟨(nfc_spec s h).1, (nfc_spec s h).2.1⟩
theorem nfc_find (s : SStmt) (h : noFreeCase s = true) (t : Target) (ht : t.enters = false) (k : Cont) : find t s k = none :=
  (nfc_spec s h).2.2 t ht k

theorem find_item (ω : Nat → Val) (t : Target) (ht : t.enters = false) : ∀ (it : SStmt) (k : Cont),
    noFreeCase (core it) = true →
    (tp t it = false → find t it k = none) ∧
    (tp t it = true → ∃ s', find t it k = some (s', k) ∧ Under ω it s') := by
  -- a `case` / `default` node `it` over `s`: arrived if the target designates it (`hit`), else on into `s`
  have lab : ∀ {it s : SStmt} {k : Cont} (hit : Bool), tp t it = (hit || tp t s) →
      find t it k = (if hit then some (s, k) else find t s k) → (∀ {s'}, Under ω s s' → Under ω it s') →
      ((tp t s = false → find t s k = none) ∧ (tp t s = true → ∃ s', find t s k = some (s', k) ∧ Under ω s s')) →
      (tp t it = false → find t it k = none) ∧ (tp t it = true → ∃ s', find t it k = some (s', k) ∧ Under ω it s') := by
    intro it s k hit htp hfd thru ih
    rw [htp, hfd]
    cases hit with
    | true => exact ⟨fun h => (nomatch h), fun _ => ⟨s, rfl, thru (Under.refl ω s)⟩⟩
    | false => exact ⟨ih.1, fun hp => (ih.2 hp).imp fun s' h => ⟨h.1, thru h.2⟩⟩
  intro it
  induction it with
  | case_ lo hi s ih => intro k h; exact lab (t.hitCase lo hi) rfl rfl (Under.label rfl fun _ _ => rfl) (ih k h)
  | default_ s ih => intro k h; exact lab t.hitDflt rfl rfl (Under.label rfl fun _ _ => rfl) (ih k h)
  | _ => intro k h; exact ⟨fun _ => nfc_find _ h t ht k, fun hp => (nomatch hp)⟩

theorem free_item : ∀ (it : SStmt), noFreeCase (core it) = true →
    freeCases it = prefixCases it ∧ freeDefaults it = prefixDefaults it := by
  intro it
  induction it with
  | case_ _ _ s ih | default_ s ih =>
    intro h
    have := ih h
    simp [freeCases, prefixCases, freeDefaults, prefixDefaults, this.1, this.2]
  | _ =>
    intro h
    obtain ⟨h1, h2⟩ := nfc_free _ h
    simp only [core] at h1 h2
    simp [prefixCases, prefixDefaults, h1, h2]

theorem free_items : ∀ (s : SStmt), (∀ it ∈ items s, noFreeCase (core it) = true) →
    freeCases s = (items s).flatMap prefixCases ∧ freeDefaults s = ((items s).map prefixDefaults).sum := by
  intro s
  induction s using items_ind with
  | skip => intro _; simp [items, freeCases, freeDefaults]
  | seq a b iha ihb =>
    intro h
    have ha := iha (fun it hit => h it (by simp only [items, List.mem_append]; exact .inl hit))
    have hb := ihb (fun it hit => h it (by simp only [items, List.mem_append]; exact .inr hit))
    simp [items, freeCases, freeDefaults, ha.1, ha.2, hb.1, hb.2, List.flatMap_append, List.sum_append]
  | block s ih => intro h; exact ih h
  | item s hi =>
    intro h
    rw [hi] at h ⊢
    have := free_item s (h s (by simp))
    simp [this.1, this.2]

theorem switchOK_cores {w u : Bool} {its : List SStmt} (h : switchOK w u its = true) :
    ∀ it ∈ its, noFreeCase (core it) = true := by
  simp only [switchOK, Bool.and_eq_true, List.all_eq_true] at h
  exact h.1.1.1

theorem switchOKG_of_switchOK {w u : Bool} {body : SStmt} (h : switchOK w u (items body) = true) :
    switchOKG w u body = true := by
  have hf := free_items body (switchOK_cores h)
  simp only [switchOK, Bool.and_eq_true] at h
  simp only [switchOKG, hf.1, hf.2, Bool.and_eq_true]
  exact ⟨⟨h.1.1.2, h.1.2⟩, h.2⟩

def MProp (ω : Nat → Val) (fb : SStmt) (n : Nat) : Prop :=
  ∀ (s : SStmt) (k : Cont) (σ : SState), structured s = true → Post ω fb s k σ k (exec ω n s σ)

/-- the continuation `K` does what the big-step machine does on the item list `R` (with any fuel up to `n`), arriving
    at `kb`; `break` / `continue` are resolved as under `kb` -/
structure Exe (ω : Nat → Val) (fb : SStmt) (n : Nat) (K : Cont) (R : List SStmt) (kb : Cont) : Prop where
  brk : breakK K = breakK kb
  cont : contK K = contK kb
  run : ∀ m, m ≤ n → ∀ σ, Post ω fb .skip K σ kb (exec ω m (seqOf R) σ)

section
variable {ω : Nat → Val} {fb : SStmt}

theorem Exe.base (n : Nat) (kb : Cont) : Exe ω fb n kb [] kb :=
  ⟨rfl, rfl, fun m _ σ => by
    cases m with
    | zero => exact Post_timeout_self _ _ _ _
    | succ m => exact Steps.refl _ _ _⟩

theorem Exe.cons {n : Nat} (hM : ∀ m, m ≤ n → MProp ω fb m) {K kb : Cont} {R : List SStmt} (hK : Exe ω fb n K R kb)
    {it s' : SStmt} (hU : Under ω it s') (hit : structured it = true) :
    ∀ m, m ≤ n → ∀ σ, Post ω fb s' K σ kb (exec ω m (seqOf (it :: R)) σ) := by
  intro m hm σ
  cases m with
  | zero => rw [exec_fuel0]; exact Post_timeout_self _ _ _ _
  | succ m' =>
    show Post ω fb s' K σ kb (exec ω (m' + 1) (.seq it (seqOf R)) σ)
    rw [exec_seq]
    rcases hU.2 m' σ with ht | ⟨j, hj, he⟩
    · rw [ht]; exact Post_timeout_self _ _ _ _
    · rw [← he]
      exact post_seqK (hM j (by omega) s' K σ (hU.1 hit)) hK.brk hK.cont fun σ1 => hK.run m' (by omega) σ1

theorem items_sim (n : Nat) (hM : ∀ m, m ≤ n → MProp ω fb m) (t : Target) (ht : t.enters = false) (kb : Cont) :
    ∀ (s : SStmt) (K : Cont) (R : List SStmt), (∀ it ∈ items s, noFreeCase (core it) = true ∧ structured it = true) →
      Exe ω fb n K R kb →
      (∀ m, m ≤ n → ∀ σ, Post ω fb s K σ kb (exec ω m (seqOf (items s ++ R)) σ)) ∧
      (dropUntil (tp t) (items s) = none → find t s K = none) ∧
      (∀ it post, dropUntil (tp t) (items s) = some (it :: post) →
        ∃ s' k', find t s K = some (s', k') ∧ Under ω it s' ∧ structured it = true ∧ Exe ω fb n k' (post ++ R) kb) := by
  intro s
  induction s using items_ind with
  | skip =>
    intro K R _ hK
    exact ⟨hK.run, fun _ => rfl, fun it post h => by simp [items, dropUntil] at h⟩
  | seq a b iha ihb =>
    intro K R h hK
    obtain ⟨hbRun, hbFind⟩ := ihb K R (fun it hit => h it (by simp only [items, List.mem_append]; exact .inr hit)) hK
    have hKa : Exe ω fb n (.seq b K) (items b ++ R) kb :=
      ⟨hK.brk, hK.cont, fun m hm σ => Post_steps (Steps.one rfl) (hbRun m hm σ)⟩
    obtain ⟨haRun, haNone, haSome⟩ :=
      iha (.seq b K) (items b ++ R) (fun it hit => h it (by simp only [items, List.mem_append]; exact .inl hit)) hKa
    simp only [items, dropUntil_append, List.append_assoc]
    refine ⟨fun m hm σ => Post_steps (Steps.one rfl) (haRun m hm σ), ?_⟩
    cases hd : dropUntil (tp t) (items a) with
    | none =>
      simp only [find, haNone hd]
      exact hbFind
    | some r =>
      obtain ⟨it1, post1, rfl⟩ := dropUntil_some _ _ _ hd
      refine ⟨fun hn => by simp at hn, fun it post hsome => ?_⟩
      simp only [List.cons_append, Option.some.injEq, List.cons.injEq] at hsome
      obtain ⟨rfl, rfl⟩ := hsome
      obtain ⟨s', k', hf, hpre, hst, hk'⟩ := haSome it1 post1 hd
      exact ⟨s', k', by simp only [find, hf], hpre, hst, by rwa [List.append_assoc]⟩
  | block s ih =>
    intro K R h hK
    obtain ⟨hRun, hFind⟩ := ih K R h hK
    exact ⟨fun m hm σ => Post_steps (Steps.one rfl) (hRun m hm σ), hFind⟩
  | item s hi =>
    intro K R h hK
    rw [hi] at h ⊢
    obtain ⟨hnfc, hstr⟩ := h s (List.mem_singleton.2 rfl)
    obtain ⟨hfNone, hfSome⟩ := find_item ω t ht s K hnfc
    simp only [dropUntil]
    refine ⟨Exe.cons hM hK (Under.refl ω s) hstr, fun hn => hfNone (by simpa using hn), fun it post hsome => ?_⟩
    split at hsome
    · rename_i hp
      simp only [Option.some.injEq, List.cons.injEq] at hsome
      obtain ⟨rfl, rfl⟩ := hsome
      obtain ⟨s', hfd, hpre⟩ := hfSome hp
      exact ⟨s', K, hfd, hpre, hstr, hK⟩
    · simp at hsome

theorem M_switch (n : Nat) (hM : ∀ m, m ≤ n → MProp ω fb m)
    (w u : Bool) (key : Nat) (body : SStmt) (k : Cont) (σ : SState)
    (hs : structured (.switch_ w u key body) = true) :
    Post ω fb (.switch_ w u key body) k σ k (exec ω (n + 1) (.switch_ w u key body) σ) := by
  simp only [structured, Bool.and_eq_true] at hs
  obtain ⟨hok, hsb⟩ := hs
  have hG : switchOKG w u body = true := switchOKG_of_switchOK hok
  have hits : ∀ it ∈ items body, noFreeCase (core it) = true ∧ structured it = true :=
    fun it hit => ⟨switchOK_cores hok it hit, structured_items body hsb it hit⟩
  have hI := fun t ht => items_sim n hM t ht (.swK k) body (.swK k) [] hits (Exe.base n _)
  have hFindNone : ∀ t, t.enters = false → dropUntil (tp t) (items body) = none → find t body (.swK k) = none :=
    fun t ht => by obtain ⟨_, hNone, _⟩ := hI t ht; exact hNone
  rw [exec_switch, if_pos hok]
  -- `find` lands at `(s', k')` behind a label of `it`, the first item `select` keeps
  have hit : ∀ (t : Target) (it : SStmt) (post : List SStmt), t.enters = false →
      dropUntil (tp t) (items body) = some (it :: post) →
      select w u (σ.call ω (.inp key)).1 (items body) = some (it :: post) →
      (∀ s' k', find t body (.swK k) = some (s', k') →
        step ω fb (.switch_ w u key body) k σ = .next s' k' (σ.call ω (.inp key)).2) →
      Post ω fb (.switch_ w u key body) k σ k
        (swSel ω n (σ.call ω (.inp key)).2 (select w u (σ.call ω (.inp key)).1 (items body))) := by
    intro t it post ht hd hsel hstep
    obtain ⟨_, _, hSome⟩ := hI t ht
    obtain ⟨s', k', hf, hpre, hst, hk'⟩ := hSome it post hd
    rw [hsel]
    rw [List.append_nil] at hk'
    exact Post_steps (Steps.one (hstep s' k' hf)) (post_swR (Exe.cons hM hk' hpre hst n (Nat.le_refl n) _))
  cases hc : dropUntil (tp (.case_ w u (σ.call ω (.inp key)).1)) (items body) with
  | some rest =>
    obtain ⟨it, post, hr⟩ := dropUntil_some _ _ _ hc
    subst hr
    exact hit (.case_ w u (σ.call ω (.inp key)).1) it post rfl hc (by simp only [select, ← tp_case, hc])
      (fun s' k' hf => by simp only [step, hG, if_true, hf])
  | none =>
    have hf1 : find (.case_ w u (σ.call ω (.inp key)).1) body (.swK k) = none := hFindNone _ rfl hc
    cases hd : dropUntil (tp .dflt) (items body) with
    | some rest =>
      obtain ⟨it, post, hr⟩ := dropUntil_some _ _ _ hd
      subst hr
      exact hit .dflt it post rfl hd (by simp only [select, ← tp_case, ← tp_dflt, hc, hd]) (fun s' k' hf => by simp only [step, hG, if_true, hf1, hf])
    | none =>
      have hf2 : find .dflt body (.swK k) = none := hFindNone .dflt rfl hd
      have hsel : select w u (σ.call ω (.inp key)).1 (items body) = none := by
        simp only [select, ← tp_case, ← tp_dflt, hc, hd]
      rw [hsel]
      have hstep : step ω fb (.switch_ w u key body) k σ = .next .skip k (σ.call ω (.inp key)).2 := by
        simp only [step, hG, if_true, hf1, hf2]
      exact Steps.one hstep

theorem M_for_none (n : Nat) (ih : MProp ω fb n) (c inc : Option Nat) (body : SStmt) (k : Cont) (σ : SState)
    (hs : structured body = true) :
    Post ω fb (.for_ none c inc body) k σ k (exec ω (n + 1) (.for_ none c inc body) σ) := by
  have hloop : ∀ σ1, Post ω fb body (.forK c inc body k) σ1 k
      (loopK (exec ω n body σ1) (fun σ2 => exec ω n (.for_ none c inc body) (σ2.emitOpt inc))) := by
    intro σ1
    refine post_loopK (ih body (.forK c inc body k) σ1 hs) rfl rfl (fun σ2 => ?_)
    exact Post_steps (Steps.one rfl) (ih (.for_ none c inc body) k (σ2.emitOpt inc) hs)
  cases c with
  | none =>
    rw [exec_for_none]
    exact Post_steps (Steps.one rfl) (hloop σ)
  | some c =>
    rw [exec_for_some]
    by_cases ht : truth (σ.call ω (.c c)).1 = true
    · rw [if_pos ht]
      have hstep : step ω fb (.for_ none (some c) inc body) k σ =
          .next body (.forK (some c) inc body k) (σ.call ω (.c c)).2 := by
        simp only [step, ht, if_true]
      exact Post_steps (Steps.one hstep) (hloop _)
    · rw [if_neg ht]
      have hstep : step ω fb (.for_ none (some c) inc body) k σ = .next .skip k (σ.call ω (.c c)).2 := by
        simp only [step, ht]
        rfl
      exact Steps.one hstep

theorem M_doWhile (n : Nat) (ih : MProp ω fb n) (body : SStmt) (c : Nat) (k : Cont) (σ : SState)
    (hs : structured body = true) :
    Post ω fb (.doWhile body c) k σ k (exec ω (n + 1) (.doWhile body c) σ) := by
  rw [exec_doWhile]
  refine Post_steps (Steps.one rfl) ?_
  refine post_loopK (ih body (.doK body c k) σ hs) rfl rfl (fun σ2 => ?_)
  by_cases ht : truth (σ2.call ω (.c c)).1 = true
  · simp only [ht, if_true]
    have hstep : step ω fb .skip (.doK body c k) σ2 = .next (.doWhile body c) k (σ2.call ω (.c c)).2 := by
      simp only [step, ht, if_true]
    exact Post_steps (Steps.one hstep) (ih (.doWhile body c) k _ hs)
  · simp only [ht]
    have hstep : step ω fb .skip (.doK body c k) σ2 = .next .skip k (σ2.call ω (.c c)).2 := by
      simp only [step, ht]
      rfl
    exact Steps.one hstep

theorem M_ifte (n : Nat) (ih : MProp ω fb n) (c : Nat) (t e : SStmt) (k : Cont) (σ : SState)
    (hs : structured (.ifte c t e) = true) :
    Post ω fb (.ifte c t e) k σ k (exec ω (n + 1) (.ifte c t e) σ) := by
  simp only [structured, Bool.and_eq_true] at hs
  rw [exec_ifte]
  by_cases ht : truth (σ.call ω (.c c)).1 = true
  · rw [if_pos ht]
    have hstep : step ω fb (.ifte c t e) k σ = .next t k (σ.call ω (.c c)).2 := by
      simp only [step, ht, if_true]
    exact Post_steps (Steps.one hstep) (ih t k _ hs.1)
  · rw [if_neg ht]
    have hstep : step ω fb (.ifte c t e) k σ = .next e k (σ.call ω (.c c)).2 := by
      simp only [step, ht]
      rfl
    exact Post_steps (Steps.one hstep) (ih e k _ hs.2)

theorem M_succ (n : Nat) (hM : ∀ m, m ≤ n → MProp ω fb m) : MProp ω fb (n + 1) := by
  have ih := hM n (Nat.le_refl n)
  intro s k σ hs
  cases s with
  | skip => exact Steps.refl _ _ _
  | marker m => exact Steps.one rfl
  | seq a b =>
    simp only [structured, Bool.and_eq_true] at hs
    rw [exec_seq]
    refine Post_steps (Steps.one rfl) ?_
    exact post_seqK (ih a (.seq b k) σ hs.1) rfl rfl
      (fun σ1 => Post_steps (Steps.one rfl) (ih b k σ1 hs.2))
  | block s => exact Post_steps (Steps.one rfl) (ih s k σ hs)
  | ifte c t e => exact M_ifte n ih c t e k σ hs
  | for_ i c inc body =>
    cases i with
    | some i => exact Post_steps (Steps.one rfl) (ih (.for_ none c inc body) k (σ.emit (.m i)) hs)
    | none => exact M_for_none n ih c inc body k σ hs
  | doWhile body c => exact M_doWhile n ih body c k σ hs
  | switch_ w u key body => exact M_switch n hM w u key body k σ hs
  | case_ _ _ s | default_ s | label _ s => exact Post_steps (Steps.one rfl) (ih s k σ hs)
  | break_ | continue_ => exact ⟨k, Steps.refl _ _ _, rfl⟩
  | goto_ _ | gotoVal _ => cases hs
  | ret => exact ⟨k, Steps.refl _ _ _⟩

theorem M_all (n : Nat) : MProp ω fb n := by
  induction n using Nat.strongRecOn with
  | _ n ih =>
    cases n with
    | zero => exact fun s k σ _ => exec_fuel0 ω s σ ▸ Post_timeout_self s k σ k
    | succ n => exact M_succ n (fun m hm => ih m (Nat.lt_succ_of_le hm))

end

theorem exec_post (ω : Nat → Val) (fb : SStmt) (n : Nat) (s : SStmt) (k : Cont) (σ : SState)
    (hs : structured s = true) : Post ω fb s k σ k (exec ω n s σ) :=
  M_all (ω := ω) (fb := fb) n s k σ hs

theorem structured_supported (ω : Nat → Val) (n : Nat) (s : SStmt) (σ : SState) (hs : structured s = true) :
    exec ω n s σ ≠ .unsupported := by
  intro h
  have hp := exec_post ω s n s .stop σ hs
  rw [h] at hp
  exact hp

/-- on the structured fragment the two machines agree: whenever the big-step machine terminates, the small-step
    machine terminates with the same outcome, oracle position and trace -/
theorem exec_execG_done (ω : Nat → Val) (s : SStmt) (hs : structured s = true) (n : Nat) (σ σ' : SState) (o : Outcome)
    (h : exec ω n s σ = .done o σ') : ∃ m, execG ω m s σ = .done o σ' := by
  have hp := exec_post ω s n s .stop σ hs
  rw [h] at hp
  unfold execG
  cases o with
  | normal => exact run_of_steps hp 1
  | brk =>
    obtain ⟨k2, hst, hb⟩ := hp
    have hb' : breakK k2 = none := hb
    exact (run_of_steps hst 1).imp fun _ hm => hm.trans (by simp only [run, step, hb'])
  | cont =>
    obtain ⟨k2, hst, hc⟩ := hp
    have hc' : contK k2 = none := hc
    exact (run_of_steps hst 1).imp fun _ hm => hm.trans (by simp only [run, step, hc'])
  | ret =>
    obtain ⟨k2, hst⟩ := hp
    exact run_of_steps hst 1

/-- the prefix version: a state at which the big-step machine runs out of fuel is one the small-step machine
    passes through -/
theorem exec_execG_timeout (ω : Nat → Val) (s : SStmt) (hs : structured s = true) (n : Nat) (σ σ' : SState)
    (h : exec ω n s σ = .timeout σ') : ∃ m, execG ω m s σ = .timeout σ' := by
  have hp := exec_post ω s n s .stop σ hs
  rw [h] at hp
  obtain ⟨s', k', hst⟩ := hp
  exact (run_of_steps hst 0).imp fun _ hm => hm.trans (by cases s' <;> rfl)

theorem structured_ok (fb : SStmt) : ∀ s : SStmt, structured s = true → okStmt fb s = true ∧ hasGotoVal s = false := by
  intro s
  induction s with
  | seq a b iha ihb | ifte _ a b iha ihb =>
    intro h
    simp only [structured, Bool.and_eq_true] at h
    simp only [okStmt, hasGotoVal, Bool.and_eq_true, iha h.1, ihb h.2, Bool.or_self, and_self]
  | block s ih | for_ _ _ _ s ih | doWhile s _ ih | case_ _ _ s ih | default_ s ih | label _ s ih => exact ih
  | switch_ w u k b ih =>
    intro h
    simp only [structured, Bool.and_eq_true] at h
    simp only [okStmt, Bool.and_eq_true]
    exact ⟨⟨switchOKG_of_switchOK h.1, (ih h.2).1⟩, (ih h.2).2⟩
  | goto_ _ | gotoVal _ => intro h; cases h
  | _ => intro _; exact ⟨rfl, rfl⟩

/-- every structured statement satisfies the constraints of the small-step machine, in any function body -/
theorem structured_okStmt (fb s : SStmt) (h : structured s = true) : okStmt fb s = true := (structured_ok fb s h).1
theorem structured_noGotoVal (s : SStmt) (h : structured s = true) : hasGotoVal s = false := (structured_ok s s h).2

theorem structured_validG (s : SStmt) (h : structured s = true) : validG s = true := structured_okStmt s s h

end ChibiVerif.Spec.Ctl
