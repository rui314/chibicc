/-
C05, parser = specification: the small helper functions of the parser transcription against their counterparts in the
specification (`struct_designator` / `findMember`, the unnamed-bit-field skips / `nextNamed`, `assign` / `tokExpr`,
`array_designator`, `string_initializer` / `stringValue`).
-/
import ChibiVerif.Lemmas.InitSpecLemmas

namespace ChibiVerif.InitSpec
open ChibiVerif.Init

variable {i : Nat} {ms : Members} {t : Ty}

theorem getChild_ok {cs : List Init} {c : Init} (h : getChild cs i = .ok c) : cs[i]? = some c := by
  unfold getChild at h
  split at h
  · cases h; assumption
  · cases h

theorem memTy_ok {k : Nat} (h : memTy ms k = .ok t) : ∃ mi, ms[k]? = some (mi, t) := by
  unfold memTy at h
  split at h
  · rename_i mi t' hk; cases h; exact ⟨mi, hk⟩
  · cases h

theorem parseAssign_ok {toks rest : List ITok} {e : Expr} (h : parseAssign toks = .ok (e, rest)) :
    ∃ tok, toks = tok :: rest ∧ tokExpr tok = some e ∧ tok ≠ .lbrace ∧ startable tok = true ∧
      ((∃ e', tok = .expr e' ∧ e = e') ∨ (isStrTok tok = true ∧ e.isStruct = false ∧ e.isUnion = false)) := by
  unfold parseAssign at h
  split at h
  · cases h; exact ⟨_, rfl, rfl, by simp, rfl, Or.inl ⟨_, rfl, rfl⟩⟩
  · cases h; exact ⟨_, rfl, rfl, by simp, rfl, Or.inr ⟨rfl, rfl, rfl⟩⟩
  · cases h

theorem nextNamed_fuel (ms : Members) : ∀ (n i : Nat), ms.length ≤ i + n → nextNamed ms n i = nextNamed ms (n+1) i
  | 0, i, h => by
    have : ms[i]? = none := List.getElem?_eq_none (by omega)
    simp [nextNamed, this]
  | n+1, i, h => by
    rw [nextNamed, nextNamed]
    cases hi : ms[i]? with
    | none => rfl
    | some m =>
      obtain ⟨mi, t⟩ := m
      simp only
      split
      · exact nextNamed_fuel ms n (i+1) (by omega)
      · rfl

theorem nextNamed_fuel_le (ms : Members) (i : Nat) {n n' : Nat} (h : ms.length ≤ i + n) (hle : n ≤ n') :
    nextNamed ms n i = nextNamed ms n' i := by
  induction hle with
  | refl => rfl
  | @step m hle ih =>
    have hle' : n ≤ m := hle
    rw [ih]; exact nextNamed_fuel ms m i (by omega)

theorem nextNamed_skip {mi : MemInfo} (hi : ms[i]? = some (mi, t)) (hu : unnamedBf mi = true) :
    nextNamed ms ms.length i = nextNamed ms ms.length (i+1) := by
  have hlt : i < ms.length := (List.getElem?_eq_some_iff.mp hi).1
  obtain ⟨n, hn⟩ : ∃ n, ms.length = n + 1 := ⟨ms.length - 1, by omega⟩
  rw [hn, nextNamed]
  simp only [hi, hu, ↓reduceIte]
  rw [← hn]
  exact nextNamed_fuel_le ms (i+1) (by omega) (by omega)

theorem nextNamed_here {mi : MemInfo} (hi : ms[i]? = some (mi, t)) (hu : unnamedBf mi = false) :
    nextNamed ms ms.length i = some i := by
  have hlt : i < ms.length := (List.getElem?_eq_some_iff.mp hi).1
  obtain ⟨n, hn⟩ : ∃ n, ms.length = n + 1 := ⟨ms.length - 1, by omega⟩
  rw [hn, nextNamed]
  simp [hi, hu]

theorem nextNamed_past (hi : ms[i]? = none) : nextNamed ms ms.length i = none := by
  cases hn : ms.length with
  | zero => rfl
  | succ n => rw [nextNamed]; simp [hi]

theorem nextNamed_some : ∀ {n i j : Nat}, nextNamed ms n i = some j →
    i ≤ j ∧ ∃ mi t, ms[j]? = some (mi, t) ∧ unnamedBf mi = false
  | 0, _, _, h => by simp [nextNamed] at h
  | n+1, i, j, h => by
    rw [nextNamed] at h
    cases hi : ms[i]? with
    | none => simp [hi] at h
    | some m =>
      obtain ⟨mi, t⟩ := m
      simp only [hi] at h
      split at h
      · obtain ⟨h1, h2⟩ := nextNamed_some h
        exact ⟨by omega, h2⟩
      · rename_i hu
        cases h
        exact ⟨Nat.le_refl _, mi, t, hi, by simpa using hu⟩

/-- `while (mem && mem->is_bitfield && !mem->name) mem = mem->next` lands on the specification's next participating member -/
theorem skipUnnamedBf_spec (ms : Members) : ∀ (n i : Nat), ms.length ≤ i + n →
    nextNamed ms n i = (if skipUnnamedBf ms n i < ms.length then some (skipUnnamedBf ms n i) else none)
  | 0, i, h => by
    have : ¬ i < ms.length := by omega
    simp [nextNamed, skipUnnamedBf, this]
  | n+1, i, h => by
    rw [nextNamed, skipUnnamedBf]
    cases hi : ms[i]? with
    | none =>
      have : ¬ i < ms.length := by
        intro hlt; simp [List.getElem?_eq_getElem hlt] at hi
      simp [this]
    | some m =>
      obtain ⟨mi, t⟩ := m
      have hlt : i < ms.length := (List.getElem?_eq_some_iff.mp hi).1
      simp only [unnamedBf]
      by_cases hu : (mi.bf.isSome && mi.name.isNone) = true
      · simp only [hu, ↓reduceIte]
        exact skipUnnamedBf_spec ms n (i+1) (by omega)
      · simp only [hu, Bool.false_eq_true, ↓reduceIte, hlt]

/-- the union default member: `while (mem->next && mem->is_bitfield && !mem->name) mem = mem->next` -/
theorem firstNamed_spec (ms : Members) : ∀ (n i k : Nat), nextNamed ms n i = some k → firstNamed ms n i = k
  | 0, _, _, h => by simp [nextNamed] at h
  | n+1, i, k, h => by
    rw [nextNamed] at h
    rw [firstNamed]
    cases hi : ms[i]? with
    | none => simp [hi] at h
    | some m =>
      obtain ⟨mi, t⟩ := m
      simp only [hi, unnamedBf] at h
      by_cases hu : (mi.bf.isSome && mi.name.isNone) = true
      · simp only [hu, ↓reduceIte] at h
        have hk := (nextNamed_some h).1
        obtain ⟨mi', t', hk', _⟩ := (nextNamed_some h).2
        have hlt : k < ms.length := (List.getElem?_eq_some_iff.mp hk').1
        have : (i + 1) < ms.length := by omega
        simp only [List.getElem?_eq_getElem this, hu, ↓reduceIte]
        exact firstNamed_spec ms n (i+1) k h
      · simp only [hu, Bool.false_eq_true, ↓reduceIte] at h
        cases h
        cases h2 : ms[i+1]? with
        | none => rfl
        | some _ => simp [hu]

mutual
  theorem hasMember_find : ∀ (t : Ty) (n : String), hasMember t n = (findMember t n).isSome
    | .struct ms _ _, n => by rw [hasMember, findMember]; exact hasMemberMs_find ms n 0
    | .union ms _ _, n => by rw [hasMember, findMember]; exact hasMemberMs_find ms n 0
    | .scalar _ _, _ => rfl
    | .array _ _, _ => rfl
    | .inc _, _ => rfl
  theorem hasMemberMs_find : ∀ (ms : Members) (n : String) (i : Nat), hasMemberMs ms n = (findMemberMs ms n i).isSome
    | [], _, _ => rfl
    | (mi, t) :: r, n, i => by
      rw [hasMemberMs, findMemberMs]
      split
      · rw [hasMember_find t n, hasMemberMs_find r n (i+1)]
        cases findMember t n <;> simp
      · cases hn : mi.name with
        | none => simp [hasMemberMs_find r n (i+1)]
        | some m =>
          simp only
          by_cases hm : m = n
          · simp [hm]
          · have : ¬ (some m = some n) := by simpa using hm
            simp [hm, this, hasMemberMs_find r n (i+1)]
end

/-- `struct_designator` finds the member the specification's `findMember` finds: directly (`[k]`), or the anonymous
    struct/union member `k` through which the name is reached -/
theorem structDesignator_spec (name : String) : ∀ (ms : Members) (i k : Nat) (anon : Bool),
    structDesignator name ms i = .ok (k, anon) →
    ∃ j mi t, k = i + j ∧ ms[j]? = some (mi, t) ∧
      ((anon = false ∧ findMemberMs ms name i = some [k]) ∨
       (anon = true ∧ t.isAgg = true ∧ ∃ mp, findMember t name = some mp ∧ findMemberMs ms name i = some (k :: mp)))
  | [], _, _, _, h => by cases h
  | (mi, t) :: r, i, k, anon, h => by
    rw [structDesignator] at h
    have lift : ∀ (e : findMemberMs ((mi, t) :: r) name i = findMemberMs r name (i+1)),
        structDesignator name r (i+1) = .ok (k, anon) →
        ∃ j mi' t', k = i + j ∧ ((mi, t) :: r)[j]? = some (mi', t') ∧
          ((anon = false ∧ findMemberMs ((mi, t) :: r) name i = some [k]) ∨
           (anon = true ∧ t'.isAgg = true ∧ ∃ mp, findMember t' name = some mp ∧
              findMemberMs ((mi, t) :: r) name i = some (k :: mp))) := by
      intro e h'
      obtain ⟨j, mi', t', hk, hj, hh⟩ := structDesignator_spec name r (i+1) k anon h'
      rw [e]
      exact ⟨j+1, mi', t', by omega, by simpa using hj, hh⟩
    by_cases hagg : (t.isAgg && mi.name.isNone) = true
    · simp only [hagg, ↓reduceIte] at h
      rw [hasMember_find] at h
      cases hf : findMember t name with
      | some mp =>
        simp only [hf, Option.isSome_some, ↓reduceIte] at h
        cases h
        have e : findMemberMs ((mi, t) :: r) name i = some (i :: mp) := by rw [findMemberMs]; simp [hagg, hf]
        simp only [Bool.and_eq_true] at hagg
        exact ⟨0, mi, t, rfl, by simp, Or.inr ⟨rfl, hagg.1, mp, hf, e⟩⟩
      | none =>
        simp only [hf, Option.isSome_none, Bool.false_eq_true, ↓reduceIte] at h
        exact lift (by rw [findMemberMs]; simp [hagg, hf]) h
    · simp only [hagg, Bool.false_eq_true, ↓reduceIte] at h
      cases hn : mi.name with
      | none =>
        simp only [hn] at h
        have hagg' : t.isAgg = false := by simpa [hn] using hagg
        exact lift (by rw [findMemberMs]; simp [hagg', hn]) h
      | some m =>
        simp only [hn] at h
        by_cases hm : m = name
        · simp only [hm, ↓reduceIte] at h
          cases h
          have e : findMemberMs ((mi, t) :: r) name i = some [i] := by rw [findMemberMs]; simp [hn, hm]
          exact ⟨0, mi, t, rfl, by simp, Or.inl ⟨rfl, e⟩⟩
        · simp only [hm, ↓reduceIte] at h
          exact lift (by rw [findMemberMs]; simp [hn, hm]) h

theorem arrayDesignator_ok {len : Nat} {toks tok : List ITok} {b e : Nat} (h : arrayDesignator len toks = .ok (b, e, tok)) :
    (∃ a : Int, toks = .idx a :: tok ∧ 0 ≤ a ∧ a < len ∧ b = a.toNat ∧ e = a.toNat) ∨
    (∃ a c : Int, toks = .range a c :: tok ∧ 0 ≤ a ∧ a ≤ c ∧ c < len ∧ b = a.toNat ∧ e = c.toNat) := by
  unfold arrayDesignator at h
  split at h
  · split at h
    · cases h
    · rename_i hc; cases h
      exact Or.inl ⟨_, rfl, by omega, by omega, rfl, rfl⟩
  · split at h
    · cases h
    · split at h
      · cases h
      · split at h
        · cases h
        · rename_i h1 h2 h3; cases h
          exact Or.inr ⟨_, _, rfl, by omega, by omega, by omega, rfl, rfl⟩
  · cases h

theorem strFill_spec (bytes : List Nat) (w : Nat) : ∀ (n : Nat) (cs : List Init) (i : Nat) (cs' : List Init),
    strFill bytes w cs i n = .ok cs' → (∀ c ∈ cs, c = .leaf none) →
    ∃ vals, (List.range' i n).mapM (strLeaf bytes w) = .ok vals ∧ cs' = vals ++ cs.drop n ∧ vals.length = n ∧
      ∀ v ∈ vals, ∃ e, v = .leaf e
  | 0, cs, i, cs', h, _ => by
    rw [strFill] at h; cases h
    exact ⟨[], rfl, by simp, rfl, by simp⟩
  | n+1, [], i, cs', h, _ => by rw [strFill] at h; cases h
  | n+1, c :: cs, i, cs', h, hz => by
    rw [strFill] at h
    cases hv : strElem bytes w i with
    | none => simp [hv] at h
    | some v =>
      simp only [hv] at h
      obtain ⟨rest, hr, h⟩ := bind_eq_ok h
      cases h
      obtain ⟨vals, hm, hc, hl, hleaf⟩ := strFill_spec bytes w n cs (i+1) rest hr (fun c hc => hz c (by simp [hc]))
      have hc0 : c = .leaf none := hz c (by simp)
      refine ⟨.leaf (some (strNum w v)) :: vals, ?_, ?_, by simp [hl], ?_⟩
      · rw [List.range'_succ, List.mapM_cons]
        have : strLeaf bytes w i = .ok (.leaf (some (strNum w v))) := by simp [strLeaf, hv]
        rw [this, ok_bind, hm, ok_bind]; rfl
      · simp [hc0, Init.setExpr, hc]
      · intro x hx
        simp only [List.mem_cons] at hx
        rcases hx with rfl | hx
        · exact ⟨_, rfl⟩
        · exact hleaf x hx

theorem isInteger_scalar (h : t.isInteger = true) : ∃ sz k, t = .scalar sz k := by
  cases t <;> simp [Ty.isInteger] at h
  exact ⟨_, _, rfl⟩

/-- `string_initializer` on an untouched array is p14 -/
theorem stringInitializer_spec {elem : Ty} {len : Nat} {bytes : List Nat} {esz : Nat} {rest toks' : List ITok} {c c' : Init}
    (hs : shaped (.array elem len) c = true) (hz : hasExpr c = false) (hi : elem.isInteger = true)
    (h : stringInitializer elem bytes esz rest c = .ok (c', toks')) :
    toks' = rest ∧ strFits elem esz = true ∧ stringValue elem (some len) bytes esz = .ok c' ∧ shaped (.array elem len) c' = true := by
  obtain ⟨sz, kd, rfl⟩ := isInteger_scalar hi
  have hzero := zero_of_shaped (.array (.scalar sz kd) len) c (by simp [subOk]) hs hz
  subst hzero
  unfold stringInitializer at h
  split at h
  · cases h
  · rename_i hsz
    simp only [newInit, Init.children, List.length_replicate, Init.withChildren] at h
    split at h
    · obtain ⟨cs', hf, h⟩ := bind_eq_ok h
      cases h
      have hsz' : (sz : Int) = esz := by simpa [Ty.size] using hsz
      have hsz2 : sz = esz := by omega
      subst hsz2
      obtain ⟨vals, hm, hc, hl, hleaf⟩ := strFill_spec bytes sz _ _ 0 cs' (by simpa [Ty.size] using hf)
        (fun c hc => List.eq_of_mem_replicate hc)
      refine ⟨rfl, by simp [strFits, hi, Ty.size], ?_, ?_⟩
      · unfold stringValue
        simp only [hm, ok_bind, hc, List.drop_replicate, zeroOf, newInit]
        rfl
      · rw [hc]
        simp only [shaped, List.length_append, hl, List.drop_replicate, List.length_replicate, Bool.and_eq_true, beq_iff_eq]
        refine ⟨by omega, ?_⟩
        rw [shapedAll_iff]
        intro x hx
        simp only [List.mem_append] at hx
        rcases hx with hx | hx
        · obtain ⟨e, rfl⟩ := hleaf x hx; simp [shaped]
        · rw [List.eq_of_mem_replicate hx]; simp [shaped]
    · cases h

end ChibiVerif.InitSpec
