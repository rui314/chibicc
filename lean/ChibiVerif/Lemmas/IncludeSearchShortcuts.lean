/-
The re-inclusion shortcuts in the include machine WITHOUT the nesting limit (`runInc` of Model/IncludeSearch.lean, the code before
/repo b453bf4), kept because Findings/C10.lean and property C13 state facts on that machine: `include_file` is its two shortcuts
(`shortcutFires`) in front of open + detect, every entry of the guard table was computed from the file it names (`GuardsOK`), a
guarded file spliced in while its guard is defined changes nothing, hence the guard shortcut is transparent.  The theory to extend
is Lemmas/IncludeDepthShortcuts.lean; the two share `shortcutFires_cases`, `putGuard_inv`, `ILine.toLine_eq_opens`
(Lemmas/IncludeSearchLemmas.lean) and `guardScan_step`, `detectGuard_map_eq_some` (Lemmas/CondInclLemmas.lean); the rest is tied to
the shape of the machine (a stream on a step budget here, nested total functions there).  `b` is `useGuards` of the model.
-/
import ChibiVerif.Lemmas.IncludeSearchLemmas
namespace ChibiVerif.IncludeSearch
open ChibiVerif.CondIncl
open ChibiVerif.IncludeDepth (shortcutFires)
variable {ε β : Type}

/-- every entry of `include_guards` was computed by `detect_include_guard` from the file's content -/
def GuardsOK (fs : FS ε β) (guards : List (String × String)) : Prop :=
  ∀ p g, guardOf guards p = some g → ∃ ls, fs.get p = some ls ∧ detectGuard (ls.map ILine.toLine) = some g

theorem GuardsOK_nil (fs : FS ε β) : GuardsOK fs [] := by
  intro p g h; simp [guardOf] at h

theorem runInc_nil (ev : ε → Defs β → Except Diag Bool) (fs : FS ε β) (paths : List String) (b : Bool) (f : Nat)
    (m : Mode) (s : IState β) : runInc ev fs paths b f [] m s = .ok (s, m) := by
  cases f <;> rfl

theorem runInc_mono_le {ev : ε → Defs β → Except Diag Bool} {fs : FS ε β} {paths : List String} {b : Bool}
    {f f' : Nat} (hle : f ≤ f') {lines : List (String × ILine ε β)} {m : Mode} {s : IState β} {r : IState β × Mode} :
      runInc ev fs paths b f lines m s = .ok r → runInc ev fs paths b f' lines m s = .ok r := by
  fun_induction runInc ev fs paths b f lines m s generalizing f' with
  | case1 => intro h; rw [runInc_nil]; exact h
  | case2 | case3 => intro h; cases h
  | case4 fuel file l rest m s ls s' m' hs ih =>
    intro h
    obtain ⟨k, rfl⟩ := Nat.exists_eq_add_of_lt hle
    rw [runInc, hs]
    exact ih (Nat.le_add_right ..) h

/-- in a skip mode every line (also #include, #include_next, #pragma once) is only looked at through
    its directive name -/
theorem stepInc_skip (ev : ε → Defs β → Except Diag Bool) (fs : FS ε β) (paths : List String) (b : Bool)
    (file : String) (l : ILine ε β) (d : Nat) (s : IState β) :
    stepInc ev fs paths b file l (.skip d) s =
      (match stepLine ev l.toLine (.skip d) s.st with
       | .error e => .error e
       | .ok (st', m') => .ok ([], { s with st := st' }, m')) := by
  cases l <;> rfl

/-- `run_guardScan` for the machine with includes: from inside the skipped #ifndef group the machine
    reaches the end of the file, pops the #ifndef's record and changes nothing else; it needs at most
    the fuel it had -/
theorem runInc_guardScan {ev : ε → Defs β → Except Diag Bool} {fs : FS ε β} {paths : List String} {b : Bool}
    {path : String} {rest : List (String × ILine ε β)} {r : IState β × Mode} :
    ∀ (ls : List (ILine ε β)) {k : Nat} {fuel : Nat} {s : IState β} {o : Obs β} {f : Frame} {st : List Frame},
      guardScan (k+1) (ls.map ILine.toLine) = true → s.st = ⟨o, f :: st⟩ →
      runInc ev fs paths b fuel (ls.map (fun l => (path, l)) ++ rest) (.skip k) s = .ok r →
      ∃ fuel', fuel' ≤ fuel ∧ runInc ev fs paths b fuel' rest .proc { s with st := ⟨o, st⟩ } = .ok r := by
  intro ls
  induction ls with
  | nil => intro k fuel s o f st h; cases h
  | cons l ls ih =>
    intro k fuel s o f st hscan hst hrun
    cases fuel with
    | zero => cases hrun
    | succ fuel =>
      simp only [List.map_cons, List.cons_append, runInc, stepInc_skip, hst] at hrun
      rcases guardScan_step ev l.toLine _ k o f st hscan with ⟨k', h', hs⟩ | ⟨hnil, hs⟩ <;> rw [hs] at hrun
      · obtain ⟨f', hle, hr⟩ := ih h' rfl hrun
        exact ⟨f', Nat.le_succ_of_le hle, hr⟩
      · cases List.map_eq_nil_iff.mp hnil
        exact ⟨fuel, Nat.le_succ _, hrun⟩

/-- a file accepted by `detect_include_guard`, spliced in while its guard macro is defined: the
    machine is back in front of the rest of the input with nothing changed -/
theorem runInc_guarded_file {ev : ε → Defs β → Except Diag Bool} {fs : FS ε β} {paths : List String} {b : Bool}
    {path : String} {rest : List (String × ILine ε β)} {r : IState β × Mode}
    {ls : List (ILine ε β)} {g : String} (hg : detectGuard (ls.map ILine.toLine) = some g)
    {fuel : Nat} {s : IState β} (hdef : s.st.obs.defs.isDef g = true)
    (hrun : runInc ev fs paths b fuel (ls.map (fun l => (path, l)) ++ rest) .proc s = .ok r) :
    ∃ fuel', fuel' ≤ fuel ∧ runInc ev fs paths b fuel' rest .proc s = .ok r := by
  obtain ⟨l0, l1, ls', rfl, h0, hscan⟩ := detectGuard_map_eq_some ILine.toLine ls g hg
  cases ILine.toLine_eq_opens h0
  cases fuel with
  | zero => cases hrun
  | succ fuel =>
    simp only [List.map_cons, List.cons_append, runInc, stepInc, ILine.toLine, stepLine,
      procLine_ifndef_defined ev g false s.st hdef, List.nil_append] at hrun
    obtain ⟨f', hle, hr⟩ := runInc_guardScan (l1 :: ls') hscan rfl hrun
    exact ⟨f', Nat.le_succ_of_le hle, hr⟩

/-- `include_file` is its two shortcuts (`shortcutFires`, named in Model/IncludeDepth.lean) in front of
    `tokenize_file` and `detect_include_guard` -/
theorem includeFile_eq (fs : FS ε β) (b : Bool) (path : String) (s : IState β) :
    includeFile fs b path s =
      if shortcutFires b path s then .ok ([], s)
      else match fs.get path with
        | none => .error .cannotOpen
        | some ls => .ok (ls.map (fun l => (path, l)),
            match detectGuard (ls.map ILine.toLine) with
            | some g => { s with guards := putGuard s.guards path g }
            | none => s) := by
  unfold includeFile shortcutFires
  cases s.once.contains path <;> rfl

theorem includeFile_ok {fs : FS ε β} {b : Bool} {path : String} {s s' : IState β}
    {ls : List (String × ILine ε β)} (h : includeFile fs b path s = .ok (ls, s')) :
    s' = s ∨ ∃ fl, fs.get path = some fl ∧
      s' = match detectGuard (fl.map ILine.toLine) with
        | some g => { s with guards := putGuard s.guards path g }
        | none => s := by
  rw [includeFile_eq] at h
  split at h
  · cases h; exact .inl rfl
  · split at h
    · cases h
    · rename_i fl hget; cases h; exact .inr ⟨fl, hget, rfl⟩

theorem stepInc_shape (ev : ε → Defs β → Except Diag Bool) (fs : FS ε β) (paths : List String)
    (file : String) (l : ILine ε β) (m : Mode) (s : IState β) :
    (∀ b, stepInc ev fs paths b file l m s =
        match stepLine ev l.toLine m s.st with
        | .error e => .error e
        | .ok (st', m') => .ok ([], { s with st := st' }, m')) ∨
    (∃ o, ∀ b, stepInc ev fs paths b file l m s = .ok ([], { s with once := o }, .proc)) ∨
    (∃ (path : String) (s0 : IState β), s0.guards = s.guards ∧
      ∀ b, stepInc ev fs paths b file l m s =
        match includeFile fs b path s0 with
        | .error e => .error e
        | .ok (ls, s') => .ok (ls, s', .proc)) := by
  cases m with
  | skip d => exact .inl fun b => stepInc_skip ev fs paths b file l d s
  | proc =>
    cases l with
    | c l0 => exact .inl fun _ => rfl
    | pragmaOnce => exact .inr (.inl ⟨_, fun _ => rfl⟩)
    | incl dq name => exact .inr (.inr ⟨_, { s with cache := (resolveInclude fs.has paths s.cache file dq name).2 }, rfl, fun _ => rfl⟩)
    | includeNext name => exact .inr (.inr ⟨_, s, rfl, fun _ => rfl⟩)

/-- **the include-guard shortcut is transparent**: whenever plain textual inclusion finishes, the
    machine with the `include_guards` table finishes with the same state (same emitted text, same
    macro table, same conditional stack, same tables) -/
theorem runInc_guards_transparent (ev : ε → Defs β → Except Diag Bool) (fs : FS ε β) (paths : List String) :
    ∀ (fuel : Nat) (lines : List (String × ILine ε β)) (m : Mode) (s : IState β) (r : IState β × Mode),
      GuardsOK fs s.guards →
      runInc ev fs paths false fuel lines m s = .ok r → runInc ev fs paths true fuel lines m s = .ok r := by
  intro fuel
  induction fuel using Nat.strongRecOn with
  | _ fuel ih =>
    intro lines m s r hok hrun
    cases lines with
    | nil => simpa [runInc_nil] using hrun
    | cons x rest =>
      obtain ⟨file, l⟩ := x
      cases fuel with
      | zero => cases hrun
      | succ fuel =>
        simp only [runInc] at hrun ⊢
        rcases stepInc_shape ev fs paths file l m s with hs | ⟨o, hs⟩ | ⟨path, s0, h0, hs⟩
        · -- a step of the conditional machine: the same in both machines, the tables untouched
          rw [hs false] at hrun
          rw [hs true]
          cases hst : stepLine ev l.toLine m s.st with
          | error e => rw [hst] at hrun; cases hrun
          | ok p => rw [hst] at hrun; exact ih fuel (Nat.lt_succ_self _) _ _ _ _ hok hrun
        · rw [hs false] at hrun
          rw [hs true]
          exact ih fuel (Nat.lt_succ_self _) _ _ _ _ hok hrun
        · rcases shortcutFires_cases path s0 with hsc | ⟨ht, hf, g, hgo, hdef⟩
          · -- `include_file` without the guard shortcut firing: the same in both machines
            rw [hs false] at hrun
            rw [hs true, includeFile_eq, hsc, ← includeFile_eq]
            cases hi : includeFile fs false path s0 with
            | error e => rw [hi] at hrun; cases hrun
            | ok p =>
              rw [hi] at hrun
              refine ih fuel (Nat.lt_succ_self _) _ _ _ _ ?_ hrun
              rcases includeFile_ok hi with hs' | ⟨fl, hget, hs'⟩ <;> rw [hs']
              · exact h0 ▸ hok
              · cases hd : detectGuard (fl.map ILine.toLine) with
                | none => exact h0 ▸ hok
                | some g => exact putGuard_inv _ s0.guards path g (h0 ▸ hok) ⟨fl, hget, hd⟩
          · -- the shortcut fires: plain inclusion splices the guarded file in (its entry is already in the table,
            -- `hashmap_put` changes nothing) and comes back with nothing changed
            obtain ⟨ls, hget, hd⟩ := hok path g (h0 ▸ hgo)
            rw [hs false, includeFile_eq, hf] at hrun
            simp only [hget, hd, putGuard, hgo, if_true, Bool.false_eq_true, if_false] at hrun
            simp only [hs true, includeFile_eq, ht, if_true, List.nil_append]
            obtain ⟨f', hle, hr⟩ := runInc_guarded_file hd hdef hrun
            exact runInc_mono_le hle
              (ih f' (Nat.lt_succ_of_le hle) rest .proc s0 r (h0 ▸ hok) hr)

/-- a file system in which every path names the one-line file `#include "f"`: each step opens the file again, so every
    step budget is exhausted (this is the machine without the nesting limit; cc1 without it includes until memory runs out) -/
theorem runInc_self_include (ev : ε → Defs β → Except Diag Bool) (fs : FS ε β) (hfs : ∀ p, fs p = some [.incl true "f"])
    (paths : List String) : ∀ (fuel : Nat) (file : String) (s : IState β), s.once = [] → s.guards = [] →
      runInc ev fs paths true fuel [(file, .incl true "f")] .proc s = .error .outOfFuel
  | 0, _, _, _, _ => rfl
  | fuel + 1, file, s, ho, hg => by
    simp only [runInc, stepInc, includeFile, ho, hg, guardOf, List.find?_nil, Option.map_none, List.contains_nil,
      Bool.false_eq_true, if_false, Bool.and_false, FS.get, hfs, List.map_cons, List.map_nil, detectGuard,
      ILine.toLine, List.append_nil]
    exact runInc_self_include ev fs hfs paths fuel _ _ rfl rfl

theorem includeFile_once (fs : FS ε β) (b : Bool) (path : String) (s : IState β)
    (h : s.once.contains path = true) : includeFile fs b path s = .ok ([], s) := by
  unfold includeFile; rw [if_pos h]

theorem stepInc_pragmaOnce (ev : ε → Defs β → Except Diag Bool) (fs : FS ε β) (paths : List String) (b : Bool)
    (file : String) (s : IState β) :
    stepInc ev fs paths b file .pragmaOnce .proc s = .ok ([], { s with once := file :: s.once }, .proc) := rfl

theorem includeFile_once_mono (fs : FS ε β) (b : Bool) (path : String) (s s' : IState β)
    (ls : List (String × ILine ε β)) (h : includeFile fs b path s = .ok (ls, s')) : s'.once = s.once := by
  rcases includeFile_ok h with rfl | ⟨fl, _, rfl⟩
  · rfl
  · cases detectGuard (fl.map ILine.toLine) <;> rfl

end ChibiVerif.IncludeSearch
