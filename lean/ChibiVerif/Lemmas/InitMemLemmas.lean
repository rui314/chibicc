/-
C05, back-end agreement, part 2: memory.  `writeAt`, `overlay`, the image seen through its cells, little-endian units and single bits.
-/
import ChibiVerif.Model.Init

namespace ChibiVerif.Init

theorem writeAt_eq {α : Type} (m : List α) (o : Nat) (vs : List α) (h : o + vs.length ≤ m.length) :
    writeAt m o vs = m.take o ++ (vs ++ m.drop (o + vs.length)) := by
  rw [writeAt, List.take_of_length_le (l := vs) (by omega), List.append_assoc]

theorem writeAt_length {α : Type} (m : List α) (o : Nat) (vs : List α) (h : o + vs.length ≤ m.length) :
    (writeAt m o vs).length = m.length := by
  simp only [writeAt_eq m o vs h, List.length_append, List.length_take, List.length_drop]; omega

theorem writeAt_getElem? {α : Type} (m : List α) (o : Nat) (vs : List α) (h : o + vs.length ≤ m.length) (i : Nat) :
    (writeAt m o vs)[i]? = if o ≤ i ∧ i < o + vs.length then vs[i - o]? else m[i]? := by
  have ho : (m.take o).length = o := by simp; omega
  rw [writeAt_eq m o vs h, List.getElem?_append, ho, List.getElem?_append]
  by_cases h1 : i < o
  · rw [if_pos h1, if_neg (by omega), List.getElem?_take_of_lt h1]
  · by_cases h2 : i - o < vs.length
    · rw [if_neg h1, if_pos h2, if_pos (by omega)]
    · rw [if_neg h1, if_neg h2, if_neg (by omega), List.getElem?_drop]; congr 1; omega

theorem writeAt_comm {α : Type} (m : List α) (o1 o2 : Nat) (v1 v2 : List α)
    (h1 : o1 + v1.length ≤ m.length) (h2 : o2 + v2.length ≤ m.length)
    (hd : o1 + v1.length ≤ o2 ∨ o2 + v2.length ≤ o1) :
    writeAt (writeAt m o1 v1) o2 v2 = writeAt (writeAt m o2 v2) o1 v1 := by
  apply List.ext_getElem?
  intro i
  have e1 := writeAt_getElem? (writeAt m o1 v1) o2 v2 (by rw [writeAt_length _ _ _ h1]; exact h2) i
  have e2 := writeAt_getElem? (writeAt m o2 v2) o1 v1 (by rw [writeAt_length _ _ _ h2]; exact h1) i
  have e3 := writeAt_getElem? m o1 v1 h1 i
  have e4 := writeAt_getElem? m o2 v2 h2 i
  rw [e1, e2, e3, e4]
  by_cases a : o1 ≤ i ∧ i < o1 + v1.length <;> by_cases b : o2 ≤ i ∧ i < o2 + v2.length <;> simp [a, b]
  omega

theorem writeAt_map {α β : Type} (f : α → β) (m : List α) (o : Nat) (vs : List α) :
    (writeAt m o vs).map f = writeAt (m.map f) o (vs.map f) := by
  simp [writeAt, List.map_take, List.map_drop]

theorem writeAt_drop {α : Type} (m : List α) (o : Nat) (vs : List α) (h : o + vs.length ≤ m.length) :
    (writeAt m o vs).drop o = vs ++ m.drop (o + vs.length) := by
  rw [writeAt_eq m o vs h, List.drop_left' (by simp; omega)]

def symCells (l : String) (a : Int) : List Cell := (List.range 8).map (fun k => Cell.sym l a k)

theorem symCells_length (l : String) (a : Int) : (symCells l a).length = 8 := by simp [symCells]

theorem overlay_cons (c : List Cell) (r : Reloc) (rs : List Reloc) :
    overlay c (r :: rs) = overlay (writeAt c r.offset (symCells r.label r.addend)) rs := rfl

theorem overlay_append (c : List Cell) (rs : List Reloc) (r : Reloc) :
    overlay c (rs ++ [r]) = writeAt (overlay c rs) r.offset (symCells r.label r.addend) := by
  induction rs generalizing c with
  | nil => rfl
  | cons r' rs ih => exact ih _

variable {size : Nat}

theorem symWrite_length {c : List Cell} (hc : c.length = size) {r : Reloc} (hr : r.offset + 8 ≤ size) :
    (writeAt c r.offset (symCells r.label r.addend)).length = size :=
  (writeAt_length _ _ _ (by rw [symCells_length, hc]; exact hr)).trans hc

theorem overlay_len (rs : List Reloc) (c : List Cell) (hc : c.length = size) (hb : ∀ r ∈ rs, r.offset + 8 ≤ size) :
    (overlay c rs).length = size := by
  induction rs generalizing c with
  | nil => exact hc
  | cons r rs ih =>
    rw [List.forall_mem_cons] at hb
    exact ih _ (symWrite_length hc hb.1) hb.2

theorem overlay_writeAt (rs : List Reloc) (c : List Cell) (o : Nat) (vs : List Cell) (hc : c.length = size)
    (h : o + vs.length ≤ size) (hb : ∀ r ∈ rs, r.offset + 8 ≤ size)
    (hd : ∀ r ∈ rs, r.offset + 8 ≤ o ∨ o + vs.length ≤ r.offset) :
    overlay (writeAt c o vs) rs = writeAt (overlay c rs) o vs := by
  induction rs generalizing c with
  | nil => rfl
  | cons r rs ih =>
    rw [List.forall_mem_cons] at hb hd
    rw [overlay_cons, overlay_cons, writeAt_comm c o r.offset vs _ (hc ▸ h) (by rw [symCells_length, hc]; exact hb.1)
      (by rw [symCells_length]; omega)]
    exact ih _ (symWrite_length hc hb.1) hb.2 hd.2

theorem overlay_getElem? (rs : List Reloc) (c : List Cell) (i : Nat) (hc : c.length = size) (hb : ∀ r ∈ rs, r.offset + 8 ≤ size)
    (hd : ∀ r ∈ rs, i < r.offset ∨ r.offset + 8 ≤ i) : (overlay c rs)[i]? = c[i]? := by
  induction rs generalizing c with
  | nil => rfl
  | cons r rs ih =>
    rw [List.forall_mem_cons] at hb hd
    rw [overlay_cons, ih _ (symWrite_length hc hb.1) hb.2 hd.2,
      writeAt_getElem? _ _ _ (by rw [symCells_length, hc]; exact hb.1), if_neg (by rw [symCells_length]; omega)]

theorem map_byte_getElem? (bytes : List Nat) (pos : Nat) (h : pos < bytes.length) :
    (bytes.map Cell.byte)[pos]? = some (Cell.byte (bytes.getD pos 0)) := by
  simp [List.getD_eq_getElem?_getD, List.getElem?_eq_getElem h]

/-- `init_data` has `size` bytes and every relocation slot lies inside -/
structure Image.Sized (size : Nat) (im : Image) : Prop where
  len : im.bytes.length = size
  relocs : ∀ r ∈ im.relocs, r.offset + 8 ≤ size

namespace Image.Sized
variable {im : Image}

theorem setBytes (h : im.Sized size) {off : Nat} {vs : List Nat} (hv : off + vs.length ≤ size) :
    Sized size { im with bytes := writeAt im.bytes off vs } :=
  ⟨(writeAt_length _ _ _ (by rw [h.len]; exact hv)).trans h.len, h.relocs⟩

theorem addReloc (h : im.Sized size) {r : Reloc} (hr : r.offset + 8 ≤ size) :
    Sized size { im with relocs := im.relocs ++ [r] } :=
  ⟨h.len, fun r' h' => by
    rcases List.mem_append.mp h' with h' | h'
    · exact h.relocs r' h'
    · rw [List.mem_singleton.mp h']; exact hr⟩

theorem cells_length (h : im.Sized size) : im.cells.length = size :=
  overlay_len _ _ (by simpa using h.len) h.relocs

theorem cells_setBytes (h : im.Sized size) {off : Nat} {vs : List Nat} (hv : off + vs.length ≤ size)
    (hc : ∀ r ∈ im.relocs, r.offset + 8 ≤ off ∨ off + vs.length ≤ r.offset) :
    ({ im with bytes := writeAt im.bytes off vs } : Image).cells = writeAt im.cells off (vs.map .byte) := by
  simp only [Image.cells, writeAt_map]
  exact overlay_writeAt _ _ _ _ (by simpa using h.len) (by simpa using hv) h.relocs (by simpa using hc)

theorem cells_getElem? (h : im.Sized size) {i : Nat} (hi : i < size) (hc : ∀ r ∈ im.relocs, i < r.offset ∨ r.offset + 8 ≤ i) :
    im.cells[i]? = some (Cell.byte (im.bytes.getD i 0)) := by
  rw [Image.cells, overlay_getElem? _ _ _ (by simpa using h.len) h.relocs hc]
  exact map_byte_getElem? _ _ (by rw [h.len]; exact hi)

end Image.Sized

theorem Image.cells_addReloc (im : Image) (r : Reloc) :
    ({ im with relocs := im.relocs ++ [r] } : Image).cells = writeAt im.cells r.offset (symCells r.label r.addend) :=
  overlay_append _ _ _

/-- bit `p` (little-endian numbering over the whole buffer) of `init_data` -/
def bitOf (bytes : List Nat) (p : Nat) : Bool := ((bytes.getD (p / 8) 0) % 256).testBit (p % 8)

theorem fromLE_lt : ∀ (bs : List Nat), fromLE bs < 2 ^ (8 * bs.length)
  | [] => by simp [fromLE]
  | b :: r => by
    have := fromLE_lt r
    rw [List.length_cons, Nat.mul_succ, Nat.pow_add]
    simp only [fromLE]
    omega

theorem fromLE_testBit : ∀ (bs : List Nat) (j : Nat), (fromLE bs).testBit j = ((bs.getD (j / 8) 0) % 256).testBit (j % 8)
  | [], j => by simp [fromLE]
  | b :: r, j => by
    have h : b % 256 < 2 ^ 8 := by omega
    have e : fromLE (b :: r) = 2 ^ 8 * fromLE r + b % 256 := by simp [fromLE]; omega
    rw [e, Nat.testBit_two_pow_mul_add _ h]
    by_cases hj : j < 8
    · simp only [hj, ↓reduceIte]
      have : j / 8 = 0 := by omega
      have h2 : j % 8 = j := by omega
      simp [this, h2]
    · simp only [hj, ↓reduceIte]
      rw [fromLE_testBit r (j - 8)]
      have h1 : j / 8 = (j - 8) / 8 + 1 := by omega
      have h2 : (j - 8) % 8 = j % 8 := by omega
      simp [h1, h2]

theorem leBytes_length (v n : Nat) : (leBytes v n).length = n := by
  induction n generalizing v with
  | zero => rfl
  | succ n ih => simp [leBytes, ih]

theorem leBytes_getD : ∀ (n v i : Nat), i < n → (leBytes v n).getD i 0 = (v / 256 ^ i) % 256
  | 0, _, _, h => by omega
  | n+1, v, 0, _ => by simp [leBytes]
  | n+1, v, i+1, h => by
    simp only [leBytes, List.getD_cons_succ]
    rw [leBytes_getD n (v / 256) i (by omega), Nat.div_div_eq_div_mul, Nat.pow_succ, Nat.mul_comm]

theorem leBytes_bit (n v p : Nat) (h : p < 8 * n) : bitOf (leBytes v n) p = v.testBit p := by
  simp only [bitOf]
  rw [leBytes_getD n v (p / 8) (by omega)]
  have : (256 : Nat) ^ (p / 8) = 2 ^ (8 * (p / 8)) := by rw [Nat.pow_mul]
  rw [Nat.mod_mod, this, show (256 : Nat) = 2 ^ 8 from rfl, Nat.testBit_mod_two_pow, Nat.testBit_div_two_pow]
  have h1 : p % 8 < 8 := Nat.mod_lt _ (by omega)
  have h2 : p % 8 + 8 * (p / 8) = p := by omega
  simp [h1, h2]

theorem leBytes_lt (n v : Nat) : ∀ b ∈ leBytes v n, b < 256 := by
  induction n generalizing v with
  | zero => simp [leBytes]
  | succ n ih =>
    intro b hb
    simp only [leBytes, List.mem_cons] at hb
    rcases hb with rfl | hb
    · omega
    · exact ih _ b hb

theorem writeAt_getD {α : Type} (m : List α) (o : Nat) (vs : List α) (h : o + vs.length ≤ m.length) (i : Nat) (d : α) :
    (writeAt m o vs).getD i d = if o ≤ i ∧ i < o + vs.length then vs.getD (i - o) d else m.getD i d := by
  simp only [List.getD_eq_getElem?_getD, writeAt_getElem? m o vs h i]
  split <;> rfl

theorem bitOf_writeAt_outside (bytes : List Nat) (o : Nat) (vs : List Nat) (h : o + vs.length ≤ bytes.length) (p : Nat)
    (hp : p < 8 * o ∨ 8 * (o + vs.length) ≤ p) : bitOf (writeAt bytes o vs) p = bitOf bytes p := by
  simp only [bitOf, writeAt_getD _ _ _ h]
  have : ¬ (o ≤ p / 8 ∧ p / 8 < o + vs.length) := by omega
  simp only [this, ↓reduceIte]

theorem bitOf_writeAt_inside (bytes : List Nat) (o : Nat) (vs : List Nat) (h : o + vs.length ≤ bytes.length) (p : Nat)
    (hp : 8 * o ≤ p ∧ p < 8 * (o + vs.length)) : bitOf (writeAt bytes o vs) p = bitOf vs (p - 8 * o) := by
  simp only [bitOf, writeAt_getD _ _ _ h]
  have : o ≤ p / 8 ∧ p / 8 < o + vs.length := by omega
  simp only [this, and_self, ↓reduceIte]
  have h1 : (p - 8 * o) / 8 = p / 8 - o := by omega
  have h2 : (p - 8 * o) % 8 = p % 8 := by omega
  rw [h1, h2]

end ChibiVerif.Init
