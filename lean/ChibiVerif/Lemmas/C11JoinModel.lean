/-
The hand model of preprocess.c `join_adjacent_string_literals` (Model/Literals.lean `joinStrings`, `resolveKind`,
`retokenize`) against C11 6.4.5p5: the prefix of a sequence of adjacent literals (`joinPrefix_spec`), two different prefixes
are diagnosed (`join_diagnosed`), compatible ones give the element size of the common prefix and the concatenated code
units (`join_result`).  Declared in the namespace `Lemmas.Readers`, after Lemmas/LiteralsReaderLemmas.lean.
-/
import ChibiVerif.Lemmas.LiteralsReaderLemmas
import ChibiVerif.Lemmas.ExceptLemmas

namespace ChibiVerif.Lemmas.Readers
open ChibiVerif.Gen.Literals
open ChibiVerif.Spec.Literals
open ChibiVerif.Literals

theorem joinPrefixFrom_spec (ps : List StrPrefix) : ∀ (acc P : StrPrefix),
    joinPrefixFrom acc ps = some P ↔ ((∀ p ∈ acc :: ps, p = .none ∨ p = P) ∧ (P = .none ∨ P ∈ acc :: ps)) := by
  induction ps with
  | nil => intro acc P; cases acc <;> cases P <;> simp [joinPrefixFrom]
  | cons p ps ih =>
    intro acc P
    by_cases ha : acc = .none
    · subst ha
      simp only [joinPrefixFrom, if_true, ih p P, List.forall_mem_cons, true_or, true_and]
      simp only [List.mem_cons]
      constructor
      · rintro ⟨h, h' | h'⟩
        · exact ⟨h, .inl h'⟩
        · exact ⟨h, .inr (.inr h')⟩
      · rintro ⟨h, h' | h' | h'⟩
        · exact ⟨h, .inl h'⟩
        · exact ⟨h, .inl h'⟩
        · exact ⟨h, .inr h'⟩
    · by_cases hp : p = .none ∨ p = acc
      · simp only [joinPrefixFrom, ha, if_false, hp, if_true, ih acc P, List.forall_mem_cons, false_or]
        simp only [List.mem_cons]
        constructor
        · rintro ⟨⟨hacc, h2⟩, h3⟩
          exact ⟨⟨hacc, hp.imp_right (·.trans hacc), h2⟩, h3.imp_right (·.imp_right .inr)⟩
        · rintro ⟨⟨hacc, -, h2⟩, _⟩
          exact ⟨⟨hacc, h2⟩, .inr (.inl hacc.symm)⟩
      · simp only [joinPrefixFrom, ha, if_false, hp, List.forall_mem_cons, false_or, reduceCtorEq, false_iff]
        rintro ⟨⟨hacc, h2, -⟩, -⟩
        exact hp (h2.imp_right (·.trans hacc.symm))
theorem joinPrefix_spec (ps : List StrPrefix) (P : StrPrefix) :
    joinPrefix ps = some P ↔ ((∀ p ∈ ps, p = .none ∨ p = P) ∧ (P = .none ∨ P ∈ ps)) := by
  unfold joinPrefix
  rw [joinPrefixFrom_spec]
  simp only [List.forall_mem_cons, true_or, true_and]
  simp only [List.mem_cons, or_self_left]

theorem kindOf_inj (a b : StrPrefix) : kindOf a = kindOf b ↔ a = b := by
  cases a <;> cases b <;> simp [kindOf]

theorem kindOf_none (a : StrPrefix) : kindOf a = .none ↔ a = .none := by
  cases a <;> simp [kindOf]

/-- the test of `join_adjacent_string_literals` for two different prefixes, in terms of the prefixes -/
theorem kind_clash (acc p : StrPrefix) : (kindOf p ≠ .none ∧ kindOf acc ≠ kindOf p) ↔ ¬ (p = .none ∨ p = acc) := by
  rw [ne_eq, ne_eq, kindOf_none, kindOf_inj, not_or, eq_comm (a := acc)]

theorem resolveKind_spec : ∀ (ts : List StrTok) (ps : List StrPrefix), AllPairs TokHasPrefix ts ps →
    ∀ (acc : StrPrefix) (ty : Ty), ty.size = acc.elemSize →
      (joinPrefixFrom acc ps = none → resolveKind (kindOf acc) ty ts = .error .nonStandardConcat) ∧
      (∀ P, joinPrefixFrom acc ps = some P →
        ∃ ty', resolveKind (kindOf acc) ty ts = .ok (kindOf P, ty') ∧ ty'.size = P.elemSize) := by
  intro ts ps h
  induction h with
  | nil =>
    intro acc ty hty
    refine ⟨fun h => ?_, fun P hP => ?_⟩
    · simp [joinPrefixFrom] at h
    · have : acc = P := by simpa [joinPrefixFrom] using hP
      subst this
      exact ⟨ty, by simp [resolveKind], hty⟩
  | @cons t p ts ps htp _ ih =>
    intro acc ty hty
    by_cases ha : acc = .none
    · subst ha
      have := ih p t.elem htp.2
      simp only [joinPrefixFrom, if_true, resolveKind, htp.1, kindOf, bind, Except.bind]
      exact this
    · have hk : kindOf acc ≠ .none := fun h => ha ((kindOf_none acc).mp h)
      simp only [joinPrefixFrom, ha, if_false, resolveKind, htp.1, bind, Except.bind, hk, kind_clash]
      by_cases hp : p = .none ∨ p = acc
      · simp only [hp, if_true, not_true_eq_false, if_false]
        exact ih acc ty hty
      · simp only [hp, if_false, not_false_eq_true, if_true]
        exact ⟨fun _ => trivial, fun P hP => by cases hP⟩

theorem mapM_ok {α β ε : Type} (f : α → Except ε β) : ∀ (l : List α) (l' : List β),
    l.mapM f = .ok l' → AllPairs (fun a b => f a = .ok b) l l'
  | [], l', h => by cases h; exact .nil
  | a :: l, l', h => by
    obtain ⟨b, bs, hfa, hl, rfl⟩ := Except.mapM_cons_ok h
    exact .cons hfa (mapM_ok f l bs hl)

theorem AllPairs.imp {α β : Type} {R S : α → β → Prop} (h : ∀ a b, R a b → S a b) {l : List α} {l' : List β}
    (hl : AllPairs R l l') : AllPairs S l l' := by
  induction hl with
  | nil => exact .nil
  | cons hab _ ih => exact .cons (h _ _ hab) ih

theorem retokenize_elem (t t' : StrTok) (ty : Ty) (h : retokenize t ty = .ok t') :
    t'.elem.size = ty.size := by
  unfold retokenize at h
  split at h
  · rename_i hs; rw [readString_elem _ _ _ _ _ h, hs]; rfl
  · rw [readString_elem _ _ _ _ _ h]

theorem elemSize_cases (P : StrPrefix) : P.elemSize = 1 ∨ P.elemSize = 2 ∨ P.elemSize = 4 := by
  cases P <;> simp [StrPrefix.elemSize]

/-- the second loop of the first pass on one token: a narrow token of a wide run is read again -/
abbrev conv (b : Ty) (t : StrTok) : Except LitErr StrTok :=
  if b.size > 1 ∧ t.elem.size = 1 then retokenize t b else pure t

theorem conv_wide {b : Ty} {t : StrTok} (hc : b.size > 1 ∧ t.elem.size = 1) : conv b t = retokenize t b := if_pos hc

theorem conv_keep {b : Ty} {t : StrTok} (hc : ¬ (b.size > 1 ∧ t.elem.size = 1)) : conv b t = pure t := if_neg hc

/-- whatever `conv` returns for a token whose prefix is compatible with `P` has the element size of `P` -/
theorem conv_size {P p : StrPrefix} {b : Ty} {t t' : StrTok} (hbs : b.size = P.elemSize) (htp : TokHasPrefix t p)
    (hp : p = .none ∨ p = P) (h : conv b t = .ok t') : t'.elem.size = P.elemSize := by
  by_cases hc : b.size > 1 ∧ t.elem.size = 1
  · rw [conv_wide hc] at h
    rw [retokenize_elem _ _ _ h, hbs]
  · rw [conv_keep hc] at h
    cases h
    rcases hp with hp | hp
    · have h1s : t.elem.size = 1 := by rw [htp.2, hp]; rfl
      have := elemSize_cases P
      omega
    · rw [htp.2, hp]

theorem conv_cases {b : Ty} {t t' : StrTok} (h : conv b t = .ok t') :
    t' = t ∨ (t.elem.size = 1 ∧ 1 < b.size ∧ retokenize t b = .ok t') := by
  by_cases hc : b.size > 1 ∧ t.elem.size = 1
  · rw [conv_wide hc] at h
    exact .inr ⟨hc.2, hc.1, h⟩
  · rw [conv_keep hc] at h
    exact .inl (Except.ok.inj h).symm

/-- after the first pass every token of a run with compatible prefixes has the element size of the common prefix -/
theorem uniform_sizes {P : StrPrefix} {b : Ty} (hbs : b.size = P.elemSize) {ts toks : List StrTok} {ps : List StrPrefix}
    (h1 : AllPairs TokHasPrefix ts ps) (hp : ∀ p ∈ ps, p = .none ∨ p = P) (h2 : ts.mapM (conv b) = .ok toks) :
    ∀ x ∈ toks, x.elem.size = P.elemSize := by
  replace h2 := mapM_ok _ _ _ h2
  induction h1 generalizing toks with
  | nil => cases h2; simp
  | cons htp _ ih =>
    cases h2 with
    | cons hab hrest =>
      rw [List.forall_mem_cons] at hp ⊢
      exact ⟨conv_size hbs htp hp.1 hab, ih hp.2 hrest⟩

theorem join_diagnosed (t1 t2 : StrTok) (rest : List StrTok) (ps : List StrPrefix)
    (h : AllPairs TokHasPrefix (t1 :: t2 :: rest) ps) (hj : joinPrefix ps = none) :
    joinStrings (t1 :: t2 :: rest) = .error .nonStandardConcat := by
  cases h with
  | @cons _ p1 _ ps' h1 hrest =>
    have hj' : joinPrefixFrom p1 ps' = none := by simpa [joinPrefix, joinPrefixFrom] using hj
    have := (resolveKind_spec _ _ hrest p1 t1.elem h1.2).1 hj'
    simp only [joinStrings, h1.1, bind, Except.bind, this]

theorem join_result (t1 t2 : StrTok) (rest : List StrTok) (ps : List StrPrefix) (P : StrPrefix) (r : StrTok)
    (h : AllPairs TokHasPrefix (t1 :: t2 :: rest) ps) (hj : joinPrefix ps = some P)
    (hr : joinStrings (t1 :: t2 :: rest) = .ok r) :
    r.elem.size = P.elemSize ∧
    ∃ toks, AllPairs (fun t t' => t' = t ∨ (t.elem.size = 1 ∧ ∃ ty, ty.size = P.elemSize ∧ 1 < ty.size ∧ retokenize t ty = .ok t'))
        (t1 :: t2 :: rest) toks ∧
      r.units = (toks.map (·.units)).flatten ∧
      r.units.length + 1 = (toks.map (fun t => (t.units.length + 1) - 1)).sum + 1 := by
  have hall := ((joinPrefix_spec _ P).mp hj).1
  cases h with
  | @cons _ p1 _ ps' h1 hrest =>
    have hj' : joinPrefixFrom p1 ps' = some P := by simpa [joinPrefix, joinPrefixFrom] using hj
    obtain ⟨basety, hres, hsz⟩ := (resolveKind_spec _ _ hrest p1 t1.elem h1.2).2 P hj'
    simp only [joinStrings, h1.1, bind, Except.bind, hres] at hr
    cases hm : (t1 :: t2 :: rest).mapM (conv basety) with
    | error e => rw [hm] at hr; cases hr
    | ok toks =>
      rw [hm] at hr
      have hu := uniform_sizes hsz (.cons h1 hrest) hall hm
      have hp := mapM_ok _ _ _ hm
      cases hp with
      | @cons _ f _ toks' hf hp' =>
        cases hr
        exact ⟨hu f List.mem_cons_self, f :: toks',
          AllPairs.imp (fun a b hab => (conv_cases hab).imp_right fun ⟨h1, h2, h3⟩ => ⟨h1, basety, hsz, h2, h3⟩) (.cons hf hp'),
          rfl, by simp [List.length_flatten, Function.comp_def]⟩

end ChibiVerif.Lemmas.Readers
