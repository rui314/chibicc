/-
C06, argument conversions: the machine side.  How a converted integer-class value travels from %rax to the callee's parameter
object: `push %rax` / `pop argreg64[r]` (register argument), `push %rax` (stack argument, read in place by the callee),
`store_gp` of the prologue, and what each side relies on.

`LowHolds t x w` (Lemmas/C06Vocabulary.lean): the low `sizeof t` bytes of the 8-byte register / stack slot `x` are the object
representation of `w` — all that a chibicc-compiled callee reads of an integer-class argument.  An object holds what those bytes
hold as soon as a read at the type's width (`C01.widthOf`) sees them (`memHolds_of_low`): after `store_gp` (`store_gp_ok`), and in
the pushed slot itself (`slot_holds`).
-/
import ChibiVerif.Lemmas.C06ArgSpecLemmas
import ChibiVerif.Lemmas.C01MemLemmas
import ChibiVerif.Lemmas.X86MemLemmas

namespace ChibiVerif.C06Args
open ChibiVerif.X86 ChibiVerif.Asm ChibiVerif.Spec.IntSpec ChibiVerif.C01
open ChibiVerif.Gen.Templates (argreg8 argreg16 argreg32 argreg64)

/-- the generated `argreg` tables name the psABI registers rdi rsi rdx rcx r8 r9 at the four widths -/
theorem argreg_tables : ∀ r < 6,
    regOf (regName argreg64 r) = some (gpReg r, .w64) ∧ regOf (regName argreg32 r) = some (gpReg r, .w32) ∧
    regOf (regName argreg16 r) = some (gpReg r, .w16) ∧ regOf (regName argreg8 r) = some (gpReg r, .w8) ∧
    gpReg r ≠ .rsp ∧ gpReg r ≠ .rax ∧ gpReg r ≠ .rbp := by decide

theorem lowHolds_def {t : ITy} {x : BitVec 64} {v : Int} : LowHolds t x v ↔ t.inRange v ∧ Low (8 * t.size) x v :=
  and_congr Iff.rfl low_iff.symm

/-- the representation invariant of codegen.c implies what the callee needs -/
theorem represents_low (t : ITy) (x : BitVec 64) (w : Int) (h : Represents t x w) : LowHolds t x w :=
  lowHolds_def.2 ⟨h.1, (represents_def.1 h).2.mono (by cases t <;> decide)⟩

theorem get_write8 (s : State) (a : BitVec 64) (v : BitVec 8) (r : Reg) : (s.write8 a v).get r = s.get r :=
  State.get_write8 s a v r

open ChibiVerif.X86.State (regs_writeW get_write64 read64_write64)

theorem step_push_rax (s : State) :
    X86.step ⟨"push", [.r "%rax"]⟩ s = some ((s.set .rsp (s.get .rsp - 8)).write64 (s.get .rsp - 8) (s.get .rax)) :=
  step_push "%rax" .rax rfl s

/-- the state after `push %rax` -/
def pushed (s : State) : State := (s.set .rsp (s.get .rsp - 8)).write64 (s.get .rsp - 8) (s.get .rax)

theorem pushed_rsp (s : State) : (pushed s).get .rsp = s.get .rsp - 8 :=
  (get_write64 _ _ _ _).trans (State.get_set_same _ _ _)

theorem pushed_slot (s : State) : (pushed s).read64 ((pushed s).get .rsp) = s.get .rax := by
  rw [pushed_rsp]; exact State.read64_write64 _ _ _

theorem pass_reg (r : Nat) (hr : r < 6) (s : State) :
    Post [⟨"push", [.r "%rax"]⟩, ⟨"pop", [.r (regName argreg64 r)]⟩] s fun s' =>
      s'.get (gpReg r) = s.get .rax ∧ s'.get .rsp = s.get .rsp ∧ s'.get .rbp = s.get .rbp := by
  obtain ⟨h64, _, _, _, hsp, _, hbp⟩ := argreg_tables r hr
  refine Post.of_run
    (s1 := ((pushed s).set .rsp ((pushed s).get .rsp + 8)).set (gpReg r) ((pushed s).read64 ((pushed s).get .rsp)))
    (by simp only [X86.run, step_push_rax, step_pop _ _ h64]; rfl) ⟨?_, ?_, ?_⟩
  · rw [State.get_set_same, pushed_slot]
  · rw [State.get_set_ne _ _ _ _ (Ne.symm hsp), State.get_set_same, pushed_rsp, BitVec.sub_add_cancel]
  · rw [State.get_set_ne _ _ _ _ (Ne.symm hbp), State.get_set_ne _ _ _ _ (by decide), pushed, get_write64,
      State.get_set_ne _ _ _ _ (by decide)]

theorem pass_stack (s : State) :
    Post [⟨"push", [.r "%rax"]⟩] s fun s' => s'.read64 (s'.get .rsp) = s.get .rax ∧ s'.get .rsp = s.get .rsp - 8 :=
  Post.of_run (s1 := pushed s) (by simp only [X86.run, step_push_rax]; rfl) ⟨pushed_slot s, pushed_rsp s⟩

theorem run_mov_store (nm b : String) (g gb : Reg) (w : W) (h : regOf nm = some (g, w)) (hb : regOf b = some (gb, .w64))
    (off : Int) (c : State) :
    X86.run [⟨"mov", [.r nm, .m off b]⟩] c = some (c.writeW (c.ea off gb) w (c.getW g w)) := by
  simp [X86.run, X86.step, decode, opdOf, h, baseOf, hb, exec, State.dst, State.src]

/-- the object of type `t` at `a` holds `v` as soon as what is read there, at the type's width, is the low bytes of an `x` that
    `LowHolds` `v`: whether `x` is a register just stored there or the 8-byte slot that contains the object -/
theorem memHolds_of_low (t : ITy) (s : State) (a x : BitVec 64) (v : Int)
    (h : s.readW a (widthOf t) = x.setWidth (widthOf t).bits) (hl : LowHolds t x v) : MemHolds t s a v := by
  obtain ⟨hin, hlow⟩ := lowHolds_def.1 hl
  refine memHolds_def.2 ⟨hin, ?_⟩
  rw [h, Low, BitVec.setWidth_setWidth_self (by cases t <;> decide)]
  exact hlow.mono (by cases t <;> decide)

def argregOf : W → List String
  | .w8 => argreg8 | .w16 => argreg16 | .w32 => argreg32 | .w64 => argreg64

theorem storeGpSeq_eq (t : ITy) (r : Nat) (off : Int) :
    storeGpSeq r off t.size = [⟨"mov", [.r (regName (argregOf (widthOf t)) r), .m off "%rbp"]⟩] := by
  cases t <;> rfl

/-- **`store_gp`**: whatever else the register holds, if its low `sizeof t` bytes are the representation of `w`, the
    prologue's store makes the parameter object at `off(%rbp)` hold `w`; no register changes -/
theorem store_gp_ok (t : ITy) (r : Nat) (hr : r < 6) (off : Int) (c : State) (w : Int)
    (h : LowHolds t (c.get (gpReg r)) w) :
    Post (storeGpSeq r off t.size) c fun c' => MemHolds t c' (c.ea off .rbp) w ∧ c'.regs = c.regs := by
  obtain ⟨h64, h32, h16, h8, _⟩ := argreg_tables r hr
  have hreg : regOf (regName (argregOf (widthOf t)) r) = some (gpReg r, widthOf t) := by cases t <;> assumption
  rw [storeGpSeq_eq]
  exact Post.of_run (run_mov_store _ _ _ _ _ hreg rfl off c) ⟨memHolds_of_low t _ _ _ w (State.readW_writeW ..) h, State.regs_writeW ..⟩

/-- the callee's parameter object *is* the low bytes of the 8-byte slot the caller pushed (little endian) -/
theorem slot_holds (t : ITy) (s : State) (a : BitVec 64) (w : Int) (h : LowHolds t (s.read64 a) w) : MemHolds t s a w :=
  memHolds_of_low t s a _ w (readW_low s a _) h

theorem represents_slot (t : ITy) (x : BitVec 64) (w : Int) (h : Represents t x w) (c : State) (a : BitVec 64)
    (hc : c.read64 a = x) : MemHolds t c a w :=
  slot_holds t c a w (hc ▸ represents_low t x w h)

/-- `lea off(%rbp), %rax; load`: a use of the parameter in the callee's body -/
theorem param_read_ok (t : ITy) (off : Int) (c : State) (w : Int) (h : MemHolds t c (c.ea off .rbp) w) :
    Post (paramReadSeq t off) c fun c' => Represents t (c'.get .rax) w := by
  have hm : MemHolds t (c.set .rax (c.ea off .rbp)) ((c.set .rax (c.ea off .rbp)).get .rax) w := by
    rw [State.get_set_same]; exact h
  exact Post.cons (d := .lea off .rbp .rax) rfl rfl (Post.mono (load_ok t _ w hm) fun _ h => h.1)

theorem represents_bool (x : BitVec 64) (w : Int) (h : Represents .bool x w) :
    (x = 0#64 ∨ x = 1#64) ∧ (x = 1#64 ↔ w ≠ 0) := by
  obtain ⟨⟨h0, h1⟩, h2⟩ := h
  simp [ITy.min, ITy.max, ITy.signed, ITy.bits] at h0 h1 h2
  have : w = 0 ∨ w = 1 := by omega
  rcases this with rfl | rfl
  · have : x = 0#64 := by apply BitVec.eq_of_toNat_eq; simp; omega
    subst this; simp
  · have : x = 1#64 := by apply BitVec.eq_of_toNat_eq; simp; omega
    subst this; simp

theorem represents_convert_bool (x : BitVec 64) (v : Int) (h : Represents .bool x (convert .bool v)) :
    (x = 0#64 ∨ x = 1#64) ∧ (x = 1#64 ↔ v ≠ 0) := by
  obtain ⟨hb, hi⟩ := represents_bool x _ h
  refine ⟨hb, hi.trans ?_⟩
  simp only [convert]
  split <;> simp_all

/-- what a register that `Represents` a value looks like from outside (the guarantee to code compiled by another compiler) -/
theorem represents_image (t : ITy) (x : BitVec 64) (w : Int) (h : Represents t x w) :
    (if t.size = 8 then x = BitVec.ofInt 64 w else x.setWidth 32 = BitVec.ofInt 32 w) ∧
    (t = .bool → (x = 0#64 ∨ x = 1#64)) := by
  have hl := (represents_def.1 h).2
  refine ⟨?_, fun ht => by subst ht; exact (represents_bool x w h).1⟩
  cases t <;> simp only [ITy.size, Nat.reduceEqDiff, if_true, if_false]
  case bool => exact hl.mono (m := 32) (by decide)
  case i64 | u64 => exact (BitVec.setWidth_eq x).symm.trans hl
  all_goals exact hl

/-- one cast between integer types, as `funcall()` and `return` insert it, prints exactly the cast-table sequence of C01 -/
theorem castChain_int (frm to : ITy) : (castChain (descr frm) [descr to]).flatMap Line.instrs = castSeq frm to := by
  cases frm <;> cases to <;> rfl

theorem argSeq_int (frm to : ITy) (variadic : Bool) :
    argSeq variadic (some (descr to)) (descr frm) = some (castSeq frm to) :=
  (argSeq_scalar _ _ _ (descrA_scalar (.int to))).trans (congrArg some (castChain_int frm to))

theorem argSeq_tail_int (frm : ITy) : argSeq true none (descr frm) = some [] := by
  cases frm <;> rfl

/-- the integer promotions change the type, not the register image -/
theorem represents_promote (t : ITy) (x : BitVec 64) (v : Int) (h : Represents t x v) : Represents (promote t) x v := by
  cases t
  case i32 | u32 | i64 | u64 => exact h
  -- a narrower type: the same low 32 bits, a wider range
  all_goals
    refine represents_def.2 ⟨?_, (represents_def.1 h).2.mono (m := 32) (by decide)⟩
    have := h.1
    simp only [inRange_eq] at this
    show ITy.inRange .i32 v
    simp only [inRange_eq]; omega

end ChibiVerif.C06Args
