/-
Helper lemmas for Props/C11.lean: bit-vector arithmetic of the translated UTF-8 / UTF-16 codecs
(Gen/LiteralsGen.lean) reduced to linear arithmetic over `Nat`; the type ladder of `convert_pp_int`; the identifier ranges.

Method: (1) `a ||| b = a + b` when the bits are disjoint (`or_eq_add_of_lt`), masks `2^k - 1` are `% 2^k`, shifts are
`* 2^k` / `/ 2^k`, then `omega`; (2) what C does to a `char` promoted to `int` is stated once for every byte and every
constant (`sext_and_mask`; `sext_eq_ofNat` in Lemmas/ByteAt.lean), the remaining facts about one byte are proved for all 256
values by kernel evaluation and lifted (`forall_byte`); (3) a loop over a run of bytes (`decodeCont_run`) carries a bound on
the bits the accumulator holds, so that the run may have any length the 32 bits allow.
-/
import ChibiVerif.Gen.LiteralsGen
import ChibiVerif.Spec.LiteralsSpec
import ChibiVerif.Model.Literals
import ChibiVerif.Lemmas.ByteAt

namespace ChibiVerif.Lemmas.Literals
open ChibiVerif.Gen.Literals
open ChibiVerif.Spec.Literals
open ChibiVerif.Literals (collapse)

theorem or_eq_add_of_lt (a b k : Nat) (hb : b < 2 ^ k) (ha : a % 2 ^ k = 0) : a ||| b = a + b := by
  have : a = (a / 2^k) <<< k := by
    rw [Nat.shiftLeft_eq]; have := Nat.div_add_mod a (2^k); rw [ha] at this; rw [Nat.mul_comm]; omega
  rw [this, ← Nat.shiftLeft_add_eq_or_of_lt hb]

theorem marker_or (L y k : Nat) (hL : L % 2 ^ k = 0) (hy : y < 2 ^ k) (hlt : L + y < 256) : (L ||| y) % 256 = L + y := by
  rw [or_eq_add_of_lt L y k hy hL]; exact Nat.mod_eq_of_lt hlt

theorem cont_byte (x : Nat) : (128 ||| x % 64) % 256 = 128 + x % 64 :=
  marker_or 128 _ 6 (by decide) (Nat.mod_lt _ (by decide)) (by omega)

theorem lead2 (n : Nat) (h : n < 0x800) : (192 ||| n / 64) % 256 = 192 + n / 64 :=
  marker_or 192 _ 5 (by decide) (Nat.div_lt_of_lt_mul h) (by omega)

theorem lead3 (n : Nat) (h : n < 0x10000) : (224 ||| n / 4096) % 256 = 224 + n / 4096 :=
  marker_or 224 _ 4 (by decide) (Nat.div_lt_of_lt_mul h) (by omega)

theorem lead4 (n : Nat) (h : n < 0x200000) : (240 ||| n / 262144) % 256 = 240 + n / 262144 :=
  marker_or 240 _ 3 (by decide) (Nat.div_lt_of_lt_mul h) (by omega)

theorem encode_toNat (c : BitVec 32) (hc : c.toNat < 0x200000) :
    (encodeUtf8 c).map BitVec.toNat = utf8 c.toNat := by
  unfold encodeUtf8 utf8
  simp only [apply_ite (List.map BitVec.toNat), List.map, BitVec.le_def, BitVec.toNat_setWidth, BitVec.toNat_or,
    BitVec.toNat_and, BitVec.toNat_ushiftRight, BitVec.toNat_ofNat, Nat.reducePow, Nat.reduceMod,
    Nat.shiftRight_eq_div_pow, (Nat.and_two_pow_sub_one_eq_mod · 6 : ∀ x, x &&& 63 = x % 64), cont_byte]
  -- the C source tests `c <= 0x7F`, RFC 3629 is written with `<`
  simp only [show (c.toNat < 128) = (c.toNat ≤ 127) from propext Nat.lt_succ_iff,
    show (c.toNat < 2048) = (c.toNat ≤ 2047) from propext Nat.lt_succ_iff,
    show (c.toNat < 65536) = (c.toNat ≤ 65535) from propext Nat.lt_succ_iff]
  split
  · congr 1; omega
  split
  · rw [lead2 _ (by omega)]
  split
  · rw [lead3 _ (by omega)]
  · rw [lead4 _ hc]

theorem utf8_lt_256 (n : Nat) (h : n < 0x200000) : ∀ b ∈ utf8 n, b < 256 := by
  unfold utf8
  intro b hb
  split at hb
  · simp at hb; omega
  · split at hb
    · simp at hb; omega
    · split at hb
      · simp at hb; omega
      · simp at hb; omega

theorem map_ofNat_toNat (l : List (BitVec 8)) : (l.map BitVec.toNat).map (BitVec.ofNat 8) = l := by
  induction l with
  | nil => rfl
  | cons a t ih => simp only [List.map, BitVec.ofNat_toNat, BitVec.setWidth_eq, ih]

theorem encode_eq (c : BitVec 32) (hc : c.toNat < 0x200000) :
    encodeUtf8 c = (utf8 c.toNat).map (BitVec.ofNat 8) := by
  rw [← encode_toNat c hc, map_ofNat_toNat]

theorem or_setWidth_ge (k y : BitVec 32) (hk : 0x80 ≤ k.toNat % 256) : 0x80 ≤ ((k ||| y).setWidth 8).toNat := by
  rw [BitVec.toNat_setWidth, BitVec.toNat_or, show (2 : Nat) ^ 8 = 256 from rfl]
  have h : (k.toNat ||| y.toNat) % 2 ^ 8 = k.toNat % 2 ^ 8 ||| y.toNat % 2 ^ 8 := Nat.or_mod_two_pow
  have := @Nat.left_le_or (k.toNat % 2 ^ 8) (y.toNat % 2 ^ 8)
  omega

/-- An ASCII byte occurs in what `encode_utf8` writes only as the encoding of that ASCII value: every byte of a
    multi-byte sequence carries a marker with the top bit set.  (No bound on `c`.) -/
theorem mem_encode_ascii (c : BitVec 32) (b : BitVec 8) (hb : b ∈ encodeUtf8 c) (hlt : b.toNat < 0x80) :
    c.toNat = b.toNat := by
  have ge : ∀ k y : BitVec 32, 0x80 ≤ k.toNat % 256 → b = (k ||| y).setWidth 8 → c.toNat = b.toNat :=
    fun k y hk e => absurd hlt (Nat.not_lt.mpr (e ▸ or_setWidth_ge k y hk))
  unfold encodeUtf8 at hb
  split at hb
  · next h1 =>
    rw [List.mem_singleton] at hb
    have h1' : c.toNat ≤ 127 := h1
    rw [hb, BitVec.toNat_setWidth]; omega
  split at hb
  · simp only [List.mem_cons, List.not_mem_nil, or_false] at hb
    rcases hb with e | e <;> exact ge _ _ (by decide) e
  split at hb
  · simp only [List.mem_cons, List.not_mem_nil, or_false] at hb
    rcases hb with e | e | e <;> exact ge _ _ (by decide) e
  · simp only [List.mem_cons, List.not_mem_nil, or_false] at hb
    rcases hb with e | e | e | e <;> exact ge _ _ (by decide) e

theorem encode_ne_ascii (c : BitVec 32) (k : BitVec 8) (hk : k.toNat < 0x80) (hc : c.toNat ≠ k.toNat) :
    ∀ b ∈ encodeUtf8 c, b ≠ k :=
  fun b hb e => hc (e ▸ mem_encode_ascii c b hb (e ▸ hk))

theorem encode_ne_nil (c : BitVec 32) : encodeUtf8 c ≠ [] := by
  unfold encodeUtf8
  split
  · simp
  · split
    · simp
    · split <;> simp

theorem zext_toInt (b : BitVec 8) : (b.zeroExtend 32).toInt = (b.toNat : Int) := by
  have h : (b.zeroExtend 32).toNat = b.toNat := by
    rw [BitVec.toNat_setWidth]; exact Nat.mod_eq_of_lt (Nat.lt_trans b.isLt (by decide))
  rw [BitVec.toInt_eq_toNat_of_lt (by rw [h]; have := b.isLt; omega), h]

theorem sext_ascii (b : BitVec 8) (h : b.toNat < 128) : b.signExtend 32 = BitVec.ofNat 32 b.toNat :=
  (sext_eq_ofNat b b.toNat h).mpr ((BitVec.ofNat_toNat 8 b).trans (BitVec.setWidth_eq b)).symm

theorem sext_of_lt (b : BitVec 8) : b.toNat < 128 → (b.signExtend 32).toNat = b.toNat := by
  intro h
  rw [sext_ascii b h, BitVec.toNat_ofNat]; omega

/-- promotion of a `char` to `int` changes only bits 8 and up: a mask below `0x100` sees the byte itself -/
theorem sext_and_mask (b : BitVec 8) (k : Nat) (hk : k ≤ 8) :
    (b.signExtend 32 &&& BitVec.ofNat 32 (2 ^ k - 1)).toNat = b.toNat % 2 ^ k := by
  have hlt : 2 ^ k - 1 < 2 ^ 32 :=
    Nat.lt_of_le_of_lt (Nat.sub_le _ _) (Nat.pow_lt_pow_right (by decide) (by omega))
  have hd : 2 ^ k ∣ 2 ^ 32 - 2 ^ 8 := Nat.dvd_sub (Nat.pow_dvd_pow 2 (by omega)) (Nat.pow_dvd_pow 2 hk)
  have hw : (b.setWidth 32).toNat = b.toNat := by
    rw [BitVec.toNat_setWidth]; exact Nat.mod_eq_of_lt (Nat.lt_trans b.isLt (by decide))
  rw [BitVec.toNat_and, BitVec.toNat_ofNat, Nat.mod_eq_of_lt hlt, Nat.and_two_pow_sub_one_eq_mod,
    BitVec.toNat_signExtend, hw]
  cases b.msb
  · simp only [Bool.false_eq_true, if_false, Nat.add_zero]
  · simp only [if_true, Nat.add_mod, Nat.mod_eq_zero_of_dvd hd, Nat.add_zero, Nat.mod_mod]

theorem sext_and_7 (b : BitVec 8) : (b.signExtend 32 &&& 7#32).toNat = b.toNat % 8 :=
  sext_and_mask b 3 (by decide)

theorem sext_and_15 (b : BitVec 8) : (b.signExtend 32 &&& 0xF#32).toNat = b.toNat % 16 :=
  sext_and_mask b 4 (by decide)

theorem sext_and_31 (b : BitVec 8) : (b.signExtend 32 &&& 0x1F#32).toNat = b.toNat % 32 :=
  sext_and_mask b 5 (by decide)

theorem sext_and_63 (b : BitVec 8) : (b.signExtend 32 &&& 0x3F#32).toNat = b.toNat % 64 :=
  sext_and_mask b 6 (by decide)

theorem zext_sshr6_ne_2 (b : BitVec 8) : ((b.zeroExtend 32).sshiftRight 6 ≠ 2#32) ↔ b.toNat / 64 ≠ 2 := by
  revert b; apply forall_byte; decide +kernel

def leadSpec (b : BitVec 8) : Option (Nat × BitVec 32) :=
  if b.toNat ≥ 0xF0 then some (4, BitVec.ofNat 32 (b.toNat % 8))
  else if b.toNat ≥ 0xE0 then some (3, BitVec.ofNat 32 (b.toNat % 16))
  else if b.toNat ≥ 0xC0 then some (2, BitVec.ofNat 32 (b.toNat % 32))
  else none

theorem decodeLead_eq (p : List (BitVec 8)) : decodeLead p = leadSpec (byteAt p 0) := by
  unfold decodeLead
  generalize byteAt p 0 = b
  revert b; apply forall_byte; decide +kernel

theorem ascii_test (b : BitVec 8) : ((b.zeroExtend 32).toInt < (0x80#32).toInt) ↔ b.toNat < 128 := by
  rw [zext_toInt, show (0x80#32).toInt = ((128 : Nat) : Int) by decide, Int.ofNat_lt]

theorem sext_and_63_eq (b : BitVec 8) : (b.signExtend 32 &&& 0x3F#32) = BitVec.ofNat 32 (b.toNat % 64) := by
  apply BitVec.eq_of_toNat_eq
  rw [sext_and_63, BitVec.toNat_ofNat]; omega

theorem decodeCont_succ (p : List (BitVec 8)) (fuel i : Nat) (c : BitVec 32) :
    decodeCont p (fuel + 1) i c =
      if (byteAt p i).toNat / 64 = 2 then
        decodeCont p fuel (i + 1) ((c <<< 6) ||| BitVec.ofNat 32 ((byteAt p i).toNat % 64))
      else .error .invalidUtf8 := by
  rw [decodeCont]
  simp only [zext_sshr6_ne_2, sext_and_63_eq]
  by_cases h : (byteAt p i).toNat / 64 = 2 <;> simp [h]

/-- `(c << s) | x` is `c * 2^s + x` when neither overflows: how the decoders append `s` bits to an accumulator -/
theorem shl_or_toNat (c : BitVec 32) (s x : Nat) (hs : s ≤ 32) (hc : c.toNat < 2 ^ (32 - s)) (hx : x < 2 ^ s) :
    ((c <<< s) ||| BitVec.ofNat 32 x).toNat = c.toNat * 2 ^ s + x := by
  have h32 : c.toNat * 2 ^ s < 2 ^ 32 := by
    have := Nat.mul_lt_mul_of_pos_right hc (Nat.two_pow_pos s)
    rwa [← Nat.pow_add, Nat.sub_add_cancel hs] at this
  have hx32 : x < 2 ^ 32 := Nat.lt_of_lt_of_le hx (Nat.pow_le_pow_right (by decide) hs)
  rw [BitVec.toNat_or, BitVec.toNat_shiftLeft, BitVec.toNat_ofNat, Nat.shiftLeft_eq, Nat.mod_eq_of_lt h32,
    Nat.mod_eq_of_lt hx32, ← Nat.shiftLeft_eq, ← Nat.shiftLeft_add_eq_or_of_lt hx, Nat.shiftLeft_eq]

/-- `(a << s) + d` on 32-bit values of naturals: the `int` arithmetic of the digit loops, modulo 2^32 -/
theorem shl_add_ofNat (s a d : Nat) :
    (BitVec.ofNat 32 a <<< s) + BitVec.ofNat 32 d = BitVec.ofNat 32 (a * 2 ^ s + d) := by
  apply BitVec.eq_of_toNat_eq
  simp only [BitVec.toNat_add, BitVec.toNat_shiftLeft, BitVec.toNat_ofNat, Nat.shiftLeft_eq]
  rw [Nat.add_mod (a * 2 ^ s), Nat.mul_mod a, Nat.mul_mod (a % 2 ^ 32), Nat.mod_mod]

theorem ofNat8_toNat (x : Nat) (h : x < 256) : (BitVec.ofNat 8 x).toNat = x := by
  simp [BitVec.toNat_ofNat]; omega

theorem decode1 (b0 : BitVec 8) (rest : List (BitVec 8)) (h0 : b0.toNat < 0x80) :
    decodeUtf8 (b0 :: rest) = .ok (BitVec.ofNat 32 b0.toNat, 1) := by
  unfold decodeUtf8
  simp only [byteAt_zero, ascii_test, h0, if_true, sext_ascii _ h0]

theorem leadSpec_two (b : BitVec 8) (h : 0xC0 ≤ b.toNat) (h' : b.toNat < 0xE0) :
    leadSpec b = some (2, BitVec.ofNat 32 (b.toNat % 32)) := by
  unfold leadSpec; rw [if_neg (by omega), if_neg (by omega), if_pos h]

theorem leadSpec_three (b : BitVec 8) (h : 0xE0 ≤ b.toNat) (h' : b.toNat < 0xF0) :
    leadSpec b = some (3, BitVec.ofNat 32 (b.toNat % 16)) := by
  unfold leadSpec; rw [if_neg (by omega), if_pos h]

theorem leadSpec_four (b : BitVec 8) (h : 0xF0 ≤ b.toNat) : leadSpec b = some (4, BitVec.ofNat 32 (b.toNat % 8)) := by
  unfold leadSpec; rw [if_pos h]

theorem leadSpec_none (b : BitVec 8) (h : b.toNat < 0xC0) : leadSpec b = none := by
  unfold leadSpec; rw [if_neg (by omega), if_neg (by omega), if_neg (by omega)]

theorem leadSpec_multi (b : BitVec 8) (h : 0xC0 ≤ b.toNat) : ∃ n c, leadSpec b = some (n + 1 + 1, c) := by
  by_cases h4 : 0xF0 ≤ b.toNat
  · exact ⟨2, _, leadSpec_four b h4⟩
  by_cases h3 : 0xE0 ≤ b.toNat
  · exact ⟨1, _, leadSpec_three b h3 (by omega)⟩
  · exact ⟨0, _, leadSpec_two b h (by omega)⟩

/-- `decode_utf8` consumes at least one byte: one for ASCII, and a lead byte from `0xC0` on announces two or more -/
theorem decode_len_pos (x : List (BitVec 8)) (c : BitVec 32) (n : Nat) (h : decodeUtf8 x = .ok (c, n)) : 1 ≤ n := by
  unfold decodeUtf8 at h
  split at h
  · injection h with h; injection h with _ h; omega
  · rw [decodeLead_eq] at h
    by_cases hb : 0xC0 ≤ (byteAt x 0).toNat
    · obtain ⟨m, c0, e⟩ := leadSpec_multi _ hb
      rw [e] at h
      simp only at h
      generalize decodeCont x _ _ _ = d at h
      cases d with
      | error e => cases h
      | ok w => injection h with h; injection h with _ h; omega
    · rw [leadSpec_none _ (by omega)] at h; cases h

/-- `k` bounds the bits `c` occupies, so that nothing is shifted out of the 32-bit accumulator -/
theorem decodeCont_run (rest : List (BitVec 8)) : ∀ (cs pre : List (BitVec 8)) (c : BitVec 32) (k : Nat),
    c.toNat < 2 ^ k → k + 6 * cs.length ≤ 32 → (∀ b ∈ cs, b.toNat / 64 = 2) →
    decodeCont (pre ++ (cs ++ rest)) cs.length pre.length c =
      .ok (BitVec.ofNat 32 (cs.foldl (fun a b => a * 64 + b.toNat % 64) c.toNat))
  | [], _, c, _, _, _, _ => by simp [decodeCont]
  | b :: cs, pre, c, k, hc, hk, hcs => by
    have hk' : k + 6 + 6 * cs.length ≤ 32 := by simp only [List.length_cons] at hk; omega
    have e : _ = c.toNat * 64 + b.toNat % 64 := shl_or_toNat c 6 (b.toNat % 64) (by decide)
      (Nat.lt_of_lt_of_le hc (Nat.pow_le_pow_right (by decide) (by omega))) (by omega)
    have ih := decodeCont_run rest cs (pre ++ [b]) (c <<< 6 ||| BitVec.ofNat 32 (b.toNat % 64)) (k + 6)
      (by rw [e, Nat.pow_add]; omega) hk' (fun x hx => hcs x (List.mem_cons_of_mem _ hx))
    rw [List.length_cons, decodeCont_succ, List.cons_append, byteAt_length, if_pos (hcs b List.mem_cons_self)]
    simpa only [List.append_assoc, List.cons_append, List.nil_append, List.length_append, List.length_cons,
      List.length_nil, List.foldl_cons, e] using ih

theorem decode_seq (b0 : BitVec 8) (cs rest : List (BitVec 8)) (c0 : Nat)
    (hl : leadSpec b0 = some (cs.length + 1, BitVec.ofNat 32 c0)) (h0 : 128 ≤ b0.toNat) (hc0 : c0 < 32)
    (hlen : cs.length ≤ 3) (hcs : ∀ b ∈ cs, b.toNat / 64 = 2) :
    decodeUtf8 (b0 :: (cs ++ rest)) =
      .ok (BitVec.ofNat 32 (cs.foldl (fun a b => a * 64 + b.toNat % 64) c0), cs.length + 1) := by
  have hna : ¬ b0.toNat < 128 := by omega
  have hc : (BitVec.ofNat 32 c0).toNat = c0 := by simp only [BitVec.toNat_ofNat]; omega
  have run := decodeCont_run rest cs [b0] (BitVec.ofNat 32 c0) 5 (by rw [hc]; exact hc0) (by omega) hcs
  unfold decodeUtf8
  simp only [byteAt_zero, ascii_test, hna, if_false, decodeLead_eq, hl, Nat.add_sub_cancel]
  rw [hc] at run
  exact congrArg (Except.map _) run

theorem cont_bits (x : Nat) (hx : x < 64) :
    (BitVec.ofNat 8 (0x80 + x)).toNat / 64 = 2 ∧ (BitVec.ofNat 8 (0x80 + x)).toNat % 64 = x := by
  rw [ofNat8_toNat _ (by omega)]; omega

theorem foldl_cont (xs : List Nat) (hxs : ∀ x ∈ xs, x < 64) : ∀ a : Nat,
    (xs.map (fun x => BitVec.ofNat 8 (0x80 + x))).foldl (fun a b => a * 64 + b.toNat % 64) a =
      xs.foldl (fun a x => a * 64 + x) a := by
  induction xs with
  | nil => intro a; rfl
  | cons x xs ih =>
    intro a
    simp only [List.map_cons, List.foldl_cons, (cont_bits x (hxs x List.mem_cons_self)).2]
    exact ih (fun y hy => hxs y (List.mem_cons_of_mem _ hy)) _

/-- `decode_utf8` on a sequence laid out as RFC 3629 prescribes: lead byte `L + hi` with the marker `L` of its
    length, continuation bytes `0x80 + x`. -/
theorem decode_layout (L hi : Nat) (xs : List Nat) (rest : List (BitVec 8))
    (hL : (xs.length = 1 ∧ L = 0xC0 ∧ hi < 32) ∨ (xs.length = 2 ∧ L = 0xE0 ∧ hi < 16) ∨
      (xs.length = 3 ∧ L = 0xF0 ∧ hi < 8))
    (hxs : ∀ x ∈ xs, x < 64) :
    decodeUtf8 (BitVec.ofNat 8 (L + hi) :: (xs.map (fun x => BitVec.ofNat 8 (0x80 + x)) ++ rest)) =
      .ok (BitVec.ofNat 32 (xs.foldl (fun a x => a * 64 + x) hi), xs.length + 1) := by
  have hb0 : (BitVec.ofNat 8 (L + hi)).toNat = L + hi := ofNat8_toNat _ (by omega)
  have hlead : leadSpec (BitVec.ofNat 8 (L + hi)) = some (xs.length + 1, BitVec.ofNat 32 hi) := by
    rcases hL with ⟨hn, rfl, h⟩ | ⟨hn, rfl, h⟩ | ⟨hn, rfl, h⟩
    · rw [leadSpec_two _ (by omega) (by omega), hb0, hn]; congr 4; omega
    · rw [leadSpec_three _ (by omega) (by omega), hb0, hn]; congr 4; omega
    · rw [leadSpec_four _ (by omega), hb0, hn]; congr 4; omega
  have := decode_seq _ (xs.map (fun x => BitVec.ofNat 8 (0x80 + x))) rest hi
    (by rw [List.length_map]; exact hlead) (by omega) (by omega) (by rw [List.length_map]; omega)
    (fun b hb => by obtain ⟨x, hx, rfl⟩ := List.mem_map.mp hb; exact (cont_bits x (hxs x hx)).1)
  rw [this, foldl_cont xs hxs, List.length_map]

theorem roundtrip (c : BitVec 32) (hc : c.toNat < 0x200000) (rest : List (BitVec 8)) :
    decodeUtf8 (encodeUtf8 c ++ rest) = .ok (c, (encodeUtf8 c).length) := by
  rw [encode_eq c hc]
  generalize hn : c.toNat = n at hc
  obtain rfl : c = BitVec.ofNat 32 n := by rw [← hn]; simp
  unfold utf8
  split
  · next h1 =>
    have hb : (BitVec.ofNat 8 n).toNat = n := ofNat8_toNat n (by omega)
    simp only [List.map, List.cons_append, List.nil_append, List.length]
    rw [decode1 _ _ (by rw [hb]; exact h1), hb]
  split
  · next h2 =>
    refine (decode_layout 0xC0 (n / 0x40) [n % 0x40] rest (.inl ⟨rfl, rfl, Nat.div_lt_of_lt_mul h2⟩)
      (by simp only [List.mem_singleton, forall_eq]; exact Nat.mod_lt _ (by decide))).trans ?_
    simp only [List.foldl, List.length]; congr 3; omega
  have two : ∀ x ∈ [n / 0x40 % 0x40, n % 0x40], x < 64 := by
    simp only [List.mem_cons, List.not_mem_nil, or_false, forall_eq_or_imp, forall_eq]
    exact ⟨Nat.mod_lt _ (by decide), Nat.mod_lt _ (by decide)⟩
  split
  · next h3 =>
    refine (decode_layout 0xE0 (n / 0x1000) _ rest (.inr (.inl ⟨rfl, rfl, Nat.div_lt_of_lt_mul h3⟩)) two).trans ?_
    simp only [List.foldl, List.length]; congr 3; omega
  · refine (decode_layout 0xF0 (n / 0x40000) (n / 0x1000 % 0x40 :: _) rest
      (.inr (.inr ⟨rfl, rfl, Nat.div_lt_of_lt_mul hc⟩))
      (List.forall_mem_cons.mpr ⟨Nat.mod_lt _ (by decide), two⟩)).trans ?_
    simp only [List.foldl, List.length]; congr 3; omega

theorem utf16_toNat (c : BitVec 32) (hc : c.toNat < 0x110000) :
    (utf16Units c).map BitVec.toNat = utf16 c.toNat := by
  unfold utf16Units utf16
  simp only [BitVec.lt_def, BitVec.toNat_ofNat, Nat.reducePow, Nat.reduceMod]
  by_cases h : c.toNat < 65536
  · simp only [h, if_true, List.map, BitVec.toNat_setWidth, List.cons.injEq, and_true]
    omega
  · have hsub : (c - 65536#32).toNat = c.toNat - 65536 := by
      rw [BitVec.toNat_sub_of_le (by simp [BitVec.le_def]; omega)]; simp
    simp only [h, if_false, List.map, BitVec.toNat_setWidth, BitVec.toNat_add, BitVec.toNat_and, BitVec.toNat_ushiftRight,
      hsub, BitVec.toNat_ofNat, Nat.shiftRight_eq_div_pow, Nat.reducePow, Nat.reduceMod,
      (Nat.and_two_pow_sub_one_eq_mod · 10 : ∀ x, x &&& 1023 = x % 1024), List.cons.injEq, and_true]
    constructor <;> omega

/-- truth value of `val >> k` for `int64_t val` (arithmetic shift) -/
theorem sshr_ne_zero (v : BitVec 64) (k : Nat) (hk : k < 64) : (v.sshiftRight k ≠ 0#64) ↔ v.toNat ≥ 2 ^ k := by
  cases hm : v.msb
  · rw [BitVec.sshiftRight_eq_of_msb_false hm]
    have hlt : v.toNat < 2 ^ 63 := by
      have := BitVec.msb_eq_decide v; rw [hm] at this; simp at this; omega
    rw [Ne, ← BitVec.toNat_inj, BitVec.toNat_ushiftRight, Nat.shiftRight_eq_div_pow]
    simp only [BitVec.toNat_ofNat, Nat.zero_mod]
    have hp : 0 < 2 ^ k := Nat.two_pow_pos k
    rw [Nat.div_eq_zero_iff]
    omega
  · have hge : v.toNat ≥ 2 ^ 63 := by
      have := BitVec.msb_eq_decide v; rw [hm] at this; simp at this; omega
    have hle : 2 ^ k ≤ 2 ^ 63 := Nat.pow_le_pow_right (by decide) (by omega)
    constructor
    · intro _; omega
    · intro _ h0
      have := BitVec.msb_sshiftRight (x := v) (n := k)
      rw [h0, hm] at this
      simp at this

theorem represents_eq (v : Nat) :
    IntType.int.represents v = decide (v < 2 ^ 31) ∧ IntType.uint.represents v = decide (v < 2 ^ 32) ∧
    IntType.long.represents v = decide (v < 2 ^ 63) ∧ IntType.ulong.represents v = decide (v < 2 ^ 64) ∧
    IntType.llong.represents v = decide (v < 2 ^ 63) ∧ IntType.ullong.represents v = decide (v < 2 ^ 64) :=
  ⟨rfl, rfl, rfl, rfl, rfl, rfl⟩

/-- "can be represented" as a function of the three comparisons the ladder makes -/
def reprOf (a b c : Bool) : IntType → Bool
  | .int => a | .uint => b | .long | .llong => c | .ulong | .ullong => true

/-- A 64-bit value enters the ladder and the table only through its comparisons with 2^31, 2^32, 2^63, and these
    are monotone: four regions. -/
theorem represents_region (v : Nat) (hv : v < 2 ^ 64) : ∃ a b c : Bool,
    ((a, b, c) = (true, true, true) ∨ (a, b, c) = (false, true, true) ∨ (a, b, c) = (false, false, true) ∨
      (a, b, c) = (false, false, false)) ∧
    (v ≥ 2 ^ 31 ↔ a = false) ∧ (v ≥ 2 ^ 32 ↔ b = false) ∧ (v ≥ 2 ^ 63 ↔ c = false) ∧
    (fun t : IntType => t.represents v) = reprOf a b c := by
  obtain ⟨e1, e2, e3, e4, e5, e6⟩ := represents_eq v
  have mono : ∀ a b c : Bool, (a = true → b = true) → (b = true → c = true) →
      (a, b, c) = (true, true, true) ∨ (a, b, c) = (false, true, true) ∨ (a, b, c) = (false, false, true) ∨
        (a, b, c) = (false, false, false) := by
    intro a b c; cases a <;> cases b <;> cases c <;> decide
  refine ⟨decide (v < 2 ^ 31), decide (v < 2 ^ 32), decide (v < 2 ^ 63), mono _ _ _ ?_ ?_, ?_, ?_, ?_, ?_⟩
  · simp only [decide_eq_true_eq]; omega
  · simp only [decide_eq_true_eq]; omega
  · simp only [decide_eq_false_iff_not, Nat.not_lt, ge_iff_le]
  · simp only [decide_eq_false_iff_not, Nat.not_lt, ge_iff_le]
  · simp only [decide_eq_false_iff_not, Nat.not_lt, ge_iff_le]
  · funext t
    cases t <;> simp only [reprOf, e1, e2, e3, e4, e5, e6, decide_eq_true hv]

/-- the ladder of `convert_pp_int` picks the first type of the 6.4.4.1p5 list that represents the value: in each
    region both the ladder and the search through the list are closed terms, compared per column and suffix -/
theorem ladder_spec (base : Nat) (s : Suffix) (v : BitVec 64) (t : IntType)
    (h : litType (base == 10) s v.toNat = some t) : intLitType base s.hasL s.hasU v = collapse t := by
  obtain ⟨a, b, c, hreg, t31, t32, t63, hq⟩ := represents_region v.toNat v.isLt
  unfold intLitType
  simp only [sshr_ne_zero v 31 (by decide), sshr_ne_zero v 32 (by decide), sshr_ne_zero v 63 (by decide), t31, t32, t63]
  unfold litType at h
  rw [show (base == 10) = decide (base = 10) from rfl, hq] at h
  rcases hreg with e | e | e | e <;>
    (cases e
     by_cases hb : base = 10 <;> simp only [hb, decide_true, decide_false, if_true, if_false] at h ⊢ <;>
       cases s <;> cases h <;> rfl)

-- Identifier ranges (Annex D).  Both sides are unions of closed ranges, hence constant between consecutive range endpoints:
-- comparing them at every endpoint (kernel evaluation) decides them for every `c : Nat`.

/-- greatest element of `es` that is `≤ c`, or `m` -/
def floorFrom (c : Nat) : Nat → List Nat → Nat
  | m, [] => m
  | m, e :: es => floorFrom c (if e ≤ c ∧ m ≤ e then e else m) es

theorem floorFrom_spec (c : Nat) : ∀ (es : List Nat) (m : Nat), m ≤ c →
    floorFrom c m es ≤ c ∧ m ≤ floorFrom c m es ∧ (∀ e ∈ es, e ≤ c → e ≤ floorFrom c m es) ∧
    (floorFrom c m es = m ∨ floorFrom c m es ∈ es)
  | [], m, hm => by simp [floorFrom, hm]
  | e :: es, m, hm => by
    rw [floorFrom]
    split
    · next h =>
      obtain ⟨a, b, c', d⟩ := floorFrom_spec c es e h.1
      exact ⟨a, Nat.le_trans h.2 b, List.forall_mem_cons.mpr ⟨fun _ => b, c'⟩, .inr (List.mem_cons.mpr d)⟩
    · next h =>
      obtain ⟨a, b, c', d⟩ := floorFrom_spec c es m hm
      exact ⟨a, b, List.forall_mem_cons.mpr ⟨fun he => by omega, c'⟩, d.imp id (List.mem_cons_of_mem _)⟩

theorem inRanges_floor (es : List Nat) (c : Nat) : ∀ (t : List (Nat × Nat)), (∀ r ∈ t, r.1 ∈ es ∧ r.2 + 1 ∈ es) →
    inRanges t c = inRanges t (floorFrom c 0 es) := by
  have sp := floorFrom_spec c es 0 (Nat.zero_le _)
  intro t
  induction t with
  | nil => intro _; rfl
  | cons r t ih =>
    intro h
    have hr := h r List.mem_cons_self
    have ih' := ih (fun x hx => h x (List.mem_cons_of_mem _ hx))
    have e1 : decide (r.1 ≤ c) = decide (r.1 ≤ floorFrom c 0 es) := by
      have := sp.2.2.1 r.1 hr.1
      apply decide_eq_decide.mpr; constructor <;> intro _ <;> omega
    have e2 : decide (c ≤ r.2) = decide (floorFrom c 0 es ≤ r.2) := by
      have := sp.2.2.1 (r.2 + 1) hr.2
      apply decide_eq_decide.mpr; constructor <;> intro _ <;> omega
    simp only [inRanges, List.any_cons] at ih' ⊢
    rw [e1, e2, ih']

def endpointsOf (t : List (Nat × Nat)) : List Nat := t.flatMap (fun r => [r.1, r.2 + 1])

def allEndpoints : List Nat :=
  endpointsOf (ident1Ranges ++ ident2Ranges ++ annexD1 ++ annexD2 ++ basicNondigit ++ [(0x30, 0x39)])

theorem ident_at_endpoints : ∀ a ∈ 0 :: allEndpoints, isIdent1 a = identStart a ∧ isIdent2 a = identContinue a := by
  decide +kernel

theorem mem_endpointsOf {t : List (Nat × Nat)} {r : Nat × Nat} (h : r ∈ t) :
    r.1 ∈ endpointsOf t ∧ r.2 + 1 ∈ endpointsOf t := by
  unfold endpointsOf
  exact ⟨List.mem_flatMap.mpr ⟨r, h, by simp⟩, List.mem_flatMap.mpr ⟨r, h, by simp⟩⟩

theorem tables_in_endpoints :
    ∀ t ∈ [ident1Ranges, ident2Ranges, annexD1, annexD2, basicNondigit, [(0x30, 0x39)]],
      ∀ r ∈ t, r.1 ∈ allEndpoints ∧ r.2 + 1 ∈ allEndpoints := by
  intro t ht r hr
  apply mem_endpointsOf
  simp only [List.mem_cons, List.not_mem_nil, or_false] at ht
  simp only [List.mem_append]
  rcases ht with rfl | rfl | rfl | rfl | rfl | rfl <;> simp only [hr, true_or, or_true]

theorem ident_ranges (c : Nat) : isIdent1 c = identStart c ∧ isIdent2 c = identContinue c := by
  have sp := floorFrom_spec c allEndpoints 0 (Nat.zero_le _)
  have hmem : floorFrom c 0 allEndpoints ∈ 0 :: allEndpoints := by
    rcases sp.2.2.2 with h | h
    · rw [h]; exact List.mem_cons_self
    · exact List.mem_cons_of_mem _ h
  have key := ident_at_endpoints _ hmem
  have f := fun t ht => inRanges_floor allEndpoints c t (tables_in_endpoints t ht)
  have f1 := f ident1Ranges (by simp)
  have f2 := f ident2Ranges (by simp)
  have f3 := f annexD1 (by simp)
  have f4 := f annexD2 (by simp)
  have f5 := f basicNondigit (by simp)
  have f6 := f [(0x30, 0x39)] (by simp)
  simp only [isIdent1, isIdent2, identStart, identContinue, isBasicNondigit, isDigit, show inRange = inRanges from rfl] at key ⊢
  rw [f1, f2, f3, f4, f5, f6]
  exact key

end ChibiVerif.Lemmas.Literals
