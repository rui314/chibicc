/-
C01: what the induction over expressions (`value_a`, Lemmas/C01ValueA.lean) composes — the value of postfix `++` / `--`
(`postfix_key`), and one lemma per node form of the compilers: `EvG.bin_node` over the combinators of Lemmas/C01JumpMachine.lean,
`EvG.compoundL` over `EvG.assign_tmp` of Lemmas/C01LvalueMachine.lean — and the frame `FrameX` of the statements of Props/C01.lean
with `EvG.at_frameX` and its layout check (`lay_of_layoutOK`).
-/
import ChibiVerif.Lemmas.C01LvalueMachine

namespace ChibiVerif.C01
open ChibiVerif.X86 ChibiVerif.Asm ChibiVerif.Spec.IntSpec ChibiVerif.Gen.CommonType ChibiVerif.C01Codegen ChibiVerif.X86J

/-! ### postfix `++` / `--` -/

/-- `(T)((x += a) - a)` gives back `x` (`new_inc_dec`, non-`_Bool` operands): the facts the postfix case needs -/
theorem postfix_key (T : ITy) (hT : T ≠ .bool) (x addend r : Int) (hx : T.inRange x) (ha : addend = 1 ∨ addend = -1)
    (hr : compound .add T .i32 x addend = some r) :
    ∃ y, binop .add T .i32 r (-addend) = some y ∧ convert T y = x := by
  have h := incdec_value T hT x addend hx ha (x, r) (by simp [specPostfix, hr])
  simp only [postfixBySubtraction, hr] at h
  cases hb : binop .add T .i32 r (-addend) with
  | none => simp [hb] at h
  | some y =>
    simp only [hb, Option.some.injEq, Prod.mk.injEq] at h
    exact ⟨y, rfl, h.1⟩

/-- `x -= 1` and `x += -1` store the same value: in the common type `U` of `T` and `int`, the two computations are
    `fit U (x' - (U)1)` and `fit U (x' + (U)(-1))`; for signed `U` the operands are `1` and `-1`, for unsigned `U` the second is
    `2^n - 1` and `fit` reduces modulo `2^n` -/
theorem compound_sub_one (T : ITy) (x : Int) : compound .sub T .i32 x 1 = compound .add T .i32 x (-1) := by
  simp only [compound, binop, binopOperandType, BinOp.isShift, Bool.false_eq_true, if_false, arith]
  congr 1
  rcases usualArith_mem T .i32 with h | h | h | h <;> rw [h] <;> simp only [fit_eq, convert_eq]
  · rfl
  · congr 1; omega
  · rfl
  · congr 1; omega

theorem perm_mem {a b : List Nat} : ∀ i, i ∈ b ++ a → i ∈ a ++ b := by
  intro i hi; simp only [List.mem_append] at hi ⊢; exact hi.symm

/-! ### node forms -/

section
variable {Φ : Frame} {P : BitVec 64 → Prop}

/-- a binary node that is not a shift, right node `b` (evaluated first), left node `a`; operands may contain jumps -/
theorem EvG.bin_arith {op : BinOp} {ta tb : ITy} {va vb x : Int} (hx : binop op ta tb va vb = some x) (k : NK)
    (hop : specOp k = some op) (hns : op.isShift = false)
    {cr cl : List JI} {σ σr σl : Env} {Wr Wl : List Nat} {k0 k1 kr0 kr1 kl0 kl1 dr dl : Nat}
    (Er : EvG Φ P cr σ σr (fun r => Represents tb r vb) Wr kr0 kr1 dr)
    (El : EvG Φ P cl σr σl (fun r => Represents ta r va) Wl kl0 kl1 dl)
    (hk : k0 ≤ kr0 ∧ kr1 ≤ k1 ∧ k0 ≤ kl0 ∧ kl1 ≤ k1) (hW : ∀ i, i ∈ Wl → Φ.sepv i) (hK : k1 ≤ Φ.K) :
    EvG Φ P ((cr ++ J (castSeq tb (binopOperandType op ta tb))) ++ (JI.ins iPush ::
      ((cl ++ J (castSeq ta (binopOperandType op ta tb))) ++ (JI.ins iPopRdi :: J (opSeq k (binopOperandType op ta tb))))))
      σ σl (fun r => Represents (binopType op ta tb) r x) (Wr ++ Wl) k0 k1 (max dr (dl + 1)) :=
  EvG.bin
    (Er.then_same (R2 := fun r => Represents (binopOperandType op ta tb) r (convert (binopOperandType op ta tb) vb))
      (fun s hs => cast_run tb _ s vb hs))
    (El.then_same (R2 := fun r => Represents (binopOperandType op ta tb) r (convert (binopOperandType op ta tb) va))
      (fun s hs => cast_run ta _ s va hs))
    (Rres := fun r => Represents (binopType op ta tb) r x)
    (fun s h1 h2 => arith_step k op hop hns ta tb va vb x hx s h1 h2) hk hW hK

/-- a shift: the right node is not converted -/
theorem EvG.bin_shift {op : BinOp} {ta tb : ITy} {va vb x : Int} (hx : binop op ta tb va vb = some x) (k : NK)
    (hop : specOp k = some op) (hs : op.isShift = true)
    {cr cl : List JI} {σ σr σl : Env} {Wr Wl : List Nat} {k0 k1 kr0 kr1 kl0 kl1 dr dl : Nat}
    (Er : EvG Φ P cr σ σr (fun r => Represents tb r vb) Wr kr0 kr1 dr)
    (El : EvG Φ P cl σr σl (fun r => Represents ta r va) Wl kl0 kl1 dl)
    (hk : k0 ≤ kr0 ∧ kr1 ≤ k1 ∧ k0 ≤ kl0 ∧ kl1 ≤ k1) (hW : ∀ i, i ∈ Wl → Φ.sepv i) (hK : k1 ≤ Φ.K) :
    EvG Φ P (cr ++ (JI.ins iPush :: ((cl ++ J (castSeq ta (binopOperandType op ta tb))) ++
      (JI.ins iPopRdi :: J (opSeq k (binopOperandType op ta tb))))))
      σ σl (fun r => Represents (binopType op ta tb) r x) (Wr ++ Wl) k0 k1 (max dr (dl + 1)) :=
  EvG.bin Er
    (El.then_same (R2 := fun r => Represents (binopOperandType op ta tb) r (convert (binopOperandType op ta tb) va))
      (fun s hs => cast_run ta _ s va hs))
    (Rres := fun r => Represents (binopType op ta tb) r x)
    (fun s h1 h2 => shift_step k op hop hs ta tb va vb x hx s h1 h2) hk hW hK

/-- a binary node.  `gen_expr` evaluates the right-hand node first; for `>` `>=` (parsed as `<` `<=` with the operands
    exchanged) that is `a`, the order of `evalE` (`EaF`, `EbF`); for the other operators it is `b`, and the operands are
    evaluated in the opposite order from `evalE` (`EbS`, `EaS`: `Eval.swap`) -/
theorem EvG.bin_node {op : BinOp} {ta tb : ITy} {va vb x : Int} (hx : binop op ta tb va vb = some x)
    {ca cb : List JI} {σ σ1 σ2 σb : Env} {Wa Wb : List Nat} {k0 ka kb da db : Nat}
    (EaF : EvG Φ P ca σ σ1 (fun r => Represents ta r va) Wa k0 ka da)
    (EbF : EvG Φ P cb σ1 σ2 (fun r => Represents tb r vb) Wb ka kb db)
    (EbS : EvG Φ P cb σ σb (fun r => Represents tb r vb) Wb ka kb db)
    (EaS : EvG Φ P ca σb σ2 (fun r => Represents ta r va) Wa k0 ka da)
    (hka : k0 ≤ ka) (hkb : ka ≤ kb) (hWa : ∀ i, i ∈ Wa → Φ.sepv i) (hWb : ∀ i, i ∈ Wb → Φ.sepv i)
    (hK : kb ≤ Φ.K) :
    EvG Φ P (binCode op ta ca tb cb)
      σ σ2 (fun r => Represents (binopType op ta tb) r x) (Wa ++ Wb) k0 kb
      (if (nodeOf op).2 = true then max da (db + 1) else max db (da + 1)) := by
  unfold binCode
  have hkS : k0 ≤ ka ∧ kb ≤ kb ∧ k0 ≤ k0 ∧ ka ≤ kb := ⟨hka, Nat.le_refl _, Nat.le_refl _, hkb⟩
  have hkF : k0 ≤ k0 ∧ ka ≤ kb ∧ k0 ≤ ka ∧ kb ≤ kb := ⟨Nat.le_refl _, hkb, hka, Nat.le_refl _⟩
  by_cases hsw : (nodeOf op).2 = true
  · cases op <;> simp [nodeOf] at hsw
    case gt =>
      have := EvG.bin_arith (binop_gt_swap .. ▸ hx) .ND_LT rfl rfl EaF EbF hkF hWb hK
      simpa [nodeOf, BinOp.isShift, binopOperandType, binopType, BinOp.isRel, List.append_assoc] using this
    case ge =>
      have := EvG.bin_arith (binop_ge_swap .. ▸ hx) .ND_LE rfl rfl EaF EbF hkF hWb hK
      simpa [nodeOf, BinOp.isShift, binopOperandType, binopType, BinOp.isRel, List.append_assoc] using this
  · have hsw' : (nodeOf op).2 = false := by simpa using hsw
    by_cases hs : op.isShift = true
    · have := (EvG.bin_shift hx _ (specOp_nodeOf op hsw') hs EbS EaS hkS hWa hK).weaken
        perm_mem (Nat.le_refl _) (Nat.le_refl _) (Nat.le_refl _)
      simpa [hsw', hs, List.append_assoc] using this
    · have hs' : op.isShift = false := by simpa using hs
      have := (EvG.bin_arith hx _ (specOp_nodeOf op hsw') hs' EbS EaS hkS hWa hK).weaken
        perm_mem (Nat.le_refl _) (Nat.le_refl _) (Nat.le_refl _)
      simpa [hsw', hs', List.append_assoc] using this

end

section
variable {Φ : Frame} {bp0 : BitVec 64}

/-- **`lv op= e`** with the conversions of C11 6.5.16.2: `tmp = &lv, *tmp = (t)(*tmp op e)` (`EvG.assign_tmp`), the node `*tmp op e`
    by the node lemmas of every binary expression (`EvG.bin_arith`, `EvG.bin_shift`) -/
theorem EvG.compoundL {op : BinOp} {cp cB : List JI} {dsuf : List Ins} {σ σ0 σ1 : Env} {Wp W : List Nat}
    {k0 kp0 kp1 kb0 kb1 kt dp d i : Nat} {ti tb : ITy} {x vb y dd : Int} {ap : BitVec 64}
    (hti : σ.tys[i]? = some ti) (hs : Φ.sepv i)
    (hp : EvG Φ (AtBp bp0) cp σ σ0 (fun r => r = ap) Wp kp0 kp1 dp)
    (hap : ap + BitVec.ofInt 64 dd = addrOf bp0 (Φ.off i)) (hds : DS dsuf dd)
    (heB : EvG Φ (AtBp bp0) cB σ0 σ1 (fun r => Represents tb r vb) W kb0 kb1 d)
    (hx : σ1.vals[i]? = some x) (hcomp : compoundable op = true) (hy : binop op ti tb x vb = some y)
    (hk : k0 ≤ kp0 ∧ kp1 ≤ kt ∧ k0 ≤ kb0 ∧ kb1 ≤ kt) (hkb : kb0 ≤ kb1) (hWp : ∀ j, j ∈ Wp → Φ.sepv j) (hW : ∀ j, j ∈ W → Φ.sepv j)
    (hkt : kt < Φ.K) :
    EvG Φ (AtBp bp0) (opAssignCodeL (nodeOf op).1 op ti tb (Φ.toff kt) cp dsuf cB) σ (σ1.set i (convert ti y))
      (fun r => Represents ti r (convert ti y)) (Wp ++ (i :: W)) k0 (kt + 1) (max (dp + 1) (max (d + 1) 2)) := by
  have hrel : op.isRel = false := by simpa [compoundable] using hcomp
  have hsw : (nodeOf op).2 = false := by cases op <;> simp [BinOp.isRel] at hrel <;> rfl
  -- the operands of the node `*tmp op B` in the frame that knows the temporary: `*tmp`, and `B` by the frame rule
  have L := EvG.load_tmp hds hkt hap (by rw [heB.1, hp.1]; exact hti) hx kb1
  have R := heB.lift_tmp hkt ap hW hk.2.2.2
  have hkn : kb0 ≤ kb0 ∧ kb1 ≤ kb1 ∧ kb0 ≤ kb1 ∧ kb1 ≤ kb1 := ⟨Nat.le_refl _, Nat.le_refl _, hkb, Nat.le_refl _⟩
  -- the node is an ordinary binary node; its value converted to the object's type is assigned through the temporary
  have fin := fun (cV : List JI) (V : EvG (Φ.withTmp kt hkt ap) (AtBp bp0) cV σ0 σ1
      (fun r => Represents (binopType op ti tb) r y) (W ++ []) kb0 kb1 (max d (0 + 1))) =>
    (EvG.assign_tmp hkt hti hs hp hap hds (V.then_same (R2 := fun r => Represents ti r (convert ti y)) (fun s h => cast_run _ ti s y h))
      hk hkb hWp (fun j hj => hW j (by simpa using hj))).weaken (W' := Wp ++ (i :: W)) (by simp) (Nat.le_refl _) (Nat.le_refl _)
      (d' := max (dp + 1) (max (d + 1) 2)) (by omega)
  rw [opAssignCodeL_eq]
  by_cases hsh : op.isShift = true
  · simp only [hsh, if_true, J_nil, List.append_nil]
    exact fin _ (EvG.bin_shift hy _ (specOp_nodeOf op hsw) hsh R L hkn (fun _ h => by simp at h) hk.2.2.2)
  · have hsh' : op.isShift = false := by simpa using hsh
    simp only [hsh', Bool.false_eq_true, if_false]
    exact fin _ (EvG.bin_arith hy _ (specOp_nodeOf op hsw) hsh' R L hkn (fun _ h => by simp at h) hk.2.2.2)

end

/-! ### `FrameX`: the frame hypothesis of the statements, and a judgment in its terms -/

/-- the frame for expressions with side effects: `n` free stack slots below `%rsp`, all variables and the `K` hidden
    temporaries at or above `%rsp`, pairwise disjoint (`Lay`), and the variables hold the store -/
def FrameX (σ : Env) (off toff : Nat → Int) (K n : Nat) (m : State) : Prop :=
  8 * n ≤ (m.get .rsp).toNat ∧ Lay σ.tys off toff K (m.get .rsp).toNat (m.get .rbp) ∧ Holds off σ m

/-- a judgment over `Lay` / `Holds` at a state whose frame is `FrameX`: the form of the statements of Props/C01.lean -/
theorem EvG.at_frameX {P : BitVec 64 → Prop} {off toff : Nat → Int} {K : Nat} {code : List JI} {σ σ' : Env} {R : BitVec 64 → Prop}
    {W : List Nat} {k0 k1 d : Nat} {m : State} (h : EvG (Frame.lay off toff K) P code σ σ' R W k0 k1 d) (hP : P (m.get .rbp))
    (hf : FrameX σ off toff K d m) :
    ∃ m', JRun code m m' ∧ R (m'.get .rax) ∧ m'.get .rsp = m.get .rsp ∧ m'.get .rbp = m.get .rbp ∧ FrameX σ' off toff K d m' ∧
      (∀ a : BitVec 64, (m.get .rsp).toNat ≤ a.toNat → ¬ inVar σ.tys off (m.get .rbp) W a → ¬ inTmp toff (m.get .rbp) k0 k1 a →
        m'.mem a = m.mem a) := by
  obtain ⟨m', hrun, hrep, hI, hu⟩ := h.2 m d _ hP ⟨hf.2.1, hf.2.2⟩ (Nat.le_refl _) hf.1 (Nat.le_refl _)
  exact ⟨m', hrun, hrep, hu.rsp, hu.rbp, ⟨by rw [hu.rsp]; exact hf.1, by rw [hu.rsp]; exact hI.1, hI.2⟩, hu.mem⟩

/-! ### `Lay` from the computable check `layoutOK` on the offsets -/

theorem addrOf_toNat (bp : BitVec 64) (d N : Int) (h1 : -N ≤ d) (h2 : d ≤ 0) (hN : N ≤ bp.toNat) :
    ((addrOf bp d).toNat : Int) = bp.toNat + d := by
  have := bp.isLt
  simp only [addrOf, BitVec.toNat_add, BitVec.toNat_ofInt]
  omega

theorem szOf_eq {tys : List ITy} {i : Nat} {t : ITy} (h : tys[i]? = some t) : szOf tys i = t.size := by
  simp [szOf, h]

theorem lt_of_getElem? {tys : List ITy} {i : Nat} {t : ITy} (h : tys[i]? = some t) : i < tys.length :=
  (List.getElem?_eq_some_iff.1 h).1

/-- **a frame whose offsets pass `layoutOK` satisfies the layout hypothesis of `C01_value_effects`** whenever
    `%rbp = %rsp + N` (what the prologue `push %rbp; mov %rsp, %rbp; sub $N, %rsp` establishes) -/
theorem lay_of_layoutOK (tys : List ITy) (off toff : Nat → Int) (K : Nat) (N : Int) (h : layoutOK tys off toff K N = true)
    (bp : BitVec 64) (sp : Nat) (hbp : (bp.toNat : Int) = sp + N) (hhi : bp.toNat + 8 ≤ 2 ^ 64) :
    Lay tys off toff K sp bp := by
  simp only [layoutOK, Bool.and_eq_true, List.all_eq_true, List.mem_range, Bool.or_eq_true, beq_iff_eq, inFrame, disjI,
    decide_eq_true_eq] at h
  obtain ⟨⟨⟨⟨hv, ht⟩, hvv⟩, hvt⟩, htt⟩ := h
  have av : ∀ i t, tys[i]? = some t → ((addrOf bp (off i)).toNat : Int) = bp.toNat + off i ∧ -N ≤ off i ∧ off i + t.size ≤ 0 := by
    intro i t hi
    have := hv i (lt_of_getElem? hi)
    rw [szOf_eq hi] at this
    exact ⟨addrOf_toNat bp _ N this.1 (by omega) (by omega), this.1, this.2⟩
  have at' : ∀ k, k < K → ((addrOf bp (toff k)).toNat : Int) = bp.toNat + toff k ∧ -N ≤ toff k ∧ toff k + 8 ≤ 0 := by
    intro k hk
    have := ht k hk
    exact ⟨addrOf_toNat bp _ N this.1 (by omega) (by omega), this.1, by simpa using this.2⟩
  refine ⟨?_, ?_, ?_, ?_, ?_⟩
  · intro i t hi
    obtain ⟨e, h1, h2⟩ := av i t hi
    have := size_pos t
    omega
  · intro k hk
    obtain ⟨e, h1, h2⟩ := at' k hk
    omega
  · intro i j ti tj hij hi hj
    obtain ⟨ei, _, _⟩ := av i ti hi
    obtain ⟨ej, _, _⟩ := av j tj hj
    have := hvv i (lt_of_getElem? hi) j (lt_of_getElem? hj)
    rw [szOf_eq hi, szOf_eq hj] at this
    unfold sep
    rcases this with h | h | h
    · exact absurd h hij
    · left; omega
    · right; omega
  · intro i ti k hi hk
    obtain ⟨ei, _, _⟩ := av i ti hi
    obtain ⟨ek, _, _⟩ := at' k hk
    have := hvt i (lt_of_getElem? hi) k hk
    rw [szOf_eq hi] at this
    unfold sep
    rcases this with h | h
    · left; omega
    · right; omega
  · intro k l hk hl hkl
    obtain ⟨ek, _, _⟩ := at' k hk
    obtain ⟨el, _, _⟩ := at' l hl
    have := htt k hk l hl
    unfold sep
    rcases this with h | h | h
    · exact absurd h hkl
    · left; omega
    · right; omega

/-! ### a concrete instance (non-vacuity of `C01_value_effects`): `(v1 += v0, v0++ + v1)`, `signed char v0 = -3`, `unsigned v1 = 7` -/

def exXE : E := .comma (.opassign .add 1 (.var 0)) (.bin .add (.postinc 0) (.var 1))
def exXOff : Nat → Int := fun i => if i = 0 then -1 else -8
def exXToff : Nat → Int := fun k => -16 - 8 * (k : Int)
/-- `%rsp` = 0x1000, `%rbp` = 0x2000, `v0` (0xfd) at -1(%rbp), `v1` (7,0,0,0) at -8(%rbp), temporaries at -16, -24(%rbp) -/
def exXState : State :=
  { regs := fun r => match r with | .rsp => 0x1000#64 | .rbp => 0x2000#64 | _ => 0xdeadbeef#64,
    mem := fun a => if a = 0x1fff#64 then 0xfd#8 else if a = 0x1ff8#64 then 7#8 else 0#8 }

theorem exXFrame : FrameX exEnv exXOff exXToff 2 (depthX exXE) exXState := by
  -- the layout is the instance of `lay_of_layoutOK` at `%rbp = %rsp + 0x1000`
  refine ⟨by decide, lay_of_layoutOK exEnv.tys exXOff exXToff 2 0x1000 (by decide) _ _ (by decide) (by decide), ?_⟩
  intro i t v ht hv
  match i with
  | 0 =>
    simp [exEnv] at ht hv; subst ht; subst hv
    exact ⟨by decide, by decide⟩
  | 1 =>
    simp [exEnv] at ht hv; subst ht; subst hv
    exact ⟨by decide, by decide⟩
  | k + 2 => simp [exEnv] at ht

end ChibiVerif.C01
