/-
Facts about Model/PP.lean that the later C09 modules share: the hide-set algebra (what `C09_hideset_algebra` states), an invariant of state
and argument list passes through the loop of `subst` (`substLoop_inv`, over the turn of Lemmas/C09Step.lean), inputs without
directives keep the macro table (`preprocess2_keeps`), and what an expansion puts in front of the input is painted.
-/
import ChibiVerif.Model.PP
import ChibiVerif.Lemmas.PPArgs
import ChibiVerif.Lemmas.C09Step

namespace ChibiVerif.PP
open Except (Ends)

theorem hidesetContains_iff (hs : Hideset) (x : String) : hidesetContains hs x = true ↔ x ∈ hs := by
  unfold hidesetContains
  rw [List.any_eq_true]
  constructor
  · rintro ⟨y, hy, h⟩; rw [beq_iff_eq] at h; exact h ▸ hy
  · intro h; exact ⟨x, h, by simp⟩

theorem hidesetContains_union (a b : Hideset) (x : String) :
    hidesetContains (hidesetUnion a b) x = (hidesetContains a x || hidesetContains b x) := by
  simp [hidesetContains, hidesetUnion, List.any_append]

theorem hidesetContains_intersection (a b : Hideset) (x : String) :
    hidesetContains (hidesetIntersection a b) x = (hidesetContains a x && hidesetContains b x) := by
  unfold hidesetIntersection
  rw [Bool.eq_iff_iff]
  simp only [Bool.and_eq_true, hidesetContains_iff, List.mem_filter]

theorem addHideset_nil (ts : List Tok) : addHideset ts [] = ts := by
  unfold addHideset hidesetUnion
  simp

theorem mem_setExpanded : ∀ {args : List MacroArg} {n : String} {e : List Tok} {x : MacroArg}, x ∈ setExpanded args n e →
    x ∈ args ∨ ∃ a, args.find? (fun a => a.name == n) = some a ∧ x = { a with expanded := some e } := by
  intro args
  induction args with
  | nil => intro n e x h; simp [setExpanded] at h
  | cons a as ih =>
    intro n e x h
    unfold setExpanded at h
    by_cases hn : (a.name == n) = true
    · simp only [hn, if_true, List.mem_cons] at h
      rcases h with rfl | h
      · exact Or.inr ⟨a, by simp [hn], rfl⟩
      · exact Or.inl (by simp [h])
    · simp only [hn, Bool.false_eq_true, if_false, List.mem_cons] at h
      rcases h with rfl | h
      · exact Or.inl (by simp)
      · rcases ih h with h | ⟨a', ha', rfl⟩
        · exact Or.inl (by simp [h])
        · exact Or.inr ⟨a', by simp [hn, ha'], rfl⟩

theorem forall_setExpanded {P : MacroArg → Prop} {args : List MacroArg} {n : String} {e : List Tok}
    (h : ∀ a ∈ args, P a) (hP : ∀ a ∈ args, P a → P { a with expanded := some e }) : ∀ a ∈ setExpanded args n e, P a := by
  intro x hx
  rcases mem_setExpanded hx with hx | ⟨a, ha, rfl⟩
  · exact h x hx
  · have := List.mem_of_find?_eq_some ha
    exact hP a this (h a this)

theorem substLoop_inv (lx : String → LexOne) (pp : PreExpand) (J : St → List MacroArg → Prop)
    (hpp : ∀ st args a e st', J st args → a ∈ args → pp st (addHideset a.toks []) = .ok (e, st') →
      J st' (setExpanded args a.name e))
    {fuel : Nat} {isObj : Bool} {st : St} {args : List MacroArg} {body acc out : List Tok} {args' : List MacroArg} {st' : St}
    (hJ : J st args) (h : substLoop lx pp isObj fuel st args body acc = .ok (out, args', st')) : J st' args' := by
  induction fuel generalizing isObj st args body acc out args' st' with
  | zero => cases body <;> cases h; exact hJ
  | succ n ih =>
    cases body with
    | nil => cases h; exact hJ
    | cons tok rest =>
      rw [substLoop_succ] at h
      revert h
      refine substArms_ind (P := fun x => x = Except.ok (out, args', st') → J st' args') nofun ?_ ?_ ?_
        (skipEmptyOperands_suffix args)
      · exact fun _ _ _ _ h => ih hJ h
      · intro a ha h
        split at h
        · cases h
        · exact ih (hpp _ _ _ _ _ hJ ha ‹_›) h
      · intro c r _ _ _ h
        split at h
        · cases h
        · exact ih (ih hJ ‹_›) h

theorem subst_inv (lx : String → LexOne) (pp : PreExpand) (J : St → List MacroArg → Prop)
    (hpp : ∀ st args a e st', J st args → a ∈ args → pp st (addHideset a.toks []) = .ok (e, st') →
      J st' (setExpanded args a.name e))
    {st : St} {body : List Tok} {args : List MacroArg} {isObj : Bool} {out : List Tok} {st' : St}
    (hJ : J st args) (h : subst lx pp st body args isObj = .ok (out, st')) : ∃ args', J st' args' := by
  obtain ⟨⟨_, a', _⟩, hv, heq⟩ := Except.map_eq_ok h
  cases heq
  exact ⟨a', substLoop_inv lx pp J hpp hJ hv⟩


theorem noHash_addHideset {ts : List Tok} {hs : Hideset} (h : NoHash ts) : NoHash (addHideset ts hs) := by
  intro t ht
  simp only [addHideset, List.mem_map] at ht
  obtain ⟨t0, ht0, rfl⟩ := ht
  simpa [isHash] using h t0 ht0

theorem noHash_setOrigin (ts : List Tok) (tok : Tok) : NoHash (setOrigin ts tok) := by
  intro t ht
  simp only [setOrigin, List.mem_map] at ht
  obtain ⟨t0, _, rfl⟩ := ht
  simp [isHash]

theorem mem_setHeadFlags {ts : List Tok} {b s : Bool} {t : Tok} (h : t ∈ setHeadFlags ts b s) :
    ∃ t0 ∈ ts, t = t0 ∨ t = { t0 with atBol := b, hasSpace := s } := by
  cases ts with
  | nil => cases h
  | cons t0 r =>
    rcases List.mem_cons.1 h with rfl | h
    · exact ⟨t0, List.mem_cons_self .., .inr rfl⟩
    · exact ⟨t, List.mem_cons_of_mem _ h, .inl rfl⟩

/-- `append(body, rest)` with the flags of the macro name on its first token; for an empty body nothing is flagged -/
theorem spliceBody_eq (body rest : List Tok) (tok : Tok) :
    spliceBody body rest tok = setHeadFlags body tok.atBol tok.hasSpace ++ rest := by
  cases body <;> rfl

theorem isHash_of_origin {t : Tok} (h : t.origin.isSome) : isHash t = false := by
  cases ho : t.origin with
  | none => simp [ho] at h
  | some o => simp [isHash, ho]

theorem noHash_setHeadFlags_of_origin {ts : List Tok} {b s : Bool} (h : ∀ t ∈ ts, t.origin.isSome) :
    NoHash (setHeadFlags ts b s) := by
  intro t ht
  obtain ⟨t0, h0, hh⟩ := mem_setHeadFlags ht
  rcases hh with rfl | rfl
  · exact isHash_of_origin (h _ h0)
  · exact isHash_of_origin (t := { t0 with atBol := b, hasSpace := s }) (h t0 h0)

theorem noHash_spliceBody {body rest : List Tok} {tok : Tok} (hb : ∀ t ∈ body, t.origin.isSome) (hr : NoHash rest) :
    NoHash (spliceBody body rest tok) := by
  rw [spliceBody_eq]
  intro t ht
  rcases List.mem_append.1 ht with ht | ht
  · exact noHash_setHeadFlags_of_origin hb t ht
  · exact hr t ht

theorem setOrigin_origin (ts : List Tok) (tok : Tok) : ∀ t ∈ setOrigin ts tok, t.origin.isSome := by
  intro t ht
  simp only [setOrigin, List.mem_map] at ht
  obtain ⟨t0, _, rfl⟩ := ht
  simp

theorem repr_ne (n : Nat) {s : String} {c : Char} (hc : c ∈ s.toList) (hd : c.isDigit = false) : n.repr ≠ s := by
  rintro rfl
  rw [Nat.toList_repr] at hc
  have := Nat.isDigit_of_mem_toDigits (by decide) (by decide) hc
  rw [hd] at this; cases this

/-- `quote_string` returns at least the two quotes -/
theorem quoteString_ne_single (s : String) (c : Char) : quoteString s ≠ String.singleton c := by
  intro h
  have := congrArg (fun x => x.toList.length) h
  simp [quoteString, String.toList_ofList] at this

theorem repr_ne_hash (n : Nat) : n.repr ≠ "#" := repr_ne n (c := '#') (by decide) (by decide)

theorem quoteString_ne_hash (s : String) : quoteString s ≠ "#" := quoteString_ne_single s '#'

theorem isHash_runBuiltin (st : St) (b : Builtin) (tok : Tok) : isHash (runBuiltin st b tok).1 = false := by
  cases b <;> simp [runBuiltin, isHash, newNumToken, newStrToken, repr_ne_hash, quoteString_ne_hash]

/-- what the loop of `preprocess2` needs from its pre-expander -/
def PPKeepsDefs (pp : PreExpand) : Prop :=
  ∀ st ts out st', NoHash ts → pp st ts = .ok (out, st') → st'.defs = st.defs

theorem expandMacro_keeps {lx : String → LexOne} {pp : PreExpand} (hpp : PPKeepsDefs pp)
    {st : St} {tok : Tok} {rest ts' : List Tok} {st' : St}
    (hnh : NoHash (tok :: rest))
    (h : expandMacro lx pp st tok rest = .ok (some (ts', st'))) :
    st'.defs = st.defs ∧ NoHash ts' := by
  have hrest : NoHash rest := fun t ht => hnh t (by simp [ht])
  have hkeep : ∀ {s : St} {body : List Tok} {args : List MacroArg} {isObj : Bool} {out : List Tok} {s' : St},
      (∀ a ∈ args, NoHash a.toks) → subst lx pp s body args isObj = .ok (out, s') → s'.defs = s.defs := by
    intro s body args isObj out s' hargs hs
    obtain ⟨_, h, _⟩ := subst_inv lx pp (fun s1 as => s1.defs = s.defs ∧ ∀ a ∈ as, NoHash a.toks)
      (fun s1 as a e s2 hJ ha hp =>
        ⟨(hpp s1 _ e s2 (by rw [addHideset_nil]; exact hJ.2 a ha) hp).trans hJ.1, forall_setExpanded hJ.2 (fun _ _ h => h)⟩)
      ⟨rfl, hargs⟩ hs
    exact h
  revert h
  -- the arms of `expand_macro` as `fun_cases expandMacro` numbers them (the other proofs by these cases refer to this list):
  --   1 the name is painted            2 the token names no macro        3 a built-in
  --   4 / 5 object-like, `subst` ends in a diagnostic / in output        6 function-like, no `(` follows
  --   7 `read_macro_args` ends in a diagnostic   8 / 9 function-like, `subst` ends in a diagnostic / in output
  -- here 3, 5 and 9 are left (the others do not return `some`)
  fun_cases expandMacro lx pp st tok rest <;> intro h <;> cases h
  · -- builtin
    rename_i b _ _ hb
    have h1 : st' = (runBuiltin st b tok).2 := by rw [hb]
    refine ⟨by rw [h1]; cases b <;> rfl, fun t ht => ?_⟩
    rcases List.mem_cons.1 ht with rfl | ht
    · have := isHash_runBuiltin st b tok
      rwa [hb] at this
    · exact hrest t ht
  · -- object-like
    exact ⟨hkeep (args := []) (fun _ ha => nomatch ha) ‹_›, noHash_spliceBody (setOrigin_origin _ _) hrest⟩
  · -- function-like
    rename_i hargs _ _ _ hs
    obtain ⟨hmem, hrestmem, _⟩ := readMacroArgs_mem hargs
    have hdrop : ∀ t ∈ rest.drop 1, t ∈ rest := fun t ht => List.mem_of_mem_drop ht
    have hd := hkeep (fun a ha t ht => hrest t (hdrop t (hmem a ha t ht))) hs
    exact ⟨hd, noHash_spliceBody (setOrigin_origin _ _) fun t ht => hrest t (hdrop t (hrestmem t ht))⟩

theorem preprocess2_keeps (lx : String → LexOne) (n : Nat) : PPKeepsDefs (fun st ts => preprocess2 lx n st ts) := by
  intro st ts out st' hnh h
  dsimp only at h
  fun_induction preprocess2 lx n st ts generalizing out st'
  · cases h; rfl
  · cases h
  · cases h
  · rename_i hexp ihpp ih
    obtain ⟨hd, hn⟩ := expandMacro_keeps ihpp hnh hexp
    exact (ih _ _ hn h).trans hd
  · rename_i ih
    obtain ⟨v, hv, heq⟩ := Except.map_eq_ok h
    cases heq
    exact ih _ _ (fun t ht => hnh t (List.mem_cons_of_mem _ ht)) hv
  · cases h
  · have hh := ‹¬(!isHash _) = true›
    rw [hnh _ (List.mem_cons_self ..)] at hh
    exact absurd rfl hh

theorem expandMacro_none {lx : String → LexOne} {pp : PreExpand} {st : St} {tok : Tok} {rest : List Tok}
    (h : expandMacro lx pp st tok rest = .ok none) :
    hidesetContains tok.hide tok.text = true ∨ findMacro st.defs tok = none ∨
      (∃ ps va b, findMacro st.defs tok = some (.fn ps va b) ∧ textIs rest.head? "(" = false) := by
  revert h
  -- numbering of the cases: see `expandMacro_keeps`
  fun_cases expandMacro lx pp st tok rest <;> intro h
  case case1 => exact Or.inl ‹_›
  case case2 => exact Or.inr (Or.inl ‹_›)
  case case6 => exact Or.inr (Or.inr ⟨_, _, _, ‹_›, by simpa using ‹(!textIs rest.head? "(") = true›⟩)
  all_goals cases h

theorem mem_setOrigin_addHideset {out : List Tok} {hs : Hideset} {tok t : Tok}
    (h : t ∈ setOrigin (addHideset out hs) tok) : ∃ t0 : Tok, t.hide = hidesetUnion t0.hide hs := by
  simp only [setOrigin, addHideset, List.mem_map] at h
  obtain ⟨t1, ⟨t0, _, rfl⟩, rfl⟩ := h
  exact ⟨t0, rfl⟩

theorem spliceBody_shape (out : List Tok) (hs : Hideset) (tok : Tok) (rest : List Tok) :
    ∃ new, spliceBody (setOrigin (addHideset out hs) tok) rest tok = new ++ rest ∧ new.length = out.length ∧
      ∀ t ∈ new, ∀ x, hidesetContains hs x = true → hidesetContains t.hide x = true := by
  refine ⟨_, spliceBody_eq _ _ _, by simp [length_setHeadFlags, setOrigin, addHideset], fun t ht x hx => ?_⟩
  obtain ⟨t1, h1, hh⟩ := mem_setHeadFlags ht
  obtain ⟨t0, h0⟩ := mem_setOrigin_addHideset h1
  have : t.hide = t1.hide := by rcases hh with rfl | rfl <;> rfl
  rw [this, h0, hidesetContains_union, hx, Bool.or_true]

theorem expandMacro_paints {lx : String → LexOne} {pp : PreExpand} {st : St} {tok : Tok} {rest ts' : List Tok} {st' : St}
    (h : expandMacro lx pp st tok rest = .ok (some (ts', st'))) :
    (∃ b, findMacro st.defs tok = some (.builtin b) ∧ ts' = (runBuiltin st b tok).1 :: rest) ∨
    (∃ new k, ts' = new ++ rest.drop k ∧ ∀ t ∈ new, hidesetContains t.hide tok.text = true) := by
  have hself : ∀ hs0 : Hideset, hidesetContains (hidesetUnion hs0 [tok.text]) tok.text = true := fun hs0 => by
    rw [hidesetContains_union]; simp [hidesetContains]
  revert h
  -- cases 3, 5 and 9 of the list at `expandMacro_keeps` are left
  fun_cases expandMacro lx pp st tok rest <;> intro h <;> cases h
  · rename_i hb
    exact Or.inl ⟨_, ‹_›, by rw [hb]⟩
  · obtain ⟨new, hnew, _, hp⟩ := spliceBody_shape ‹List Tok› (hidesetUnion tok.hide [tok.text]) tok rest
    exact Or.inr ⟨new, 0, hnew, fun t ht => hp t ht _ (hself _)⟩
  · rename_i rparen rest' hargs _ _ body _
    obtain ⟨new, hnew, _, hp⟩ := spliceBody_shape body (hidesetUnion (hidesetIntersection tok.hide rparen.hide) [tok.text]) tok rest'
    obtain ⟨_, _, _, _, _, l, hl, _⟩ := (readMacroArgs_spec _ _ _).of_ok hargs
    refine Or.inr ⟨new, 1 + (l.length + 1), ?_, fun t ht => hp t ht _ (hself _)⟩
    rw [hnew, ← List.drop_drop, hl]
    simp

end ChibiVerif.PP
