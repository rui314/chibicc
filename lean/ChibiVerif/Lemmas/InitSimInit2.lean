/-
C05, parser = specification: the simulation step for `designation` and `initializer2`, and the induction.
-/
import ChibiVerif.Lemmas.InitSimRange

namespace ChibiVerif.InitSpec
open ChibiVerif.Init
open Except (Ends)

variable {f : Nat} {root : Ty} {top : Bool} {obj : Init} {p : List Nat} {ty : Ty} {c c' : Init} {toks toks' : List ITok}

/-- `[a]` / `[a ... b]` in `designation`: the loop over the designated elements, then `array_initializer2` behind the last -/
theorem sim_desg_bracket (ih : Sim f) {elem : Ty} {len : Nat} {cs : List Init} (hA : At root top obj p (.array elem len) (.arr cs))
    {tok tok2 : List ITok} {b e : Nat} {c1 : Init} (had : arrayDesignator cs.length toks = .ok (b, e, tok))
    (hfold : rangeLoop f elem tok (List.range' b (e + 1 - b)) cs = .ok (c1, tok2))
    (h : arrayInit2 f elem tok2 c1 (e + 1) = .ok (c', toks')) :
    shaped (.array elem len) c' = true ∧ ∀ g d fl, ∃ g',
      Imp (afterDesg g root top obj fl (desigPaths root top d [p] toks)) (After root top obj p c' toks' fl g') := by
  obtain ⟨hs1, himp1⟩ := sim_bracket ih hA had hfold
  obtain ⟨hs', himp2⟩ := ih.arr2 (hA.set hs1) (Nat.succ_pos e) h
  refine ⟨hs', fun g d fl => ?_⟩
  cases d with
  | zero => exact ⟨0, Imp.of_error rfl⟩
  | succ d =>
    obtain ⟨g1, h1⟩ := himp1 g d fl
    obtain ⟨g2, h2⟩ := himp2 (setAtM_over hA c1 c1) g1 fl
    refine ⟨g2, h1.trans ?_⟩
    simp only [After] at h2 ⊢
    rwa [setAtM_over hA] at h2

theorem sim_desg (ih : Sim f) : DesgSt (f+1) := by
  intro root top obj p ty c toks c' toks' hA h
  -- no designator: the optional `=` and the initializer
  have plain : ∀ {r}, (∀ d ps, desigPaths root top (d+1) ps toks = .ok (ps, r)) →
      Yields (initializer2 f ty r c) fun b => b = (c', toks') → shaped ty c' = true ∧ ∀ g d fl, ∃ g',
        Imp (afterDesg g root top obj fl (desigPaths root top d [p] toks)) (After root top obj p c' toks' fl g') := by
    intro r hdp
    refine Yields.last fun h => ?_
    obtain ⟨hs', himp⟩ := ih.init2 hA h
    refine ⟨hs', fun g d fl => ?_⟩
    cases d with
    | zero => exact ⟨0, Imp.of_error rfl⟩
    | succ d =>
      obtain ⟨g', h'⟩ := himp g fl
      exact ⟨g', by rw [hdp]; exact h'⟩
  refine Yields.use h ?_
  unfold designation
  split
  case h_1 | h_2 =>
    cases ty with
    | scalar | struct | union => exact Ends.error trivial
    | inc => have := hA.ok; simp [subOk] at this
    | array elem len =>
      obtain ⟨cs, rfl, _, _⟩ := arr_of_shaped hA.shapedc
      simp only [Ty.elem?, Init.children]
      refine Yields.step fun ⟨b, e, tok⟩ had =>
        Yields.step fun ⟨c1, tok2⟩ hfold =>
        Yields.last fun h2 => ?_
      exact sim_desg_bracket ih hA had hfold h2
  · -- `.name`
    rename_i name r
    cases ty with
    | scalar | array | inc => exact Ends.error trivial
    | struct ms sz fl0 =>
      obtain ⟨e, cs, rfl, hms⟩ := struct_of_shaped hA.shapedc
      refine Yields.step fun ⟨k, anon⟩ hsd =>
        Yields.via memTy_ok fun mty ⟨mi, hm⟩ =>
        Yields.via getChild_ok fun ck hk => ?_
      have hAk := hA.child (childTy_struct hm) hk
      refine Yields.via (ih.desg hAk) fun r1 ⟨hsk, himp1⟩ => Yields.last fun h2 => ?_
      obtain ⟨e1, hA1, hM1⟩ := hA.set_child (childTy_struct hm) hk hsk
      have e2 : setAtM (Init.struct e cs) [k] r1.1 = ((Init.struct e cs).setChild k r1.1).setExpr none := by
        simp [setAtM, Init.setChild, Init.withChildren, Init.children, Init.setExpr]
      rw [e2] at hA1 hM1 e1
      obtain ⟨hs', himp2⟩ := ih.struct2 hA1 h2
      refine ⟨hs', fun g d fl => ?_⟩
      cases d with
      | zero => exact ⟨0, Imp.of_error rfl⟩
      | succ d =>
        rw [(desigPaths_member r hA.sub (by rw [findMember]) rfl hAk.sub hsd hm).1]
        obtain ⟨g1, h1⟩ := himp1 g (d + anon.toNat) fl
        obtain ⟨g2, h2⟩ := himp2 hM1 (by simp [Init.setExpr, Init.setChild, Init.withChildren, hasAggExpr]) g1 fl
        exact ⟨g2, hA.seq e1 h1 h2⟩
    | union ms sz fl0 =>
      obtain ⟨e, m, cs, rfl, hms⟩ := union_of_shaped hA.shapedc
      refine Yields.step fun ⟨k, anon⟩ hsd =>
        Yields.via memTy_ok fun mty ⟨mi, hm⟩ =>
        Yields.via getChild_ok fun ck hk => ?_
      replace hk : (Init.union e m cs).children[k]? = some ck := by simpa [Init.setMem, Init.children] using hk
      have hAk := hA.child (childTy_union hm) hk
      refine Yields.via (ih.desg hAk) fun r1 ⟨hsk, himp1⟩ => Ends.pure ?_
      rintro ⟨⟩
      refine ⟨shaped_setMem_union (sz := sz) (fl0 := fl0) (e := e) (m := m) hms hm hsk, fun g d fl => ?_⟩
      cases d with
      | zero => exact ⟨0, Imp.of_error rfl⟩
      | succ d =>
        obtain ⟨hdp1, s, hdps⟩ := desigPaths_member (top := top) r hA.sub (by rw [findMember]) rfl hAk.sub hsd hm
        cases e with
        | some e0 =>
          refine ⟨0, fun res hres hcl => ?_⟩
          rw [hdps] at hres
          rw [afterDesg_xover_dirty hA.get rfl hres] at hcl
          cases hcl
        | none =>
          obtain ⟨e1, _, _⟩ := hA.set_child (childTy_union hm) hk hsk
          rw [setAtM_one_union] at e1
          obtain ⟨g1, h1⟩ := himp1 g (d + anon.toNat) fl
          refine ⟨g1, ?_⟩
          rw [hdp1]
          rw [After]
          rwa [After_child, cursorIn_union hA.sub, e1] at h1
  · -- `= initializer`
    exact plain fun d ps => desigPaths_eq _ _ _ _ _
  · -- no (further) designator
    rename_i hn1 hn2 hn3 hn4
    have hnd : isDesg toks = false := by
      cases toks with
      | nil => rfl
      | cons t r =>
        cases t <;> first | rfl | exact absurd rfl (hn1 _ _) | exact absurd rfl (hn2 _ _ _) | exact absurd rfl (hn3 _ _)
    exact plain fun d ps => desigPaths_plain _ _ _ _ _ hnd (fun r hr => hn4 r hr)

theorem startsBrace_eq (h : startsBrace toks = true) : ∃ inner, toks = .lbrace :: inner := by
  unfold startsBrace at h
  split at h
  · exact ⟨_, rfl⟩
  · cases h

/-- an initializer without braces: either it initialises the subobject at `p` as a whole (`init2_whole_tok`), or the braces of
    the aggregate at `p` are elided -/
theorem sim_init2_tok (ih : Sim f) (hA : At root top obj p ty c) (hb : ∀ inner, toks ≠ .lbrace :: inner)
    (h : initializer2 (f+1) ty toks c = .ok (c', toks')) :
    shaped ty c' = true ∧ ∀ g fl, ∃ g', Imp (initItem g root top obj [p] toks fl) (After root top obj p c' toks' fl g') := by
  by_cases hst : ∃ tok r, toks = tok :: r ∧ stopsAt ty tok = true
  · obtain ⟨tok, r, rfl, hst⟩ := hst
    have hb' : tok ≠ .lbrace := fun e => hb r (by rw [e])
    obtain ⟨rfl, hs', hsto⟩ := init2_whole_tok hA.ok hA.shapedc hb' hst h
    exact ⟨hs', init2_stop hA hb' hst (hsto root top p hA.ng)⟩
  · have hel : Elides ty toks := fun tok r e =>
      ⟨fun e' => hb r (by rw [e, e']), Bool.eq_false_iff.mpr fun hs => hst ⟨tok, r, e, hs⟩⟩
    refine Yields.use h ?_
    cases ty with
    | inc => have := hA.ok; simp [subOk] at this
    | array elem len =>
      unfold initializer2
      simp only
      split
      · refine Ends.ite (fun hint => Yields.last fun h => ?_) fun _ => Yields.last (ih.arr20 hA hel)
        obtain ⟨cs, rfl, hlen, hall⟩ := arr_of_shaped hA.shapedc
        obtain ⟨_, _, hsz⟩ := stringInitializer_shape hlen hall hint h
        have := (hel _ _ rfl).2
        simp [stopsAt, strFits, hint, hsz] at this
      · exact absurd rfl (hb _)
      · exact Yields.last (ih.arr20 hA hel)
    | struct ms sz fl0 =>
      unfold initializer2
      simp only
      refine Ends.ite (fun hsb => ?_) fun _ => Yields.via parseAssign_ok fun ⟨ex, rest⟩ ⟨tok, htoks, hte, hbr, hstart, hkind⟩ => ?_
      · obtain ⟨inner, rfl⟩ := startsBrace_eq hsb
        exact absurd rfl (hb _)
      · subst htoks
        have hns := (hel _ _ rfl).2
        refine Ends.ite (fun hisS => ?_) fun _ => Yields.last (ih.struct20 hA hbr hstart hns fun j hj => by omega)
        rcases hkind with ⟨e', rfl, rfl⟩ | ⟨_, hn, _⟩
        · simp only [stopsAt] at hns; rw [hns] at hisS; cases hisS
        · rw [hn] at hisS; cases hisS
    | union ms sz fl0 =>
      unfold initializer2
      simp only
      refine Ends.ite (fun hsb => ?_) fun _ => Yields.via parseAssign_ok fun ⟨ex, rest⟩ ⟨tok, htoks, hte, hbr, hstart, hkind⟩ => ?_
      · obtain ⟨inner, rfl⟩ := startsBrace_eq hsb
        exact absurd rfl (hb _)
      · subst htoks
        have hns := (hel _ _ rfl).2
        refine Ends.ite (fun hisU => ?_) fun _ => Yields.last (ih.union0 hA hbr hstart hns)
        rcases hkind with ⟨e', rfl, rfl⟩ | ⟨_, _, hn⟩
        · simp only [stopsAt] at hns; rw [hns] at hisU; cases hisU
        · rw [hn] at hisU; cases hisU
    | scalar sz k =>
      unfold initializer2
      simp only
      refine Yields.via parseAssign_ok fun _ ⟨tok, htoks, _⟩ => ?_
      have := (hel _ _ htoks).2
      simp [stopsAt] at this

theorem sim_init2 (ih : Sim f) : Init2St (f+1) := by
  intro root top obj p ty c toks c' toks' hA h
  by_cases hb : ∃ inner, toks = .lbrace :: inner
  · obtain ⟨inner, rfl⟩ := hb
    cases hbl : bracedLit ty inner with
    | none =>
      obtain ⟨hs', hbs⟩ := braceSim_step ih hA.ok hA.shapedc hbl h
      exact ⟨hs', init2_brace hA hbl hbs⟩
    | some tr =>
      -- p14/p15: a string literal in braces: the literal alone
      obtain ⟨tok, r⟩ := tr
      rw [init2_bracedLit_eq c hbl] at h
      obtain ⟨hs', himp⟩ := sim_init2_tok ih hA (fun _ e => (bracedLit_stops hbl).2 (by cases e; rfl)) h
      refine ⟨hs', fun g fl => ?_⟩
      rw [initItem_bracedLit _ _ _ _ _ _ _ _ hA.sub hA.ng hbl]
      exact himp g fl
  · exact sim_init2_tok ih hA (fun inner e => hb ⟨inner, e⟩) h

theorem sim_succ (f : Nat) (ih : Sim f) : Sim (f+1) where
  init2 := sim_init2 ih
  desg := sim_desg ih
  arr2loop := sim_arr2loop ih
  arr2loop0 := sim_arr2loop0 ih
  arr2 := sim_arr2 ih
  arr20 := sim_arr20 ih
  struct2 := sim_struct2 ih
  struct20 := sim_struct20 ih
  union0 := sim_union0 ih
  arr1loop := sim_arr1loop ih
  arr1 := sim_arr1 ih
  struct1loop := sim_struct1loop ih
  struct1 := sim_struct1 ih
  union1 := sim_union1 ih
  unionrest := sim_unionrest ih

theorem sim_all : ∀ f, Sim f
  | 0 => sim_zero
  | f+1 => sim_succ f (sim_all f)

end ChibiVerif.InitSpec
