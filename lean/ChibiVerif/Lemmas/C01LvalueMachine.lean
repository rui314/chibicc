/-
C01: reading, assigning and compound-assigning an object through code that computes its address (`EvG.loadL`, `EvG.assignL`,
`EvG.assign_tmp`) — for a variable the address code is `lea off(%rbp), %rax` (`EvG.lea`), for other lvalues `gen_addr`
(`addr_ev`, Lemmas/C01Lvalue.lean).

The store may hold absolute addresses of the frame (a pointer variable pointing at another variable), so these judgments
are stated for machine states whose `%rbp` is a fixed `bp0` (`AtBp bp0`); a judgment that holds at every `bp0` holds under
any restriction of `%rbp` (`EvG.of_atBp`).

`A op= B` is `tmp = &A, *tmp = *tmp op B` (parse.c `to_assign`).  Once the hidden temporary holds the address
(`tmp_assignL`), the rest is an ordinary assignment through the address code `lea tmp; mov (%rax), %rax` (`EvG.assign_tmp`) of an
ordinary binary node whose left operand is loaded through the same code (`EvG.load_tmp`) — in the frame `Φ.withTmp kt ap`, which
knows what the temporary holds (`EvG.via_tmp`); the operand `B`, which knows nothing of the temporary, is carried into that frame
by `EvG.lift_tmp`.  The node itself is built by whoever knows the operator: `EvG.bin_arith` / `EvG.bin_shift` for `op=`
(`EvG.compoundL`, Lemmas/C01EffectsValue.lean), `EvG.ptradd` for pointer `+=` (`EvG.ptr_opassign`, Lemmas/C01PointerAssign.lean).
-/
import ChibiVerif.Lemmas.C01JumpMachine
import ChibiVerif.Model.C01Lvalue

namespace ChibiVerif.C01
open ChibiVerif.X86 ChibiVerif.Asm ChibiVerif.Spec.IntSpec ChibiVerif.Gen.CommonType ChibiVerif.C01Codegen ChibiVerif.X86J

/-- the machine states whose frame pointer is `bp0` -/
def AtBp (bp0 : BitVec 64) : BitVec 64 → Prop := fun b => b = bp0

section
variable {Φ : Frame} {P : BitVec 64 → Prop} {bp0 : BitVec 64}

theorem EvG.of_atBp {c : List JI} {σ σ' : Env} {R : BitVec 64 → Prop} {W : List Nat} {k0 k1 d : Nat}
    (h : ∀ bp0, EvG Φ (AtBp bp0) c σ σ' R W k0 k1 d) : EvG Φ P c σ σ' R W k0 k1 d :=
  ⟨(h 0).1, fun m n B _ hI hd hsp hB => (h (m.get .rbp)).2 m n B rfl hI hd hsp hB⟩

/-- `lea off(%rbp), %rax`: the address of variable `i` (also of an array or a struct placed there) -/
theorem EvG.lea (σ : Env) (d : Int) (k : Nat) : EvG Φ (AtBp bp0) (J [iLea d]) σ σ (fun r => r = addrOf bp0 d) [] k k 0 := by
  refine ⟨rfl, fun m n B hP hI _ _ _ => ?_⟩
  have hs : Same m (m.set .rax (m.ea d .rbp)) := same_set _ _ _ rfl
  refine ⟨_, JRun.ins (X86.run_cons_some (lea_step _ _) rfl), ?_, Φ.same hI hs, hs.unch _ _ _⟩
  rw [State.get_set_same, ea_rbp, hP]

/-- **the value of an lvalue that designates variable `i`**: `gen_addr; load` -/
theorem EvG.loadL {ca : List JI} {σ σ0 : Env} {W : List Nat} {k0 k1 d i : Nat} {t : ITy} {v : Int}
    (ha : EvG Φ (AtBp bp0) ca σ σ0 (fun r => r = addrOf bp0 (Φ.off i)) W k0 k1 d)
    (hti : σ0.tys[i]? = some t) (hv : σ0.vals[i]? = some v) :
    EvG Φ (AtBp bp0) (loadCodeL ca t) σ σ0 (fun r => Represents t r v) W k0 k1 d := by
  refine ⟨ha.1, fun m n B hP hI hd hsp hB => ?_⟩
  obtain ⟨m1, r1, p1, I1, u1⟩ := ha.2 m n B hP hI hd hsp hB
  have hm := Φ.load I1 hti hv
  rw [show m1.get .rbp = bp0 by rw [u1.rbp]; exact hP, ← p1] at hm
  obtain ⟨m2, r2, p2, _⟩ := load_ok t m1 v hm
  have s2 := run_safe _ _ _ (loadSeq_safe t) r2
  exact ⟨m2, JRun.append r1 (JRun.ins r2), p2, Φ.same I1 s2, u1.trans (s2.unch _ _ _)⟩

/-- **`lv = e`** for an lvalue that designates variable `i`: the address (with the side effects of its index expression),
    `push`, the converted value (with its side effects), `pop %rdi; mov` -/
theorem EvG.assignL {ca c : List JI} {σ σ0 σ1 : Env} {Wa W : List Nat} {k0 k1 ka0 ka1 kc0 kc1 da d i : Nat} {ti : ITy} {v' : Int}
    (hti : σ.tys[i]? = some ti) (hs : Φ.sepv i)
    (ha : EvG Φ (AtBp bp0) ca σ σ0 (fun r => r = addrOf bp0 (Φ.off i)) Wa ka0 ka1 da)
    (he : EvG Φ (AtBp bp0) c σ0 σ1 (fun r => Represents ti r v') W kc0 kc1 d)
    (hk : k0 ≤ ka0 ∧ ka1 ≤ k1 ∧ k0 ≤ kc0 ∧ kc1 ≤ k1) (hW : ∀ j, j ∈ W → Φ.sepv j) (hK : k1 ≤ Φ.K) :
    EvG Φ (AtBp bp0) (ca ++ (JI.ins iPush :: (c ++ J (storeSeq ti)))) σ (σ1.set i v')
      (fun r => Represents ti r v') (Wa ++ (i :: W)) k0 k1 (max da (d + 1)) := by
  refine ⟨he.1.trans ha.1, fun m n B hP hI hd hsp hB => ?_⟩
  obtain ⟨n', rfl⟩ : ∃ n', n = n' + 1 := ⟨n - 1, by omega⟩
  have hbp : m.get .rbp = bp0 := hP
  obtain ⟨m1, r1, p1, I1, u1⟩ := ha.2 m (n' + 1) B hP hI (by omega) hsp hB
  obtain ⟨m3, r3, p3, I3, sp3, bp3, top3, mem3⟩ := he.under_push hW (by omega) m1 n' B (by rw [u1.rbp]; exact hP) I1 (by omega)
    (by rw [u1.rsp]; exact hsp) (by rw [u1.rsp]; exact hB)
  have hlo := Φ.var_lo hI hs hti
  rw [hbp] at hlo
  obtain ⟨m4, r4, hm4, ax4, sp4, bp4, mem4⟩ := store_run ti m3 _ v' (by rw [sp3, top3, p1]) p3 hlo.2
  have hea : addrOf (m3.get .rbp) (Φ.off i) = addrOf bp0 (Φ.off i) := by rw [bp3, u1.rbp, hbp]
  refine ⟨m4, JRun.append r1 (JRun.append r3 (JRun.ins r4)), by rw [ax4]; exact p3,
    Φ.set I3 hs (by rw [he.1, ha.1]; exact hti) bp4 (by rw [hea]; exact hm4) (fun x _ hx => mem4 x (by rw [hea] at hx; exact hx)),
    by rw [sp4, sp3, u1.rsp, BitVec.sub_add_cancel], by rw [bp4, bp3, u1.rbp], ?_⟩
  intro x hx hv ht
  have hnot : x.toNat < (addrOf bp0 (Φ.off i)).toNat ∨ (addrOf bp0 (Φ.off i)).toNat + ti.size ≤ x.toNat := by
    by_cases h1 : x.toNat < (addrOf bp0 (Φ.off i)).toNat
    · exact Or.inl h1
    · by_cases h2 : (addrOf bp0 (Φ.off i)).toNat + ti.size ≤ x.toNat
      · exact Or.inr h2
      · exact absurd ⟨i, ti, by simp, hti, by rw [hbp]; omega, by rw [hbp]; omega⟩ hv
  rw [mem4 x hnot]
  rw [mem3 x (by rw [u1.rsp]; exact hx)
    (by rw [ha.1, u1.rbp]; exact fun hh => hv (inVar_mono hh (fun j hj => by simp [hj])))
    (by rw [u1.rbp]; exact fun hh => ht (inTmp_mono hh hk.2.2.1 hk.2.2.2))]
  exact u1.mem x hx (fun hh => hv (inVar_mono hh (fun j hj => by simp [hj])))
    (fun hh => ht (inTmp_mono hh hk.1 hk.2.1))

end

/-! ### a frame that knows what a temporary holds -/

/-- the frame `Φ` with "temporary `kt` holds `ap`" added; the temporaries below `kt` remain usable -/
def Frame.withTmp (Φ : Frame) (kt : Nat) (hkt : kt < Φ.K) (ap : BitVec 64) : Frame where
  off := Φ.off
  toff := Φ.toff
  K := kt
  inv σ B m := Φ.inv σ B m ∧ m.read64 (addrOf (m.get .rbp) (Φ.toff kt)) = ap
  sepv := Φ.sepv
  keep h hbp hm := ⟨Φ.keep h.1 hbp hm, by
    have hT := Φ.tmp_lo h.1 hkt
    rw [hbp, ← h.2]; exact read64_keep hT.2 (fun x h1 _ => hm x (by omega))⟩
  load h := Φ.load h.1
  var_lo h := Φ.var_lo h.1
  tmp_lo h hk := Φ.tmp_lo h.1 (Nat.lt_trans hk hkt)
  set h hs hti hbp hm hmem := ⟨Φ.set h.1 hs hti hbp hm hmem, by
    have hT := Φ.tmp_lo h.1 hkt
    have := Φ.var_tmp h.1 hs hti hkt
    unfold sep at this
    rw [hbp, ← h.2]; exact read64_keep hT.2 (fun x h1 h2 => hmem x (by omega) (by omega))⟩
  set_tmp h hk hbp hmem := ⟨Φ.set_tmp h.1 (Nat.lt_trans hk hkt) hbp hmem, by
    have hT := Φ.tmp_lo h.1 hkt
    have := Φ.tmp_tmp h.1 (Nat.lt_trans hk hkt) hkt (Nat.ne_of_lt hk)
    unfold sep at this
    rw [hbp, ← h.2]; exact read64_keep hT.2 (fun x h1 h2 => hmem x (by omega) (by omega))⟩
  var_tmp h hs ht hk := Φ.var_tmp h.1 hs ht (Nat.lt_trans hk hkt)
  tmp_tmp h hk hl := Φ.tmp_tmp h.1 (Nat.lt_trans hk hkt) (Nat.lt_trans hl hkt)

/-- "displacement suffix": a suffix of the access path through the temporary (`add $offset, %rax` for a member, nothing
    otherwise): adds `dd` to `%rax` and touches nothing else but registers and flags -/
def DS (dsuf : List Ins) (dd : Int) : Prop :=
  ∀ s : State, ∃ s', X86.run dsuf s = some s' ∧ s'.get .rax = s.get .rax + BitVec.ofInt 64 dd ∧ Same s s'

theorem DS.nil : DS [] 0 := fun s => ⟨s, rfl, by simp, Same.refl s⟩

/-- `lea tmp(%rbp), %rax; mov (%rax), %rax; <dsuf>`: the pointer kept in the temporary, plus the member offset -/
theorem via_load {dsuf : List Ins} {dd : Int} (hds : DS dsuf dd) (s : State) (d : Int) :
    ∃ s', X86.run (iLea d :: loadSeq .u64 ++ dsuf) s = some s' ∧
      s'.get .rax = s.read64 (addrOf (s.get .rbp) d) + BitVec.ofInt 64 dd ∧ Same s s' := by
  obtain ⟨s1, r1, a1, sm1⟩ := tmp_load s d
  obtain ⟨s2, r2, a2, sm2⟩ := hds s1
  exact ⟨s2, X86.run_append_some r1 r2, by rw [a2, a1], sm1.trans sm2⟩

section
variable {Φ : Frame} {P : BitVec 64 → Prop} {bp0 : BitVec 64}

/-- **the frame rule for a temporary**: code that uses only temporaries below `kt` does not disturb what `kt` holds -/
theorem EvG.lift_tmp {c : List JI} {σ σ' : Env} {R : BitVec 64 → Prop} {W : List Nat} {k0 k1 d kt : Nat} (hkt : kt < Φ.K)
    (ap : BitVec 64) (h : EvG Φ P c σ σ' R W k0 k1 d) (hW : ∀ i, i ∈ W → Φ.sepv i) (hk : k1 ≤ kt) :
    EvG (Φ.withTmp kt hkt ap) P c σ σ' R W k0 k1 d := by
  refine ⟨h.1, fun m n B hP hI hd hsp hB => ?_⟩
  obtain ⟨m', r, p, I', u⟩ := h.2 m n B hP hI.1 hd hsp hB
  refine ⟨m', r, p, ⟨I', ?_⟩, u⟩
  have hT := Φ.tmp_lo hI.1 hkt
  rw [u.rbp, ← hI.2]
  refine read64_keep hT.2 (fun x h1 h2 => u.mem x (by omega) ?_ ?_)
  · rintro ⟨j, tj, hj, htj, hj1, hj2⟩
    have := Φ.var_tmp hI.1 (hW j hj) htj hkt
    unfold sep at this; omega
  · rintro ⟨k, _, hk', hj1, hj2⟩
    have := Φ.tmp_tmp hI.1 (show k < Φ.K by omega) hkt (by omega)
    unfold sep at this; omega

/-- `lea tmp(%rbp), %rax; mov (%rax), %rax; <dsuf>` in a frame that knows the temporary: the pointer it holds, plus the
    member offset -/
theorem EvG.via_tmp {dsuf : List Ins} {dd : Int} (hds : DS dsuf dd) {kt : Nat} (hkt : kt < Φ.K) (ap : BitVec 64) (σ : Env) (k : Nat) :
    EvG (Φ.withTmp kt hkt ap) P (J (viaTmp (Φ.toff kt) dsuf)) σ σ (fun r => r = ap + BitVec.ofInt 64 dd) [] k k 0 := by
  refine ⟨rfl, fun m n B _ hI _ _ _ => ?_⟩
  obtain ⟨s', r, ax, sm⟩ := via_load hds m (Φ.toff kt)
  exact ⟨s', JRun.ins r, by rw [ax]; exact congrArg (· + _) hI.2, (Φ.withTmp kt hkt ap).same hI sm, sm.unch _ _ _⟩

/-- `tmp = &A`: `lea tmp; push; gen_addr(A); pop %rdi; mov %rax, (%rdi)` — afterwards the frame knows that the hidden temporary
    `kt` holds the address: the state is in the frame `Φ.withTmp kt ap`, which is why this is not stated as an `EvG` (one frame
    before and after) -/
theorem tmp_assignL {cp : List JI} {σ σ0 : Env} {W : List Nat} {k0 k1 kt d : Nat} {ap : BitVec 64}
    (hp : EvG Φ (AtBp bp0) cp σ σ0 (fun r => r = ap) W k0 k1 d) (hW : ∀ j, j ∈ W → Φ.sepv j) (hk : k1 ≤ kt) (hkt : kt < Φ.K)
    (m : State) (n' B : Nat) (hP : m.get .rbp = bp0) (hI : Φ.inv σ B m) (hd : d ≤ n')
    (hsp : 8 * (n' + 1) ≤ (m.get .rsp).toNat) (hB : (m.get .rsp).toNat ≤ B) :
    ∃ m', JRun (J [iLea (Φ.toff kt), iPush] ++ (cp ++ J (storeSeq .u64))) m m' ∧
      (Φ.withTmp kt hkt ap).inv σ0 B m' ∧ m'.get .rsp = m.get .rsp ∧ m'.get .rbp = m.get .rbp ∧
      (∀ x : BitVec 64, (m.get .rsp).toNat ≤ x.toNat → ¬ inVar σ.tys Φ.off (m.get .rbp) W x → ¬ inTmp Φ.toff (m.get .rbp) k0 k1 x →
        (x.toNat < (addrOf (m.get .rbp) (Φ.toff kt)).toNat ∨ (addrOf (m.get .rbp) (Φ.toff kt)).toNat + 8 ≤ x.toNat) →
        m'.mem x = m.mem x) := by
  have hT := Φ.tmp_lo hI hkt
  have sa : Same m (m.set .rax (m.ea (Φ.toff kt) .rbp)) := same_set _ _ _ rfl
  obtain ⟨m3, r3, p3, I3, sp3, bp3, top3, mem3⟩ := hp.under_push hW (by omega) _ n' B (by rw [sa.rbp]; exact hP)
    (Φ.same hI sa) hd (by rw [sa.rsp]; exact hsp) (by rw [sa.rsp]; exact hB)
  rw [sa.rsp] at sp3 top3 mem3
  rw [sa.rbp] at bp3 mem3
  rw [State.get_set_same] at top3
  obtain ⟨m4, r4, hm4, _, sp4, bp4, mem4⟩ :=
    store_run .u64 m3 (m.ea (Φ.toff kt) .rbp) _ (by rw [sp3]; exact top3) (by rw [p3]; exact rep_u64_ptr ap) (by rw [ea_rbp]; exact hT.2)
  refine ⟨m4, ?_, ⟨?_, ?_⟩, ?_, ?_, ?_⟩
  · show JRun (JI.ins (iLea (Φ.toff kt)) :: ((JI.ins iPush :: cp) ++ J (storeSeq .u64))) m m4
    exact JRun.cons_ins (lea_step _ _) (JRun.append r3 (JRun.ins r4))
  · exact Φ.set_tmp I3 hkt bp4 (fun x _ hout => mem4 x (by rw [ea_rbp, ← bp3]; simpa [ITy.size] using hout))
  · have h2 := hm4.2
    simp only at h2
    rw [bp4, bp3, ← ea_rbp]
    apply BitVec.eq_of_toNat_eq
    have := ap.isLt
    omega
  · rw [sp4, sp3, BitVec.sub_add_cancel]
  · rw [bp4, bp3]
  · intro x hx hv ht hout
    rw [mem4 x (by rw [ea_rbp]; simpa [ITy.size] using hout), mem3 x hx hv ht]
    exact congrFun sa.mem x

/-- the object `i` read through the hidden temporary: the left operand of the node of `op=` -/
theorem EvG.load_tmp {dsuf : List Ins} {dd : Int} {kt i : Nat} {ti : ITy} {x : Int} {ap : BitVec 64} {σ : Env}
    (hds : DS dsuf dd) (hkt : kt < Φ.K) (hap : ap + BitVec.ofInt 64 dd = addrOf bp0 (Φ.off i))
    (hti : σ.tys[i]? = some ti) (hx : σ.vals[i]? = some x) (k : Nat) :
    EvG (Φ.withTmp kt hkt ap) (AtBp bp0) (loadCodeL (J (viaTmp (Φ.toff kt) dsuf)) ti) σ σ (fun r => Represents ti r x) [] k k 0 :=
  EvG.loadL ((EvG.via_tmp hds hkt ap σ k).post (R2 := fun r => r = addrOf bp0 ((Φ.withTmp kt hkt ap).off i))
    (fun r h => by rw [h]; exact hap)) hti hx

/-- **`tmp = &A, *tmp = V`** resp. `tmp = &P, (*tmp).x = V` for an lvalue that designates variable `i`: the hidden temporary `kt`
    receives the address (`tmp_assignL`), then `V` — ANY code judged in the frame that knows what the temporary holds — is assigned
    through it (`EvG.assignL`).  For `op=`, `V` is an ordinary binary node whose left operand is `EvG.load_tmp` and whose right
    operand is carried into that frame by `EvG.lift_tmp` -/
theorem EvG.assign_tmp {cp cV : List JI} {dsuf : List Ins} {σ σ0 σ1 : Env} {Wp W : List Nat}
    {k0 kp0 kp1 kb0 kb1 kt dp d i : Nat} {ti : ITy} {v' dd : Int} {ap : BitVec 64} (hkt : kt < Φ.K)
    (hti : σ.tys[i]? = some ti) (hs : Φ.sepv i)
    (hp : EvG Φ (AtBp bp0) cp σ σ0 (fun r => r = ap) Wp kp0 kp1 dp)
    (hap : ap + BitVec.ofInt 64 dd = addrOf bp0 (Φ.off i)) (hds : DS dsuf dd)
    (hV : EvG (Φ.withTmp kt hkt ap) (AtBp bp0) cV σ0 σ1 (fun r => Represents ti r v') W kb0 kb1 d)
    (hk : k0 ≤ kp0 ∧ kp1 ≤ kt ∧ k0 ≤ kb0 ∧ kb1 ≤ kt) (hkb : kb0 ≤ kb1) (hWp : ∀ j, j ∈ Wp → Φ.sepv j) (hW : ∀ j, j ∈ W → Φ.sepv j) :
    EvG Φ (AtBp bp0) ((J [iLea (Φ.toff kt), iPush] ++ (cp ++ J (storeSeq .u64))) ++
        (J (viaTmp (Φ.toff kt) dsuf) ++ (JI.ins iPush :: (cV ++ J (storeSeq ti)))))
      σ (σ1.set i v') (fun r => Represents ti r v') (Wp ++ (i :: W)) k0 (kt + 1) (max (dp + 1) (d + 1)) := by
  refine ⟨hV.1.trans hp.1, fun m n B hP hI hd hsp hB => ?_⟩
  obtain ⟨n', rfl⟩ : ∃ n', n = n' + 1 := ⟨n - 1, by omega⟩
  obtain ⟨s4, r4, I4, sp4, bp4, mem4⟩ := tmp_assignL hp hWp hk.2.1 hkt m n' B hP hI (by omega) hsp hB
  have A := EvG.assignL (Φ := Φ.withTmp kt hkt ap) (k0 := kb0) (k1 := kb1) (by rw [hp.1]; exact hti) hs
    ((EvG.via_tmp (P := AtBp bp0) hds hkt ap σ0 kb0).post (R2 := fun r => r = addrOf bp0 ((Φ.withTmp kt hkt ap).off i))
      (fun r h => by rw [h]; exact hap)) hV ⟨Nat.le_refl _, hkb, Nat.le_refl _, Nat.le_refl _⟩ hW hk.2.2.2
  obtain ⟨m', r', p', I', u'⟩ := A.2 s4 (n' + 1) B (by rw [bp4]; exact hP) I4 (by omega) (by rw [sp4]; exact hsp) (by rw [sp4]; exact hB)
  refine ⟨m', JRun.append r4 r', p', I'.1, by rw [u'.rsp, sp4], by rw [u'.rbp, bp4], ?_⟩
  intro z hz hv ht
  have hnotT : z.toNat < (addrOf (m.get .rbp) (Φ.toff kt)).toNat ∨ (addrOf (m.get .rbp) (Φ.toff kt)).toNat + 8 ≤ z.toNat := by
    by_cases h1 : z.toNat < (addrOf (m.get .rbp) (Φ.toff kt)).toNat
    · exact Or.inl h1
    · by_cases h2 : (addrOf (m.get .rbp) (Φ.toff kt)).toNat + 8 ≤ z.toNat
      · exact Or.inr h2
      · exact absurd ⟨kt, by omega, by omega, by omega, by omega⟩ ht
  rw [u'.mem z (by rw [sp4]; exact hz)
    (by rw [hp.1, bp4]; exact fun hh => hv (inVar_mono hh (fun j hj => List.mem_append_right _ (by simpa using hj))))
    (by rw [bp4]; exact fun hh => ht (inTmp_mono hh hk.2.2.1 (by omega)))]
  exact mem4 z hz (fun hh => hv (inVar_mono hh (fun j hj => by simp [hj])))
    (fun hh => ht (inTmp_mono hh hk.1 (by omega))) hnotT

/-- `opAssignCodeL` in the spelling of `EvG.assign_tmp`: what is assigned through the temporary is the binary node (in the spelling
    of `EvG.bin`, its left operand `loadCodeL` through the temporary) converted to the object's type -/
theorem opAssignCodeL_eq (nk : NK) (op : BinOp) (ti tb : ITy) (tmp : Int) (cp : List JI) (dsuf : List Ins) (cB : List JI) :
    opAssignCodeL nk op ti tb tmp cp dsuf cB =
      (J [iLea tmp, iPush] ++ (cp ++ J (storeSeq .u64))) ++ (J (viaTmp tmp dsuf) ++ (JI.ins iPush ::
        ((((cB ++ J (if op.isShift then [] else castSeq tb (binopOperandType op ti tb))) ++ (JI.ins iPush ::
          ((loadCodeL (J (viaTmp tmp dsuf)) ti ++ J (castSeq ti (binopOperandType op ti tb))) ++
            (JI.ins iPopRdi :: J (opSeq nk (binopOperandType op ti tb)))))) ++ J (castSeq (binopType op ti tb) ti)) ++
          J (storeSeq ti)))) := by
  simp [opAssignCodeL, loadCodeL, J, List.map_append, List.append_assoc]

end
end ChibiVerif.C01
