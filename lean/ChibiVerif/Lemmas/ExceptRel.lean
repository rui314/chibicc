/-
Two runs of a program in `Except ε` compared: `Except.Rel lax V x y` says that `x` and `y` fail with the same error or return
values related by `V`; with `lax = some e₀` the error `e₀` on the left (an exhausted budget) is related to every outcome, so that
`Rel (some e₀) Eq` is "out of budget, or the same outcome".  The relation is a congruence for `pure`, `bind`, `if` and `foldlM`:
a program built from these is related to itself run on related inputs, with related recursive calls.  Fuel-monotonicity ("more
budget never changes an answer") and independence of an input the program only carries along are statements of this form; the
initializer parser's are derived from it (Lemmas/InitParLemmas.lean).

Core Lean only.
-/

namespace Except

universe u v

variable {ε : Type u} {α α' β β' : Type v} {lax : Option ε} {V : α → α' → Prop} {W : β → β' → Prop}

def Rel (lax : Option ε) (V : α → α' → Prop) (x : Except ε α) (y : Except ε α') : Prop :=
  (∃ e, lax = some e ∧ x = .error e) ∨
    match x, y with
    | .ok a, .ok b => V a b
    | .error e, .error e' => e = e'
    | _, _ => False

namespace Rel

theorem ok {a : α} {b : α'} (h : V a b) : Rel lax V (.ok a) (.ok b) := .inr h

theorem error (e : ε) : Rel lax V (.error e : Except ε α) (.error e : Except ε α') := .inr rfl

/-- the budget error on the left is related to every outcome -/
theorem out (e : ε) (y : Except ε α') : Rel (some e) V (.error e : Except ε α) y := .inl ⟨e, rfl, rfl⟩

theorem refl {V : α → α → Prop} (hV : ∀ a, V a a) (x : Except ε α) : Rel lax V x x := by
  cases x with
  | ok a => exact .inr (hV a)
  | error e => exact .inr rfl

theorem of_eq {x y : Except ε α} (h : x = y) : Rel lax Eq x y := h ▸ refl (fun _ => rfl) x

/-- without a budget error the relation is the strictest -/
theorem weaken {x : Except ε α} {y : Except ε α'} (h : Rel none V x y) : Rel lax V x y := by
  rcases h with ⟨_, hl, _⟩ | h
  · cases hl
  · exact .inr h

theorem mono {V' : α → α' → Prop} {x : Except ε α} {y : Except ε α'} (h : Rel lax V x y) (hV : ∀ a b, V a b → V' a b) :
    Rel lax V' x y := by
  rcases h with h | h
  · exact .inl h
  · match x, y, h with
    | .ok a, .ok b, h => exact .inr (hV a b h)
    | .error _, .error _, h => exact .inr h
    | .ok _, .error _, h => exact h.elim
    | .error _, .ok _, h => exact h.elim

theorem cases {x : Except ε α} {y : Except ε α'} (h : Rel lax V x y) :
    (∃ e, lax = some e ∧ x = .error e) ∨ (∃ e, x = .error e ∧ y = .error e) ∨ ∃ a b, x = .ok a ∧ y = .ok b ∧ V a b := by
  rcases h with h | h
  · exact .inl h
  · match x, y, h with
    | .ok a, .ok b, h => exact .inr (.inr ⟨a, b, rfl, rfl, h⟩)
    | .error e, .error _, h => cases h; exact .inr (.inl ⟨e, rfl, rfl⟩)
    | .ok _, .error _, h => exact h.elim
    | .error _, .ok _, h => exact h.elim

/-- "the budget error, or equal" -/
theorem eq_iff {e₀ : ε} {x y : Except ε α} : Rel (some e₀) Eq x y ↔ x = .error e₀ ∨ x = y := by
  constructor
  · intro h
    rcases h.cases with ⟨e, he, hx⟩ | ⟨e, rfl, rfl⟩ | ⟨a, b, rfl, rfl, rfl⟩
    · cases he; exact .inl hx
    · exact .inr rfl
    · exact .inr rfl
  · rintro (rfl | rfl)
    · exact out _ _
    · exact of_eq rfl

/-- without a budget error, at equality: the same outcome -/
theorem eq_none {x y : Except ε α} : Rel none Eq x y ↔ x = y := by
  constructor
  · intro h
    rcases h.cases with ⟨_, he, _⟩ | ⟨e, rfl, rfl⟩ | ⟨a, b, rfl, rfl, rfl⟩
    · cases he
    · rfl
    · rfl
  · exact of_eq

theorem bind {x : Except ε α} {y : Except ε α'} {k : α → Except ε β} {k' : α' → Except ε β'} (h : Rel lax V x y)
    (hk : ∀ a b, V a b → Rel lax W (k a) (k' b)) : Rel lax W (x >>= k) (y >>= k') := by
  rcases h.cases with ⟨e, he, rfl⟩ | ⟨e, rfl, rfl⟩ | ⟨a, b, rfl, rfl, hv⟩
  · exact .inl ⟨e, he, rfl⟩
  · exact error e
  · exact hk a b hv

/-- the two first steps are related by `Eq`, so both continuations run on the same value -/
theorem bind_eq {x y : Except ε α} {k : α → Except ε β} {k' : α → Except ε β'} (h : Rel lax Eq x y)
    (hk : ∀ a, Rel lax W (k a) (k' a)) : Rel lax W (x >>= k) (y >>= k') :=
  bind h (fun a _ e => e ▸ hk a)

/-- the same first step on both sides -/
theorem bind_same (x : Except ε α) {k : α → Except ε β} {k' : α → Except ε β'} (hk : ∀ a, Rel lax W (k a) (k' a)) :
    Rel lax W (x >>= k) (x >>= k') :=
  bind_eq (of_eq rfl) hk

theorem ite {c : Prop} [Decidable c] {a b : Except ε α} {a' b' : Except ε α'} (h1 : c → Rel lax V a a')
    (h2 : ¬ c → Rel lax V b b') : Rel lax V (if c then a else b) (if c then a' else b') := by
  by_cases h : c <;> simp only [h, ↓reduceIte]
  · exact h1 h
  · exact h2 h

/-- one of two first steps, chosen alike on both sides, then one continuation -/
theorem ite_bind {c : Prop} [Decidable c] {x y : Except ε α} {k : α → Except ε β} {k' : α → Except ε β'}
    (hk : ∀ a, Rel lax W (k a) (k' a)) : Rel lax W (if c then x >>= k else y >>= k) (if c then x >>= k' else y >>= k') :=
  ite (fun _ => bind_same x hk) (fun _ => bind_same y hk)

theorem foldlM {γ : Type v} {s : β → γ → Except ε β} {s' : β' → γ → Except ε β'}
    (h : ∀ b b' a, W b b' → Rel lax W (s b a) (s' b' a)) :
    ∀ (l : List γ) (b : β) (b' : β'), W b b' → Rel lax W (l.foldlM s b) (l.foldlM s' b')
  | [], _, _, hb => ok hb
  | a :: l, b, b', hb => by
    simp only [List.foldlM_cons]
    exact bind (h b b' a hb) (fun _ _ hc => foldlM h l _ _ hc)

end Rel

end Except
