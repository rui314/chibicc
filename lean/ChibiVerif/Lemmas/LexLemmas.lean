/-
C19 — one scanning step of Model/Lex.lean.  Per scanner of a token class one lemma: its result parts the input, and the
scanner read nothing behind what it took (`∀ rest, scan (taken ++ rest) = (taken, rest)`, for pp-numbers and identifiers under a
condition on the first character of `rest`): with `rest := []` scanning its own output again changes nothing, with a complete
spelling as input text appended behind it is left alone (`readPunct`, a table lookup, has the two as two lemmas:
`readPunct_append` here, `readPunct_idem` in LexClosure).  The chain of tests of `lexStep` is walked
once, in `lexStep_branch` (inversion into `Branch`); the `lexStep_*` equations go the other way.  `noFuse` says what may follow a
spelling, one clause per rule group of main.c `need_space`, and `lexStep_append` is the theorem that consumes it: a self-lexing
spelling followed by text that does not fuse with it is scanned to the same token.  `lexStep_tok_inv` (`TokOk`) is what the loop
lemmas read off a token-producing step: the flags, the partition of the input, a non-empty spelling.

The model writes code points as numbers; the ones that occur here:
  10 newline   32 blank   34 "   35 #   36 $   39 '   42 *   43 +   45 -   46 .   47 /   56 8   76 L   85 U   92 \   95 _   117 u
(`u8"`, `u"`, `L"`, `U"` and `u'`, `L'`, `U'` are the prefixed openers of string and character literals).
-/
import ChibiVerif.Model.Lex
import ChibiVerif.Lemmas.ListLemmas
namespace ChibiVerif.Lex
open ChibiVerif.LexChar ChibiVerif.Gen.Lex

/-- the last character of the spelling `c :: t` (the character `need_space` looks at) -/
def lastOr (c : Nat) : List Nat → Nat
  | [] => c
  | x :: t => lastOr x t

theorem getLast?_cons_lastOr (c : Nat) (t : List Nat) : (c :: t).getLast? = some (lastOr c t) := by
  induction t generalizing c with
  | nil => rfl
  | cons x t ih => rw [List.getLast?_cons_cons, ih]; rfl

theorem headIs_append (p : Nat → Bool) (a r : List Nat) (h : a ≠ []) : headIs p (a ++ r) = headIs p a := by
  cases a with
  | nil => exact absurd rfl h
  | cons x t => rfl

theorem headIs_false_of (p q : Nat → Bool) (rest : List Nat) (h : headIs p rest = false)
    (hpq : ∀ r, q r = true → p r = true) : headIs q rest = false := by
  cases rest with
  | nil => rfl
  | cons r t =>
    simp only [headIs] at h ⊢
    cases hq : q r with
    | false => rfl
    | true => rw [hpq r hq] at h; cases h

/-- what may follow a pp-number whose last character is `l` -/
def ppStop (l : Nat) (rest : List Nat) : Prop :=
  headIs (fun r => isAlnum r || r == 46) rest = false ∧
  (ppExpChars.contains l && headIs (fun d => ppSignChars.contains d) rest) = false

theorem ppTake_cons_exp (c d : Nat) (t' : List Nat)
    (h : (ppExpChars.contains c && headIs (fun d => ppSignChars.contains d) (d :: t')) = true) :
    ppTake (c :: d :: t') = (c :: d :: (ppTake t').1, (ppTake t').2) := by
  rw [ppTake.eq_2, if_pos h]

theorem ppTake_cons_alnum (c : Nat) (t : List Nat)
    (h : ¬ (ppExpChars.contains c && headIs (fun d => ppSignChars.contains d) t) = true)
    (hal : (isAlnum c || c == 46) = true) :
    ppTake (c :: t) = (c :: (ppTake t).1, (ppTake t).2) := by
  cases t with
  | nil => rw [ppTake.eq_3, if_neg h, if_pos hal]
  | cons d t' => rw [ppTake.eq_2, if_neg h, if_pos hal]

theorem ppTake_cons_stop (c : Nat) (t : List Nat)
    (h : ¬ (ppExpChars.contains c && headIs (fun d => ppSignChars.contains d) t) = true)
    (hal : ¬ (isAlnum c || c == 46) = true) :
    ppTake (c :: t) = ([], c :: t) := by
  cases t with
  | nil => rw [ppTake.eq_3, if_neg h, if_neg hal]
  | cons d t' => rw [ppTake.eq_2, if_neg h, if_neg hal]

theorem ppTake_stop (rest : List Nat) (h : headIs (fun r => isAlnum r || r == 46) rest = false) :
    ppTake rest = ([], rest) := by
  cases rest with
  | nil => rfl
  | cons r t =>
    simp only [headIs] at h
    have hexp : ppExpChars.contains r = false := by
      simp [isAlnum, isDigit, isUpper, isLower] at h
      simp [ppExpChars]
      omega
    exact ppTake_cons_stop r t (by rw [hexp]; simp) (by simp [h])

theorem ppStop_nil (l : Nat) : ppStop l [] := ⟨rfl, by simp [headIs]⟩

/-- `ppTake` reads nothing behind what it took but the one character `ppStop` speaks of; at `rest := []` (`ppStop_nil`):
    scanning its own output again changes nothing -/
theorem ppTake_local (s : List Nat) :
    (ppTake s).1 ++ (ppTake s).2 = s ∧
    ∀ c0 rest, ppStop (lastOr c0 (ppTake s).1) rest → ppTake ((ppTake s).1 ++ rest) = ((ppTake s).1, rest) := by
  induction s using ppTake.induct with
  | case1 => exact ⟨rfl, fun _ rest hs => ppTake_stop rest hs.1⟩
  | case2 c d t' hc ih =>
    rw [ppTake_cons_exp c d t' hc]
    refine ⟨by simp [ih.1], fun c0 rest hs => ?_⟩
    have hc' : (ppExpChars.contains c && headIs (fun d => ppSignChars.contains d) (d :: ((ppTake t').1 ++ rest))) = true := hc
    simp only [List.cons_append]
    rw [ppTake_cons_exp c d _ hc', ih.2 d rest (by simpa [lastOr] using hs)]
  | case3 c hc => simp [headIs] at hc
  | case4 c t hc hal ih =>
    rw [ppTake_cons_alnum c t hc hal]
    refine ⟨by simp [ih.1], fun c0 rest hs => ?_⟩
    have hc' : ¬ (ppExpChars.contains c && headIs (fun d => ppSignChars.contains d) ((ppTake t).1 ++ rest)) = true := by
      cases hx : (ppTake t).1 with
      | nil => have := hs.2; rw [hx] at this; simpa [lastOr] using this
      | cons x q => intro hh; apply hc; rw [← ih.1, hx]; exact hh
    simp only [List.cons_append]
    rw [ppTake_cons_alnum c _ hc' hal, ih.2 c rest (by simpa [lastOr] using hs)]
  | case5 c t hc hal => rw [ppTake_cons_stop c t hc hal]; exact ⟨rfl, fun _ rest hs => ppTake_stop rest hs.1⟩

theorem strEnd_cons_quote (c : Nat) (t : List Nat) (h : (c == 34) = true) : strEnd (c :: t) = .ok ([c], t) := by
  cases t with
  | nil => rw [strEnd.eq_2, if_pos h]
  | cons d t' => rw [strEnd.eq_3, if_pos h]

theorem strEnd_cons_bs (c d : Nat) (t' : List Nat) (h1 : ¬ (c == 34) = true) (h2 : ¬ (c == 10) = true)
    (h3 : (c == 92) = true) :
    strEnd (c :: d :: t') = match strEnd t' with
      | .ok r => .ok (c :: d :: r.1, r.2)
      | .error e => .error e := by
  rw [strEnd.eq_3, if_neg h1, if_neg h2, if_pos h3]; rfl

theorem strEnd_cons_other (c : Nat) (t : List Nat) (h1 : ¬ (c == 34) = true) (h2 : ¬ (c == 10) = true)
    (h3 : ¬ (c == 92) = true) :
    strEnd (c :: t) = match strEnd t with
      | .ok r => .ok (c :: r.1, r.2)
      | .error e => .error e := by
  cases t with
  | nil => rw [strEnd.eq_2, if_neg h1, if_neg h2, if_neg h3]; rfl
  | cons d t' => rw [strEnd.eq_3, if_neg h1, if_neg h2, if_neg h3]; rfl

theorem headIs_mono (p : Nat → Bool) (x a : List Nat) (hp : x <+: a) (h : headIs p x = true) : headIs p a = true := by
  obtain ⟨r, rfl⟩ := hp
  cases x with
  | nil => simp [headIs] at h
  | cons d x' => exact h

theorem strEnd_ok (a : List Nat) : ∀ r, strEnd a = .ok r →
    r.1 ++ r.2 = a ∧ ∀ rest, strEnd (r.1 ++ rest) = .ok (r.1, rest) := by
  induction a using strEnd.induct with
  | case1 => intro r h; simp [strEnd] at h
  | case2 c t hc =>
    intro r h
    rw [strEnd_cons_quote c t hc] at h; cases h
    exact ⟨rfl, fun rest => strEnd_cons_quote c _ hc⟩
  | case3 c t h1 h2 =>
    intro r h
    cases t with
    | nil => rw [strEnd.eq_2, if_neg h1, if_pos h2] at h; cases h
    | cons d t' => rw [strEnd.eq_3, if_neg h1, if_pos h2] at h; cases h
  | case4 c h1 h2 h3 => intro r h; rw [strEnd.eq_2, if_neg h1, if_neg h2, if_pos h3] at h; cases h
  | case5 c h1 h2 h3 d t r0 hr ih =>
    intro r h
    rw [strEnd_cons_bs c d t h1 h2 h3, hr] at h
    cases h
    obtain ⟨hp, hl⟩ := ih r0 hr
    exact ⟨by simp [hp], fun rest => by
      rw [List.cons_append, List.cons_append, strEnd_cons_bs c d _ h1 h2 h3, hl]⟩
  | case6 c h1 h2 h3 d t e he ih => intro r h; rw [strEnd_cons_bs c d t h1 h2 h3, he] at h; cases h
  | case7 c t h1 h2 h3 r0 hr ih =>
    intro r h
    rw [strEnd_cons_other c t h1 h2 h3, hr] at h
    cases h
    obtain ⟨hp, hl⟩ := ih r0 hr
    exact ⟨by simp [hp], fun rest => by rw [List.cons_append, strEnd_cons_other c _ h1 h2 h3, hl]⟩
  | case8 c t h1 h2 h3 e he ih => intro r h; rw [strEnd_cons_other c t h1 h2 h3, he] at h; cases h

theorem findQuote_some (a : List Nat) : ∀ r, findQuote a = some r →
    r.1 ++ r.2 = a ∧ r.1 ≠ [] ∧ ∀ rest, findQuote (r.1 ++ rest) = some (r.1, rest) := by
  induction a with
  | nil => intro r h; simp [findQuote] at h
  | cons c t ih =>
    intro r h
    rw [findQuote.eq_2] at h
    split at h
    · rename_i hc
      cases h
      exact ⟨rfl, by simp, fun rest => by rw [List.cons_append, findQuote.eq_2, if_pos hc]; rfl⟩
    · rename_i hc
      cases hq : findQuote t with
      | none => rw [hq] at h; cases h
      | some r0 =>
        rw [hq] at h; cases h
        obtain ⟨hp, _, hl⟩ := ih r0 hq
        exact ⟨by simp [hp], by simp, fun rest => by rw [List.cons_append, findQuote.eq_2, if_neg hc, hl]⟩

theorem charEnd_ok (a : List Nat) (r : List Nat × List Nat) (h : charEnd a = .ok r) :
    r.1 ++ r.2 = a ∧ ∀ rest, charEnd (r.1 ++ rest) = .ok (r.1, rest) := by
  match a, h with
  | [], h => simp [charEnd] at h
  | [c], h =>
    rw [charEnd.eq_2] at h
    split at h
    · cases h
    · simp [findQuote] at h
  | c :: d :: t', h =>
    rw [charEnd.eq_3] at h
    split at h
    · rename_i hc
      split at h
      · cases h
      · rename_i hx
        cases hq : findQuote t' with
        | none => rw [hq] at h; cases h
        | some r0 =>
          rw [hq] at h; cases h
          obtain ⟨hpart, hne, hl⟩ := findQuote_some t' r0 hq
          refine ⟨by simp [hpart], fun rest => ?_⟩
          -- the test for a hexadecimal digit looks at the head of `r0.1`, which is not empty
          have hx' : ¬ (d == 120 && !headIs isXDigit (r0.1 ++ rest)) = true := by
            rw [← hpart, headIs_append _ _ _ hne] at hx; rw [headIs_append _ _ _ hne]; exact hx
          rw [List.cons_append, List.cons_append, charEnd.eq_3, if_pos hc, if_neg hx', hl]
    · rename_i hc
      cases hq : findQuote (d :: t') with
      | none => rw [hq] at h; cases h
      | some r0 =>
        rw [hq] at h; cases h
        obtain ⟨hpart, hne, hl⟩ := findQuote_some (d :: t') r0 hq
        refine ⟨by simp [hpart], fun rest => ?_⟩
        obtain ⟨e, q, hq1⟩ : ∃ e q, r0.1 = e :: q := by
          cases hr : r0.1 with
          | nil => exact absurd hr hne
          | cons e q => exact ⟨e, q, rfl⟩
        have := hl rest
        rw [hq1] at this ⊢
        rw [List.cons_append, List.cons_append, charEnd.eq_3, if_neg hc, ← List.cons_append, this]

theorem identTake_stop (rest : List Nat) (hr : headIs isIdent2 rest = false) : identTake rest = ([], rest) := by
  cases rest with
  | nil => rfl
  | cons r t => simp only [headIs] at hr; simp [identTake, hr]

theorem identTake_local (s : List Nat) :
    (identTake s).1 ++ (identTake s).2 = s ∧ (∀ x ∈ (identTake s).1, isIdent2 x = true) ∧
    ∀ rest, headIs isIdent2 rest = false → identTake ((identTake s).1 ++ rest) = ((identTake s).1, rest) := by
  induction s with
  | nil => exact ⟨rfl, nofun, identTake_stop⟩
  | cons c t ih =>
    rw [identTake.eq_2]
    split
    · rename_i hc
      refine ⟨by simp [ih.1], fun x hx => ?_, fun rest hr => ?_⟩
      · rcases List.mem_cons.mp hx with rfl | hx
        · exact hc
        · exact ih.2.1 x hx
      · simp only [List.cons_append]
        rw [identTake.eq_2, if_pos hc, ih.2.2 rest hr]
    · exact ⟨rfl, nofun, identTake_stop⟩

theorem lastOr_mem (c : Nat) (t : List Nat) : lastOr c t ∈ c :: t := by
  induction t generalizing c with
  | nil => simp [lastOr]
  | cons x t ih => simp only [lastOr]; exact List.mem_cons_of_mem _ (ih x)

/-- the cross-file fact need_space's last rule rests on: every character of every entry of
    `kw[]` (tokenize.c read_punct) is in `ops[]` (main.c need_space) -/
theorem kw_chars_in_ops : ∀ k ∈ punctKw, ∀ x ∈ k, ops.contains x = true := by decide

theorem isPrefixOf_append_eq (k : List Nat) : ∀ (p rest : List Nat),
    (∀ s, k = p ++ s → s ≠ [] → s.isPrefixOf rest = false) →
    k.isPrefixOf (p ++ rest) = k.isPrefixOf p := by
  induction k with
  | nil => intro p rest _; simp
  | cons x k' ih =>
    intro p rest h
    cases p with
    | nil =>
      have := h (x :: k') rfl (by simp)
      simpa using this
    | cons y p' =>
      rw [List.cons_append, List.isPrefixOf_cons_cons, List.isPrefixOf_cons_cons]
      by_cases hxy : x = y
      · subst hxy
        rw [ih p' rest (fun s hs hne => h s (by rw [hs]; rfl) hne)]
      · rw [beq_false_of_ne hxy]; rfl

theorem isPrefixOf_head_false (y : Nat) (q rest : List Nat) (h : headIs (fun r => y == r) rest = false) :
    (y :: q).isPrefixOf rest = false := by
  cases rest with
  | nil => rfl
  | cons r t => rw [List.isPrefixOf_cons_cons, show (y == r) = false from h]; rfl

/-- what may follow a punctuator whose last character is `l` (as far as `read_punct` is concerned) -/
def punctStop (l : Nat) (rest : List Nat) : Prop :=
  (ops.contains l && headIs (fun r => ops.contains r) rest) = false

theorem readPunct_append (c : Nat) (a rest : List Nat) (hb : punctStop (lastOr c a) rest) :
    readPunct (c :: a ++ rest) = readPunct (c :: a) := by
  have hcongr : ∀ k ∈ punctKw, k.isPrefixOf (c :: a ++ rest) = k.isPrefixOf (c :: a) := by
    intro k hk
    apply isPrefixOf_append_eq
    intro s hs hne
    cases s with
    | nil => exact absurd rfl hne
    | cons y s' =>
      -- `lastOr c a` and `y` are neighbours in the entry `k`, so both are in `ops`: `rest` does not start with `y`
      have h1 : ops.contains (lastOr c a) = true :=
        kw_chars_in_ops k hk _ (by rw [hs]; exact List.mem_append_left _ (lastOr_mem c a))
      have h2 : ops.contains y = true := kw_chars_in_ops k hk _ (by rw [hs]; simp)
      unfold punctStop at hb
      rw [h1, Bool.true_and] at hb
      exact isPrefixOf_head_false y s' rest (headIs_false_of _ _ rest hb fun r hr => by rw [← eq_of_beq hr]; exact h2)
  unfold readPunct
  rw [List.find?_congr_mem hcongr]
  rfl

theorem readPunct_le_length (p : List Nat) : readPunct p ≤ p.length := by
  unfold readPunct
  cases hf : punctKw.find? (fun k => k.isPrefixOf p) with
  | some k =>
    have := List.find?_some hf
    exact (List.isPrefixOf_iff_prefix.mp this).length_le
  | none =>
    cases p with
    | nil => simp
    | cons c t => simp only [List.length_cons]; split <;> omega

theorem lexStep_q (t : List Nat) (bol sp : Bool) : lexStep (34 :: t) bol sp = strTok [34] t bol sp := rfl
theorem lexStep_u8q (t : List Nat) (bol sp : Bool) :
    lexStep (117 :: 56 :: 34 :: t) bol sp = strTok [117, 56, 34] t bol sp := rfl
theorem lexStep_uq (t : List Nat) (bol sp : Bool) : lexStep (117 :: 34 :: t) bol sp = strTok [117, 34] t bol sp := rfl
theorem lexStep_Lq (t : List Nat) (bol sp : Bool) : lexStep (76 :: 34 :: t) bol sp = strTok [76, 34] t bol sp := rfl
theorem lexStep_Uq (t : List Nat) (bol sp : Bool) : lexStep (85 :: 34 :: t) bol sp = strTok [85, 34] t bol sp := rfl
theorem lexStep_a (t : List Nat) (bol sp : Bool) : lexStep (39 :: t) bol sp = chrTok [39] t bol sp := rfl
theorem lexStep_ua (t : List Nat) (bol sp : Bool) : lexStep (117 :: 39 :: t) bol sp = chrTok [117, 39] t bol sp := rfl
theorem lexStep_La (t : List Nat) (bol sp : Bool) : lexStep (76 :: 39 :: t) bol sp = chrTok [76, 39] t bol sp := rfl
theorem lexStep_Ua (t : List Nat) (bol sp : Bool) : lexStep (85 :: 39 :: t) bol sp = chrTok [85, 39] t bol sp := rfl

/-- the four tests of `tokenize` that skip input fail on `c :: t`: `//`, `/*`, newline, white space -/
def NotSkip (c : Nat) (t : List Nat) : Prop :=
  [47, 47].isPrefixOf (c :: t) = false ∧ [47, 42].isPrefixOf (c :: t) = false ∧ (c == 10) = false ∧ isSpace c = false

/-- what opens a string literal / a character constant, in the order `tokenize` tests them -/
def strOpeners : List (List Nat) := [[34], [117, 56, 34], [117, 34], [76, 34], [85, 34]]
def chrOpeners : List (List Nat) := [[39], [117, 39], [76, 39], [85, 39]]

/-- none of the nine tests for the start of a string literal or character constant fires on `s` -/
def NoOpener (s : List Nat) : Prop := ∀ p ∈ strOpeners ++ chrOpeners, p.isPrefixOf s = false

theorem lexStep_str (pre t : List Nat) (bol sp : Bool) (h : pre ∈ strOpeners) :
    lexStep (pre ++ t) bol sp = strTok pre t bol sp := by
  simp only [strOpeners, List.mem_cons, List.not_mem_nil, or_false] at h
  rcases h with rfl | rfl | rfl | rfl | rfl <;> rfl

theorem lexStep_chr (pre t : List Nat) (bol sp : Bool) (h : pre ∈ chrOpeners) :
    lexStep (pre ++ t) bol sp = chrTok pre t bol sp := by
  simp only [chrOpeners, List.mem_cons, List.not_mem_nil, or_false] at h
  rcases h with rfl | rfl | rfl | rfl <;> rfl

theorem lexStep_ppnum (c : Nat) (t : List Nat) (bol sp : Bool) (hs : NotSkip c t)
    (h : (isDigit c || c == 46 && headIs isDigit t) = true) :
    lexStep (c :: t) bol sp = .tok ⟨.ppnum, c :: (ppTake t).1, bol, sp⟩ (ppTake t).2 := by
  simp only [lexStep, hs.1, hs.2.1, hs.2.2.1, hs.2.2.2, h, Bool.false_eq_true, if_false, if_true]

theorem NoOpener.char {c : Nat} {t : List Nat} (h : NoOpener (c :: t)) (x : Nat)
    (hx : [x] ∈ strOpeners ++ chrOpeners) : (c == x) = false := by
  have := h [x] hx
  rw [List.isPrefixOf_cons_cons, List.isPrefixOf_nil_left, Bool.and_true] at this
  rwa [BEq.comm]

theorem lexStep_word (c : Nat) (t : List Nat) (bol sp : Bool) (hs : NotSkip c t)
    (hn : (isDigit c || c == 46 && headIs isDigit t) = false) (ho : NoOpener (c :: t)) :
    lexStep (c :: t) bol sp =
      if isIdent1 c then .tok ⟨.ident, c :: (identTake t).1, bol, sp⟩ (identTake t).2
      else if readPunct (c :: t) == 0 then .err .invalidToken
      else .tok ⟨.punct, (c :: t).take (readPunct (c :: t)), bol, sp⟩ ((c :: t).drop (readPunct (c :: t))) := by
  simp only [lexStep, hs.1, hs.2.1, hs.2.2.1, hs.2.2.2, hn, ho.char 34 (by decide), ho.char 39 (by decide),
    ho [117, 56, 34] (by decide), ho [117, 34] (by decide), ho [76, 34] (by decide), ho [85, 34] (by decide),
    ho [117, 39] (by decide), ho [76, 39] (by decide), ho [85, 39] (by decide), Bool.false_eq_true, if_false]

/-- the ways `lexStep (c :: t) bol sp` can come out as `st`, one per arm of its chain of tests and with the tests that failed
    before the arm as hypotheses: the converse of the `lexStep_*` equations above -/
inductive Branch (c : Nat) (t : List Nat) (bol sp : Bool) (st : Step) : Prop
  | lineComment (e : st = .skip (skipLine (t.drop 1)) bol true)
  | blockComment (e : st = .err .unclosedComment ∨ ∃ r, findCommentEnd (t.drop 1) = some r ∧ st = .skip r bol true)
  | newline (e : st = .skip t true false)
  | space (e : st = .skip t bol true)
  | ppnum (hs : NotSkip c t) (h : (isDigit c || c == 46 && headIs isDigit t) = true)
      (e : st = .tok ⟨.ppnum, c :: (ppTake t).1, bol, sp⟩ (ppTake t).2)
  | str (pre t' : List Nat) (hp : pre ∈ strOpeners) (hc : c :: t = pre ++ t') (e : st = strTok pre t' bol sp)
  | chr (pre t' : List Nat) (hp : pre ∈ chrOpeners) (hc : c :: t = pre ++ t') (e : st = chrTok pre t' bol sp)
  | word (hs : NotSkip c t) (hn : (isDigit c || c == 46 && headIs isDigit t) = false) (ho : NoOpener (c :: t))
      (e : st = if isIdent1 c then .tok ⟨.ident, c :: (identTake t).1, bol, sp⟩ (identTake t).2
        else if readPunct (c :: t) == 0 then .err .invalidToken
        else .tok ⟨.punct, (c :: t).take (readPunct (c :: t)), bol, sp⟩ ((c :: t).drop (readPunct (c :: t))))

theorem lexStep_branch (c : Nat) (t : List Nat) (bol sp : Bool) : Branch c t bol sp (lexStep (c :: t) bol sp) := by
  by_cases h1 : [47, 47].isPrefixOf (c :: t) = true
  · exact .lineComment (by rw [lexStep.eq_2, if_pos h1])
  by_cases h2 : [47, 42].isPrefixOf (c :: t) = true
  · refine .blockComment ?_
    rw [lexStep.eq_2, if_neg h1, if_pos h2]
    cases findCommentEnd (t.drop 1) with
    | none => exact .inl rfl
    | some r => exact .inr ⟨r, rfl, rfl⟩
  by_cases h3 : (c == 10) = true
  · exact .newline (by rw [lexStep.eq_2, if_neg h1, if_neg h2, if_pos h3])
  by_cases h4 : isSpace c = true
  · exact .space (by rw [lexStep.eq_2, if_neg h1, if_neg h2, if_neg h3, if_pos h4])
  have hs : NotSkip c t :=
    ⟨Bool.eq_false_iff.mpr h1, Bool.eq_false_iff.mpr h2, Bool.eq_false_iff.mpr h3, Bool.eq_false_iff.mpr h4⟩
  by_cases h5 : (isDigit c || c == 46 && headIs isDigit t) = true
  · exact .ppnum hs h5 (lexStep_ppnum c t bol sp hs h5)
  by_cases ho : ∃ p ∈ strOpeners ++ chrOpeners, p.isPrefixOf (c :: t) = true
  · obtain ⟨p, hp, hpre⟩ := ho
    obtain ⟨t', e⟩ := List.isPrefixOf_iff_prefix.mp hpre
    rcases List.mem_append.mp hp with hp | hp
    · exact .str p t' hp e.symm (by rw [← e, lexStep_str p t' bol sp hp])
    · exact .chr p t' hp e.symm (by rw [← e, lexStep_chr p t' bol sp hp])
  · have ho' : NoOpener (c :: t) := fun p hp => Bool.eq_false_iff.mpr fun h => ho ⟨p, hp, h⟩
    exact .word hs (Bool.eq_false_iff.mpr h5) ho' (lexStep_word c t bol sp hs (Bool.eq_false_iff.mpr h5) ho')

theorem opener_ne_nil {pre : List Nat} (h : pre ∈ strOpeners ++ chrOpeners) : pre ≠ [] := by
  rintro rfl; revert h; decide

theorem strTok_tok {pre a : List Nat} {bol sp : Bool} {t : Tok} {r : List Nat} (h : strTok pre a bol sp = .tok t r) :
    ∃ b, t = ⟨.str, pre ++ b, bol, sp⟩ ∧ b ++ r = a ∧
      ∀ rest b2 p2, strTok pre (b ++ rest) b2 p2 = .tok ⟨.str, pre ++ b, b2, p2⟩ rest := by
  unfold strTok at h
  cases hs : strEnd a with
  | error e => rw [hs] at h; cases h
  | ok r0 =>
    rw [hs] at h
    simp only at h
    split at h
    · rename_i he
      cases h
      obtain ⟨hp, hl⟩ := strEnd_ok a r0 hs
      refine ⟨r0.1, rfl, hp, fun rest b2 p2 => ?_⟩
      unfold strTok
      rw [hl rest]
      simp only [if_pos he]
    · cases h

theorem chrTok_tok {pre a : List Nat} {bol sp : Bool} {t : Tok} {r : List Nat} (h : chrTok pre a bol sp = .tok t r) :
    ∃ b, t = ⟨.chr, pre ++ b, bol, sp⟩ ∧ b ++ r = a ∧
      ∀ rest b2 p2, chrTok pre (b ++ rest) b2 p2 = .tok ⟨.chr, pre ++ b, b2, p2⟩ rest := by
  unfold chrTok at h
  cases hs : charEnd a with
  | error e => rw [hs] at h; cases h
  | ok r0 =>
    rw [hs] at h
    cases h
    obtain ⟨hp, hl⟩ := charEnd_ok a r0 hs
    refine ⟨r0.1, rfl, hp, fun rest b2 p2 => ?_⟩
    unfold chrTok
    rw [hl rest]

theorem pre_ne (x c : Nat) (q t : List Nat) (h : c ≠ x) : (x :: q).isPrefixOf (c :: t) = false := by
  rw [List.isPrefixOf_cons_cons, beq_false_of_ne (Ne.symm h)]; rfl

theorem inRange_iff (t : List (Nat × Nat)) (c : Nat) : inRange t c = true ↔ ∃ r ∈ t, r.1 ≤ c ∧ c ≤ r.2 := by
  simp [inRange]

theorem ident1_cases (c : Nat) (h : isIdent1 c = true) :
    c ≥ 128 ∨ c = 95 ∨ c = 36 ∨ (65 ≤ c ∧ c ≤ 90) ∨ (97 ≤ c ∧ c ≤ 122) := by
  have ht : ∀ r ∈ ident1Ranges, 128 ≤ r.1 ∨ r = (95, 95) ∨ r = (36, 36) ∨ r = (65, 90) ∨ r = (97, 122) := by
    decide +kernel
  obtain ⟨r, hr, h1, h2⟩ := (inRange_iff _ c).mp h
  rcases ht r hr with h | rfl | rfl | rfl | rfl <;> omega

theorem isIdent2_isWordChar (c : Nat) (h : isIdent2 c = true) : isWordChar c = true := by
  have ht : ∀ r ∈ ident1Ranges ++ ident2Ranges,
      128 ≤ r.1 ∨ (List.range' r.1 (r.2 + 1 - r.1)).all isWordChar = true := by decide +kernel
  obtain ⟨r, hr, h1, h2⟩ : ∃ r ∈ ident1Ranges ++ ident2Ranges, r.1 ≤ c ∧ c ≤ r.2 := by
    rcases Bool.or_eq_true .. ▸ h with h | h
    · obtain ⟨r, hr, hb⟩ := (inRange_iff _ c).mp h; exact ⟨r, List.mem_append_left _ hr, hb⟩
    · obtain ⟨r, hr, hb⟩ := (inRange_iff _ c).mp h; exact ⟨r, List.mem_append_right _ hr, hb⟩
  rcases ht r hr with h128 | hall
  · have : decide (c ≥ 128) = true := decide_eq_true (Nat.le_trans h128 h1)
    rw [isWordChar, this, Bool.or_true]
  · exact List.all_eq_true.mp hall c (List.mem_range'_1.mpr ⟨h1, by omega⟩)

/-- `rest` may follow the spelling `c :: a` without changing how that spelling is scanned:
    one condition per token class, in terms of the last character `l` of the spelling and the first of `rest` -/
def noFuse (c : Nat) (a rest : List Nat) : Prop :=
  (isNumStart (c :: a) = true → ppStop (lastOr c a) rest) ∧
  (isIdent1 c = true → isWordChar (lastOr c a) = true →
      headIs (fun r => isIdent2 r || r == 34 || r == 39) rest = false) ∧
  (isNumStart (c :: a) = false → isIdent1 c = false → c ≠ 34 → c ≠ 39 →
      punctStop (lastOr c a) rest ∧ ((lastOr c a == 46) && headIs isDigit rest) = false)

theorem isNumStart_iff (c : Nat) (a : List Nat) :
    isNumStart (c :: a) = (isDigit c || (c == 46 && headIs isDigit a)) := by
  cases a with
  | nil => simp [isNumStart, headIs]
  | cons d t => simp [isNumStart, headIs]

theorem pre2_append_false (x y c : Nat) (a rest : List Nat) (h : [x, y].isPrefixOf (c :: a) = false)
    (hr : a = [] → c = x → headIs (fun r => y == r) rest = false) :
    [x, y].isPrefixOf (c :: (a ++ rest)) = false := by
  rw [← List.cons_append, isPrefixOf_append_eq [x, y] (c :: a) rest fun q hq hne => ?_]
  · exact h
  · -- `[x, y] = c :: a ++ q` with `q` not empty: `a` is empty, `c` is `x` and `q` is `[y]`
    cases a with
    | nil =>
      obtain ⟨hxc, hyq⟩ : x = c ∧ [y] = q := by simpa using hq
      rw [← hyq]
      exact isPrefixOf_head_false y [] rest (hr rfl hxc.symm)
    | cons d t =>
      -- two characters are already matched by `c`, `d`: nothing is left for `q`
      have hq' : [y] = d :: (t ++ q) := (List.cons.inj hq).2
      have hnil : [] = t ++ q := (List.cons.inj hq').2
      exact absurd (List.append_eq_nil_iff.1 hnil.symm).2 hne

theorem isPrefixOf_append_false (p s rest : List Nat) (hs : s ≠ []) (h : p.isPrefixOf s = false)
    (hr : ∀ x ∈ p.tail, headIs (fun r => x == r) rest = false) : p.isPrefixOf (s ++ rest) = false := by
  rw [isPrefixOf_append_eq p s rest fun q hq hne => ?_]
  · exact h
  · -- what is left of `p` behind `s` starts with a character of `p.tail`
    obtain ⟨y, q', rfl⟩ := List.exists_cons_of_ne_nil hne
    have hy : y ∈ p.tail := by
      obtain ⟨z, s', rfl⟩ := List.exists_cons_of_ne_nil hs
      rw [hq]; simp
    exact isPrefixOf_head_false y q' rest (hr y hy)

theorem noOpener_append {c : Nat} {a : List Nat} (rest : List Nat) (ho : NoOpener (c :: a))
    (hr : ∀ x ∈ [34, 39, 56], headIs (fun r => x == r) rest = false) : NoOpener (c :: (a ++ rest)) := by
  have htail : ∀ p ∈ strOpeners ++ chrOpeners, ∀ x ∈ p.tail, x ∈ [34, 39, 56] := by decide
  exact fun p hp => isPrefixOf_append_false p (c :: a) rest (by simp) (ho p hp) fun x hx => hr x (htail p hp x hx)

theorem noOpener_of_head {c : Nat} (h : c ∉ [34, 117, 76, 85, 39]) (t : List Nat) : NoOpener (c :: t) := by
  have hhead : ∀ p ∈ strOpeners ++ chrOpeners, ∃ x ∈ [34, 117, 76, 85, 39], p.head? = some x := by decide
  intro p hp
  obtain ⟨x, hx, hpx⟩ := hhead p hp
  obtain ⟨q, rfl⟩ := List.head?_eq_some_iff.mp hpx
  exact pre_ne x c q t fun e => h (e ▸ hx)

theorem NotSkip.of_ne_slash {c : Nat} {a : List Nat} (h : NotSkip c a) (hc : c ≠ 47) (t : List Nat) : NotSkip c t :=
  ⟨pre_ne 47 c _ _ hc, pre_ne 47 c _ _ hc, h.2.2.1, h.2.2.2⟩

theorem lexStep_append (c : Nat) (a rest : List Nat) (k : Kind) (b1 p1 bol sp : Bool)
    (h : lexStep (c :: a) b1 p1 = .tok ⟨k, c :: a, b1, p1⟩ [])
    (hf : noFuse c a rest) :
    lexStep (c :: a ++ rest) bol sp = .tok ⟨k, c :: a, bol, sp⟩ rest := by
  cases lexStep_branch c a b1 p1 with
  | lineComment e | newline e | space e => rw [e] at h; cases h
  | blockComment e => rcases e with e | ⟨_, _, e⟩ <;> rw [e] at h <;> cases h
  | ppnum hs hnum e =>
    rw [e] at h
    obtain ⟨h1, h2⟩ := Step.tok.inj h
    obtain ⟨hk, ht, -, -⟩ := Tok.mk.inj h1
    have hpp : ppTake a = (a, []) := Prod.ext (List.cons.inj ht).2 h2
    have happ := (ppTake_local a).2 c rest
    rw [hpp] at happ
    replace happ := happ (hf.1 (by rw [isNumStart_iff]; exact hnum))
    have hc47 : c ≠ 47 := by
      simp only [Bool.or_eq_true, Bool.and_eq_true, beq_iff_eq, isDigit, decide_eq_true_eq] at hnum
      omega
    have hnum' : (isDigit c || c == 46 && headIs isDigit (a ++ rest)) = true := by
      cases a with
      | nil =>
        -- `.` alone is not a pp-number, so `c` is a digit here
        simp only [headIs, Bool.and_false, Bool.or_false] at hnum
        simp [hnum]
      | cons d t => exact hnum
    rw [List.cons_append, lexStep_ppnum c _ bol sp (hs.of_ne_slash hc47 _) hnum', happ, ← hk]
  | str pre t' hp _ e =>
    rw [e] at h
    obtain ⟨b, ht, _, happ⟩ := strTok_tok h
    obtain ⟨hk, hx, -, -⟩ := Tok.mk.inj ht
    rw [hk, hx, List.append_assoc, lexStep_str pre _ bol sp hp]
    exact happ rest bol sp
  | chr pre t' hp _ e =>
    rw [e] at h
    obtain ⟨b, ht, _, happ⟩ := chrTok_tok h
    obtain ⟨hk, hx, -, -⟩ := Tok.mk.inj ht
    rw [hk, hx, List.append_assoc, lexStep_chr pre _ bol sp hp]
    exact happ rest bol sp
  | word hs hnum ho e =>
    rw [e] at h
    have hnum0 : isNumStart (c :: a) = false := by rw [isNumStart_iff]; exact hnum
    split at h
    · rename_i hid
      obtain ⟨h1, h2⟩ := Step.tok.inj h
      obtain ⟨hk, ht, -, -⟩ := Tok.mk.inj h1
      have hit : identTake a = (a, []) := Prod.ext (List.cons.inj ht).2 h2
      obtain ⟨-, hall, happ⟩ := identTake_local a
      rw [hit] at hall happ
      have hc2 : isIdent2 c = true := by simp [isIdent2, hid]
      have hlw : isWordChar (lastOr c a) = true := by
        apply isIdent2_isWordChar
        rcases List.mem_cons.mp (lastOr_mem c a) with e | e
        · rw [e]; exact hc2
        · exact hall _ e
      have hstop := hf.2.1 hid hlw
      have hc' := ident1_cases c hid
      have hr2 : headIs isIdent2 rest = false :=
        headIs_false_of _ _ rest hstop (fun r hr => by simp [hr])
      have hr : ∀ x ∈ [34, 39, 56], headIs (fun r => x == r) rest = false := by
        intro x hx
        simp only [List.mem_cons, List.not_mem_nil, or_false] at hx
        rcases hx with rfl | rfl | rfl
        · exact headIs_false_of _ _ rest hstop (fun r hr => by have := eq_of_beq hr; subst this; rfl)
        · exact headIs_false_of _ _ rest hstop (fun r hr => by have := eq_of_beq hr; subst this; rfl)
        · exact headIs_false_of _ _ rest hr2 (fun r hr => by have := eq_of_beq hr; subst this; decide)
      have hnum' : (isDigit c || c == 46 && headIs isDigit (a ++ rest)) = false := by
        simp [isDigit]; omega
      rw [List.cons_append, lexStep_word c _ bol sp (hs.of_ne_slash (by omega) _) hnum' (noOpener_append rest ho hr),
        if_pos hid, happ rest hr2, ← hk]
    · rename_i hid
      have hid0 : isIdent1 c = false := Bool.eq_false_iff.mpr hid
      have hc34 : c ≠ 34 := fun e => by have := ho.char 34 (by decide); rw [e] at this; cases this
      have hc39 : c ≠ 39 := fun e => by have := ho.char 39 (by decide); rw [e] at this; cases this
      obtain ⟨hps, hdot⟩ := hf.2.2 hnum0 hid0 hc34 hc39
      split at h
      · cases h
      rename_i hn0
      obtain ⟨h1, h2⟩ := Step.tok.inj h
      obtain ⟨hk, ht, -, -⟩ := Tok.mk.inj h1
      have hlen : readPunct (c :: a) = (c :: a).length := by
        have h1 := readPunct_le_length (c :: a)
        have h2 : (c :: a).length ≤ readPunct (c :: a) := List.drop_eq_nil_iff.mp h2
        omega
      have hslash : ∀ y, y = 47 ∨ y = 42 → a = [] → c = 47 → headIs (fun r => y == r) rest = false := by
        intro y hy ha hc
        subst ha; subst hc
        unfold punctStop at hps
        simp only [lastOr] at hps
        have h47 : ops.contains 47 = true := by decide
        rw [h47, Bool.true_and] at hps
        apply headIs_false_of _ _ rest hps
        intro r hr
        have := eq_of_beq hr; subst this
        rcases hy with rfl | rfl <;> decide
      have hs' : NotSkip c (a ++ rest) :=
        ⟨pre2_append_false _ _ _ _ _ hs.1 (hslash 47 (Or.inl rfl)),
          pre2_append_false _ _ _ _ _ hs.2.1 (hslash 42 (Or.inr rfl)), hs.2.2.1, hs.2.2.2⟩
      have hnum' : (isDigit c || c == 46 && headIs isDigit (a ++ rest)) = false := by
        cases a with
        | nil =>
          simp only [lastOr] at hdot
          simp only [headIs, Bool.and_false, Bool.or_false] at hnum
          rw [List.nil_append, hnum, Bool.false_or]
          cases h46 : c == 46 with
          | false => rfl
          | true => rw [h46, Bool.true_and] at hdot; rw [Bool.true_and]; exact hdot
        | cons d t => exact hnum
      have ho' : NoOpener (c :: (a ++ rest)) := by
        refine noOpener_of_head (fun hm => ?_) _
        simp only [List.mem_cons, List.not_mem_nil, or_false] at hm
        rcases hm with rfl | rfl | rfl | rfl | rfl
        · exact hc34 rfl
        · exact hid (by decide)
        · exact hid (by decide)
        · exact hid (by decide)
        · exact hc39 rfl
      have hrp : readPunct (c :: (a ++ rest)) = (c :: a).length := by
        rw [← List.cons_append, readPunct_append c a rest hps, hlen]
      rw [List.cons_append, lexStep_word c _ bol sp hs' hnum' ho', if_neg hid, hrp, if_neg (by simp),
        ← List.cons_append, List.take_left', List.drop_left', ← hk]
      · rfl
      · rfl

theorem noFuse_nil (c : Nat) (a : List Nat) : noFuse c a [] := by
  refine ⟨fun _ => ⟨rfl, ?_⟩, fun _ _ => rfl, fun _ _ _ _ => ⟨?_, ?_⟩⟩
  · simp [headIs]
  · simp [punctStop, headIs]
  · simp [headIs]

theorem noFuse_blank (c : Nat) (a : List Nat) (r : Nat) (x : List Nat) (hr : r = 32 ∨ r = 10) :
    noFuse c a (r :: x) := by
  refine ⟨fun _ => ⟨?_, ?_⟩, fun _ _ => ?_, fun _ _ _ _ => ⟨?_, ?_⟩⟩
  · simp only [headIs]; rcases hr with rfl | rfl <;> decide
  · have : ppSignChars.contains r = false := by rcases hr with rfl | rfl <;> decide
    simp only [headIs, this, Bool.and_false]
  · simp only [headIs]; rcases hr with rfl | rfl <;> decide
  · have : ops.contains r = false := by rcases hr with rfl | rfl <;> decide
    simp only [punctStop, headIs, this, Bool.and_false]
  · have : isDigit r = false := by rcases hr with rfl | rfl <;> decide
    simp only [headIs, this, Bool.and_false]

theorem noFuse_of_needSpace (c : Nat) (a : List Nat) (b : Nat) (bt x : List Nat)
    (h : needSpace (c :: a) (b :: bt) = false) : noFuse c a (b :: x) := by
  unfold noFuse
  unfold needSpace at h
  rw [getLast?_cons_lastOr] at h
  simp only [List.head?_cons] at h
  generalize lastOr c a = l at h ⊢
  unfold needSpaceCore at h
  -- the rules of `need_space` in source order: `h1`, `h2`, `h3` say that rule 1 (word characters), rule 2 (the tail of a
  -- pp-number), rule 3 (`.` before a digit) did not fire; what is left of `h` is rule 4 (`ops`).  Clause k of `noFuse` uses rule k.
  split at h
  · cases h
  rename_i h1
  split at h
  · cases h
  rename_i h2
  split at h
  · cases h
  rename_i h3
  refine ⟨fun hn => ⟨?_, ?_⟩, fun _ hw => ?_, fun _ _ _ _ => ⟨?_, ?_⟩⟩
  · rw [hn] at h2
    simp only [headIs]
    simp only [Bool.true_and, Bool.or_eq_true, not_or, Bool.not_eq_true] at h2
    rw [h2.1.2, Bool.false_or]
    simpa using h2.1.1
  · rw [hn] at h2
    simp only [headIs]
    simp only [Bool.true_and, Bool.or_eq_true, not_or, Bool.not_eq_true] at h2
    have hs : ppSignChars.contains b = (b == 43 || b == 45) := by
      cases h43 : b == 43 <;> cases h45 : b == 45 <;> simp [ppSignChars, List.contains, List.elem, h43, h45]
    rw [hs, Bool.and_comm]
    exact h2.2
  · rw [hw] at h1
    simp only [headIs]
    simp only [Bool.true_and, Bool.or_eq_true, not_or, Bool.not_eq_true] at h1
    cases hb2 : isIdent2 b with
    | true => rw [isIdent2_isWordChar b hb2] at h1; exact absurd h1.1.1 (by simp)
    | false => rw [h1.1.2, h1.2]; rfl
  · exact Bool.eq_false_iff.mpr (by simpa [punctStop, headIs] using h)
  · simp only [headIs]; exact Bool.eq_false_iff.mpr h3

structure TokOk (s : List Nat) (bol sp : Bool) (t : Tok) (r : List Nat) : Prop where
  bol : t.atBol = bol
  sp : t.hasSpace = sp
  part : t.text ++ r = s
  ne : t.text ≠ []

theorem lexStep_tok_inv (s : List Nat) (bol sp : Bool) (t : Tok) (r : List Nat)
    (h : lexStep s bol sp = .tok t r) : TokOk s bol sp t r := by
  cases s with
  | nil => simp [lexStep] at h
  | cons c a =>
  cases lexStep_branch c a bol sp with
  | lineComment e | newline e | space e => rw [e] at h; cases h
  | blockComment e => rcases e with e | ⟨_, _, e⟩ <;> rw [e] at h <;> cases h
  | ppnum _ _ e =>
    rw [e] at h; cases h
    exact ⟨rfl, rfl, by simp [(ppTake_local a).1], by simp⟩
  | str pre t' hp hc e =>
    rw [e] at h
    obtain ⟨b, rfl, rfl, _⟩ := strTok_tok h
    exact ⟨rfl, rfl, by simp [hc], by simp [opener_ne_nil (List.mem_append_left _ hp)]⟩
  | chr pre t' hp hc e =>
    rw [e] at h
    obtain ⟨b, rfl, rfl, _⟩ := chrTok_tok h
    exact ⟨rfl, rfl, by simp [hc], by simp [opener_ne_nil (List.mem_append_right _ hp)]⟩
  | word _ _ _ e =>
    rw [e] at h
    split at h
    · cases h
      exact ⟨rfl, rfl, by simp [(identTake_local a).1], by simp⟩
    · split at h
      · cases h
      · rename_i hn0
        cases h
        refine ⟨rfl, rfl, List.take_append_drop _ _, ?_⟩
        have : readPunct (c :: a) ≠ 0 := by simpa using hn0
        obtain ⟨n, hn⟩ : ∃ n, readPunct (c :: a) = n + 1 := ⟨readPunct (c :: a) - 1, by omega⟩
        simp [hn]

end ChibiVerif.Lex
