/-
C17 — histories, and the resource bound of hashmap.c.  The operations change the number of buckets only through `INIT_SIZE` and
the capacity `rehash` is specified to choose (`Inv.put_spec_length`, `IsRehashCap`); that specification alone bounds the capacity
by `max cap (4 n)` (`IsRehashCap.le`, from minimality) and keeps the shape `INIT_SIZE * 2^e` (`IsRehashCap.shape`), whichever way
`rehash` computes it; and the live slots are at most as many as the entries of the abstract dictionary (`live_length_le`).
`step_spec` (one operation) and `run_spec` (one history, from any table that satisfies the invariant) give the refinement of the abstract dictionary and the capacity bound in one induction.
-/
import ChibiVerif.Lemmas.HashMapLemmas

namespace ChibiVerif.HashMap
open ChibiVerif.Gen.HashMap (INIT_SIZE HIGH_WATERMARK LOW_WATERMARK)

variable {α β : Type}

/-- `0` (unallocated) or `INIT_SIZE * 2^e` -/
def CapShape (c : Nat) : Prop := c = 0 ∨ ∃ e, c = INIT_SIZE * 2 ^ e

theorem CapShape.double {c : Nat} (hc : CapShape c) : CapShape (c * 2) := by
  rcases hc with h0 | ⟨e, he⟩
  · exact Or.inl (by omega)
  · exact Or.inr ⟨e + 1, by rw [he, Nat.pow_succ, Nat.mul_assoc]⟩

theorem CapShape.init : CapShape INIT_SIZE := Or.inr ⟨0, by simp⟩

/-- the specified capacity keeps the doubling shape -/
theorem IsRehashCap.shape {n c c' : Nat} (hc : IsRehashCap n c c') (hs : CapShape c) : CapShape c' := by
  obtain ⟨e, rfl, _, _⟩ := hc
  rcases hs with h0 | ⟨e0, he0⟩
  · exact Or.inl (by rw [h0, Nat.zero_mul])
  · exact Or.inr ⟨e0 + e, by rw [he0, Nat.mul_assoc, ← Nat.pow_add]⟩

/-- the specified capacity is the first in the doubling sequence that is more than twice the number of keys: it never exceeds
    `4 * n` unless it is the old one (minimality, at the last capacity that was still too small) -/
theorem IsRehashCap.le {n c c' : Nat} (hc : IsRehashCap n c c') : c' ≤ max c (4 * n) := by
  obtain ⟨e, rfl, _, hmin⟩ := hc
  cases e with
  | zero => rw [Nat.pow_zero, Nat.mul_one]; exact Nat.le_max_left ..
  | succ e =>
    have := hmin e (Nat.lt_succ_self e)
    rw [Nat.pow_succ, ← Nat.mul_assoc]
    by_cases hpos : 0 < c * 2 ^ e
    · have := (Nat.le_div_iff_mul_le hpos).1 this
      unfold LOW_WATERMARK at this
      omega
    · omega

variable [DecidableEq α]

theorem delete_length {h : α → Nat} {m m' : HM α β} {k : α} (e : HM.delete h m k = .ok m') :
    m'.buckets.length = m.buckets.length := by
  unfold HM.delete at e
  cases hg : HM.getEntry h m k with
  | error c => simp [hg, bind, Except.bind] at e
  | ok o =>
    cases o with
    | none => simp [hg, bind, Except.bind, pure, Except.pure] at e; subst e; rfl
    | some idx => simp [hg, bind, Except.bind, pure, Except.pure] at e; subst e; simp

def astep (A : AMap α β) : Op α β → AMap α β
  | .put k v => A.put k v
  | .del k => A.erase k
  | .get _ => A

def aout (A : AMap α β) : Op α β → Option (Option β)
  | .get k => some (A.get k)
  | _ => none

theorem arun_cons (A : AMap α β) (op : Op α β) (ops : List (Op α β)) :
    arun A (op :: ops) = ((arun (astep A op) ops).1,
      match aout A op with
      | some a => a :: (arun (astep A op) ops).2
      | none => (arun (astep A op) ops).2) := by
  cases op <;> rfl

/-- the largest number of names the dictionary holds at the beginning of any operation of
    the history, or at its end -/
def peak : AMap α β → List (Op α β) → Nat
  | A, [] => A.length
  | A, op :: ops => max A.length (peak (astep A op) ops)

theorem peak_ge_length (A : AMap α β) (ops : List (Op α β)) : A.length ≤ peak A ops := by
  cases ops <;> simp [peak]
  omega

theorem arun_cons_fst (A : AMap α β) (op : Op α β) (ops : List (Op α β)) :
    (arun A (op :: ops)).1 = (arun (astep A op) ops).1 := by
  rw [arun_cons]

/-- the number of `put`s of a history (it bounds the peak, `peak_le_nputs`: each put adds at most one name) -/
def nputs : List (Op α β) → Nat
  | [] => 0
  | .put _ _ :: ops => nputs ops + 1
  | _ :: ops => nputs ops

theorem length_erase_le (A : AMap α β) (k : α) : (A.erase k).length ≤ A.length :=
  List.length_filter_le _ _

theorem peak_le_nputs : ∀ (ops : List (Op α β)) (A : AMap α β), peak A ops ≤ A.length + nputs ops := by
  intro ops
  induction ops with
  | nil => intro A; simp [peak, nputs]
  | cons op ops ih =>
    intro A
    cases op with
    | put k v =>
      have := ih (A.put k v)
      have h2 : (A.put k v).length ≤ A.length + 1 := by
        have h3 : (A.put k v).length = (A.erase k).length + 1 := rfl
        have := length_erase_le A k
        omega
      simp only [peak, astep, nputs]
      omega
    | del k =>
      have := ih (A.erase k)
      have h2 := length_erase_le A k
      simp only [peak, astep, nputs]
      omega
    | get k =>
      have := ih A
      simp only [peak, astep, nputs]
      omega

/-- the number `rehash` counts (`nkeys`, the live slots) is at most the size of ANY abstract dictionary the table denotes (every
    live entry is one of its entries, and live entries have distinct names): what turns the specified capacity, a bound in
    `nkeys`, into a bound in `A.length` -/
theorem live_length_le {h : α → Nat} {m : HM α β} {A : AMap α β} (hinv : Inv h m)
    (habs : ∀ k, absGet m k = A.get k) : (HM.liveEntries m.buckets).length ≤ A.length := by
  rcases hinv with ⟨h0, _⟩ | w
  · simp [List.eq_nil_of_length_eq_zero h0, HM.liveEntries]
  · refine List.Nodup.length_le_of_subset (w.live_pairwise.imp fun hne e => hne (congrArg Prod.fst e)) ?_
    intro ⟨k, v⟩ hkv
    obtain ⟨j, hj⟩ := mem_liveEntries.1 hkv
    exact List.find?_fst_mem ((habs k).symm.trans (w.absGet_of_slot hj))

/-- one operation: the first three conjuncts are the refinement; the fourth is the resource bound, which rides on the same
    induction (it needs a capacity of the doubling shape, and keeps it; nothing about `A`) -/
theorem step_spec {h : α → Nat} {m : HM α β} {A : AMap α β} (hinv : Inv h m)
    (habs : ∀ k, absGet m k = A.get k) (op : Op α β) :
    ∃ m', step h m op = .ok (m', aout A op) ∧ Inv h m' ∧ (∀ k, absGet m' k = (astep A op).get k) ∧
      (CapShape m.buckets.length → CapShape m'.buckets.length ∧
        m'.buckets.length ≤ max (max INIT_SIZE m.buckets.length) (4 * A.length)) := by
  have hself : m.buckets.length ≤ max (max INIT_SIZE m.buckets.length) (4 * A.length) :=
    Nat.le_trans (Nat.le_max_right ..) (Nat.le_max_left ..)
  cases op with
  | put k v =>
    obtain ⟨m', hm', w', habs', hlen⟩ := hinv.put_spec_length k v
    refine ⟨m', by simp [step, hm', aout, bind, Except.bind, pure, Except.pure], Or.inr w',
      fun k' => by rw [habs', astep, AMap.get_put, habs], fun hshape => ?_⟩
    split at hlen
    · rw [hlen]
      exact ⟨CapShape.init, Nat.le_trans (Nat.le_max_left ..) (Nat.le_max_left ..)⟩
    · split at hlen
      · -- the capacity `rehash` chose: bounded in the live slots by its specification, and those are at most `A.length`
        exact ⟨hlen.shape hshape, Nat.le_trans hlen.le (Nat.max_le.mpr ⟨hself,
          Nat.le_trans (Nat.mul_le_mul_left 4 (live_length_le hinv habs)) (Nat.le_max_right ..)⟩)⟩
      · rw [hlen]
        exact ⟨hshape, hself⟩
  | del k =>
    obtain ⟨m', hm', hinv', habs'⟩ := hinv.delete_spec k
    refine ⟨m', by simp [step, hm', aout, bind, Except.bind, pure, Except.pure], hinv',
      fun k' => by rw [habs', astep, AMap.get_erase, habs], fun hshape => ?_⟩
    rw [delete_length hm']
    exact ⟨hshape, hself⟩
  | get k =>
    exact ⟨m, by simp [step, hinv.get_eq k, habs k, aout, bind, Except.bind, pure, Except.pure],
      hinv, fun k' => by rw [astep, habs], fun hshape => ⟨hshape, hself⟩⟩

/-- how the bound of one operation and the bound of the rest of the history add up -/
theorem cap_bound_step {I m m' s A P : Nat} (h1 : m' ≤ max (max I m) (4 * A)) (h2 : s ≤ max (max I m') (4 * P)) :
    s ≤ max (max I m) (4 * max A P) := by
  have hA : 4 * A ≤ 4 * max A P := Nat.mul_le_mul_left 4 (Nat.le_max_left ..)
  have hP : 4 * P ≤ 4 * max A P := Nat.mul_le_mul_left 4 (Nat.le_max_right ..)
  exact Nat.le_trans h2 (Nat.max_le.mpr ⟨Nat.max_le.mpr ⟨Nat.le_trans (Nat.le_max_left ..) (Nat.le_max_left ..),
    Nat.le_trans h1 (Nat.max_le.mpr ⟨Nat.le_max_left .., Nat.le_trans hA (Nat.le_max_right ..)⟩)⟩,
    Nat.le_trans hP (Nat.le_max_right ..)⟩)

/-- a history from ANY table that satisfies the invariant: `step_spec` along the history; the fourth conjunct bounds the capacity
    by `max(INIT_SIZE, start, 4 · peak)` -/
theorem run_spec (h : α → Nat) (ops : List (Op α β)) :
    ∀ (m : HM α β) (A : AMap α β), Inv h m → (∀ k, absGet m k = A.get k) →
      ∃ s, run h m ops = .ok (s, (arun A ops).2) ∧ Inv h s ∧ (∀ k, absGet s k = (arun A ops).1.get k) ∧
        (CapShape m.buckets.length → CapShape s.buckets.length ∧
          s.buckets.length ≤ max (max INIT_SIZE m.buckets.length) (4 * peak A ops)) := by
  induction ops with
  | nil =>
    intro m A hinv habs
    exact ⟨m, rfl, hinv, habs, fun hshape => ⟨hshape, Nat.le_trans (Nat.le_max_right ..) (Nat.le_max_left ..)⟩⟩
  | cons op ops ih =>
    intro m A hinv habs
    obtain ⟨m', hstep, hinv', habs', hcap'⟩ := step_spec hinv habs op
    obtain ⟨s, hrun, hinvs, habss, hcaps⟩ := ih m' (astep A op) hinv' habs'
    rw [arun_cons]
    refine ⟨s, ?_, hinvs, habss, fun hshape => ?_⟩
    · simp only [run, hstep, hrun, bind, Except.bind, pure, Except.pure]
      cases aout A op <;> rfl
    · obtain ⟨hshape', hle'⟩ := hcap' hshape
      obtain ⟨hshapes, hles⟩ := hcaps hshape'
      -- by order lemmas: `omega` would split every `max` (32 cases)
      exact ⟨hshapes, cap_bound_step hle' hles⟩

theorem run_empty_refines (h : α → Nat) (ops : List (Op α β)) :
    ∃ s, run h HM.empty ops = .ok (s, (arun AMap.empty ops).2) ∧ Inv h s ∧
      ∀ k, absGet s k = (arun AMap.empty ops).1.get k :=
  let ⟨s, h1, h2, h3, _⟩ := run_spec h ops HM.empty AMap.empty (Inv_empty h) absGet_empty
  ⟨s, h1, h2, h3⟩

theorem run_empty_cap_bound (h : α → Nat) (ops : List (Op α β)) :
    ∃ s outs, run h HM.empty ops = .ok (s, outs) ∧ Inv h s ∧ CapShape s.capacity ∧
      s.capacity ≤ max INIT_SIZE (4 * peak (AMap.empty : AMap α β) ops) := by
  obtain ⟨s, hrun, hinv, _, hcap⟩ := run_spec h ops HM.empty AMap.empty (Inv_empty h) absGet_empty
  obtain ⟨hshape, hle⟩ := hcap (Or.inl rfl)
  exact ⟨s, _, hrun, hinv, hshape, by rwa [show (HM.empty : HM α β).buckets.length = 0 from rfl, Nat.max_zero] at hle⟩

end ChibiVerif.HashMap
