/-
C01: from a table of lvalues to the hypothesis `AccOK` of `value_a` — if the lvalue `lvOf lvs i` has side-effect-free address
code (`pureAddr`), designates object `i` in the reference store (`lvAddr … = frameAddr bp0 (off i)`) and the variables its address
depends on are in `D`, then `accOfL` reaches object `i` in every store that agrees with the reference store on `D`.
-/
import ChibiVerif.Lemmas.C01LvalueRoot

namespace ChibiVerif.C01
open ChibiVerif.X86 ChibiVerif.Asm ChibiVerif.Spec.IntSpec ChibiVerif.Gen.CommonType ChibiVerif.C01Codegen ChibiVerif.X86J

/-- the address code of a side-effect-free lvalue is `addrCode`, without temporaries or labels; no side effects, no conflicts -/
theorem pureAddr_facts (tys : List ITy) (off toff : Nat → Int) (lv : LVal) : ∀ (pc : List Ins),
    pureAddr tys off lv = some pc →
      (∀ k c, addrCode tys off toff k c lv = some (J pc, k, c)) ∧ wrL lv = [] ∧ noConflictL lv = true := by
  induction lv with
  | var i => intro pc h; simp only [pureAddr, Option.some.injEq] at h; subst h; exact ⟨fun _ _ => rfl, rfl, rfl⟩
  | deref j => intro pc h; simp only [pureAddr, Option.some.injEq] at h; subst h; exact ⟨fun _ _ => rfl, rfl, rfl⟩
  | member l d ih =>
    intro pc h
    simp only [pureAddr, Option.map_eq_some_iff] at h
    obtain ⟨c0, h0, rfl⟩ := h
    exact ⟨fun k c => by simp [addrCode, (ih c0 h0).1 k c, J_append], (ih c0 h0).2⟩
  | index i0 esz ie =>
    intro pc h
    simp only [pureAddr, Option.map_eq_some_iff] at h
    obtain ⟨⟨ti, ci⟩, h0, rfl⟩ := h
    have f := pure_facts tys off ie ti ci h0
    refine ⟨fun k c => ?_, f.1, f.2.1⟩
    simp only [addrCode, compileJ_pure tys off toff ie ti ci k c h0, Option.map_some]
    rw [J_ptrAddCode]
  | pindex j esz ie =>
    intro pc h
    simp only [pureAddr, Option.map_eq_some_iff] at h
    obtain ⟨⟨ti, ci⟩, h0, rfl⟩ := h
    have f := pure_facts tys off ie ti ci h0
    refine ⟨fun k c => ?_, f.1, f.2.1⟩
    simp only [addrCode, compileJ_pure tys off toff ie ti ci k c h0, Option.map_some]
    rw [J_ptrAddCode]

/-- **the address of a side-effect-free lvalue depends only on the variables its address computation reads** -/
theorem lvAddr_agree (bp0 : BitVec 64) (off : Nat → Int) (D : List Nat) (lv : LVal) : ∀ (σ σr : Env) (pc : List Ins) (a : BitVec 64)
    (σx : Env), pureAddr σ.tys off lv = some pc → Agr D σ σr → (∀ j, j ∈ rdL lv → j ∈ D) → lvAddr bp0 off σr lv = some (a, σx) →
    lvAddr bp0 off σ lv = some (a, σ) := by
  induction lv with
  | var i =>
    intro σ σr pc a σx _ _ _ h
    simp only [lvAddr, Option.some.injEq, Prod.mk.injEq] at h ⊢
    exact ⟨h.1, trivial⟩
  | deref j =>
    intro σ σr pc a σx _ hag hd h
    simp only [lvAddr] at h ⊢
    have hj := hag.on j (hd j (by simp [rdL]))
    rw [hag.tys, hj]
    split at h
    · rename_i ht
      simp only [ht, if_true]
      simp only [Option.map_eq_some_iff, Prod.mk.injEq] at h ⊢
      obtain ⟨p, hp, rfl, _⟩ := h
      exact ⟨p, hp, rfl, trivial⟩
    · simp at h
  | member l d ih =>
    intro σ σr pc a σx hp hag hd h
    simp only [pureAddr, Option.map_eq_some_iff] at hp
    obtain ⟨c0, h0, _⟩ := hp
    simp only [lvAddr, Option.map_eq_some_iff, Prod.mk.injEq] at h ⊢
    obtain ⟨⟨a0, σ'⟩, hl, h1, _⟩ := h
    simp only at h1
    exact ⟨(a0, σ), ih σ σr c0 a0 σ' h0 hag hd hl, h1, rfl⟩
  | index i0 esz ie =>
    intro σ σr pc a σx hp hag hd h
    simp only [pureAddr, Option.map_eq_some_iff] at hp
    obtain ⟨⟨ti, ci⟩, h0, _⟩ := hp
    have f := pure_facts σ.tys off ie ti ci h0
    simp only [lvAddr, Option.map_eq_some_iff, Prod.mk.injEq] at h ⊢
    obtain ⟨⟨k, σ'⟩, he, h1, _⟩ := h
    simp only at h1
    obtain ⟨σ2, he2, _⟩ := (Eval.of_evalE ie he).agree hd hag.symm
    obtain rfl := he2.store_of_wr_nil f.1
    exact ⟨(k, σ2), he2.eq, h1, rfl⟩
  | pindex j esz ie =>
    intro σ σr pc a σx hp hag hd h
    simp only [pureAddr, Option.map_eq_some_iff] at hp
    obtain ⟨⟨ti, ci⟩, h0, _⟩ := hp
    have f := pure_facts σ.tys off ie ti ci h0
    simp only [lvAddr, Option.bind_eq_some_iff] at h ⊢
    obtain ⟨⟨k, σ'⟩, he, h⟩ := h
    simp only at h
    obtain ⟨σ2, he2, _⟩ := (Eval.of_evalE ie he).agree (fun i hi => hd i (by simp [rdL, hi])) hag.symm
    obtain rfl := he2.store_of_wr_nil f.1
    obtain rfl := (Eval.of_evalE ie he).store_of_wr_nil f.1
    refine ⟨(k, σ2), he2.eq, ?_⟩
    simp only
    have hj := hag.on j (hd j (by simp [rdL]))
    rw [hag.tys, hj]
    split at h
    · rename_i ht
      simp only [ht, if_true]
      simp only [Option.map_eq_some_iff, Prod.mk.injEq] at h ⊢
      obtain ⟨p, hp, rfl, _⟩ := h
      exact ⟨p, hp, rfl, trivial⟩
    · simp at h

/-- **a table of side-effect-free lvalues reaches the objects they designate** -/
theorem accOK_of_table (Φ : Frame) (bp0 : BitVec 64) (D : List Nat) (σr : Env) (lvs : List LVal) (i : Nat)
    (σx : Env) (hok : lvOK σr.tys Φ.off D (lvOf lvs i) = true)
    (hdes : lvAddr bp0 Φ.off σr (lvOf lvs i) = some (frameAddr bp0 (Φ.off i), σx)) :
    AccOK Φ bp0 (accOfL σr.tys Φ.off lvs) D σr i := by
  simp only [lvOK, Bool.and_eq_true, List.all_eq_true, List.contains_eq_mem, decide_eq_true_eq] at hok
  obtain ⟨⟨hpa, hwf⟩, hdep⟩ := hok
  obtain ⟨pc, hpc⟩ := Option.isSome_iff_exists.1 hpa
  obtain ⟨ap, dd, hap, hsum, hds⟩ := lvAddr_split bp0 Φ.off σr _ _ σx hdes
  obtain ⟨s1, s2, s3, s4⟩ := split_facts (lvOf lvs i)
  have hdep' : ∀ j, j ∈ rdL (splitMember (lvOf lvs i)).1 → j ∈ D := by
    intro j hj
    apply hdep j
    cases hl : lvOf lvs i <;> simp_all [splitMember, rdL]
  refine ⟨ap, dd, hsum, ?_, ?_⟩
  · simpa [accOfL] using hds
  · intro σ hI k hk
    have hty : σ.tys = σr.tys := hI.tys
    have hpc' : pureAddr σ.tys Φ.off (splitMember (lvOf lvs i)).1 = some pc := by rw [hty]; exact hpc
    have ha := lvAddr_agree bp0 Φ.off D _ σ σr pc ap σx hpc' hI hdep' hap
    obtain ⟨hc, pf⟩ := pureAddr_facts σ.tys Φ.off Φ.toff _ pc hpc'
    have hc := hc k 0
    have E := addr_ev Φ bp0 _ σ (J pc) ap σ k k 0 0 hc ha pf.2 (by rw [s2]; exact hwf) (by rw [pf.1]; exact fun _ h => by simp at h) hk
    rw [pf.1] at E
    simpa [accOfL, hpc] using E

end ChibiVerif.C01
