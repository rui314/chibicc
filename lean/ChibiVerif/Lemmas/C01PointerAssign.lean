/-
C01: pointer arithmetic as judgments — the scaled index (`EvG.scale`), `p + i`, `p - i` (`EvG.ptradd`), `p - q` (`EvG.ptrdiff`),
pointer variables (`EvG.ptrvar`) — and compound assignment and `++` / `--` on pointers (parse.c `to_assign` / `new_inc_dec` over
`new_add` / `new_sub`): `p += i`, `p -= i`, `++p`, `--p` (`ptrOpAssignCode`: `tmp = &p, *tmp = *tmp ± i * sizeof *p` through the hidden pointer
temporary) and `p++`, `p--` (`ptrPostCode`: `(T*)((p += ±1) + ∓1)`), in the judgment `EvG` (Lemmas/C01JumpMachine.lean), so
that the index may be any expression `compileX` handles, side effects included.

The pointer lives in an 8-byte variable of the frame (type `unsigned long` in the store, as in `C01_ptr_add`); addresses are
taken modulo 2^64.
-/
import ChibiVerif.Lemmas.C01EffectsValue
import ChibiVerif.Lemmas.C01Pointer

namespace ChibiVerif.C01
open ChibiVerif.X86 ChibiVerif.Asm ChibiVerif.Spec.IntSpec ChibiVerif.Gen.CommonType ChibiVerif.C01Codegen ChibiVerif.X86J

theorem ofInt64_emod (v : Int) : BitVec.ofInt 64 (v % 18446744073709551616) = BitVec.ofInt 64 v := BitVec.ofInt_emod 64 v

/-- the converse of `Represents.eq_ofInt` at `unsigned long`: a register that is `v` modulo 2^64 represents `v mod 2^64` -/
theorem rep_u64_of_eq (r : BitVec 64) (v : Int) (h : r = BitVec.ofInt 64 v) : Represents .u64 r (v % 18446744073709551616) := by
  rw [rep_u64, h, BitVec.toNat_ofInt]
  omega

section
variable {Φ : Frame} {P : BitVec 64 → Prop} {bp0 : BitVec 64}

/-- **the scaled index** `i * sizeof *p` (parse.c `new_add`): the element size, `push`, the index converted to its common type with
    `long`, `pop`, a 64-bit multiply — `%rax` is `vi * size` modulo 2^64, whatever the type of the index -/
theorem EvG.scale {ci : List JI} {σ σ1 : Env} {W : List Nat} {k0 k1 d : Nat} (ti : ITy) (size vi : Int)
    (hs : ITy.i64.inRange size) (hi : EvG Φ P ci σ σ1 (fun r => Represents ti r vi) W k0 k1 d) (hk : k0 ≤ k1)
    (hW : ∀ i, i ∈ W → Φ.sepv i) (hK : k1 ≤ Φ.K) :
    EvG Φ P (scaleCodeJ ti size ci) σ σ1 (fun r => r = BitVec.ofInt 64 (vi * size)) W k0 k1 (d + 1) := by
  have htm := usualArith_i64 ti
  have hr := (EvG.lit (Φ := Φ) (P := P) σ .i64 size hs k0).then_same
    (R2 := fun r => Represents (usualArith ti .i64) r (convert (usualArith ti .i64) size)) (fun s h => cast_run .i64 _ s size h)
  have hl := hi.then_same (R2 := fun r => Represents (usualArith ti .i64) r (convert (usualArith ti .i64) vi))
    (fun s h => cast_run ti _ s vi h)
  have := EvG.bin (k0 := k0) (k1 := k1) hr hl (cop := opSeq .ND_MUL (usualArith ti .i64))
    (Rres := fun r => r = BitVec.ofInt 64 (vi * size))
    (fun s hax hdi => by
      rw [opSeq_mul64 _ htm]
      obtain ⟨s', h1, h2, h3⟩ := mul64_run s
      refine ⟨s', h1, ?_, h3⟩
      rw [h2, rep64_eq _ htm _ _ hax, rep64_eq _ htm _ _ hdi, BitVec.ofInt_mul])
    ⟨Nat.le_refl _, hk, Nat.le_refl _, Nat.le_refl _⟩ hW hK
  simpa [scaleCodeJ, J_append, J_cons, J_nil, List.append_assoc] using this

theorem J_scaleCode (ti : ITy) (size : Int) (ci : List Ins) : scaleCodeJ ti size (J ci) = J (scaleCode ti size ci) := by
  simp [scaleCodeJ, scaleCode, J, List.map_append]

/-- a pointer variable: `lea; mov (%rax), %rax` leaves its value -/
theorem EvG.ptrvar (σ : Env) (j : Nat) (p : Int) (hj : σ.tys[j]? = some .u64) (hp : σ.vals[j]? = some p) (k : Nat) :
    EvG Φ P (J (iLea (Φ.off j) :: loadSeq .u64)) σ σ (fun r => r = BitVec.ofInt 64 p) [] k k 0 :=
  (EvG.var σ j .u64 p hj hp k).post (fun _ h => h.eq_ofInt rfl)

/-- **`p + i`, `p - i`**: the scaled index, `push`, the pointer, `pop`, 64-bit add / sub -/
theorem EvG.ptradd (isSub : Bool) {ci cp : List JI} {σ σ1 σ2 : Env} {W Wp : List Nat} {k0 k1 kp0 kp1 d dp : Nat} (ti : ITy)
    (size vi : Int) (pa : BitVec 64) (hs : ITy.i64.inRange size) (hi : EvG Φ P ci σ σ1 (fun r => Represents ti r vi) W k0 k1 d)
    (hp : EvG Φ P cp σ1 σ2 (fun r => r = pa) Wp kp0 kp1 dp) (hk : k0 ≤ k1 ∧ k0 ≤ kp0 ∧ kp1 ≤ k1) (hW : ∀ i, i ∈ W → Φ.sepv i)
    (hWp : ∀ i, i ∈ Wp → Φ.sepv i) (hK : k1 ≤ Φ.K) :
    EvG Φ P (scaleCodeJ ti size ci ++ (JI.ins iPush :: (cp ++ (JI.ins iPopRdi :: J (opSeq (if isSub then .ND_SUB else .ND_ADD) .u64)))))
      σ σ2 (fun r => r = if isSub then pa - BitVec.ofInt 64 (vi * size) else pa + BitVec.ofInt 64 (vi * size)) (W ++ Wp) k0 k1
      (max (d + 1) (dp + 1)) :=
  EvG.bin (k0 := k0) (k1 := k1) (EvG.scale ti size vi hs hi hk.1 hW hK) hp
    (fun s hax hdi => by
      cases isSub
      · obtain ⟨s', h1, h2, h3⟩ := add64_run s
        exact ⟨s', h1, by simp [h2, hax, hdi], h3⟩
      · obtain ⟨s', h1, h2, h3⟩ := sub64_run .u64 (Or.inr rfl) s
        exact ⟨s', h1, by simp [h2, hax, hdi], h3⟩)
    ⟨Nat.le_refl _, Nat.le_refl _, hk.2.1, hk.2.2⟩ hWp hK

/-- **`p - q`**: the element size (an `int` literal converted to `long`), `push`, `q`, `push`, `p`, `pop`, 64-bit sub, `pop`,
    `cqo; idiv`; when the two pointers are `kk` elements apart the result is `kk` -/
theorem EvG.ptrdiff {cp cq : List JI} {σ : Env} {k d : Nat} (size : Int) (p q : BitVec 64) (kk : Int) (hs0 : 0 < size)
    (hs : ITy.i32.inRange size) (hk : ITy.i64.inRange (kk * size)) (hpq : p = q + BitVec.ofInt 64 (kk * size))
    (hp : EvG Φ P cp σ σ (fun r => r = p) [] k k d) (hq : EvG Φ P cq σ σ (fun r => r = q) [] k k d) (hK : k ≤ Φ.K) :
    EvG Φ P ((J [iMovImm size] ++ J (castSeq .i32 .i64)) ++ (JI.ins iPush :: ((cq ++ (JI.ins iPush :: (cp ++ (JI.ins iPopRdi ::
      J (opSeq .ND_SUB .i64))))) ++ (JI.ins iPopRdi :: J (opSeq .ND_DIV .i64))))) σ σ (fun r => Represents .i64 r kk) [] k k (d + 2) := by
  have hk4 : k ≤ k ∧ k ≤ k ∧ k ≤ k ∧ k ≤ k := ⟨Nat.le_refl _, Nat.le_refl _, Nat.le_refl _, Nat.le_refl _⟩
  have inner := EvG.bin (k0 := k) (k1 := k) hq hp (cop := opSeq .ND_SUB .i64) (Rres := fun r => r = p - q)
    (fun s hax hdi => by
      obtain ⟨s', h1, h2, h3⟩ := sub64_run .i64 (Or.inl rfl) s
      exact ⟨s', h1, by simp [h2, hax, hdi], h3⟩) hk4 (fun _ h => by simp at h) hK
  have := EvG.bin (k0 := k) (k1 := k) ((EvG.lit (Φ := Φ) (P := P) σ .i32 size hs k).then_same
      (R2 := fun r => Represents .i64 r (convert .i64 size)) (fun s h => cast_run .i32 .i64 s size h)) inner
    (cop := opSeq .ND_DIV .i64) (Rres := fun r => Represents .i64 r kk) (fun s hax hdi => ptrdiff_step size p q kk hs0 hs hk hpq s hax hdi) hk4 (fun _ h => by simp at h) hK
  exact this.weaken (fun _ h => h) (Nat.le_refl _) (Nat.le_refl _) (by omega)

theorem J_ptrOpAssignCode (isSub : Bool) (ti : ITy) (size : Int) (offP tmp : Int) (ci : List Ins) :
    J (ptrOpAssignCode isSub ti size offP tmp ci) =
      (J [iLea tmp, iPush] ++ (J [iLea offP] ++ J (storeSeq .u64))) ++ (J (viaTmp tmp []) ++ (JI.ins iPush ::
        ((scaleCodeJ ti size (J ci) ++ (JI.ins iPush :: (loadCodeL (J (viaTmp tmp [])) .u64 ++ (JI.ins iPopRdi ::
          J (opSeq (if isSub then .ND_SUB else .ND_ADD) .u64))))) ++ J (storeSeq .u64)))) := by
  rw [J_scaleCode]
  simp [ptrOpAssignCode, ptrAddCode, loadCodeL, viaTmp, J, List.map_append]

/-- the new value of the pointer -/
def ptrStep (isSub : Bool) (pv vi size : Int) : Int := if isSub then pv - vi * size else pv + vi * size

/-- **`p += i`, `p -= i`** (`++p`, `--p`) through the hidden pointer temporary `k1`: the pointer variable `j` receives
    `p ± idx * size` modulo 2^64, which is also the value of the expression; the index is evaluated once, before `*tmp` is
    read.  `tmp = &p, *tmp = *tmp ± i` (`EvG.assign_tmp`), the node being `EvG.ptradd` with the pointer read through `tmp` -/
theorem EvG.ptr_opassign (isSub : Bool) {ci : List Ins} {σ σ1 : Env} {W : List Nat} {k0 k1 d j : Nat} (ti : ITy)
    (size vi pv : Int) (hs : ITy.i64.inRange size) (hj : σ.tys[j]? = some .u64) (hsj : Φ.sepv j)
    (hi : EvG Φ (AtBp bp0) (J ci) σ σ1 (fun r => Represents ti r vi) W k0 k1 d) (hpv : σ1.vals[j]? = some pv)
    (hk0 : k0 ≤ k1) (hW : ∀ i, i ∈ W → Φ.sepv i) (hk1 : k1 < Φ.K) :
    EvG Φ (AtBp bp0) (J (ptrOpAssignCode isSub ti size (Φ.off j) (Φ.toff k1) ci)) σ
      (σ1.set j (ptrStep isSub pv vi size % 18446744073709551616))
      (fun r => r = BitVec.ofInt 64 (ptrStep isSub pv vi size)) (j :: W) k0 (k1 + 1) (d + 2) := by
  rw [J_ptrOpAssignCode]
  have V := (EvG.ptradd isSub ti size vi (BitVec.ofInt 64 pv) hs (hi.lift_tmp hk1 (addrOf bp0 (Φ.off j)) hW (Nat.le_refl _))
    ((EvG.load_tmp DS.nil hk1 (by simp) (by rw [hi.1]; exact hj) hpv k1).post (fun r h => h.eq_ofInt rfl))
    ⟨hk0, hk0, Nat.le_refl _⟩ hW (fun _ h => by simp at h) (Nat.le_refl _)).post
    (R2 := fun r => Represents .u64 r (ptrStep isSub pv vi size % 18446744073709551616))
    (fun r h => rep_u64_of_eq r _ (by rw [h]; cases isSub <;> simp [ptrStep, BitVec.ofInt_add, BitVec.ofInt_sub]))
  exact ((EvG.assign_tmp hk1 hj hsj (EvG.lea σ (Φ.off j) k0) (by simp) DS.nil V ⟨Nat.le_refl _, hk0, Nat.le_refl _, Nat.le_refl _⟩
    hk0 (fun _ h => by simp at h) (fun i h => hW i (by simpa using h))).post
    (R2 := fun r => r = BitVec.ofInt 64 (ptrStep isSub pv vi size)) (fun r h => by rw [h.eq_ofInt rfl, ofInt64_emod])).weaken
    (W' := j :: W) (by simp) (Nat.le_refl _) (Nat.le_refl _) (by omega)

/-- **`p++`, `p--`**: `(T*)((p += ±1) + ∓1)` — the value is the old pointer, the variable receives `p ± size` -/
theorem EvG.ptr_postfix (isDec : Bool) {σ : Env} {k0 j : Nat} (size pv : Int) (hs : ITy.i64.inRange size)
    (hj : σ.tys[j]? = some .u64) (hsj : Φ.sepv j) (hpv : σ.vals[j]? = some pv) (hk : k0 < Φ.K) :
    EvG Φ (AtBp bp0) (J (ptrPostCode isDec size (Φ.off j) (Φ.toff k0))) σ
      (σ.set j ((if isDec then pv - size else pv + size) % 18446744073709551616))
      (fun r => r = BitVec.ofInt 64 pv) [j] k0 (k0 + 1) 3 := by
  have ha : ITy.i32.inRange (if isDec then (1 : Int) else -1) := by cases isDec <;> decide
  have hb : ITy.i32.inRange (if isDec then (-1 : Int) else 1) := by cases isDec <;> decide
  have hr := EvG.scale (Φ := Φ) (P := AtBp bp0) .i32 size _ hs (EvG.lit σ .i32 _ ha k0) (Nat.le_refl _) (fun _ h => by simp at h)
    (by omega)
  have hl := EvG.ptr_opassign (Φ := Φ) (bp0 := bp0) (ci := [iMovImm _]) false .i32 size _ pv hs hj hsj (EvG.lit σ .i32 _ hb k0) hpv
    (Nat.le_refl _) (fun _ h => by simp at h) hk
  have := EvG.bin (k0 := k0) (k1 := k0 + 1) hr hl (cop := opSeq .ND_ADD .u64) (Rres := fun r => r = BitVec.ofInt 64 pv)
    (fun s hax hdi => by
      obtain ⟨s', h1, h2, h3⟩ := add64_run s
      refine ⟨s', h1, ?_, h3⟩
      rw [h2, hax, hdi, ← BitVec.ofInt_add]
      congr 1
      cases isDec <;> simp [ptrStep] <;> omega)
    ⟨Nat.le_refl _, by omega, Nat.le_refl _, Nat.le_refl _⟩ (fun i hi => by simp at hi; exact hi ▸ hsj) (by omega)
  have hv : ptrStep false pv (if isDec then (-1 : Int) else 1) size = (if isDec then pv - size else pv + size) := by
    cases isDec <;> simp [ptrStep] <;> omega
  rw [hv] at this
  simpa [ptrPostCode, ptrAddCode, scaleCodeJ, scaleCode, J, List.map_append, List.append_assoc] using this

end

/-- the jump-free code of Model/C01Expr in the spelling of `EvG.ptradd` -/
theorem J_ptrAdd (isSub : Bool) (ti : ITy) (size : Int) (ci cp : List Ins) :
    J (ptrAddCode isSub ti size ci cp) = scaleCodeJ ti size (J ci) ++ (JI.ins iPush :: (J cp ++ (JI.ins iPopRdi ::
      J (opSeq (if isSub then .ND_SUB else .ND_ADD) .u64)))) := by
  rw [J_scaleCode]; simp [ptrAddCode, J, List.map_append]

/-- `J_ptrAdd` at addition, with the right-hand side folded as `ptrAddCodeJ` (Model/C01Lvalue) -/
theorem J_ptrAddCode (ti : ITy) (size : Int) (ci cp : List Ins) :
    ptrAddCodeJ ti size (J ci) (J cp) = J (ptrAddCode false ti size ci cp) := (J_ptrAdd false ti size ci cp).symm

/-- the jump-free `p - q` code of Model/C01Expr in the spelling of `EvG.ptrdiff` -/
theorem J_ptrDiff (size : Int) (cp cq : List Ins) :
    J (ptrDiffCode size cp cq) = (J [iMovImm size] ++ J (castSeq .i32 .i64)) ++ (JI.ins iPush :: ((J cq ++ (JI.ins iPush ::
      (J cp ++ (JI.ins iPopRdi :: J (opSeq .ND_SUB .i64))))) ++ (JI.ins iPopRdi :: J (opSeq .ND_DIV .i64)))) := by
  simp [ptrDiffCode, J, List.map_append]

/-! ### a concrete instance: `int *p = (int *)0x100000000000; int i = 600000000`, one hidden temporary at -24(%rbp) -/

def ptrToff : Nat → Int := fun k => -24 - 8 * (k : Int)

theorem ptrFrameX : FrameX ptrEnv exOff ptrToff 1 3 ptrState :=
  ⟨by decide, lay_of_layoutOK ptrEnv.tys exOff ptrToff 1 4096 (by decide) _ _ (by decide) (by decide),
   fun i t v ht hv => (ptrFrame.2 i t v ht hv).1⟩

end ChibiVerif.C01
