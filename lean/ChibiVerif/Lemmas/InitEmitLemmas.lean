/-
Lemmas for C05_emit: `emit_data`'s loop prints the image, from the position it stands at to the end.
-/
import ChibiVerif.Lemmas.InitMemLemmas

namespace ChibiVerif.Init

/-- relocations ascending, disjoint and inside the object: what `write_gvar_data` produces when the members of every struct lie at
    ascending offsets, as struct_decl places them (`wf` does not ask for it) -/
def RelocsFrom (size : Nat) : Nat → List Reloc → Prop
  | _, [] => True
  | pos, r :: rs => pos ≤ r.offset ∧ r.offset + 8 ≤ size ∧ RelocsFrom size (r.offset + 8) rs

instance (size : Nat) : (pos : Nat) → (rs : List Reloc) → Decidable (RelocsFrom size pos rs)
  | _, [] => isTrue trivial
  | pos, r :: rs =>
    have := instDecidableRelocsFrom size (r.offset + 8) rs
    by unfold RelocsFrom; exact inferInstance

theorem RelocsFrom.mono {size : Nat} : ∀ {rs : List Reloc} {p q : Nat}, q ≤ p → RelocsFrom size p rs → RelocsFrom size q rs
  | [], _, _, _, _ => trivial
  | _ :: _, _, _, h, ⟨h1, h2, h3⟩ => ⟨Nat.le_trans h h1, h2, h3⟩

theorem RelocsFrom.inside {size : Nat} : ∀ {rs : List Reloc} {pos : Nat}, RelocsFrom size pos rs →
    ∀ r ∈ rs, pos ≤ r.offset ∧ r.offset + 8 ≤ size
  | _ :: _, _, ⟨h1, h2, h3⟩, r, hr => by
    rcases List.mem_cons.mp hr with rfl | hr
    · exact ⟨h1, h2⟩
    · have := h3.inside r hr
      omega

theorem emitLoop_end (bytes : List Nat) (size f pos : Nat) (rels : List Reloc) (h : size ≤ pos) :
    emitLoop bytes size f pos rels = [] := by
  cases f <;> simp [emitLoop]; omega

/-- `emit_data`'s loop prints the image from `pos` on -/
theorem emitLoop_drop (bytes : List Nat) (size : Nat) (hb : bytes.length = size) (f pos : Nat) (rels : List Reloc)
    (hp : pos ≤ size) (hf : size - pos ≤ f) (hr : RelocsFrom size pos rels) :
    assemble (emitLoop bytes size f pos rels) = (overlay (bytes.map .byte) rels).drop pos := by
  have hc : (bytes.map Cell.byte).length = size := by simpa using hb
  have hlen := overlay_len rels _ hc fun r h => (hr.inside r h).2
  induction f generalizing pos rels with
  | zero => rw [emitLoop_end _ _ _ _ _ (by omega), List.drop_of_length_le (by omega)]; rfl
  | succ f ih =>
    by_cases hlt : pos < size
    case neg => rw [emitLoop_end _ _ _ _ _ (by omega), List.drop_of_length_le (by omega)]; rfl
    -- no relocation at `pos`: one byte of `init_data`
    have hbyte : RelocsFrom size (pos + 1) rels →
        assemble (.byte (bytes.getD pos 0) :: emitLoop bytes size f (pos + 1) rels) = (overlay (bytes.map .byte) rels).drop pos := by
      intro hr'
      have hpl : pos < (overlay (bytes.map Cell.byte) rels).length := by omega
      rw [assemble, ih (pos + 1) rels (by omega) (by omega) hr' hlen, List.drop_eq_getElem_cons hpl]
      congr 1
      apply Option.some.inj
      rw [← List.getElem?_eq_getElem, overlay_getElem? rels _ pos hc (fun r h => (hr.inside r h).2)
        (fun r h => by have := hr'.inside r h; omega)]
      exact (map_byte_getElem? bytes pos (by omega)).symm
    cases rels with
    | nil => simpa [emitLoop, hlt] using hbyte trivial
    | cons r rs =>
      obtain ⟨h1, h2, h3⟩ := hr
      by_cases heq : r.offset = pos
      · subst heq
        have hin := h3.inside
        have hl := overlay_len rs _ hc fun r h => (hin r h).2
        simp only [emitLoop, hlt, ↓reduceIte, assemble]
        rw [ih _ rs (by omega) (by omega) h3 hl, overlay_cons, overlay_writeAt rs _ _ _ hc (by rw [symCells_length]; exact h2)
          (fun r h => (hin r h).2) (fun r h => by have := hin r h; rw [symCells_length]; omega),
          writeAt_drop _ _ _ (by rw [symCells_length, hl]; exact h2), symCells_length]
        rfl
      · simpa [emitLoop, hlt, heq] using hbyte ⟨by omega, h2, h3⟩

end ChibiVerif.Init
