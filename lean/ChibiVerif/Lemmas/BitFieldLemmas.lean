/-
Helper lemmas for the bit-field family of C04: bit-level descriptions (`getLsbD`) of the mask, of `load`'s extension,
of the and/or merge and of the shl + shr|sar extraction.  Everything is parametric in width and offset; proofs are by
bitwise extensionality with core `BitVec.getLsbD_*` lemmas and `omega`.
-/
import ChibiVerif.Spec.C04Spec
open ChibiVerif.Gen.C04

namespace ChibiVerif.BitField

theorem mask_lt (w : Nat) (h : w < 64) (i : Nat) :
    (((1 : BitVec 64) <<< w) - (1 : BitVec 64)).getLsbD i = decide (i < w) := by
  have h1 : (((1 : BitVec 64) <<< w) - (1 : BitVec 64)) = (BitVec.allOnes w).setWidth 64 := by
    apply BitVec.eq_of_toNat_eq
    have hp : 2 ^ w < 2 ^ 64 := Nat.pow_lt_pow_right (by decide) h
    have hp1 : 0 < 2 ^ w := Nat.two_pow_pos w
    simp [BitVec.toNat_sub, BitVec.toNat_shiftLeft, BitVec.toNat_allOnes, Nat.shiftLeft_eq]
    omega
  rw [h1]
  simp
  omega

theorem allOnes64 : (-(1 : BitVec 64)) = BitVec.allOnes 64 := BitVec.neg_one_eq_allOnes

theorem bfMask_getLsbD (w : Nat) (hw : w ≤ 64) (i : Nat) :
    (bfMask w).getLsbD i = decide (i < w) := by
  unfold bfMask
  split
  · subst_vars; rw [allOnes64, BitVec.getLsbD_allOnes]
  · rw [mask_lt w (by omega)]

/-- bit `i` of an `n`-bit value extended to `m` bits (zero-extended if `z`) and then placed in a 64-bit register -/
theorem ext_getLsbD {n : Nat} (m : Nat) (z : Bool) (x : BitVec n) (hnm : n ≤ m) (i : Nat) (hi : i < 64) :
    ((if z then x.setWidth m else x.signExtend m).setWidth 64).getLsbD i =
      if i < n then x.getLsbD i else (decide (i < m) && !z && x.getLsbD (n - 1)) := by
  cases z <;> simp only [Bool.false_eq_true, if_false, if_true, BitVec.getLsbD_setWidth, BitVec.getLsbD_signExtend,
    BitVec.msb_eq_getLsbD_last, hi, decide_true, Bool.true_and, Bool.not_true, Bool.not_false, Bool.and_false, Bool.false_and, Bool.and_true]
  · by_cases h : i < n
    · rw [if_pos h, if_pos h, decide_eq_true (by omega : i < m), Bool.true_and]
    · rw [if_neg h, if_neg h]
  · by_cases h : i < n
    · rw [if_pos h, decide_eq_true (by omega : i < m), Bool.true_and]
    · rw [if_neg h, BitVec.getLsbD_of_ge _ _ (by omega), Bool.and_false]

/-- `load` extends a 1- or 2-byte unit to 32 bits (zero-extending the unsigned types) and a 4-byte unit to 64 bits by sign -/
theorem loadUnit_eq (u : USize) (isU : Bool) (x : BitVec u.bits) :
    loadUnit u isU x = (if isU && decide (u.bits < 32) then x.setWidth (if u.bits < 32 then 32 else 64)
      else x.signExtend (if u.bits < 32 then 32 else 64)).setWidth 64 := by
  cases u <;> cases isU <;> simp [loadUnit, USize.bits, USize.bytes]

theorem loadUnit_bit (u : USize) (isU : Bool) (x : BitVec u.bits) (i : Nat) (hi : i < 64) :
    (loadUnit u isU x).getLsbD i =
      if i < u.bits then x.getLsbD i
      else (decide (i < if u.bits < 32 then 32 else 64) && !(isU && decide (u.bits < 32)) && x.getLsbD (u.bits - 1)) := by
  rw [loadUnit_eq, ext_getLsbD _ _ _ (by cases u <;> decide) i hi]
theorem loadUnit_getLsbD (s : USize) (isU : Bool) (u : BitVec s.bits) (i : Nat) (hi : i < s.bits) :
    (loadUnit s isU u).getLsbD i = u.getLsbD i :=
  (loadUnit_bit s isU u i (Nat.lt_of_lt_of_le hi s.bits_le)).trans (if_pos hi)

/-- bit `i` of %rax after `and %r9, %rax; or %rdi, %rax` -/
theorem merged_getLsbD (w o : Nat) (hw : 1 ≤ w) (hwo : o + w ≤ 64) (rax v : BitVec 64) (i : Nat) (hi : i < 64) :
    (((rax &&& ~~~(bfMask w <<< o)) ||| ((v &&& bfMask w) <<< shiftCount o))).getLsbD i
      = if o ≤ i ∧ i < o + w then v.getLsbD (i - o) else rax.getLsbD i := by
  have ho : shiftCount (o : Int) = o := by simp [shiftCount]; omega
  rw [ho]
  simp only [BitVec.getLsbD_or, BitVec.getLsbD_and, BitVec.getLsbD_not, BitVec.getLsbD_shiftLeft]
  by_cases h1 : i < o
  · simp [h1, hi]; omega
  · rw [bfMask_getLsbD w (by omega) (i - o)]
    by_cases h3 : i < o + w
    · have : i - o < w := by omega
      simp [h1, hi, this, h3]
    · have : ¬ (i - o < w) := by omega
      simp [h1, hi, this, h3]


theorem shl_cnt (w o : Nat) (hw : 1 ≤ w) (hwo : o + w ≤ 64) : shiftCount (bfShlCount w o) = 64 - w - o := by
  simp [shiftCount, bfShlCount]; omega
theorem shr_cnt (w : Nat) (hw : 1 ≤ w) (hw2 : w ≤ 64) : shiftCount (bfShrCount w) = 64 - w := by
  simp [shiftCount, bfShrCount]; omega

theorem extract_getLsbD (w o : Nat) (hw : 1 ≤ w) (hwo : o + w ≤ 64) (isU isB : Bool) (rax : BitVec 64) (j : Nat) (hj : j < 64) :
    (extract w o isU isB rax).getLsbD j =
      if j < w then rax.getLsbD (j + o) else (!(bfLogical isU isB) && rax.getLsbD (w - 1 + o)) := by
  unfold extract
  rw [shl_cnt w o hw hwo, shr_cnt w hw (by omega)]
  have hshl : ∀ i, 64 - w ≤ i → i < 64 → (rax <<< (64 - w - o)).getLsbD i = rax.getLsbD (i - (64 - w - o)) := fun i h1 h2 => by
    rw [BitVec.getLsbD_shiftLeft, decide_eq_true h2, decide_eq_false (by omega : ¬ i < 64 - w - o)]; rfl
  cases hl : bfLogical isU isB
  · simp only [Bool.false_eq_true, if_false, BitVec.getLsbD_sshiftRight, BitVec.msb_eq_getLsbD_last, Bool.not_false, Bool.true_and,
      decide_eq_false (by omega : ¬ 64 ≤ j)]
    by_cases h : j < w
    · rw [if_pos (by omega), if_pos h, hshl _ (by omega) (by omega)]; congr 1; omega
    · rw [if_neg (by omega), if_neg h, hshl _ (by omega) (by omega)]; congr 1; omega
  · simp only [if_true, BitVec.getLsbD_ushiftRight, Bool.not_true, Bool.false_and]
    by_cases h : j < w
    · rw [if_pos h, hshl _ (by omega) (by omega)]; congr 1; omega
    · rw [if_neg h]; exact BitVec.getLsbD_of_ge _ _ (by omega)

open ChibiVerif.Spec.C04

theorem fieldValue_getLsbD (t : BfType) (w : Nat) (hw : 1 ≤ w) (hw2 : w ≤ 64) (v : BitVec 64) (j : Nat) (hj : j < 64) :
    (fieldValue t w v).getLsbD j = if j < w then v.getLsbD j else (!(bfUnsigned t) && v.getLsbD (w - 1)) := by
  have := ext_getLsbD 64 (bfUnsigned t) (v.setWidth w) hw2 j hj
  rw [BitVec.setWidth_eq] at this
  rw [fieldValue, this, BitVec.getLsbD_setWidth, BitVec.getLsbD_setWidth, decide_eq_true hj, decide_eq_true (by omega : w - 1 < w),
    Bool.true_and, Bool.true_and]
  by_cases h : j < w
  · rw [if_pos h, if_pos h, decide_eq_true h, Bool.true_and]
  · rw [if_neg h, if_neg h]
theorem logical_eq_spec (t : BfType) : bfLogical t.implUnsigned t.implBool = bfUnsigned t := by
  cases t <;> decide

theorem assigned_getLsbD (t : BfType) (w o : Nat) (hw : 1 ≤ w) (hwo : o + w ≤ t.usize.bits)
    (old : BitVec t.usize.bits) (v : BitVec 64) (i : Nat) (hi : i < t.usize.bits) :
    (loadUnit t.usize t.implUnsigned old &&& ~~~(bfMask w <<< o) ||| (v &&& bfMask w) <<< shiftCount ↑o).getLsbD i =
      if o ≤ i ∧ i < o + w then v.getLsbD (i - o) else old.getLsbD i := by
  have hb := t.usize.bits_le
  rw [merged_getLsbD w o hw (by omega) _ _ _ (by omega), loadUnit_getLsbD _ _ _ _ hi]

theorem assigned_field (t : BfType) (w o : Nat) (hw : 1 ≤ w) (hwo : o + w ≤ t.usize.bits)
    (old : BitVec t.usize.bits) (v : BitVec 64) (x : Nat) (hx : x < w) :
    (loadUnit t.usize t.implUnsigned old &&& ~~~(bfMask w <<< o) ||| (v &&& bfMask w) <<< shiftCount ↑o).getLsbD (x + o) =
      v.getLsbD x := by
  rw [assigned_getLsbD t w o hw hwo old v (x + o) (by omega), if_pos (by omega), Nat.add_sub_cancel]

theorem bfAssignT_unit_getLsbD (t : BfType) (w o : Nat) (hw : 1 ≤ w) (hwo : o + w ≤ t.usize.bits)
    (old : BitVec t.usize.bits) (v : BitVec 64) (i : Nat) (hi : i < t.usize.bits) :
    (bfAssignT t w o old v).unit.getLsbD i = if o ≤ i ∧ i < o + w then v.getLsbD (i - o) else old.getLsbD i := by
  unfold bfAssignT bfAssign storeUnit
  simp only
  rw [BitVec.getLsbD_setWidth, assigned_getLsbD t w o hw hwo old v i hi]
  simp [hi]

theorem bfLoadT_getLsbD (t : BfType) (w o : Nat) (hw : 1 ≤ w) (hwo : o + w ≤ t.usize.bits) (u : BitVec t.usize.bits)
    (j : Nat) (hj : j < 64) :
    (bfLoadT t w o u).getLsbD j = if j < w then u.getLsbD (j + o) else (!(bfUnsigned t) && u.getLsbD (w - 1 + o)) := by
  have hb := t.usize.bits_le
  unfold bfLoadT bfLoad
  rw [extract_getLsbD w o hw (by omega) _ _ _ j hj, logical_eq_spec, loadUnit_getLsbD _ _ _ (w - 1 + o) (by omega)]
  by_cases h : j < w
  · rw [if_pos h, if_pos h, loadUnit_getLsbD _ _ _ _ (by omega)]
  · rw [if_neg h, if_neg h]

/-- reading a bit-field after `s.f = v` yields `fieldValue`: the low `w` bits of `v`, extended as the declared type says -/
theorem bf_roundtrip (t : BfType) (w o : Nat) (hw : 1 ≤ w) (hwo : o + w ≤ t.usize.bits)
    (old : BitVec t.usize.bits) (v : BitVec 64) :
    bfLoadT t w o (bfAssignT t w o old v).unit = fieldValue t w v := by
  have hb := t.usize.bits_le
  apply BitVec.eq_of_getLsbD_eq
  intro j hj
  have key : ∀ x, x < w → (bfAssignT t w o old v).unit.getLsbD (x + o) = v.getLsbD x := fun x hx => by
    rw [bfAssignT_unit_getLsbD t w o hw hwo old v (x + o) (by omega), if_pos (by omega), Nat.add_sub_cancel]
  rw [fieldValue_getLsbD t w hw (by omega) v j hj, bfLoadT_getLsbD t w o hw hwo _ j hj, key (w - 1) (by omega)]
  by_cases h : j < w
  · rw [if_pos h, if_pos h, key j h]
  · rw [if_neg h, if_neg h]

/-- the value of the assignment expression `s.f = v` is `fieldValue` too (C11 6.5.16p3) -/
theorem bfAssignT_rax (t : BfType) (w o : Nat) (hw : 1 ≤ w) (hwo : o + w ≤ t.usize.bits)
    (old : BitVec t.usize.bits) (v : BitVec 64) : (bfAssignT t w o old v).rax = fieldValue t w v := by
  have hb := t.usize.bits_le
  apply BitVec.eq_of_getLsbD_eq
  intro j hj
  unfold bfAssignT bfAssign
  simp only
  rw [fieldValue_getLsbD t w hw (by omega) v j hj, extract_getLsbD w o hw (by omega) _ _ _ j hj, logical_eq_spec,
    assigned_field t w o hw hwo old v (w - 1) (by omega)]
  by_cases h : j < w
  · rw [if_pos h, if_pos h, assigned_field t w o hw hwo old v j h]
  · rw [if_neg h, if_neg h]

theorem readLE_getLsbD : ∀ (n : Nat) (m : Mem) (a : Int) (i : Nat), i < 8 * n →
    (readLE m a n).getLsbD i = (m (a + (i / 8 : Nat))).getLsbD (i % 8) := by
  intro n
  induction n with
  | zero => intro m a i hi; omega
  | succ n ih =>
    intro m a i hi
    simp only [readLE, BitVec.getLsbD_cast, BitVec.getLsbD_append]
    by_cases h : i < 8
    · have e1 : i / 8 = 0 := by omega
      have e2 : i % 8 = i := by omega
      simp [h, e1, e2]
    · simp only [h, if_false]
      rw [ih m (a + 1) (i - 8) (by omega)]
      have e1 : (a + 1 + ((i - 8) / 8 : Nat) : Int) = a + (i / 8 : Nat) := by omega
      have e2 : (i - 8) % 8 = i % 8 := by omega
      rw [e1, e2]


theorem write_outside (m : Mem) (a : Int) (n : Nat) (v : BitVec (8 * n)) (x : Int) (h : x < a ∨ a + n ≤ x) :
    writeLE m a n v x = m x := by
  unfold writeLE
  have : ¬ (a ≤ x ∧ x < a + (n : Int)) := by omega
  rw [if_neg this]

theorem write_inside_bit (m : Mem) (a : Int) (n : Nat) (v : BitVec (8 * n)) (x : Int) (b : Nat) (hb : b < 8)
    (h : a ≤ x ∧ x < a + n) : (writeLE m a n v x).getLsbD b = v.getLsbD (8 * (x - a).toNat + b) := by
  unfold writeLE
  rw [if_pos h, BitVec.getLsbD_extractLsb']
  simp [hb]

theorem writeLE_getLsbD (m : Mem) (a : Int) (n : Nat) (v : BitVec (8 * n)) (i : Nat) (hi : i < 8 * n) :
    (writeLE m a n v (a + (i / 8 : Nat))).getLsbD (i % 8) = v.getLsbD i := by
  rw [write_inside_bit m a n v _ _ (by omega) (by omega)]
  congr 1
  omega

theorem read_write (m : Mem) (a : Int) (n : Nat) (v : BitVec (8 * n)) : readLE (writeLE m a n v) a n = v := by
  apply BitVec.eq_of_getLsbD_eq
  intro i hi
  rw [readLE_getLsbD n _ a i hi, writeLE_getLsbD m a n v i hi]

theorem read_bit (m : Mem) (a : Int) (n : Nat) (x : Int) (b : Nat) (hb : b < 8) (h : a ≤ x ∧ x < a + n) :
    (readLE m a n).getLsbD (8 * (x - a).toNat + b) = (m x).getLsbD b := by
  rw [readLE_getLsbD n m a _ (by omega)]
  have e1 : (8 * (x - a).toNat + b) / 8 = (x - a).toNat := by omega
  have e2 : (8 * (x - a).toNat + b) % 8 = b := by omega
  rw [e1, e2]
  congr 2
  omega


/-- the emitted read of a bit-field depends on the field's own bits `[o, o + w)` of the unit only -/
theorem bfLoadT_congr (t : BfType) (w o : Nat) (hw : 1 ≤ w) (hwo : o + w ≤ t.usize.bits) (u1 u2 : BitVec t.usize.bits)
    (h : ∀ i, o ≤ i → i < o + w → u1.getLsbD i = u2.getLsbD i) : bfLoadT t w o u1 = bfLoadT t w o u2 := by
  apply BitVec.eq_of_getLsbD_eq
  intro j hj
  rw [bfLoadT_getLsbD t w o hw hwo u1 j hj, bfLoadT_getLsbD t w o hw hwo u2 j hj, h (w - 1 + o) (by omega) (by omega)]
  by_cases hjw : j < w
  · rw [if_pos hjw, if_pos hjw, h (j + o) (by omega) (by omega)]
  · rw [if_neg hjw, if_neg hjw]

theorem bfAssignT_outside (t : BfType) (w o : Nat) (hw : 1 ≤ w) (hwo : o + w ≤ t.usize.bits)
    (old : BitVec t.usize.bits) (v : BitVec 64) (i : Nat) (hi : i < t.usize.bits) (hout : i < o ∨ o + w ≤ i) :
    (bfAssignT t w o old v).unit.getLsbD i = old.getLsbD i := by
  rw [bfAssignT_unit_getLsbD t w o hw hwo old v i hi, if_neg (by omega)]

/-- `s.f = v` on a byte memory changes no bit outside the field's absolute bit range `[8·addr + o, 8·addr + o + w)` -/
theorem bf_mem_bits (t : BfType) (w o : Nat) (hw : 1 ≤ w) (hwo : o + w ≤ t.usize.bits) (m : Mem) (addr : Int) (v : BitVec 64)
    (x : Int) (b : Nat) (hb : b < 8)
    (hout : 8 * x + b < 8 * addr + o ∨ 8 * addr + o + w ≤ 8 * x + b) :
    ((bfAssignMem t w o m addr v).1 x).getLsbD b = (m x).getLsbD b := by
  unfold bfAssignMem
  simp only
  by_cases hin : addr ≤ x ∧ x < addr + (t.usize.bytes : Nat)
  · rw [write_inside_bit _ _ _ _ x b hb hin]
    have hi : 8 * (x - addr).toNat + b < t.usize.bits := by
      have : (x - addr).toNat < t.usize.bytes := by omega
      show 8 * (x - addr).toNat + b < 8 * t.usize.bytes
      omega
    rw [bfAssignT_outside t w o hw hwo _ v _ hi (by omega)]
    exact read_bit m addr t.usize.bytes x b hb hin
  · rw [write_outside _ _ _ _ x (by omega)]

end ChibiVerif.BitField
