/-
The vocabulary the theorems of Props/C02.lean are stated with, over the models and the C11 side of the specification (Spec/FpC11Spec).  Instruction lists: `instrsOf`, `castSeq`
(over `descr`, the type descriptor of an arithmetic type), `chainSeq`, `nest`, `operandCode`, `binarySeq`.  Where `gen_expr`
leaves a value and what it leaves alone: `RInt`, `Holds`, `stBelow`, `Yields`; which conversions need the ABI's x87 precision:
`usesX87Arith`, `chainUsesX87Arith`.  The value side of the operators: `b2bv`, `FOp.cmpOp`, `SrcOp.cmpOp`, `sseArith32/64`,
`x87Arith`, `arithVal`.  No lemma here.
-/
import ChibiVerif.Model.FpMachine
import ChibiVerif.Model.FpCodegen
import ChibiVerif.Model.FpChain
import ChibiVerif.Spec.FpC11Spec

namespace ChibiVerif.Fp
open ChibiVerif.Asm ChibiVerif.X86 ChibiVerif.Spec.Fpu ChibiVerif.FpCodegen ChibiVerif.Spec.FpC11
open ChibiVerif.Spec.IntSpec ChibiVerif.Gen.CommonType ChibiVerif.FpChain

/-- instruction list of model lines -/
def instrsOf (ls : List Line) : List Ins := ls.flatMap Line.instrs

/-- the chibicc type descriptor of each of the twelve arithmetic types -/
def descr : ATy → TyD
  | .int .bool => ty_bool | .int .i8 => ty_char | .int .i16 => ty_short | .int .i32 => ty_int | .int .i64 => ty_long
  | .int .u8 => ty_uchar | .int .u16 => ty_ushort | .int .u32 => ty_uint | .int .u64 => ty_ulong
  | .f32 => ty_float | .f64 => ty_double | .f80 => ty_ldouble

/-- the instructions `cast(from, to)` prints (generated table, or the `_Bool` sequence) -/
def castSeq (f t : ATy) : List Ins := instrsOf (FpCodegen.cast (descr f) (descr t))

/-- a C truth value as %rax holds it -/
def b2bv (b : Bool) : BitVec 64 := if b then 1#64 else 0#64

/-- the C11 answer of the node-level operator when the flags describe `rhs ? lhs` (the order in which both the SSE and the
    x87 arm compare: `ucomis %xmm0, %xmm1` with lhs in %xmm0; `fcomip` with rhs in %st(0)); asked only of the four comparison
    operators (`isCmp`), the arithmetic ones fall to `.eq` -/
def _root_.ChibiVerif.FpCodegen.FOp.cmpOp : FOp → CmpOp
  | .eq => .eq | .ne => .ne | .lt => .lt | .le => .le
  | _ => .eq

/-- representation invariant of integers in %rax (comment above `load` in codegen.c); the same proposition as `C01.Represents`
    of Lemmas/C01Lemmas (`rint_iff`, by `Iff.rfl`), written out here because this module does not import the C01 lemmas -/
def RInt (t : ITy) (r : BitVec 64) (v : Int) : Prop :=
  t.inRange v ∧
  match t with
  | .i64 | .u64 | .bool => (r.toNat : Int) = v % 18446744073709551616
  | _ => ((r.toNat % 4294967296 : Nat) : Int) = v % 4294967296

/-- the value `x` of type `t` is where `gen_expr` leaves it: an integer in %rax under `RInt`, a float in the low 32 bits of
    %xmm0, a double in %xmm0, a long double on top of the x87 stack -/
def Holds (t : ATy) (s : FState) (x : AVal) : Prop :=
  match t, x with
  | .int t, .int v => RInt t (s.x.get .rax) v
  | .f32, .f32 b => s.xmm0.setWidth 32 = b
  | .f64, .f64 b => s.xmm0 = b
  | .f80, .f80 b => ∃ rest, s.st = b :: rest
  | _, _ => False

/-- the x87 stack below the operand: `s.st`, unless the operand itself (a long double) is on it -/
def stBelow (t : ATy) (s : FState) : List (BitVec 80) := if t = .f80 then s.st.tail else s.st

/-- the two cells that do x87 *arithmetic* (`fadds` of 2^64 after `fildq`; `fsub` of 2^63 before `fistpq`): their results
    are exact only in double extended precision, the x87 precision the psABI prescribes (control word 0x37f) -/
def usesX87Arith (frm to : ATy) : Bool :=
  (frm == .int .u64 && to == .f80) || (frm == .f80 && to == .int .u64)

/-- the operation of `F` that the TY_FLOAT / TY_DOUBLE / TY_LDOUBLE arm applies for `+ − × ÷` (asked only of those four) -/
def sseArith32 (F : FpuSpec) : FOp → BitVec 32 → BitVec 32 → BitVec 32
  | .add => F.addss | .sub => F.subss | .mul => F.mulss | .div => F.divss
  | _ => fun a _ => a

def sseArith64 (F : FpuSpec) : FOp → BitVec 64 → BitVec 64 → BitVec 64
  | .add => F.addsd | .sub => F.subsd | .mul => F.mulsd | .div => F.divsd
  | _ => fun a _ => a

def x87Arith (F : FpuSpec) (cw : BitVec 16) : FOp → BitVec 80 → BitVec 80 → BitVec 80
  | .add => F.fadd cw | .sub => F.fsub cw | .mul => F.fmul cw | .div => F.fdiv cw
  | _ => fun a _ => a

/-- source-level `>` / `>=` are `<` / `<=` with exchanged operands (parse.c `relational`) -/
def SrcOp.cmpOp : SrcOp → Option CmpOp
  | .eq => some .eq | .ne => some .ne | .lt => some .lt | .le => some .le | .gt => some .gt | .ge => some .ge
  | _ => none

/-- the instructions of the conversions `t0 → t1 → … → tn`, one `cast()` per link -/
def chainSeq (t0 : ATy) : List ATy → List Ins
  | [] => []
  | t :: ts => castSeq t0 t ++ chainSeq t ts

/-- does some link do x87 arithmetic (unsigned long ↔ long double)? -/
def chainUsesX87Arith (t0 : ATy) : List ATy → Bool
  | [] => false
  | t :: ts => usesX87Arith t0 t || chainUsesX87Arith t ts

/-- `(tn)…(t1)e` where `e : t0` is any operand with code `code` -/
def nest (t0 : ATy) (code : List Line) (ts : List ATy) : CastE := (CastE.leaf (descr t0) code).wrap (ts.map descr)

/-- the code of one operand of `a op b`: the global, its load, and the conversion to the type `c` -/
def operandCode (var : List Line) (t c : ATy) : List Line := var ++ load (descr t) ++ FpCodegen.cast (descr t) (descr c)

/-- operand code that yields the value `x` of type `t` from every state, and writes neither memory nor %rsp, the x87 control
    word or the x87 stack below its result (e.g. a constant being materialised, a register copy) -/
def Yields (F : FpuSpec) (code : List Ins) (t : ATy) (x : AVal) : Prop :=
  ∀ s, ∃ s', run F code s = some s' ∧ Holds t s' x ∧ s'.x.mem = s.x.mem ∧ s'.x.get .rsp = s.x.get .rsp ∧ s'.cw = s.cw ∧
    stBelow t s' = s.st

/-- the instructions of `a op b` (arithmetic `op`, operands of types `a`, `b`, common type `c`, operand codes `codeA`, `codeB`):
    TY_LDOUBLE: `gen_expr(lhs); gen_expr(rhs); op`; TY_FLOAT / TY_DOUBLE: `gen_expr(rhs); pushf(); gen_expr(lhs); popf(1); op`,
    where `lhs`/`rhs` are the operands under the `ND_CAST` to the common type that `usual_arith_conv` inserted -/
def binarySeq (c : ATy) (op : FOp) (a b : ATy) (codeA codeB : List Ins) : List Ins :=
  if c = .f80 then (codeA ++ castSeq a c) ++ ((codeB ++ castSeq b c) ++ instrsOf (x87Op op))
  else (codeB ++ castSeq b c) ++ (instrsOf pushf ++ ((codeA ++ castSeq a c) ++ (instrsOf popf1 ++ instrsOf (sseOp (c == .f32) op))))

/-- the value of `x op y` in a floating type, relative to `F`: one application of the FPU's operation, left operand first -/
def arithVal (F : FpuSpec) (cw : BitVec 16) (op : FOp) : AVal → AVal → Option AVal
  | .f32 p, .f32 q => some (.f32 (sseArith32 F op p q))
  | .f64 p, .f64 q => some (.f64 (sseArith64 F op p q))
  | .f80 p, .f80 q => some (.f80 (x87Arith F cw op p q))
  | _, _ => none

end ChibiVerif.Fp
