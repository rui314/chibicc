/-
C02: `a op b` with operands of two arithmetic types and a floating common type (usual arithmetic conversions, C11 6.3.1.8).

`gen_expr` evaluates the operands under the `ND_CAST` nodes `usual_arith_conv` put on them, in one of two orders:
TY_LDOUBLE `gen_expr(lhs); gen_expr(rhs); op` (both on the x87 stack), TY_FLOAT / TY_DOUBLE `gen_expr(rhs); pushf(); gen_expr(lhs);
popf(1); op` (the right operand waits on the machine stack while the left one is evaluated and converted).  This file composes
`link` (= C02_select / C01_cast: each operand is converted by the cell of (its type, common type)), `pushf`/`popf`, and
`arith_f32/f64/f80` (= C02_arith: operand order) into the value of the whole expression.

What makes the SSE order sound is a frame fact for all 22 cells involved (`cast_sse_mem`, from the `mem` conjunct of the block
lemmas `eff_int_f32` / `eff_int_f64` of Lemmas/FpCellLemmas): a conversion to float / double from anything but long double uses
registers only, so the saved operand is still at (%rsp) when `popf(1)` reads it.
-/
import ChibiVerif.Lemmas.FpChainLemmas
import ChibiVerif.Lemmas.FpOpLemmas

namespace ChibiVerif.Fp
open ChibiVerif.Asm ChibiVerif.X86 ChibiVerif.Spec.Fpu ChibiVerif.FpCodegen ChibiVerif.Spec.FpC11
open ChibiVerif.Spec.IntSpec ChibiVerif.Gen.CommonType ChibiVerif.Gen.CastTable

/-- `cast(from, float|double)` with `from` ≠ long double: no store -/
theorem cast_sse_mem (F : FpuSpec) (frm to : ATy) (hto : to = .f32 ∨ to = .f64) (hf : frm ≠ .f80) (s : FState) :
    ∃ s', run F (castSeq frm to) s = some s' ∧ s'.x.mem = s.x.mem := by
  cases frm with
  | f80 => exact absurd rfl hf
  | f32 | f64 => rcases hto with rfl | rfl <;> exact ⟨_, rfl, rfl⟩
  | int t =>
    cases h : (s.x.get .rax).msb with
    | false =>
      rcases hto with rfl | rfl
      · obtain ⟨s', hrun, _, _, _, _, hm⟩ := eff_int_f32 F t s (fun _ => h); exact ⟨s', hrun, hm⟩
      · obtain ⟨s', hrun, _, _, _, _, hm⟩ := eff_int_f64 F t s (fun _ => h); exact ⟨s', hrun, hm⟩
    | true =>
      by_cases ht : t = .u64 ∨ t = .bool
      · rcases hto with rfl | rfl
        · obtain ⟨s', hrun, _, _, _, _, hm⟩ := eff_u64f32_neg F s h
          exact ⟨s', by rcases ht with rfl | rfl <;> exact hrun, hm⟩
        · obtain ⟨s', hrun, _, _, _, _, hm⟩ := eff_u64f64_neg F s h
          exact ⟨s', by rcases ht with rfl | rfl <;> exact hrun, hm⟩
      · rcases hto with rfl | rfl
        · obtain ⟨s', hrun, _, _, _, _, hm⟩ := eff_int_f32 F t s (fun h' => absurd h' ht); exact ⟨s', hrun, hm⟩
        · obtain ⟨s', hrun, _, _, _, _, hm⟩ := eff_int_f64 F t s (fun h' => absurd h' ht); exact ⟨s', hrun, hm⟩

theorem pushf_eff (F : FpuSpec) (s : FState) :
    ∃ s', run F (instrsOf pushf) s = some s' ∧ s'.x.read64 (s'.x.get .rsp) = s.xmm0 ∧ s'.x.get .rsp = s.x.get .rsp - 8 ∧
      s'.st = s.st ∧ s'.cw = s.cw := by
  obtain ⟨x, xmm0, xmm1, st, cw⟩ := s
  refine ⟨_, rfl, ?_, ?_, rfl, rfl⟩
  · simp only [State.ea]
    have : ∀ (y : State), (y.write64 (y.get .rsp + BitVec.ofInt 64 0) xmm0).read64
        ((y.write64 (y.get .rsp + BitVec.ofInt 64 0) xmm0).get .rsp) = xmm0 := by
      intro y
      rw [State.get_write64]
      have : y.get .rsp + BitVec.ofInt 64 0 = y.get .rsp := by simp
      rw [this]; exact State.read64_write64 _ _ _
    exact this _
  · simp only [State.ea]
    rw [State.get_write64]
    simp [State.src, State.setW, State.getW, State.flags, State.get, State.set]

theorem popf1_eff (F : FpuSpec) (s : FState) :
    ∃ s', run F (instrsOf popf1) s = some s' ∧ s'.xmm1 = s.x.read64 (s.x.get .rsp) ∧ s'.xmm0 = s.xmm0 ∧
      s'.x.get .rsp = s.x.get .rsp + 8 ∧ s'.st = s.st ∧ s'.cw = s.cw := by
  obtain ⟨x, xmm0, xmm1, st, cw⟩ := s
  refine ⟨_, rfl, ?_, rfl, ?_, rfl, rfl⟩
  · simp [State.ea]
  · simp [State.src, State.setW, State.getW, State.flags, State.get, State.set]


theorem not_x87arith_sse (t c : ATy) (hc : c = .f32 ∨ c = .f64) : usesX87Arith t c = false := by
  rcases hc with rfl | rfl <;> cases t <;> simp [usesX87Arith]

theorem run_unique {F : FpuSpec} {is : List Ins} {s a b : FState} (h1 : run F is s = some a) (h2 : run F is s = some b) : a = b :=
  Option.some.inj (h1.symm.trans h2)

theorem holds_f32_inv {s : FState} {v : AVal} (h : Holds .f32 s v) : ∃ b, v = .f32 b ∧ s.xmm0.setWidth 32 = b := by
  cases v <;> simp_all [Holds]

theorem holds_f64_inv {s : FState} {v : AVal} (h : Holds .f64 s v) : ∃ b, v = .f64 b ∧ s.xmm0 = b := by
  cases v <;> simp_all [Holds]

/-- after `gen_expr(rhs)`: convert, save, evaluate and convert the left operand, restore into %xmm1 -/
theorem sse_operands (F : FpuSpec) (a b c : ATy) (hc : c = .f32 ∨ c = .f64) (ha : a ≠ .f80) (hb : b ≠ .f80)
    (codeA : List Ins) (x y x' y' : AVal) (s : FState)
    (hy : Holds b s y) (hx : Yields F codeA a x)
    (cy : convert F s.cw c y = some y') (cx : convert F s.cw c x = some x') :
    ∃ s1 s5, Holds c s1 y' ∧
      run F (castSeq b c ++ (instrsOf pushf ++ ((codeA ++ castSeq a c) ++ instrsOf popf1))) s = some s5 ∧
      Holds c s5 x' ∧ s5.xmm1 = s1.xmm0 ∧ s5.x.get .rsp = s.x.get .rsp ∧ s5.cw = s.cw ∧ s5.st = s.st := by
  obtain ⟨s1, r1, h1, cw1, st1, rsp1⟩ := link F b c s y y' hy cy (by simp [not_x87arith_sse b c hc])
  obtain ⟨s2, r2, m2, rsp2, st2, cw2⟩ := pushf_eff F s1
  obtain ⟨s3, r3, h3, m3, rsp3, cw3, st3⟩ := hx s2
  have cwe : s3.cw = s.cw := by rw [cw3, cw2, cw1]
  obtain ⟨s4, r4, h4, cw4, st4, rsp4⟩ := link F a c s3 x x' h3 (by rw [cwe]; exact cx) (by simp [not_x87arith_sse a c hc])
  obtain ⟨s4', r4', m4⟩ := cast_sse_mem F a c hc ha s3
  -- `link` does not say that the cast writes no memory; `cast_sse_mem` runs it again and `run` is a function
  have e4 := run_unique r4 r4'; subst e4
  obtain ⟨s5, r5, x1, x0, rsp5, st5, cw5⟩ := popf1_eff F s4
  have hcf : c ≠ .f80 := by rcases hc with rfl | rfl <;> simp
  have stb : ∀ (t : ATy) (u : FState), t ≠ .f80 → stBelow t u = u.st := by intro t u h; simp [stBelow, h]
  refine ⟨s1, s5, h1, ?_, ?_, ?_, ?_, by rw [cw5, cw4, cwe], ?_⟩
  · rw [run_append F _ _ s s1 r1, run_append F _ _ s1 s2 r2, run_append F _ _ s2 s4, r5]
    rw [run_append F _ _ s2 s3 r3, r4]
  · rcases hc with rfl | rfl
    · obtain ⟨p, rfl, hp⟩ := holds_f32_inv h4
      show s5.xmm0.setWidth 32 = p
      rw [x0, hp]
    · obtain ⟨p, rfl, hp⟩ := holds_f64_inv h4
      show s5.xmm0 = p
      rw [x0, hp]
  · rw [x1, rsp4, rsp3, read64_mem s2.x s4.x (by rw [m4, m3]) _, m2]
  · rw [rsp5, rsp4, rsp3, rsp2, rsp1]; bv_omega
  · rw [st5, ← stb c s4 hcf, st4, st3, st2, ← stb c s1 hcf, st1, stb b s hb]


/-- `a op b` with common type float or double, `gen_expr`'s order `rhs; pushf; lhs; popf(1); op`: from the state `s` in which
    the right operand's code has left `y`, with any left operand code that `Yields` `x`, the result is `(c)x op (c)y`, left
    operand first; %rsp, control word and x87 stack as in `s` -/
theorem binary_sse (F : FpuSpec) (op : FOp) (hop : op.isCmp = false) (a b c : ATy) (hc : c = .f32 ∨ c = .f64)
    (ha : a ≠ .f80) (hb : b ≠ .f80) (codeA codeB : List Ins) (x y x' y' z : AVal) (s0 s : FState)
    (hrunB : run F codeB s0 = some s) (hy : Holds b s y) (hx : Yields F codeA a x)
    (cy : convert F s.cw c y = some y') (cx : convert F s.cw c x = some x') (hz : arithVal F s.cw op x' y' = some z) :
    ∃ s', run F (binarySeq c op a b codeA codeB) s0 = some s' ∧ Holds c s' z ∧
      s'.x.get .rsp = s.x.get .rsp ∧ s'.cw = s.cw ∧ s'.st = s.st := by
  obtain ⟨s1, s5, h1, r5, h5, x1, rsp5, cw5, st5⟩ := sse_operands F a b c hc ha hb codeA x y x' y' s hy hx cy cx
  have hcf : c ≠ .f80 := by rcases hc with rfl | rfl <;> simp
  have hseq : binarySeq c op a b codeA codeB =
      codeB ++ ((castSeq b c ++ (instrsOf pushf ++ ((codeA ++ castSeq a c) ++ instrsOf popf1))) ++
        instrsOf (sseOp (c == .f32) op)) := by
    simp [binarySeq, hcf, List.append_assoc]
  rw [hseq, run_append F _ _ s0 s hrunB, run_append F _ _ s s5 r5]
  rcases hc with rfl | rfl
  · obtain ⟨s6, r6, v6, st6, cw6, rsp6⟩ := arith_f32 F op hop s5
    refine ⟨s6, r6, ?_, by rw [rsp6, rsp5], by rw [cw6, cw5], by rw [st6, st5]⟩
    obtain ⟨p, rfl, hp⟩ := holds_f32_inv h5
    obtain ⟨q, rfl, hq⟩ := holds_f32_inv h1
    simp only [arithVal, Option.some.injEq] at hz
    subst hz
    show s6.xmm0.setWidth 32 = _
    rw [v6, hp, x1, hq]
  · obtain ⟨s6, r6, v6, st6, cw6, rsp6⟩ := arith_f64 F op hop s5
    refine ⟨s6, r6, ?_, by rw [rsp6, rsp5], by rw [cw6, cw5], by rw [st6, st5]⟩
    obtain ⟨p, rfl, hp⟩ := holds_f64_inv h5
    obtain ⟨q, rfl, hq⟩ := holds_f64_inv h1
    simp only [arithVal, Option.some.injEq] at hz
    subst hz
    show s6.xmm0 = _
    rw [v6, hp, x1, hq]

/-- `a op b` with common type long double, `gen_expr`'s order `lhs; rhs; op` on the x87 stack: from the state `s` in which the
    left operand's code has left `x`, with any right operand code that `Yields` `y`, the top of the stack is `(ld)x op (ld)y`
    under the control word in force; the stack below, %rsp and the control word as in `s` -/
theorem binary_x87 (F : FpuSpec) (op : FOp) (hop : op.isCmp = false) (a b : ATy)
    (codeA codeB : List Ins) (x y x' y' z : AVal) (s0 s : FState)
    (hrunA : run F codeA s0 = some s) (hx : Holds a s x) (hy : Yields F codeB b y)
    (cx : convert F s.cw .f80 x = some x') (cy : convert F s.cw .f80 y = some y') (hz : arithVal F s.cw op x' y' = some z)
    (hpc : (usesX87Arith a .f80 || usesX87Arith b .f80) = true → pc s.cw = 3#2) :
    ∃ s', run F (binarySeq .f80 op a b codeA codeB) s0 = some s' ∧ Holds .f80 s' z ∧
      s'.x.get .rsp = s.x.get .rsp ∧ s'.cw = s.cw ∧ stBelow .f80 s' = stBelow a s := by
  obtain ⟨s1, r1, h1, cw1, st1, rsp1⟩ := link F a .f80 s x x' hx cx (fun h => hpc (by simp [h]))
  obtain ⟨s2, r2, h2, m2, rsp2, cw2, st2⟩ := hy s1
  have cwe : s2.cw = s.cw := by rw [cw2, cw1]
  obtain ⟨s3, r3, h3, cw3, st3, rsp3⟩ := link F b .f80 s2 y y' h2 (by rw [cwe]; exact cy)
    (fun h => by rw [cwe]; exact hpc (by simp [h]))
  cases x' with
  | f80 p =>
    cases y' with
    | f80 q =>
      obtain ⟨rest1, e1⟩ := h1
      obtain ⟨rest3, e3⟩ := h3
      have hb3 : stBelow .f80 s3 = s1.st := by rw [st3, st2]
      have hr3 : rest3 = p :: rest1 := by simpa [stBelow, e3, e1] using hb3
      subst hr3
      obtain ⟨s4, r4, st4, cw4, rsp4⟩ := arith_f80 F op hop s3 p q rest1 e3
      have hzz : z = .f80 (x87Arith F s.cw op p q) := by simpa [arithVal] using hz.symm
      subst hzz
      refine ⟨s4, ?_, ⟨rest1, by rw [st4, cw3, cwe]⟩, by rw [rsp4, rsp3, rsp2, rsp1], by rw [cw4, cw3, cwe], ?_⟩
      · simp only [binarySeq, if_true]
        rw [run_append F _ _ s0 s1 (by rw [run_append F _ _ s0 s hrunA, r1])]
        rw [run_append F _ _ s1 s3 (by rw [run_append F _ _ s1 s2 r2, r3]), r4]
      · have : stBelow .f80 s1 = rest1 := by simp [stBelow, e1]
        rw [← st1, this]; simp [stBelow, st4]
    | _ => exact absurd h3 (by simp [Holds])
  | _ => exact absurd h1 (by simp [Holds])


/-- a constant in %rax is such an operand (the shape of `ND_NUM` for integer types: `mov $n, %rax`) -/
theorem yields_mov (F : FpuSpec) (n : Int) (hn : ITy.i64.inRange n) :
    Yields F [⟨"mov", [.i n, .r "%rax"]⟩] (.int .i64) (.int n) := by
  intro s
  refine ⟨_, rfl, ?_, rfl, rfl, rfl, rfl⟩
  refine ⟨hn, ?_⟩
  simp [ITy.inRange, ITy.min, ITy.max, ITy.signed, ITy.bits] at hn
  show (((s.x.setW .rax .w64 (BitVec.ofInt 64 n)).get .rax).toNat : Int) = n % 18446744073709551616
  simp [State.setW, BitVec.toNat_ofInt]
  omega

end ChibiVerif.Fp
