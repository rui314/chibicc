/-
C13 — `get_struct_member` never dereferences a NULL `mem->name`: the instrumented double of Model/C13Sites.lean answers
for every type and every name, and finds a member exactly when the original `hasMember` (Model/Init.lean) does.
-/
import ChibiVerif.Model.C13Sites

namespace ChibiVerif.C13Sites
open ChibiVerif.Init

mutual
  theorem getStructMemberI_ok : ∀ (ty : Ty) (n : String), ∃ r, getStructMemberI ty n = .ok r ∧ r.isSome = hasMember ty n
    | .struct ms _ _, n | .union ms _ _, n => by
      obtain ⟨r, hr, hs⟩ := getStructMemberMsI_ok ms n 0
      exact ⟨r, by simp [getStructMemberI, hr], by simp [hasMember, hs]⟩
    | .scalar _ _, _ | .array _ _, _ | .inc _, _ => ⟨none, rfl, rfl⟩
  theorem getStructMemberMsI_ok : ∀ (ms : Members) (n : String) (i : Nat),
      ∃ r, getStructMemberMsI ms n i = .ok r ∧ r.isSome = hasMemberMs ms n
    | [], _, _ => ⟨none, rfl, rfl⟩
    | (mi, t) :: rest, n, i => by
      obtain ⟨r1, hr1, hs1⟩ := getStructMemberMsI_ok rest n (i + 1)
      by_cases ha : (t.isAgg && mi.name.isNone) = true
      · obtain ⟨r0, hr0, hs0⟩ := getStructMemberI_ok t n
        cases r0 with
        | some k =>
          refine ⟨some i, by simp [getStructMemberMsI, ha, hr0], ?_⟩
          simp only [Option.isSome_some] at hs0
          simp [hasMemberMs, ha, ← hs0]
        | none =>
          refine ⟨r1, by simp [getStructMemberMsI, ha, hr0, hr1], ?_⟩
          simp only [Option.isSome_none] at hs0
          simp [hasMemberMs, ha, ← hs0, hs1]
      · cases hn : mi.name with
        | none =>
          have hagg : t.isAgg = false := by simpa [hn] using ha
          exact ⟨r1, by simp [getStructMemberMsI, hagg, hn, hr1], by simp [hasMemberMs, hagg, hn, hs1]⟩
        | some m =>
          by_cases hm : m = n
          · exact ⟨some i, by simp [getStructMemberMsI, hn, hm], by simp [hasMemberMs, hn, hm]⟩
          · exact ⟨r1, by simp [getStructMemberMsI, hn, hm, hr1], by simp [hasMemberMs, hn, hm, hs1]⟩
end

end ChibiVerif.C13Sites
