/-
The pp-number scan of the code-point lexer model (Model/Lex.lean `ppTake`, used by C19/C13/C18) is the scan translated from
tokenize.c (Gen/PpNumGen.lean), read on bytes: for every text, `ppTake` on the bytes after the first character takes exactly
the bytes the translated loop takes.  (A byte >= 0x80 ends the scan in both: it is no ASCII letter or digit, and neither is
the code point it belongs to.)
-/
import ChibiVerif.Lemmas.C11PpNumber
import ChibiVerif.Model.Lex

namespace ChibiVerif.Lemmas.PpNumLex
open ChibiVerif.Literals
open ChibiVerif.Spec.PpNumber
open ChibiVerif.Lemmas.Literals
open ChibiVerif.Lemmas.PpNum

theorem class_eq (c : Byte) :
    ChibiVerif.Gen.Lex.ppExpChars.contains c.toNat = isExp c ∧ ChibiVerif.Gen.Lex.ppSignChars.contains c.toNat = isSign c ∧
    (ChibiVerif.LexChar.isAlnum c.toNat || c.toNat == 46) = cont c := by
  revert c; apply forall_byte; decide +kernel

theorem headIs_sign (t : List Byte) :
    ChibiVerif.Lex.headIs (fun d => ChibiVerif.Gen.Lex.ppSignChars.contains d) (t.map BitVec.toNat) =
      match t with
      | [] => false
      | d :: _ => isSign d := by
  cases t with
  | nil => rfl
  | cons d t => simp only [List.map_cons, ChibiVerif.Lex.headIs, (class_eq d).2.1]

theorem ppTake_eq : ∀ t : List Byte,
    ChibiVerif.Lex.ppTake (t.map BitVec.toNat) = ((t.take (scanLen t)).map BitVec.toNat, (t.drop (scanLen t)).map BitVec.toNat) := by
  have h1 := fun c => (class_eq c).1
  have h2 := fun c => (class_eq c).2.1
  have h3 := fun c => (class_eq c).2.2
  intro t
  induction t using scanLen.induct with
  | case1 => rfl
  | case2 c hc =>
    simp only [List.map_cons, List.map_nil, ChibiVerif.Lex.ppTake, ChibiVerif.Lex.headIs, h1, h3, scanLen, hc,
      Bool.and_false, Bool.false_eq_true, if_false, if_true]
    rfl
  | case3 c hc =>
    simp only [List.map_cons, List.map_nil, ChibiVerif.Lex.ppTake, ChibiVerif.Lex.headIs, h1, h3, scanLen, hc,
      Bool.and_false, Bool.false_eq_true, if_false]
    rfl
  | case4 c d t hcd ih =>
    simp only [List.map_cons, ChibiVerif.Lex.ppTake, ChibiVerif.Lex.headIs, h1, h2, scanLen, hcd, if_true, ih]
    rw [Nat.add_comm]; rfl
  | case5 c d t hcd hc ih =>
    simp only [List.map_cons, ChibiVerif.Lex.ppTake, ChibiVerif.Lex.headIs, h1, h2, h3, scanLen, hcd, hc, Bool.false_eq_true,
      if_false, if_true]
    rw [← List.map_cons, ih, Nat.add_comm]; rfl
  | case6 c d t hcd hc =>
    simp only [List.map_cons, ChibiVerif.Lex.ppTake, ChibiVerif.Lex.headIs, h1, h2, h3, scanLen, hcd, hc]
    rfl

theorem ppNumberEnd_lex (p : List Byte) (start : Nat) :
    ChibiVerif.Gen.PpNum.ppNumberEnd p start =
      start + 1 + (ChibiVerif.Lex.ppTake ((p.drop (start + 1)).map BitVec.toNat)).1.length := by
  rw [end_eq, ppTake_eq]
  simp only [List.length_map, List.length_take]
  have := scanLen_le (p.drop (start + 1))
  omega

end ChibiVerif.Lemmas.PpNumLex
