/-
6.4.5p5-6 as a whole on the translated code: a run of adjacent string literals given by their prefixes and bodies (source characters
and escape sequences) is joined into one array whose bytes are the code units of every body item at the prefix of the sequence,
followed by one zero unit.  Composition of the whole-literal theorem (`readString_items`, Lemmas/LiteralsReaderLemmas) with the
equivalence of the hand model and the translated passes (`joinRun_eq`, Lemmas/C11Join).
-/
import ChibiVerif.Lemmas.C11Join

namespace ChibiVerif.Lemmas.Concat
open ChibiVerif.Gen.Literals
open ChibiVerif.Gen.StrJoin
open ChibiVerif.StrJoin
open ChibiVerif.Literals
open ChibiVerif.Spec.Literals (StrPrefix joinPrefix joinPrefixFrom)
open ChibiVerif.Lemmas.Readers
open ChibiVerif.Lemmas.Join

abbrev Piece := StrPrefix × List SrcItem

theorem tokHasPrefix_piece (p : StrPrefix) (its : List SrcItem) : TokHasPrefix (pieceTok p its) p := by
  cases p <;> exact ⟨rfl, rfl⟩

theorem allPairs_pieces : ∀ pcs : List Piece, AllPairs TokHasPrefix (pcs.map (fun pc => pieceTok pc.1 pc.2)) (pcs.map (·.1))
  | [] => .nil
  | pc :: pcs => .cons (tokHasPrefix_piece pc.1 pc.2) (allPairs_pieces pcs)

theorem piece_step (P : StrPrefix) (basety : Ty) (hbs : basety.size = P.elemSize) (p : StrPrefix) (its : List SrcItem)
    (hp : p = .none ∨ p = P) (hok : p = .none → 1 < P.elemSize → ItemsOK [] its) :
    ∃ t', conv basety (pieceTok p its) = .ok t' ∧
      t'.units = its.flatMap (itemUnits (readerOf P)) := by
  have hps : (pieceTok p its).elem.size = p.elemSize := by cases p <;> rfl
  by_cases hc : basety.size > 1 ∧ (pieceTok p its).elem.size = 1
  · -- a narrow piece in a wide sequence is read again by the wide reader
    have hw : 1 < P.elemSize := by omega
    have hp0 : p = .none := by
      rcases hp with hp | hp
      · exact hp
      · rw [hps, hp] at hc; omega
    subst hp0
    have hok' := hok rfl hw
    rw [conv_wide hc]
    unfold retokenize
    have hsrc : (pieceTok .none its).src = ([] : List Byte) ++ 34#8 :: (renderItems its ++ 34#8 :: []) := rfl
    by_cases h2 : basety.size = 2
    · rw [if_pos h2, hsrc]
      have := readString_items .utf16 .ty_ushort [] [] its hok'
      simp only [List.length_nil] at this
      refine ⟨_, this, ?_⟩
      have hP : P = .u := by cases P <;> simp [StrPrefix.elemSize] at hbs h2 ⊢ <;> omega
      subst hP; rfl
    · rw [if_neg h2, hsrc]
      have := readString_items .utf32 basety [] [] its hok'
      simp only [List.length_nil] at this
      refine ⟨_, this, ?_⟩
      have hP : readerOf P = .utf32 := by cases P <;> simp [StrPrefix.elemSize, readerOf] at hbs h2 hw ⊢ <;> omega
      rw [hP]
  · -- otherwise the piece is kept, and its reader is that of `P`
    have hr : readerOf p = readerOf P := by
      rcases hp with rfl | rfl
      · have hn : ¬ 1 < P.elemSize := fun h => hc ⟨by omega, rfl⟩
        cases P <;> simp [StrPrefix.elemSize, readerOf] at hn ⊢
      · rfl
    exact ⟨pieceTok p its, by rw [conv_keep hc]; rfl, by simp [pieceTok, hr]⟩

theorem pieces_mapM (P : StrPrefix) (basety : Ty) (hbs : basety.size = P.elemSize) : ∀ (pcs : List Piece),
    (∀ pc ∈ pcs, pc.1 = .none ∨ pc.1 = P) → (∀ pc ∈ pcs, pc.1 = .none → 1 < P.elemSize → ItemsOK [] pc.2) →
    ∃ toks, (pcs.map (fun pc => pieceTok pc.1 pc.2)).mapM (conv basety) = .ok toks ∧
      toks.map (·.units) = pcs.map (fun pc => pc.2.flatMap (itemUnits (readerOf P))) ∧ toks.length = pcs.length
  | [], _, _ => ⟨[], rfl, rfl, rfl⟩
  | pc :: pcs, hp, hok => by
    obtain ⟨t', h1, h2⟩ := piece_step P basety hbs pc.1 pc.2 (hp pc (by simp)) (hok pc (by simp))
    obtain ⟨toks, g1, g2, g4⟩ := pieces_mapM P basety hbs pcs (fun x hx => hp x (by simp [hx])) (fun x hx => hok x (by simp [hx]))
    refine ⟨t' :: toks, ?_, by simp [h2, g2], by simp [g4]⟩
    rw [List.map_cons, List.mapM_cons, h1, g1]; rfl

theorem concat_spec (pc1 pc2 : Piece) (pcs : List Piece) (P : StrPrefix)
    (hj : joinPrefix ((pc1 :: pc2 :: pcs).map (·.1)) = some P)
    (hok : ∀ pc ∈ pc1 :: pc2 :: pcs, pc.1 = .none → 1 < P.elemSize → ItemsOK [] pc.2) :
    ∃ r, joinRun (toTok (pieceTok pc1.1 pc1.2)) ((pc2 :: pcs).map (fun pc => toTok (pieceTok pc.1 pc.2))) = .ok r ∧
      r.base.size = P.elemSize ∧
      r.str = strBytes P.elemSize ((pc1 :: pc2 :: pcs).flatMap (fun pc => pc.2.flatMap (itemUnits (readerOf P)))) ∧
      r.arrayLen = ((((pc1 :: pc2 :: pcs).flatMap (fun pc => pc.2.flatMap (itemUnits (readerOf P)))).length : Nat) : Int) + 1 := by
  have hall := allPairs_pieces (pc1 :: pc2 :: pcs)
  have hpre : ∀ pc ∈ pc1 :: pc2 :: pcs, pc.1 = .none ∨ pc.1 = P := by
    intro pc hpc
    exact ((joinPrefix_spec _ P).mp hj).1 pc.1 (List.mem_map_of_mem hpc)
  have key := joinRun_eq (pieceTok pc1.1 pc1.2) (pieceTok pc2.1 pc2.2) (pcs.map (fun pc : Piece => pieceTok pc.1 pc.2))
    ((pc1 :: pc2 :: pcs).map (fun pc : Piece => pc.1)) hall
  have hjs : ∃ hd, joinStrings ((pc1 :: pc2 :: pcs).map (fun pc => pieceTok pc.1 pc.2)) = .ok hd ∧
      hd.units = (pc1 :: pc2 :: pcs).flatMap (fun pc => pc.2.flatMap (itemUnits (readerOf P))) := by
    have h1 := tokHasPrefix_piece pc1.1 pc1.2
    have hrest := allPairs_pieces (pc2 :: pcs)
    have hj' : joinPrefixFrom pc1.1 ((pc2 :: pcs).map (·.1)) = some P := by simpa [joinPrefix, joinPrefixFrom] using hj
    obtain ⟨basety, hres, hsz⟩ := (resolveKind_spec _ _ hrest pc1.1 (pieceTok pc1.1 pc1.2).elem h1.2).2 P hj'
    obtain ⟨toks, g1, g2, g4⟩ := pieces_mapM P basety hsz (pc1 :: pc2 :: pcs) hpre hok
    simp only [List.map_cons] at g1 hres ⊢
    simp only [joinStrings, h1.1, bind, Except.bind, hres, g1]
    match toks, g4 with
    | f :: toks', _ =>
      refine ⟨_, rfl, ?_⟩
      show ((f :: toks').map (·.units)).flatten = _
      rw [g2, List.flatMap_def]
  obtain ⟨hd, hhd, hun⟩ := hjs
  simp only [List.map_cons] at hhd key
  have hsz := (join_result _ _ _ _ P hd hall hj hhd).1
  rw [hhd] at key
  obtain ⟨r, hr, hb, hal, hstr⟩ := relE_ok key
  have hmap : (pc2 :: pcs).map (fun pc => toTok (pieceTok pc.1 pc.2)) =
      (pieceTok pc2.1 pc2.2 :: pcs.map (fun pc : Piece => pieceTok pc.1 pc.2)).map toTok := by
    simp [List.map_map, Function.comp_def]
  refine ⟨r, by rw [hmap]; exact hr, by rw [hb]; exact hsz, by rw [hstr, hsz, hun], by rw [hal, hun]⟩

theorem piece_read (p : StrPrefix) (its : List SrcItem) (post : List Byte) (hok : ItemsOK post its) :
    readString (readerOf p) (tyOf p) (prefixBytes p ++ 34#8 :: (renderItems its ++ 34#8 :: post)) (prefixBytes p).length =
      .ok (pieceTok p its) := by
  rw [readString_items _ _ _ post its hok]
  have h : prefixBytes p ++ 34#8 :: (renderItems its ++ 34#8 :: post) = (prefixBytes p ++ 34#8 :: (renderItems its ++ [34#8])) ++ post := by
    simp
  unfold pieceTok
  congr 2
  rw [h, List.take_left' (by simp; omega)]

theorem item_spec (P : StrPrefix) :
    (∀ c : BitVec 32, CharOK c → itemUnits (readerOf P) (.char c) = ChibiVerif.Spec.Literals.encodeChar P c.toNat) ∧
    (∀ (body : List Byte) (v : BitVec 32), itemUnits (readerOf P) (.esc body v) = [v.toNat % 2 ^ (8 * P.elemSize)]) := by
  constructor
  · intro c hc
    have h := hc.1
    cases P <;> simp [itemUnits, readerOf, ChibiVerif.Spec.Literals.encodeChar, ChibiVerif.Lemmas.Literals.encode_toNat c (by omega),
      ChibiVerif.Lemmas.Literals.utf16_toNat c h]
  · intro body v
    have := v.isLt
    cases P <;> simp [itemUnits, readerOf, StrPrefix.elemSize, BitVec.toNat_setWidth] <;> omega

end ChibiVerif.Lemmas.Concat
