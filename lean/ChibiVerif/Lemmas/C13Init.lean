/-
C13 — the initializer parser never reaches an abort site: induction over the recursion budget for the thirteen mutually
recursive functions of Model/Init.lean (`designation` … `initializer2`), with the invariant "the tree has the shape of its
type" (`shape`) and "string tokens have a string element size" (`toksOK`).
-/
import ChibiVerif.Lemmas.C13InitBase
import ChibiVerif.Lemmas.InitBracedStr

namespace ChibiVerif.C13Init
open ChibiVerif.Init

/-- all functions of the block at one budget -/
structure NC (f : Nat) : Prop where
  designation : ∀ ty toks init, tyOK ty = true → shape ty init = true → toksOK toks = true →
    Safe (Post ty) (designation f ty toks init)
  countLoop : ∀ elem toks d i mx first, tyOK elem = true → shape elem d = true → toksOK toks = true →
    Safe (fun _ => True) (countLoop f elem toks d i mx first)
  countArrayInit : ∀ elem toks, tyOK elem = true → toksOK toks = true → Safe (fun _ => True) (countArrayInit f elem toks)
  arrayInit1Loop : ∀ elem toks init i first, tyOK elem = true → arrOK elem init → toksOK toks = true →
    Safe (PostA elem) (arrayInit1Loop f elem toks init i first)
  arrayInit1 : ∀ elem toks init, tyOK elem = true → (init = .flex ∨ arrOK elem init) → toksOK toks = true →
    Safe (PostA elem) (arrayInit1 f elem toks init)
  arrayInit2Loop : ∀ elem toks init i, tyOK elem = true → arrOK elem init → toksOK toks = true →
    Safe (PostA elem) (arrayInit2Loop f elem toks init i)
  arrayInit2 : ∀ elem toks init i, tyOK elem = true → (init = .flex ∨ arrOK elem init) → toksOK toks = true →
    Safe (PostA elem) (arrayInit2 f elem toks init i)
  structInit1Loop : ∀ u ms toks init mem first, msOK ms = true → aggOK u ms init → toksOK toks = true →
    Safe (PostG u ms) (structInit1Loop f ms toks init mem first)
  structInit1 : ∀ u ms toks init, msOK ms = true → aggOK u ms init → toksOK toks = true →
    Safe (PostG u ms) (structInit1 f ms toks init)
  structInit2 : ∀ u ms toks init mem first, msOK ms = true → aggOK u ms init → toksOK toks = true →
    Safe (PostG u ms) (structInit2 f ms toks init mem first)
  unionRest : ∀ ms toks init, msOK ms = true → unOK ms init → toksOK toks = true →
    Safe (PostU ms) (unionRest f ms toks init)
  unionInit : ∀ ms toks init, msOK ms = true → unOK ms init → toksOK toks = true →
    Safe (PostU ms) (unionInit f ms toks init)
  initializer2 : ∀ ty toks init, tyOK ty = true → shape ty init = true → toksOK toks = true →
    Safe (Post ty) (initializer2 f ty toks init)

theorem nc_zero : NC 0 where
  designation := fun _ _ _ _ _ _ => Safe.fuel
  countLoop := fun _ _ _ _ _ _ _ _ _ => Safe.fuel
  countArrayInit := fun _ _ _ _ => Safe.fuel
  arrayInit1Loop := fun _ _ _ _ _ _ _ _ => Safe.fuel
  arrayInit1 := fun _ _ _ _ _ _ => Safe.fuel
  arrayInit2Loop := fun _ _ _ _ _ _ _ => Safe.fuel
  arrayInit2 := fun _ _ _ _ _ _ _ => Safe.fuel
  structInit1Loop := fun _ _ _ _ _ _ _ _ _ => Safe.fuel
  structInit1 := fun _ _ _ _ _ _ _ => Safe.fuel
  structInit2 := fun _ _ _ _ _ _ _ _ _ => Safe.fuel
  unionRest := fun _ _ _ _ _ _ => Safe.fuel
  unionInit := fun _ _ _ _ _ _ => Safe.fuel
  initializer2 := fun _ _ _ _ _ _ => Safe.fuel

theorem arrOK_children {elem : Ty} {init : Init} (h : arrOK elem init) : shapeAll elem init.children = true := by
  obtain ⟨cs, rfl, hcs⟩ := h; exact hcs

theorem arrOK_setChild {elem : Ty} {init : Init} (h : arrOK elem init) (i : Nat) (c : Init) (hc : shape elem c = true) :
    arrOK elem (init.setChild i c) := by
  obtain ⟨cs, rfl, hcs⟩ := h
  exact ⟨cs.set i c, rfl, shapeAll_set elem cs i c hcs hc⟩

theorem arrOK_setChild_len {elem : Ty} {init : Init} (h : arrOK elem init) (i : Nat) (c : Init) :
    (init.setChild i c).children.length = init.children.length := by
  obtain ⟨cs, rfl, _⟩ := h
  simp [Init.setChild, Init.children, Init.withChildren]

theorem stOK_setChild {ms : Members} {init : Init} (h : stOK ms init) (k : Nat) (mi : MemInfo) (t : Ty) (c : Init)
    (hk : ms[k]? = some (mi, t)) (hc : shape t c = true) : stOK ms (init.setChild k c) := by
  obtain ⟨e, cs, rfl, hcs⟩ := h
  exact ⟨e, cs.set k c, rfl, shapeMs_set ms cs k mi t c hcs hk hc⟩

theorem stOK_setExpr {ms : Members} {init : Init} (h : stOK ms init) (x : Option Expr) : stOK ms (init.setExpr x) := by
  obtain ⟨e, cs, rfl, hcs⟩ := h
  exact ⟨x, cs, rfl, hcs⟩

theorem unOK_setChild {ms : Members} {init : Init} (h : unOK ms init) (k : Nat) (mi : MemInfo) (t : Ty) (c : Init)
    (hk : ms[k]? = some (mi, t)) (hc : shape t c = true) : unOK ms (init.setChild k c) := by
  obtain ⟨e, m, cs, rfl, hcs⟩ := h
  exact ⟨e, m, cs.set k c, rfl, shapeMs_set ms cs k mi t c hcs hk hc⟩

theorem unOK_setMem {ms : Members} {init : Init} (h : unOK ms init) (k : Nat) : unOK ms (init.setMem k) := by
  obtain ⟨e, m, cs, rfl, hcs⟩ := h
  exact ⟨e, some k, cs, rfl, hcs⟩

theorem unOK_setExpr {ms : Members} {init : Init} (h : unOK ms init) (x : Option Expr) : unOK ms (init.setExpr x) := by
  obtain ⟨e, m, cs, rfl, hcs⟩ := h
  exact ⟨x, m, cs, rfl, hcs⟩

theorem aggOK_setChild {u : Bool} {ms : Members} {init : Init} (h : aggOK u ms init) (k : Nat) (mi : MemInfo) (t : Ty) (c : Init)
    (hk : ms[k]? = some (mi, t)) (hc : shape t c = true) : aggOK u ms (init.setChild k c) := by
  cases u
  · exact stOK_setChild h k mi t c hk hc
  · exact unOK_setChild h k mi t c hk hc

theorem get_of_lt (ms : Members) (k : Nat) (h : k < ms.length) : ∃ mi t, ms[k]? = some (mi, t) := by
  have := List.getElem?_eq_getElem h
  exact ⟨ms[k].1, ms[k].2, by rw [this]⟩

/-- the designated-range loop of `designation` / `array_initializer1`:
    `for (i = begin; i <= end; i++) designation(&tok2, tok, init->children[i])` -/
theorem rangeLoop_safe (f : Nat) (ih : NC f) (elem : Ty) (hty : tyOK elem = true) (tok : List ITok) (htok : toksOK tok = true)
    (init : Init) (hinit : arrOK elem init) (b e : Nat) (he : e < init.children.length) :
    Safe (fun r => (arrOK elem r.1 ∧ r.1.children.length = init.children.length) ∧ toksOK r.2 = true)
      ((List.range' b (e + 1 - b)).foldlM
        (fun (acc : Init × List ITok) i => do
          let c ← getChild acc.1.children i
          let (c', t2) ← designation f elem tok c
          pure (acc.1.setChild i c', t2)) (init, tok)) := by
  -- the number of children is part of the loop invariant: it keeps the indices `b … e` in range
  refine Safe.foldlM_mem (I := fun (r : Init × List ITok) =>
    (arrOK elem r.1 ∧ r.1.children.length = init.children.length) ∧ toksOK r.2 = true) _ _ ?_ ⟨⟨hinit, rfl⟩, htok⟩
  intro acc i hi hacc
  obtain ⟨⟨hao, hlen⟩, _⟩ := hacc
  have hi' : i < acc.1.children.length := by
    rw [hlen]
    have := List.mem_range'_1.1 hi
    omega
  obtain ⟨c, hc, hsc⟩ := shapeAll_get elem _ i (arrOK_children hao) hi'
  rw [getChild_of_get hc]
  show Safe _ (designation f elem tok c >>= _)
  refine Safe.bind (ih.designation elem tok c hty hsc htok) ?_
  intro r hr
  obtain ⟨c', t2⟩ := r
  exact Safe.pure ⟨⟨arrOK_setChild hao i c' hr.1, by rw [arrOK_setChild_len hao]; exact hlen⟩, hr.2⟩

theorem Safe.ite {α : Type} {Q : α → Prop} {c : Prop} [Decidable c] {a b : Except Fail α}
    (ha : c → Safe Q a) (hb : ¬ c → Safe Q b) : Safe Q (if c then a else b) :=
  iff_ends.2 (.ite (fun h => iff_ends.1 (ha h)) fun h => iff_ends.1 (hb h))

/-- `if (!first) tok = skip(tok, ",")` -/
theorem optComma_safe (c : Bool) (toks : List ITok) (h : toksOK toks = true) :
    Safe (fun r => toksOK r = true) (if c = true then (pure toks : Except Fail (List ITok)) else skipTok .comma "," toks) := by
  cases c with
  | true => exact Safe.pure h
  | false => exact skipTok_safe _ _ _ h

/-- the node `array_initializer1/2` work on: a `.flex` node gets its bound from count_array_init_elements -/
theorem resolveFlex_safe (f : Nat) (ih : NC f) (elem : Ty) (hty : tyOK elem = true) (toks : List ITok) (htoks : toksOK toks = true)
    (init : Init) : (init = .flex ∨ arrOK elem init) →
    Safe (arrOK elem) (match init with
      | .flex => do
        let len ← countArrayInit f elem toks
        pure (newInit (.array elem len) false)
      | i => pure i : Except Fail Init) := by
  intro hinit
  rcases hinit with rfl | ⟨cs, rfl, hcs⟩
  · refine Safe.bind (ih.countArrayInit elem toks hty htoks) ?_
    intro len _
    exact Safe.pure ⟨_, rfl, shapeAll_replicate elem _ (newInit_shape elem false hty) len⟩
  · exact Safe.pure ⟨cs, rfl, hcs⟩

/-- a `let x ← if c then … else …` of a `do` block: the continuation is copied into both arms -/
theorem Safe.iteBind {α β : Type} {c : Prop} [Decidable c] {x y : Except Fail α} {k : α → Except Fail β} {P : α → Prop}
    {Q : β → Prop} (h : Safe P (if c then x else y)) (hk : ∀ a, P a → Safe Q (k a)) :
    Safe Q (if c then x >>= k else y >>= k) := by
  by_cases hc : c <;> simp only [hc, ↓reduceIte] at h ⊢ <;> exact Safe.bind h hk

theorem Safe.bind_eq {α β : Type} {Q : β → Prop} {x : Except Fail α} {a : α} {k : α → Except Fail β} (h : x = .ok a)
    (hk : Safe Q (k a)) : Safe Q (x >>= k) := by
  rw [h]; exact hk

/-- the tokens a `.name` designator hands to `designation`: the rest, or the same tokens again for an anonymous member -/
theorem toksOK_desg {name : String} {r : List ITok} (h : toksOK (.dot name :: r) = true) (anon : Bool) :
    toksOK (if anon = true then (.dot name :: r) else r) = true := by
  split
  · exact h
  · exact toksOK_tail h

theorem stOK_children {ms : Members} {init : Init} (h : stOK ms init) : shapeMs ms init.children = true := by
  obtain ⟨e, cs, rfl, hcs⟩ := h; exact hcs

theorem unOK_children {ms : Members} {init : Init} (h : unOK ms init) : shapeMs ms init.children = true := by
  obtain ⟨e, m, cs, rfl, hcs⟩ := h; exact hcs

theorem aggOK_children {u : Bool} {ms : Members} {init : Init} (h : aggOK u ms init) : shapeMs ms init.children = true := by
  cases u
  · exact stOK_children h
  · exact unOK_children h

/-- an element: `initializer2(&tok, tok, init->children[i])` on a child of the element's shape -/
theorem elemStep_safe {f : Nat} (ih : NC f) {α : Type} {Q : α → Prop} {ty : Ty} {cs : List Init} {i : Nat} {toks : List ITok}
    {K : Init × List ITok → Except Fail α} (hty : tyOK ty = true) (hc : ∃ c, cs[i]? = some c ∧ shape ty c = true)
    (ht : toksOK toks = true) (hK : ∀ r, Post ty r → Safe Q (K r)) :
    Safe Q (getChild cs i >>= fun c => initializer2 f ty toks c >>= K) := by
  obtain ⟨c, hc, hsc⟩ := hc
  exact Safe.bind_eq (getChild_of_get hc) (Safe.bind (ih.initializer2 ty toks c hty hsc ht) hK)

/-- the same for member `k` of a struct or union node -/
theorem memberStep_safe {f : Nat} (ih : NC f) {α : Type} {Q : α → Prop} {ms : Members} {cs : List Init} {k : Nat}
    {toks : List ITok} {K : Ty → Init × List ITok → Except Fail α} (hms : msOK ms = true) (hcs : shapeMs ms cs = true)
    (hk : k < ms.length) (ht : toksOK toks = true)
    (hK : ∀ mi mty r, ms[k]? = some (mi, mty) → Post mty r → Safe Q (K mty r)) :
    Safe Q (memTy ms k >>= fun mty => getChild cs k >>= fun c => initializer2 f mty toks c >>= K mty) := by
  obtain ⟨mi, mty, hk⟩ := get_of_lt ms k hk
  exact Safe.bind_eq (memTy_of_get hk)
    (elemStep_safe ih (msOK_get ms k mi mty hms hk) (shapeMs_get ms cs k mi mty hcs hk) ht (hK mi mty · hk))

/-- a `.name` designator: member lookup, the member's type and node, `designation` on it (on the same tokens again for an
    anonymous member); what follows sees a node of the member's shape and well-formed tokens -/
theorem desgChain_safe {f : Nat} (ih : NC f) {α : Type} {Q : α → Prop} {name : String} {ms : Members} {r : List ITok}
    (hms : msOK ms = true) (hr : toksOK (.dot name :: r) = true) (cs : Nat × Bool → Ty → List Init)
    (hcs : ∀ kd mi mty, ms[kd.1]? = some (mi, mty) → shapeMs ms (cs kd mty) = true)
    {K : Nat × Bool → Ty → Init → Init × List ITok → Except Fail α}
    (hK : ∀ kd mi mty c r2, ms[kd.1]? = some (mi, mty) → Post mty r2 → Safe Q (K kd mty c r2)) :
    Safe Q (structDesignator name ms 0 >>= fun kd => memTy ms kd.1 >>= fun mty => getChild (cs kd mty) kd.1 >>= fun c =>
      designation f mty (if kd.2 = true then .dot name :: r else r) c >>= fun r2 => K kd mty c r2) := by
  refine Safe.bind (structDesignator_safe name ms 0) fun kd hkd => ?_
  obtain ⟨mi, mty, hk⟩ := get_of_lt ms kd.1 (by omega)
  obtain ⟨c, hg, hsc⟩ := shapeMs_get ms _ kd.1 mi mty (hcs kd mi mty hk) hk
  refine Safe.bind_eq (memTy_of_get hk) (Safe.bind_eq (getChild_of_get hg) ?_)
  exact Safe.bind (ih.designation mty _ c (msOK_get ms kd.1 mi mty hms hk) hsc (toksOK_desg hr kd.2)) fun r2 hr2 =>
    hK kd mi mty c r2 hk hr2

theorem firstNamed_lt (ms : Members) : ∀ (n i : Nat), i < ms.length → firstNamed ms n i < ms.length
  | 0, i, h => h
  | n + 1, i, h => by
    simp only [firstNamed]
    split
    · rename_i mi t x h1 h2
      split
      · apply firstNamed_lt ms n (i + 1)
        have := (List.getElem?_eq_some_iff.1 h2).1
        exact this
      · exact h
    · exact h

theorem elem_cases {ty elem : Ty} (h : ty.elem? = some elem) : (∃ n, ty = .array elem n) ∨ ty = .inc elem := by
  cases ty <;> simp [Ty.elem?] at h
  · left; exact ⟨_, by rw [h]⟩
  · right; rw [h]

theorem elem_facts {ty elem : Ty} (he : ty.elem? = some elem) (hty : tyOK ty = true) :
    tyOK elem = true ∧ (∀ init, shape ty init = true → init = .flex ∨ arrOK elem init) ∧
    (∀ {x : Except Fail (Init × List ITok)}, Safe (PostA elem) x → Safe (Post ty) x) := by
  rcases elem_cases he with ⟨n, rfl⟩ | rfl
  · exact ⟨by simpa [tyOK] using hty, fun init => (shape_array_iff elem n init).1,
      fun h => h.mono fun r hr => ⟨(shape_array_iff elem n r.1).2 (Or.inr hr.1), hr.2⟩⟩
  · exact ⟨by simpa [tyOK] using hty, fun init => (shape_inc_iff elem init).1,
      fun h => h.mono fun r hr => ⟨(shape_inc_iff elem r.1).2 (Or.inr hr.1), hr.2⟩⟩

theorem postS_struct {ms : Members} {n : Nat} {fl : Bool} {x : Except Fail (Init × List ITok)} (h : Safe (PostG false ms) x) :
    Safe (Post (.struct ms n fl)) x :=
  h.mono (fun r hr => ⟨(shape_struct_iff ms n fl r.1).2 hr.1, hr.2⟩)

theorem postU_union {ms : Members} {n : Nat} {fl : Bool} {x : Except Fail (Init × List ITok)} (h : Safe (PostU ms) x) :
    Safe (Post (.union ms n fl)) x :=
  h.mono (fun r hr => ⟨(shape_union_iff ms n fl r.1).2 hr.1, hr.2⟩)

/-- the tail shared by the braced arms: `consume(&tok, tok, ","); *rest = skip(tok, "}")` -/
theorem closeBrace_safe {α : Type} (Q : α × List ITok → Prop) (v : α) (tok : List ITok) :
    toksOK tok = true → (∀ rest, toksOK rest = true → Q (v, rest)) →
    Safe Q (do
      let rest ← skipTok .rbrace "}" (match tok with | .comma :: t => t | t => t)
      pure (v, rest)) := by
  intro htok hq
  refine Safe.bind (skipTok_safe _ _ _ (dropComma_ok tok htok)) ?_
  intro rest hrest
  exact Safe.pure (hq rest hrest)

/-- the braced-string branch of `initializer2` (C11 6.7.9p14-15): the literal has one of tokenize's element sizes and what
    follows the closing brace is a well-formed token list -/
theorem bracedStr_toksOK {elem : Ty} {r : List ITok} {id : Nat} {bytes : List Nat} {esz : Nat} {rest : List ITok}
    (h : bracedStr elem r = some (id, bytes, esz, rest)) (hr : toksOK r = true) :
    (esz = 1 ∨ esz = 2 ∨ esz = 4) ∧ toksOK rest = true := by
  obtain ⟨tail, rfl, hce, _, _⟩ := bracedStr_some h
  have h1 := toksOK_head hr
  simp only [tokOK, Bool.or_eq_true, beq_iff_eq] at h1
  refine ⟨by omega, ?_⟩
  have h2 := toksOK_tail hr
  unfold consumeEnd at hce
  split at hce
  · cases hce; exact toksOK_tail h2
  · cases hce; exact toksOK_tail (toksOK_tail h2)
  · cases hce

-- Unfolding a parser function at budget `f + 1`: `rw [g]` where `g` is applied to constructors; where its arguments are variables
-- `rw [g]` would rewrite with the LAST (catch-all) equation and leave its side conditions as goals, so there it is
-- `unfold g; dsimp only` (the unfolding equation once, then the matcher on `f + 1`); `simp only [g]` does the same but walks the
-- whole body and is several times slower to check; it is left at three small goals of `designation`.
theorem nc_succ (f : Nat) (ih : NC f) : NC (f + 1) where
  countArrayInit := by
    intro elem toks hty htoks
    rw [countArrayInit]
    exact Safe.bind (ih.countLoop elem toks _ 0 0 true hty (newInit_shape elem true hty) htoks) (fun _ _ => Safe.pure trivial)
  arrayInit1 := by
    intro elem toks init hty hinit htoks
    rw [arrayInit1]
    refine Safe.bind (skipTok_safe _ _ _ htoks) ?_
    intro toks' h'
    refine Safe.bind (resolveFlex_safe f ih elem hty toks' h' init hinit) ?_
    intro init' hi'
    exact ih.arrayInit1Loop elem toks' init' 0 true hty hi' h'
  arrayInit2 := by
    intro elem toks init i hty hinit htoks
    unfold arrayInit2
    refine Safe.bind (resolveFlex_safe f ih elem hty toks htoks init hinit) ?_
    intro init' hi'
    exact ih.arrayInit2Loop elem toks init' i hty hi' htoks
  arrayInit2Loop := by
    intro elem toks init i hty hinit htoks
    rw [arrayInit2Loop]
    split
    · rename_i hc
      simp only [Bool.and_eq_true, decide_eq_true_eq] at hc
      refine Safe.iteBind (Safe.ite (fun _ => skipTok_safe _ _ _ htoks) fun _ => Safe.pure htoks) fun toks' h' => ?_
      refine Safe.ite (fun _ => Safe.pure ⟨hinit, htoks⟩) fun _ => ?_
      exact elemStep_safe ih hty (shapeAll_get elem _ i (arrOK_children hinit) hc.1) h' fun r hr =>
        ih.arrayInit2Loop elem r.2 _ (i + 1) hty (arrOK_setChild hinit i r.1 hr.1) hr.2
    · exact Safe.pure ⟨hinit, htoks⟩
  arrayInit1Loop := by
    intro elem toks init i first hty hinit htoks
    rw [arrayInit1Loop]
    split
    · rename_i rest hce
      exact ⟨hinit, consumeEnd_ok toks rest htoks hce⟩
    · refine Safe.iteBind (optComma_safe first toks htoks) fun toks' h' => ?_
      refine Safe.ite (fun hb => ?_) fun _ => Safe.ite (fun hlt => ?_) fun _ => ?_
      · refine Safe.bind (arrayDesignator_safe _ toks' hb) fun r hr => ?_
        refine Safe.bind (rangeLoop_safe f ih elem hty r.2.2 (toksOK_rest h' hr.2.2) init hinit r.1 r.2.1 hr.2.1) fun r2 hr2 => ?_
        exact ih.arrayInit1Loop elem r2.2 r2.1 (r.2.1 + 1) false hty hr2.1.1 hr2.2
      · exact elemStep_safe ih hty (shapeAll_get elem _ i (arrOK_children hinit) hlt) h' fun r hr =>
          ih.arrayInit1Loop elem r.2 _ (i + 1) false hty (arrOK_setChild hinit i r.1 hr.1) hr.2
      · exact Safe.bind (skipExcess_safe f toks' h') fun t2 ht2 => ih.arrayInit1Loop elem t2 init (i + 1) false hty hinit ht2
  structInit1 := by
    intro u ms toks init hms hinit htoks
    rw [structInit1]
    refine Safe.bind (skipTok_safe _ _ _ htoks) ?_
    intro toks' h'
    exact ih.structInit1Loop u ms toks' init 0 true hms hinit h'
  structInit1Loop := by
    intro u ms toks init mem first hms hinit htoks
    unfold structInit1Loop; dsimp only
    split
    · rename_i rest hce
      exact ⟨hinit, consumeEnd_ok toks rest htoks hce⟩
    · refine Safe.iteBind (optComma_safe first toks htoks) fun toks' h' => ?_
      split
      · refine desgChain_safe ih hms h' _ (fun _ _ _ _ => aggOK_children hinit) fun kd mi mty c r2 hk hr2 => ?_
        exact ih.structInit1Loop u ms r2.2 _ (kd.1 + 1) false hms (aggOK_setChild hinit kd.1 mi mty r2.1 hk hr2.1) hr2.2
      · refine Safe.ite (fun hlt => ?_) fun _ => ?_
        · exact memberStep_safe ih hms (aggOK_children hinit) hlt h' fun mi mty r hk hr =>
            ih.structInit1Loop u ms r.2 _ _ false hms (aggOK_setChild hinit _ mi mty r.1 hk hr.1) hr.2
        · exact Safe.bind (skipExcess_safe f toks' h') fun t2 ht2 => ih.structInit1Loop u ms t2 init _ false hms hinit ht2
  structInit2 := by
    intro u ms toks init mem first hms hinit htoks
    rw [structInit2]
    split
    · exact Safe.pure ⟨hinit, htoks⟩
    · rename_i mi mty hget
      refine Safe.ite (fun _ => Safe.pure ⟨hinit, htoks⟩) fun _ => Safe.ite
        (fun _ => ih.structInit2 u ms toks init (mem + 1) first hms hinit htoks) fun _ => ?_
      refine Safe.iteBind (optComma_safe first toks htoks) fun toks' h' => ?_
      refine Safe.ite (fun _ => Safe.pure ⟨hinit, htoks⟩) fun _ => ?_
      exact elemStep_safe ih (msOK_get ms mem mi mty hms hget) (shapeMs_get ms _ mem mi mty (aggOK_children hinit) hget) h'
        fun r hr => ih.structInit2 u ms r.2 _ (mem + 1) false hms (aggOK_setChild hinit mem mi mty r.1 hget hr.1) hr.2
  unionRest := by
    intro ms toks init hms hinit htoks
    rw [unionRest]
    split
    · rename_i rest hce
      exact Safe.ok ⟨hinit, consumeEnd_ok toks rest htoks hce⟩
    · refine Safe.bind (skipTok_safe _ _ _ htoks) fun toks1 htoks1 => ?_
      split
      · -- a member other than the one initialised so far starts from `new_initializer`
        have hinit1 : ∀ k mi mty, ms[k]? = some (mi, mty) →
            unOK ms ((if init.mem? = some k then init else init.setChild k (newInit mty false)).setMem k) := by
          intro k mi mty hk
          refine unOK_setMem ?_ k
          split
          · exact hinit
          · exact unOK_setChild hinit k mi mty _ hk (newInit_shape mty false (msOK_get ms k mi mty hms hk))
        refine desgChain_safe ih hms htoks1 _ (fun kd mi mty hk => unOK_children (hinit1 kd.1 mi mty hk))
          fun kd mi mty c r2 hk hr2 => ?_
        exact ih.unionRest ms r2.2 _ hms (unOK_setChild (hinit1 kd.1 mi mty hk) kd.1 mi mty r2.1 hk hr2.1) hr2.2
      · exact Safe.bind (skipExcess_safe f toks1 htoks1) fun toks2 htoks2 => ih.unionRest ms toks2 init hms hinit htoks2
  unionInit := by
    intro ms toks init hms hinit htoks
    unfold unionInit; dsimp only
    split
    · refine desgChain_safe ih hms (toksOK_tail htoks) _ (fun kd _ _ _ => unOK_children (unOK_setMem hinit kd.1))
        fun kd mi mty c r2 hk hr2 => ?_
      exact ih.unionRest ms r2.2 _ hms (unOK_setChild (unOK_setMem hinit kd.1) kd.1 mi mty r2.1 hk hr2.1) hr2.2
    · refine Safe.ite (fun _ => Safe.ite (fun _ => ih.structInit1 true ms toks init hms hinit htoks)
        fun _ => Safe.pure ⟨hinit, htoks⟩) fun hne => ?_
      have hlen : 0 < ms.length := by
        cases ms with
        | nil => simp at hne
        | cons m r => simp
      have hk := firstNamed_lt ms ms.length 0 hlen
      have hinit' := unOK_setMem hinit (firstNamed ms ms.length 0)
      split
      · exact memberStep_safe ih hms (unOK_children hinit') hk (toksOK_tail htoks) fun mi mty r hk hr =>
          ih.unionRest ms r.2 _ hms (unOK_setChild hinit' _ mi mty r.1 hk hr.1) hr.2
      · exact memberStep_safe ih hms (unOK_children hinit') hk htoks fun mi mty r hk hr =>
          Safe.pure ⟨unOK_setChild hinit' _ mi mty r.1 hk hr.1, hr.2⟩
  initializer2 := by
    intro ty toks init hty hinit htoks
    cases ty with
    | array elem n | inc elem =>
      obtain ⟨hty', hsh, hpost⟩ := elem_facts (elem := elem) rfl hty
      have hi := hsh init hinit
      unfold initializer2; dsimp only
      split
      · rename_i id bytes esz r
        apply Safe.ite
        · intro _
          have := toksOK_head htoks
          simp only [tokOK, Bool.or_eq_true, beq_iff_eq] at this
          exact hpost (stringInitializer_safe elem bytes esz r init hty' (by omega) hi (toksOK_tail htoks))
        · intro _; exact hpost (ih.arrayInit2 elem _ init 0 hty' hi htoks)
      · split
        · rename_i hbs
          obtain ⟨h1, h2⟩ := bracedStr_toksOK hbs (toksOK_tail htoks)
          exact hpost (stringInitializer_safe elem _ _ _ init hty' h1 hi h2)
        · exact hpost (ih.arrayInit1 elem _ init hty' hi htoks)
      · exact hpost (ih.arrayInit2 elem _ init 0 hty' hi htoks)
    | struct ms n fl =>
      have hms : msOK ms = true := by
        simp only [tyOK, Bool.and_eq_true] at hty; exact hty.1
      have hi := (shape_struct_iff ms n fl init).1 hinit
      rw [initializer2]
      apply Safe.ite
      · intro _; exact postS_struct (ih.structInit1 false ms toks init hms hi htoks)
      · intro _
        refine Safe.bind (parseAssign_safe toks htoks) ?_
        intro r hr
        apply Safe.ite
        · intro _; exact Safe.pure ⟨(shape_struct_iff ms n fl _).2 (stOK_setExpr hi _), hr⟩
        · intro _; exact postS_struct (ih.structInit2 false ms toks init 0 true hms hi htoks)
    | union ms n fl =>
      have hms : msOK ms = true := by
        simp only [tyOK, Bool.and_eq_true] at hty; exact hty.1
      have hi := (shape_union_iff ms n fl init).1 hinit
      rw [initializer2]
      apply Safe.ite
      · intro _; exact postU_union (ih.unionInit ms toks init hms hi htoks)
      · intro _
        refine Safe.bind (parseAssign_safe toks htoks) ?_
        intro r hr
        apply Safe.ite
        · intro _; exact Safe.pure ⟨(shape_union_iff ms n fl _).2 (unOK_setExpr hi _), hr⟩
        · intro _; exact postU_union (ih.unionInit ms toks init hms hi htoks)
    | scalar sz k =>
      unfold initializer2; dsimp only
      split
      · rename_i r
        refine Safe.bind (ih.initializer2 (.scalar sz k) r init hty hinit (toksOK_tail htoks)) ?_
        intro r1 hr1
        exact closeBrace_safe (Post (.scalar sz k)) r1.1 r1.2 hr1.2 (fun rest hrest => ⟨hr1.1, hrest⟩)
      · refine Safe.bind (parseAssign_safe toks htoks) ?_
        intro r hr
        exact Safe.pure ⟨setExpr_shape _ init _ hinit, hr⟩
  designation := by
    intro ty toks init hty hinit htoks
    cases toks with
    | nil => simp only [designation]; exact ih.initializer2 ty [] init hty hinit htoks
    | cons x r =>
      cases x with
      | idx a | range a b =>
        rw [designation]
        cases he : ty.elem? with
        | none => exact Safe.diag
        | some elem =>
          obtain ⟨hty', hsh, hpost⟩ := elem_facts he hty
          rcases hsh init hinit with rfl | ⟨cs, rfl, hcs⟩
          · exact Safe.diag
          · refine hpost (Safe.bind (arrayDesignator_safe _ _ rfl) fun r1 hr1 => ?_)
            refine Safe.bind (rangeLoop_safe f ih elem hty' r1.2.2 (toksOK_rest htoks hr1.2.2) (.arr cs) ⟨cs, rfl, hcs⟩
              r1.1 r1.2.1 hr1.2.1) fun r2 hr2 => ?_
            exact ih.arrayInit2 elem r2.2 r2.1 (r1.2.1 + 1) hty' (Or.inr hr2.1.1) hr2.2
      | eq => rw [designation]; exact ih.initializer2 ty r init hty hinit (toksOK_tail htoks)
      | dot name =>
        cases ty with
        | struct ms n fl =>
          have hms : msOK ms = true := by
            simp only [tyOK, Bool.and_eq_true] at hty; exact hty.1
          have hi := (shape_struct_iff ms n fl init).1 hinit
          rw [designation]
          refine desgChain_safe ih hms htoks _ (fun _ _ _ _ => stOK_children hi) fun kd mi mty c r2 hk hr2 => ?_
          exact postS_struct (ih.structInit2 false ms r2.2 _ (kd.1 + 1) false hms
            (stOK_setExpr (stOK_setChild hi kd.1 mi mty r2.1 hk hr2.1) none) hr2.2)
        | union ms n fl =>
          have hms : msOK ms = true := by
            simp only [tyOK, Bool.and_eq_true] at hty; exact hty.1
          have hi := (shape_union_iff ms n fl init).1 hinit
          rw [designation]
          refine desgChain_safe ih hms htoks _ (fun kd _ _ _ => unOK_children (unOK_setMem hi kd.1))
            fun kd mi mty c r2 hk hr2 => ?_
          exact Safe.pure ⟨(shape_union_iff ms n fl _).2 (unOK_setChild (unOK_setMem hi kd.1) kd.1 mi mty r2.1 hk hr2.1), hr2.2⟩
        | scalar _ _ | array _ _ | inc _ => simp only [designation]; exact Safe.diag
      | lbrace | rbrace | comma | expr e | str id bytes esz =>
        simp only [designation]; exact ih.initializer2 ty _ init hty hinit htoks
  countLoop := by
    intro elem toks d i mx first hty hd htoks
    rw [countLoop]
    split
    · trivial
    · refine Safe.iteBind (optComma_safe first toks htoks) fun toks' h' => ?_
      refine Safe.bind (P := fun r => shape elem r.1 = true ∧ toksOK r.2.1 = true) ?_ ?_
      · split
        iterate 2 exact Safe.bind (ih.designation elem _ d hty hd (toksOK_tail h')) (fun r hr => Safe.pure ⟨hr.1, hr.2⟩)
        · exact Safe.bind (ih.initializer2 elem _ d hty hd h') (fun r hr => Safe.pure ⟨hr.1, hr.2⟩)
      · intro r hr
        exact ih.countLoop elem r.2.1 r.1 _ _ false hty hr.1 hr.2

theorem nc_all : ∀ f, NC f
  | 0 => nc_zero
  | f + 1 => nc_succ f (nc_all f)

end ChibiVerif.C13Init
