/-
Helper lemmas for the copy family of C04: the byte loops of store/push_struct/copy_struct_mem and `rep stosb`.
-/
import ChibiVerif.Model.Copy
import ChibiVerif.Lemmas.AscCopyLemmas
namespace ChibiVerif.Copy

theorem copyBytes_succ (m : Mem) (src dst : Int) (n : Nat) :
    copyBytes m src dst (n + 1) = moveByte src dst (copyBytes m src dst n) n := by
  simp only [copyBytes, List.range_succ, List.foldl_append, List.foldl_cons, List.foldl_nil]

/-- the byte loop of `store` / `push_struct` / `copy_struct_mem` is the ascending copy of AscCopyLemmas -/
theorem copyBytes_eq (m : Mem) (src dst : Int) (n : Nat) : copyBytes m src dst n = ascCopy (src + ·) (dst + ·) m n := by
  induction n with
  | zero => rfl
  | succ n ih => rw [copyBytes_succ, ih]; rfl

/-- `rep stosb` fills exactly `[rdi, rdi + rcx)` with %al -/
theorem repStosb_spec : ∀ (rcx : Nat) (m : Mem) (al : BitVec 8) (rdi : Int) (a : Int),
    repStosb m al rdi rcx a = if rdi ≤ a ∧ a < rdi + rcx then al else m a := by
  intro rcx
  induction rcx with
  | zero => intro m al rdi a; simp only [repStosb]; have : ¬ (rdi ≤ a ∧ a < rdi + ((0 : Nat) : Int)) := by omega
            simp only [this, if_false]
  | succ n ih =>
    intro m al rdi a
    simp only [repStosb]
    rw [ih]
    by_cases h1 : a = rdi
    · subst h1
      have c1 : ¬ (a + 1 ≤ a ∧ a < a + 1 + (n : Int)) := by omega
      have c2 : (a ≤ a ∧ a < a + ((n + 1 : Nat) : Int)) := by omega
      rw [if_neg c1, if_pos c2]; simp
    · by_cases h2 : rdi + 1 ≤ a ∧ a < rdi + 1 + (n : Int)
      · have c2 : (rdi ≤ a ∧ a < rdi + ((n + 1 : Nat) : Int)) := by omega
        rw [if_pos h2, if_pos c2]
      · have c2 : ¬ (rdi ≤ a ∧ a < rdi + ((n + 1 : Nat) : Int)) := by omega
        rw [if_neg h2, if_neg c2]; simp [h1]

end ChibiVerif.Copy
