/-
C02: chains of conversions.  One link = one `cast(from, to)`:
  * a link with a floating side is `select` (Lemmas/FpCastLemmas = `C02_select`);
  * an integer-only link is C01's `cast_run` (Lemmas/C01Frame, the lemma under `C01_cast`), transported to the floating
    machine: the C02 model of `cast()` prints for two integer types exactly the sequence the C01 model prints
    (`castSeq_int`), `Fp.run` hands those instructions to `X86.run` (`run_castKind`), and the representation invariants
    `RInt` / `C01.Represents` are the same proposition.
Links compose because `Fp.run` of `a ++ b` is `Fp.run b` after `Fp.run a` whenever `a` terminates (`run_append`: the forward
local labels `1:` of one cast-table string never capture a jump of another, since a completed run has no jump in flight).
-/
import ChibiVerif.Lemmas.FpCastLemmas
import ChibiVerif.Lemmas.C01Frame
import ChibiVerif.Spec.FpChainSpec

namespace ChibiVerif.Fp
open ChibiVerif.Asm ChibiVerif.X86 ChibiVerif.Spec.Fpu ChibiVerif.FpCodegen ChibiVerif.Spec.FpC11
open ChibiVerif.Spec.IntSpec ChibiVerif.Gen.CommonType ChibiVerif.FpChain

theorem instrsOf_append (a b : List Line) : instrsOf (a ++ b) = instrsOf a ++ instrsOf b := by
  simp [instrsOf]

/-! ### an integer-only link is `C01_cast` -/

/-- for two integer types the C02 model of `cast()` prints what the C01 model prints (same generated table, same `_Bool`
    sequence) -/
theorem castSeq_int (a b : ITy) : castSeq (.int a) (.int b) = C01.castSeq a b := by
  cases a <;> cases b <;> rfl

/-- the integer conversion sequences are executed by the integer machine; the SSE/x87 part of the state is untouched -/
theorem run_castKind (F : FpuSpec) (k : C01.CastKind) (s : FState) :
    run F k.seq s = (X86.run k.seq s.x).map fun x' => { s with x := x' } := by
  cases k <;> rfl

/-- **C01_cast on the floating machine**: integer → integer -/
theorem sel_int_int (F : FpuSpec) (a b : ITy) (s : FState) (v : Int) (h : RInt a (s.x.get .rax) v) :
    ∃ s', run F (castSeq (.int a) (.int b)) s = some s' ∧ RInt b (s'.x.get .rax) (ChibiVerif.Spec.IntSpec.convert b v) ∧
      s'.cw = s.cw ∧ s'.st = s.st ∧ s'.xmm0 = s.xmm0 ∧ s'.x.get .rsp = s.x.get .rsp := by
  obtain ⟨k, hk, _⟩ := C01.cast_selected a b
  obtain ⟨x', h1, hv, hsame⟩ := C01.cast_run a b s.x v h
  rw [hk] at h1
  rw [castSeq_int, hk, run_castKind, h1]
  exact ⟨{ s with x := x' }, rfl, hv, rfl, rfl, rfl, hsame.rsp⟩

/-- `cast(from, to)` implements the C11 conversion for **every** pair of arithmetic types -/
theorem link (F : FpuSpec) (frm to : ATy) (s : FState) (x y : AVal)
    (hh : Holds frm s x) (hc : convert F s.cw to x = some y) (hpc : usesX87Arith frm to = true → pc s.cw = 3#2) :
    ∃ s', run F (castSeq frm to) s = some s' ∧ Holds to s' y ∧ s'.cw = s.cw ∧ stBelow to s' = stBelow frm s ∧
      s'.x.get .rsp = s.x.get .rsp := by
  by_cases hfp : frm.isFp = true ∨ to.isFp = true
  · exact select F frm to s x y hfp hh hc hpc
  · cases frm with
    | int a =>
      cases to with
      | int b =>
        cases x with
        | int v =>
          simp only [ChibiVerif.Spec.FpC11.convert, Option.some.injEq] at hc
          subst hc
          obtain ⟨s', h1, h2, h3, h4, _, h6⟩ := sel_int_int F a b s v hh
          exact ⟨s', h1, h2, h3, by simp [stBelow, h4], h6⟩
        | f32 _ => exact absurd hh (by simp [Holds])
        | f64 _ => exact absurd hh (by simp [Holds])
        | f80 _ => exact absurd hh (by simp [Holds])
      | f32 => simp [ATy.isFp] at hfp
      | f64 => simp [ATy.isFp] at hfp
      | f80 => simp [ATy.isFp] at hfp
    | f32 => simp [ATy.isFp] at hfp
    | f64 => simp [ATy.isFp] at hfp
    | f80 => simp [ATy.isFp] at hfp

/-- a chain of conversions `t0 → t1 → … → tn`: if C11 defines the composition (`convertChain`), the cells printed one after the
    other leave its value where values of the last type live; control word, %rsp and the x87 stack below the operand as before -/
theorem chain (F : FpuSpec) (ts : List ATy) :
    ∀ (t0 : ATy) (s : FState) (x y : AVal), Holds t0 s x → convertChain F s.cw ts x = some y →
      (chainUsesX87Arith t0 ts = true → pc s.cw = 3#2) →
      ∃ s', run F (chainSeq t0 ts) s = some s' ∧ Holds (chainType t0 ts) s' y ∧ s'.cw = s.cw ∧
        stBelow (chainType t0 ts) s' = stBelow t0 s ∧ s'.x.get .rsp = s.x.get .rsp := by
  induction ts with
  | nil =>
    intro t0 s x y hh hc _
    simp only [convertChain, Option.some.injEq] at hc
    subst hc
    exact ⟨s, rfl, hh, rfl, rfl, rfl⟩
  | cons t ts ih =>
    intro t0 s x y hh hc hpc
    simp only [convertChain] at hc
    cases h1 : convert F s.cw t x with
    | none => simp [h1] at hc
    | some z =>
      simp only [h1, Option.bind_some] at hc
      obtain ⟨s1, r1, hz, hcw1, hst1, hrsp1⟩ := link F t0 t s x z hh h1
        (fun h => hpc (by simp [chainUsesX87Arith, h]))
      obtain ⟨s2, r2, hy, hcw2, hst2, hrsp2⟩ := ih t s1 z y hz (by rw [hcw1]; exact hc)
        (fun h => by rw [hcw1]; exact hpc (by simp [chainUsesX87Arith, h]))
      refine ⟨s2, ?_, hy, by rw [hcw2, hcw1], by rw [show chainType t0 (t :: ts) = chainType t ts from rfl, hst2, hst1],
        by rw [hrsp2, hrsp1]⟩
      show run F (castSeq t0 t ++ chainSeq t ts) s = some s2
      rw [run_append F _ _ s s1 r1, r2]

/-! ### the nest of `ND_CAST` nodes `gen_expr` walks -/

theorem gen_wrap (ts : List ATy) : ∀ (e : CastE) (t0 : ATy), e.ty = descr t0 →
    instrsOf (e.wrap (ts.map descr)).gen = instrsOf e.gen ++ chainSeq t0 ts ∧
    (e.wrap (ts.map descr)).ty = descr (chainType t0 ts) := by
  induction ts with
  | nil => intro e t0 h; simp [CastE.wrap, chainSeq, chainType, h]
  | cons t ts ih =>
    intro e t0 h
    obtain ⟨h1, h2⟩ := ih (CastE.cast (descr t) e) t rfl
    simp only [List.map_cons, CastE.wrap]
    refine ⟨?_, h2⟩
    rw [h1]
    simp only [CastE.gen, instrsOf_append, h, chainSeq, castSeq, List.append_assoc]

theorem nest_gen (t0 : ATy) (code : List Line) (ts : List ATy) :
    instrsOf (nest t0 code ts).gen = instrsOf code ++ chainSeq t0 ts :=
  (gen_wrap ts (CastE.leaf (descr t0) code) t0 rfl).1

theorem nest_ty (t0 : ATy) (code : List Line) (ts : List ATy) : (nest t0 code ts).ty = descr (chainType t0 ts) :=
  (gen_wrap ts (CastE.leaf (descr t0) code) t0 rfl).2

/-- integer → float → integer is the integer rounded to 24 significant bits (when that is in range) -/
theorem via_f32 (F : FpuSpec) (cw : BitVec 16) (t : ITy) (ht : t ≠ .bool) (v : Int) (hv : v.natAbs ≤ 2 ^ 64)
    (hr : t.inRange (roundInt 24 v)) :
    convertChain F cw [.f32, .int t] (.int v) = some (.int (roundInt 24 v)) := by
  simp [convertChain, ChibiVerif.Spec.FpC11.convert,
    fpToInt_eq_some t ht _ _ (Val.toInt_trunc (F.ofInt32_val v hv)) hr]

theorem via_f64 (F : FpuSpec) (cw : BitVec 16) (t : ITy) (ht : t ≠ .bool) (v : Int) (hv : v.natAbs ≤ 2 ^ 64)
    (hr : t.inRange (roundInt 53 v)) :
    convertChain F cw [.f64, .int t] (.int v) = some (.int (roundInt 53 v)) := by
  simp [convertChain, ChibiVerif.Spec.FpC11.convert,
    fpToInt_eq_some t ht _ _ (Val.toInt_trunc (F.ofInt64_val v hv)) hr]

end ChibiVerif.Fp
