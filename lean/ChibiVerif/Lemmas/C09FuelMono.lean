/-
C09 — the answer of `preprocess2` does not depend on the fuel once the fuel suffices: a run that ends with output or
with a diagnostic (anything but `.error .fuel`) ends the same way with any larger amount of fuel.  Together with
`C09_terminates` this makes `preprocess2 lx (fuelBound defs ts)` *the* result of macro expansion, and every run of the
driver that does not report `fuel` (the correspondence runs use a fixed large constant) computes exactly it.
-/
import ChibiVerif.Model.PP
import ChibiVerif.Lemmas.C09Step

namespace ChibiVerif.PP

/-- `pp'` answers like `pp` wherever `pp` does not run out of fuel -/
def PPExtends (pp pp' : PreExpand) : Prop :=
  ∀ st ts r, pp st ts = r → r ≠ .error .fuel → pp' st ts = r

theorem substLoop_mono (lx : String → LexOne) (pp pp' : PreExpand) (hpp : PPExtends pp pp')
    (fuel : Nat) (isObj : Bool) (st : St) (args : List MacroArg) (body acc : List Tok)
    (r : Except Err (List Tok × List MacroArg × St))
    (h : substLoop lx pp isObj fuel st args body acc = r) (hr : r ≠ .error .fuel) :
    substLoop lx pp' isObj fuel st args body acc = r := by
  induction fuel generalizing isObj st args body acc r with
  | zero => cases body <;> exact h
  | succ n ih =>
    cases body with
    | nil => exact h
    | cons tok rest =>
      rw [substLoop_succ] at h ⊢
      revert h
      -- the two runs take the same arm; where one asks `pp` or itself and the answer is not `fuel`, the other gets the same
      refine substArms_rel (R := fun x y => x = r → y = r) (fun _ _ h => h) ?_ ?_ ?_ (skipEmptyOperands_suffix args)
        fun _ _ _ _ _ _ _ => rfl
      · exact fun _ _ _ _ h => ih _ _ _ _ _ _ h hr
      · intro a _ h
        cases hp : pp st (addHideset a.toks []) with
        | error e => rw [hp] at h; rw [hpp _ _ _ hp (by rintro hc; cases hc; exact hr h.symm)]; exact h
        | ok v => rw [hp] at h; rw [hpp _ _ _ hp nofun]; exact ih _ _ _ _ _ _ h hr
      · intro c r' _ _ _ h
        cases hc : substLoop lx pp false n st args c [] with
        | error e => rw [hc] at h; rw [ih _ _ _ _ _ _ hc (by rintro hx; cases hx; exact hr h.symm)]; exact h
        | ok v => rw [hc] at h; rw [ih _ _ _ _ _ _ hc nofun]; exact ih _ _ _ _ _ _ h hr

/-- `Except.map` neither hides nor produces a fuel error: a monotonicity statement lifts through it -/
theorem map_mono {α β : Type} {x x' : Except Err α} {f : α → β} {r : Except Err β}
    (hx : ∀ r0, x = r0 → r0 ≠ .error .fuel → x' = r0) (h : x.map f = r) (hr : r ≠ .error .fuel) : x'.map f = r := by
  rw [hx x rfl (by rintro hc; rw [hc] at h; exact hr h.symm)]; exact h

theorem subst_mono (lx : String → LexOne) (pp pp' : PreExpand) (hpp : PPExtends pp pp')
    (st : St) (body : List Tok) (args : List MacroArg) (isObj : Bool) (r : Except Err (List Tok × St))
    (h : subst lx pp st body args isObj = r) (hr : r ≠ .error .fuel) : subst lx pp' st body args isObj = r :=
  map_mono (substLoop_mono lx pp pp' hpp _ _ _ _ _ _) h hr

theorem expandMacro_mono (lx : String → LexOne) (pp pp' : PreExpand) (hpp : PPExtends pp pp')
    (st : St) (tok : Tok) (rest : List Tok) (r : Except Err (Option (List Tok × St)))
    (h : expandMacro lx pp st tok rest = r) (hr : r ≠ .error .fuel) : expandMacro lx pp' st tok rest = r := by
  revert h
  -- numbering of the cases: see `expandMacro_keeps` (Lemmas/PPLemmas.lean)
  fun_cases expandMacro lx pp st tok rest <;> intro h <;> unfold expandMacro <;> simp only [*, ↓reduceIte, Bool.false_eq_true]
  -- left: the four arms that call `subst`; the run with `pp'` gets the same answer from it
  case case4 | case8 =>
    rw [subst_mono lx pp pp' hpp _ _ _ _ _ ‹subst lx pp _ _ _ _ = Except.error _› (by rintro hc; cases hc; exact hr h.symm)]; exact h
  case case5 | case9 =>
    rw [subst_mono lx pp pp' hpp _ _ _ _ _ ‹subst lx pp _ _ _ _ = Except.ok _› nofun]; exact h

theorem preprocess2_mono (lx : String → LexOne) : ∀ (n m : Nat), n ≤ m →
    PPExtends (fun st ts => preprocess2 lx n st ts) (fun st ts => preprocess2 lx m st ts) := by
  intro n
  induction n with
  | zero =>
    intro m _ st ts r h hr
    cases ts with
    | nil => cases m <;> simpa [preprocess2] using h
    | cons t b => simp only [preprocess2] at h; exact absurd h.symm hr
  | succ n ih =>
    intro m hnm st ts r h hr
    obtain ⟨m', rfl⟩ : ∃ m', m = m' + 1 := ⟨m - 1, by omega⟩
    have hext := ih m' (by omega)
    cases ts with
    | nil => simpa [preprocess2] using h
    | cons tok rest =>
      simp only [preprocess2] at h ⊢
      -- the call of `expand_macro` answers the same; then every arm is a diagnostic or one recursive call
      rw [expandMacro_mono lx _ _ hext st tok rest _ rfl (by intro hc; rw [hc] at h; exact hr h.symm)]
      split at h
      · exact h
      · exact hext _ _ r h hr
      · split at h
        · rw [if_pos ‹_›]; exact map_mono (hext st rest) h hr
        · rw [if_neg ‹_›]
          split at h
          · exact h
          · exact hext _ _ r h hr

theorem expand_mono (n m : Nat) (hnm : n ≤ m) (defs : List (String × Macro)) (ts : List Tok) (r : Except Err (List Tok))
    (h : expand n defs ts = r) (hr : r ≠ .error .fuel) : expand m defs ts = r :=
  map_mono (preprocess2_mono Lex.lexOne n m hnm _ _) h hr

end ChibiVerif.PP
