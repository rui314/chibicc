/-
C05, parser = specification: facts about the specification (Spec/InitSpec.lean), and the two places where it meets the parser before
the simulation: the guard of a braced string literal (`bracedStr` / `bracedLit`, `init2_bracedLit_eq`) and the fuel of `skipExcess`.

* `Imp x y`        — "if the run `x` of the specification succeeds outside every region, `y` is the same result": the relation the
                     simulation composes.
* `initItem`       — one initializer of a list with the rest of the list (`initItemWith` applied to `initList g`).
* flags are monotone, a list that is at its end or at a designator (`Stopped`) does not look at its cursor, `next` after the `i`-th
  child is the cursor at child `i+1` (`cursorIn`), `descend`/`desigPaths` only extend paths; `startable`: the tokens that can start an
  initializer; `afterDesg`: a designator list followed by its initializer.
* runs that enter a region, where `Imp` holds for lack of a clean result: `initItem_dirty` (an initializer whose own flags `tokFl` /
  `braceFl` are not clean) with its instances `initItem_wide_dirty`, `initItem_xover_dirty`, `initItem_switch_dirty`, and for a
  designator list `afterDesg_wide_dirty` (through `desigPaths_extend`: a designator list appends the same suffixes to every path)
  and `afterDesg_xover_dirty`.
-/
import ChibiVerif.Lemmas.InitPathLemmas
import ChibiVerif.Lemmas.InitFuelLemmas
import ChibiVerif.Lemmas.InitBracedStr
import ChibiVerif.Lemmas.ExceptLemmas

namespace ChibiVerif.InitSpec
open ChibiVerif.Init

variable {ty : Ty} {top : Bool} {obj : Init} {paths : List (List Nat)} {toks : List ITok} {g : Nat} {fl : Flags} {root : Ty}
    {tok : ITok} {p : List Nat} {t : Ty} {k : Nat} {f : Nat} {inner : List ITok} {r : List ITok} {e : Ty} {cs : List Init}
    {c : Init} {rest : List (List Nat)} {res : Result} {m : Nat} {ps : List (List Nat)}

export Except (bind_eq_ok ok_bind mapM_cons_ok)

theorem error_bind {α β : Type} (e : Fail) (k : α → Except Fail β) : ((Except.error e : Except Fail α) >>= k) = .error e := rfl
theorem pure_bind' {α β : Type} (a : α) (k : α → Except Fail β) : ((pure a : Except Fail α) >>= k) = k a := rfl

theorem bind_ok {α β : Type} {x : Except Fail α} {k : α → Except Fail β} {a : α} (h : x = .ok a) : (x >>= k) = k a := by
  subst h; rfl

theorem Flags.join_none (a : Flags) : a.join Flags.none = a := by
  cases a; simp [Flags.join, Flags.none]

theorem Flags.join_false (a : Flags) : a.join ⟨false, false, false, false⟩ = a := Flags.join_none a

theorem Flags.clean_join {a b : Flags} (h : (a.join b).clean = true) : a.clean = true ∧ b.clean = true := by
  cases a; cases b
  simp only [Flags.join, Flags.clean, Bool.and_eq_true, Bool.not_eq_true', Bool.or_eq_false_iff] at h ⊢
  exact ⟨⟨⟨⟨h.1.1.1.1, h.1.1.2.1⟩, h.1.2.1⟩, h.2.1⟩, ⟨⟨⟨h.1.1.1.2, h.1.1.2.2⟩, h.1.2.2⟩, h.2.2⟩⟩

theorem Flags.clean_mk {a b c : Bool} (h : (Flags.mk a b c false).clean = true) : a = false ∧ b = false ∧ c = false := by
  simpa [Flags.clean, and_assoc] using h

/-- the flags the list adds for one initializer: region `FlexReinit` -/
def reinitFl (ty : Ty) (top : Bool) (obj : Init) (desg : Bool) (paths : List (List Nat)) : Flags :=
  ⟨false, false, false, reinitAt ty top obj desg paths⟩

theorem reinitFl_clean {desg : Bool}
    (h : (reinitFl ty top obj desg paths).clean = true) : reinitFl ty top obj desg paths = Flags.none := by
  simp only [reinitFl, Flags.clean, Bool.not_false, Bool.true_and, Bool.not_eq_true'] at h
  simp [reinitFl, h, Flags.none]

theorem reinitFl_none_of {desg : Bool}
    (h : reinitAt ty top obj desg paths = false) : reinitFl ty top obj desg paths = Flags.none := by
  simp [reinitFl, h, Flags.none]

/-- if the run `x` succeeded outside every region, `y` is that result -/
def Imp (x y : Except Fail Result) : Prop := ∀ r, x = .ok r → r.fl.clean = true → y = .ok r

theorem Imp.refl (x : Except Fail Result) : Imp x x := fun _ h _ => h
theorem Imp.trans {x y z : Except Fail Result} (h1 : Imp x y) (h2 : Imp y z) : Imp x z :=
  fun r hr hc => h2 r (h1 r hr hc) hc
theorem Imp.of_eq {x y : Except Fail Result} (h : x = y) : Imp x y := h ▸ Imp.refl x
theorem Imp.of_error {x y : Except Fail Result} {e : Fail} (h : x = .error e) : Imp x y := by
  intro r hr; rw [h] at hr; cases hr

/-- one initializer for the subobjects `paths`, then the rest of the list -/
def initItem (g : Nat) (ty : Ty) (top : Bool) (obj : Init) (paths : List (List Nat)) (toks : List ITok) (fl : Flags) :
    Except Fail Result :=
  initItemWith (initList g) ty top obj paths toks fl

theorem initList_zero (ty : Ty) (top : Bool) (obj : Init) (cur : Option (List Nat)) (toks : List ITok) (first : Bool) (fl : Flags) :
    initList 0 ty top obj cur toks first fl = .error .fuel := rfl

theorem initList_rbrace (g : Nat) (ty : Ty) (top : Bool) (obj : Init) (cur : Option (List Nat)) (r : List ITok) (first : Bool)
    (fl : Flags) : initList (g+1) ty top obj cur (.rbrace :: r) first fl = .ok ⟨obj, r, fl⟩ := by
  rw [initList]

theorem initList_comma_rbrace (g : Nat) (ty : Ty) (top : Bool) (obj : Init) (cur : Option (List Nat)) (r : List ITok) (first : Bool)
    (fl : Flags) : initList (g+1) ty top obj cur (.comma :: .rbrace :: r) first fl = .ok ⟨obj, r, fl⟩ := by
  rw [initList]

theorem initList_end {cur : Option (List Nat)} {rest : List ITok} {first : Bool} (h : consumeEnd toks = some rest) :
    initList (g+1) ty top obj cur toks first fl = .ok ⟨obj, rest, fl⟩ := by
  unfold consumeEnd at h
  split at h
  · cases h; exact initList_rbrace ..
  · cases h; exact initList_comma_rbrace ..
  · cases h

theorem initList_item {cur : Option (List Nat)} {first : Bool} (h : consumeEnd toks = none) :
    initList (g+1) ty top obj cur toks first fl =
      ((if first then pure toks else skipTok .comma "," toks) >>= fun toks =>
        pathsOf ty top cur toks >>= fun pt =>
          initItem g ty top obj pt.1 pt.2 (fl.join (reinitFl ty top obj (isDesg toks) pt.1))) := by
  unfold consumeEnd at h
  rw [initList]
  · cases first <;> rfl
  · intro r hr; subst hr; simp at h
  · intro r hr; subst hr; simp at h

/-- `is_end` is "`consume_end` succeeds" -/
theorem consumeEnd_isSome (toks : List ITok) : (consumeEnd toks).isSome = isEnd toks := by
  unfold consumeEnd isEnd
  split <;> rfl

theorem consumeEnd_none_of_isEnd (h : isEnd toks = false) : consumeEnd toks = none := by
  rwa [← consumeEnd_isSome, Option.isSome_eq_false_iff, Option.isNone_iff_eq_none] at h

theorem isEnd_of_consumeEnd_none (h : consumeEnd toks = none) : isEnd toks = false := by
  rw [← consumeEnd_isSome, h]; rfl

theorem consumeEnd_some_isEnd {toks rest : List ITok} (h : consumeEnd toks = some rest) : isEnd toks = true := by
  rw [← consumeEnd_isSome, h]; rfl

def isStrTok : ITok → Bool
  | .str .. => true
  | _ => false

/-- `touched`, except for scalars (a string literal replaces an array as a whole) -/
def nonScalarTouched (root : Ty) (obj : Init) (p : List Nat) : Bool :=
  match subTy root p with
  | some (.scalar ..) => false
  | _ => touched obj p

/-- the flags an initializer without braces for `paths` that lands at `targets` adds to the run -/
def tokFl (root : Ty) (obj : Init) (paths targets : List (List Nat)) (tok : ITok) : Flags :=
  ⟨(isStrTok tok && targets.any (nonScalarTouched root obj))
      || targets.any (switchesUnion obj), targets.any (exprAbove obj),
    decide (paths.length > 1) && !(siblings paths && targets == paths), false⟩

/-- the flags a brace-enclosed initializer for `paths` adds to the run -/
def braceFl (obj : Init) (paths : List (List Nat)) : Flags :=
  ⟨paths.any (touched obj), paths.any (exprAbove obj), decide (paths.length > 1) && !siblings paths, false⟩

/-- the type of the subobject a brace-enclosed list is for: an array that may grow is one of unknown bound -/
def grownTy (ty : Ty) (top : Bool) (p0 : List Nat) (t0 : Ty) : Ty :=
  if growable ty top p0 then (match t0 with | .array e _ => Ty.inc e | t => t) else t0

section
variable {rec : Ty → Bool → Init → Option (List Nat) → List ITok → Bool → Flags → Except Fail Result} {tok : ITok}
    {r0 : List ITok} {res : Result}

/-- what a successful initializer without braces did: where it landed, the stores, then the rest of the list -/
theorem initTokWith_ok (h : initTokWith rec ty top obj paths tok r0 fl = .ok res) :
    ∃ targets obj', paths.mapM (fun p => descend ty top tok (p.length + ty.nodes + 2) p) = .ok targets ∧
      targets.foldlM (fun o p => modifyAt ty top (storeTok ty top tok p) ty [] p o) obj = .ok obj' ∧
      rec ty top obj' (next ty top targets.getLast!.reverse) r0 false (fl.join (tokFl ty obj paths targets tok)) = .ok res := by
  unfold initTokWith at h
  obtain ⟨targets, ht, h⟩ := bind_eq_ok h
  obtain ⟨obj', hm, h⟩ := bind_eq_ok h
  exact ⟨targets, obj', ht, hm, h⟩

/-- the four ways one initializer of a list succeeds: an excess element; an initializer without braces; `{ "…" }` for a character
    array (p14/p15: the literal alone); a brace-enclosed list for the whole subobject -/
theorem initItemWith_ok (h : initItemWith rec ty top obj paths toks fl = .ok res) :
    (paths = [] ∧ ∃ r, skipExcess (toks.length + 1) toks = .ok r ∧ rec ty top obj none r false fl = .ok res) ∨
    (∃ tok r, paths ≠ [] ∧ toks = tok :: r ∧ tok ≠ .lbrace ∧ initTokWith rec ty top obj paths tok r fl = .ok res) ∨
    ∃ p0 ps inner t0, paths = p0 :: ps ∧ toks = .lbrace :: inner ∧ subTy ty p0 = some t0 ∧
      ((∃ tok r, bracedLit (grownTy ty top p0 t0) inner = some (tok, r) ∧ initTokWith rec ty top obj paths tok r fl = .ok res) ∨
       (bracedLit (grownTy ty top p0 t0) inner = none ∧ ∃ sub obj',
          rec (grownTy ty top p0 t0) false (braceStart (grownTy ty top p0 t0)) (firstCursor (grownTy ty top p0 t0)) inner true
            Flags.none = .ok sub ∧
          paths.foldlM (fun o p => modifyAt ty top (fun _ _ => pure (defaultMember (grownTy ty top p0 t0) (unflex sub.obj))) ty [] p o)
            obj = .ok obj' ∧
          rec ty top obj' (next ty top paths.getLast!.reverse) sub.rest false ((fl.join (braceFl obj paths)).join sub.fl)
            = .ok res)) := by
  unfold initItemWith at h
  split at h
  · obtain ⟨r, hs, h⟩ := bind_eq_ok h
    exact .inl ⟨rfl, r, hs, h⟩
  · rename_i p0 ps
    split at h
    · rename_i inner
      obtain ⟨t0, ht, h⟩ := bind_eq_ok h
      have ht0 : subTy ty p0 = some t0 := by
        split at ht <;> cases ht; assumption
      refine .inr (.inr ⟨p0, ps, inner, t0, rfl, rfl, ht0, ?_⟩)
      simp only at h
      split at h
      · rename_i tok r hbl
        exact .inl ⟨tok, r, hbl, h⟩
      · rename_i hbl
        obtain ⟨sub, hsub, h⟩ := bind_eq_ok h
        obtain ⟨obj', hm, h⟩ := bind_eq_ok h
        exact .inr ⟨hbl, sub, obj', hsub, hm, h⟩
    · rename_i tok r hnb
      exact .inr (.inl ⟨tok, r, List.cons_ne_nil _ _, rfl, hnb, h⟩)
    · cases h

end

theorem initTokWith_clean {rec : Ty → Bool → Init → Option (List Nat) → List ITok → Bool → Flags → Except Fail Result}
    (hrec : ∀ {ty top obj cur toks first fl} {r : Result}, rec ty top obj cur toks first fl = .ok r → r.fl.clean = true →
      fl.clean = true)
    {r0 : List ITok} {r : Result} (h : initTokWith rec ty top obj paths tok r0 fl = .ok r) (hc : r.fl.clean = true) :
    fl.clean = true := by
  obtain ⟨_, _, _, _, h⟩ := initTokWith_ok h
  exact (Flags.clean_join (hrec h hc)).1

theorem initItemWith_clean {rec : Ty → Bool → Init → Option (List Nat) → List ITok → Bool → Flags → Except Fail Result}
    (hrec : ∀ {ty top obj cur toks first fl} {r : Result}, rec ty top obj cur toks first fl = .ok r → r.fl.clean = true →
      fl.clean = true)
    {r : Result} (h : initItemWith rec ty top obj paths toks fl = .ok r) (hc : r.fl.clean = true) : fl.clean = true := by
  rcases initItemWith_ok h with ⟨_, _, _, h⟩ | ⟨_, _, _, _, _, h⟩ | ⟨_, _, _, _, _, _, _, ⟨_, _, _, h⟩ | ⟨_, _, _, _, _, h⟩⟩
  · exact hrec h hc
  · exact initTokWith_clean hrec h hc
  · exact initTokWith_clean hrec h hc
  · exact (Flags.clean_join (Flags.clean_join (hrec h hc)).1).1

theorem initList_clean {cur : Option (List Nat)} {first : Bool} {r : Result}
    (h : initList g ty top obj cur toks first fl = .ok r) (hc : r.fl.clean = true) : fl.clean = true := by
  induction g generalizing ty top obj cur toks first fl r with
  | zero => cases h
  | succ g ih =>
    cases he : consumeEnd toks with
    | some rest =>
      rw [initList_end he] at h
      cases h; exact hc
    | none =>
      rw [initList_item he] at h
      obtain ⟨_, _, h⟩ := bind_eq_ok h
      obtain ⟨_, _, h⟩ := bind_eq_ok h
      exact (Flags.clean_join (initItemWith_clean ih h hc)).1

theorem initItem_clean
    {r : Result} (h : initItem g ty top obj paths toks fl = .ok r) (hc : r.fl.clean = true) : fl.clean = true :=
  initItemWith_clean initList_clean h hc

/-- outside the regions the list adds no flag for the initializer: the unfolding in the form the simulation uses -/
theorem initList_item_imp {cur : Option (List Nat)} {first : Bool} (h : consumeEnd toks = none) {r : Result} (hr : initList (g+1) ty top obj cur toks first fl = .ok r)
    (hc : r.fl.clean = true) :
    ((if first then pure toks else skipTok .comma "," toks) >>= fun toks =>
        pathsOf ty top cur toks >>= fun pt => initItem g ty top obj pt.1 pt.2 fl) = .ok r := by
  rw [initList_item h] at hr
  cases hx : (if first then pure toks else skipTok .comma "," toks : Except Fail (List ITok)) with
  | error e => rw [hx] at hr; cases hr
  | ok toks1 =>
    rw [hx] at hr
    simp only [ok_bind] at hr ⊢
    cases hp : pathsOf ty top cur toks1 with
    | error e => rw [hp] at hr; cases hr
    | ok pt =>
      rw [hp] at hr
      simp only [ok_bind] at hr ⊢
      have hcl := (Flags.clean_join (initItem_clean hr hc)).2
      rw [reinitFl_clean hcl, Flags.join_none] at hr
      exact hr

theorem Imp.of_item {cur : Option (List Nat)} {first : Bool}
    {y : Except Fail Result} (h : consumeEnd toks = none)
    (hy : Imp ((if first then pure toks else skipTok .comma "," toks) >>= fun toks =>
        pathsOf ty top cur toks >>= fun pt => initItem g ty top obj pt.1 pt.2 fl) y) :
    Imp (initList (g+1) ty top obj cur toks first fl) y :=
  fun r hr hc => hy r (initList_item_imp h hr hc) hc

/-- a run that starts inside a region proves nothing and is related to everything -/
theorem Imp.of_dirty_list {g : Nat} {ty : Ty} {top : Bool} {obj : Init} {cur : Option (List Nat)} {toks : List ITok} {first : Bool}
    {fl : Flags} {y : Except Fail Result} (h : fl.clean = false) : Imp (initList g ty top obj cur toks first fl) y := by
  intro r hr hc
  rw [initList_clean hr hc] at h; cases h

/-- the parser's elided loops return to the enclosing braces: the list ends, or a comma and a designator follow -/
def Stopped (toks : List ITok) : Prop := isEnd toks = true ∨ ∃ r, toks = .comma :: r ∧ isDesg r = true

theorem pathsOf_desg (ty : Ty) (top : Bool) (cur cur' : Option (List Nat)) (toks : List ITok) (h : isDesg toks = true) :
    pathsOf ty top cur toks = pathsOf ty top cur' toks := by
  simp [pathsOf, h]

theorem initList_stopped {cur cur' : Option (List Nat)} (h : Stopped toks) :
    initList g ty top obj cur toks false fl = initList g ty top obj cur' toks false fl := by
  cases g with
  | zero => rfl
  | succ g =>
    rcases h with h | ⟨r, rfl, hd⟩
    · cases he : consumeEnd toks with
      | some rest => rw [initList_end he, initList_end he]
      | none => rw [isEnd_of_consumeEnd_none he] at h; cases h
    · cases he : consumeEnd (.comma :: r) with
      | some rest => rw [initList_end he, initList_end he]
      | none =>
        rw [initList_item he, initList_item he]
        simp only [Bool.false_eq_true, ↓reduceIte, skipTok]
        rw [ok_bind, ok_bind, pathsOf_desg ty top cur cur' r hd]

/-- the cursor "at child `i` of the aggregate at `p`": that child if it exists (for a struct: the next member at or after `i` that
    takes part), otherwise whatever follows the aggregate; a union holds one member, so behind any of its members comes what follows
    the union -/
def cursorIn (root : Ty) (top : Bool) (p : List Nat) (i : Nat) : Option (List Nat) :=
  match subTy root p with
  | some (.array _ len) => if i < len || growable root top p then some (p ++ [i]) else next root top p.reverse
  | some (.inc _) => some (p ++ [i])
  | some (.struct ms _ _) =>
    match nextNamed ms ms.length i with
    | some j => some (p ++ [j])
    | none => next root top p.reverse
  | some (.union _ _ _) => next root top p.reverse
  | _ => none

theorem next_snoc (root : Ty) (top : Bool) (p : List Nat) (i : Nat) :
    next root top (i :: p.reverse) = cursorIn root top p (i + 1) := by
  rw [next]
  simp only [List.reverse_reverse, cursorIn]
  cases subTy root p with
  | none => rfl
  | some t => cases t <;> rfl

theorem next_nil (root : Ty) (top : Bool) : next root top [] = none := by rw [next]

theorem descend_bad (f : Nat) (ht : subTy root p = none) :
    ∃ e, descend root top tok f p = .error e := by
  cases f with
  | zero => exact ⟨_, rfl⟩
  | succ f => rw [descend]; simp [ht]

theorem descend_stop (f : Nat) (ht : subTy root p = some t)
    (hs : stopsAt t tok = true) : descend root top tok (f+1) p = .ok p := by
  rw [descend]; simp [ht, hs]

theorem descend_step (f : Nat) (ht : subTy root p = some t)
    (hs : stopsAt t tok = false) (hk : firstSub root top p t = some k) :
    descend root top tok (f+1) p = descend root top tok f (p ++ [k]) := by
  rw [descend]; simp [ht, hs, hk]

theorem descend_none (f : Nat) (ht : subTy root p = some t)
    (hs : stopsAt t tok = false) (hk : firstSub root top p t = none) :
    ∃ e, descend root top tok f p = .error e := by
  cases f with
  | zero => exact ⟨_, rfl⟩
  | succ f => rw [descend]; simp [ht, hs, hk]

theorem descend_ok_cases {p q : List Nat}
    (h : descend root top tok (f+1) p = .ok q) :
    ∃ t, subTy root p = some t ∧
      ((stopsAt t tok = true ∧ q = p) ∨
       (stopsAt t tok = false ∧ ∃ k, firstSub root top p t = some k ∧ descend root top tok f (p ++ [k]) = .ok q)) := by
  cases ht : subTy root p with
  | none => obtain ⟨e, he⟩ := descend_bad (top := top) (tok := tok) (f+1) ht; rw [he] at h; cases h
  | some t =>
    refine ⟨t, rfl, ?_⟩
    cases hs : stopsAt t tok with
    | true => rw [descend_stop f ht hs] at h; cases h; exact Or.inl ⟨rfl, rfl⟩
    | false =>
      cases hk : firstSub root top p t with
      | none => obtain ⟨e, he⟩ := descend_none (f+1) ht hs hk; rw [he] at h; cases h
      | some k => rw [descend_step f ht hs hk] at h; exact Or.inr ⟨rfl, k, rfl, h⟩

theorem descend_mono_le (root : Ty) (top : Bool) (tok : ITok) : ∀ {f f' : Nat}, f ≤ f' → ∀ {p q : List Nat},
    descend root top tok f p = .ok q → descend root top tok f' p = .ok q
  | 0, _, _, _, _, h => by cases h
  | f+1, f'+1, hle, p, q, h => by
    obtain ⟨t, ht, h1 | ⟨hs, k, hk, h2⟩⟩ := descend_ok_cases h
    · rw [descend_stop _ ht h1.1, h1.2]
    · rw [descend_step _ ht hs hk]; exact descend_mono_le root top tok (Nat.le_of_succ_le_succ hle) h2

theorem descend_prefix (root : Ty) (top : Bool) (tok : ITok) : ∀ (f : Nat) (p q : List Nat),
    descend root top tok f p = .ok q → ∃ s, q = p ++ s
  | 0, _, _, h => by cases h
  | f+1, p, q, h => by
    obtain ⟨t, ht, h1 | ⟨hs, k, hk, h2⟩⟩ := descend_ok_cases h
    · exact ⟨[], by simp [h1.2]⟩
    · obtain ⟨s, hs⟩ := descend_prefix root top tok f _ q h2
      exact ⟨k :: s, by simp [hs]⟩

theorem descend_below {p q : List Nat} (ht : subTy root p = some t)
    (hs : stopsAt t tok = false) (h : descend root top tok f p = .ok q) : ∃ k s, q = p ++ k :: s := by
  cases f with
  | zero => cases h
  | succ f =>
    obtain ⟨t', ht', h1 | ⟨_, k, hk, h2⟩⟩ := descend_ok_cases h
    · rw [ht] at ht'; cases ht'; rw [hs] at h1; cases h1.1
    · obtain ⟨s, hs⟩ := descend_prefix root top tok f _ q h2
      exact ⟨k, s, by simp [hs]⟩

/-- the regions an initializer without braces that lands at `q` enters -/
def tokFlags (root : Ty) (obj : Init) (tok : ITok) (q : List Nat) : Flags :=
  ⟨(isStrTok tok && nonScalarTouched root obj q) || switchesUnion obj q,
   exprAbove obj q, false, false⟩

theorem initItem_brace_multi {p0 : List Nat} {rest : List (List Nat)}
    (ht : subTy root p0 = some t) (hg : growable root top p0 = false)
    (hbl : bracedLit t inner = none) :
    initItem g root top obj (p0 :: rest) (.lbrace :: inner) fl =
      (initList g t false (braceStart t) (firstCursor t) inner true Flags.none >>= fun sub =>
        (p0 :: rest).foldlM (fun o p => modifyAt root top (fun _ _ => pure (defaultMember t (unflex sub.obj))) root [] p o) obj
          >>= fun obj' =>
          initList g root top obj' (next root top (p0 :: rest).getLast!.reverse) sub.rest false
            ((fl.join ⟨(p0 :: rest).any (touched obj), (p0 :: rest).any (exprAbove obj),
                decide ((p0 :: rest).length > 1) && !siblings (p0 :: rest), false⟩).join sub.fl)) := by
  unfold initItem initItemWith
  simp only [ht, hg, Bool.false_eq_true, ↓reduceIte, pure_bind', hbl]

theorem initItem_tok_multi {p0 : List Nat} {rest : List (List Nat)}
    (hb : tok ≠ .lbrace) :
    initItem g root top obj (p0 :: rest) (tok :: r) fl =
      ((p0 :: rest).mapM (fun p => descend root top tok (p.length + root.nodes + 2) p) >>= fun targets =>
        targets.foldlM (fun o p => modifyAt root top (storeTok root top tok p) root [] p o) obj >>= fun obj' =>
          initList g root top obj' (next root top targets.getLast!.reverse) r false
            (fl.join ⟨(isStrTok tok && targets.any (nonScalarTouched root obj))
                || targets.any (switchesUnion obj), targets.any (exprAbove obj),
              decide ((p0 :: rest).length > 1) && !(siblings (p0 :: rest) && targets == (p0 :: rest)), false⟩)) := by
  unfold initItem initItemWith initTokWith
  cases tok <;> first | exact absurd rfl hb | rfl

theorem initItem_tok (hb : tok ≠ .lbrace) :
    initItem g root top obj [p] (tok :: r) fl =
      (descend root top tok (p.length + root.nodes + 2) p >>= fun q =>
        modifyAt root top (storeTok root top tok q) root [] q obj >>= fun obj' =>
          initList g root top obj' (next root top q.reverse) r false (fl.join (tokFlags root obj tok q))) := by
  rw [initItem_tok_multi hb, List.mapM_cons, List.mapM_nil]
  cases descend root top tok (p.length + root.nodes + 2) p with
  | error e => rfl
  | ok q => cases modifyAt root top (storeTok root top tok q) root [] q obj <;> simp [tokFlags, nonScalarTouched]

theorem initItem_brace (ht : subTy root p = some t) (hg : growable root top p = false) (hbl : bracedLit t inner = none) :
    initItem g root top obj [p] (.lbrace :: inner) fl =
      (initList g t false (braceStart t) (firstCursor t) inner true Flags.none >>= fun sub =>
        modifyAt root top (fun _ _ => pure (defaultMember t (unflex sub.obj))) root [] p obj >>= fun obj' =>
          initList g root top obj' (next root top p.reverse) sub.rest false
            ((fl.join ⟨touched obj p, exprAbove obj p, false, false⟩).join sub.fl)) := by
  rw [initItem_brace_multi ht hg hbl]
  congr 1; funext sub
  cases hm : modifyAt root top (fun _ _ => pure (defaultMember t (unflex sub.obj))) root [] p obj <;> simp [hm]

theorem bracedLit_str (hbl : bracedLit t inner = some (tok, r)) :
    ∃ id bytes esz, tok = .str id bytes esz := by
  unfold bracedLit at hbl
  split at hbl <;> first | (split at hbl <;> first | (cases hbl; exact ⟨_, _, _, rfl⟩) | cases hbl) | cases hbl

/-- p14/p15: a string literal in braces for a character array is that string literal (the braces are optional) -/
theorem initItem_bracedLit (g : Nat) (root : Ty) (top : Bool) (obj : Init) (p0 : List Nat) (rest : List (List Nat))
    (inner : List ITok) (fl : Flags) {t : Ty} {tok : ITok} {r : List ITok}
    (ht : subTy root p0 = some t) (hg : growable root top p0 = false) (hbl : bracedLit t inner = some (tok, r)) :
    initItem g root top obj (p0 :: rest) (.lbrace :: inner) fl = initItem g root top obj (p0 :: rest) (tok :: r) fl := by
  obtain ⟨id, bytes, esz, rfl⟩ := bracedLit_str hbl
  unfold initItem initItemWith
  simp only [ht, hg, Bool.false_eq_true, ↓reduceIte, pure_bind', hbl]

theorem chrFits_eq (e : Ty) (esz : Nat) : chrFits e esz = (e.isIntNotBool && e.size == (esz : Int)) := by
  cases e with
  | scalar n k => cases k <;> simp [chrFits, strFits, Ty.isInteger, Ty.isIntNotBool]
  | _ => simp [chrFits, strFits, Ty.isInteger, Ty.isIntNotBool]

theorem chrFits_strFits {esz : Nat} (h : chrFits e esz = true) : strFits e esz = true := by
  simp only [chrFits, Bool.and_eq_true] at h; exact h.1

/-- the parser's guard `bracedStr` is the specification's `bracedLit` (p14/p15) for an array with that element type -/
theorem bracedLit_of_bracedStr {t elem : Ty} {id : Nat} {bytes : List Nat} {esz : Nat} {rest : List ITok}
    (ht : t.elem? = some elem) (h : bracedStr elem inner = some (id, bytes, esz, rest)) :
    bracedLit t inner = some (.str id bytes esz, rest) := by
  obtain ⟨tail, rfl, hce, hi, hsz⟩ := bracedStr_some h
  have hc : chrFits elem esz = true := by rw [chrFits_eq]; simp [hi, hsz]
  unfold consumeEnd at hce
  split at hce
  · cases hce
    cases t <;> simp [Ty.elem?] at ht <;> subst ht <;> simp [bracedLit, hc]
  · cases hce
    cases t <;> simp [Ty.elem?] at ht <;> subst ht <;> simp [bracedLit, hc]
  · cases hce

theorem bracedLit_none_of_bracedStr {t elem : Ty} (ht : t.elem? = some elem)
    (h : bracedStr elem inner = none) : bracedLit t inner = none := by
  unfold bracedLit
  split
  all_goals first
    | rfl
    | (simp only [Ty.elem?, Option.some.injEq] at ht
       subst ht
       simp only [bracedStr, consumeEnd, ← chrFits_eq] at h
       split at h
       · cases h
       · rename_i hn; simp [hn])

theorem bracedLit_non_array (inner : List ITok) (ht : t.elem? = none) : bracedLit t inner = none := by
  cases t <;> first | rfl | simp [Ty.elem?] at ht

theorem bracedLit_stops (h : bracedLit t inner = some (tok, r)) :
    stopsAt t tok = true ∧ tok ≠ .lbrace := by
  unfold bracedLit at h
  split at h <;> first
    | cases h
    | (split at h
       · rename_i hc; cases h; exact ⟨by simp [stopsAt, chrFits_strFits hc], by simp⟩
       · cases h)

theorem bracedStr_none_of_bracedLit {t elem : Ty} (ht : t.elem? = some elem)
    (h : bracedLit t inner = none) : bracedStr elem inner = none := by
  cases hbs : bracedStr elem inner with
  | none => rfl
  | some x =>
    obtain ⟨id, bytes, esz, rest⟩ := x
    rw [bracedLit_of_bracedStr ht hbs] at h; cases h

/-- the parser on `{ "…" }` for a character array is the parser on the literal alone -/
theorem init2_bracedLit_eq {f : Nat} {t : Ty} {inner : List ITok} {tok : ITok} {r : List ITok} (c : Init)
    (hbl : bracedLit t inner = some (tok, r)) :
    initializer2 f t (.lbrace :: inner) c = initializer2 f t (tok :: r) c := by
  cases f with
  | zero => simp [initializer2]
  | succ f =>
    cases t with
    | scalar => rw [bracedLit_non_array inner rfl] at hbl; cases hbl
    | struct => rw [bracedLit_non_array inner rfl] at hbl; cases hbl
    | union => rw [bracedLit_non_array inner rfl] at hbl; cases hbl
    | array e n =>
      cases hbs : bracedStr e inner with
      | none => rw [bracedLit_none_of_bracedStr rfl hbs] at hbl; cases hbl
      | some x =>
        obtain ⟨id, bytes, esz, rest⟩ := x
        rw [bracedLit_of_bracedStr rfl hbs] at hbl; cases hbl
        exact initializer2_array_bracedStr c hbs
    | inc e =>
      cases hbs : bracedStr e inner with
      | none => rw [bracedLit_none_of_bracedStr rfl hbs] at hbl; cases hbl
      | some x =>
        obtain ⟨id, bytes, esz, rest⟩ := x
        rw [bracedLit_of_bracedStr rfl hbs] at hbl; cases hbl
        exact initializer2_inc_bracedStr c hbs

theorem initItem_excess (g : Nat) (root : Ty) (top : Bool) (obj : Init) (toks : List ITok) (fl : Flags) :
    initItem g root top obj [] toks fl =
      (skipExcess (toks.length + 1) toks >>= fun r => initList g root top obj none r false fl) := rfl

theorem initItem_nil (g : Nat) (root : Ty) (top : Bool) (obj : Init) (p : List Nat) (fl : Flags) :
    initItem g root top obj [p] [] fl = .error (.diag "expected an expression") := rfl

/-- p20, one level: an initializer without braces that does not fit the aggregate at `p` as a whole goes to its first subobject -/
theorem initItem_descend_step
    (hb : tok ≠ .lbrace) (ht : subTy root p = some t) (hs : stopsAt t tok = false)
    (hk : firstSub root top p t = some k) :
    Imp (initItem g root top obj [p] (tok :: r) fl) (initItem g root top obj [p ++ [k]] (tok :: r) fl) := by
  intro res hres _
  rw [initItem_tok hb] at hres ⊢
  obtain ⟨q, hq, hres⟩ := bind_eq_ok hres
  have h1 : descend root top tok (p.length + root.nodes + 1) (p ++ [k]) = .ok q := by
    rw [← descend_step _ ht hs hk]; exact hq
  have h2 : descend root top tok ((p ++ [k]).length + root.nodes + 2) (p ++ [k]) = .ok q :=
    descend_mono_le root top tok (by simp; omega) h1
  rw [h2, ok_bind]; exact hres

theorem initItem_descend_none
    (hb : tok ≠ .lbrace) (ht : subTy root p = some t) (hs : stopsAt t tok = false)
    (hk : firstSub root top p t = none) : ∃ e, initItem g root top obj [p] (tok :: r) fl = .error e := by
  rw [initItem_tok hb]
  obtain ⟨e, he⟩ := descend_none (p.length + root.nodes + 2) ht hs hk
  exact ⟨e, by rw [he]; rfl⟩

theorem initItem_stop
    (hb : tok ≠ .lbrace) (ht : subTy root p = some t) (hs : stopsAt t tok = true) :
    initItem g root top obj [p] (tok :: r) fl =
      (modifyAt root top (storeTok root top tok p) root [] p obj >>= fun obj' =>
          initList g root top obj' (next root top p.reverse) r false (fl.join (tokFlags root obj tok p))) := by
  rw [initItem_tok hb, show p.length + root.nodes + 2 = (p.length + root.nodes + 1) + 1 from rfl,
    descend_stop _ ht hs, ok_bind]

/-- tokens that can start an initializer: an expression, a string literal, `{` -/
def startable : ITok → Bool
  | .expr _ => true
  | .str .. => true
  | .lbrace => true
  | _ => false

theorem bind_error_of {α β : Type} {x : Except Fail α} (k : α → Except Fail β) (h : ∃ e, x = .error e) :
    ∃ e, (x >>= k) = .error e := by
  obtain ⟨e, he⟩ := h; exact ⟨e, by rw [he]; rfl⟩

theorem modifyAt_error (root : Ty) (top : Bool) (f : Ty → Init → Except Fail Init) (hf : ∀ t old, ∃ e, f t old = .error e) :
    ∀ (q : List Nat) (t0 : Ty) (done : List Nat) (obj : Init), ∃ e, modifyAt root top f t0 done q obj = .error e
  | [], t0, done, obj => by rw [modifyAt]; exact hf t0 obj
  | k :: p, t0, done, obj => by
    rw [modifyAt_cons]
    cases nodeStep root top t0 done k obj with
    | error e => exact ⟨e, rfl⟩
    | ok s => rw [ok_bind]; exact bind_error_of _ (modifyAt_error root top f hf p _ _ _)

theorem storeTok_not_startable (root : Ty) (top : Bool) (tok : ITok) (q : List Nat) (h : startable tok = false) (t : Ty) (old : Init) :
    ∃ e, storeTok root top tok q t old = .error e := by
  cases tok <;> simp [startable] at h <;> cases t <;> exact ⟨_, rfl⟩

theorem initItem_not_startable (g : Nat) (root : Ty) (top : Bool) (obj : Init) (p : List Nat) (tok : ITok) (r : List ITok) (fl : Flags)
    (h : startable tok = false) : ∃ e, initItem g root top obj [p] (tok :: r) fl = .error e := by
  have hb : tok ≠ .lbrace := by intro he; subst he; simp [startable] at h
  rw [initItem_tok hb]
  cases hd : descend root top tok (p.length + root.nodes + 2) p with
  | error e => exact ⟨e, rfl⟩
  | ok q =>
    obtain ⟨e, he⟩ := modifyAt_error root top (storeTok root top tok q) (storeTok_not_startable root top tok q h) q root [] obj
    exact ⟨e, by rw [ok_bind, he]; rfl⟩

theorem touched_union_some (e : Option Expr) (m : Nat) (p : List Nat)
    (h : cs[k]? = some c) : touched (.union e (some m) cs) (k :: p) = if m = k then touched c p else true := by
  rw [touched]; simp [h]

theorem touched_other (p : List Nat) (h : obj.children[k]? = some c)
    (hn : ∀ e m cs, obj ≠ .union e (some m) cs) : touched obj (k :: p) = touched c p := by
  rw [touched]
  · simp [h]
  · intro e m cs he; exact hn e m cs he

theorem touched_false : ∀ (p : List Nat) (obj c : Init), getAt obj p = some c → touched obj p = false →
    hasExpr c = false ∧ switchesUnion obj p = false
  | [], obj, c, hg, ht => by
    simp [getAt] at hg; subst hg
    rw [touched] at ht
    exact ⟨ht, by rw [switchesUnion]⟩
  | k :: p, obj, c, hg, ht => by
    obtain ⟨ck, hk, hg'⟩ := getAt_cons_some hg
    by_cases hu : ∃ e m cs, obj = .union e (some m) cs
    · obtain ⟨e, m, cs, rfl⟩ := hu
      simp only [Init.children] at hk
      rw [touched_union_some e m p hk] at ht
      rw [switchesUnion_union_some e m p hk]
      split at ht
      · rename_i hmk
        simp only [hmk, ↓reduceIte]
        exact touched_false p ck c hg' ht
      · cases ht
    · have hn : ∀ e m cs, obj ≠ .union e (some m) cs := fun e m cs he => hu ⟨e, m, cs, he⟩
      rw [touched_other p hk hn] at ht
      rw [switchesUnion_other p hk hn]
      exact touched_false p ck c hg' ht

theorem exprAbove_cons (p : List Nat) (h : obj.children[k]? = some c) :
    exprAbove obj (k :: p) = (hasAggExpr obj || exprAbove c p) := by
  rw [exprAbove]; simp [h]

theorem exprAbove_of_agg (obj : Init) (k : Nat) (p : List Nat) (h : hasAggExpr obj = true) : exprAbove obj (k :: p) = true := by
  rw [exprAbove]; simp [h]

theorem exprAbove_append : ∀ (p q : List Nat) (obj c : Init), getAt obj p = some c →
    exprAbove obj (p ++ q) = (exprAbove obj p || exprAbove c q)
  | [], q, obj, c, hg => by
    simp [getAt] at hg; subst hg
    simp [exprAbove]
  | k :: p, q, obj, c, hg => by
    obtain ⟨ck, hk, hg'⟩ := getAt_cons_some hg
    rw [List.cons_append, exprAbove_cons _ hk, exprAbove_cons _ hk, exprAbove_append p q ck c hg', Bool.or_assoc]

theorem exprAbove_below {obj c : Init} (hg : getAt obj p = some c) (ha : hasAggExpr c = true) (k : Nat) (s : List Nat) :
    exprAbove obj (p ++ k :: s) = true := by
  rw [exprAbove_append p (k :: s) obj c hg, exprAbove_of_agg c k s ha, Bool.or_true]

theorem hasAggExpr_of_exprAbove {obj c : Init} {p : List Nat} {k : Nat} {s : List Nat} (hg : getAt obj p = some c)
    (h : exprAbove obj (p ++ k :: s) = false) : hasAggExpr c = false := by
  cases ha : hasAggExpr c with
  | false => rfl
  | true => rw [exprAbove_below hg ha] at h; cases h

theorem skipExcess_le (toks : List ITok) : ∀ (f f' : Nat), f ≤ f' → Le (skipExcess f toks) (skipExcess f' toks) := by
  intro f f' h
  obtain ⟨d, rfl⟩ := Nat.exists_eq_add_of_le h
  exact .of_rel ((par_le TreeRel.eq f d).skipExcess toks)

theorem skipExcess_fuel {toks r r' : List ITok} {f f' : Nat} (h : skipExcess f toks = .ok r) (h' : skipExcess f' toks = .ok r') :
    r = r' := by
  have h1 := skipExcess_le toks f (max f f') (Nat.le_max_left _ _)
  have h2 := skipExcess_le toks f' (max f f') (Nat.le_max_right _ _)
  rcases h1 with h1 | h1
  · rw [h] at h1; cases h1
  · rcases h2 with h2 | h2
    · rw [h'] at h2; cases h2
    · rw [h] at h1; rw [h', ← h1] at h2; cases h2; rfl

/-- the designated subobjects are known; one initializer follows -/
def afterDesg (g : Nat) (root : Ty) (top : Bool) (obj : Init) (fl : Flags) (x : Except Fail (List (List Nat) × List ITok)) :
    Except Fail Result :=
  x >>= fun pt => initItem g root top obj pt.1 pt.2 fl

theorem desigPaths_eq (root : Ty) (top : Bool) (f : Nat) (ps : List (List Nat)) (r : List ITok) :
    desigPaths root top (f+1) ps (.eq :: r) = .ok (ps, r) := by
  rw [desigPaths]

theorem desigPaths_plain (root : Ty) (top : Bool) (f : Nat) (ps : List (List Nat)) (toks : List ITok)
    (h : isDesg toks = false) (h2 : ∀ r, toks ≠ .eq :: r) : desigPaths root top (f+1) ps toks = .ok (ps, toks) := by
  rw [desigPaths]
  · intro n r hr; subst hr; simp [isDesg] at h
  · intro a r hr; subst hr; simp [isDesg] at h
  · intro a b r hr; subst hr; simp [isDesg] at h
  · intro r hr; exact h2 r hr

theorem desigPaths_dot {n : String} {mp : List Nat} (f : Nat) (r : List ITok)
    (ht : subTy root p = some t) (hm : findMember t n = some mp) (ha : t.isAgg = true) :
    desigPaths root top (f+1) [p] (.dot n :: r) = desigPaths root top f [p ++ mp] r := by
  rw [desigPaths]; simp [headTy, ht, hm, ha]

theorem desigPaths_idx_arr {len : Nat} {a : Int} (f : Nat) (r : List ITok)
    (ht : subTy root p = some (.array e len)) (hg : growable root top p = false) (h0 : 0 ≤ a) (h1 : a < len) :
    desigPaths root top (f+1) [p] (.idx a :: r) = desigPaths root top f [p ++ [a.toNat]] r := by
  rw [desigPaths]
  simp [headTy, growableAt, ht, hg]
  intro hc; exfalso; omega

theorem desigPaths_idx_inc {a : Int} (f : Nat) (r : List ITok)
    (ht : subTy root p = some (.inc e)) (h0 : 0 ≤ a) :
    desigPaths root top (f+1) [p] (.idx a :: r) = desigPaths root top f [p ++ [a.toNat]] r := by
  rw [desigPaths]
  have h3 : ¬ (a < 0) := by omega
  simp [headTy, ht, h3]

theorem desigPaths_range_arr {len : Nat} {a b : Int} (f : Nat) (r : List ITok)
    (ht : subTy root p = some (.array e len)) (hg : growable root top p = false) (h0 : 0 ≤ a) (h1 : a ≤ b) (h2 : b < len) :
    desigPaths root top (f+1) [p] (.range a b :: r) =
      desigPaths root top f ((List.range' a.toNat (b.toNat + 1 - a.toNat)).map (fun k => p ++ [k])) r := by
  rw [desigPaths]
  simp [headTy, growableAt, ht, hg]
  intro hc; exfalso; omega

theorem desigPaths_range_inc {a b : Int} (f : Nat) (r : List ITok)
    (ht : subTy root p = some (.inc e)) (h0 : 0 ≤ a) (h1 : a ≤ b) :
    desigPaths root top (f+1) [p] (.range a b :: r) =
      desigPaths root top f ((List.range' a.toNat (b.toNat + 1 - a.toNat)).map (fun k => p ++ [k])) r := by
  rw [desigPaths]
  have h3 : ¬ (a < 0 ∨ b < a) := by omega
  simp [headTy, ht, h3]

mutual
  theorem findMember_ne_nil : ∀ (t : Ty) (n : String), findMember t n ≠ some []
    | .struct ms _ _, n => by rw [findMember]; exact findMemberMs_ne_nil ms n 0
    | .union ms _ _, n => by rw [findMember]; exact findMemberMs_ne_nil ms n 0
    | .scalar _ _, _ => by simp [findMember]
    | .array _ _, _ => by simp [findMember]
    | .inc _, _ => by simp [findMember]
  theorem findMemberMs_ne_nil : ∀ (ms : Members) (n : String) (i : Nat), findMemberMs ms n i ≠ some []
    | [], _, _ => by simp [findMemberMs]
    | (mi, t) :: r, n, i => by
      rw [findMemberMs]
      split
      · split
        · simp
        · exact findMemberMs_ne_nil r n (i+1)
      · split
        · simp
        · exact findMemberMs_ne_nil r n (i+1)
end

theorem desigPaths_step {ps ps' : List (List Nat)} {toks t' : List ITok}
    (h : desigPaths root top (f+1) ps toks = .ok (ps', t')) :
    (isDesg toks = false ∧ ps' = ps ∧ (toks = .eq :: t' ∨ toks = t')) ∨
    (isDesg toks = true ∧ ∃ d r, toks = d :: r ∧
      ((∃ x, x ≠ [] ∧ desigPaths root top f (ps.map (· ++ x)) r = .ok (ps', t')) ∨
       (∃ a n, 1 ≤ n ∧
          desigPaths root top f (ps.flatMap fun p => (List.range' a n).map fun k => p ++ [k]) r = .ok (ps', t')))) := by
  unfold desigPaths at h
  split at h
  · -- `.dot`
    refine .inr ⟨rfl, _, _, rfl, .inl ?_⟩
    split at h
    · split at h
      · split at h
        · rename_i mp hm _
          exact ⟨mp, fun hx => findMember_ne_nil _ _ (hx ▸ hm), h⟩
        · cases h
      · split at h <;> cases h
    · cases h
  · -- `.idx`
    rename_i a r
    refine .inr ⟨rfl, _, _, rfl, .inl ⟨[a.toNat], List.cons_ne_nil _ _, ?_⟩⟩
    split at h
    · split at h
      · cases h
      · exact h
    · split at h
      · cases h
      · exact h
    · cases h
  · -- `.range`
    rename_i a b r
    refine .inr ⟨rfl, _, _, rfl, .inr ⟨a.toNat, b.toNat + 1 - a.toNat, ?_⟩⟩
    split at h
    · split at h
      · cases h
      · exact ⟨by omega, h⟩
    · split at h
      · cases h
      · exact ⟨by omega, h⟩
    · cases h
  · -- `.eq`
    cases h; exact .inl ⟨rfl, rfl, .inl rfl⟩
  · -- no designator
    rename_i hn1 hn2 hn3 hn4
    cases h
    refine .inl ⟨?_, rfl, .inr rfl⟩
    cases toks with
    | nil => rfl
    | cons t r => cases t <;> first | rfl | exact absurd rfl (hn1 _ _) | exact absurd rfl (hn2 _ _) | exact absurd rfl (hn3 _ _ _)

/-- every path followed by every suffix, path by path -/
def extend (ps ss : List (List Nat)) : List (List Nat) := ps.flatMap fun p => ss.map (p ++ ·)

theorem mem_extend {ss : List (List Nat)} {q : List Nat} : q ∈ extend ps ss ↔ ∃ p ∈ ps, ∃ s ∈ ss, q = p ++ s := by
  simp only [extend, List.mem_flatMap, List.mem_map, eq_comm]

theorem length_extend (ps : List (List Nat)) {ss : List (List Nat)} (h : ss ≠ []) : ps.length ≤ (extend ps ss).length := by
  have := List.length_pos_iff.2 h
  induction ps with
  | nil => simp
  | cons p ps ih => simp only [extend, List.flatMap_cons, List.length_append, List.length_map, List.length_cons] at ih ⊢; omega

theorem extend_unit (ps : List (List Nat)) : extend ps [[]] = ps := by simp [extend]

theorem extend_assoc (ps as bs : List (List Nat)) : extend (extend ps as) bs = extend ps (extend as bs) := by
  simp only [extend, List.flatMap_assoc, List.flatMap_map, List.map_flatMap, List.map_map, Function.comp_def, List.append_assoc]

theorem map_append_eq_extend (ps : List (List Nat)) (x : List Nat) : ps.map (· ++ x) = extend ps [x] := by
  rw [extend, List.map_eq_flatMap]; rfl

theorem flatMap_range_eq_extend (ps : List (List Nat)) (a n : Nat) :
    (ps.flatMap fun p => (List.range' a n).map fun k => p ++ [k]) = extend ps ((List.range' a n).map ([·])) := by
  simp only [extend, List.map_map, Function.comp_def]

/-- a designator list appends the same suffixes, in the same order, to every path designated so far; a designator makes each longer -/
theorem desigPaths_extend (root : Ty) (top : Bool) : ∀ (f : Nat) (ps : List (List Nat)) (toks : List ITok) (ps' : List (List Nat))
    (t' : List ITok), desigPaths root top f ps toks = .ok (ps', t') →
    ∃ ss, ss ≠ [] ∧ ps' = extend ps ss ∧ (isDesg toks = true → ∀ s ∈ ss, s ≠ [])
  | 0, _, _, _, _, h => by cases h
  | f+1, ps, toks, ps', t', h => by
    rcases desigPaths_step h with ⟨hd, rfl, _⟩ | ⟨_, _, r, _, ⟨x, hx, h⟩ | ⟨a, n, hn, h⟩⟩
    · exact ⟨[[]], by simp, (extend_unit _).symm, fun hd' => by rw [hd] at hd'; cases hd'⟩
    · -- one more designator `x`, then the suffixes `ss` of the rest
      obtain ⟨ss, hne, rfl, _⟩ := desigPaths_extend root top f _ _ ps' t' h
      refine ⟨extend [x] ss, ?_, by rw [map_append_eq_extend, extend_assoc], fun _ s hs => ?_⟩
      · obtain ⟨s0, hs0⟩ := List.exists_mem_of_ne_nil _ hne
        exact List.ne_nil_of_mem (mem_extend.2 ⟨x, List.mem_singleton_self x, s0, hs0, rfl⟩)
      · obtain ⟨x', hx', s0, _, rfl⟩ := mem_extend.1 hs
        rw [List.mem_singleton.1 hx']; simp [hx]
    · -- a range `[a .. a+n)`, then the suffixes `ss` of the rest
      obtain ⟨ss, hne, rfl, _⟩ := desigPaths_extend root top f _ _ ps' t' h
      refine ⟨extend ((List.range' a n).map ([·])) ss, ?_, by rw [flatMap_range_eq_extend, extend_assoc], fun _ s hs => ?_⟩
      · obtain ⟨s0, hs0⟩ := List.exists_mem_of_ne_nil _ hne
        exact List.ne_nil_of_mem (mem_extend.2 ⟨[a], List.mem_map.2 ⟨a, List.mem_range'.2 ⟨0, by omega, by simp⟩, rfl⟩, s0, hs0, rfl⟩)
      · obtain ⟨k', hk', s0, _, rfl⟩ := mem_extend.1 hs
        obtain ⟨k, _, rfl⟩ := List.mem_map.1 hk'
        simp

theorem desigPaths_inv (root : Ty) (top : Bool) (f : Nat) (ps : List (List Nat)) (toks : List ITok) (ps' : List (List Nat))
    (t' : List ITok) (h : desigPaths root top f ps toks = .ok (ps', t')) :
    ps.length ≤ ps'.length ∧ ∀ q ∈ ps', ∃ p ∈ ps, ∃ s, q = p ++ s := by
  obtain ⟨ss, hne, rfl, _⟩ := desigPaths_extend root top f ps toks ps' t' h
  exact ⟨length_extend ps hne, fun q hq => by obtain ⟨p, hp, s, _, rfl⟩ := mem_extend.1 hq; exact ⟨p, hp, s, rfl⟩⟩

/-- An initializer that adds a flag to the run leaves the run in a region, since flags only grow: `htok` for an initializer
    without braces wherever it lands, `hbrace` for a brace-enclosed one. -/
theorem initItem_dirty (hne : paths ≠ [])
    (htok : ∀ tok targets, paths.mapM (fun p => descend root top tok (p.length + root.nodes + 2) p) = .ok targets →
      (tokFl root obj paths targets tok).clean = false)
    (hbrace : (braceFl obj paths).clean = false)
    (hr : initItem g root top obj paths toks fl = .ok res) : res.fl.clean = false := by
  cases hc : res.fl.clean with
  | false => rfl
  | true =>
    exfalso
    have tokc : ∀ {tok r}, initTokWith (initList g) root top obj paths tok r fl = .ok res → False := by
      intro tok r h
      obtain ⟨targets, _, ht, _, h⟩ := initTokWith_ok h
      exact Bool.noConfusion ((htok tok targets ht).symm.trans (Flags.clean_join (initList_clean h hc)).2)
    rcases initItemWith_ok hr with ⟨h, _⟩ | ⟨_, _, _, _, _, h⟩ | ⟨_, _, _, _, _, _, _, ⟨_, _, _, h⟩ | ⟨_, _, _, _, _, h⟩⟩
    · exact hne h
    · exact tokc h
    · exact tokc h
    · exact Bool.noConfusion (hbrace.symm.trans (Flags.clean_join (Flags.clean_join (initList_clean h hc)).1).2)

theorem initItem_wide_dirty (hw : 1 < paths.length) (hns : siblings paths = false)
    (hr : initItem g root top obj paths toks fl = .ok res) : res.fl.clean = false :=
  initItem_dirty (by intro h; simp [h] at hw) (fun _ _ _ => by simp [tokFl, Flags.clean, hns, hw])
    (by simp [braceFl, Flags.clean, hns, hw]) hr

theorem initItem_xover_dirty (hne : paths ≠ []) (hx : ∀ q ∈ paths, ∀ s, exprAbove obj (q ++ s) = true)
    (hr : initItem g root top obj paths toks fl = .ok res) : res.fl.clean = false := by
  obtain ⟨p0, rest, rfl⟩ := List.exists_cons_of_ne_nil hne
  refine initItem_dirty hne (fun tok targets ht => ?_) ?_ hr
  · obtain ⟨q0, ts, hq0, _, rfl⟩ := mapM_cons_ok ht
    obtain ⟨s, rfl⟩ := descend_prefix _ _ _ _ _ _ hq0
    simp [tokFl, Flags.clean, hx p0 (by simp) s]
  · have h0 : exprAbove obj p0 = true := by simpa using hx p0 (by simp) []
    simp [braceFl, Flags.clean, h0]

theorem touched_switch (e : Option Expr) {m k : Nat} (cs : List Init) (s : List Nat) (hm : m ≠ k) :
    touched (.union e (some m) cs) (k :: s) = true := by
  rw [touched]; simp [hm]

theorem switchesUnion_switch (e : Option Expr) {m k : Nat} (cs : List Init) (s : List Nat) (hm : m ≠ k) :
    switchesUnion (.union e (some m) cs) (k :: s) = true := by
  rw [switchesUnion]; simp [hm]

/-- an initializer for another member of the union that is the current object than the one initialised so far: the run enters
    the region `over` (6.7.9p19 makes the new member the initialised one, from zero; `touched` / `switchesUnion` see it) -/
theorem initItem_switch_dirty {e : Option Expr} {m k : Nat}
    (hne : paths ≠ []) (hm : m ≠ k)
    (hx : ∀ q ∈ paths, ∃ s, q = k :: s)
    (hr : initItem g root top (.union e (some m) cs) paths toks fl = .ok res) : res.fl.clean = false := by
  obtain ⟨p0, rest, rfl⟩ := List.exists_cons_of_ne_nil hne
  obtain ⟨s0, rfl⟩ := hx _ List.mem_cons_self
  refine initItem_dirty hne (fun tok targets ht => ?_) ?_ hr
  · obtain ⟨q0, ts, hq0, _, rfl⟩ := mapM_cons_ok ht
    obtain ⟨s, rfl⟩ := descend_prefix _ _ _ _ _ _ hq0
    simp [tokFl, Flags.clean, switchesUnion_switch e cs (s0 ++ s) hm]
  · simp [braceFl, Flags.clean, touched_switch e cs s0 hm]

/-- two designated paths that differ before a common last step are not the elements of one array -/
theorem siblings_false_of_mem {q1 q2 s : List Nat} (hs : s ≠ []) (h1 : q1 ++ s ∈ ps) (h2 : q2 ++ s ∈ ps)
    (hne : q1 ≠ q2) : siblings ps = false := by
  cases ps with
  | nil => cases h1
  | cons p0 rest =>
    cases hsb : siblings (p0 :: rest) with
    | false => rfl
    | true =>
      simp only [siblings, List.all_eq_true, beq_iff_eq] at hsb
      have e := (hsb _ h1).trans (hsb _ h2).symm
      rw [List.dropLast_append_of_ne_nil hs, List.dropLast_append_of_ne_nil hs] at e
      exact absurd (List.append_cancel_right e) hne

/-- a range designator over several elements followed by a further designator: the run enters the region `WideRange`
    (elements `b` and `b + 1` get the same nonempty continuation) -/
theorem afterDesg_wide_dirty {b n : Nat}
    (hn : 2 ≤ n) (hd : isDesg toks = true)
    (hr : afterDesg g root top obj fl (desigPaths root top f ((List.range' b n).map (fun k => p ++ [k])) toks) = .ok res) :
    res.fl.clean = false := by
  unfold afterDesg at hr
  obtain ⟨⟨ps', t'⟩, hdp, hr⟩ := bind_eq_ok hr
  obtain ⟨ss, hne, rfl, hl⟩ := desigPaths_extend root top f _ toks ps' t' hdp
  obtain ⟨s, hs⟩ := List.exists_mem_of_ne_nil _ hne
  have hm : ∀ k, k < n → (p ++ [b + k]) ++ s ∈ extend ((List.range' b n).map (fun k => p ++ [k])) ss := fun k hk =>
    mem_extend.2 ⟨_, List.mem_map_of_mem (List.mem_range'.2 ⟨k, hk, by simp⟩), s, hs, rfl⟩
  have h1 := length_extend ((List.range' b n).map (fun k => p ++ [k])) hne
  simp only [List.length_map, List.length_range'] at h1
  refine initItem_wide_dirty (by omega) (siblings_false_of_mem (hl hd s hs) (hm 0 (by omega)) (hm 1 (by omega)) ?_) hr
  simp

theorem afterDesg_xover_dirty
    {s : List Nat} (hg : getAt obj p = some c) (ha : hasAggExpr c = true)
    (hr : afterDesg g root top obj fl (desigPaths root top f [p ++ k :: s] toks) = .ok res) : res.fl.clean = false := by
  unfold afterDesg at hr
  obtain ⟨⟨ps', t'⟩, hd, hr⟩ := bind_eq_ok hr
  obtain ⟨h1, h2⟩ := desigPaths_inv root top f _ toks ps' t' hd
  refine initItem_xover_dirty ?_ ?_ hr
  · intro he; simp only at he; rw [he] at h1; simp at h1
  · intro q hq s'
    obtain ⟨p', hp', s2, rfl⟩ := h2 q hq
    simp only [List.mem_singleton] at hp'
    subst hp'
    rw [List.append_assoc, List.append_assoc, List.cons_append]
    exact exprAbove_below hg ha k _

end ChibiVerif.InitSpec
