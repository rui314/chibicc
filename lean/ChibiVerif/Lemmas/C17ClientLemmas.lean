/-
C17 — the clients of hashmap.c (`Model/C17Clients.lean`): each of the three key conventions yields the spelling (`key_of_wf`, over
`untilNul`) and `match` is equality of byte strings; at the end the two fixed-width conversions that the typing of `fnv_hash` and
of the probe index rests on.
-/
import ChibiVerif.Model.C17Clients

namespace ChibiVerif.C17Clients

def untilNul (l : Bytes) : Bytes := l.takeWhile (· ≠ 0)

theorem untilNul_nil : untilNul [] = [] := rfl

theorem untilNul_cons (b : UInt8) (l : Bytes) :
    untilNul (b :: l) = if b = 0 then [] else b :: untilNul l := by
  unfold untilNul
  rw [List.takeWhile_cons]
  by_cases hb : b = 0 <;> simp [hb]

theorem zero_not_mem_untilNul (l : Bytes) : (0 : UInt8) ∉ untilNul l := by
  induction l with
  | nil => simp [untilNul]
  | cons b l ih =>
    rw [untilNul_cons]
    by_cases hb : b = 0
    · simp [hb]
    · simp only [hb, if_false, List.mem_cons, not_or]
      exact ⟨fun e => hb e.symm, ih⟩

theorem untilNul_length_le (l : Bytes) : (untilNul l).length ≤ l.length :=
  (List.takeWhile_prefix _).length_le

theorem take_untilNul_length (l : Bytes) : l.take (untilNul l).length = untilNul l :=
  (List.prefix_iff_eq_take.mp (List.takeWhile_prefix _)).symm

theorem untilNul_append {l : Bytes} (r : Bytes) (h : (0 : UInt8) ∉ l) : untilNul (l ++ r) = l ++ untilNul r :=
  List.takeWhile_append_of_pos fun a ha => by simpa using fun (e : a = 0) => h (e ▸ ha)

theorem untilNul_append_nul {l : Bytes} (r : Bytes) (h : (0 : UInt8) ∉ l) : untilNul (l ++ 0 :: r) = l := by
  rw [untilNul_append _ h, untilNul_cons, if_pos rfl, List.append_nil]

theorem untilNul_of_not_mem {l : Bytes} (h : (0 : UInt8) ∉ l) : untilNul l = l := by
  simpa [untilNul_nil] using untilNul_append [] h

theorem strlenC_of_mem : ∀ {obj : Bytes}, (0 : UInt8) ∈ obj →
    strlenC obj = .ok (untilNul obj).length := by
  intro obj
  induction obj with
  | nil => intro h; simp at h
  | cons b l ih =>
    intro h
    rw [strlenC, untilNul_cons]
    by_cases hb : b = 0
    · simp [hb]
    · have hl : (0 : UInt8) ∈ l := by
        rcases List.mem_cons.1 h with e | e
        · exact absurd e.symm hb
        · exact e
      simp [hb, ih hl]

theorem strlenC_error_of_not_mem : ∀ {obj : Bytes}, (0 : UInt8) ∉ obj →
    strlenC obj = .error .overread := by
  intro obj
  induction obj with
  | nil => intro _; rfl
  | cons b l ih =>
    intro h
    have hb : b ≠ 0 := fun e => h (by rw [e]; exact List.mem_cons_self)
    have hl : (0 : UInt8) ∉ l := fun e => h (List.mem_cons_of_mem _ e)
    rw [strlenC]
    simp [hb, ih hl]

theorem strndupC_of_le : ∀ (len : Nat) (obj : Bytes), len ≤ obj.length →
    strndupC obj len = .ok (untilNul (obj.take len) ++ [0]) := by
  intro len
  induction len with
  | zero => intro obj _; cases obj <;> simp [strndupC, untilNul]
  | succ n ih =>
    intro obj h
    cases obj with
    | nil => simp at h
    | cons b l =>
      have hl : n ≤ l.length := by simpa using h
      rw [strndupC, List.take_succ_cons, untilNul_cons]
      by_cases hb : b = 0
      · simp [hb]
      · simp [hb, ih l hl]

theorem spanC_append_nul (l rest : Bytes) : spanC (l ++ rest) l.length = .ok l := by
  simp [spanC]

theorem key_dup_general {obj : Bytes} {len : Nat} (h : len ≤ obj.length) :
    (Src.dup obj len).key = .ok (untilNul (obj.take len)) := by
  have hz : (0 : UInt8) ∈ untilNul (obj.take len) ++ [0] := by simp
  have hu : untilNul (untilNul (obj.take len) ++ [0]) = untilNul (obj.take len) :=
    untilNul_append_nul [] (zero_not_mem_untilNul _)
  simp only [Src.key, strndupC_of_le len obj h, strlenC_of_mem hz, hu]
  exact spanC_append_nul _ _

theorem key_cstr {obj : Bytes} (h : (0 : UInt8) ∈ obj) : (Src.cstr obj).key = .ok (untilNul obj) := by
  simp only [Src.key, strlenC_of_mem h, spanC]
  simp [untilNul_length_le, take_untilNul_length]

theorem key_span {obj : Bytes} {len : Nat} (h : len ≤ obj.length) :
    (Src.span obj len).key = .ok (obj.take len) := by
  simp [Src.key, spanC, h]

theorem key_of_wf : ∀ {s : Src}, s.wf = true → s.key = .ok s.spelling := by
  intro s h
  cases s with
  | span obj len =>
    simp only [Src.wf, decide_eq_true_eq] at h
    exact key_span h
  | dup obj len =>
    simp only [Src.wf, Bool.and_eq_true, decide_eq_true_eq, Bool.not_eq_true'] at h
    have hnz : (0 : UInt8) ∉ obj.take len := by
      intro hm
      have := List.contains_iff_mem.2 hm
      rw [h.2] at this
      cases this
    rw [key_dup_general h.1, untilNul_of_not_mem hnz]
    rfl
  | cstr obj =>
    simp only [Src.wf] at h
    exact key_cstr (List.contains_iff_mem.1 h)

theorem memcmpEq_iff : ∀ (a b : Bytes), a.length = b.length →
    (memcmpEq a b b.length = true ↔ a = b) := by
  intro a
  induction a with
  | nil =>
    intro b h
    cases b with
    | nil => simp [memcmpEq]
    | cons _ _ => simp at h
  | cons x a ih =>
    intro b h
    cases b with
    | nil => simp at h
    | cons y b =>
      have hl : a.length = b.length := by simpa using h
      simp only [memcmpEq, List.length_cons, Bool.and_eq_true, beq_iff_eq, ih b hl, List.cons.injEq]

theorem matchC_iff (a b : Bytes) : matchC a b = true ↔ a = b := by
  unfold matchC
  constructor
  · intro h
    simp only [Bool.and_eq_true, beq_iff_eq] at h
    exact (memcmpEq_iff a b h.1).1 h.2
  · intro h
    subst h
    simp only [Bool.and_eq_true, beq_iff_eq, true_and]
    exact (memcmpEq_iff a a rfl).2 rfl

theorem toOp_of_wf {c : COp} (h : c.src.wf = true) : c.toOp = .ok c.spellOp := by
  cases c <;> simp only [COp.src] at h <;> simp [COp.toOp, COp.spellOp, key_of_wf h]

theorem toOps_of_wf : ∀ {cs : List COp}, (∀ c ∈ cs, c.src.wf = true) →
    toOps cs = .ok (cs.map COp.spellOp) := by
  intro cs
  induction cs with
  | nil => intro _; rfl
  | cons c cs ih =>
    intro h
    have h1 := toOp_of_wf (h c List.mem_cons_self)
    have h2 := ih (fun c' hc' => h c' (List.mem_cons_of_mem _ hc'))
    simp [toOps, h1, h2]

end ChibiVerif.C17Clients

namespace ChibiVerif.C17Hash

/-- for a negative `char` the zero extension of its byte differs from its sign extension -/
theorem toUInt8_toUInt64_ne_sext (c : Int8) (hc : c < 0) :
    c.toUInt8.toUInt64 ≠ c.toInt64.toUInt64 := by
  intro e
  have h1 : c.toUInt8.toUInt64.toNat < 256 := by
    rw [UInt8.toNat_toUInt64]; exact c.toUInt8.toNat_lt
  have hm : c.toBitVec.msb = true := by
    rw [BitVec.msb_eq_toInt]
    have := Int8.lt_iff_toInt_lt.1 hc
    simpa using this
  have h2 : c.toInt64.toUInt64.toNat ≥ 2 ^ 64 - 256 := by
    rw [← UInt64.toNat_toBitVec, Int64.toBitVec_toUInt64, Int8.toBitVec_toInt64,
      BitVec.toNat_signExtend]
    simp [hm]
  rw [e] at h1
  omega

/-- a non-negative `int` converted to `unsigned long` keeps its value -/
theorem int32_nat_roundtrip (n : Nat) (hn : n < 2 ^ 31) :
    (Int32.ofNat n).toInt64.toUInt64.toNat = n := by
  have h1 : (Int32.ofNat n).toInt64.toUInt64.toNat =
      (BitVec.signExtend 64 (BitVec.ofNat 32 n)).toNat := by
    rw [← UInt64.toNat_toBitVec, Int64.toBitVec_toUInt64, Int32.toBitVec_toInt64]
    rfl
  rw [h1, BitVec.toNat_signExtend]
  have hm : (BitVec.ofNat 32 n).msb = false := by
    rw [BitVec.msb_eq_false_iff_two_mul_lt]
    simp [BitVec.toNat_ofNat]
    omega
  simp [hm, BitVec.toNat_setWidth, BitVec.toNat_ofNat]
  omega

end ChibiVerif.C17Hash
