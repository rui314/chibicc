/-
C18 — the `#line` marker list of a `File` (Model/LineNo.lean: `readLineMarker`, `lineMarkerAt`, `runFile`) against the positional
specification `Spec.Line.inForce`.  `pushDirs` is the state after a run of directives; `markerAt_positional` says the walk finds
the directive the specification names; a probe (a token, `__LINE__`, `__FILE__`) reads the state through `probeOut` only.
-/
import ChibiVerif.Model.LineNo
import ChibiVerif.Spec.LineSpec

namespace ChibiVerif.LineNo
open ChibiVerif.Spec.Line (Dir lower inForce namedInForce presumedLineAt presumedFileAt presumedLine)

def Ev.isDir : Ev → Bool
  | .lineDir .. => true
  | _ => false

/-- the `File` object after `preprocess2` has met the events -/
def stateAfter (text : List Nat) : File → List Ev → File
  | f, [] => f
  | f, .lineDir off n name :: r => stateAfter text (readLineMarker f (lineNoOf text off) n name) r
  | f, .tok _ :: r => stateAfter text f r
  | f, .lineMac _ :: r => stateAfter text f r
  | f, .fileMac _ :: r => stateAfter text f r

theorem runFile_append (text : List Nat) (f : File) (e₁ e₂ : List Ev) :
    runFile text f (e₁ ++ e₂) = runFile text f e₁ ++ runFile text (stateAfter text f e₁) e₂ := by
  induction e₁ generalizing f with
  | nil => simp [runFile, stateAfter]
  | cons e r ih => cases e <;> simp [runFile, stateAfter, ih]

-- core Lean has no `List.reverseRecOn`

theorem list_snoc_induction {α : Type} {P : List α → Prop} (nil : P [])
    (snoc : ∀ (l : List α) (a : α), P l → P (l ++ [a])) : ∀ l, P l := by
  have key : ∀ r : List α, P r.reverse := by
    intro r
    induction r with
    | nil => exact nil
    | cons a r ih => rw [List.reverse_cons]; exact snoc _ _ ih
  intro l
  have := key l.reverse
  rwa [List.reverse_reverse] at this

/-- the directive an event is, by position (line of its `#` as `add_line_numbers` computes it) -/
def Ev.dir? (text : List Nat) : Ev → Option Dir
  | .lineDir off n name => some ⟨lineNoOf text off, n, name⟩
  | _ => none

/-- the directives among the events, in processing order -/
def dirsOf (text : List Nat) (evs : List Ev) : List Dir := evs.filterMap (Ev.dir? text)

/-- `read_line_marker` for each directive in turn -/
def pushDirs (f : File) (ds : List Dir) : File :=
  ds.foldl (fun f d => readLineMarker f (d.line : Int) d.n d.name) f

theorem dirsOf_append (text : List Nat) (e₁ e₂ : List Ev) : dirsOf text (e₁ ++ e₂) = dirsOf text e₁ ++ dirsOf text e₂ := by
  simp [dirsOf, List.filterMap_append]

theorem dirsOf_noDir (text : List Nat) (evs : List Ev) (h : ∀ e ∈ evs, e.isDir = false) : dirsOf text evs = [] := by
  refine List.filterMap_eq_nil_iff.mpr fun e he => ?_
  have := h e he
  cases e <;> first | rfl | cases this

theorem stateAfter_eq_pushDirs (text : List Nat) (f : File) (evs : List Ev) :
    stateAfter text f evs = pushDirs f (dirsOf text evs) := by
  induction evs generalizing f with
  | nil => rfl
  | cons e r ih => cases e <;> simp [stateAfter, dirsOf, Ev.dir?, pushDirs, ih] <;> rfl

theorem pushDirs_append (f : File) (a b : List Dir) : pushDirs f (a ++ b) = pushDirs (pushDirs f a) b := by
  simp [pushDirs, List.foldl_append]

theorem stateAfter_append (text : List Nat) (f : File) (e₁ e₂ : List Ev) :
    stateAfter text f (e₁ ++ e₂) = stateAfter text (stateAfter text f e₁) e₂ := by
  simp only [stateAfter_eq_pushDirs, dirsOf_append, pushDirs_append]

theorem stateAfter_noDir (text : List Nat) (f : File) (evs : List Ev) (h : ∀ e ∈ evs, e.isDir = false) :
    stateAfter text f evs = f := by
  rw [stateAfter_eq_pushDirs, dirsOf_noDir text evs h]; rfl

@[simp] theorem pushDirs_nil (f : File) : pushDirs f [] = f := rfl

@[simp] theorem pushDirs_cons (f : File) (d : Dir) (r : List Dir) :
    pushDirs f (d :: r) = pushDirs (readLineMarker f (d.line : Int) d.n d.name) r := rfl

theorem pushDirs_name (f : File) (ds : List Dir) : (pushDirs f ds).name = f.name := by
  induction ds generalizing f with
  | nil => rfl
  | cons d r ih => simp [ih, readLineMarker]

theorem pushDirs_fileNo (f : File) (ds : List Dir) : (pushDirs f ds).fileNo = f.fileNo := by
  induction ds generalizing f with
  | nil => rfl
  | cons d r ih => simp [ih, readLineMarker]

theorem lineMarkerAt_some (ms : List LineMarker) (l : Int) (m : LineMarker) (h : lineMarkerAt ms l = some m) :
    m ∈ ms ∧ m.lineNo < l := by
  induction ms with
  | nil => simp [lineMarkerAt] at h
  | cons a r ih =>
    simp only [lineMarkerAt] at h
    split at h
    · have := ih h; exact ⟨by simp [this.1], this.2⟩
    · simp only [Option.some.injEq] at h; subst h; exact ⟨by simp, by omega⟩

theorem lineMarkerAt_pushDirs_below (f : File) (ds : List Dir) (l : Nat) (h : ∀ d ∈ ds, l ≤ d.line) :
    lineMarkerAt (pushDirs f ds).markers (l : Int) = lineMarkerAt f.markers (l : Int) := by
  induction ds generalizing f with
  | nil => rfl
  | cons d r ih =>
    have hd : l ≤ d.line := h d (by simp)
    rw [pushDirs_cons, ih _ (fun x hx => h x (by simp [hx]))]
    simp only [readLineMarker, lineMarkerAt]
    rw [if_pos (by omega)]

theorem lineMarkerAt_pushDirs_snoc (f : File) (ds : List Dir) (d : Dir) (l : Nat) (h : d.line < l) :
    lineMarkerAt (pushDirs f (ds ++ [d])).markers (l : Int)
      = some ⟨d.line, d.n - d.line, (pushDirs f (ds ++ [d])).displayName⟩ := by
  rw [pushDirs_append]
  simp only [pushDirs_cons, pushDirs_nil, readLineMarker, lineMarkerAt]
  rw [if_neg (by omega)]

theorem pushDirs_displayName (f : File) (ds : List Dir) :
    (pushDirs f ds).displayName
      = match (ds.filter (fun d => d.name.isSome)).getLast? with
        | some d => d.name.getD f.displayName
        | none => f.displayName := by
  induction ds using list_snoc_induction with
  | nil => rfl
  | snoc r d ih =>
    rw [pushDirs_append]
    simp only [pushDirs_cons, pushDirs_nil, readLineMarker, List.filter_append]
    cases hn : d.name with
    | none => simp [hn, ih]
    | some s => simp [hn]

theorem foldl_lower_ascending (xs : List Dir) (b : Dir)
    (h : (b :: xs).Pairwise (fun a c => a.line < c.line)) :
    xs.foldl lower (some b) = some ((b :: xs).getLast (by simp)) := by
  induction xs generalizing b with
  | nil => rfl
  | cons x r ih =>
    have hbx : b.line < x.line := (List.pairwise_cons.mp h).1 x (by simp)
    have hr : (x :: r).Pairwise (fun a c => a.line < c.line) := (List.pairwise_cons.mp h).2
    simp only [List.foldl_cons, lower, if_pos hbx]
    rw [ih x hr]
    simp [List.getLast_cons]

theorem foldl_lower_none_ascending (xs : List Dir) (h : xs.Pairwise (fun a c => a.line < c.line)) :
    xs.foldl lower none = xs.getLast? := by
  cases xs with
  | nil => rfl
  | cons x r =>
    simp only [List.foldl_cons, lower]
    rw [foldl_lower_ascending r x h, List.getLast?_eq_some_getLast]

theorem inForce_ascending (ds : List Dir) (l : Nat) (h : ds.Pairwise (fun a c => a.line < c.line)) :
    inForce ds l = (ds.filter (fun d => d.line < l)).getLast? :=
  foldl_lower_none_ascending _ (h.sublist List.filter_sublist)

theorem ascending_split (ds : List Dir) (l : Nat) (h : ds.Pairwise (fun a c => a.line < c.line)) :
    ds = ds.filter (fun d => d.line < l) ++ ds.filter (fun d => l ≤ d.line) := by
  induction ds with
  | nil => rfl
  | cons d r ih =>
    obtain ⟨hd, hr⟩ := List.pairwise_cons.mp h
    by_cases hp : d.line < l
    · have hp' : ¬ l ≤ d.line := by omega
      simpa [List.filter_cons, hp, hp'] using ih hr
    · have hall : ∀ x ∈ r, l ≤ x.line := fun x hx => by have := hd x hx; omega
      have h1 : r.filter (fun d => d.line < l) = [] := by
        simp only [List.filter_eq_nil_iff, decide_eq_true_eq]; intro x hx; have := hall x hx; omega
      have h2 : r.filter (fun d => l ≤ d.line) = r := by
        simp only [List.filter_eq_self, decide_eq_true_eq]; exact hall
      simp [hp, Nat.le_of_not_lt hp, h1, h2]

/-- what chibicc adds to the line of a token on line `l` of a file with the directives `dirs` (by position) -/
def deltaSpec (dirs : List Dir) (l : Nat) : Int :=
  match inForce dirs l with
  | none => 0
  | some d => d.n - d.line

/-- the line chibicc reports for a token on line `l`: the line after `#line N` is numbered N+1 (known finding
    `C18-line-directive-off-by-one`), i.e. the C11 presumed line plus one wherever a directive is in force -/
def reportedLineAt (dirs : List Dir) (l : Nat) : Int := (l : Int) + deltaSpec dirs l

theorem reportedLineAt_eq (dirs : List Dir) (l : Nat) :
    reportedLineAt dirs l = presumedLineAt dirs l + (if (inForce dirs l).isSome then 1 else 0) := by
  unfold reportedLineAt deltaSpec presumedLineAt presumedLine
  cases inForce dirs l <;> simp <;> omega

/-- **the walk is positional.**  `done` are the directives processed so far (in processing order), `later` any directives of
    the file not yet processed; if all of them together are in ascending order of line (a file is read from top to bottom) and
    those not yet processed lie at or below line `l` (a token is never passed on before the directives above it were read), then
    the marker found for line `l` is the directive that the positional specification names, over ALL directives of the file. -/
theorem markerAt_positional (name : String) (fileNo : Nat) (done later : List Dir) (l : Nat)
    (hasc : (done ++ later).Pairwise (fun a c => a.line < c.line)) (hlater : ∀ d ∈ later, l ≤ d.line) :
    deltaAt (pushDirs (newFile name fileNo) done) (l : Int) = deltaSpec (done ++ later) l ∧
    nameAt (pushDirs (newFile name fileNo) done) (l : Int) = presumedFileAt name (done ++ later) l := by
  have hdone : done.Pairwise (fun a c => a.line < c.line) := (List.pairwise_append.mp hasc).1
  have hlater0 : later.filter (fun d => d.line < l) = [] := by
    simp only [List.filter_eq_nil_iff, decide_eq_true_eq]
    intro d hd; have := hlater d hd; omega
  have hspec : inForce (done ++ later) l = (done.filter (fun d => d.line < l)).getLast? := by
    rw [inForce_ascending _ _ hasc, List.filter_append, hlater0, List.append_nil]
  have hnamedAsc : ((done ++ later).filter (fun d => d.name.isSome)).Pairwise (fun a c => a.line < c.line) :=
    hasc.sublist List.filter_sublist
  have hspecN : namedInForce (done ++ later) l
      = ((done.filter (fun d => d.line < l)).filter (fun d => d.name.isSome)).getLast? := by
    unfold namedInForce
    rw [inForce_ascending _ _ hnamedAsc, List.filter_append, List.filter_append]
    have : (later.filter (fun d => d.name.isSome)).filter (fun d => d.line < l) = [] := by
      simp only [List.filter_eq_nil_iff, decide_eq_true_eq, List.mem_filter]
      intro d hd; have := hlater d hd.1; omega
    rw [this, List.append_nil, List.filter_filter, List.filter_filter]
    congr 1
    apply List.filter_congr
    intro x _; exact Bool.and_comm _ _
  have hsplit := ascending_split done l hdone
  generalize habove : done.filter (fun d => d.line < l) = above at hsplit hspec hspecN
  generalize hbelow : done.filter (fun d => l ≤ d.line) = below at hsplit
  have hbelow' : ∀ d ∈ below, l ≤ d.line := by
    intro d hd
    rw [← hbelow] at hd
    simpa using (List.mem_filter.mp hd).2
  have hwalk : lineMarkerAt (pushDirs (newFile name fileNo) done).markers (l : Int)
      = lineMarkerAt (pushDirs (newFile name fileNo) above).markers (l : Int) := by
    rw [hsplit, pushDirs_append, lineMarkerAt_pushDirs_below _ _ _ hbelow']
  have hname : (pushDirs (newFile name fileNo) done).name = name := by rw [pushDirs_name]; rfl
  unfold deltaAt nameAt deltaSpec presumedFileAt
  rw [hwalk, hspec, hspecN, hname]
  rcases List.eq_nil_or_concat above with rfl | ⟨r, d, rfl⟩
  · simp [newFile, lineMarkerAt]
  · rw [List.concat_eq_append] at *
    have hd : d.line < l := by
      have : d ∈ done.filter (fun d => d.line < l) := by rw [habove]; simp
      simpa using (List.mem_filter.mp this).2
    rw [lineMarkerAt_pushDirs_snoc _ _ _ _ hd, pushDirs_displayName]
    simp only [List.getLast?_append, List.getLast?_singleton, Option.some_or, newFile]
    refine ⟨trivial, ?_⟩
    cases ((r ++ [d]).filter (fun d => d.name.isSome)).getLast? <;> rfl

/-- every marker records an operand ≥ 1 (`line_delta = N − line_no`, so `N = line_no + line_delta`) -/
def MarkersPositive (f : File) : Prop := ∀ m ∈ f.markers, 1 ≤ m.lineNo + m.lineDelta

theorem markersPositive_new (name : String) (fileNo : Nat) : MarkersPositive (newFile name fileNo) := by
  intro m hm; simp [newFile] at hm

theorem markersPositive_read (f : File) (h : MarkersPositive f) (l : Int) (n : Int) (name : Option String) (hn : 1 ≤ n) :
    MarkersPositive (readLineMarker f l n name) := by
  intro m hm
  simp only [readLineMarker, List.mem_cons] at hm
  rcases hm with rfl | hm
  · simp; omega
  · exact h m hm

theorem deltaAt_positive (f : File) (h : MarkersPositive f) (l : Int) (hl : 1 ≤ l) : 1 ≤ l + deltaAt f l := by
  unfold deltaAt
  cases hm : lineMarkerAt f.markers l with
  | none => simpa using hl
  | some m =>
    have := lineMarkerAt_some _ _ _ hm
    have := h m this.1
    simp only; omega

theorem lineNoOf_pos (text : List Nat) (off : Nat) : 1 ≤ lineNoOf text off := by unfold lineNoOf; omega

def Out.lineVal? : Out → Option Int
  | .tok l _ => some l
  | .line v => some v
  | .file _ => none

def Ev.operandOK : Ev → Bool
  | .lineDir _ n _ => decide (1 ≤ n)
  | _ => true

theorem runFile_positive (text : List Nat) (f : File) (evs : List Ev) (hf : MarkersPositive f)
    (hops : ∀ e ∈ evs, e.operandOK = true) :
    ∀ o ∈ runFile text f evs, ∀ v, o.lineVal? = some v → 1 ≤ v := by
  induction evs generalizing f with
  | nil => intro o ho; simp [runFile] at ho
  | cons e r ih =>
    have hr : ∀ e ∈ r, e.operandOK = true := fun e he => hops e (by simp [he])
    have hpos : ∀ off, (1 : Int) ≤ (lineNoOf text off : Int) := fun off => by have := lineNoOf_pos text off; omega
    cases e with
    | tok off =>
      intro o ho v hv
      simp only [runFile, List.mem_cons] at ho
      rcases ho with rfl | ho
      · simp only [Out.lineVal?, finalize, passThroughF, Option.some.injEq] at hv
        subst hv
        exact deltaAt_positive f hf _ (hpos off)
      · exact ih f hf hr o ho v hv
    | lineDir off n name =>
      have hn : 1 ≤ n := by simpa [Ev.operandOK] using hops (.lineDir off n name) (by simp)
      intro o ho v hv
      simp only [runFile] at ho
      exact ih _ (markersPositive_read f hf _ n name hn) hr o ho v hv
    | lineMac off =>
      intro o ho v hv
      simp only [runFile, List.mem_cons] at ho
      rcases ho with rfl | ho
      · simp only [Out.lineVal?, Option.some.injEq] at hv
        subst hv
        exact deltaAt_positive f hf _ (hpos off)
      · exact ih f hf hr o ho v hv
    | fileMac off =>
      intro o ho v hv
      simp only [runFile, List.mem_cons] at ho
      rcases ho with rfl | ho
      · simp [Out.lineVal?] at hv
      · exact ih f hf hr o ho v hv

def Ev.off : Ev → Nat
  | .tok o => o
  | .lineDir o _ _ => o
  | .lineMac o => o
  | .fileMac o => o

/-- the line (as `add_line_numbers` computes it) an event's token is on -/
def Ev.lineIn (text : List Nat) (e : Ev) : Nat := lineNoOf text e.off

def Ev.report (e : Ev) (line : Int) (file : String) : Out :=
  match e with
  | .fileMac _ => .file file
  | .lineMac _ => .line line
  | _ => .tok line file

/-- what `preprocess2` reports for a probe event met when its file is in the state `f` -/
def probeOut (text : List Nat) (f : File) (e : Ev) : Out :=
  e.report ((e.lineIn text : Int) + deltaAt f (e.lineIn text)) (nameAt f (e.lineIn text))

theorem probeOut_congr (text : List Nat) {f g : File} (e : Ev) (hn : f.name = g.name)
    (hm : lineMarkerAt f.markers (e.lineIn text) = lineMarkerAt g.markers (e.lineIn text)) :
    probeOut text f e = probeOut text g e := by
  simp only [probeOut, deltaAt, nameAt, hn, hm]

theorem probe_after (text : List Nat) (f : File) (pre post : List Ev) (e : Ev) (he : e.isDir = false)
    (hpost : ∀ d ∈ dirsOf text post, e.lineIn text ≤ d.line) :
    (runFile text f (pre ++ post ++ [e])).getLast? = some (probeOut text (stateAfter text f pre) e) := by
  have hlast : (runFile text (stateAfter text f (pre ++ post)) [e]).getLast?
      = some (probeOut text (stateAfter text f (pre ++ post)) e) := by
    cases e <;> first | rfl | cases he
  rw [runFile_append, List.getLast?_append, hlast, Option.some_or, stateAfter_append,
    stateAfter_eq_pushDirs text _ post]
  exact congrArg some (probeOut_congr text e (pushDirs_name _ _) (lineMarkerAt_pushDirs_below _ _ _ hpost))

theorem probe_after_dir (text : List Nat) (f : File) (pre post : List Ev) (d : Nat) (n : Int) (name : Option String) (e : Ev)
    (he : e.isDir = false) (hpost : ∀ x ∈ dirsOf text post, e.lineIn text ≤ x.line) :
    (runFile text f (pre ++ .lineDir d n name :: post ++ [e])).getLast?
      = some (probeOut text (readLineMarker (stateAfter text f pre) (lineNoOf text d) n name) e) := by
  have := probe_after text f (pre ++ [.lineDir d n name]) post e he hpost
  rw [stateAfter_append] at this
  simpa [stateAfter] using this

theorem probeOut_read_below (text : List Nat) (f : File) (ld : Nat) (n : Int) (name : Option String) (e : Ev)
    (h : e.lineIn text ≤ ld) : probeOut text (readLineMarker f (ld : Int) n name) e = probeOut text f e :=
  probeOut_congr text e rfl (by simp only [readLineMarker, lineMarkerAt]; rw [if_pos (by omega)])

theorem probeOut_read_above (text : List Nat) (f : File) (ld : Nat) (n : Int) (name : Option String) (e : Ev)
    (h : ld < e.lineIn text) :
    probeOut text (readLineMarker f (ld : Int) n name) e
      = e.report ((e.lineIn text : Int) + (n - ld)) (name.getD f.displayName) := by
  have : lineMarkerAt (readLineMarker f (ld : Int) n name).markers (e.lineIn text : Int)
      = some ⟨ld, n - ld, name.getD f.displayName⟩ := by
    simp only [readLineMarker, lineMarkerAt]; rw [if_neg (by omega)]
  simp only [probeOut, deltaAt, nameAt, this]

end ChibiVerif.LineNo
