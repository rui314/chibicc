/-
C04 over Model/X86: a whole assignment statement to a bit-field of a local object,
`gen_addr(lhs)` (`lea d(%rbp), %rax; add $k, %rax`), `push %rax`, the right-hand side (`mov $c, %rax`), the bit-field arm.
-/
import ChibiVerif.Lemmas.C04X86

namespace ChibiVerif.C04X86
open ChibiVerif.X86 ChibiVerif.Asm ChibiVerif.BitField ChibiVerif.Gen.C04

theorem dec_lea_rbp (d : Int) : decode ⟨"lea", [.m d "%rbp", .r "%rax"]⟩ = some (.lea d .rbp .rax) := by with_unfolding_all rfl
theorem dec_add_imm_rax (k : Int) : decode ⟨"add", [.i k, .r "%rax"]⟩ = some (.alu .add .w64 (.imm k) (.reg .rax)) := by with_unfolding_all rfl
theorem dec_push_rax : decode ⟨"push", [.r "%rax"]⟩ = some (.push .rax) := by decide +kernel
theorem dec_mov_imm_rax (c : Int) : decode ⟨"mov", [.i c, .r "%rax"]⟩ = some (.mov .w64 (.imm c) (.reg .rax)) := by with_unfolding_all rfl

/-- `gen_addr` of a member of a local, `push`, a constant right-hand side -/
def lhsRhsCode (d k c : Int) : List Ins :=
  [⟨"lea", [.m d "%rbp", .r "%rax"]⟩, ⟨"add", [.i k, .r "%rax"]⟩, ⟨"push", [.r "%rax"]⟩, ⟨"mov", [.i c, .r "%rax"]⟩]

/-- after `gen_addr(lhs); push; gen_expr(rhs)` the member's address `rbp + d + k` is on top of the stack (the only bytes
    written are the push slot), the constant is in %rax, and no register but %rax, %rsp has changed -/
theorem lhsRhs_run (d k c : Int) (s : State) :
    Post (lhsRhsCode d k c) s fun s' =>
      s'.get .rsp = s.get .rsp - 8 ∧
      s'.read64 (s'.get .rsp) = s.get .rbp + BitVec.ofInt 64 d + BitVec.ofInt 64 k ∧
      s'.get .rax = BitVec.ofInt 64 c ∧
      Stored s'.mem s.mem (s.get .rsp - 8) 8 (s.get .rbp + BitVec.ofInt 64 d + BitVec.ofInt 64 k) ∧
      ∀ x, x ≠ .rax → x ≠ .rsp → s'.get x = s.get x := by
  refine .cons (dec_lea_rbp d) (exec_lea ..) <| .cons (dec_add_imm_rax k) (exec_add_ir ..) <|
    .cons dec_push_rax (exec_push ..) <| .cons (dec_mov_imm_rax c) (exec_mov_imm ..) <| .nil ⟨?_, ?_, ?_, ?_, fun x h1 h2 => ?_⟩
  · simp
  · simp [State.read64_write64, State.ea]
  · simp
  · exact State.write64_stored ..
  · simp [h1, h2]

/-- the code of the statement `local.member = c` for a bit-field member -/
def bfAssignLocalCode (d k c : Int) (t : BfType) (w o : Nat) : List Ins := lhsRhsCode d k c ++ insOf (assignSeq t w o)

theorem assignLocalSeq_ins (d k c : Int) (t : BfType) (w o : Nat) :
    insOf (assignLocalSeq d k c t w o) = bfAssignLocalCode d k c t w o := by
  unfold assignLocalSeq bfAssignLocalCode
  rw [insOf_append]
  rfl

/-- the whole statement `local.member = c`: `lhsRhs_run`, then `bf_assign_run` at the address it left on the stack, provided the
    storage unit does not overlap the push slot -/
theorem bf_assign_local_run (d k c : Int) (t : BfType) (w o : Nat) (hw : 1 ≤ w) (hwo : o + w ≤ t.usize.bits) (s : State)
    (p : BitVec 64) (hp : p = s.get .rbp + BitVec.ofInt 64 d + BitVec.ofInt 64 k)
    (hsep : ∀ i j : Nat, i < t.usize.bytes → j < 8 → p + BitVec.ofNat 64 i ≠ s.get .rsp - 8 + BitVec.ofNat 64 j) :
    Post (bfAssignLocalCode d k c t w o) s fun s' =>
      unitAt s' p t.usize = (bfAssignT t w o (unitAt s p t.usize) (BitVec.ofInt 64 c)).unit ∧
      s'.get .rax = (bfAssignT t w o (unitAt s p t.usize) (BitVec.ofInt 64 c)).rax ∧
      s'.get .rsp = s.get .rsp ∧ s'.get .rbp = s.get .rbp ∧
      ∀ x : BitVec 64, (∀ i : Nat, i < t.usize.bytes → x ≠ p + BitVec.ofNat 64 i) →
        (∀ j : Nat, j < 8 → x ≠ s.get .rsp - 8 + BitVec.ofNat 64 j) → s'.mem x = s.mem x := by
  refine (lhsRhs_run d k c s).append fun s1 ⟨sp1, top1, ax1, m1, o1⟩ => ?_
  refine (bf_assign_run t w o hw hwo s1).mono fun s2 ⟨ax2, m2, sp2, o2⟩ => ?_
  rw [← hp] at top1 m1
  rw [top1, ax1] at ax2 m2
  have hold : unitAt s1 p t.usize = unitAt s p t.usize := by
    apply unitAt_congr
    intro i hi
    exact m1.outside _ fun j hj => hsep i j hi hj
  rw [hold] at ax2 m2
  refine ⟨m2.unitAt, ax2, ?_, ?_, fun x hx hs => (m2.outside x hx).trans (m1.outside x hs)⟩
  · rw [sp2, sp1, BitVec.sub_add_cancel]
  · rw [o2 .rbp (by decide) (by decide) (by decide) (by decide), o1 .rbp (by decide) (by decide)]

end ChibiVerif.C04X86
