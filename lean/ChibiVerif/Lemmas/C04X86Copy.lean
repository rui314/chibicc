/-
C04 over Model/X86: the byte loops that `store` (struct / union assignment: `pop %rdi; mov i(%rax), %r8b; mov %r8b, i(%rdi)`
for i = 0 … size-1, `Gen.C04.storeStructLines`), `push_struct` and `copy_struct_mem` print, run by `X86.run`.  Whatever
the addresses, the loop computes the ascending copy `ascCopy` (AscCopyLemmas); its specification gives the three theorems.
-/
import ChibiVerif.Lemmas.C04X86
import ChibiVerif.Lemmas.AscCopyLemmas

namespace ChibiVerif.C04X86
open ChibiVerif.X86 ChibiVerif.Asm ChibiVerif.Gen.C04

/-- the registers of one byte loop: `mov i(%rax), tmp; mov tmp, i(dst)` -/
structure LoopOK (tmpN : String) (tmp : Reg) (dstN : String) (dst : Reg) : Prop where
  ld : ∀ i : Int, decode ⟨"mov", [.m i "%rax", .r tmpN]⟩ = some (.mov .w8 (.mem i .rax) (.reg tmp))
  st : ∀ i : Int, decode ⟨"mov", [.r tmpN, .m i dstN]⟩ = some (.mov .w8 (.reg tmp) (.mem i dst))
  ne_rax : Reg.rax ≠ tmp
  ne_dst : dst ≠ tmp

/-- `store`: %r8b, (%rdi);  `push_struct`: %r10b, (%rsp);  `copy_struct_mem`: %dl, (%rdi) -/
theorem loop_store : LoopOK "%r8b" .r8 "%rdi" .rdi := ⟨fun _ => by with_unfolding_all rfl, fun _ => by with_unfolding_all rfl, by decide, by decide⟩
theorem loop_push : LoopOK "%r10b" .r10 "%rsp" .rsp := ⟨fun _ => by with_unfolding_all rfl, fun _ => by with_unfolding_all rfl, by decide, by decide⟩
theorem loop_ret : LoopOK "%dl" .rdx "%rdi" .rdi := ⟨fun _ => by with_unfolding_all rfl, fun _ => by with_unfolding_all rfl, by decide, by decide⟩

theorem copy_trip {tmpN dstN : String} {tmp dst : Reg} (L : LoopOK tmpN tmp dstN dst) (i : Nat) (s : State) :
    Post [⟨"mov", [.m (i : Int) "%rax", .r tmpN]⟩, ⟨"mov", [.r tmpN, .m (i : Int) dstN]⟩] s fun s' =>
      s'.mem = wr8 s.mem (s.get dst + BitVec.ofNat 64 i) (s.mem (s.get .rax + BitVec.ofNat 64 i)) ∧
      ∀ x, x ≠ tmp → s'.get x = s.get x := by
  have e : BitVec.ofInt 64 (i : Int) = BitVec.ofNat 64 i := by simp
  refine .cons (L.ld i) (exec_load_d ..) <| .cons (L.st i) (exec_store_d ..) <| .nil ⟨?_, fun x hx => ?_⟩
  · simp only [State.writeW, State.readW, State.ea, State.mem_write8_wr, State.getW_setW_same,
      State.get_setW_ne _ _ _ _ _ L.ne_dst, e]; rfl
  · exact (State.get_write8 ..).trans (State.get_setW_ne _ _ _ _ _ hx)

def loopIns (tmpN dstN : String) (n : Nat) : List Ins :=
  (List.range n).flatMap fun (i : Nat) => [⟨"mov", [.m (i : Int) "%rax", .r tmpN]⟩, ⟨"mov", [.r tmpN, .m (i : Int) dstN]⟩]

theorem loopIns_succ (tmpN dstN : String) (n : Nat) : loopIns tmpN dstN (n + 1) =
    loopIns tmpN dstN n ++ [⟨"mov", [.m (n : Int) "%rax", .r tmpN]⟩, ⟨"mov", [.r tmpN, .m (n : Int) dstN]⟩] := by
  simp [loopIns, List.range_succ]

theorem copy_loop_mem {tmpN dstN : String} {tmp dst : Reg} (L : LoopOK tmpN tmp dstN dst) (n : Nat) (s : State) :
    Post (loopIns tmpN dstN n) s fun s' =>
      s'.mem = ascCopy (fun k => s.get .rax + BitVec.ofNat 64 k) (fun k => s.get dst + BitVec.ofNat 64 k) s.mem n ∧
      ∀ x, x ≠ tmp → s'.get x = s.get x := by
  induction n with
  | zero => exact .nil ⟨rfl, fun _ _ => rfl⟩
  | succ n ih =>
    rw [loopIns_succ]
    refine ih.append fun s1 ⟨m1, g1⟩ => (copy_trip L n s1).mono fun s2 ⟨m2, g2⟩ => ⟨?_, fun x hx => (g2 x hx).trans (g1 x hx)⟩
    rw [m2, g1 dst L.ne_dst, g1 .rax L.ne_rax, m1]
    rfl

/-- source, destination and memory are variables tied to the state by equations, so that a caller whose state is a term
    (`(s.set …).set …`) states them in its own words and discharges the equations by projection lemmas -/
theorem copy_loop {tmpN dstN : String} {tmp dst : Reg} (L : LoopOK tmpN tmp dstN dst) (n : Nat) (hn : n ≤ 2 ^ 64) (s : State)
    {src d : BitVec 64} {m : Mem64} (hs : s.get .rax = src) (hd : s.get dst = d) (hm : s.mem = m)
    (hov : ∀ j k : Nat, j < k → k < n → d + BitVec.ofNat 64 j ≠ src + BitVec.ofNat 64 k) :
    Post (loopIns tmpN dstN n) s fun s' =>
      (∀ k : Nat, k < n → s'.mem (d + BitVec.ofNat 64 k) = m (src + BitVec.ofNat 64 k)) ∧
      (∀ x : BitVec 64, (∀ k : Nat, k < n → x ≠ d + BitVec.ofNat 64 k) → s'.mem x = m x) ∧
      ∀ x, x ≠ tmp → s'.get x = s.get x := by
  subst hs hd hm
  obtain ⟨h1, h2⟩ := ascCopy_spec (fun k => s.get .rax + BitVec.ofNat 64 k) (fun k => s.get dst + BitVec.ofNat 64 k) s.mem n
    fun j k hjk hk => ⟨hov j k hjk hk, fun e => absurd (ofNat_inj_lt _ j k (by omega) (by omega) e) (by omega)⟩
  exact (copy_loop_mem L n s).mono fun s' ⟨m, g⟩ => ⟨fun k hk => m ▸ h1 k hk, fun x hx => m ▸ h2 x hx, g⟩

theorem insOf_loop (tmpN dstN : String) (n : Nat) :
    insOf ((List.range n).flatMap fun (i : Nat) => [.ins ⟨"mov", [.m (i : Int) "%rax", .r tmpN]⟩, .ins ⟨"mov", [.r tmpN, .m (i : Int) dstN]⟩])
      = loopIns tmpN dstN n := by
  simp only [insOf, loopIns]
  induction (List.range n) with
  | nil => rfl
  | cons i is ih => simp [List.flatMap_cons, Line.instrs, ih]

theorem storeStruct_split (n : Nat) : insOf (storeStructLines n) = ⟨"pop", [.r "%rdi"]⟩ :: loopIns "%r8b" "%rdi" n := by
  unfold storeStructLines
  rw [insOf_append, insOf_loop]
  rfl

/-- **struct / union assignment on the machine** (`store` for TY_STRUCT / TY_UNION): with the destination address on top
    of the stack and the source address in %rax, the `size` bytes at the source are copied to the destination, the
    address is popped and %rax is unchanged -/
theorem storeStruct_run (n : Nat) (hn : n ≤ 2 ^ 64) (s : State)
    (hov : ∀ j k : Nat, j < k → k < n → s.read64 (s.get .rsp) + BitVec.ofNat 64 j ≠ s.get .rax + BitVec.ofNat 64 k) :
    Post (insOf (storeStructLines n)) s fun s' =>
      (∀ k : Nat, k < n → s'.mem (s.read64 (s.get .rsp) + BitVec.ofNat 64 k) = s.mem (s.get .rax + BitVec.ofNat 64 k)) ∧
      (∀ x : BitVec 64, (∀ k : Nat, k < n → x ≠ s.read64 (s.get .rsp) + BitVec.ofNat 64 k) → s'.mem x = s.mem x) ∧
      s'.get .rax = s.get .rax ∧ s'.get .rsp = s.get .rsp + 8 := by
  rw [storeStruct_split]
  have hax : ((s.set .rsp (s.get .rsp + 8)).set .rdi (s.read64 (s.get .rsp))).get .rax = s.get .rax :=
    (State.get_set_ne _ _ _ _ (by decide)).trans (State.get_set_ne _ _ _ _ (by decide))
  refine .cons dec_pop_rdi (exec_pop ..) <| (copy_loop loop_store n hn _ hax (State.get_set_same ..) rfl hov).mono
    fun s' ⟨m, o, g⟩ => ⟨m, o, (g .rax (by decide)).trans hax, ?_⟩
  rw [g .rsp (by decide), State.get_set_ne _ _ _ _ (by decide), State.get_set_same]

theorem dec_sub_rsp (n : Int) : decode ⟨"sub", [.i n, .r "%rsp"]⟩ = some (.alu .sub .w64 (.imm n) (.reg .rsp)) := by with_unfolding_all rfl
theorem dec_mov_rbp_rdi (d : Int) : decode ⟨"mov", [.m d "%rbp", .r "%rdi"]⟩ = some (.mov .w64 (.mem d .rbp) (.reg .rdi)) := by with_unfolding_all rfl
theorem dec_mov_rdi_rax : decode ⟨"mov", [.r "%rdi", .r "%rax"]⟩ = some (.mov .w64 (.reg .rdi) (.reg .rax)) := by decide +kernel

theorem pushStruct_split (n : Nat) :
    insOf (pushStructLines n) = ⟨"sub", [.i (Gen.Declspec.alignTo (n : Int) 8), .r "%rsp"]⟩ :: loopIns "%r10b" "%rsp" n := by
  unfold pushStructLines
  rw [insOf_append, insOf_loop]
  rfl

/-- **passing a struct by value on the machine** (`push_struct`): %rsp drops by `align_to(size, 8)` and the `size` bytes at
    the source (%rax) are copied to the new top of the stack -/
theorem pushStruct_run (n : Nat) (hn : n ≤ 2 ^ 64) (s : State)
    (hov : ∀ j k : Nat, j < k → k < n →
      s.get .rsp - BitVec.ofInt 64 (Gen.Declspec.alignTo (n : Int) 8) + BitVec.ofNat 64 j ≠ s.get .rax + BitVec.ofNat 64 k) :
    Post (insOf (pushStructLines n)) s fun s' =>
      s'.get .rsp = s.get .rsp - BitVec.ofInt 64 (Gen.Declspec.alignTo (n : Int) 8) ∧
      (∀ k : Nat, k < n → s'.mem (s'.get .rsp + BitVec.ofNat 64 k) = s.mem (s.get .rax + BitVec.ofNat 64 k)) ∧
      (∀ x : BitVec 64, (∀ k : Nat, k < n → x ≠ s'.get .rsp + BitVec.ofNat 64 k) → s'.mem x = s.mem x) ∧
      s'.get .rax = s.get .rax := by
  rw [pushStruct_split]
  refine .cons (dec_sub_rsp _) (exec_sub_ir ..) <|
    (copy_loop loop_push n hn _ (src := s.get .rax) (State.get_set_ne (s.flags _ _ _) _ _ _ (by decide)) (State.get_set_same ..) rfl hov).mono
    fun s' ⟨m, o, g⟩ => ?_
  have e : s'.get .rsp = s.get .rsp - BitVec.ofInt 64 (Gen.Declspec.alignTo (n : Int) 8) :=
    (g .rsp (by decide)).trans (State.get_set_same ..)
  exact ⟨e, fun k hk => e ▸ m k hk, fun x hx => o x (e ▸ hx), (g .rax (by decide)).trans (State.get_set_ne (s.flags _ _ _) _ _ _ (by decide))⟩

theorem copyStructMem_split (off : Int) (n : Nat) :
    insOf (copyStructMemLines off n) =
      ⟨"mov", [.m off "%rbp", .r "%rdi"]⟩ :: (loopIns "%dl" "%rdi" n ++ [⟨"mov", [.r "%rdi", .r "%rax"]⟩]) := by
  unfold copyStructMemLines
  rw [insOf_append, insOf_append, insOf_loop, List.append_assoc]
  rfl

/-- **returning a struct by value on the machine** (`copy_struct_mem`): the destination address is read from the hidden
    first parameter at `off(%rbp)`, the `size` bytes at the source (%rax) are copied there, and %rax returns the destination -/
theorem copyStructMem_run (off : Int) (n : Nat) (hn : n ≤ 2 ^ 64) (s : State)
    (hov : ∀ j k : Nat, j < k → k < n →
      s.read64 (s.get .rbp + BitVec.ofInt 64 off) + BitVec.ofNat 64 j ≠ s.get .rax + BitVec.ofNat 64 k) :
    Post (insOf (copyStructMemLines off n)) s fun s' =>
      (∀ k : Nat, k < n → s'.mem (s.read64 (s.get .rbp + BitVec.ofInt 64 off) + BitVec.ofNat 64 k) = s.mem (s.get .rax + BitVec.ofNat 64 k)) ∧
      (∀ x : BitVec 64, (∀ k : Nat, k < n → x ≠ s.read64 (s.get .rbp + BitVec.ofInt 64 off) + BitVec.ofNat 64 k) → s'.mem x = s.mem x) ∧
      s'.get .rax = s.read64 (s.get .rbp + BitVec.ofInt 64 off) ∧ s'.get .rsp = s.get .rsp ∧ s'.get .rbp = s.get .rbp := by
  rw [copyStructMem_split]
  have hd : (s.setW .rdi .w64 (s.readW (s.ea off .rbp) .w64)).get .rdi = s.read64 (s.get .rbp + BitVec.ofInt 64 off) :=
    State.get_set_same ..
  refine .cons (dec_mov_rbp_rdi _) (exec_load_d ..) <|
    (copy_loop loop_ret n hn _ (State.get_setW_ne _ _ _ _ _ (by decide)) hd rfl hov).append fun s1 ⟨m, o, g⟩ =>
    .cons dec_mov_rdi_rax (exec_mov_rr ..) <| .nil ⟨m, o, ?_, ?_, ?_⟩
  · exact (State.get_set_same ..).trans ((g .rdi (by decide)).trans hd)
  · exact (State.get_set_ne _ _ _ _ (by decide)).trans ((g .rsp (by decide)).trans (State.get_setW_ne _ _ _ _ _ (by decide)))
  · exact (State.get_set_ne _ _ _ _ (by decide)).trans ((g .rbp (by decide)).trans (State.get_setW_ne _ _ _ _ _ (by decide)))

/-- the usual situation: both objects lie in the address space without wrapping, and they are disjoint, identical, or the
    destination starts below the source — then no trip overwrites a byte a later trip reads -/
theorem no_clobber (dst src : BitVec 64) (n : Nat) (hd : dst.toNat + n ≤ 2 ^ 64) (hs : src.toNat + n ≤ 2 ^ 64)
    (h : dst.toNat ≤ src.toNat ∨ src.toNat + n ≤ dst.toNat) :
    ∀ j k : Nat, j < k → k < n → dst + BitVec.ofNat 64 j ≠ src + BitVec.ofNat 64 k := by
  intro j k hjk hk heq
  have := congrArg BitVec.toNat heq
  rw [BitVec.toNat_add_ofNat _ _ (by omega), BitVec.toNat_add_ofNat _ _ (by omega)] at this
  omega

theorem outside_range (dst x : BitVec 64) (n : Nat) (hd : dst.toNat + n ≤ 2 ^ 64) (hx : x.toNat < dst.toNat ∨ dst.toNat + n ≤ x.toNat) :
    ∀ k : Nat, k < n → x ≠ dst + BitVec.ofNat 64 k := by
  intro k hk heq
  have := congrArg BitVec.toNat heq
  rw [BitVec.toNat_add_ofNat _ _ (by omega)] at this
  omega

end ChibiVerif.C04X86
