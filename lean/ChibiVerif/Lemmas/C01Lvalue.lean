/-
C01: lvalues other than variables (Model/C01Lvalue.lean) — `gen_addr` computes the address C11 gives the lvalue (`addr_ev`),
its index expression any expression of the type `E` (`value_g`); reading, assigning and compound-assigning through that
address is Lemmas/C01LvalueMachine.lean.
-/
import ChibiVerif.Lemmas.C01ValueFull
import ChibiVerif.Lemmas.C01PointerAssign

namespace ChibiVerif.C01
open ChibiVerif.X86 ChibiVerif.Asm ChibiVerif.Spec.IntSpec ChibiVerif.Gen.CommonType ChibiVerif.C01Codegen ChibiVerif.X86J

theorem frameAddr_eq (bp : BitVec 64) (d : Int) : frameAddr bp d = addrOf bp d := rfl

/-- `add $d, %rax` -/
theorem addimm_run (d : Int) : DS [iAddImm d] d := by
  intro s
  refine ⟨_, rfl, ?_, ?_⟩
  · simp [State.setW, State.src, State.getW, State.flags, State.get, State.set, BitVec.add_comm]
  · exact ⟨rfl, rfl, rfl⟩

/-! ### facts about `addrCode` -/

/-- what `addrCode` guarantees about its result (the counterpart of `CJ` for address code): the label counter grows, the labels the
    code defines are fresh (`Fresh`, Lemmas/C01CompA.lean) -/
structure AJ (k0 c0 : Nat) (ca : List JI) (k1 c1 : Nat) : Prop where
  c : c0 ≤ c1
  fresh : Fresh c0 c1 (defs ca)

theorem defs_scaleCodeJ (ti : ITy) (size : Int) (ci : List JI) : defs (scaleCodeJ ti size ci) = defs ci := by
  simp [scaleCodeJ, defs_append, defs_J, defs_cons_ins]

theorem defs_ptrAddCodeJ (ti : ITy) (size : Int) (ci : List JI) (cp : List Ins) :
    defs (ptrAddCodeJ ti size ci (J cp)) = defs ci := by
  simp [ptrAddCodeJ, defs_scaleCodeJ, defs_append, defs_J, defs_cons_ins]

theorem addrCode_facts (tys : List ITy) (off toff : Nat → Int) (lv : LVal) : ∀ (k0 c0 : Nat) (ca : List JI) (k1 c1 : Nat),
    addrCode tys off toff k0 c0 lv = some (ca, k1, c1) → AJ k0 c0 ca k1 c1 := by
  induction lv with
  | var i =>
    intro k0 c0 ca k1 c1 h
    simp only [addrCode, Option.some.injEq, Prod.mk.injEq] at h
    obtain ⟨rfl, rfl, rfl⟩ := h
    exact ⟨Nat.le_refl _, by rw [defs_J]; exact Fresh.nil _ _⟩
  | deref j =>
    intro k0 c0 ca k1 c1 h
    simp only [addrCode, Option.some.injEq, Prod.mk.injEq] at h
    obtain ⟨rfl, rfl, rfl⟩ := h
    exact ⟨Nat.le_refl _, by rw [defs_J]; exact Fresh.nil _ _⟩
  | member l d ih =>
    intro k0 c0 ca k1 c1 h
    simp only [addrCode, Option.map_eq_some_iff, Prod.mk.injEq] at h
    obtain ⟨⟨cd, k, c⟩, h0, h1, h2, h3⟩ := h
    simp only at h1 h2 h3
    subst h1 h2 h3
    have f := ih k0 c0 cd k c h0
    exact ⟨f.c, by simpa [defs_append, defs_J] using f.fresh⟩
  | index i0 esz ie =>
    intro k0 c0 ca k1 c1 h
    simp only [addrCode, Option.map_eq_some_iff, Prod.mk.injEq] at h
    obtain ⟨⟨ti, ci, k, c⟩, h0, h1, h2, h3⟩ := h
    simp only at h1 h2 h3
    subst h1 h2 h3
    have f := compileJ_facts tys off toff ie k0 c0 ti ci k c h0
    exact ⟨by have := f.c; omega, by rw [defs_ptrAddCodeJ]; exact f.fresh⟩
  | pindex j esz ie =>
    intro k0 c0 ca k1 c1 h
    simp only [addrCode, Option.map_eq_some_iff, Prod.mk.injEq] at h
    obtain ⟨⟨ti, ci, k, c⟩, h0, h1, h2, h3⟩ := h
    simp only at h1 h2 h3
    subst h1 h2 h3
    have f := compileJ_facts tys off toff ie k0 c0 ti ci k c h0
    exact ⟨by have := f.c; omega, by rw [defs_ptrAddCodeJ]; exact f.fresh⟩

/-! ### `gen_addr` computes the address of the lvalue -/

/-- **`gen_addr`**: if `addrCode` assembles `ca` for the lvalue and C11 gives it the address `a` (`lvAddr`, evaluating the index
    expression from `σ` to `σ0`), the code leaves `a` in `%rax` and the frame holding `σ0`; by induction on the lvalue, the index
    expression through `value_g` -/
theorem addr_ev (Φ : Frame) (bp0 : BitVec 64) (lv : LVal) :
    ∀ (σ : Env) (ca : List JI) (a : BitVec 64) (σ0 : Env) (k0 k1 c0 c1 : Nat),
      addrCode σ.tys Φ.off Φ.toff k0 c0 lv = some (ca, k1, c1) → lvAddr bp0 Φ.off σ lv = some (a, σ0) → noConflictL lv = true →
      wfL lv = true → (∀ i, i ∈ wrL lv → Φ.sepv i) → k1 ≤ Φ.K →
      EvG Φ (AtBp bp0) ca σ σ0 (fun r => r = a) (wrL lv) k0 k1 (depthL lv) := by
  induction lv with
  | var i =>
    intro σ ca a σ0 k0 k1 c0 c1 hc ha _ _ _ _
    simp only [addrCode, Option.some.injEq, Prod.mk.injEq] at hc
    obtain ⟨rfl, rfl, rfl⟩ := hc
    simp only [lvAddr, Option.some.injEq, Prod.mk.injEq] at ha
    obtain ⟨rfl, rfl⟩ := ha
    exact EvG.lea σ (Φ.off i) k0
  | deref j =>
    intro σ ca a σ0 k0 k1 c0 c1 hc ha _ _ _ _
    simp only [addrCode, Option.some.injEq, Prod.mk.injEq] at hc
    obtain ⟨rfl, rfl, rfl⟩ := hc
    simp only [lvAddr] at ha
    split at ha
    · rename_i hj
      simp only [Option.map_eq_some_iff, Prod.mk.injEq] at ha
      obtain ⟨p, hp, rfl, rfl⟩ := ha
      exact EvG.ptrvar σ j p hj hp k0
    · simp at ha
  | member l d ih =>
    intro σ ca a σ0 k0 k1 c0 c1 hc ha hn hw hS hK
    simp only [addrCode, Option.map_eq_some_iff, Prod.mk.injEq] at hc
    obtain ⟨⟨cd, k, c⟩, h0, h1, h2, h3⟩ := hc
    simp only at h1 h2 h3
    subst h1 h2 h3
    simp only [lvAddr, Option.map_eq_some_iff, Prod.mk.injEq] at ha
    obtain ⟨⟨a0, σ'⟩, hl, h1, h2⟩ := ha
    simp only at h1 h2
    subst h1 h2
    have E := ih σ cd a0 σ' k0 k c0 c h0 hl hn hw hS hK
    exact E.then_same (R2 := fun r => r = a0 + BitVec.ofInt 64 d) (fun s hs => by
      obtain ⟨s', r, hax, sm⟩ := addimm_run d s
      exact ⟨s', r, by rw [hax, hs], sm⟩)
  | index i0 esz ie =>
    intro σ ca a σ0 k0 k1 c0 c1 hc ha hn hw hS hK
    simp only [addrCode, Option.map_eq_some_iff, Prod.mk.injEq] at hc
    obtain ⟨⟨ti, ci, k, c⟩, h0, h1, h2, h3⟩ := hc
    simp only at h1 h2 h3
    subst h1 h2 h3
    simp only [lvAddr, Option.map_eq_some_iff, Prod.mk.injEq] at ha
    obtain ⟨⟨vi, σ'⟩, he, h1, h2⟩ := ha
    simp only at h1 h2
    subst h1 h2
    have hs : ITy.i64.inRange esz := by simpa [wfL] using hw
    have fk := (compileJ_facts σ.tys Φ.off Φ.toff ie k0 c0 ti ci k c h0).k
    have E := value_g Φ (AtBp bp0) ie σ ti ci vi σ' k0 k c0 c h0 he hn hS hK
    have := EvG.ptradd false ti esz vi (addrOf bp0 (Φ.off i0)) hs E (EvG.lea σ' (Φ.off i0) k) ⟨fk, fk, Nat.le_refl _⟩ hS
      (fun _ h => by simp at h) hK
    simpa [ptrAddCodeJ, wrL, depthL, frameAddr_eq] using this
  | pindex j esz ie =>
    intro σ ca a σ0 k0 k1 c0 c1 hc ha hn hw hS hK
    simp only [addrCode, Option.map_eq_some_iff, Prod.mk.injEq] at hc
    obtain ⟨⟨ti, ci, k, c⟩, h0, h1, h2, h3⟩ := hc
    simp only at h1 h2 h3
    subst h1 h2 h3
    simp only [lvAddr, Option.bind_eq_some_iff] at ha
    obtain ⟨⟨vi, σ'⟩, he, ha⟩ := ha
    simp only at ha
    split at ha
    · rename_i hj
      simp only [Option.map_eq_some_iff, Prod.mk.injEq] at ha
      obtain ⟨p, hp, rfl, rfl⟩ := ha
      have hs : ITy.i64.inRange esz := by simpa [wfL] using hw
      have fk := (compileJ_facts σ.tys Φ.off Φ.toff ie k0 c0 ti ci k c h0).k
      have E := value_g Φ (AtBp bp0) ie σ ti ci vi σ' k0 k c0 c h0 he hn hS hK
      have := EvG.ptradd false ti esz vi (BitVec.ofInt 64 p) hs E (EvG.ptrvar (P := AtBp bp0) σ' j p hj hp k) ⟨fk, fk, Nat.le_refl _⟩ hS
        (fun _ h => by simp at h) hK
      simpa [ptrAddCodeJ, wrL, depthL] using this
    · simp at ha

end ChibiVerif.C01
