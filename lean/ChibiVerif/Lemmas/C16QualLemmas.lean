/-
C16: the simulation between chibicc's `is_atomic` bookkeeping (Model/C16Qual.lean) and the C type of declared
identifiers and lvalue expressions (Spec/C16QualSpec.lean).

`refines t T`: chibicc's `Type` object `t` has the shape of the C type `T`, and wherever `T` is atomic, `t->is_atomic`
is set (chibicc may set the flag in more places: on rvalues, where the standard drops qualifiers, and on array /
function types, where the standard forbids them; that is harmless for the property).

`Sim E R x X`: the run `X` of the C semantics (`Option`) is simulated by chibicc's run `x` (`Except Diag`) up to `R`, chibicc
rejecting only if `E`.  Every function of the model is set against its counterpart of the specification by the rules `Sim.bind`
(both sides take a step), `Sim.bindR` / `Sim.iteR` (the specification alone checks something).
-/
import ChibiVerif.Model.C16Qual
import ChibiVerif.Spec.C16QualSpec
import ChibiVerif.Lemmas.ExceptLemmas

namespace ChibiVerif.C16QualLemmas
open ChibiVerif.C16Qual ChibiVerif.C16QualSpec

def refines : Ty → CType → Bool
  | .num p a, .num p' a' => p == p' && (!a' || a)
  | .enum a, .enum a' => !a' || a
  | .void _, .void => true
  | .ptr b a, .ptr b' a' => refines b b' && (!a' || a)
  | .arr b n _, .arr b' n' => refines b b' && n == n'
  | .fn r _, .fn r' => refines r r'
  | .agg u t a, .agg u' t' a' => u == u' && t == t' && (!a' || a)
  | _, _ => false

/-- the cases in which `refines t T = true`, one constructor per equation of `refines`: proofs by shape go by `cases Refines.of h` -/
inductive Refines : Ty → CType → Prop
  | num {p a a'} : (a' = true → a = true) → Refines (.num p a) (.num p a')
  | enum {a a'} : (a' = true → a = true) → Refines (.enum a) (.enum a')
  | void {a} : Refines (.void a) .void
  | ptr {b a b' a'} : refines b b' = true → (a' = true → a = true) → Refines (.ptr b a) (.ptr b' a')
  | arr {b n a b'} : refines b b' = true → Refines (.arr b n a) (.arr b' n)
  | fn {r a r'} : refines r r' = true → Refines (.fn r a) (.fn r')
  | agg {u tg a a'} : (a' = true → a = true) → Refines (.agg u tg a) (.agg u tg a')

theorem imp_of_not_or {a a' : Bool} : (!a' || a) = true ↔ (a' = true → a = true) := by
  cases a <;> cases a' <;> decide

theorem Refines.of {t : Ty} {T : CType} (h : refines t T = true) : Refines t T := by
  cases t <;> cases T <;> first | cases h | simp only [refines, Bool.and_eq_true, beq_iff_eq, imp_of_not_or] at h
  · exact h.1 ▸ .num h.2
  · exact .enum h
  · exact .void
  · exact .ptr h.1 h.2
  · exact h.2 ▸ .arr h.1
  · exact .fn h
  · exact h.1.1 ▸ h.1.2 ▸ .agg h.2

theorem refines_unqual {t : Ty} {T : CType} (h : refines t T = true) : refines t T.unqual = true := by
  cases Refines.of h <;> simp [refines, CType.unqual, *]

theorem refines_atomic {t : Ty} {T : CType} (h : refines t T = true) (ha : T.isAtomic = true) : t.isAtomic = true := by
  cases Refines.of h <;> cases ha <;> exact ‹_ → _› rfl

theorem refines_setAtomic_self {t : Ty} {T : CType} (h : refines t T = true) : refines t.setAtomic T = true := by
  cases Refines.of h <;> simp [refines, Ty.setAtomic, *]

theorem refines_pointerTo {t : Ty} {T : CType} (h : refines t T = true) : refines (pointerTo t) (.ptr T false) = true := by
  simp [pointerTo, refines, h]

theorem refines_qualify {t : Ty} {T Q : CType} (h : refines t T = true) (hq : T.qualify = some Q) :
    refines t.setAtomic Q = true := by
  cases Refines.of h <;> cases hq <;> simp [refines, Ty.setAtomic, *]

/-- the qualifier loop of `pointers` on a pointer `Type`: the flag is set iff `_Atomic` is among the qualifiers -/
theorem applyQuals_ptr (qs : List PQual) (b : Ty) (a : Bool) :
    applyQuals qs (.ptr b a) = .ptr b (a || qs.contains .atomic) := by
  induction qs generalizing a with
  | nil => simp [applyQuals]
  | cons q qs ih =>
    cases q <;> simp [applyQuals, PQual.applyTo, Ty.setAtomic, ih]

theorem refines_apply (d : Declr) : ∀ {t : Ty} {T : CType}, refines t T = true → refines (d.apply t) (declType d T) = true := by
  induction d with
  | name => intro t T h; simpa [Declr.apply, declType] using h
  | ptr d qs ih => intro t T h; exact ih (by simp [refines, pointerTo, applyQuals_ptr, h])
  | arr d n ih => intro t T h; exact ih (by simp [refines, arrayOf, h])
  | fn d ih => intro t T h; exact ih (by simp [refines, funcType, h])
  | paren d ih => intro t T h; exact ih h

theorem refines_qualified {t : Ty} {T Q : CType} {kw : Bool} (h : refines t T = true) (hq : qualified T kw = some Q) :
    refines (if kw then t.setAtomic else t) Q = true := by
  cases kw
  · simp [qualified] at hq; subst hq; simpa using h
  · simp [qualified] at hq; simpa using refines_qualify h hq

def relMember (a : Member) (b : SMember) : Prop := a.name = b.name ∧ a.bitfield = b.bitfield ∧ refines a.ty b.ty = true

inductive RelMembers : List Member → List SMember → Prop
  | nil : RelMembers [] []
  | cons {a b as bs} : relMember a b → RelMembers as bs → RelMembers (a :: as) (b :: bs)

structure RelEnv (m : Env) (s : SEnv) : Prop where
  tdefs : ∀ n T, s.typedefs.lookup n = some T → ∃ t, m.typedefs.lookup n = some t ∧ refines t T = true
  vars : ∀ n T, s.vars.lookup n = some T → ∃ t, m.vars.lookup n = some t ∧ refines t T = true
  tags : ∀ tag P, s.tags.lookup tag = some P → ∃ p, m.tags.lookup tag = some p ∧ (p.1 = P.1 ∧ RelMembers p.2 P.2)

theorem RelEnv.empty : RelEnv {} {} :=
  ⟨fun _ _ h => by simp [List.lookup] at h, fun _ _ h => by simp [List.lookup] at h, fun _ _ h => by simp [List.lookup] at h⟩

theorem find_member {ms : List Member} {MS : List SMember} (h : RelMembers ms MS) (x : String) {M : SMember}
    (hf : MS.find? (·.name == x) = some M) : ∃ mem, lookupMember ms x = some mem ∧ relMember mem M := by
  induction h with
  | nil => simp at hf
  | @cons a b as bs hab _ ih =>
    unfold lookupMember
    rw [List.find?_cons] at hf ⊢
    rw [hab.1]
    cases hx : (b.name == x)
    · rw [hx] at hf
      exact ih hf
    · rw [hx] at hf
      cases hf
      exact ⟨a, rfl, hab⟩

/-- simulation of a computation `X` of the C semantics by chibicc's `x`: where the C semantics gives a result, chibicc gives
    one related to it by `R`, or, only if `E` holds, a diagnostic.  With `E` left open (types, expressions) it is a forward
    simulation.  The rules follow the two `do` blocks side by side. -/
def Sim {α β : Type} (E : Prop) (R : α → β → Prop) (x : Except Diag α) (X : Option β) : Prop :=
  ∀ B, X = some B → Except.Ends (fun _ => E) (R · B) x

namespace Sim
variable {α β γ δ : Type} {E E' : Prop} {R : α → β → Prop} {S : γ → δ → Prop}

theorem none {x : Except Diag α} : Sim E R x none := nofun

theorem ok {a : α} {B : β} (h : R a B) : Sim E R (.ok a) (some B) := fun _ hB => Option.some.inj hB ▸ h

theorem error {e : Diag} {X : Option β} (h : E) : Sim E R (.error e : Except Diag α) X := fun _ _ => h

theorem intro {x : Except Diag α} {X : Option β} (h : ∀ B, X = some B → ∃ a, x = .ok a ∧ R a B) : Sim E R x X := fun B hB => by
  obtain ⟨a, rfl, hab⟩ := h B hB
  exact hab

theorem bind {x : Except Diag α} {X : Option β} {k : α → Except Diag γ} {K : β → Option δ} (hx : Sim E R x X)
    (hk : ∀ a B, R a B → Sim E S (k a) (K B)) : Sim E S (x >>= k) (X >>= K) := by
  intro C hC
  obtain ⟨B, hB, hC⟩ := Option.bind_eq_some_iff.1 hC
  exact (hx B hB).bind fun a hab => hk a B hab C hC

/-- a step of the C semantics alone: a constraint chibicc does not check, or a type it does not compute -/
theorem bindR {x : Except Diag γ} {X : Option β} {K : β → Option δ} (hk : ∀ B, X = some B → Sim E S x (K B)) :
    Sim E S x (X >>= K) := by
  intro C hC
  obtain ⟨B, hB, hC⟩ := Option.bind_eq_some_iff.1 hC
  exact hk B hB C hC

theorem iteR {x : Except Diag α} {c : Prop} [Decidable c] {X Y : Option β} (ht : c → Sim E R x X) (he : ¬ c → Sim E R x Y) :
    Sim E R x (if c then X else Y) := by
  split
  · exact ht ‹_›
  · exact he ‹_›

theorem mono {x : Except Diag α} {X : Option β} (h : Sim E R x X) (hE : E → E') : Sim E' R x X :=
  fun B hB => (h B hB).mono (fun _ => hE) fun _ => id

theorem rel {x : Except Diag α} {X : Option β} {a : α} {B : β} (h : Sim E R x X) (hX : X = some B) (hx : x = .ok a) : R a B :=
  (h B hX).of_ok hx

theorem accepts {x : Except Diag α} {X : Option β} {B : β} (h : Sim E R x X) (hX : X = some B) (hE : ¬ E) :
    ∃ a, x = .ok a ∧ R a B := by
  have := h B hX
  cases x with
  | ok a => exact ⟨a, rfl, this⟩
  | error e => exact absurd this hE
end Sim

/-- `refines` as a relation, for `Sim` -/
abbrev Rf (t : Ty) (T : CType) : Prop := refines t T = true

/-- expression types: the `Type` refines the C type, same bit-field flag -/
abbrev RfE (r : ETy) (R : STy) : Prop := refines r.ty R.ty = true ∧ r.bf = R.bf

theorem memberOf_refines {E : Prop} {m : Env} {s : SEnv} (h : RelEnv m s) {t : Ty} {T : CType} (hr : refines t T = true) (x : String) :
    Sim E relMember (memberOf m t x) (memberType s T x) := by
  refine .intro fun M hm => ?_
  cases Refines.of hr with
  | @agg u tag a a' =>
    cases a' with
    | true => cases hm
    | false =>
      cases hl : s.tags.lookup tag with
      | none => rw [memberType, hl] at hm; cases hm
      | some p =>
        obtain ⟨⟨_, ms⟩, hml, rfl, hrel⟩ := h.tags tag p hl
        rw [memberType, hl] at hm
        obtain ⟨mem, hmem, hrm⟩ := find_member hrel x hm
        exact ⟨mem, by simp [memberOf, hml, hmem], hrm⟩
  | _ => cases hm

theorem pointee_ptr {to P : CType} {a : Bool} (h : pointee (.ptr to a) = some P) : to = P ∧ P ≠ .void := by
  cases to <;> cases h <;> exact ⟨rfl, fun h => nomatch h⟩

theorem derefTy_base {b : Ty} {P : CType} (h : refines b P = true) (hv : P ≠ .void) (a : Bool) (n : Nat) :
    derefTy (.ptr b a) = .ok b ∧ derefTy (.arr b n a) = .ok b := by
  cases Refines.of h <;> first | exact ⟨rfl, rfl⟩ | exact absurd rfl hv

/-- `*e` / the `*` inside `e->m`, `e[i]`: chibicc's ND_DEREF against the pointee of the converted operand -/
theorem derefTy_refines {E : Prop} {t : Ty} {T : CType} (hr : refines t T = true) (hnf : ∀ r, T ≠ .fn r) :
    Sim E Rf (derefTy t) (pointee (rvalue T)) := by
  refine .intro fun P hp => ?_
  cases Refines.of hr with
  | ptr hb _ => obtain ⟨rfl, hv⟩ := pointee_ptr hp; exact ⟨_, (derefTy_base hb hv _ 0).1, hb⟩
  | arr hb => obtain ⟨rfl, hv⟩ := pointee_ptr hp; exact ⟨_, (derefTy_base hb hv _ _).2, hb⟩
  | fn => exact absurd rfl (hnf _)
  | _ => cases hp

/-- `e + i`, `e[i]`: `new_add` of a pointer or array and an integer constant -/
theorem addTy_refines {t : Ty} {T to : CType} {a : Bool} (hr : refines t T = true) (hp : rvalue T = .ptr to a)
    (hnf : ∀ r, to ≠ .fn r) :
    ∃ b, addTy t = .ok (pointerTo b) ∧ refines b to = true := by
  cases Refines.of hr with
  | ptr hb _ | arr hb => cases hp; exact ⟨_, rfl, hb⟩
  | fn => cases hp; exact absurd rfl (hnf _)
  | _ => cases hp

theorem bind_some {α β : Type} {x : Option α} {f : α → Option β} {b : β} (h : (x >>= f) = some b) :
    ∃ a, x = some a ∧ f a = some b := Option.bind_eq_some_iff.1 h

/-- the type name `[_Atomic] s D` (declaration, type name, cast), given the simulation for the specifier `s` -/
theorem typeName_refines {E : Prop} {m : Env} {s : SEnv} {sp : TSpec} (hsp : Sim E Rf (specTy m sp) (specType s sp)) (kw : Bool) (d : Declr) :
    Sim E Rf (specTy m sp >>= fun t => pure (d.apply (if kw then t.setAtomic else t)))
      (specType s sp >>= fun T => qualified T kw >>= fun Q => pure (declType d Q)) :=
  hsp.bind fun _ _ hr => .bindR fun _ hq => .ok (refines_apply d (refines_qualified hr hq))

mutual
/-- simulation for type specifiers: where the C semantics gives the specifier a type, chibicc's `Type` for it refines that type -/
theorem specTy_refines {E : Prop} {m : Env} {s : SEnv} (h : RelEnv m s) : ∀ sp : TSpec, Sim E Rf (specTy m sp) (specType s sp)
  | .prim p => by rw [specType, specTy]; exact .ok (by simp [Rf, refines])
  | .void => by rw [specType, specTy]; exact .ok rfl
  | .enum => by rw [specType, specTy]; exact .ok rfl
  | .tdef n => .intro fun T hs => by
    rw [specType] at hs
    obtain ⟨t, ht, hr⟩ := h.tdefs n T hs
    exact ⟨t, by rw [specTy, ht], hr⟩
  | .agg u tag => .intro fun T hs => by
    rw [specType] at hs
    cases hl : s.tags.lookup tag with
    | none => rw [hl] at hs; cases hs
    | some p =>
      rw [hl] at hs; cases hs
      obtain ⟨⟨_, ms⟩, hml, rfl, _⟩ := h.tags tag p hl
      exact ⟨_, by rw [specTy, hml], by simp [Rf, refines]⟩
  | .typeofT sp kw d => by
    rw [specType, specTy]
    exact typeName_refines (specTy_refines h sp) kw d
  | .typeofE e => by
    rw [specType, specTy]
    exact (exprTy_refines h e).bind fun _ _ hr => .iteR (fun _ => .none) fun _ => .ok hr.1
  | .atomicOf sp kw d => by
    rw [specType, specTy]
    exact (specTy_refines h sp).bind fun _ _ hr => .bindR fun _ hq => .iteR (fun _ => .none) fun _ => .intro fun _ hq' =>
      ⟨_, rfl, refines_qualify (refines_apply d (refines_qualified hr hq)) hq'⟩

/-- simulation for expressions: where the C semantics types `e`, `add_type` gives a `Type` that refines it, with the same
    bit-field flag -/
theorem exprTy_refines {E : Prop} {m : Env} {s : SEnv} (h : RelEnv m s) : ∀ e : Expr, Sim E RfE (exprTy m e) (typeOf s e)
  | .var x => .intro fun R hs => by
    rw [typeOf] at hs
    obtain ⟨T, hl, hs⟩ := bind_some hs
    cases hs
    obtain ⟨t, ht, hr⟩ := h.vars x T hl
    exact ⟨⟨t, false⟩, by rw [exprTy, ht], hr, rfl⟩
  | .par e => by rw [typeOf, exprTy]; exact exprTy_refines h e
  | .deref e => by
    rw [typeOf, exprTy]
    refine (exprTy_refines h e).bind fun ⟨t, _⟩ ⟨T, _, _⟩ hr => ?_
    replace hr : refines t T = true := hr.1
    cases Refines.of hr with
    | fn hb => exact .ok ⟨hb, rfl⟩
    | _ => exact (derefTy_refines hr nofun).bind fun _ _ hb => .ok ⟨hb, rfl⟩
  | .addr e => by
    rw [typeOf, exprTy]
    refine (exprTy_refines h e).bind fun ⟨t, bf'⟩ ⟨T, lv, bf⟩ hr => ?_
    obtain ⟨hr, rfl⟩ : refines t T = true ∧ bf' = bf := hr
    cases Refines.of hr with
    | arr => exact .none
    | _ =>
      refine .iteR (fun hc => ?_) fun _ => .none
      obtain ⟨_, rfl⟩ : _ ∧ bf' = false := by simpa using hc
      exact .ok ⟨refines_pointerTo hr, rfl⟩
  | .mem e x => by
    rw [typeOf, exprTy]
    exact (exprTy_refines h e).bind fun _ _ hr => (memberOf_refines h hr.1 x).bind fun _ _ hm => .ok ⟨hm.2.2, hm.2.1⟩
  | .arrow e x => by
    rw [typeOf, exprTy]
    refine (exprTy_refines h e).bind fun ⟨t, _⟩ ⟨T, _, _⟩ hr => ?_
    replace hr : refines t T = true := hr.1
    cases Refines.of hr with
    | fn => exact .bindR fun _ hp => by cases hp; exact .none
    | _ => exact (derefTy_refines hr nofun).bind fun _ _ hb => (memberOf_refines h hb x).bind fun _ _ hm => .ok ⟨hm.2.2, hm.2.1⟩
  | .idx e i => by
    rw [typeOf, exprTy]
    refine (exprTy_refines h e).bind fun r R hr => ?_
    cases hrv : rvalue R.ty with
    | ptr to a =>
      cases to with
      | fn q => exact .none
      | void => exact .none
      | _ =>
        obtain ⟨b, hb, hbr⟩ := addTy_refines hr.1 hrv nofun
        simp only [hb, (derefTy_base hbr nofun false 0).1, pointerTo, Except.ok_bind]
        exact .ok ⟨hbr, rfl⟩
    | _ => exact .none
  | .add e i => by
    rw [typeOf, exprTy]
    refine (exprTy_refines h e).bind fun r R hr => ?_
    cases hrv : rvalue R.ty with
    | ptr to a =>
      cases to with
      | fn q => exact .none
      | _ =>
        obtain ⟨b, hb, hbr⟩ := addTy_refines hr.1 hrv nofun
        rw [hb]
        exact .ok ⟨refines_pointerTo hbr, rfl⟩
    | _ => exact .none
  | .cast sp kw d e => by
    rw [typeOf, exprTy]
    exact (specTy_refines h sp).bind fun _ _ hr => .bindR fun _ hq => (exprTy_refines h e).bind fun _ _ _ =>
      .ok ⟨refines_unqual (refines_apply d (refines_qualified hr hq)), rfl⟩
  | .call e => by
    rw [typeOf, exprTy]
    refine (exprTy_refines h e).bind fun ⟨t, _⟩ ⟨T, _, _⟩ hr => ?_
    replace hr : refines t T = true := hr.1
    cases Refines.of hr with
    | fn hb => exact .ok ⟨refines_unqual hb, rfl⟩
    | ptr hb _ =>
      cases Refines.of hb with
      | fn hb' => exact .ok ⟨refines_unqual hb', rfl⟩
      | _ => exact .none
    | _ => exact .none
end

theorem declTy_refines {E : Prop} {m : Env} {s : SEnv} (h : RelEnv m s) {sp : TSpec} {kw : Bool} {d : Declr} :
    Sim E Rf (declTy m sp kw d) (declaredType s sp kw d) :=
  typeName_refines (specTy_refines h sp) kw d

theorem isInteger_refines {t : Ty} {T : CType} (h : refines t T = true) : isIntegerTy t = isInteger T := by
  cases Refines.of h <;> rfl

/-- one member: chibicc's member is the spec's, or chibicc rejects a bit-field: one whose `Type` carries `is_atomic`, which it
    also does for `typeof` of an atomic rvalue, where the standard has dropped the qualifier -/
theorem elabMember_sim {m : Env} {s : SEnv} (h : RelEnv m s) (md : MemberDecl) :
    Sim (md.bitfield = true) relMember (elabMember m md) (specMember s md) := by
  unfold elabMember specMember
  refine (declTy_refines h).bind fun t T hr => ?_
  rw [← isInteger_refines hr]
  cases md.bitfield
  · exact .ok ⟨rfl, rfl, hr⟩
  · refine .iteR (fun _ => .none) fun hc => ?_
    cases hi : isIntegerTy t
    · simp [hi] at hc
    · cases ha : t.isAtomic
      · exact .ok ⟨rfl, rfl, hr⟩
      · exact .error rfl

theorem elabMembers_sim {m : Env} {s : SEnv} (h : RelEnv m s) : ∀ mds : List MemberDecl,
    Sim (mds.any (·.bitfield) = true) RelMembers (elabMembers m mds) (specMembers s mds)
  | [] => .ok .nil
  | md :: rest => by
    rw [elabMembers, specMembers]
    exact ((elabMember_sim h md).mono fun hb => by simp [hb]).bind fun _ _ h1 =>
      ((elabMembers_sim h rest).mono fun hb => by simp [hb]).bind fun _ _ h2 => .ok (.cons h1 h2)

theorem lookup_cons_sim {α A B : Type} [BEq α] [LawfulBEq α] {rel : A → B → Prop} {l : List (α × A)} {L : List (α × B)}
    (h : ∀ n V, L.lookup n = some V → ∃ v, l.lookup n = some v ∧ rel v V) (k : α) {v : A} {V : B} (hr : rel v V) :
    ∀ n X, ((k, V) :: L).lookup n = some X → ∃ x, ((k, v) :: l).lookup n = some x ∧ rel x X := by
  intro n X hx
  cases hc : n == k <;> simp only [List.lookup_cons, hc] at hx ⊢
  · exact h n X hx
  · cases hx; exact ⟨v, rfl, hr⟩

theorem RelEnv.addTypedef {m : Env} {s : SEnv} (h : RelEnv m s) (n : String) {t : Ty} {T : CType} (hr : refines t T = true) :
    RelEnv { m with typedefs := (n, t) :: m.typedefs } { s with typedefs := (n, T) :: s.typedefs } :=
  ⟨lookup_cons_sim h.tdefs n hr, h.vars, h.tags⟩

theorem RelEnv.addVar {m : Env} {s : SEnv} (h : RelEnv m s) (n : String) {t : Ty} {T : CType} (hr : refines t T = true) :
    RelEnv { m with vars := (n, t) :: m.vars } { s with vars := (n, T) :: s.vars } :=
  ⟨h.tdefs, lookup_cons_sim h.vars n hr, h.tags⟩

theorem RelEnv.addTag {m : Env} {s : SEnv} (h : RelEnv m s) (tag : String) (u : Bool) {ms : List Member} {MS : List SMember}
    (hr : RelMembers ms MS) :
    RelEnv { m with tags := (tag, u, ms) :: m.tags } { s with tags := (tag, u, MS) :: s.tags } :=
  ⟨h.tdefs, h.vars, lookup_cons_sim h.tags tag ⟨rfl, hr⟩⟩

theorem paramTy_refines {t : Ty} {T : CType} (h : refines t T = true) : refines (paramTy t) (adjustParam T) = true := by
  cases Refines.of h with
  | arr hb => exact refines_pointerTo hb
  | fn => exact refines_pointerTo h
  | _ => exact h

/-- one declaration keeps the two environments related (typedefs, variables, tags), or chibicc rejects one of its bit-fields -/
theorem elabDecl_sim {m : Env} {s : SEnv} (h : RelEnv m s) : ∀ d : Decl, Sim (noBitfield d = false) RelEnv (elabDecl m d) (specDecl s d)
  | .typedef_ n sp kw dd => by
    rw [elabDecl, specDecl]
    exact (declTy_refines h).bind fun _ _ hr => .ok (h.addTypedef n hr)
  | .var n sp kw dd => by
    rw [elabDecl, specDecl]
    refine (declTy_refines h).bind fun t T hr => ?_
    cases Refines.of hr with
    | void => exact .none
    | _ => exact .ok (h.addVar n hr)
  | .param n sp kw dd => by
    rw [elabDecl, specDecl]
    exact (declTy_refines h).bind fun _ _ hr => .ok (h.addVar n (paramTy_refines hr))
  | .aggDef u tag mds => by
    rw [elabDecl, specDecl]
    exact ((elabMembers_sim (h.addTag tag u .nil) mds).mono fun hb => by simpa [noBitfield] using hb).bind fun _ _ hr =>
      .ok (h.addTag tag u hr)

theorem elabDecls_sim : ∀ (ds : List Decl) {m : Env} {s : SEnv}, RelEnv m s →
    Sim (∃ d ∈ ds, noBitfield d = false) RelEnv (elabDecls m ds) (specDecls s ds)
  | [], _, _, h => .ok h
  | d :: rest, _, _, h => by
    rw [elabDecls, specDecls]
    exact ((elabDecl_sim h d).mono fun hb => ⟨d, List.mem_cons_self, hb⟩).bind fun _ _ h1 =>
      (elabDecls_sim rest h1).mono fun ⟨x, hx, hb⟩ => ⟨x, List.mem_cons_of_mem _ hx, hb⟩

/-- declarations keep the two environments related -/
theorem elabDecls_rel (ds : List Decl) {m : Env} {s s' : SEnv} {m' : Env} (h : RelEnv m s)
    (hs : specDecls s ds = some s') (hm : elabDecls m ds = .ok m') : RelEnv m' s' :=
  (elabDecls_sim ds h).rel hs hm

/-- chibicc rejects no declaration list without bit-fields that the C semantics accepts -/
theorem elabDecls_accepts (ds : List Decl) {m : Env} {s s' : SEnv} (h : RelEnv m s)
    (hs : specDecls s ds = some s') (hnb : ∀ d ∈ ds, noBitfield d = true) : ∃ m', elabDecls m ds = .ok m' :=
  let ⟨m', hm, _⟩ := (elabDecls_sim ds h).accepts hs fun ⟨d, hd, hb⟩ => by rw [hnb d hd] at hb; cases hb
  ⟨m', hm⟩

theorem specDecls_append (ds : List Decl) (d : Decl) : ∀ env : SEnv,
    specDecls env (ds ++ [d]) = (specDecls env ds >>= fun e => specDecl e d) := by
  induction ds with
  | nil =>
    intro env
    show (specDecl env d >>= fun e => some e) = specDecl env d
    cases specDecl env d <;> rfl
  | cons d0 ds ih =>
    intro env
    show (specDecl env d0 >>= fun e => specDecls e (ds ++ [d])) = (specDecl env d0 >>= fun e => specDecls e ds) >>= _
    cases specDecl env d0 with
    | none => rfl
    | some e1 => exact ih e1

/-- after any declarations, `[_Atomic] s * Q… x;` with `_Atomic` among the qualifiers `Q…` makes `x` an atomic lvalue of
    pointer type in the C semantics -/
theorem atomicLvalue_declared_pointer (ds : List Decl) (x : String) (s : TSpec) (kw : Bool) (qs : List PQual)
    (hq : PQual.atomic ∈ qs) (senv : SEnv)
    (hspec : specDecls {} (ds ++ [.var x s kw (.ptr .name qs)]) = some senv) :
    ∃ P, atomicLvalue senv (.var x) = some (.ptr P true) := by
  rw [specDecls_append] at hspec
  obtain ⟨e0, _, h1⟩ := bind_some hspec
  obtain ⟨T, h2, h1⟩ := bind_some h1
  obtain ⟨T1, _, h2⟩ := bind_some h2
  obtain ⟨Q, _, h2⟩ := bind_some h2
  cases h2; cases h1
  exact ⟨Q, by simp [atomicLvalue, typeOf, List.lookup, isObjectLv, CType.isAtomic, declType, bind, Option.bind, pure, hq]⟩

theorem rmw_refines {t : Ty} {T : CType} (h : refines t T = true) :
    (match t.scalarSize? with
      | some n => if n ≤ 8 then Except.ok (Path.casLoop n) else Except.error Diag.rmwRejected
      | none => Except.error Diag.rmwRejected) =
    (match T.rmwSize? with
      | some n => Except.ok (Path.casLoop n)
      | none => Except.error Diag.rmwRejected) := by
  cases Refines.of h <;> try rfl
  simp only [Ty.scalarSize?, CType.rmwSize?]
  split <;> rfl

/-- an lvalue the C semantics makes atomic is updated by the compare-and-swap loop of its width, or rejected with a
    diagnostic when it is not a scalar of at most 8 bytes: never by a plain load-operate-store sequence -/
theorem elabUpdate_atomic {m : Env} {s : SEnv} (h : RelEnv m s) {e : Expr} {T : CType}
    (ha : atomicLvalue s e = some T) (op : UpdOp) :
    elabUpdate m op e = (match T.rmwSize? with
      | some n => .ok (.casLoop n)
      | none => .error .rmwRejected) := by
  unfold atomicLvalue at ha
  cases h1 : typeOf s e with
  | none => simp [h1] at ha
  | some R =>
    simp only [h1] at ha
    split at ha
    · rename_i hc
      cases ha
      simp at hc
      obtain ⟨r, hr, hrr, _⟩ := (exprTy_refines h e).accepts h1 id
      have hat := refines_atomic hrr hc.2
      simp only [elabUpdate, hr, Except.ok_bind, toAssign, hat]
      simp
      exact rmw_refines hrr
    · cases ha
end ChibiVerif.C16QualLemmas
