/-
C20: the executable whole-function check `Effect.checkBody` is COMPLETE.

`checkBody` infers one height per label by forward scans repeated until a scan adds nothing
(`Effect.inferFix`) and then verifies the labelling (`Effect.verify`).  This module proves that the
inferred labelling is as good as any:

* `inferFix_fixpoint` — the fuel `length + 1` suffices: the result is a fixpoint of `infer` (every
  pass that is not the last adds a key that is a label or a jump target of the skeleton; keys are never
  repeated — pigeonhole).
* `inferred_sub` — the inferred labelling is contained in EVERY labelling that passes `verifyL`.
* `verifyL_inferred` — if some labelling passes `verifyL`, the inferred one does (`FnBalanced` is
  decided by the inference; no condition on the shape of the label graph: a label that only dead
  code reaches simply stays without a height, as does the code after it).
* `verify_inferred` — the same with the range test: if some labelling passes `verify`, the
  inferred one does.
* `verify_of_verifyL` — a labelling that passes `verifyL` fails `verify` only with the range
  complaint `rangeMsg c`, `okH c = false`.

Both checkers are read against one step function (`vstepL`, `vstep_spec`); a conditional and an unconditional
jump pass the same test (`arrives`), and what the inference records at a jump or a label is the same `note`.
-/
import ChibiVerif.Model.C20Flow

namespace ChibiVerif.Lemmas.C20
open ChibiVerif ChibiVerif.Effect ChibiVerif.Asm ChibiVerif.C20Scope

/-- a jump to `l` from height `c` agrees with the labelling: `.L.return.*` is reached with rsp = 0, any other
    label at its height -/
def arrives (h : Labelling) (l : String) (c : H) : Bool :=
  if isReturnLabel l then c.rsp == 0 else h.lookup l == some c

/-- what `verifyL` (and `verify`, up to its range test) does at one step: `none` = it complains,
    `some c'` = it goes on at height `c'` -/
def vstepL (h : Labelling) (s : Step) (cur : Option H) : Option (Option H) :=
  match s with
  | .delta d => some (cur.map (· + d))
  | .cond l => if cur.all (arrives h l) then some cur else none
  | .jump l => if cur.all (arrives h l) then some none else none
  | .leave => some none
  | .label l =>
    if isReturnLabel l then some none else
    match h.lookup l, cur with
    | some hl, some c => if hl == c then some (some hl) else none
    | some hl, none => some (some hl)
    | none, some _ => none
    | none, none => some none
  | .bad _ => none

/-- the range test of `verify` at one step -/
def rangeStep (s : Step) (cur : Option H) : Bool :=
  match s, cur with
  | .delta d, some c => okH (c + d)
  | _, _ => true

/-- Both checkers against the step function, in one walk over the kinds of step: where the step passes they go
    on with the rest at the height it computes (`verify` if the range test passes too; if not it stops with the
    range complaint), where it complains they stop with an error. -/
theorem vstep_spec (h : Labelling) (s : Step) (r : List Step) (cur : Option H) :
    (∃ c', vstepL h s cur = some c' ∧ verifyL h (s :: r) cur = verifyL h r c' ∧
      ((rangeStep s cur = true ∧ verify h (s :: r) cur = verify h r c') ∨
       (rangeStep s cur = false ∧ ∃ c, okH c = false ∧ verify h (s :: r) cur = .error (rangeMsg c)))) ∨
    (vstepL h s cur = none ∧ (∃ e, verifyL h (s :: r) cur = .error e) ∧ ∃ e, verify h (s :: r) cur = .error e) := by
  cases s with
  | delta d =>
    refine .inl ⟨_, rfl, rfl, ?_⟩
    cases cur with
    | none => exact .inl ⟨rfl, rfl⟩
    | some c =>
      -- the one step with a range test
      cases hk : okH (c + d) with
      | true => exact .inl ⟨hk, by simp [verify, hk, -H.add_def]⟩
      | false => exact .inr ⟨hk, c + d, hk, by simp [verify, hk, -H.add_def]⟩
  | leave => exact .inl ⟨_, rfl, rfl, .inl ⟨rfl, rfl⟩⟩
  | bad w => exact .inr ⟨rfl, ⟨_, rfl⟩, ⟨_, rfl⟩⟩
  | cond l | jump l =>
    cases cur with
    | none => exact .inl ⟨_, rfl, rfl, .inl ⟨rfl, rfl⟩⟩
    | some c =>
      by_cases ha : arrives h l c = true
      · refine .inl ⟨_, by simp only [vstepL, Option.all_some, ha, if_true] <;> rfl, ?_, .inl ⟨rfl, ?_⟩⟩
        all_goals
          unfold arrives at ha
          simp only [verifyL, verify]
          split at ha
          · rename_i hr; simp [hr, ha]
          · rename_i hr; simp [hr, eq_of_beq ha]
      · refine .inr ⟨by simp only [vstepL, Option.all_some, ha] <;> rfl, ?_, ?_⟩
        all_goals
          unfold arrives at ha
          simp only [verifyL, verify]
          split at ha
          · rename_i hr; simp [hr, ha]
          · rename_i hr
            simp only [hr, Bool.false_eq_true, if_false]
            cases hl : h.lookup l with
            | none => exact ⟨_, rfl⟩
            | some hl' =>
              have : (hl' == c) = false := by
                rw [hl] at ha
                simpa using ha
              simp [this]
  | label l =>
    simp only [vstepL, verifyL, verify, rangeStep]
    by_cases hr : isReturnLabel l = true
    · simp [hr]
    · simp only [hr, Bool.false_eq_true, if_false]
      cases hl : h.lookup l with
      | none => cases cur <;> simp
      | some hl' =>
        cases cur with
        | none => simp
        | some c => by_cases he : (hl' == c) = true <;> simp [he]

theorem verifyL_cons_iff (h : Labelling) (s : Step) (r : List Step) (cur : Option H) :
    verifyL h (s :: r) cur = .ok () ↔ ∃ c', vstepL h s cur = some c' ∧ verifyL h r c' = .ok () := by
  rcases vstep_spec h s r cur with ⟨c', h1, h2, _⟩ | ⟨h1, ⟨e, h2⟩, _⟩
  · rw [h2, h1]; simp
  · rw [h2, h1]; simp

theorem verify_cons_iff (h : Labelling) (s : Step) (r : List Step) (cur : Option H) :
    verify h (s :: r) cur = .ok () ↔
      ∃ c', vstepL h s cur = some c' ∧ rangeStep s cur = true ∧ verify h r c' = .ok () := by
  rcases vstep_spec h s r cur with ⟨c', h1, _, ⟨hr, h3⟩ | ⟨hr, c, _, h3⟩⟩ | ⟨h1, _, ⟨e, h3⟩⟩
  · rw [h3, h1]; simp [hr]
  · rw [h3, h1]; simp [hr]
  · rw [h3, h1]; simp

/-- a labelling that passes `verify` passes `verifyL` -/
theorem verifyL_of_verify (h : Labelling) : ∀ (st : List Step) (cur : Option H),
    verify h st cur = .ok () → verifyL h st cur = .ok ()
  | [], _, _ => rfl
  | s :: r, cur, hv => by
    obtain ⟨c', h1, _, h3⟩ := (verify_cons_iff h s r cur).mp hv
    exact (verifyL_cons_iff h s r cur).mpr ⟨c', h1, verifyL_of_verify h r c' h3⟩

/-- `acc` is contained in `hs` -/
def SubL (acc hs : Labelling) : Prop := ∀ l c, acc.lookup l = some c → hs.lookup l = some c

/-- the inference's height, when it has one, is the height of the reference scan -/
def CurLe (cur curS : Option H) : Prop := ∀ c, cur = some c → curS = some c

theorem CurLe_none (curS : Option H) : CurLe none curS := fun _ hc => by cases hc

theorem lookup_cons_ne {acc : Labelling} {l l' : String} {c : H} (h : l' ≠ l) :
    ((l, c) :: acc).lookup l' = acc.lookup l' := by
  simp [List.lookup_cons, beq_false_of_ne h]

theorem SubL_cons {acc hs : Labelling} {l : String} {c : H} (h : SubL acc hs) (hl : hs.lookup l = some c) :
    SubL ((l, c) :: acc) hs := by
  intro l' c' hlk
  by_cases e : l' = l
  · subst e
    simp only [List.lookup, beq_self_eq_true, Option.some.injEq] at hlk
    rw [← hlk]; exact hl
  · rw [lookup_cons_ne e] at hlk
    exact h l' c' hlk

/-- what a step does to the labelling at its key `l`: the current height is put in front if the key is not
    `.L.return.*`, the scan is live there and the key has no height yet -/
def note (acc : Labelling) (l : String) (cur : Option H) : Labelling :=
  if isReturnLabel l then acc else
  match cur, acc.lookup l with
  | some c, none => (l, c) :: acc
  | _, _ => acc

theorem inferStep_snd (s : Step) (cur : Option H) (acc : Labelling) :
    (inferStep s cur acc).2 = match s with
      | .cond l | .jump l | .label l => note acc l cur
      | _ => acc := by
  cases s with
  | cond l | jump l | label l =>
    simp only [inferStep, note]
    by_cases hr : isReturnLabel l = true
    · simp [hr]
    · cases cur <;> cases ha : acc.lookup l <;> simp [hr]
  | _ => rfl

theorem note_cases (acc : Labelling) (l : String) (cur : Option H) :
    note acc l cur = acc ∨ ∃ c, cur = some c ∧ note acc l cur = (l, c) :: acc ∧ acc.lookup l = none ∧
      isReturnLabel l = false := by
  unfold note
  by_cases hr : isReturnLabel l = true
  · simp [hr]
  · cases cur with
    | none => simp
    | some c => cases ha : acc.lookup l <;> simp [hr]

theorem SubL_note {acc hs : Labelling} {l : String} {cur : Option H} (h : SubL acc hs)
    (ha : ∀ c, cur = some c → arrives hs l c = true) : SubL (note acc l cur) hs := by
  rcases note_cases acc l cur with e | ⟨c, hc, e, _, hr⟩ <;> rw [e]
  · exact h
  · have := ha c hc
    simp only [arrives, hr, Bool.false_eq_true, if_false, beq_iff_eq] at this
    exact SubL_cons h this

/-- after a live scan has been at a jump, the jump agrees with the labelling as it agrees with `hs` -/
theorem arrives_note {acc hs : Labelling} {l : String} {c : H} (h : SubL acc hs)
    (ha : arrives hs l c = true) : arrives (note acc l (some c)) l c = true := by
  unfold arrives note at *
  by_cases hr : isReturnLabel l = true
  · simpa [hr] using ha
  · simp only [hr, Bool.false_eq_true, if_false, beq_iff_eq] at ha ⊢
    cases hl : acc.lookup l with
    | none => simp
    | some x => simpa [hl] using (h l x hl).symm.trans ha

theorem all_arrives {h : Labelling} {l : String} {cur c' : Option H} {a : Option H}
    (hv : (if cur.all (arrives h l) then some a else none) = some c') :
    c' = a ∧ ∀ c, cur = some c → arrives h l c = true := by
  split at hv
  · rename_i ha
    refine ⟨by simpa using hv.symm, fun c hc => ?_⟩
    subst hc
    simpa using ha
  · cases hv

/-- one step: the invariants are kept, whatever the step adds, and the labelling as it is after the step passes
    it, at the inference's height -/
theorem step_sim {hs acc : Labelling} {s : Step} {cur curS curS' : Option H}
    (hsub : SubL acc hs) (hcur : CurLe cur curS) (hv : vstepL hs s curS = some curS') :
    SubL (inferStep s cur acc).2 hs ∧ CurLe (inferStep s cur acc).1 curS' ∧
      vstepL (inferStep s cur acc).2 s cur = some (inferStep s cur acc).1 := by
  rw [inferStep_snd]
  have hall : ∀ l, (∀ c, curS = some c → arrives hs l c = true) → cur.all (arrives (note acc l cur) l) = true := by
    intro l ha
    cases cur with
    | none => rfl
    | some c => exact arrives_note hsub (ha c (hcur c rfl))
  cases s with
  | delta d =>
    simp only [vstepL, Option.some.injEq] at hv
    subst hv
    refine ⟨hsub, ?_, rfl⟩
    intro c hc
    cases cur with
    | none => simp [inferStep] at hc
    | some c0 =>
      rw [hcur c0 rfl]
      simpa [inferStep] using hc
  | leave => exact ⟨hsub, CurLe_none _, rfl⟩
  | bad w => simp [vstepL] at hv
  | cond l =>
    obtain ⟨rfl, ha⟩ := all_arrives hv
    have : (inferStep (.cond l) cur acc).1 = cur := by
      simp only [inferStep]; split <;> try rfl
      split <;> rfl
    rw [this]
    exact ⟨SubL_note hsub fun c hc => ha c (hcur c hc), hcur, by simp only [vstepL, hall l ha, if_true]⟩
  | jump l =>
    obtain ⟨rfl, ha⟩ := all_arrives hv
    have : (inferStep (.jump l) cur acc).1 = none := by
      simp only [inferStep]; split <;> try rfl
      split <;> rfl
    rw [this]
    exact ⟨SubL_note hsub fun c hc => ha c (hcur c hc), CurLe_none _, by simp only [vstepL, hall l ha, if_true]⟩
  | label l =>
    by_cases hr : isReturnLabel l = true
    · simp only [inferStep, note, vstepL, hr, if_true]
      exact ⟨hsub, CurLe_none _, trivial⟩
    · simp only [inferStep, note, hr, Bool.false_eq_true, if_false]
      simp only [vstepL, hr, Bool.false_eq_true, if_false] at hv ⊢
      cases ha : acc.lookup l with
      | some x =>
        have hx := hsub l x ha
        simp only [hx] at hv
        cases cur with
        | none =>
          dsimp only
          refine ⟨hsub, ?_, by simp [ha]⟩
          intro c hc
          cases hc
          cases curS with
          | none => simpa using hv.symm
          | some cS =>
            simp only at hv
            split at hv
            · simpa using hv.symm
            · cases hv
        | some c =>
          dsimp only
          rw [hcur c rfl] at hv
          simp only at hv
          split at hv
          · rename_i he
            have he' : x = c := by simpa using he
            subst he'
            cases hv
            exact ⟨hsub, fun c hc => hc, by simp [ha]⟩
          · cases hv
      | none =>
        cases cur with
        | none => exact ⟨hsub, CurLe_none _, by simp [ha]⟩
        | some c =>
          have := hcur c rfl
          subst this
          cases hl : hs.lookup l with
          | none => simp [hl] at hv
          | some hl' =>
            simp only [hl] at hv
            split at hv
            · rename_i he
              have he' : hl' = c := by simpa using he
              subst he'
              cases hv
              exact ⟨SubL_cons hsub hl, fun c hc => hc, by simp [List.lookup]⟩
            · cases hv

/-- one step that adds nothing: the inferred labelling passes it, at the inference's height -/
theorem step_ok {hs acc : Labelling} {s : Step} {cur curS curS' : Option H}
    (hsub : SubL acc hs) (hcur : CurLe cur curS) (hv : vstepL hs s curS = some curS')
    (hfix : (inferStep s cur acc).2 = acc) :
    vstepL acc s cur = some (inferStep s cur acc).1 := by
  obtain ⟨_, _, hpass⟩ := step_sim hsub hcur hv
  rwa [hfix] at hpass

theorem rangeStep_mono {s : Step} {cur curS : Option H} (hcur : CurLe cur curS)
    (h : rangeStep s curS = true) : rangeStep s cur = true := by
  cases cur with
  | none => cases s <;> rfl
  | some c => rw [hcur c rfl] at h; exact h

/-! ### `infer` only adds, in front, keys of the skeleton that were not there -/

/-- the labels and jump targets of a skeleton -/
def stepKeys : List Step → List String
  | [] => []
  | .label l :: r => l :: stepKeys r
  | .cond l :: r => l :: stepKeys r
  | .jump l :: r => l :: stepKeys r
  | _ :: r => stepKeys r

theorem stepKeys_length : ∀ st : List Step, (stepKeys st).length ≤ st.length
  | [] => Nat.le_refl _
  | s :: r => by
    have := stepKeys_length r
    cases s <;> simp only [stepKeys, List.length_cons] <;> omega

theorem lookup_none_iff (acc : Labelling) (l : String) : acc.lookup l = none ↔ l ∉ acc.map Prod.fst := by
  rw [List.lookup_eq_none_iff]
  constructor
  · intro h hm
    obtain ⟨p, hp, e⟩ := List.mem_map.1 hm
    simpa [e] using h p hp
  · intro h p hp
    rw [bne_iff_ne]
    intro e
    exact h (List.mem_map.2 ⟨p, hp, e.symm⟩)

/-- a step leaves the labelling alone or puts one fresh key of the step in front -/
theorem inferStep_acc (s : Step) (cur : Option H) (acc : Labelling) :
    (inferStep s cur acc).2 = acc ∨
      ∃ l c, (inferStep s cur acc).2 = (l, c) :: acc ∧ acc.lookup l = none ∧ l ∈ stepKeys [s] := by
  rw [inferStep_snd]
  cases s with
  | cond l | jump l | label l =>
    rcases note_cases acc l cur with e | ⟨c, _, e, hl, _⟩
    · exact .inl e
    · exact .inr ⟨l, c, e, hl, by simp [stepKeys]⟩
  | _ => exact .inl rfl

theorem stepKeys_cons_sub (s : Step) (r : List Step) (l : String) :
    (l ∈ stepKeys [s] → l ∈ stepKeys (s :: r)) ∧ (l ∈ stepKeys r → l ∈ stepKeys (s :: r)) := by
  cases s <;> simp [stepKeys] <;> exact ⟨Or.inl, Or.inr⟩

/-- keys pairwise distinct, all of them labels or jump targets of `K` -/
def KeysIn (K : List String) (acc : Labelling) : Prop :=
  (acc.map Prod.fst).Nodup ∧ ∀ k, k ∈ acc.map Prod.fst → k ∈ K

theorem infer_grows : ∀ (st : List Step) (cur : Option H) (acc : Labelling),
    acc.length ≤ (infer st cur acc).length
  | [], _, _ => Nat.le_refl _
  | s :: r, cur, acc => by
    simp only [infer]
    have ih := infer_grows r (inferStep s cur acc).1 (inferStep s cur acc).2
    rcases inferStep_acc s cur acc with h | ⟨l, c, h, _, _⟩
    · rw [h] at ih ⊢; exact ih
    · rw [h] at ih ⊢
      simp only [List.length_cons] at ih
      omega

theorem infer_keysIn (K : List String) : ∀ (st : List Step) (cur : Option H) (acc : Labelling),
    (∀ k, k ∈ stepKeys st → k ∈ K) → KeysIn K acc → KeysIn K (infer st cur acc)
  | [], _, _, _, h => h
  | s :: r, cur, acc, hk, h => by
    simp only [infer]
    have hk' : ∀ k, k ∈ stepKeys r → k ∈ K := fun k hm => hk k ((stepKeys_cons_sub s r k).2 hm)
    rcases inferStep_acc s cur acc with e | ⟨l, c, e, hl, hm⟩
    · rw [e]; exact infer_keysIn K r _ acc hk' h
    · rw [e]
      refine infer_keysIn K r _ _ hk' ⟨?_, ?_⟩
      · simp only [List.map_cons, List.nodup_cons]
        exact ⟨(lookup_none_iff acc l).1 hl, h.1⟩
      · intro k hkm
        simp only [List.map_cons, List.mem_cons] at hkm
        rcases hkm with rfl | hkm
        · exact hk _ ((stepKeys_cons_sub s r _).1 hm)
        · exact h.2 k hkm

theorem keysIn_length {K : List String} {acc : Labelling} (h : KeysIn K acc) : acc.length ≤ K.length := by
  simpa using List.Nodup.length_le_of_subset h.1 h.2

/-- with enough fuel `inferFix` ends in a fixpoint of `infer` -/
theorem inferFix_fix (st : List Step) : ∀ (n : Nat) (acc : Labelling), KeysIn (stepKeys st) acc →
    (stepKeys st).length < n + acc.length →
    (infer st (some H.zero) (inferFix n st acc)).length = (inferFix n st acc).length
  | 0, acc, hk, hn => by
    have := keysIn_length hk
    omega
  | n + 1, acc, hk, hn => by
    simp only [inferFix]
    by_cases he : (infer st (some H.zero) acc).length = acc.length
    · simp only [he, beq_self_eq_true, if_true]
    · have hne : ((infer st (some H.zero) acc).length == acc.length) = false := by simpa using he
      simp only [hne, Bool.false_eq_true, if_false]
      have hg := infer_grows st (some H.zero) acc
      exact inferFix_fix st n _ (infer_keysIn _ st _ acc (fun k hm => hm) hk) (by omega)

/-- **the inference reaches a fixpoint** -/
theorem inferFix_fixpoint (st : List Step) :
    (infer st (some H.zero) (inferred st)).length = (inferred st).length := by
  unfold inferred
  refine inferFix_fix st _ [] ⟨List.nodup_nil, fun k hk => by cases hk⟩ ?_
  have := stepKeys_length st
  simp only [List.length_nil]
  omega

theorem infer_inv (hs : Labelling) : ∀ (st : List Step) (cur curS : Option H) (acc : Labelling),
    SubL acc hs → CurLe cur curS → verifyL hs st curS = .ok () → SubL (infer st cur acc) hs
  | [], _, _, _, h, _, _ => h
  | s :: r, cur, curS, acc, hsub, hcur, hv => by
    obtain ⟨c', h1, h2⟩ := (verifyL_cons_iff hs s r curS).mp hv
    obtain ⟨i1, i2, _⟩ := step_sim hsub hcur h1
    simp only [infer]
    exact infer_inv hs r _ c' _ i1 i2 h2

theorem inferFix_inv (hs : Labelling) (st : List Step) (hv : verifyL hs st (some H.zero) = .ok ()) :
    ∀ (n : Nat) (acc : Labelling), SubL acc hs → SubL (inferFix n st acc) hs
  | 0, _, h => h
  | n + 1, acc, h => by
    simp only [inferFix]
    split
    · exact h
    · exact inferFix_inv hs st hv n _ (infer_inv hs st _ _ acc h (fun c hc => hc) hv)

/-- the inferred labelling is part of every labelling that passes `verifyL` -/
theorem inferred_sub (hs : Labelling) (st : List Step) (hv : verifyL hs st (some H.zero) = .ok ()) :
    SubL (inferred st) hs :=
  inferFix_inv hs st hv _ [] (fun l c h => by simp [List.lookup] at h)

theorem fix_cons {s : Step} {r : List Step} {cur : Option H} {acc : Labelling}
    (h : (infer (s :: r) cur acc).length = acc.length) :
    (inferStep s cur acc).2 = acc ∧ (infer r (inferStep s cur acc).1 acc).length = acc.length := by
  simp only [infer] at h
  have hg := infer_grows r (inferStep s cur acc).1 (inferStep s cur acc).2
  rcases inferStep_acc s cur acc with e | ⟨l, c, e, _, _⟩
  · rw [e] at h; exact ⟨e, h⟩
  · rw [e] at hg h
    simp only [List.length_cons] at hg
    omega

/-- at a fixpoint of the inference the labelling passes `verifyL` wherever a labelling that contains
    it does -/
theorem verifyL_complete (hs : Labelling) : ∀ (st : List Step) (acc : Labelling) (cur curS : Option H),
    SubL acc hs → (infer st cur acc).length = acc.length → CurLe cur curS →
    verifyL hs st curS = .ok () → verifyL acc st cur = .ok ()
  | [], _, _, _, _, _, _, _ => rfl
  | s :: r, acc, cur, curS, hsub, hfix, hcur, hv => by
    obtain ⟨c', h1, h2⟩ := (verifyL_cons_iff hs s r curS).mp hv
    obtain ⟨f1, f2⟩ := fix_cons hfix
    obtain ⟨_, i2, _⟩ := step_sim hsub hcur h1
    refine (verifyL_cons_iff acc s r cur).mpr ⟨_, step_ok hsub hcur h1 f1, ?_⟩
    exact verifyL_complete hs r acc _ c' hsub f2 i2 h2

/-- the same with the range test -/
theorem verify_complete (hs : Labelling) : ∀ (st : List Step) (acc : Labelling) (cur curS : Option H),
    SubL acc hs → (infer st cur acc).length = acc.length → CurLe cur curS →
    verify hs st curS = .ok () → verify acc st cur = .ok ()
  | [], _, _, _, _, _, _, _ => rfl
  | s :: r, acc, cur, curS, hsub, hfix, hcur, hv => by
    obtain ⟨c', h1, hr, h2⟩ := (verify_cons_iff hs s r curS).mp hv
    obtain ⟨f1, f2⟩ := fix_cons hfix
    obtain ⟨_, i2, _⟩ := step_sim hsub hcur h1
    refine (verify_cons_iff acc s r cur).mpr ⟨_, step_ok hsub hcur h1 f1, rangeStep_mono hcur hr, ?_⟩
    exact verify_complete hs r acc _ c' hsub f2 i2 h2

/-- **if any labelling passes `verifyL`, the inferred one does** -/
theorem verifyL_inferred (st : List Step) (hs : Labelling) (hv : verifyL hs st (some H.zero) = .ok ()) :
    verifyL (inferred st) st (some H.zero) = .ok () :=
  verifyL_complete hs st _ _ _ (inferred_sub hs st hv) (inferFix_fixpoint st) (fun _ hc => hc) hv

/-- **if any labelling passes `verify`, the inferred one does** -/
theorem verify_inferred (st : List Step) (hs : Labelling) (hv : verify hs st (some H.zero) = .ok ()) :
    verify (inferred st) st (some H.zero) = .ok () :=
  verify_complete hs st _ _ _ (inferred_sub hs st (verifyL_of_verify hs st _ hv)) (inferFix_fixpoint st)
    (fun _ hc => hc) hv

/-! ### `verify` complains about a labelling that passes `verifyL` only for the range -/

theorem verify_of_verifyL (h : Labelling) : ∀ (st : List Step) (cur : Option H),
    verifyL h st cur = .ok () →
      verify h st cur = .ok () ∨ ∃ c, verify h st cur = .error (rangeMsg c) ∧ okH c = false
  | [], _, _ => Or.inl rfl
  | s :: r, cur, hv => by
    obtain ⟨c', h1, h2⟩ := (verifyL_cons_iff h s r cur).mp hv
    have ih := verify_of_verifyL h r c' h2
    rcases vstep_spec h s r cur with ⟨c'', e1, _, ⟨_, e3⟩ | ⟨_, c, hk, e3⟩⟩ | ⟨e1, _⟩
    · -- the range test passes: `verify` goes on exactly as `verifyL`
      rw [e3]
      rw [h1, Option.some.injEq] at e1
      exact e1 ▸ ih
    · exact Or.inr ⟨c, e3, hk⟩
    · rw [h1] at e1; cases e1

end ChibiVerif.Lemmas.C20
