/-
C01: what a node does to the registers (`arith_step`, `shift_step`, `un_step`: the operator after its operands have been
converted, from the per-sequence theorems of Lemmas/C01Frame.lean), facts about the specification they need
(`usualArith_comm`, `binop_gt_swap`), and `Ev`, the conclusion "the code runs, `%rax` satisfies `R`, nothing at or above `%rsp`
moved" under one name (the push/pop discipline in its terms, `bin_glue`, is in Lemmas/C01Plain.lean).  No statement of
Props/C01.lean contains `Ev`: `C01_value` and `C01_ptr_scale` / `_add` / `_diff` spell the conclusion out; their proofs obtain it
as an `Ev` from a judgment `EvG` in the frame `Frame.plain` (`Ev.of_EvG`, `value_pure`: Lemmas/C01Plain.lean) and take it apart.
-/
import ChibiVerif.Lemmas.C01Frame
import ChibiVerif.Lemmas.C01JumpCompile

namespace ChibiVerif.C01
open ChibiVerif.X86 ChibiVerif.Asm ChibiVerif.Spec.IntSpec ChibiVerif.Gen.CommonType ChibiVerif.C01Codegen

/-! ### facts about the specification -/

/-- the usual arithmetic conversions look at the promoted types only: sixteen cases instead of eighty-one -/
theorem usualArith_cases {P : ITy → ITy → ITy → Prop}
    (h : ∀ x y, (x = .i32 ∨ x = .u32 ∨ x = .i64 ∨ x = .u64) → (y = .i32 ∨ y = .u32 ∨ y = .i64 ∨ y = .u64) →
      P x y (usualArith x y)) (a b : ITy) : P (promote a) (promote b) (usualArith a b) := by
  have e : usualArith a b = usualArith (promote a) (promote b) := by
    unfold usualArith; rw [promote_promote, promote_promote]
  rw [e]; exact h _ _ (promote_mem a) (promote_mem b)

theorem usualArith_comm (a b : ITy) : usualArith a b = usualArith b a := by
  refine usualArith_cases (P := fun x y z => z = usualArith y x) (fun x y hx hy => ?_) a b |>.trans ?_
  · rcases hx with rfl | rfl | rfl | rfl <;> rcases hy with rfl | rfl | rfl | rfl <;> rfl
  · unfold usualArith; rw [promote_promote, promote_promote]
theorem usualArith_mem (a b : ITy) :
    usualArith a b = .i32 ∨ usualArith a b = .u32 ∨ usualArith a b = .i64 ∨ usualArith a b = .u64 :=
  usualArith_cases (P := fun _ _ z => z = .i32 ∨ z = .u32 ∨ z = .i64 ∨ z = .u64) (fun x y hx hy => by
    rcases hx with rfl | rfl | rfl | rfl <;> rcases hy with rfl | rfl | rfl | rfl <;> decide) a b
theorem usualArith_idem (a b : ITy) : usualArith (usualArith a b) (usualArith a b) = usualArith a b := by
  rcases usualArith_mem a b with h | h | h | h <;> rw [h] <;> rfl

theorem promote_eq : promote .bool = .i32 ∧ promote .i8 = .i32 ∧ promote .u8 = .i32 ∧ promote .i16 = .i32 ∧
    promote .u16 = .i32 ∧ promote .i32 = .i32 ∧ promote .u32 = .u32 ∧ promote .i64 = .i64 ∧ promote .u64 = .u64 :=
  ⟨rfl, rfl, rfl, rfl, rfl, rfl, rfl, rfl, rfl⟩

theorem convert_promote_of_inRange (t : ITy) (v : Int) (h : t.inRange v) : convert (promote t) v = v := by
  cases t <;> simp only [promote_eq, convert_eq, inRange_eq] at h ⊢
  case u32 => omega
  case u64 => omega
  case i64 => exact bmod64_of_range h
  all_goals exact bmod32_of_range (by omega)

theorem arith_gt_swap (t : ITy) (a b : Int) : arith .gt t a b = arith .lt t b a := by simp [arith]
theorem arith_ge_swap (t : ITy) (a b : Int) : arith .ge t a b = arith .le t b a := by simp [arith]

/-- `a > b`, `a >= b` are the nodes `b < a`, `b <= a` (parse.c `relational`), conversions included -/
theorem binop_gt_swap (ta tb : ITy) (a b : Int) : binop .gt ta tb a b = binop .lt tb ta b a := by
  simp [binop, binopOperandType, BinOp.isShift, usualArith_comm tb ta, arith]
theorem binop_ge_swap (ta tb : ITy) (a b : Int) : binop .ge ta tb a b = binop .le tb ta b a := by
  simp [binop, binopOperandType, BinOp.isShift, usualArith_comm tb ta, arith]

theorem lit_represents (t : ITy) (v : Int) (h : t.inRange v) : Represents t (BitVec.ofInt 64 (immOf v)) v :=
  represents_def.2 ⟨h, by
    rw [Low, show BitVec.ofInt 64 (immOf v) = BitVec.ofInt 64 v from BitVec.ofInt_bmod 64 v,
      BitVec.setWidth_ofInt_of_le (by cases t <;> decide)]⟩

/-! ### machine steps with symbolic operands -/

theorem lea_step (d : Int) (s : State) :
    X86.step ⟨"lea", [.m d "%rbp", .r "%rax"]⟩ s = some (s.set .rax (s.ea d .rbp)) := X86.step_lea d _ _ _ _ rfl rfl s

theorem movimm_step (n : Int) (s : State) :
    X86.step ⟨"mov", [.i n, .r "%rax"]⟩ s = some (s.set .rax (BitVec.ofInt 64 n)) := X86.step_mov_imm n _ _ rfl s

/-- result of evaluating a piece of code: `%rax` satisfies `R`, nothing at or above `%rsp` moved; in the words of the shared
    Lemmas/X86StateLemmas.lean: `X86.Post code m (fun m' => R (m'.get .rax) ∧ Keeps m m')` -/
def Ev (code : List Ins) (m : State) (R : BitVec 64 → Prop) : Prop :=
  ∃ m', X86.run code m = some m' ∧ R (m'.get .rax) ∧ Keeps m m'

/-! ### the steps of a node that touch registers only -/

/-- **a binary node that is not a shift, on registers**: with the operands (already converted to the common type) in `%rax` and
    `%rdi`, the sequence `gen_expr` selects for the node leaves the C11 result in its C11 type, where C11 defines it -/
theorem arith_step (k : NK) (op : BinOp) (hop : specOp k = some op) (hns : op.isShift = false) (ta tb : ITy)
    (va vb x : Int) (hx : binop op ta tb va vb = some x) (s : State)
    (ha : Represents (binopOperandType op ta tb) (s.get .rax) (convert (binopOperandType op ta tb) va))
    (hb : Represents (binopOperandType op ta tb) (s.get .rdi) (convert (binopOperandType op ta tb) vb)) :
    ∃ s', X86.run (opSeq k (binopOperandType op ta tb)) s = some s' ∧ Represents (binopType op ta tb) (s'.get .rax) x ∧
      Same s s' := by
  have ht : binopOperandType op ta tb = usualArith ta tb := by simp [binopOperandType, hns]
  simp only [binop, hns, Bool.false_eq_true, if_false] at hx
  rw [ht] at hx ha hb ⊢
  have hres : binopType op (usualArith ta tb) (usualArith ta tb) = binopType op ta tb := by
    simp only [binopType, binopOperandType, hns, Bool.false_eq_true, if_false, usualArith_idem]
  have := binop_run k op hop hns _ (usualArith_mem ta tb) s _ _ x ha hb hx
  rw [hres] at this
  exact this

/-- **a shift node, on registers**: the left operand promoted in `%rax`, the count (any type) in `%rdi` -/
theorem shift_step (k : NK) (op : BinOp) (hop : specOp k = some op) (hs : op.isShift = true) (ta tb : ITy)
    (va vb x : Int) (hx : binop op ta tb va vb = some x) (s : State)
    (ha : Represents (binopOperandType op ta tb) (s.get .rax) (convert (binopOperandType op ta tb) va))
    (hb : Represents tb (s.get .rdi) vb) :
    ∃ s', X86.run (opSeq k (binopOperandType op ta tb)) s = some s' ∧ Represents (binopType op ta tb) (s'.get .rax) x ∧
      Same s s' := by
  have ht : binopOperandType op ta tb = promote ta := by simp [binopOperandType, hs]
  have hrel : op.isRel = false := by cases op <;> simp [BinOp.isShift] at hs <;> rfl
  simp only [binop, hs, if_true] at hx
  have hres : binopType op ta tb = promote ta := by simp [binopType, hrel, ht]
  rw [ht] at hx ha ⊢
  rw [hres]
  rw [convert_promote_of_inRange tb vb hb.1] at hx
  exact shift_run k op hop hs _ (promote_mem ta) tb s _ _ x ha hb hx

theorem specOp_nodeOf (op : BinOp) (h : (nodeOf op).2 = false) : specOp (nodeOf op).1 = some op := by
  cases op <;> simp [nodeOf] at h <;> rfl

/-- a unary node: the conversion `add_type` inserts (none for `!`), then the operator -/
theorem un_step {op : UnOp} {te : ITy} {v x : Int} (hx : unop op te v = some x) (s : State) (h : Represents te (s.get .rax) v) :
    ∃ s', X86.run (unCode op te) s = some s' ∧ Represents (unopType op te) (s'.get .rax) x ∧ Same s s' := by
  cases op
  case plus => simp only [unop, Option.some.injEq] at hx; subst hx; exact cast_run te _ s v h
  case lognot => simp only [unop, Option.some.injEq] at hx; subst hx; exact lognot_run te s v h
  case neg =>
    rw [unop_promote .neg (by decide)] at hx
    obtain ⟨s1, r1, p1, m1⟩ := cast_run te (promote te) s v h
    obtain ⟨s2, r2, p2, m2⟩ := neg_run _ (promote_mem te) s1 _ x p1 hx
    exact ⟨s2, X86.run_append_some r1 r2, p2, m1.trans m2⟩
  case bitnot =>
    rw [unop_promote .bitnot (by decide)] at hx
    obtain ⟨s1, r1, p1, m1⟩ := cast_run te (promote te) s v h
    obtain ⟨s2, r2, p2, m2⟩ := bitnot_run _ (promote_mem te) s1 _ x p1 hx
    exact ⟨s2, X86.run_append_some r1 r2, p2, m1.trans m2⟩

/-! ### a concrete instance (non-vacuity of `C01_value`): `v0 + v1 * 2 > -(long)5 - v0` with `signed char v0 = -3`, `unsigned v1 = 7` -/

def exEnv : Env := ⟨[.i8, .u32], [-3, 7]⟩
def exOff : Nat → Int := fun i => -8 * ((i : Int) + 1)
def exE : E :=
  .bin .gt (.bin .add (.var 0) (.bin .mul (.var 1) (.lit .i32 2))) (.bin .sub (.un .neg (.cast .i64 (.lit .i32 5))) (.var 0))
/-- `%rsp` = 0x1000, `%rbp` = 0x2000, `v0` (one byte 0xfd) at -8(%rbp), `v1` (7,0,0,0) at -16(%rbp) -/
def exState : State :=
  { regs := fun r => match r with | .rsp => 0x1000#64 | .rbp => 0x2000#64 | _ => 0xdeadbeef#64,
    mem := fun a => if a = 0x1ff8#64 then 0xfd#8 else if a = 0x1ff0#64 then 7#8 else 0#8 }

theorem exFrame : FrameHolds exEnv exOff (depthE exE) exState := by
  refine ⟨by decide, ?_⟩
  intro i t v ht hv
  match i with
  | 0 =>
    simp [exEnv] at ht hv; subst ht; subst hv
    exact ⟨⟨by decide, by decide⟩, by decide, by decide⟩
  | 1 =>
    simp [exEnv] at ht hv; subst ht; subst hv
    exact ⟨⟨by decide, by decide⟩, by decide, by decide⟩
  | k + 2 => simp [exEnv] at ht

end ChibiVerif.C01
