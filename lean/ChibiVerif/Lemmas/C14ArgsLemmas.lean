/-
The argument-parser model (Model/C14Args.lean) for ANY `take_arg` list `ta` and ladder `tbl` that pass the table check
`inSync ta tbl`.  Then the arm a word selects evaluates `argv[++i]` exactly when `take_arg` lists the word
(`consumes_eq_contains`), so pass 2 cuts argv into the pieces pass 1 cuts it into (`optRun_take`, `optRun_skip`), and an
argv pass 1 accepts is a sequence of such pieces (`guardPass_rec`).  By induction over that sequence: pass 2 never reads
the NULL behind the last word (`optRun_good`, `parseWith_total`), and words appended to an accepted argv are parsed from
the state reached (`optRun_append`: the cc1 child's re-parse).
-/
import ChibiVerif.Model.C14Args
import ChibiVerif.Lemmas.C14Vocabulary

namespace ChibiVerif.C14Args

theorem firstArm_some {tbl : List Arm} {s : String} {a : Arm} (h : firstArm tbl s = some a) :
    a ∈ tbl ∧ a.matches s = true := by
  unfold firstArm at h
  exact ⟨List.mem_of_find?_eq_some h, by simpa using List.find?_some h⟩

theorem consumes_eq_contains {ta : List String} {tbl : List Arm} (hs : inSync ta tbl = true) (s : String) :
    consumes tbl s = ta.contains s := by
  unfold inSync at hs
  rw [Bool.and_eq_true] at hs
  obtain ⟨hA, hB⟩ := hs
  by_cases hc : ta.contains s = true
  · rw [hc]
    exact List.all_eq_true.mp hB s (by simpa using hc)
  · have hc' : ta.contains s = false := by simpa using hc
    rw [hc']
    unfold consumes
    cases hf : firstArm tbl s with
    | none => rfl
    | some a =>
      obtain ⟨hmem, hmatch⟩ := firstArm_some hf
      have hg := List.all_eq_true.mp hA a hmem
      unfold armGuarded at hg
      cases hr : a.readsNext with
      | false => exact hr
      | true =>
        exfalso
        rw [hr] at hg
        simp only [Bool.not_true, Bool.false_or] at hg
        unfold Arm.matches at hmatch
        obtain ⟨t, ht, hh⟩ := List.any_eq_true.mp hmatch
        have := List.all_eq_true.mp hg t ht
        cases t with
        | eq u =>
          simp only [Test.holds, decide_eq_true_eq] at hh
          subst hh
          simp only at this
          rw [this] at hc'
          cases hc'
        | pre u => simp at this

/-- `usage()`, `exit(0)`, `error()`: the ways the option loop ends the process -/
def Outcome.ended : Outcome → Bool
  | .usage _ | .exit0 | .diag _ => true
  | _ => false

theorem Outcome.ended_spec {o : Outcome} (h : o.ended = true) : (∀ site, o ≠ .nullDeref site) ∧ ∀ st, o ≠ .ok st := by
  cases o <;> simp_all [Outcome.ended]

/-- the loop either goes on with arrays free of NULLs or ends the process by `usage`/`exit`/`error` -/
def Good : Except Outcome St → Prop
  | .ok st => st.noNull
  | .error o => o.ended = true

theorem getAssoc_setAssoc_mem {α : Type} (k : String) (v : α) (l : List (String × α)) :
    ∀ e ∈ setAssoc k v l, e ∈ l ∨ e = (k, v) := by
  induction l with
  | nil => intro e he; simp [setAssoc] at he; exact Or.inr he
  | cons x r ih =>
    intro e he
    obtain ⟨k', v'⟩ := x
    simp only [setAssoc] at he
    split at he
    · rename_i hk
      simp only [List.mem_cons] at he
      rcases he with he | he
      · right; rw [he, hk]
      · left; exact List.mem_cons_of_mem _ he
    · simp only [List.mem_cons] at he
      rcases he with he | he
      · left; rw [he]; exact List.mem_cons_self
      · rcases ih e he with h | h
        · left; exact List.mem_cons_of_mem _ h
        · right; exact h

theorem getAssoc_setAssoc_ne {α : Type} {k k' : String} (v : α) (l : List (String × α)) (h : k' ≠ k) :
    getAssoc k' (setAssoc k v l) = getAssoc k' l := by
  induction l with
  | nil => simp [setAssoc, getAssoc, h.symm]
  | cons x r ih =>
    obtain ⟨a, b⟩ := x
    simp only [setAssoc]
    by_cases ha : a = k
    · subst ha
      simp [getAssoc, h.symm]
    · simp only [ha, if_false, getAssoc]
      by_cases ha' : a = k'
      · simp [ha']
      · simp [ha', ih]

theorem getAssoc_mem {α : Type} {k : String} {l : List (String × α)} {v : α} (h : getAssoc k l = some v) :
    (k, v) ∈ l := by
  induction l with
  | nil => simp [getAssoc] at h
  | cons x r ih =>
    obtain ⟨k', v'⟩ := x
    simp only [getAssoc] at h
    split at h
    · rename_i hk
      injection h with h
      rw [← hk, ← h]; exact List.mem_cons_self
    · exact List.mem_cons_of_mem _ (ih h)

theorem St.arr_noNull {st : St} (h : st.noNull) (a : String) : ∀ x ∈ st.arr a, x ≠ none := by
  intro x hx
  unfold St.arr at hx
  cases hg : getAssoc a st.arrs with
  | none => rw [hg] at hx; simp at hx
  | some l =>
    rw [hg] at hx
    exact h _ (getAssoc_mem hg) x hx

theorem St.push_noNull {st : St} (h : st.noNull) (a : String) (w : String) : (st.push a (some w)).noNull := by
  intro e he x hx
  unfold St.push at he
  rcases getAssoc_setAssoc_mem _ _ _ e he with h1 | h1
  · exact h e h1 x hx
  · subst h1
    simp only [List.mem_append, List.mem_singleton] at hx
    rcases hx with hx | hx
    · exact St.arr_noNull h a x hx
    · rw [hx]; simp

theorem evalSrc_next_irrelevant {cur : String} {n1 n2 : Option String} {s : Src} (h : s.isNext = false) :
    evalSrc cur n1 s = evalSrc cur n2 s := by
  cases s <;> simp [evalSrc, Src.isNext] at h ⊢

theorem execStmt_next_irrelevant (xt : List (String × FileType)) (cur : String) (n1 n2 : Option String) (st : St)
    (s : Stmt) (h : s.readsNext = false) : execStmt xt cur n1 st s = execStmt xt cur n2 st s := by
  cases s with
  | setFlag v b => rfl
  | usage n => rfl
  | exit0 => rfl
  | setStr v x | push v x | call v x | setX x | appendMT v x =>
    simp only [execStmt, evalSrc_next_irrelevant (n1 := n1) (n2 := n2) (by simpa [Stmt.readsNext, Stmt.src] using h)]

theorem execBody_next_irrelevant (xt : List (String × FileType)) (cur : String) (n1 n2 : Option String)
    (body : List Stmt) (h : body.any Stmt.readsNext = false) :
    ∀ st, execBody xt cur n1 st body = execBody xt cur n2 st body := by
  induction body with
  | nil => intro st; rfl
  | cons s r ih =>
    intro st
    simp only [List.any_cons, Bool.or_eq_false_iff] at h
    simp only [execBody, execStmt_next_irrelevant xt cur n1 n2 st s h.1]
    cases execStmt xt cur n2 st s with
    | ok st' => exact ih h.2 st'
    | error o => rfl

theorem stepOpt_next_irrelevant (tbl : List Arm) (xt : List (String × FileType)) (cur : String) (n1 n2 : Option String)
    (st : St) (h : consumes tbl cur = false) : stepOpt tbl xt cur n1 st = stepOpt tbl xt cur n2 st := by
  unfold stepOpt
  unfold consumes at h
  cases hf : firstArm tbl cur with
  | none => rfl
  | some arm =>
    rw [hf] at h
    simp only
    rw [execBody_next_irrelevant xt cur n1 n2 arm.body (by simpa [Arm.readsNext] using h)]

theorem stepOpt_flag {tbl : List Arm} {xt : List (String × FileType)} {cur : String} {next : Option String} {st st' : St}
    {c : Bool} (h : stepOpt tbl xt cur next st = .ok (st', c)) : c = consumes tbl cur := by
  unfold stepOpt at h
  unfold consumes
  cases hf : firstArm tbl cur with
  | none =>
    rw [hf] at h
    simp only at h
    split at h
    · cases h
    · injection h with h; injection h with _ h2; exact h2.symm
  | some arm =>
    rw [hf] at h
    simp only at h
    cases he : execBody xt cur next st arm.body with
    | ok s2 => rw [he] at h; injection h with h; injection h with _ h2; exact h2.symm
    | error o => rw [he] at h; cases h

theorem evalSrc_some (cur w : String) (s : Src) : ∃ v, evalSrc cur (some w) s = some v := by
  cases s <;> exact ⟨_, rfl⟩

/- The `Good` family is stated for a next word that exists; a step that does not look at the next word is brought
   to that form by `stepOpt_next_irrelevant` (in `stepOpt_good`), so no level below carries the case distinction. -/
theorem execStmt_good (xt : List (String × FileType)) (cur w : String) (st : St) (s : Stmt) (hst : st.noNull) :
    Good (execStmt xt cur (some w) st s) := by
  cases s with
  | setFlag v b | setStr v x => exact hst
  | push a x =>
    obtain ⟨v, hv⟩ := evalSrc_some cur w x
    simp only [execStmt, hv]
    exact St.push_noNull hst a v
  | call f x =>
    obtain ⟨v, hv⟩ := evalSrc_some cur w x
    simp only [execStmt, hv]
    exact St.push_noNull hst f v
  | setX x =>
    obtain ⟨v, hv⟩ := evalSrc_some cur w x
    simp only [execStmt, hv]
    cases lookupX xt v with
    | some t => exact hst
    | none => rfl
  | appendMT q x =>
    obtain ⟨v, hv⟩ := evalSrc_some cur w x
    simp only [execStmt, hv]
    exact hst
  | usage n => rfl
  | exit0 => rfl

theorem execBody_good (xt : List (String × FileType)) (cur w : String) (body : List Stmt) :
    ∀ st : St, st.noNull → Good (execBody xt cur (some w) st body) := by
  induction body with
  | nil => intro st hst; exact hst
  | cons s r ih =>
    intro st hst
    have h1 := execStmt_good xt cur w st s hst
    simp only [execBody]
    cases he : execStmt xt cur (some w) st s with
    | ok st' => rw [he] at h1; exact ih st' h1
    | error o => rw [he] at h1; exact h1

theorem stepOpt_good (tbl : List Arm) (xt : List (String × FileType)) (cur : String) (next : Option String) (st : St)
    (hn : next = none → consumes tbl cur = false) (hst : st.noNull) :
    Good ((stepOpt tbl xt cur next st).map Prod.fst) := by
  have some_ : ∀ w, Good ((stepOpt tbl xt cur (some w) st).map Prod.fst) := fun w => by
    unfold stepOpt
    cases hf : firstArm tbl cur with
    | none =>
      by_cases hd : isDashWord cur = true
      · simp only [hd, if_true]; rfl
      · simp only [hd]; exact St.push_noNull hst _ cur
    | some arm =>
      have := execBody_good xt cur w arm.body st hst
      simp only
      cases he : execBody xt cur (some w) st arm.body with
      | ok st' => rw [he] at this; exact this
      | error o => rw [he] at this; exact this
  cases next with
  | none => rw [stepOpt_next_irrelevant tbl xt cur none (some cur) st (hn rfl)]; exact some_ cur
  | some w => exact some_ w

/-! ### the two passes walk argv in step

Under `inSync` pass 2 cuts argv exactly as pass 1 does: a word `take_arg` lists goes with the word after it
(`optRun_take`), any other word alone, and then the word after it plays no part (`optRun_skip`).  An argv pass 1
accepts is a sequence of such pieces (`guardPass_rec`); the three theorems below are inductions over that sequence. -/

theorem guardPass_take {ta : List String} {a : String} (b : String) (r : List String) (hin : ta.contains a = true) :
    guardPass ta (a :: b :: r) = guardPass ta r := by
  rw [guardPass, if_pos hin]

theorem guardPass_skip {ta : List String} {a : String} (r : List String) (hin : ta.contains a = false) :
    guardPass ta (a :: r) = guardPass ta r := by
  cases r with
  | nil => simp only [guardPass, hin]; rfl
  | cons b r => rw [guardPass, if_neg (Bool.eq_false_iff.mp hin)]

theorem guardPass_rec {ta : List String} {motive : List String → Prop} (nil : motive [])
    (skip : ∀ a r, ta.contains a = false → motive r → motive (a :: r))
    (take : ∀ a b r, ta.contains a = true → motive r → motive (a :: b :: r)) :
    ∀ args, guardPass ta args = true → motive args := by
  intro args
  -- the arms of `guardPass`: no word; a last word `a`; `a :: b :: r` where `take_arg(a)` (pass 1 skips `b`); `a :: b :: r` otherwise
  induction args using guardPass.induct ta with
  | case1 =>
    intro _
    exact nil
  | case2 a =>
    -- a last word is accepted only if `take_arg` does not list it: a piece `skip` in front of no word
    intro hg
    have hin : ta.contains a = false := by simpa [guardPass] using hg
    exact skip a [] hin nil
  | case3 a b r hin ih =>
    intro hg
    rw [guardPass_take b r hin] at hg
    exact take a b r hin (ih hg)
  | case4 a b r hin ih =>
    have hin' : ta.contains a = false := by simpa using hin
    intro hg
    rw [guardPass_skip _ hin'] at hg
    exact skip a (b :: r) hin' (ih hg)

theorem optRun_take {ta : List String} {tbl : List Arm} (hs : inSync ta tbl = true) (xt : List (String × FileType))
    {a : String} (b : String) (r : List String) (st : St) (hin : ta.contains a = true) :
    optRun tbl xt (a :: b :: r) st = stepOpt tbl xt a (some b) st >>= fun p => optRun tbl xt r p.1 := by
  simp only [optRun]
  cases he : stepOpt tbl xt a (some b) st with
  | error o => rfl
  | ok p =>
    obtain ⟨st', c⟩ := p
    cases (stepOpt_flag he).trans ((consumes_eq_contains hs a).trans hin)
    rfl

theorem optRun_skip {ta : List String} {tbl : List Arm} (hs : inSync ta tbl = true) (xt : List (String × FileType))
    {a : String} (r : List String) (st : St) (hin : ta.contains a = false) :
    optRun tbl xt (a :: r) st = stepOpt tbl xt a none st >>= fun p => optRun tbl xt r p.1 := by
  have hc : consumes tbl a = false := (consumes_eq_contains hs a).trans hin
  cases r with
  | nil =>
    simp only [optRun]
    cases stepOpt tbl xt a none st with
    | error o => rfl
    | ok p => rfl
  | cons b r =>
    simp only [optRun]
    rw [stepOpt_next_irrelevant tbl xt a (some b) none st hc]
    cases he : stepOpt tbl xt a none st with
    | error o => rfl
    | ok p =>
      obtain ⟨st', c⟩ := p
      cases (stepOpt_flag he).trans hc
      rfl

theorem optRun_good {ta : List String} {tbl : List Arm} (hs : inSync ta tbl = true) (xt : List (String × FileType)) :
    ∀ args, guardPass ta args = true → ∀ st : St, st.noNull → Good (optRun tbl xt args st) := by
  refine guardPass_rec (fun st hst => hst) (fun a r hin ih st hst => ?_) (fun a b r hin ih st hst => ?_)
  · rw [optRun_skip hs xt r st hin]
    have h := stepOpt_good tbl xt a none st (fun _ => (consumes_eq_contains hs a).trans hin) hst
    revert h
    cases stepOpt tbl xt a none st with
    | error o => exact id
    | ok p => exact ih p.1
  · rw [optRun_take hs xt b r st hin]
    have h := stepOpt_good tbl xt a (some b) st nofun hst
    revert h
    cases stepOpt tbl xt a (some b) st with
    | error o => exact id
    | ok p => exact ih p.1

theorem guardPass_append {ta : List String} (tl : List String) :
    ∀ args, guardPass ta args = true → guardPass ta (args ++ tl) = guardPass ta tl :=
  guardPass_rec rfl (fun a r hin ih => by rw [List.cons_append, guardPass_skip _ hin, ih])
    (fun a b r hin ih => by rw [List.cons_append, List.cons_append, guardPass_take _ _ hin, ih])

theorem optRun_append {ta : List String} {tbl : List Arm} (hs : inSync ta tbl = true) (xt : List (String × FileType))
    (tl : List String) : ∀ args, guardPass ta args = true →
      ∀ st, optRun tbl xt (args ++ tl) st = optRun tbl xt args st >>= optRun tbl xt tl := by
  refine guardPass_rec (fun st => rfl) (fun a r hin ih st => ?_) (fun a b r hin ih st => ?_)
  · rw [List.cons_append, optRun_skip hs xt _ st hin, optRun_skip hs xt r st hin]
    cases stepOpt tbl xt a none st with
    | error o => rfl
    | ok p => exact ih p.1
  · rw [List.cons_append, List.cons_append, optRun_take hs xt b _ st hin, optRun_take hs xt b r st hin]
    cases stepOpt tbl xt a (some b) st with
    | error o => rfl
    | ok p => exact ih p.1

/-! ### `parse_args` as a whole, for any tables that pass the table check -/

theorem finish_noNull {s st : St} (h : finish s = .ok st) (hs : s.noNull) : st.noNull := by
  unfold finish at h
  split at h
  · cases h
  · injection h with h
    subst h
    split <;> exact hs

theorem parseWith_total {ta : List String} {tbl : List Arm} (hs : inSync ta tbl = true) (xt : List (String × FileType))
    {st0 : St} (h0 : st0.noNull) (args : List String) :
    (∀ site, parseWith ta tbl xt st0 args ≠ .nullDeref site) ∧ ∀ st, parseWith ta tbl xt st0 args = .ok st → st.noNull := by
  unfold parseWith
  by_cases hg : guardPass ta args = true
  · rw [if_pos hg]
    have hgood := optRun_good hs xt args hg st0 h0
    cases hr : optRun tbl xt args st0 with
    | ok s =>
      rw [hr] at hgood
      refine ⟨fun site => ?_, fun st h => finish_noNull h hgood⟩
      show finish s ≠ .nullDeref site
      unfold finish
      split <;> intro h <;> cases h
    | error o =>
      rw [hr] at hgood
      exact ⟨(Outcome.ended_spec hgood).1, fun st h => absurd h ((Outcome.ended_spec hgood).2 st)⟩
  · rw [if_neg hg]
    exact ⟨nofun, nofun⟩

theorem parseWith_ok {ta : List String} {tbl : List Arm} (hs : inSync ta tbl = true) (xt : List (String × FileType))
    {st0 : St} (h0 : st0.noNull) {args : List String} {st : St} (h : parseWith ta tbl xt st0 args = .ok st) :
    guardPass ta args = true ∧ ∃ s, optRun tbl xt args st0 = .ok s ∧ finish s = .ok st := by
  unfold parseWith at h
  by_cases hg : guardPass ta args = true
  · refine ⟨hg, ?_⟩
    rw [if_pos hg] at h
    cases hr : optRun tbl xt args st0 with
    | ok s => rw [hr] at h; exact ⟨s, rfl, h⟩
    | error o =>
      have hgood := optRun_good hs xt args hg st0 h0
      rw [hr] at h hgood
      exact absurd h ((Outcome.ended_spec hgood).2 st)
  · rw [if_neg hg] at h; cases h

end ChibiVerif.C14Args
