/-
C13 — code generation (Model/Codegen.lean, the byte-exact double of codegen.c that C20's tie keeps honest): on trees whose
nodes carry the types, objects and members that codegen.c dereferences, `gen_expr` / `gen_addr` / `gen_stmt` end in code or in
one of the three located diagnostics (`error_tok`: "not an lvalue", "invalid expression", "invalid statement") — never in a
NULL dereference, `unreachable()`, an `assert`, or a register table indexed out of range.

Scope (`okE/okA/okS`): every expression kind except calls and the two atomic builtins — `ND_VLA_PTR` as an lvalue only (`okA`;
`gen_expr` has no arm for it and parse.c builds it only as the left side of an assignment) —, every statement kind; `return`
of a struct/union value is outside (copy_struct_reg/mem have their own asserts).  Core Lean only.
-/
import ChibiVerif.Model.Codegen

namespace ChibiVerif.C13Codegen
open ChibiVerif.Ast ChibiVerif.Asm ChibiVerif.Codegen

/-- the `error_tok` sites of codegen.c, by their message (positions are not modelled) -/
def Located (e : String) : Prop :=
  e = "error_tok: not an lvalue" ∨ e = "error_tok: invalid expression" ∨ e = "error_tok: invalid statement"

/-- every failure of the action is a located diagnostic -/
structure Clean {α : Type} (m : M α) : Prop where
  out : ∀ s e, m s = .error e → Located e

theorem Clean.pure {α : Type} (a : α) : Clean (Pure.pure a : M α) := ⟨by intro s e h; cases h⟩

theorem Clean.bind {α β : Type} {m : M α} {f : α → M β} (hm : Clean m) (hf : ∀ a, Clean (f a)) : Clean (m >>= f) := by
  constructor
  intro s e h
  have h' : M.bind m f s = .error e := h
  unfold M.bind at h'
  split at h'
  · cases h'; exact hm.out s _ ‹_›
  · split at h'
    · cases h'; exact (hf _).out _ _ ‹_›
    · cases h'

theorem Clean.seq {α β : Type} {m : M α} {k : M β} (hm : Clean m) (hk : Clean k) : Clean (m >>= fun _ => k) :=
  Clean.bind hm (fun _ => hk)

theorem Clean.ite {α : Type} {c : Prop} [Decidable c] {t e : M α} (ht : Clean t) (he : Clean e) :
    Clean (if c then t else e) := by
  split
  · exact ht
  · exact he

theorem Clean.emit (l : Line) : Clean (emit l) := ⟨by intro s e h; cases h⟩
theorem Clean.emits (ls : List Line) : Clean (emits ls) := ⟨by intro s e h; cases h⟩
theorem Clean.addDepth (d : Int) : Clean (addDepth d) := ⟨by intro s e h; cases h⟩
theorem Clean.count : Clean Codegen.count := ⟨by intro s e h; cases h⟩
theorem Clean.getDepth : Clean Codegen.getDepth := ⟨by intro s e h; cases h⟩
theorem Clean.tok {α : Type} {msg : String} (h : Located msg) : Clean (fail msg : M α) := by
  constructor
  intro s e he
  cases he
  exact h

theorem Clean.notLvalue {α : Type} : Clean (fail "error_tok: not an lvalue" : M α) := Clean.tok (Or.inl rfl)
theorem Clean.invalidExpr {α : Type} : Clean (fail "error_tok: invalid expression" : M α) := Clean.tok (Or.inr (Or.inl rfl))
theorem Clean.invalidStmt {α : Type} : Clean (fail "error_tok: invalid statement" : M α) := Clean.tok (Or.inr (Or.inr rfl))

/-- `pure a >>= f` is `f a` as far as failures go -/
theorem Clean.bind_pure {α β : Type} {a : α} {f : α → M β} (h : Clean (f a)) : Clean ((Pure.pure a : M α) >>= f) := by
  constructor
  intro s e he
  have h' : M.bind (M.pure a) f s = .error e := he
  unfold M.bind M.pure at h'
  simp only at h'
  split at h'
  · cases h'; exact h.out s _ ‹_›
  · cases h'

theorem Clean.needTy {what : String} {o : Option Ty} (h : o.isSome = true) : Clean (needTy what o) := by
  obtain ⟨t, rfl⟩ := Option.isSome_iff_exists.1 h
  exact Clean.pure t

theorem Clean.needVar (what : String) (v : Var) : Clean (needVar what (some v)) := Clean.pure v

theorem Clean.bind_needTy {β : Type} {what : String} {t : Ty} {f : Ty → M β} (h : Clean (f t)) :
    Clean (Codegen.needTy what (some t) >>= f) := Clean.bind_pure h

/-- The descent through a `do` block: the closure rules and the primitives above, the facts in the context, `split` on a
    `match`.  A rule is tried up to reducible unfolding only, so that one that does not fit is rejected on the head symbol and
    not by evaluating the block. -/
macro "clean" : tactic => `(tactic| repeat' with_reducible first
  | apply Clean.bind
  | intro _
  | exact Clean.emit _
  | apply Clean.ite
  | exact Clean.pure _
  | assumption
  | exact Clean.emits _
  | exact Clean.addDepth _
  | exact Clean.count
  | exact Clean.needTy (by assumption)
  | exact Clean.invalidExpr
  | split)

theorem push_clean : Clean push := by unfold push; clean
theorem pop_clean (r : String) : Clean (pop r) := by unfold pop; clean
theorem pushf_clean : Clean pushf := by unfold pushf; clean
theorem popf_clean (r : Nat) : Clean (popf r) := by unfold popf; clean
theorem discard_clean (ty : Option Ty) : Clean (Codegen.discard ty) := by unfold Codegen.discard; clean
theorem loc_clean (i : NInfo) : Clean (loc i) := Clean.emit _

theorem load_clean {o : Option Ty} (h : o.isSome = true) : Clean (load o) := by unfold load; clean
theorem store_clean {o : Option Ty} (h : o.isSome = true) : Clean (store o) := by
  unfold store
  have := pop_clean "%rdi"
  clean
theorem cmpZero_clean {o : Option Ty} (h : o.isSome = true) : Clean (cmpZero o) := by unfold cmpZero; clean

theorem cast_clean {fr to : Option Ty} (hf : fr.isSome = true) (ht : to.isSome = true) : Clean (Codegen.cast fr to) := by
  unfold Codegen.cast
  have h1 := discard_clean fr
  have h2 := cmpZero_clean hf
  apply Clean.bind (Clean.needTy ht); intro to'
  apply Clean.ite h1
  apply Clean.ite (by clean)
  apply Clean.bind (Clean.needTy hf); intro fr'
  dsimp only
  clean

theorem addrVar_clean (env : Env) (i : NInfo) (v : Var) (hv : v.ty.isSome = true) (hi : i.ty.isSome = true) :
    Clean (addrVar env i (some v)) := by
  unfold addrVar
  apply Clean.bind_pure
  clean

theorem addrMember_clean {a : M Unit} (ha : Clean a) (m : Member) : Clean (addrMember a (some m)) := by
  unfold addrMember; clean

theorem numArm_clean (i : NInfo) (val : Int) (a b c d : Nat) (hi : i.ty.isSome = true) : Clean (numArm i val a b c d) := by
  unfold numArm; clean

theorem negArm_clean (i : NInfo) {l : M Unit} (hl : Clean l) (hi : i.ty.isSome = true) : Clean (negArm i l) := by
  unfold negArm; clean

theorem bitfieldExtract_clean (env : Env) (m : Member) (h : (env.ty? m.ty).isSome = true) :
    Clean (bitfieldExtract env m) := by
  unfold bitfieldExtract; clean

/-- what a bit-field member needs: its declared type is in the type table -/
def memOK (env : Env) (m : Member) : Bool := !m.isBitfield || (env.ty? m.ty).isSome

theorem memberArm_clean (env : Env) (i : NInfo) {a : M Unit} (ha : Clean a) (m : Member) (hi : i.ty.isSome = true)
    (hm : memOK env m = true) : Clean (memberArm i a (some m) env) := by
  unfold memberArm
  apply Clean.bind (addrMember_clean ha m); intro _
  apply Clean.bind (load_clean hi); intro _
  dsimp only
  split
  · rename_i hb
    rw [memOK, hb] at hm
    exact bitfieldExtract_clean env m hm
  · exact Clean.pure _

/-- `hbf` is `bfOK env l` for `bf = bitfieldOf l` -/
theorem assignArm_clean (env : Env) (i : NInfo) (bf : Option Member) {a r : M Unit} (ha : Clean a) (hr : Clean r)
    (hi : i.ty.isSome = true)
    (hbf : (match bf with | some m => (env.ty? m.ty).isSome | none => true) = true) :
    Clean (assignArm env i bf a r) := by
  unfold assignArm
  have h0 := push_clean
  have h2 := store_clean hi
  cases bf with
  | none => clean
  | some m =>
    have h1 := load_clean hbf
    have h3 := bitfieldExtract_clean env m hbf
    clean

theorem condArm_clean {c t e : M Unit} {cty : Option Ty} (hc : Clean c) (ht : Clean t) (he : Clean e)
    (hct : cty.isSome = true) : Clean (condArm c cty t e) := by
  unfold condArm
  have := cmpZero_clean hct
  clean

theorem notArm_clean {l : M Unit} {lty : Option Ty} (hl : Clean l) (hlt : lty.isSome = true) : Clean (notArm l lty) := by
  unfold notArm
  have := cmpZero_clean hlt
  clean

theorem logandArm_clean {l r : M Unit} {lty rty : Option Ty} (hl : Clean l) (hr : Clean r) (hlt : lty.isSome = true)
    (hrt : rty.isSome = true) : Clean (logandArm l lty r rty) := by
  unfold logandArm
  have h1 := cmpZero_clean hlt
  have h2 := cmpZero_clean hrt
  clean

theorem logorArm_clean {l r : M Unit} {lty rty : Option Ty} (hl : Clean l) (hr : Clean r) (hlt : lty.isSome = true)
    (hrt : rty.isSome = true) : Clean (logorArm l lty r rty) := by
  unfold logorArm
  have h1 := cmpZero_clean hlt
  have h2 := cmpZero_clean hrt
  clean

theorem binopFlo_clean (sz : String) (op : BinOp) {l r : M Unit} (hl : Clean l) (hr : Clean r) : Clean (binopFlo sz op l r) := by
  unfold binopFlo
  have h1 := pushf_clean
  have h2 := popf_clean 1
  clean

theorem binopLd_clean (op : BinOp) {l r : M Unit} (hl : Clean l) (hr : Clean r) : Clean (binopLd op l r) := by
  unfold binopLd; clean

theorem binopInt_clean (i : NInfo) (op : BinOp) (lty : Ty) {l r : M Unit} (hl : Clean l) (hr : Clean r)
    (hi : i.ty.isSome = true) : Clean (binopInt i op lty l r) := by
  unfold binopInt
  have h1 := push_clean
  have h2 := pop_clean "%rdi"
  clean

theorem binopArm_clean (i : NInfo) (op : BinOp) {l r : M Unit} {lty : Option Ty} (hl : Clean l) (hr : Clean r)
    (hlt : lty.isSome = true) (hi : i.ty.isSome = true) : Clean (binopArm i op l lty r) := by
  unfold binopArm
  apply Clean.bind (Clean.needTy hlt); intro t
  split
  iterate 2 exact binopFlo_clean _ op hl hr
  · exact binopLd_clean op hl hr
  · exact binopInt_clean i op t hl hr hi

theorem memzeroArm_clean (env : Env) (v : Var) (hv : v.ty.isSome = true) : Clean (memzeroArm env (some v)) := by
  unfold memzeroArm
  apply Clean.bind_pure
  clean

theorem ifArm_clean {c t : M Unit} {cty : Option Ty} (hc : Clean c) (ht : Clean t) (hct : cty.isSome = true)
    (e : Option (M Unit)) (he : ∀ x, e = some x → Clean x) : Clean (ifArm c cty t e) := by
  unfold ifArm
  have h1 := cmpZero_clean hct
  cases e with
  | none => clean
  | some x => have := he x rfl; clean

theorem forArm_clean (init : Option (M Unit)) (c : Option (M Unit × Option Ty)) {t : M Unit} (inc : Option (M Unit × Option Ty))
    (brk cont : Option String) (hinit : ∀ x, init = some x → Clean x)
    (hc : ∀ x ty, c = some (x, ty) → Clean x ∧ ty.isSome = true) (ht : Clean t)
    (hinc : ∀ x ty, inc = some (x, ty) → Clean x) : Clean (forArm init c t inc brk cont) := by
  unfold forArm
  apply Clean.bind Clean.count; intro k
  dsimp only
  -- each optional operand, when present, is run first; what follows is the same in both cases
  cases init
  case' some x => apply Clean.bind (hinit x rfl); intro _
  all_goals
    apply Clean.bind (Clean.emit _); intro _
    cases c
    case' some p =>
      obtain ⟨hx, hct⟩ := hc p.1 p.2 rfl
      apply Clean.bind hx; intro _
      apply Clean.bind (cmpZero_clean hct); intro _
      apply Clean.bind (Clean.emit _); intro _
    all_goals
      apply Clean.bind ht; intro _
      apply Clean.bind (Clean.emit _); intro _
      cases inc
      case' some p =>
        apply Clean.bind (hinc p.1 p.2 rfl); intro _
        apply Clean.bind (discard_clean _); intro _
      all_goals clean

theorem doArm_clean {t c : M Unit} {cty : Option Ty} (ht : Clean t) (hc : Clean c) (hct : cty.isSome = true)
    (brk cont : Option String) : Clean (doArm t c cty brk cont) := by
  unfold doArm
  have := cmpZero_clean hct
  clean

theorem switchArm_clean {c t : M Unit} {cty : Option Ty} (hc : Clean c) (ht : Clean t) (hct : cty.isSome = true)
    (brk : Option String) (cases : List Case) (dflt : Option (Option String)) :
    Clean (switchArm c cty t brk cases dflt) := by
  unfold switchArm
  clean

/-- `return` without a value, or of a value that is not a struct/union -/
theorem returnArm_clean (env : Env) (lhs : Option (M Unit × Option Ty))
    (h : ∀ x ty, lhs = some (x, ty) → Clean x ∧ ∃ t, ty = some t ∧ t.kind ≠ .struct ∧ t.kind ≠ .union) :
    Clean (returnArm env lhs) := by
  unfold returnArm
  cases lhs with
  | none => dsimp only; clean
  | some p =>
    obtain ⟨x, ty⟩ := p
    obtain ⟨hx, t, rfl, h1, h2⟩ := h x _ rfl
    dsimp only
    apply Clean.bind hx; intro _
    apply Clean.bind_needTy
    split
    · exact absurd ‹_› h1
    · exact absurd ‹_› h2
    · clean

def varOK (v? : Option Var) : Bool :=
  match v? with
  | some v => v.ty.isSome
  | none => false

def memOK? (env : Env) (m? : Option Member) : Bool :=
  match m? with
  | some m => memOK env m
  | none => false

/-- the left operand of an assignment, if it is a bit-field, has its declared type in the type table -/
def bfOK (env : Env) (l : Node) : Bool :=
  match bitfieldOf l with
  | some m => (env.ty? m.ty).isSome
  | none => true

/-- a value that `return` hands back in registers without copy_struct_reg/mem -/
def scalarTy (o : Option Ty) : Bool :=
  match o with
  | some t => t.kind != .struct && t.kind != .union
  | none => false

def isNull : Node → Bool
  | .null => true
  | _ => false

mutual
  /-- expressions `gen_expr` is proved not to abort on: every kind but calls and the atomic builtins; each node carries
      what its arm dereferences (`node->ty`, `node->var->ty`, `node->member`, the operand types `cmp_zero`/`cast` look at) -/
  def okE (env : Env) : Node → Bool
    | .nullExpr _ => true
    | .num i _ _ _ _ _ => i.ty.isSome
    | .neg i l => okE env l && i.ty.isSome
    | .var i v => varOK v && i.ty.isSome
    | .member i l m => okA env l && i.ty.isSome && memOK? env m
    | .deref i l => okE env l && i.ty.isSome
    | .addr _ l => okA env l
    | .assign i l r => okA env l && okE env r && i.ty.isSome && bfOK env l
    | .stmtExpr _ body => okB env body
    | .comma _ l r => okE env l && okE env r
    | .cast i l => okE env l && i.ty.isSome && l.ty?.isSome
    | .memzero _ v => varOK v
    | .cond _ c t e => okE env c && okE env t && okE env e && c.ty?.isSome
    | .not _ l => okE env l && l.ty?.isSome
    | .bitnot _ l => okE env l
    | .logand _ l r => okE env l && okE env r && l.ty?.isSome && r.ty?.isSome
    | .logor _ l r => okE env l && okE env r && l.ty?.isSome && r.ty?.isSome
    | .labelVal _ _ _ => true
    | .binop i _ l r => !isNull l && okE env l && okE env r && l.ty?.isSome && i.ty.isSome
    | _ => false
  /-- lvalues: everything `gen_addr` does not know ends in "not an lvalue" -/
  def okA (env : Env) : Node → Bool
    | .null => false
    | .var i v => varOK v && i.ty.isSome
    | .deref _ l => okE env l
    | .comma _ l r => okE env l && okA env r
    | .member _ l m => okA env l && m.isSome
    | .assign i l r => i.ty.isSome && okA env l && okE env r && bfOK env l
    | .cond i c t e => i.ty.isSome && okE env c && okE env t && okE env e && c.ty?.isSome
    | .vlaPtr _ v => v.isSome
    | .funcall _ _ _ _ _ => false
    | _ => true
  def okS (env : Env) : Node → Bool
    | .null => false
    | .if_ _ c t e => okE env c && c.ty?.isSome && okS env t && (isNull e || okS env e)
    | .for_ _ init c inc t _ _ => (isNull init || okS env init) && (isNull c || (okE env c && c.ty?.isSome)) &&
        (isNull inc || okE env inc) && okS env t
    | .do_ _ t c _ _ => okS env t && okE env c && c.ty?.isSome
    | .switch_ _ c t _ _ _ => okE env c && c.ty?.isSome && okS env t
    | .case_ _ _ _ _ l => okS env l
    | .block _ body => okL env body
    | .goto_ _ _ _ => true
    | .gotoExpr _ l => okE env l
    | .label _ _ _ l => okS env l
    | .ret _ l => isNull l || (okE env l && scalarTy l.ty?)
    | .exprStmt _ l => okE env l
    | .asm_ _ _ => true
    | _ => true                                   -- an expression kind: "invalid statement"
  def okL (env : Env) : NodeList → Bool
    | .nil => true
    | .cons n rest => okS env n && okL env rest
  /-- the body of a statement expression -/
  def okB (env : Env) : NodeList → Bool
    | .nil => true
    | .cons (.exprStmt _ l) .nil => okE env l
    | .cons n rest => okS env n && okB env rest
end

theorem varOK_some {v? : Option Var} (h : varOK v? = true) : ∃ v, v? = some v ∧ v.ty.isSome = true := by
  cases v? with
  | none => cases h
  | some v => exact ⟨v, rfl, h⟩

theorem scalarTy_some {o : Option Ty} (h : scalarTy o = true) : ∃ t, o = some t ∧ t.kind ≠ .struct ∧ t.kind ≠ .union := by
  cases o with
  | none => cases h
  | some t =>
    simp only [scalarTy, Bool.and_eq_true, bne_iff_ne, ne_eq] at h
    exact ⟨t, rfl, h⟩

theorem optGen_eq (n : Node) (g : M Unit) : optGen n g = if isNull n = true then none else some g := by
  cases n <;> rfl

theorem optGen_clean {n : Node} {g : M Unit} (h : isNull n = true ∨ Clean g) : ∀ x, optGen n g = some x → Clean x := by
  intro x hx
  rw [optGen_eq] at hx
  split at hx
  · cases hx
  · cases hx; exact h.resolve_left ‹_›

theorem optGen_map_clean {n : Node} {g : M Unit} {ty : Option Ty} {P : Option Ty → Prop}
    (h : isNull n = true ∨ Clean g ∧ P ty) : ∀ x t, (optGen n g).map (·, ty) = some (x, t) → Clean x ∧ P t := by
  intro x t hx
  rw [optGen_eq] at hx
  split at hx
  · cases hx
  · cases hx; exact h.resolve_left ‹_›

end ChibiVerif.C13Codegen
