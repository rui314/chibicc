/-
C05/C13: the braced-string branch of `initializer2` (C11 6.7.9p14-15, `bracedStr`): what its guard says, and that the branch is
`initializer2` on the same literal without the braces.
-/
import ChibiVerif.Model.Init

namespace ChibiVerif.Init

theorem consumeEnd_length {r rest : List ITok} (h : consumeEnd r = some rest) : rest.length + 1 ≤ r.length := by
  unfold consumeEnd at h
  split at h
  · cases h; simp
  · cases h; simp only [List.length_cons]; omega
  · cases h

theorem isIntNotBool_isInteger {elem : Ty} (h : elem.isIntNotBool = true) : elem.isInteger = true := by
  unfold Ty.isIntNotBool at h
  split at h
  · rfl
  · cases h

theorem bracedStr_some {elem : Ty} {r : List ITok} {id : Nat} {bytes : List Nat} {esz : Nat} {rest : List ITok}
    (h : bracedStr elem r = some (id, bytes, esz, rest)) :
    ∃ tail, r = .str id bytes esz :: tail ∧ consumeEnd tail = some rest ∧ elem.isIntNotBool = true ∧
      elem.size = (esz : Int) := by
  unfold bracedStr at h
  split at h
  · rename_i id' bytes' esz' tail
    split at h
    · rename_i hg
      simp only [Bool.and_eq_true, beq_iff_eq] at hg
      split at h
      · rename_i rest' hce
        cases h
        exact ⟨tail, rfl, hce, hg.1, hg.2⟩
      · cases h
    · cases h
  · cases h

theorem bracedStr_length {elem : Ty} {r : List ITok} {id : Nat} {bytes : List Nat} {esz : Nat} {rest : List ITok}
    (h : bracedStr elem r = some (id, bytes, esz, rest)) : rest.length + 2 ≤ r.length := by
  obtain ⟨tail, rfl, hce, _, _⟩ := bracedStr_some h
  have := consumeEnd_length hce
  simp only [List.length_cons]; omega

/-- with the guard, `{ "…" }` is parsed as the literal alone (followed by what follows the `}`) -/
theorem initializer2_array_bracedStr {f : Nat} {elem : Ty} {n : Nat} {r : List ITok} {id : Nat} {bytes : List Nat} {esz : Nat}
    {rest : List ITok} (init : Init) (h : bracedStr elem r = some (id, bytes, esz, rest)) :
    initializer2 (f+1) (.array elem n) (.lbrace :: r) init =
      initializer2 (f+1) (.array elem n) (.str id bytes esz :: rest) init := by
  obtain ⟨_, _, _, hi, _⟩ := bracedStr_some h
  rw [initializer2, initializer2]
  simp only [h, isIntNotBool_isInteger hi, ↓reduceIte]

theorem initializer2_inc_bracedStr {f : Nat} {elem : Ty} {r : List ITok} {id : Nat} {bytes : List Nat} {esz : Nat}
    {rest : List ITok} (init : Init) (h : bracedStr elem r = some (id, bytes, esz, rest)) :
    initializer2 (f+1) (.inc elem) (.lbrace :: r) init =
      initializer2 (f+1) (.inc elem) (.str id bytes esz :: rest) init := by
  obtain ⟨_, _, _, hi, _⟩ := bracedStr_some h
  rw [initializer2, initializer2]
  simp only [h, isIntNotBool_isInteger hi, ↓reduceIte]

/-- without the guard, `{` starts `array_initializer1` -/
theorem initializer2_array_brace_none {f : Nat} {elem : Ty} {n : Nat} {r : List ITok} (init : Init)
    (h : bracedStr elem r = none) :
    initializer2 (f+1) (.array elem n) (.lbrace :: r) init = arrayInit1 f elem (.lbrace :: r) init := by
  rw [initializer2]
  simp only [h]

theorem initializer2_inc_brace_none {f : Nat} {elem : Ty} {r : List ITok} (init : Init)
    (h : bracedStr elem r = none) :
    initializer2 (f+1) (.inc elem) (.lbrace :: r) init = arrayInit1 f elem (.lbrace :: r) init := by
  rw [initializer2]
  simp only [h]

end ChibiVerif.Init
