/-
Helper lemmas for C15_tentative: how many definitions of one object name `emit_data` prints after
`scan_globals`, and from which declaration the printed one comes.
-/
import ChibiVerif.Lemmas.LinkageScan

namespace ChibiVerif.Linkage

theorem tyBlind_dataDefOf (s : Sym) : TyBlind (dataDefOf s) := fun _ _ => rfl

/-- the section `emit_data` chooses for a definition -/
def dataKind (fc : Bool) (o : Obj) : Kind :=
  if fc && o.isTentative && !o.isTls then .common
  else if o.hasInit then (if o.isTls then .tdata else .data)
  else (if o.isTls then .tbss else .bss)

/-- `emit_data` prints every object that is a definition; only the section depends on the other flags -/
theorem emitDataVar_eq (fc : Bool) (o : Obj) :
    emitDataVar fc o = if o.isFunction || !o.isDefinition then none
      else some ⟨o.sym, bindingOf o, dataKind fc o, some o.ty.size, emitAlign o.ty⟩ := by
  unfold emitDataVar dataKind
  by_cases h1 : (o.isFunction || !o.isDefinition) = true
  · rw [if_pos h1, if_pos h1]
  · rw [if_neg h1, if_neg h1]
    by_cases h2 : (fc && o.isTentative && !o.isTls) = true
    · rw [if_pos h2, if_pos h2]
    · rw [if_neg h2, if_neg h2]
      by_cases h3 : o.hasInit = true
      · rw [if_pos h3, if_pos h3]
      · rw [if_neg h3, if_neg h3]

theorem emitDataVar_sym {fc : Bool} {o : Obj} {e : SymEntry} (h : emitDataVar fc o = some e) : e.sym = o.sym := by
  rw [emitDataVar_eq] at h
  split at h
  · cases h
  · cases h; rfl

theorem emitDataVar_isSome (fc : Bool) (o : Obj) : (emitDataVar fc o).isSome = (!o.isFunction && o.isDefinition) := by
  rw [emitDataVar_eq]
  cases o.isFunction <;> cases o.isDefinition <;> rfl

theorem emitDataVar_common {fc : Bool} {o : Obj} {e : SymEntry} (h : emitDataVar fc o = some e) :
    e.kind = .common ↔ (fc = true ∧ o.isTentative = true ∧ o.isTls = false) := by
  rw [emitDataVar_eq] at h
  split at h
  · cases h
  · cases h
    show dataKind fc o = .common ↔ _
    unfold dataKind
    by_cases hc : (fc && o.isTentative && !o.isTls) = true
    · rw [if_pos hc]
      simpa [and_assoc] using hc
    · rw [if_neg hc]
      refine ⟨fun hk => ?_, fun hr => absurd (by simp [hr.1, hr.2.1, hr.2.2]) hc⟩
      split at hk <;> split at hk <;> cases hk

theorem emitDataVar_def {fc : Bool} {o : Obj} {e : SymEntry} (h : emitDataVar fc o = some e) :
    o.isFunction = false ∧ o.isDefinition = true := by
  have := emitDataVar_isSome fc o
  rw [h] at this
  simpa using this.symm

theorem emitTextFn_some {o : Obj} {e : SymEntry} (h : emitTextFn o = some e) :
    o.isFunction = true ∧ o.isDefinition = true ∧ o.isLive = true ∧ e = ⟨o.sym, bindingOf o, .text, none, 0⟩ := by
  unfold emitTextFn at h
  split at h
  · cases h
  · rename_i h1
    split at h
    · cases h
    · rename_i h2
      simp only [Bool.or_eq_true, Bool.not_eq_true', not_or, Bool.not_eq_false] at h1 h2
      exact ⟨h1.1, h1.2, h2, (Option.some.inj h).symm⟩

theorem emitDataVar_count (fc : Bool) (s : Sym) : ∀ l : List Obj,
    ((l.filterMap (emitDataVar fc)).filter (fun e => e.sym == s)).length = (l.filter (dataDefOf s)).length
  | [] => rfl
  | a :: as => by
    have ih := emitDataVar_count fc s as
    simp only [List.filterMap_cons]
    cases he : emitDataVar fc a with
    | none =>
      have : (!a.isFunction && a.isDefinition) = false := by
        rw [← emitDataVar_isSome fc a, he]; rfl
      have hd : dataDefOf s a = false := by simp [dataDefOf, this]
      simp only [List.filter, hd]
      exact ih
    | some e =>
      have hsome : (!a.isFunction && a.isDefinition) = true := by
        rw [← emitDataVar_isSome fc a, he]; rfl
      have hsym := emitDataVar_sym he
      have hd : dataDefOf s a = (e.sym == s) := by simp [dataDefOf, hsome, hsym]
      simp only [List.filter, hd]
      split <;> simp [ih]

theorem ownerLive_of_noOwner (gs : List Obj) {o : Obj} (h : o.owner = none) : ownerLive gs o = true := by
  simp [ownerLive, h]

theorem filter_ownerLive_dataDefOf (gs : List Obj) {s : Sym} : ∀ (l : List Obj), (∀ o, o ∈ l → o.sym = s → o.owner = none) →
    (l.filter (ownerLive gs)).filter (dataDefOf s) = l.filter (dataDefOf s)
  | [], _ => rfl
  | a :: as, h => by
    have ih := filter_ownerLive_dataDefOf gs as (fun o ho => h o (List.mem_cons_of_mem _ ho))
    cases hd : dataDefOf s a
    · cases ho : ownerLive gs a <;> simp [List.filter, hd, ho, ih]
    · have hs : a.sym = s := by
        simp only [dataDefOf, Bool.and_eq_true, beq_iff_eq] at hd
        exact hd.2
      have ho := ownerLive_of_noOwner gs (h a List.mem_cons_self hs)
      simp [List.filter, hd, ho, ih]

theorem emitData_count (fc : Bool) (s : Sym) (l : List Obj) (h : ∀ o, o ∈ l → o.sym = s → o.owner = none) :
    ((emitData fc l).filter (fun e => e.sym == s)).length = (l.filter (dataDefOf s)).length := by
  unfold emitData
  rw [emitDataVar_count, filter_ownerLive_dataDefOf l l h]

theorem length_filter_split (p q : Obj → Bool) (l : List Obj) :
    (l.filter p).length = (l.filter (fun o => p o && q o)).length + (l.filter (fun o => p o && !q o)).length := by
  rw [← List.countP_eq_length_filter, List.countP_eq_countP_filter_add l p q, List.countP_eq_length_filter,
    List.countP_eq_length_filter, List.filter_filter, List.filter_filter]

theorem length_filter_le_of_imp {p q : Obj → Bool} (h : ∀ o, p o = true → q o = true) (l : List Obj) :
    (l.filter p).length ≤ (l.filter q).length := by
  rw [← List.countP_eq_length_filter, ← List.countP_eq_length_filter]
  exact List.countP_mono_left fun o _ => h o

/-- the definitions of `s` that `scan_globals` keeps: the real ones and the tentative one that stays -/
theorem scanPure_count {gs : List Obj} {s : Sym} (h : NameOK gs s) :
    ((scanPure gs gs).filter (dataDefOf s)).length =
      (gs.filter (realDefOf s)).length + ((scanPure gs gs).filter (isTentOf s)).length := by
  -- the non-tentative definitions of `s` are all kept, and they are the real ones
  have hreal : (scanPure gs gs).filter (fun o => dataDefOf s o && !o.isTentative) = gs.filter (realDefOf s) := by
    rw [← List.filter_filter (p := dataDefOf s) (q := fun o => !o.isTentative), scanPure_notTent, List.filter_filter]
    refine List.filter_congr fun o ho => ?_
    cases hs : o.sym == s
    · -- another name
      simp [dataDefOf, realDefOf, hs]
    · -- the name `s`: not a function (`NameOK.noFn`)
      simp [dataDefOf, realDefOf, hs, h.noFn o ho (beq_iff_eq.mp hs), Bool.and_comm]
  -- the tentative definitions of `s` that are kept: `isTentOf s`
  have htent : (scanPure gs gs).filter (fun o => dataDefOf s o && o.isTentative) = (scanPure gs gs).filter (isTentOf s) := by
    refine List.filter_congr fun o ho => ?_
    have hog := scanPure_sub gs gs o ho
    cases hs : o.sym == s
    · -- another name
      simp [dataDefOf, isTentOf, hs]
    · cases ht : o.isTentative
      · -- the name `s`, not tentative
        simp [dataDefOf, isTentOf, ht]
      · -- the name `s`, tentative: a definition (`NameOK.tentDef`) and not a function (`NameOK.noFn`)
        simp [dataDefOf, isTentOf, hs, ht, h.noFn o hog (beq_iff_eq.mp hs), h.tentDef o hog ht]
  rw [length_filter_split (dataDefOf s) (fun o => o.isTentative), htent, hreal, Nat.add_comm]

theorem scanPure_count_le_one {gs : List Obj} {s : Sym} (h : NameOK gs s) :
    ((scanPure gs gs).filter (dataDefOf s)).length ≤ 1 := by
  rw [scanPure_count h]
  cases hreal : gs.any (realDefOf s)
  · -- no real definition
    have h0 : gs.filter (realDefOf s) = [] :=
      List.filter_eq_nil_iff.mpr fun x hx => by simp [List.any_eq_false.mp hreal x hx]
    rw [h0]
    simpa using scanPure_tent_le_one gs s gs
  · -- a real definition: every tentative one is dropped
    rw [scanPure_tent_none gs s hreal]
    exact h.oneReal

theorem scanPure_count_pos {gs : List Obj} {s : Sym} (h : NameOK gs s) (hex : gs.any (dataDefOf s) = true) :
    1 ≤ ((scanPure gs gs).filter (dataDefOf s)).length := by
  rw [scanPure_count h]
  cases hreal : gs.any (realDefOf s)
  · -- all definitions are tentative: one of them stays
    obtain ⟨d, hd, hdd⟩ := List.any_eq_true.mp hex
    have hnr := List.any_eq_false.mp hreal d hd
    simp only [dataDefOf, Bool.and_eq_true, beq_iff_eq] at hdd
    have hdt : isTentOf s d = true := by
      cases hh : d.isTentative
      · simp [realDefOf, hdd.1.2, hdd.2, hh] at hnr
      · simp [isTentOf, hh, hdd.2]
    obtain ⟨x, hx, hxt⟩ := List.any_eq_true.mp
      (scanPure_tent_some gs s hreal gs (List.any_eq_true.mpr ⟨d, hd, hdt⟩))
    exact Nat.le_trans (List.length_pos_of_mem (List.mem_filter.mpr ⟨hx, hxt⟩)) (Nat.le_add_left _ _)
  · obtain ⟨d, hd, hdr⟩ := List.any_eq_true.mp hreal
    exact Nat.le_trans (List.length_pos_of_mem (List.mem_filter.mpr ⟨hd, hdr⟩)) (Nat.le_add_right _ _)

theorem scanPure_kept_tent {gs : List Obj} {s : Sym} {x : Obj} (hx : x ∈ scanPure gs gs) (hs : x.sym = s)
    (hd : x.isDefinition = true) : x.isTentative = true ↔ gs.any (realDefOf s) = false := by
  constructor
  · intro ht
    cases hreal : gs.any (realDefOf s)
    · rfl
    · exfalso
      have := scanPure_tent_none gs s hreal gs
      have hm : x ∈ (scanPure gs gs).filter (isTentOf s) := List.mem_filter.mpr ⟨hx, by simp [isTentOf, ht, hs]⟩
      rw [this] at hm
      cases hm
  · intro hreal
    cases ht : x.isTentative
    · exfalso
      have hxg := scanPure_sub gs gs x hx
      rw [List.any_eq_false] at hreal
      have := hreal x hxg
      simp [realDefOf, hd, ht, hs] at this
    · rfl

end ChibiVerif.Linkage
