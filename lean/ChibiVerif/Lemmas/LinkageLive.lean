/-
The root loop of `parse` and `mark_live` (C15_live): the `Obj` list as a graph (`Reach` of Lemmas/LinkageVocabulary.lean),
what a run of marking changes (`LiveUpd`, `Ext`), and `markLive_spec` / `markRoots_spec`: marking computes reachability from
the roots.  The invariant is `ClosedExcept`; the fuel argument is `unmarked`.
-/
import ChibiVerif.Lemmas.LinkageLemmas

namespace ChibiVerif.Linkage

/-! ### the graph an `Obj` list denotes -/

def unmarked (gs : List Obj) : Nat := (gs.filter (fun o => o.isFunction && !o.isLive)).length

theorem reach_start_isFn {gs : List Obj} {a b : Name} (h : Reach gs a b) : isFn gs a = true := by
  induction h with
  | refl hf => exact hf
  | step _ _ _ ih => exact ih

theorem Reach.trans {gs : List Obj} {a b c : Name} (h1 : Reach gs a b) (h2 : Reach gs b c) : Reach gs a c := by
  induction h2 with
  | refl _ => exact h1
  | step _ hm hf ih => exact Reach.step ih hm hf

theorem keepsId_setLive : KeepsId (fun o => { o with isLive := true }) := fun _ => ⟨rfl, rfl⟩

theorem isFn_setLive (gs : List Obj) (f g : Name) : isFn (setLive gs f) g = isFn gs g := by
  unfold isFn setLive
  rw [findFunc_updFunc keepsId_setLive]
  by_cases h : g = f
  · subst h; simp
  · simp [h]

theorem refsOf_setLive (gs : List Obj) (f g : Name) : refsOf (setLive gs f) g = refsOf gs g := by
  unfold refsOf setLive
  rw [findFunc_updFunc keepsId_setLive]
  by_cases h : g = f
  · subst h
    cases findFunc gs g <;> simp
  · simp [h]

theorem liveFn_setLive (gs : List Obj) (f g : Name) :
    liveFn (setLive gs f) g = ((decide (g = f) && isFn gs f) || liveFn gs g) := by
  unfold liveFn setLive isFn
  rw [findFunc_updFunc keepsId_setLive]
  by_cases h : g = f
  · subst h
    cases findFunc gs g <;> simp
  · simp [h]

theorem unmarked_setLive (gs : List Obj) (f : Name) (o : Obj) (hf : findFunc gs f = some o) (hl : o.isLive = false) :
    unmarked (setLive gs f) + 1 = unmarked gs := by
  induction gs with
  | nil => simp [findFunc] at hf
  | cons a as ih =>
    change List.find? (fnPred f) (a :: as) = some o at hf
    simp only [List.find?] at hf
    unfold setLive updFunc updFirst
    show unmarked (if fnPred f a = true then _ else _) + 1 = _
    cases hp : fnPred f a
    · simp only [hp] at hf
      simp only [Bool.false_eq_true, if_false]
      have := ih hf
      unfold unmarked at this ⊢
      unfold setLive updFunc at this
      simp only [List.filter]
      split <;> simp_all <;> omega
    · simp only [hp, Option.some.injEq] at hf
      subst hf
      simp only [if_true]
      unfold unmarked
      have hfun : a.isFunction = true := by
        unfold fnPred at hp
        simp only [Bool.and_eq_true] at hp
        exact hp.1
      simp [List.filter, hfun, hl]

/-! ### how a run of `markLive` relates the list before and after -/

/-- `gs'` is `gs` with some `is_live` flags set, position by position -/
inductive LiveUpd : List Obj → List Obj → Prop where
  | nil : LiveUpd [] []
  | cons {o o' : Obj} {os os' : List Obj} : (o' = o ∨ o' = { o with isLive := true }) → LiveUpd os os' →
      LiveUpd (o :: os) (o' :: os')

theorem LiveUpd.rfl' : ∀ (gs : List Obj), LiveUpd gs gs
  | [] => .nil
  | _ :: os => .cons (Or.inl rfl) (LiveUpd.rfl' os)

theorem LiveUpd.trans : ∀ {a b c : List Obj}, LiveUpd a b → LiveUpd b c → LiveUpd a c := by
  intro a b c h1
  induction h1 generalizing c with
  | nil => intro h2; exact h2
  | cons h hs ih =>
    intro h2
    cases h2 with
    | cons h' hs' =>
      refine .cons ?_ (ih hs')
      rcases h with rfl | rfl <;> rcases h' with rfl | rfl <;> simp

theorem liveUpd_setLive (gs : List Obj) (f : Name) : LiveUpd gs (setLive gs f) := by
  unfold setLive updFunc
  induction gs with
  | nil => exact .nil
  | cons o os ih =>
    unfold updFirst
    split
    · exact .cons (Or.inr rfl) (LiveUpd.rfl' os)
    · exact .cons (Or.inl rfl) ih

theorem LiveUpd.mem {gs gs' : List Obj} (h : LiveUpd gs gs') {o' : Obj} (ho : o' ∈ gs') :
    ∃ o, o ∈ gs ∧ (o' = o ∨ o' = { o with isLive := true }) := by
  induction h with
  | nil => cases ho
  | cons hr _ ih =>
    rcases List.mem_cons.mp ho with rfl | ho
    · exact ⟨_, List.mem_cons_self, hr⟩
    · obtain ⟨o, hm, hh⟩ := ih ho
      exact ⟨o, List.mem_cons_of_mem _ hm, hh⟩

theorem LiveUpd.mem_left {gs gs' : List Obj} (h : LiveUpd gs gs') {o : Obj} (ho : o ∈ gs) :
    ∃ o', o' ∈ gs' ∧ (o' = o ∨ o' = { o with isLive := true }) := by
  induction h with
  | nil => cases ho
  | cons hr _ ih =>
    rcases List.mem_cons.mp ho with rfl | ho
    · exact ⟨_, List.mem_cons_self, hr⟩
    · obtain ⟨o', hm, hh⟩ := ih ho
      exact ⟨o', List.mem_cons_of_mem _ hm, hh⟩

/-- what a run of `mark_live` does to the list: `gs'` extends `gs` by `is_live` flags only - the graph (`isFn`, `refs`), the
    data objects and the length stay, live stays live, and the number of unmarked functions (the fuel that is needed) does
    not grow -/
structure Ext (gs gs' : List Obj) : Prop where
  upd : LiveUpd gs gs'
  isFn : ∀ g, isFn gs' g = isFn gs g
  refs : ∀ g, refsOf gs' g = refsOf gs g
  mono : ∀ g, liveFn gs g = true → liveFn gs' g = true
  unm : unmarked gs' ≤ unmarked gs
  len : gs'.length = gs.length
  /-- `mark_live` writes function objects only -/
  data : dataOf gs' = dataOf gs

theorem Ext.rfl' (gs : List Obj) : Ext gs gs :=
  ⟨LiveUpd.rfl' gs, fun _ => rfl, fun _ => rfl, fun _ h => h, Nat.le_refl _, rfl, rfl⟩

theorem Ext.trans {a b c : List Obj} (h1 : Ext a b) (h2 : Ext b c) : Ext a c :=
  ⟨h1.upd.trans h2.upd, fun g => (h2.isFn g).trans (h1.isFn g), fun g => (h2.refs g).trans (h1.refs g),
   fun g h => h2.mono g (h1.mono g h), Nat.le_trans h2.unm h1.unm, h2.len.trans h1.len, h2.data.trans h1.data⟩

theorem Reach.ext {a b : List Obj} (h : Ext a b) {x y : Name} : Reach a x y ↔ Reach b x y := by
  constructor
  · intro r
    induction r with
    | refl hf => exact Reach.refl (by rw [h.isFn]; exact hf)
    | step _ hm hf ih => exact Reach.step ih (by rw [h.refs]; exact hm) (by rw [h.isFn]; exact hf)
  · intro r
    induction r with
    | refl hf => exact Reach.refl (by rw [← h.isFn]; exact hf)
    | step _ hm hf ih => exact Reach.step ih (by rw [← h.refs]; exact hm) (by rw [← h.isFn]; exact hf)

/-- the invariant of `mark_live`: every live function has all its resolvable references live, EXCEPT the functions in `S` -
    those whose call is still on `mark_live`'s stack, their references being visited just now.  Together with
    "fuel ≥ `unmarked gs`" (every call that goes on marks a function that was not live) this is the whole liveness proof:
    when the outermost call returns `S` is empty, so the live set is closed, and it only ever grows along `Reach`. -/
def ClosedExcept (gs : List Obj) (S : Name → Prop) : Prop :=
  ∀ x, liveFn gs x = true → ¬ S x → ∀ y, y ∈ refsOf gs x → isFn gs y = true → liveFn gs y = true

/-- a loop of marking steps over the names `l` (the references of one function inside `mark_live`; the roots in `parse`):
    a step that keeps `ClosedExcept .. S`, makes its argument live and marks only what is reachable from it does so for the loop -/
theorem markLoop {step : List Obj → Name → Option (List Obj)} {gs g0 : List Obj} {S : Name → Prop} (h0 : Ext gs g0)
    (hstep : ∀ g r, Ext g0 g → ClosedExcept g S → ∃ g', step g r = some g' ∧ Ext g g' ∧
      (isFn g r = true → liveFn g' r = true) ∧ ClosedExcept g' S ∧
      (∀ x, liveFn g' x = true → liveFn g x = true ∨ Reach g r x)) :
    ∀ (l : List Name) (g : List Obj), Ext g0 g → ClosedExcept g S →
      ∃ g', l.foldlM step g = some g' ∧ Ext g g' ∧
        (∀ r, r ∈ l → isFn gs r = true → liveFn g' r = true) ∧ ClosedExcept g' S ∧
        (∀ x, liveFn g' x = true → liveFn g x = true ∨ ∃ r, r ∈ l ∧ isFn gs r = true ∧ Reach gs r x) := by
  intro l
  induction l with
  | nil =>
    intro g _ hcg
    exact ⟨g, rfl, Ext.rfl' g, fun r hr _ => absurd hr List.not_mem_nil, hcg, fun x h => Or.inl h⟩
  | cons r rs ihl =>
    intro g hg hcg
    obtain ⟨g1, hm1, he1, hl1, hc1, hs1⟩ := hstep g r hg hcg
    obtain ⟨g2, hm2, he2, hl2, hc2, hs2⟩ := ihl g1 (hg.trans he1) hc1
    refine ⟨g2, ?_, he1.trans he2, ?_, hc2, ?_⟩
    · simp only [List.foldlM_cons, hm1]
      exact hm2
    · intro r' hr' hfr'
      cases hr' with
      | head => exact he2.mono r (hl1 (by rw [hg.isFn, h0.isFn]; exact hfr'))
      | tail _ hmem => exact hl2 r' hmem hfr'
    · intro x hx
      rcases hs2 x hx with h | ⟨r', hr', hfr', hreach⟩
      · rcases hs1 x h with h' | hreach
        · exact Or.inl h'
        · have hfr := reach_start_isFn hreach
          rw [hg.isFn, h0.isFn] at hfr
          exact Or.inr ⟨r, List.mem_cons_self, hfr, (Reach.ext (h0.trans hg)).mpr hreach⟩
      · exact Or.inr ⟨r', List.mem_cons_of_mem _ hr', hfr', hreach⟩

/-- the specification of one `mark_live` call, for every graph and every fuel that covers the functions that
    are still unmarked -/
theorem markLive_spec : ∀ (n : Nat) (gs : List Obj) (f : Name) (S : Name → Prop),
    unmarked gs ≤ n → ClosedExcept gs S →
    ∃ gs', markLive n gs f = some gs' ∧ Ext gs gs' ∧ (isFn gs f = true → liveFn gs' f = true) ∧
      ClosedExcept gs' S ∧ (∀ x, liveFn gs' x = true → liveFn gs x = true ∨ Reach gs f x) := by
  intro n
  induction n with
  | zero =>
    intro gs f S hn hc
    unfold markLive
    cases hf : findFunc gs f with
    | none =>
      refine ⟨gs, rfl, Ext.rfl' gs, ?_, hc, fun x h => Or.inl h⟩
      intro h; simp [isFn, hf] at h
    | some o =>
      cases hl : o.isLive
      · -- an unmarked function exists, so `unmarked gs ≥ 1`
        exfalso
        have := unmarked_setLive gs f o hf hl
        omega
      · simp only [hl, if_true]
        refine ⟨gs, rfl, Ext.rfl' gs, ?_, hc, fun x h => Or.inl h⟩
        intro _; simp [liveFn, hf, hl]
  | succ n ih =>
    intro gs f S hn hc
    unfold markLive
    cases hf : findFunc gs f with
    | none =>
      refine ⟨gs, rfl, Ext.rfl' gs, ?_, hc, fun x h => Or.inl h⟩
      intro h; simp [isFn, hf] at h
    | some o =>
      cases hl : o.isLive
      · simp only [hl, Bool.false_eq_true, if_false]
        have hisfn : isFn gs f = true := by simp [isFn, hf]
        have hrefs : refsOf gs f = o.refs := by simp [refsOf, hf]
        let g0 := setLive gs f
        have hunm0 : unmarked g0 ≤ n := by
          have := unmarked_setLive gs f o hf hl
          show unmarked (setLive gs f) ≤ n
          omega
        have hext0 : Ext gs g0 :=
          ⟨liveUpd_setLive gs f, isFn_setLive gs f, refsOf_setLive gs f,
           fun g h => by show liveFn (setLive gs f) g = true; rw [liveFn_setLive]; simp [h],
           by have := unmarked_setLive gs f o hf hl; show unmarked (setLive gs f) ≤ _; omega,
           length_updFirst _ _ _, dataOf_updFunc keepsId_setLive gs f⟩
        have hlive0 : liveFn g0 f = true := by
          show liveFn (setLive gs f) f = true
          rw [liveFn_setLive]; simp [hisfn]
        let S' : Name → Prop := fun x => x = f ∨ S x
        have hc0 : ClosedExcept g0 S' := by
          intro x hx hns y hy hfy
          have hxf : x ≠ f := fun e => hns (Or.inl e)
          have hx' : liveFn gs x = true := by
            have : liveFn (setLive gs f) x = true := hx
            rw [liveFn_setLive] at this
            simpa [hxf] using this
          have hy' : y ∈ refsOf gs x := by rw [← hext0.refs]; exact hy
          have hfy' : isFn gs y = true := by rw [← hext0.isFn]; exact hfy
          exact hext0.mono y (hc x hx' (fun h => hns (Or.inr h)) y hy' hfy')
        have loop := markLoop (step := fun gs r => markLive n gs r) hext0
          (fun g r hg hcg => ih g r S' (Nat.le_trans hg.unm hunm0) hcg)
        obtain ⟨g', hm, he, hl', hc', hs'⟩ := loop o.refs g0 (Ext.rfl' g0) hc0
        refine ⟨g', hm, hext0.trans he, fun _ => he.mono f hlive0, ?_, ?_⟩
        · -- closed except S: f's references have all been visited
          intro x hx hns y hy hfy
          by_cases hxf : x = f
          · subst hxf
            have hy' : y ∈ o.refs := by
              rw [← hrefs, ← (hext0.trans he).refs]; exact hy
            have hfy' : isFn gs y = true := by rw [← (hext0.trans he).isFn]; exact hfy
            exact hl' y hy' hfy'
          · exact hc' x hx (fun h => h.elim hxf hns) y hy hfy
        · intro x hx
          rcases hs' x hx with h | ⟨r, hr, hfr, hreach⟩
          · have : liveFn (setLive gs f) x = true := h
            rw [liveFn_setLive] at this
            by_cases hxf : x = f
            · subst hxf; exact Or.inr (Reach.refl hisfn)
            · simp [hxf] at this; exact Or.inl this
          · refine Or.inr (Reach.trans (Reach.step (Reach.refl hisfn) ?_ hfr) hreach)
            rw [hrefs]; exact hr
      · simp only [hl, if_true]
        refine ⟨gs, rfl, Ext.rfl' gs, ?_, hc, fun x h => Or.inl h⟩
        intro _; simp [liveFn, hf, hl]

/-! ### the root loop of `parse` -/

theorem liveFn_of_noneLive {gs : List Obj} (h : NoneLive gs) (f : Name) : liveFn gs f = false := by
  unfold liveFn
  cases hf : findFunc gs f with
  | none => rfl
  | some o => exact h o (List.mem_of_find?_eq_some hf)

theorem closed_of_reach {gs : List Obj} (hc : ClosedExcept gs (fun _ => False)) {r x : Name}
    (hr : liveFn gs r = true) (h : Reach gs r x) : liveFn gs x = true := by
  induction h with
  | refl _ => exact hr
  | step _ hm hf ih => exact hc _ ih (fun h => h) _ hm hf

variable [Rules]

theorem markRoots_spec (gs : List Obj) (h0 : NoneLive gs) :
    ∃ gs', markRoots gs = some gs' ∧ Ext gs gs' ∧
      ∀ x, liveFn gs' x = true ↔ ∃ r, r ∈ rootNames gs ∧ Reach gs r x := by
  have hc0 : ClosedExcept gs (fun _ => False) := by
    intro x hx
    rw [liveFn_of_noneLive h0] at hx
    cases hx
  obtain ⟨g', hm, he, hl, hc, hs⟩ := markLoop (step := fun gs r => markLive gs.length gs r) (Ext.rfl' gs)
    (fun g r _ hcg => markLive_spec g.length g r _ (List.length_filter_le _ _) hcg) (rootNames gs) gs (Ext.rfl' gs) hc0
  refine ⟨g', hm, he, fun x => ⟨fun hx => ?_, fun ⟨r, hr, hreach⟩ => ?_⟩⟩
  · rcases hs x hx with h | ⟨r, hr, _, hreach⟩
    · rw [liveFn_of_noneLive h0] at h; cases h
    · exact ⟨r, hr, hreach⟩
  · have hfr : isFn gs r = true := reach_start_isFn hreach
    exact closed_of_reach hc (hl r hr hfr) ((Reach.ext he).mp hreach)

end ChibiVerif.Linkage
