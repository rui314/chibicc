/-
C03 × C01: the whole-function simulation.

* `Goes g p m o σ' e bp cp`: from line `p` and state `m` the machine reaches the line the outcome `o` leads to (normal: `e`; break /
  continue: `bp` / `cp`; return: `.L.return`) with the frame holding `σ'`.
* `chain_lay`: for a `switch` body that is a list of labelled statements, the statement list the abstract machine selects
  (`selectCase` / `selectDefault`) starts at the label the ladder jumps to (`pickCase` / `lastDefault` of the labels `collect`
  finds), and its layout is part of the layout of the body; `switch_head`: controlling expression and ladder.
* `sim`: `Big → SLay → MInv → Goes`, by induction on the run of the abstract machine (Lemmas/C03FunBig.lean): every case says which lines
  the machine passes; a loop's jump back re-enters the same layout with the induction hypothesis of the rest of the loop.
-/
import ChibiVerif.Lemmas.C03FunLay
import ChibiVerif.Lemmas.C03FunSwitch
import ChibiVerif.Lemmas.C03FunBig

namespace ChibiVerif.C03Fun
open ChibiVerif.Asm ChibiVerif.Spec.IntSpec ChibiVerif.C01 ChibiVerif.X86 ChibiVerif.X86J

/-- the line an outcome leads to: the end of the statement, the break / continue line, `.L.return` -/
def tgt (g : Cfg) (o : Out) (endPos brkPos contPos : Nat) : Nat :=
  match o with
  | .normal => endPos
  | .brk => brkPos
  | .cont => contPos
  | .ret _ => g.retPos

/-- on `return v`, `%rax` represents `v` in the return type -/
def RetOK (g : Cfg) (o : Out) (m : State) : Prop := ∀ v, o = .ret v → Represents g.R (m.get .rax) v

theorem retOK_of_ne {g : Cfg} {o : Out} {m : State} (h : ∀ v, o ≠ .ret v) : RetOK g o m := fun v e => absurd e (h v)

/-- what the simulation says of one run: the machine reaches the line the outcome leads to, the frame holds the final store -/
def Goes (g : Cfg) (p : Nat) (m : State) (o : Out) (σ' : Env) (e bp cp : Nat) : Prop :=
  ∃ m', Reach g.q (p, m) (tgt g o e bp cp, m') ∧ MInv g σ' m' ∧ RetOK g o m'

theorem Goes.from {g : Cfg} {p p1 : Nat} {m m1 : State} {o : Out} {σ' : Env} {e bp cp : Nat}
    (r : Reach g.q (p, m) (p1, m1)) (h : Goes g p1 m1 o σ' e bp cp) : Goes g p m o σ' e bp cp :=
  let ⟨m', r', h'⟩ := h; ⟨m', r.trans r', h'⟩

theorem Goes.normal {g : Cfg} {p : Nat} {m m' : State} {σ' : Env} {e bp cp : Nat}
    (r : Reach g.q (p, m) (e, m')) (hm : MInv g σ' m') : Goes g p m .normal σ' e bp cp :=
  ⟨m', r, hm, retOK_of_ne (fun v => by simp)⟩

/-- the body of a loop ended with `break` (line `b`, from where lines that change nothing lead to `e'`) or with `return` -/
theorem Goes.leave {g : Cfg} {p : Nat} {m : State} {o : Out} {σ' : Env} {e b c e' bp cp : Nat}
    (h : Goes g p m o σ' e b c) (hn : o ≠ .normal) (hc : o ≠ .cont) (k : ∀ m, Reach g.q (b, m) (e', m)) :
    Goes g p m o.unbrk σ' e' bp cp := by
  obtain ⟨m', r, hm', hr'⟩ := h
  cases o with
  | normal => exact absurd rfl hn
  | cont => exact absurd rfl hc
  | brk => exact ⟨m', r.trans (k m'), hm', retOK_of_ne (fun v => by simp [Out.unbrk])⟩
  | ret _ => exact ⟨m', r, hm', hr'⟩

/-- the statement is followed by lines that change nothing (label definitions, unconditional jumps) -/
theorem Goes.then {g : Cfg} {p : Nat} {m : State} {o : Out} {σ' : Env} {e e' bp cp : Nat}
    (h : Goes g p m o σ' e bp cp) (k : ∀ m, Reach g.q (e, m) (e', m)) : Goes g p m o σ' e' bp cp := by
  obtain ⟨m', r, h'⟩ := h
  cases o with
  | normal => exact ⟨m', r.trans (k m'), h'⟩
  | brk | cont | ret _ => exact ⟨m', r, h'⟩

/-- the statement list of a `switch`: `break` goes where normal completion goes -/
theorem Goes.unbrk {g : Cfg} {p : Nat} {m : State} {o : Out} {σ' : Env} {e bp cp : Nat}
    (h : Goes g p m o σ' e e cp) : Goes g p m o.unbrk σ' e bp cp := by
  obtain ⟨m', r, hm', hr'⟩ := h
  cases o with
  | brk => exact ⟨m', r, hm', retOK_of_ne (fun v => by simp [Out.unbrk])⟩
  | normal | cont | ret _ => exact ⟨m', r, hm', hr'⟩

/-- an outcome other than `normal` does not lead to the end of the statement -/
theorem tgt_abrupt {g : Cfg} {o : Out} (ho : o ≠ .normal) (e e' bp cp : Nat) : tgt g o e bp cp = tgt g o e' bp cp := by
  cases o with
  | normal => exact absurd rfl ho
  | brk | cont | ret _ => rfl

/-- after the body of a loop, normal completion and `continue` are at the same line -/
theorem tgt_loop {g : Cfg} {ob : Out} {e bp : Nat} (h : ob = .normal ∨ ob = .cont) : tgt g ob e bp e = e := by
  rcases h with rfl | rfl <;> rfl

theorem collect_nofree (s : FStmt) : ∀ u, noFreeCase s = true → collect u s = [] := by
  induction s with
  | seq a b iha ihb | ifte _ a b iha ihb =>
    intro u h; simp only [noFreeCase, Bool.and_eq_true] at h; simp [collect, iha _ h.1, ihb _ h.2]
  | for_ _ _ _ b ih | doWhile b _ ih => intro u h; simp only [noFreeCase] at h; simp [collect, ih _ h]
  | case_ _ _ _ _ | default_ _ _ => intro u h; cases h
  | _ => intro u _; rfl

/-- the statement list `suf` is laid out from the line `.L..l:` to the line `e` -/
def EntryL (g : Cfg) (l : Nat) (suf : FStmt) (e bp cp : Nat) : Prop :=
  ∃ pl, g.q[pl]? = some (.lbl (encL g.C (.s (.uniq l)))) ∧ SLay g l suf pl e bp cp

theorem item_cases (it : FStmt) (h : isItem it = true) :
    (∃ lo hi s, it = .case_ lo hi s ∧ noFreeCase s = true) ∨ (∃ s, it = .default_ s ∧ noFreeCase s = true) ∨
      (noFreeCase it = true ∧ ∀ P v rest, selectCase P v (.seq it rest) = selectCase P v rest ∧
        selectDefault (.seq it rest) = selectDefault rest ∧ chainRanges (.seq it rest) = chainRanges rest) := by
  cases it with
  | case_ lo hi s => exact .inl ⟨lo, hi, s, rfl, h⟩
  | default_ s => exact .inr (.inl ⟨s, rfl, h⟩)
  | _ => exact .inr (.inr ⟨h, fun _ _ _ => ⟨rfl, rfl, rfl⟩⟩)

/-- "last one wins" on both sides: the abstract machine's `selectCase` / `selectDefault` / `selected` and the ladder's `pickCase` /
    `lastDefault` are the same `orElse` fold, so a relation between their answers is kept item by item -/
theorem rel_orElse {α β : Type} {r : α → β → Prop} {a a' : Option α} {b b' : Option β} (h : Option.Rel r a b)
    (h' : Option.Rel r a' b') : Option.Rel r (a.orElse fun _ => a') (b.orElse fun _ => b') := by
  cases h with
  | some h => exact .some h
  | none => exact h'

/-- **what the abstract machine selects is what the ladder jumps to**, for a body that is a list of labelled statements: the selected
    statement list (`selectCase`, `selectDefault`) is laid out from the label picked among those `collect` finds (`pickCase`, `lastDefault`),
    and both sides answer `none` together -/
theorem chain_lay (g : Cfg) (P : ITy) (v : Int) (b : FStmt) : ∀ {u p e bp cp : Nat}, isChain b = true → SLay g u b p e bp cp →
    Option.Rel (fun suf l => EntryL g l suf e bp cp) (selectCase P v b) (pickCase P v (collect u b)) ∧
    Option.Rel (fun suf l => EntryL g l suf e bp cp) (selectDefault b) (lastDefault (collect u b)) ∧
    (∀ lo hi l, (some (lo, hi), l) ∈ collect u b → (lo, hi) ∈ chainRanges b) := by
  induction b with
  | skip => intro u p e bp cp _ _; exact ⟨.none, .none, fun lo hi l h => by simp [collect] at h⟩
  | seq it rest _ ihr =>
    intro u p e bp cp hch hl
    simp only [isChain, Bool.and_eq_true] at hch
    cases hl with | seq li lr => ?_
    obtain ⟨R1, R2, R3⟩ := ihr hch.2 lr
    rcases item_cases it hch.1 with ⟨lo, hi, s, rfl, hs⟩ | ⟨s, rfl, hs⟩ | ⟨hnf, hplain⟩
    · have hcs : collect u (.seq (.case_ lo hi s) rest) = (some (lo, hi), u) :: collect (u + nuniq (.case_ lo hi s)) rest := by
        simp [collect, collect_nofree s _ hs]
      have hself : EntryL g u (.seq (.case_ lo hi s) rest) e bp cp := by
        cases li with | case_ hb ls => exact ⟨_, hb, .seq (.case_ hb ls) lr⟩
      rw [hcs]
      refine ⟨rel_orElse R1 ?_, R2, ?_⟩
      · split
        · exact .some hself
        · exact .none
      · intro lo' hi' l' h'
        simp only [List.mem_cons, Prod.mk.injEq, Option.some.injEq] at h'
        rcases h' with ⟨⟨rfl, rfl⟩, _⟩ | h'
        · simp [chainRanges]
        · simp only [chainRanges, List.mem_cons]; exact Or.inr (R3 _ _ _ h')
    · have hcs : collect u (.seq (.default_ s) rest) = (none, u) :: collect (u + nuniq (.default_ s)) rest := by
        simp [collect, collect_nofree s _ hs]
      have hself : EntryL g u (.seq (.default_ s) rest) e bp cp := by
        cases li with | default_ hb ls => exact ⟨_, hb, .seq (.default_ hb ls) lr⟩
      rw [hcs]
      refine ⟨R1, rel_orElse R2 (.some hself), ?_⟩
      intro lo' hi' l' h'
      simp only [List.mem_cons, Prod.mk.injEq, reduceCtorEq, false_and, false_or] at h'
      simp only [chainRanges]; exact R3 _ _ _ h'
    · obtain ⟨e1, e2, e3⟩ := hplain P v rest
      have hcol : collect u (.seq it rest) = collect (u + nuniq it) rest := by
        show collect u it ++ _ = _
        rw [collect_nofree it u hnf]; rfl
      rw [hcol, e1, e2, e3]
      exact ⟨R1, R2, R3⟩
  | _ =>
    intro u p e bp cp hch
    simp [isChain] at hch

/-- **the head of a `switch`**: the controlling expression, then the ladder — to the first line of the statement list the abstract machine
    selects, else to the break label -/
theorem switch_head {g : Cfg} (ok : g.OK) {e : E} {t t' : ITy} {body : FStmt} {u p p1 p2 p3 cp : Nat} {σ σ1 : Env} {v : Int}
    {m : State} (hh : Hole g e t' p p1) (hat : At g.q p1 ((ladder t' (collect (u + 1) body) u).map (enc g.C)))
    (lb : SLay g (u + 1) body p2 p3 p3 cp) (hlbrk : g.q[p3]? = some (.lbl (encL g.C (.s (.uniq u)))))
    (ht : typeOf σ e = some t) (hv : evalE σ e = some (v, σ1)) (hok : switchOK (promote t) body = true) (hm : MInv g σ m) :
    ∃ m1 tpos, Reach g.q (p, m) (tpos, m1) ∧ MInv g σ1 m1 ∧
      match selected (promote t) v body with
      | some suf => ∃ l, SLay g l suf tpos p3 p3 cp
      | none => tpos = p3 := by
  have htt : t' = t := by
    obtain ⟨code, k0, k1, c0, c1, hc, _⟩ := hh
    have := (compileJ_facts _ _ _ _ _ _ _ _ _ _ hc).ty σ hm.1
    rw [ht] at this; exact (Option.some.inj this).symm
  subst htt
  obtain ⟨m1, r1, hm1, hrep⟩ := hh.run ok hv hm
  simp only [switchOK, Bool.and_eq_true] at hok
  obtain ⟨S1, S2, S3⟩ := chain_lay g (promote t') v body hok.1.1.1 lb
  have key : ∀ tpos, g.q[tpos]? = some (.lbl (encL g.C (.s (.uniq (ladderTgt (promote t') v (collect (u + 1) body) u))))) →
      ∃ m2, Reach g.q (p, m) (tpos, m2) ∧ MInv g σ1 m2 := by
    intro tpos h
    obtain ⟨m2, sm, r2⟩ := ladder_run ok.nodup g.C t' v _ u p1 tpos m1 hat h
      (fun lo hi l hmem => by simpa using List.all_eq_true.1 hok.1.1.2 (lo, hi) (S3 lo hi l hmem)) hrep
    exact ⟨m2, r1.trans r2, hm1.same sm⟩
  -- `selected` and `ladderTgt` are the two sides of `S1`, else of `S2`, else the break label
  have hsel := rel_orElse S1 S2
  unfold ladderTgt at key
  unfold selected
  generalize (selectCase (promote t') v body).orElse (fun _ => selectDefault body) = A at hsel ⊢
  generalize (pickCase (promote t') v (collect (u + 1) body)).orElse (fun _ => lastDefault (collect (u + 1) body)) = B at hsel key
  cases hsel with
  | some h =>
    obtain ⟨pl, hpl, ls⟩ := h
    obtain ⟨m2, r, hm2⟩ := key pl hpl
    exact ⟨m2, pl, r, hm2, _, ls⟩
  | none =>
    obtain ⟨m2, r, hm2⟩ := key p3 hlbrk
    exact ⟨m2, p3, r, hm2, rfl⟩

/-- **the simulation**: a run of the abstract machine on `s`, the layout of the code of `s` in the program, a machine state whose frame
    holds the initial store: the machine goes where the outcome leads, with the frame holding the final store -/
theorem sim (g : Cfg) (ok : g.OK) {n : Nat} {s : FStmt} {σ σ' : Env} {o : Out} (h : Big g.R n s σ o σ') :
    ∀ {u p e bp cp : Nat}, SLay g u s p e bp cp → ∀ {m : State}, MInv g σ m → Goes g p m o σ' e bp cp := by
  induction h with
  | skip => intro u p e bp cp hl m hm; cases hl; exact .normal (Reach.refl _ _) hm
  | expr hv =>
    intro u p e bp cp hl m hm; cases hl with | expr hh => ?_
    obtain ⟨m', r, hm', _⟩ := hh.run ok hv hm
    exact .normal r hm'
  | brk => intro u p e bp cp hl m hm; cases hl with | brk hj => exact ⟨m, hj.run ok m, hm, retOK_of_ne (fun v => by simp)⟩
  | cont => intro u p e bp cp hl m hm; cases hl with | cont hj => exact ⟨m, hj.run ok m, hm, retOK_of_ne (fun v => by simp)⟩
  | ret hv =>
    intro u p e bp cp hl m hm; cases hl with | ret hh hj => ?_
    obtain ⟨m', r, hm', hrep⟩ := hh.run ok hv hm
    exact ⟨m', r.trans (hj.run ok m'), hm', fun v' hv' => by cases hv'; exact hrep⟩
  | seq _ _ iha ihb =>
    intro u p e bp cp hl m hm; cases hl with | seq la lb => ?_
    obtain ⟨m1, r1, hm1, _⟩ := iha la hm
    exact (ihb lb hm1).from r1
  | seqStop _ ho iha =>
    intro u p e bp cp hl m hm; cases hl with | seq la lb => ?_
    obtain ⟨m1, r1, h1⟩ := iha la hm
    exact ⟨m1, tgt_abrupt ho _ _ _ _ ▸ r1, h1⟩
  | ifteT hv hv0 _ ih =>
    intro u p e bp cp hl m hm; cases hl with | ifte hc lt hj lf => ?_
    obtain ⟨m2, r2, hm2⟩ := hc.run ok hv hm
    rw [if_neg (by simp [hv0])] at r2
    exact ((ih lt hm2).then fun m' => (hj.run ok m').trans (hj.lbl.run m')).from r2
  | ifteF hv _ ih =>
    intro u p e bp cp hl m hm; cases hl with | ifte hc lt hj lf => ?_
    obtain ⟨m2, r2, hm2⟩ := hc.run ok hv hm
    rw [if_pos (by decide)] at r2
    exact ((ih lf hm2).then hj.lbl.run).from (r2.trans (hc.lbl.run m2))
  | forInit hv _ ih =>
    intro u p e bp cp hl m hm; cases hl with | for_ h0 hb hc lb hcl hi hj => ?_
    obtain ⟨t0, h0⟩ := h0
    obtain ⟨m0, r0, hm0, _⟩ := h0.run ok hv hm
    exact (ih (.for_ (init := none) rfl hb hc lb hcl hi hj) hm0).from r0
  | forExit hv =>
    intro u p e bp cp hl m hm; cases hl with | for_ h0 hb hc lb hcl hi hj => ?_
    cases h0
    obtain ⟨m2, r2, hm2⟩ := hc.run ok hv hm
    rw [if_pos (by decide)] at r2
    exact .normal ((hb.run m).trans (r2.trans (hc.lbl.run m2))) hm2
  | forNext hv hv0 _ hob hinc _ ihb ih =>
    intro u p e bp cp hl m hm
    have hl0 := hl
    cases hl with | for_ h0 hb hc lb hcl hi hj => ?_
    cases h0
    obtain ⟨m2, r2, hm2⟩ := hc.run ok hv hm
    rw [if_neg (by simp [hv0])] at r2
    obtain ⟨m3, r3, hm3, _⟩ := ihb lb hm2
    rw [tgt_loop hob] at r3
    obtain ⟨m4, r4, hm4⟩ := hi.run ok hinc hm3
    exact (ih hl0 hm4).from ((hb.run m).trans (r2.trans (r3.trans ((hcl.run m3).trans (r4.trans (hj.run ok m4))))))
  | forStop hv hv0 _ h1 h2 ihb =>
    intro u p e bp cp hl m hm; cases hl with | for_ h0 hb hc lb hcl hi hj => ?_
    cases h0
    obtain ⟨m2, r2, hm2⟩ := hc.run ok hv hm
    rw [if_neg (by simp [hv0])] at r2
    exact ((ihb lb hm2).leave h1 h2 hc.lbl.run).from ((hb.run m).trans r2)
  | doNext _ hob hv hv0 _ ihb ih =>
    intro u p e bp cp hl m hm
    have hl0 := hl
    cases hl with | doWhile hb lb hcl hc hbl => ?_
    obtain ⟨m3, r3, hm3, _⟩ := ihb lb hm
    rw [tgt_loop hob] at r3
    obtain ⟨m5, r5, hm5⟩ := hc.run ok hv hm3
    rw [if_pos (by simp [hv0])] at r5
    exact (ih hl0 hm5).from ((hb.run m).trans (r3.trans ((hcl.run m3).trans r5)))
  | doExit _ hob hv ihb =>
    intro u p e bp cp hl m hm; cases hl with | doWhile hb lb hcl hc hbl => ?_
    obtain ⟨m3, r3, hm3, _⟩ := ihb lb hm
    rw [tgt_loop hob] at r3
    obtain ⟨m5, r5, hm5⟩ := hc.run ok hv hm3
    rw [if_neg (by decide)] at r5
    exact .normal ((hb.run m).trans (r3.trans ((hcl.run m3).trans (r5.trans (hbl.run m5))))) hm5
  | doStop _ h1 h2 ihb =>
    intro u p e bp cp hl m hm; cases hl with | doWhile hb lb hcl hc hbl => ?_
    exact ((ihb lb hm).leave h1 h2 hbl.run).from (hb.run m)
  | case_ _ ih => intro u p e bp cp hl m hm; cases hl with | case_ hb ls => exact (ih ls hm).from (lbl_step hb m)
  | default_ _ ih => intro u p e bp cp hl m hm; cases hl with | default_ hb ls => exact (ih ls hm).from (lbl_step hb m)
  | switch ht hv hok hs _ ih =>
    intro u p e bp cp hl m hm; cases hl with | switch_ hh hat_l lb hlbrk => ?_
    obtain ⟨m1, tpos, r, hm1, h⟩ := switch_head ok hh hat_l lb hlbrk ht hv hok hm
    simp only [hs] at h
    obtain ⟨l, ls⟩ := h
    exact ((ih ls hm1).unbrk.then (lbl_step hlbrk)).from r
  | switchMiss ht hv hok hs =>
    intro u p e bp cp hl m hm; cases hl with | switch_ hh hat_l lb hlbrk => ?_
    obtain ⟨m1, tpos, r, hm1, h⟩ := switch_head ok hh hat_l lb hlbrk ht hv hok hm
    simp only [hs] at h
    subst h
    exact .normal (r.trans (lbl_step hlbrk m1)) hm1

end ChibiVerif.C03Fun
