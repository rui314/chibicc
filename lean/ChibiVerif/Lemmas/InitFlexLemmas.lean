/-
C05, parser = specification: a declared struct whose last member is a flexible array member (GNU: static initialization of a
flexible array member; the property names it).

The parser (`new_initializer(ty, true)`) gives the member the node `.flex`; the first initializer that reaches it sizes it with
`count_array_init_elements` - over its own brace-enclosed list (`array_initializer1`) or, with elided braces, over the rest of
the struct's list (`array_initializer2`) - or with the length of a string literal, and from then on the node is an ordinary
array.  The specification lets the array grow with every initializer (`growable`), as gcc does.  They agree as long as the
member is initialised once (`Flags.reinit`, region `FlexReinit`): the brace-enclosed case is `incLoop` (Lemmas/InitIncLemmas.lean),
the elided case is `flexLoop` below (parser loop, counting loop and the specification's list in lockstep), and the struct's
own list is `flex_struct1loop`: the loop of `sim_struct1loop` (`struct1loop_step`), with `flexMem` for the flexible member.
-/
import ChibiVerif.Lemmas.InitIncLemmas

namespace ChibiVerif.InitSpec
open ChibiVerif.Init

variable {j : Nat} {cs : List Init} {eo : Option Expr} {f : Nat} {ty : Ty} {r : List ITok} {ck : Init} {toks : List ITok} {top : Bool}

theorem bracket_struct_absurd {ms : Members} {sz : Nat} {fl0 : Bool} {cur : Option (List Nat)} {β : Type}
    {k : List (List Nat) × List ITok → Except Fail β} {res : β} (hb : isBracket toks = true)
    (h : (pathsOf (.struct ms sz fl0) top cur toks >>= k) = .ok res) : False := by
  obtain ⟨err, he⟩ := desigPaths_bracket_error (t := .struct ms sz fl0) rfl top (toks.length + 1) hb
  simp only [pathsOf, isDesg_of_isBracket hb, ↓reduceIte, he] at h
  cases h

/-- `ms` are the members of a struct with flexible array member `ms[k]` of type `e[n]` (`n` = 0 in C) -/
structure FlexTy (ms : Members) (k : Nat) (mik : MemInfo) (e : Ty) (n : Nat) : Prop where
  ok : flexOkMs ms = true
  last : k + 1 = ms.length
  mem : ms[k]? = some (mik, .array e n)
  elem : subOk e = true

theorem flexOkMs_last : ∀ (ms : Members), flexOkMs ms = true → ∃ k mik e n, FlexTy ms k mik e n
  | [], h => by simp [flexOkMs] at h
  | [(mi, t)], h => by
    cases t <;> first | (simp [flexOkMs] at h) | skip
    rename_i e n
    exact ⟨0, mi, e, n, h, rfl, rfl, by simpa [flexOkMs] using h⟩
  | (mi, t) :: m :: r, h => by
    have h' := h
    simp only [flexOkMs, Bool.and_eq_true] at h'
    obtain ⟨k, mik, e, n, hF⟩ := flexOkMs_last (m :: r) h'.2
    exact ⟨k + 1, mik, e, n, h, by have := hF.last; simp only [List.length_cons] at this ⊢; omega, by simpa using hF.mem, hF.elem⟩

section
variable {ms : Members} {sz : Nat} {k : Nat} {mik : MemInfo} {e : Ty} {n : Nat}

theorem FlexTy.tyOk (hF : FlexTy ms k mik e n) : tyOk (.struct ms sz true) = true := hF.ok

theorem FlexTy.sub_mem (hF : FlexTy ms k mik e n) : subTy (.struct ms sz true) [k] = some (.array e n) := by
  rw [subTy_one]; simp [childTy, hF.mem]

theorem FlexTy.sub_elem (hF : FlexTy ms k mik e n) (i : Nat) : subTy (.struct ms sz true) [k, i] = some e := by
  have := subTy_append [k] [i] (.struct ms sz true) _ (hF.sub_mem (sz := sz))
  simp only [List.cons_append, List.nil_append] at this
  rw [this, subTy_one]; rfl

theorem FlexTy.grow (hF : FlexTy ms k mik e n) : growable (.struct ms sz true) true [k] = true := by
  simp [growable, hF.last]

theorem FlexTy.flexIdx (hF : FlexTy ms k mik e n) : flexIdx (.struct ms sz true) true = some k := by
  have hne : ms.isEmpty = false := by
    cases ms with
    | nil => have := hF.last; simp at this
    | cons _ _ => rfl
  have : ms.length - 1 = k := by have := hF.last; omega
  simp [InitSpec.flexIdx, hne, this]

theorem FlexTy.next_mem (hF : FlexTy ms k mik e n) (top : Bool) : next (.struct ms sz true) top [k] = none := by
  have h := next_snoc (.struct ms sz true) top [] k
  simp only [List.reverse_nil] at h
  rw [h]
  have hp : ms[k + 1]? = none := List.getElem?_eq_none (by have := hF.last; omega)
  rw [cursorIn_struct_none rfl (nextNamed_past hp)]
  exact next_nil _ _

theorem FlexTy.next_elem (hF : FlexTy ms k mik e n) (i : Nat) : next (.struct ms sz true) true [i, k] = some [k, i + 1] := by
  have h := next_snoc (.struct ms sz true) true [k] i
  simp only [List.reverse_cons, List.reverse_nil, List.nil_append] at h
  rw [h]
  simp [cursorIn, hF.sub_mem, hF.grow]

theorem At.flexElem (hF : FlexTy ms k mik e n) (hs : shapedFlexMs ms cs = true) {xs : List Init}
    (hk : cs[k]? = some (.arr xs)) {i : Nat} {xi : Init} (hi : xs[i]? = some xi) :
    At (.struct ms sz true) true (.struct eo cs) [k, i] e xi where
  rootOk := hF.ok
  topOk := fun _ => rfl
  pok := rfl
  shp := hs
  sub := hF.sub_elem i
  get := by
    rw [getAt_cons_of_some _ (show (Init.struct eo cs).children[k]? = some (.arr xs) by simpa [Init.children] using hk)]
    exact getAt_one (by simpa [Init.children] using hi)
  ok := hF.elem

end

theorem countLoop_dot_error (f : Nat) (elem : Ty) (nm : String) (r : List ITok) (d : Init) (i mx : Int) :
    ∃ err, countLoop f elem (.dot nm :: r) d i mx false = .error err := by
  cases f with
  | zero => exact ⟨_, rfl⟩
  | succ f => rw [countLoop]; exact ⟨_, rfl⟩

/-! ### growing the specification's flexible array in advance changes nothing -/

theorem flex_tests (ck : Init) (hck : ck = .flex ∨ ∃ ys, ck = .arr ys) (i : Nat) (z : Init) (hz : hasExpr z = false) (s : List Nat) :
    SameTests ck (.arr (padI (elemsOf ck) i z)) (i :: s) := by
  rcases hck with rfl | ⟨ys, rfl⟩
  · -- `.flex` has no children, like `.arr []`
    have h0 : SameTests .flex (.arr []) (i :: s) := by
      constructor <;> simp [touched, switchesUnion, exprAbove, Init.children, hasAggExpr]
    exact h0.trans (pad_tests [] i z hz s)
  · exact pad_tests ys i z hz s

section
variable {ms : Members} {sz : Nat} {k : Nat} {mik : MemInfo} {e : Ty} {n : Nat}

theorem struct_tests (hk : cs[k]? = some ck) (X : Init) (q : List Nat) (h : SameTests ck X q) :
    SameTests (.struct eo cs) (.struct eo (cs.set k X)) (k :: q) := by
  obtain ⟨hlt, rfl⟩ := List.getElem?_eq_some_iff.mp hk
  cases eo <;> constructor <;>
    simp [touched, switchesUnion, exprAbove, Init.children, hasAggExpr, hlt, h.touched_eq, h.switches_eq, h.above_eq]

theorem modifyAt_flex_pad (hF : FlexTy ms k mik e n) (f : Ty → Init → Except Fail Init)
    (hk : cs[k]? = some ck) (i : Nat) (s : List Nat) :
    modifyAt (.struct ms sz true) true f (.struct ms sz true) [] (k :: i :: s) (.struct eo cs) =
      modifyAt (.struct ms sz true) true f (.struct ms sz true) [] (k :: i :: s)
        (.struct eo (cs.set k (.arr (padI (elemsOf ck) i (zeroOf e))))) := by
  have hlt : k < cs.length := (List.getElem?_eq_some_iff.mp hk).1
  rw [modifyAt_member hF.mem hk, modifyAt_member hF.mem (List.getElem?_set_self hlt), List.nil_append,
    modifyAt_grow (.inr ⟨n, rfl, hF.grow⟩), modifyAt_grow (.inr ⟨n, rfl, hF.grow⟩)]
  simp only [elemsOf, padI_idem, set_set_same]

/-- one initializer for (a subobject of) element `i` of the flexible array: the array may be grown first -/
theorem pregrow_flex_item (hF : FlexTy ms k mik e n) (g : Nat)
    (hk : cs[k]? = some ck) (hck : ck = .flex ∨ ∃ ys, ck = .arr ys) (i : Nat) (toks : List ITok) (fl : Flags) :
    initItem g (.struct ms sz true) true (.struct eo cs) [[k, i]] toks fl =
      initItem g (.struct ms sz true) true (.struct eo (cs.set k (.arr (padI (elemsOf ck) i (zeroOf e))))) [[k, i]] toks fl :=
  initItem_congr_obj g [k, i] (List.cons_ne_nil _ _) (fun q hq => ⟨[], by simpa using hq⟩) (fun s => by simp [growable])
    (fun s => struct_tests hk _ (i :: s) (flex_tests ck hck i _ (hasExpr_zeroOf e) s)) (fun f s => modifyAt_flex_pad hF f hk i s) toks fl

/-! ### elided braces: parser loop, counting loop and the specification's list in lockstep -/

theorem FlexTy.k_lt (hF : FlexTy ms k mik e n) (hcs : shapedFlexMs ms cs = true) : k < cs.length := by
  have := shapedFlexMs_length ms cs hcs
  have := hF.last
  omega

theorem FlexTy.shaped_set (hF : FlexTy ms k mik e n) (hcs : shapedFlexMs ms cs = true) {ys : List Init}
    (hys : shapedAll e ys = true) : shapedFlexMs ms (cs.set k (.arr ys)) = true :=
  shapedFlexMs_set ms cs k mik _ _ hcs hF.mem (Or.inr ⟨hF.last, e, n, rfl, Or.inr ⟨ys, rfl, hys⟩⟩)

theorem setAtM_flexElem {ys : List Init} (hk : k < cs.length) (i : Nat) (v : Init) :
    setAtM (.struct eo (cs.set k (.arr ys))) [k, i] v = .struct none (cs.set k (.arr (ys.set i v))) := by
  simp [setAtM, hk]

theorem flex_elem_step (hF : FlexTy ms k mik e n) (hcs : shapedFlexMs ms cs = true) {ys : List Init} (hys : shapedAll e ys = true)
    {i f2 : Nat} {xi xi' d d' : Init} {toks2 t : List ITok} (hi : ys[i]? = some xi)
    (hinit : initializer2 f e toks xi = .ok (xi', toks2)) (hd : shaped e d = true) (hdd : initializer2 f2 e toks d = .ok (d', t)) :
    shaped e xi' = true ∧ shaped e d' = true ∧ t = toks2 ∧ ∀ g fl res,
      initItem g (.struct ms sz true) true (.struct none (cs.set k (.arr ys))) [[k, i]] toks fl = .ok res → res.fl.clean = true →
      ∃ g1, initList g1 (.struct ms sz true) true (.struct none (cs.set k (.arr (ys.set i xi')))) (some [k, i + 1]) toks2 false fl
        = .ok res := by
  have hklt := hF.k_lt hcs
  have hAt := At.flexElem (sz := sz) (eo := none) hF (hF.shaped_set hcs hys) (xs := ys) (by simp [hklt]) hi
  obtain ⟨hsi, himp⟩ := (sim_all f).init2 hAt hinit
  refine ⟨hsi, ((sim_all f2).init2 (top := true) (At.root hF.elem hd) hdd).1,
    (consume_indep_init2 (sm_of_shaped hF.elem hd hAt.shapedc) hdd hinit).1, fun g fl res hres hcl => ?_⟩
  obtain ⟨g1, h1⟩ := himp g fl
  have hsp := h1 res hres hcl
  simp only [After, List.reverse_cons, List.reverse_nil, List.nil_append, List.cons_append] at hsp
  rw [setAtM_flexElem hklt, hF.next_elem] at hsp
  exact ⟨g1, hsp⟩

theorem isEnd_consumeEnd (h : isEnd toks = true) : ∃ r, consumeEnd toks = some r := by
  rcases isEnd_cases h with ⟨r, rfl⟩ | ⟨r, rfl⟩ <;> exact ⟨_, rfl⟩

/-- `array_initializer2`'s loop on the flexible member's array `xs` from element `i` on, the counting loop on the same tokens
    (result `xs.length`) and the specification's list for the STRUCT, whose member has `i` elements so far: where they succeed and
    the specification stays outside every region, it goes on behind the member with the parser's array `xs'` in place. -/
theorem flexLoop (hF : FlexTy ms k mik e n) {cs : List Init} (hcs : shapedFlexMs ms cs = true) :
    ∀ (f f2 : Nat) (xs : List Init) (toks : List ITok) (i : Nat) (c' : Init) (toks' : List ITok) (d : Init) (N : Int) (g : Nat)
      (fl : Flags) (res : Result), 0 < i →
      arrayInit2Loop f e toks (.arr xs) i = .ok (c', toks') →
      countLoop f2 e toks d (i : Int) (i : Int) false = .ok N →
      shaped e d = true → shapedAll e xs = true → N = (xs.length : Int) → i ≤ xs.length →
      (∀ j, i ≤ j → j < xs.length → xs[j]? = some (zeroOf e)) →
      initList g (.struct ms sz true) true (.struct none (cs.set k (.arr (xs.take i)))) (some [k, i]) toks false fl = .ok res →
      res.fl.clean = true →
      ∃ xs', c' = .arr xs' ∧ shapedAll e xs' = true ∧
        ∃ g', initList g' (.struct ms sz true) true (.struct none (cs.set k (.arr xs'))) none toks' false fl = .ok res
  | 0, _, _, _, _, _, _, _, _, _, _, _, _, h, _, _, _, _, _, _, _, _ => by cases h
  | f+1, f2, xs, toks, i, c', toks', d, N, g, fl, res, hi, h, hcnt, hd, hall, hN, hiL, hzero, hres, hcl => by
    have hklt := hF.k_lt hcs
    cases f2 with
    | zero => cases hcnt
    | succ f2 =>
    cases g with
    | zero => cases hres
    | succ g =>
    rw [arrayInit2Loop] at h
    split at h
    · rename_i hcond
      simp only [] at h
      simp only [Init.children, Bool.and_eq_true, Bool.not_eq_true'] at hcond
      obtain ⟨toks1, hcomma, h⟩ := bind_eq_ok h
      have htoks := skipTok_ok hcomma
      subst htoks
      have hce : consumeEnd (ITok.comma :: toks1) = none := consumeEnd_none_of_isEnd hcond.2
      have hfirst : (if false = true then pure (ITok.comma :: toks1) else skipTok ITok.comma "," (ITok.comma :: toks1)) = .ok toks1 := by
        simpa using hcomma
      replace hres := initList_item_imp hce hres hcl
      rw [hfirst, ok_bind] at hres
      by_cases hdg : isDesg toks1 = true
      · exfalso
        rcases isDesg_cases hdg with hb | ⟨nm, r, rfl⟩
        · exact bracket_struct_absurd hb hres
        · obtain ⟨d', t, h3, h4⟩ := countLoop_step_pos hce hfirst hcnt rfl
          obtain ⟨_, rfl⟩ := init2_stops hd hF.elem (.inr rfl) h3
          obtain ⟨err, he⟩ := countLoop_dot_error f2 e nm r d' ((i : Int) + 1) (max (i : Int) ((i : Int) + 1))
          rw [he] at h4; cases h4
      · simp only [hdg, Bool.false_eq_true, ↓reduceIte] at h
        obtain ⟨xi, hxi, h⟩ := bind_eq_ok h
        obtain ⟨⟨xi', toks2⟩, hinit, h⟩ := bind_eq_ok h
        simp only at h
        have hk : xs[i]? = some xi := by simpa [Init.children] using getChild_ok hxi
        have hil : i < xs.length := of_decide_eq_true hcond.1
        obtain ⟨d', t, hdd, hc⟩ := countLoop_step_pos hce hfirst hcnt (Bool.eq_false_iff.2 fun hb => hdg (isDesg_of_isBracket hb))
        simp only [pathsOf, hdg, Bool.false_eq_true, ↓reduceIte, pure_bind'] at hres
        have hkk : (cs.set k (.arr (xs.take i)))[k]? = some (.arr (xs.take i)) := by simp [hklt]
        rw [pregrow_flex_item hF g hkk (Or.inr ⟨_, rfl⟩) i toks1 fl] at hres
        simp only [elemsOf, set_set_same] at hres
        rw [take_pad hiL (of_decide_eq_true hcond.1) hzero] at hres
        have hmax : max i (i + 1) = i + 1 := by omega
        rw [hmax] at hres
        obtain ⟨hsi, hsd', rfl, himp⟩ := flex_elem_step (sz := sz) hF hcs (shapedAll_take e xs (i + 1) hall) (i := i) (by simp [hk])
          hinit hd hdd
        obtain ⟨g1, hsp⟩ := himp g fl res hres hcl
        rw [← List.take_set] at hsp
        have e1 : ((i + 1 : Nat) : Int) = (i : Int) + 1 := by omega
        have e2 : max (i : Int) ((i : Int) + 1) = (i : Int) + 1 := Int.max_eq_right (by omega)
        rw [e2, ← e1] at hc
        exact flexLoop hF hcs f f2 (xs.set i xi') t (i + 1) c' toks' d' N g1 fl res (Nat.succ_pos i) h hc hsd'
          (shapedAll_set e xs i xi' hall hsi) (by simpa using hN) (by simp only [List.length_set]; omega)
          (zeros_set hzero xi' (Nat.le_succ i) (Nat.lt_succ_self i))
          hsp hcl
    · rename_i hcond
      cases h
      simp only [Init.children, Bool.and_eq_true, Bool.not_eq_true', not_and, Bool.not_eq_false] at hcond
      by_cases hend : isEnd toks = true
      · obtain ⟨r', hce⟩ := isEnd_consumeEnd hend
        rw [countLoop] at hcnt
        simp only [hce] at hcnt
        cases hcnt
        have hlen : xs.length = i := by omega
        refine ⟨xs, rfl, hall, g + 1, ?_⟩
        rw [← hlen, List.take_length] at hres
        rw [← initList_stopped (cur := some [k, xs.length]) (cur' := none) (Or.inl hend)]
        exact hres
      · exfalso
        have hce : consumeEnd toks = none := consumeEnd_none_of_isEnd (by simpa using hend)
        have hilen : ¬ i < xs.length := fun hlt => hend (hcond (decide_eq_true hlt))
        replace hres := initList_item_imp hce hres hcl
        obtain ⟨toks1, hfirst, hres⟩ := bind_eq_ok hres
        by_cases hb : isBracket toks1 = true
        · exact bracket_struct_absurd hb hres
        · obtain ⟨d', t, _, h4⟩ := countLoop_step_pos hce hfirst hcnt (by simpa using hb)
          have := countLoop_ge e _ _ _ _ _ _ _ h4
          omega

theorem init2_array_unfold (f : Nat) (e : Ty) (n : Nat) (toks : List ITok) (c : Init) :
    initializer2 (f+1) (.array e n) toks c =
      (match toks with
        | .str _ bytes esz :: r => if e.isInteger then stringInitializer e bytes esz r c else arrayInit2 f e toks c 0
        | .lbrace :: r => (match bracedStr e r with
          | some (_, bytes, esz, rest) => stringInitializer e bytes esz rest c
          | none => arrayInit1 f e toks c)
        | _ => arrayInit2 f e toks c 0) := by
  cases toks with
  | nil => rw [initializer2] <;> intros <;> simp_all
  | cons tok r =>
    cases tok <;> rw [initializer2] <;> intros <;> simp_all
    cases hbs : bracedStr e r with
    | none => rfl
    | some x => rfl

theorem init2_array_len (f : Nat) (e : Ty) (n m : Nat) (toks : List ITok) (c : Init) :
    initializer2 f (.array e n) toks c = initializer2 f (.array e m) toks c := by
  cases f with
  | zero => rfl
  | succ f => rw [init2_array_unfold, init2_array_unfold]

/-- the parser never looks at the declared length of an array type, only at the node -/
theorem designation_array_len (f : Nat) (e : Ty) (n m : Nat) (toks : List ITok) (c : Init) :
    designation f (.array e n) toks c = designation f (.array e m) toks c := by
  cases f with
  | zero => rfl
  | succ f =>
    cases toks with
    | nil => simp only [designation]; exact init2_array_len ..
    | cons tok r =>
      cases tok <;> simp only [designation, Ty.elem?] <;> first | exact init2_array_len .. | rfl

/-- `if (init->is_flexible)` at the node `.flex`: it becomes a zero array of the counted length, on which `K` (the loop) then runs -/
theorem flex_resolve {K : Init → Init.P} {p : Init × List ITok}
    (h : ((match (generalizing := false) Init.flex with
            | .flex => do
              let len ← countArrayInit f e toks
              pure (newInit (.array e len) false)
            | i => pure i : Except Fail Init) >>= K) = .ok p) :
    ∃ len, K (newInit (.array e len) false) = .ok p := by
  obtain ⟨c0, hcount, hK⟩ := bind_eq_ok h
  obtain ⟨len, -, hc0⟩ := bind_eq_ok hcount
  cases hc0
  exact ⟨len, hK⟩

theorem arrayInit1_flex_resolve {p : Init × List ITok} (h : arrayInit1 f e toks .flex = .ok p) :
    ∃ len, arrayInit1 f e toks (newInit (.array e len) false) = .ok p := by
  cases f with
  | zero => cases h
  | succ f =>
    unfold arrayInit1 at h
    obtain ⟨toks1, h1, h⟩ := bind_eq_ok h
    obtain ⟨len, h⟩ := flex_resolve h
    exact ⟨len, by unfold arrayInit1; rw [h1]; exact h⟩

theorem arrayInit2_flex_resolve {i : Nat} {p : Init × List ITok} (h : arrayInit2 f e toks .flex i = .ok p) :
    ∃ len, arrayInit2 f e toks (newInit (.array e len) false) i = .ok p := by
  cases f with
  | zero => cases h
  | succ f =>
    unfold arrayInit2 at h
    obtain ⟨len, h⟩ := flex_resolve h
    exact ⟨len, by unfold arrayInit2; exact h⟩

/-- the first initializer makes the node `.flex` a zero array of the length it has counted
    (`*init = *new_initializer(array_of(ty->base, len), false)`) and goes on as for that array -/
theorem init2_flex_resolve {p : Init × List ITok} (h : initializer2 f (.array e n) toks .flex = .ok p) :
    ∃ len, initializer2 f (.array e len) toks (newInit (.array e len) false) = .ok p := by
  cases f with
  | zero => cases h
  | succ f =>
    simp only [init2_array_unfold, stringInitializer_flex_eq] at h ⊢
    split at h
    · -- a string literal
      cases hint : e.isInteger <;> simp only [hint, if_true, if_false, Bool.false_eq_true] at h ⊢
      · exact arrayInit2_flex_resolve h
      · exact ⟨_, h⟩
    · -- `{`: a string literal in braces, or the array's own list
      rename_i r0
      cases hbs : bracedStr e r0 <;> simp only [hbs] at h ⊢
      · exact arrayInit1_flex_resolve h
      · exact ⟨_, h⟩
    · -- elided braces
      exact arrayInit2_flex_resolve h

/-- the node the parser makes of `.flex` is an array of elements of the right shape -/
theorem flex_init2_shape (hoe : subOk e = true) {c' : Init} {toks' : List ITok}
    (h : initializer2 f (.array e n) toks .flex = .ok (c', toks')) : ∃ xs, c' = .arr xs ∧ shapedAll e xs = true := by
  obtain ⟨len, h'⟩ := init2_flex_resolve h
  have hoa : subOk (.array e len) = true := by simpa [subOk] using hoe
  obtain ⟨xs, rfl, _, hx⟩ := arr_of_shaped ((sim_all f).init2 (top := false) (At.root hoa (shaped_newInit _ hoa)) h').1
  exact ⟨xs, rfl, hx⟩

theorem modifyAt_flex_mem (hF : FlexTy ms k mik e n) (f : Ty → Init → Except Fail Init)
    (hk : cs[k]? = some ck) :
    modifyAt (.struct ms sz true) true f (.struct ms sz true) [] [k] (.struct eo cs) =
      (f (.array e n) ck >>= fun v => pure (.struct none (cs.set k v))) := by
  rw [modifyAt_member hF.mem hk, modifyAt]

theorem flex_untouched (hk : cs[k]? = some .flex) :
    touched (.struct eo cs) [k] = false ∧ switchesUnion (.struct eo cs) [k] = false ∧
      exprAbove (.struct eo cs) [k] = hasAggExpr (.struct eo cs) := by
  simp [touched, switchesUnion, exprAbove, Init.children, hk, hasExpr]

/-- `{ … }` for the flexible member: the list of an array of unknown bound -/
theorem initItem_brace_flex (hF : FlexTy ms k mik e n) (g : Nat) (obj : Init) (inner : List ITok) (fl : Flags)
    (hbl : bracedLit (.inc e) inner = none) :
    initItem g (.struct ms sz true) true obj [[k]] (.lbrace :: inner) fl =
      (initList g (.inc e) false (.arr []) (some [0]) inner true Flags.none >>= fun sub =>
        modifyAt (.struct ms sz true) true (fun _ _ => pure (unflex sub.obj)) (.struct ms sz true) [] [k] obj >>= fun obj' =>
          initList g (.struct ms sz true) true obj' (next (.struct ms sz true) true [k]) sub.rest false
            ((fl.join ⟨touched obj [k], exprAbove obj [k], false, false⟩).join sub.fl)) := by
  unfold initItem initItemWith
  simp only [hF.sub_mem, hF.grow, ↓reduceIte, pure_bind', hbl]
  have h1 : braceStart (.inc e) = .arr [] := rfl
  have h2 : firstCursor (.inc e) = some [0] := rfl
  rw [h1, h2]
  cases initList g (.inc e) false (.arr []) (some [0]) inner true Flags.none with
  | error err => rfl
  | ok sub =>
    simp only [ok_bind, List.any_cons, List.any_nil, Bool.or_false, List.length_singleton, Nat.lt_irrefl, decide_false,
      List.foldlM_cons, List.foldlM_nil, defaultMember]
    cases modifyAt (.struct ms sz true) true (fun _ _ => pure (unflex sub.obj)) (.struct ms sz true) [] [k] obj <;> rfl

/-- p14/p15 for the flexible member: `{ "…" }` is the literal alone -/
theorem initItem_bracedLit_flex (hF : FlexTy ms k mik e n) (g : Nat) (obj : Init) (inner : List ITok) (fl : Flags)
    {tok : ITok} (hbl : bracedLit (.inc e) inner = some (tok, r)) :
    initItem g (.struct ms sz true) true obj [[k]] (.lbrace :: inner) fl =
      initItem g (.struct ms sz true) true obj [[k]] (tok :: r) fl := by
  obtain ⟨id, bytes, esz, rfl⟩ := bracedLit_str hbl
  unfold initItem initItemWith
  simp only [hF.sub_mem, hF.grow, ↓reduceIte, pure_bind', hbl]

theorem flags_untouched {eo : Option Expr} {cs : List Init} (hk : cs[k]? = some .flex) (he : eo = none) (fl : Flags) (b : Bool)
    (hb : b = false) :
    fl.join ⟨b || touched (.struct eo cs) [k], exprAbove (.struct eo cs) [k], false, false⟩ = fl := by
  obtain ⟨h1, _, h3⟩ := flex_untouched (eo := eo) hk
  subst he hb
  rw [h1, h3]
  exact Flags.join_false fl

/-- elided braces: the rest of the struct's list belongs to the flexible array -/
theorem flex_elided (hF : FlexTy ms k mik e n) (hcs : shapedFlexMs ms cs = true) (hk : cs[k]? = some .flex)
    {c' : Init} {toks' : List ITok} (h : arrayInit2 f e toks .flex 0 = .ok (c', toks'))
    (hne : ∀ tok r, toks = tok :: r → tok ≠ .lbrace ∧ stopsAt (.array e n) tok = false) :
    ∀ g fl res, initItem g (.struct ms sz true) true (.struct none cs) [[k]] toks fl = .ok res → res.fl.clean = true →
      ∃ g', initList g' (.struct ms sz true) true (.struct none (cs.set k c')) none toks' false fl = .ok res := by
  intro g fl res hres hcl
  have hklt := hF.k_lt hcs
  cases toks with
  | nil => rw [initItem_nil] at hres; cases hres
  | cons tok r =>
  obtain ⟨hb, hst⟩ := hne tok r rfl
  by_cases hsa : startable tok = false
  · obtain ⟨err, he⟩ := initItem_not_startable g (.struct ms sz true) true (.struct none cs) [k] tok r fl hsa
    rw [he] at hres; cases hres
  have hsa' : startable tok = true := by simpa using hsa
  have hnd : isDesg (tok :: r) = false := startable_not_isDesg hsa'
  have hnend : isEnd (tok :: r) = false := startable_not_isEnd hsa'
  have hnbr : isBracket (tok :: r) = false := by cases tok <;> simp_all [startable, isBracket]
  cases f with
  | zero => cases h
  | succ f1 =>
  rw [arrayInit2] at h
  obtain ⟨c0, hcount, hloop⟩ := bind_eq_ok h
  obtain ⟨len, hlen, hc0⟩ := bind_eq_ok hcount
  cases hc0
  cases f1 with
  | zero => cases hlen
  | succ f2 =>
  rw [countArrayInit] at hlen
  obtain ⟨N, hN, hlen⟩ := bind_eq_ok hlen
  cases hlen
  have hd0 : shaped e (newInit e true) = true := by rw [newInit_true_eq e hF.elem]; exact shaped_newInit e hF.elem
  -- the first element
  cases f2 with
  | zero => cases hN
  | succ f3 =>
  have hce : consumeEnd (tok :: r) = none := consumeEnd_none_of_isEnd hnend
  obtain ⟨d', t, hdd, hc⟩ := countLoop_step_pos (i := 0) (mx := 0) hce
    (show (if true = true then pure (tok :: r) else skipTok ITok.comma "," (tok :: r)) = .ok (tok :: r) from rfl) hN hnbr
  have hN1 : (1 : Int) ≤ N := by
    have := countLoop_ge e _ _ _ _ _ _ _ hc
    have e2 : max (0 : Int) ((0 : Int) + 1) = 1 := rfl
    omega
  simp only [newInit] at hloop
  have hxl : (List.replicate N.toNat (newInit e false)).length = N.toNat := List.length_replicate
  have hall := shapedAll_replicate_zero e hF.elem N.toNat
  generalize hxs : List.replicate N.toNat (newInit e false) = xs at hloop hxl hall
  have hzero : ∀ j, 0 ≤ j → j < xs.length → xs[j]? = some (zeroOf e) := by
    intro j _ hj; subst hxs; simp only [List.length_replicate] at hj; simp [hj, zeroOf]
  rw [arrayInit2Loop] at hloop
  have hpos : 0 < xs.length := by omega
  simp only [Init.children, hpos, decide_true, hnend, Bool.not_false, Bool.and_self, ↓reduceIte, Nat.lt_irrefl, pure_bind', hnd,
    Bool.false_eq_true, gt_iff_lt] at hloop
  obtain ⟨x0, hx0, hloop⟩ := bind_eq_ok hloop
  obtain ⟨⟨x0', toks2⟩, hinit, hloop⟩ := bind_eq_ok hloop
  simp only [Init.setChild, Init.withChildren, Init.children] at hloop
  have hk0 : xs[0]? = some x0 := getChild_ok hx0
  have hx0z : x0 = zeroOf e := by have := hzero 0 (Nat.le_refl 0) hpos; rw [hk0] at this; cases this; rfl
  -- the specification: descend to element 0, grow, one element
  have hfs : firstSub (.struct ms sz true) true [k] (.array e n) = some 0 := by simp [firstSub, hF.grow]
  have h0 := initItem_descend_step (g := g) (obj := .struct none cs) (r := r) (fl := fl) hb (hF.sub_mem (sz := sz)) hst hfs
  have hres1 := h0 res hres hcl
  simp only [List.cons_append, List.nil_append] at hres1
  rw [pregrow_flex_item hF g hk (Or.inl rfl) 0 (tok :: r) fl] at hres1
  have hpad : padI (elemsOf Init.flex) 0 (zeroOf e) = [zeroOf e] := rfl
  rw [hpad] at hres1
  obtain ⟨hsi, hsd', rfl, himp⟩ := flex_elem_step (sz := sz) hF hcs (ys := [zeroOf e])
    (by simp [shapedAll, zeroOf, shaped_newInit e hF.elem]) (i := 0) (by simp [hx0z]) hinit hd0 hdd
  obtain ⟨g1, hsp⟩ := himp g fl res hres1 hcl
  have e2 : max (0 : Int) ((0 : Int) + 1) = ((1 : Nat) : Int) := rfl
  have e1 : (0 : Int) + 1 = ((1 : Nat) : Int) := rfl
  rw [e2, e1] at hc
  have htk : (xs.set 0 x0').take 1 = [x0'] := by
    cases xs with
    | nil => simp at hpos
    | cons a as => simp
  have hset : [zeroOf e].set 0 x0' = [x0'] := rfl
  rw [hset, ← htk] at hsp
  obtain ⟨xs', h1, h2, g', h3⟩ := flexLoop hF hcs (f3 + 1) f3 (xs.set 0 x0') t 1 c' toks' d' N g1 fl res Nat.one_pos hloop hc hsd'
    (shapedAll_set e xs 0 x0' hall hsi) (by simp only [List.length_set]; omega) (by simp only [List.length_set]; omega)
    (zeros_set hzero x0' (Nat.zero_le 1) Nat.one_pos)
    hsp hcl
  subst h1
  exact ⟨g', h3⟩

/-- **the first initializer of the flexible member** (`initializer2` on the node `.flex`): a string literal, a brace-enclosed
    list (sized by `count_array_init_elements` over the list: `incLoop`), or elided braces (sized over the rest of the struct's
    list: `flexLoop`) -/
theorem flex_init2 (hF : FlexTy ms k mik e n) (hcs : shapedFlexMs ms cs = true) (hk : cs[k]? = some .flex)
    {c' : Init} {toks' : List ITok} (h : initializer2 f (.array e n) toks .flex = .ok (c', toks')) :
    ∀ g fl res, initItem g (.struct ms sz true) true (.struct none cs) [[k]] toks fl = .ok res → res.fl.clean = true →
      ∃ g', initList g' (.struct ms sz true) true (.struct none (cs.set k c')) none toks' false fl = .ok res := by
  intro g fl res hres hcl
  cases f with
  | zero => cases h
  | succ f =>
  have strc : ∀ (id : Nat) (bytes : List Nat) (esz : Nat) (r : List ITok), e.isInteger = true →
      stringInitializer e bytes esz r .flex = .ok (c', toks') →
      initItem g (.struct ms sz true) true (.struct none cs) [[k]] (.str id bytes esz :: r) fl = .ok res →
      ∃ g', initList g' (.struct ms sz true) true (.struct none (cs.set k c')) none toks' false fl = .ok res := by
    intro id bytes esz r hint h hres
    · obtain ⟨h1, h2, h3, _⟩ := stringInitializer_flex hF.elem hint h
      subst h1
      rw [initItem_stop (by intro hh; cases hh) (hF.sub_mem (sz := sz)) (show stopsAt (.array e n) (.str id bytes esz) = true from h2),
        modifyAt_flex_mem hF _ hk] at hres
      have hst : storeTok (.struct ms sz true) true (.str id bytes esz) [k] (.array e n) .flex = .ok c' := by
        simp only [storeTok, hF.grow, ↓reduceIte]
        exact h3
      rw [hst] at hres
      simp only [ok_bind, pure_bind', tokFlags, nonScalarTouched, isStrTok, hF.sub_mem, Bool.true_and, List.reverse_cons, List.reverse_nil,
        List.nil_append] at hres
      obtain ⟨t1, t2, t3⟩ := flex_untouched (eo := none) hk
      rw [t1, t2, t3, hF.next_mem] at hres
      have : fl.join ⟨false || false, hasAggExpr (.struct none cs), false, false⟩ = fl := Flags.join_false fl
      rw [this] at hres
      exact ⟨g, hres⟩
  rw [init2_array_unfold] at h
  split at h
  · rename_i id bytes esz r
    split at h
    · -- a string literal for an array of character type
      rename_i hint
      exact strc id bytes esz r hint h hres
    · -- a string literal for an array of another type: an expression for its first scalar
      rename_i hint
      refine flex_elided hF hcs hk h (fun tok r' heq => ?_) g fl res hres hcl
      cases heq
      exact ⟨(by intro hh; cases hh), (by simp [stopsAt, strFits, hint])⟩
  · -- `{ … }`
    rename_i inner
    split at h
    · -- p14/p15: a string literal in braces: the literal alone
      rename_i id bytes esz rest hbs
      obtain ⟨_, _, _, hi, _⟩ := bracedStr_some hbs
      have hbl := bracedLit_of_bracedStr (t := .inc e) rfl hbs
      rw [initItem_bracedLit_flex hF _ _ _ _ hbl] at hres
      exact strc id bytes esz rest (isIntNotBool_isInteger hi) h hres
    rename_i hbs
    have hbl := bracedLit_none_of_bracedStr (t := .inc e) rfl hbs
    rw [initItem_brace_flex hF _ _ _ _ hbl] at hres
    obtain ⟨sub, hsub, hres⟩ := bind_eq_ok hres
    obtain ⟨obj', hmod, hfin⟩ := bind_eq_ok hres
    obtain ⟨_, hsubcl⟩ := Flags.clean_join (initList_clean hfin hcl)
    obtain ⟨cs', rfl, h3, h4, h5⟩ := arrayInit1_flex hF.elem false h hsub hsubcl
    rw [h3, modifyAt_flex_mem hF _ hk] at hmod
    simp only [unflex, pure_bind'] at hmod
    cases hmod
    rw [h4, h5, hF.next_mem, Flags.join_none] at hfin
    have hfl := flags_untouched (eo := none) hk rfl fl false rfl
    rw [Bool.false_or] at hfl
    rw [hfl] at hfin
    exact ⟨g, hfin⟩
  · -- elided braces
    rename_i hn1 hn2
    refine flex_elided hF hcs hk h (fun tok r' heq => ?_) g fl res hres hcl
    subst heq
    refine ⟨fun hh => ?_, ?_⟩
    · subst hh; exact hn2 _ rfl
    · cases tok <;> first | rfl | exact absurd rfl (hn1 _ _ _ _)

theorem reinitAt_first (hF : FlexTy ms k mik e n) (hk : cs[k]? = some .flex) (d : Bool)
    (ps : List (List Nat)) : reinitAt (.struct ms sz true) true (.struct eo cs) d ps = false := by
  unfold reinitAt
  rw [hF.flexIdx]
  cases ps with
  | nil => rfl
  | cons p ps =>
    cases p with
    | nil => rfl
    | cons j q => simp [Init.children, hk]

theorem reinitAt_again (hF : FlexTy ms k mik e n) {xs : List Init} (hk : cs[k]? = some (.arr xs))
    (d : Bool) (q : List Nat) (ps : List (List Nat)) (hd : d = true ∨ q = []) :
    reinitAt (.struct ms sz true) true (.struct eo cs) d ((k :: q) :: ps) = true := by
  unfold reinitAt
  rw [hF.flexIdx]
  rcases hd with rfl | rfl <;> simp [Init.children, hk]

theorem reinit_dirty {g : Nat} {root : Ty} {obj : Init} {ps : List (List Nat)} {fl : Flags} {d : Bool}
    {res : Result} (hr : reinitAt root top obj d ps = true)
    (h : initItem g root top obj ps toks (fl.join (reinitFl root top obj d ps)) = .ok res) : res.fl.clean = false := by
  cases hc : res.fl.clean with
  | false => rfl
  | true =>
    have := (Flags.clean_join (initItem_clean h hc)).2
    simp [reinitFl, hr, Flags.clean] at this

theorem reinit_clean_none {root : Ty} {obj : Init} {ps : List (List Nat)} {d : Bool} (fl : Flags)
    (hr : reinitAt root top obj d ps = false) : fl.join (reinitFl root top obj d ps) = fl := by
  rw [reinitFl_none_of hr, Flags.join_none]

/-- `designation` on the unresolved flexible member: only `=`? followed by the initializer is accepted -/
theorem designation_flex {c' : Init} {t : List ITok}
    (h : designation f (.array e n) r .flex = .ok (c', t)) :
    ∃ f' r', initializer2 f' (.array e n) r' .flex = .ok (c', t) ∧
      (r = .eq :: r' ∨ (r = r' ∧ isDesg r = false ∧ ∀ r'', r ≠ .eq :: r'')) := by
  cases f with
  | zero => cases h
  | succ f =>
    cases r with
    | nil => rw [designation] at h <;> first | exact ⟨f, [], h, Or.inr ⟨rfl, rfl, fun _ hh => by cases hh⟩⟩ | (intros; simp_all)
    | cons tok r0 =>
      cases tok with
      | idx a => rw [designation] at h; simp [Ty.elem?] at h
      | range a b => rw [designation] at h; simp [Ty.elem?] at h
      | dot nm => rw [designation] at h <;> first | cases h | (intros; simp_all)
      | eq => rw [designation] at h; exact ⟨f, r0, h, Or.inl rfl⟩
      | _ => rw [designation] at h <;> first | exact ⟨f, _, h, Or.inr ⟨rfl, rfl, fun _ hh => by cases hh⟩⟩ | (intros; simp_all)

theorem flex_desg (hF : FlexTy ms k mik e n) (hcs : shapedFlexMs ms cs = true) (hk : cs[k]? = some .flex)
    {c' : Init} {toks' : List ITok} (h : designation f (.array e n) r .flex = .ok (c', toks')) :
    (∃ xs, c' = .arr xs ∧ shapedAll e xs = true) ∧
    ∀ g d fl res, (desigPaths (.struct ms sz true) true (d + 1) [[k]] r >>= fun pt =>
        initItem g (.struct ms sz true) true (.struct none cs) pt.1 pt.2
          (fl.join (reinitFl (.struct ms sz true) true (.struct none cs) true pt.1))) = .ok res → res.fl.clean = true →
      ∃ g', initList g' (.struct ms sz true) true (.struct none (cs.set k c')) none toks' false fl = .ok res := by
  obtain ⟨f', r', hinit, hr⟩ := designation_flex h
  refine ⟨flex_init2_shape hF.elem hinit, fun g d fl res hres hcl => ?_⟩
  have key : (initItem g (.struct ms sz true) true (.struct none cs) [[k]] r'
      (fl.join (reinitFl (.struct ms sz true) true (.struct none cs) true [[k]]))) = .ok res := by
    rcases hr with rfl | ⟨rfl, hnd, hne⟩
    · rw [desigPaths_eq] at hres; exact hres
    · rw [desigPaths_plain _ _ _ _ _ hnd hne] at hres; exact hres
  rw [reinit_clean_none fl (reinitAt_first hF hk true _)] at key
  exact flex_init2 hF hcs hk hinit g fl res key hcl

/-- the flexible member's node against the specification's initializer for `[k]`: the first initializer sizes the node
    (`flex_init2`, `flex_desg`), a later one lies in the region `FlexReinit` -/
theorem flexMem (hF : FlexTy ms k mik e n) (f : Nat) : FlexMem ms sz k (.array e n) f where
  pos := by
    intro cs ck toks ck' toks2 hcs hk hinit
    rcases shapedFlexMs_get ms cs k _ _ ck hcs hF.mem hk with ⟨h1, _⟩ | ⟨_, e', n', heq, hnode⟩
    · exact absurd hF.last h1
    · cases heq
      rcases hnode with rfl | ⟨xs, rfl, hx⟩
      · obtain ⟨xs', rfl, hx2⟩ := flex_init2_shape hF.elem hinit
        refine ⟨hF.shaped_set hcs hx2, fun g fl res hres hcl => ?_⟩
        rw [reinit_clean_none fl (reinitAt_first hF hk false _)] at hres
        exact flex_init2 hF hcs hk hinit g fl res hres hcl
      · rw [init2_array_len f e n xs.length] at hinit
        obtain ⟨hs', _⟩ := (sim_all f).init2 (top := false) (At.root (by simpa [subOk] using hF.elem)
          (show shaped (.array e xs.length) (.arr xs) = true by simp [shaped, hx])) hinit
        obtain ⟨xs', rfl, _, hx2⟩ := arr_of_shaped hs'
        refine ⟨hF.shaped_set hcs hx2, fun g fl res hres hcl => ?_⟩
        have := reinit_dirty (reinitAt_again hF hk false [] [] (Or.inr rfl)) hres
        rw [hcl] at this; cases this
  desg := by
    intro cs ck r ck' tok2 hcs hk hd
    rcases shapedFlexMs_get ms cs k _ _ ck hcs hF.mem hk with ⟨h1, _⟩ | ⟨_, e', n', heq, hnode⟩
    · exact absurd hF.last h1
    · cases heq
      rcases hnode with rfl | ⟨xs, rfl, hx⟩
      · obtain ⟨⟨xs', rfl, hx2⟩, himp1⟩ := flex_desg (sz := sz) hF hcs hk hd
        exact ⟨hF.shaped_set hcs hx2, himp1⟩
      · rw [designation_array_len f e n xs.length] at hd
        obtain ⟨hs', _⟩ := (sim_all f).desg (top := false) (At.root (by simpa [subOk] using hF.elem)
          (show shaped (.array e xs.length) (.arr xs) = true by simp [shaped, hx])) hd
        obtain ⟨xs', rfl, _, hx2⟩ := arr_of_shaped hs'
        refine ⟨hF.shaped_set hcs hx2, fun g d fl res hres hcl => ?_⟩
        obtain ⟨⟨ps, t⟩, hdp, hitem⟩ := bind_eq_ok hres
        obtain ⟨hne, hpre⟩ := desigPaths_single hdp
        obtain ⟨p0, ps, rfl⟩ := List.exists_cons_of_ne_nil hne
        obtain ⟨q, rfl⟩ := hpre p0 (by simp)
        have := reinit_dirty (reinitAt_again hF hk true q ps (Or.inl rfl)) hitem
        rw [hcl] at this; cases this

/-- the struct's own list: `struct_initializer1`'s loop, with `flexMem` for the last member -/
theorem flex_struct1loop (hF : FlexTy ms k mik e n) : ∀ f, Loop1 ms sz true true f
  | 0 => fun _ h => by cases h
  | f+1 => struct1loop_step (sim_all f) hF.tyOk (fun _ => rfl) (flex_struct1loop hF f) (fun k' _ t _ hlast hm => by
      cases show k' = k by have := hF.last; omega
      cases (Option.some.inj (hm.symm.trans hF.mem))
      exact flexMem hF f)

theorem shapedFlexMs_newInitMs : ∀ (ms : Members), flexOkMs ms = true → shapedFlexMs ms (newInitMs ms true) = true
  | [], h => by simp [flexOkMs] at h
  | [(mi, t)], h => by
    cases t <;> first | (simp [flexOkMs] at h) | skip
    simp [newInitMs, shapedFlexMs]
  | (mi, t) :: m :: r, h => by
    simp only [flexOkMs, Bool.and_eq_true] at h
    simp only [newInitMs, shapedFlexMs, Bool.and_eq_true]
    exact ⟨shaped_newInit t h.1, shapedFlexMs_newInitMs (m :: r) h.2⟩

end

/-- **parser = 6.7.9 for a declared struct with a flexible array member** -/
theorem parse_spec_flex {ms : Members} {sz : Nat} {p : Init × List ITok} {r : Result}
    (ho : flexOkMs ms = true)
    (hp : initializer2 f (.struct ms sz true) toks (newInit (.struct ms sz true) true) = .ok p)
    (hs : initFull (.struct ms sz true) toks = .ok r) (hc : r.fl.clean = true) : p.1 = r.obj ∧ p.2 = r.rest := by
  obtain ⟨c', rest⟩ := p
  obtain ⟨k, mik, e, n, hF⟩ := flexOkMs_last ms ho
  have hinit : newInit (.struct ms sz true) true = .struct none (newInitMs ms true) := by simp [newInit]
  rw [hinit] at hp
  have hcs := shapedFlexMs_newInitMs ms ho
  cases toks with
  | nil => cases hs
  | cons tok r0 =>
    cases f with
    | zero => cases hp
    | succ f =>
    by_cases hb : tok = .lbrace
    · subst hb
      rw [initializer2] at hp
      simp only [startsBrace, ↓reduceIte] at hp
      cases f with
      | zero => cases hp
      | succ f1 =>
      rw [structInit1] at hp
      simp only [skipTok, ↓reduceIte, ok_bind] at hp
      obtain ⟨hs', himp⟩ := flex_struct1loop (sz := sz) hF f1 (c := .struct none (newInitMs ms true)) hcs hp
      unfold initFull at hs
      simp only at hs
      obtain ⟨res, hres, hs⟩ := bind_eq_ok hs
      cases hs
      rw [hinit] at hres
      have hcur : firstCursor (.struct ms sz true) = cursorIn (.struct ms sz true) true [] 0 := by
        rw [cursorIn_struct_root]; rfl
      simp only [unflex] at hres
      rw [hcur] at hres
      cases himp rfl _ _ res hres hc
      obtain ⟨_, _, rfl⟩ := struct_of_shapedR hs'
      exact ⟨rfl, rfl⟩
    · rw [initializer2] at hp
      have hsb : startsBrace (tok :: r0) = false := by cases tok <;> first | exact absurd rfl hb | rfl
      simp only [hsb, Bool.false_eq_true, ↓reduceIte] at hp
      obtain ⟨⟨ex, rest'⟩, hpa, hp⟩ := bind_eq_ok hp
      obtain ⟨tok', htoks, hte, _, _, hkind⟩ := parseAssign_ok hpa
      cases htoks
      unfold initFull at hs
      cases tok with
      | expr e0 =>
        simp only at hs
        rcases hkind with ⟨e', he', rfl⟩ | ⟨hstr, _, _⟩
        · cases he'
          split at hs
          · rename_i hisS
            simp only [hisS, ↓reduceIte] at hp
            cases hs; cases hp
            rw [hinit]
            exact ⟨rfl, rfl⟩
          · cases hs
        · simp [isStrTok] at hstr
      | _ => first | exact absurd rfl hb | cases hs

/-- **parser = 6.7.9** for every covered declared type (`tyOk`): scalars, arrays, arrays of unknown bound, structs (the declared
    struct may end in a flexible array member), unions, bit-fields, anonymous members, to any depth -/
theorem parse_spec_tyOk {p : Init × List ITok} {r : Result} (ho : tyOk ty = true)
    (hp : initializer2 f ty toks (newInit ty true) = .ok p) (hs : initFull ty toks = .ok r) (hc : r.fl.clean = true) :
    p.1 = r.obj ∧ p.2 = r.rest := by
  cases hfr : isFlexRoot ty with
  | false => exact parse_spec_tyOk_noflex ho hfr hp hs hc
  | true =>
    cases ty with
    | struct ms sz fl =>
      cases fl with
      | false => simp [isFlexRoot] at hfr
      | true => exact parse_spec_flex (by simpa [tyOk] using ho) hp hs hc
    | _ => simp [isFlexRoot] at hfr

/-! ### the region `FlexReinit` is empty for types without flexible array member -/

theorem flexIdx_none (h : top = false ∨ isFlexRoot ty = false) : flexIdx ty top = none := by
  cases ty with
  | struct ms sz fl =>
    cases fl with
    | false => rfl
    | true =>
      rcases h with rfl | h
      · simp [flexIdx]
      · simp [isFlexRoot] at h
  | _ => rfl

/-- region `FlexReinit` is entered only by a list of the declared struct with flexible array member itself -/
theorem initList_reinit : ∀ (g : Nat) (ty : Ty) (top : Bool) (obj : Init) (cur : Option (List Nat)) (toks : List ITok)
    (first : Bool) (fl : Flags) (r : Result), (top = false ∨ isFlexRoot ty = false) →
    initList g ty top obj cur toks first fl = .ok r → r.fl.reinit = fl.reinit
  | 0, _, _, _, _, _, _, _, _, _, h => by cases h
  | g+1, ty, top, obj, cur, toks, first, fl, r, hty, h => by
    cases he : consumeEnd toks with
    | some rest =>
      rw [initList_end he] at h
      cases h; rfl
    | none =>
      rw [initList_item he] at h
      obtain ⟨toks1, _, h⟩ := bind_eq_ok h
      obtain ⟨⟨ps, t⟩, _, h⟩ := bind_eq_ok h
      have hr0 : (fl.join (reinitFl ty top obj (isDesg toks1) ps)).reinit = fl.reinit := by
        have : reinitAt ty top obj (isDesg toks1) ps = false := by
          unfold reinitAt
          rw [flexIdx_none hty]
        simp [Flags.join, reinitFl, this]
      simp only at h
      rw [← hr0]
      generalize fl.join (reinitFl ty top obj (isDesg toks1) ps) = fl' at h ⊢
      -- neither kind of initializer sets the flag; it comes from `reinitAt` alone
      have tokc : ∀ {ps : List (List Nat)} {tok : ITok} {r0 : List ITok},
          initTokWith (initList g) ty top obj ps tok r0 fl' = .ok r → r.fl.reinit = fl'.reinit := by
        intro ps tok r0 h
        obtain ⟨_, _, _, _, h⟩ := initTokWith_ok h
        rw [initList_reinit g _ _ _ _ _ _ _ _ hty h]
        simp only [Flags.join, tokFl, Bool.or_false]
      rcases initItemWith_ok h with ⟨_, _, _, h⟩ | ⟨_, _, _, _, _, h⟩ | ⟨_, _, _, _, _, _, _, ⟨_, _, _, h⟩ | ⟨_, sub, _, hsub, _, h⟩⟩
      · exact initList_reinit g _ _ _ _ _ _ _ _ hty h
      · exact tokc h
      · exact tokc h
      · rw [initList_reinit g _ _ _ _ _ _ _ _ hty h]
        simp only [Flags.join, braceFl, initList_reinit g _ _ _ _ _ _ _ _ (Or.inl rfl) hsub, Flags.none, Bool.or_false]

/-- for a declared type without flexible array member the fourth region (`FlexReinit`) is empty: `clean` is decided by the
    other three -/
theorem initFull_reinit_noflex {r : Result} (hnf : isFlexRoot ty = false)
    (hs : initFull ty toks = .ok r) : r.fl.reinit = false := by
  unfold initFull at hs
  split at hs
  · split at hs
    · obtain ⟨_, _, hs⟩ := bind_eq_ok hs; cases hs; rfl
    · obtain ⟨res, hres, hs⟩ := bind_eq_ok hs
      cases hs
      exact initList_reinit _ _ _ _ _ _ _ _ _ (Or.inr hnf) hres
  · split at hs
    all_goals first
      | (obtain ⟨_, _, hs⟩ := bind_eq_ok hs; cases hs; rfl)
      | (split at hs <;> first | (obtain ⟨_, _, hs⟩ := bind_eq_ok hs; cases hs; rfl) | (cases hs; rfl) | cases hs)
      | cases hs
  · cases hs

end ChibiVerif.InitSpec
