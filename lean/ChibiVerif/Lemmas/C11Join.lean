/-
`join_adjacent_string_literals` as translated from preprocess.c (Gen/StrJoinGen.lean: `getStringKind`, `tokenize_string_literal`,
the first pass `joinPass1` and the second pass `joinPass2` on one run of adjacent string literals) against the hand model of
Model/Literals.lean (`getStringKind`, `resolveKind`, `retokenize`, `joinStrings`), and the byte-level meaning of the second pass:
the `calloc` / `memcpy` arithmetic writes the code units of all tokens one after the other followed by exactly one zero unit,
and no `memcpy` leaves the allocation.
-/
import ChibiVerif.Model.StrJoin
import ChibiVerif.Lemmas.C11Readers
import ChibiVerif.Lemmas.C11JoinModel

namespace ChibiVerif.Lemmas.Join
open ChibiVerif.Gen.Literals
open ChibiVerif.Gen.StrJoin
open ChibiVerif.StrJoin
open ChibiVerif.Literals
open ChibiVerif.Spec.Literals (StrPrefix joinPrefix joinPrefixFrom)
open ChibiVerif.Lemmas.Readers

theorem unitBytes_length (sz u : Nat) : (unitBytes sz u).length = sz := by simp [unitBytes]

theorem unitsBytes_length (sz : Nat) (us : List Nat) : (us.flatMap (unitBytes sz)).length = sz * us.length := by
  induction us with
  | nil => simp
  | cons u us ih =>
    rw [List.flatMap_cons, List.length_append, unitBytes_length, ih, List.length_cons, Nat.mul_succ]; omega

theorem strBytes_length (sz : Nat) (us : List Nat) : (strBytes sz us).length = sz * (us.length + 1) := by
  rw [strBytes, List.length_append, unitsBytes_length, List.length_replicate, Nat.mul_succ]

/-- total number of code units of a list of tokens -/
def totalUnits (hs : List StrTok) : Nat := ((hs.map (·.units)).flatten).length

theorem totalUnits_cons (h : StrTok) (hs : List StrTok) : totalUnits (h :: hs) = h.units.length + totalUnits hs := by
  simp [totalUnits]

/-- the units of a token and their terminator copied to the start of the zero-filled rest of an allocation: the terminator falls on
    zeros, so the rest stays zero-filled from the end of the units on -/
theorem memcpyAt_zeros (pre us : List (BitVec 8)) (sz m : Nat) (h : us.length + sz ≤ m) :
    memcpyAt (pre ++ List.replicate m 0#8) (pre.length : Int) (us ++ List.replicate sz 0#8) ((us.length + sz : Nat) : Int) =
      some ((pre ++ us) ++ List.replicate (m - us.length) 0#8) := by
  unfold memcpyAt
  rw [if_pos (by simp only [List.length_append, List.length_replicate, Int.toNat_natCast]; omega)]
  simp only [Int.toNat_natCast, List.take_left', List.drop_append, List.drop_replicate]
  rw [List.take_of_length_le (by simp), List.drop_eq_nil_of_le (by omega), List.nil_append, List.append_assoc, List.append_assoc,
    List.replicate_append_replicate]
  congr 4
  omega

/-- the `len` loop, whatever the tokens: `len + Σ (array_len − 1)` -/
theorem pass2_len : ∀ (ts : List Tok) (len : Int), joinPass2_loop1 ts len = .ok (len + (ts.map (fun t => t.arrayLen - 1)).sum)
  | [], len => by simp [joinPass2_loop1]
  | t :: ts, len => by
    rw [joinPass2_loop1, pass2_len ts, List.map_cons, List.sum_cons]
    congr 1
    omega

/-- for tokens that stand for model tokens, `Σ (array_len − 1)` is the number of code units -/
theorem arrayLen_sum {ts : List Tok} {hs : List StrTok} (h : AllPairs Rep ts hs) :
    (ts.map (fun t => t.arrayLen - 1)).sum = (totalUnits hs : Int) := by
  induction h with
  | nil => simp [totalUnits]
  | cons hr _ ih => rw [List.map_cons, List.sum_cons, ih, hr.2.2.1, totalUnits_cons]; push_cast; omega

/-- the `memcpy` loop on a zero-filled allocation with room for the remaining units and one terminator: the units of every token are
    written one after the other (each copy's terminator is overwritten by the next copy), no copy leaves the allocation -/
theorem pass2_copy (sz : Nat) : ∀ (ts : List Tok) (hs : List StrTok), AllPairs Rep ts hs → (∀ h ∈ hs, h.elem.size = sz) →
    ∀ (pre : List (BitVec 8)) (m : Nat), sz * (totalUnits hs + 1) ≤ m →
    joinPass2_loop2 ts (pre ++ List.replicate m 0#8) (pre.length : Int) =
      .ok (pre ++ (((hs.map (·.units)).flatten).flatMap (unitBytes sz) ++ List.replicate (m - sz * totalUnits hs) 0#8),
           ((pre.length + sz * totalUnits hs : Nat) : Int)) := by
  intro ts hs h
  induction h with
  | nil => intro _ pre m _; simp [joinPass2_loop2, totalUnits]
  | @cons t h ts hs hr _ ih =>
    intro hsz pre m hm
    obtain ⟨_, hb, hal, hstr⟩ := hr
    have hsz1 : h.elem.size = sz := hsz h (by simp)
    have hU := unitsBytes_length sz h.units
    rw [totalUnits_cons, Nat.add_assoc, Nat.mul_add, Nat.mul_succ] at hm
    have hts : t.tySize = (((h.units.flatMap (unitBytes sz)).length + sz : Nat) : Int) := by
      simp only [Tok.tySize, arrayOfSize, hb, hal, hsz1, hU]; push_cast; rw [Int.mul_add, Int.mul_one]
    simp only [joinPass2_loop2]
    rw [hts, hstr, hsz1, strBytes, memcpyAt_zeros pre _ sz m (by omega)]
    simp only []
    rw [show ((pre.length : Int) + (((h.units.flatMap (unitBytes sz)).length + sz : Nat) : Int)) - (t.base.size : Int) =
        ((pre ++ h.units.flatMap (unitBytes sz)).length : Int) by rw [hb, hsz1, List.length_append]; push_cast; omega,
      ih (fun h' hh => hsz h' (by simp [hh])) _ _ (by rw [Nat.mul_succ]; omega)]
    simp only [List.map_cons, List.flatten_cons, List.flatMap_append, List.append_assoc, List.length_append, hU,
      totalUnits_cons, Nat.mul_add]
    rw [Nat.sub_sub, Nat.add_assoc]

theorem pass2_run (sz : Nat) (a : Tok) (as : List Tok) (h : StrTok) (hs : List StrTok)
    (hr : AllPairs Rep (a :: as) (h :: hs)) (hsz : ∀ x ∈ h :: hs, x.elem.size = sz) :
    joinPass2 a as = .ok { a with arrayLen := (totalUnits (h :: hs) : Int) + 1,
                                   str := strBytes sz (((h :: hs).map (·.units)).flatten) } := by
  cases hr with
  | cons hra hras =>
    have hb : a.base.size = sz := by rw [hra.2.1]; exact hsz h (by simp)
    have hlen : (h.units.length : Int) + 1 + (totalUnits hs : Int) = ((totalUnits (h :: hs) + 1 : Nat) : Int) := by
      rw [totalUnits_cons]; push_cast; omega
    have hcopy := pass2_copy sz (a :: as) (h :: hs) (.cons hra hras) hsz [] (sz * (totalUnits (h :: hs) + 1)) (Nat.le_refl _)
    rw [List.nil_append, List.nil_append, Nat.mul_succ, Nat.add_sub_cancel_left] at hcopy
    unfold joinPass2
    simp only []
    rw [pass2_len, arrayLen_sum hras, hra.2.2.1, hlen]
    simp only []
    rw [calloc, hb, ← Int.natCast_mul, Int.toNat_natCast, Nat.mul_succ]
    rw [show (0 : Int) = (([] : List (BitVec 8)).length : Int) from rfl, hcopy]
    rfl

theorem kindToGen_inj (a b : StrKind) : kindToGen a = kindToGen b ↔ a = b := by
  cases a <;> cases b <;> simp [kindToGen]

theorem kindToGen_none (a : StrKind) : kindToGen a = .STR_NONE ↔ a = .none := by
  cases a <;> simp [kindToGen]

theorem rep_toTok (t : StrTok) : Rep (toTok t) t := ⟨rfl, rfl, rfl, rfl⟩

theorem relE_ok {α β : Type} {R : α → β → Prop} {x : Except JoinErr α} {b : β} (h : RelE R x (.ok b)) :
    ∃ a, x = .ok a ∧ R a b := by
  cases x with
  | error e => exact h.elim
  | ok a => exact ⟨a, rfl, h⟩

theorem relE_error {α β : Type} {R : α → β → Prop} {x : Except JoinErr α} {e : LitErr} (h : RelE R x (.error e)) :
    ∃ e', x = .error e' ∧ ofJoinErr e' = e := by
  cases x with
  | error e' => exact ⟨e', rfl, h⟩
  | ok a => exact h.elim

theorem relE_cases {α β : Type} {R : α → β → Prop} {x : Except JoinErr α} {y : Except LitErr β} (h : RelE R x y) :
    (∃ e, x = .error e ∧ y = .error (ofJoinErr e)) ∨ ∃ a b, x = .ok a ∧ y = .ok b ∧ R a b := by
  cases x <;> cases y
  · exact .inl ⟨_, rfl, by rw [← h]⟩
  · exact h.elim
  · exact h.elim
  · exact .inr ⟨_, _, rfl, rfl, h⟩

theorem relE_ite {α β : Type} {R : α → β → Prop} {c c' : Prop} [Decidable c] [Decidable c'] {x x' : Except JoinErr α}
    {y y' : Except LitErr β} (hc : c ↔ c') (h : RelE R x y) (h' : RelE R x' y') :
    RelE R (if c then x else x') (if c' then y else y') := by
  by_cases h1 : c
  · rw [if_pos h1, if_pos (hc.mp h1)]; exact h
  · rw [if_neg h1, if_neg (mt hc.mpr h1)]; exact h'

theorem getStringKind_eq (t : StrTok) :
    RelE (fun k k' => k = kindToGen k') (ChibiVerif.Gen.StrJoin.getStringKind (toTok t)) (ChibiVerif.Literals.getStringKind t) :=
  relE_ite .rfl rfl (relE_ite .rfl rfl (relE_ite .rfl rfl (relE_ite .rfl rfl (relE_ite .rfl rfl rfl))))

theorem retokenize_eq (t : StrTok) (basety : Ty) :
    RelE Rep (tokenizeStringLiteral (toTok t) basety) (retokenize t basety) := by
  have arm : ∀ (r : StrReader) (ty : Ty), RelE Rep
      (match ChibiVerif.Lemmas.ReadersT.readerT r t.src 0 with
        | .error e => .error (.read e)
        | .ok (units, _) => .ok (readerTok t.src ty units))
      (readString r ty t.src 0) := by
    intro r ty
    rw [ChibiVerif.Lemmas.ReadersT.readString_eq]
    cases ChibiVerif.Lemmas.ReadersT.readerT r t.src 0 with
    | error e => rfl
    | ok r => exact ⟨rfl, rfl, rfl, rfl⟩
  exact relE_ite (by omega) (arm .utf16 .ty_ushort) (arm .utf32 basety)

theorem pass1_resolve : ∀ (ts : List StrTok) (kind : StrKind) (basety : Ty),
    RelE (fun r r' => r.1 = kindToGen r'.1 ∧ r.2 = r'.2)
      (joinPass1_loop1 (ts.map toTok) (kindToGen kind) basety) (resolveKind kind basety ts)
  | [], kind, basety => ⟨rfl, rfl⟩
  | t :: ts, kind, basety => by
    simp only [List.map_cons, joinPass1_loop1, resolveKind]
    rcases relE_cases (getStringKind_eq t) with ⟨e, hx, hy⟩ | ⟨_, k, hx, hy, rfl⟩ <;> rw [hx, hy]
    · rfl
    · exact relE_ite (kindToGen_none kind) (pass1_resolve ts k t.elem)
        (relE_ite (by rw [Ne, Ne, kindToGen_none, kindToGen_inj]) rfl (pass1_resolve ts kind basety))

theorem pass1_convert (basety : Ty) (hb : basety.size > 1) : ∀ ts : List StrTok,
    RelE (AllPairs Rep) (joinPass1_loop2 basety (ts.map toTok))
      (ts.mapM (conv basety))
  | [] => AllPairs.nil
  | t :: ts => by
    simp only [List.map_cons, joinPass1_loop2, List.mapM_cons]
    have hbase : ((toTok t).base.size : Int) = 1 ↔ t.elem.size = 1 := by
      show ((t.elem.size : Nat) : Int) = 1 ↔ t.elem.size = 1
      omega
    by_cases h1 : t.elem.size = 1
    · rw [if_pos (hbase.mpr h1), conv_wide ⟨hb, h1⟩]
      rcases relE_cases (retokenize_eq t basety) with ⟨e, hx, hy⟩ | ⟨g, t', hx, hy, hg⟩ <;> rw [hx, hy]
      · rfl
      · rcases relE_cases (pass1_convert basety hb ts) with ⟨e, hx, hy⟩ | ⟨gs, ts', hx, hy, hgs⟩ <;> rw [hx, hy]
        · rfl
        · exact .cons hg hgs
    · rw [if_neg (fun h => h1 (hbase.mp h)), conv_keep (fun h => h1 h.2)]
      rcases relE_cases (pass1_convert basety hb ts) with ⟨e, hx, hy⟩ | ⟨gs, ts', hx, hy, hgs⟩ <;> rw [hx, hy]
      · rfl
      · exact .cons (rep_toTok t) hgs

theorem mapM_id (basety : Ty) (hb : ¬ basety.size > 1) : ∀ ts : List StrTok,
    ts.mapM (conv basety) = .ok ts
  | [] => rfl
  | t :: ts => by
    rw [List.mapM_cons, conv_keep (fun h => hb h.1), mapM_id basety hb ts]
    rfl

theorem allPairs_rep_toTok : ∀ ts : List StrTok, AllPairs Rep (ts.map toTok) ts
  | [] => .nil
  | t :: ts => .cons (rep_toTok t) (allPairs_rep_toTok ts)

theorem joinRun_eq (t1 t2 : StrTok) (rest : List StrTok) (ps : List StrPrefix) (h : AllPairs TokHasPrefix (t1 :: t2 :: rest) ps) :
    RelE (fun r hd => r.base = hd.elem ∧ r.arrayLen = (hd.units.length : Int) + 1 ∧ r.str = strBytes hd.elem.size hd.units)
      (joinRun (toTok t1) ((t2 :: rest).map toTok)) (joinStrings (t1 :: t2 :: rest)) := by
  cases h with
  | @cons _ p1 _ ps' h1 hrest =>
    have hk1 := getStringKind_eq t1
    rw [h1.1] at hk1
    obtain ⟨k1, hk1e, hk1k⟩ := relE_ok hk1
    subst hk1k
    have hres := pass1_resolve (t2 :: rest) (kindOf p1) t1.elem
    unfold joinRun joinPass1
    simp only [joinStrings, h1.1, bind, Except.bind, hk1e]
    rw [show (toTok t1).base = t1.elem from rfl]
    cases hj : joinPrefixFrom p1 ps' with
    | none =>
      have hr := (resolveKind_spec _ _ hrest p1 t1.elem h1.2).1 hj
      rw [hr] at hres ⊢
      obtain ⟨e', he', hoe⟩ := relE_error hres
      rw [he']
      exact hoe
    | some P =>
      obtain ⟨basety, hr, hsz⟩ := (resolveKind_spec _ _ hrest p1 t1.elem h1.2).2 P hj
      rw [hr] at hres ⊢
      obtain ⟨⟨k', b'⟩, hg, hgk, hgb⟩ := relE_ok hres
      simp only at hgk hgb
      subst hgb
      rw [hg]
      simp only []
      have hall : ∀ p ∈ p1 :: ps', p = .none ∨ p = P :=
        ((joinPrefix_spec (p1 :: ps') P).mp (by simpa [joinPrefix, joinPrefixFrom] using hj)).1
      -- both branches end in the second pass on a run related token by token to the hand model's tokens
      have finish : ∀ (run : List Tok) (toks : List StrTok), AllPairs Rep run toks →
          (t1 :: t2 :: rest).mapM (conv b') = .ok toks →
          RelE (fun (r : Tok) (hd : StrTok) => r.base = hd.elem ∧ r.arrayLen = (hd.units.length : Int) + 1 ∧ r.str = strBytes hd.elem.size hd.units)
            (match (Except.ok run : Except JoinErr (List Tok)) with
              | .error e => .error e
              | .ok [] => .error .unreachable
              | .ok (a :: as) => joinPass2 a as)
            (match toks with
              | [] => .error .notALiteral
              | f :: _ => (pure (⟨f.elem, (toks.map (·.units)).flatten, t1.len, t1.src⟩ : StrTok) : Except LitErr StrTok)) := by
        intro run toks hrep hm
        have hu := uniform_sizes hsz (.cons h1 hrest) hall hm
        cases hrep with
        | nil => have := mapM_ok _ _ _ hm; cases this
        | @cons a f as toks' haf hrest' =>
          simp only []
          rw [pass2_run P.elemSize a as f toks' (.cons haf hrest') hu]
          simp only [RelE, pure, Except.pure]
          refine ⟨haf.2.1, ?_, ?_⟩
          · simp [totalUnits]
          · rw [hu f (by simp)]
      by_cases hb : b'.size > 1
      · have hb' : ((b'.size : Int) > 1) := by omega
        rw [if_pos hb']
        rcases relE_cases (pass1_convert b' hb (t1 :: t2 :: rest)) with ⟨e, hx, hy⟩ | ⟨run, toks, hx, hy, hrep⟩
        · rw [List.map_cons] at hx
          rw [hx, hy]
          rfl
        · rw [List.map_cons] at hx
          rw [hx, hy]
          exact finish run toks hrep hy
      · have hb' : ¬ ((b'.size : Int) > 1) := by omega
        rw [if_neg hb', mapM_id b' hb]
        exact finish _ _ (allPairs_rep_toTok (t1 :: t2 :: rest)) (mapM_id b' hb _)

end ChibiVerif.Lemmas.Join
