/-
Helper lemmas for the C11 theorems about the literal readers of the hand model (Model/Literals.lean): one loop iteration
per source character for each reader, hexadecimal escapes, the readers on a whole well-formed literal (`items_walk`,
`readString_items`), the digit loop of `strtoul`, character constants.
-/
import ChibiVerif.Lemmas.LiteralsLemmas
import ChibiVerif.Lemmas.TextLemmas

namespace ChibiVerif.Lemmas.Readers
open ChibiVerif.Gen.Literals
open ChibiVerif.Spec.Literals
open ChibiVerif.Literals
open ChibiVerif.Lemmas.Literals
open ChibiVerif.Lemmas.Text (fromHex_hexVal hexVal)

theorem encode_head_ne_bsl (c : BitVec 32) (hne : c.toNat ≠ 92) : ∃ b rest, encodeUtf8 c = b :: rest ∧ b ≠ 92#8 := by
  cases h : encodeUtf8 c with
  | nil => exact absurd h (encode_ne_nil c)
  | cons b rest => exact ⟨b, rest, rfl, encode_ne_ascii c 92#8 (by decide) hne b (h ▸ List.mem_cons_self)⟩

theorem encode_length (c : BitVec 32) (hc : c.toNat < 0x200000) : (encodeUtf8 c).length = utf8Len c.toNat := by
  have := congrArg List.length (encode_toNat c hc)
  simp only [List.length_map] at this
  rw [this]
  unfold utf8 utf8Len
  split
  · rfl
  · split
    · rfl
    · split <;> rfl

theorem decodeAt_encoded (p : List Byte) (i : Nat) (c : BitVec 32) (rest : List Byte) (hc : c.toNat < 0x200000)
    (hd : p.drop i = encodeUtf8 c ++ rest) : decodeAt p i = .ok (c, utf8Len c.toNat) := by
  unfold decodeAt
  rw [hd, roundtrip c hc rest, encode_length c hc]

theorem utf16Loop_char (p : List Byte) (endp fuel i : Nat) (acc : List Nat) (c : BitVec 32) (rest : List Byte)
    (hc : c.toNat < 0x110000) (hne : c.toNat ≠ 92) (hi : i < endp) (hd : p.drop i = encodeUtf8 c ++ rest) :
    utf16Loop p endp (fuel + 1) i acc =
      utf16Loop p endp fuel (i + utf8Len c.toNat) ((utf16 c.toNat).reverse ++ acc) := by
  obtain ⟨b, r, hb, hb92⟩ := encode_head_ne_bsl c hne
  have h0 : byteAt p i = b := byteAt_of_drop p i b (r ++ rest) (by rw [hd, hb]; rfl)
  rw [utf16Loop]
  simp only [hi, if_true, h0, hb92, if_false, decodeAt_encoded p i c rest (by omega) hd]
  show utf16Loop p endp fuel (i + utf8Len c.toNat) ((List.map BitVec.toNat (utf16Units c)).reverse ++ acc) = _
  rw [utf16_toNat c hc]

theorem utf32Loop_char (p : List Byte) (endp fuel i : Nat) (acc : List Nat) (c : BitVec 32) (rest : List Byte)
    (hc : c.toNat < 0x110000) (hne : c.toNat ≠ 92) (hi : i < endp) (hd : p.drop i = encodeUtf8 c ++ rest) :
    utf32Loop p endp (fuel + 1) i acc = utf32Loop p endp fuel (i + utf8Len c.toNat) (c.toNat :: acc) := by
  obtain ⟨b, r, hb, hb92⟩ := encode_head_ne_bsl c hne
  have h0 : byteAt p i = b := byteAt_of_drop p i b (r ++ rest) (by rw [hd, hb]; rfl)
  rw [utf32Loop]
  simp only [hi, if_true, h0, hb92, if_false, decodeAt_encoded p i c rest (by omega) hd]
  rfl

theorem narrowLoop_bytes (p : List Byte) (endp fuel : Nat) : ∀ (bs : List Byte) (i : Nat) (acc : List Nat) (rest : List Byte),
    (∀ b ∈ bs, b ≠ 92#8) → p.drop i = bs ++ rest → i + bs.length ≤ endp →
    narrowLoop p endp (fuel + bs.length) i acc =
      narrowLoop p endp fuel (i + bs.length) ((bs.map BitVec.toNat).reverse ++ acc) := by
  intro bs
  induction bs with
  | nil => intro i acc rest _ _ _; simp
  | cons b bs ih =>
    intro i acc rest hne hd hi
    have h0 : byteAt p i = b := byteAt_of_drop p i b (bs ++ rest) (by simpa using hd)
    have hd' : p.drop (i + 1) = bs ++ rest := drop_add p i 1 [b] _ hd rfl
    have hlt : i < endp := by simp at hi; omega
    have e : fuel + (b :: bs).length = (fuel + bs.length) + 1 := by simp; omega
    rw [e, narrowLoop]
    simp only [hlt, if_true, h0, hne b (by simp), if_false]
    rw [ih (i + 1) _ rest (fun x hx => hne x (List.mem_cons_of_mem _ hx)) hd' (by simp at hi ⊢; omega)]
    simp [Nat.add_assoc, Nat.add_comm 1]

theorem narrowLoop_char (p : List Byte) (endp fuel i : Nat) (acc : List Nat) (c : BitVec 32) (rest : List Byte)
    (hc : c.toNat < 0x110000) (hne : c.toNat ≠ 92) (hi : i + utf8Len c.toNat ≤ endp) (hd : p.drop i = encodeUtf8 c ++ rest) :
    narrowLoop p endp (fuel + utf8Len c.toNat) i acc =
      narrowLoop p endp fuel (i + utf8Len c.toNat) ((utf8 c.toNat).reverse ++ acc) := by
  have hl := encode_length c (by omega)
  have := narrowLoop_bytes p endp fuel (encodeUtf8 c) i acc rest (encode_ne_ascii c 92#8 (by decide) hne) hd (by omega)
  rw [hl, encode_toNat c (by omega)] at this
  exact this

theorem shl4_add_ofNat (a d : Nat) : (BitVec.ofNat 32 a <<< 4) + BitVec.ofNat 32 d = BitVec.ofNat 32 (a * 16 + d) :=
  shl_add_ofNat 4 a d

theorem shl3_add_ofNat (a d : Nat) : (BitVec.ofNat 32 a <<< 3) + BitVec.ofNat 32 d = BitVec.ofNat 32 (a * 8 + d) :=
  shl_add_ofNat 3 a d

/-- the byte of an octal digit character as `read_escaped_char` tests and evaluates it (`d = 8`: not an octal digit) -/
theorem oct_digit_byte : ∀ d < 9, isOctDigit (BitVec.ofNat 8 (48 + d)) = decide (d < 8) ∧
    (BitVec.ofNat 8 (48 + d)).signExtend 32 - 48 = BitVec.ofNat 32 d := by decide +kernel

theorem hexLoop_digits (p rest : List Byte) : ∀ (xs : List Byte) (fuel i a : Nat),
    xs.length < fuel → p.drop i = xs ++ rest → (∀ x ∈ xs, isXDigit x = true) → isXDigit (byteAt rest 0) = false →
    hexLoop p fuel i (BitVec.ofNat 32 a) =
      (BitVec.ofNat 32 (xs.foldl (fun a d => a * 16 + hexVal d) a), i + xs.length) := by
  intro xs
  induction xs with
  | nil =>
    intro fuel i a hf hd _ hend
    obtain ⟨f, rfl⟩ : ∃ f, fuel = f + 1 := ⟨fuel - 1, by simp at hf; omega⟩
    have h0 : byteAt p i = byteAt rest 0 := by rw [← Nat.add_zero i, ← byteAt_drop, hd]; rfl
    rw [hexLoop, h0, hend]; rfl
  | cons x xs ih =>
    intro fuel i a hf hd hx hend
    obtain ⟨f, rfl⟩ : ∃ f, fuel = f + 1 := ⟨fuel - 1, by simp at hf; omega⟩
    have hxx := hx x List.mem_cons_self
    rw [hexLoop, byteAt_of_drop p i x _ hd, if_pos hxx, (fromHex_hexVal x hxx).1, shl4_add_ofNat,
      ih f (i + 1) _ (by simp at hf; omega) (drop_add p i 1 [x] _ hd rfl) (fun y hy => hx y (List.mem_cons_of_mem _ hy)) hend,
      List.foldl_cons, List.length_cons, Nat.add_assoc, Nat.add_comm 1]

theorem readEscapedChar_hex (x : Byte) (xs rest : List Byte) (hx : ∀ y ∈ x :: xs, isXDigit y = true)
    (hend : isXDigit (byteAt rest 0) = false) :
    readEscapedChar (120#8 :: x :: (xs ++ rest)) =
      .ok (BitVec.ofNat 32 (digitsValue 16 ((x :: xs).map hexVal)), 2 + xs.length) := by
  have hx0 := hx x List.mem_cons_self
  have hnotoct : isOctDigit (120#8 : Byte) = false := by decide
  have := hexLoop_digits (120#8 :: x :: (xs ++ rest)) rest (x :: xs) ((120#8 :: x :: (xs ++ rest)).length + 1) 1 0
    (by simp only [List.length_cons, List.length_append]; omega) rfl hx hend
  unfold readEscapedChar
  simp only [byteAt_zero, hnotoct, Bool.false_eq_true, if_false, if_true, byteAt_succ, hx0, Bool.not_true]
  rw [show (0 : BitVec 32) = BitVec.ofNat 32 0 from rfl, this, digitsValue, List.foldl_map, List.length_cons,
    Nat.add_comm 1, Nat.add_assoc, Nat.add_comm 2]

def loopOf : StrReader → List Byte → Nat → Nat → Nat → List Nat → Except LitErr (List Nat)
  | .narrow => narrowLoop
  | .utf16 => utf16Loop
  | .utf32 => utf32Loop

theorem readString_loopOf (r : StrReader) (ty : Ty) (p : List Byte) (q : Nat) :
    readString r ty p q =
      (do let endp ← stringLiteralEnd p (q + 1)
          let units ← loopOf r p endp (endp + 1) (q + 1) []
          pure ⟨ty, units, endp + 1, p.take (endp + 1)⟩) := by
  cases r <;> rfl

theorem readString_elem (r : StrReader) (ty : Ty) (p : List Byte) (q : Nat) (t : StrTok)
    (h : readString r ty p q = .ok t) : t.elem = ty := by
  rw [readString_loopOf] at h
  simp only [bind, Except.bind, pure, Except.pure] at h
  split at h
  · cases h
  · split at h
    · cases h
    · cases h; rfl

theorem strEnd_bytes (p : List Byte) : ∀ (bs : List Byte) (fuel i : Nat) (rest : List Byte),
    (∀ b ∈ bs, b ≠ 34#8 ∧ b ≠ 10#8 ∧ b ≠ 0#8 ∧ b ≠ 92#8) → p.drop i = bs ++ rest →
    strEnd p (fuel + bs.length) i = strEnd p fuel (i + bs.length) := by
  intro bs
  induction bs with
  | nil => intro fuel i rest _ _; rfl
  | cons b bs ih =>
    intro fuel i rest hb hd
    have h0 : byteAt p i = b := byteAt_of_drop p i b (bs ++ rest) (by simpa using hd)
    have hd' : p.drop (i + 1) = bs ++ rest := drop_add p i 1 [b] (bs ++ rest) (by simpa using hd) rfl
    obtain ⟨h1, h2, h3, h4⟩ := hb b (by simp)
    have e : fuel + (b :: bs).length = (fuel + bs.length) + 1 := by simp; omega
    rw [e, strEnd]
    simp only [h0, h1, h2, h3, h4, if_false, false_or, false_and]
    rw [ih fuel (i + 1) rest (fun x hx => hb x (List.mem_cons_of_mem _ hx)) hd']
    simp [Nat.add_assoc, Nat.add_comm 1]

theorem xdigit_plain (x : Byte) : isXDigit x = true → x ≠ 34#8 ∧ x ≠ 10#8 ∧ x ≠ 0#8 ∧ x ≠ 92#8 := by
  revert x; apply forall_byte; decide +kernel

theorem charOK_bytes (c : BitVec 32) (hc : CharOK c) : ∀ b ∈ encodeUtf8 c, b ≠ 34#8 ∧ b ≠ 10#8 ∧ b ≠ 0#8 ∧ b ≠ 92#8 :=
  fun b hb => ⟨encode_ne_ascii c 34#8 (by decide) hc.2.2.2.1 b hb, encode_ne_ascii c 10#8 (by decide) hc.2.2.1 b hb,
    encode_ne_ascii c 0#8 (by decide) hc.2.1 b hb, encode_ne_ascii c 92#8 (by decide) hc.2.2.2.2 b hb⟩

theorem utf8Len_pos (n : Nat) : 0 < utf8Len n := by
  unfold utf8Len; split <;> (try split) <;> (try split) <;> omega

theorem loopOf_stop (r : StrReader) (p : List Byte) (endp f i : Nat) (acc : List Nat) (h : ¬ i < endp) :
    loopOf r p endp (f + 1) i acc = .ok acc.reverse := by
  cases r
  · show narrowLoop p endp (f + 1) i acc = _; rw [narrowLoop, if_neg h]
  · show utf16Loop p endp (f + 1) i acc = _; rw [utf16Loop, if_neg h]
  · show utf32Loop p endp (f + 1) i acc = _; rw [utf32Loop, if_neg h]

theorem loopOf_esc (r : StrReader) (p : List Byte) (endp f i : Nat) (acc : List Nat) (body : List Byte) (v : BitVec 32)
    (n : Nat) (hi : i < endp) (h0 : byteAt p i = 92#8) (hread : readEscapedChar (p.drop (i + 1)) = .ok (v, n)) :
    loopOf r p endp (f + 1) i acc = loopOf r p endp f (i + 1 + n) ((itemUnits r (.esc body v)).reverse ++ acc) := by
  cases r
  · show narrowLoop p endp (f + 1) i acc = _; rw [narrowLoop, if_pos hi, if_pos h0, hread]; rfl
  · show utf16Loop p endp (f + 1) i acc = _; rw [utf16Loop, if_pos hi, if_pos h0, hread]; rfl
  · show utf32Loop p endp (f + 1) i acc = _; rw [utf32Loop, if_pos hi, if_pos h0, hread]; rfl

/-- a source character costs `k` iterations (one per byte in the narrow reader, one in the wide ones) and stores its
    code units -/
theorem loopOf_char (r : StrReader) (p : List Byte) (endp i : Nat) (acc : List Nat) (c : BitVec 32) (rest : List Byte)
    (hc : c.toNat < 0x110000) (hne : c.toNat ≠ 92) (hi : i + utf8Len c.toNat ≤ endp) (hd : p.drop i = encodeUtf8 c ++ rest) :
    ∃ k, 1 ≤ k ∧ k ≤ utf8Len c.toNat ∧ ∀ f, loopOf r p endp (f + k) i acc =
      loopOf r p endp f (i + utf8Len c.toNat) ((itemUnits r (.char c)).reverse ++ acc) := by
  have hpos := utf8Len_pos c.toNat
  cases r
  · refine ⟨utf8Len c.toNat, hpos, Nat.le_refl _, fun f => ?_⟩
    show narrowLoop _ _ _ _ _ = narrowLoop _ _ _ _ (((encodeUtf8 c).map BitVec.toNat).reverse ++ acc)
    rw [encode_toNat c (by omega)]; exact narrowLoop_char p endp f i acc c rest hc hne hi hd
  · refine ⟨1, Nat.le_refl _, hpos, fun f => ?_⟩
    show utf16Loop _ _ _ _ _ = utf16Loop _ _ _ _ (((utf16Units c).map BitVec.toNat).reverse ++ acc)
    rw [utf16_toNat c hc]; exact utf16Loop_char p endp f i acc c rest hc hne (by omega) hd
  · exact ⟨1, Nat.le_refl _, hpos, fun f => utf32Loop_char p endp f i acc c rest hc hne (by omega) hd⟩

/-- one walk over the items of a well-formed literal for both passes of the readers: `string_literal_end` finds the
    closing quote, and the loop up to it stores the units of every item -/
theorem items_walk (r : StrReader) (p post : List Byte) (endp : Nat) :
    ∀ (its : List SrcItem) (f1 f2 i : Nat) (acc : List Nat),
    ItemsOK post its → p.drop i = renderItems its ++ 34#8 :: post → endp = i + (renderItems its).length →
    (renderItems its).length < f1 → (renderItems its).length < f2 →
    strEnd p f1 i = .ok endp ∧ loopOf r p endp f2 i acc = .ok (acc.reverse ++ its.flatMap (itemUnits r)) := by
  intro its
  induction its with
  | nil =>
    intro f1 f2 i acc _ hd he h1 h2
    obtain ⟨f1, rfl⟩ : ∃ f, f1 = f + 1 := ⟨f1 - 1, by omega⟩
    obtain ⟨f2, rfl⟩ : ∃ f, f2 = f + 1 := ⟨f2 - 1, by omega⟩
    simp only [renderItems, List.length_nil, Nat.add_zero] at he
    have h0 : byteAt p i = 34#8 := byteAt_of_drop p i _ post (by simpa [renderItems] using hd)
    rw [strEnd, if_pos h0, loopOf_stop r p endp f2 i acc (by omega), he]; simp
  | cons it its ih =>
    intro f1 f2 i acc hok hd he h1 h2
    cases it with
    | char c =>
      obtain ⟨hc, hrest⟩ := hok
      simp only [renderItems, renderItem, List.append_assoc, List.length_append] at hd he h1 h2
      have hl := encode_length c (by have := hc.1; omega)
      obtain ⟨k, hk1, hk2, hstep⟩ := loopOf_char r p endp i acc c _ hc.1 hc.2.2.2.2 (by omega) hd
      obtain ⟨g1, rfl⟩ : ∃ f, f1 = f + (encodeUtf8 c).length := ⟨f1 - (encodeUtf8 c).length, by omega⟩
      obtain ⟨g2, rfl⟩ : ∃ f, f2 = f + k := ⟨f2 - k, by omega⟩
      rw [strEnd_bytes p (encodeUtf8 c) g1 i _ (charOK_bytes c hc) hd, hstep, ← hl]
      simpa using ih g1 g2 _ ((itemUnits r (.char c)).reverse ++ acc) hrest (drop_add p i _ _ _ hd rfl) (by omega) (by omega) (by omega)
    | esc body v =>
      obtain ⟨⟨b, tl, rfl, hb0, hb10, hx⟩, hread, hrest⟩ := hok
      simp only [renderItems, renderItem, List.cons_append, List.append_assoc, List.length_cons, List.length_append] at hd he h1 h2
      have h0 : byteAt p i = 92#8 := byteAt_of_drop p i _ _ hd
      have hd1 : p.drop (i + 1) = b :: tl ++ (renderItems its ++ 34#8 :: post) := drop_add p i 1 [92#8] _ hd rfl
      have hb : byteAt p (i + 1) = b := byteAt_of_drop p (i + 1) b _ hd1
      have hd2 : p.drop (i + 2) = tl ++ (renderItems its ++ 34#8 :: post) := drop_add p i 2 [92#8, b] _ hd rfl
      obtain ⟨g1, rfl⟩ : ∃ f, f1 = f + tl.length + 1 := ⟨f1 - tl.length - 1, by omega⟩
      obtain ⟨g2, rfl⟩ : ∃ f, f2 = f + 1 := ⟨f2 - 1, by omega⟩
      rw [strEnd, h0, hb, if_neg (by decide), if_neg (by decide), if_pos ⟨rfl, hb0⟩,
        strEnd_bytes p tl g1 (i + 2) _ (fun x hx' => xdigit_plain x (hx x hx')) hd2,
        loopOf_esc r p endp g2 i acc (b :: tl) v _ (by omega) h0 (by rw [hd1]; exact hread),
        show i + 1 + (b :: tl).length = i + 2 + tl.length by rw [List.length_cons]; omega]
      simpa using ih g1 g2 _ ((itemUnits r (.esc (b :: tl) v)).reverse ++ acc) hrest (drop_add p (i + 2) _ _ _ hd2 rfl)
        (by omega) (by omega) (by omega)

theorem readString_items (r : StrReader) (ty : Ty) (pre post : List Byte) (its : List SrcItem) (hok : ItemsOK post its) :
    readString r ty (pre ++ 34#8 :: (renderItems its ++ 34#8 :: post)) pre.length =
      .ok ⟨ty, its.flatMap (itemUnits r), pre.length + 1 + (renderItems its).length + 1,
           (pre ++ 34#8 :: (renderItems its ++ 34#8 :: post)).take (pre.length + 1 + (renderItems its).length + 1)⟩ := by
  obtain ⟨hend, hloop⟩ := items_walk r _ post _ its ((pre ++ 34#8 :: (renderItems its ++ 34#8 :: post)).length + 2)
    (pre.length + 1 + (renderItems its).length + 1) _ [] hok (drop_length_succ pre 34#8 _) rfl
    (by simp only [List.length_append, List.length_cons]; omega) (by omega)
  rw [readString_loopOf, stringLiteralEnd, hend]
  simp only [bind, Except.bind, hloop]
  simp [pure, Except.pure]

theorem digitVal_hex (b : Byte) : isXDigit b = true → digitVal b = some (hexDigitValue b.toNat) := by
  revert b; apply forall_byte; decide +kernel

theorem strtoulDigits_spec (p : List Byte) (base : Nat) : ∀ (ds : List Byte) (fuel i v : Nat),
    ds.length < fuel → (∀ k, k < ds.length → byteAt p (i + k) = ds.getD k 0#8) →
    (∀ d ∈ ds, isXDigit d = true ∧ hexDigitValue d.toNat < base) →
    (∀ x, digitVal (byteAt p (i + ds.length)) = some x → ¬ x < base) →
    strtoulDigits p base fuel i v = (ds.foldl (fun a d => a * base + hexDigitValue d.toNat) v, i + ds.length) := by
  intro ds
  induction ds with
  | nil =>
    intro fuel i v hf _ _ hend
    cases fuel with
    | zero => simp at hf
    | succ fuel =>
      simp only [List.length_nil, Nat.add_zero] at hend
      rw [strtoulDigits]
      cases hdv : digitVal (byteAt p i) with
      | none => simp
      | some x => simp [hend x hdv]
  | cons d ds ih =>
    intro fuel i v hf hb hd hend
    cases fuel with
    | zero => simp at hf
    | succ fuel =>
      have h0 : byteAt p i = d := by simpa using hb 0 (by simp)
      obtain ⟨hx, hlt⟩ := hd d (by simp)
      rw [strtoulDigits]
      simp only [h0, digitVal_hex d hx, hlt, if_true, List.foldl_cons]
      rw [ih fuel (i + 1) _ (by simp at hf; omega) ?_ (fun y hy => hd y (List.mem_cons_of_mem _ hy)) ?_]
      · simp [Nat.add_assoc, Nat.add_comm 1]
      · intro k hk
        have := hb (k + 1) (by simp; omega)
        simpa [Nat.add_assoc, Nat.add_comm 1] using this
      · simpa [Nat.add_assoc, Nat.add_comm 1] using hend

theorem oct_facts (y : Byte) : isOctDigit y = true → isXDigit y = true ∧ hexDigitValue y.toNat < 8 := by
  revert y; apply forall_byte; decide +kernel

theorem dec_facts (y : Byte) : ChibiVerif.Literals.isDigit y = true → isXDigit y = true ∧ hexDigitValue y.toNat < 10 := by
  revert y; apply forall_byte; decide +kernel

theorem findQuote_here (p : List Byte) (fuel j : Nat) (hj : j < p.length) (h : byteAt p j = 39#8) :
    findQuote p (fuel + 1) j = some j := by
  rw [findQuote]
  have : ¬ j ≥ p.length := by omega
  simp [this, h]

theorem readCharLiteral_char (pre post : List Byte) (c : BitVec 32) (hc : c.toNat < 0x110000) (h0 : c.toNat ≠ 0)
    (h92 : c.toNat ≠ 92) :
    readCharLiteral (pre ++ 39#8 :: (encodeUtf8 c ++ 39#8 :: post)) pre.length =
      .ok (c, pre.length + 1 + utf8Len c.toNat) := by
  have hd := drop_length_succ pre 39#8 (encodeUtf8 c ++ 39#8 :: post)
  obtain ⟨b, r, hb, hb92⟩ := encode_head_ne_bsl c h92
  have hb0 : b ≠ 0#8 := encode_ne_ascii c 0#8 (by decide) h0 b (hb ▸ List.mem_cons_self)
  have hbyte : byteAt (pre ++ 39#8 :: (encodeUtf8 c ++ 39#8 :: post)) (pre.length + 1) = b :=
    byteAt_of_drop _ _ b (r ++ 39#8 :: post) (by rw [hd, hb]; rfl)
  have hl := encode_length c (by omega)
  have hq : byteAt (pre ++ 39#8 :: (encodeUtf8 c ++ 39#8 :: post)) (pre.length + 1 + utf8Len c.toNat) = 39#8 := by
    have := drop_add _ (pre.length + 1) (utf8Len c.toNat) _ _ hd hl
    exact byteAt_of_drop _ _ _ post this
  unfold readCharLiteral
  simp only [hbyte, hb0, hb92, if_false, false_and, decodeAt_encoded _ _ c _ (by omega) hd, bind, Except.bind, pure, Except.pure]
  rw [findQuote_here _ _ _ (by simp; omega) hq]

theorem charPost_values :
    (∀ n, n < 256 → charPost .castChar (BitVec.ofNat 32 n) = BitVec.ofInt 64 (if n < 128 then (n : Int) else (n : Int) - 256)) ∧
    (∀ c : BitVec 32, c.toNat < 0x10000 → (charPost (.mask 0xFFFF) c).toNat = c.toNat) ∧
    (∀ c : BitVec 32, (charPost .none c).toInt = c.toInt) := by
  refine ⟨by decide +kernel, ?_, ?_⟩
  · intro c hc
    have hm : c.msb = false := by
      rw [BitVec.msb_eq_decide]; simp; omega
    simp only [charPost, BitVec.signExtend_eq_setWidth_of_msb_false hm, BitVec.toNat_and, BitVec.toNat_setWidth,
      BitVec.toNat_ofNat]
    have : (65535 : Nat) = 2 ^ 16 - 1 := by decide
    simp only [Nat.reducePow, Nat.reduceMod]
    rw [this, Nat.and_two_pow_sub_one_eq_mod]
    omega
  · intro c
    simp only [charPost]
    exact BitVec.toInt_signExtend_of_le (by decide)

/-- `cur->val = (uint32_t)cur->val` (the `U'…'` arm; translated as `.mask 0xFFFFFFFF`): the `int` returned by
    `read_char_literal` is zero-extended — the value of the constant as a `char32_t` (unsigned) -/
theorem charPost_mask32 (c : BitVec 32) : (charPost (.mask 0xFFFFFFFF) c).toNat = c.toNat := by
  simp only [charPost, BitVec.toNat_and, BitVec.toNat_ofNat, BitVec.toNat_signExtend, BitVec.toNat_setWidth]
  have h32 : (4294967295 : Nat) % 2 ^ 64 = 2 ^ 32 - 1 := by decide
  rw [h32, Nat.and_two_pow_sub_one_eq_mod]
  have := c.isLt
  cases c.msb <;> simp <;> omega

end ChibiVerif.Lemmas.Readers
