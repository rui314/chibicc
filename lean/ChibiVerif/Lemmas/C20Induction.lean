/-
C20: the structural induction over the Node tree of `Model/Codegen` for the straight-line node kinds: under the scope
predicates `covE` / `covA` / `covS` (Model/C20Scope.lean, where what they cover is said) the code of a node has its effect
in the sense of `Sem`; every case is one step of Lemmas/C20NodeSteps.lean.  The theorems of Props/C20.lean with `cov…` in
their hypotheses are this induction, unfolded.

Where a node kind appears.  In Model/: its arm in `genExpr`/`genAddr`/`genStmt` and its case in the predicates `covE`,
`typedE`, `flowE`, `okN`, `labsN`, `x87Need`.  In the proofs: its type in `ty?_*` (C20Lemmas); its step
`node_*`/`addr_*`/`stmt_*` (C20NodeSteps), stated for every code predicate; one case in each of three inductions —
`expr_ok` here (`Straight`, under `cov…`), `fexpr` (C20FlowInduction: `FlowP`, under `typed… ∧ flow…`), `duexpr`
(C20TreeLabels: `DU`, under `okN`, with `tcnt_*` and `okN_of_flowE` beside it).  The three are not one induction over
the code predicate: an operand of a straight-line node may have labels, whose arms hold at `FlowP` and are false at
`Straight`, and `DU` is no code predicate (its count has no place in an effect); what they share is the steps, stated
for every code predicate.  An arm with labels exists three times in the
order of its code: its sequence form (C20ArmForms; C20LabelBlocks for `&&`/`||`, the `switch` ladder and `builtin_alloca`), its
`SemF`/`SemP` chain (C20FlowArms), its `DU` chain (C20TreeLabels).
-/
import ChibiVerif.Lemmas.C20NodeSteps

namespace ChibiVerif.Lemmas.C20
open ChibiVerif ChibiVerif.Codegen ChibiVerif.Effect ChibiVerif.Asm ChibiVerif.Ast ChibiVerif.C20Scope

mutual
theorem expr_ok (env : Env) : (n : Node) → covE env n = true → Sem (genExpr env n) 0 (xOf n.ty?) 0
  | .nullExpr i, h => by
    simp only [covE, Bool.not_eq_true'] at h
    exact node_nullExpr env i h
  | .num i a b c d e, _ => node_num env i a b c d e
  | .neg i lhs, h => by
    simp only [covE, Bool.and_eq_true, beq_iff_eq] at h
    exact node_neg env i (expr_ok env lhs h.1) h.2
  | .var i v, _ => node_var env i v
  | .member i lhs mem, h => by
    simp only [covE] at h
    exact node_member env i (addr_ok env lhs h) mem
  | .deref i lhs, h => by
    simp only [covE, Bool.and_eq_true, Bool.not_eq_true'] at h
    exact node_deref env i (expr_ok env lhs h.1) h.2
  | .addr i lhs, h => by
    simp only [covE, Bool.and_eq_true, Bool.not_eq_true'] at h
    exact node_addr env i (addr_ok env lhs h.1) h.2
  | .assign i lhs rhs, h => by
    simp only [covE, Bool.and_eq_true, beq_iff_eq] at h
    obtain ⟨⟨⟨h1, h2⟩, h3⟩, h4⟩ := h
    exact node_assign env i (addr_ok env lhs h1) (expr_ok env rhs h2) h3 h4
  | .comma i lhs rhs, h => by
    simp only [covE, Bool.and_eq_true, beq_iff_eq] at h
    obtain ⟨⟨h1, h2⟩, h3⟩ := h
    exact node_comma env i (expr_ok env lhs h1) (expr_ok env rhs h2) h3
  | .cast i lhs, h => by
    simp only [covE] at h
    exact node_cast env i (expr_ok env lhs h)
  | .memzero i v, h => by
    simp only [covE, Bool.not_eq_true'] at h
    exact node_memzero env i v h
  | .not i lhs, h => by
    simp only [covE, Bool.and_eq_true, Bool.not_eq_true'] at h
    exact node_not env i (expr_ok env lhs h.1) h.2
  | .bitnot i lhs, h => by
    simp only [covE, Bool.and_eq_true, Bool.not_eq_true'] at h
    obtain ⟨⟨h1, h2⟩, h3⟩ := h
    exact node_bitnot env i (expr_ok env lhs h1) h2 h3
  | .exch i lhs rhs, h => by
    simp only [covE, Bool.and_eq_true, Bool.not_eq_true'] at h
    obtain ⟨⟨⟨⟨h1, h2⟩, h3⟩, h4⟩, h5⟩ := h
    exact node_exch env i (expr_ok env lhs h1) (expr_ok env rhs h2) h3 h4 h5
  | .labelVal i a b, h => by
    simp only [covE, Bool.not_eq_true'] at h
    exact node_labelVal env i a b h
  | .binop i op lhs rhs, h => by
    simp only [covE, Bool.and_eq_true] at h
    obtain ⟨⟨⟨h1, h2⟩, h3⟩, h4⟩ := h
    exact node_binop env i op (expr_ok env lhs h1) (expr_ok env rhs h2) h3 h4
  | .funcall i lhs fty rb args, h => by
    rw [genExpr]
    simp only [covE, Bool.and_eq_true, Bool.not_eq_true'] at h
    obtain ⟨⟨⟨⟨h1, h2⟩, h3⟩, h4⟩, h5⟩ := h
    have ih := expr_ok env lhs h1
    rw [xOf_zero h2] at ih
    exact Sem_loc_bind i (node_call env i rb h3 ih (args_ok env args h4) h5)
  | .null, h | .cond .., h | .logand .., h | .logor .., h | .ret .., h | .if_ .., h | .for_ .., h
  | .do_ .., h | .switch_ .., h | .case_ .., h | .block .., h | .goto_ .., h | .gotoExpr .., h
  | .label .., h | .exprStmt .., h | .stmtExpr .., h | .vlaPtr .., h | .asm_ .., h
  | .cas .., h => by simp [covE] at h
theorem addr_ok (env : Env) : (n : Node) → covA env n = true → Sem (genAddr env n) 0 0 0
  | .var i v, _ => addr_var env i v
  | .deref i lhs, h => by
    simp only [covA, Bool.and_eq_true, Bool.not_eq_true'] at h
    exact addr_deref env i (expr_ok env lhs h.1) h.2
  | .comma i lhs rhs, h => by
    simp only [covA, Bool.and_eq_true] at h
    exact addr_comma env i (expr_ok env lhs h.1) (addr_ok env rhs h.2)
  | .member i lhs mem, h => by
    simp only [covA] at h
    exact addr_member env i (addr_ok env lhs h) mem
  | .vlaPtr i v, _ => addr_vlaPtr env i v
  | .assign i lhs rhs, h => by
    simp only [covA, Bool.and_eq_true, Bool.not_eq_true'] at h
    obtain ⟨⟨⟨h1, h2⟩, h3⟩, h4⟩ := h
    exact addr_assign env i (addr_ok env lhs h1) (expr_ok env rhs h2) h3 h4
  | .funcall i lhs fty rb args, h => by
    simp only [covA, Bool.and_eq_true, Bool.not_eq_true'] at h
    obtain ⟨⟨⟨⟨⟨h1, h2⟩, h3⟩, h4⟩, h5⟩, h6⟩ := h
    have ih := expr_ok env lhs h1
    rw [xOf_zero h2] at ih
    exact addr_funcall env i fty rb (node_call env i rb h3 ih (args_ok env args h4) h5) h6
  | .null, h | .nullExpr .., h | .num .., h | .neg .., h | .addr .., h | .binop .., h | .cond .., h
  | .not .., h | .bitnot .., h | .logand .., h | .logor .., h | .ret .., h | .if_ .., h | .for_ .., h
  | .do_ .., h | .switch_ .., h | .case_ .., h | .block .., h | .goto_ .., h | .gotoExpr .., h
  | .label .., h | .labelVal .., h | .exprStmt .., h | .stmtExpr .., h | .cast .., h
  | .memzero .., h | .asm_ .., h | .cas .., h | .exch .., h => by simp [covA] at h
theorem args_ok (env : Env) : (l : NodeList) → covArgs env l = true →
    ∀ a ∈ genArgs env l, Sem a.gen 0 (xOf a.ty) 0
  | .nil, _ => by
    rw [genArgs]
    intro a ha
    cases ha
  | .cons n rest, h => by
    rw [genArgs]
    simp only [covArgs, Bool.and_eq_true] at h
    intro a ha
    simp only [List.mem_cons] at ha
    rcases ha with rfl | ha
    · exact expr_ok env n h.1
    · exact args_ok env rest h.2 a ha
end

mutual
theorem stmt_ok (env : Env) : (n : Node) → covS env n = true → Sem (genStmt env n) 0 0 0
  | .exprStmt i lhs, h => by
    simp only [covS] at h
    exact stmt_exprStmt env i (expr_ok env lhs h)
  | .block i body, h => by
    rw [genStmt]
    simp only [covS] at h
    exact Sem_loc_bind i (stmts_ok env body h)
  | .asm_ i s, _ => stmt_asm env i s
  | .null, h | .nullExpr .., h | .num .., h | .neg .., h | .addr .., h | .binop .., h | .cond .., h
  | .not .., h | .bitnot .., h | .logand .., h | .logor .., h | .ret .., h | .if_ .., h | .for_ .., h
  | .do_ .., h | .switch_ .., h | .case_ .., h | .goto_ .., h | .gotoExpr .., h | .assign .., h
  | .label .., h | .labelVal .., h | .funcall .., h | .stmtExpr .., h | .cast .., h | .comma .., h
  | .memzero .., h | .cas .., h | .exch .., h | .var .., h | .vlaPtr .., h | .member .., h
  | .deref .., h => by simp [covS] at h
theorem stmts_ok (env : Env) : (l : NodeList) → covSs env l = true → Sem (genStmts env l) 0 0 0
  | .nil, _ => by
    rw [genStmts]
    exact Sem_pure ()
  | .cons n rest, h => by
    rw [genStmts]
    simp only [covSs, Bool.and_eq_true] at h
    exact Sem_bind0 (stmt_ok env n h.1) fun _ => stmts_ok env rest h.2
end

end ChibiVerif.Lemmas.C20
