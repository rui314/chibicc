/-
C01: the spelling of the labels of Model/X86Jump is injective — two structured labels `(kind, n)` are printed alike
(`.L.else.7`) only if they are the same label.  So resolving structured labels by position (`findLbl`) is resolving the
printed labels by position, which is what the assembler does with the text the tie compares.

(`ctr_inj` in Lemmas/C20Labels.lean is the same argument for C20's labels; this file rests on Model/X86Jump and two list facts of Lemmas/ListLemmas.lean.)
-/
import ChibiVerif.Model.X86Jump
import ChibiVerif.Lemmas.ListLemmas
import Std.Data.String.ToNat

namespace ChibiVerif.X86J

theorem tag_no_digit (k : LKind) : ∀ c ∈ k.tag.toList, (!c.isDigit) = true := by cases k <;> decide

theorem tag_inj {k k' : LKind} (h : k.tag = k'.tag) : k = k' := by
  cases k <;> cases k' <;> first | rfl | exact absurd h (by decide)

theorem render_toList (l : Lbl) : l.render.toList = l.kind.tag.toList ++ (toString l.n).toList := by
  unfold Lbl.render
  rw [String.toList_append]

/-- **the printed label determines the structured label** -/
theorem Lbl.render_inj {l l' : Lbl} (h : l.render = l'.render) : l = l' := by
  have hl : l.kind.tag.toList ++ (toString l.n).toList = l'.kind.tag.toList ++ (toString l'.n).toList := by
    rw [← render_toList, ← render_toList, h]
  have e1 := List.takeWhile_append_of (p := fun c => !c.isDigit) (a := l.kind.tag.toList) (x := (toString l.n).toList) (tag_no_digit l.kind)
    (fun c hc => by simp [Nat.isDigit_of_mem_toString l.n c hc])
  have e2 := List.takeWhile_append_of (p := fun c => !c.isDigit) (a := l'.kind.tag.toList) (x := (toString l'.n).toList) (tag_no_digit l'.kind)
    (fun c hc => by simp [Nat.isDigit_of_mem_toString l'.n c hc])
  rw [hl, e2] at e1
  have ett : l.kind.tag = l'.kind.tag := by
    rw [← String.ofList_toList (s := l.kind.tag), ← String.ofList_toList (s := l'.kind.tag), e1]
  have hk : l.kind = l'.kind := tag_inj ett
  rw [ett] at hl
  have := List.append_cancel_left hl
  have hs : toString l.n = toString l'.n := by
    rw [← String.ofList_toList (s := toString l.n), ← String.ofList_toList (s := toString l'.n), this]
  have hn : l.n = l'.n := Nat.repr_inj.mp hs
  cases l; cases l'; simp only at hk hn; subst hk; subst hn; rfl

end ChibiVerif.X86J
