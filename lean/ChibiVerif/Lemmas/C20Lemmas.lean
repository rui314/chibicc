/-
Helper lemmas for C20 (Props/C20.lean): the effect of every piece of `Model/Codegen` as a
Hoare-style judgment `SemP P m r x d`:

  whenever the code generator `m` succeeds, the lines it printed satisfy `P lo hi ls r x` — code with
  effect (Δrsp = r, Δx87 = x), printed while `count()` went from `lo` to `hi` — and the `depth` counter
  has changed by `d`.

`P` is a *code predicate* (`CodePred`): any predicate on printed code that holds of straight-line
code with its `delta` and is closed under concatenation.  Three instances are used:
* `Straight` (`delta ls = some ⟨r, x⟩`: no label, no jump) — `Sem m r x d`, the judgment of the
  straight-line theorems (`covE/covA/covS`);
* `FlowP` (Lemmas/C20Flow.lean: one height per label, every jump and fall-through arrives at its
  label's height) — the judgment of the theorems about code with labels;
* `AnyCode` (Lemmas/C20Depth.lean: true of all code) — the judgment then speaks of `depth` alone.
Every arm lemma below is proved once, for every code predicate, from the rules of the judgment; what a
printed line does is looked up in Lemmas/C20Table.lean.
-/
import ChibiVerif.Model.Codegen
import ChibiVerif.Model.Effect
import ChibiVerif.Gen.CastTableGen
import ChibiVerif.Model.C20Scope
import ChibiVerif.Lemmas.C20Table

namespace ChibiVerif.Lemmas.C20
open ChibiVerif ChibiVerif.Codegen ChibiVerif.Effect ChibiVerif.Asm ChibiVerif.Ast ChibiVerif.C20Scope

/-- the type of code predicates: `K lo hi ls r x` — the code `ls`, printed while the label counter
    `count()` went from `lo` to `hi`, has effect (r, x) -/
abbrev CodeK := Nat → Nat → List Line → Int → Int → Prop

/-- a predicate on printed code and an (rsp, x87) effect that holds of straight-line code with its
    `delta` and is closed under concatenation (the label counter only grows) -/
class CodePred (P : CodeK) : Prop where
  lines : ∀ {lo hi : Nat} {ls : List Line} {r x : Int}, delta ls = some ⟨r, x⟩ → lo ≤ hi → P lo hi ls r x
  append : ∀ {lo mid hi : Nat} {a b : List Line} {r1 x1 r2 x2 : Int},
    P lo mid a r1 x1 → P mid hi b r2 x2 → P lo hi (a ++ b) (r1 + r2) (x1 + x2)

/-- straight-line code with effect (r, x) -/
def Straight (_lo _hi : Nat) (ls : List Line) (r x : Int) : Prop := delta ls = some ⟨r, x⟩

instance : CodePred Straight where
  lines h _ := h
  append := by
    intro lo mid hi a b r1 x1 r2 x2 h1 h2
    unfold Straight at *
    rw [delta_append, h1, h2]
    simp [H.add_def]

def SemP (P : CodeK) (m : M α) (r x d : Int) : Prop :=
  ∀ s a s' ls, m s = .ok (a, s', ls) → P s.count s'.count ls r x ∧ s'.depth = s.depth + d

abbrev Sem (m : M α) (r x d : Int) : Prop := SemP Straight m r x d

variable {K : CodeK} [CodePred K]

omit [CodePred K] in
theorem SemP.cast {m : M α} (h : SemP K m r x d) (hr : r = r') (hx : x = x') (hd : d = d') :
    SemP K m r' x' d' := by
  subst hr hx hd; exact h

theorem P_nil (n : Nat) : K n n [] 0 0 := CodePred.lines (by simp [delta, H.zero]) (Nat.le_refl n)

theorem Sem_pure (a : α) : SemP K (pure a : M α) 0 0 0 := by
  intro s a' s' ls h
  simp only [pure, M.pure, Except.ok.injEq, Prod.mk.injEq] at h
  obtain ⟨_, rfl, rfl⟩ := h
  exact ⟨P_nil _, by simp⟩

omit [CodePred K] in
theorem bind_ok {m : M α} {f : α → M β} {s : St} {b : β} {s' : St} {ls : List Line}
    (h : (m >>= f) s = .ok (b, s', ls)) :
    ∃ a s1 l1 l2, m s = .ok (a, s1, l1) ∧ f a s1 = .ok (b, s', l2) ∧ ls = l1 ++ l2 := by
  simp only [bind, M.bind] at h
  split at h
  · cases h
  · rename_i a s1 l1 hm
    split at h
    · cases h
    · rename_i b' s2 l2 hf
      simp only [Except.ok.injEq, Prod.mk.injEq] at h
      obtain ⟨rfl, rfl, rfl⟩ := h
      exact ⟨a, s1, l1, l2, hm, hf, rfl⟩

/-- what an action returns -/
def Ret (m : M α) (P : α → Prop) : Prop := ∀ s a s' ls, m s = .ok (a, s', ls) → P a

theorem Ret_any (m : M α) : Ret m (fun _ => True) := fun _ _ _ _ _ => trivial

/-! Sequencing rules, by suffix.  None: the effects add.  `_ret`: the continuation may use a fact `Ret` about the value
it gets.  `_l`: the continuation has no effect; `0`: the first action has none.  `_td` (top-down): the target is given,
the continuation gets what the first action leaves of it. -/

theorem Sem_bind_ret {m : M α} {f : α → M β} {P : α → Prop} (h1 : SemP K m r1 x1 d1) (hr : Ret m P)
    (h2 : ∀ a, P a → SemP K (f a) r2 x2 d2) : SemP K (m >>= f) (r1 + r2) (x1 + x2) (d1 + d2) := by
  intro s b s' ls h
  obtain ⟨a, s1, l1, l2, hm, hf, rfl⟩ := bind_ok h
  obtain ⟨e1, e2⟩ := h1 _ _ _ _ hm
  obtain ⟨e3, e4⟩ := h2 a (hr _ _ _ _ hm) _ _ _ _ hf
  exact ⟨CodePred.append e1 e3, by simp [e4, e2, Int.add_assoc]⟩

theorem Sem_bind {m : M α} {f : α → M β} (h1 : SemP K m r1 x1 d1) (h2 : ∀ a, SemP K (f a) r2 x2 d2) :
    SemP K (m >>= f) (r1 + r2) (x1 + x2) (d1 + d2) :=
  Sem_bind_ret h1 (Ret_any m) fun a _ => h2 a

omit [CodePred K] in
theorem Sem_fail (msg : String) : SemP K (fail msg : M α) r x d := by
  intro s a s' ls h; cases h

theorem Sem_emit {l : Line} (h : lineDelta l = some ⟨r, x⟩) : SemP K (emit l) r x 0 := by
  intro s a s' ls hm
  simp only [emit, Except.ok.injEq, Prod.mk.injEq] at hm
  obtain ⟨_, rfl, rfl⟩ := hm
  exact ⟨CodePred.lines (by simp [delta, h, H.zero]) (Nat.le_refl _), by simp⟩

theorem Sem_emits {ls : List Line} (h : delta ls = some ⟨r, x⟩) : SemP K (emits ls) r x 0 := by
  intro s a s' l hm
  simp only [emits, Except.ok.injEq, Prod.mk.injEq] at hm
  obtain ⟨_, rfl, rfl⟩ := hm
  exact ⟨CodePred.lines h (Nat.le_refl _), by simp⟩

theorem Sem_addDepth (k : Int) : SemP K (addDepth k) 0 0 k := by
  intro s a s' ls h
  simp only [addDepth, Except.ok.injEq, Prod.mk.injEq] at h
  obtain ⟨_, rfl, rfl⟩ := h
  exact ⟨P_nil _, by simp⟩

theorem Sem_getDepth : SemP K getDepth 0 0 0 := by
  intro s a s' ls h
  simp only [getDepth, Except.ok.injEq, Prod.mk.injEq] at h
  obtain ⟨_, rfl, rfl⟩ := h
  exact ⟨P_nil _, by simp⟩

theorem Sem_count : SemP K count 0 0 0 := by
  intro s a s' ls h
  simp only [count, Except.ok.injEq, Prod.mk.injEq] at h
  obtain ⟨_, rfl, rfl⟩ := h
  exact ⟨CodePred.lines (by simp [delta, H.zero]) (Nat.le_succ _), by simp⟩

theorem Sem_liftE (e : Except String α) : SemP K (liftE e) 0 0 0 := by
  cases e with
  | error m => exact Sem_fail m
  | ok a => exact Sem_pure a

theorem Sem_needTy (w : String) (t : Option Ty) : SemP K (needTy w t) 0 0 0 := by
  cases t with
  | none => exact Sem_fail _
  | some t => exact Sem_pure t

theorem Sem_needVar (w : String) (t : Option Var) : SemP K (needVar w t) 0 0 0 := by
  cases t with
  | none => exact Sem_fail _
  | some t => exact Sem_pure t

theorem Ret_needTy (w : String) (t : Option Ty) : Ret (needTy w t) (fun a => t = some a) := by
  intro s a s' l h
  cases t with
  | none => cases h
  | some t =>
    simp only [needTy, pure, M.pure, Except.ok.injEq, Prod.mk.injEq] at h
    rw [h.1]

theorem Sem_argreg (tbl : List String) (r : Int) : SemP K (argreg tbl r) 0 0 0 := by
  unfold argreg
  split
  · exact Sem_fail _
  · split
    · exact Sem_pure _
    · exact Sem_fail _

omit [CodePred K] in
/-- `reg_ax` answers with a register that is not `%rsp`, or fails -/
theorem regAx_cases (sz : Int) : (∃ a, a ≠ "%rsp" ∧ regAx sz = pure a) ∨ ∃ msg, regAx sz = fail msg := by
  unfold regAx
  repeat' split
  all_goals first | exact .inl ⟨_, by decide, rfl⟩ | exact .inr ⟨_, rfl⟩

theorem Sem_regAx (sz : Int) : SemP K (regAx sz) 0 0 0 := by
  rcases regAx_cases sz with ⟨a, _, e⟩ | ⟨msg, e⟩ <;> rw [e]
  · exact Sem_pure a
  · exact Sem_fail msg

theorem Sem_regDx (sz : Int) : SemP K (regDx sz) 0 0 0 := by
  unfold regDx
  repeat' split
  all_goals first | exact Sem_pure _ | exact Sem_fail _

/-! ### `node->ty` of each constructor -/

@[simp] theorem ty?_nullExpr : (Node.nullExpr i).ty? = i.ty := rfl
@[simp] theorem ty?_binop : (Node.binop i op lhs rhs).ty? = i.ty := rfl
@[simp] theorem ty?_neg : (Node.neg i lhs).ty? = i.ty := rfl
@[simp] theorem ty?_assign : (Node.assign i lhs rhs).ty? = i.ty := rfl
@[simp] theorem ty?_cond : (Node.cond i c t e).ty? = i.ty := rfl
@[simp] theorem ty?_comma : (Node.comma i lhs rhs).ty? = i.ty := rfl
@[simp] theorem ty?_member : (Node.member i lhs mem).ty? = i.ty := rfl
@[simp] theorem ty?_addr : (Node.addr i lhs).ty? = i.ty := rfl
@[simp] theorem ty?_deref : (Node.deref i lhs).ty? = i.ty := rfl
@[simp] theorem ty?_not : (Node.not i lhs).ty? = i.ty := rfl
@[simp] theorem ty?_bitnot : (Node.bitnot i lhs).ty? = i.ty := rfl
@[simp] theorem ty?_logand : (Node.logand i lhs rhs).ty? = i.ty := rfl
@[simp] theorem ty?_logor : (Node.logor i lhs rhs).ty? = i.ty := rfl
@[simp] theorem ty?_ret : (Node.ret i lhs).ty? = i.ty := rfl
@[simp] theorem ty?_if_ : (Node.if_ i c t e).ty? = i.ty := rfl
@[simp] theorem ty?_for_ : (Node.for_ i a b c d e f).ty? = i.ty := rfl
@[simp] theorem ty?_do_ : (Node.do_ i a b c d).ty? = i.ty := rfl
@[simp] theorem ty?_switch_ : (Node.switch_ i a b c d e).ty? = i.ty := rfl
@[simp] theorem ty?_case_ : (Node.case_ i a b c d).ty? = i.ty := rfl
@[simp] theorem ty?_block : (Node.block i b).ty? = i.ty := rfl
@[simp] theorem ty?_goto_ : (Node.goto_ i a b).ty? = i.ty := rfl
@[simp] theorem ty?_gotoExpr : (Node.gotoExpr i lhs).ty? = i.ty := rfl
@[simp] theorem ty?_label : (Node.label i a b c).ty? = i.ty := rfl
@[simp] theorem ty?_labelVal : (Node.labelVal i a b).ty? = i.ty := rfl
@[simp] theorem ty?_funcall : (Node.funcall i a b c d).ty? = i.ty := rfl
@[simp] theorem ty?_exprStmt : (Node.exprStmt i lhs).ty? = i.ty := rfl
@[simp] theorem ty?_stmtExpr : (Node.stmtExpr i b).ty? = i.ty := rfl
@[simp] theorem ty?_var : (Node.var i v).ty? = i.ty := rfl
@[simp] theorem ty?_vlaPtr : (Node.vlaPtr i v).ty? = i.ty := rfl
@[simp] theorem ty?_num : (Node.num i a b c d e).ty? = i.ty := rfl
@[simp] theorem ty?_cast : (Node.cast i lhs).ty? = i.ty := rfl
@[simp] theorem ty?_memzero : (Node.memzero i v).ty? = i.ty := rfl
@[simp] theorem ty?_asm_ : (Node.asm_ i s).ty? = i.ty := rfl
@[simp] theorem ty?_cas : (Node.cas i a b c).ty? = i.ty := rfl
@[simp] theorem ty?_exch : (Node.exch i lhs rhs).ty? = i.ty := rfl
@[simp] theorem ty?_null : Node.null.ty? = none := rfl

theorem xOf_eq_of_isLD {a b : Option Ty} (h : isLD a = isLD b) : xOf a = xOf b := by simp [xOf, h]
theorem xOf_zero {a : Option Ty} (h : isLD a = false) : xOf a = 0 := by simp [xOf, h]
theorem xOf_one {a : Option Ty} (h : isLD a = true) : xOf a = 1 := by simp [xOf, h]

/-- holds of any `K`; it takes the instance like every other rule, so that the steps cite it in the same form -/
theorem Sem_nullDeref (w : String) : SemP K (nullDeref w : M α) r x d := Sem_fail _

theorem Sem_bind_l {m : M α} {f : α → M β} (h1 : SemP K m r x d) (h2 : ∀ a, SemP K (f a) 0 0 0) :
    SemP K (m >>= f) r x d :=
  (Sem_bind h1 h2).cast (by omega) (by omega) (by omega)

-- from here on `Sem` is opaque to `intro`/`apply`: the judgment is only built with the rules above
attribute [irreducible] SemP

omit [CodePred K] in
/-- what `Sem` says, unfolded (for the statements in Props/C20.lean) -/
theorem SemP.elim {m : M α} (h : SemP K m r x d) {s : St} {a : α} {s' : St} {ls : List Line}
    (hm : m s = .ok (a, s', ls)) : K s.count s'.count ls r x ∧ s'.depth = s.depth + d := by
  unfold SemP at h
  exact h s a s' ls hm

/-- top-down sequencing: the first action is a leaf with a known effect, the continuation must
    account for the remainder of the target -/
theorem Sem_bind_td {m : M α} {f : α → M β} {r x d r1 x1 d1 : Int} (h1 : SemP K m r1 x1 d1)
    (h2 : ∀ a, SemP K (f a) (r - r1) (x - x1) (d - d1)) : SemP K (m >>= f) r x d :=
  (Sem_bind h1 h2).cast (by omega) (by omega) (by omega)

theorem Sem_bind0 {m : M α} {f : α → M β} (h1 : SemP K m 0 0 0) (h2 : ∀ a, SemP K (f a) r x d) :
    SemP K (m >>= f) r x d :=
  (Sem_bind h1 h2).cast (by omega) (by omega) (by omega)

/-- `let t ← needTy w ty?; f t`: the continuation sees the type that was passed -/
theorem Sem_needTy_bind {w : String} {ty? : Option Ty} {f : Ty → M β}
    (h : ∀ t, ty? = some t → SemP K (f t) r x d) : SemP K (needTy w ty? >>= f) r x d := by
  refine (Sem_bind_ret (Sem_needTy w ty?) (Ret_needTy w ty?) h).cast ?_ ?_ ?_ <;> omega

theorem Ret_needVar (w : String) (t : Option Var) : Ret (needVar w t) (fun a => t = some a) := by
  intro s a s' l h
  cases t with
  | none => cases h
  | some t =>
    simp only [needVar, pure, M.pure, Except.ok.injEq, Prod.mk.injEq] at h
    rw [h.1]

theorem Sem_needVar_bind {w : String} {v? : Option Var} {f : Var → M β}
    (h : ∀ v, v? = some v → SemP K (f v) r x d) : SemP K (needVar w v? >>= f) r x d := by
  refine (Sem_bind_ret (Sem_needVar w v?) (Ret_needVar w v?) h).cast ?_ ?_ ?_ <;> omega

/-- the effect of an action that has been derived already.  Instance resolution serves as a table lookup
    keyed by the head of the action: `r x d` are outputs of the lookup (a derivation meets its leaves with
    the effect still unknown), which a simp set cannot give. -/
class Eff (m : M α) (r x d : outParam Int) : Prop where
  sem : ∀ {K : CodeK} [CodePred K], SemP K m r x d

instance (a : α) : Eff (pure a : M α) 0 0 0 := ⟨Sem_pure a⟩
instance (k : Int) : Eff (addDepth k) 0 0 k := ⟨Sem_addDepth k⟩
instance : Eff getDepth 0 0 0 := ⟨Sem_getDepth⟩
instance : Eff count 0 0 0 := ⟨Sem_count⟩
instance (w : String) (t : Option Ty) : Eff (needTy w t) 0 0 0 := ⟨Sem_needTy w t⟩
instance (w : String) (t : Option Var) : Eff (needVar w t) 0 0 0 := ⟨Sem_needVar w t⟩
instance (e : Except String α) : Eff (liftE e) 0 0 0 := ⟨Sem_liftE e⟩
instance (tbl : List String) (r : Int) : Eff (argreg tbl r) 0 0 0 := ⟨Sem_argreg tbl r⟩
instance (sz : Int) : Eff (regAx sz) 0 0 0 := ⟨Sem_regAx sz⟩
instance (sz : Int) : Eff (regDx sz) 0 0 0 := ⟨Sem_regDx sz⟩

/-- a leaf of a derivation: a block whose effect is on record (`Eff`), a printed line (`row`), or a join point
    that `sem` has put among the hypotheses -/
macro "sem_leaf" : tactic => `(tactic| first
  | exact Eff.sem
  | exact Sem_emit (by row)
  | (apply_assumption; done))

macro "sem_arith" : tactic => `(tactic| first
  | rfl | omega | (simp; done) | (simp; omega)
  | (simp [xOf, isLD, isCmp, *]; done) | (simp [xOf, isLD, isCmp, *]; omega))

omit [CodePred K] in
theorem Sem_join {β γ : Type} (jp : β → M γ) {m : M α} {r x d : Int} (h1 : ∀ u, SemP K (jp u) r x d)
    (h2 : (∀ u, SemP K (jp u) r x d) → SemP K m r x d) : SemP K m r x d := h2 h1

/-- The effect of a closed block (no operands: an arm with operands is split first, `addrMember_split`).  The
    steps follow the syntax of the `do` block and nothing else: `fail` has any effect; a last action is a leaf
    (`sem_leaf`) and the arithmetic is closed; `a >>= f` with `a` a leaf goes on in `f` with what is left of the
    target; a join point (`have jp := fun u => rest; if c then a >>= jp else jp ()`) is derived once for the
    whole target and is a hypothesis of every branch — inlined it would be derived once per branch,
    multiplicatively over successive `if`s; a plain `let` is inlined; `if`/`match` is split; a branch whose
    tests contradict each other is closed.  What a block prints is in the model beside it: the proof adds only
    that every line was found in the table.  When `sem` leaves a goal, look at the `emit` in it first: a mnemonic
    or an operand form without a row in Lemmas/C20Table.lean makes `row` fail, and nothing says so. -/
macro "sem" : tactic => `(tactic| repeat' (first
  | exact Sem_fail _
  | (refine SemP.cast (by sem_leaf) ?_ ?_ ?_ <;> sem_arith)
  | (refine Sem_bind_td (by sem_leaf) (fun _ => ?_))
  | (extract_lets +onlyGivenNames jp
     refine Sem_join jp (fun _ => ?_) (fun _ => ?_)
     dsimp -zeta only [jp]
     clear jp
     rotate_left
     clear_value jp)
  | (extract_lets +onlyGivenNames v
     dsimp -zeta only [v]
     try clear v)
  | dsimp -zeta only
  | split
  | (exfalso; simp_all; done)))

theorem Sem_push : SemP K push (-8) 0 1 := by unfold push; sem
theorem Sem_pop (a : String) (h : a ≠ "%rsp") : SemP K (pop a) 8 0 (-1) := by
  unfold pop
  have := Sem_emit (K := K) (lineDelta_pop (isRsp_of_ne h))
  sem
theorem Sem_pushf : SemP K pushf (-8) 0 1 := by unfold pushf; sem
theorem Sem_popf (n : Nat) : SemP K (popf n) 8 0 (-1) := by unfold popf; sem

theorem xOf_some (t : Ty) : xOf (some t) = if t.kind = .ldouble then 1 else 0 := by
  simp [xOf, isLD]

theorem Sem_discard (t : Option Ty) : SemP K (Codegen.discard t) 0 (-(xOf t)) 0 := by
  unfold Codegen.discard
  cases t with
  | none => exact (Sem_pure ()).cast rfl (by simp [xOf, isLD]) rfl
  | some t => rw [xOf_some]; sem

theorem Sem_loc (i : NInfo) : SemP K (loc i) 0 0 0 := by unfold loc; exact Sem_emit rfl

instance : Eff push (-8) 0 1 := ⟨Sem_push⟩
instance : Eff pushf (-8) 0 1 := ⟨Sem_pushf⟩
instance (n : Nat) : Eff (popf n) 8 0 (-1) := ⟨Sem_popf n⟩
instance : Eff (pop "%rdi") 8 0 (-1) := ⟨Sem_pop _ (by decide)⟩
instance : Eff (pop "%rdx") 8 0 (-1) := ⟨Sem_pop _ (by decide)⟩
instance (t : Option Ty) : Eff (Codegen.discard t) 0 (-(xOf t)) 0 := ⟨Sem_discard t⟩
instance (i : NInfo) : Eff (loc i) 0 0 0 := ⟨Sem_loc i⟩

theorem Sem_addrVar (env : Env) (i : NInfo) (v : Option Var) : SemP K (addrVar env i v) 0 0 0 := by
  unfold addrVar
  sem

/-- An arm is the code of its operands followed by a block of its own.  The `_split` theorems say so with the
    block left to unification (`rfl` reads it off the model, it is not written again) and give its effect for
    every code predicate: every judgment of the arm then accounts for the block by that one fact.  The block `sem` goes
    through in these proofs is therefore not on the page: it is what follows the operands in the arm's definition in
    Model/Codegen.lean, and `case h` comes second so that `rfl` has put it there. -/
theorem addrMember_split (mem : Option Member) :
    ∃ tail : M Unit, (∀ {K : CodeK} [CodePred K], SemP K tail 0 0 0) ∧
      ∀ a : M Unit, addrMember a mem = (do a; tail) := by
  refine ⟨_, ?h, fun _ => rfl⟩
  case h =>
    intro K _
    sem

theorem Sem_addrMember {a : M Unit} (h : SemP K a 0 0 0) (mem : Option Member) :
    SemP K (addrMember a mem) 0 0 0 := by
  obtain ⟨tail, ht, e⟩ := addrMember_split mem
  rw [e]
  exact Sem_bind_l h fun _ => ht

theorem Sem_load (ty? : Option Ty) : SemP K (load ty?) 0 (xOf ty?) 0 := by
  unfold load
  refine Sem_needTy_bind fun ty hty => ?_
  subst hty
  rw [xOf_some]
  sem

theorem delta_copyBytes (src tmp dst : String) (hs : tmp ≠ "%rsp") (i n : Nat) :
    delta (copyBytes src tmp dst i n) = some ⟨0, 0⟩ := by
  induction n generalizing i with
  | zero => simp [copyBytes, delta, H.zero]
  | succ n ih =>
    simp [copyBytes, delta, lineDelta_ins2, isRsp_of_ne hs, isRsp_m, rows_moves, ih]

theorem Sem_copyBytes (src tmp dst : String) (hs : tmp ≠ "%rsp") (i n : Nat) :
    SemP K (emits (copyBytes src tmp dst i n)) 0 0 0 :=
  Sem_emits (delta_copyBytes src tmp dst hs i n)

instance (src dst : String) (i n : Nat) : Eff (emits (copyBytes src "%r8b" dst i n)) 0 0 0 :=
  ⟨Sem_copyBytes _ _ _ (by decide) _ _⟩
instance (src dst : String) (i n : Nat) : Eff (emits (copyBytes src "%r10b" dst i n)) 0 0 0 :=
  ⟨Sem_copyBytes _ _ _ (by decide) _ _⟩
instance (src dst : String) (i n : Nat) : Eff (emits (copyBytes src "%dl" dst i n)) 0 0 0 :=
  ⟨Sem_copyBytes _ _ _ (by decide) _ _⟩

theorem Sem_store (ty? : Option Ty) : SemP K (store ty?) 8 0 (-1) := by
  unfold store
  sem

theorem Sem_cmpZeroTail : SemP K (emits cmpZeroTail) 0 0 0 := Sem_emits rfl

instance : Eff (emits cmpZeroTail) 0 0 0 := ⟨Sem_cmpZeroTail⟩

theorem Sem_cmpZero (ty? : Option Ty) : SemP K (cmpZero ty?) 0 (-(xOf ty?)) 0 := by
  unfold cmpZero
  refine Sem_needTy_bind fun ty hty => ?_
  subst hty
  rw [xOf_some]
  sem

instance (env : Env) (i : NInfo) (v : Option Var) : Eff (addrVar env i v) 0 0 0 := ⟨Sem_addrVar env i v⟩
instance (t : Option Ty) : Eff (load t) 0 (xOf t) 0 := ⟨Sem_load t⟩
instance (t : Option Ty) : Eff (store t) 8 0 (-1) := ⟨Sem_store t⟩
instance (t : Option Ty) : Eff (cmpZero t) 0 (-(xOf t)) 0 := ⟨Sem_cmpZero t⟩

/-! ### cast: the whole table -/

/-- 1 for the type id of long double -/
def f80 (t : Nat) : Int := if t = Gen.CastTable.F80 then 1 else 0

/-- every cell of `cast_table` is straight-line, leaves %rsp alone, and changes the x87 depth by
    exactly (to is long double) − (from is long double) -/
theorem castTable_delta : ∀ t1, t1 < 11 → ∀ t2, t2 < 11 →
    (match Gen.CastTable.castCell t1 t2 with
     | some l => lineDelta l
     | none => some H.zero) = some ⟨0, f80 t2 - f80 t1⟩ := by
  decide +kernel

theorem getTypeId_lt (k : TyKind) (u : Bool) : Gen.CastTable.getTypeId k u < 11 := by
  cases k <;> cases u <;> decide

theorem f80_getTypeId (k : TyKind) (u : Bool) :
    f80 (Gen.CastTable.getTypeId k u) = if k = .ldouble then 1 else 0 := by
  cases k <;> cases u <;> decide

theorem Sem_cast (from? to? : Option Ty) : SemP K (Codegen.cast from? to?) 0 (xOf to? - xOf from?) 0 := by
  unfold Codegen.cast
  refine Sem_needTy_bind fun to hto => ?_
  subst hto
  rw [xOf_some]
  by_cases hv : to.kind = .void
  · simp only [hv, beq_self_eq_true, if_true, reduceCtorEq, if_false]
    exact (Sem_discard from?).cast rfl (by omega) rfl
  · have hv' : (to.kind == TyKind.void) = false := by simpa using hv
    simp only [hv']
    by_cases hb : to.kind = .bool
    · simp only [hb, beq_self_eq_true, if_true, reduceCtorEq, if_false]
      sem
    · have hb' : (to.kind == TyKind.bool) = false := by simpa using hb
      simp only [hb', Bool.false_eq_true, if_false]
      refine Sem_needTy_bind fun fr hfr => ?_
      subst hfr
      rw [xOf_some]
      have hcell := castTable_delta _ (getTypeId_lt fr.kind fr.isUnsigned) _ (getTypeId_lt to.kind to.isUnsigned)
      rw [f80_getTypeId, f80_getTypeId] at hcell
      split
      · rename_i l hl
        rw [hl] at hcell
        exact Sem_emit hcell
      · rename_i hl
        rw [hl] at hcell
        simp only [H.zero, Option.some.injEq, H.mk.injEq] at hcell
        exact (Sem_pure ()).cast rfl hcell.2 rfl

instance (a b : Option Ty) : Eff (Codegen.cast a b) 0 (xOf b - xOf a) 0 := ⟨Sem_cast a b⟩

theorem Sem_numArm (i : NInfo) (val : Int) (a b c d : Nat) : SemP K (numArm i val a b c d) 0 (xOf i.ty) 0 := by
  unfold numArm
  refine Sem_needTy_bind fun ty hty => ?_
  rw [hty, xOf_some]
  sem

instance (i : NInfo) (val : Int) (a b c d : Nat) : Eff (numArm i val a b c d) 0 (xOf i.ty) 0 :=
  ⟨Sem_numArm i val a b c d⟩

theorem negArm_split (i : NInfo) :
    ∃ tail : M Unit, (∀ {K : CodeK} [CodePred K], SemP K tail 0 0 0) ∧
      ∀ lhs : M Unit, negArm i lhs = (do lhs; tail) := by
  refine ⟨_, ?h, fun _ => rfl⟩
  case h =>
    intro K _
    sem

theorem Sem_negArm (i : NInfo) {lhs : M Unit} {xl : Int} (h : SemP K lhs 0 xl 0) :
    SemP K (negArm i lhs) 0 xl 0 := by
  obtain ⟨tail, ht, e⟩ := negArm_split i
  rw [e]
  exact Sem_bind_l h fun _ => ht

theorem Sem_bitfieldExtract (env : Env) (mem : Member) : SemP K (bitfieldExtract env mem) 0 0 0 := by
  unfold bitfieldExtract
  sem

instance (env : Env) (mem : Member) : Eff (bitfieldExtract env mem) 0 0 0 := ⟨Sem_bitfieldExtract env mem⟩

theorem memberArm_split (i : NInfo) (mem : Option Member) (env : Env) :
    ∃ tail : M Unit, (∀ {K : CodeK} [CodePred K], SemP K tail 0 (xOf i.ty) 0) ∧
      ∀ a : M Unit, memberArm i a mem env = (do addrMember a mem; tail) := by
  refine ⟨_, ?h, fun _ => rfl⟩
  case h =>
    intro K _
    sem

theorem Sem_memberArm (i : NInfo) {a : M Unit} (h : SemP K a 0 0 0) (mem : Option Member) (env : Env) :
    SemP K (memberArm i a mem env) 0 (xOf i.ty) 0 := by
  obtain ⟨tail, ht, e⟩ := memberArm_split i mem env
  rw [e]
  exact Sem_bind0 (Sem_addrMember h mem) fun _ => ht

/-- x87 effect of the bit-field path of an assignment: `load(mem->ty)` -/
def bfX (env : Env) (bf : Option Member) : Int :=
  match bf with
  | some m => xOf (env.ty? m.ty)
  | none => 0

/-- the block of `assignArm`: the store, through the merge with the current value when the left operand is a
    bit-field -/
theorem assignArm_split (env : Env) (i : NInfo) (bf : Option Member) :
    ∃ tail : M Unit, (∀ {K : CodeK} [CodePred K], SemP K tail 8 (bfX env bf) (-1)) ∧
      ∀ a r : M Unit, assignArm env i bf a r = (do a; push; r; tail) := by
  refine ⟨_, ?h, fun _ _ => rfl⟩
  case h =>
    intro K _
    unfold bfX
    sem

theorem Sem_assignArm (env : Env) (i : NInfo) (bf : Option Member) {a r : M Unit} {xr : Int}
    (ha : SemP K a 0 0 0) (hr : SemP K r 0 xr 0) : SemP K (assignArm env i bf a r) 0 (xr + bfX env bf) 0 := by
  obtain ⟨tail, ht, e⟩ := assignArm_split env i bf
  rw [e]
  exact (Sem_bind ha fun _ => Sem_bind Sem_push fun _ => Sem_bind hr fun _ => ht).cast
    (by omega) (by omega) (by omega)

theorem notArm_split (lty : Option Ty) :
    ∃ tail : M Unit, (∀ {K : CodeK} [CodePred K], SemP K tail 0 (-(xOf lty)) 0) ∧
      ∀ lhs : M Unit, notArm lhs lty = (do lhs; tail) := by
  refine ⟨_, ?h, fun _ => rfl⟩
  case h =>
    intro K _
    sem

theorem Sem_notArm {lhs : M Unit} (lty : Option Ty) (h : SemP K lhs 0 (xOf lty) 0) :
    SemP K (notArm lhs lty) 0 0 0 := by
  obtain ⟨tail, ht, e⟩ := notArm_split lty
  rw [e]
  exact (Sem_bind h fun _ => ht).cast rfl (Int.add_right_neg _) rfl

theorem Sem_memzeroArm (env : Env) (v : Option Var) : SemP K (memzeroArm env v) 0 0 0 := by
  unfold memzeroArm
  sem

instance (env : Env) (v : Option Var) : Eff (memzeroArm env v) 0 0 0 := ⟨Sem_memzeroArm env v⟩

theorem exchArm_split (env : Env) (lty : Option Ty) :
    ∃ tail : M Unit, (∀ {K : CodeK} [CodePred K], SemP K tail 0 0 0) ∧
      ∀ lhs rhs : M Unit, exchArm env lhs lty rhs = (do lhs; push; rhs; pop "%rdi"; tail) := by
  refine ⟨_, ?h, fun _ _ => rfl⟩
  case h =>
    intro K _
    sem

theorem Sem_exchArm (env : Env) {lhs rhs : M Unit} (lty : Option Ty) {xl xr : Int}
    (hl : SemP K lhs 0 xl 0) (hr : SemP K rhs 0 xr 0) : SemP K (exchArm env lhs lty rhs) 0 (xl + xr) 0 := by
  obtain ⟨tail, ht, e⟩ := exchArm_split env lty
  rw [e]
  exact (Sem_bind hl fun _ => Sem_bind Sem_push fun _ => Sem_bind hr fun _ =>
    Sem_bind (Sem_pop _ (by decide)) fun _ => ht).cast (by omega) (by omega) (by omega)

theorem binopFlo_split (sz : String) (hsz : sz = "ss" ∨ sz = "sd") (op : BinOp) :
    ∃ tail : M Unit, (∀ {K : CodeK} [CodePred K], SemP K tail 0 0 0) ∧
      ∀ lhs rhs : M Unit, binopFlo sz op lhs rhs = (do rhs; pushf; lhs; popf 1; tail) := by
  refine ⟨_, ?h, fun _ _ => rfl⟩
  case h =>
    intro K _
    rcases hsz with rfl | rfl <;> cases op <;> sem

theorem Sem_binopFlo (sz : String) (hsz : sz = "ss" ∨ sz = "sd") (op : BinOp) {lhs rhs : M Unit}
    (hl : SemP K lhs 0 0 0) (hr : SemP K rhs 0 0 0) : SemP K (binopFlo sz op lhs rhs) 0 0 0 := by
  obtain ⟨tail, ht, e⟩ := binopFlo_split sz hsz op
  rw [e]
  exact (Sem_bind hr fun _ => Sem_bind Sem_pushf fun _ => Sem_bind hl fun _ => Sem_bind (Sem_popf 1) fun _ =>
    ht).cast (by omega) (by omega) (by omega)

theorem binopLd_split (op : BinOp) :
    ∃ tail : M Unit, (∀ {K : CodeK} [CodePred K], SemP K tail 0 (if isCmp op then -2 else -1) 0) ∧
      ∀ lhs rhs : M Unit, binopLd op lhs rhs = (do lhs; rhs; tail) := by
  refine ⟨_, ?h, fun _ _ => rfl⟩
  case h =>
    intro K _
    cases op <;> sem

theorem Sem_binopLd (op : BinOp) {lhs rhs : M Unit} (hl : SemP K lhs 0 1 0) (hr : SemP K rhs 0 1 0) :
    SemP K (binopLd op lhs rhs) 0 (if isCmp op then 0 else 1) 0 := by
  obtain ⟨tail, ht, e⟩ := binopLd_split op
  rw [e]
  exact (Sem_bind hl fun _ => Sem_bind hr fun _ => ht).cast (by omega) (by split <;> omega) (by omega)

theorem binopInt_split (i : NInfo) (op : BinOp) (lty : Ty) :
    ∃ tail : M Unit, (∀ {K : CodeK} [CodePred K], SemP K tail 0 0 0) ∧
      ∀ lhs rhs : M Unit, binopInt i op lty lhs rhs = (do rhs; push; lhs; pop "%rdi"; tail) := by
  refine ⟨_, ?h, fun _ _ => rfl⟩
  case h =>
    intro K _
    cases op <;> sem

theorem Sem_binopInt (i : NInfo) (op : BinOp) (lty : Ty) {lhs rhs : M Unit}
    (hl : SemP K lhs 0 0 0) (hr : SemP K rhs 0 0 0) : SemP K (binopInt i op lty lhs rhs) 0 0 0 := by
  obtain ⟨tail, ht, e⟩ := binopInt_split i op lty
  rw [e]
  exact (Sem_bind hr fun _ => Sem_bind Sem_push fun _ => Sem_bind hl fun _ =>
    Sem_bind (Sem_pop _ (by decide)) fun _ => ht).cast (by omega) (by omega) (by omega)

/-- `optGen n g` (Model/Codegen.lean) is the generator `g` of an optional operand `n`, absent when `n` is NULL: what
    holds of `g` holds of it when it is there -/
theorem optGen_some {P : M Unit → Prop} {n : Node} {g : M Unit} (h : P g) : ∀ x, optGen n g = some x → P x := by
  intro x hx
  cases n <;> simp only [optGen, Option.some.injEq, reduceCtorEq] at hx <;> (subst hx; exact h)

theorem optGenMap_some {P : M Unit → Prop} {n : Node} {g : M Unit} {t : Option Ty} (h : P g) :
    ∀ x, (optGen n g).map (·, t) = some x → P x.1 := by
  intro x hx
  cases hg : optGen n g with
  | none => simp [hg] at hx
  | some y =>
    simp only [hg, Option.map_some, Option.some.injEq] at hx
    subst hx
    exact optGen_some h y hg

end ChibiVerif.Lemmas.C20
