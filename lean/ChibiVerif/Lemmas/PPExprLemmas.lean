/-
Controlling expressions (Model/PPExpr.lean).  Every node of `evalN` is a chain of operands (`seqR`), closed by `fin` except at
`&&` and `||`, whose result is the truth value itself (`evalN_logic`); `seqR_congr` and `seqR_flag` pass a fact about the operands on to the node, and the inductions over `evalN` go node by node
through them: chibicc's narrowing, wrapping evaluation is the C11 evaluation wherever C11 defines the outcome and no
`int`-typed intermediate result leaves 32 bits (`evalN_narrow_eq`; the rest is the region of C10-ppif-int-result-shift),
a static criterion for being outside that region, closed expressions.  The token layer: `readDefined`, `identToZero`.
Reading the statements: `evalN nb` is chibicc's evaluation for `nb = true` (results of `int`-typed nodes narrowed to 32 bits, signed
arithmetic wrapping) and C11's for `nb = false`; `arith` and `unop` take the opposite flag `strict = !nb` (`true`: behaviour C11
leaves undefined is the outcome `undefinedBeh`; `false`: wrap).  The second component of a result `R` ("the flag") says that some
`int`-typed intermediate result did not fit in 32 bits, i.e. that the expression lies in the region of the known finding.
-/
import ChibiVerif.Model.PPExpr
namespace ChibiVerif.PPExpr
open ChibiVerif.CondIncl

/-- how `evalN` chains an operand into the rest of a node: an error ends the node, the flags accumulate -/
def seqR (fl0 : Bool) (r : R) (K : Val → Bool → R) : R :=
  match r with
  | (.error x, fl) => (.error x, fl0 || fl)
  | (.ok v, fl) => K v (fl0 || fl)

theorem evalN_un (nb : Bool) (defs : Defs Body) (f : Nat) (h : List String) (op : UnOp) (e : Expr) :
    evalN nb defs (f+1) h (.un op e) =
      seqR false (evalN nb defs f h e) (fun v fl => fin nb (ctyOf defs (f+1) h (.un op e)) (unop (!nb) op v) fl) := rfl

theorem evalN_logic (nb : Bool) (defs : Defs Body) (f : Nat) (h : List String) (isAnd : Bool) (a b : Expr) :
    evalN nb defs (f+1) h (.bin (if isAnd then .land else .lor) a b) =
      seqR false (evalN nb defs f h a) (fun va fl =>
        if (if isAnd then !va.truth else va.truth) then (.ok (.ofBool (!isAnd)), fl)
        else seqR fl (evalN nb defs f h b) (fun vb fl' => (.ok (.ofBool vb.truth), fl'))) := by
  cases isAnd <;> rfl

theorem evalN_bin {nb : Bool} {defs : Defs Body} {f : Nat} {h : List String} {op : BinOp} {a b : Expr}
    (h1 : op ≠ .land) (h2 : op ≠ .lor) :
    evalN nb defs (f+1) h (.bin op a b) =
      seqR false (evalN nb defs f h a) (fun va fl => seqR fl (evalN nb defs f h b) (fun vb fl' =>
        fin nb (ctyOf defs (f+1) h (.bin op a b)) (arith (!nb) op va vb) fl')) := by
  cases op <;> first | rfl | exact absurd rfl h1 | exact absurd rfl h2

theorem evalN_cond (nb : Bool) (defs : Defs Body) (f : Nat) (h : List String) (c a b : Expr) :
    evalN nb defs (f+1) h (.cond c a b) =
      seqR false (evalN nb defs f h c) (fun vc fl =>
        seqR fl (if vc.truth then evalN nb defs f h a else evalN nb defs f h b) (fun v fl' =>
          fin nb (ctyOf defs (f+1) h (.cond c a b))
            (.ok ⟨v.bits, ctyOf defs (f+1) h (.cond c a b) == .ulong⟩) fl')) := rfl

theorem seqR_flag_inv {fl0 : Bool} {r : R} {K : Val → Bool → R} (hmono : ∀ v fl, (K v fl).2 = false → fl = false)
    (h : (seqR fl0 r K).2 = false) : fl0 = false ∧ r.2 = false := by
  obtain ⟨x, fl⟩ := r
  have : (fl0 || fl) = false := by
    cases x with
    | error e => exact h
    | ok v => exact hmono v _ h
  simpa using this

theorem seqR_flag {r : R} {K : Val → Bool → R} (hr : r.2 = false) (hK : ∀ v, (K v false).2 = false) :
    (seqR false r K).2 = false := by
  obtain ⟨x, fl⟩ := r
  cases hr
  cases x with
  | error e => rfl
  | ok v => exact hK v

theorem seqR_congr {fl0 : Bool} {rT rF : R} {KT KF : Val → Bool → R}
    (hmono : ∀ v fl, (KF v fl).2 = false → fl = false)
    (hfl : (seqR fl0 rF KF).2 = false) (hne : (seqR fl0 rF KF).1 ≠ .error .undefinedBeh)
    (hr : rF.2 = false → rF.1 ≠ .error .undefinedBeh → rT = rF)
    (hK : ∀ v, (KF v false).2 = false → (KF v false).1 ≠ .error .undefinedBeh → KT v false = KF v false) :
    seqR fl0 rT KT = seqR fl0 rF KF := by
  obtain ⟨h0, hr2⟩ := seqR_flag_inv hmono hfl
  subst h0
  obtain ⟨x, fl⟩ := rF
  cases hr2
  cases x with
  | error e => rw [hr rfl hne]; rfl
  | ok v => rw [hr rfl (fun h => by cases h)]; exact hK v hfl hne

/-- the range check `chk` of `arith` (and the one of `unop`), wrapping against strict: it passes, and then changes nothing, or the
    strict side reports undefined behaviour -/
theorem strict_cases (c : Bool) (v : Val) :
    (if (!false || c) = true then (.ok v : Except PPErr Val) else .error .undefinedBeh) =
      (if (!true || c) = true then .ok v else .error .undefinedBeh) ∨
    (if (!true || c) = true then (.ok v : Except PPErr Val) else .error .undefinedBeh) = .error .undefinedBeh := by
  cases c
  · exact .inr rfl
  · exact .inl rfl

/-- "equal, or the strict side reports undefined behaviour" passes through a test both sides make -/
theorem ite_wrap {α : Type} {c : Prop} [Decidable c] {x x' y y' e : α} (hx : x = x' ∨ x' = e) (hy : y = y' ∨ y' = e) :
    (if c then x else y) = (if c then x' else y') ∨ (if c then x' else y') = e := by
  by_cases h : c
  · rw [if_pos h, if_pos h]; exact hx
  · rw [if_neg h, if_neg h]; exact hy

theorem arith_wrap_cases (op : BinOp) (a b : Val) :
    arith false op a b = arith true op a b ∨ arith true op a b = .error .undefinedBeh := by
  -- `strict` is looked at in the leaves only: behind the tests for a zero divisor, the unsigned case, the shift count
  cases op with
  | mul => exact strict_cases _ _
  | add => exact strict_cases _ _
  | sub => exact strict_cases _ _
  | div => exact ite_wrap (.inl rfl) (ite_wrap (.inl rfl) (strict_cases _ _))
  | mod => exact ite_wrap (.inl rfl) (ite_wrap (.inl rfl) (strict_cases _ _))
  | shl =>
    refine ite_wrap (.inl rfl) (ite_wrap (.inl rfl) ?_)
    cases (a.int < 0 || !inRange false (a.int * 2 ^ b.int.toNat))
    · exact .inl rfl
    · exact .inr rfl
  | _ => exact .inl rfl

theorem unop_wrap_cases (op : UnOp) (v : Val) :
    unop false op v = unop true op v ∨ unop true op v = .error .undefinedBeh := by
  cases op with
  | neg => exact strict_cases _ _
  | _ => exact .inl rfl

theorem fin_flag_left (n : Bool) (ty : CTy) (r : Except PPErr Val) (fl : Bool) (h : (fin n ty r fl).2 = false) : fl = false := by
  cases r with
  | error x => simpa [fin] using h
  | ok v => simp only [fin, Bool.or_eq_false_iff] at h; exact h.1

theorem fin_fst_error (n : Bool) (ty : CTy) (x : PPErr) (fl : Bool) : (fin n ty (.error x) fl).1 = .error x := rfl

theorem fin_eq (ty : CTy) (r : Except PPErr Val) (fl : Bool) (h : (fin false ty r fl).2 = false) :
    fin true ty r fl = fin false ty r fl := by
  cases r with
  | error x => rfl
  | ok v =>
    simp only [fin, narrowAt] at h ⊢
    by_cases hty : ty = .int
    · simp only [hty, if_true, Bool.or_eq_false_iff] at h ⊢
      obtain ⟨h1, h2⟩ := h
      have hb : (v.bits.setWidth 32).signExtend 64 = v.bits := by simpa using h2
      simp [hb]
    · simp [hty]

/-- the last link of a node: the wrapping operation stored with narrowing against the strict one stored without -/
theorem fin_congr {ty : CTy} {rw rs : Except PPErr Val} {fl : Bool} (hw : rw = rs ∨ rs = .error .undefinedBeh)
    (hfl : (fin false ty rs fl).2 = false) (hne : (fin false ty rs fl).1 ≠ .error .undefinedBeh) :
    fin true ty rw fl = fin false ty rs fl := by
  rcases hw with rfl | rfl
  · exact fin_eq ty _ fl hfl
  · exact absurd rfl hne

/-- Where C11 6.10.1p4 defines the outcome (a value, or the division-by-zero diagnostic) and no
    `int`-typed intermediate result leaves the 32-bit range, chibicc's narrowing, wrapping
    evaluation computes the same thing. -/
theorem evalN_narrow_eq (defs : Defs Body) : ∀ (f : Nat) (h : List String) (e : Expr),
    (evalN false defs f h e).2 = false → (evalN false defs f h e).1 ≠ .error .undefinedBeh →
    evalN true defs f h e = evalN false defs f h e := by
  intro f
  induction f with
  | zero => intro h e _ _; rfl
  | succ f ih =>
    intro h e hfl hne
    cases e with
    | num v u => rfl
    | defined n => rfl
    | ident n =>
      simp only [evalN] at hfl hne ⊢
      split
      · rfl
      · rename_i hh
        rw [if_neg hh] at hfl hne
        split <;> first | rfl | exact ih _ _ (by simpa [*] using hfl) (by simpa [*] using hne)
    | un op a =>
      rw [evalN_un] at hfl hne
      rw [evalN_un, evalN_un]
      exact seqR_congr (fun _ _ => fin_flag_left _ _ _ _) hfl hne (ih h a) (fun v => fin_congr (unop_wrap_cases op v))
    | cond c a b =>
      rw [evalN_cond] at hfl hne
      rw [evalN_cond, evalN_cond]
      refine seqR_congr (fun v fl h => (seqR_flag_inv (fun _ _ => fin_flag_left _ _ _ _) h).1) hfl hne (ih h c) (fun vc hfl' hne' => ?_)
      refine seqR_congr (fun _ _ => fin_flag_left _ _ _ _) hfl' hne' ?_ (fun v => fin_congr (.inl rfl))
      cases vc.truth
      · exact ih h b
      · exact ih h a
    | bin op a b =>
      have hlog : ∀ isAnd : Bool, op = (if isAnd then .land else .lor) →
          evalN true defs (f+1) h (.bin op a b) = evalN false defs (f+1) h (.bin op a b) := by
        intro isAnd hop
        subst hop
        rw [evalN_logic] at hfl hne
        rw [evalN_logic, evalN_logic]
        refine seqR_congr (fun va fl hK => ?_) hfl hne (ih h a) (fun va hfl' hne' => ?_)
        · by_cases hs : (if isAnd then !va.truth else va.truth) = true
          · rw [if_pos hs] at hK; exact hK
          · rw [if_neg hs] at hK; exact (seqR_flag_inv (fun _ _ h => h) hK).1
        · by_cases hs : (if isAnd then !va.truth else va.truth) = true
          · rw [if_pos hs, if_pos hs]
          · rw [if_neg hs] at hfl' hne'
            rw [if_neg hs, if_neg hs]
            exact seqR_congr (fun _ _ h => h) hfl' hne' (ih h b) (fun _ _ _ => rfl)
      by_cases h1 : op = .land
      · exact hlog true h1
      · by_cases h2 : op = .lor
        · exact hlog false h2
        · rw [evalN_bin h1 h2] at hfl hne
          rw [evalN_bin h1 h2, evalN_bin h1 h2]
          refine seqR_congr (fun v fl h => (seqR_flag_inv (fun _ _ => fin_flag_left _ _ _ _) h).1) hfl hne (ih h a) (fun va hfl' hne' => ?_)
          exact seqR_congr (fun _ _ => fin_flag_left _ _ _ _) hfl' hne' (ih h b) (fun vb => fin_congr (arith_wrap_cases op va vb))

/-- C11 leaves the value of the controlling expression undefined (signed overflow, shift count out
    of range, …): nothing is required of the implementation -/
def undefinedByC11 (defs : Defs Body) (e : Expr) : Bool :=
  decide ((evalN false defs FUEL [] e).1 = .error .undefinedBeh)

def Tok.isIdent : Tok → Bool
  | .ident _ => true
  | _ => false

theorem identToZero_no_ident (ts : List Tok) : ∀ t ∈ identToZero ts, t.isIdent = false := by
  intro t ht
  simp only [identToZero, List.mem_map] at ht
  obtain ⟨a, _, rfl⟩ := ht
  cases a <;> rfl

theorem identToZero_length (ts : List Tok) : (identToZero ts).length = ts.length := by
  simp [identToZero]

theorem readDefined_cons (isDef : String → Bool) (t : Tok) (ts : List Tok) (ht : t ≠ .ident "defined") :
    readDefined isDef (t :: ts) =
      match readDefined isDef ts with
      | .error e => .error e
      | .ok r => .ok (t :: r) := by
  rw [readDefined.eq_def]
  -- every arm but the last starts with the word `defined`
  split <;> rename_i heq <;> cases heq
  any_goals exact absurd rfl ht
  rfl

theorem readDefined_append (isDef : String → Bool) (pre rest : List Tok) (hpre : ∀ t ∈ pre, t ≠ .ident "defined") :
    readDefined isDef (pre ++ rest) =
      match readDefined isDef rest with
      | .error e => .error e
      | .ok r => .ok (pre ++ r) := by
  induction pre with
  | nil => rw [List.nil_append]; cases readDefined isDef rest <;> rfl
  | cons t pre ih =>
    rw [List.cons_append, readDefined_cons isDef t _ (hpre t (List.mem_cons_self ..)),
      ih (fun t' ht' => hpre t' (List.mem_cons_of_mem _ ht'))]
    cases readDefined isDef rest <;> rfl

theorem readDefined_no_defined (isDef : String → Bool) (ts : List Tok)
    (h : ∀ t ∈ ts, t ≠ .ident "defined") : readDefined isDef ts = .ok ts := by
  simpa [readDefined] using readDefined_append isDef ts [] h

/-- no identifier and no `defined`: the value cannot depend on the macro table -/
def Expr.closed : Expr → Bool
  | .num _ _ => true
  | .ident _ => false
  | .defined _ => false
  | .un _ e => e.closed
  | .bin _ a b => a.closed && b.closed
  | .cond c a b => c.closed && a.closed && b.closed

theorem ctyOf_closed (d d' : Defs Body) : ∀ (f : Nat) (h : List String) (e : Expr), e.closed = true →
    ctyOf d f h e = ctyOf d' f h e := by
  intro f
  induction f with
  | zero => intro h e _; rfl
  | succ f ih =>
    intro h e hc
    cases e with
    | num v u => rfl
    | ident n => simp [Expr.closed] at hc
    | defined n => rfl
    | un op a =>
      simp only [Expr.closed] at hc
      cases op <;> simp only [ctyOf, ih h a hc]
    | bin op a b =>
      simp only [Expr.closed, Bool.and_eq_true] at hc
      cases op <;> simp only [ctyOf, ih h a hc.1, ih h b hc.2]
    | cond c a b =>
      simp only [Expr.closed, Bool.and_eq_true] at hc
      simp only [ctyOf, ih h a hc.1.2, ih h b hc.2]

theorem evalN_closed (nb : Bool) (d d' : Defs Body) : ∀ (f : Nat) (h : List String) (e : Expr), e.closed = true →
    evalN nb d f h e = evalN nb d' f h e := by
  intro f
  induction f with
  | zero => intro h e _; rfl
  | succ f ih =>
    intro h e hc
    -- node by node: the operands by induction, the node's type by `ctyOf_closed`
    cases e with
    | num v u => rfl
    | ident n => cases hc
    | defined n => cases hc
    | un op a => rw [evalN_un, evalN_un, ih h a hc, ctyOf_closed d d' (f+1) h (.un op a) hc]
    | cond c a b =>
      have hc' : (c.closed = true ∧ a.closed = true) ∧ b.closed = true := by simpa [Expr.closed] using hc
      rw [evalN_cond, evalN_cond, ih h c hc'.1.1, ih h a hc'.1.2, ih h b hc'.2, ctyOf_closed d d' (f+1) h (.cond c a b) hc]
    | bin op a b =>
      have hc' : a.closed = true ∧ b.closed = true := by simpa [Expr.closed] using hc
      have hlog : ∀ isAnd : Bool, evalN nb d (f+1) h (.bin (if isAnd then .land else .lor) a b)
          = evalN nb d' (f+1) h (.bin (if isAnd then .land else .lor) a b) := fun isAnd => by
        rw [evalN_logic, evalN_logic, ih h a hc'.1, ih h b hc'.2]
      by_cases h1 : op = .land
      · subst h1; exact hlog true
      · by_cases h2 : op = .lor
        · subst h2; exact hlog false
        · rw [evalN_bin h1 h2, evalN_bin h1 h2, ih h a hc'.1, ih h b hc'.2, ctyOf_closed d d' (f+1) h (.bin op a b) hc]

theorem intResultOverflows_closed (d : Defs Body) (e : Expr) (hc : e.closed = true) :
    intResultOverflows d e = intResultOverflows [] e := by
  unfold intResultOverflows; rw [evalN_closed false d [] FUEL [] e hc]

theorem undefinedByC11_closed (d : Defs Body) (e : Expr) (hc : e.closed = true) :
    undefinedByC11 d e = undefinedByC11 [] e := by
  unfold undefinedByC11; rw [evalN_closed false d [] FUEL [] e hc]

def BinOp.isTruth : BinOp → Bool
  | .lt | .le | .gt | .ge | .eq | .ne | .land | .lor => true
  | _ => false

/-- static criterion (chibicc's own typing, no evaluation): the only nodes typed `int` are the results of
    `< <= > >= == != ! && ||` themselves – every unary `- + ~`, every arithmetic, bitwise and shift operator and
    every `?:` has type long or unsigned long.  (A comparison result used as an operand of arithmetic is converted to
    the other operand's type; it is `(a < b) << n`, `-(a < b)`, `(a < b) + (c < d)`, `c ? (a < b) : (c < d)` that are typed `int`.) -/
def intArithFree (defs : Defs Body) : Nat → List String → Expr → Bool
  | 0, _, _ => true
  | _+1, _, .num _ _ => true
  | f+1, hide, .ident n =>
    if hide.contains n then true else
    match defs.lookup n with
    | some (some e) => intArithFree defs f (n :: hide) e
    | _ => true
  | _+1, _, .defined _ => true
  | f+1, h, .un .lnot e => intArithFree defs f h e
  | f+1, h, .un op e => intArithFree defs f h e && (ctyOf defs (f+1) h (.un op e) != .int)
  | f+1, h, .bin op a b =>
    intArithFree defs f h a && intArithFree defs f h b && (op.isTruth || (ctyOf defs (f+1) h (.bin op a b) != .int))
  | f+1, h, .cond c a b =>
    intArithFree defs f h c && intArithFree defs f h a && intArithFree defs f h b && (ctyOf defs (f+1) h (.cond c a b) != .int)

theorem narrowAt_ofBool (ty : CTy) (b : Bool) : (narrowAt false ty (.ofBool b)).2 = false := by
  cases b <;> cases ty <;> decide

theorem fin_flag_notInt (ty : CTy) (r : Except PPErr Val) (fl : Bool) (h : (ty != .int) = true) : (fin false ty r fl).2 = fl := by
  have : ty ≠ .int := by simpa using h
  cases r with
  | error x => rfl
  | ok v => simp [fin, narrowAt, this]

theorem arith_truth (op : BinOp) (a b : Val) (hop : op.isTruth = true) (hl : op ≠ .land) (hr : op ≠ .lor) :
    ∃ t, arith true op a b = .ok (.ofBool t) := by
  cases op <;> simp [BinOp.isTruth] at hop hl hr <;> exact ⟨_, rfl⟩

/-- outside the static criterion's complement nothing is narrowed: the flag of the known finding stays clear -/
theorem intArithFree_flag (defs : Defs Body) : ∀ (f : Nat) (h : List String) (e : Expr),
    intArithFree defs f h e = true → (evalN false defs f h e).2 = false := by
  intro f
  induction f with
  | zero => intro h e _; rfl
  | succ f ih =>
    intro h e hs
    cases e with
    | num v u => rfl
    | defined n => rfl
    | ident n =>
      simp only [intArithFree] at hs
      simp only [evalN]
      split
      · rfl
      · rename_i hh
        rw [if_neg hh] at hs
        split <;> first | rfl | exact ih _ _ (by simpa [*] using hs)
    | un op a =>
      have ha : intArithFree defs f h a = true ∧ (op = .lnot ∨ (ctyOf defs (f+1) h (.un op a) != .int) = true) := by
        cases op with
        | lnot => exact ⟨hs, .inl rfl⟩
        | _ => simp only [intArithFree, Bool.and_eq_true] at hs; exact ⟨hs.1, .inr hs.2⟩
      rw [evalN_un]
      refine seqR_flag (ih h a ha.1) (fun v => ?_)
      rcases ha.2 with rfl | hty
      · exact narrowAt_ofBool _ _
      · exact fin_flag_notInt _ _ _ hty
    | cond c a b =>
      simp only [intArithFree, Bool.and_eq_true] at hs
      obtain ⟨⟨⟨hc, ha⟩, hb⟩, hty⟩ := hs
      rw [evalN_cond]
      refine seqR_flag (ih h c hc) (fun vc => seqR_flag ?_ (fun v => fin_flag_notInt _ _ _ hty))
      cases vc.truth
      · exact ih h b hb
      · exact ih h a ha
    | bin op a b =>
      simp only [intArithFree, Bool.and_eq_true] at hs
      obtain ⟨⟨ha, hb⟩, hty⟩ := hs
      have hlog : ∀ isAnd : Bool, op = (if isAnd then .land else .lor) → (evalN false defs (f+1) h (.bin op a b)).2 = false := by
        intro isAnd hop
        subst hop
        rw [evalN_logic]
        refine seqR_flag (ih h a ha) (fun va => ?_)
        by_cases hs : (if isAnd then !va.truth else va.truth) = true
        · rw [if_pos hs]
        · rw [if_neg hs]; exact seqR_flag (ih h b hb) (fun _ => rfl)
      by_cases h1 : op = .land
      · exact hlog true h1
      · by_cases h2 : op = .lor
        · exact hlog false h2
        · rw [evalN_bin h1 h2]
          refine seqR_flag (ih h a ha) (fun va => seqR_flag (ih h b hb) (fun vb => ?_))
          cases hop : op.isTruth with
          | true =>
            obtain ⟨t, ht⟩ := arith_truth op va vb hop h1 h2
            show (fin false _ (arith true op va vb) false).2 = false
            rw [ht]
            exact narrowAt_ofBool _ t
          | false =>
            rw [hop] at hty
            exact fin_flag_notInt _ _ _ hty

end ChibiVerif.PPExpr
