/-
C03 — `SimRes`: per outcome of the big-step `Spec.exec`, where the code of a statement started at `p` arrives (its end, the
break / continue label of the enclosing construct, the return label): the relation in which a simulation of the structured
fragment by induction on `exec` is stated, with its two rules `SimRes.abrupt` and `SimRes.extend`, results in their own right.
No proof uses it: `C03_preserve_partial` goes through `Spec.execG` (Lemmas/C03Agree.lean, Lemmas/StmtGotoParse.lean).
-/
import ChibiVerif.Lemmas.StmtMachine

namespace ChibiVerif.Ctl
open ChibiVerif.Spec.Ctl

/-- what the machine does for a result of the specification: `p` = start of the statement's code,
    `pe` = its end; `b`/`ct` = break / continue labels of the enclosing constructs -/
def SimRes (ω : Nat → Val) (P : Prog) (b ct : Option Nat) (p pe : Nat) (σ : SState) : Res → Prop
  | .done .normal σ' => Runs ω P (p, σ) (pe, σ')
  | .done .brk σ' => ∃ bl q, b = some bl ∧ P[q]? = some (.label (.u bl)) ∧ Runs ω P (p, σ) (q, σ')
  | .done .cont σ' => ∃ cl q, ct = some cl ∧ P[q]? = some (.label (.u cl)) ∧ Runs ω P (p, σ) (q, σ')
  | .done .ret σ' => ∃ q, P[q]? = some (.label .ret) ∧ Runs ω P (p, σ) (q, σ')
  | .timeout σ' => ∃ q, Runs ω P (p, σ) (q, σ')
  | .unsupported => True

/-- a result that is not `normal` does not mention the end of the code -/
theorem SimRes.abrupt {ω : Nat → Val} {P : Prog} {b ct : Option Nat} {p pe pe' : Nat} {σ : SState} {r : Res}
    (hr : ∀ σ', r ≠ .done .normal σ') (h : SimRes ω P b ct p pe σ r) : SimRes ω P b ct p pe' σ r := by
  cases r with
  | unsupported => trivial
  | timeout σ' => exact h
  | done o σ' =>
    cases o with
    | normal => exact absurd rfl (hr σ')
    | _ => exact h

/-- extend the end of the code by steps that do not touch the state -/
theorem SimRes.extend {ω : Nat → Val} {P : Prog} {b ct : Option Nat} {p pe pe' : Nat} {σ : SState} {r : Res}
    (he : ∀ σ', Runs ω P (pe, σ') (pe', σ')) (h : SimRes ω P b ct p pe σ r) : SimRes ω P b ct p pe' σ r := by
  cases r with
  | unsupported => trivial
  | timeout σ' => exact h
  | done o σ' =>
    cases o with
    | normal => exact Runs.trans h (he σ')
    | _ => exact h

end ChibiVerif.Ctl
