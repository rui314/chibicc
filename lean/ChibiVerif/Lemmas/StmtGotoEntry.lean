/-
C03 — where a control transfer of the abstract machine arrives in the code (`find_erase`): if `Spec.Ctl.find`
returns the statement following a label (named label, `case`, `default`) together with its
continuation, then the unique label of that node is among `hitLabels`, it is defined in the code, and the
configuration `find` returns is matched at the position after it; if `find` returns nothing, `hitLabels` is empty.
-/
import ChibiVerif.Lemmas.StmtGotoDefs

namespace ChibiVerif.Ctl
open ChibiVerif.Spec.Ctl

section
variable {ω : Nat → Val} {P : Prog} {fb : SStmt} {R : Nat → Nat → Prop} {V : Prop}

/-- what the result of `find t (erase st) k` says about the code of `st` -/
def Arrives (ω : Nat → Val) (P : Prog) (fb : SStmt) (R : Nat → Nat → Prop) (V : Prop) (hits : List Nat) :
    Option (SStmt × Cont) → Prop
  | none => hits = []
  | some r => ∃ (u q : Nat), u ∈ hits ∧ P[q]? = some (.label (.u u)) ∧ MatchS ω P fb R V r.1 r.2 (q + 1)

theorem Arrives.mono {hits hits' : List Nat} {r : SStmt × Cont} (hs : ∀ u ∈ hits, u ∈ hits') :
    Arrives ω P fb R V hits (some r) → Arrives ω P fb R V hits' (some r) :=
  fun ⟨u, q, h1, h23⟩ => ⟨u, q, hs u h1, h23⟩

/-- `find` searches two parts in order (`seq`, `if`): the first hit is in the first part, else in the second -/
theorem Arrives.orElse {hx hy : List Nat} {fx fy : Option (SStmt × Cont)} :
    Arrives ω P fb R V hx fx → Arrives ω P fb R V hy fy →
    Arrives ω P fb R V (hx ++ hy) (match fx with | some r => some r | none => fy) := by
  intro ax ay
  cases fx with
  | some r => exact ax.mono fun _ => List.mem_append_left _
  | none => cases ax; exact ay

/-- a label node: arrived if the target designates it, else on into the statement it labels -/
theorem Arrives.labelled {x : Stmt} {l c p : Nat} {k : Cont} {b ct : Option Nat} {f : Option (SStmt × Cont)} {hits : List Nat}
    (hit : Bool) (hx : P[p]? = some (.label (.u l)) ∧ StmtAt ω P fb R V x c (p + 1) k b ct)
    (ih : Arrives ω P fb R V hits f) :
    Arrives ω P fb R V (if hit then l :: hits else hits) (if hit then some (erase x, k) else f) := by
  cases hit with
  | true => exact ⟨l, p, List.mem_cons_self, hx.1, x, c, b, ct, rfl, hx.2⟩
  | false => exact ih

theorem find_erase (hu : UniqueLabels P) (t : Target) (st : Stmt) :
    ∀ (c p : Nat) (k : Cont) (b ct : Option Nat), StmtAt ω P fb R V st c p k b ct →
      Arrives ω P fb R V (hitLabels t st) (find t (erase st) k) := by
  induction st with
  | skip | marker _ | ret | gotoN _ | gotoValN _ | gotoVal _ _ => intro c p k b ct _; exact rfl
  | goto_ kind u => intro c p k b ct _; cases kind <;> exact rfl
  | block s ih => intro c p k b ct h; exact ih c p k b ct h.block
  | seq x y ihx ihy => intro c p k b ct h; exact (ihx _ _ _ _ _ h.seq.1).orElse (ihy _ _ _ _ _ h.seq.2)
  | ifte _ x y ihx ihy => intro c p k b ct h; exact (ihx _ _ _ _ _ (h.ifte hu).1).orElse (ihy _ _ _ _ _ (h.ifte hu).2)
  | for_ i cnd inc brk cont body ih =>
    intro c p k b ct h
    cases i with
    | none => exact ih _ _ _ _ _ h.for_body
    | some i => exact ih _ _ _ _ _ h.for_init.for_body
  | doWhile brk cont body cnd ih => intro c p k b ct h; exact ih _ _ _ _ _ h.do_body
  | switch_ w u key cs d brk body ih =>
    intro c p k b ct h
    simp only [erase, find, hitLabels]
    cases t.enters with
    | true => exact ih _ _ _ _ _ h.switch_body
    | false => exact rfl
  | case_ l lo hi s ih => intro c p k b ct h; exact .labelled _ (h.labelled rfl id) (ih _ _ _ _ _ (h.labelled rfl id).2)
  | default_ l s ih => intro c p k b ct h; exact .labelled _ (h.labelled rfl id) (ih _ _ _ _ _ (h.labelled rfl id).2)
  | label l u s ih => intro c p k b ct h; exact .labelled _ (h.labelled rfl id) (ih _ _ _ _ _ (h.labelled rfl id).2)

end

end ChibiVerif.Ctl
