/- Lemmas for the floating half of C07: the translated folder (`Gen.ConstEval.eval2` / `evalDouble`) run by an x86-64 host
   (`HostFp.ofOps O`) on the tree chibicc builds for an arithmetic constant expression (`elabA`) computes the C11 value
   (`Spec.ConstF.eval O`: every operation once, in the format of its type), for every FPU `O` that meets `Sound`. -/
import ChibiVerif.Lemmas.ConstEvalLemmas
import ChibiVerif.Lemmas.FpRoundLemmas
import ChibiVerif.Model.ConstElabF
import ChibiVerif.Model.HostFpX86

namespace ChibiVerif.C07Float
open ChibiVerif.Host ChibiVerif.Gen.ConstEval ChibiVerif.Spec.ConstF ChibiVerif.Spec.Fpu
open ChibiVerif.Spec.Const hiding typeOf eval
open ChibiVerif.ConstElab ChibiVerif.ConstEvalLemmas

/-! ## What is assumed of the FPU -/

/-- a `float` datum that survives widening to `long double` and narrowing back (on x86: every datum but a signalling NaN) -/
def RT32 (O : FpOps) (x : BitVec 32) : Prop := O.fst32 (O.fld32 x) = x
/-- the same for `double` -/
def RT64 (O : FpOps) (x : BitVec 64) : Prop := O.fst64 (O.fld64 x) = x

/-- **The contracts.**  `fld32_exact` … `fchs_spec` are contracts of `FpuSpec` (Spec/FpuSpec.lean: widening is exact, `fild`
    of a 64-bit integer is exact, `fchs` complements the sign bit).  The others say that narrowing a `long double` (`fst`)
    rounds once and consistently with the SSE conversions, and that no operation manufactures a signalling NaN:
    * `narrow_int*`: a 64-bit integer loaded exactly and narrowed is the integer rounded once (`cvtsi2ss/sd`, i.e. `ofInt*`);
    * `narrow_64_32` / `widen_32_64`: `double → long double → float` is `cvtsd2ss`, `float → long double → double` is `cvtss2sd`;
    * `neg_*`: `fchs` between widening and narrowing complements the sign bit of the narrow datum;
    * `rt_*`: what an instruction delivers (from round-trip-exact operands) is round-trip-exact. -/
structure Sound (O : FpOps) : Prop where
  fld32_exact : ∀ x, Val.same (O.val80 (O.fld32 x)) (O.val32 x) = true
  fld64_exact : ∀ x, Val.same (O.val80 (O.fld64 x)) (O.val64 x) = true
  ofInt80_val : ∀ v : Int, v.natAbs < 2 ^ 64 → (O.val80 (O.ofInt80 v)).toInt? = some v
  fchs_spec : ∀ x, O.fchs x = x ^^^ (1#80 <<< 79)
  narrow_int32 : ∀ v : Int, v.natAbs < 2 ^ 64 → O.fst32 (O.ofInt80 v) = O.ofInt32 v
  narrow_int64 : ∀ v : Int, v.natAbs < 2 ^ 64 → O.fst64 (O.ofInt80 v) = O.ofInt64 v
  narrow_64_32 : ∀ x, RT64 O x → O.fst32 (O.fld64 x) = O.cvtsd2ss x
  widen_32_64 : ∀ x, RT32 O x → O.fst64 (O.fld32 x) = O.cvtss2sd x
  neg_32 : ∀ x, RT32 O x → O.fst32 (O.fchs (O.fld32 x)) = x ^^^ (1#32 <<< 31)
  neg_64 : ∀ x, RT64 O x → O.fst64 (O.fchs (O.fld64 x)) = x ^^^ (1#64 <<< 63)
  rt_neg32 : ∀ x, RT32 O x → RT32 O (x ^^^ (1#32 <<< 31))
  rt_neg64 : ∀ x, RT64 O x → RT64 O (x ^^^ (1#64 <<< 63))
  rt_fst32 : ∀ y, RT32 O (O.fst32 y)
  rt_fst64 : ∀ y, RT64 O (O.fst64 y)
  rt_addss : ∀ a b, RT32 O a → RT32 O b → RT32 O (O.addss a b)
  rt_subss : ∀ a b, RT32 O a → RT32 O b → RT32 O (O.subss a b)
  rt_mulss : ∀ a b, RT32 O a → RT32 O b → RT32 O (O.mulss a b)
  rt_divss : ∀ a b, RT32 O a → RT32 O b → RT32 O (O.divss a b)
  rt_addsd : ∀ a b, RT64 O a → RT64 O b → RT64 O (O.addsd a b)
  rt_subsd : ∀ a b, RT64 O a → RT64 O b → RT64 O (O.subsd a b)
  rt_mulsd : ∀ a b, RT64 O a → RT64 O b → RT64 O (O.mulsd a b)
  rt_divsd : ∀ a b, RT64 O a → RT64 O b → RT64 O (O.divsd a b)

/-- what `FpuSpec` itself does not constrain: the narrowing contracts of `Sound`, for an `FpuSpec` under a control word -/
structure Narrowing (F : FpuSpec) (cw : BitVec 16) : Prop where
  narrow_int32 : ∀ v : Int, v.natAbs < 2 ^ 64 → F.fst32 cw (F.ofInt80 v) = F.ofInt32 v
  narrow_int64 : ∀ v : Int, v.natAbs < 2 ^ 64 → F.fst64 cw (F.ofInt80 v) = F.ofInt64 v
  narrow_64_32 : ∀ x, RT64 (F.ops cw) x → F.fst32 cw (F.fld64 x) = F.cvtsd2ss x
  widen_32_64 : ∀ x, RT32 (F.ops cw) x → F.fst64 cw (F.fld32 x) = F.cvtss2sd x
  neg_32 : ∀ x, RT32 (F.ops cw) x → F.fst32 cw (F.fchs (F.fld32 x)) = x ^^^ (1#32 <<< 31)
  neg_64 : ∀ x, RT64 (F.ops cw) x → F.fst64 cw (F.fchs (F.fld64 x)) = x ^^^ (1#64 <<< 63)
  rt_neg32 : ∀ x, RT32 (F.ops cw) x → RT32 (F.ops cw) (x ^^^ (1#32 <<< 31))
  rt_neg64 : ∀ x, RT64 (F.ops cw) x → RT64 (F.ops cw) (x ^^^ (1#64 <<< 63))
  rt_fst32 : ∀ y, RT32 (F.ops cw) (F.fst32 cw y)
  rt_fst64 : ∀ y, RT64 (F.ops cw) (F.fst64 cw y)
  rt_addss : ∀ a b, RT32 (F.ops cw) a → RT32 (F.ops cw) b → RT32 (F.ops cw) (F.addss a b)
  rt_subss : ∀ a b, RT32 (F.ops cw) a → RT32 (F.ops cw) b → RT32 (F.ops cw) (F.subss a b)
  rt_mulss : ∀ a b, RT32 (F.ops cw) a → RT32 (F.ops cw) b → RT32 (F.ops cw) (F.mulss a b)
  rt_divss : ∀ a b, RT32 (F.ops cw) a → RT32 (F.ops cw) b → RT32 (F.ops cw) (F.divss a b)
  rt_addsd : ∀ a b, RT64 (F.ops cw) a → RT64 (F.ops cw) b → RT64 (F.ops cw) (F.addsd a b)
  rt_subsd : ∀ a b, RT64 (F.ops cw) a → RT64 (F.ops cw) b → RT64 (F.ops cw) (F.subsd a b)
  rt_mulsd : ∀ a b, RT64 (F.ops cw) a → RT64 (F.ops cw) b → RT64 (F.ops cw) (F.mulsd a b)
  rt_divsd : ∀ a b, RT64 (F.ops cw) a → RT64 (F.ops cw) b → RT64 (F.ops cw) (F.divsd a b)

/-- an `FpuSpec` (the contracts C02 uses) whose narrowing stores round once is `Sound` -/
theorem sound_of_fpuSpec (F : FpuSpec) (cw : BitVec 16) (hn : Narrowing F cw) : Sound (F.ops cw) where
  fld32_exact := F.fld32_exact
  fld64_exact := F.fld64_exact
  ofInt80_val := fun v hv => by
    have := F.ofInt80_val v (by omega)
    rw [roundInt_exact 64 v (by decide) (by omega)] at this
    exact this
  fchs_spec := F.fchs_spec
  narrow_int32 := hn.narrow_int32
  narrow_int64 := hn.narrow_int64
  narrow_64_32 := hn.narrow_64_32
  widen_32_64 := hn.widen_32_64
  neg_32 := hn.neg_32
  neg_64 := hn.neg_64
  rt_neg32 := hn.rt_neg32
  rt_neg64 := hn.rt_neg64
  rt_fst32 := hn.rt_fst32
  rt_fst64 := hn.rt_fst64
  rt_addss := hn.rt_addss
  rt_subss := hn.rt_subss
  rt_mulss := hn.rt_mulss
  rt_divss := hn.rt_divss
  rt_addsd := hn.rt_addsd
  rt_subsd := hn.rt_subsd
  rt_mulsd := hn.rt_mulsd
  rt_divsd := hn.rt_divsd

/-! ## Typing of the elaborated tree -/

theorem descrF_flonum (t : FTy) : isFlonum (descrF t) = true := by cases t <;> rfl
theorem descrF_not_integer (t : FTy) : isInteger (descrF t) = false := by cases t <;> rfl

theorem gctA_of_not_flonum {a b : CTy} (ha : isFlonum a = false) (hb : isFlonum b = false) :
    getCommonTypeA a b = getCommonType a b := by
  simp only [isFlonum, Bool.or_eq_false_iff] at ha hb
  simp only [getCommonTypeA, ha, hb, Bool.or_self, Bool.false_eq_true, ite_false]

theorem gctA_descr (a b : ATy) : getCommonTypeA (descrA a) (descrA b) = descrA (usual a b) := by
  rcases a with ta | fa <;> rcases b with tb | fb
  · exact (gctA_of_not_flonum (descr_not_flonum ta) (descr_not_flonum tb)).trans (gct_descr ta tb)
  · cases ta <;> cases fb <;> rfl
  · cases fa <;> cases tb <;> rfl
  · cases fa <;> cases fb <;> rfl

theorem gctA_int (a : ATy) : getCommonTypeA tyInt (descrA a) = descrA (promote a) := by
  rcases a with ta | fa
  · cases ta <;> rfl
  · cases fa <;> rfl

theorem usual_promote (a : ATy) : usual (.int .i32) a = promote a := by
  rcases a with ta | fa
  · cases ta <;> rfl
  · cases fa <;> rfl

theorem usual_comm (a b : ATy) : usual a b = usual b a := by
  rcases a with ta | fa <;> rcases b with tb | fb
  · simp only [usual]; rw [common_comm]
  · cases fb <;> rfl
  · cases fa <;> rfl
  · cases fa <;> cases fb <;> rfl

theorem tyOf_elabA (e : AExpr) : CNode.tyOf (elabA e) = .ok (descrA (typeOf e)) := by
  induction e with
  | ilit t v => rfl
  | flit t v => rfl
  | un op e ih =>
    have ih' := nodeTy_of_tyOf ih
    cases op with
    | neg | bitnot => simp only [elabA, mkPromotedA, CNode.tyOf, typeOf, ih', gctA_int]
    | lognot => rfl
    | plus =>
      simp only [elabA, typeOf, ih']
      generalize typeOf e = t at ih ⊢
      rcases t with ti | tf
      · cases ti <;> first | rfl | exact ih
      · cases tf <;> exact ih
  | bin op a b iha ihb =>
    cases op <;> simp only [elabA, mkArithA, mkCompareA, mkPromotedA, bin, CNode.tyOf, typeOf, nodeTy_of_tyOf iha,
      nodeTy_of_tyOf ihb, gctA_descr, gctA_int] <;> rfl
  | land a b _ _ => rfl
  | lor a b _ _ => rfl
  | cond c a b _ iha ihb => simp only [elabA, CNode.tyOf, typeOf, nodeTy_of_tyOf iha, nodeTy_of_tyOf ihb, gctA_descr]
  | cast t e _ => rfl

theorem elabA_ty (e : AExpr) : nodeTy (elabA e) = descrA (typeOf e) := nodeTy_of_tyOf (tyOf_elabA e)

theorem mkArithA_eq (k : NodeKind) (na nb : CNode) (ta tb : ATy) (ha : CNode.tyOf na = .ok (descrA ta))
    (hb : CNode.tyOf nb = .ok (descrA tb)) :
    mkArithA k na nb = bin k (descrA (usual ta tb)) (mkCast na (descrA (usual ta tb))) (mkCast nb (descrA (usual ta tb))) := by
  simp only [mkArithA, nodeTy_of_tyOf ha, nodeTy_of_tyOf hb, gctA_descr]

theorem mkCompareA_eq (k : NodeKind) (na nb : CNode) (ta tb : ATy) (ha : CNode.tyOf na = .ok (descrA ta))
    (hb : CNode.tyOf nb = .ok (descrA tb)) :
    mkCompareA k na nb = bin k tyInt (mkCast na (descrA (usual ta tb))) (mkCast nb (descrA (usual ta tb))) := by
  simp only [mkCompareA, nodeTy_of_tyOf ha, nodeTy_of_tyOf hb, gctA_descr]

theorem mkPromotedA_eq (k : NodeKind) (na nb : CNode) (ta : ATy) (ha : CNode.tyOf na = .ok (descrA ta)) :
    mkPromotedA k na nb = .mk k (descrA (promote ta)) 0 0 (mkCast na (descrA (promote ta))) nb .null .null .null := by
  simp only [mkPromotedA, nodeTy_of_tyOf ha, gctA_int]

theorem tyOf_bin (k : NodeKind) (ty : CTy) (a b : CNode) : CNode.tyOf (bin k ty a b) = .ok ty := rfl

theorem usual_int_inv {a b : ATy} {ti : ITy} (h : usual a b = .int ti) : ∃ ta tb, a = .int ta ∧ b = .int tb ∧ ti = ITy.common ta tb := by
  rcases a with ta | fa <;> rcases b with tb | fb
  · simp only [usual, ATy.int.injEq] at h; exact ⟨ta, tb, rfl, rfl, h.symm⟩
  · cases fb <;> simp [usual] at h
  · cases fa <;> simp [usual] at h
  · cases fa <;> cases fb <;> simp [usual] at h

/-! ## What a node evaluates to -/

section nodes
variable (O : FpOps)

/-- the x86-64 host on the FPU `O` -/
abbrev host : FpEnv := HostFp.ofOps O

/-- the `long double` the folder holds for a value: a floating value widened exactly, an integer converted exactly -/
def widen : AVal → BitVec 80
  | .int v => O.ofInt80 v
  | .f32 b => O.fld32 b
  | .f64 b => O.fld64 b
  | .f80 b => b

/-- `v` is a value of type `ty` (an integer in range; a `float` / `double` that survives widening and narrowing) -/
def Good : AVal → ATy → Prop
  | .int x, .int t => t.inRange x = true
  | .f32 b, .flt .f32 => RT32 O b
  | .f64 b, .flt .f64 => RT64 O b
  | .f80 _, .flt .f80 => True
  | _, _ => False

/-- node `n` has type `ty` and the folder evaluates it to `v`: through `eval2` (any label) to the `int64_t` image of an
    integer, through `eval_double` to the widened floating value -/
def NodeHas (n : CNode) (ty : ATy) (v : AVal) : Prop :=
  CNode.tyOf n = .ok (descrA ty) ∧ Good O v ty ∧
    match v with
    | .int x => ∀ lab, eval2 .wrapping (host O) n lab = .ok (img x)
    | w => evalDouble .wrapping (host O) n = .ok (widen O w)

theorem good_int {x : Int} {ty : ATy} (h : Good O (.int x) ty) : ∃ t, ty = .int t ∧ t.inRange x = true := by
  rcases ty with t | f
  · exact ⟨t, rfl, h⟩
  · cases f <;> exact absurd h (by simp [Good])

/-- `v` is the datum of a floating type (not an integer) -/
def isFlt : AVal → Bool
  | .int _ => false
  | _ => true

theorem good_flt {v : AVal} {ty : ATy} (hv : isFlt v = true) (h : Good O v ty) : ∃ f, ty = .flt f := by
  rcases ty with t | f
  · cases v with
    | int x => cases hv
    | f32 b | f64 b | f80 b => exact absurd h (by simp [Good])
  · exact ⟨f, rfl⟩

theorem good_f32 {v : AVal} (h : Good O v (.flt .f32)) : ∃ b, v = .f32 b ∧ RT32 O b := by
  cases v <;> first | exact ⟨_, rfl, h⟩ | exact absurd h (by simp [Good])

theorem good_f64 {v : AVal} (h : Good O v (.flt .f64)) : ∃ b, v = .f64 b ∧ RT64 O b := by
  cases v <;> first | exact ⟨_, rfl, h⟩ | exact absurd h (by simp [Good])

theorem good_f80 {v : AVal} (h : Good O v (.flt .f80)) : ∃ b, v = .f80 b := by
  cases v <;> first | exact ⟨_, rfl⟩ | exact absurd h (by simp [Good])

theorem isFlt_of_good {v : AVal} {T : FTy} (h : Good O v (.flt T)) : isFlt v = true := by
  cases v with
  | int x => cases T <;> exact absurd h (by simp [Good])
  | _ => rfl

/-- the way a node of floating type is shown to have a value: by the `long double` it folds to -/
theorem NodeHas.flt {n : CNode} {f : FTy} {v : AVal} (hty : CNode.tyOf n = .ok (descrF f)) (hg : Good O v (.flt f))
    (hev : Gen.ConstEval.evalDouble .wrapping (host O) n = .ok (widen O v)) : NodeHas O n (.flt f) v := by
  refine ⟨hty, hg, ?_⟩
  cases v with
  | int x => cases isFlt_of_good O hg
  | _ => exact hev

theorem good_f32_inv {b : BitVec 32} {ty : ATy} (h : Good O (.f32 b) ty) : ty = .flt .f32 ∧ RT32 O b := by
  rcases ty with t | f
  · exact absurd h (by simp [Good])
  · cases f <;> first | exact ⟨rfl, h⟩ | exact absurd h (by simp [Good])

theorem good_f64_inv {b : BitVec 64} {ty : ATy} (h : Good O (.f64 b) ty) : ty = .flt .f64 ∧ RT64 O b := by
  rcases ty with t | f
  · exact absurd h (by simp [Good])
  · cases f <;> first | exact ⟨rfl, h⟩ | exact absurd h (by simp [Good])


theorem inRange_natAbs (t : ITy) (x : Int) (h : t.inRange x = true) : x.natAbs < 2 ^ 64 := by
  have := inRange_wide t x h
  omega

theorem evalDouble_of_int (n : CNode) (t : ITy) (x : Int) (hty : CNode.tyOf n = .ok (descr t)) (hx : t.inRange x = true)
    (h : ∀ lab, eval2 .wrapping (host O) n lab = .ok (img x)) : evalDouble .wrapping (host O) n = .ok (O.ofInt80 x) := by
  cases n with
  | null => cases hty
  | mk k ty nv fv l r c th el =>
    simp only [CNode.tyOf, Except.ok.injEq] at hty
    subst hty
    rw [evalDouble_integer _ _ k (descr_integer t), h false]
    show Except.ok (if (descr t).isUnsigned then O.ofInt80 (img x).toNat else O.ofInt80 (img x).toInt) = _
    rw [← apply_ite O.ofInt80, img_read t x hx]

theorem NodeHas.evalDouble {n : CNode} {ty : ATy} {v : AVal} (h : NodeHas O n ty v) :
    evalDouble .wrapping (host O) n = .ok (widen O v) := by
  obtain ⟨hty, hg, hv⟩ := h
  cases v with
  | int x =>
    obtain ⟨t, rfl, hx⟩ := good_int O hg
    exact evalDouble_of_int O n t x hty hx hv
  | f32 b | f64 b | f80 b => exact hv

theorem NodeHas.tyOf {n : CNode} {ty : ATy} {v : AVal} (h : NodeHas O n ty v) : CNode.tyOf n = .ok (descrA ty) := h.1

/-- `NodeHas`, and `is_const_expr` accepts the node -/
structure Node (n : CNode) (ty : ATy) (v : AVal) : Prop where
  has : NodeHas O n ty v
  const : isConstExpr .wrapping (host O) n = .ok true

variable {O}

theorem _root_.ChibiVerif.ConstEvalLemmas.IntNode.node {n : CNode} {t : ITy} {x : Int} (h : IntNode (host O) n t x) :
    Node O n (.int t) (.int x) := ⟨⟨h.ty, h.range, h.eval⟩, h.const⟩

theorem Node.int {n : CNode} {t : ITy} {x : Int} (h : Node O n (.int t) (.int x)) : IntNode (host O) n t x :=
  ⟨h.has.1, h.has.2.1, h.has.2.2, h.const⟩

theorem Node.int_val {n : CNode} {t : ITy} {v : AVal} (h : Node O n (.int t) v) : ∃ x, v = .int x ∧ IntNode (host O) n t x := by
  cases v <;> first | exact ⟨_, rfl, h.int⟩ | exact absurd h.has.2.1 (by simp [Good])

variable (O)

theorem eval2_of_flonum (n : CNode) (f : FTy) (w : BitVec 80) (hty : CNode.tyOf n = .ok (descrF f))
    (h : evalDouble .wrapping (host O) n = .ok w) (lab : Bool) :
    eval2 .wrapping (host O) n lab = .ok (truncTo 64 (O.val80 w)) := by
  cases n with
  | null => cases hty
  | mk k ty nv fv l r c th el =>
    simp only [CNode.tyOf, Except.ok.injEq] at hty
    subst hty
    rw [eval2_flonum _ _ k (descrF_flonum f), h]
    rfl

theorem evalDouble_mkCastF {n : CNode} {s : ATy} {v : AVal} (h : NodeHas O n s v) (f : FTy) :
    evalDouble .wrapping (host O) (mkCast n (descrF f)) = .ok (roundTy (host O) (descrF f) (widen O v)) := by
  simp only [mkCast, un]
  rw [evalDouble_flt _ _ (descrF_not_integer f)]
  simp only [dblArm, h.evalDouble]
  rfl

theorem promote_inRange' (t : ITy) (x : Int) (h : t.inRange x = true) : t.promote.inRange x = true := promote_inRange t x h

/-! ## Facts about the Spec's values and conversions -/

theorem cmp_zero_beq (v : Val) (n : Bool) (e : Int) : (Val.cmp v (.fin n 0 e) == .eq) = v.isZero := by
  rw [Bool.eq_iff_iff, beq_iff_eq, Val.cmp_zero_eq]

theorem spec_truth_flt (v : AVal) (hv : isFlt v = true) : Spec.ConstF.truth O v = !(v.val O).isZero := by
  cases v with
  | int x => cases hv
  | f32 b | f64 b | f80 b => simp only [Spec.ConstF.truth, bne, cmp_zero_beq]

theorem truncTo64_of (v : Val) (i : Int) (h : v.trunc? = some i) (h1 : -9223372036854775808 ≤ i) (h2 : i ≤ 9223372036854775807) :
    truncTo 64 v = img i := by
  unfold truncTo
  rw [h]
  simp only
  rw [if_pos]
  constructor <;> omega

theorem fpToInt_trunc {t : ITy} (hb : t ≠ .bool) {val : Val} {i : Int} (hc : fpToInt t val = some i) :
    val.trunc? = some i ∧ t.inRange i = true := by
  have h : (match val.trunc? with | some j => if t.inRange j then some j else none | none => none) = some i := by
    cases t <;> first | exact absurd rfl hb | exact hc
  split at h
  · split at h <;> cases h
    exact ⟨‹_›, ‹_›⟩
  · cases h

theorem cvtU64_trunc {w : BitVec 80} {j : Int} (hj : (O.val80 w).trunc? = some j) (hr : ITy.inRange .u64 j = true) :
    cvtU64 .wrapping (host O) w = .ok (img j) := by
  show Except.ok ((host O).f80toU64 w) = _
  simp only [HostFp.ofOps, hj]
  rng
  rw [if_pos (by constructor <;> omega)]

theorem inRange_int64 {t : ITy} (hu : t ≠ .u64) {j : Int} (hr : t.inRange j = true) :
    -9223372036854775808 ≤ j ∧ j ≤ 9223372036854775807 := by
  have : t.maxV ≤ 9223372036854775807 := by cases t <;> first | exact absurd rfl hu | decide
  have := range_wide t
  rw [inRange_iff] at hr
  omega

/-- a conversion to an integer type yields an integer -/
theorem convert_int_shape {t : ITy} {v w : AVal} (h : convert O (.int t) v = some w) : ∃ x, w = .int x := by
  cases v <;> simp only [convert, Option.some.injEq, Option.map_eq_some_iff] at h
  · exact ⟨_, h.symm⟩
  all_goals (obtain ⟨i, _, rfl⟩ := h; exact ⟨i, rfl⟩)

theorem rel_swap_lt (r : Rel) : (r.swap == .lt) = (r == .gt) := by cases r <;> rfl

theorem rel_swap_le (r : Rel) : (r.swap == .lt || r.swap == .eq) = (r == .gt || r == .eq) := by cases r <;> rfl

/-! ## Narrowing -/

/-- the value of floating type `f` that narrowing the `long double` `y` yields (`fst`: one rounding; none for `long double`) -/
def narrow (f : FTy) (y : BitVec 80) : AVal :=
  match f with
  | .f32 => .f32 (O.fst32 y)
  | .f64 => .f64 (O.fst64 y)
  | .f80 => .f80 y

theorem widen_narrow (f : FTy) (y : BitVec 80) : widen O (narrow O f y) = roundTy (host O) (descrF f) y := by cases f <;> rfl

theorem narrow_widen {f : FTy} {v : AVal} (hg : Good O v (.flt f)) : narrow O f (widen O v) = v := by
  cases f
  · obtain ⟨b, rfl, hb⟩ := good_f32 O hg; exact congrArg AVal.f32 hb
  · obtain ⟨b, rfl, hb⟩ := good_f64 O hg; exact congrArg AVal.f64 hb
  · obtain ⟨b, rfl⟩ := good_f80 O hg; rfl

theorem round_good (T : FTy) (w : AVal) (hg : Good O w (.flt T)) : roundTy (host O) (descrF T) (widen O w) = widen O w := by
  rw [← widen_narrow, narrow_widen O hg]

/-- the node kind of a floating operator -/
def fkind : FOp → NodeKind
  | .add => .ND_ADD | .sub => .ND_SUB | .mul => .ND_MUL | .div => .ND_DIV

theorem fkind_mem (f : FOp) : fkind f ∈ farithKinds := by cases f <;> decide

/-- `FOLD_FLONUM` on two `long double`s is the Spec's operation on the narrowed operands, widened: by the definition of the
    host alone, no contract -/
theorem fltRaw_farith (f : FOp) (T : FTy) (a b : BitVec 80) {res : AVal} (h : farith O f (narrow O T a) (narrow O T b) = some res) :
    fltRaw (host O) (fkind f) (descrF T) a b = widen O res := by
  cases T <;> cases f <;> cases h <;> rfl

/-! ## Integer operands: the floating Spec, typing and elaboration are the integer ones, level by level -/

theorem eval_un_int {e : AExpr} {op : UnOp} {t : ITy} {x : Int} (hte : typeOf e = .int t) (he : Spec.ConstF.eval O e = some (.int x)) :
    Spec.ConstF.eval O (.un op e) = (unop op t.promote x).map .int := by
  simp only [Spec.ConstF.eval, he, hte]

theorem typeOf_un_int {e : AExpr} {op : UnOp} {t : ITy} (hte : typeOf e = .int t) : typeOf (.un op e) = .int (unTy op t) := by
  cases op <;> simp only [typeOf, hte, promote, unTy]

theorem elabA_un_int {e : AExpr} {op : UnOp} (hn : isFlonum (nodeTy (elabA e)) = false) :
    elabA (.un op e) = unNode op (elabA e) := by
  cases op <;> simp only [elabA, unNode, mkPromotedA, mkPromoted, gctA_of_not_flonum (a := tyInt) rfl hn]

theorem eval_bin_int {a b : AExpr} {op : BinOp} {ta tb : ITy} {x y : Int} (hta : typeOf a = .int ta) (htb : typeOf b = .int tb)
    (hea : Spec.ConstF.eval O a = some (.int x)) (heb : Spec.ConstF.eval O b = some (.int y)) :
    Spec.ConstF.eval O (.bin op a b) = (binVal op ta tb x y).map .int := by
  simp only [Spec.ConstF.eval, hea, heb, hta, htb, usual, convert, binVal]
  split <;> rfl

theorem typeOf_bin_int {a b : AExpr} {op : BinOp} {ta tb : ITy} (hta : typeOf a = .int ta) (htb : typeOf b = .int tb) :
    typeOf (.bin op a b) = .int (binTy op ta tb) := by
  cases op <;> simp only [typeOf, hta, htb, promote, usual, binTy]

theorem elabA_bin_int {a b : AExpr} {op : BinOp} (ha : isFlonum (nodeTy (elabA a)) = false) (hb : isFlonum (nodeTy (elabA b)) = false) :
    elabA (.bin op a b) = binNode op (elabA a) (elabA b) := by
  have e1 := gctA_of_not_flonum ha hb
  have e2 := gctA_of_not_flonum hb ha
  have e3 := gctA_of_not_flonum (a := tyInt) rfl ha
  cases op <;> simp only [elabA, binNode, mkArithA, mkArith, mkCompareA, mkCompare, mkPromotedA, mkPromoted, e1, e2, e3]

/-! ## Floating operands: the Spec, level by level -/

theorem eval_un_flt {e : AExpr} {op : UnOp} {T : FTy} {x : AVal} (hte : typeOf e = .flt T) (he : Spec.ConstF.eval O e = some x) :
    Spec.ConstF.eval O (.un op e) = (match op with
      | .neg => fneg x
      | .plus => some x
      | .lognot => some (.int (b2z (!(Spec.ConstF.truth O x))))
      | .bitnot => none) := by
  simp only [Spec.ConstF.eval, he, hte]
  cases op <;> rfl

theorem eval_bin_flt {a b : AExpr} {op : BinOp} {T : FTy} {x y xc yc : AVal} (hs : op.isShift = false)
    (ht : usual (typeOf a) (typeOf b) = .flt T)
    (hea : Spec.ConstF.eval O a = some x) (heb : Spec.ConstF.eval O b = some y)
    (hcx : convert O (.flt T) x = some xc) (hcy : convert O (.flt T) y = some yc) :
    Spec.ConstF.eval O (.bin op a b) = (match fop? op with
      | some f => farith O f xc yc
      | none => (cmpHolds op (Val.cmp (xc.val O) (yc.val O))).map (fun r => AVal.int (b2z r))) := by
  simp only [Spec.ConstF.eval, hea, heb, hs, Bool.false_eq_true, ite_false, ht, hcx, hcy]
  cases fop? op <;> rfl

theorem eval_bin_flt_inv {a b : AExpr} {op : BinOp} {T : FTy} {x y v : AVal} (hs : op.isShift = false)
    (ht : usual (typeOf a) (typeOf b) = .flt T)
    (hea : Spec.ConstF.eval O a = some x) (heb : Spec.ConstF.eval O b = some y) (h : Spec.ConstF.eval O (.bin op a b) = some v) :
    ∃ xc yc, convert O (.flt T) x = some xc ∧ convert O (.flt T) y = some yc ∧ (match fop? op with
      | some f => farith O f xc yc
      | none => (cmpHolds op (Val.cmp (xc.val O) (yc.val O))).map (fun r => AVal.int (b2z r))) = some v := by
  cases hcx : convert O (.flt T) x with
  | none => simp [Spec.ConstF.eval, hea, heb, hs, ht, hcx] at h
  | some xc =>
    cases hcy : convert O (.flt T) y with
    | none => simp [Spec.ConstF.eval, hea, heb, hs, ht, hcx, hcy] at h
    | some yc => exact ⟨xc, yc, rfl, rfl, (eval_bin_flt O hs ht hea heb hcx hcy).symm.trans h⟩

theorem un_int_case {e : AExpr} {op : UnOp} {t : ITy} {x : Int} {v : AVal} (hte : typeOf e = .int t)
    (he : Spec.ConstF.eval O e = some (.int x)) (hn : IntNode (host O) (elabA e) t x) (h : Spec.ConstF.eval O (.un op e) = some v) :
    Node O (elabA (.un op e)) (typeOf (.un op e)) v := by
  rw [eval_un_int O hte he, Option.map_eq_some_iff] at h
  obtain ⟨r, hr, rfl⟩ := h
  rw [typeOf_un_int hte, elabA_un_int hn.notFlonum]
  exact (hn.unop op hr).node

theorem bin_int_case {a b : AExpr} {op : BinOp} {ta tb : ITy} {x y : Int} {v : AVal}
    (hta : typeOf a = .int ta) (htb : typeOf b = .int tb)
    (hea : Spec.ConstF.eval O a = some (.int x)) (heb : Spec.ConstF.eval O b = some (.int y))
    (ha : IntNode (host O) (elabA a) ta x) (hb : IntNode (host O) (elabA b) tb y)
    (h : Spec.ConstF.eval O (.bin op a b) = some v) : Node O (elabA (.bin op a b)) (typeOf (.bin op a b)) v := by
  rw [eval_bin_int O hta htb hea heb, Option.map_eq_some_iff] at h
  obtain ⟨r, hr, rfl⟩ := h
  rw [typeOf_bin_int hta htb, elabA_bin_int ha.notFlonum hb.notFlonum]
  exact (ha.binop op hb hr).node

theorem accept_binA {k : NodeKind} (hk : k ∈ arithKinds ++ cmpKinds) {a b : CNode} {ty t : CTy}
    (ha : isConstExpr .wrapping (host O) a = .ok true) (hb : isConstExpr .wrapping (host O) b = .ok true) :
    isConstExpr .wrapping (host O) (bin k ty (mkCast a t) (mkCast b t)) = .ok true :=
  accept_bin _ hk (accept_un _ (by decide) ha) (accept_un _ (by decide) hb)

variable (hS : Sound O)
include hS

theorem val_widen (v : AVal) (hv : isFlt v = true) : Val.same (O.val80 (widen O v)) (v.val O) = true := by
  cases v with
  | int x => cases hv
  | f32 b => exact hS.fld32_exact b
  | f64 b => exact hS.fld64_exact b
  | f80 b => exact Val.same_refl _

theorem zero80 : ∃ n e, O.val80 (O.ofInt80 0) = .fin n 0 e := Val.toInt_zero_form (hS.ofInt80_val 0 (by decide))

theorem host_ne_zero (w : BitVec 80) : (!((host O).eq80 w ((host O).i32to80 (0#32)))) = !(O.val80 w).isZero := by
  obtain ⟨n, e, hz⟩ := zero80 O hS
  show (!(Val.cmp (O.val80 w) (O.val80 (O.ofInt80 (0#32).toInt)) == .eq)) = _
  rw [show (0#32).toInt = 0 from rfl, hz, cmp_zero_beq]

theorem isZero_ofInt80 (k : Int) (hk : k.natAbs < 2 ^ 64) : (O.val80 (O.ofInt80 k)).isZero = (k == 0) := by
  rw [Bool.eq_iff_iff, beq_iff_eq]
  exact (Val.toInt_zero_iff (hS.ofInt80_val k hk)).1

/-- the folder's `!= 0` on the widened value is the Spec's truth value -/
theorem truth_widen {v : AVal} {ty : ATy} (hg : Good O v ty) : (!(O.val80 (widen O v)).isZero) = Spec.ConstF.truth O v := by
  cases v with
  | int x =>
    obtain ⟨t, rfl, hx⟩ := good_int O hg
    exact congrArg (!·) (isZero_ofInt80 O hS x (inRange_natAbs t x hx))
  | f32 b | f64 b | f80 b => rw [spec_truth_flt O _ rfl, Val.same_isZero (val_widen O hS _ rfl)]

theorem fpTruth_node {n : CNode} {ty : ATy} {v : AVal} (h : NodeHas O n ty v) :
    fpTruth .wrapping (host O) n = .ok (!(O.val80 (widen O v)).isZero) := by
  unfold fpTruth
  rw [h.evalDouble]
  simp only [bind, Except.bind, pure, Except.pure, host_ne_zero O hS]

theorem fpTruth_spec {n : CNode} {ty : ATy} {v : AVal} (h : NodeHas O n ty v) :
    fpTruth .wrapping (host O) n = .ok (Spec.ConstF.truth O v) :=
  (fpTruth_node O hS h).trans (congrArg Except.ok (truth_widen O hS h.2.1))

theorem Node.toTruth {n : CNode} {ty : ATy} {v : AVal} (h : Node O n ty v) : Truth (host O) n (Spec.ConstF.truth O v) := by
  cases v with
  | int x =>
    obtain ⟨t, rfl, _⟩ := good_int O h.has.2.1
    exact h.int.toTruth
  | f32 b | f64 b | f80 b =>
    refine ⟨?_, h.const⟩
    have hf := fpTruth_spec O hS h.has
    obtain ⟨hty, hg, hv⟩ := h.has
    obtain ⟨f, rfl⟩ := good_flt O rfl hg
    unfold ConstEvalLemmas.truth
    simp only [hty, bind, Except.bind, descrA, descrF_flonum, ite_true]
    exact hf

/-! ## Casts -/

theorem good_narrow (f : FTy) (y : BitVec 80) : Good O (narrow O f y) (.flt f) := by
  cases f
  · exact hS.rt_fst32 y
  · exact hS.rt_fst64 y
  · trivial

/-- the `rt_*` contracts of `Sound`, one per format and operator: arithmetic on values of a floating type yields one -/
theorem farith_good (f : FOp) {T : FTy} {x y res : AVal} (hx : Good O x (.flt T)) (hy : Good O y (.flt T))
    (h : farith O f x y = some res) : Good O res (.flt T) := by
  cases T
  · obtain ⟨a, rfl, ha⟩ := good_f32 O hx
    obtain ⟨b, rfl, hb⟩ := good_f32 O hy
    cases f <;> cases h
    · exact hS.rt_addss a b ha hb
    · exact hS.rt_subss a b ha hb
    · exact hS.rt_mulss a b ha hb
    · exact hS.rt_divss a b ha hb
  · obtain ⟨a, rfl, ha⟩ := good_f64 O hx
    obtain ⟨b, rfl, hb⟩ := good_f64 O hy
    cases f <;> cases h
    · exact hS.rt_addsd a b ha hb
    · exact hS.rt_subsd a b ha hb
    · exact hS.rt_mulsd a b ha hb
    · exact hS.rt_divsd a b ha hb
  · obtain ⟨a, rfl⟩ := good_f80 O hx
    obtain ⟨b, rfl⟩ := good_f80 O hy
    cases f <;> cases h <;> trivial

/-- the Spec's unary minus (the sign bit of the datum) is `fchs` on the widened value, narrowed -/
theorem fneg_narrow {T : FTy} {v w : AVal} (hg : Good O v (.flt T)) (hw : fneg v = some w) :
    w = narrow O T (O.fchs (widen O v)) ∧ Good O w (.flt T) := by
  cases T
  · obtain ⟨b, rfl, hb⟩ := good_f32 O hg
    cases hw
    exact ⟨congrArg AVal.f32 (hS.neg_32 b hb).symm, hS.rt_neg32 b hb⟩
  · obtain ⟨b, rfl, hb⟩ := good_f64 O hg
    cases hw
    exact ⟨congrArg AVal.f64 (hS.neg_64 b hb).symm, hS.rt_neg64 b hb⟩
  · obtain ⟨b, rfl⟩ := good_f80 O hg
    cases hw
    exact ⟨congrArg AVal.f80 (hS.fchs_spec b).symm, trivial⟩

/-- **the C11 conversion to a floating type is what the folder does**: the value widened exactly to `long double`, narrowed once
    (one contract of `Sound` per pair of source and target) -/
theorem convert_flt {v : AVal} {s : ATy} (hg : Good O v s) (f : FTy) : convert O (.flt f) v = some (narrow O f (widen O v)) := by
  cases v with
  | int x =>
    obtain ⟨t, rfl, hx⟩ := good_int O hg
    have hn := inRange_natAbs t x hx
    cases f <;> simp only [convert, narrow, widen, hS.narrow_int32 x hn, hS.narrow_int64 x hn]
  | f32 b =>
    have hb : O.fst32 (O.fld32 b) = b := (good_f32_inv O hg).2
    cases f <;> simp only [convert, narrow, widen, hb, hS.widen_32_64 b hb]
  | f64 b =>
    have hb : O.fst64 (O.fld64 b) = b := (good_f64_inv O hg).2
    cases f <;> simp only [convert, narrow, widen, hb, hS.narrow_64_32 b hb]
  | f80 b => cases f <;> rfl

theorem cast_to_flt {n : CNode} {s : ATy} {v : AVal} (h : NodeHas O n s v) (f : FTy) (w : AVal)
    (hc : convert O (.flt f) v = some w) : NodeHas O (mkCast n (descrF f)) (.flt f) w := by
  rw [convert_flt O hS h.2.1 f, Option.some.injEq] at hc
  subst hc
  exact .flt O (tyOf_mkCast _ _) (good_narrow O hS f _) ((evalDouble_mkCastF O h f).trans (congrArg Except.ok (widen_narrow O f _).symm))

/-- **how the folder makes the `int64_t` of an integer type `t` from a `long double`** — `!= 0` for `_Bool`, `(uint64_t)` for
    `unsigned long`, `(int64_t)` otherwise, in `new_cast`'s node and in `write_gvar_data` alike — yields the C11 conversion of the
    value -/
theorem flt_to_int {g : FTy} {v : AVal} (hg : Good O v (.flt g)) {t : ITy} {i : Int} (hc : fpToInt t (v.val O) = some i) :
    t.inRange i = true ∧
    (t = .bool → i = b2z (!((host O).eq80 (widen O v) ((host O).i32to80 (0#32))))) ∧
    (t = .u64 → cvtU64 .wrapping (host O) (widen O v) = .ok (img i)) ∧
    (t ≠ .bool → t ≠ .u64 → truncTo 64 (O.val80 (widen O v)) = img i) := by
  have hsame := val_widen O hS v (isFlt_of_good O hg)
  by_cases hb : t = .bool
  · subst hb
    simp only [fpToInt, Option.some.injEq] at hc
    have hi : i = b2z (!(v.val O).isZero) := by rw [← hc]; cases (v.val O).isZero <;> rfl
    refine ⟨(by rw [hi]; cases (v.val O).isZero <;> rfl), fun _ => ?_, fun h => (by cases h), fun h => absurd rfl h⟩
    rw [host_ne_zero O hS, Val.same_isZero hsame]; exact hi
  · obtain ⟨hj, hr⟩ := fpToInt_trunc hb hc
    have hj' : (O.val80 (widen O v)).trunc? = some i := by rw [Val.same_trunc hsame]; exact hj
    refine ⟨hr, fun h => absurd h hb, fun hu => ?_, fun _ hu => ?_⟩
    · subst hu; exact cvtU64_trunc O hj' hr
    · have hrange := inRange_int64 hu hr
      exact truncTo64_of _ i hj' hrange.1 hrange.2

theorem cast_flt_to_int {n : CNode} {s : ATy} {v : AVal} (h : NodeHas O n s v) (hfl : isFlt v = true) (t : ITy) (i : Int)
    (hc : fpToInt t (v.val O) = some i) : NodeHas O (mkCast n (descr t)) (.int t) (.int i) := by
  have hed := h.evalDouble
  obtain ⟨hty, hg, _⟩ := h
  obtain ⟨g, rfl⟩ := good_flt O hfl hg
  have hty' : CNode.tyOf n = .ok (descrF g) := hty
  obtain ⟨hr, hbool, hu64, hrest⟩ := flt_to_int O hS hg hc
  refine ⟨tyOf_mkCast _ _, hr, fun lab => ?_⟩
  show eval2 .wrapping (host O) (mkCast n (descr t)) lab = .ok (img i)
  simp only [mkCast, un]
  rw [eval2_int _ _ (descr_not_flonum t)]
  by_cases hb : t = .bool
  · subst hb
    have hi := hbool rfl
    subst hi
    simp only [intArm, descr, show (TypeKind.TY_BOOL == TypeKind.TY_BOOL) = true from rfl, ite_true, hty', bind, Except.bind,
      descrF_flonum, ConstEvalLemmas.fpTruth, hed, pure, Except.pure, b2i_castS]
    exact congrArg Except.ok (wrap_bool01 _)
  · have hk : ((descr t).kind == TypeKind.TY_BOOL) = false := by cases t <;> first | rfl | exact absurd rfl hb
    simp only [intArm, hk, Bool.false_eq_true, ite_false, hty', bind, Except.bind, descrF_flonum, Bool.true_and]
    by_cases hu : t = .u64
    · subst hu
      simp only [descr, hed]
      rw [hu64 rfl]
      exact congrArg Except.ok ((wrap_convert .u64 (by decide) i).trans (congrArg img (convert_id _ _ hr)))
    · have hcnd : ((descr t).isUnsigned && ((descr t).size == (8#32))) = false := by
        cases t <;> first | rfl | exact absurd rfl hu
      simp only [hcnd, Bool.false_eq_true, ite_false]
      rw [eval2_of_flonum O n g _ hty' hed lab, hrest hb hu]
      exact congrArg Except.ok (by rw [wrap_convert t hb, convert_id _ _ hr])

theorem cast_node {n : CNode} {s : ATy} {v : AVal} (h : Node O n s v) (T : ATy) (w : AVal)
    (hc : convert O T v = some w) : Node O (mkCast n (descrA T)) T w := by
  refine ⟨?_, accept_un _ (by decide) h.const⟩
  rcases T with t | f
  · cases v with
    | int x =>
      simp only [convert, Option.some.injEq] at hc
      subst hc
      obtain ⟨ts, rfl, _⟩ := good_int O h.has.2.1
      exact (h.int.cast t).node.has
    | f32 b | f64 b | f80 b =>
      simp only [convert, Option.map_eq_some_iff] at hc
      obtain ⟨i, hi, rfl⟩ := hc
      exact cast_flt_to_int O hS h.has rfl t i hi
  · exact cast_to_flt O hS h.has f w hc

/-! ## Binary operators -/

theorem flt_bin_node (f : FOp) (T : FTy) (l r : CNode) (xc yc res : AVal)
    (hl : NodeHas O l (.flt T) xc) (hr : NodeHas O r (.flt T) yc) (hv : farith O f xc yc = some res) :
    NodeHas O (bin (fkind f) (descrF T) l r) (.flt T) res := by
  have hg := farith_good O hS f hl.2.1 hr.2.1 hv
  refine .flt O (tyOf_bin _ _ _ _) hg ?_
  -- the folder narrows the operands it holds widened, operates, widens, and rounds to the format again
  rw [← narrow_widen O hl.2.1, ← narrow_widen O hr.2.1] at hv
  rw [← round_good O T res hg, ← fltRaw_farith O f T _ _ hv]
  simp only [bin]
  rw [evalDouble_farith _ _ (descrF_not_integer T) _ (fkind_mem f), hl.evalDouble, hr.evalDouble]
  rfl

/-! ## Comparisons -/

/-- Spec side, floating operands: what the comparison of kind `k` (`cmpKinds`) answers when the operands stand in relation `r`
    (`cmpVal` is its integer counterpart) -/
def relVal : NodeKind → Rel → Bool
  | .ND_EQ, r => r == .eq
  | .ND_NE, r => r != .eq
  | .ND_LT, r => r == .lt
  | _, r => r == .lt || r == .eq

theorem flt_cmp_node (k : NodeKind) (hk : k ∈ cmpKinds)
    (T : FTy) (l r : CNode) (xc yc : AVal) (hl : NodeHas O l (.flt T) xc) (hr : NodeHas O r (.flt T) yc) :
    NodeHas O (bin k tyInt l r) (.int .i32) (.int (b2z (relVal k (Val.cmp (xc.val O) (yc.val O))))) := by
  have hc : Val.cmp (O.val80 (widen O xc)) (O.val80 (widen O yc)) = Val.cmp (xc.val O) (yc.val O) :=
    Val.cmp_same (val_widen O hS xc (isFlt_of_good O hl.2.1)) (val_widen O hS yc (isFlt_of_good O hr.2.1))
  have hty : CNode.tyOf l = .ok (descrF T) := hl.1
  refine ⟨tyOf_bin _ _ _ _, b2z_inRange _, fun lab => ?_⟩
  simp only [bin]
  rw [eval2_cmp _ _ (show isFlonum tyInt = false from rfl) k hk]
  apply fold_cmp_node
  unfold cmpArm
  simp only [hty, bind, Except.bind, descrF_flonum, ite_true, hl.evalDouble, hr.evalDouble, pure, Except.pure, b2i_castS]
  rw [← hc]
  simp only [cmpKinds, List.mem_cons, List.mem_nil_iff, or_false] at hk
  rcases hk with rfl | rfl | rfl | rfl <;> rfl

/-! ## Unary operators, `&&`, `||`, `?:` -/

theorem cond_node {nc nt ne : CNode} {tc t : ATy} {vc w : AVal} (hc : Node O nc tc vc)
    (hsel : Node O (if Spec.ConstF.truth O vc then nt else ne) t w)
    (hwide : ∀ ti, t = .int ti → Wide ti) :
    Node O (.mk .ND_COND (descrA t) 0 0 .null .null nc nt ne) t w := by
  have tc := hc.toTruth O hS
  rcases t with ti | T
  · obtain ⟨x, rfl, hi⟩ := hsel.int_val
    exact (IntNode.cond tc (hwide ti rfl) hi).node
  · refine ⟨.flt O rfl hsel.has.2.1 ?_, accept_cond _ tc hsel.const⟩
    have hev := hsel.has.evalDouble
    show evalDouble .wrapping (host O) (.mk .ND_COND (descrF T) 0 0 .null .null nc nt ne) = _
    rw [evalDouble_flt _ _ (descrF_not_integer T)]
    simp only [dblArm, fpTruth_spec O hS hc.has]
    cases hb : Spec.ConstF.truth O vc <;> simp only [hb, Bool.false_eq_true, ite_false, ite_true] at hev <;>
      simp only [bind, Except.bind, pure, Except.pure, Bool.false_eq_true, ite_false, ite_true, hev, round_good O T w hsel.has.2.1]

theorem flt_neg_node {n : CNode} {T : FTy} {v w : AVal} (h : NodeHas O n (.flt T) v) (hw : fneg v = some w) :
    NodeHas O (mkPromotedA .ND_NEG n .null) (.flt T) w := by
  obtain ⟨rfl, hg⟩ := fneg_narrow O hS h.2.1 hw
  rw [mkPromotedA_eq _ _ _ (.flt T) h.1]
  have hc : evalDouble .wrapping (host O) (mkCast n (descrF T)) = .ok (widen O v) := by
    rw [evalDouble_mkCastF O h T, round_good O T v h.2.1]
  refine .flt O rfl hg ?_
  rw [widen_narrow]
  show evalDouble .wrapping (host O) (.mk .ND_NEG (descrF T) 0 0 (mkCast n (descrF T)) .null .null .null .null) = _
  rw [evalDouble_flt _ _ (descrF_not_integer T)]
  simp only [dblArm, hc]
  rfl

theorem un_flt_case {e : AExpr} {op : UnOp} {T : FTy} {x v : AVal} (hte : typeOf e = .flt T)
    (he : Spec.ConstF.eval O e = some x) (hn : Node O (elabA e) (typeOf e) x) (h : Spec.ConstF.eval O (.un op e) = some v) :
    Node O (elabA (.un op e)) (typeOf (.un op e)) v := by
  rw [eval_un_flt O hte he] at h
  rw [hte] at hn
  cases op
  · -- neg
    have := flt_neg_node O hS hn.has h
    refine ⟨by simpa only [elabA, typeOf, hte, promote] using this, ?_⟩
    simp only [elabA, mkPromotedA]
    exact accept_un _ (by decide) (accept_un _ (by decide) hn.const)
  · -- bitnot: a constraint violation
    cases h
  · -- lognot
    cases h
    exact (IntNode.lognot (hn.toTruth O hS)).node
  · -- plus
    cases h
    simp only [elabA, typeOf, hte, promote, nodeTy_of_tyOf hn.has.1]
    have : isInteger (descrA (.flt T)) = false := descrF_not_integer T
    simp only [this, Bool.false_and, Bool.false_eq_true, ite_false]
    exact hn

theorem bin_flt_case {a b : AExpr} {op : BinOp} {T : FTy} {x y v : AVal}
    (hea : Spec.ConstF.eval O a = some x) (heb : Spec.ConstF.eval O b = some y)
    (hna : Node O (elabA a) (typeOf a) x) (hnb : Node O (elabA b) (typeOf b) y)
    (hs' : op.isShift = false) (ht : usual (typeOf a) (typeOf b) = .flt T)
    (h : Spec.ConstF.eval O (.bin op a b) = some v) : Node O (elabA (.bin op a b)) (typeOf (.bin op a b)) v := by
  obtain ⟨xc, yc, hcx, hcy, h'⟩ := eval_bin_flt_inv O hs' ht hea heb h
  have hca := (cast_node O hS hna _ xc hcx).has
  have hcb := (cast_node O hS hnb _ yc hcy).has
  have arith : ∀ f, fop? op = some f → NodeHas O (mkArithA (fkind f) (elabA a) (elabA b)) (usual (typeOf a) (typeOf b)) v := by
    intro f hf
    rw [hf] at h'
    rw [mkArithA_eq _ _ _ _ _ hna.has.1 hnb.has.1, ht]
    exact flt_bin_node O hS f T _ _ xc yc v hca hcb h'
  have cmp : ∀ k ∈ cmpKinds, fop? op = none →
      cmpHolds op (Val.cmp (xc.val O) (yc.val O)) = some (relVal k (Val.cmp (xc.val O) (yc.val O))) →
      NodeHas O (mkCompareA k (elabA a) (elabA b)) (.int .i32) v := by
    intro k hk hf hh
    rw [hf, hh] at h'
    simp only [Option.map_some, Option.some.injEq] at h'
    subst h'
    rw [mkCompareA_eq k _ _ _ _ hna.has.1 hnb.has.1, ht]
    exact flt_cmp_node O hS k hk T _ _ xc yc hca hcb
  -- relational(): `a > b` is built as `b < a`
  have cmpSwap : ∀ k ∈ cmpKinds, fop? op = none →
      cmpHolds op (Val.cmp (xc.val O) (yc.val O)) = some (relVal k (Val.cmp (yc.val O) (xc.val O))) →
      NodeHas O (mkCompareA k (elabA b) (elabA a)) (.int .i32) v := by
    intro k hk hf hh
    rw [hf, hh] at h'
    simp only [Option.map_some, Option.some.injEq] at h'
    subst h'
    rw [mkCompareA_eq k _ _ _ _ hnb.has.1 hna.has.1, (usual_comm _ _).trans ht]
    exact flt_cmp_node O hS k hk T _ _ yc xc hcb hca
  cases op <;> simp only [elabA, typeOf]
  case add => exact ⟨arith .add rfl, accept_binA O (by decide) hna.const hnb.const⟩
  case sub => exact ⟨arith .sub rfl, accept_binA O (by decide) hna.const hnb.const⟩
  case mul => exact ⟨arith .mul rfl, accept_binA O (by decide) hna.const hnb.const⟩
  case div => exact ⟨arith .div rfl, accept_binA O (by decide) hna.const hnb.const⟩
  case mod | band | bor | bxor => simp [fop?, cmpHolds] at h'
  case shl | shr => cases hs'
  case eq | ne | lt | le => exact ⟨cmp _ (by decide) rfl rfl, accept_binA O (by decide) hna.const hnb.const⟩
  case gt =>
    refine ⟨cmpSwap .ND_LT (by decide) rfl ?_, accept_binA O (by decide) hnb.const hna.const⟩
    simp only [cmpHolds, relVal]; rw [Val.cmp_swap (yc.val O) (xc.val O), rel_swap_lt]
  case ge =>
    refine ⟨cmpSwap .ND_LE (by decide) rfl ?_, accept_binA O (by decide) hnb.const hna.const⟩
    simp only [cmpHolds, relVal]; rw [Val.cmp_swap (yc.val O) (xc.val O), rel_swap_le]

/-! ## The induction -/

theorem fold_float : ∀ (e : AExpr) (v : AVal), Spec.ConstF.eval O e = some v → Node O (elabA e) (typeOf e) v := by
  intro e
  induction e with
  | ilit t x0 =>
    intro v h
    have h' : (if t.inRange x0 = true then some (AVal.int x0) else none) = some v := h
    split at h' <;> cases h'
    exact (IntNode.lit ‹_›).node
  | flit T fval =>
    intro v h
    have h' : some (narrow O T fval) = some v := (convert_flt O hS (v := .f80 fval) (s := .flt .f80) trivial T).symm.trans h
    cases h'
    refine ⟨.flt O rfl (good_narrow O hS T fval) ?_, isConst_mk _ _ _⟩
    simp only [elabA, widen_narrow]
    rw [evalDouble_flt _ _ (descrF_not_integer T)]; rfl
  | un op e ih =>
    intro v h0
    cases he : Spec.ConstF.eval O e with
    | none => simp [Spec.ConstF.eval, he] at h0
    | some x =>
      have hn := ih x he
      cases hte : typeOf e with
      | int t =>
        rw [hte] at hn
        obtain ⟨x0, rfl, hi⟩ := hn.int_val
        exact un_int_case O hte he hi h0
      | flt T => exact un_flt_case O hS hte he hn h0
  | bin op a b iha ihb =>
    intro v h0
    have h := h0
    simp only [Spec.ConstF.eval] at h
    cases hea : Spec.ConstF.eval O a with
    | none => simp [hea] at h
    | some x =>
      cases heb : Spec.ConstF.eval O b with
      | none => simp [hea, heb] at h
      | some y =>
        rw [hea, heb] at h
        simp only at h
        have hna := iha x hea
        have hnb := ihb y heb
        by_cases hs : op.isShift = true
        · -- shifts: the left operand is promoted, the count is any integer
          simp only [hs, ite_true] at h
          cases hta : typeOf a with
          | flt T => rw [hta] at h; cases x <;> cases y <;> simp at h
          | int ta =>
            rw [hta] at h hna
            obtain ⟨vx, rfl, ia⟩ := hna.int_val
            cases y with
            | int vy =>
              obtain ⟨tb, htb, _⟩ := good_int O hnb.has.2.1
              rw [htb] at hnb
              exact bin_int_case O hta htb hea heb ia hnb.int h0
            | f32 _ | f64 _ | f80 _ => simp at h
        · -- both operands are converted to the common type
          have hs' : op.isShift = false := by simpa using hs
          cases ht : usual (typeOf a) (typeOf b) with
          | int ti =>
            obtain ⟨ta, tb, hta, htb, rfl⟩ := usual_int_inv ht
            rw [hta] at hna; rw [htb] at hnb
            obtain ⟨vx, rfl, ia⟩ := hna.int_val
            obtain ⟨vy, rfl, ib⟩ := hnb.int_val
            exact bin_int_case O hta htb hea heb ia ib h0
          | flt T => exact bin_flt_case O hS hea heb hna hnb hs' ht h0
  | land a b iha ihb =>
    intro v h
    simp only [Spec.ConstF.eval] at h
    cases hea : Spec.ConstF.eval O a with
    | none => simp [hea] at h
    | some x =>
      rw [hea] at h
      simp only at h
      have ta := (iha x hea).toTruth O hS
      cases hx : Spec.ConstF.truth O x
      · simp only [hx, Bool.not_false, ite_true, Option.some.injEq] at h
        subst h
        exact (IntNode.land (res := false) ta (fun h' => by rw [hx] at h'; cases h') (fun _ => rfl)).node
      · simp only [hx, Bool.not_true, Bool.false_eq_true, ite_false] at h
        cases heb : Spec.ConstF.eval O b with
        | none => simp [heb] at h
        | some y =>
          rw [heb] at h
          simp only [Option.some.injEq] at h
          subst h
          exact (IntNode.land ta (fun _ => (ihb y heb).toTruth O hS) (fun h' => by rw [hx] at h'; cases h')).node
  | lor a b iha ihb =>
    intro v h
    simp only [Spec.ConstF.eval] at h
    cases hea : Spec.ConstF.eval O a with
    | none => simp [hea] at h
    | some x =>
      rw [hea] at h
      simp only at h
      have ta := (iha x hea).toTruth O hS
      cases hx : Spec.ConstF.truth O x
      · simp only [hx, Bool.false_eq_true, ite_false] at h
        cases heb : Spec.ConstF.eval O b with
        | none => simp [heb] at h
        | some y =>
          rw [heb] at h
          simp only [Option.some.injEq] at h
          subst h
          exact (IntNode.lor ta (fun _ => (ihb y heb).toTruth O hS) (fun h' => by rw [hx] at h'; cases h')).node
      · simp only [hx, ite_true, Option.some.injEq] at h
        subst h
        exact (IntNode.lor (res := true) ta (fun h' => by rw [hx] at h'; cases h') (fun _ => rfl)).node
  | cond c a b ihc iha ihb =>
    intro v h
    simp only [Spec.ConstF.eval] at h
    cases hec : Spec.ConstF.eval O c with
    | none => simp [hec] at h
    | some x =>
      rw [hec] at h
      simp only at h
      have hT : elabA (.cond c a b) = .mk .ND_COND (descrA (usual (typeOf a) (typeOf b))) 0 0 .null .null (elabA c)
          (mkCast (elabA a) (descrA (usual (typeOf a) (typeOf b)))) (mkCast (elabA b) (descrA (usual (typeOf a) (typeOf b)))) := by
        simp only [elabA, elabA_ty, gctA_descr]
      rw [hT]
      show Node O _ (usual (typeOf a) (typeOf b)) v
      apply cond_node O hS (ihc x hec)
      · cases hx : Spec.ConstF.truth O x
        · simp only [hx, Bool.false_eq_true, ite_false] at h ⊢
          cases heb : Spec.ConstF.eval O b with
          | none => simp [heb] at h
          | some y =>
            rw [heb] at h
            exact cast_node O hS (ihb y heb) _ v h
        · simp only [hx, ite_true] at h ⊢
          cases hea : Spec.ConstF.eval O a with
          | none => simp [hea] at h
          | some y =>
            rw [hea] at h
            exact cast_node O hS (iha y hea) _ v h
      · intro ti hti
        obtain ⟨ta, tb, _, _, rfl⟩ := usual_int_inv hti
        exact common_wide ta tb
  | cast T e ih =>
    intro v h
    simp only [Spec.ConstF.eval] at h
    cases he : Spec.ConstF.eval O e with
    | none => simp [he] at h
    | some x =>
      rw [he] at h
      exact cast_node O hS (ih x he) T v h

/-! ## Static initializers: what `write_gvar_data` stores -/

/-- `static float x = E;` -/
theorem store_f32 {n : CNode} {ty : ATy} {v : AVal} (h : NodeHas O n ty v) (b' : BitVec 32)
    (hc : convert O (.flt .f32) v = some (.f32 b')) : storeGvarF32 .wrapping (host O) n = .ok b' := by
  rw [convert_flt O hS h.2.1 .f32, Option.some.injEq] at hc
  unfold storeGvarF32
  rw [h.evalDouble]
  exact congrArg Except.ok (AVal.f32.inj hc)

/-- `static double x = E;` -/
theorem store_f64 {n : CNode} {ty : ATy} {v : AVal} (h : NodeHas O n ty v) (b' : BitVec 64)
    (hc : convert O (.flt .f64) v = some (.f64 b')) : storeGvarF64 .wrapping (host O) n = .ok b' := by
  rw [convert_flt O hS h.2.1 .f64, Option.some.injEq] at hc
  unfold storeGvarF64
  rw [h.evalDouble]
  exact congrArg Except.ok (AVal.f64.inj hc)

/-- `static long double x = E;` -/
theorem store_f80 {n : CNode} {ty : ATy} {v : AVal} (h : NodeHas O n ty v) (b' : BitVec 80)
    (hc : convert O (.flt .f80) v = some (.f80 b')) : storeGvarF80 .wrapping (host O) n = .ok b' := by
  rw [convert_flt O hS h.2.1 .f80, Option.some.injEq] at hc
  exact h.evalDouble.trans (congrArg Except.ok (AVal.f80.inj hc))

/-- `static T x = E;`, `T` an integer type -/
theorem store_int {n : CNode} {ty : ATy} {v : AVal} (h : NodeHas O n ty v) (t : ITy) (x' : Int)
    (hc : convert O (.int t) v = some (.int x')) : storeGvarScalar .wrapping (host O) (descr t) n = .ok (objBits t x') := by
  cases hfl : isFlt v
  · -- an integer initializer
    obtain ⟨x, rfl⟩ : ∃ x, v = .int x := by cases v <;> first | exact ⟨_, rfl⟩ | cases hfl
    obtain ⟨s, rfl, hx⟩ := good_int O h.2.1
    simp only [convert, Option.some.injEq, AVal.int.injEq] at hc
    subst hc
    exact store_gvar_scalar t h.1 hx (h.2.2 true)
  · -- a floating initializer
    unfold storeGvarScalar
    have hi : fpToInt t (v.val O) = some x' := by
      cases v <;> first | (cases hfl; done) | (simp only [convert, Option.map_eq_some_iff, AVal.int.injEq] at hc; obtain ⟨i, hi, rfl⟩ := hc; exact hi)
    have hed := h.evalDouble
    obtain ⟨g, rfl⟩ := good_flt O hfl h.2.1
    have hty : CNode.tyOf n = .ok (descrF g) := h.1
    obtain ⟨_, hbool, hu64, hrest⟩ := flt_to_int O hS h.2.1 hi
    simp only [hty, bind, Except.bind, descrF_flonum, Bool.true_and]
    by_cases hb : t = .bool
    · subst hb
      have hx := hbool rfl
      subst hx
      simp only [descr, Bool.false_and, Bool.false_eq_true, ite_false, eval2_of_flonum O n g _ hty hed true]
      unfold storeGvar
      simp only [show (TypeKind.TY_BOOL == TypeKind.TY_BOOL) = true from rfl, ite_true, hty, bind, Except.bind, descrF_flonum,
        hed, pure, Except.pure]
      cases hz : (!(host O).eq80 (widen O v) ((host O).i32to80 (0#32))) <;> rfl
    · by_cases hu : t = .u64
      · subst hu
        simp only [descr, hed]
        rw [hu64 rfl]
        exact writeBuf_descr .u64 x'
      · have hcnd : ((descr t).isUnsigned && ((descr t).size == (8#32))) = false := by
          cases t <;> first | rfl | exact absurd rfl hu
        simp only [hcnd, Bool.false_eq_true, ite_false, eval2_of_flonum O n g _ hty hed true, hrest hb hu]
        unfold storeGvar
        have hk : ((descr t).kind == TypeKind.TY_BOOL) = false := by cases t <;> first | rfl | exact absurd rfl hb
        simp only [hk, Bool.false_eq_true, ite_false, bind, Except.bind, pure, Except.pure, writeBuf_descr]

/-- the hypothesis of `C07_constness_sound` holds for an x86-64 host on a `Sound` FPU: the `long double` made from a 64-bit
    integer compares equal to zero exactly when the integer is zero -/
theorem host_zeroExact : FpZeroExact (host O) := by
  obtain ⟨n, e, hz⟩ := zero80 O hS
  have key : ∀ k : Int, k.natAbs < 2 ^ 64 →
      (Val.cmp (O.val80 (O.ofInt80 k)) (O.val80 (O.ofInt80 (0#32).toInt)) == .eq) = decide (k = 0) := by
    intro k hk
    rw [show (0#32).toInt = 0 from rfl, hz, cmp_zero_beq, isZero_ofInt80 O hS k hk]
    rfl
  constructor
  · intro v
    show (Val.cmp (O.val80 (O.ofInt80 v.toInt)) (O.val80 (O.ofInt80 (0#32).toInt)) == .eq) = (v == 0#64)
    rw [key v.toInt (by have := BitVec.toInt_lt (x := v); have := BitVec.le_toInt (x := v); omega)]
    rw [Bool.eq_iff_iff]; simp only [decide_eq_true_eq, beq_iff_eq]
    constructor
    · intro h; exact BitVec.eq_of_toInt_eq (by simpa using h)
    · intro h; subst h; rfl
  · intro v
    show (Val.cmp (O.val80 (O.ofInt80 v.toNat)) (O.val80 (O.ofInt80 (0#32).toInt)) == .eq) = (v == 0#64)
    rw [key v.toNat (by have := v.isLt; omega)]
    rw [Bool.eq_iff_iff]; simp only [decide_eq_true_eq, beq_iff_eq]
    constructor
    · intro h; exact BitVec.eq_of_toNat_eq (by simpa using h)
    · intro h; subst h; rfl

end nodes

end ChibiVerif.C07Float
