/-
C01: the value each operator sequence leaves in `%rax` (`OpKind.fn`, `UnKind.fn`) is the C11 result
(`Spec.IntSpec.arith` / `unop`) whenever C11 defines it — arithmetic on `BitVec 32` / `BitVec 64`.

The operations that act on the low bits (`+ - * & | ^`, unary `-` and `~`) are treated for the four computation types at once, through
`Low` (`computes_low`, `comp_facts`); comparisons, division and shifts read the register as a number (`rep_i32` … `rep_u64`), per type.

At the end: postfix `++` / `--` — the two rewritings of parse.c `new_inc_dec` (`postfixBySubtraction`, `postfixByTemporary`,
`chibiPostfix`) and the C11 meaning (`specPostfix`), the vocabulary of `C01_incdec_partial` (Props/C01.lean), with `incdec_value`.
-/
import ChibiVerif.Lemmas.C01OpLemmas

namespace ChibiVerif.C01
open ChibiVerif.X86 ChibiVerif.Asm ChibiVerif.Spec.IntSpec ChibiVerif.Gen.CommonType ChibiVerif.C01Codegen

/-! ### `Represents` for the four computation types, in terms of `toInt` / `toNat` -/

theorem rep_i32 (r : BitVec 64) (v : Int) : Represents .i32 r v ↔ (r.setWidth 32).toInt = v := by
  have := bmod_32 r.toNat
  simp only [Represents, inRange_eq, BitVec.toInt_setWidth, Nat.reducePow]; omega
theorem rep_u32 (r : BitVec 64) (v : Int) : Represents .u32 r v ↔ ((r.setWidth 32).toNat : Int) = v := by
  simp only [Represents, inRange_eq, BitVec.toNat_setWidth, Nat.reducePow]; omega
theorem rep_i64 (r : BitVec 64) (v : Int) : Represents .i64 r v ↔ r.toInt = v := by
  have := bmod_64 r.toNat; have := r.isLt
  simp only [Represents, inRange_eq, BitVec.toInt_eq_toNat_bmod, Nat.reducePow]; omega
theorem rep_u64 (r : BitVec 64) (v : Int) : Represents .u64 r v ↔ (r.toNat : Int) = v := by
  have := r.isLt
  simp only [Represents, inRange_eq]; omega

theorem rep_i32_zext (y : BitVec 32) (v : Int) : Represents .i32 (y.setWidth 64) v ↔ y.toInt = v := by
  rw [rep_i32, setWidth_32_64_32]
theorem rep_u32_zext (y : BitVec 32) (v : Int) : Represents .u32 (y.setWidth 64) v ↔ (y.toNat : Int) = v := by
  rw [rep_u32, setWidth_32_64_32]

/-! bit patterns: `toBits`/`ofBits` of the Spec are `toNat` / `toInt` of the register -/

theorem toBits_i32 (x : BitVec 32) : toBits .i32 x.toInt = x.toNat := by
  have := x.isLt; have := bmod_32 x.toNat
  simp only [toBits, ITy.bits, BitVec.toInt_eq_toNat_bmod, Nat.reducePow]; omega
theorem toBits_u32 (x : BitVec 32) : toBits .u32 (x.toNat : Int) = x.toNat := by
  have := x.isLt; simp only [toBits, ITy.bits, Nat.reducePow]; omega
theorem toBits_i64 (x : BitVec 64) : toBits .i64 x.toInt = x.toNat := by
  have := x.isLt; have := bmod_64 x.toNat
  simp only [toBits, ITy.bits, BitVec.toInt_eq_toNat_bmod, Nat.reducePow]; omega
theorem toBits_u64 (x : BitVec 64) : toBits .u64 (x.toNat : Int) = x.toNat := by
  have := x.isLt; simp only [toBits, ITy.bits, Nat.reducePow]; omega
theorem ofBits_i32 (x : BitVec 32) : ofBits .i32 x.toNat = x.toInt := by
  simp only [ofBits, wrap, ITy.signed, ITy.bits, if_true, BitVec.toInt_eq_toNat_bmod]
theorem ofBits_u32 (x : BitVec 32) : ofBits .u32 x.toNat = (x.toNat : Int) := by
  have := x.isLt; simp only [ofBits, wrap, ITy.signed, ITy.bits, Bool.false_eq_true, if_false, Nat.reducePow]; omega
theorem ofBits_i64 (x : BitVec 64) : ofBits .i64 x.toNat = x.toInt := by
  simp only [ofBits, wrap, ITy.signed, ITy.bits, if_true, BitVec.toInt_eq_toNat_bmod]
theorem ofBits_u64 (x : BitVec 64) : ofBits .u64 x.toNat = (x.toNat : Int) := by
  have := x.isLt; simp only [ofBits, wrap, ITy.signed, ITy.bits, Bool.false_eq_true, if_false, Nat.reducePow]; omega

/-- the 0/1 result of `setcc; movzb` represents the `int` 0/1 of a C relational operator -/
theorem rep_b64 (c : Bool) : Represents .i32 (b64 c) (b2i c) := by
  cases c <;> exact ⟨by decide, by decide⟩

/-- `kind` leaves the C11 value of `a op b` (computed in type `t`) in `%rax`, and does not fault, whenever C11 defines it -/
def OpKind.Computes (kind : OpKind) (op : BinOp) (t : ITy) : Prop :=
  ∀ (r d : BitVec 64) (va vb x : Int), Represents t r va → Represents t d vb → arith op t va vb = some x →
    ∃ y, kind.fn r d = some y ∧ Represents (binopType op t t) y x

-- `c_s32 lem`, `c_u32 lem`, `c_s64 lem`, `c_u64 lem`: tactic abbreviations for an operator proof at one computation type (read
-- `Represents` as `toInt` / `toNat`, unfold `arith` / `fit`, hand the remaining `BitVec` fact to `lem`).  No proof uses them: the
-- proofs below go through `computes_low` / `computes_four` (`+ - * & | ^`), `rel_computes`, and `rep_i32` … `rep_u64` directly.
macro "c_s32" lem:term : tactic => `(tactic| (
  intro r d va vb x ha hb hx
  refine ⟨_, rfl, ?_⟩
  rw [rep_i32] at ha hb
  show Represents .i32 (BitVec.setWidth 64 _) x
  rw [rep_i32_zext]
  generalize BitVec.setWidth 32 r = a at *
  generalize BitVec.setWidth 32 d = b at *
  subst ha hb
  simp [arith, fit, ITy.inRange, ITy.min, ITy.max, ITy.signed, ITy.bits] at hx
  obtain ⟨hr, hx⟩ := hx
  subst hx
  exact $lem _ _ hr))

macro "c_u32" lem:term : tactic => `(tactic| (
  intro r d va vb x ha hb hx
  refine ⟨_, rfl, ?_⟩
  rw [rep_u32] at ha hb
  show Represents .u32 (BitVec.setWidth 64 _) x
  rw [rep_u32_zext]
  generalize BitVec.setWidth 32 r = a at *
  generalize BitVec.setWidth 32 d = b at *
  subst ha hb
  simp [arith, fit, ITy.signed, ITy.bits, wrap] at hx
  subst hx
  exact $lem _ _))

macro "c_s64" lem:term : tactic => `(tactic| (
  intro r d va vb x ha hb hx
  refine ⟨_, rfl, ?_⟩
  rw [rep_i64] at ha hb
  show Represents .i64 _ x
  rw [rep_i64]
  subst ha hb
  simp [arith, fit, ITy.inRange, ITy.min, ITy.max, ITy.signed, ITy.bits] at hx
  obtain ⟨hr, hx⟩ := hx
  subst hx
  exact $lem _ _ hr))

macro "c_u64" lem:term : tactic => `(tactic| (
  intro r d va vb x ha hb hx
  refine ⟨_, rfl, ?_⟩
  rw [rep_u64] at ha hb
  show Represents .u64 _ x
  rw [rep_u64]
  subst ha hb
  simp [arith, fit, ITy.signed, ITy.bits, wrap] at hx
  subst hx
  exact $lem _ _))

theorem promote_comp : promote .i32 = .i32 ∧ promote .u32 = .u32 ∧ promote .i64 = .i64 ∧ promote .u64 = .u64 :=
  ⟨rfl, rfl, rfl, rfl⟩

/-- the four types arithmetic is done in -/
theorem comp_facts {t : ITy} (ht : t = .i32 ∨ t = .u32 ∨ t = .i64 ∨ t = .u64) :
    t ≠ .bool ∧ promote t = t ∧ regBits t = 8 * t.size ∧ regBits t = t.bits := by
  rcases ht with rfl | rfl | rfl | rfl <;> exact ⟨by decide, rfl, rfl, rfl⟩

theorem binopType_comp {op : BinOp} (hr : op.isRel = false) (hs : op.isShift = false) {t : ITy}
    (ht : t = .i32 ∨ t = .u32 ∨ t = .i64 ∨ t = .u64) : binopType op t t = t := by
  simp only [binopType, binopOperandType, hr, hs]; rcases ht with rfl | rfl | rfl | rfl <;> rfl

/-- **an operation that acts on the low bits** (`+ - * & | ^`), in any of the four types: if the low bits of `y` are `F` of the low
    bits of `r` and `d`, and the low bits of the integer `z` are `F` of those of `va` and `vb`, then `y` represents `(t) z` -/
theorem computes_low {t : ITy} (ht : t = .i32 ∨ t = .u32 ∨ t = .i64 ∨ t = .u64) {r d y : BitVec 64} {va vb z : Int}
    (ha : Represents t r va) (hb : Represents t d vb) (F : BitVec (regBits t) → BitVec (regBits t) → BitVec (regBits t))
    (hy : y.setWidth (regBits t) = F (r.setWidth (regBits t)) (d.setWidth (regBits t)))
    (hz : BitVec.ofInt (regBits t) z = F (BitVec.ofInt (regBits t) va) (BitVec.ofInt (regBits t) vb)) :
    Represents t y (convert t z) := by
  obtain ⟨hne, _, hs, _⟩ := comp_facts ht
  have L : Low (regBits t) y z := by rw [Low, hy, (represents_def.1 ha).2, (represents_def.1 hb).2, hz]
  exact represents_def.2 ⟨convert_inRange t z, L.conv hne (Nat.le_of_eq hs)⟩

/-- the four cells of such a family: the 32-bit sequence computes `f` on the low halves, the 64-bit sequence on the words -/
theorem computes_four {op : BinOp} {f : {n : Nat} → BitVec n → BitVec n → BitVec n} {k32 k64 : OpKind}
    (h32 : ∀ r d, k32.fn r d = some (alu32 f r d)) (h64 : ∀ r d, k64.fn r d = some (f r d))
    (core : ∀ {t : ITy}, (t = .i32 ∨ t = .u32 ∨ t = .i64 ∨ t = .u64) → ∀ {r d y : BitVec 64} {va vb x : Int},
      Represents t r va → Represents t d vb → arith op t va vb = some x →
      y.setWidth (regBits t) = f (r.setWidth (regBits t)) (d.setWidth (regBits t)) → Represents (binopType op t t) y x) :
    k32.Computes op .i32 ∧ k32.Computes op .u32 ∧ k64.Computes op .i64 ∧ k64.Computes op .u64 :=
  ⟨fun r d _ _ _ ha hb hx => ⟨_, h32 r d, core (.inl rfl) ha hb hx (BitVec.setWidth_setWidth_self (by decide) _)⟩,
    fun r d _ _ _ ha hb hx => ⟨_, h32 r d, core (.inr (.inl rfl)) ha hb hx (BitVec.setWidth_setWidth_self (by decide) _)⟩,
    fun r d _ _ _ ha hb hx => ⟨_, h64 r d, core (.inr (.inr (.inl rfl))) ha hb hx (by simp only [regBits, BitVec.setWidth_eq])⟩,
    fun r d _ _ _ ha hb hx => ⟨_, h64 r d, core (.inr (.inr (.inr rfl))) ha hb hx (by simp only [regBits, BitVec.setWidth_eq])⟩⟩

/-- `+ - *`: the machine computes modulo `2^n`, and so does `BitVec.ofInt`; C11 defines the signed result only when nothing
    wraps, the unsigned result as the wrapped one — in both cases the converted one (`fit_some`) -/
theorem ring_computes {op : BinOp} {iop : Int → Int → Int} {f : {n : Nat} → BitVec n → BitVec n → BitVec n}
    {k32 k64 : OpKind} (hr : op.isRel = false) (hsh : op.isShift = false)
    (hop : ∀ t a b, arith op t a b = fit t (iop a b))
    (hf : ∀ {n : Nat} (a b : Int), BitVec.ofInt n (iop a b) = f (BitVec.ofInt n a) (BitVec.ofInt n b))
    (h32 : ∀ r d, k32.fn r d = some (alu32 f r d)) (h64 : ∀ r d, k64.fn r d = some (f r d)) :
    k32.Computes op .i32 ∧ k32.Computes op .u32 ∧ k64.Computes op .i64 ∧ k64.Computes op .u64 :=
  computes_four h32 h64 fun {t} ht {r d y va vb x} ha hb hx hy => by
    rw [hop] at hx
    rw [binopType_comp hr hsh ht, fit_some (comp_facts ht).1 hx]
    exact computes_low ht ha hb f hy (hf _ _)

theorem add_computes : OpKind.add32.Computes .add .i32 ∧ OpKind.add32.Computes .add .u32 ∧
    OpKind.add64.Computes .add .i64 ∧ OpKind.add64.Computes .add .u64 :=
  ring_computes (iop := (· + ·)) (f := fun a b => a + b) rfl rfl (fun _ _ _ => rfl) BitVec.ofInt_add (fun _ _ => rfl) (fun _ _ => rfl)
theorem sub_computes : OpKind.sub32.Computes .sub .i32 ∧ OpKind.sub32.Computes .sub .u32 ∧
    OpKind.sub64.Computes .sub .i64 ∧ OpKind.sub64.Computes .sub .u64 :=
  ring_computes (iop := (· - ·)) (f := fun a b => a - b) rfl rfl (fun _ _ _ => rfl) (BitVec.ofInt_sub _) (fun _ _ => rfl) (fun _ _ => rfl)
theorem mul_computes : OpKind.mul32.Computes .mul .i32 ∧ OpKind.mul32.Computes .mul .u32 ∧
    OpKind.mul64.Computes .mul .i64 ∧ OpKind.mul64.Computes .mul .u64 :=
  ring_computes (iop := (· * ·)) (f := fun a b => a * b) rfl rfl (fun _ _ _ => rfl) BitVec.ofInt_mul (fun _ _ => rfl) (fun _ _ => rfl)

/-- `& | ^`: C11 defines them on the two's-complement bit patterns (`toBits`, `ofBits`), which are the low bits -/
theorem bit_computes {op : BinOp} {bop : Nat → Nat → Nat} {f : {n : Nat} → BitVec n → BitVec n → BitVec n}
    {k32 k64 : OpKind} (hr : op.isRel = false) (hsh : op.isShift = false)
    (hop : ∀ t a b, arith op t a b = some (ofBits t (bop (toBits t a) (toBits t b))))
    (hf : ∀ {n : Nat} (a b : BitVec n), (f a b).toNat = bop a.toNat b.toNat)
    (h32 : ∀ r d, k32.fn r d = some (alu32 f r d)) (h64 : ∀ r d, k64.fn r d = some (f r d)) :
    k32.Computes op .i32 ∧ k32.Computes op .u32 ∧ k64.Computes op .i64 ∧ k64.Computes op .u64 :=
  computes_four h32 h64 fun {t} ht {r d y va vb x} ha hb hx hy => by
    obtain ⟨hne, _, _, hbits⟩ := comp_facts ht
    rw [hop] at hx
    obtain rfl := Option.some.inj hx
    rw [binopType_comp hr hsh ht, ofBits, ← convert_eq_wrap hne]
    refine computes_low ht ha hb f hy ?_
    rw [BitVec.ofInt_natCast, toBits, toBits, ← hbits, ← BitVec.toNat_ofInt, ← BitVec.toNat_ofInt, ← hf, BitVec.ofNat_toNat,
      BitVec.setWidth_eq]

theorem and_computes : OpKind.and32.Computes .band .i32 ∧ OpKind.and32.Computes .band .u32 ∧
    OpKind.and64.Computes .band .i64 ∧ OpKind.and64.Computes .band .u64 :=
  bit_computes (bop := (· &&& ·)) (f := fun a b => a &&& b) rfl rfl (fun _ _ _ => rfl) BitVec.toNat_and
    (fun _ _ => rfl) (fun _ _ => rfl)
theorem or_computes : OpKind.or32.Computes .bor .i32 ∧ OpKind.or32.Computes .bor .u32 ∧
    OpKind.or64.Computes .bor .i64 ∧ OpKind.or64.Computes .bor .u64 :=
  bit_computes (bop := (· ||| ·)) (f := fun a b => a ||| b) rfl rfl (fun _ _ _ => rfl) BitVec.toNat_or
    (fun _ _ => rfl) (fun _ _ => rfl)
theorem xor_computes : OpKind.xor32.Computes .bxor .i32 ∧ OpKind.xor32.Computes .bxor .u32 ∧
    OpKind.xor64.Computes .bxor .i64 ∧ OpKind.xor64.Computes .bxor .u64 :=
  bit_computes (bop := (· ^^^ ·)) (f := fun a b => a ^^^ b) rfl rfl (fun _ _ _ => rfl) BitVec.toNat_xor
    (fun _ _ => rfl) (fun _ _ => rfl)

/-- `== != < <=`: `cmp; setcc; movzb` leaves the `int` 0/1 of the comparison of the two numbers, read as signed or
    unsigned according to the type -/
theorem rel_computes {op : BinOp} {P : Int → Int → Prop} [∀ a b, Decidable (P a b)] {ks32 ku32 ks64 ku64 : OpKind}
    (hr : op.isRel = true) (hop : ∀ t a b, arith op t a b = some (b2i (P a b)))
    (hs32 : ∀ r d : BitVec 64, ks32.fn r d = some (b64 (decide (P (r.setWidth 32).toInt (d.setWidth 32).toInt))))
    (hu32 : ∀ r d : BitVec 64, ku32.fn r d = some (b64 (decide (P (r.setWidth 32).toNat (d.setWidth 32).toNat))))
    (hs64 : ∀ r d : BitVec 64, ks64.fn r d = some (b64 (decide (P r.toInt d.toInt))))
    (hu64 : ∀ r d : BitVec 64, ku64.fn r d = some (b64 (decide (P r.toNat d.toNat)))) :
    ks32.Computes op .i32 ∧ ku32.Computes op .u32 ∧ ks64.Computes op .i64 ∧ ku64.Computes op .u64 := by
  have e : ∀ t, binopType op t t = .i32 := fun t => by simp only [binopType, hr, if_true]
  refine ⟨?_, ?_, ?_, ?_⟩ <;> intro r d va vb x ha hb hx <;> rw [hop] at hx <;> cases hx <;> rw [e]
  · rw [rep_i32] at ha hb; subst ha hb; exact ⟨_, hs32 r d, rep_b64 _⟩
  · rw [rep_u32] at ha hb; subst ha hb; exact ⟨_, hu32 r d, rep_b64 _⟩
  · rw [rep_i64] at ha hb; subst ha hb; exact ⟨_, hs64 r d, rep_b64 _⟩
  · rw [rep_u64] at ha hb; subst ha hb; exact ⟨_, hu64 r d, rep_b64 _⟩

theorem b64_congr {p q : Prop} [Decidable p] [Decidable q] (h : p ↔ q) : some (b64 (decide p)) = some (b64 (decide q)) := by
  rw [decide_eq_decide.2 h]

theorem eq_iff_toNatI {n : Nat} (a b : BitVec n) : a = b ↔ (a.toNat : Int) = b.toNat := by
  rw [BitVec.toNat_eq, Int.ofNat_inj]
theorem ne_iff_toNatI {n : Nat} (a b : BitVec n) : a ≠ b ↔ (a.toNat : Int) ≠ b.toNat := not_congr (eq_iff_toNatI a b)
theorem le_iff_toNatI {n : Nat} (a b : BitVec n) : a.toNat ≤ b.toNat ↔ (a.toNat : Int) ≤ b.toNat := Int.ofNat_le.symm

theorem eq_computes : OpKind.eq32.Computes .eq .i32 ∧ OpKind.eq32.Computes .eq .u32 ∧
    OpKind.eq64.Computes .eq .i64 ∧ OpKind.eq64.Computes .eq .u64 :=
  rel_computes (P := (· = ·)) rfl (fun _ _ _ => rfl)
    (fun _ _ => b64_congr BitVec.toInt_inj.symm) (fun _ _ => b64_congr (eq_iff_toNatI _ _))
    (fun _ _ => b64_congr BitVec.toInt_inj.symm) (fun _ _ => b64_congr (eq_iff_toNatI _ _))
theorem ne_computes : OpKind.ne32.Computes .ne .i32 ∧ OpKind.ne32.Computes .ne .u32 ∧
    OpKind.ne64.Computes .ne .i64 ∧ OpKind.ne64.Computes .ne .u64 :=
  rel_computes (P := (· ≠ ·)) rfl (fun _ _ _ => rfl)
    (fun _ _ => b64_congr (not_congr BitVec.toInt_inj.symm))
    (fun _ _ => b64_congr (ne_iff_toNatI _ _))
    (fun _ _ => b64_congr (not_congr BitVec.toInt_inj.symm))
    (fun _ _ => b64_congr (ne_iff_toNatI _ _))
theorem lt_computes : OpKind.lts32.Computes .lt .i32 ∧ OpKind.ltu32.Computes .lt .u32 ∧
    OpKind.lts64.Computes .lt .i64 ∧ OpKind.ltu64.Computes .lt .u64 :=
  rel_computes (P := (· < ·)) rfl (fun _ _ _ => rfl)
    (fun _ _ => rfl) (fun _ _ => b64_congr Int.ofNat_lt.symm) (fun _ _ => rfl) (fun _ _ => b64_congr Int.ofNat_lt.symm)
theorem le_computes : OpKind.les32.Computes .le .i32 ∧ OpKind.leu32.Computes .le .u32 ∧
    OpKind.les64.Computes .le .i64 ∧ OpKind.leu64.Computes .le .u64 :=
  rel_computes (P := (· ≤ ·)) rfl (fun _ _ _ => rfl)
    (fun _ _ => rfl) (fun _ _ => b64_congr (le_iff_toNatI _ _)) (fun _ _ => rfl) (fun _ _ => b64_congr (le_iff_toNatI _ _))

/-! division: `idiv` faults exactly where C11 leaves the quotient undefined -/

theorem ofInt64_toInt_of_range (q : Int) (h : -9223372036854775808 ≤ q ∧ q ≤ 9223372036854775807) :
    (BitVec.ofInt 64 q).toInt = q := BitVec.toInt_ofInt_eq_self (by decide) (by omega) (by omega)

/-- signed `/` and `%`: C11 defines both exactly when `idiv` does not fault (divisor non-zero, quotient representable) -/
theorem divmod_i32 : OpKind.divs32.Computes .div .i32 ∧ OpKind.mods32.Computes .mod .i32 := by
  refine ⟨?_, ?_⟩
  all_goals
    intro r d va vb x ha hb hx
    rw [rep_i32] at ha hb
    simp only [OpKind.fn]
    generalize BitVec.setWidth 32 r = a at *
    generalize BitVec.setWidth 32 d = b at *
    subst ha hb
    simp [arith, fit_eq, ITy.signed, inRange_eq] at hx
    obtain ⟨hb0, hr, hx⟩ := hx
    subst hx
    rw [if_neg hb0, if_neg (by omega : ¬ (a.toInt.tdiv b.toInt < -2 ^ 31 ∨ a.toInt.tdiv b.toInt ≥ 2 ^ 31))]
    refine ⟨_, rfl, (rep_i32_zext _ _).2 ?_⟩
  · exact BitVec.toInt_ofInt_eq_self (by decide) (by omega) (by omega)
  · rw [← BitVec.toInt_srem, BitVec.ofInt_toInt]

theorem divmod_i64 : OpKind.divs64.Computes .div .i64 ∧ OpKind.mods64.Computes .mod .i64 := by
  refine ⟨?_, ?_⟩
  all_goals
    intro a b va vb x ha hb hx
    rw [rep_i64] at ha hb
    simp only [OpKind.fn]
    subst ha hb
    simp [arith, fit_eq, ITy.signed, inRange_eq] at hx
    obtain ⟨hb0, hr, hx⟩ := hx
    subst hx
    rw [if_neg hb0, if_neg (by omega : ¬ (a.toInt.tdiv b.toInt < -2 ^ 63 ∨ a.toInt.tdiv b.toInt ≥ 2 ^ 63))]
    refine ⟨_, rfl, (rep_i64 _ _).2 ?_⟩
  · exact ofInt64_toInt_of_range _ hr
  · rw [← BitVec.toInt_srem, BitVec.ofInt_toInt]

/-- unsigned `/` and `%` on words: the quotient and the remainder fit, so `div` leaves them unreduced -/
theorem udivmod_toNat {n : Nat} (a b : BitVec n) (hb0 : b.toNat ≠ 0) :
    ((BitVec.ofNat n (a.toNat / b.toNat)).toNat : Int) = (a.toNat : Int) / b.toNat % (2 ^ n : Nat) ∧
    ((BitVec.ofNat n (a.toNat % b.toNat)).toNat : Int) = (a.toNat : Int).tmod b.toNat := by
  have hq : a.toNat / b.toNat < 2 ^ n := Nat.lt_of_le_of_lt (Nat.div_le_self _ _) a.isLt
  have hr : a.toNat % b.toNat < 2 ^ n := Nat.lt_trans (Nat.mod_lt _ (Nat.pos_of_ne_zero hb0)) b.isLt
  refine ⟨?_, ?_⟩
  · rw [BitVec.toNat_ofNat, Nat.mod_eq_of_lt hq, ← Int.natCast_ediv, Int.emod_eq_of_lt (Int.natCast_nonneg _) (Int.ofNat_lt.2 hq)]
  · rw [BitVec.toNat_ofNat, Nat.mod_eq_of_lt hr]; rfl

/-- unsigned `/` and `%`: with `%edx = 0` the quotient always fits, so `div` faults only on a zero divisor -/
theorem divmod_u32 : OpKind.divu32.Computes .div .u32 ∧ OpKind.modu32.Computes .mod .u32 := by
  refine ⟨?div, ?mod⟩
  all_goals
    intro r d va vb x ha hb hx
    rw [rep_u32] at ha hb
    simp only [OpKind.fn]
    generalize BitVec.setWidth 32 r = a at *
    generalize BitVec.setWidth 32 d = b at *
    subst ha hb
    simp [arith, fit_eq, ITy.signed] at hx
    obtain ⟨hb0, hx⟩ := hx
    subst hx
    rw [if_neg hb0]
    refine ⟨_, rfl, (rep_u32_zext _ _).2 ?_⟩
  case div => exact (udivmod_toNat _ _ (by assumption)).1
  case mod => exact (udivmod_toNat _ _ (by assumption)).2

theorem divmod_u64 : OpKind.divu64.Computes .div .u64 ∧ OpKind.modu64.Computes .mod .u64 := by
  refine ⟨?div, ?mod⟩
  all_goals
    intro a b va vb x ha hb hx
    rw [rep_u64] at ha hb
    simp only [OpKind.fn]
    subst ha hb
    simp [arith, fit_eq, ITy.signed] at hx
    obtain ⟨hb0, hx⟩ := hx
    subst hx
    rw [if_neg hb0]
    refine ⟨_, rfl, (rep_u64 _ _).2 ?_⟩
  case div => exact (udivmod_toNat _ _ (by assumption)).1
  case mod => exact (udivmod_toNat _ _ (by assumption)).2

/-! shifts: the count is the value of the right operand whatever its type -/

def OpKind.ComputesShift (kind : OpKind) (op : BinOp) (t : ITy) : Prop :=
  ∀ (t2 : ITy) (r d : BitVec 64) (va vb x : Int), Represents t r va → Represents t2 d vb → arith op t va vb = some x →
    ∃ y, kind.fn r d = some y ∧ Represents t y x

theorem shift_count (t2 : ITy) (d : BitVec 64) (vb : Int) (h : Represents t2 d vb) (h0 : 0 ≤ vb) (h1 : vb < 64) :
    ((d.setWidth 8).toNat : Int) = vb := by
  have := h.low; rw [BitVec.toNat_setWidth]; omega

theorem shift_defined {op : BinOp} (hs : op = .shl ∨ op = .shr) {t : ITy} {va vb x : Int}
    (h : arith op t va vb = some x) : 0 ≤ vb ∧ vb < t.bits := by
  rcases hs with rfl | rfl <;> simp only [arith] at h <;> split at h <;> first | omega | cases h

/-- a shift by `%cl` masked to the operand width computes the C11 shift: where C11 defines it the count is below the
    width, so the mask changes nothing and the count is the right operand's value -/
theorem shift_computes {kind : OpKind} {op : BinOp} (hs : op = .shl ∨ op = .shr) {t : ITy} (ht : t.bits ≤ 64)
    {g : BitVec 64 → Nat → BitVec 64} (hfn : ∀ r d, kind.fn r d = some (g r ((d.setWidth 8).toNat % t.bits)))
    (hg : ∀ r va (c : Nat) x, Represents t r va → arith op t va c = some x → Represents t (g r c) x) :
    kind.ComputesShift op t := by
  intro t2 r d va vb x ha hb hx
  obtain ⟨h0, h1⟩ := shift_defined hs hx
  have hc := shift_count t2 d vb hb h0 (by omega)
  refine ⟨_, hfn r d, ?_⟩
  rw [Nat.mod_eq_of_lt (by omega)]
  exact hg r va _ x ha (by rwa [hc])

/-- a signed left shift that C11 defines: the product stays below `2^(n-1)`, so neither the `% 2^n` of `<<<` nor the sign test of
    `toInt` does anything -/
theorem shl_s {n : Nat} (hn : 0 < n) (a : BitVec n) (c : Nat) (h0 : 0 ≤ a.toInt) (h : a.toInt * 2 ^ c < 2 ^ (n - 1)) :
    (a <<< c).toInt = a.toInt * 2 ^ c := by
  have e : a.toInt = (a.toNat : Int) := by
    rw [BitVec.toInt_eq_toNat_cond] at h0 ⊢; have := a.isLt; split <;> omega
  rw [e] at h ⊢
  have hN : (2 : Nat) ^ n = 2 * 2 ^ (n - 1) := by rw [← Nat.pow_succ']; congr 1; omega
  have hc : ((a.toNat * 2 ^ c : Nat) : Int) = (a.toNat : Int) * 2 ^ c := by simp [Int.natCast_mul, Int.natCast_pow]
  have hlt : a.toNat * 2 ^ c < 2 ^ (n - 1) := by
    have : ((a.toNat * 2 ^ c : Nat) : Int) < ((2 ^ (n - 1) : Nat) : Int) := by rw [hc]; simpa using h
    exact Int.ofNat_lt.1 this
  rw [BitVec.toInt_eq_toNat_cond, BitVec.toNat_shiftLeft, Nat.shiftLeft_eq, Nat.mod_eq_of_lt (by omega), if_pos (by omega), hc]

theorem shl_u (n : Nat) (a : BitVec n) (c : Nat) : ((a <<< c).toNat : Int) = ((a.toNat : Int) * 2 ^ c) % ((2 ^ n : Nat) : Int) := by
  rw [BitVec.toNat_shiftLeft, Nat.shiftLeft_eq]
  simp [Int.natCast_mul, Int.natCast_pow]

theorem shr_u (n : Nat) (a : BitVec n) (c : Nat) : ((a >>> c).toNat : Int) = (a.toNat : Int) >>> c := by
  rw [BitVec.toNat_ushiftRight]; rfl

theorem shl_i32 : OpKind.shl32.ComputesShift .shl .i32 :=
  shift_computes (.inl rfl) (by decide) (g := fun r c => ((r.setWidth 32) <<< c).setWidth 64) (fun _ _ => rfl)
    fun r va c x ha hx => by
      rw [rep_i32] at ha; subst ha
      generalize BitVec.setWidth 32 r = a at hx ⊢
      simp [arith, ITy.signed, ITy.bits, ITy.max] at hx
      obtain ⟨_, h0, h1, hx⟩ := hx; subst hx
      exact (rep_i32_zext _ _).2 (shl_s (by decide) _ _ h0 (by simpa using Int.lt_add_one_iff.2 h1))
theorem shl_i64 : OpKind.shl64.ComputesShift .shl .i64 :=
  shift_computes (.inl rfl) (by decide) (g := fun r c => r <<< c) (fun _ _ => rfl)
    fun r va c x ha hx => by
      rw [rep_i64] at ha; subst ha
      simp [arith, ITy.signed, ITy.bits, ITy.max] at hx
      obtain ⟨_, h0, h1, hx⟩ := hx; subst hx
      exact (rep_i64 _ _).2 (shl_s (by decide) _ _ h0 (by simpa using Int.lt_add_one_iff.2 h1))
theorem shl_u32 : OpKind.shl32.ComputesShift .shl .u32 :=
  shift_computes (.inl rfl) (by decide) (g := fun r c => ((r.setWidth 32) <<< c).setWidth 64) (fun _ _ => rfl)
    fun r va c x ha hx => by
      rw [rep_u32] at ha; subst ha
      generalize BitVec.setWidth 32 r = a at hx ⊢
      simp [arith, ITy.signed, ITy.bits, wrap] at hx
      obtain ⟨_, hx⟩ := hx; subst hx
      exact (rep_u32_zext _ _).2 (shl_u 32 _ _)
theorem shl_u64 : OpKind.shl64.ComputesShift .shl .u64 :=
  shift_computes (.inl rfl) (by decide) (g := fun r c => r <<< c) (fun _ _ => rfl)
    fun r va c x ha hx => by
      rw [rep_u64] at ha; subst ha
      simp [arith, ITy.signed, ITy.bits, wrap] at hx
      obtain ⟨_, hx⟩ := hx; subst hx
      exact (rep_u64 _ _).2 (shl_u 64 _ _)
theorem shr_i32 : OpKind.sar32.ComputesShift .shr .i32 :=
  shift_computes (.inr rfl) (by decide) (g := fun r c => ((r.setWidth 32).sshiftRight c).setWidth 64) (fun _ _ => rfl)
    fun r va c x ha hx => by
      rw [rep_i32] at ha; subst ha
      generalize BitVec.setWidth 32 r = a at hx ⊢
      simp [arith, ITy.bits] at hx
      obtain ⟨_, hx⟩ := hx; subst hx
      exact (rep_i32_zext _ _).2 BitVec.toInt_sshiftRight
theorem shr_i64 : OpKind.sar64.ComputesShift .shr .i64 :=
  shift_computes (.inr rfl) (by decide) (g := fun r c => r.sshiftRight c) (fun _ _ => rfl)
    fun r va c x ha hx => by
      rw [rep_i64] at ha; subst ha
      simp [arith, ITy.bits] at hx
      obtain ⟨_, hx⟩ := hx; subst hx
      exact (rep_i64 _ _).2 BitVec.toInt_sshiftRight
theorem shr_u32 : OpKind.shr32.ComputesShift .shr .u32 :=
  shift_computes (.inr rfl) (by decide) (g := fun r c => ((r.setWidth 32) >>> c).setWidth 64) (fun _ _ => rfl)
    fun r va c x ha hx => by
      rw [rep_u32] at ha; subst ha
      generalize BitVec.setWidth 32 r = a at hx ⊢
      simp [arith, ITy.bits] at hx
      obtain ⟨_, hx⟩ := hx; subst hx
      exact (rep_u32_zext _ _).2 (shr_u 32 _ _)
theorem shr_u64 : OpKind.shr64.ComputesShift .shr .u64 :=
  shift_computes (.inr rfl) (by decide) (g := fun r c => r >>> c) (fun _ _ => rfl)
    fun r va c x ha hx => by
      rw [rep_u64] at ha; subst ha
      simp [arith, ITy.bits] at hx
      obtain ⟨_, hx⟩ := hx; subst hx
      exact (rep_u64 _ _).2 (shr_u 64 _ _)

/-! ### unary operators -/

inductive UnKind where
  | neg | not | lognot32 | lognot64
  deriving DecidableEq, Repr

def UnKind.all : List UnKind := [.neg, .not, .lognot32, .lognot64]

def UnKind.seq : UnKind → List Ins
  | .neg => [⟨"neg", [.r "%rax"]⟩]
  | .not => [⟨"not", [.r "%rax"]⟩]
  | .lognot32 => [⟨"cmp", [.i 0, .r "%eax"]⟩, ⟨"sete", [.r "%al"]⟩, ⟨"movzx", [.r "%al", .r "%rax"]⟩]
  | .lognot64 => [⟨"cmp", [.i 0, .r "%rax"]⟩, ⟨"sete", [.r "%al"]⟩, ⟨"movzx", [.r "%al", .r "%rax"]⟩]

def classifyUn (is : List Ins) : Option UnKind := UnKind.all.find? (fun k => k.seq == is)

theorem classifyUn_sound {is : List Ins} {k : UnKind} (h : classifyUn is = some k) : is = k.seq := by
  unfold classifyUn at h
  have := List.find?_some h
  simp at this
  exact this.symm

def UnKind.fn (k : UnKind) (r : BitVec 64) : BitVec 64 :=
  match k with
  | .neg => -r
  | .not => ~~~r
  | .lognot32 => b64 (r.setWidth 32 = 0)
  | .lognot64 => b64 (r = 0)

/-- **effect of every unary sequence, for every machine state** -/
theorem UnKind.effect (k : UnKind) (s : State) :
    ∃ s', X86.run k.seq s = some s' ∧ s'.get .rax = k.fn (s.get .rax) := by
  cases k
  case neg => exact ⟨_, rfl, rfl⟩
  case not => exact ⟨_, rfl, rfl⟩
  case lognot32 =>
    refine ⟨_, rfl, ?_⟩
    show ((BitVec.ofNat 64 _).setWidth 8).setWidth 64 = _
    rw [low8_write]
    simp [State.cond, State.flags, State.src, State.getW, UnKind.fn, b64]
    split <;> simp
  case lognot64 =>
    refine ⟨_, rfl, ?_⟩
    show ((BitVec.ofNat 64 _).setWidth 8).setWidth 64 = _
    rw [low8_write]
    simp [State.cond, State.flags, State.src, State.getW, UnKind.fn, b64]
    split <;> simp

/-- `-` and `~` on an operand already promoted to `t` ∈ {int, unsigned, long, unsigned long}: `Low` is compatible with both (`Low.neg`,
    `Low.not`), and the result C11 defines is the converted one (`fit_some`, `Low.conv`) -/
theorem neg_computes (t : ITy) (ht : t = .i32 ∨ t = .u32 ∨ t = .i64 ∨ t = .u64) (r : BitVec 64) (v x : Int)
    (h : Represents t r v) (hx : unop .neg t v = some x) : Represents t (UnKind.neg.fn r) x := by
  obtain ⟨hb, hp, hs, _⟩ := comp_facts ht
  obtain ⟨hr, hl⟩ := represents_def.1 h
  simp only [unop, hp, convert_of_inRange hr] at hx
  obtain rfl := fit_some hb hx
  exact represents_def.2 ⟨convert_inRange _ _, (hl.neg (by rw [hs]; cases t <;> decide)).conv hb (Nat.le_of_eq hs)⟩

theorem not_computes (t : ITy) (ht : t = .i32 ∨ t = .u32 ∨ t = .i64 ∨ t = .u64) (r : BitVec 64) (v x : Int)
    (h : Represents t r v) (hx : unop .bitnot t v = some x) : Represents t (UnKind.not.fn r) x := by
  obtain ⟨hb, hp, hs, hbits⟩ := comp_facts ht
  obtain ⟨hr, hl⟩ := represents_def.1 h
  simp only [unop, hp, convert_of_inRange hr, Option.some.injEq, ofBits, toBits, ← convert_eq_wrap hb, ← hbits] at hx
  subst hx
  exact represents_def.2 ⟨convert_inRange _ _, (hl.not (by rw [hs]; cases t <;> decide)).conv hb (Nat.le_of_eq hs)⟩

theorem narrow_bounds (t : ITy) (h : t.size ≠ 8) : -2147483648 ≤ t.min ∧ t.max ≤ 4294967295 := by
  cases t <;> first | decide | exact absurd rfl h

/-- the 32- or 64-bit zero test of `!` and `cmp_zero` decides `v = 0` for a register that represents `v` -/
theorem zero_test (t : ITy) (r : BitVec 64) (v : Int) (h : Represents t r v) :
    (if t.size = 8 then r = 0 else r.setWidth 32 = 0) ↔ v = 0 := by
  obtain ⟨hr, hl⟩ := represents_def.1 h
  have hr : t.min ≤ v ∧ v ≤ t.max := hr
  split
  · have hl : Low 64 r v := by cases t <;> first | exact hl | (rename_i h8; exact absurd h8 (by decide))
    have := range_bounds t
    rw [← BitVec.setWidth_eq r]; exact hl.eq_zero_iff (by omega) (by omega)
  · have := narrow_bounds t ‹_›
    exact (hl.mono (m := 32) (by cases t <;> decide)).eq_zero_iff (by omega) (by omega)

theorem rep_b64' (c1 c2 : Prop) [Decidable c1] [Decidable c2] (h : c1 ↔ c2) :
    Represents .i32 (b64 (decide c1)) (b2i (decide c2)) := by
  rw [decide_eq_decide.2 h]; exact rep_b64 _

/-- `!` on an operand of any integer type (not promoted): 32-bit compare for types of at most 4 bytes -/
theorem lognot_computes (t : ITy) (r : BitVec 64) (v : Int) (h : Represents t r v) :
    Represents .i32 ((if t.size = 8 then UnKind.lognot64 else UnKind.lognot32).fn r) (b2i (v = 0)) := by
  have := zero_test t r v h
  split <;> rename_i h8 <;> simp only [h8, if_true, if_false] at this <;> exact rep_b64' _ _ this

/-! ### postfix `++` / `--` (parse.c `new_inc_dec`) -/

/-- the rewriting `(T)((x += addend) - addend)` of parse.c `new_inc_dec`, every step with its C11 meaning (`compound` = `op=`, `binop`, `convert`) -/
def postfixBySubtraction (T : ITy) (x addend : Int) : Option (Int × Int) :=
  match compound .add T .i32 x addend with
  | none => none
  | some r =>
    match binop .add T .i32 r (-addend) with
    | none => none
    | some y => some (convert T y, r)

/-- the rewriting for operands whose `+=` can saturate: `tmp1 = &A, tmp2 = *tmp1, *tmp1 = tmp2 + addend, tmp2` -/
def postfixByTemporary (T : ITy) (x addend : Int) : Option (Int × Int) :=
  match compound .add T .i32 x addend with
  | none => none
  | some r => some (x, r)

/-- value and stored value of `x++` (addend 1) / `x--` (addend -1) as chibicc computes them.  `viaObject` = the operand is
    an ordinary object (not a bit-field member, not `_Atomic`): `new_inc_dec` takes the temporary route for `_Bool` (and
    floating) operands only in that case. -/
def chibiPostfix (T : ITy) (viaObject : Bool) (x addend : Int) : Option (Int × Int) :=
  if T = .bool ∧ viaObject then postfixByTemporary T x addend else postfixBySubtraction T x addend

/-- C11 6.5.2.4p2: the result is the value of the operand; the stored value is that of `x += addend` -/
def specPostfix (T : ITy) (x addend : Int) : Option (Int × Int) :=
  match compound .add T .i32 x addend with
  | none => none
  | some r => some (x, r)

theorem binop_add_i32 (T : ITy) (x a : Int) :
    binop .add T .i32 x a =
      fit (usualArith T .i32) (convert (usualArith T .i32) x + convert (usualArith T .i32) a) := rfl

theorem usualArith_int :
    usualArith .i8 .i32 = .i32 ∧ usualArith .u8 .i32 = .i32 ∧ usualArith .i16 .i32 = .i32 ∧ usualArith .u16 .i32 = .i32 ∧
    usualArith .i32 .i32 = .i32 ∧ usualArith .u32 .i32 = .u32 ∧ usualArith .i64 .i32 = .i64 ∧ usualArith .u64 .i32 = .u64 :=
  ⟨rfl, rfl, rfl, rfl, rfl, rfl, rfl, rfl⟩

theorem convert_sub_cancel (T : ITy) (hT : T ≠ .bool) (x a : Int) (hx : T.inRange x) :
    convert T (convert T (x + a) + -a) = x :=
  (convert_congr T hT _ _ (by rw [Int.add_emod, convert_emod hT, ← Int.add_emod])).trans
    ((congrArg (convert T) (Int.add_neg_cancel_right x a)).trans (convert_of_inRange hx))

/-- `(T)((x += a) - a)` is the old value of `x` for every integer type except `_Bool` -/
theorem incdec_value (T : ITy) (hT : T ≠ .bool) (x addend : Int) (hx : T.inRange x)
    (ha : addend = 1 ∨ addend = -1) (res : Int × Int) (h : specPostfix T x addend = some res) :
    postfixBySubtraction T x addend = some res := by
  unfold specPostfix at h; unfold postfixBySubtraction
  cases hc : compound .add T .i32 x addend with
  | none => simp [hc] at h
  | some r =>
    simp only [hc, Option.some.injEq] at h ⊢
    subst h
    simp only [compound, binop_add_i32] at hc ⊢
    have hr := convert_inRange T (x + addend)
    have hcc := convert_sub_cancel T hT x addend hx
    cases T
    case bool => exact absurd rfl hT
    case u32 =>
      simp only [usualArith_int, fit_eq, convert_eq, inRange_eq, Option.map_some,
        Option.some.injEq, Prod.mk.injEq, and_true] at hc hx ⊢
      omega
    case u64 =>
      simp only [usualArith_int, fit_eq, convert_eq, inRange_eq, Option.map_some,
        Option.some.injEq, Prod.mk.injEq, and_true] at hc hx ⊢
      omega
    case i32 =>
      -- computed in `T` itself: defined only if `x + addend` is in range, and then nothing wraps
      simp only [usualArith_int, fit_eq, convert_eq, inRange_eq] at hc hx ⊢
      rw [bmod32_of_range (v := x) (by omega), bmod32_of_range (v := addend) (by omega)] at hc
      split at hc <;> simp only [Option.map_some, Option.map_none, Option.some.injEq, reduceCtorEq] at hc
      rw [bmod32_of_range (v := x + addend) (by omega)] at hc
      subst hc
      rw [bmod32_of_range (v := x + addend) (by omega), bmod32_of_range (v := -addend) (by omega), if_pos (by omega)]
      simp only [Option.some.injEq, Prod.mk.injEq, and_true]
      rw [bmod32_of_range (by omega)]; omega
    case i64 =>
      simp only [usualArith_int, fit_eq, convert_eq, inRange_eq] at hc hx ⊢
      rw [bmod64_of_range (v := x) (by omega), bmod64_of_range (v := addend) (by omega)] at hc
      split at hc <;> simp only [Option.map_some, Option.map_none, Option.some.injEq, reduceCtorEq] at hc
      rw [bmod64_of_range (v := x + addend) (by omega)] at hc
      subst hc
      rw [bmod64_of_range (v := x + addend) (by omega), bmod64_of_range (v := -addend) (by omega), if_pos (by omega)]
      simp only [Option.some.injEq, Prod.mk.injEq, and_true]
      rw [bmod64_of_range (by omega)]; omega
    all_goals
      -- narrower than `int`: the sum is computed in `int`, where `convert T (x + addend) - addend` cannot overflow
      simp only [usualArith_int, fit_eq, inRange_eq] at hc hx hr ⊢
      simp only [convert_eq.2.2.2.2.2.1] at hc ⊢
      rw [bmod32_of_range (v := x) (by omega), bmod32_of_range (v := addend) (by omega)] at hc
      split at hc <;> simp only [Option.map_some, Option.map_none, Option.some.injEq, reduceCtorEq] at hc
      subst hc
      rw [bmod32_of_range (v := convert _ _) (by omega), bmod32_of_range (v := -addend) (by omega), if_pos (by omega)]
      simp only [hcc]
end ChibiVerif.C01
