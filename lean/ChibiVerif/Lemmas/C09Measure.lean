/-
C09 — termination of `preprocess2` for every macro table: the measure.

The pending token list is cut (a ghost of the proof, nothing of it exists in the C code) into consecutive *levels*
`seg_d ++ … ++ seg_1 ++ seg_0`, innermost first.  Level `i` carries a set of names `H_i` such that every token of
`seg_i` that can matter (an identifier, or a token spelled `)`) has all of `H_i` in its hide set, with
`H_0 ⊆ H_1 ⊆ … ⊆ H_d` and strictly decreasing *budgets* (number of macro names outside `H_i`).

* An object-like expansion of the head token `m` (level `d`) opens level `d+1` with `H_d ∪ {m}`.
* A function-like expansion of the head token `f` whose `)` lies in level `e ≤ d` wipes levels `e+1 … d`, takes at
  least the `)` out of level `e`, and opens a new level `e+1` with `H_e ∪ {f}`: the hide set of the expansion is
  `(hide f ∩ hide ')') ∪ {f}`, `hide f ⊇ H_d ⊇ H_e` and `hide ')' ⊇ H_e` — **this is where the intersection rule
  of `expand_macro` is harmless**: it can lose names, but never a name of the level the `)` comes from.
* `f ∉ hide f ⊇ H_e`, so the budget of the new level is strictly smaller.

The lexicographic order on the vector of level lengths (outermost first) therefore decreases with every step of the
loop, and the argument of a nested `preprocess2` (pre-expansion of an argument) inherits a componentwise smaller
vector.  `fuelE` turns that order into a natural number: `fuelE L j m x` bounds the work of a level of budget `j`
with `m` tokens when the levels inside it have potential `x` and every replacement list has at most `L` tokens.
-/
import ChibiVerif.Model.PP
import ChibiVerif.Lemmas.PPLemmas
import ChibiVerif.Lemmas.PPTerm

namespace ChibiVerif.PP

section levelStep
variable {L : Nat} {prev : Nat → Nat → Nat}

/-- the size of a new inner level is paid for -/
theorem le_inner (hL : 1 ≤ L) (hge : ∀ a, a ≤ prev a 0) (y : Nat) : 1 + y ≤ prev (L * (1 + y)) 0 :=
  Nat.le_trans (Nat.le_mul_of_pos_left _ hL) (hge _)

theorem levelStep_ge (hL : 1 ≤ L) (hge : ∀ a, a ≤ prev a 0) : ∀ m x, m + x ≤ levelStep L prev m x := by
  intro m
  induction m with
  | zero => exact fun x => Nat.le_of_eq (Nat.zero_add x)
  | succ m ih =>
    intro x
    show m + 1 + x ≤ 1 + levelStep L prev m (prev (L * (1 + levelStep L prev m x)) 0)
    rw [Nat.add_right_comm m 1 x, Nat.add_comm (m + x) 1]
    exact Nat.add_le_add_left (Nat.le_trans (ih x) (Nat.le_trans (Nat.le_add_left _ 1)
      (Nat.le_trans (le_inner hL hge _) (Nat.le_trans (Nat.le_add_left _ m) (ih _))))) 1

theorem levelStep_inner_ge (hL : 1 ≤ L) (hge : ∀ a, a ≤ prev a 0) (m x : Nat) :
    x ≤ prev (L * (1 + levelStep L prev m x)) 0 :=
  Nat.le_trans (Nat.le_trans (Nat.le_add_left x m) (levelStep_ge hL hge m x))
    (Nat.le_trans (Nat.le_add_left _ 1) (le_inner hL hge _))

theorem levelStep_lt_x (hL : 1 ≤ L) (hs : ∀ a b, a < b → prev a 0 < prev b 0) :
    ∀ m x y, x < y → levelStep L prev m x < levelStep L prev m y := by
  intro m
  induction m with
  | zero => exact fun x y h => h
  | succ m ih =>
    exact fun x y h => Nat.add_lt_add_left
      (ih _ _ (hs _ _ (Nat.mul_lt_mul_of_pos_left (Nat.add_lt_add_left (ih x y h) 1) hL))) 1

theorem levelStep_le_x (hL : 1 ≤ L) (hs : ∀ a b, a < b → prev a 0 < prev b 0) (m : Nat) {x y : Nat} (h : x ≤ y) :
    levelStep L prev m x ≤ levelStep L prev m y := by
  rcases Nat.lt_or_eq_of_le h with h | h
  · exact Nat.le_of_lt (levelStep_lt_x hL hs m x y h)
  · subst h; exact Nat.le_refl _

theorem levelStep_lt_m (hL : 1 ≤ L) (hge : ∀ a, a ≤ prev a 0) (hs : ∀ a b, a < b → prev a 0 < prev b 0) (m x : Nat) :
    levelStep L prev m x < levelStep L prev (m + 1) x := by
  simp only [levelStep]
  have := levelStep_le_x hL hs m (levelStep_inner_ge hL hge m x)
  omega

end levelStep

/-- the three facts about `fuelE L j` every later argument uses -/
structure EGood (L j : Nat) : Prop where
  ge : ∀ m x, m + x ≤ fuelE L j m x
  lt_x : ∀ m x y, x < y → fuelE L j m x < fuelE L j m y
  lt_m : ∀ m x, fuelE L j m x < fuelE L j (m + 1) x

theorem EGood.lt_m0 {L j : Nat} (h : EGood L j) : ∀ a b, a < b → fuelE L j a 0 < fuelE L j b 0 := by
  intro a b hab
  induction hab with
  | refl => exact h.lt_m a 0
  | step _ ih => exact Nat.lt_trans ih (h.lt_m _ 0)

theorem fuelE_good {L : Nat} (hL : 1 ≤ L) : ∀ j, EGood L j := by
  intro j
  induction j with
  | zero => exact ⟨fun m x => Nat.le_refl _, fun m x y h => Nat.add_lt_add_left h m, fun m x => Nat.add_lt_add_right (Nat.lt_succ_self m) x⟩
  | succ j ih =>
    have hge : ∀ a, a ≤ fuelE L j a 0 := fun a => ih.ge a 0
    exact ⟨fun m x => levelStep_ge hL hge m x, fun m x y h => levelStep_lt_x hL ih.lt_m0 m x y h,
           fun m x => levelStep_lt_m hL hge ih.lt_m0 m x⟩

theorem fuelE_le_x {L : Nat} (hL : 1 ≤ L) (j m : Nat) {x y : Nat} (h : x ≤ y) : fuelE L j m x ≤ fuelE L j m y := by
  rcases Nat.lt_or_eq_of_le h with h | h
  · exact Nat.le_of_lt ((fuelE_good hL j).lt_x m x y h)
  · subst h; exact Nat.le_refl _

theorem fuelE_le_m {L : Nat} (hL : 1 ≤ L) (j : Nat) {m m' : Nat} (x : Nat) (h : m ≤ m') : fuelE L j m x ≤ fuelE L j m' x := by
  induction h with
  | refl => exact Nat.le_refl _
  | step _ ih => exact Nat.le_trans ih (Nat.le_of_lt ((fuelE_good hL j).lt_m _ x))

theorem fuelE_le {L : Nat} (hL : 1 ≤ L) (j : Nat) {m m' x y : Nat} (hm : m ≤ m') (hx : x ≤ y) :
    fuelE L j m x ≤ fuelE L j m' y :=
  Nat.le_trans (fuelE_le_m hL j x hm) (fuelE_le_x hL j m' hx)

theorem fuelE_succ (L j m x : Nat) :
    fuelE L (j + 1) (m + 1) x = 1 + fuelE L (j + 1) m (fuelE L j (L * (1 + fuelE L (j + 1) m x)) 0) := rfl

/-- a ghost level: an upper bound of the budget, the names every relevant token of the segment hides, the segment -/
structure Level where
  j : Nat
  H : Hideset
  seg : List Tok

abbrev LKey := Nat × Hideset
def Level.key (l : Level) : LKey := (l.j, l.H)

/-- inner level before outer level: strictly smaller budget bound, larger name set -/
def chainR (a b : LKey) : Prop := a.1 < b.1 ∧ ∀ x ∈ b.2, x ∈ a.2

/-- the token list of a level structure (innermost level first) -/
def flat : List Level → List Tok
  | [] => []
  | l :: outer => l.seg ++ flat outer

/-- the potential of a level structure: `x` is the potential of what lies inside the innermost level -/
def pot (L : Nat) : Nat → List Level → Nat
  | x, [] => x
  | x, l :: outer => pot L (fuelE L l.j l.seg.length x) outer

/-- the token does not matter for hide-set bookkeeping (it can neither be a macro name nor the `)` of an invocation),
    or it hides all of `H` -/
def Respects (H : Hideset) (t : Tok) : Prop :=
  (t.kind ≠ .ident ∧ t.text ≠ ")") ∨ ∀ x ∈ H, hidesetContains t.hide x = true

/-- macro names not in `H` (`rank names t` of Lemmas/C09Vocabulary.lean is `budget names t.hide`) -/
def budget (names : List String) (H : Hideset) : Nat := (names.filter fun n => !hidesetContains H n).length

def LevelOK (names : List String) (l : Level) : Prop := budget names l.H ≤ l.j ∧ ∀ t ∈ l.seg, Respects l.H t

def WF (names : List String) (lv : List Level) : Prop :=
  (∀ l ∈ lv, LevelOK names l) ∧ (lv.map Level.key).Pairwise chainR

theorem flat_append (a b : List Level) : flat (a ++ b) = flat a ++ flat b := by
  induction a with
  | nil => rfl
  | cons l a ih => simp [flat, ih]

theorem pot_append (L x : Nat) (a b : List Level) : pot L x (a ++ b) = pot L (pot L x a) b := by
  induction a generalizing x with
  | nil => rfl
  | cons l a ih => simp [pot, ih]

theorem pot_le {L : Nat} (hL : 1 ≤ L) : ∀ (lv : List Level) {x y : Nat}, x ≤ y → pot L x lv ≤ pot L y lv := by
  intro lv
  induction lv with
  | nil => intro x y h; exact h
  | cons l outer ih => intro x y h; exact ih (fuelE_le_x hL _ _ h)

theorem pot_lt {L : Nat} (hL : 1 ≤ L) : ∀ (lv : List Level) {x y : Nat}, x < y → pot L x lv < pot L y lv := by
  intro lv
  induction lv with
  | nil => intro x y h; exact h
  | cons l outer ih => intro x y h; exact ih ((fuelE_good hL _).lt_x _ _ _ h)

theorem pot_ge {L : Nat} (hL : 1 ≤ L) : ∀ (lv : List Level) (x : Nat), x + (flat lv).length ≤ pot L x lv := by
  intro lv
  induction lv with
  | nil => intro x; simp [flat, pot]
  | cons l outer ih =>
    intro x
    have h1 := ih (fuelE L l.j l.seg.length x)
    have h2 := (fuelE_good hL l.j).ge l.seg.length x
    simp only [flat, pot, List.length_append]
    omega

theorem respects_mono {H H' : Hideset} {t : Tok} (hsub : ∀ x ∈ H', x ∈ H) (h : Respects H t) : Respects H' t := by
  rcases h with h | h
  · exact Or.inl h
  · exact Or.inr fun x hx => h x (hsub x hx)

theorem mem_flat {lv : List Level} {t : Tok} (h : t ∈ flat lv) : ∃ l ∈ lv, t ∈ l.seg := by
  induction lv with
  | nil => simp [flat] at h
  | cons l outer ih =>
    simp only [flat, List.mem_append] at h
    rcases h with h | h
    · exact ⟨l, by simp, h⟩
    · obtain ⟨l', hl', ht⟩ := ih h
      exact ⟨l', by simp [hl'], ht⟩

theorem budget_lt {names : List String} {H : Hideset} {f : String} (hf : f ∈ names) (hn : hidesetContains H f = false) :
    budget names (H ++ [f]) < budget names H :=
  unhidden_lt hf (fun x hx => (hidesetContains_union H [f] x).trans (by rw [hx]; rfl)) hn
    ((hidesetContains_union H [f] f).trans (by simp [hidesetContains]))

theorem wf_cons {names : List String} {l : Level} {outer : List Level} :
    WF names (l :: outer) ↔ LevelOK names l ∧ (∀ k ∈ outer.map Level.key, chainR l.key k) ∧ WF names outer := by
  simp only [WF, List.forall_mem_cons, List.map_cons, List.pairwise_cons]
  exact ⟨fun ⟨⟨a, b⟩, c, d⟩ => ⟨a, c, b, d⟩, fun ⟨a, c, b, d⟩ => ⟨⟨a, b⟩, c, d⟩⟩

theorem wf_append {names : List String} {a b : List Level} :
    WF names (a ++ b) ↔ WF names a ∧ WF names b ∧ ∀ x ∈ a.map Level.key, ∀ y ∈ b.map Level.key, chainR x y := by
  simp only [WF, List.forall_mem_append, List.map_append, List.pairwise_append]
  exact ⟨fun ⟨⟨a, b⟩, c, d, e⟩ => ⟨⟨a, c⟩, ⟨b, d⟩, e⟩, fun ⟨⟨a, c⟩, ⟨b, d⟩, e⟩ => ⟨⟨a, b⟩, c, d, e⟩⟩

theorem LevelOK.seg {names : List String} {l : Level} (h : LevelOK names l) {s : List Tok} (hs : ∀ t ∈ s, t ∈ l.seg) :
    LevelOK names { l with seg := s } :=
  ⟨h.1, fun t ht => h.2 t (hs t ht)⟩

theorem sub_struct {names : List String} {L : Nat} (hL : 1 ≤ L) : ∀ (lv : List Level) (ts' : List Tok),
    WF names lv → ts'.Sublist (flat lv) →
    ∃ lv', WF names lv' ∧ flat lv' = ts' ∧ lv'.map Level.key = lv.map Level.key ∧
      ∀ x y, x ≤ y → pot L x lv' ≤ pot L y lv := by
  intro lv
  induction lv with
  | nil =>
    intro ts' hwf hsub
    cases List.sublist_nil.1 hsub
    exact ⟨[], hwf, rfl, rfl, fun x y h => h⟩
  | cons l outer ih =>
    intro ts' hwf hsub
    obtain ⟨l₁, l₂, rfl, h1, h2⟩ := List.sublist_append_iff.1 hsub
    obtain ⟨hl, hk, hwfo⟩ := wf_cons.1 hwf
    obtain ⟨outer', hwf', hflat', hkeys', hpot'⟩ := ih l₂ hwfo h2
    exact ⟨{ l with seg := l₁ } :: outer', wf_cons.2 ⟨hl.seg fun t ht => h1.subset ht, hkeys' ▸ hk, hwf'⟩,
      congrArg (l₁ ++ ·) hflat', congrArg (l.key :: ·) hkeys',
      fun x y hxy => hpot' _ _ (fuelE_le hL _ h1.length_le hxy)⟩

theorem split_at : ∀ (lv : List Level) (A : List Tok) (r : Tok) (B : List Tok), flat lv = A ++ r :: B →
    ∃ inner l pre post outer, lv = inner ++ l :: outer ∧ l.seg = pre ++ r :: post ∧
      A = flat inner ++ pre ∧ B = post ++ flat outer := by
  intro lv
  induction lv with
  | nil => intro A r B h; cases A <;> cases h
  | cons l0 rest ih =>
    intro A r B h
    -- the cut lies behind the first level, or inside it
    rcases List.append_eq_append_iff.1 (h : l0.seg ++ flat rest = A ++ r :: B) with ⟨a', ha, hb⟩ | ⟨c', hc, hd⟩
    · obtain ⟨inner, l, pre, post, outer, h1, h2, h3, h4⟩ := ih a' r B hb
      exact ⟨l0 :: inner, l, pre, post, outer, congrArg (l0 :: ·) h1, h2,
        ha.trans (h3 ▸ (List.append_assoc ..).symm), h4⟩
    · cases c' with
      | nil =>
        obtain ⟨inner, l, pre, post, outer, h1, h2, h3, h4⟩ := ih [] r B hd.symm
        exact ⟨l0 :: inner, l, pre, post, outer, congrArg (l0 :: ·) h1, h2,
          (List.append_nil A).symm.trans (hc.symm.trans ((List.append_nil _).symm.trans
            ((congrArg (l0.seg ++ ·) h3).trans (List.append_assoc ..).symm))), h4⟩
      | cons c cs =>
        cases hd
        exact ⟨[], l0, A, cs, rest, rfl, hc, rfl, rfl⟩

/-- **the step lemma**: what happens to the level structure when the tokens `A ++ [r]` at the front of the pending
    list are consumed.  `Z` bounds the potential of (a structure for) any sublist of `A` — in particular of every
    macro argument; dropping `A ++ [r]` lowers the potential; so does replacing `A ++ [r]` by at most `L * (1 + Z)`
    tokens that hide `H ∪ {f}` for a macro name `f` outside `H`, where `H` is the name set of the level of `r`. -/
theorem replace_core {names : List String} {L : Nat} (hL : 1 ≤ L) {lv : List Level} {A : List Tok} {r : Tok} {B : List Tok}
    (hwf : WF names lv) (hflat : flat lv = A ++ r :: B) :
    ∃ Z H, Respects H r ∧ (∀ t ∈ A, Respects H t) ∧ Z < pot L 0 lv ∧
      (∀ ts', ts'.Sublist A → ∃ lv', WF names lv' ∧ flat lv' = ts' ∧ pot L 0 lv' ≤ Z) ∧
      (∃ lv', WF names lv' ∧ flat lv' = B ∧ pot L 0 lv' < pot L 0 lv) ∧
      (∀ (new : List Tok) (f : String), f ∈ names → hidesetContains H f = false →
        (∀ t ∈ new, Respects (H ++ [f]) t) → new.length ≤ L * (1 + Z) →
        ∃ lv', WF names lv' ∧ flat lv' = new ++ B ∧ pot L 0 lv' < pot L 0 lv) := by
  obtain ⟨inner, ⟨j, H, _⟩, pre, post, outer, rfl, rfl, rfl, rfl⟩ := split_at lv A r B hflat
  obtain ⟨hwf_inner, hwf_lo, hk_cross⟩ := wf_append.1 hwf
  obtain ⟨hl_ok, hk_l_outer, hwf_outer⟩ := wf_cons.1 hwf_lo
  have hl_pre : LevelOK names ⟨j, H, pre⟩ := hl_ok.seg fun t ht => List.mem_append_left _ ht
  have hwf_post : WF names (⟨j, H, post⟩ :: outer) :=
    wf_cons.2 ⟨hl_ok.seg fun t ht => List.mem_append_right _ (List.mem_cons_of_mem _ ht), hk_l_outer, hwf_outer⟩
  have hpot : pot L 0 (inner ++ ⟨j, H, pre ++ r :: post⟩ :: outer) =
      pot L (fuelE L j (pre.length + post.length + 1) (pot L 0 inner)) outer := by
    rw [pot_append]
    show pot L (fuelE L j (pre ++ r :: post).length _) outer = _
    rw [List.length_append, List.length_cons, Nat.add_assoc]
  have hG := fuelE_good hL j
  have hlt := hG.lt_m (pre.length + post.length) (pot L 0 inner)
  refine ⟨fuelE L j (pre.length + post.length) (pot L 0 inner), H,
    hl_ok.2 r (List.mem_append_right _ List.mem_cons_self), ?_, ?_, ?_, ⟨_, hwf_post, rfl, ?_⟩, ?_⟩
  · intro t ht
    rcases List.mem_append.1 ht with ht | ht
    · obtain ⟨i, hi, hti⟩ := mem_flat ht
      exact respects_mono (hk_cross i.key (List.mem_map_of_mem hi) (j, H) List.mem_cons_self).2 ((hwf_inner.1 i hi).2 t hti)
    · exact hl_pre.2 t ht
  · rw [hpot]
    exact Nat.lt_of_lt_of_le hlt (Nat.le_trans (Nat.le_add_right _ _) (pot_ge hL outer _))
  · intro ts' hsub
    have hwf_pre : WF names (inner ++ [⟨j, H, pre⟩]) :=
      wf_append.2 ⟨hwf_inner, wf_cons.2 ⟨hl_pre, nofun, nofun, .nil⟩,
        fun x hx y hy => List.mem_singleton.1 hy ▸ hk_cross x hx (j, H) List.mem_cons_self⟩
    obtain ⟨lv', hwf', hflat', _, hpot'⟩ := sub_struct (L := L) hL _ ts' hwf_pre
      (by rw [flat_append]; show ts'.Sublist (flat inner ++ (pre ++ [])); rw [List.append_nil]; exact hsub)
    refine ⟨lv', hwf', hflat', Nat.le_trans (hpot' 0 0 (Nat.le_refl _)) ?_⟩
    rw [pot_append]
    exact fuelE_le_m hL _ _ (Nat.le_add_right _ _)
  · rw [hpot]
    exact pot_lt hL outer (Nat.lt_of_le_of_lt (fuelE_le hL _ (Nat.le_add_left _ _) (Nat.zero_le _)) hlt)
  · intro new f hf hnf hnew hlen
    have hb := budget_lt (names := names) hf hnf
    obtain ⟨j', rfl⟩ : ∃ j', j = j' + 1 := Nat.exists_eq_add_of_le' (Nat.le_trans (Nat.succ_le_of_lt (Nat.zero_lt_of_lt hb)) hl_ok.1)
    refine ⟨⟨j', H ++ [f], new⟩ :: ⟨j' + 1, H, post⟩ :: outer,
      wf_cons.2 ⟨⟨Nat.le_of_lt_succ (Nat.lt_of_lt_of_le hb hl_ok.1), hnew⟩, ?_, hwf_post⟩, rfl, ?_⟩
    · -- the new level lies inside the level of `r` and everything outside it
      have hin : ∀ x ∈ H, x ∈ H ++ [f] := fun x hx => List.mem_append_left _ hx
      intro k hk
      rcases List.mem_cons.1 hk with rfl | hk
      · exact ⟨Nat.lt_succ_self _, hin⟩
      · exact ⟨Nat.lt_trans (Nat.lt_succ_self _) (hk_l_outer k hk).1, fun x hx => hin x ((hk_l_outer k hk).2 x hx)⟩
    · rw [hpot]
      apply pot_lt hL outer
      show fuelE L (j' + 1) post.length (fuelE L j' new.length 0) < _
      rw [fuelE_succ]
      exact Nat.lt_of_le_of_lt (fuelE_le hL _ (Nat.le_add_left _ _) (fuelE_le_m hL _ _ hlen))
        (Nat.lt_add_of_pos_left Nat.one_pos)

end ChibiVerif.PP
