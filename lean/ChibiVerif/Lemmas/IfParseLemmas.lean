/-
Lemmas about Model/IfParse.lean, part 1: what a well-behaved result is (`EKok`, `WB`), `skip`, the one failure of `convAll`, and the operator table
regenerated from parse.c against the table of C11 6.5.5–6.5.14 (Spec/IfGrammar.lean): every entry is C11's, and conversely.
Core Lean only.
-/
import ChibiVerif.Spec.IfGrammar

namespace ChibiVerif.IfParse
open ChibiVerif.PPExpr ChibiVerif.CondIncl ChibiVerif.Spec.IfGrammar
open ChibiVerif.Gen.C10IfParse

/-- an outcome the parser proper can end with: not "out of fuel", and an `expected` diagnostic names `)` or `:` -/
def EKok : EK → Bool
  | .fuel => false
  | .expected s => s == ")" || s == ":"
  | _ => true

/-- well-behaved result for an input of `n` tokens: an error kind is `EKok`, and the tokens left over (after the tree / from the
    offending token on) are no more than the input -/
def WB (r : Res) (n : Nat) : Prop :=
  match r with
  | .ok (_, rest) => rest.length ≤ n
  | .error (k, rest) => EKok k = true ∧ rest.length ≤ n

theorem skipTok_cases (s : String) (ts : List PTok) :
    (∃ r, ts = .punct s :: r ∧ skipTok s ts = .ok r) ∨ skipTok s ts = .error (.expected s, ts) := by
  unfold skipTok
  split
  · next s' r =>
    by_cases h : s' = s
    · exact .inl ⟨r, by rw [h], if_pos h⟩
    · exact .inr (if_neg h)
  · exact .inr rfl

/-- the C11 operator a table entry stands for: a swapped `<` / `<=` is `>` / `>=` -/
def c11of (op : BinOp) (sw : Bool) : BinOp :=
  if sw then (match op with | .lt => .gt | .le => .ge | op => op) else op

/-- an entry is one the model understands: swapped only for `<` `<=`, and no unswapped `>` `>=` node kinds -/
def entryOK (op : BinOp) (sw : Bool) : Bool :=
  if sw then op == .lt || op == .le else op != .gt && op != .ge

/-- **the table regenerated from parse.c is the table of C11 6.5.5–6.5.14**: every operator the function of level `d` tests
    for is an operator of C11's level `d`, with the node kind (and operand order) that denotes it – and the table has exactly
    the ten levels -/
theorem table_c11 : top = 10 ∧
    ∀ d ∈ List.range 11, ∀ e ∈ opsAt d, (e.1, c11of e.2.1 e.2.2) ∈ c11Ops d ∧ entryOK e.2.1 e.2.2 = true := by decide +kernel

/-- … and conversely every operator of C11's level `d` is tested for at level `d` -/
theorem table_c11_complete : ∀ d ∈ List.range 11, ∀ e ∈ c11Ops d, ∃ x ∈ opsAt d, x.1 = e.1 ∧ c11of x.2.1 x.2.2 = e.2 := by decide +kernel

theorem unary_c11 : (∀ e ∈ unaryOps, e ∈ c11Unary) ∧ (∀ e ∈ c11Unary, e ∈ unaryOps) := by decide +kernel

theorem opsAt_large (d : Nat) (h : 10 < d) : opsAt d = [] := by
  cases d with
  | zero => rfl
  | succ d =>
    show ((chain.reverse[d]?).map (·.2)).getD [] = []
    have hl : chain.reverse.length = 10 := by decide
    rw [List.getElem?_eq_none (by omega)]; rfl

theorem binTree_of_ne {op : BinOp} (h1 : op ≠ .gt) (h2 : op ≠ .ge) (a b : PT) : binTree op a b = .bin op a b := by
  unfold binTree
  split
  · exact absurd rfl h1
  · exact absurd rfl h2
  · rfl

theorem mkNode_binTree (op : BinOp) (sw : Bool) (h : entryOK op sw = true) (a b : PT) :
    mkNode op sw a b = binTree (c11of op sw) a b := by
  cases sw with
  | false =>
    have h' : op ≠ .gt ∧ op ≠ .ge := by simpa [entryOK] using h
    exact (binTree_of_ne h'.1 h'.2 a b).symm
  | true =>
    have h' : op = .lt ∨ op = .le := by simpa [entryOK] using h
    rcases h' with rfl | rfl <;> rfl

theorem mkUnary_unTree (op : UnOp) (e : PT) : mkUnary op e = unTree op e := by cases op <;> rfl

/-- `convAll` (convert_pp_tokens and the retyping loop of eval_const_expr) fails only at a token that is no integer constant -/
theorem convAll_error (cv : Tok → Option PTok) (l : List Tok) (i : Nat) (e : PErr)
    (h : convAll cv l i = .error e) : ∃ j, e = .unmodelled j := by
  induction l generalizing i with
  | nil => simp [convAll] at h
  | cons t ts ih =>
    unfold convAll at h
    split at h
    · injection h with h; exact ⟨i, h.symm⟩
    · split at h
      · next e' he' => injection h with h; subst h; exact ih (i + 1) he'
      · cases h

end ChibiVerif.IfParse
