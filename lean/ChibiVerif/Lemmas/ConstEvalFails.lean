/- What a run of the folder can fail with (C07_no_trap, C07_constness_sound, C07_fold_order): `Ev fp P n` — folding `n` fails only
   with `P` —, what the arm of each kind needs of its children for that (`Needs`), one step theorem (`Ev.node`), and the two
   walks that supply `Needs`: from the shape of an elaborated tree (`no_trap`), from what `is_const_expr` accepted (`const_clean`). -/
import ChibiVerif.Lemmas.ConstEvalLemmas
import ChibiVerif.Lemmas.ExceptLemmas

namespace ChibiVerif.ConstEvalLemmas
open ChibiVerif.Host ChibiVerif.Gen.ConstEval ChibiVerif.Spec.Const ChibiVerif.ConstElab
open Except (Ends)

section fails
/-- every failure of `r` satisfies `P` -/
abbrev FailsOnly {α : Type} (P : Fail → Prop) (r : Except Fail α) : Prop := Ends P (fun _ => True) r

theorem FailsOnly.wrap {α β : Type} {P : Fail → Prop} {raw : Except Fail α} (g : α → β) (h : FailsOnly P raw) :
    FailsOnly P (raw >>= fun v => pure (g v)) := .bind h fun _ _ => .pure trivial

/-- the two failures of a wrapping host operation on evaluated operands: the diagnostic of `/` and `%`, and the host's
    undefined shift for a count outside 0..63 -/
def HostFail (f : Fail) : Prop :=
  f = .diag "division by zero in a constant expression" ∨ f = .hostUB "shift count out of range"

theorem divmod_fails (isDiv : Bool) (ty : CTy) (a b : BitVec 64) : FailsOnly HostFail (divmod .wrapping isDiv ty a b) := by
  unfold divmod
  by_cases hb : b = 0#64
  · subst hb; exact .error (Or.inl rfl)
  · have hb' : ¬ (b = 0) := hb
    rw [beq_false_of_ne hb]
    simp only [Bool.false_eq_true, ite_false]
    split
    · cases isDiv <;> simp only [Bool.false_eq_true, divU, modU, hb', ↓reduceIte] <;> exact .ok trivial
    · by_cases h1 : b = 18446744073709551615#64
      · subst h1; exact .pure trivial
      · have h1' : ¬ (b = -1) := h1
        rw [beq_false_of_ne h1]
        cases isDiv <;> simp only [Bool.false_eq_true, divS, modS, hb', h1', and_false, ↓reduceIte] <;>
          exact .ok trivial

/-- no arm of `arithKinds` reaches SIGFPE: the divisor is tested first, and `x / -1`, `x % -1` are answered without dividing -/
theorem binRaw_fails (k : NodeKind) (ty : CTy) (a b : BitVec 64) : FailsOnly HostFail (binRaw .wrapping k ty a b) := by
  have shift : ∀ {f : BitVec 64 → Nat → BitVec 64} (c : Int),
      FailsOnly HostFail (if c < 0 ∨ c ≥ (64 : Nat) then .error (.hostUB "shift count out of range") else .ok (f a c.toNat)) :=
    fun c => .ite (fun _ => .error (Or.inr rfl)) (fun _ => .ok trivial)
  unfold binRaw
  split
  case h_4 | h_5 => exact divmod_fails _ ty a b
  case h_9 => exact shift b.toInt
  case h_10 => exact .ite (fun _ => shift b.toInt) (fun _ => shift b.toInt)
  all_goals exact .ok trivial

/-- failures that are not a crash of the compiler: a diagnostic, or (for a C11-undefined shift count, which
    x86 masks) the host's undefined shift -/
def Benign : Fail → Prop
  | .diag _ => True
  | .hostUB w => w = "shift count out of range"
  | _ => False

theorem HostFail.benign (f : Fail) (h : HostFail f) : Benign f := by
  rcases h with rfl | rfl <;> simp only [Benign]

def NotNcc {α : Type} (r : Except Fail α) : Prop := r ≠ .error (.diag ncc)

theorem notNcc_of_noTrap_host {r : Except Fail (BitVec 64)} (h : ∀ f, r = .error f → f ≠ .diag ncc) : NotNcc r :=
  fun he => h _ he rfl

theorem HostFail.ne_ncc (f : Fail) (h : HostFail f) : f ≠ .diag ncc := by
  rcases h with rfl | rfl <;> unfold ncc <;> decide

/-- folding `n`, through `eval2` (any label) or through `eval_double`, fails only with a failure in `P` -/
def Ev (fp : FpEnv) (P : Fail → Prop) (n : CNode) : Prop :=
  (∀ label, FailsOnly P (eval2 .wrapping fp n label)) ∧ FailsOnly P (evalDouble .wrapping fp n)

/-- **what the arm of a node of kind `k` needs of its children** so that folding the node fails only with `P`: the operands
    it evaluates do — of `&&`, `||`, `?:` the operand that the truth value of the first one selects.  Nothing will do for a
    kind the folder does not fold. -/
def Needs (fp : FpEnv) (P : Fail → Prop) (k : NodeKind) (l r c t e : CNode) : Prop :=
  match k with
  | .ND_ADD | .ND_SUB | .ND_MUL | .ND_DIV | .ND_MOD | .ND_BITAND | .ND_BITOR | .ND_BITXOR | .ND_SHL | .ND_SHR
  | .ND_EQ | .ND_NE | .ND_LT | .ND_LE => Ev fp P l ∧ Ev fp P r
  | .ND_NEG | .ND_NOT | .ND_BITNOT | .ND_CAST => Ev fp P l
  | .ND_LOGAND => Ev fp P l ∧ (truth .wrapping fp l = .ok true → Ev fp P r)
  | .ND_LOGOR => Ev fp P l ∧ (truth .wrapping fp l = .ok false → Ev fp P r)
  | .ND_COND => Ev fp P c ∧ ∀ b, truth .wrapping fp c = .ok b → Ev fp P (if b then t else e)
  | .ND_COMMA => Ev fp P r
  | .ND_NUM => True
  | _ => False

namespace Ev
variable {fp : FpEnv} {P : Fail → Prop} {n l r c t e : CNode} {k : NodeKind} {ty : CTy} {nv : BitVec 64} {fv : BitVec 80}

/-- `node->ty` fails exactly when `eval2(node)` does first -/
theorem tyOf_fails (h : Ev fp P n) : FailsOnly P (CNode.tyOf n) := by
  cases n with
  | null => exact (h.1 false).of_error (eval2_null _ _)
  | mk => exact .ok trivial

theorem fpTruth_fails (h : Ev fp P n) : FailsOnly P (fpTruth .wrapping fp n) := .bind h.2 fun _ _ => .pure trivial

theorem truth_fails (h : Ev fp P n) : FailsOnly P (truth .wrapping fp n) :=
  .bind h.tyOf_fails fun _ _ => .ite (fun _ => h.fpTruth_fails) (fun _ => .bind (h.1 false) fun _ _ => .pure trivial)

theorem cmpArm_fails (cf : BitVec 80 → BitVec 80 → Bool) (cu cs : BitVec 64 → BitVec 64 → Bool)
    (hl : Ev fp P l) (hr : Ev fp P r) : FailsOnly P (cmpArm .wrapping fp cf cu cs l r) := by
  refine .bind hl.tyOf_fails fun _ _ => .ite (fun _ => .bind hl.2 fun _ _ => .bind hr.2 fun _ _ => .pure trivial)
    (fun _ => .ite (fun _ => ?_) (fun _ => ?_)) <;>
    exact .bind (hl.1 false) fun _ _ => .bind (hr.1 false) fun _ _ => .pure trivial

/-- **one step**: a node of arithmetic type whose arm finds what it needs fails only with `P` (which holds the failures of the
    host operations).  A `?:` of floating type selects with `eval_double(cond) != 0` where `Needs` speaks of `eval_truth(cond)`:
    `hsel`. -/
theorem node (hH : ∀ f, HostFail f → P f) (hty : isInteger ty = true ∨ isFlonum ty = true ∧ k ∈ fkinds)
    (hsel : isFlonum ty = true → truth .wrapping fp c = fpTruth .wrapping fp c)
    (h : Needs fp P k l r c t e) : Ev fp P (.mk k ty nv fv l r c t e) := by
  rcases hty with hi | ⟨hf, hk⟩
  · -- integer type: `eval2` arm by arm, `eval_double` through `eval2`
    suffices h2 : ∀ label, FailsOnly P (eval2 .wrapping fp (.mk k ty nv fv l r c t e) label) by
      refine ⟨h2, ?_⟩
      rw [evalDouble_integer _ _ _ hi]
      exact .bind (h2 false) fun _ _ => .pure trivial
    intro label
    rw [eval2_int _ _ (integer_not_flonum ty hi)]
    refine .wrap _ ?_
    cases k <;> try exact h.elim
    case ND_ADD | ND_SUB | ND_MUL | ND_DIV | ND_MOD | ND_BITAND | ND_BITOR | ND_BITXOR | ND_SHL | ND_SHR =>
      obtain ⟨hl, hr⟩ := h
      exact .bind (hl.1 _) fun _ _ => .bind (hr.1 _) fun _ _ => (binRaw_fails _ _ _ _).mono hH fun _ _ => trivial
    case ND_EQ | ND_NE | ND_LT | ND_LE => obtain ⟨hl, hr⟩ := h; exact cmpArm_fails _ _ _ hl hr
    case ND_NEG => have h : Ev fp P l := h; exact .bind (h.1 _) fun _ _ => .ok trivial
    case ND_BITNOT => have h : Ev fp P l := h; exact .bind (h.1 _) fun _ _ => .pure trivial
    case ND_NOT => exact .bind (Ev.truth_fails h) fun _ _ => .pure trivial
    case ND_CAST =>
      have h : Ev fp P l := h
      refine .ite (fun _ => ?_) (fun _ => ?_)
      · exact .bind h.tyOf_fails fun _ _ => .ite (fun _ => .bind h.fpTruth_fails fun _ _ => .pure trivial) (fun _ => .bind (h.1 _) fun _ _ => .pure trivial)
      · exact .bind h.tyOf_fails fun _ _ => .ite (fun _ => .bind h.2 fun _ _ => .ok trivial) (fun _ => h.1 _)
    case ND_LOGAND =>
      obtain ⟨hl, hr⟩ := h
      refine hl.truth_fails.bind_eq fun a ha _ => FailsOnly.wrap _ ?_
      cases a
      · exact .pure trivial
      · exact (hr ha).truth_fails
    case ND_LOGOR =>
      obtain ⟨hl, hr⟩ := h
      refine hl.truth_fails.bind_eq fun a ha _ => FailsOnly.wrap _ ?_
      cases a
      · exact (hr ha).truth_fails
      · exact .pure trivial
    case ND_COND =>
      obtain ⟨hc, hs⟩ := h
      exact hc.truth_fails.bind_eq fun b hb _ => by have := hs b hb; cases b <;> exact this.1 _
    case ND_COMMA => have h : Ev fp P r := h; exact h.1 _
    case ND_NUM => exact .pure trivial
  · -- floating type: `eval_double` arm by arm over the kinds eval_double2 folds, `eval2` through `eval_double`
    have hi := flonum_not_integer ty hf
    suffices hd : FailsOnly P (evalDouble .wrapping fp (.mk k ty nv fv l r c t e)) by
      refine ⟨fun label => ?_, hd⟩
      rw [eval2_flonum _ _ _ hf]
      exact .bind hd fun _ _ => .ok trivial
    rw [evalDouble_flt _ _ hi]
    refine .wrap _ ?_
    -- a kind outside `fkinds` is refuted by `hk`; the nine of `fkinds` by name
    cases k <;> try exact absurd hk (by decide)
    case ND_ADD | ND_SUB | ND_MUL | ND_DIV =>
      obtain ⟨hl, hr⟩ := h
      exact .bind hl.2 fun _ _ => .bind hr.2 fun _ _ => .pure trivial
    case ND_NEG => have h : Ev fp P l := h; exact .bind h.2 fun _ _ => .pure trivial
    case ND_COND =>
      obtain ⟨hc, hs⟩ := h
      show FailsOnly P (fpTruth .wrapping fp c >>= _)
      rw [← hsel hf]
      exact hc.truth_fails.bind_eq fun b hb _ => by have := hs b hb; cases b <;> exact this.2
    case ND_COMMA => have h : Ev fp P r := h; exact h.2
    case ND_CAST => have h : Ev fp P l := h; exact h.2
    case ND_NUM => exact .pure trivial

theorem int_node (hH : ∀ f, HostFail f → P f) (hi : isInteger ty = true) (h : Needs fp P k l r c t e) :
    Ev fp P (.mk k ty nv fv l r c t e) :=
  node hH (.inl hi) (fun hf => by rw [integer_not_flonum ty hi] at hf; cases hf) h

end Ev

theorem no_trap (fp : FpEnv) (e : CExpr) : Ev fp Benign (elabE e) := by
  have node : ∀ {k ty nv fv l r c t e}, isInteger ty = true → Needs fp Benign k l r c t e → Ev fp Benign (.mk k ty nv fv l r c t e) :=
    Ev.int_node HostFail.benign
  have cast : ∀ {n}, Ev fp Benign n → ∀ t : ITy, Ev fp Benign (mkCast n (descr t)) := fun h t => node (descr_integer t) h
  induction e with
  | lit t v => exact node (descr_integer t) trivial
  | un op e ih =>
    cases op <;> simp only [elabE, mkPromoted, un, elab_ty, gct_int]
    · exact node (descr_integer _) (cast ih _)
    · exact node (descr_integer _) (cast ih _)
    · exact node (descr_integer .i32) ih
    · split
      · exact cast ih .i32
      · exact ih
  | bin op a b iha ihb =>
    cases op <;> simp only [elabE, mkPromoted, mkArith, mkCompare, bin, elab_ty, gct_descr, gct_int]
    case add | sub | mul | div | mod | band | bor | bxor => exact node (descr_integer _) ⟨cast iha _, cast ihb _⟩
    case shl | shr => exact node (descr_integer _) ⟨cast iha _, ihb⟩
    case eq | ne | lt | le => exact node (descr_integer .i32) ⟨cast iha _, cast ihb _⟩
    case gt | ge => exact node (descr_integer .i32) ⟨cast ihb _, cast iha _⟩
  | land a b iha ihb => exact node (descr_integer .i32) ⟨iha, fun _ => ihb⟩
  | lor a b iha ihb => exact node (descr_integer .i32) ⟨iha, fun _ => ihb⟩
  | cond c a b ihc iha ihb =>
    simp only [elabE, elab_ty, gct_descr]
    exact node (descr_integer _) ⟨ihc, fun b _ => by cases b <;> exact cast ‹_› _⟩
  | cast t e ih => exact cast ih t

/-- every node has arithmetic type, and a node of floating type is built by an operator that yields a floating result
    (`+ - * /`, unary `-`, `?:`, `,`, a cast, a constant): what `add_type` guarantees for an arithmetic expression -/
def ArithTyped : CNode → Bool
  | .null => true
  | .mk k ty _ _ l r c t e =>
    (isInteger ty || (isFlonum ty && fkinds.contains k)) && ArithTyped l && ArithTyped r && ArithTyped c && ArithTyped t && ArithTyped e

variable (fp : FpEnv)

theorem truth_eq_fpTruth (hfp : FpZeroExact fp) (c : CNode) (hc : ArithTyped c = true) :
    truth .wrapping fp c = fpTruth .wrapping fp c := by
  cases c with
  | null => rw [truth, fpTruth, evalDouble_null]; rfl
  | mk k ty nv fv l r c2 t e =>
    simp only [ArithTyped, Bool.and_eq_true, Bool.or_eq_true] at hc
    unfold truth
    simp only [CNode.tyOf, bind, Except.bind]
    rcases hc.1.1.1.1.1 with hi | hf
    · have hf := integer_not_flonum ty hi
      simp only [hf, Bool.false_eq_true, ite_false]
      unfold fpTruth
      rw [evalDouble_integer _ _ _ hi]
      cases eval2 .wrapping fp (.mk k ty nv fv l r c2 t e) false with
      | error x => rfl
      | ok v =>
        simp only [bind, Except.bind, pure, Except.pure]
        cases ty.isUnsigned
        · simp only [Bool.false_eq_true, ite_false, hfp.i64zero]; rfl
        · simp only [ite_true, hfp.u64zero]; rfl
    · simp only [hf.1, ite_true]

theorem ok_true_of_bind {m : Except Fail Bool} {f : Except Fail Bool}
    (h : (m >>= fun x => if x then f else pure false) = .ok true) : m = .ok true ∧ f = .ok true := by
  obtain ⟨a, rfl, h⟩ := Except.bind_eq_ok h
  cases a
  · cases h
  · exact ⟨rfl, h⟩

theorem ok_true_of_guard {m : Except Fail Bool} {tr : Except Fail Bool} {f : Bool → Except Fail Bool}
    (h : (m >>= fun x => if !x then pure false else tr >>= f) = .ok true) :
    m = .ok true ∧ ∀ b, tr = .ok b → f b = .ok true := by
  obtain ⟨a, rfl, h⟩ := Except.bind_eq_ok h
  cases a
  · cases h
  · exact ⟨rfl, fun b hb => by rw [hb] at h; exact h⟩

/-- the hypothesis is satisfiable: `noFp` embeds integers as themselves -/
theorem noFp_zeroExact : FpZeroExact noFp := by
  have key : ∀ v : BitVec 64, (BitVec.setWidth 80 v == BitVec.setWidth 80 (0#32)) = (v == 0#64) := by
    intro v
    rw [Bool.eq_iff_iff]; simp only [beq_iff_eq]
    constructor
    · intro h
      apply BitVec.eq_of_toNat_eq
      have := congrArg BitVec.toNat h
      simp only [BitVec.toNat_setWidth, BitVec.toNat_ofNat] at this ⊢
      omega
    · intro h; subst h; rfl
  constructor <;> intro v <;> exact key v

variable (hfp : FpZeroExact fp)
include hfp

/-- what `is_const_expr` accepts is what the arm of each node needs -/
theorem const_clean : ∀ (n : CNode), ArithTyped n = true → isConstExpr .wrapping fp n = .ok true → Ev fp (· ≠ .diag ncc) n := by
  intro n
  induction n with
  | null => intro _ h; rw [isConst_null] at h; cases h
  | mk k ty nv fv l r c t e ihl ihr ihc iht ihe =>
    intro hty h
    simp only [ArithTyped, Bool.and_eq_true, Bool.or_eq_true, List.contains_eq_mem, decide_eq_true_eq] at hty
    obtain ⟨⟨⟨⟨⟨hroot, htl⟩, htr⟩, htc⟩, htt⟩, hte⟩ := hty
    have ihl := ihl htl; have ihr := ihr htr; have ihc := ihc htc; have iht := iht htt; have ihe := ihe hte
    rw [isConst_mk] at h
    refine Ev.node HostFail.ne_ncc hroot (fun _ => truth_eq_fpTruth fp hfp c htc) ?_
    cases k <;> try (cases h; done)
    case ND_ADD | ND_SUB | ND_MUL | ND_DIV | ND_MOD | ND_BITAND | ND_BITOR | ND_BITXOR | ND_SHL | ND_SHR
        | ND_EQ | ND_NE | ND_LT | ND_LE =>
      have := ok_true_of_bind h
      exact ⟨ihl this.1, ihr this.2⟩
    case ND_NEG | ND_NOT | ND_BITNOT | ND_CAST => exact ihl h
    case ND_LOGAND =>
      have ⟨hc, hs⟩ := ok_true_of_guard h
      exact ⟨ihl hc, fun hb => ihr (hs true hb)⟩
    case ND_LOGOR =>
      have ⟨hc, hs⟩ := ok_true_of_guard h
      exact ⟨ihl hc, fun hb => ihr (hs false hb)⟩
    case ND_COND =>
      have ⟨hc, hs⟩ := ok_true_of_guard h
      refine ⟨ihc hc, fun b hb => ?_⟩
      cases b with
      | false => exact ihe (hs false hb)
      | true => exact iht (hs true hb)
    case ND_COMMA => exact ihr h
    case ND_NUM => trivial

end fails

/-! ## Order of evaluation -/

section order
variable (fp : FpEnv) {ty : CTy} {nv : BitVec 64} {fv : BitVec 80} {l r c t e : CNode} {label : Bool}

/-- **left first**: a failure of the left operand `L` is the failure of the node `N` whatever the right operand `R` is;
    a failure of the right operand is the node's only when the left operand has a value -/
def LeftFirst {α β γ : Type} (L : Except Fail α) (R : Except Fail β) (N : Except Fail γ) : Prop :=
  (∀ f, L = .error f → N = .error f) ∧ (∀ a f, L = .ok a → R = .error f → N = .error f)

theorem leftFirst_bind {α β γ δ : Type} (L : Except Fail α) (R : Except Fail β) (g : α → β → Except Fail γ) (w : γ → Except Fail δ) :
    LeftFirst L R ((L >>= fun a => R >>= fun b => g a b) >>= w) := by
  constructor
  · intro f h; rw [h]; rfl
  · intro a f h1 h2; rw [h1, h2]; rfl

theorem order_arith (hf : isFlonum ty = false) (k : NodeKind) (hk : k ∈ arithKinds) :
    LeftFirst (eval2 .wrapping fp l (leftLabel k label)) (eval2 .wrapping fp r false)
      (eval2 .wrapping fp (.mk k ty nv fv l r c t e) label) := by
  rw [eval2_arith _ _ hf k hk]; exact leftFirst_bind _ _ _ _

theorem order_cmp (hf : isFlonum ty = false) (k : NodeKind) (hk : k ∈ cmpKinds) (tl : CTy) (htl : CNode.tyOf l = .ok tl) :
    (isFlonum tl = false → LeftFirst (eval2 .wrapping fp l false) (eval2 .wrapping fp r false)
        (eval2 .wrapping fp (.mk k ty nv fv l r c t e) label)) ∧
    (isFlonum tl = true → LeftFirst (evalDouble .wrapping fp l) (evalDouble .wrapping fp r)
        (eval2 .wrapping fp (.mk k ty nv fv l r c t e) label)) := by
  rw [eval2_cmp _ _ hf k hk]
  unfold cmpArm
  simp only [htl, bind, Except.bind]
  constructor
  · intro hfl
    simp only [hfl, Bool.false_eq_true, ite_false]
    cases tl.isUnsigned <;> simp only [Bool.false_eq_true, ite_false, ite_true] <;> exact leftFirst_bind _ _ _ _
  · intro hfl
    simp only [hfl, ite_true]
    exact leftFirst_bind _ _ _ _

theorem order_farith (hi : isInteger ty = false) (k : NodeKind) (hk : k ∈ farithKinds) :
    LeftFirst (evalDouble .wrapping fp l) (evalDouble .wrapping fp r) (evalDouble .wrapping fp (.mk k ty nv fv l r c t e)) := by
  rw [evalDouble_farith _ _ hi k hk]; exact leftFirst_bind _ _ _ _

end order

end ChibiVerif.ConstEvalLemmas
