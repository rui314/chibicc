/-
Helper lemmas for the alloca family of C04: the rounded size, the ascending byte copy (correct whenever the destination
is not above the source), the invariant of the region below the locals, preservation of everything at or above `bottom`.
-/
import ChibiVerif.Model.Alloca
import ChibiVerif.Lemmas.AscCopyLemmas
namespace ChibiVerif.Alloca
open ChibiVerif.Gen.C04

theorem mask_bits : ∀ i : Fin 32, (BitVec.ofNat 32 ALLOCA_MASK).getLsbD i.val = decide (4 ≤ i.val) := by decide

theorem and_mask_eq (x : BitVec 32) : x &&& BitVec.ofNat 32 ALLOCA_MASK = (x >>> 4) <<< 4 := by
  apply BitVec.eq_of_getLsbD_eq
  intro i hi
  have := mask_bits ⟨i, hi⟩
  simp only at this
  rw [BitVec.getLsbD_and, this, BitVec.getLsbD_shiftLeft, BitVec.getLsbD_ushiftRight]
  by_cases h : 4 ≤ i
  · have e : 4 + (i - 4) = i := by omega
    have h' : ¬ i < 4 := by omega
    simp [h, hi, e, h']
  · have h' : i < 4 := by omega
    simp [h, h']

theorem allocaSize_eq (n : BitVec 64) : allocaSize n = (n.toNat + 15) % 2 ^ 32 / 16 * 16 := by
  unfold allocaSize
  have h32 : ALLOCA_MASK_32BIT = true := rfl
  simp only [h32, if_true]
  rw [and_mask_eq]
  simp only [BitVec.toNat_shiftLeft, BitVec.toNat_ushiftRight, BitVec.toNat_setWidth, BitVec.toNat_add, BitVec.toNat_ofNat,
    Nat.shiftLeft_eq, Nat.shiftRight_eq_div_pow, ALLOCA_ROUND]
  omega

theorem allocaSize_mod (n : BitVec 64) : allocaSize n % 16 = 0 := by
  rw [allocaSize_eq]; omega

theorem allocaSize_ge (n : BitVec 64) (h : n.toNat + 15 < 2 ^ 32) : n.toNat ≤ allocaSize n ∧ allocaSize n < n.toNat + 16 := by
  rw [allocaSize_eq]; omega

theorem copyUp_eq : ∀ (cnt : Nat) (m : Mem) (src dst : Int), copyUp m src dst cnt = ascCopy (src + ·) (dst + ·) m cnt
  | 0, _, _, _ => rfl
  | cnt + 1, m, src, dst => by
    rw [copyUp, copyUp_eq cnt, ascCopy_head]
    simp only [Int.natCast_add, Int.natCast_zero, Int.add_zero, Int.natCast_one, Int.add_assoc, Int.add_comm 1]

theorem copyUp_spec (cnt : Nat) (m : Mem) (src dst : Int) (h : dst ≤ src) :
    (∀ i : Nat, i < cnt → copyUp m src dst cnt (dst + i) = m (src + i)) ∧
    (∀ a : Int, a < dst ∨ dst + cnt ≤ a → copyUp m src dst cnt a = m a) :=
  copyUp_eq cnt m src dst ▸ ascCopy_int m src dst cnt (.inl h)

/-- invariant of the region below the locals -/
structure Inv (s : State) : Prop where
  tmp : s.rsp ≤ s.bottom
  low : s.bottom ≤ s.frameLow
  al : s.bottom % 16 = 0

/-- a store of the program, the one operation that may write at or above `bottom` (last conjunct of `step_inv`, `run_inv`) -/
def Op.isWrite : Op → Bool
  | .write _ _ => true
  | _ => false

/-- one push, pop, store or `alloca`: `Inv` is kept, `bottom` only goes down, a returned block is 16-aligned and is exactly
    `[bottom', bottom)`, and unless the step is a store of the program nothing at or above `bottom` is written -/
theorem step_inv (s : State) (hinv : Inv s) (op : Op) (s' : State) (b : Option Block) (h : step s op = .ok (s', b)) :
    Inv s' ∧ s'.bottom ≤ s.bottom ∧ s'.frameLow = s.frameLow ∧
    (∀ blk, b = some blk → blk.addr % 16 = 0 ∧ blk.addr = s'.bottom ∧ blk.addr + (blk.size : Int) = s.bottom) ∧
    (b = none → s'.bottom = s.bottom) ∧
    (op.isWrite = false → ∀ a : Int, s.bottom ≤ a → s'.mem a = s.mem a) := by
  obtain ⟨h1, h2, h3⟩ := hinv
  cases op with
  | push v =>
    simp only [step, Except.ok.injEq, Prod.mk.injEq] at h
    obtain ⟨rfl, rfl⟩ := h
    exact ⟨⟨by simp only; omega, h2, h3⟩, Int.le_refl _, rfl, (fun _ hb => by cases hb), (fun _ => rfl),
      fun _ a ha => if_neg (by omega)⟩
  | pop =>
    simp only [step] at h
    split at h
    · simp only [Except.ok.injEq, Prod.mk.injEq] at h
      obtain ⟨rfl, rfl⟩ := h
      exact ⟨⟨by simp only; omega, h2, h3⟩, Int.le_refl _, rfl, (fun _ hb => by cases hb), (fun _ => rfl), fun _ _ _ => rfl⟩
    · cases h
  | write a v =>
    simp only [step, Except.ok.injEq, Prod.mk.injEq] at h
    obtain ⟨rfl, rfl⟩ := h
    exact ⟨⟨h1, h2, h3⟩, Int.le_refl _, rfl, (fun _ hb => by cases hb), (fun _ => rfl), fun hw => by cases hw⟩
  | alloca n =>
    simp only [step, Except.ok.injEq, Prod.mk.injEq] at h
    obtain ⟨rfl, rfl⟩ := h
    have hm := allocaSize_mod n
    refine ⟨⟨by simp only; omega, by simp only; omega, by simp only; omega⟩, by simp only; omega, rfl, ?_, (fun hb => by cases hb),
      fun _ a ha => (copyUp_spec _ s.mem s.rsp _ (by omega)).2 a (by omega)⟩
    intro blk hb
    cases hb
    exact ⟨by simp only; omega, rfl, by simp only; omega⟩

theorem run_cons_ok {s s' : State} {op : Op} {ops : List Op} {bs : List Block} (h : run s (op :: ops) = .ok (s', bs)) :
    ∃ s1 b bs2, step s op = .ok (s1, b) ∧ run s1 ops = .ok (s', bs2) ∧ bs = b.toList ++ bs2 := by
  simp only [run] at h
  cases hs : step s op with
  | error e => rw [hs] at h; cases h
  | ok r =>
    rw [hs] at h
    cases hr : run r.1 ops with
    | error e => simp only [hr] at h; cases h
    | ok r2 =>
      simp only [hr, Except.ok.injEq, Prod.mk.injEq] at h
      exact ⟨r.1, r.2, r2.2, rfl, by rw [hr, ← h.1], h.2.symm⟩

/-- what a history `ops` from `s` to `s'` with returned blocks `bs` keeps -/
structure RunInv (s s' : State) (ops : List Op) (bs : List Block) : Prop where
  inv : Inv s'
  bottom_le : s'.bottom ≤ s.bottom
  frameLow : s'.frameLow = s.frameLow
  /-- every returned block is 16-aligned and lies in `[bottom', bottom)` -/
  blocks : ∀ b ∈ bs, b.addr % 16 = 0 ∧ s'.bottom ≤ b.addr ∧ b.addr + (b.size : Int) ≤ s.bottom
  /-- each block lies below all earlier ones -/
  below : bs.Pairwise (fun a b => b.addr + (b.size : Int) ≤ a.addr)
  /-- pushes, pops and allocas write nothing at or above `bottom` -/
  keeps : (∀ op ∈ ops, op.isWrite = false) → ∀ a : Int, s.bottom ≤ a → s'.mem a = s.mem a

theorem run_inv : ∀ (ops : List Op) (s : State), Inv s → ∀ s' bs, run s ops = .ok (s', bs) → RunInv s s' ops bs := by
  intro ops
  induction ops with
  | nil =>
    intro s hinv s' bs h
    simp only [run, Except.ok.injEq, Prod.mk.injEq] at h
    obtain ⟨rfl, rfl⟩ := h
    exact ⟨hinv, Int.le_refl _, rfl, (fun b hb => by cases hb), List.Pairwise.nil, fun _ _ _ => rfl⟩
  | cons op ops ih =>
    intro s hinv s' bs h
    obtain ⟨s1, b, bs2, hs, hr, rfl⟩ := run_cons_ok h
    obtain ⟨i1, i2, i3, i4, i5, i6⟩ := step_inv s hinv op s1 b hs
    obtain ⟨j1, j2, j3, j4, j5, j6⟩ := ih s1 i1 s' bs2 hr
    refine ⟨j1, by omega, by rw [j3, i3], ?_, ?_, fun hnw a ha => ?_⟩
    · intro blk hblk
      rcases List.mem_append.mp hblk with hb | hb
      · cases b with
        | none => cases hb
        | some b0 =>
          simp only [Option.toList, List.mem_singleton] at hb
          subst hb
          obtain ⟨k1, k2, k3⟩ := i4 _ rfl
          exact ⟨k1, by omega, by omega⟩
      · obtain ⟨k1, k2, k3⟩ := j4 blk hb
        exact ⟨k1, k2, by omega⟩
    · cases b with
      | none => simpa using j5
      | some b0 =>
        simp only [Option.toList, List.singleton_append]
        refine List.pairwise_cons.mpr ⟨?_, j5⟩
        intro blk hblk
        obtain ⟨k1, k2, k3⟩ := i4 _ rfl
        obtain ⟨l1, l2, l3⟩ := j4 blk hblk
        omega
    · rw [j6 (fun o ho => hnw o (List.mem_cons_of_mem _ ho)) a (by omega)]
      exact i6 (hnw op List.mem_cons_self) a ha

end ChibiVerif.Alloca
