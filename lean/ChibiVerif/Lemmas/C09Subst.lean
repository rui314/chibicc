/-
C09 — termination of `preprocess2` for every macro table: `subst` with arguments.

`subst` itself never runs out of fuel (its loop consumes the replacement list), hands the pre-expander only token
lists of arguments, and returns at most `|replacement list| * M` tokens when every argument and every pre-expanded
argument has at most `M` tokens.
-/
import ChibiVerif.Model.PP
import ChibiVerif.Lemmas.PPLemmas

namespace ChibiVerif.PP

/-- `I`: an invariant of the state that the pre-expander keeps; `M`: a bound for the tokens of an argument, raw or macro-replaced -/
def ArgsOK (pp : PreExpand) (I : St → Prop) (M : Nat) (args : List MacroArg) : Prop :=
  ∀ a ∈ args, a.toks.length ≤ M ∧ (∀ e, a.expanded = some e → e.length ≤ M) ∧
    ∀ st, I st → NoFuel (fun r => r.1.length ≤ M ∧ I r.2) (pp st (addHideset a.toks []))

theorem argsOK_setExpanded {pp : PreExpand} {I : St → Prop} {M : Nat} {args : List MacroArg} {n : String} {e : List Tok}
    (h : ArgsOK pp I M args) (he : e.length ≤ M) : ArgsOK pp I M (setExpanded args n e) :=
  forall_setExpanded h fun _ _ ha => ⟨ha.1, fun _ he' => Option.some.inj he' ▸ he, ha.2.2⟩

section
variable (lx : String → LexOne) (pp : PreExpand) (I : St → Prop) (M : Nat)

def SubstPost (bound : Nat) (r : List Tok × List MacroArg × St) : Prop :=
  I r.2.2 ∧ ArgsOK pp I M r.2.1 ∧ r.1.length ≤ bound

variable {pp I M}
/-- one turn of the loop in the bound `acc.length + body.length * M`: the rest got no longer (`b' ≤ b`) and the output grew by at
    most `M` (`a' ≤ a + M`) -/
theorem NoFuel.step {r : Except Err (List Tok × List MacroArg × St)} {a a' b b' : Nat}
    (h : NoFuel (SubstPost pp I M (a' + b' * M)) r) (hb : b' ≤ b) (ha : a' ≤ a + M) :
    NoFuel (SubstPost pp I M (a + (b + 1) * M)) r :=
  h.imp fun _ hv => ⟨hv.1, hv.2.1, by
    have h1 : b' * M ≤ b * M := Nat.mul_le_mul_right _ hb
    have h2 : (b + 1) * M = b * M + M := Nat.succ_mul b M
    have := hv.2.2
    omega⟩

theorem ArgsOK.len {args : List MacroArg} (h : ArgsOK pp I M args) : ArgsLen M args :=
  fun a ha => ⟨(h a ha).1, (h a ha).2.1⟩

variable (pp I M)

theorem substLoop_fuel (hM : 1 ≤ M) (fuel : Nat) (isObj : Bool) (st : St) (args : List MacroArg) (body acc : List Tok) :
    body.length < fuel → I st → ArgsOK pp I M args →
      NoFuel (SubstPost pp I M (acc.length + body.length * M)) (substLoop lx pp isObj fuel st args body acc) := by
  induction fuel generalizing isObj st args body acc with
  | zero => exact fun h => absurd h (Nat.not_lt_zero _)
  | succ n ih =>
    intro hlen hI hA
    cases body with
    | nil => exact ⟨hI, hA, by simp⟩
    | cons tok rest =>
      have hn : rest.length < n := Nat.lt_of_succ_lt_succ hlen
      rw [substLoop_succ, List.length_cons]
      refine substArms_ind (fun _ he => he) ?_ ?_ ?_ (skipEmptyOperands_suffix args)
      · exact fun r a hr ha => (ih _ _ _ _ _ (Nat.lt_of_le_of_lt hr.length_le hn) hI hA).step hr.length_le (ha M hM hA.len)
      · intro a ha
        have hp := (hA a ha).2.2 st hI
        split
        · rwa [‹pp _ _ = _›] at hp
        · rename_i e st' hpp
          obtain ⟨he, hI'⟩ : e.length ≤ M ∧ I st' := hp.of_ok hpp
          refine (ih _ _ _ _ _ hn hI' (argsOK_setExpanded hA he)).step (Nat.le_refl _) ?_
          simp only [List.length_append, List.length_reverse, length_setHeadFlags]
          omega
      · -- the content of `__VA_OPT__(…)` and the tokens after the `)` fit into the bound together
        intro c r r0 hc hr
        have hcr : c.length + r.length ≤ rest.length := by
          have h1 := hc.length_le
          have h2 := hr.length_le
          rw [List.length_append] at h1
          omega
        have hin := ih false st args c [] (by omega) hI hA
        split
        · rwa [‹substLoop _ _ _ _ _ _ _ _ = _›] at hin
        · rw [‹substLoop _ _ _ _ _ _ _ _ = _›] at hin
          refine (ih _ _ _ _ _ (by omega) hin.1 hin.2.1).imp fun v hv => ⟨hv.1, hv.2.1, ?_⟩
          have h1 := hv.2.2
          have h2 := hin.2.2
          have h3 : (c.length + r.length) * M ≤ rest.length * M := Nat.mul_le_mul_right _ hcr
          simp only [List.length_append, List.length_reverse, List.length_nil, Nat.zero_add, Nat.add_mul, Nat.succ_mul] at h1 h2 h3 ⊢
          omega

theorem subst_fuel (hM : 1 ≤ M) (st : St) (body : List Tok) (args : List MacroArg) (isObj : Bool)
    (hI : I st) (hA : ArgsOK pp I M args) :
    NoFuel (fun r => r.1.length ≤ body.length * M ∧ I r.2) (subst lx pp st body args isObj) :=
  ((substLoop_fuel lx pp I M hM _ isObj st args body [] (Nat.lt_succ_self _) hI hA).imp fun _ hv => ⟨by simpa using hv.2.2, hv.1⟩).map

end

end ChibiVerif.PP
