/-
Helper lemmas for C15_symbols_partial: functions.  What `parse` records in terms of the declarations
(`recorded`: the lemma form of C15_recorded), the Spec's `neededList` as a closure, the recorded graph against the
Spec's (`UnitOK.reach_iff`), "live ↔ needed" for defined functions, and the entry `emit_text` prints.
-/
import ChibiVerif.Lemmas.LinkageFinal
import ChibiVerif.Lemmas.LinkageDecls
import ChibiVerif.Lemmas.LinkageClosure
import ChibiVerif.Lemmas.LinkageObjSym
import ChibiVerif.Lemmas.LinkageFlags

namespace ChibiVerif.Linkage
open ChibiVerif.Spec.Linkage

variable [Rules]

/-- what `symbols_iff` assumes about the unit (built from `symbolsScope` by `unitOK_of`, Lemmas/LinkageSym.lean): it is
    `valid`, every object name is `ObjOK`, and it lies outside the regions of the two function-side findings whose rule is off -/
structure UnitOK (ds : List Decl) : Prop where
  valid : valid ds = true
  objs : ∀ x, x ∈ objNames ds → ObjOK ds x
  noFrozen : Rules.flagsFollow = true ∨ flagsFrozenDefRegion ds = false
  noDeadSL : Rules.ownedData = true ∨ deadStaticLocalVisibleRegion ds = false

section
variable {ds : List Decl} (u : UnitOK ds)
-- hidden hypothesis below: `u`: the unit is in the scope of `symbols_iff` (valid C, outside the regions of the findings whose rule is off)
include u

theorem UnitOK.ordered : refsOrdered ds [] [] = true := valid_ordered u.valid

theorem UnitOK.fnValid {f : Name} (hf : f ∈ fnNames ds) : fnValid (fnDecls ds f) = true := (valid_parts u.valid).1 f hf

theorem UnitOK.oneBody (f : Name) : ((fnDecls ds f).filter (fun d => d.body.isSome)).length ≤ 1 := by
  by_cases hf : f ∈ fnNames ds
  · have := u.fnValid hf
    simp only [Spec.Linkage.fnValid, Bool.and_eq_true, decide_eq_true_eq] at this
    exact this.1.1
  · rw [mem_fnNames, Classical.not_not] at hf
    rw [hf]; exact Nat.zero_le _

theorem UnitOK.disjoint {f : Name} (hf : f ∈ fnNames ds) : f ∉ objNames ds ∧ f ∉ blockExternNames ds :=
  (valid_parts u.valid).2.2.1 f hf

theorem UnitOK.class_flags {f : Name} (hf : f ∈ fnNames ds) (hdef : fnDefined (fnDecls ds f) = true) {S I : Bool}
    (hfl : fnFlags ds f = some (S, I)) : classOf S I = fnClass (fnDecls ds f) := by
  refine fnFlags_class (u.fnValid hf) ?_ hfl
  rcases u.noFrozen with h | h
  · exact Or.inl h
  · right
    unfold flagsFrozenDefRegion at h
    rw [List.any_eq_false] at h
    have h' := h f hf
    rw [hdef] at h'
    simpa using h'

theorem UnitOK.succ_closed {x y : Name} (hy : y ∈ succFns ds x) : y ∈ fnNames ds :=
  (refs_declared u.ordered).2.1 x y hy

theorem UnitOK.seeds_declared {x : Name} (hx : x ∈ dedup (alwaysEmitted ds ++ fileFnRefs ds)) : x ∈ fnNames ds := by
  rw [mem_dedup, List.mem_append] at hx
  exact hx.elim (fun hx => (List.mem_filter.mp hx).1) ((refs_declared u.ordered).1 x)

theorem UnitOK.mem_needed (f : Name) :
    f ∈ neededList ds ↔ ∃ r, (r ∈ alwaysEmitted ds ∨ r ∈ fileFnRefs ds) ∧ ReachS (succFns ds) r f := by
  unfold neededList
  rw [mem_closeRounds_iff (succFns ds) (fnNames ds) _ (fun _ _ _ hy => u.succ_closed hy) (fun x hx => u.seeds_declared hx)]
  constructor
  · rintro ⟨r, hr, h⟩
    rw [mem_dedup, List.mem_append] at hr
    exact ⟨r, hr, h⟩
  · rintro ⟨r, hr, h⟩
    exact ⟨r, by rw [mem_dedup, List.mem_append]; exact hr, h⟩

theorem UnitOK.allBodyRefs_succ (b : Name) : allBodyRefs ds b = succFns ds b := by
  rw [allBodyRefs_eq, flatMap_bodies_eq _ (u.oneBody b)]
  rfl

end

/-! ### what `parse` records, in terms of the declarations (lemma form of C15_recorded) -/

/-- the lemma form of C15_recorded (Props/C15.lean explains the four parts) -/
theorem recorded {ds : List Decl} {st : PState} (h : declAll {} ds = .ok st) (f : Name) :
    isFn st.globals f = (firstFlags ds f).isSome ∧
    refsOf st.globals f = allBodyRefs ds f ∧
    (f ∈ rootNames st.globals ↔
      ∃ stc inl, fnFlags ds f = some (stc, inl) ∧ (!(stc && inl) || fileRooted ds false f) = true) ∧
    (∀ o, findFunc st.globals f = some o → fnFlags ds f = some (o.isStatic, o.isInline)) := by
  have hT := T_parse h f
  have hn := (wf_declAll h).nodup
  have hflags : ∀ o, findFunc st.globals f = some o → T st.globals f = some (fview o) := by
    intro o ho; simp [T, ho]
  rw [isFn_eq_T, refsOf_eq_T, mem_rootNames_iff_T hn]
  rw [hT] at hflags ⊢
  obtain ⟨hnone, hsome⟩ := evolve_none ds f
  cases hff : fnFlags ds f with
  | none =>
    have hff1 : firstFlags ds f = none := by
      have := fnFlags_isSome ds f
      rw [hff] at this
      cases h : firstFlags ds f with
      | none => rfl
      | some _ => rw [h] at this; cases this
    rw [hnone hff1] at hflags ⊢
    refine ⟨by rw [hff1]; rfl, ?_, ?_, ?_⟩
    · rw [allBodyRefs_undeclared ds f hff1]; rfl
    · constructor
      · rintro ⟨v, hv, _⟩; cases hv
      · rintro ⟨_, _, hx, _⟩; cases hx
    · intro o ho; cases hflags o ho
  | some p =>
    obtain ⟨stc, inl⟩ := p
    obtain ⟨v', hv', hs, hi, hr, hroot⟩ := hsome stc inl hff
    have hff1 : (firstFlags ds f).isSome = true := by rw [← fnFlags_isSome, hff]; rfl
    rw [hv'] at hflags ⊢
    refine ⟨by rw [hff1]; rfl, ?_, ?_, ?_⟩
    · simp [hr]
    · constructor
      · rintro ⟨v, hv, hvr⟩
        cases hv
        exact ⟨stc, inl, rfl, by rw [← hroot]; exact hvr⟩
      · rintro ⟨a, b, hab, hcond⟩
        cases hab
        exact ⟨v', rfl, by rw [hroot]; exact hcond⟩
    · intro o ho
      have := hflags o ho
      simp only [Option.some.injEq] at this
      rw [← hs, ← hi, this]
      rfl

/-! ### live ↔ needed -/

section
variable {ds : List Decl} (u : UnitOK ds)
-- hidden hypothesis below: `u`: the unit is in the scope of `symbols_iff` (valid C, outside the regions of the findings whose rule is off)
include u

/-- the graph `parse` records is the Spec's: from a declared function the same functions are reached -/
theorem UnitOK.reach_iff {st : PState} (h : declAll {} ds = .ok st) {r x : Name} (hr : r ∈ fnNames ds) :
    Reach st.globals r x ↔ ReachS (succFns ds) r x := by
  have isfn : ∀ a, isFn st.globals a = true ↔ a ∈ fnNames ds := fun a => by
    rw [(recorded h a).1]; exact firstFlags_isSome
  have refs : ∀ b, refsOf st.globals b = succFns ds b := fun b => by
    rw [(recorded h b).2.1, u.allBodyRefs_succ]
  constructor
  · intro hreach
    induction hreach with
    | refl _ => exact ReachS.refl
    | step _ hm _ ih => exact ReachS.step ih (by rw [← refs]; exact hm)
  · intro hreach
    induction hreach with
    | refl => exact Reach.refl ((isfn r).mpr hr)
    | step _ hm ih => exact Reach.step ih (by rw [refs]; exact hm) ((isfn _).mpr (u.succ_closed hm))

omit u in
theorem fnFlags_of_declared {r : Name} (hr : r ∈ fnNames ds) : ∃ S I, fnFlags ds r = some (S, I) := by
  have h1 := firstFlags_isSome.mpr hr
  rw [← fnFlags_isSome] at h1
  cases h : fnFlags ds r with
  | none => rw [h] at h1; cases h1
  | some p => exact ⟨p.1, p.2, rfl⟩

/-- a seed of the Spec's closure is a root of chibicc's -/
theorem UnitOK.root_of_seed {r : Name} (h : r ∈ alwaysEmitted ds ∨ r ∈ fileFnRefs ds) :
    r ∈ fnNames ds ∧ ∃ stc inl, fnFlags ds r = some (stc, inl) ∧ (!(stc && inl) || fileRooted ds false r) = true := by
  have hr : r ∈ fnNames ds := u.seeds_declared (by rw [mem_dedup, List.mem_append]; exact h)
  refine ⟨hr, ?_⟩
  obtain ⟨S, I, hff⟩ := fnFlags_of_declared (ds := ds) hr
  refine ⟨S, I, hff, ?_⟩
  rcases h with h | h
  · have := (List.mem_filter.mp h).2
    simp only [Bool.and_eq_true] at this
    rw [← u.class_flags hr this.1 hff, classOf_ne_ifNeeded] at this
    rw [this.2]; rfl
  · rw [fileRooted_eq ds [] [] false r u.ordered (fun h => by cases h)]
    have : (fileFnRefs ds).contains r = true := by simpa using h
    rw [this]; simp

/-- a root of chibicc's closure that is defined is a seed of the Spec's -/
theorem UnitOK.seed_of_root {r : Name} {stc inl : Bool} (hff : fnFlags ds r = some (stc, inl))
    (hc : (!(stc && inl) || fileRooted ds false r) = true) (hdef : fnDefined (fnDecls ds r) = true) :
    r ∈ alwaysEmitted ds ∨ r ∈ fileFnRefs ds := by
  have hr : r ∈ fnNames ds := firstFlags_isSome.mp (by rw [← fnFlags_isSome, hff]; rfl)
  simp only [Bool.or_eq_true] at hc
  rcases hc with hc | hc
  · left
    unfold alwaysEmitted
    rw [List.mem_filter]
    refine ⟨hr, ?_⟩
    rw [hdef, Bool.true_and, ← u.class_flags hr hdef hff, classOf_ne_ifNeeded]
    exact hc
  · right
    rw [fileRooted_eq ds [] [] false r u.ordered (fun h => by cases h)] at hc
    simpa using hc

theorem UnitOK.live_iff_needed {st : PState} {gs1 gs : List Obj} (p : Parsed ds st gs1 gs) {f : Name}
    (hdef : fnDefined (fnDecls ds f) = true) : liveFn gs1 f = true ↔ f ∈ neededList ds := by
  rw [p.live, u.mem_needed]
  constructor
  · rintro ⟨r, hroot, hreach⟩
    obtain ⟨stc, inl, hff, hc⟩ := ((recorded p.hst r).2.2.1).mp hroot
    have hr : r ∈ fnNames ds := firstFlags_isSome.mp (by rw [← fnFlags_isSome, hff]; rfl)
    have hS := (u.reach_iff p.hst hr).mp hreach
    cases hdr : fnDefined (fnDecls ds r)
    · -- an undefined root has no successors: the path is empty, but f is defined
      have h0 : succFns ds r = [] := by
        unfold succFns; rw [fnBody_undefined hdr]; rfl
      have := reachS_of_no_succ h0 hS
      rw [this, hdr] at hdef; cases hdef
    · exact ⟨r, u.seed_of_root hff hc hdr, hS⟩
  · rintro ⟨r, hseed, hreach⟩
    obtain ⟨hr, stc, inl, hff, hc⟩ := u.root_of_seed hseed
    exact ⟨r, ((recorded p.hst r).2.2.1).mpr ⟨stc, inl, hff, hc⟩, (u.reach_iff p.hst hr).mpr hreach⟩

theorem UnitOK.always_needed {f : Name} (h : f ∈ alwaysEmitted ds) : f ∈ neededList ds :=
  (u.mem_needed f).mpr ⟨f, Or.inl h, ReachS.refl⟩

/-- **the entry of a function.**  For the function object of `f` in the result, `emit_text` prints exactly
    what the Spec's `fnSymbol` says when `f` is defined, and nothing when it is not. -/
theorem UnitOK.fn_entry {st : PState} {gs1 gs : List Obj} (p : Parsed ds st gs1 gs) {f : Name} {o0 : Obj}
    (h0 : findFunc st.globals f = some o0) :
    emitTextFn { o0 with isLive := liveFn gs1 f } =
      if fnDefined (fnDecls ds f) then
        (if (neededList ds).contains f then some ⟨.named f, if o0.isStatic then .local else .global, .text, none, 0⟩ else none)
      else none := by
  have hp := List.find?_some h0
  simp only [Bool.and_eq_true, beq_iff_eq] at hp
  have hdef := isDefinition_parse p.hst h0
  cases hD : fnDefined (fnDecls ds f)
  · simp [emitTextFn, hdef, hD]
  · have hl := u.live_iff_needed p hD
    simp only [if_true]
    by_cases hn : f ∈ neededList ds
    · have : (neededList ds).contains f = true := by simpa using hn
      rw [this]
      simp [emitTextFn, hdef, hD, hp.1, hp.2, hl.mpr hn, bindingOf]
    · have : (neededList ds).contains f = false := by simpa using hn
      rw [this]
      have hlf : liveFn gs1 f = false := by
        cases hlv : liveFn gs1 f
        · rfl
        · exact absurd (hl.mp hlv) hn
      simp [emitTextFn, hlf]

theorem UnitOK.fnSymbol_defined {st : PState} (hst : declAll {} ds = .ok st) {f : Name} {o0 : Obj}
    (h0 : findFunc st.globals f = some o0) (hD : fnDefined (fnDecls ds f) = true) :
    fnSymbol ds f =
      if (neededList ds).contains f then some ⟨.named f, if o0.isStatic then .local else .global, .text, none, 0⟩ else none := by
  have hff := (recorded hst f).2.2.2 o0 h0
  have hr : f ∈ fnNames ds := firstFlags_isSome.mp (by rw [← fnFlags_isSome, hff]; rfl)
  have hcls := u.class_flags hr hD hff
  unfold fnSymbol
  simp only [hD, if_true]
  rw [← hcls]
  -- a class other than localIfNeeded is always needed
  have halways : classOf o0.isStatic o0.isInline ≠ .localIfNeeded → (neededList ds).contains f = true := by
    intro hne
    have : f ∈ alwaysEmitted ds := by
      unfold alwaysEmitted
      rw [List.mem_filter]
      refine ⟨hr, ?_⟩
      rw [hD, ← hcls]
      simpa using hne
    simpa using u.always_needed this
  simp only [classOf] at halways ⊢
  generalize o0.isStatic = sst at halways ⊢
  generalize o0.isInline = inl at halways ⊢
  cases sst <;> cases inl
  · have : f ∈ neededList ds := by simpa using halways (by simp)
    simp [this]
  · have : f ∈ neededList ds := by simpa using halways (by simp)
    simp [this]
  · have : f ∈ neededList ds := by simpa using halways (by simp)
    simp [this]
  · simp

end

end ChibiVerif.Linkage
