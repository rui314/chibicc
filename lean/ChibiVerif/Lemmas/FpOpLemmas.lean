/-
C02: negation, floating constants, the arithmetic operators and the comparisons of the TY_FLOAT/TY_DOUBLE and TY_LDOUBLE
arms of `gen_expr` (Model/FpCodegen), executed on Model/FpMachine, for every start state and every `F : FpuSpec`.
-/
import ChibiVerif.Lemmas.FpCastLemmas

namespace ChibiVerif.Fp
open ChibiVerif.Asm ChibiVerif.X86 ChibiVerif.Spec.Fpu ChibiVerif.FpCodegen ChibiVerif.Spec.FpC11
open ChibiVerif.Spec.IntSpec ChibiVerif.Gen.CommonType ChibiVerif.Gen.CastTable

theorem neg_f32 (F : FpuSpec) (s : FState) : ∃ s', run F (instrsOf (negLines ty_float)) s = some s' ∧
    s'.xmm0.setWidth 32 = s.xmm0.setWidth 32 ^^^ (1#32 <<< 31) ∧ s'.st = s.st ∧ s'.cw = s.cw ∧ s'.x.get .rsp = s.x.get .rsp := by
  refine ⟨_, rfl, ?_, rfl, rfl, rfl⟩
  dsimp only
  simp [State.get, State.set, State.setW, State.getW, State.src, BitVec.setWidth_xor]

theorem neg_f64 (F : FpuSpec) (s : FState) : ∃ s', run F (instrsOf (negLines ty_double)) s = some s' ∧
    s'.xmm0 = s.xmm0 ^^^ (1#64 <<< 63) ∧ s'.st = s.st ∧ s'.cw = s.cw ∧ s'.x.get .rsp = s.x.get .rsp := by
  refine ⟨_, rfl, ?_, rfl, rfl, rfl⟩
  dsimp only
  simp [State.get, State.set, State.setW, State.getW, State.src]

theorem neg_f80 (F : FpuSpec) (s : FState) (v : BitVec 80) (rest : List (BitVec 80)) (h : s.st = v :: rest) :
    ∃ s', run F (instrsOf (negLines ty_ldouble)) s = some s' ∧
    s'.st = (v ^^^ (1#80 <<< 79)) :: rest ∧ s'.cw = s.cw ∧ s'.x.get .rsp = s.x.get .rsp := by
  obtain ⟨x, xmm0, xmm1, st, cw⟩ := s
  simp only at h; subst h
  exact ⟨_, rfl, by simp [F.fchs_spec], rfl, rfl⟩

/-! ### floating constants: the union punning of `ND_NUM`, for every bit pattern -/

theorem num_f32 (F : FpuSpec) (bits : BitVec 32) (s : FState) : ∃ s', run F (instrsOf (numF32 bits)) s = some s' ∧
    s'.xmm0.setWidth 32 = bits ∧ s'.st = s.st ∧ s'.cw = s.cw ∧ s'.x.get .rsp = s.x.get .rsp := by
  refine ⟨_, rfl, ?_, rfl, rfl, rfl⟩
  dsimp only
  simp [State.get, State.set, State.setW, State.src]

theorem num_f64 (F : FpuSpec) (bits : BitVec 64) (s : FState) : ∃ s', run F (instrsOf (numF64 bits)) s = some s' ∧
    s'.xmm0 = bits ∧ s'.st = s.st ∧ s'.cw = s.cw ∧ s'.x.get .rsp = s.x.get .rsp := by
  refine ⟨_, rfl, ?_, rfl, rfl, rfl⟩
  dsimp only
  simp [State.get, State.set, State.setW, State.src]

theorem num_f80 (F : FpuSpec) (bits : BitVec 80) (s : FState) : ∃ s', run F (instrsOf (numF80 bits)) s = some s' ∧
    s'.st = bits :: s.st ∧ s'.cw = s.cw ∧ s'.x.get .rsp = s.x.get .rsp := by
  obtain ⟨x, xmm0, xmm1, st, cw⟩ := s
  refine ⟨_, rfl, ?_, rfl, ?_⟩
  · dsimp only
    simp only [x86_norm]
    simp only [read80, BitVec.ofInt_natCast, BitVec.ofNat_toNat, BitVec.setWidth_eq]
    simp only [mem_norm]
    simp only [split16, split32, split64]
    have e : BitVec.setWidth 16 (BitVec.setWidth 32 (BitVec.setWidth 64 (bits >>> 64))) = BitVec.setWidth 16 (bits >>> 64) := by
      apply BitVec.eq_of_getLsbD_eq
      intro i hi
      simp [hi]
    rw [e, split80]
  · dsimp only
    simp only [x86_norm]

/-! ### + − × ÷ : operand order (lhs in %xmm0 / %st(1), rhs in %xmm1 / %st(0)) -/

theorem arith_f32 (F : FpuSpec) (op : FOp) (hop : op.isCmp = false) (s : FState) :
    ∃ s', run F (instrsOf (sseOp true op)) s = some s' ∧
      s'.xmm0.setWidth 32 = sseArith32 F op (s.xmm0.setWidth 32) (s.xmm1.setWidth 32) ∧
      s'.st = s.st ∧ s'.cw = s.cw ∧ s'.x.get .rsp = s.x.get .rsp := by
  cases op <;> simp [FOp.isCmp] at hop <;> exact ⟨_, rfl, setLow32_low _ _, rfl, rfl, rfl⟩

theorem arith_f64 (F : FpuSpec) (op : FOp) (hop : op.isCmp = false) (s : FState) :
    ∃ s', run F (instrsOf (sseOp false op)) s = some s' ∧
      s'.xmm0 = sseArith64 F op s.xmm0 s.xmm1 ∧
      s'.st = s.st ∧ s'.cw = s.cw ∧ s'.x.get .rsp = s.x.get .rsp := by
  cases op <;> simp [FOp.isCmp] at hop <;> exact ⟨_, rfl, rfl, rfl, rfl, rfl⟩

theorem arith_f80 (F : FpuSpec) (op : FOp) (hop : op.isCmp = false) (s : FState) (l r : BitVec 80) (rest : List (BitVec 80))
    (h : s.st = r :: l :: rest) :
    ∃ s', run F (instrsOf (x87Op op)) s = some s' ∧
      s'.st = x87Arith F s.cw op l r :: rest ∧ s'.cw = s.cw ∧ s'.x.get .rsp = s.x.get .rsp := by
  obtain ⟨x, xmm0, xmm1, st, cw⟩ := s
  simp only at h; subst h
  cases op <;> simp [FOp.isCmp] at hop <;> exact ⟨_, rfl, rfl, rfl, rfl⟩

/-! ### == != < <= : the compare instruction, the `setcc` lines, the widening of %al -/

theorem holds_swap_swap (op : CmpOp) (r : Rel) : op.holds r.swap.swap = op.holds r := by
  cases r <;> rfl

theorem cmp_f64 (F : FpuSpec) (op : FOp) (hop : op.isCmp = true) (s : FState) :
    ∃ s', run F (instrsOf (sseOp false op)) s = some s' ∧
      s'.x.get .rax = b2bv (op.cmpOp.holds (Val.cmp (F.val64 s.xmm0) (F.val64 s.xmm1))) := by
  obtain ⟨x, xmm0, xmm1, st, cw⟩ := s
  have hseq : instrsOf (sseOp false op) = ⟨"ucomisd", [.r "%xmm0", .r "%xmm1"]⟩ ::
      instrsOf (setccLines op ++ [ins2 "and" (.i 1) (.r "%al"), ins2 "movzb" (.r "%al") (.r "%rax")]) := by
    cases op <;> simp [FOp.isCmp] at hop <;> rfl
  simp only [hseq, run]
  rw [runFrom_step F _ _ _ _ rfl rfl rfl]
  obtain ⟨s', hrun, hrax⟩ := sse_tail F op hop (F.ucomisd xmm1 xmm0) ⟨x, xmm0, xmm1, st, cw⟩
  refine ⟨s', hrun, ?_⟩
  rw [hrax, F.ucomisd_spec, ← Val.cmp_swap]

theorem cmp_f32 (F : FpuSpec) (op : FOp) (hop : op.isCmp = true) (s : FState) :
    ∃ s', run F (instrsOf (sseOp true op)) s = some s' ∧
      s'.x.get .rax = b2bv (op.cmpOp.holds (Val.cmp (F.val32 (s.xmm0.setWidth 32)) (F.val32 (s.xmm1.setWidth 32)))) := by
  obtain ⟨x, xmm0, xmm1, st, cw⟩ := s
  have hseq : instrsOf (sseOp true op) = ⟨"ucomiss", [.r "%xmm0", .r "%xmm1"]⟩ ::
      instrsOf (setccLines op ++ [ins2 "and" (.i 1) (.r "%al"), ins2 "movzb" (.r "%al") (.r "%rax")]) := by
    cases op <;> simp [FOp.isCmp] at hop <;> rfl
  simp only [hseq, run]
  rw [runFrom_step F _ _ _ _ rfl rfl rfl]
  obtain ⟨s', hrun, hrax⟩ := sse_tail F op hop (F.ucomiss (xmm1.setWidth 32) (xmm0.setWidth 32)) ⟨x, xmm0, xmm1, st, cw⟩
  refine ⟨s', hrun, ?_⟩
  rw [hrax, F.ucomiss_spec, ← Val.cmp_swap]

theorem cmp_f80 (F : FpuSpec) (op : FOp) (hop : op.isCmp = true) (s : FState) (l r : BitVec 80) (rest : List (BitVec 80))
    (h : s.st = r :: l :: rest) :
    ∃ s', run F (instrsOf (x87Op op)) s = some s' ∧
      s'.x.get .rax = b2bv (op.cmpOp.holds (Val.cmp (F.val80 l) (F.val80 r))) := by
  obtain ⟨x, xmm0, xmm1, st, cw⟩ := s
  simp only at h; subst h
  have hseq : instrsOf (x87Op op) = ⟨"fcomip", []⟩ :: ⟨"fstp", [.r "%st(0)"]⟩ ::
      instrsOf (setccLines op ++ [ins2 "movzb" (.r "%al") (.r "%rax")]) := by
    cases op <;> simp [FOp.isCmp] at hop <;> rfl
  simp only [hseq, run]
  rw [runFrom_step F _ _ _ _ rfl rfl rfl, runFrom_step F _ _ _ _ rfl rfl rfl]
  obtain ⟨s', hrun, hrax⟩ := x87_tail F op hop (F.fcomi r l) ⟨x, xmm0, xmm1, rest, cw⟩
  refine ⟨s', hrun, ?_⟩
  rw [hrax, F.fcomi_spec, ← Val.cmp_swap]

theorem srcop_isCmp (op : SrcOp) (c : CmpOp) (hc : SrcOp.cmpOp op = some c) : op.node.1.isCmp = true := by
  cases op <;> simp [SrcOp.cmpOp] at hc <;> rfl

/-- the answer the node computes on the exchanged operands is the source operator's answer -/
theorem srcop_node (op : SrcOp) (c : CmpOp) (hc : SrcOp.cmpOp op = some c) (a b : Val) :
    (op.node.1.cmpOp.holds (if op.node.2 then Val.cmp b a else Val.cmp a b)) = c.holds (Val.cmp a b) := by
  cases op <;> simp [SrcOp.cmpOp] at hc <;> subst hc <;> simp [SrcOp.node, FOp.cmpOp]
  all_goals (rw [Val.cmp_swap b a]; cases Val.cmp a b <;> rfl)

/-! ### truth tests on values: `!e`, and the conditional jumps of `if`/`?:`/`&&`/`||`/loops -/

/-- `!e` for a floating `e` of any of the three types: 1 exactly for the two zeros (0 for a NaN) -/
theorem not_fp (F : FpuSpec) (t : ATy) (s : FState) (x : AVal) (v : Val) (hh : Holds t s x)
    (hv : FpLiteral.valOf F x = some v) :
    ∃ s', run F (instrsOf (cmpZero (descr t) ++ [ins1 "sete" (.r "%al"), ins2 "movzx" (.r "%al") (.r "%rax")])) s = some s' ∧
      s'.x.get .rax = b2bv v.isZero ∧ s'.st = stBelow t s ∧ s'.cw = s.cw ∧ s'.x.get .rsp = s.x.get .rsp := by
  obtain ⟨s1, r, hrun, htr, hst, hcw, hrsp⟩ := cmpZero_fp F t _ s x v hh hv
  obtain ⟨s', hrun', hrax, hst', hcw', hrsp'⟩ := truth_not F r s1
  exact ⟨s', hrun.trans hrun', by rw [hrax, htr, Bool.not_not], hst'.trans hst, hcw'.trans hcw, hrsp'.trans hrsp⟩

/-- the branches on a floating `e`: `cmp_zero` then `je` (taken iff `e` is a zero) / `jne` (taken iff it is not; a NaN is not) -/
theorem branch_fp (F : FpuSpec) (t : ATy) (s : FState) (l : String) (x : AVal) (v : Val) (hh : Holds t s x)
    (hv : FpLiteral.valOf F x = some v) :
    ∃ s', run F (instrsOf (cmpZero (descr t))) s = some s' ∧
      jumpOf ⟨"je", [.s l]⟩ s' = some (true, v.isZero, l) ∧ jumpOf ⟨"jne", [.s l]⟩ s' = some (true, !v.isZero, l) ∧
      s'.x.flagsValid = true ∧ s'.st = stBelow t s ∧ s'.cw = s.cw ∧ s'.x.get .rsp = s.x.get .rsp := by
  obtain ⟨s1, r, hrun, htr, hst, hcw, hrsp⟩ := cmpZero_fp F t [] s x v hh hv
  obtain ⟨s', hrun', hje, hjne, hfv, _, _, hst', hcw', hrsp'⟩ := truth_jcc F r s1 l
  rw [List.append_nil, List.append_nil] at hrun
  exact ⟨s', hrun.trans hrun', by rw [hje, htr, Bool.not_not], by rw [hjne, htr], hfv, hst'.trans hst, hcw'.trans hcw,
    hrsp'.trans hrsp⟩

end ChibiVerif.Fp
