/-
C03 × C01: the compare ladder of `switch` on the X86 model.

* `Window`, `rung_eq`, `rung_range`: the values of the promoted controlling type are one window of length 2^32 (2^64), in
  which conversion picks the representative of the `case` constant; so `cmp $c, %eax|%rax` sets ZF iff the value equals the
  converted constant, and the unsigned distance test `sub $lo; cmp $(hi - lo); jbe` decides membership in the converted
  range (negative constants, constants above 32 bits, `char` / `short` / `_Bool` controlling expressions compared in 32
  bits) — both from `window_range` (Lemmas/RangeWindow.lean).
* `caseCmp_run`, `caseTest_run`, `rungs_run`, `ladder_run`: the ladder of ND_SWITCH wherever it sits in a program with fresh labels
  (a 64-bit constant that is not a sign-extended imm32 goes through `%rdi` / `%rdx`); the rungs are tried in `case_next`
  order, so control reaches the label `pickCase` names, else `default`, else the break label (`ladderTgt`).
-/
import ChibiVerif.Lemmas.C03FunMachine
import ChibiVerif.Lemmas.C03FunCompile
import ChibiVerif.Lemmas.RangeWindow

namespace ChibiVerif.C03Fun
open ChibiVerif.Asm ChibiVerif.Spec.IntSpec ChibiVerif.C01 ChibiVerif.X86 ChibiVerif.X86J

/-- the values of `P` fit one window of length `M`, and converting to `P` picks the representative modulo `M` in it -/
def Window (P : ITy) (M : Int) : Prop :=
  P.max < P.min + M ∧ ∀ c, (P.min ≤ convert P c ∧ convert P c < P.min + M) ∧ convert P c % M = c % M

theorem window_i32 : Window .i32 4294967296 := by
  refine ⟨by decide, fun c => ?_⟩
  simp only [convert, wrap, ITy.min, ITy.signed, ITy.bits, Int.bmod_def, if_true, Nat.reduceSub, Nat.reducePow, Int.reducePow,
    Int.reduceNeg]
  omega

theorem window_u32 : Window .u32 4294967296 := by
  refine ⟨by decide, fun c => ?_⟩
  simp only [convert, wrap, ITy.min, ITy.signed, ITy.bits, Bool.false_eq_true, if_false, Nat.reducePow]
  omega

theorem window_i64 : Window .i64 18446744073709551616 := by
  refine ⟨by decide, fun c => ?_⟩
  simp only [convert, wrap, ITy.min, ITy.signed, ITy.bits, Int.bmod_def, if_true, Nat.reduceSub, Nat.reducePow, Int.reducePow,
    Int.reduceNeg]
  omega

theorem window_u64 : Window .u64 18446744073709551616 := by
  refine ⟨by decide, fun c => ?_⟩
  simp only [convert, wrap, ITy.min, ITy.signed, ITy.bits, Bool.false_eq_true, if_false, Nat.reducePow]
  omega

section rung
variable {n : Nat} {P : ITy} {M : Int} {x : BitVec n} {v : Int} (hM : M = (2 ^ n : Nat)) (hW : Window P M) (hv : P.inRange v)
  (hx : (x.toNat : Int) = v % M)
include hM hW hv hx

/-- `cmp $c, x` at the width `n` of the window sets ZF iff the value equals the constant converted to `P` -/
theorem rung_eq (c : Int) : (x - BitVec.ofInt n c == 0) = decide (v = convert P c) := by
  subst hM
  refine (sub_eq_zero_iff _ _).trans (decide_eq_decide.2 ?_)
  rw [eq_iff_toNatI, hx, BitVec.toNat_ofInt_int]
  exact RangeWindow.window_eq ⟨hv.1, Int.lt_of_le_of_lt hv.2 hW.1⟩ (hW.2 c).1 (hW.2 c).2

/-- the unsigned distance test `x - lo ≤ hi - lo` at width `n` decides `lo ≤ v ≤ hi` in `P`, for a range that is not empty there -/
theorem rung_range (lo hi : Int) (hle : convert P lo ≤ convert P hi) :
    decide ((x - BitVec.ofInt n lo).toNat ≤ (BitVec.ofInt n (hi - lo)).toNat) =
      decide (convert P lo ≤ v ∧ v ≤ convert P hi) := by
  subst hM
  apply decide_eq_decide.2
  rw [le_iff_toNatI, BitVec.toNat_sub_int, hx, BitVec.toNat_ofInt_int, BitVec.toNat_ofInt_int, ← Int.sub_emod]
  exact RangeWindow.window_range ⟨hv.1, Int.lt_of_le_of_lt hv.2 hW.1⟩ (hW.2 lo).1.1 (hW.2 hi).1.2 hle (hW.2 lo).2 (hW.2 hi).2

end rung

section repr
variable {t : ITy} {r : BitVec 64} {v : Int} (h : Represents t r v)
include h

/-- a 64-bit controlling expression is compared in `%rax` -/
theorem repr_wide (ht : t.size = 8) :
    Window (promote t) 18446744073709551616 ∧ (promote t).inRange v ∧ (r.toNat : Int) = v % 18446744073709551616 := by
  cases t with
  | i64 => exact ⟨window_i64, h.1, h.2⟩
  | u64 => exact ⟨window_u64, h.1, h.2⟩
  | _ => exact absurd ht (by decide)

/-- any other one (`char`, `short`, `_Bool` after promotion) in `%eax` -/
theorem repr_narrow (ht : t.size ≠ 8) :
    Window (promote t) 4294967296 ∧ (promote t).inRange v ∧ ((r.setWidth 32).toNat : Int) = v % 4294967296 := by
  rw [BitVec.toNat_setWidth]
  cases t with
  | i64 | u64 => exact absurd rfl ht
  | u32 => exact ⟨window_u32, h.1, h.2⟩
  | bool =>
    obtain ⟨⟨h0, h1⟩, hr⟩ := h
    have h0 : 0 ≤ v := h0
    have h1 : v ≤ 1 := h1
    refine ⟨window_i32, ⟨Int.le_trans (by decide) h0, Int.le_trans h1 (by decide)⟩, ?_⟩
    have hr : (r.toNat : Int) = v % 18446744073709551616 := hr
    omega
  | _ => exact ⟨window_i32, ⟨Int.le_trans (by decide) h.1.1, Int.le_trans h.1.2 (by decide)⟩, h.2⟩

end repr

theorem caseSel_eq (P : ITy) (c v : Int) : caseSel P c c v = decide (v = convert P c) := by
  unfold caseSel
  congr 1
  apply propext
  omega

/-- the comparison of one rung: the flags are defined, the condition of its jump holds iff the `case` selects `v`; memory,
    `%rsp`, `%rbp`, `%rax` unchanged -/
theorem caseCmp_run (t : ITy) (lo hi v : Int) (s : State) (h : Represents t (s.get .rax) v)
    (hle : convert (promote t) lo ≤ convert (promote t) hi) :
    ∃ s', X86.run (caseIns t lo hi) s = some s' ∧ s'.flagsValid = true ∧
      s'.cond (if lo = hi then .e else .be) = caseSel (promote t) lo hi v ∧ Same s s' ∧ s'.get .rax = s.get .rax := by
  by_cases h8 : t.size = 8
  · obtain ⟨hW, hv, hx⟩ := repr_wide h h8
    by_cases hlh : lo = hi
    · subst hlh
      rw [caseSel_eq, caseIns, if_pos rfl, if_pos rfl, if_pos h8]
      have key := rung_eq rfl hW hv hx lo
      by_cases hf : fits32 lo = true <;> simp only [hf] <;> exact ⟨_, rfl, rfl, key, ⟨rfl, rfl, rfl⟩, rfl⟩
    · unfold caseSel
      rw [caseIns, if_neg hlh, if_neg hlh, if_pos h8]
      have key := (cond_cmp s (s.get .rax - BitVec.ofInt 64 lo) (BitVec.ofInt 64 (toI64 (hi - lo))) (sf_ne_of_64 _ _) .be).trans
        ((BitVec.ofInt_bmod 64 (hi - lo)).symm ▸ rung_range rfl hW hv hx lo hi hle)
      by_cases hf : fits32 lo = true <;> by_cases hg : fits32 (toI64 (hi - lo)) = true <;> simp only [hf, hg] <;>
        exact ⟨_, rfl, rfl, key, ⟨rfl, rfl, rfl⟩, rfl⟩
  · obtain ⟨hW, hv, hx⟩ := repr_narrow h h8
    by_cases hlh : lo = hi
    · subst hlh
      rw [caseSel_eq, caseIns, if_pos rfl, if_pos rfl, if_neg h8]
      have key := rung_eq rfl hW hv hx lo
      rw [← BitVec.ofInt_bmod 32 lo] at key
      exact ⟨_, rfl, rfl, key, ⟨rfl, rfl, rfl⟩, rfl⟩
    · unfold caseSel
      rw [caseIns, if_neg hlh, if_neg hlh, if_neg h8]
      have key := (cond_cmp s ((s.get .rax).setWidth 32 - BitVec.ofInt 32 (toI32 lo)) (BitVec.ofInt 32 (toI32 (hi - lo))) (sf_ne_of_32 _ _) .be).trans
        ((BitVec.ofInt_bmod 32 lo).symm ▸ (BitVec.ofInt_bmod 32 (hi - lo)).symm ▸ rung_range rfl hW hv hx lo hi hle)
      refine ⟨_, rfl, rfl, ?_, ⟨rfl, rfl, rfl⟩, rfl⟩
      -- `%edi` is read back through the zero-extension a 32-bit write leaves in `%rdi`
      simpa [State.cond, State.flags, State.src, State.getW, State.setW, State.get, State.set, BitVec.usubOverflow] using key

theorem caseTest_run {q : List JI} (hn : (defs q).Nodup) (C : Nat) (t : ITy) (lo hi v : Int) (l pos tpos : Nat) (m : State)
    (hat : At q pos ((caseTest t lo hi l).map (enc C)))
    (ht : caseSel (promote t) lo hi v = true → q[tpos]? = some (.lbl (encL C (.s (.uniq l)))))
    (hle : convert (promote t) lo ≤ convert (promote t) hi)
    (hr : Represents t (m.get .rax) v) :
    ∃ m', Same m m' ∧ Represents t (m'.get .rax) v ∧
      Reach q (pos, m) (if caseSel (promote t) lo hi v = true then tpos else pos + (caseTest t lo hi l).length, m') := by
  obtain ⟨s', hrun, hfv, hz, hsame, hrax⟩ := caseCmp_run t lo hi v m hr hle
  rw [caseTest_eq] at hat ⊢
  rw [List.map_append, enc_ins, At_append, length_J] at hat
  have r1 := reach_of_exec (Exec.ins hat.1 hrun)
  have hj := hat.2.1
  refine ⟨s', hsame, by rw [hrax]; exact hr, r1.trans ?_⟩
  by_cases hv : caseSel (promote t) lo hi v = true
  · simp only [hv, if_true]
    exact jcc_taken hn hj (ht hv) hfv (by rw [hz]; exact hv)
  · simp only [hv, Bool.false_eq_true, if_false]
    have := jcc_fall hj hfv (by rw [hz]; simpa using hv)
    refine reach_to this ?_
    simp only [List.length_append, List.length_map, List.length_cons, List.length_nil]; omega

theorem rungs_run {q : List JI} (hn : (defs q).Nodup) (C : Nat) (t : ITy) (v : Int) (tpos : Nat) :
    ∀ (ents : List (Option (Int × Int) × Nat)) (pos : Nat) (m : State), At q pos ((rungs t ents).map (enc C)) →
      (∀ l, pickCase (promote t) v ents = some l → q[tpos]? = some (.lbl (encL C (.s (.uniq l))))) →
      (∀ lo hi l, (some (lo, hi), l) ∈ ents → convert (promote t) lo ≤ convert (promote t) hi) →
      Represents t (m.get .rax) v →
      ∃ m', Same m m' ∧ Represents t (m'.get .rax) v ∧
        Reach q (pos, m) (if (pickCase (promote t) v ents).isSome then tpos else pos + (rungs t ents).length, m') := by
  intro ents
  induction ents with
  | nil => intro pos m _ _ _ hr; exact ⟨m, Same.refl _, hr, by simpa [pickCase, rungs] using Reach.refl _ _⟩
  | cons x r ih =>
    obtain ⟨o, l⟩ := x
    cases o with
    | none =>
      intro pos m hat hp hne hr
      exact ih pos m hat hp (fun lo hi l' h' => hne lo hi l' (List.mem_cons_of_mem _ h')) hr
    | some cv =>
      obtain ⟨lo, hi⟩ := cv
      intro pos m hat hp hne hr
      have hne' : ∀ lo' hi' l', (some (lo', hi'), l') ∈ r → convert (promote t) lo' ≤ convert (promote t) hi' :=
        fun lo' hi' l' h' => hne lo' hi' l' (List.mem_cons_of_mem _ h')
      simp only [rungs, List.map_append] at hat
      rw [At_append, List.length_map] at hat
      cases hpr : pickCase (promote t) v r with
      | some l' =>
        have hp' : ∀ l0, pickCase (promote t) v r = some l0 → q[tpos]? = some (.lbl (encL C (.s (.uniq l0)))) := by
          intro l0 h0; exact hp l0 (by simp [pickCase, h0])
        obtain ⟨m', sm, hr', r1⟩ := ih pos m hat.1 hp' hne' hr
        refine ⟨m', sm, hr', ?_⟩
        simpa [pickCase, hpr] using r1
      | none =>
        obtain ⟨m1, sm1, hr1, r1⟩ := ih pos m hat.1 (by intro l0 h0; rw [hpr] at h0; cases h0) hne' hr
        simp only [hpr, Option.isSome_none, Bool.false_eq_true, if_false] at r1
        obtain ⟨m2, sm2, hr2, r2⟩ := caseTest_run hn C t lo hi v l _ tpos m1 hat.2
          (fun hv => hp l (by simp [pickCase, hpr, hv])) (hne lo hi l (List.mem_cons_self ..)) hr1
        refine ⟨m2, sm1.trans sm2, hr2, ?_⟩
        by_cases hv : caseSel (promote t) lo hi v = true
        · simp only [hv, if_true] at r2
          simpa [pickCase, hpr, hv] using r1.trans r2
        · simp only [hv, Bool.false_eq_true, if_false] at r2
          have := r1.trans r2
          simp only [pickCase, hpr, hv, if_false, Option.orElse, Option.isSome_none, Bool.false_eq_true, rungs,
            List.length_append]
          exact reach_to this (by omega)

/-- the label the whole ladder jumps to: that of the selected `case`, else of `default`, else the break label -/
def ladderTgt (P : ITy) (v : Int) (ents : List (Option (Int × Int) × Nat)) (brk : Nat) : Nat :=
  ((pickCase P v ents).orElse fun _ => lastDefault ents).getD brk

theorem ladder_run {q : List JI} (hn : (defs q).Nodup) (C : Nat) (t : ITy) (v : Int) (ents : List (Option (Int × Int) × Nat)) (brk pos tpos : Nat) (m : State)
    (hat : At q pos ((ladder t ents brk).map (enc C)))
    (ht : q[tpos]? = some (.lbl (encL C (.s (.uniq (ladderTgt (promote t) v ents brk))))))
    (hne : ∀ lo hi l, (some (lo, hi), l) ∈ ents → convert (promote t) lo ≤ convert (promote t) hi)
    (hr : Represents t (m.get .rax) v) : ∃ m', Same m m' ∧ Reach q (pos, m) (tpos, m') := by
  unfold ladder at hat
  rw [List.map_append, At_append, List.length_map] at hat
  obtain ⟨m', sm, _, r⟩ := rungs_run hn C t v tpos ents pos m hat.1 (fun l h => by rw [ladderTgt, h] at ht; exact ht) hne hr
  refine ⟨m', sm, ?_⟩
  have hat2 := hat.2
  cases hp : pickCase (promote t) v ents with
  | some l => simpa [hp] using r
  | none =>
    simp only [hp, Option.isSome_none, Bool.false_eq_true, if_false] at r
    simp only [ladderTgt, hp, Option.orElse] at ht
    cases hd : lastDefault ents with
    | some d =>
      simp only [hd, Option.getD_some, List.map_append, List.map_cons, List.map_nil, enc] at ht hat2
      exact r.trans (jmp_to hn hat2.1 ht m')
    | none =>
      simp only [hd, Option.getD_none, List.map_cons, List.map_nil, enc, List.nil_append] at ht hat2
      exact r.trans (jmp_to hn hat2.1 ht m')

theorem length_ladder (t : ITy) (ents : List (Option (Int × Int) × Nat)) (brk : Nat) :
    (ladder t ents brk).length = (rungs t ents).length + ((match lastDefault ents with | some _ => 1 | none => 0) + 1) := by
  unfold ladder
  cases lastDefault ents <;> simp

end ChibiVerif.C03Fun
