/-
C17 — `rehash` as an obligation of its own.

`Lemmas/HashMapLemmas.lean` proves what `rehash` establishes (`WF.rehash_spec`: invariant again, same
dictionary, no tombstone, `used` = number of live names, room for one insertion, the specified number of buckets) and defines the
independent specification of the new capacity, `IsRehashCap` (the first capacity in the doubling sequence that brings the load
below the low watermark), which `growCap` meets (`growCap_top_isRehashCap`).  Here: that specification determines the capacity
(`IsRehashCap.unique`, `same_iff`), and the model's two load-factor tests and its doubling step are the definitions the
translator regenerates from the text of `rehash()` / `get_or_insert_entry()` (`Gen/HashMapShapeGen.lean`).
-/
import ChibiVerif.Lemmas.HashMapLemmas
import ChibiVerif.Gen.HashMapShapeGen

namespace ChibiVerif.HashMap
open ChibiVerif.Gen.HashMap (INIT_SIZE HIGH_WATERMARK LOW_WATERMARK)
open ChibiVerif.Gen.HashMapShape (rehashGrowCond rehashGrowNext needRehash)

variable {α β : Type}

theorem eq_ok_of_toOption {ε γ : Type} {e : Except ε γ} {a : γ} (h : e.toOption = some a) :
    e = .ok a := by
  cases e with
  | error _ => simp [Except.toOption] at h
  | ok b => simp [Except.toOption] at h; rw [h]

theorem IsRehashCap.unique {n c a b : Nat} (ha : IsRehashCap n c a) (hb : IsRehashCap n c b) :
    a = b := by
  obtain ⟨e1, rfl, h1, m1⟩ := ha
  obtain ⟨e2, rfl, h2, m2⟩ := hb
  rcases Nat.lt_trichotomy e1 e2 with h | h | h
  · have := m2 e1 h; omega
  · rw [h]
  · have := m1 e2 h; omega

theorem IsRehashCap.same_iff {n c c' : Nat} (hc : IsRehashCap n c c') :
    c' = c ↔ n * 100 / c < LOW_WATERMARK := by
  constructor
  · intro e
    obtain ⟨_, _, h, _⟩ := hc
    rw [e] at h; exact h
  · intro hlt
    have : IsRehashCap n c c := ⟨0, by simp, hlt, fun e' he' => by omega⟩
    exact hc.unique this

set_option linter.unusedSectionVars false in
/-- one round of the model's `growCap` is the `while` of `rehash()` as the translator reads it:
    test `rehashGrowCond`, step `rehashGrowNext` -/
theorem growCap_succ_eq_translated (nkeys f cap : Nat) :
    HM.growCap nkeys (f + 1) cap =
      if rehashGrowCond nkeys cap = true then HM.growCap nkeys f (rehashGrowNext cap) else cap := by
  simp [HM.growCap, rehashGrowCond, rehashGrowNext]

/-- the model's load test before an insertion is the test of `get_or_insert_entry()` as the
    translator reads it -/
theorem needRehash_eq_model (used cap : Nat) :
    needRehash used cap = decide (used * 100 / cap ≥ HIGH_WATERMARK) := rfl

variable [DecidableEq α]

def tombCount (b : List (Slot α β)) : Nat :=
  b.countP (fun s => match s with | .tomb => true | _ => false)

theorem rehash_used_eq {h : α → Nat} {m m2 : HM α β} (e : HM.rehash h m = .ok m2) :
    m2.used = (HM.liveEntries m.buckets).length := by
  unfold HM.rehash at e
  simp only [bind, Except.bind, pure, Except.pure, throw, throwThe, MonadExceptOf.throw] at e
  split at e
  · cases e
  · split at e
    · cases e
    · split at e
      · cases e
      · rename_i r hr
        split at e
        · cases e
        · rename_i hu
          injection e with e
          subst e
          simpa using hu

set_option linter.unusedSectionVars false in
/-- a table without tombstones (every non-empty slot a live entry) has tombstone count 0 -/
theorem NoTomb.tombCount_eq_zero {m : HM α β} (hn : NoTomb m) : tombCount m.buckets = 0 := by
  unfold tombCount
  rw [List.countP_eq_zero]
  intro s hs
  obtain ⟨j, hj, hjs⟩ := List.mem_iff_getElem.1 hs
  have := hn j
  rw [slotAt_eq_getElem hj, hjs] at this
  cases s <;> simp_all

end ChibiVerif.HashMap
