/-
Sequence-level lemmas for C19: the scanning loop over a text made of self-lexing spellings
separated by blanks/newlines or by nothing where `need_space` says nothing is needed.
-/
import ChibiVerif.Lemmas.LexLemmas
import ChibiVerif.Model.PrintTokens

namespace ChibiVerif.Lex
open ChibiVerif.LexChar ChibiVerif.Gen.Lex

/-- the kind the scanner gives to a self-lexing spelling (`.punct` is a default for spellings that are no token; under
    `selfLexing` it is never taken) -/
def kindOf (a : List Nat) : Kind :=
  match lexStep a true false with
  | .tok t _ => t.kind
  | _ => .punct

theorem selfLexing_step (a : List Nat) (h : selfLexing a = true) :
    ∃ c a', a = c :: a' ∧ lexStep (c :: a') true false = .tok ⟨kindOf a, c :: a', true, false⟩ [] := by
  unfold selfLexing at h
  cases a with
  | nil => simp [lexStep] at h
  | cons c a' =>
    refine ⟨c, a', rfl, ?_⟩
    unfold kindOf
    cases hs : lexStep (c :: a') true false with
    | done => rw [hs] at h; cases h
    | skip r b p => rw [hs] at h; cases h
    | err e => rw [hs] at h; cases h
    | tok t r =>
      rw [hs] at h
      cases r with
      | cons x r' => cases h
      | nil =>
        simp only [beq_iff_eq] at h
        have inv := lexStep_tok_inv _ _ _ _ _ hs
        obtain ⟨k, x, b, p⟩ := t
        simp only at h inv ⊢
        have h1 := inv.bol
        have h2 := inv.sp
        simp only at h1 h2
        subst h; subst h1; subst h2
        rfl

theorem selfLexing_append (a rest : List Nat) (h : selfLexing a = true)
    (hf : ∀ c a', a = c :: a' → noFuse c a' rest) (bol sp : Bool) :
    lexStep (a ++ rest) bol sp = .tok ⟨kindOf a, a, bol, sp⟩ rest := by
  obtain ⟨c, a', rfl, hs⟩ := selfLexing_step a h
  exact lexStep_append c a' rest _ true false bol sp hs (hf c a' rfl)

/-- a separator as `print_tokens` writes them: blanks and newlines only -/
def isBlank (w : List Nat) : Bool := w.all (fun r => r == 32 || r == 10)

/-- `at_bol` / `has_space` after scanning the blank string `w` from the state `(bol, sp)` -/
def blankFlags : List Nat → Bool × Bool → Bool × Bool
  | [], f => f
  | r :: w, f => blankFlags w (if r == 10 then (true, false) else (f.1, true))

theorem isBlank_cons {r : Nat} {w : List Nat} (h : isBlank (r :: w) = true) : (r = 32 ∨ r = 10) ∧ isBlank w = true := by
  simpa [isBlank] using h

theorem lexStep_blank (r : Nat) (t : List Nat) (bol sp : Bool) (hr : r = 32 ∨ r = 10) :
    lexStep (r :: t) bol sp = .skip t (if r == 10 then (true, false) else (bol, true)).1
      (if r == 10 then (true, false) else (bol, true)).2 := by
  rcases hr with rfl | rfl <;> rfl

theorem lexLoop_blank (w : List Nat) (hw : isBlank w = true) : ∀ (n : Nat) (s : List Nat) (f : Bool × Bool),
    lexLoop (n + w.length) (w ++ s) f.1 f.2 = lexLoop n s (blankFlags w f).1 (blankFlags w f).2 := by
  induction w with
  | nil => intro n s f; rfl
  | cons r w ih =>
    intro n s f
    obtain ⟨hr, hw'⟩ := isBlank_cons hw
    rw [List.length_cons, ← Nat.add_assoc, List.cons_append, lexLoop, lexStep_blank r _ _ _ hr]
    exact ih hw' n s _

/-- (separator written before the spelling, spelling) -/
abbrev Item := List Nat × List Nat

/-- the text of a list of items: each separator followed by its spelling -/
def render : List Item → List Nat
  | [] => []
  | it :: r => it.1 ++ it.2 ++ render r

/-- every separator is blank, every spelling is self-lexing, and where the separator is empty `need_space` said
    that none is needed -/
def okItems : List Item → Prop
  | [] => True
  | it :: r => isBlank it.1 = true ∧ selfLexing it.2 = true ∧
      (match r with
        | [] => True
        | it2 :: _ => it2.1 = [] → needSpace it.2 it2.2 = false) ∧ okItems r

/-- the tokens `tokenize` produces for such a text, started with the flags `f` -/
def tokensOf (f : Bool × Bool) : List Item → List Tok
  | [] => []
  | it :: r => ⟨kindOf it.2, it.2, (blankFlags it.1 f).1, (blankFlags it.1 f).2⟩ :: tokensOf (false, false) r

/-- for every fuel above the length of the text (`lex` takes length + 1) -/
theorem lexLoop_items (items : List Item) : ∀ (w : List Nat) (f : Bool × Bool) (n : Nat),
    okItems items → isBlank w = true → (render items ++ w).length < n →
    lexLoop n (render items ++ w) f.1 f.2 = .ok (tokensOf f items) := by
  induction items with
  | nil =>
    intro w f n _ hw hn
    obtain ⟨m, rfl⟩ : ∃ m, n = (m + 1) + w.length := ⟨n - w.length - 1, by simp [render] at hn; omega⟩
    have := lexLoop_blank w hw (m + 1) [] f
    rw [List.append_nil] at this
    simp only [render, List.nil_append, tokensOf]
    rw [this]
    rfl
  | cons it r ih =>
    intro w f n hok hw hn
    obtain ⟨hs, ha, hnext, hr⟩ := hok
    have hfuse : ∀ c a', it.2 = c :: a' → noFuse c a' (render r ++ w) := by
      intro c a' hca
      cases r with
      | nil =>
        cases w with
        | nil => exact noFuse_nil c a'
        | cons x w' =>
          exact noFuse_blank c a' x _ (isBlank_cons hw).1
      | cons it2 r' =>
        obtain ⟨hs2, hb, _, _⟩ := hr
        simp only at hnext
        cases hs2e : it2.1 with
        | nil =>
          obtain ⟨cb, b', hb', _⟩ := selfLexing_step it2.2 hb
          have hns := hnext hs2e
          rw [hca, hb'] at hns
          simp only [render, hs2e, List.nil_append, hb', List.cons_append, List.append_assoc]
          exact noFuse_of_needSpace c a' cb b' _ hns
        | cons x s2' =>
          rw [hs2e] at hs2
          simp only [render, hs2e, List.cons_append, List.append_assoc]
          exact noFuse_blank c a' x _ (isBlank_cons hs2).1
    obtain ⟨c, a', hca, _⟩ := selfLexing_step it.2 ha
    -- the separator takes `it.1.length` iterations, the token one
    obtain ⟨m, rfl, hm⟩ : ∃ m, n = (m + 1) + it.1.length ∧ (render r ++ w).length < m := by
      -- the text is separator ++ spelling ++ rest, the spelling `c :: a'` has at least one character
      have hlen : it.1.length + (a'.length + 1 + (render r ++ w).length) < n := by
        simpa only [render, hca, List.length_append, List.length_cons, List.append_assoc] using hn
      exact ⟨n - it.1.length - 1, by omega, by omega⟩
    have hb := lexLoop_blank it.1 hs (m + 1) (it.2 ++ (render r ++ w)) f
    simp only [render, List.append_assoc]
    rw [hb, lexLoop, selfLexing_append it.2 (render r ++ w) ha hfuse]
    simp only
    rw [ih w (false, false) m hr hw hm]
    rfl

theorem lex_items (items : List Item) (w : List Nat) (hok : okItems items) (hw : isBlank w = true) :
    lex (render items ++ w) = .ok (tokensOf (true, false) items) :=
  lexLoop_items items w (true, false) _ hok hw (Nat.lt_succ_self _)

theorem tokensOf_text (f : Bool × Bool) (items : List Item) :
    (tokensOf f items).map (·.text) = items.map (·.2) := by
  induction items generalizing f with
  | nil => rfl
  | cons it r ih => simp [tokensOf, ih]

/-- the items a printer writes that puts `sep prev t` before the spelling of `t` (`print_tokens` is `sep := sepBefore`) -/
def itemsWith (sep : Option Tok → Tok → List Nat) (prev : Option Tok) : List Tok → List Item
  | [] => []
  | t :: ts => (sep prev t, t.text) :: itemsWith sep (some t) ts

theorem okItems_itemsWith (sep : Option Tok → Tok → List Nat)
    (hb : ∀ p t, isBlank (sep p t) = true)
    (hn : ∀ p t, sep (some p) t = [] → needSpace p.text t.text = false)
    (ts : List Tok) (h : ∀ t ∈ ts, selfLexing t.text = true) :
    ∀ prev, okItems (itemsWith sep prev ts) := by
  induction ts with
  | nil => intro prev; trivial
  | cons t ts ih =>
    intro prev
    refine ⟨hb prev t, h t (List.mem_cons_self ..), ?_,
      ih (fun x hx => h x (List.mem_cons_of_mem _ hx)) (some t)⟩
    cases ts with
    | nil => trivial
    | cons t2 ts' => exact fun h0 => hn t t2 h0

theorem itemsWith_text (sep : Option Tok → Tok → List Nat) (ts : List Tok) :
    ∀ prev, (itemsWith sep prev ts).map (·.2) = ts.map (·.text) := by
  induction ts with
  | nil => intro prev; rfl
  | cons t ts ih => intro prev; simp [itemsWith, ih]

theorem printFrom_render (prev : Option Tok) (ts : List Tok) :
    printFrom prev ts = render (itemsWith sepBefore prev ts) ++ [10] := by
  induction ts generalizing prev with
  | nil => rfl
  | cons t ts ih => simp [printFrom, itemsWith, render, ih]

theorem sepBefore_blank (prev : Option Tok) (t : Tok) : isBlank (sepBefore prev t) = true := by
  unfold sepBefore
  split
  · rfl
  · split
    · rfl
    · cases prev with
      | none => rfl
      | some p => simp only; split <;> rfl

theorem sepBefore_nil (p t : Tok) (h : sepBefore (some p) t = []) : needSpace p.text t.text = false := by
  unfold sepBefore at h
  cases hb : t.atBol <;> cases hs : t.hasSpace <;> cases hn : needSpace p.text t.text <;>
    simp [hb, hs, hn] at h ⊢

/-- the token list a second `tokenize` reads from the printed text -/
def relexed (ts : List Tok) : List Tok := tokensOf (true, false) (itemsWith sepBefore none ts)

theorem lex_printTokens (ts : List Tok) (h : ∀ t ∈ ts, selfLexing t.text = true) :
    lex (printTokens ts) = .ok (relexed ts) := by
  unfold printTokens relexed
  rw [printFrom_render]
  exact lex_items _ [10] (okItems_itemsWith sepBefore sepBefore_blank sepBefore_nil ts h none) rfl

theorem relexed_text (ts : List Tok) : (relexed ts).map (·.text) = ts.map (·.text) := by
  rw [relexed, tokensOf_text, itemsWith_text]

/-- the token read back after `p` prints the same separator, and has the same `at_bol` -/
theorem sepBefore_relex (p p' t : Tok) (k : Kind) (hp : p'.text = p.text) :
    sepBefore (some p') ⟨k, t.text, (blankFlags (sepBefore (some p) t) (false, false)).1,
      (blankFlags (sepBefore (some p) t) (false, false)).2⟩ = sepBefore (some p) t ∧
    (blankFlags (sepBefore (some p) t) (false, false)).1 = t.atBol := by
  cases hb : t.atBol <;> cases hs : t.hasSpace <;> cases hn : needSpace p.text t.text <;>
    simp [sepBefore, blankFlags, hb, hs, hn, hp]

theorem printFrom_relex (ts : List Tok) : ∀ (p p' : Tok), p'.text = p.text →
    printFrom (some p') (tokensOf (false, false) (itemsWith sepBefore (some p) ts)) = printFrom (some p) ts ∧
    (tokensOf (false, false) (itemsWith sepBefore (some p) ts)).map (·.atBol) = ts.map (·.atBol) := by
  induction ts with
  | nil => intro p p' _; exact ⟨rfl, rfl⟩
  | cons t ts ih =>
    intro p p' hp
    have hsep := sepBefore_relex p p' t (kindOf t.text) hp
    have hi := ih t ⟨kindOf t.text, t.text, (blankFlags (sepBefore (some p) t) (false, false)).1,
      (blankFlags (sepBefore (some p) t) (false, false)).2⟩ rfl
    simp only [itemsWith, tokensOf, printFrom, List.map_cons]
    rw [hsep.1, hi.1, hi.2, hsep.2]
    exact ⟨rfl, rfl⟩

/-- a test that reads only spelling and `at_bol` (`q`, given by hand) holds of all of one list iff of all of the other -/
theorem all_congr_of_maps {p : Tok → Bool} (q : List Nat → Bool → Bool) (hp : ∀ t, p t = q t.text t.atBol)
    (us ts : List Tok) (h1 : us.map (·.text) = ts.map (·.text)) (h2 : us.map (·.atBol) = ts.map (·.atBol)) :
    us.all p = ts.all p := by
  have key : ∀ l : List Tok, l.all p = ((l.map (·.text)).zip (l.map (·.atBol))).all fun x => q x.1 x.2 := fun l => by
    rw [List.zip_map', List.all_map]; exact congrArg _ (funext hp)
  rw [key, key, h1, h2]

end ChibiVerif.Lex
