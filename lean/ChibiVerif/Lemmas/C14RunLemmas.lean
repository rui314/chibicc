/-
C14, whole runs: `runCmd_spec` (what a run is) joined with `loop_lemma` (what the input loop leaves in the files).
`failed_cc1` gives the content of every path after a front end failed, `exit0_outputs` after exit status 0; the theorems of
Props/C14.lean about file contents are their cases.
-/
import ChibiVerif.Lemmas.DriverProcOutputs

namespace ChibiVerif.DriverProc

variable {P : Type} [DecidableEq P]

omit [DecidableEq P] in
theorem cc1Out_unit {cmd : Cmd P} {u : Input P} {p : P} (hk : effKind cmd.mode u.kind = .C) (h : cc1Out cmd u = some p) :
    isUnit cmd u = true ∧ p = unitOutput cmd u := by
  unfold cc1Out at h
  split at h
  · cases h
  · rename_i hd
    have hd' : cmd.depsOnly = false := by simpa using hd
    cases hm : cmd.mode <;> rw [hm] at hk <;> simp only [hm] at h
    · exact ⟨by simp [isUnit, hd', hm, hk, h], by simp [unitOutput, h]⟩
    · cases h; exact ⟨by simp [isUnit, hd', hm, hk], rfl⟩
    · cases h
    · cases h

/-- A cc1 that ended with a non-zero status ended the run; it belongs to a unit `u`, the
    units before it are complete, and every other path has the content it had before the run, with one exception: the
    path this cc1 writes directly (`cc1Out`) holds the complete translation of `u` when the failure was the late one
    (`Leaves.complete`).  `C14_no_partial_output` and `C14_late_dep_failure` are the two cases of the `if`. -/
theorem failed_cc1 (env : Env P) (cmd : Cmd P) (fs : FS P) (ts : List P) (S : Setup env cmd fs ts) (st : Status)
    (h : Event.wait .cc1 st ∈ (runCmd env cmd fs).1.log) (hbad : st.wait ≠ 0) :
    ∃ (pre : List (Input P)) (u : Input P) (post : List (Input P)),
      cmd.inputs = pre ++ u :: post ∧ effKind cmd.mode u.kind = .C ∧
      st = (env.sched .cc1 (cCount cmd pre)).status ∧
      (∀ v ∈ pre, isUnit cmd v = true →
        (runCmd env cmd fs).2.get (unitOutput cmd v) = some ⟨unitCls cmd, fs.origins v.path⟩) ∧
      (∀ p, (∀ v ∈ pre, isUnit cmd v = true → unitOutput cmd v ≠ p) →
        (runCmd env cmd fs).2.get p =
          if (env.sched .cc1 (cCount cmd pre)).leaves = .complete ∧ cc1Out cmd u = some p
          then some ⟨unitCls cmd, fs.origins u.path⟩ else fs.get p) ∧
      (∃ l c, (runCmd env cmd fs).1.log = l ++ [Event.wait .cc1 st] ++ c ∧ ∀ e ∈ c, Event.isCleanup e = true) := by
  obtain ⟨code, e, efs, -, h2, h4, hcr, hcase⟩ := runCmd_spec env cmd fs
  have hbadE : Event.bad (Event.wait Prog.cc1 st : Event P) = true := by simp [Event.bad, hbad]
  rw [h2] at h ⊢
  have hin : Event.wait Prog.cc1 st ∈ e.log := by
    simp only [List.mem_append, List.mem_map, List.mem_singleton] at h
    rcases h with (h | ⟨_, _, h⟩) | h
    · exact h
    · cases h
    · cases h
  rcases hcase with ⟨_, _, hnb⟩ | ⟨_, hd, l, b, hl, hlb, hb⟩
  · have := hnb _ hin; rw [hbadE] at this; cases this
  · have hbe : b = Event.wait Prog.cc1 st := by
      rw [hl] at hin
      rcases List.mem_append.mp hin with h | h
      · have := hlb _ h; rw [hbadE] at this; cases this
      · exact (List.mem_singleton.mp h).symm
    subst hbe
    have hlast : e.log.getLast? = some (Event.wait Prog.cc1 st) := by rw [hl]; simp
    -- rejected commands never run cc1
    rcases compile_cases cmd with ⟨why, hwhy⟩ | hcomp
    · exfalso
      rw [hwhy] at hd
      simp only [doActs, doAct] at hd
      cases hd
      simp [DState.emit, DState.exitWith, init] at hlast
    · have hloop := loop_lemma env cmd fs ts S cmd.inputs [] (init cmd, fs) (by simp) (loopInv_init cmd fs ts)
      simp only [totalTemps] at hloop
      rw [← hcomp, hd] at hloop
      obtain ⟨pre, u, post, y, hsplit, hI, hF⟩ := hloop st hlast
      obtain ⟨hk, hst, hts, hyt, hfr0⟩ := hF st hlast
      have hnc : y.1.nCc1 = cCount cmd pre := hI.ncc1
      have huin : u ∈ cmd.inputs := by rw [hsplit]; simp
      have hpre : ∀ v ∈ pre, v ∈ cmd.inputs := fun v hv => by rw [hsplit]; simp [hv]
      have hreq : ∀ v ∈ cmd.inputs, isUnit cmd v = true → unitOutput cmd v ∉ e.tmpfiles :=
        fun v hv hvu hm => S.notReq _ (hts _ hm) (unitOutput_requested hv hvu)
      have hupath := input_orig env cmd fs ts S pre u post hsplit y hI
      rw [hnc] at hst hfr0
      refine ⟨pre, u, post, hsplit, hk, hst, fun v hv hvu => ?_, fun p hp => ?_,
        l, e.tmpfiles.map Event.unlink ++ [Event.exit code], by rw [hl]; simp, fun x hx => ?_⟩
      · have hnt := hreq v (hpre v hv) hvu
        rw [h4, if_neg hnt, hfr0 _ hnt, if_neg]
        · exact hI.units v hv hvu
        · intro hc
          obtain ⟨hu, he⟩ := cc1Out_unit hk hc.2
          exact unit_out_distinct env cmd fs ts S pre u post hsplit hu v hv hvu he
      · rw [h4]
        by_cases hpt : p ∈ e.tmpfiles
        · rw [if_pos hpt, if_neg, S.absent p (hts p hpt)]
          intro hc
          obtain ⟨hu, he⟩ := cc1Out_unit hk hc.2
          exact hreq u huin hu (he ▸ hpt)
        · rw [if_neg hpt, hfr0 p hpt, hupath, hI.frame p (fun hy => hpt (hyt p hy)) hp]
      · simp only [List.mem_append, List.mem_map, List.mem_singleton] at hx
        rcases hx with ⟨_, _, rfl⟩ | rfl <;> rfl

theorem exit0_of_no_faults (env : Env P) (cmd : Cmd P) (fs : FS P) (ts : List P) (S : Setup env cmd fs ts)
    (hacc : Accepted cmd) (hnf : ∀ prog k, (env.sched prog k).status.wait = 0) :
    (runCmd env cmd fs).1.phase = .done 0 := by
  obtain ⟨code, e, efs, h1, -, -, -, hcase⟩ := runCmd_spec env cmd fs
  rw [h1]
  rcases hcase with ⟨rfl, -⟩ | ⟨-, -, l, b, -, -, hb⟩
  · rfl
  · exact (no_cause S hacc hnf hb).elim

/-- Exit status 0 means exactly the requested outputs, whatever the schedule: every per-unit output complete, the
    executable linked from all inputs in order, every other path as before.  `C14_success_outputs` is the case of a
    schedule without faults. -/
theorem exit0_outputs (env : Env P) (cmd : Cmd P) (fs : FS P) (ts : List P) (S : Setup env cmd fs ts) (hacc : Accepted cmd)
    (h0 : (runCmd env cmd fs).1.phase = .done 0) :
    (∀ u ∈ cmd.inputs, isUnit cmd u = true →
      (runCmd env cmd fs).2.get (unitOutput cmd u) = some ⟨unitCls cmd, fs.origins u.path⟩) ∧
    (cmd.mode = .link → cmd.depsOnly = false → (runCmd env cmd fs).2.get (cmd.out.getD cmd.aout) =
      some ⟨.exe, cmd.inputs.flatMap (fun u => fs.origins u.path)⟩) ∧
    (∀ p, p ∉ requested cmd → (runCmd env cmd fs).2.get p = fs.get p) := by
  obtain ⟨code, e, efs, h1, -, h4, hcr, hcase⟩ := runCmd_spec env cmd fs
  have hcomp := compile_accepted hacc
  rcases hcase with ⟨hc0, hd, _⟩ | ⟨hc1, _, _⟩
  · subst hc0
    have hloop := loop_lemma env cmd fs ts S cmd.inputs [] (init cmd, fs) (by simp) (loopInv_init cmd fs ts)
    simp only [totalTemps] at hloop
    rw [← hcomp, hd] at hloop
    obtain ⟨y, hI, htf, hfs⟩ := hloop
    simp only at htf hfs
    have hsub : ∀ t ∈ e.tmpfiles, t ∈ ts := fun t ht => by
      rw [htf, hI.tmps] at ht; exact List.mem_of_mem_take ht
    have hexe : cmd.mode = .link → cmd.depsOnly = false → cmd.out.getD cmd.aout ∈ requested cmd := by
      intro hm hd; simp [requested, hm, hd]
    refine ⟨?_, ?_, ?_⟩
    · intro u hu huu
      have hnt : unitOutput cmd u ∉ e.tmpfiles := fun hm => S.notReq _ (hsub _ hm) (unitOutput_requested hu huu)
      rw [h4, if_neg hnt, hfs]
      have : ¬ (cmd.mode = .link ∧ cmd.depsOnly = false ∧ y.1.ldArgs ≠ []) := fun h => isUnit_not_link huu h.1
      rw [if_neg this]
      exact hI.units u hu huu
    · intro hm hd
      have hnt : cmd.out.getD cmd.aout ∉ e.tmpfiles := fun h => S.notReq _ (hsub _ h) (hexe hm hd)
      have hld := hI.ldOrig ⟨hm, hd⟩
      have hne : y.1.ldArgs ≠ [] := by
        intro h0
        rw [h0] at hld
        simp only [List.map_nil] at hld
        exact hacc.1 (List.map_eq_nil_iff.mp hld.symm)
      rw [h4, if_neg hnt, hfs, if_pos ⟨hm, hd, hne⟩, FS.get_set_self]
      rw [List.flatMap_def, hld, ← List.flatMap_def]
    · intro p hp
      rw [h4]
      by_cases hpt : p ∈ e.tmpfiles
      · rw [if_pos hpt, S.absent p (hsub p hpt)]
      · rw [if_neg hpt, hfs]
        have hframe : y.2.get p = fs.get p := by
          apply hI.frame p (by rw [← htf]; exact hpt)
          intro u hu huu e'
          exact hp (by rw [← e']; exact unitOutput_requested hu huu)
        by_cases hl : cmd.mode = .link ∧ cmd.depsOnly = false ∧ y.1.ldArgs ≠ []
        · rw [if_pos hl, FS.get_set_ne _ _ (fun e' => hp (by rw [e']; exact hexe hl.1 hl.2.1))]
          exact hframe
        · rw [if_neg hl]; exact hframe
  · rw [h1, hc1] at h0; cases h0

end ChibiVerif.DriverProc
