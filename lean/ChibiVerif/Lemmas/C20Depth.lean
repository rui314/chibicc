/-
C20: `depth` (the code generator's count of 8-byte slots pushed) is unchanged by the code of every
node of every kind — control flow, statement expressions, calls, atomics, alloca included.

This is the invariant behind `assert(depth == 0)` in `emit_text` and behind the parity that
`push_args` uses to align the stack at a call.  It needs no semantics of the printed lines (only
the bookkeeping of the generator), so it reaches all 48 node kinds; the only side condition is
that the sizes of struct/union arguments of calls are not negative.

Here: the judgment `Dep` and its passage from and to `SemP`.  The induction over the tree is shared with the
count of parser labels (`DU`, Lemmas/C20TreeLabels.lean); `dexpr`, `daddr`, `dstmt` are read off there.
-/
import ChibiVerif.Lemmas.C20Lemmas

namespace ChibiVerif.Lemmas.C20
open ChibiVerif ChibiVerif.Codegen ChibiVerif.Effect ChibiVerif.Asm ChibiVerif.Ast ChibiVerif.C20Scope

/-- whenever `m` succeeds, `depth` has changed by `d` -/
def Dep (m : M α) (d : Int) : Prop :=
  ∀ (s : St) (a : α) (s' : St) (ls : List Line), m s = .ok (a, s', ls) → s'.depth = s.depth + d

theorem Dep.cast {m : M α} (h : Dep m d) (hd : d = d') : Dep m d' := by subst hd; exact h

theorem Dep.elim {m : M α} (h : Dep m d) {s : St} {a : α} {s' : St} {ls : List Line}
    (hm : m s = .ok (a, s', ls)) : s'.depth = s.depth + d := h s a s' ls hm

/-- the code predicate that holds of all code.  `SemP AnyCode m r x d` says no more than `Dep m d`, and says it for
    EVERY `r x` (`Dep.any`): so a rule or an arm lemma stated for all code predicates tells how `depth` moves without
    its hypotheses on the effects of the operands (the typing of the tree) ever having to be met -/
def AnyCode : CodeK := fun _ _ _ _ _ => True

instance : CodePred AnyCode := ⟨fun _ _ => trivial, fun _ _ => trivial⟩

theorem Dep_of_SemP {K : CodeK} {m : M α} (h : SemP K m r x d) : Dep m d := fun _ _ _ _ hm => (h.elim hm).2

theorem Dep.any {m : M α} (h : Dep m d) : SemP AnyCode m r x d := by
  unfold SemP
  exact fun s a s' ls hm => ⟨trivial, h s a s' ls hm⟩

theorem Dep_fail (msg : String) : Dep (fail msg : M α) d := Dep_of_SemP (Sem_fail (K := AnyCode) (r := 0) (x := 0) msg)

theorem Dep_emits (l : List Line) : Dep (emits l) 0 := by
  intro s a s' ls hm
  simp only [emits, Except.ok.injEq, Prod.mk.injEq] at hm
  rw [← hm.2.1]; simp

theorem Dep_bind {m : M α} {f : α → M β} (h1 : Dep m d1) (h2 : ∀ a, Dep (f a) d2) :
    Dep (m >>= f) (d1 + d2) :=
  Dep_of_SemP (Sem_bind (r1 := 0) (x1 := 0) (r2 := 0) (x2 := 0) h1.any fun a => (h2 a).any)

attribute [irreducible] Dep

end ChibiVerif.Lemmas.C20
