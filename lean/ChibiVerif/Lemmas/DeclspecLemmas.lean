/-
Helper lemmas for the `declspec` part of C08 (Props/C08.lean).

The loop of `declspec` is a finite automaton: its state is the counter, the accepted states are the keys of the
regenerated `switchTable` (plus the initial counter), a keyword whose new counter value is not a key ends the run with a
diagnostic.  All facts about it are obtained from *whole-table* `decide`s over (states × keywords), lifted to arbitrary
keyword sequences by induction:

* `run_swap`      — swapping two adjacent keywords does not change the outcome from any accepted state (`swap_table`)  ⇒
  `run_perm`        the outcome depends only on the multiset;
* `run_canon`     — the invariant `Canon`: every accepted run without a repeated `signed`/`unsigned` ends in a state whose
                    C11 multiset (`canonTable`) is a permutation of the keywords read  ⇒  nothing outside the C11 table is
                    accepted and no sequence of keywords wraps the 2-bit counters into a valid code;
* `run_collapse`  — a repeated `signed`/`unsigned` leaves a canonical state as it is (`counter |= …`).

Core Lean only.
-/
import ChibiVerif.Lemmas.C08Vocabulary
import ChibiVerif.Lemmas.ListLemmas

namespace ChibiVerif.Layout
open ChibiVerif.Gen.Declspec ChibiVerif.Spec.Layout

/-- initial state and every state the switch accepts -/
def states : List (Nat × TyName) := (initCounter, initTy) :: switchTable

theorem step_mem_states {c : Nat} {k : Kw} {s : Nat × TyName} (h : declspecStep c k = .ok s) : s ∈ states := by
  unfold declspecStep at h
  split at h
  · rename_i t ht
    cases h
    exact List.mem_cons_of_mem _ (List.lookup_mem ht)
  · cases h

theorem run_cons (s : Nat × TyName) (k : Kw) (ks : List Kw) :
    declspecRun s (k :: ks) = (match declspecStep s.1 k with
      | .ok s' => declspecRun s' ks
      | .error d => .error d) := rfl

theorem swap_table : ∀ s ∈ states, ∀ k1 ∈ Kw.all, ∀ k2 ∈ Kw.all,
    declspecRun s [k1, k2] = declspecRun s [k2, k1] := by
  decide +kernel

theorem Kw.mem_all (k : Kw) : k ∈ Kw.all := by cases k <;> decide

theorem run_append (s : Nat × TyName) (a b : List Kw) :
    declspecRun s (a ++ b) = (match declspecRun s a with
      | .ok s' => declspecRun s' b
      | .error d => .error d) := by
  induction a generalizing s with
  | nil => rfl
  | cons k ks ih =>
    simp only [List.cons_append, run_cons]
    cases declspecStep s.1 k with
    | ok s' => exact ih s'
    | error d => rfl

theorem run_swap {s : Nat × TyName} (hs : s ∈ states) (k1 k2 : Kw) (l : List Kw) :
    declspecRun s (k1 :: k2 :: l) = declspecRun s (k2 :: k1 :: l) := by
  have h := swap_table s hs k1 (Kw.mem_all k1) k2 (Kw.mem_all k2)
  have e1 : k1 :: k2 :: l = [k1, k2] ++ l := rfl
  have e2 : k2 :: k1 :: l = [k2, k1] ++ l := rfl
  rw [e1, e2, run_append, run_append, h]

theorem run_perm {l₁ l₂ : List Kw} (p : l₁.Perm l₂) : ∀ s ∈ states, declspecRun s l₁ = declspecRun s l₂ := by
  induction p with
  | nil => intro s _; rfl
  | cons k _ ih =>
    intro s _
    simp only [run_cons]
    cases h : declspecStep s.1 k with
    | ok s' => exact ih s' (step_mem_states h)
    | error d => rfl
  | swap k1 k2 l => intro s hs; exact run_swap hs k2 k1 l
  | trans _ _ ih1 ih2 => intro s hs; rw [ih1 s hs, ih2 s hs]

theorem decode_perm {l₁ l₂ : List Kw} (p : l₁.Perm l₂) : declspecDecode l₁ = declspecDecode l₂ := by
  unfold declspecDecode
  rw [run_perm p _ (List.mem_cons_self ..)]

theorem table_decoded : ∀ e ∈ c11Table, declspecDecode e.1 = .ok e.2 := by
  decide +kernel

theorem c11Type_some {ks : List Kw} {t : TyName} (h : c11Type ks = some t) :
    ∃ e ∈ c11Table, e.1.Perm ks ∧ e.2 = t := by
  unfold c11Type at h
  cases hf : c11Table.find? (fun e => e.1.isPerm ks) with
  | none => rw [hf] at h; cases h
  | some e =>
    rw [hf] at h
    refine ⟨e, List.mem_of_find?_eq_some hf, ?_, by simpa using h⟩
    have hb : e.1.isPerm ks = true := @List.find?_some _ (fun e => e.1.isPerm ks) e c11Table hf
    exact List.isPerm_iff.mp hb

/-- (counter, type, multiset) reached by each C11 entry, plus the initial state with the empty multiset -/
def canonTable : List (Nat × TyName × List Kw) :=
  (initCounter, initTy, []) :: c11Table.filterMap fun e =>
    match declspecRun (initCounter, initTy) e.1 with
    | .ok s => some (s.1, s.2, e.1)
    | .error _ => none

/-- one step from a canonical state stays canonical, with the keyword added to the multiset, unless the keyword is a
    `signed`/`unsigned` that the multiset already has (`counter |= …` is idempotent; excluded by `NoDupSign`) -/
def checkStep (p : Nat × TyName × List Kw) (k : Kw) : Bool :=
  match declspecStep p.1 k with
  | .error _ => true
  | .ok s' =>
    (isSign k && p.2.2.contains k) ||
      canonTable.any fun q => q.1 == s'.1 && q.2.1 == s'.2 && q.2.2.isPerm (p.2.2 ++ [k])

theorem step_table : ∀ p ∈ canonTable, ∀ k ∈ Kw.all, checkStep p k = true := by
  decide +kernel

/-- `s` is the state the loop is in after reading the keyword multiset `ks`, one of the tabulated ones -/
def Canon (s : Nat × TyName) (ks : List Kw) : Prop := ∃ p ∈ canonTable, p.1 = s.1 ∧ p.2.1 = s.2 ∧ p.2.2.Perm ks

theorem Canon.init : Canon (initCounter, initTy) [] :=
  ⟨(initCounter, initTy, []), List.mem_cons_self .., rfl, rfl, List.Perm.refl _⟩

theorem Canon.step {s s1 : Nat × TyName} {pre : List Kw} {k : Kw} (h : Canon s pre)
    (hstep : declspecStep s.1 k = .ok s1) (hnew : ¬ ((isSign k && pre.contains k) = true)) : Canon s1 (pre ++ [k]) := by
  obtain ⟨p, hpm, hp1, -, hpp⟩ := h
  have hc := step_table p hpm k (Kw.mem_all k)
  unfold checkStep at hc
  rw [hp1, hstep, hpp.contains_eq] at hc
  simp only [Bool.or_eq_true, List.any_eq_true] at hc
  rcases hc with hc | ⟨q, hqm, hq⟩
  · exact absurd hc hnew
  · simp only [Bool.and_eq_true, beq_iff_eq] at hq
    exact ⟨q, hqm, hq.1.1, hq.1.2, (List.isPerm_iff.mp hq.2).trans (List.Perm.append_right _ hpp)⟩

theorem run_canon (ks : List Kw) : ∀ (pre : List Kw) (s s' : Nat × TyName), Canon s pre →
    NoDupSign (pre ++ ks) → declspecRun s ks = .ok s' → Canon s' (pre ++ ks) := by
  induction ks with
  | nil =>
    intro pre s s' hp _ hrun
    cases hrun
    simpa using hp
  | cons k ks ih =>
    intro pre s s' hp hnd hrun
    rw [run_cons] at hrun
    cases hstep : declspecStep s.1 k with
    | error d => rw [hstep] at hrun; cases hrun
    | ok s1 =>
      rw [hstep] at hrun
      have hnot : ¬ ((isSign k && pre.contains k) = true) := by
        rw [Bool.and_eq_true, List.contains_iff_mem]
        rintro ⟨hsg, hmem⟩
        have hcnt : 2 ≤ (pre ++ k :: ks).count k := by
          rw [List.count_append, List.count_cons_self]
          have := List.count_pos_iff.mpr hmem
          omega
        unfold isSign at hsg
        simp only [Bool.or_eq_true, beq_iff_eq] at hsg
        rcases hsg with rfl | rfl
        · have := hnd.1; omega
        · have := hnd.2; omega
      simpa using ih (pre ++ [k]) s1 s' (hp.step hstep hnot) (by simpa using hnd) hrun

theorem canon_is_c11 : ∀ p ∈ canonTable, p.2.2 = [] ∨ ∃ e ∈ c11Table, e.1 = p.2.2 ∧ e.2 = p.2.1 := by
  decide +kernel

theorem c11_functional : ∀ e₁ ∈ c11Table, ∀ e₂ ∈ c11Table, e₁.1.isPerm e₂.1 = true → e₁.2 = e₂.2 := by
  decide +kernel

theorem c11Type_of_perm {ks : List Kw} {e : List Kw × TyName} (he : e ∈ c11Table) (hp : e.1.Perm ks) :
    c11Type ks = some e.2 := by
  unfold c11Type
  cases hf : c11Table.find? (fun e => e.1.isPerm ks) with
  | none =>
    have := List.find?_eq_none.mp hf e he
    simp [List.isPerm_iff.mpr hp] at this
  | some e' =>
    have hb : e'.1.isPerm ks = true := @List.find?_some _ (fun e => e.1.isPerm ks) e' c11Table hf
    have h1 : e'.1.Perm ks := List.isPerm_iff.mp hb
    have h2 := c11_functional e' (List.mem_of_find?_eq_some hf) e he (List.isPerm_iff.mpr (h1.trans hp.symm))
    simp [h2]

theorem accepted_is_c11 {ks : List Kw} {t : TyName} (hne : ks ≠ []) (hnd : NoDupSign ks)
    (h : declspecDecode ks = .ok t) : c11Type ks = some t := by
  unfold declspecDecode at h
  cases hrun : declspecRun (initCounter, initTy) ks with
  | error d => rw [hrun] at h; cases h
  | ok s =>
    rw [hrun] at h
    have ht : s.2 = t := by cases h; rfl
    obtain ⟨p, hpm, _, hp2, hpp⟩ := run_canon ks [] (initCounter, initTy) s Canon.init (by simpa using hnd) hrun
    simp only [List.nil_append] at hpp
    rcases canon_is_c11 p hpm with hnil | ⟨e, hem, he1, he2⟩
    · rw [hnil] at hpp
      exact absurd hpp.nil_eq.symm hne
    · have := c11Type_of_perm hem (he1 ▸ hpp)
      rw [this, he2, hp2, ht]

theorem idem_table : ∀ p ∈ canonTable, ∀ k ∈ Kw.all, (isSign k && p.2.2.contains k) = true →
    declspecStep p.1 k = .ok (p.1, p.2.1) := by
  decide +kernel

theorem Canon.idem {s : Nat × TyName} {pre : List Kw} {k : Kw} (h : Canon s pre)
    (hc : (isSign k && pre.contains k) = true) : declspecStep s.1 k = .ok s := by
  obtain ⟨p, hpm, hp1, hp2, hpp⟩ := h
  rw [← hp1, idem_table p hpm k (Kw.mem_all k) (by rw [hpp.contains_eq]; exact hc), hp1, hp2]

theorem noDup_snoc {seen : List Kw} {k : Kw} (h : NoDupSign seen) (hc : ¬ ((isSign k && seen.contains k) = true)) :
    NoDupSign (seen ++ [k]) := by
  unfold NoDupSign at h ⊢
  simp only [List.count_append, List.count_cons, List.count_nil]
  by_cases hs : isSign k = true
  · -- a `signed`/`unsigned` that `seen` does not have yet: its own count goes from 0 to 1, the other count stays
    have h0 : seen.count k = 0 := List.count_eq_zero.mpr (by simpa [hs] using hc)
    unfold isSign at hs
    simp only [Bool.or_eq_true, beq_iff_eq] at hs
    rcases hs with rfl | rfl
    · simp only [beq_self_eq_true, if_true, show (Kw.signed == Kw.unsigned) = false from rfl, Bool.false_eq_true, if_false]
      omega
    · simp only [beq_self_eq_true, if_true, show (Kw.unsigned == Kw.signed) = false from rfl, Bool.false_eq_true, if_false]
      omega
  · -- any other keyword is counted by neither
    unfold isSign at hs
    simp only [Bool.or_eq_true, beq_iff_eq, not_or] at hs
    have h1 : (k == Kw.signed) = false := by simpa using hs.1
    have h2 : (k == Kw.unsigned) = false := by simpa using hs.2
    simp only [h1, h2, Bool.false_eq_true, if_false]
    exact h

theorem noDup_collapseFrom (ks : List Kw) : ∀ seen, NoDupSign seen → NoDupSign (seen ++ collapseFrom seen ks) := by
  induction ks with
  | nil => intro seen h; simpa [collapseFrom] using h
  | cons k ks ih =>
    intro seen h
    unfold collapseFrom
    split
    · exact ih seen h
    · rename_i hc
      simpa using ih (seen ++ [k]) (noDup_snoc h hc)

theorem run_collapse (ks : List Kw) : ∀ (seen : List Kw) (s : Nat × TyName), Canon s seen → NoDupSign seen →
    declspecRun s ks = declspecRun s (collapseFrom seen ks) := by
  induction ks with
  | nil => intro seen s _ _; rfl
  | cons k ks ih =>
    intro seen s hp hnd
    unfold collapseFrom
    split
    · rename_i hc
      rw [run_cons, hp.idem hc]
      exact ih seen s hp hnd
    · rename_i hc
      rw [run_cons, run_cons]
      cases hstep : declspecStep s.1 k with
      | error d => rfl
      | ok s1 => exact ih (seen ++ [k]) s1 (hp.step hstep hc) (noDup_snoc hnd hc)

theorem decode_collapse (ks : List Kw) : declspecDecode ks = declspecDecode (collapse ks) := by
  unfold declspecDecode collapse
  rw [run_collapse ks [] (initCounter, initTy) Canon.init (by decide)]

theorem noDup_collapse (ks : List Kw) : NoDupSign (collapse ks) := by
  have := noDup_collapseFrom ks [] (by decide)
  simpa [collapse] using this

theorem collapse_ne_nil {ks : List Kw} (h : ks ≠ []) : collapse ks ≠ [] := by
  cases ks with
  | nil => exact absurd rfl h
  | cons k ks =>
    unfold collapse collapseFrom
    simp

end ChibiVerif.Layout
