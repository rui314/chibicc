/-
Helper lemmas for C06_va_partial: from a va_area that holds the psABI state after the named parameters (CallConvLemmas
`vaInit_eq`), the three `va_arg` walkers follow the psABI's placement argument by argument.
-/
import ChibiVerif.Lemmas.PsABILemmas

namespace ChibiVerif.CallConv
open ChibiVerif.Spec.PsABI
open ChibiVerif.Spec.CallRegions
open ChibiVerif.Gen.Templates (GP_MAX FP_MAX)

theorem vaWalk_cons (st : VaState) (t : ATy) (ts : List ATy) :
    vaWalk st (t :: ts) = (vaArg st t).2 :: vaWalk (vaArg st t).1 ts := rfl

/-- from an 8-aligned base both walks advance by the size rounded up to 8 -/
theorem roundUp8_add (p sz : Nat) (h : p % 8 = 0) : (p + sz + 7) / 8 * 8 = p + roundUp sz 8 ∧ roundUp p 8 = p ∧
    (p + roundUp sz 8) % 8 = 0 := by
  simp only [roundUp]; omega

/-- `__va_arg_mem` against the psABI's stack placement: from an 8-aligned overflow_arg_area both align to 16 exactly for
    16-aligned types, and both advance by the size in 8-byte slots -/
theorem va_arg_mem (t : ATy) (g f off : Nat) (hg : g ≤ 6) (hf : f ≤ 8) (h8 : off % 8 = 0) (hal : t.align ≤ 8 ∨ t.align = 16) :
    (onStack (g, f, off) t).1.1 ≤ 6 ∧ (onStack (g, f, off) t).1.2.1 ≤ 8 ∧ (onStack (g, f, off) t).1.2.2 % 8 = 0 ∧
    (vaArgMem ⟨8 * g, 48 + 16 * f, off⟩ t.size t.align).1
      = ⟨8 * (onStack (g, f, off) t).1.1, 48 + 16 * (onStack (g, f, off) t).1.2.1, (onStack (g, f, off) t).1.2.2⟩ ∧
    some (vaArgMem ⟨8 * g, 48 + 16 * f, off⟩ t.size t.align).2 = vaLoc (onStack (g, f, off) t).2 := by
  simp only [vaArgMem, onStack, vaLoc]
  rcases hal with h | h
  · obtain ⟨e1, e2, e3⟩ := roundUp8_add off t.size h8
    rw [Nat.max_eq_left h, if_neg (by omega), e1, e2]
    exact ⟨hg, hf, e3, rfl, rfl⟩
  · have hp : roundUp off 16 % 8 = 0 ∧ (off + 15) / 16 * 16 = roundUp off 16 := by simp only [roundUp]; omega
    obtain ⟨e1, _, e3⟩ := roundUp8_add (roundUp off 16) t.size hp.1
    rw [h, show max 8 16 = 16 from rfl, if_pos (by decide), hp.2, e1]
    exact ⟨hg, hf, e3, rfl, rfl⟩
theorem classify_va (t : ATy) (hok : vaArgOk t = true) : classify t = chibiClasses t := by
  cases t with
  | agg u sz al ms =>
    simp only [vaArgOk, Bool.and_eq_true, decide_eq_true_eq] at hok
    rw [classify_big hok.1, chibiClasses, if_neg (by omega)]
  | _ => rfl

theorem va_arg_step (t : ATy) (g f off : Nat) (hg : g ≤ 6) (hf : f ≤ 8) (h8 : off % 8 = 0) (hok : vaArgOk t = true) :
    (assignStep (g, f, off) t).1.1 ≤ 6 ∧ (assignStep (g, f, off) t).1.2.1 ≤ 8 ∧ (assignStep (g, f, off) t).1.2.2 % 8 = 0 ∧
    (vaArg { gpOffset := 8 * g, fpOffset := 48 + 16 * f, overflow := off } t).1
      = { gpOffset := 8 * (assignStep (g, f, off) t).1.1, fpOffset := 48 + 16 * (assignStep (g, f, off) t).1.2.1,
          overflow := (assignStep (g, f, off) t).1.2.2 } ∧
    some (vaArg { gpOffset := 8 * g, fpOffset := 48 + 16 * f, overflow := off } t).2 = vaLoc (assignStep (g, f, off) t).2 := by
  have hmem := va_arg_mem t g f off hg hf h8
  rw [assignStep_alloc, classify_va t hok]
  cases t with
  | int sz u b =>
    simp only [vaArgOk, Bool.or_eq_true, beq_iff_eq] at hok
    rw [alloc_int sz u b g f hf]
    by_cases h : g < 6
    · have c2 : ¬ 8 * g ≥ 48 := by omega
      simp only [h, vaArg, regClass, c2, if_true, if_false, vaLoc]
      exact ⟨h, hf, h8, rfl, trivial⟩
    · simp only [h, if_false, vaArg, regClass]; rw [if_pos (by omega)]
      exact hmem (by simp only [ATy.align]; omega)
  | dbl =>
    rw [alloc_flt _ (.inr rfl) g f hg]
    by_cases h : f < 8
    · have c2 : ¬ 48 + 16 * f ≥ 176 := by omega
      simp only [h, vaArg, regClass, c2, if_true, if_false, vaLoc]
      exact ⟨hg, h, h8, rfl, trivial⟩
    · simp only [h, if_false, vaArg, regClass]; rw [if_pos (by omega)]; exact hmem (.inl (Nat.le_refl 8))
  | ldbl => exact hmem (.inr rfl)
  | agg u sz al ms =>
    simp only [vaArgOk, Bool.and_eq_true, Bool.or_eq_true, decide_eq_true_eq] at hok
    rw [chibiClasses, if_neg (by omega)]; exact hmem hok.2
  | _ => simp [vaArgOk] at hok

/-- **every `va_arg` finds its argument where the psABI put it**, by induction over the variadic arguments with
    (gp_offset, fp_offset, overflow_arg_area) ~ (INTEGER registers used, SSE registers used, stack bytes used) as invariant -/
theorem va_walk (ts : List ATy) : ∀ (g f off : Nat), g ≤ 6 → f ≤ 8 → off % 8 = 0 → ts.all vaArgOk = true →
    (vaWalk { gpOffset := 8 * g, fpOffset := 48 + 16 * f, overflow := off } ts).map some
      = (assignLoop (g, f, off) ts).2.map vaLoc := by
  induction ts with
  | nil => intro _ _ _ _ _ _ _; rfl
  | cons t ts ih =>
    intro g f off hg hf h8 hok
    simp only [List.all_cons, Bool.and_eq_true] at hok
    obtain ⟨h1, h2, h3, h4, h5⟩ := va_arg_step t g f off hg hf h8 hok.1
    rw [vaWalk_cons, assignLoop_cons]
    simp only [List.map_cons]
    rw [h5, h4]
    rw [ih _ _ _ h1 h2 h3 hok.2]

theorem assignLoop_drop (ts : List ATy) : ∀ (n : Nat) (st : Nat × Nat × Nat),
    (assignLoop st ts).2.drop n = (assignLoop (assignLoop st (ts.take n)).1 (ts.drop n)).2 := by
  induction ts with
  | nil => intro n st; simp [assignLoop]
  | cons t ts ih =>
    intro n st
    cases n with
    | zero => rfl
    | succ n => simp only [List.take_succ_cons, List.drop_succ_cons, assignLoop_cons, ih]

end ChibiVerif.CallConv
