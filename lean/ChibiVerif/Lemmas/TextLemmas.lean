/-
The phases of Model/Text.lean one by one, against the phase 1-2 wording of C11 5.1.1.2 in Spec/LiteralsSpec.lean.
`canonicalize_newline` and `remove_backslash_newline` enter through their step equations (`canon_isCanon`, `rbn_isRbn`:
instances of Lemmas/TextPhase.lean, where the facts that need no Spec stand); `convert_universal_chars` through
`cuc_other`, `cuc_ucn_step`, `cuc_bsl`, `cuc_bsl_end` and `cuc_induct`; they rest on `cuc_cons`, which needs the coarse view
`ucnStep_cases` once, for the fuel (`ucnStep_length`); after them no proof speaks of `ucnStep` or the fuel.
In lemma names here and in the files that build on this one: `canon` = `canonicalizeNewline`, `rbn` / `splice` =
`removeBackslashNewline`, `cuc` = `convertUniversalChars`, `ruc` = `readUniversalChar`, `efn` = `ensureFinalNewline`.
-/
import ChibiVerif.Model.Text
import ChibiVerif.Spec.LiteralsSpec
import ChibiVerif.Lemmas.LiteralsLemmas
import ChibiVerif.Lemmas.TextPhase

namespace ChibiVerif.Lemmas.Text
open ChibiVerif.Text
open ChibiVerif.Gen.Literals
open ChibiVerif.Spec.Literals
open ChibiVerif.Literals (Byte isXDigit fromHex isDigit)
open ChibiVerif.Lemmas.Literals
open ChibiVerif.Lemmas.TextPhase

theorem cr_ne_lf : CR ≠ LF := by decide
theorem lf_ne_cr : LF ≠ CR := by decide

theorem canon_isCanon : IsCanon CR LF canonicalizeNewline where
  ne := cr_ne_lf
  nil := rfl
  crlf t := by simp [canonicalizeNewline]
  lone t h := by
    cases t with
    | nil => simp [canonicalizeNewline]
    | cons b r =>
      have : b ≠ LF := by simpa using h
      simp [canonicalizeNewline, this]
  other a t h := by cases t <;> simp [canonicalizeNewline, h]

theorem canon_lines : ∀ t : List Byte, splitOn LF (canonicalizeNewline t) = splitLines CR LF t := by
  have h := canon_isCanon
  refine canon_induct CR LF rfl (fun t ih => ?_) (fun t hl ih => ?_) (fun a t ha ih => ?_)
  · rw [h.crlf, ← show [] :: splitLines CR LF t = splitLines CR LF (CR :: LF :: t) by simp [splitLines], ← ih]
    simp [splitOn]
  · rw [h.lone t hl]
    cases t with
    | nil => simp [canonicalizeNewline, splitOn, splitLines]
    | cons b r =>
      have hb : b ≠ LF := by simpa using hl
      simp [splitOn, splitLines, hb, ← ih]
  · rw [h.other a t ha]
    cases t with
    | nil => by_cases h2 : a = LF <;> simp [canonicalizeNewline, splitOn, splitLines, ha, h2, consLine]
    | cons b r =>
      by_cases h2 : a = LF
      · subst h2; simp [splitOn, splitLines, lf_ne_cr, ← ih]
      · simp [splitOn, splitLines, ha, h2, ← ih]

theorem lf_ne_bsl : LF ≠ BSL := by decide

theorem rbn_isRbn : IsRbn BSL LF removeBackslashNewlineAux where
  ne := lf_ne_bsl
  nil n := by simp [removeBackslashNewlineAux]
  splice t n := by simp [removeBackslashNewlineAux]
  newline t n := by cases t <;> simp [removeBackslashNewlineAux, lf_ne_bsl]
  other a t n h1 h2 := by
    cases t with
    | nil => simp [removeBackslashNewlineAux]
    | cons b r =>
      have : ¬ (a = BSL ∧ b = LF) := by simpa using h2
      simp [removeBackslashNewlineAux, this, h1]

theorem unsplice_cons_splice (t : List Byte) : unsplice BSL LF (BSL :: LF :: t) = unsplice BSL LF t := by simp [unsplice]

theorem unsplice_cons_other (a : Byte) (t : List Byte) (hs : ¬ (a = BSL ∧ t.head? = some LF)) :
    unsplice BSL LF (a :: t) = a :: unsplice BSL LF t := by
  cases t with
  | nil => simp [unsplice]
  | cons b r =>
    have : ¬ (a = BSL ∧ b = LF) := by simpa using hs
    simp [unsplice, this]

theorem splitOn_ne_nil {α : Type} [DecidableEq α] (lf : α) (x : List α) : splitOn lf x ≠ [] := by
  cases x with
  | nil => simp [splitOn]
  | cons a r =>
    simp only [splitOn]
    split
    · simp
    · cases splitOn lf r <;> simp [consLine]

theorem splitOn_replicate (x : List Byte) (n : Nat) :
    splitOn LF (List.replicate n LF ++ x) = List.replicate n [] ++ splitOn LF x := by
  induction n with
  | zero => simp
  | succ n ih => simp [List.replicate_succ, splitOn, ih]

theorem logicalLines_consLine (a : Byte) (ls : List (List Byte)) (h : ls ≠ []) :
    logicalLines (consLine a ls) = consLine a (logicalLines ls) := by
  cases ls with
  | nil => exact absurd rfl h
  | cons l ls => rfl

theorem logicalLines_blank (n : Nat) (ls : List (List Byte)) :
    logicalLines ([] :: (List.replicate n [] ++ ls)) = [] :: ls.filter (· ≠ []) := by
  induction n with
  | zero => rfl
  | succ n ih => simp [List.replicate_succ, logicalLines] at ih ⊢

theorem filter_of_logical {a b : List (List Byte)} (h : logicalLines a = logicalLines b) :
    a.filter (· ≠ []) = b.filter (· ≠ []) := by
  cases a with
  | nil => cases b with
    | nil => rfl
    | cons l ls => simp [logicalLines] at h
  | cons l ls => cases b with
    | nil => simp [logicalLines] at h
    | cons l' ls' =>
      simp only [logicalLines, List.cons.injEq] at h
      simp only [List.filter_cons, h.1, h.2]

theorem splice_lines : ∀ (t : List Byte) (n : Nat),
    logicalLines (splitOn LF (removeBackslashNewlineAux t n)) = logicalLines (splitOn LF (unsplice BSL LF t)) := by
  have h := rbn_isRbn
  refine rbn_induct BSL LF (fun n => ?_) (fun t n ih => ?_) (fun t n ih => ?_) (fun a t n h1 h2 ih => ?_)
  · have := splitOn_replicate [] n
    rw [List.append_nil] at this
    rw [h.nil, this]
    cases n with
    | zero => rfl
    | succ n => rw [List.replicate_succ, List.cons_append, logicalLines_blank]; rfl
  · rw [h.splice, unsplice_cons_splice]; exact ih
  · rw [h.newline, unsplice_cons_other LF t fun e => lf_ne_bsl e.1]
    simp only [splitOn, if_true, splitOn_replicate, logicalLines_blank]
    rw [filter_of_logical ih]
    exact (logicalLines_blank 0 _).symm
  · rw [h.other a t n h1 h2, unsplice_cons_other a t h2]
    simp only [splitOn, h1, if_false]
    rw [logicalLines_consLine _ _ (splitOn_ne_nil LF _), logicalLines_consLine _ _ (splitOn_ne_nil LF _), ih]

theorem unsplice_length (t : List Byte) : (unsplice BSL LF t).length ≤ t.length := by
  induction t using unsplice.induct BSL LF with
  | case1 => simp [unsplice]
  | case2 a => simp [unsplice]
  | case3 a b rest h ih => simp only [unsplice, h, and_self, if_true, List.length_cons]; omega
  | case4 a b rest h ih => simp only [unsplice, h, if_false, List.length_cons] at ih ⊢; omega

theorem splice_id (t : List Byte) (h : unsplice BSL LF t = t) : removeBackslashNewline t = t := by
  have hr := rbn_isRbn
  revert h
  refine rbn_induct BSL LF (P := fun t n => n = 0 → unsplice BSL LF t = t → removeBackslashNewlineAux t n = t)
    (fun n hn _ => by rw [hr.nil, hn]; rfl) (fun t n _ _ h => ?_) (fun t n ih hn h => ?_) (fun a t n h1 h2 ih hn h => ?_) t 0 rfl
  · have := unsplice_length t
    rw [unsplice_cons_splice] at h
    rw [h] at this
    simp at this
    omega
  · rw [unsplice_cons_other LF t fun e => lf_ne_bsl e.1] at h
    rw [hr.newline, hn, ih rfl (List.cons.inj h).2]; rfl
  · rw [unsplice_cons_other a t h2] at h
    rw [hr.other a t n h1 h2, ih hn (List.cons.inj h).2]

theorem ucnStep_other (a : Byte) (t : List Byte) (h : a ≠ BSL) : ucnStep (a :: t) = ([a], t) := by
  simp only [ucnStep, h, if_false]

theorem ucnStep_ucn (l : Byte) (n : Nat) (hln : l = 117#8 ∧ n = 4 ∨ l = 85#8 ∧ n = 8) (t : List Byte) :
    ucnStep (BSL :: l :: t) =
      if readUniversalChar t n 0 ≠ 0#32 ∧ readUniversalChar t n 0 ≠ 10#32 then
        (encodeUtf8 (readUniversalChar t n 0), t.drop n)
      else ([BSL], l :: t) := by
  have h1 : ¬ ((85#8 : Byte) = 117#8) := by decide
  rcases hln with ⟨rfl, rfl⟩ | ⟨rfl, rfl⟩ <;> simp [ucnStep, h1]

theorem ucnStep_bsl (b : Byte) (t : List Byte) (hu : b ≠ 117#8) (hU : b ≠ 85#8) : ucnStep (BSL :: b :: t) = ([BSL, b], t) := by
  simp only [ucnStep, hu, hU, if_true, if_false]

/-- the three things one iteration of `convert_universal_chars` does: copy one byte, copy a backslash together with
    the byte after it, or replace a universal character name (whose value is not a new-line) by its UTF-8 bytes -/
theorem ucnStep_cases (a : Byte) (rest : List Byte) :
    ucnStep (a :: rest) = ([a], rest) ∨
    (∃ b rest', rest = b :: rest' ∧ ucnStep (a :: rest) = ([a, b], rest')) ∨
    (∃ b rest' n, rest = b :: rest' ∧ readUniversalChar rest' n 0 ≠ 10#32 ∧
      ucnStep (a :: rest) = (encodeUtf8 (readUniversalChar rest' n 0), rest'.drop n)) := by
  by_cases ha : a = BSL
  · subst ha
    cases rest with
    | nil => exact .inl (by simp only [ucnStep, if_true])
    | cons b rest' =>
      by_cases hln : ∃ n, b = 117#8 ∧ n = 4 ∨ b = 85#8 ∧ n = 8
      · obtain ⟨n, hln⟩ := hln
        rw [ucnStep_ucn b n hln]
        by_cases hv : readUniversalChar rest' n 0 ≠ 0#32 ∧ readUniversalChar rest' n 0 ≠ 10#32
        · rw [if_pos hv]; exact .inr (.inr ⟨b, rest', n, rfl, hv.2, rfl⟩)
        · rw [if_neg hv]; exact .inl rfl
      · exact .inr (.inl ⟨b, rest', rfl, ucnStep_bsl b rest' (fun e => hln ⟨4, .inl ⟨e, rfl⟩⟩) fun e => hln ⟨8, .inr ⟨e, rfl⟩⟩⟩)
  · exact .inl (ucnStep_other a rest ha)

theorem ucnStep_length (a : Byte) (rest : List Byte) : (ucnStep (a :: rest)).2.length < (a :: rest).length := by
  rcases ucnStep_cases a rest with h | ⟨b, rest', rfl, h⟩ | ⟨b, rest', n, rfl, _, h⟩ <;> rw [h]
  · exact Nat.lt_succ_self _
  · simp only [List.length_cons]; omega
  · simp only [List.length_cons, List.length_drop]; omega

theorem cucAux_fuel : ∀ (f1 f2 : Nat) (p : List Byte), p.length ≤ f1 → p.length ≤ f2 →
    convertUniversalCharsAux f1 p = convertUniversalCharsAux f2 p := by
  intro f1
  induction f1 with
  | zero =>
    intro f2 p h1 h2
    have : p = [] := by cases p with | nil => rfl | cons a t => simp at h1
    subst this
    cases f2 <;> rfl
  | succ f1 ih =>
    intro f2 p h1 h2
    cases p with
    | nil => cases f2 <;> rfl
    | cons a rest =>
      cases f2 with
      | zero => simp at h2
      | succ f2 =>
        have hl := ucnStep_length a rest
        simp only [convertUniversalCharsAux]
        rw [ih f2 _ (by simp at h1 hl; omega) (by simp at h2 hl; omega)]

theorem cuc_cons (a : Byte) (rest : List Byte) :
    convertUniversalChars (a :: rest) =
      (ucnStep (a :: rest)).1 ++ convertUniversalChars (ucnStep (a :: rest)).2 := by
  have hl := ucnStep_length a rest
  unfold convertUniversalChars
  simp only [List.length_cons, convertUniversalCharsAux]
  congr 1
  exact cucAux_fuel _ _ _ (by simp only [List.length_cons] at hl; omega) (Nat.le_refl _)

theorem cuc_other (a : Byte) (t : List Byte) (h : a ≠ BSL) : convertUniversalChars (a :: t) = a :: convertUniversalChars t := by
  rw [cuc_cons, ucnStep_other a t h]; rfl

theorem cuc_ucn_step (l : Byte) (n : Nat) (hln : l = 117#8 ∧ n = 4 ∨ l = 85#8 ∧ n = 8) (t : List Byte) :
    convertUniversalChars (BSL :: l :: t) =
      if readUniversalChar t n 0 ≠ 0#32 ∧ readUniversalChar t n 0 ≠ 10#32 then
        encodeUtf8 (readUniversalChar t n 0) ++ convertUniversalChars (t.drop n)
      else BSL :: convertUniversalChars (l :: t) := by
  rw [cuc_cons, ucnStep_ucn l n hln]; split <;> rfl

theorem cuc_bsl (b : Byte) (t : List Byte) (hu : b ≠ 117#8) (hU : b ≠ 85#8) :
    convertUniversalChars (BSL :: b :: t) = BSL :: b :: convertUniversalChars t := by
  rw [cuc_cons, ucnStep_bsl b t hu hU]; rfl

theorem cuc_bsl_end : convertUniversalChars [BSL] = [BSL] := rfl

/-- induction along the iterations; a universal character name has two continuations (converted: behind its digits; left
    alone because its value is 0 or the new-line: behind the backslash) -/
theorem cuc_induct {P : List Byte → Prop} (nil : P []) (other : ∀ a t, a ≠ BSL → P t → P (a :: t))
    (ucn : ∀ l n, (l = 117#8 ∧ n = 4 ∨ l = 85#8 ∧ n = 8) → ∀ t, P (t.drop n) → P (l :: t) → P (BSL :: l :: t))
    (bsl : ∀ b t, b ≠ 117#8 → b ≠ 85#8 → P t → P (BSL :: b :: t)) (bslEnd : P [BSL]) (u : List Byte) : P u := by
  generalize hn : u.length = k
  induction k using Nat.strongRecOn generalizing u with
  | _ k ih =>
    subst hn
    match u with
    | [] => exact nil
    | a :: t =>
      by_cases ha : a = BSL
      · subst ha
        match t with
        | [] => exact bslEnd
        | b :: t =>
          by_cases hln : ∃ n, b = 117#8 ∧ n = 4 ∨ b = 85#8 ∧ n = 8
          · obtain ⟨n, hln⟩ := hln
            exact ucn b n hln t (ih _ (by simp only [List.length_cons, List.length_drop]; omega) _ rfl)
              (ih _ (Nat.lt_succ_self _) _ rfl)
          · exact bsl b t (fun e => hln ⟨4, .inl ⟨e, rfl⟩⟩) (fun e => hln ⟨8, .inr ⟨e, rfl⟩⟩)
              (ih _ (by simp only [List.length_cons]; omega) _ rfl)
      · exact other a t ha (ih _ (Nat.lt_succ_self _) _ rfl)

theorem cuc_append (pre x : List Byte) (hpre : BSL ∉ pre) :
    convertUniversalChars (pre ++ x) = pre ++ convertUniversalChars x := by
  induction pre with
  | nil => rfl
  | cons a pre ih =>
    rw [List.cons_append, cuc_other a _ fun h => hpre (by simp [h]), ih fun h => hpre (List.mem_cons_of_mem _ h)]; rfl

/-- value of a hexadecimal digit character -/
abbrev hexVal (b : Byte) : Nat := hexDigitValue b.toNat

theorem fromHex_hexVal (b : Byte) : isXDigit b = true → fromHex b = BitVec.ofNat 32 (hexVal b) ∧ hexVal b < 16 := by
  revert b; apply forall_byte; decide +kernel

theorem ruc_step (d : Byte) (ds : List Byte) (n : Nat) (c : BitVec 32) (hx : isXDigit d = true) :
    readUniversalChar (d :: ds) (n + 1) c = readUniversalChar ds n ((c <<< 4) ||| BitVec.ofNat 32 (hexVal d)) := by
  simp only [readUniversalChar, hx, Bool.not_true, Bool.false_eq_true, if_false, (fromHex_hexVal d hx).1]

/-- `k` bounds the bits `c` occupies, so that nothing is shifted out of the 32-bit accumulator -/
theorem ruc_digits (post : List Byte) : ∀ (ds : List Byte) (c : BitVec 32) (k : Nat),
    (∀ d ∈ ds, isXDigit d = true) → c.toNat < 2 ^ k → k + 4 * ds.length ≤ 32 →
    readUniversalChar (ds ++ post) ds.length c = BitVec.ofNat 32 (ds.foldl (fun a d => a * 16 + hexVal d) c.toNat) ∧
      ds.foldl (fun a d => a * 16 + hexVal d) c.toNat < 2 ^ (k + 4 * ds.length)
  | [], c, k, _, hc, _ => ⟨by simp [readUniversalChar], hc⟩
  | d :: ds, c, k, hds, hc, hk => by
    have hd := hds d List.mem_cons_self
    have hk' : k + 4 + 4 * ds.length ≤ 32 := by simp only [List.length_cons] at hk; omega
    have e : _ = c.toNat * 16 + hexVal d := shl_or_toNat c 4 (hexVal d) (by decide)
      (Nat.lt_of_lt_of_le hc (Nat.pow_le_pow_right (by decide) (by omega))) (fromHex_hexVal d hd).2
    have ih := ruc_digits post ds (c <<< 4 ||| BitVec.ofNat 32 (hexVal d)) (k + 4)
      (fun x hx => hds x (List.mem_cons_of_mem _ hx)) (by rw [e, Nat.pow_add]; have := (fromHex_hexVal d hd).2; omega) hk'
    rw [e] at ih
    rw [List.cons_append, List.length_cons, ruc_step _ _ _ _ hd, List.foldl_cons,
      show k + 4 * (ds.length + 1) = k + 4 + 4 * ds.length by omega]
    exact ih

/-- `\uXXXX` (`m` = `u`, four digits) and `\UXXXXXXXX` (`m` = `U`, eight digits): replaced by the UTF-8 encoding of
    the value of the digits -/
theorem cuc_ucn (pre post ds : List Byte) (m : Byte) (hm : (m = 117#8 ∧ ds.length = 4) ∨ (m = 85#8 ∧ ds.length = 8))
    (hpre : BSL ∉ pre) (hds : ∀ d ∈ ds, isXDigit d = true)
    (hv : digitsValue 16 (ds.map hexVal) ≠ 0) (hv10 : digitsValue 16 (ds.map hexVal) ≠ 10) :
    convertUniversalChars (pre ++ BSL :: m :: (ds ++ post)) =
      pre ++ encodeUtf8 (BitVec.ofNat 32 (digitsValue 16 (ds.map hexVal))) ++ convertUniversalChars post := by
  have hlen : ds.length ≤ 8 := by omega
  obtain ⟨hr, hlt⟩ := ruc_digits post ds 0 0 hds (by decide) (by omega)
  have hval : ds.foldl (fun a d => a * 16 + hexVal d) (0 : BitVec 32).toNat = digitsValue 16 (ds.map hexVal) := by
    simp only [digitsValue, List.foldl_map]; rfl
  rw [hval] at hr hlt
  have hlt32 : digitsValue 16 (ds.map hexVal) < 2 ^ 32 :=
    Nat.lt_of_lt_of_le hlt (Nat.pow_le_pow_right (by decide) (by omega))
  have hne : BitVec.ofNat 32 (digitsValue 16 (ds.map hexVal)) ≠ 0#32 := fun h => by
    have := congrArg BitVec.toNat h
    rw [BitVec.toNat_ofNat, Nat.mod_eq_of_lt hlt32] at this; exact hv this
  have hne10 : BitVec.ofNat 32 (digitsValue 16 (ds.map hexVal)) ≠ 10#32 := fun h => by
    have := congrArg BitVec.toNat h
    rw [BitVec.toNat_ofNat, Nat.mod_eq_of_lt hlt32] at this; exact hv10 this
  rw [cuc_append _ _ hpre, List.append_assoc, cuc_ucn_step m ds.length hm, hr, if_pos ⟨hne, hne10⟩, List.drop_left]

end ChibiVerif.Lemmas.Text
