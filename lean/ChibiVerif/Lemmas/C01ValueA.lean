/-
C01: the induction over expressions — `value_a` (`a`: over an access table): every expression of the type `E`, its objects reached through the access
table `A` (`Acc`, Model/C01ExprA.lean: the `gen_addr` code of the lvalue that designates each object), by induction on the
derivation of its code (`CompA`, Lemmas/C01CompA.lean) with the evaluation taken apart by its last rule (`Eval`,
Lemmas/C01Effects.lean), over the node lemmas of Lemmas/C01EffectsValue.lean and the access combinators of
Lemmas/C01LvalueMachine.lean.  `C01_value_lvalues` is its instance at a table of lvalues (`accOK_of_table`,
Lemmas/C01AccTable.lean), `C01_value_full` / `C01_value_effects` its instance at plain variables (`accOK_direct`,
Lemmas/C01ValueFull.lean), `C01_value` that one in the frame in which nothing can be written (Lemmas/C01Plain.lean).
The frame `Φ` is abstract (Lemmas/C01JumpMachine.lean); the variables the expression assigns must be writable in it
(`Φ.sepv`).

The address code may read variables (the pointer of `*p`, the index of `a[i]`): the set `D` of these dependencies must not
be assigned by the expression (`∀ i ∈ wr e, i ∉ D`), so the objects designated stay the same while the expression is
evaluated; `Agr D σ σr` (the stores agree with a reference store on `D`) is the invariant carried through the induction.
-/
import ChibiVerif.Lemmas.C01EffectsValue

namespace ChibiVerif.C01
open ChibiVerif.X86 ChibiVerif.Asm ChibiVerif.Spec.IntSpec ChibiVerif.Gen.CommonType ChibiVerif.C01Codegen ChibiVerif.X86J

/-- the access table reaches object `i`: in every store that agrees with `σr` on `D`, `pcode i` computes (without side
    effects) an address `ap`, and `dsuf i` adds the member offset that makes it the address of `i` -/
def AccOK (Φ : Frame) (bp0 : BitVec 64) (A : Acc) (D : List Nat) (σr : Env) (i : Nat) : Prop :=
  ∃ (ap : BitVec 64) (dd : Int), ap + BitVec.ofInt 64 dd = addrOf bp0 (Φ.off i) ∧ DS (A.dsuf i) dd ∧
    ∀ σ, Agr D σ σr → ∀ k, k ≤ Φ.K → EvG Φ (AtBp bp0) (J (A.pcode i)) σ σ (fun r => r = ap) [] k k (A.adep i)

section
variable {Φ : Frame} {bp0 : BitVec 64} {A : Acc} {D : List Nat} {σr : Env}

/-- the address of object `i` -/
theorem acc_addr {i : Nat} (h : AccOK Φ bp0 A D σr i) (σ : Env) (hI : Agr D σ σr) (k : Nat) (hk : k ≤ Φ.K) :
    EvG Φ (AtBp bp0) (J (A.pcode i) ++ J (A.dsuf i)) σ σ (fun r => r = addrOf bp0 (Φ.off i)) [] k k (A.adep i) := by
  obtain ⟨ap, dd, hsum, hds, hp⟩ := h
  exact (hp σ hI k hk).then_same (R2 := fun r => r = addrOf bp0 (Φ.off i)) (fun s hs => by
    obtain ⟨s', r, hax, sm⟩ := hds s
    exact ⟨s', r, by rw [hax, hs, hsum], sm⟩)

/-- **`++A` / `--A` / `A += literal`** on an object reached through the access table -/
theorem acc_incdec (op : BinOp) (hcomp : compoundable op = true) {i : Nat}
    (h : AccOK Φ bp0 A D σr i) (hs : Φ.sepv i) (σ : Env) (hI : Agr D σ σr) {ti : ITy} {x y : Int}
    (hti : σ.tys[i]? = some ti) (hx : σ.vals[i]? = some x) (a : Int) (ha : ITy.i32.inRange a)
    (hy : binop op ti .i32 x a = some y) (k0 : Nat) (hK : k0 + 1 ≤ Φ.K) :
    EvG Φ (AtBp bp0) (opAssignCodeL (nodeOf op).1 op ti .i32 (Φ.toff k0) (J (A.pcode i)) (A.dsuf i) (J [iMovImm a])) σ
      (σ.set i (convert ti y)) (fun r => Represents ti r (convert ti y)) [i] k0 (k0 + 1) (max (A.adep i + 1) 2) := by
  obtain ⟨ap, dd, hsum, hds, hp⟩ := h
  have := EvG.compoundL (k0 := k0) hti hs (hp σ hI k0 (by omega)) hsum hds (EvG.lit (Φ := Φ) (P := AtBp bp0) σ .i32 a ha k0) hx hcomp hy
    ⟨Nat.le_refl _, Nat.le_refl _, Nat.le_refl _, Nat.le_refl _⟩ (Nat.le_refl _) (fun _ h => by simp at h) (fun _ h => by simp at h)
    (by omega)
  simpa using this

/-- **`A++` / `A--`** on a non-`_Bool` object reached through the access table: `(T)((A += ±1) + ∓1)` has the old value -/
theorem acc_postfix (isDec : Bool) {i : Nat} (h : AccOK Φ bp0 A D σr i) (hs : Φ.sepv i) (σ : Env) (hI : Agr D σ σr) {ti : ITy}
    {x r : Int} (hti : σ.tys[i]? = some ti) (hnb : ¬ ti = .bool) (hx : σ.vals[i]? = some x)
    (hr : compound (if isDec then .sub else .add) ti .i32 x 1 = some r) (k0 : Nat) (hK : k0 + 1 ≤ Φ.K) :
    EvG Φ (AtBp bp0) (postCodeA A ti i (Φ.toff k0) (if isDec then -1 else 1)) σ (σ.set i r)
      (fun q => Represents ti q x) [i] k0 (k0 + 1) (max (A.adep i + 1) 2 + 1) := by
  refine ⟨rfl, fun m n B hP hF hd hsp hB => ?_⟩
  have hrx : ti.inRange x := (Φ.load hF hti hx).1
  have ha : (if isDec then (-1 : Int) else 1) = 1 ∨ (if isDec then (-1 : Int) else 1) = -1 := by cases isDec <;> simp
  have hr' : compound .add ti .i32 x (if isDec then -1 else 1) = some r := by
    cases isDec
    · simpa using hr
    · simp only [if_true] at hr ⊢; rw [← compound_sub_one ti x]; exact hr
  obtain ⟨y, hy, hcv⟩ := postfix_key ti hnb x _ r hrx ha hr'
  simp only [compound, Option.map_eq_some_iff] at hr'
  obtain ⟨y0, hy0, rfl⟩ := hr'
  have hai : ITy.i32.inRange (if isDec then (-1 : Int) else 1) := by cases isDec <;> decide
  have hbi : ITy.i32.inRange (-(if isDec then (-1 : Int) else 1)) := by cases isDec <;> decide
  have E1 := acc_incdec .add rfl h hs σ hI hti hx _ hai hy0 k0 hK
  have E0 := EvG.lit (Φ := Φ) (P := AtBp bp0) σ .i32 _ hbi k0
  have E3 := ((EvG.bin_arith (k0 := k0) (k1 := k0 + 1) hy .ND_ADD rfl rfl E0 E1 (by omega) (fun j hj => by simp at hj; exact hj ▸ hs) hK).then_same
    (R2 := fun q => Represents ti q (convert ti y)) (fun s h => cast_run _ ti s y h)).weaken (W' := [i])
      (by simp) (Nat.le_refl _) (Nat.le_refl _) (d' := max (A.adep i + 1) 2 + 1) (by omega)
  rw [hcv] at E3
  have := E3.2 m n B hP hF hd hsp hB
  simpa [postCodeA, nodeOf, J_append, J_cons, J_nil, List.append_assoc, BinOp.isShift, binopType, BinOp.isRel] using this

end

theorem mem_append_mid {a b c : List Nat} : ∀ i, i ∈ a ++ b → i ∈ a ++ (b ++ c) := by
  intro i hi; simp only [List.mem_append] at hi ⊢; rcases hi with h | h <;> simp [h]

theorem mem_append_skip {a b c : List Nat} : ∀ i, i ∈ a ++ c → i ∈ a ++ (b ++ c) := by
  intro i hi; simp only [List.mem_append] at hi ⊢; rcases hi with h | h <;> simp [h]

/-- a plain variable is reached by `lea off(%rbp), %rax` -/
theorem accOK_direct (Φ : Frame) (bp0 : BitVec 64) (D : List Nat) (σr : Env) (i : Nat) : AccOK Φ bp0 (Acc.direct Φ.off) D σr i :=
  ⟨addrOf bp0 (Φ.off i), 0, by simp, DS.nil, fun σ _ k _ => EvG.lea σ (Φ.off i) k⟩

/-- the access code of a plain variable needs no stack (`(Acc.direct off).adep i = 0`), so the two depth functions agree clause by
    clause -/
theorem depthA_direct (off : Nat → Int) (e : E) : depthA (Acc.direct off) e = depthJ e := by
  induction e <;> simp_all [depthA, depthJ, Acc.direct] <;> omega

/-- **the induction**, over the derivation of the code; the evaluation is taken apart by its last rule -/
theorem value_a (Φ : Frame) (bp0 : BitVec 64) (A : Acc) (D : List Nat) (σr : Env)
    {tys : List ITy} {k0 c0 : Nat} {e : E} {t : ITy} {code : List JI} {k1 c1 : Nat} (h : CompA tys Φ.toff A k0 c0 e t code k1 c1) :
    ∀ (σ : Env) (v : Int) (σ' : Env), σ.tys = tys → Agr D σ σr → (∀ i, i ∈ wr e → i ∉ D ∧ Φ.sepv i) →
      (∀ i, i ∈ objs e → AccOK Φ bp0 A D σr i) → Eval σ e v σ' → noConflict e = true → k1 ≤ Φ.K →
      EvG Φ (AtBp bp0) code σ σ' (fun r => Represents t r v) (wr e) k0 k1 (depthA A e) := by
  induction h with
  | lit =>
    intro σ v σ' _ _ _ _ hv _ _
    cases hv with | lit hr => exact EvG.lit σ _ _ hr _
  | @var k c i t h0 =>
    intro σ v σ' hσ hI hD hA hv _ hK
    cases hv with
    | var hv0 =>
      have := EvG.loadL (t := t) (v := v) (acc_addr (hA i (by simp [objs])) σ hI k hK) (hσ ▸ h0) hv0
      simpa [loadCodeL, Acc.acode, J_append, List.append_assoc, depthA, wr] using this
  | cast _ ih =>
    intro σ v σ' hσ hI hD hA hv hn hK
    cases hv with | cast he => exact (ih σ _ _ hσ hI hD hA he hn hK).then_same (fun s hs => cast_run _ _ s _ hs)
  | @un k c op e te cd k1 c1 hc ih =>
    intro σ v σ' hσ hI hD hA hv hn hK
    cases hv with
    | un ht he hx =>
      obtain rfl := ty_eq (hc.facts.ty σ hσ) ht
      exact (ih σ _ _ hσ hI hD hA he hn hK).then_same (un_step hx)
  | @bin k c op a b ta ca ka ca1 tb cb kb cb1 ha hb iha ihb =>
    intro σ v σ' hσ hI hD hA hv hn hK
    simp only [noConflict, Bool.and_eq_true] at hn
    obtain ⟨⟨⟨hd1, hd2⟩, hna⟩, hnb⟩ := hn
    cases hv with
    | bin hta htb hea heb hx =>
      have fa := ha.facts; have fb := hb.facts
      obtain rfl := ty_eq (fa.ty σ hσ) hta
      obtain rfl := ty_eq (fb.ty σ hσ) htb
      have hDa : ∀ i, i ∈ wr a → i ∉ D ∧ Φ.sepv i := fun i hi => hD i (by simp [wr, hi])
      have hDb : ∀ i, i ∈ wr b → i ∉ D ∧ Φ.sepv i := fun i hi => hD i (by simp [wr, hi])
      have hAa : ∀ i, i ∈ objs a → AccOK Φ bp0 A D σr i := fun i hi => hA i (by simp [objs, hi])
      have hAb : ∀ i, i ∈ objs b → AccOK Φ bp0 A D σr i := fun i hi => hA i (by simp [objs, hi])
      -- machine order = evalE order (a first): used by `>` `>=`
      have EaF := iha σ _ _ hσ hI hDa hAa hea hna (by have := fb.k; omega)
      have EbF := ihb _ _ _ (hea.frm.tys.trans hσ) (hI.frm hea.frm (fun i hi => (hDa i hi).1)) hDb hAb heb hnb hK
      -- machine order b first
      obtain ⟨σb, heb', hea'⟩ := Eval.swap hd1 hd2 hea heb
      have EbS := ihb σ _ _ hσ hI hDb hAb heb' hnb hK
      have EaS := iha σb _ _ (heb'.frm.tys.trans hσ) (hI.frm heb'.frm (fun i hi => (hDb i hi).1)) hDa hAa hea' hna (by have := fb.k; omega)
      exact EvG.bin_node hx EaF EbF EbS EaS fa.k fb.k (fun i hi => (hDa i hi).2) (fun i hi => (hDb i hi).2) hK
  | @comma k c a b ta ca ka c1 tb cb kb c2 ha hb iha ihb =>
    intro σ v σ' hσ hI hD hA hv hn hK
    simp only [noConflict, Bool.and_eq_true] at hn
    cases hv with
    | comma hea heb =>
      have fa := ha.facts; have fb := hb.facts
      have hDa : ∀ i, i ∈ wr a → i ∉ D ∧ Φ.sepv i := fun i hi => hD i (by simp [wr, hi])
      have Ea := iha σ _ _ hσ hI hDa (fun i hi => hA i (by simp [objs, hi])) hea hn.1 (by have := fb.k; omega)
      have Eb := ihb _ _ _ (hea.frm.tys.trans hσ) (hI.frm hea.frm (fun i hi => (hDa i hi).1)) (fun i hi => hD i (by simp [wr, hi]))
        (fun i hi => hA i (by simp [objs, hi])) heb hn.2 hK
      have := EvG.seq (k0 := k) (k1 := kb) Ea Eb ⟨Nat.le_refl _, fb.k, fa.k, Nat.le_refl _⟩
      simpa [depthA, wr] using this
  | @assign k c i e ti te cd k1 c1 hti he ih =>
    intro σ v σ' hσ hI hD hA hv hn hK
    simp only [noConflict] at hn
    subst hσ
    cases hv with
    | assign ht hev =>
      obtain rfl := Option.some.inj (hti.symm.trans ht)
      have E := (ih σ _ _ rfl hI (fun j hj => hD j (by simp [wr, hj])) (fun j hj => hA j (by simp [objs, hj])) hev hn
        hK).then_same (R2 := fun r => Represents ti r (convert ti _)) (fun s hs => cast_run te ti s _ hs)
      have fe := he.facts
      have Ea := acc_addr (hA i (by simp [objs])) σ hI k (by have := fe.k; omega)
      have := EvG.assignL (k0 := k) (k1 := k1) hti (hD i (by simp [wr])).2 Ea E ⟨Nat.le_refl _, fe.k, Nat.le_refl _, Nat.le_refl _⟩
        (fun j hj => (hD j (by simp [wr, hj])).2) hK
      simpa [depthA, wr, Acc.acode, J_append, List.append_assoc] using this
  | @opassign k c op i e ti te cd k1 c1 hti hcomp he ih =>
    intro σ v σ' hσ hI hD hA hv hn hK
    simp only [noConflict] at hn
    subst hσ
    cases hv with
    | @opassign _ _ _ _ tx te' vb x r σ1 htx hte hev hx hr =>
      have fe := he.facts
      obtain rfl := Option.some.inj (hti.symm.trans htx)
      obtain rfl := ty_eq (fe.ty σ rfl) hte
      simp only [compound, Option.map_eq_some_iff] at hr
      obtain ⟨y, hy, rfl⟩ := hr
      have E := ih σ _ _ rfl hI (fun j hj => hD j (by simp [wr, hj])) (fun j hj => hA j (by simp [objs, hj])) hev hn (by omega)
      obtain ⟨ap, dd, hsum, hds, hp⟩ := hA i (by simp [objs])
      have := EvG.compoundL (k0 := k) hti (hD i (by simp [wr])).2 (hp σ hI k (by have := fe.k; omega)) hsum hds E hx hcomp hy
        ⟨Nat.le_refl _, fe.k, Nat.le_refl _, Nat.le_refl _⟩ fe.k (fun _ h => by simp at h) (fun j hj => (hD j (by simp [wr, hj])).2)
        (by omega)
      simpa [depthA, wr] using this
  | @preinc k c i ti hti =>
    intro σ v σ' hσ hI hD hA hv _ hK
    subst hσ
    cases hv with
    | preinc htx hx hr =>
      obtain rfl := Option.some.inj (hti.symm.trans htx)
      simp only [compound, Option.map_eq_some_iff] at hr
      obtain ⟨y, hy, rfl⟩ := hr
      have := acc_incdec .add rfl (hA i (by simp [objs])) (hD i (by simp [wr])).2 σ hI hti hx 1 (by decide) hy k hK
      simpa [depthA, wr, nodeOf] using this
  | @predec k c i ti hti =>
    intro σ v σ' hσ hI hD hA hv _ hK
    subst hσ
    cases hv with
    | predec htx hx hr =>
      obtain rfl := Option.some.inj (hti.symm.trans htx)
      simp only [compound, Option.map_eq_some_iff] at hr
      obtain ⟨y, hy, rfl⟩ := hr
      have := acc_incdec .sub rfl (hA i (by simp [objs])) (hD i (by simp [wr])).2 σ hI hti hx 1 (by decide) hy k hK
      simpa [depthA, wr, nodeOf] using this
  | @postinc k c i ti hti hnb =>
    intro σ v σ' hσ hI hD hA hv _ hK
    subst hσ
    cases hv with
    | postinc htx hx hr =>
      obtain rfl := Option.some.inj (hti.symm.trans htx)
      have := acc_postfix false (hA i (by simp [objs])) (hD i (by simp [wr])).2 σ hI hti hnb hx (by simpa using hr) k hK
      simpa [depthA, wr] using this
  | @postdec k c i ti hti hnb =>
    intro σ v σ' hσ hI hD hA hv _ hK
    subst hσ
    cases hv with
    | postdec htx hx hr =>
      obtain rfl := Option.some.inj (hti.symm.trans htx)
      have := acc_postfix true (hA i (by simp [objs])) (hD i (by simp [wr])).2 σ hI hti hnb hx (by simpa using hr) k hK
      simpa [depthA, wr] using this
  | @land k c a b ta ca ka c1 tb cb kb c2 ha hb iha ihb =>
    intro σ v σ' hσ hI hD hA hv hn hK
    simp only [noConflict, Bool.and_eq_true] at hn
    have fa := ha.facts; have fb := hb.facts
    have hDa : ∀ i, i ∈ wr a → i ∉ D ∧ Φ.sepv i := fun i hi => hD i (by simp [wr, hi])
    have Ea := fun va σ1 (hea : Eval σ a va σ1) =>
      iha σ va σ1 hσ hI hDa (fun i hi => hA i (by simp [objs, hi])) hea hn.1 (by have := fb.k; omega)
    cases hv with
    | landF hea =>
      exact (EvG.land_short (tb := tb) (cb := cb) (c := c) (Ea _ _ hea)).weaken (fun i hi => List.mem_append_left _ hi)
        (Nat.le_refl _) fb.k (Nat.le_max_left _ _)
    | landT hea hz heb =>
      exact EvG.land_full (c := c) hz (Ea _ _ hea)
        (ihb _ _ _ (hea.frm.tys.trans hσ) (hI.frm hea.frm (fun i hi => (hDa i hi).1)) (fun i hi => hD i (by simp [wr, hi]))
          (fun i hi => hA i (by simp [objs, hi])) heb hn.2 hK) ⟨Nat.le_refl _, fb.k, fa.k, Nat.le_refl _⟩
  | @lor k c a b ta ca ka c1 tb cb kb c2 ha hb iha ihb =>
    intro σ v σ' hσ hI hD hA hv hn hK
    simp only [noConflict, Bool.and_eq_true] at hn
    have fa := ha.facts; have fb := hb.facts
    have hDa : ∀ i, i ∈ wr a → i ∉ D ∧ Φ.sepv i := fun i hi => hD i (by simp [wr, hi])
    have Ea := fun va σ1 (hea : Eval σ a va σ1) =>
      iha σ va σ1 hσ hI hDa (fun i hi => hA i (by simp [objs, hi])) hea hn.1 (by have := fb.k; omega)
    cases hv with
    | lorT hea hz =>
      exact (EvG.lor_short (tb := tb) (cb := cb) (c := c) hz (Ea _ _ hea)).weaken (fun i hi => List.mem_append_left _ hi)
        (Nat.le_refl _) fb.k (Nat.le_max_left _ _)
    | lorF hea heb =>
      exact EvG.lor_full (c := c) (Ea _ _ hea)
        (ihb _ _ _ (hea.frm.tys.trans hσ) (hI.frm hea.frm (fun i hi => (hDa i hi).1)) (fun i hi => hD i (by simp [wr, hi]))
          (fun i hi => hA i (by simp [objs, hi])) heb hn.2 hK) ⟨Nat.le_refl _, fb.k, fa.k, Nat.le_refl _⟩
  | @cond k c cnd a b tc cc kc c1 ta ca ka c2 tb cb kb c3 hc ha hb ihc iha ihb =>
    intro σ v σ' hσ hI hD hA hv hn hK
    simp only [noConflict, Bool.and_eq_true] at hn
    obtain ⟨⟨hnc, hna⟩, hnb⟩ := hn
    have fc := hc.facts; have fa := ha.facts; have fb := hb.facts
    have hty : typeOf σ (.cond cnd a b) = some (usualArith ta tb) := by simp [typeOf, fa.ty σ hσ, fb.ty σ hσ]
    have hDc : ∀ i, i ∈ wr cnd → i ∉ D ∧ Φ.sepv i := fun i hi => hD i (by simp [wr, hi])
    have Ec := fun vc σ1 (hec : Eval σ cnd vc σ1) =>
      ihc σ vc σ1 hσ hI hDc (fun i hi => hA i (by simp [objs, hi])) hec hnc (by have := fa.k; have := fb.k; omega)
    cases hv with
    | condT ht hec hz hea =>
      obtain rfl := ty_eq hty ht
      have := EvG.cond_then (cb := cb ++ J (castSeq tb (usualArith ta tb))) (c := c) (k0 := k) (k1 := kb) hz (Ec _ _ hec)
        ((iha _ _ _ (hec.frm.tys.trans hσ) (hI.frm hec.frm (fun i hi => (hDc i hi).1)) (fun i hi => hD i (by simp [wr, hi]))
          (fun i hi => hA i (by simp [objs, hi])) hea hna (by have := fb.k; omega)).then_same
            (R2 := fun r => Represents (usualArith ta tb) r (convert (usualArith ta tb) _)) (fun s hs => cast_run ta _ s _ hs))
        ⟨Nat.le_refl _, by have := fa.k; have := fb.k; omega, fc.k, fb.k⟩
      exact this.weaken mem_append_mid (Nat.le_refl _) (Nat.le_refl _) (by simp only [depthA]; omega)
    | condF ht hec heb =>
      obtain rfl := ty_eq hty ht
      have := EvG.cond_else (ca := ca ++ J (castSeq ta (usualArith ta tb))) (c := c) (k0 := k) (k1 := kb) (Ec _ _ hec)
        ((ihb _ _ _ (hec.frm.tys.trans hσ) (hI.frm hec.frm (fun i hi => (hDc i hi).1)) (fun i hi => hD i (by simp [wr, hi]))
          (fun i hi => hA i (by simp [objs, hi])) heb hnb hK).then_same
            (R2 := fun r => Represents (usualArith ta tb) r (convert (usualArith ta tb) _)) (fun s hs => cast_run tb _ s _ hs))
        ⟨Nat.le_refl _, by have := fa.k; have := fb.k; omega, by have := fc.k; have := fa.k; omega, Nat.le_refl _⟩
      exact this.weaken mem_append_skip (Nat.le_refl _) (Nat.le_refl _) (by simp only [depthA]; omega)

end ChibiVerif.C01
