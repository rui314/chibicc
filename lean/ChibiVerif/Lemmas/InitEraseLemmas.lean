/-
C05: which tokens the parser consumes does not depend on what the `Initializer` tree holds.

`erase` forgets every expression and every chosen union member.  "The same after `erase`" (`Sm`) is a relation the parser's
operations on trees respect (`TreeRel.sm`), so every function of the parser commutes with `erase` (`Ind f`: the parser's
parametricity, Lemmas/InitParLemmas.lean, at one budget) and two runs on trees with the same skeleton stop at the same token
(`consume_indep_*`).  This is what makes `count_array_init_elements` - a dry run of the parser on a dummy tree - count
what the real run then writes.
-/
import ChibiVerif.Lemmas.InitFuelLemmas

namespace ChibiVerif.Init
open Except (Rel)

variable {f : Nat}

mutual
  def erase : Init → Init
    | .leaf _ => .leaf none
    | .arr cs => .arr (eraseL cs)
    | .flex => .flex
    | .struct _ cs => .struct none (eraseL cs)
    | .union _ _ cs => .union none none (eraseL cs)
  def eraseL : List Init → List Init
    | [] => []
    | c :: cs => erase c :: eraseL cs
end

theorem eraseL_eq_map : ∀ (cs : List Init), eraseL cs = cs.map erase
  | [] => rfl
  | c :: cs => by rw [eraseL, eraseL_eq_map cs]; rfl

def mapE (x : Except Fail (Init × List ITok)) : Except Fail (Init × List ITok) :=
  x.map (fun r => (erase r.1, r.2))

@[simp] theorem mapE_ok (c : Init) (t : List ITok) : mapE (.ok (c, t)) = .ok (erase c, t) := rfl
@[simp] theorem mapE_error (e : Fail) : mapE (.error e) = .error e := rfl
@[simp] theorem mapE_pure (c : Init) (t : List ITok) : mapE (pure (c, t)) = pure (erase c, t) := rfl

theorem mapE_bind {α : Type} (x : Except Fail α) (k : α → Except Fail (Init × List ITok)) :
    mapE (x >>= k) = x >>= fun a => mapE (k a) := by
  cases x <;> rfl

theorem pure_bind'' {α β : Type} (a : α) (k : α → Except Fail β) : ((pure a : Except Fail α) >>= k) = k a := rfl

@[simp] theorem erase_children (c : Init) : (erase c).children = c.children.map erase := by
  cases c <;> simp [erase, Init.children, eraseL_eq_map]

@[simp] theorem erase_withChildren (c : Init) (cs : List Init) : erase (c.withChildren cs) = (erase c).withChildren (cs.map erase) := by
  cases c <;> simp [erase, Init.withChildren, eraseL_eq_map]

@[simp] theorem erase_setChild (c : Init) (i : Nat) (v : Init) : erase (c.setChild i v) = (erase c).setChild i (erase v) := by
  simp [Init.setChild, List.map_set]

@[simp] theorem erase_setExpr (c : Init) (e : Option Expr) : erase (c.setExpr e) = erase c := by
  cases c <;> simp [erase, Init.setExpr]

@[simp] theorem erase_setMem (c : Init) (k : Nat) : erase (c.setMem k) = erase c := by
  cases c <;> simp [erase, Init.setMem]

@[simp] theorem erase_erase : ∀ (c : Init), erase (erase c) = erase c
  | .leaf _ => rfl
  | .flex => rfl
  | .arr cs => by simp only [erase, eraseL_eq_map, List.map_map]; congr 1; exact List.map_congr_left (fun c _ => erase_erase c)
  | .struct _ cs => by simp only [erase, eraseL_eq_map, List.map_map]; congr 1; exact List.map_congr_left (fun c _ => erase_erase c)
  | .union _ _ cs => by simp only [erase, eraseL_eq_map, List.map_map]; congr 1; exact List.map_congr_left (fun c _ => erase_erase c)

theorem getChild_erase (cs : List Init) (i : Nat) : getChild (cs.map erase) i = (getChild cs i).map erase := by
  unfold getChild
  simp only [List.getElem?_map]
  cases cs[i]? <;> rfl

/-- the two trees differ at most in expressions and chosen union members -/
def Sm (a b : Init) : Prop := erase a = erase b

/-- two parser outcomes: the same error, or trees with the same skeleton and the same rest -/
def SmR (x y : Except Fail (Init × List ITok)) : Prop := mapE x = mapE y

theorem Sm.refl (a : Init) : Sm a a := rfl

theorem SmR.ok_inv {a b : Init} {t t' : List ITok} (h : SmR (.ok (a, t)) (.ok (b, t'))) : Sm a b ∧ t = t' := by
  simp only [SmR, mapE_ok, Except.ok.injEq, Prod.mk.injEq] at h; exact h

theorem map_eq_cases {α β : Type} {f : α → β} {x y : Except Fail α} (h : x.map f = y.map f) :
    (∃ e, x = .error e ∧ y = .error e) ∨ ∃ a b, x = .ok a ∧ y = .ok b ∧ f a = f b := by
  cases x <;> cases y <;> simp only [Except.map, Except.error.injEq, Except.ok.injEq, reduceCtorEq] at h
  · exact .inl ⟨_, rfl, by rw [h]⟩
  · exact .inr ⟨_, _, rfl, rfl, h⟩

theorem SmR.refl (x : Except Fail (Init × List ITok)) : SmR x x := rfl

theorem SmR.ok {a b : Init} {t : List ITok} (h : Sm a b) : SmR (.ok (a, t)) (.ok (b, t)) := by
  simp only [SmR, mapE_ok]; rw [h]

theorem SmR.pure {a b : Init} {t : List ITok} (h : Sm a b) : SmR (pure (a, t)) (pure (b, t)) := SmR.ok h

/-- into a result that is not a tree (`count_array_init_elements`) -/
theorem SmR.bind_eq {β : Type} {x y : Except Fail (Init × List ITok)} {k k' : Init × List ITok → Except Fail β}
    (h : SmR x y) (hk : ∀ a b t, Sm a b → k (a, t) = k' (b, t)) : (x >>= k) = (y >>= k') := by
  rcases map_eq_cases h with ⟨e, rfl, rfl⟩ | ⟨⟨a, t⟩, ⟨b, t'⟩, rfl, rfl, hab⟩
  · rfl
  · obtain ⟨h1, rfl⟩ := Prod.mk.inj hab
    exact hk a b t h1

theorem SmR.bind {x y : Except Fail (Init × List ITok)} {k k' : Init × List ITok → Except Fail (Init × List ITok)}
    (h : SmR x y) (hk : ∀ a b t, Sm a b → SmR (k (a, t)) (k' (b, t))) : SmR (x >>= k) (y >>= k') := by
  simp only [SmR, mapE_bind]
  exact SmR.bind_eq h hk

theorem SmR.bind_same {α : Type} (x : Except Fail α) {k k' : α → Except Fail (Init × List ITok)}
    (hk : ∀ a, SmR (k a) (k' a)) : SmR (x >>= k) (x >>= k') := by
  cases x with
  | error e => rfl
  | ok a => exact hk a

theorem SmR.ite {c : Prop} [Decidable c] {a a' b b' : Except Fail (Init × List ITok)} (h1 : c → SmR a a') (h2 : ¬ c → SmR b b') :
    SmR (if c then a else b) (if c then a' else b') := by
  by_cases h : c <;> simp only [h, ↓reduceIte]
  · exact h1 h
  · exact h2 h

theorem rel_of_map_eq {α β : Type} {f : α → β} {x y : Except Fail α} (h : x.map f = y.map f) :
    Rel none (fun a b => f a = f b) x y := by
  rcases map_eq_cases h with ⟨e, rfl, rfl⟩ | ⟨a, b, rfl, rfl, hab⟩
  · exact Rel.error e
  · exact Rel.ok hab

theorem SmR.of_rel {x y : P} (h : Rel none (PairRel Sm) x y) : SmR x y := by
  rcases h.cases with ⟨_, he, _⟩ | ⟨e, rfl, rfl⟩ | ⟨⟨a, t⟩, ⟨b, t'⟩, rfl, rfl, h1, h2⟩
  · cases he
  · rfl
  · simp only [SmR, mapE_ok]; rw [show erase a = erase b from h1, show t = t' from h2]

theorem Sm.children {a b : Init} (h : Sm a b) : a.children.map erase = b.children.map erase := by
  have := congrArg Init.children h
  simpa using this

theorem Sm.length {a b : Init} (h : Sm a b) : a.children.length = b.children.length := by
  have := congrArg List.length h.children
  simpa using this

theorem Sm.setChild {a b v w : Init} (h : Sm a b) (hv : Sm v w) (i : Nat) : Sm (a.setChild i v) (b.setChild i w) := by
  simp only [Sm, erase_setChild]; rw [h, hv]

theorem Sm.setExpr {a b : Init} (h : Sm a b) (e e' : Option Expr) : Sm (a.setExpr e) (b.setExpr e') := by
  simp only [Sm, erase_setExpr]; exact h

theorem Sm.setMem {a b : Init} (h : Sm a b) (k : Nat) : Sm (a.setMem k) (b.setMem k) := by
  simp only [Sm, erase_setMem]; exact h

theorem Sm.flex_iff {a b : Init} (h : Sm a b) : a = .flex ↔ b = .flex := by
  cases a <;> cases b <;> simp [Sm, erase] at h ⊢

theorem getChild_sm {a b : Init} (i : Nat) (h : Sm a b) : Rel none Sm (getChild a.children i) (getChild b.children i) := by
  refine rel_of_map_eq (f := erase) ?_
  rw [← getChild_erase, ← getChild_erase, h.children]

theorem strFill_rel (bytes : List Nat) (w : Nat) : ∀ (n : Nat) (cs1 cs2 : List Init) (i : Nat), cs1.map erase = cs2.map erase →
    (strFill bytes w cs1 i n).map (List.map erase) = (strFill bytes w cs2 i n).map (List.map erase)
  | 0, cs1, cs2, i, h => by simp only [strFill, Except.map]; rw [h]
  | n+1, [], [], i, _ => rfl
  | n+1, [], _ :: _, i, h => by simp at h
  | n+1, _ :: _, [], i, h => by simp at h
  | n+1, c1 :: cs1, c2 :: cs2, i, h => by
    simp only [List.map_cons, List.cons.injEq] at h
    rw [strFill, strFill]
    cases strElem bytes w i with
    | none => rfl
    | some v =>
      simp only
      rcases map_eq_cases (strFill_rel bytes w n cs1 cs2 (i+1) h.2) with ⟨e, h1, h2⟩ | ⟨r1, r2, h1, h2, ih⟩ <;> rw [h1, h2]
      · rfl
      · simp only [bind, Except.bind, pure, Except.pure, Except.map, List.map_cons, erase_setExpr, h.1, ih]

theorem stringInitializer_rel (elem : Ty) (bytes : List Nat) (esz : Nat) (r : List ITok) {c1 c2 : Init} (h : Sm c1 c2) :
    Rel none (PairRel Sm) (stringInitializer elem bytes esz r c1) (stringInitializer elem bytes esz r c2) := by
  unfold stringInitializer
  split
  · exact Rel.error _
  · have key : ∀ (a b : Init), Sm a b → Rel none (PairRel Sm)
        (if elem.size = 1 ∨ elem.size = 2 ∨ elem.size = 4 then do
            let cs' ← strFill bytes elem.size.toNat a.children 0 (min a.children.length (bytes.length / esz))
            pure (a.withChildren cs', r)
          else .error (.crash "unreachable: string_initializer element size"))
        (if elem.size = 1 ∨ elem.size = 2 ∨ elem.size = 4 then do
            let cs' ← strFill bytes elem.size.toNat b.children 0 (min b.children.length (bytes.length / esz))
            pure (b.withChildren cs', r)
          else .error (.crash "unreachable: string_initializer element size")) := by
      intro a b hab
      refine Rel.ite (fun _ => ?_) (fun _ => Rel.error _)
      rw [hab.length]
      refine Rel.bind (rel_of_map_eq (strFill_rel bytes elem.size.toNat _ _ _ 0 hab.children)) (fun r1 r2 hr => Rel.ok ⟨?_, rfl⟩)
      simp only [Sm, erase_withChildren]; rw [hab, hr]
    -- `if (init->is_flexible)`: the two tests agree, and both flexible nodes become the same zero array
    exact key _ _ (flexCases (P := Sm) h.flex_iff (Sm.refl _) fun _ _ => h)

/-- after `init->mem = mem` both nodes name the same member (trees of one skeleton are nodes of one kind) -/
theorem mem?_setMem_setChild {a b : Init} (h : Sm a b) (k j : Nat) (x y : Init) :
    ((a.setMem k).setChild j x).mem? = ((b.setMem k).setChild j y).mem? := by
  cases a <;> cases b <;> first | rfl | (simp [Sm, erase] at h)

def TreeRel.sm : TreeRel where
  R := Sm
  refl := Sm.refl
  setChild := fun i h hv => h.setChild hv i
  setExpr := fun e h => h.setExpr e e
  setMem := fun k h => h.setMem k
  length := Sm.length
  getChild := getChild_sm
  flex := Sm.flex_iff
  mem := fun k j x y h => mem?_setMem_setChild h k j x y
  str := fun elem bytes esz r h => stringInitializer_rel elem bytes esz r h

/-- The outcome of every function of the block is independent of what the tree holds beyond its skeleton: the parser's
    parametricity (`Par`) for trees of one skeleton at one budget, in the vocabulary of `SmR` (`ind_all`).  Only `.initializer2`
    and `.designation` are read (`consume_indep_*`). -/
structure Ind (f : Nat) : Prop where
  designation : ∀ ty toks c1 c2, Sm c1 c2 → SmR (designation f ty toks c1) (designation f ty toks c2)
  countLoop : ∀ elem toks d1 d2 i mx first, Sm d1 d2 →
    countLoop f elem toks d1 i mx first = countLoop f elem toks d2 i mx first
  arrayInit1Loop : ∀ elem toks c1 c2 i first, Sm c1 c2 →
    SmR (arrayInit1Loop f elem toks c1 i first) (arrayInit1Loop f elem toks c2 i first)
  arrayInit1 : ∀ elem toks c1 c2, Sm c1 c2 → SmR (arrayInit1 f elem toks c1) (arrayInit1 f elem toks c2)
  arrayInit2Loop : ∀ elem toks c1 c2 i, Sm c1 c2 → SmR (arrayInit2Loop f elem toks c1 i) (arrayInit2Loop f elem toks c2 i)
  arrayInit2 : ∀ elem toks c1 c2 i, Sm c1 c2 → SmR (arrayInit2 f elem toks c1 i) (arrayInit2 f elem toks c2 i)
  structInit1Loop : ∀ ms toks c1 c2 mem first, Sm c1 c2 →
    SmR (structInit1Loop f ms toks c1 mem first) (structInit1Loop f ms toks c2 mem first)
  structInit1 : ∀ ms toks c1 c2, Sm c1 c2 → SmR (structInit1 f ms toks c1) (structInit1 f ms toks c2)
  structInit2 : ∀ ms toks c1 c2 mem first, Sm c1 c2 →
    SmR (structInit2 f ms toks c1 mem first) (structInit2 f ms toks c2 mem first)
  unionRest : ∀ ms toks c1 c2, Sm c1 c2 → c1.mem? = c2.mem? → SmR (unionRest f ms toks c1) (unionRest f ms toks c2)
  unionInit : ∀ ms toks c1 c2, Sm c1 c2 → SmR (unionInit f ms toks c1) (unionInit f ms toks c2)
  initializer2 : ∀ ty toks c1 c2, Sm c1 c2 → SmR (initializer2 f ty toks c1) (initializer2 f ty toks c2)

theorem ind_all (f : Nat) : Ind f :=
  have h := par_same TreeRel.sm none f
  { designation := fun _ _ _ _ hc => .of_rel (h.designation _ _ _ _ hc)
    countLoop := fun _ _ _ _ _ _ _ hc => Rel.eq_none.1 (h.countLoop _ _ _ _ _ _ _ hc)
    arrayInit1Loop := fun _ _ _ _ _ _ hc => .of_rel (h.arrayInit1Loop _ _ _ _ _ _ hc)
    arrayInit1 := fun _ _ _ _ hc => .of_rel (h.arrayInit1 _ _ _ _ hc)
    arrayInit2Loop := fun _ _ _ _ _ hc => .of_rel (h.arrayInit2Loop _ _ _ _ _ hc)
    arrayInit2 := fun _ _ _ _ _ hc => .of_rel (h.arrayInit2 _ _ _ _ _ hc)
    structInit1Loop := fun _ _ _ _ _ _ hc => .of_rel (h.structInit1Loop _ _ _ _ _ _ hc)
    structInit1 := fun _ _ _ _ hc => .of_rel (h.structInit1 _ _ _ _ hc)
    structInit2 := fun _ _ _ _ _ _ hc => .of_rel (h.structInit2 _ _ _ _ _ _ hc)
    unionRest := fun _ _ _ _ hc hm => .of_rel (h.unionRest _ _ _ _ hc hm)
    unionInit := fun _ _ _ _ hc => .of_rel (h.unionInit _ _ _ _ hc)
    initializer2 := fun _ _ _ _ hc => .of_rel (h.initializer2 _ _ _ _ hc) }

/-- two runs of `initializer2` on trees with the same skeleton stop at the same token (any fuels) -/
theorem consume_indep_init2 {f1 f2 : Nat} {ty : Ty} {toks : List ITok} {c1 c2 c1' c2' : Init} {t1 t2 : List ITok}
    (h : Sm c1 c2) (h1 : initializer2 f1 ty toks c1 = .ok (c1', t1)) (h2 : initializer2 f2 ty toks c2 = .ok (c2', t2)) :
    t1 = t2 ∧ Sm c1' c2' := by
  have e1 := (initializer2_fuel_mono ty toks c1 f1 (max f1 f2) (Nat.le_max_left _ _)).ok h1
  have e2 := (initializer2_fuel_mono ty toks c2 f2 (max f1 f2) (Nat.le_max_right _ _)).ok h2
  have := (ind_all (max f1 f2)).initializer2 ty toks c1 c2 h
  rw [e1, e2] at this
  obtain ⟨h3, h4⟩ := SmR.ok_inv this
  exact ⟨h4, h3⟩

theorem consume_indep_desg {f1 f2 : Nat} {ty : Ty} {toks : List ITok} {c1 c2 c1' c2' : Init} {t1 t2 : List ITok}
    (h : Sm c1 c2) (h1 : designation f1 ty toks c1 = .ok (c1', t1)) (h2 : designation f2 ty toks c2 = .ok (c2', t2)) :
    t1 = t2 ∧ Sm c1' c2' := by
  have e1 := (designation_fuel_mono ty toks c1 f1 (max f1 f2) (Nat.le_max_left _ _)).ok h1
  have e2 := (designation_fuel_mono ty toks c2 f2 (max f1 f2) (Nat.le_max_right _ _)).ok h2
  have := (ind_all (max f1 f2)).designation ty toks c1 c2 h
  rw [e1, e2] at this
  obtain ⟨h3, h4⟩ := SmR.ok_inv this
  exact ⟨h4, h3⟩

end ChibiVerif.Init
