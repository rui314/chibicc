/-
C05, back-end agreement, part 1: both back ends are folds over the same list of initialised scalar leaves.

`leaves init ty off` lists, in the order both `write_gvar_data` and `create_lvar_init` visit them, the scalar leaves of the
initializer tree that carry an expression, each with the place it is stored to.  `writeGvar_leaves` / `createLvar_leaves`
are proved by structural recursion over the tree, without any reasoning about memory.  `Leaf` stands here with its footprint
(`Leaf.bLo` .. `Leaf.bitHi`), `Leaf.ok` and `Leaf.compat`.
-/
import ChibiVerif.Model.Init

namespace ChibiVerif.Init

inductive Leaf where
  | val (off sz : Nat) (kind : SKind) (e : Expr)                 -- ordinary scalar member/element
  | bf (off sz : Nat) (kind : SKind) (bo bw : Nat) (e : Expr)    -- bit-field member; `off`,`sz`: its storage unit
  deriving Repr, DecidableEq

def Leaf.off : Leaf → Nat
  | .val off _ _ _ => off
  | .bf off _ _ _ _ _ => off

def Leaf.kind : Leaf → StoreKind
  | .val _ sz kind _ => .scalar sz kind
  | .bf _ sz kind bo bw _ => .bitfield sz kind bo bw

def Leaf.e : Leaf → Expr
  | .val _ _ _ e => e
  | .bf _ _ _ _ _ e => e

def Leaf.sz : Leaf → Nat
  | .val _ sz _ _ => sz
  | .bf _ sz _ _ _ _ => sz

/-- bytes a store of this scalar type writes (`fstpt` writes 10 of the 16 bytes of a long double) -/
def storeWidth (sz : Nat) (kind : SKind) : Nat := if kind = .flt ∧ sz = 16 then 10 else sz

theorem storeWidth_le (sz : Nat) (kind : SKind) : storeWidth sz kind ≤ sz := by
  simp only [storeWidth]; split <;> omega

/-- the bytes `[bLo, bHi)` the store of a leaf writes and the bits `[bitLo, bitHi)` of the object it determines (for a bit-field its
    field: the other bits of the unit are written back as they were) -/
def Leaf.bLo (l : Leaf) : Nat := l.off
def Leaf.bHi : Leaf → Nat
  | .val off sz kind _ => off + storeWidth sz kind
  | .bf off sz _ _ _ _ => off + sz
def Leaf.bitLo : Leaf → Nat
  | .val off _ _ _ => 8 * off
  | .bf off _ _ bo _ _ => 8 * off + bo
def Leaf.bitHi : Leaf → Nat
  | .val off sz kind _ => 8 * (off + storeWidth sz kind)
  | .bf off _ _ bo bw _ => 8 * off + bo + bw
def Leaf.isReloc : Leaf → Bool
  | .val _ _ _ e => e.label.isSome
  | .bf .. => false

def bfLeaf (c : Init) (t : Ty) (loc bo bw : Nat) : List Leaf :=
  match c, t with
  | .leaf (some e), .scalar sz kind => [Leaf.bf loc sz kind bo bw e]
  | _, _ => []

mutual
  def leaves : Init → Ty → Nat → List Leaf
    | .arr cs, .array elem _, off => leavesArr cs elem off
    | .struct _ cs, .struct ms _ _, off => leavesMs cs ms off
    | .union none (some k) cs, .union ms _ _, off => leavesNth cs ms k off
    | .leaf (some e), .scalar sz kind, off => [.val off sz kind e]
    | _, _, _ => []
  def leavesArr : List Init → Ty → Nat → List Leaf
    | [], _, _ => []
    | c :: cs, elem, off => leaves c elem off ++ leavesArr cs elem (off + elem.size.toNat)
  def leavesMs : List Init → Members → Nat → List Leaf
    | c :: cs, (mi, t) :: ms, off =>
      (match mi.bf with
       | some (bo, bw) => bfLeaf c t (off + mi.offset) bo bw
       | none => leaves c t (off + mi.offset)) ++ leavesMs cs ms off
    | _, _, _ => []
  def leavesNth : List Init → Members → Nat → Nat → List Leaf
    | c :: _, (_, t) :: _, 0, off => leaves c t off
    | _ :: cs, _ :: ms, k+1, off => leavesNth cs ms k off
    | _, _, _, _ => []
end

theorem bfLeaf_noExpr {c : Init} (t : Ty) (loc bo bw : Nat) (h : hasExpr c = false) : bfLeaf c t loc bo bw = [] := by
  unfold bfLeaf
  split
  · cases h
  · rfl

mutual
  theorem leaves_noExpr : ∀ (init : Init) (ty : Ty) (off : Nat), hasExpr init = false → leaves init ty off = []
    | .arr cs, ty, off, h => by
      cases ty <;> first | rfl | exact leavesArr_noExpr cs _ off h
    | .flex, ty, _, _ => by cases ty <;> rfl
    | .struct e cs, ty, off, h => by
      simp only [hasExpr, Bool.or_eq_false_iff] at h
      cases ty <;> first | rfl | exact leavesMs_noExpr cs _ off h.2
    | .union e m cs, ty, off, h => by
      simp only [hasExpr, Bool.or_eq_false_iff, Option.isSome_eq_false_iff, Option.isNone_iff_eq_none] at h
      obtain ⟨⟨rfl, rfl⟩, _⟩ := h
      cases ty <;> rfl
    | .leaf e, ty, _, h => by
      cases e with
      | none => cases ty <;> rfl
      | some e => cases h
  theorem leavesArr_noExpr : ∀ (cs : List Init) (elem : Ty) (off : Nat), hasExprList cs = false → leavesArr cs elem off = []
    | [], _, _, _ => rfl
    | c :: cs, elem, off, h => by
      simp only [hasExprList, Bool.or_eq_false_iff] at h
      simp only [leavesArr, leaves_noExpr c elem off h.1, leavesArr_noExpr cs elem _ h.2, List.append_nil]
  theorem leavesMs_noExpr : ∀ (cs : List Init) (ms : Members) (off : Nat), hasExprList cs = false → leavesMs cs ms off = []
    | [], _, _, _ => by cases ‹Members› <;> rfl
    | _ :: _, [], _, _ => rfl
    | c :: cs, (mi, t) :: ms, off, h => by
      simp only [hasExprList, Bool.or_eq_false_iff] at h
      simp only [leavesMs, leavesMs_noExpr cs ms off h.2, List.append_nil]
      cases mi.bf with
      | none => exact leaves_noExpr c t _ h.1
      | some p => exact bfLeaf_noExpr t _ p.1 p.2 h.1
  theorem leavesNth_noExpr : ∀ (cs : List Init) (ms : Members) (k off : Nat), hasExprList cs = false → leavesNth cs ms k off = []
    | c :: _, (_, t) :: _, 0, off, h => by
      simp only [hasExprList, Bool.or_eq_false_iff] at h
      exact leaves_noExpr c t off h.1
    | _ :: cs, _ :: ms, k+1, off, h => by
      simp only [hasExprList, Bool.or_eq_false_iff] at h
      exact leavesNth_noExpr cs ms k off h.2
    | [], _, _, _, _ => by simp [leavesNth]
    | _ :: _, [], _, _, _ => by simp [leavesNth]
end

/-- a scalar may be initialised by this expression in both storage classes: no struct-valued expression; an address constant
    only where a relocation fits (8-byte integer or pointer) -/
def leafOK (sz : Nat) (kind : SKind) (e : Expr) : Bool :=
  !e.isStruct && (e.label.isNone || (sz == 8 && (kind == .int || kind == .ptr)))

/-- `mask` of the bit-field arms (parse.c l.1549, codegen.c l.871): `(bit_width == 64) ? -1UL : (1UL << bit_width) - 1` -/
def bfMask (bw : Nat) : Nat := (2 ^ bw - 1) % 18446744073709551616

/-- a bit-field may be initialised by this expression: an integer constant expression -/
def bfOK (kind : SKind) (e : Expr) : Bool :=
  !e.isStruct && e.label.isNone && (kind == .int || kind == .bool)

def scalarOK (sz : Nat) (kind : SKind) : Bool :=
  match kind with
  | .flt => sz == 4 || sz == 8 || sz == 16
  | .bool => sz == 1
  | _ => sz == 1 || sz == 2 || sz == 4 || sz == 8

def Leaf.ok (size : Nat) : Leaf → Prop
  | .val off sz kind e => leafOK sz kind e = true ∧ scalarOK sz kind = true ∧ off + sz ≤ size
  | .bf off sz kind bo bw e => bfOK kind e = true ∧ (sz = 1 ∨ sz = 2 ∨ sz = 4 ∨ sz = 8) ∧ bo + bw ≤ 8 * sz ∧
      off + sz ≤ size

/-- two leaves do not interfere: their bits are disjoint, and a relocation slot shares no byte with the other's store -/
def Leaf.compat (a b : Leaf) : Prop :=
  (a.bitHi ≤ b.bitLo ∨ b.bitHi ≤ a.bitLo) ∧
  ((a.isReloc = true ∨ b.isReloc = true) → (a.bHi ≤ b.bLo ∨ b.bHi ≤ a.bLo))

/-- leaf inside the byte window `[lo, hi)` and admissible -/
def Leaf.inWin (lo hi : Nat) (l : Leaf) : Prop := lo ≤ l.off ∧ l.off + l.sz ≤ hi ∧ l.ok (l.off + l.sz)

mutual
  /-- the tree has the shape of the (resolved) type and every expression is admissible for its leaf -/
  def fits : Init → Ty → Bool
    | .arr cs, .array elem n => cs.length == n && fitsArr cs elem
    | .flex, .array _ _ => true
    | .struct none cs, .struct ms _ _ => fitsMs cs ms
    | .union none none cs, .union ms _ _ => fitsNth cs ms 0 && !(hasExprList cs)
    | .union none (some k) cs, .union ms _ _ => fitsNth cs ms k
    | .leaf none, .scalar _ _ => true
    | .leaf (some e), .scalar sz kind => leafOK sz kind e
    | _, _ => false
  def fitsArr : List Init → Ty → Bool
    | [], _ => true
    | c :: cs, e => fits c e && fitsArr cs e
  def fitsMs : List Init → Members → Bool
    | [], [] => true
    | c :: cs, (mi, t) :: ms =>
      (match mi.bf with
       | some _ => (match c, t with
         | .leaf none, .scalar _ _ => true
         | .leaf (some e), .scalar _ kind => bfOK kind e
         | _, _ => false)
       | none => fits c t) && fitsMs cs ms
    | _, _ => false
  def fitsNth : List Init → Members → Nat → Bool
    | c :: _, (mi, t) :: _, 0 => mi.bf.isNone && mi.offset == 0 && fits c t
    | _ :: cs, _ :: ms, k+1 => fitsNth cs ms k
    | _, _, _ => false
end

theorem fitsNth_ne {cs : List Init} {ms : Members} {k : Nat} (h : fitsNth cs ms k = true) : ms.isEmpty = false := by
  cases ms with
  | nil => cases cs <;> cases k <;> simp [fitsNth] at h
  | cons m r => rfl

theorem fits_arr {cs : List Init} {ty : Ty} (h : fits (.arr cs) ty = true) :
    ∃ elem n, ty = .array elem n ∧ cs.length = n ∧ fitsArr cs elem = true := by
  cases ty <;> simp only [fits, Bool.and_eq_true, beq_iff_eq] at h <;> first | exact ⟨_, _, rfl, h⟩ | cases h

theorem fits_flex {ty : Ty} (h : fits .flex ty = true) : ∃ elem n, ty = .array elem n := by
  cases ty <;> first | exact ⟨_, _, rfl⟩ | cases h

theorem fits_struct {e : Option Expr} {cs : List Init} {ty : Ty} (h : fits (.struct e cs) ty = true) :
    e = none ∧ ∃ ms sz fl, ty = .struct ms sz fl ∧ fitsMs cs ms = true := by
  cases e <;> cases ty <;> first | exact ⟨rfl, _, _, _, rfl, h⟩ | cases h

/-- without chosen member the union counts as holding its first member, and holds no expression -/
theorem fits_union {e : Option Expr} {m : Option Nat} {cs : List Init} {ty : Ty} (h : fits (.union e m cs) ty = true) :
    e = none ∧ ∃ ms sz fl, ty = .union ms sz fl ∧ fitsNth cs ms (m.getD 0) = true ∧ (m = none → hasExprList cs = false) := by
  cases e <;> cases m <;> cases ty <;> first
    | exact ⟨rfl, _, _, _, rfl, h, fun hm => nomatch hm⟩
    | (simp only [fits, Bool.and_eq_true, Bool.not_eq_true'] at h; exact ⟨rfl, _, _, _, rfl, h.1, fun _ => h.2⟩)
    | cases h

theorem fits_leaf {e : Option Expr} {ty : Ty} (h : fits (.leaf e) ty = true) :
    ∃ sz kind, ty = .scalar sz kind ∧ ∀ x, e = some x → leafOK sz kind x = true := by
  cases e <;> cases ty <;> first
    | exact ⟨_, _, rfl, fun _ hx => by cases hx <;> exact h⟩
    | cases h

theorem fitsMs_bf {c : Init} {cs : List Init} {mi : MemInfo} {t : Ty} {ms : Members} {p : Nat × Nat} (hbf : mi.bf = some p)
    (h : fitsMs (c :: cs) ((mi, t) :: ms) = true) :
    (∃ sz kind, t = .scalar sz kind ∧ (c = .leaf none ∨ ∃ e, c = .leaf (some e) ∧ bfOK kind e = true)) ∧ fitsMs cs ms = true := by
  simp only [fitsMs, hbf, Bool.and_eq_true] at h
  refine ⟨?_, h.2⟩
  have h1 := h.1
  split at h1
  · exact ⟨_, _, rfl, .inl rfl⟩
  · exact ⟨_, _, rfl, .inr ⟨_, rfl, h1⟩⟩
  · cases h1

/-- what `write_gvar_data` does at one leaf -/
def staticLeaf (im : Image) : Leaf → Except Fail Image
  | .val off sz kind e => writeGvarLeaf e sz kind im off
  | .bf loc sz kind bo bw e =>
    if e.label.isSome then .error (.diag "not a compile-time constant")
    else do
      let oldval ← readBuf im.bytes loc sz
      let newval := if kind = .bool then (if e.nz then 1 else 0) else u64 e.ival
      let mask := (2 ^ bw - 1) % 18446744073709551616
      let combined := oldval ||| (((newval &&& mask) <<< bo) % 18446744073709551616)
      let bytes ← writeBuf im.bytes loc combined sz
      pure { im with bytes := bytes }

mutual
  theorem writeGvar_leaves : ∀ (init : Init) (ty : Ty) (im : Image) (off : Nat), fits init ty = true →
      writeGvar init ty im off = (leaves init ty off).foldlM staticLeaf im
    | .arr cs, ty, im, off, h => by
      obtain ⟨elem, n, rfl, _, ha⟩ := fits_arr h
      simp only [writeGvar, leaves]
      exact writeGvarArr_leaves cs elem im off ha
    | .flex, ty, im, off, h => by
      obtain ⟨elem, n, rfl⟩ := fits_flex h
      simp only [writeGvar, leaves, List.foldlM_nil]; rfl
    | .struct e cs, ty, im, off, h => by
      obtain ⟨rfl, ms, sz, fl, rfl, hm⟩ := fits_struct h
      simp only [writeGvar, leaves]
      exact writeGvarMs_leaves cs ms im off hm
    | .union e m cs, ty, im, off, h => by
      obtain ⟨rfl, ms, sz, fl, rfl, hn, _⟩ := fits_union h
      cases m with
      | none => simp only [writeGvar, leaves, List.foldlM_nil]; rfl
      | some k =>
        simp only [writeGvar, leaves]
        exact writeGvarNth_leaves cs ms k im off hn
    | .leaf e, ty, im, off, h => by
      obtain ⟨sz, kind, rfl, _⟩ := fits_leaf h
      cases e with
      | none => simp only [writeGvar, leaves, List.foldlM_nil]; rfl
      | some e => simp [writeGvar, leaves, staticLeaf]
  theorem writeGvarArr_leaves : ∀ (cs : List Init) (elem : Ty) (im : Image) (off : Nat), fitsArr cs elem = true →
      writeGvarArr cs elem im off = (leavesArr cs elem off).foldlM staticLeaf im
    | [], _, im, _, _ => by simp only [writeGvarArr, leavesArr, List.foldlM_nil]; rfl
    | c :: cs, elem, im, off, h => by
      simp only [fitsArr, Bool.and_eq_true] at h
      simp only [writeGvarArr, leavesArr, List.foldlM_append]
      rw [writeGvar_leaves c elem im off h.1]
      congr 1
      funext im'
      exact writeGvarArr_leaves cs elem im' _ h.2
  theorem writeGvarMs_leaves : ∀ (cs : List Init) (ms : Members) (im : Image) (off : Nat), fitsMs cs ms = true →
      writeGvarMs cs ms im off = (leavesMs cs ms off).foldlM staticLeaf im
    | [], [], im, _, _ => by simp only [writeGvarMs, leavesMs, List.foldlM_nil]; rfl
    | [], _ :: _, _, _, h => by simp [fitsMs] at h
    | _ :: _, [], _, _, h => by simp [fitsMs] at h
    | c :: cs, (mi, t) :: ms, im, off, h => by
      simp only [writeGvarMs, leavesMs, List.foldlM_append]
      cases hbf : mi.bf with
      | none =>
        simp only [fitsMs, hbf, Bool.and_eq_true] at h
        simp only
        rw [writeGvar_leaves c t im _ h.1]
        congr 1
        funext im'
        exact writeGvarMs_leaves cs ms im' off h.2
      | some p =>
        obtain ⟨bo, bw⟩ := p
        obtain ⟨⟨sz, kind, rfl, rfl | ⟨e, rfl, _⟩⟩, h2⟩ := fitsMs_bf hbf h
        · simp only [Init.expr?, bfLeaf, List.foldlM_nil, pure_bind]
          exact writeGvarMs_leaves cs ms im off h2
        · simp only [Init.expr?, bfLeaf, List.foldlM_cons, List.foldlM_nil, staticLeaf, Ty.size, Int.toNat_natCast]
          by_cases hl : e.label.isSome = true
          · simp only [hl, ↓reduceIte]; rfl
          · simp only [hl, Bool.false_eq_true, ↓reduceIte, bind_assoc, pure_bind]
            congr 1; funext o
            cases kind <;> simp only [reduceCtorEq, ↓reduceIte] <;>
              (congr 1; funext b; exact writeGvarMs_leaves cs ms _ off h2)
  theorem writeGvarNth_leaves : ∀ (cs : List Init) (ms : Members) (k : Nat) (im : Image) (off : Nat), fitsNth cs ms k = true →
      writeGvarNth cs ms k im off = (leavesNth cs ms k off).foldlM staticLeaf im
    | c :: _, (mi, t) :: _, 0, im, off, h => by
      simp only [fitsNth, Bool.and_eq_true] at h
      simp only [writeGvarNth, leavesNth]
      exact writeGvar_leaves c t im off h.2
    | _ :: cs, _ :: ms, k+1, im, off, h => by
      simp only [fitsNth] at h
      simp only [writeGvarNth, leavesNth]
      exact writeGvarNth_leaves cs ms k im off h
    | [], _, _, _, _, h => by simp [fitsNth] at h
    | _ :: _, [], _, _, _, h => by simp [fitsNth] at h
end

def pathAddr (path : List Desg) : Nat := (path.map Desg.disp).foldl (· + ·) 0

theorem pathAddr_snoc (p : List Desg) (d : Desg) : pathAddr (p ++ [d]) = pathAddr p + d.disp := by
  simp [pathAddr, List.foldl_append]

theorem Assign.addr_eq (a : Assign) : a.addr = pathAddr a.path := rfl

def Leaf.key (l : Leaf) : Nat × StoreKind × Expr := (l.off, l.kind, l.e)
def Assign.key (a : Assign) : Nat × StoreKind × Expr := (a.addr, a.kind, a.e)

/-- the assignment chain stores exactly at the leaves -/
def SameAs (as : List Assign) (ls : List Leaf) : Prop := as.map Assign.key = ls.map Leaf.key

theorem SameAs.append {a1 a2 : List Assign} {l1 l2 : List Leaf} (h1 : SameAs a1 l1) (h2 : SameAs a2 l2) :
    SameAs (a1 ++ a2) (l1 ++ l2) := by
  simp only [SameAs, List.map_append] at *
  rw [h1, h2]

theorem SameAs.nil {as : List Assign} (h : SameAs as []) : as = [] := List.map_eq_nil_iff.1 h

mutual
  theorem createLvar_leaves : ∀ (init : Init) (ty : Ty) (path : List Desg), fits init ty = true →
      ∃ as, createLvarInit init ty path none = .ok as ∧ SameAs as (leaves init ty (pathAddr path))
    | .arr cs, ty, path, h => by
      obtain ⟨elem, n, rfl, _, ha⟩ := fits_arr h
      simp only [createLvarInit, leaves]
      have := createLvarArr_leaves cs elem path 0 (pathAddr path) ha
      simpa using this
    | .flex, ty, _, h => by
      obtain ⟨elem, n, rfl⟩ := fits_flex h
      exact ⟨[], by simp [createLvarInit], by simp [leaves, SameAs]⟩
    | .struct e cs, ty, path, h => by
      obtain ⟨rfl, ms, sz, fl, rfl, hm⟩ := fits_struct h
      simp only [createLvarInit, leaves]
      exact createLvarMs_leaves cs ms path hm
    | .union e m cs, ty, path, h => by
      obtain ⟨rfl, ms, sz, fl, rfl, hk, hn⟩ := fits_union h
      obtain ⟨as, has, hs⟩ := createLvarNth_leaves cs ms (m.getD 0) path hk
      simp only [createLvarInit, fitsNth_ne hk, Bool.false_eq_true, ↓reduceIte, has]
      cases m with
      | none =>
        -- the first member is walked, and has no leaves
        rw [Option.getD_none, leavesNth_noExpr cs ms 0 _ (hn rfl)] at hs
        exact ⟨[], by rw [hs.nil], by simp [leaves, SameAs]⟩
      | some k => exact ⟨as, rfl, hs⟩
    | .leaf e, ty, path, h => by
      obtain ⟨sz, kind, rfl, _⟩ := fits_leaf h
      cases e with
      | none => exact ⟨[], by simp [createLvarInit], by simp [leaves, SameAs]⟩
      | some e =>
        exact ⟨[{ path := path, kind := .scalar sz kind, e := e }], by simp [createLvarInit],
          by simp [leaves, SameAs, Assign.key, Leaf.key, Assign.addr, pathAddr, Leaf.off, Leaf.kind, Leaf.e]⟩
  /-- element `i` is addressed at `base + i * size`; `off` is that address for the first remaining element -/
  theorem createLvarArr_leaves : ∀ (cs : List Init) (elem : Ty) (path : List Desg) (i off : Nat), fitsArr cs elem = true →
      off = pathAddr path + i * elem.size.toNat →
      ∃ as, createLvarArr cs elem path i = .ok as ∧ SameAs as (leavesArr cs elem off)
    | [], _, _, _, _, _, _ => ⟨[], by simp [createLvarArr], by simp [leavesArr, SameAs]⟩
    | c :: cs, elem, path, i, off, h, ho => by
      simp only [fitsArr, Bool.and_eq_true] at h
      obtain ⟨a1, e1, s1⟩ := createLvar_leaves c elem (path ++ [.idx i elem.size.toNat]) h.1
      obtain ⟨a2, e2, s2⟩ := createLvarArr_leaves cs elem path (i+1) (off + elem.size.toNat) h.2
        (by rw [ho, Nat.add_mul]; omega)
      refine ⟨a1 ++ a2, ?_, ?_⟩
      · simp only [createLvarArr, e1, e2]; rfl
      · simp only [leavesArr]
        rw [pathAddr_snoc] at s1
        simp only [Desg.disp] at s1
        rw [← ho] at s1
        exact s1.append s2
  theorem createLvarMs_leaves : ∀ (cs : List Init) (ms : Members) (path : List Desg), fitsMs cs ms = true →
      ∃ as, createLvarMs cs ms path = .ok as ∧ SameAs as (leavesMs cs ms (pathAddr path))
    | [], [], _, _ => ⟨[], by simp [createLvarMs], by simp [leavesMs, SameAs]⟩
    | [], _ :: _, _, h => by simp [fitsMs] at h
    | _ :: _, [], _, h => by simp [fitsMs] at h
    | c :: cs, (mi, t) :: ms, path, h => by
      have hc : fitsMs cs ms = true ∧ ∃ a1, createLvarInit c t (path ++ [.mem mi.offset]) mi.bf = .ok a1 ∧
          SameAs a1 (match mi.bf with
            | some (bo, bw) => bfLeaf c t (pathAddr path + mi.offset) bo bw
            | none => leaves c t (pathAddr path + mi.offset)) := by
        cases hbf : mi.bf with
        | none =>
          simp only [fitsMs, hbf, Bool.and_eq_true] at h
          obtain ⟨a1, e1, s1⟩ := createLvar_leaves c t (path ++ [.mem mi.offset]) h.1
          rw [pathAddr_snoc] at s1
          exact ⟨h.2, a1, e1, s1⟩
        | some p =>
          obtain ⟨bo, bw⟩ := p
          obtain ⟨⟨sz, kind, rfl, rfl | ⟨e, rfl, _⟩⟩, h2⟩ := fitsMs_bf hbf h
          · exact ⟨h2, [], by simp [createLvarInit], by simp [SameAs, bfLeaf]⟩
          · exact ⟨h2, [{ path := path ++ [.mem mi.offset], kind := .bitfield sz kind bo bw, e := e }], by simp [createLvarInit],
              by simp [SameAs, bfLeaf, Assign.key, Leaf.key, Assign.addr_eq, pathAddr_snoc, Desg.disp, Leaf.off, Leaf.kind, Leaf.e]⟩
      obtain ⟨h2, a1, e1, s1⟩ := hc
      obtain ⟨a2, e2, s2⟩ := createLvarMs_leaves cs ms path h2
      refine ⟨a1 ++ a2, ?_, ?_⟩
      · simp only [createLvarMs, e1, e2]; rfl
      · simp only [leavesMs]
        exact s1.append s2
  theorem createLvarNth_leaves : ∀ (cs : List Init) (ms : Members) (k : Nat) (path : List Desg), fitsNth cs ms k = true →
      ∃ as, createLvarNth cs ms k path = .ok as ∧ SameAs as (leavesNth cs ms k (pathAddr path))
    | c :: _, (mi, t) :: _, 0, path, h => by
      simp only [fitsNth, Bool.and_eq_true] at h
      have hbf : mi.bf = none := by simpa using h.1.1
      have ho : mi.offset = 0 := by simpa using h.1.2
      obtain ⟨a1, e1, s1⟩ := createLvar_leaves c t (path ++ [.mem mi.offset]) h.2
      rw [pathAddr_snoc] at s1
      simp only [Desg.disp, ho, Nat.add_zero] at s1
      exact ⟨a1, by simp only [createLvarNth, hbf]; exact e1, by simpa [leavesNth] using s1⟩
    | _ :: cs, _ :: ms, k+1, path, h => by
      simp only [fitsNth] at h
      simp only [createLvarNth, leavesNth]
      exact createLvarNth_leaves cs ms k path h
    | [], _, _, _, h => by simp [fitsNth] at h
    | _ :: _, [], _, _, h => by simp [fitsNth] at h
end

/-- only an initialised scalar looks at the bit-field flag -/
theorem createLvarInit_bf (init : Init) (ty : Ty) (path : List Desg) (bf : Option (Nat × Nat)) (h : hasExpr init = false) :
    createLvarInit init ty path bf = createLvarInit init ty path none := by
  cases init with
  | leaf e => cases e <;> first | (cases ty <;> rfl) | cases h
  | struct e cs => cases e <;> cases ty <;> rfl
  | union e m cs => cases e <;> cases ty <;> rfl
  | _ => cases ty <;> rfl

theorem createLvar_noExpr : ∀ (init : Init) (ty : Ty) (path : List Desg) (bf : Option (Nat × Nat)),
      fits init ty = true → hasExpr init = false → createLvarInit init ty path bf = .ok [] := by
  intro init ty path bf h hn
  obtain ⟨as, has, hs⟩ := createLvar_leaves init ty path h
  rw [leaves_noExpr init ty _ hn] at hs
  rw [createLvarInit_bf init ty path bf hn, has, hs.nil]

theorem createLvarMs_noExpr : ∀ (cs : List Init) (ms : Members) (path : List Desg),
      fitsMs cs ms = true → hasExprList cs = false → createLvarMs cs ms path = .ok [] := by
  intro cs ms path h hn
  obtain ⟨as, has, hs⟩ := createLvarMs_leaves cs ms path h
  rw [leavesMs_noExpr cs ms _ hn] at hs
  rw [has, hs.nil]

end ChibiVerif.Init
