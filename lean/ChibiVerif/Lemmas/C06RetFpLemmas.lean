/-
C06, return values with a floating type on either side: the conversion is C02's (`C02_select`); the epilogue leaves %xmm0, the
x87 stack and the control word alone; the caller adds no instruction for a floating return type.
-/
import ChibiVerif.Lemmas.C06RetLemmas
import ChibiVerif.Lemmas.C06ArgFpLemmas

namespace ChibiVerif.C06Ret
open ChibiVerif.X86 ChibiVerif.Asm ChibiVerif.Fp ChibiVerif.Spec.Fpu ChibiVerif.Spec.FpC11 ChibiVerif.Spec.IntSpec
open ChibiVerif.Gen.CommonType ChibiVerif.Gen.ReturnStmt ChibiVerif.C06Args

theorem retSeq_arith (frm to : ATy) : retSeq (descrA to) (descrA frm) = Fp.castSeq frm to :=
  (retSeq_scalar _ _ (descrA_scalar to)).trans (castChain_arith frm to)

theorem epilogue_fp (F : FpuSpec) (s : FState) :
    ∃ s', Fp.run F epilogueSeq s = some s' ∧ s'.xmm0 = s.xmm0 ∧ s'.xmm1 = s.xmm1 ∧ s'.st = s.st ∧ s'.cw = s.cw ∧
      s'.x.get .rax = s.x.get .rax := by
  obtain ⟨x, xmm0, xmm1, st, cw⟩ := s
  refine ⟨_, rfl, rfl, rfl, rfl, rfl, ?_⟩
  exact (State.get_set_ne _ _ _ _ (by decide)).trans
    ((State.get_set_ne _ _ _ _ (by decide)).trans (State.get_set_ne (x.set .rsp (x.get .rbp)) _ _ _ (by decide)))

theorem holds_congr (t : ATy) (s s' : FState) (y : AVal) (hx : s'.xmm0 = s.xmm0) (hst : s'.st = s.st)
    (hrax : s'.x.get .rax = s.x.get .rax) (h : Holds t s y) : Holds t s' y := by
  unfold Holds at h ⊢
  rw [hx, hst, hrax]; exact h

/-- no instruction after `call` for a floating return type -/
theorem callerRetSeq_fp :
    callerRetSeq (descrA .f32) = [] ∧ callerRetSeq (descrA .f64) = [] ∧ callerRetSeq (descrA .f80) = [] := ⟨rfl, rfl, rfl⟩

end ChibiVerif.C06Ret
