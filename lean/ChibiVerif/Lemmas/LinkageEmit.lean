/-
Helper lemmas for C15 about what `emit_text` reads: `scan_globals` does not touch the function objects (`fnsOf_scanCore`),
which is all `emit_text` and the list of function names look at; `mark_live` keeps the state well formed; the flag of a
function object is `liveFn` of its name (`isLive_eq_liveFn`); the three phases of a successful `parseUnit` (`parseUnit_ok`).
(The entries `emit_data` and `emit_text` print are read in Lemmas/LinkageTent.lean.)
-/
import ChibiVerif.Lemmas.LinkageParse
import ChibiVerif.Lemmas.LinkageLive
import ChibiVerif.Lemmas.LinkageScan

namespace ChibiVerif.Linkage

theorem filter_notTent_scanCore (gs : List Obj) :
    (scanCore gs).filter (fun o => !o.isTentative) = gs.filter (fun o => !o.isTentative) :=
  scanCore_filter (fun _ h => by simpa using h) (fun _ _ => rfl) gs

theorem fnNotTent_of_tyRel {l l' : List Obj} (h : TyRel l l') (hf : FnNotTent l) : FnNotTent l' := by
  intro b hb hfun
  obtain ⟨a, ha, t, rfl⟩ := h.mem hb
  exact hf a ha hfun

theorem fnNotTent_scanCore {gs : List Obj} (hf : FnNotTent gs) : FnNotTent (scanCore gs) :=
  fnNotTent_of_tyRel (scanCore_tyRel gs) fun a ha => hf a (scanPure_sub gs gs a ha)

/-! ### the function objects of a list

`find_func` (Lemmas/LinkageLemmas.lean), `emit_text` and the list of function names read function objects only, so that a
phase leaves them alone is said once, for `fnsOf`. -/

theorem emitText_fnsOf (l : List Obj) : emitText (fnsOf l) = emitText l :=
  filterMap_fnsOf (fun o h => by simp [emitTextFn, h]) l

theorem fnNamesOf_fnsOf (l : List Obj) : fnNamesOf (fnsOf l) = fnNamesOf l :=
  filterMap_fnsOf (fun o h => by simp [fnName, h]) l

/-- `scan_globals` leaves the function objects alone: they are not tentative definitions -/
theorem fnsOf_scanCore {gs : List Obj} (hf : FnNotTent gs) : fnsOf (scanCore gs) = fnsOf gs := by
  have sel : ∀ {l : List Obj}, FnNotTent l → fnsOf l = l.filter (fun o => o.isFunction && !o.isTentative) := fun hl =>
    List.filter_congr fun o ho => by
      cases h : o.isFunction
      · rfl
      · simp [hl o ho h]
  rw [sel (fnNotTent_scanCore hf), sel hf]
  exact scanCore_filter (fun o h => by
    simp only [Bool.and_eq_true, Bool.not_eq_true'] at h; exact h.2) (fun _ _ => rfl) gs

/-! ### what `mark_live` keeps -/

theorem LiveUpd.fnNamesOf {gs gs' : List Obj} (h : LiveUpd gs gs') : fnNamesOf gs' = fnNamesOf gs := by
  induction h with
  | nil => rfl
  | cons hr _ ih =>
    rcases hr with rfl | rfl
    · simp only [ChibiVerif.Linkage.fnNamesOf, List.filterMap_cons] at ih ⊢; rw [ih]
    · simp only [ChibiVerif.Linkage.fnNamesOf, List.filterMap_cons] at ih ⊢
      rw [ih]; rfl

theorem LiveUpd.fnNotTent {gs gs' : List Obj} (h : LiveUpd gs gs') (hf : FnNotTent gs) : FnNotTent gs' := by
  intro o' ho' hfun
  obtain ⟨o, ho, hh⟩ := h.mem ho'
  rcases hh with rfl | rfl
  · exact hf _ ho hfun
  · exact hf o ho hfun

theorem isLive_eq_liveFn {gs : List Obj} (hn : (fnNamesOf gs).Nodup) {o : Obj} {f : Name} (ho : o ∈ gs)
    (hfun : o.isFunction = true) (hs : o.sym = .named f) : o.isLive = liveFn gs f := by
  unfold liveFn
  rw [findFunc_of_mem hn ho hfun hs]

variable [Rules]

/-- inverts a success (unlike the `_ok` lemmas of Lemmas/LinkageOk.lean, which establish one): the three phases -/
theorem parseUnit_ok {ds : List Decl} {gs : List Obj} (h : parseUnit ds = .ok gs) :
    ∃ st gs', declAll {} ds = .ok st ∧ markRoots st.globals = some gs' ∧ gs = scanGlobals gs' := by
  obtain ⟨st, hst, h⟩ := Except.bind_eq_ok h
  split at h
  · cases h
  · rename_i gs' hm
    cases h
    exact ⟨st, gs', hst, hm, rfl⟩


end ChibiVerif.Linkage
