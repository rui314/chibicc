/-
Helper lemmas for C15: how a successful `function` / `global_variable` / `declAll` decomposes into its parts; the kinds of
mutation the parser performs (`Evolves`) and what they preserve (function objects have distinct names, no `is_live` flag is
set before the root loop).  That every parser step is such a mutation is read off the exact lists in LinkageExact.lean.
-/
import ChibiVerif.Lemmas.LinkageLemmas
import ChibiVerif.Lemmas.ExceptLemmas

namespace ChibiVerif.Linkage

/-- `fn->uses = ..` -/
def setUsesO (l : List Sym) : Obj → Obj := fun o => { o with uses := l }

def fnName (o : Obj) : Option Name :=
  if o.isFunction then (match o.sym with | .named n => some n | .anon _ => none) else none

def fnNamesOf (gs : List Obj) : List Name := gs.filterMap fnName

def FnNotTent (gs : List Obj) : Prop := ∀ o, o ∈ gs → o.isFunction = true → o.isTentative = false

def FnNamed (gs : List Obj) : Prop := ∀ o, o ∈ gs → o.isFunction = true → ∃ f, o.sym = .named f

/-- well-formed parser state: one object per function name, no `is_live` flag set -/
structure WF (gs : List Obj) : Prop where
  nodup : (fnNamesOf gs).Nodup
  noneLive : NoneLive gs
  fnNotTent : FnNotTent gs
  named : FnNamed gs

/-- updates that touch neither the identity of an object nor its `is_live` flag -/
def Keeps (u : Obj → Obj) : Prop :=
  ∀ o, (u o).isFunction = o.isFunction ∧ (u o).sym = o.sym ∧ (u o).isLive = o.isLive ∧ (u o).isTentative = o.isTentative

theorem fnName_keeps {u : Obj → Obj} (hu : Keeps u) (o : Obj) : fnName (u o) = fnName o := by
  unfold fnName
  rw [(hu o).1, (hu o).2.1]

theorem fnNamesOf_updFirst {u : Obj → Obj} (hu : Keeps u) (p : Obj → Bool) (gs : List Obj) :
    fnNamesOf (updFirst p u gs) = fnNamesOf gs := by
  induction gs with
  | nil => rfl
  | cons o os ih =>
    unfold updFirst
    split
    · simp [fnNamesOf, List.filterMap_cons, fnName_keeps hu]
    · simp only [fnNamesOf, List.filterMap_cons] at ih ⊢
      rw [ih]

theorem mem_updFirst {p : Obj → Bool} {u : Obj → Obj} {gs : List Obj} {o' : Obj} (h : o' ∈ updFirst p u gs) :
    ∃ o, o ∈ gs ∧ (o' = o ∨ o' = u o) := by
  induction gs with
  | nil => simp [updFirst] at h
  | cons a as ih =>
    unfold updFirst at h
    split at h
    · rcases List.mem_cons.mp h with h | h
      · exact ⟨a, List.mem_cons_self, Or.inr h⟩
      · exact ⟨o', List.mem_cons_of_mem _ h, Or.inl rfl⟩
    · rcases List.mem_cons.mp h with h | h
      · exact ⟨a, List.mem_cons_self, Or.inl h⟩
      · obtain ⟨o, ho, hh⟩ := ih h
        exact ⟨o, List.mem_cons_of_mem _ ho, hh⟩

theorem forall_updFirst {Q : Obj → Prop} {u : Obj → Obj} (hu : ∀ o, Q o → Q (u o)) (p : Obj → Bool) {gs : List Obj}
    (h : ∀ o, o ∈ gs → Q o) : ∀ o, o ∈ updFirst p u gs → Q o := by
  intro o' ho'
  obtain ⟨o, ho, rfl | rfl⟩ := mem_updFirst ho'
  · exact h _ ho
  · exact hu o (h o ho)

theorem mem_fnNamesOf {gs : List Obj} {f : Name} :
    f ∈ fnNamesOf gs ↔ ∃ o, o ∈ gs ∧ o.isFunction = true ∧ o.sym = .named f := by
  unfold fnNamesOf
  rw [List.mem_filterMap]
  constructor
  · rintro ⟨o, ho, hn⟩
    refine ⟨o, ho, ?_⟩
    unfold fnName at hn
    cases hfun : o.isFunction
    · simp [hfun] at hn
    · cases hs : o.sym with
      | named n => simp [hfun, hs] at hn; exact ⟨rfl, by rw [hn]⟩
      | anon k => simp [hfun, hs] at hn
  · rintro ⟨o, ho, hfun, hs⟩
    exact ⟨o, ho, by simp [fnName, hfun, hs]⟩

theorem findFunc_none_iff {gs : List Obj} {f : Name} : findFunc gs f = none ↔ f ∉ fnNamesOf gs := by
  rw [mem_fnNamesOf, findFunc]
  simp only [List.find?_eq_none, Bool.and_eq_true, beq_iff_eq, not_and, not_exists]

theorem findFunc_of_mem {gs : List Obj} (hn : (fnNamesOf gs).Nodup) {o : Obj} {f : Name} (ho : o ∈ gs)
    (hfun : o.isFunction = true) (hs : o.sym = .named f) : findFunc gs f = some o := by
  induction gs with
  | nil => cases ho
  | cons a as ih =>
    have hfn : fnName o = some f := by simp [fnName, hfun, hs]
    simp only [findFunc, List.find?]
    rcases List.mem_cons.mp ho with rfl | ho'
    · simp [hfun, hs]
    · cases hp : (a.isFunction && a.sym == Sym.named f)
      · simp only
        have hn' : (fnNamesOf as).Nodup := by
          unfold fnNamesOf at hn ⊢
          simp only [List.filterMap_cons] at hn
          split at hn
          · exact hn
          · exact (List.nodup_cons.mp hn).2
        exact ih hn' ho'
      · exfalso
        simp only [Bool.and_eq_true, beq_iff_eq] at hp
        have ha : fnName a = some f := by simp [fnName, hp.1, hp.2]
        unfold fnNamesOf at hn
        simp only [List.filterMap_cons, ha] at hn
        have := (List.nodup_cons.mp hn).1
        exact this (List.mem_filterMap.mpr ⟨o, ho', hfn⟩)

/-- `gs'` is reached from `gs` by the kinds of mutation the parser performs -/
inductive Evolves : List Obj → List Obj → Prop where
  | refl {gs} : Evolves gs gs
  | upd {gs gs1} (p : Obj → Bool) (u : Obj → Obj) (hu : Keeps u) : Evolves gs gs1 → Evolves gs (updFirst p u gs1)
  | consData {gs gs1} (o : Obj) (hf : o.isFunction = false) (hl : o.isLive = false) : Evolves gs gs1 → Evolves gs (o :: gs1)
  | consFn {gs gs1} (o : Obj) (f : Name) (hf : o.isFunction = true) (hs : o.sym = .named f) (hl : o.isLive = false)
      (ht : o.isTentative = false) (hnew : findFunc gs1 f = none) : Evolves gs gs1 → Evolves gs (o :: gs1)

theorem Evolves.trans {a b c : List Obj} (h1 : Evolves a b) (h2 : Evolves b c) : Evolves a c := by
  induction h2 with
  | refl => exact h1
  | upd p u hu _ ih => exact Evolves.upd p u hu ih
  | consData o hf hl _ ih => exact Evolves.consData o hf hl ih
  | consFn o f hf hs hl ht hnew _ ih => exact Evolves.consFn o f hf hs hl ht hnew ih

theorem WF.evolves {gs gs' : List Obj} (h : Evolves gs gs') (w : WF gs) : WF gs' := by
  induction h with
  | refl => exact w
  | upd p u hu _ ih =>
    exact ⟨by rw [fnNamesOf_updFirst hu]; exact ih.nodup,
      -- `Keeps u`: `is_live` stays
      forall_updFirst (Q := fun o => o.isLive = false) (fun o ho => by rw [(hu o).2.2.1]; exact ho) p ih.noneLive,
      -- `is_tentative` stays, and `u o` is a function only if `o` is
      forall_updFirst (Q := fun o => o.isFunction = true → o.isTentative = false)
        (fun o ho hf => by rw [(hu o).2.2.2]; rw [(hu o).1] at hf; exact ho hf) p ih.fnNotTent,
      -- the name stays
      forall_updFirst (Q := fun o => o.isFunction = true → ∃ f, o.sym = .named f)
        (fun o ho hf => by rw [(hu o).1] at hf; rw [(hu o).2.1]; exact ho hf) p ih.named⟩
  | @consData gs1 o hf hl _ ih =>
    refine ⟨?_, ?_, ?_, ?_⟩
    · have : fnNamesOf (o :: gs1) = fnNamesOf gs1 := by simp [fnNamesOf, fnName, hf]
      rw [this]; exact ih.nodup
    · intro x hx
      rcases List.mem_cons.mp hx with rfl | hx
      · exact hl
      · exact ih.noneLive x hx
    · intro x hx hfx
      rcases List.mem_cons.mp hx with rfl | hx
      · rw [hf] at hfx; cases hfx
      · exact ih.fnNotTent x hx hfx
    · intro x hx hfx
      rcases List.mem_cons.mp hx with rfl | hx
      · rw [hf] at hfx; cases hfx
      · exact ih.named x hx hfx
  | @consFn gs1 o f hf hs hl ht hnew _ ih =>
    refine ⟨?_, ?_, ?_, ?_⟩
    · have : fnNamesOf (o :: gs1) = f :: fnNamesOf gs1 := by simp [fnNamesOf, fnName, hf, hs]
      rw [this]
      exact List.nodup_cons.mpr ⟨findFunc_none_iff.mp hnew, ih.nodup⟩
    · intro x hx
      rcases List.mem_cons.mp hx with rfl | hx
      · exact hl
      · exact ih.noneLive x hx
    · intro x hx hfx
      rcases List.mem_cons.mp hx with rfl | hx
      · exact ht
      · exact ih.fnNotTent x hx hfx
    · intro x hx hfx
      rcases List.mem_cons.mp hx with rfl | hx
      · exact ⟨f, hs⟩
      · exact ih.named x hx hfx

theorem wf_nil : WF [] :=
  ⟨List.nodup_nil, fun _ h => absurd h List.not_mem_nil, fun _ h => absurd h List.not_mem_nil,
    fun _ h => absurd h List.not_mem_nil⟩


variable [Rules]

/-- the object `function` creates on the first declaration of `f` -/
def newFnObj (f : Name) (s e i b : Bool) : Obj :=
  { sym := .named f, isFunction := true, isDefinition := b, isStatic := s || (i && !e), isInline := i,
    isInlineDef := Rules.flagsFollow && i && !s && !e }

/-- `function`: the head; for a definition then `__func__`, `__FUNCTION__`, the body, and `fn->uses` -/
theorem declFunction_inv {st st' : PState} {f : Name} {n : Nat} {s e i : Bool} {body : Option (List BodyItem)}
    (h : declFunction st f n s e i body = .ok st') :
    ∃ st1, declFunctionHead st f s e i body.isSome = .ok st1 ∧
      match body with
      | none => st' = st1
      | some items => ∃ st2 uses,
          bodyItems f (newAnon (some f) (newAnon (some f) st1 (strTy (n + 1)) true).1 (strTy (n + 1)) true).1 items =
            .ok (st2, uses) ∧
          st' = { st2 with globals := updFunc st2.globals f (setUsesO uses) } := by
  unfold declFunction at h
  split at h
  · cases h
  · rename_i st1 h1
    refine ⟨st1, h1, ?_⟩
    cases body with
    | none => cases h; rfl
    | some items =>
      simp only at h
      split at h
      · cases h
      · rename_i st2 uses hp
        cases h; exact ⟨st2, uses, hp, rfl⟩

/-- the object `global_variable` creates, before `has_init` / `is_tentative` are set -/
def declVar (st : PState) (x : Name) (isStatic isExtern isTls : Bool) (ty : ObjTy) : Obj :=
  { sym := .named x, isDefinition := !isExtern,
    isStatic := isStatic || (Rules.externInherits && isExtern && prevStatic st.globals x), isTls := isTls, ty := ty }

theorem declObject_none_inv {st st' : PState} {x : Name} {s e t : Bool} {ty : ObjTy}
    (h : declObject st x s e t ty none = .ok st') :
    st' = { st with globals := { declVar st x s e t ty with isTentative := !e } :: st.globals } := by
  cases h; rfl

/-- `global_variable` with an initializer: the object is pushed, the initializer read, its labels stored -/
theorem declObject_init_inv {st st' : PState} {x : Name} {s e t : Bool} {ty : ObjTy} {items : List InitItem}
    (h : declObject st x s e t ty (some items) = .ok st') :
    ∃ st1 rel,
      initItems none { st with globals := { declVar st x s e t ty with hasInit := true, isDefinition := true } :: st.globals }
        items = .ok (st1, rel) ∧
      st' = { st1 with
        globals := updFirst (fun o => o.sym == .named x && !o.isFunction) (fun o => { o with uses := rel }) st1.globals } := by
  obtain ⟨⟨st1, rel⟩, hp, h⟩ := Except.bind_eq_ok h
  cases h
  exact ⟨st1, rel, hp, rfl⟩

theorem declAll_rec {P : List Decl → PState → PState → Prop} (nil : ∀ st, P [] st st)
    (cons : ∀ {d ds st st1 st'}, declStep st d = .ok st1 → declAll st1 ds = .ok st' → P ds st1 st' → P (d :: ds) st st') :
    ∀ (ds : List Decl) {st st' : PState}, declAll st ds = .ok st' → P ds st st'
  | [], st, st', h => by cases h; exact nil st
  | d :: ds, st, st', h => by
    obtain ⟨st1, h1, h⟩ := Except.bind_eq_ok h
    exact cons h1 h (declAll_rec nil cons ds h)


omit [Rules] in
theorem evolves_updFunc {gs : List Obj} (f : Name) {u : Obj → Obj} (hu : Keeps u) : Evolves gs (updFunc gs f u) :=
  Evolves.upd _ u hu Evolves.refl

theorem evolves_newAnon (cur : Option Name) (st : PState) (ty : ObjTy) (hi : Bool) (uses : List Sym) :
    Evolves st.globals (newAnon cur st ty hi uses).1.globals :=
  Evolves.consData _ rfl rfl Evolves.refl

omit [Rules] in
theorem keeps_setUses (uses : List Sym) : Keeps (setUsesO uses) := fun _ => ⟨rfl, rfl, rfl, rfl⟩

/-- the two mutations `function()` performs on an existing object write the linkage flags and `is_root` only -/
theorem rootIfO_eq (o : Obj) : ∃ r, rootIfO o = { o with isRoot := r } := by
  unfold rootIfO
  split
  · exact ⟨_, rfl⟩
  · split <;> exact ⟨_, rfl⟩

theorem redeclFlags_eq (e i : Bool) (o : Obj) :
    ∃ s il d, redeclFlags e i o = { o with isStatic := s, isInline := il, isInlineDef := d } := by
  unfold redeclFlags
  split
  · dsimp only
    split <;> split <;> exact ⟨_, _, _, rfl⟩
  · exact ⟨_, _, _, rfl⟩

theorem keeps_rootIf : Keeps rootIfO := fun o => by
  obtain ⟨r, h⟩ := rootIfO_eq o
  rw [h]; exact ⟨rfl, rfl, rfl, rfl⟩

theorem keeps_redeclFlags (e i : Bool) : Keeps (redeclFlags e i) := fun o => by
  obtain ⟨s, il, d, h⟩ := redeclFlags_eq e i o
  rw [h]; exact ⟨rfl, rfl, rfl, rfl⟩

omit [Rules] in
theorem Keeps.keepsId {u : Obj → Obj} (h : Keeps u) : KeepsId u := fun o => ⟨(h o).1, (h o).2.1⟩

end ChibiVerif.Linkage
