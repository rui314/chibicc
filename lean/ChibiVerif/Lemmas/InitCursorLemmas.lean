/-
C05: the relocation cursor of `write_gvar_data` (Model/InitCursor.lean).  When every arm hands the cursor of its recursive calls
on - the array loop, the struct's member loop (a bit-field leaves it alone), the union arm - the linked list behind `head` is the
list `writeGvar` appends to, and the cursor the call returns is its last node: one lemma per arm, mutual induction on the tree.
-/
import ChibiVerif.Model.InitCursor
import ChibiVerif.Lemmas.ExceptLemmas

namespace ChibiVerif.Init

/-- a result of `writeGvar` together with the cursor at the end of its relocation list -/
def withEnd : Except Fail Image → Except Fail (Image × Nat)
  | .ok im => .ok (im, im.relocs.length)
  | .error e => .error e

theorem linkReloc_end (rels : List Reloc) (r : Reloc) : linkReloc rels rels.length r = (rels ++ [r], (rels ++ [r]).length) := by
  simp [linkReloc]

theorem withEnd_bind (x : Except Fail Image) (k : Image → Except Fail Image) :
    (withEnd x >>= fun p => withEnd (k p.1)) = withEnd (x >>= k) := by
  cases x <;> rfl

/-- the scalar arm: a relocation is linked behind the cursor and the cursor moves to it; everything else leaves the list alone -/
theorem writeGvarLeafC_end (e : Expr) (sz : Nat) (kind : SKind) (im : Image) (off : Nat) :
    writeGvarLeafC e sz kind im im.relocs.length off = withEnd (writeGvarLeaf e sz kind im off) := by
  have hfl : ∀ (x : Except Fail (List Nat)),
      ((do let b ← x; pure { im with bytes := b } : Except Fail Image) >>= fun im' => (pure (im', im.relocs.length) : Except Fail (Image × Nat)))
        = withEnd (do let b ← x; pure { im with bytes := b }) := by
    intro x; cases x <;> rfl
  cases kind with
  | flt =>
    simp only [writeGvarLeafC, writeGvarLeaf]
    split
    · rfl
    · split
      · exact hfl _
      · split
        · exact hfl _
        · split
          · exact hfl _
          · rfl
  | int | ptr | bool =>
    simp only [writeGvarLeafC, writeGvarLeaf]
    cases e.label with
    | none => exact hfl _
    | some l => simp [linkReloc, withEnd]

theorem writeGvarMs_bf_relocs (c : Init) (mi : MemInfo) (t : Ty) (bo bw : Nat) (hbf : mi.bf = some (bo, bw)) (im im' : Image) (off : Nat)
    (h : writeGvarMs [c] [(mi, t)] im off = .ok im') : im'.relocs = im.relocs := by
  rw [writeGvarMs] at h
  simp only [hbf] at h
  cases he : c.expr? with
  | none => simp only [he, writeGvarMs] at h; cases h; rfl
  | some e =>
    simp only [he] at h
    split at h
    · cases h
    · obtain ⟨v, _, h⟩ := Except.bind_eq_ok h
      obtain ⟨b, _, h⟩ := Except.bind_eq_ok h
      simp only [writeGvarMs] at h
      cases h; rfl

theorem writeGvarMs_bf_split (c : Init) (cs : List Init) (mi : MemInfo) (t : Ty) (ms : Members) (bo bw : Nat)
    (hbf : mi.bf = some (bo, bw)) (im : Image) (off : Nat) :
    writeGvarMs (c :: cs) ((mi, t) :: ms) im off = (writeGvarMs [c] [(mi, t)] im off >>= fun im' => writeGvarMs cs ms im' off) := by
  rw [writeGvarMs, writeGvarMs]
  simp only [hbf]
  cases c.expr? with
  | none => simp only [writeGvarMs]; rfl
  | some e =>
    simp only
    split
    · rfl
    · cases readBuf im.bytes (off + mi.offset) t.size.toNat with
      | error err => rfl
      | ok v =>
        simp only [bind, Except.bind]
        split
        · rfl
        · simp only [writeGvarMs]

theorem writeGvarMs_nobf_split (c : Init) (cs : List Init) (mi : MemInfo) (t : Ty) (ms : Members) (hbf : mi.bf = none) (im : Image)
    (off : Nat) :
    writeGvarMs (c :: cs) ((mi, t) :: ms) im off = (writeGvar c t im (off + mi.offset) >>= fun im' => writeGvarMs cs ms im' off) := by
  rw [writeGvarMs]
  simp only [hbf]

mutual
  /-- **the cursor of `write_gvar_data`**: the call returns the end of the list it built -/
  theorem writeGvarC_end : ∀ (init : Init) (ty : Ty) (im : Image) (off : Nat),
      writeGvarC Arms.code init ty im im.relocs.length off = withEnd (writeGvar init ty im off)
    | .arr cs, ty, im, off => by
      cases ty <;> first
        | rfl
        | (rw [writeGvarC, writeGvar, writeGvarArrC_end cs _ im off]; cases writeGvarArr cs _ im off <;> rfl)
    | .flex, ty, im, off => by cases ty <;> rfl
    | .struct e cs, ty, im, off => by
      cases ty <;> first
        | rfl
        | (rw [writeGvarC, writeGvar, writeGvarMsC_end cs _ im off]; cases writeGvarMs cs _ im off <;> rfl)
    | .union e m cs, ty, im, off => by
      cases m <;> cases ty <;> first
        | rfl
        | (rw [writeGvarC, writeGvar, writeGvarNthC_end cs _ _ im off]; cases writeGvarNth cs _ _ im off <;> rfl)
    | .leaf e, ty, im, off => by
      cases e <;> cases ty <;> first
        | rfl
        | (rw [writeGvarC, writeGvar]; exact writeGvarLeafC_end _ _ _ im off)
  /-- the array arm: `cur = write_gvar_data(cur, …)` for every element -/
  theorem writeGvarArrC_end : ∀ (cs : List Init) (elem : Ty) (im : Image) (off : Nat),
      writeGvarArrC Arms.code cs elem im im.relocs.length off = withEnd (writeGvarArr cs elem im off)
    | [], _, im, _ => by rw [writeGvarArrC, writeGvarArr]; rfl
    | c :: cs, elem, im, off => by
      rw [writeGvarArrC, writeGvarArr, writeGvarC_end c elem im off]
      cases h : writeGvar c elem im off with
      | error err => rfl
      | ok im' =>
        simp only [withEnd, Arms.code, ↓reduceIte, bind, Except.bind]
        exact writeGvarArrC_end cs elem im' (off + elem.size.toNat)
  /-- the struct arm: `cur = write_gvar_data(cur, …)` for every member that is not a bit-field; a bit-field leaves the list alone -/
  theorem writeGvarMsC_end : ∀ (cs : List Init) (ms : Members) (im : Image) (off : Nat),
      writeGvarMsC Arms.code cs ms im im.relocs.length off = withEnd (writeGvarMs cs ms im off)
    | _, [], im, _ => by rw [writeGvarMsC, writeGvarMs]; rfl
    | [], _ :: _, _, _ => by rw [writeGvarMsC, writeGvarMs]; rfl
    | c :: cs, (mi, t) :: ms, im, off => by
      cases hbf : mi.bf with
      | some b =>
        obtain ⟨bo, bw⟩ := b
        rw [writeGvarMsC, writeGvarMs_bf_split c cs mi t ms bo bw hbf]
        simp only [hbf]
        cases h : writeGvarMs [c] [(mi, t)] im off with
        | error err => rfl
        | ok im' =>
          have hr := writeGvarMs_bf_relocs c mi t bo bw hbf im im' off h
          have him : ({ im' with relocs := im.relocs } : Image) = im' := by cases im'; simp_all
          simp only [bind, Except.bind]
          rw [him, ← hr]
          exact writeGvarMsC_end cs ms im' off
      | none =>
        rw [writeGvarMsC, writeGvarMs_nobf_split c cs mi t ms hbf]
        simp only [hbf]
        rw [writeGvarC_end c t im (off + mi.offset)]
        cases h : writeGvar c t im (off + mi.offset) with
        | error err => rfl
        | ok im' =>
          simp only [withEnd, Arms.code, ↓reduceIte, bind, Except.bind]
          exact writeGvarMsC_end cs ms im' off
  /-- the union arm: `return write_gvar_data(cur, the initialised member, …)` -/
  theorem writeGvarNthC_end : ∀ (cs : List Init) (ms : Members) (k : Nat) (im : Image) (off : Nat),
      writeGvarNthC Arms.code cs ms k im im.relocs.length off = withEnd (writeGvarNth cs ms k im off)
    | c :: _, (_, t) :: _, 0, im, off => by rw [writeGvarNthC, writeGvarNth]; exact writeGvarC_end c t im off
    | _ :: cs, _ :: ms, k+1, im, off => by rw [writeGvarNthC, writeGvarNth]; exact writeGvarNthC_end cs ms k im off
    | [], _, _, _, _ => by rfl
    | _ :: _, [], _, _, _ => by rfl
end

theorem gvarInitC_code (init : Init) (ty : Ty) : gvarInitC Arms.code init ty = gvarInit init ty := by
  unfold gvarInitC gvarInit
  have := writeGvarC_end init ty { bytes := List.replicate ty.size.toNat 0, relocs := [] } 0
  simp only [List.length_nil] at this
  rw [this]
  cases writeGvar init ty { bytes := List.replicate ty.size.toNat 0, relocs := [] } 0 <;> rfl

end ChibiVerif.Init
