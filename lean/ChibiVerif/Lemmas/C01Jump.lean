/-
C01: the machine with labels and jumps (Model/X86Jump) — execution lemmas.

* `stepsJ_add`, `runJ_of_steps`: `n` steps compose; a run that reaches the end of the program in `n` steps is what `runJ`
  computes with any fuel `≥ n`.
* `runJ_ins`: **on jump-free code `runJ` is `X86.run`** (so every theorem about `X86.run` is a theorem about `runJ`).
* `At p pos c`: the code `c` sits in the program `p` at position `pos`.
* `Exec p pc s pc' s'`: from `(pc, s)` the program reaches `(pc', s')`, `pc ≤ pc'`, in at most `pc' - pc` steps (every jump
  taken goes forward): what bounds the fuel by the code length.
* `findLbl_at`: label resolution by position under the freshness invariant `(defs p).Nodup`; the step at a label, at a jump
  not taken, at a jump taken (`Jumps x l s`): `stepJ_lbl`, `stepJ_fall`, `stepJ_jump`.
* `JRun c m m'`: wherever `c` sits in a program with fresh labels, execution entering `c` at its first line in state `m`
  leaves it after its last line in state `m'`.  `JRun.append`, `JRun.ins` (straight-line code: `X86.run`), `JRun.lbl`,
  `JRun.jcc_fall`, `JRun.skip` (a taken forward jump to a label defined later in the same piece).
-/
import ChibiVerif.Model.X86Jump

namespace ChibiVerif.X86J
open ChibiVerif.Asm ChibiVerif.X86

/-! ### steps -/

theorem stepsJ_add (p : List JI) (a b : Nat) (x : Nat × State) :
    stepsJ p (a + b) x = (stepsJ p a x).bind (stepsJ p b) := by
  induction a generalizing x with
  | zero => simp [stepsJ]
  | succ a ih =>
    rw [Nat.succ_add]
    simp only [stepsJ]
    cases h : stepJ p x.1 x.2 with
    | none => simp
    | some y => simp [ih]

theorem stepJ_lt {p : List JI} {pc : Nat} {s : State} {y : Nat × State} (h : stepJ p pc s = some y) : pc < p.length := by
  unfold stepJ at h
  by_cases hl : pc < p.length
  · exact hl
  · rw [List.getElem?_eq_none (Nat.le_of_not_lt hl)] at h
    simp at h

/-- a run of `n` steps that ends past the last line is what `runJ` computes, with any fuel `≥ n` -/
theorem runJ_of_steps (p : List JI) : ∀ (n fuel pc : Nat) (s : State) (pc' : Nat) (s' : State),
    stepsJ p n (pc, s) = some (pc', s') → p.length ≤ pc' → n ≤ fuel → runJ fuel p pc s = some s' := by
  intro n
  induction n with
  | zero =>
    intro fuel pc s pc' s' h hl _
    simp only [stepsJ, Option.some.injEq, Prod.mk.injEq] at h
    obtain ⟨rfl, rfl⟩ := h
    cases fuel <;> simp [runJ, hl]
  | succ n ih =>
    intro fuel pc s pc' s' h hl hf
    simp only [stepsJ] at h
    cases hs : stepJ p pc s with
    | none => simp [hs] at h
    | some y =>
      simp only [hs, Option.bind_some] at h
      have hlt := stepJ_lt hs
      obtain ⟨f, rfl⟩ : ∃ f, fuel = f + 1 := ⟨fuel - 1, by omega⟩
      simp only [runJ, Nat.not_le.2 hlt, if_false, hs]
      exact ih f y.1 y.2 pc' s' h hl (by omega)

/-! ### code in a program -/

/-- the code `c` sits in `p` at position `pos` -/
def At (p : List JI) : Nat → List JI → Prop
  | _, [] => True
  | pos, x :: r => p[pos]? = some x ∧ At p (pos + 1) r

theorem At_append {p : List JI} : ∀ {pos : Nat} {a b : List JI}, At p pos (a ++ b) ↔ At p pos a ∧ At p (pos + a.length) b := by
  intro pos a
  induction a generalizing pos with
  | nil => intro b; simp [At]
  | cons x r ih =>
    intro b
    simp only [List.cons_append, At, List.length_cons]
    rw [ih]
    have : pos + 1 + r.length = pos + (r.length + 1) := by omega
    rw [this]
    exact and_assoc.symm

/-- `c` between `pre` and `post` sits at position `pre.length` -/
theorem At_mid (pre c post : List JI) : At (pre ++ c ++ post) pre.length c := by
  induction c generalizing pre with
  | nil => trivial
  | cons x r ih =>
    refine ⟨by simp, ?_⟩
    have := ih (pre ++ [x])
    simpa using this

theorem At_self (p : List JI) : At p 0 p := by simpa using At_mid [] p []

theorem At_head {p : List JI} {pos : Nat} {x : JI} {r : List JI} (h : At p pos (x :: r)) : p[pos]? = some x := h.1

theorem At_cons {p : List JI} {pos : Nat} {x : JI} {r : List JI} : At p pos (x :: r) ↔ p[pos]? = some x ∧ At p (pos + 1) r :=
  Iff.rfl

/-! ### straight-line code -/

/-- **on jump-free code `runJ` is `X86.run`**, from any position of the jump-free program -/
theorem runJ_ins_from (pre rest : List Ins) (s : State) :
    runJ rest.length (J (pre ++ rest)) pre.length s = X86.run rest s := by
  induction rest generalizing pre s with
  | nil => simp [runJ, J, X86.run]
  | cons i r ih =>
    have hlen : ¬ (J (pre ++ i :: r)).length ≤ pre.length := by simp [J]
    have hget : (J (pre ++ i :: r))[pre.length]? = some (JI.ins i) := by simp [J]
    simp only [List.length_cons, runJ, hlen, if_false, stepJ, hget, X86.run]
    cases hs : X86.step i s with
    | none => simp
    | some s1 =>
      simp only [Option.map_some]
      have := ih (pre ++ [i]) s1
      simpa using this

/-- **on jump-free code `runJ` is `X86.run`** -/
theorem runJ_ins (is : List Ins) (s : State) : runJ is.length (J is) 0 s = X86.run is s := by
  simpa using runJ_ins_from [] is s

/-! ### bounded forward execution -/

/-- from `(pc, s)` the program reaches `(pc', s')`, going forward, in at most `pc' - pc` steps -/
def Exec (p : List JI) (pc : Nat) (s : State) (pc' : Nat) (s' : State) : Prop :=
  pc ≤ pc' ∧ ∃ n, n ≤ pc' - pc ∧ stepsJ p n (pc, s) = some (pc', s')

theorem Exec.refl (p : List JI) (pc : Nat) (s : State) : Exec p pc s pc s := ⟨Nat.le_refl _, 0, by omega, rfl⟩

theorem Exec.trans {p : List JI} {a b c : Nat} {s1 s2 s3 : State} (h1 : Exec p a s1 b s2) (h2 : Exec p b s2 c s3) :
    Exec p a s1 c s3 := by
  obtain ⟨l1, n1, b1, r1⟩ := h1
  obtain ⟨l2, n2, b2, r2⟩ := h2
  refine ⟨by omega, n1 + n2, by omega, ?_⟩
  rw [stepsJ_add, r1]; exact r2

theorem Exec.step {p : List JI} {pc pc' : Nat} {s s' : State} (h : stepJ p pc s = some (pc', s')) (hlt : pc < pc') :
    Exec p pc s pc' s' :=
  ⟨by omega, 1, by omega, by simp [stepsJ, h]⟩

/-- straight-line code executes as `X86.run` -/
theorem Exec.ins {p : List JI} : ∀ {is : List Ins} {pos : Nat} {s s' : State}, At p pos (J is) → X86.run is s = some s' →
    Exec p pos s (pos + is.length) s' := by
  intro is
  induction is with
  | nil => intro pos s s' _ h; simp only [X86.run, Option.some.injEq] at h; subst h; exact Exec.refl _ _ _
  | cons i r ih =>
    intro pos s s' hat h
    simp only [X86.run] at h
    cases hs : X86.step i s with
    | none => simp [hs] at h
    | some s1 =>
      simp only [hs] at h
      have h0 : p[pos]? = some (JI.ins i) := hat.1
      have st : stepJ p pos s = some (pos + 1, s1) := by simp [stepJ, h0, hs]
      have := (Exec.step st (by omega)).trans (ih hat.2 h)
      have e : pos + 1 + r.length = pos + (i :: r).length := by simp; omega
      rw [e] at this; exact this

/-! ### labels by position -/

theorem mem_defs_of_get {p : List JI} {t : Nat} {l : Lbl} (h : p[t]? = some (.lbl l)) : l ∈ defs p := by
  induction p generalizing t with
  | nil => simp at h
  | cons x r ih =>
    cases t with
    | zero =>
      simp only [List.getElem?_cons_zero, Option.some.injEq] at h
      subst h; simp [defs]
    | succ t =>
      simp only [List.getElem?_cons_succ] at h
      have := ih h
      cases x <;> simp [defs, this]

/-- **label resolution by position under freshness**: if every label is defined once, the first definition of `l` is the
    line `l:` -/
theorem findLbl_at {p : List JI} {t : Nat} {l : Lbl} (hn : (defs p).Nodup) (h : p[t]? = some (.lbl l)) :
    findLbl p l = some t := by
  induction p generalizing t with
  | nil => simp at h
  | cons x r ih =>
    cases t with
    | zero =>
      simp only [List.getElem?_cons_zero, Option.some.injEq] at h
      subst h; simp [findLbl]
    | succ t =>
      simp only [List.getElem?_cons_succ] at h
      cases x with
      | lbl l' =>
        simp only [defs, List.nodup_cons] at hn
        have hne : l' ≠ l := fun e => hn.1 (e ▸ mem_defs_of_get h)
        simp [findLbl, hne, ih hn.2 h]
      | ins i => simp only [defs] at hn; simp [findLbl, ih hn h]
      | jmp l' => simp only [defs] at hn; simp [findLbl, ih hn h]
      | jcc c l' => simp only [defs] at hn; simp [findLbl, ih hn h]

theorem defs_append (a b : List JI) : defs (a ++ b) = defs a ++ defs b := by
  induction a with
  | nil => rfl
  | cons x r ih => cases x <;> simp [defs, ih]

theorem defs_J (is : List Ins) : defs (J is) = [] := by
  induction is with
  | nil => rfl
  | cons i r ih => simpa [J, defs] using ih

theorem length_J (is : List Ins) : (J is).length = is.length := by simp [J]

theorem J_append (a b : List Ins) : J (a ++ b) = J a ++ J b := by simp [J]
theorem J_cons (i : Ins) (r : List Ins) : J (i :: r) = JI.ins i :: J r := rfl
theorem J_nil : J [] = [] := rfl

/-! ### one step at a label, at a jump -/

theorem stepJ_lbl {p : List JI} {pos : Nat} {l : Lbl} (h : p[pos]? = some (.lbl l)) (s : State) :
    stepJ p pos s = some (pos + 1, s) := by simp only [stepJ, h]

theorem stepJ_fall {p : List JI} {pos : Nat} {c : CC} {l : Lbl} (h : p[pos]? = some (.jcc c l)) {s : State}
    (hv : s.flagsValid = true) (hc : s.cond c = false) : stepJ p pos s = some (pos + 1, s) := by
  simp [stepJ, h, hv, hc]

/-- in state `s` the line `x` jumps to `l`: `jmp l`, or `jcc l` with the condition true -/
def Jumps (x : JI) (l : Lbl) (s : State) : Prop :=
  x = .jmp l ∨ ∃ c, x = .jcc c l ∧ s.flagsValid = true ∧ s.cond c = true

theorem stepJ_jump {p : List JI} {pos t : Nat} {x : JI} {l : Lbl} {s : State} (hn : (defs p).Nodup) (h : p[pos]? = some x)
    (hj : Jumps x l s) (ht : p[t]? = some (.lbl l)) : stepJ p pos s = some (t, s) := by
  obtain rfl | ⟨c, rfl, hv, hc⟩ := hj
  · simp [stepJ, h, findLbl_at hn ht]
  · simp [stepJ, h, hv, hc, findLbl_at hn ht]

/-! ### running a piece of code wherever it sits -/

/-- wherever `c` sits in a program whose labels are defined once, execution entering `c` in state `m` leaves it after its
    last line in state `m'`, going forward, in at most `c.length` steps -/
def JRun (c : List JI) (m m' : State) : Prop :=
  ∀ (p : List JI) (pos : Nat), At p pos c → (defs p).Nodup → Exec p pos m (pos + c.length) m'

theorem JRun.nil (m : State) : JRun [] m m := fun _ _ _ _ => Exec.refl _ _ _

theorem JRun.append {a b : List JI} {m m1 m2 : State} (h1 : JRun a m m1) (h2 : JRun b m1 m2) : JRun (a ++ b) m m2 := by
  intro p pos hat hn
  rw [At_append] at hat
  have := (h1 p pos hat.1 hn).trans (h2 p (pos + a.length) hat.2 hn)
  rw [List.length_append, ← Nat.add_assoc]; exact this

theorem JRun.ins {is : List Ins} {m m' : State} (h : X86.run is m = some m') : JRun (J is) m m' := by
  intro p pos hat _
  rw [length_J]; exact Exec.ins hat h

theorem JRun.ins1 {i : Ins} {m m' : State} (h : X86.step i m = some m') : JRun [JI.ins i] m m' :=
  JRun.ins (is := [i]) (by simp [X86.run, h])

theorem JRun.cons_ins {i : Ins} {r : List JI} {m m1 m2 : State} (h1 : X86.step i m = some m1) (h2 : JRun r m1 m2) :
    JRun (JI.ins i :: r) m m2 := JRun.append (a := [JI.ins i]) (JRun.ins1 h1) h2

/-- a label definition is a no-op -/
theorem JRun.lbl (l : Lbl) (m : State) : JRun [JI.lbl l] m m :=
  fun _ _ hat _ => Exec.step (stepJ_lbl hat.1 m) (Nat.lt_succ_self _)

/-- a conditional jump whose condition is false falls through -/
theorem JRun.jcc_fall {c : CC} (l : Lbl) {m : State} (hv : m.flagsValid = true) (hc : m.cond c = false) :
    JRun [JI.jcc c l] m m :=
  fun _ _ hat _ => Exec.step (stepJ_fall hat.1 hv hc) (Nat.lt_succ_self _)

/-- a jump to a label defined later in the same piece skips `mid` -/
theorem JRun.skip {x : JI} {l : Lbl} (mid : List JI) {m : State} (hj : Jumps x l m) : JRun (x :: (mid ++ [JI.lbl l])) m m := by
  intro p pos hat hn
  obtain ⟨h0, h1⟩ := hat
  rw [At_append] at h1
  have ht : p[pos + 1 + mid.length]? = some (JI.lbl l) := h1.2.1
  have := (Exec.step (stepJ_jump hn h0 hj ht) (by omega)).trans (Exec.step (stepJ_lbl ht m) (Nat.le_refl _))
  have e : pos + 1 + mid.length + 1 = pos + (x :: (mid ++ [JI.lbl l])).length := by simp; omega
  rw [e] at this; exact this

theorem JRun.jcc_skip {c : CC} (l : Lbl) (mid : List JI) {m : State} (hv : m.flagsValid = true) (hc : m.cond c = true) :
    JRun (JI.jcc c l :: (mid ++ [JI.lbl l])) m m := JRun.skip mid (.inr ⟨c, rfl, hv, hc⟩)

theorem JRun.jmp_skip (l : Lbl) (mid : List JI) (m : State) : JRun (JI.jmp l :: (mid ++ [JI.lbl l])) m m :=
  JRun.skip mid (.inl rfl)

/-- the whole program, entered at its first line: `runJ` with fuel = number of lines -/
theorem JRun.runJ {code : List JI} {m m' : State} (h : JRun code m m') (hn : (defs code).Nodup) :
    runJ code.length code 0 m = some m' := by
  obtain ⟨_, n, hb, hs⟩ := h code 0 (At_self code) hn
  exact runJ_of_steps code n code.length 0 m _ m' hs (by omega) (by omega)

end ChibiVerif.X86J
