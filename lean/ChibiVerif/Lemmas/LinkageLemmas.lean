/-
Helper lemmas for C15 (Props/C15.lean): the two halves of an `Obj` list - its function objects (`fnsOf`: what `find_func`
reads) and its data objects (`dataOf`: what a function-object update leaves alone); `updFirst` / `updFunc` seen through the
lookups; membership in the root loop's `rootNames`.
-/
import ChibiVerif.Lemmas.LinkageVocabulary

namespace ChibiVerif.Linkage

/-- a statement about every rule set follows from its sixteen instances, which `decide` can enumerate -/
theorem forall_rules {P : Rules → Prop} (h : ∀ a b c d : Bool, P ⟨a, b, c, d⟩) : ∀ r : Rules, P r :=
  fun ⟨a, b, c, d⟩ => h a b c d

theorem forall_varCtx {P : Gen.AddrForms.VarCtx → Prop} (h : ∀ a b c d e f : Bool, P ⟨a, b, c, d, e, f⟩) :
    ∀ c : Gen.AddrForms.VarCtx, P c :=
  fun ⟨a, b, c, d, e, f⟩ => h a b c d e f

/-! ### `updFunc` seen through `findFunc` -/

def fnPred (f : Name) : Obj → Bool := fun o => o.isFunction && o.sym == .named f

theorem fnPred_ne {f g : Name} {o : Obj} (h : g ≠ f) (hf : fnPred f o = true) : fnPred g o = false := by
  unfold fnPred at *
  cases hfun : o.isFunction
  · simp
  · simp only [hfun, Bool.true_and, beq_iff_eq] at hf
    simp only [Bool.true_and, hf, beq_eq_false_iff_ne, ne_eq, Sym.named.injEq]
    exact fun e => h e.symm

/-- an update that keeps an object a function or a datum of the same name: all `find_func` / `find_var` look at.  (`Keeps`,
    Lemmas/LinkageParse.lean, asks in addition that `is_live` and `is_tentative` stay: what `WF` needs.) -/
def KeepsId (u : Obj → Obj) : Prop := ∀ o, (u o).isFunction = o.isFunction ∧ (u o).sym = o.sym

theorem fnPred_keeps {u : Obj → Obj} (hu : KeepsId u) (g : Name) (o : Obj) : fnPred g (u o) = fnPred g o := by
  unfold fnPred
  rw [(hu o).1, (hu o).2]

theorem find_updFirst_fnPred {u : Obj → Obj} (hu : KeepsId u) (gs : List Obj) (f g : Name) :
    (updFirst (fnPred f) u gs).find? (fnPred g) =
      if g = f then (gs.find? (fnPred f)).map u else gs.find? (fnPred g) := by
  induction gs with
  | nil => simp [updFirst]
  | cons o os ih =>
    unfold updFirst
    by_cases hp : fnPred f o = true
    · simp only [hp, if_true]
      by_cases hgf : g = f
      · subst hgf
        simp [List.find?, fnPred_keeps hu, hp]
      · simp only [hgf, if_false]
        simp [List.find?, fnPred_keeps hu, fnPred_ne hgf hp]
    · simp only [hp]
      simp only [Bool.false_eq_true, if_false, List.find?]
      simp only [Bool.not_eq_true] at hp
      by_cases hgf : g = f
      · subst hgf
        simp only [hp, if_true]
        simpa using ih
      · simp only [hgf, if_false] at ih ⊢
        cases hq : fnPred g o
        · simpa using ih
        · simp

theorem findFunc_updFunc {u : Obj → Obj} (hu : KeepsId u) (gs : List Obj) (f g : Name) :
    findFunc (updFunc gs f u) g = if g = f then (findFunc gs f).map u else findFunc gs g :=
  find_updFirst_fnPred hu gs f g

theorem length_updFirst (p : Obj → Bool) (u : Obj → Obj) (gs : List Obj) : (updFirst p u gs).length = gs.length := by
  induction gs with
  | nil => rfl
  | cons o os ih =>
    unfold updFirst
    split <;> simp [ih]

theorem updFirst_hit {p : Obj → Bool} {u : Obj → Obj} {o : Obj} (l : List Obj) (h : p o = true) :
    updFirst p u (o :: l) = u o :: l := by
  rw [updFirst, h]; rfl

theorem updFirst_miss {p : Obj → Bool} {u : Obj → Obj} {o : Obj} (l : List Obj) (h : p o = false) :
    updFirst p u (o :: l) = o :: updFirst p u l := by
  rw [updFirst, h]; rfl

def dataOf (gs : List Obj) : List Obj := gs.filter (fun o => !o.isFunction)

theorem dataOf_updFunc {u : Obj → Obj} (hu : KeepsId u) : ∀ (gs : List Obj) (f : Name), dataOf (updFunc gs f u) = dataOf gs
  | [], _ => rfl
  | a :: as, f => by
    unfold updFunc
    cases hp : (a.isFunction && a.sym == Sym.named f)
    · rw [updFirst_miss _ hp]
      have ih := dataOf_updFunc hu as f
      unfold updFunc at ih
      simp only [dataOf, List.filter_cons] at ih ⊢
      rw [ih]
    · rw [updFirst_hit _ hp]
      simp only [Bool.and_eq_true] at hp
      simp [dataOf, (hu a).1, hp.1]


def fnsOf (gs : List Obj) : List Obj := gs.filter (·.isFunction)

theorem mem_fnsOf {l : List Obj} {o : Obj} : o ∈ fnsOf l ↔ o ∈ l ∧ o.isFunction = true := List.mem_filter

theorem filterMap_fnsOf {β : Type} {φ : Obj → Option β} (h : ∀ o, o.isFunction = false → φ o = none) :
    ∀ l : List Obj, (fnsOf l).filterMap φ = l.filterMap φ
  | [] => rfl
  | a :: as => by
    have ih := filterMap_fnsOf h as
    unfold fnsOf at ih ⊢
    cases ha : a.isFunction
    · rw [List.filterMap_cons_none (h a ha), List.filter_cons_of_neg (by simp [ha]), ih]
    · rw [List.filter_cons_of_pos ha, List.filterMap_cons, List.filterMap_cons, ih]

theorem findFunc_fnsOf (l : List Obj) (f : Name) : findFunc (fnsOf l) f = findFunc l f := by
  unfold findFunc fnsOf
  induction l with
  | nil => rfl
  | cons a as ih =>
    cases ha : a.isFunction
    · rw [List.filter_cons_of_neg (by simp [ha]), ih]
      simp [List.find?, ha]
    · rw [List.filter_cons_of_pos ha, List.find?_cons, List.find?_cons, ih]

theorem fnsOf_data_append {l : List Obj} (h : ∀ o, o ∈ l → o.isFunction = false) (gs : List Obj) : fnsOf (l ++ gs) = fnsOf gs := by
  unfold fnsOf
  rw [List.filter_append, List.filter_eq_nil_iff.mpr (fun o ho => by simp [h o ho]), List.nil_append]

theorem findFunc_data_append {l : List Obj} (h : ∀ o, o ∈ l → o.isFunction = false) (gs : List Obj) (g : Name) :
    findFunc (l ++ gs) g = findFunc gs g := by
  rw [← findFunc_fnsOf, fnsOf_data_append h, findFunc_fnsOf]

theorem liveFn_isFn {gs : List Obj} {f : Name} (h : liveFn gs f = true) : isFn gs f = true := by
  unfold liveFn at h
  unfold isFn
  cases hf : findFunc gs f
  · simp [hf] at h
  · rfl

variable [Rules]

/-! ### the names the root loop of `parse` starts from -/

theorem mem_rootNames {gs : List Obj} {o : Obj} {f : Name} (ho : o ∈ gs) (hfun : o.isFunction = true)
    (hs : o.sym = .named f) (hr : effRoot o = true) : f ∈ rootNames gs := by
  unfold rootNames
  rw [List.mem_filterMap]
  exact ⟨o, ho, by simp [hs, hfun, hr]⟩

theorem of_mem_rootNames {gs : List Obj} {f : Name} (h : f ∈ rootNames gs) :
    ∃ o, o ∈ gs ∧ o.isFunction = true ∧ o.sym = .named f ∧ effRoot o = true := by
  unfold rootNames at h
  rw [List.mem_filterMap] at h
  obtain ⟨o, ho, hh⟩ := h
  refine ⟨o, ho, ?_⟩
  cases hs : o.sym with
  | anon k => simp [hs] at hh
  | named n =>
    simp only [hs] at hh
    split at hh
    · rename_i hc
      simp only [Bool.and_eq_true] at hc
      simp only [Option.some.injEq] at hh
      subst hh
      exact ⟨hc.1, rfl, hc.2⟩
    · cases hh

end ChibiVerif.Linkage
