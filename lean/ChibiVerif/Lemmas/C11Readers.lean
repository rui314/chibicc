/-
The string-literal readers (`read_string_literal`, `read_utf16_string_literal`, `read_utf32_string_literal`) and
`read_char_literal` of the hand model (Model/Literals.lean: `narrowLoop`, `utf16Loop`, `utf32Loop`, `readString`,
`readCharLiteral`) are equal, on every input, to the functions translated from tokenize.c (Gen/LitReadersGen.lean).
-/
import ChibiVerif.Lemmas.C11Translated
import ChibiVerif.Lemmas.LiteralsLemmas

namespace ChibiVerif.Lemmas.ReadersT
open ChibiVerif.Gen.Literals
open ChibiVerif.Literals
open ChibiVerif.LitReaders
open ChibiVerif.Lemmas.Literals
open ChibiVerif.Lemmas.Translated
open ChibiVerif.Gen.LitReaders (readStringLiteral_loop1 readUtf16StringLiteral_loop1 readUtf32StringLiteral_loop1 strchrFrom)

theorem decodeAt_eq (p : List Byte) (i : Nat) :
    decodeAt p i = match decodeUtf8 (p.drop i) with
      | .error _ => .error .invalidUtf8
      | .ok r => .ok r := by
  unfold decodeAt
  cases decodeUtf8 (p.drop i) <;> rfl

theorem utf16_push (c : BitVec 32) (acc : List Nat) :
    ((utf16Units c).map BitVec.toNat).reverse ++ acc =
      if c < 0x10000#32 then (c.setWidth 16).toNat :: acc
      else ((0xDC00#32 + ((c - 0x10000#32) &&& 0x3FF#32)).setWidth 16).toNat ::
           ((0xD800#32 + (((c - 0x10000#32) >>> 10) &&& 0x3FF#32)).setWidth 16).toNat :: acc := by
  unfold utf16Units
  split <;> simp

/-- the three reader loops in one induction: they share the end test and the escape arm, and differ in what a plain character stores -/
theorem loops_eq (p : List Byte) (endp : Nat) : ∀ (fuel i : Nat) (acc : List Nat), endp - i < fuel →
    narrowLoop p endp fuel i acc = (readStringLiteral_loop1 p endp fuel i acc).mapError ofReadErr ∧
    utf16Loop p endp fuel i acc = (readUtf16StringLiteral_loop1 p endp fuel i acc).mapError ofReadErr ∧
    utf32Loop p endp fuel i acc = (readUtf32StringLiteral_loop1 p endp fuel i acc).mapError ofReadErr := by
  intro fuel
  induction fuel with
  | zero => intro i acc h; omega
  | succ fuel ih =>
    intro i acc h
    have ihN := fun i acc h => (ih i acc h).1
    have ih16 := fun i acc h => (ih i acc h).2.1
    have ih32 := fun i acc h => (ih i acc h).2.2
    simp only [narrowLoop, utf16Loop, utf32Loop, readStringLiteral_loop1, readUtf16StringLiteral_loop1, readUtf32StringLiteral_loop1,
      sext_eq_ofNat, Nat.reduceLT]
    by_cases hi : i < endp
    · simp only [if_pos hi]
      by_cases hb : byteAt p i = 92#8
      · -- an escape sequence: the same call in all three, each stores its value in its own way
        simp only [if_pos hb, readEscapedChar_eq]
        cases T.readEscapedChar (p.drop (i + 1)) with
        | error e => exact ⟨rfl, rfl, rfl⟩
        | ok v => exact ⟨ihN _ _ (by omega), ih16 _ _ (by omega), ih32 _ _ (by omega)⟩
      · -- a plain character: the narrow reader copies a byte, the two wide ones decode UTF-8
        simp only [if_neg hb, decodeAt_eq]
        cases hd : decodeUtf8 (p.drop i) with
        | error e => exact ⟨ihN _ _ (by omega), rfl, rfl⟩
        | ok v =>
          obtain ⟨c, n⟩ := v
          have hn := decode_len_pos _ _ _ hd
          refine ⟨ihN _ _ (by omega), ?_, ih32 _ _ (by omega)⟩
          -- UTF-16 stores one unit or a surrogate pair
          show utf16Loop _ _ _ (i + n) _ = Except.mapError _ (if c < 0x10000#32 then _ else _)
          rw [utf16_push]
          split <;> exact ih16 _ _ (by omega)
    · -- the end of the literal
      simp only [if_neg hi]
      exact ⟨rfl, rfl, rfl⟩

theorem narrowLoop_eq (p : List Byte) (endp fuel i : Nat) (acc : List Nat) (h : endp - i < fuel) :
    narrowLoop p endp fuel i acc = (readStringLiteral_loop1 p endp fuel i acc).mapError ofReadErr := (loops_eq p endp fuel i acc h).1

theorem utf16Loop_eq (p : List Byte) (endp fuel i : Nat) (acc : List Nat) (h : endp - i < fuel) :
    utf16Loop p endp fuel i acc = (readUtf16StringLiteral_loop1 p endp fuel i acc).mapError ofReadErr := (loops_eq p endp fuel i acc h).2.1

theorem utf32Loop_eq (p : List Byte) (endp fuel i : Nat) (acc : List Nat) (h : endp - i < fuel) :
    utf32Loop p endp fuel i acc = (readUtf32StringLiteral_loop1 p endp fuel i acc).mapError ofReadErr := (loops_eq p endp fuel i acc h).2.2

/-- the token the hand model builds from what the translated reader returns -/
def mkTok (ty : Ty) (p : List Byte) (r : List Nat × Nat) : StrTok := ⟨ty, r.1, r.2, p.take r.2⟩

/-- the translated reader for each `StrReader` of the dispatch table -/
def readerT : StrReader → List Byte → Nat → Except ChibiVerif.Gen.LitReaders.ReadErr (List Nat × Nat)
  | .narrow => ChibiVerif.Gen.LitReaders.readStringLiteral
  | .utf16 => ChibiVerif.Gen.LitReaders.readUtf16StringLiteral
  | .utf32 => ChibiVerif.Gen.LitReaders.readUtf32StringLiteral

/-- a reader is `string_literal_end` followed by its loop; the three differ in the loop only -/
theorem reader_eq (ty : Ty) (p : List Byte) (q : Nat) (L : Nat → Except LitErr (List Nat))
    (L' : Nat → Except T.ReadErr (List Nat)) (h : ∀ endp, L endp = (L' endp).mapError ofReadErr) :
    (do let endp ← stringLiteralEnd p (q + 1)
        let units ← L endp
        pure (⟨ty, units, endp + 1, p.take (endp + 1)⟩ : StrTok)) =
      ((match T.stringLiteralEnd p (q + 1) with
        | .error e => .error e
        | .ok endp =>
          match L' endp with
          | .error e => .error e
          | .ok units => .ok (units, endp + 1) : Except T.ReadErr (List Nat × Nat)).mapError ofReadErr).map (mkTok ty p) := by
  rw [stringLiteralEnd_eq]
  cases T.stringLiteralEnd p (q + 1) with
  | error e => rfl
  | ok endp =>
    show (L endp >>= _) = _
    dsimp only
    rw [h]
    cases L' endp <;> rfl

theorem readString_eq (r : StrReader) (ty : Ty) (p : List Byte) (q : Nat) :
    readString r ty p q = ((readerT r p q).mapError ofReadErr).map (mkTok ty p) := by
  have hf (endp : Nat) : endp - (q + 1) < endp + 1 := Nat.lt_succ_of_le (Nat.sub_le _ _)
  cases r
  · exact reader_eq ty p q _ _ fun endp => narrowLoop_eq p endp _ _ [] (hf endp)
  · exact reader_eq ty p q _ _ fun endp => utf16Loop_eq p endp _ _ [] (hf endp)
  · exact reader_eq ty p q _ _ fun endp => utf32Loop_eq p endp _ _ [] (hf endp)

theorem findQuote_eq (p : List Byte) : ∀ (fuel i : Nat), findQuote p fuel i = strchrFrom p 39#8 fuel i := by
  intro fuel
  induction fuel with
  | zero => intro i; rfl
  | succ fuel ih => intro i; simp only [findQuote, strchrFrom, ih]

theorem readCharLiteral_eq (p : List Byte) (q : Nat) :
    readCharLiteral p q = (ChibiVerif.Gen.LitReaders.readCharLiteral p q).mapError ofReadErr := by
  unfold readCharLiteral ChibiVerif.Gen.LitReaders.readCharLiteral
  simp only [sext_eq_ofNat, Nat.reduceLT, findQuote_eq, readEscapedChar_eq, decodeAt_eq]
  by_cases h0 : byteAt p (q + 1) = 0#8
  · simp [h0, throw, throwThe, MonadExceptOf.throw, bind, Except.bind, Except.mapError, ofReadErr]
  · simp only [h0, if_false, pure, Except.pure, bind, Except.bind]
    by_cases hb : byteAt p (q + 1) = 92#8
    · by_cases h1 : byteAt p (q + 1 + 1) = 0#8
      · simp [hb, h1, throw, throwThe, MonadExceptOf.throw, Except.mapError, ofReadErr]
      · simp only [hb, h1, and_false, if_false, if_true]
        cases hr : ChibiVerif.Gen.LitReaders.readEscapedChar (p.drop (q + 1 + 1)) with
        | error e => rfl
        | ok v =>
          obtain ⟨c, n⟩ := v
          simp only [Except.mapError]
          cases strchrFrom p 39#8 (p.length + 1) (q + 1 + 1 + n) <;> rfl
    · simp only [hb, false_and, if_false]
      cases hd : decodeUtf8 (p.drop (q + 1)) with
      | error e => rfl
      | ok v =>
        obtain ⟨c, n⟩ := v
        simp only
        cases strchrFrom p 39#8 (p.length + 1) (q + 1 + n) <;> rfl

end ChibiVerif.Lemmas.ReadersT
