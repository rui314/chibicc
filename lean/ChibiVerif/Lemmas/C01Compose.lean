/-
C01: `FrameHolds`, the frame of the composition theorem `C01_value` (Props/C01.lean) for the side-effect-free expression
fragment (`compileE`, Model/C01Expr.lean): the frame holds a store of typed variables.  As an instance of `Frame`:
Lemmas/C01Plain.lean.
-/
import ChibiVerif.Lemmas.C01MemLemmas

namespace ChibiVerif.C01
open ChibiVerif.X86 ChibiVerif.Asm ChibiVerif.Spec.IntSpec ChibiVerif.Gen.CommonType ChibiVerif.C01Codegen

/-- the frame holds the store: variable `i` of type `tys[i]` lives at `off i (%rbp)` with value `vals[i]`, and the frame
    lies above the `n` free stack slots below `%rsp` (no address wrap-around) -/
def FrameHolds (σ : Env) (off : Nat → Int) (n : Nat) (m : State) : Prop :=
  8 * n ≤ (m.get .rsp).toNat ∧
  ∀ i t v, σ.tys[i]? = some t → σ.vals[i]? = some v →
    MemHolds t m (m.ea (off i) .rbp) v ∧
    (m.get .rsp).toNat ≤ (m.ea (off i) .rbp).toNat ∧ (m.ea (off i) .rbp).toNat + 8 ≤ 2 ^ 64

end ChibiVerif.C01
