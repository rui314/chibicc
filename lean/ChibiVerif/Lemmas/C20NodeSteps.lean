/-
C20: one step of the structural induction over the Node tree per straight-line node kind, for every
code predicate `K`: the judgment of `gen_expr` / `gen_addr` at a node from the judgments of its
operands and the typing facts the scope predicates (`covE`/`covA`, `typedE`/`typedA`) record.  The
inductions of Lemmas/C20Induction.lean (`K = Straight`) and Lemmas/C20FlowInduction.lean
(`K = FlowP`) are these steps plus, for the latter, the arms with labels.
-/
import ChibiVerif.Lemmas.C20Lemmas
import ChibiVerif.Lemmas.C20Calls

namespace ChibiVerif.Lemmas.C20
open ChibiVerif ChibiVerif.Codegen ChibiVerif.Effect ChibiVerif.Asm ChibiVerif.Ast ChibiVerif.C20Scope

theorem bfX_zero {env : Env} {lhs : Node} (h : bfOK env lhs = true) : bfX env (bitfieldOf lhs) = 0 := by
  unfold bfOK at h
  unfold bfX
  split <;> simp_all [xOf]

/-- `isAllocaCall` answers what the scope predicate `notAlloca` reads off the tree -/
theorem Ret_isAllocaCall (lhs : Node) : Ret (isAllocaCall lhs) (fun b => b = !notAlloca lhs) := by
  unfold isAllocaCall
  cases lhs <;> first | exact Ret_pure rfl | exact Ret_fail _ | skip
  rename_i i v
  cases v with
  | none => exact Ret_bind (Ret_needVar _ _) fun _ h => nomatch h
  | some v =>
    simp only [needVar, M_pure_bind]
    cases hn : v.name with
    | none => exact Ret_fail _
    | some n => exact Ret_pure (by simp [notAlloca, hn, bne])

theorem genArgs_tys (env : Env) : ∀ l : NodeList, (genArgs env l).map (·.ty) = l.toList.map Node.ty?
  | .nil => by rw [genArgs]; rfl
  | .cons a rest => by rw [genArgs]; simp [NodeList.toList, genArgs_tys env rest]

theorem structArgsOK_of_b : ∀ l : NodeList, structArgsOKb l = true → StructArgsOK (l.toList.map Node.ty?)
  | .nil, _ => by intro t ht; simp [NodeList.toList] at ht
  | .cons a rest, h => by
    simp only [structArgsOKb, Bool.and_eq_true] at h
    intro t ht hst
    simp only [NodeList.toList, List.map_cons, List.mem_cons] at ht
    rcases ht with ht | ht
    · rw [← ht] at h
      simpa [hst] using h.1
    · exact structArgsOK_of_b rest h.2 t ht hst

variable {K : CodeK} [CodePred K]

theorem Sem_isAllocaCall (lhs : Node) : SemP K (isAllocaCall lhs) 0 0 0 := by
  unfold isAllocaCall
  split
  · refine Sem_bind0 (Sem_needVar _ _) fun v => ?_
    split
    · exact Sem_nullDeref _
    · exact Sem_pure _
  · exact Sem_nullDeref _
  · exact Sem_pure _

theorem Sem_loc_bind (i : NInfo) {m : M α} {r x d : Int} (h : SemP K m r x d) :
    SemP K (loc i >>= fun _ => m) r x d :=
  Sem_bind0 (Sem_loc i) fun _ => h

theorem Sem_discarded {m : M Unit} {f : M β} {t : Option Ty} {x : Int} (h1 : SemP K m 0 (xOf t) 0)
    (h2 : SemP K f 0 x 0) : SemP K (m >>= fun _ => Codegen.discard t >>= fun _ => f) 0 x 0 :=
  (Sem_bind h1 fun _ => Sem_bind (Sem_discard t) fun _ => h2).cast rfl (by omega) rfl

theorem Sem_lvalStruct (i : NInfo) {m : M Unit} {r x d : Int} (h : SemP K m r x d) :
    SemP K (do
      let ty ← needTy "node->ty" i.ty
      if ty.isStructOrUnion then m else fail "error_tok: not an lvalue") r x d := by
  refine Sem_bind0 (Sem_needTy _ _) fun ty => ?_
  split
  · exact h
  · exact Sem_fail _

variable (env : Env) (i : NInfo)

theorem node_nullExpr (h : isLD i.ty = false) : SemP K (genExpr env (.nullExpr i)) 0 (xOf i.ty) 0 := by
  rw [genExpr, xOf_zero h]
  exact Sem_loc i

theorem node_num (a : Int) (b c d e : Nat) : SemP K (genExpr env (.num i a b c d e)) 0 (xOf i.ty) 0 := by
  rw [genExpr]
  exact Sem_loc_bind i (Sem_numArm i a b c d e)

theorem node_neg {lhs : Node} (ih : SemP K (genExpr env lhs) 0 (xOf lhs.ty?) 0) (h : isLD i.ty = isLD lhs.ty?) :
    SemP K (genExpr env (.neg i lhs)) 0 (xOf i.ty) 0 := by
  rw [genExpr, xOf_eq_of_isLD h]
  exact Sem_loc_bind i (Sem_negArm i ih)

theorem node_var (v : Option Var) : SemP K (genExpr env (.var i v)) 0 (xOf i.ty) 0 := by
  rw [genExpr]
  exact Sem_loc_bind i (Sem_bind0 (Sem_addrVar env i v) fun _ => Sem_load i.ty)

theorem node_member {lhs : Node} (ih : SemP K (genAddr env lhs) 0 0 0) (mem : Option Member) :
    SemP K (genExpr env (.member i lhs mem)) 0 (xOf i.ty) 0 := by
  rw [genExpr]
  exact Sem_loc_bind i (Sem_memberArm i ih mem env)

theorem node_deref {lhs : Node} (ih : SemP K (genExpr env lhs) 0 (xOf lhs.ty?) 0) (h : isLD lhs.ty? = false) :
    SemP K (genExpr env (.deref i lhs)) 0 (xOf i.ty) 0 := by
  rw [genExpr]
  rw [xOf_zero h] at ih
  exact Sem_loc_bind i (Sem_bind0 ih fun _ => Sem_load i.ty)

theorem node_addr {lhs : Node} (ih : SemP K (genAddr env lhs) 0 0 0) (h : isLD i.ty = false) :
    SemP K (genExpr env (.addr i lhs)) 0 (xOf i.ty) 0 := by
  rw [genExpr, xOf_zero h]
  exact Sem_loc_bind i ih

theorem node_assign {lhs rhs : Node} (iha : SemP K (genAddr env lhs) 0 0 0)
    (ihr : SemP K (genExpr env rhs) 0 (xOf rhs.ty?) 0) (h : isLD i.ty = isLD rhs.ty?) (hb : bfOK env lhs = true) :
    SemP K (genExpr env (.assign i lhs rhs)) 0 (xOf i.ty) 0 := by
  have := Sem_assignArm env i (bitfieldOf lhs) iha ihr
  rw [bfX_zero hb, Int.add_zero] at this
  rw [genExpr, xOf_eq_of_isLD h]
  exact Sem_loc_bind i this

theorem node_comma {lhs rhs : Node} (ih1 : SemP K (genExpr env lhs) 0 (xOf lhs.ty?) 0)
    (ih2 : SemP K (genExpr env rhs) 0 (xOf rhs.ty?) 0) (h : isLD i.ty = isLD rhs.ty?) :
    SemP K (genExpr env (.comma i lhs rhs)) 0 (xOf i.ty) 0 := by
  rw [genExpr, xOf_eq_of_isLD h]
  exact Sem_loc_bind i (Sem_discarded ih1 ih2)

theorem node_cast {lhs : Node} (ih : SemP K (genExpr env lhs) 0 (xOf lhs.ty?) 0) :
    SemP K (genExpr env (.cast i lhs)) 0 (xOf i.ty) 0 := by
  rw [genExpr]
  exact Sem_loc_bind i ((Sem_bind ih fun _ => Sem_cast lhs.ty? i.ty).cast rfl (by omega) rfl)

theorem node_memzero (v : Option Var) (h : isLD i.ty = false) :
    SemP K (genExpr env (.memzero i v)) 0 (xOf i.ty) 0 := by
  rw [genExpr, xOf_zero h]
  exact Sem_loc_bind i (Sem_memzeroArm env v)

theorem node_not {lhs : Node} (ih : SemP K (genExpr env lhs) 0 (xOf lhs.ty?) 0) (h : isLD i.ty = false) :
    SemP K (genExpr env (.not i lhs)) 0 (xOf i.ty) 0 := by
  rw [genExpr, xOf_zero h]
  exact Sem_loc_bind i (Sem_notArm lhs.ty? ih)

theorem node_bitnot {lhs : Node} (ih : SemP K (genExpr env lhs) 0 (xOf lhs.ty?) 0) (hl : isLD lhs.ty? = false)
    (h : isLD i.ty = false) : SemP K (genExpr env (.bitnot i lhs)) 0 (xOf i.ty) 0 := by
  rw [genExpr, xOf_zero h]
  rw [xOf_zero hl] at ih
  exact Sem_loc_bind i (Sem_bind0 ih fun _ => Sem_emit (by row))

theorem node_exch {lhs rhs : Node} (ih1 : SemP K (genExpr env lhs) 0 (xOf lhs.ty?) 0)
    (ih2 : SemP K (genExpr env rhs) 0 (xOf rhs.ty?) 0) (hl : isLD lhs.ty? = false) (hr : isLD rhs.ty? = false)
    (h : isLD i.ty = false) : SemP K (genExpr env (.exch i lhs rhs)) 0 (xOf i.ty) 0 := by
  rw [genExpr, xOf_zero h]
  rw [xOf_zero hl] at ih1
  rw [xOf_zero hr] at ih2
  exact Sem_loc_bind i (Sem_exchArm env lhs.ty? ih1 ih2)

theorem node_labelVal (a ul : Option String) (h : isLD i.ty = false) :
    SemP K (genExpr env (.labelVal i a ul)) 0 (xOf i.ty) 0 := by
  rw [genExpr, xOf_zero h]
  exact Sem_loc_bind i (Sem_emit (by row))

omit [CodePred K] in
/-- `gen_expr` at a binary operator whose left operand is there (at NULL it dereferences `node->lhs`) -/
theorem genExpr_binop (op : BinOp) {lhs : Node} (rhs : Node) (hn : lhs = Node.null → False) :
    genExpr env (.binop i op lhs rhs) = (do loc i; binopArm i op (genExpr env lhs) lhs.ty? (genExpr env rhs)) := by
  rw [genExpr]
  exact hn

theorem node_binop (op : BinOp) {lhs rhs : Node} (ih1 : SemP K (genExpr env lhs) 0 (xOf lhs.ty?) 0)
    (ih2 : SemP K (genExpr env rhs) 0 (xOf rhs.ty?) 0) (hn : notNull lhs = true)
    (ht : binopTyped i op lhs rhs = true) : SemP K (genExpr env (.binop i op lhs rhs)) 0 (xOf i.ty) 0 := by
  have hnn : lhs = Node.null → False := by
    intro e; subst e; simp [notNull] at hn
  rw [genExpr_binop env i op rhs hnn]
  simp only [binopTyped, Bool.and_eq_true, beq_iff_eq] at ht
  obtain ⟨h4, h5⟩ := ht
  refine Sem_loc_bind i ?_
  unfold binopArm
  refine Sem_needTy_bind fun lty hty => ?_
  by_cases hld : isLD lhs.ty? = true
  · have hk : lty.kind = .ldouble := by simpa [hty, isLD] using hld
    have hr : isLD rhs.ty? = true := by rw [← h4]; exact hld
    rw [xOf_one hld] at ih1
    rw [xOf_one hr] at ih2
    simp only [hk]
    refine (Sem_binopLd op ih1 ih2).cast rfl ?_ rfl
    by_cases hc : isCmp op = true
    · have : isLD i.ty = false := by rw [h5, hld, hc]; rfl
      simp [hc, xOf_zero this]
    · have hc' : isCmp op = false := by simpa using hc
      have : isLD i.ty = true := by rw [h5, hld, hc']; rfl
      simp [hc', xOf_one this]
  · have hld' : isLD lhs.ty? = false := by simpa using hld
    have hk : lty.kind ≠ .ldouble := by
      intro hk; rw [hty] at hld'; simp [isLD, hk] at hld'
    have hr : isLD rhs.ty? = false := by rw [← h4]; exact hld'
    have hi : isLD i.ty = false := by rw [h5, hld']; rfl
    rw [xOf_zero hld'] at ih1
    rw [xOf_zero hr] at ih2
    rw [xOf_zero hi]
    split
    · exact Sem_binopFlo "ss" (Or.inl rfl) op ih1 ih2
    · exact Sem_binopFlo "sd" (Or.inr rfl) op ih1 ih2
    · rename_i hk'; exact absurd hk' hk
    · exact Sem_binopInt i op lty ih1 ih2

theorem node_call {lhs : Node} (rb : Option Var) {args : NodeList} (hna : notAlloca lhs = true)
    (ih : SemP K (genExpr env lhs) 0 0 0) (hargs : ∀ a ∈ genArgs env args, SemP K a.gen 0 (xOf a.ty) 0)
    (hs : structArgsOKb args = true) :
    SemP K (funcallArm env i (isAllocaCall lhs) (genExpr env lhs) rb (genArgs env args)) 0 (xOf i.ty) 0 :=
  Sem_funcallArm env i rb (genArgs env args) (Sem_isAllocaCall lhs)
    (Ret_mono (Ret_isAllocaCall lhs) fun _ hb => by rw [hb, hna]; rfl) ih hargs
    (by rw [genArgs_tys]; exact structArgsOK_of_b args hs)

theorem addr_var (v : Option Var) : SemP K (genAddr env (.var i v)) 0 0 0 := by
  rw [genAddr]
  exact Sem_addrVar env i v

omit [CodePred K] in
theorem addr_deref {lhs : Node} (ih : SemP K (genExpr env lhs) 0 (xOf lhs.ty?) 0) (h : isLD lhs.ty? = false) :
    SemP K (genAddr env (.deref i lhs)) 0 0 0 := by
  rw [genAddr]
  rw [xOf_zero h] at ih
  exact ih

theorem addr_comma {lhs rhs : Node} (ih1 : SemP K (genExpr env lhs) 0 (xOf lhs.ty?) 0)
    (ih2 : SemP K (genAddr env rhs) 0 0 0) : SemP K (genAddr env (.comma i lhs rhs)) 0 0 0 := by
  rw [genAddr]
  exact Sem_discarded ih1 ih2

theorem addr_member {lhs : Node} (ih : SemP K (genAddr env lhs) 0 0 0) (mem : Option Member) :
    SemP K (genAddr env (.member i lhs mem)) 0 0 0 := by
  rw [genAddr]
  exact Sem_addrMember ih mem

theorem addr_vlaPtr (v : Option Var) : SemP K (genAddr env (.vlaPtr i v)) 0 0 0 := by
  rw [genAddr]
  exact Sem_bind0 (Sem_needVar _ _) fun _ => Sem_emit (by row)

theorem addr_assign {lhs rhs : Node} (iha : SemP K (genAddr env lhs) 0 0 0)
    (ihr : SemP K (genExpr env rhs) 0 (xOf rhs.ty?) 0) (hr : isLD rhs.ty? = false) (hb : bfOK env lhs = true) :
    SemP K (genAddr env (.assign i lhs rhs)) 0 0 0 := by
  rw [xOf_zero hr] at ihr
  have := Sem_assignArm env i (bitfieldOf lhs) iha ihr
  rw [bfX_zero hb] at this
  rw [genAddr]
  exact Sem_lvalStruct i (Sem_loc_bind i this)

/-- a call as an lvalue: its value is in the return buffer -/
theorem addr_funcall {lhs : Node} (fty : Int) (rb : Option Var) {args : NodeList}
    (h : SemP K (funcallArm env i (isAllocaCall lhs) (genExpr env lhs) rb (genArgs env args)) 0 (xOf i.ty) 0)
    (hi : isLD i.ty = false) : SemP K (genAddr env (.funcall i lhs fty rb args)) 0 0 0 := by
  rw [xOf_zero hi] at h
  cases rb with
  | none => rw [genAddr]; exact Sem_fail _
  | some v => rw [genAddr]; exact Sem_loc_bind i h

theorem stmt_exprStmt {lhs : Node} (ih : SemP K (genExpr env lhs) 0 (xOf lhs.ty?) 0) :
    SemP K (genStmt env (.exprStmt i lhs)) 0 0 0 := by
  rw [genStmt]
  exact Sem_loc_bind i ((Sem_bind ih fun _ => Sem_discard lhs.ty?).cast rfl (Int.add_right_neg _) rfl)

theorem stmt_asm (s : Option String) : SemP K (genStmt env (.asm_ i s)) 0 0 0 := by
  rw [genStmt]
  exact Sem_loc_bind i (Sem_emit rfl)

/-- The last expression statement of a statement-expression body is its value: `gen_expr` generates it, not
    `gen_stmt`.  `hn` says the head is not that statement; then the loop of the ND_STMT_EXPR arm is a plain step. -/
theorem genStmtExprBody_cons {env : Env} {n : Node} {rest : NodeList}
    (hn : ∀ i lhs, n = .exprStmt i lhs → rest = .nil → False) :
    genStmtExprBody env (.cons n rest) = (do genStmt env n; genStmtExprBody env rest) := by
  rw [genStmtExprBody]
  exact hn

end ChibiVerif.Lemmas.C20
