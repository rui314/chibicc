/-
C05, parser = specification: whole-element initializers (braces, a string literal, one expression) as functions of the node they
initialise; GNU range designators `[a ... b]` whose initializer is of that kind (the parser parses the same tokens once per
element, the specification stores one initializer in every element); `array_initializer1`.
-/
import ChibiVerif.Lemmas.InitSimStruct

namespace ChibiVerif.InitSpec
open ChibiVerif.Init
open Except (Ends)

variable {root : Ty} {top : Bool} {obj : Init} {p : List Nat} {t : Ty} {c : Init} {tok : ITok} {f : Nat} {elem : Ty} {len : Nat}
    {cs : List Init}

theorem growable_false' {root : Ty} {top : Bool} {obj : Init} {p : List Nat} {t : Ty} {c : Init} (h : At root top obj p t c) :
    growable root top p = false := h.ng

/-- what a brace-enclosed list for a subobject of type `t` whose node is `c` must deliver: the parser's node `c'` and rest -/
def BraceSim (t : Ty) (c : Init) (inner : List ITok) (c' : Init) (rest : List ITok) : Prop :=
  ∀ top g fl res, initList g t top c (firstCursor t) inner true fl = .ok res → res.fl.clean = true →
    defaultMember t (unflex res.obj) = c' ∧ res.rest = rest ∧ res.fl = fl

/-- `{ … }` for the subobject at `p` (p19: the whole subobject; the parser re-uses the node, which is zero if untouched) -/
theorem init2_brace {inner : List ITok} {c' : Init}
    {rest : List ITok} (hA : At root top obj p t c) (hbl : bracedLit t inner = none)
    (hb : hasExpr c = false → BraceSim t c inner c' rest) :
    ∀ g fl, ∃ g', Imp (initItem g root top obj [p] (.lbrace :: inner) fl) (After root top obj p c' rest fl g') := by
  intro g fl
  refine ⟨g, fun res hres hcl => ?_⟩
  rw [initItem_brace hA.sub hA.ng hbl] at hres
  obtain ⟨sub, hsub, hres⟩ := bind_eq_ok hres
  obtain ⟨obj', hmod, hfin⟩ := bind_eq_ok hres
  have hfl := initList_clean hfin hcl
  obtain ⟨hfl1, hsubcl⟩ := Flags.clean_join hfl
  obtain ⟨_, hfl2⟩ := Flags.clean_join hfl1
  obtain ⟨htch, hxa, _⟩ := Flags.clean_mk hfl2
  obtain ⟨hne, hsw⟩ := touched_false p obj c hA.get htch
  have hz := zero_of_shaped t c hA.ok hA.shapedc hne
  have hzero : braceStart t = c := by rw [hz]; rfl
  rw [hzero] at hsub
  obtain ⟨h1, h2, h3⟩ := hb hne false g Flags.none sub hsub hsubcl
  rw [h1, hA.modifyAt_eq _ hsw] at hmod
  simp only [pure_bind'] at hmod
  cases hmod
  rw [h2, h3, htch, hxa, Flags.join_false, Flags.join_none] at hfin
  exact hfin

/-- an initializer without braces that initialises the subobject at `p` as a whole (p11, p13, p14) -/
theorem init2_stop {r : List ITok} {c' : Init}
    (hA : At root top obj p t c) (hb : tok ≠ .lbrace) (hs : stopsAt t tok = true)
    (hst : (isStrTok tok = true → (∀ sz k, t ≠ .scalar sz k) → hasExpr c = false) → storeTok root top tok p t c = .ok c') :
    ∀ g fl, ∃ g', Imp (initItem g root top obj [p] (tok :: r) fl) (After root top obj p c' r fl g') := by
  intro g fl
  refine ⟨g, fun res hres hcl => ?_⟩
  rw [initItem_stop hb hA.sub hs] at hres
  obtain ⟨obj', hmod, hfin⟩ := bind_eq_ok hres
  have hfl := initList_clean hfin hcl
  obtain ⟨_, hfl2⟩ := Flags.clean_join hfl
  obtain ⟨hov, hxa, _⟩ := Flags.clean_mk hfl2
  simp only [tokFlags, nonScalarTouched, Bool.or_eq_false_iff] at hov hfl2
  obtain ⟨hstr, hsw⟩ := hov
  have hstore := hst (fun his hns => by
    have : touched obj p = false := by
      rw [his, hA.sub] at hstr
      cases t with
      | scalar sz k => exact absurd rfl (hns sz k)
      | array | inc | struct | union => simpa using hstr
    exact (touched_false p obj c hA.get this).1)
  rw [hA.modifyAt_eq _ hsw, hstore] at hmod
  simp only [ok_bind] at hmod
  cases hmod
  have : tokFlags root obj tok p = ⟨false, false, false, false⟩ := by
    simp only [tokFlags, nonScalarTouched, hstr, hsw, hxa, Bool.or_self]
  rw [this, Flags.join_false] at hfin
  exact hfin

theorem unflex_arr (cs : List Init) : unflex (.arr cs) = .arr cs := rfl
theorem unflex_struct (e : Option Expr) (cs : List Init) : unflex (.struct e cs) = .struct e cs := rfl
theorem unflex_union (e : Option Expr) (m : Option Nat) (cs : List Init) : unflex (.union e m cs) = .union e m cs := rfl
theorem unflex_leaf (e : Option Expr) : unflex (.leaf e) = .leaf e := rfl

theorem unflex_shaped (h : shaped t c = true) : unflex c = c := by
  cases c <;> first | rfl | (cases t <;> simp [shaped] at h)

theorem defaultMember_non_union {t : Ty} (c : Init) (h : ∀ ms sz fl0, t ≠ .union ms sz fl0) : defaultMember t c = c := by
  cases t with
  | union ms sz fl0 => exact absurd rfl (h ms sz fl0)
  | scalar | array | inc | struct => rfl

theorem desigPaths_scalar (sz : Nat) (k : SKind) (top : Bool) (d : Nat) (toks : List ITok) (h : isDesg toks = true) :
    ∃ e, desigPaths (.scalar sz k) top d [[]] toks = .error e := by
  rcases isDesg_cases h with hb | ⟨n, r, rfl⟩
  · exact desigPaths_bracket_error rfl top d hb
  · exact desigPaths_dot_error rfl top d n r

theorem braceSim_step (ih : Sim f) {inner : List ITok} {c' : Init} {rest : List ITok}
    (ho : subOk t = true) (hs : shaped t c = true) (hbl : bracedLit t inner = none)
    (h : initializer2 (f+1) t (.lbrace :: inner) c = .ok (c', rest)) :
    shaped t c' = true ∧ (hasExpr c = false → BraceSim t c inner c' rest) := by
  cases t with
  | inc => simp [subOk] at ho
  | array elem len =>
    rw [initializer2_array_brace_none _ (bracedStr_none_of_bracedLit rfl hbl)] at h
    obtain ⟨hs', inner', heq, himp⟩ := ih.arr1 ho hs h
    cases heq
    refine ⟨hs', fun _ top g fl res hres hcl => ?_⟩
    have := himp top g fl res hres hcl
    cases this
    rw [unflex_shaped hs']
    exact ⟨rfl, rfl, rfl⟩
  | struct ms sz fl0 =>
    obtain ⟨e, cs, rfl, hms⟩ := struct_of_shaped hs
    rw [initializer2] at h
    simp only [startsBrace, ↓reduceIte] at h
    obtain ⟨hs', inner', heq, himp⟩ := ih.struct1 ho hs h
    cases heq
    refine ⟨hs', fun hne top g fl res hres hcl => ?_⟩
    have hE : hasAggExpr (Init.struct e cs) = false := by
      cases e with
      | none => rfl
      | some _ => simp [hasExpr] at hne
    have := himp hE top g fl res hres hcl
    cases this
    rw [unflex_shaped hs']
    exact ⟨rfl, rfl, rfl⟩
  | union ms sz fl0 =>
    rw [initializer2] at h
    simp only [startsBrace, ↓reduceIte] at h
    obtain ⟨hs', himp⟩ := ih.union1 ho hs h
    refine ⟨hs', fun hne top g fl res hres hcl => ?_⟩
    have hz := zero_of_shaped _ _ ho hs hne
    obtain ⟨h1, h2, h3⟩ := himp hz top g fl res hres hcl
    have hus : unflex res.obj = res.obj := by
      cases hro : res.obj with
      | flex => rw [hro] at h1; simp [defaultMember] at h1; rw [← h1] at hs'; simp [shaped] at hs'
      | _ => rfl
    rw [hus]
    exact ⟨h1, h2, h3⟩
  | scalar sz k =>
    obtain ⟨e, rfl⟩ := leaf_of_shaped hs
    refine Yields.use h ?_
    rw [initializer2]
    refine Yields.step fun ⟨c1, tok⟩ hinit =>
      Yields.via strip_comma_rbrace fun _ hend =>
      Ends.pure ?_
    rintro ⟨⟩
    have hAr : ∀ top, At (.scalar sz k) top (.leaf e) [] (.scalar sz k) (.leaf e) := fun _ => At.root ho hs
    obtain ⟨hs', _⟩ := ih.init2 (hAr false) hinit
    refine ⟨hs', fun hne top g fl res hres hcl => ?_⟩
    obtain ⟨_, himp⟩ := ih.init2 (hAr top) hinit
    have fin : ∀ g1 cur first, initList g1 (.scalar sz k) top c' cur tok first fl = .ok res →
        defaultMember (.scalar sz k) (unflex res.obj) = c' ∧ res.rest = rest ∧ res.fl = fl := by
      intro g1 cur first hh
      cases g1 with
      | zero => cases hh
      | succ g1 =>
        rw [initList_end hend] at hh
        cases hh
        obtain ⟨e1, rfl⟩ := leaf_of_shaped hs'
        exact ⟨rfl, rfl, rfl⟩
    cases g with
    | zero => cases hres
    | succ g =>
      cases hce : consumeEnd inner with
      | some rest0 =>
        obtain ⟨e1, e2⟩ := init2_stops hs ho (.inl (consumeEnd_some_isEnd hce)) hinit
        subst e1 e2
        exact fin (g+1) _ _ hres
      | none =>
        replace hres := Imp.of_positional hce rfl (desigPaths_scalar sz k top _ inner) (fun _ => Imp.refl _) res hres hcl
        obtain ⟨g1, h1⟩ := himp g fl
        have hh := h1 res hres hcl
        simp only [After, setAtM] at hh
        exact fin g1 _ _ hh

theorem strFill_shape (bytes : List Nat) (w : Nat) (sz : Nat) (kd : SKind) : ∀ (n : Nat) (cs cs' : List Init) (i : Nat),
    strFill bytes w cs i n = .ok cs' → shapedAll (.scalar sz kd) cs = true →
    cs'.length = cs.length ∧ shapedAll (.scalar sz kd) cs' = true
  | 0, cs, cs', i, h, hsa => by rw [strFill] at h; cases h; exact ⟨rfl, hsa⟩
  | n+1, [], cs', i, h, _ => by rw [strFill] at h; cases h
  | n+1, c0 :: cs0, cs', i, h, hsa => by
    rw [strFill] at h
    split at h
    · cases h
    · obtain ⟨rest, hr, h⟩ := bind_eq_ok h
      cases h
      simp only [shapedAll, Bool.and_eq_true] at hsa
      obtain ⟨h1, h2⟩ := strFill_shape bytes w sz kd n cs0 rest (i+1) hr hsa.2
      obtain ⟨e0, rfl⟩ := leaf_of_shaped hsa.1
      simp [shapedAll, h1, h2, Init.setExpr, shaped]

theorem stringInitializer_shape {bytes : List Nat} {esz : Nat} {r toks' : List ITok}
    {c' : Init} (hlen : cs.length = len) (hall : shapedAll elem cs = true) (hint : elem.isInteger = true)
    (h : stringInitializer elem bytes esz r (.arr cs) = .ok (c', toks')) :
    shaped (.array elem len) c' = true ∧ toks' = r ∧ elem.size = (esz : Int) := by
  unfold stringInitializer at h
  split at h
  · cases h
  · rename_i hsz
    simp only [Init.children, Init.withChildren] at h
    split at h
    · obtain ⟨cs', hf, h⟩ := bind_eq_ok h
      cases h
      obtain ⟨sz, kd, rfl⟩ := isInteger_scalar hint
      obtain ⟨h1, h2⟩ := strFill_shape bytes _ sz kd _ cs cs' 0 hf hall
      exact ⟨by simp [shaped, h1, hlen, h2], rfl, by simpa using hsz⟩
    · cases h

/-- an initializer without braces that initialises the node of type `t` as a whole: what the parser makes of the node is what
    `storeTok` makes of it -/
theorem init2_whole_tok {r : List ITok} {c c' : Init} {toks' : List ITok} (ho : subOk t = true)
    (hs : shaped t c = true) (hb : tok ≠ .lbrace) (hst : stopsAt t tok = true)
    (h : initializer2 f t (tok :: r) c = .ok (c', toks')) :
    toks' = r ∧ shaped t c' = true ∧ ∀ (root : Ty) (top : Bool) (P : List Nat), growable root top P = false →
      (isStrTok tok = true → (∀ sz k, t ≠ .scalar sz k) → hasExpr c = false) → storeTok root top tok P t c = .ok c' := by
  cases f with
  | zero => cases h
  | succ f =>
  cases t with
  | inc => simp [subOk] at ho
  | scalar sz k =>
    obtain ⟨e, rfl⟩ := leaf_of_shaped hs
    rw [initializer2] at h
    · obtain ⟨⟨ex, rest⟩, hpa, h⟩ := bind_eq_ok h
      cases h
      obtain ⟨tok', htoks, hte, _, _, _⟩ := parseAssign_ok hpa
      cases htoks
      refine ⟨rfl, by simp [Init.setExpr, shaped], fun root top P _ _ => ?_⟩
      simp [storeTok, hte, Init.setExpr]
      rfl
    · intro r' hr'; cases hr'; exact hb rfl
  | array elem len =>
    obtain ⟨cs, rfl, hlen, hall⟩ := arr_of_shaped hs
    cases tok with
    | str id bytes esz =>
      have hint : elem.isInteger = true := by
        simp only [stopsAt, strFits, Bool.and_eq_true] at hst; exact hst.1
      rw [initializer2] at h
      simp only [hint, ↓reduceIte] at h
      obtain ⟨hs', htoks, _⟩ := stringInitializer_shape hlen hall hint h
      refine ⟨htoks, hs', fun root top P hg hne => ?_⟩
      have hz := hne rfl (by intro sz k hh; cases hh)
      obtain ⟨_, _, hsv, _⟩ := stringInitializer_spec hs hz hint h
      simp only [storeTok, hg, Bool.false_eq_true, ↓reduceIte]
      exact hsv
    | _ => simp [stopsAt] at hst
  | struct ms sz fl0 =>
    obtain ⟨e, cs, rfl, hms⟩ := struct_of_shaped hs
    cases tok with
    | expr ex =>
      have hisS : ex.isStruct = true := by simpa [stopsAt] using hst
      rw [initializer2] at h
      simp only [startsBrace, Bool.false_eq_true, ↓reduceIte, parseAssign, ok_bind, hisS] at h
      cases h
      exact ⟨rfl, by simpa [Init.setExpr, shaped] using hms, fun _ _ _ _ _ => rfl⟩
    | _ => simp [stopsAt] at hst
  | union ms sz fl0 =>
    obtain ⟨e, m, cs, rfl, hms⟩ := union_of_shaped hs
    cases tok with
    | expr ex =>
      have hisU : ex.isUnion = true := by simpa [stopsAt] using hst
      rw [initializer2] at h
      simp only [startsBrace, Bool.false_eq_true, ↓reduceIte, parseAssign, ok_bind, hisU] at h
      cases h
      exact ⟨rfl, by simpa [Init.setExpr, shaped] using hs, fun _ _ _ _ _ => rfl⟩
    | _ => simp [stopsAt] at hst

/-- the initializer of a designation without (further) designator: an optional `=` is dropped -/
def itemOf : List ITok → List ITok
  | .eq :: r => r
  | t => t

theorem desg_item {toks : List ITok} {c c' : Init} {toks' : List ITok} (hd : isDesg toks = false)
    (h : designation f t toks c = .ok (c', toks')) :
    (∃ f', f = f' + 1 ∧ initializer2 f' t (itemOf toks) c = .ok (c', toks')) ∧
      ∀ root top d ps, desigPaths root top (d+1) ps toks = .ok (ps, itemOf toks) := by
  cases f with
  | zero => cases h
  | succ f =>
    unfold designation at h
    split at h
    · simp [isDesg] at hd
    · simp [isDesg] at hd
    · simp [isDesg] at hd
    · rename_i r
      exact ⟨⟨f, rfl, h⟩, fun root top d ps => desigPaths_eq _ _ _ _ _⟩
    · rename_i hn1 hn2 hn3 hn4
      have hi : itemOf toks = toks := by
        cases toks with
        | nil => rfl
        | cons t0 r => cases t0 <;> first | rfl | exact absurd rfl (hn4 _)
      rw [hi]
      exact ⟨⟨f, rfl, h⟩, fun root top d ps => desigPaths_plain _ _ _ _ _ hd (fun r hr => hn4 r hr)⟩

theorem switchesUnion_nochild {k : Nat} (p : List Nat) (hk : obj.children[k]? = none)
    (hn : ∀ e m cs, obj ≠ .union e (some m) cs) : switchesUnion obj (k :: p) = false := by
  rw [switchesUnion]
  · simp [hk]
  · intro e m cs he; exact hn e m cs he

theorem switchesUnion_marked : ∀ (p : List Nat) (obj c X : Init) (j : Nat), getAt obj p = some c →
    (∀ e m cs, X ≠ .union e (some m) cs) → switchesUnion (setAtM obj p X) (p ++ [j]) = false
  | [], obj, c, X, j, _, hX => by
    simp only [setAtM, List.nil_append]
    cases hk : X.children[j]? with
    | none => exact switchesUnion_nochild [] hk hX
    | some ck => rw [switchesUnion_other [] hk hX, switchesUnion]
  | k :: p, obj, c, X, j, hg, hX => by
    obtain ⟨ck, hk, hg'⟩ := getAt_cons_some hg
    have ih := switchesUnion_marked p ck c X j hg' hX
    have hlt : k < obj.children.length := (List.getElem?_eq_some_iff.mp hk).1
    have hch : (setAtM obj (k :: p) X).children[k]? = some (setAtM ck p X) := by
      rw [children_setAtM_cons obj k p X ck hk]; simp [hlt]
    rw [List.cons_append]
    cases obj with
    | leaf e => simp [Init.children] at hk
    | flex => simp [Init.children] at hk
    | arr cs => rw [switchesUnion_other _ hch (by intro e m cs' h; simp [setAtM] at h)]; exact ih
    | struct e cs => rw [switchesUnion_other _ hch (by intro e m cs' h; simp [setAtM] at h)]; exact ih
    | union e m cs =>
      simp only [Init.children] at hk hlt
      have : setAtM (Init.union e m cs) (k :: p) X = .union none (some k) (cs.set k (setAtM ck p X)) := by
        simp [setAtM, hk]
      have hch2 : (cs.set k (setAtM ck p X))[k]? = some (setAtM ck p X) := by simp [hlt]
      rw [this, switchesUnion_union_some none k _ hch2]
      simp only [↓reduceIte]
      exact ih

/-- the parser's loop over the elements of a range and the specification's fold over the designated paths, in lockstep:
    `fP` is what the specification stores (`storeTok`, or the value of a brace-enclosed list), `hrel` says that the parser's
    `designation` on an element computes the same -/
theorem range_fold (tok tokR : List ITok)
    (fP : List Nat → Ty → Init → Except Fail Init) :
    ∀ (js : List Nat) (obj : Init) (cs : List Init) (t0 : List ITok) (c1 : Init) (tok2 : List ITok),
    At root top obj p (.array elem len) (.arr cs) → js.Nodup →
    (∀ j ∈ js, ∀ c v t, cs[j]? = some c → designation f elem tok c = .ok (v, t) →
      fP (p ++ [j]) elem c = .ok v ∧ t = tokR ∧ shaped elem v = true) →
    (∀ j ∈ js, switchesUnion obj (p ++ [j]) = false) →
    (js = [] → setAtM obj p (.arr cs) = obj) →
    js.foldlM (desgStep f elem tok) (.arr cs, t0) = .ok (c1, tok2) →
    ∃ csF, c1 = .arr csF ∧
      (js.map (fun j => p ++ [j])).foldlM (fun o P => modifyAt root top (fP P) root [] P o) obj = .ok (setAtM obj p (.arr csF)) ∧
      (js ≠ [] → tok2 = tokR) ∧ (js = [] → tok2 = t0) ∧ shaped (.array elem len) (.arr csF) = true
  | [], obj, cs, t0, c1, tok2, hA, _, _, _, hM, hfold => by
    simp only [List.foldlM_nil, pure, Except.pure, Except.ok.injEq, Prod.mk.injEq] at hfold
    obtain ⟨rfl, rfl⟩ := hfold
    exact ⟨cs, rfl, by simp [List.foldlM_nil, hM rfl, pure, Except.pure], by simp, fun _ => rfl, hA.shapedc⟩
  | j0 :: js', obj, cs, t0, c1, tok2, hA, hnd, hrel, hsw, _, hfold => by
    obtain ⟨c, v, t, hk, hd, hfold⟩ := desgFold_cons hfold
    obtain ⟨hf, ht, hsv⟩ := hrel j0 (by simp) c v t hk hd
    have hAj := hA.child (childTy_arr elem len j0) (by simpa [Init.children] using hk)
    obtain ⟨e1, hA1, hM1⟩ := hA.set_child (childTy_arr elem len j0) (by simpa [Init.children] using hk) hsv
    rw [setAtM_one_arr] at hA1 hM1 e1
    simp only [Init.setChild, Init.withChildren, Init.children] at hA1 hM1 e1
    have hnd' : js'.Nodup := (List.nodup_cons.mp hnd).2
    have hj0 : j0 ∉ js' := (List.nodup_cons.mp hnd).1
    obtain ⟨csF, h1, h2, h3, h4, h5⟩ := range_fold tok tokR fP js' (setAtM obj (p ++ [j0]) v) (cs.set j0 v) t c1 tok2 hA1 hnd'
      (fun j hj c' v' t' hc' hd' => by
        have hne : j0 ≠ j := fun h => hj0 (h ▸ hj)
        rw [List.getElem?_set_ne hne] at hc'
        exact hrel j (by simp [hj]) c' v' t' hc' hd')
      (fun j hj => by rw [e1]; exact switchesUnion_marked p obj _ _ j hA.get (by intro e m cs' h; cases h))
      (fun _ => hM1) hfold
    refine ⟨csF, h1, ?_, fun _ => ?_, fun h => absurd h (List.cons_ne_nil _ _), h5⟩
    · rw [List.map_cons, List.foldlM_cons,
        hAj.modifyAt_eq _ (hsw j0 (by simp)), hf]
      simp only [ok_bind, pure_bind']
      rw [h2, e1, setAtM_over hA]
    · by_cases hjs : js' = []
      · rw [h4 hjs]; exact ht
      · exact h3 hjs

theorem init2_fuel_lift {ty : Ty} {toks : List ITok} {f g : Nat} {r : Init × List ITok} (h : f ≤ g)
    (hr : initializer2 f ty toks c = .ok r) : initializer2 g ty toks c = .ok r :=
  (initializer2_fuel_mono ty toks c f g h).ok hr

theorem getLast!_range_map (p : List Nat) (b n : Nat) (hn : 1 ≤ n) :
    ((List.range' b n).map (fun k => p ++ [k])).getLast! = p ++ [b + n - 1] := by
  obtain ⟨m, rfl⟩ : ∃ m, n = m + 1 := ⟨n - 1, by omega⟩
  rw [List.range'_concat, List.map_append]
  simp

theorem mapM_stop (hst : stopsAt elem tok = true) (N : Nat) :
    ∀ (ps : List (List Nat)), (∀ q ∈ ps, subTy root q = some elem) →
      ps.mapM (fun q => descend root top tok (q.length + N + 2) q) = .ok ps
  | [], _ => rfl
  | q :: ps, h => by
    rw [List.mapM_cons, show q.length + N + 2 = (q.length + N + 1) + 1 from rfl,
      descend_stop _ (h q (by simp)) hst, ok_bind, mapM_stop hst N ps (fun q' hq' => h q' (by simp [hq'])), ok_bind]
    rfl

/-- the parser's per-element loop of a range designator (`for (i = begin; i <= end; i++) designation(&tok2, tok, init->children[i])`) -/
abbrev rangeLoop (f : Nat) (elem : Ty) (tok : List ITok) (js : List Nat) (cs : List Init) : Except Fail (Init × List ITok) :=
  js.foldlM (desgStep f elem tok) (.arr cs, tok)

/-- a range designator over several elements `[b] … [b+m]` of the array at `p` whose initializer initialises each element as a
    whole (braces, a string literal, one expression) - or else the run enters the region `WideRange`.  Generic in how the
    specification's fold over the designated elements is computed (`hF`): for an array of known length through `setAtM`
    (`range_whole`), for an array of unknown bound by growing it (`incLoop`). -/
theorem range_core (ih : Sim f)
    (hoe : subOk elem = true) (b m : Nat) (hm : 1 ≤ m)
    (hsub : ∀ j ∈ List.range' b (m+1), subTy root (p ++ [j]) = some elem)
    (hgr : ∀ j ∈ List.range' b (m+1), growable root top (p ++ [j]) = false)
    (hshc : ∀ j ∈ List.range' b (m+1), ∀ c, cs[j]? = some c → shaped elem c = true)
    (hpr : ∀ j ∈ List.range' b (m+1), ∀ c, cs[j]? = some c → touched obj (p ++ [j]) = false → hasExpr c = false)
    (hsw' : ∀ j ∈ List.range' b (m+1), touched obj (p ++ [j]) = false → switchesUnion obj (p ++ [j]) = false)
    (cur' : Option (List Nat)) (hlast : next root top (p ++ [b + m]).reverse = cur')
    (tok : List ITok) (c1 : Init) (tok2 : List ITok) (hfold : rangeLoop f elem tok (List.range' b (m+1)) cs = .ok (c1, tok2))
    (Post : Init → Prop)
    (hF : ∀ (fP : List Nat → Ty → Init → Except Fail Init) (tokR : List ITok),
      (∀ j ∈ List.range' b (m+1), ∀ c v t, cs[j]? = some c → designation f elem tok c = .ok (v, t) →
        fP (p ++ [j]) elem c = .ok v ∧ t = tokR ∧ shaped elem v = true) →
      (∀ j ∈ List.range' b (m+1), switchesUnion obj (p ++ [j]) = false) →
      ∃ objF, ((List.range' b (m+1)).map (fun k => p ++ [k])).foldlM (fun o P => modifyAt root top (fP P) root [] P o) obj = .ok objF ∧
        tok2 = tokR ∧ Post objF) :
    ∀ g d fl res, afterDesg g root top obj fl (desigPaths root top d ((List.range' b (m+1)).map (fun k => p ++ [k])) tok) = .ok res →
      res.fl.clean = true → ∃ objF, initList g root top objF cur' tok2 false fl = .ok res ∧ Post objF := by
  intro g d fl res hres hcl
  cases d with
  | zero => cases hres
  | succ d =>
  by_cases hdg : isDesg tok = true
  · rw [afterDesg_wide_dirty (by omega) hdg hres] at hcl; cases hcl
  · have hdg' : isDesg tok = false := by simpa using hdg
    have hb0 : b ∈ List.range' b (m+1) := by simp
    rw [afterDesg] at hres
    have hitem : ∀ c v t, designation f elem tok c = .ok (v, t) →
        ∃ f', f = f' + 1 ∧ initializer2 f' elem (itemOf tok) c = .ok (v, t) := fun c v t h => (desg_item hdg' h).1
    -- the first element's call
    obtain ⟨c0, v0, t0, hk0, hd0, _⟩ := desgFold_cons (by rw [← List.range'_succ]; exact hfold)
    have hdp : ∀ ps, desigPaths root top (d+1) ps tok = .ok (ps, itemOf tok) := fun ps => (desg_item hdg' hd0).2 root top d ps
    rw [hdp, ok_bind] at hres
    simp only at hres
    have hpaths : (List.range' b (m+1)).map (fun k => p ++ [k]) =
        (p ++ [b]) :: (List.range' (b+1) m).map (fun k => p ++ [k]) := by rw [List.range'_succ]; rfl
    have hlast' : next root top ((List.range' b (m+1)).map (fun k => p ++ [k])).getLast!.reverse = cur' := by
      rw [getLast!_range_map p b (m+1) (by omega)]
      exact hlast
    have nobrace : ∀ (tok0 : ITok) (r : List ITok), tok0 ≠ .lbrace →
        (∀ c v t, designation f elem tok c = .ok (v, t) →
          ∃ f', f = f' + 1 ∧ initializer2 f' elem (tok0 :: r) c = .ok (v, t)) →
        initItem g root top obj ((List.range' b (m+1)).map (fun k => p ++ [k])) (tok0 :: r) fl = .ok res →
        ∃ objF, initList g root top objF cur' tok2 false fl = .ok res ∧ Post objF := by
      intro tok0 r hb hitem hres
      rw [hpaths, initItem_tok_multi hb, ← hpaths] at hres
      obtain ⟨targets, htg, hres⟩ := bind_eq_ok hres
      obtain ⟨obj', hmod, hfin⟩ := bind_eq_ok hres
      have hfl := initList_clean hfin hcl
      obtain ⟨_, hfl2⟩ := Flags.clean_join hfl
      obtain ⟨hov, hxa, hwd⟩ := Flags.clean_mk hfl2
      cases hst : stopsAt elem tok0 with
      | false =>
        -- brace elision into the elements: region WideRange
        exfalso
        rw [hpaths] at htg
        obtain ⟨q0, ts, hq0, _, rfl⟩ := mapM_cons_ok htg
        obtain ⟨k, s', hqs⟩ := descend_below (hsub b hb0) hst hq0
        have hne : ((q0 :: ts) == (p ++ [b]) :: (List.range' (b+1) m).map (fun k => p ++ [k])) = false := by
          rw [hqs]
          simp only [beq_eq_false_iff_ne, ne_eq, List.cons.injEq, not_and]
          intro h; exfalso
          have := congrArg List.length h
          simp at this
        rw [hpaths, hne] at hwd
        have : 0 < m := by omega
        simp [this] at hwd
      | true =>
        have htg' : targets = (List.range' b (m+1)).map (fun k => p ++ [k]) := by
          rw [mapM_stop hst root.nodes _ (List.forall_mem_map.mpr hsub)] at htg
          cases htg; rfl
        subst htg'
        simp only [Bool.or_eq_false_iff] at hov
        obtain ⟨hstr, hsw⟩ := hov
        have hswj : ∀ j ∈ List.range' b (m+1), switchesUnion obj (p ++ [j]) = false := by
          intro j hj
          have := List.any_eq_false.mp hsw (p ++ [j]) (List.mem_map_of_mem hj)
          simpa using this
        obtain ⟨objF, h2, h3, hpost⟩ := hF (fun P => storeTok root top tok0 P) r
          (fun j hj c v t hc hd => by
            obtain ⟨f', hf', hi2⟩ := hitem c v t hd
            obtain ⟨e1, hsv, hsto⟩ := init2_whole_tok hoe (hshc j hj c hc) hb hst hi2
            refine ⟨hsto root top (p ++ [j]) (hgr j hj) (fun his hns => ?_), e1, hsv⟩
            have htj : touched obj (p ++ [j]) = false := by
              rw [his, Bool.true_and] at hstr
              have := List.any_eq_false.mp hstr (p ++ [j]) (List.mem_map_of_mem hj)
              simp only [nonScalarTouched] at this
              rw [hsub j hj] at this
              cases elem with
              | scalar sz k => exact absurd rfl (hns sz k)
              | array | inc | struct | union => simpa using this
            exact hpr j hj c hc htj)
          hswj
        rw [h2] at hmod
        cases hmod
        rw [hlast', hstr, hsw, hxa, hwd] at hfin
        simp only [Bool.or_self, Flags.join_false] at hfin
        rw [h3]
        exact ⟨obj', hfin, hpost⟩
    cases hit : itemOf tok with
    | nil =>
      rw [hit, hpaths] at hres
      unfold initItem initItemWith initTokWith at hres
      cases hres
    | cons tok0 r =>
      rw [hit] at hres
      by_cases hb : tok0 = .lbrace
      · -- braces
        subst hb
        cases hbl : bracedLit elem r with
        | some tr =>
          -- p14/p15: a string literal in braces for a character array: the literal alone
          obtain ⟨tok1, r1⟩ := tr
          rw [hpaths, initItem_bracedLit _ _ _ _ _ _ _ _ (hsub b hb0) (hgr b hb0) hbl, ← hpaths] at hres
          exact nobrace tok1 r1 (bracedLit_stops hbl).2 (fun c v t hd => by
            obtain ⟨f', hf', hi2⟩ := hitem c v t hd
            rw [hit, init2_bracedLit_eq c hbl] at hi2
            exact ⟨f', hf', hi2⟩) hres
        | none =>
          rw [hpaths, initItem_brace_multi (hsub b hb0) (hgr b hb0) hbl, ← hpaths] at hres
          obtain ⟨sub, hsb, hres⟩ := bind_eq_ok hres
          obtain ⟨obj', hmod, hfin⟩ := bind_eq_ok hres
          have hfl := initList_clean hfin hcl
          obtain ⟨hfl1, hsubcl⟩ := Flags.clean_join hfl
          obtain ⟨_, hfl2⟩ := Flags.clean_join hfl1
          obtain ⟨htch, hxa, hwd⟩ := Flags.clean_mk hfl2
          have hnt : ∀ j ∈ List.range' b (m+1), touched obj (p ++ [j]) = false := by
            intro j hj
            have := List.any_eq_false.mp htch (p ++ [j]) (List.mem_map_of_mem hj)
            simpa using this
          have hbrace : ∀ j ∈ List.range' b (m+1), ∀ c v t, cs[j]? = some c → designation f elem tok c = .ok (v, t) →
              defaultMember elem (unflex sub.obj) = v ∧ sub.rest = t ∧ sub.fl = Flags.none ∧ shaped elem v = true := by
            intro j hj c v t hc hd
            obtain ⟨f', hf', hi2⟩ := hitem c v t hd
            rw [hit] at hi2
            have hup := init2_fuel_lift (g := f+1) (by omega) hi2
            obtain ⟨hsv, hbs⟩ := braceSim_step ih hoe (hshc j hj c hc) hbl hup
            have hne := hpr j hj c hc (hnt j hj)
            have hz := zero_of_shaped elem c hoe (hshc j hj c hc) hne
            have hzero : braceStart elem = c := by rw [hz]; rfl
            rw [hzero] at hsb
            obtain ⟨e1, e2, e3⟩ := hbs hne false g Flags.none sub hsb hsubcl
            exact ⟨e1, e2, e3, hsv⟩
          obtain ⟨objF, h2, h3, hpost⟩ := hF (fun _ _ _ => pure (defaultMember elem (unflex sub.obj))) sub.rest
            (fun j hj c v t hc hd => by
              obtain ⟨e1, e2, _, hsv⟩ := hbrace j hj c v t hc hd
              exact ⟨by rw [e1]; rfl, e2.symm, hsv⟩)
            (fun j hj => hsw' j hj (hnt j hj))
          rw [h2] at hmod
          cases hmod
          have hsfl : sub.fl = Flags.none := (hbrace b hb0 c0 v0 t0 hk0 hd0).2.2.1
          rw [hlast', htch, hxa, hwd, hsfl, Flags.join_false, Flags.join_none] at hfin
          rw [h3]
          exact ⟨obj', hfin, hpost⟩
      · -- an initializer without braces
        exact nobrace tok0 r hb (fun c v t hd => by
          obtain ⟨f', hf', hi2⟩ := hitem c v t hd
          rw [hit] at hi2
          exact ⟨f', hf', hi2⟩) hres

/-- `range_core` for an array of known length inside any object -/
theorem range_whole (ih : Sim f)
    (hA : At root top obj p (.array elem len) (.arr cs)) (b n : Nat) (hn : 2 ≤ n) (hbn : b + n ≤ len)
    (tok : List ITok) (c1 : Init) (tok2 : List ITok) (hfold : rangeLoop f elem tok (List.range' b n) cs = .ok (c1, tok2)) :
    ∀ g d fl res, afterDesg g root top obj fl (desigPaths root top d ((List.range' b n).map (fun k => p ++ [k])) tok) = .ok res →
      res.fl.clean = true →
      initList g root top (setAtM obj p c1) (cursorIn root top p (b + n)) tok2 false fl = .ok res := by
  intro g d fl res hres hcl
  have hoe : subOk elem = true := by have := hA.ok; simpa [subOk] using this
  obtain ⟨m, rfl⟩ : ∃ m, n = m + 1 := ⟨n - 1, by omega⟩
  have hjs : ∀ j ∈ List.range' b (m+1), j < len := by
    intro j hj; simp only [List.mem_range'] at hj; obtain ⟨i, hi, rfl⟩ := hj; omega
  have hl : cs.length = len := by
    obtain ⟨cs', h1, h2, _⟩ := arr_of_shaped hA.shapedc; cases h1; exact h2
  have hchild : ∀ j ∈ List.range' b (m+1), ∃ c, cs[j]? = some c :=
    fun j hj => ⟨cs[j]'(hl ▸ hjs j hj), List.getElem?_eq_getElem _⟩
  have hAj : ∀ j ∈ List.range' b (m+1), ∀ c, cs[j]? = some c → At root top obj (p ++ [j]) elem c :=
    fun j _ c hc => hA.child (childTy_arr elem len j) (by simpa [Init.children] using hc)
  obtain ⟨objF, h1, h2⟩ := range_core ih (top := top) (obj := obj) (p := p) (cs := cs) hoe b m (by omega)
    (fun j hj => by obtain ⟨c, hc⟩ := hchild j hj; exact (hAj j hj c hc).sub)
    (fun j hj => by obtain ⟨c, hc⟩ := hchild j hj; exact (hAj j hj c hc).ng)
    (fun j hj c hc => (hAj j hj c hc).shapedc)
    (fun j hj c hc ht => (touched_false _ obj c (hAj j hj c hc).get ht).1)
    (fun j hj ht => by obtain ⟨c, hc⟩ := hchild j hj; exact (touched_false _ obj c (hAj j hj c hc).get ht).2)
    (cursorIn root top p (b + (m+1)))
    (by rw [List.reverse_append, List.reverse_singleton, List.singleton_append, next_snoc]; rfl)
    tok c1 tok2 hfold (fun objF => objF = setAtM obj p c1)
    (fun fP tokR hrel hsw => by
      obtain ⟨csF, e1, e2, e3, _, _⟩ := range_fold (top := top) tok tokR fP (List.range' b (m+1)) obj cs tok c1 tok2 hA
        List.nodup_range' hrel hsw (fun h => absurd h (by simp)) hfold
      exact ⟨_, e2, e3 (by simp), by rw [e1]⟩)
    g d fl res hres hcl
  rw [← h2]; exact h1

theorem sim_bracket (ih : Sim f) (hA : At root top obj p (.array elem len) (.arr cs)) {toks tok tok2 : List ITok} {b e : Nat}
    {c1 : Init} (had : arrayDesignator cs.length toks = .ok (b, e, tok))
    (hfold : rangeLoop f elem tok (List.range' b (e + 1 - b)) cs = .ok (c1, tok2)) :
    shaped (.array elem len) c1 = true ∧ ∀ g d fl, ∃ g1,
      Imp (afterDesg g root top obj fl (desigPaths root top (d+1) [p] toks))
        (initList g1 root top (setAtM obj p c1) (cursorIn root top p (e + 1)) tok2 false fl) := by
  have hlen : cs.length = len := by
    obtain ⟨cs', h1, h2, _⟩ := arr_of_shaped hA.shapedc
    cases h1; exact h2
  refine ⟨foldlM_inv (P := fun acc => shaped (.array elem len) acc.1 = true)
    (fun _ _ _ hh hp => desgStep_shape ih hA.ok hh hp) _ _ _ hfold hA.shapedc, fun g d fl => ?_⟩
  have single : ∀ (a : Int), b = a.toNat → e = a.toNat → ∃ g1,
      Imp (afterDesg g root top obj fl (desigPaths root top d [p ++ [a.toNat]] tok))
        (initList g1 root top (setAtM obj p c1) (cursorIn root top p (e + 1)) tok2 false fl) := by
    intro a hb he
    subst hb he
    rw [range'_one _ _ rfl] at hfold
    obtain ⟨ca, ca', t2, hk, hd, hfold⟩ := desgFold_cons hfold
    cases hfold
    obtain ⟨hsa, himp1⟩ := ih.desg (hA.child (childTy_arr elem len a.toNat) hk) hd
    obtain ⟨e1, _, _⟩ := hA.set_child (childTy_arr elem len a.toNat) hk hsa
    rw [setAtM_one_arr] at e1
    obtain ⟨g1, h1⟩ := himp1 g d fl
    refine ⟨g1, ?_⟩
    rwa [After_child, e1] at h1
  rcases arrayDesignator_ok had with ⟨a, rfl, h0, h1, hb, he⟩ | ⟨a, a2, rfl, h0, h1, h2, hb, he⟩
  · rw [hlen] at h1
    rw [desigPaths_idx_arr _ _ hA.sub hA.ng h0 h1]
    exact single a hb he
  · rw [hlen] at h2
    rw [desigPaths_range_arr _ _ hA.sub hA.ng h0 h1 h2]
    by_cases heq : a2 = a
    · subst heq
      have : a2.toNat + 1 - a2.toNat = 1 := by omega
      simp only [this, List.range'_one, List.map_cons, List.map_nil]
      exact single a2 hb he
    · subst hb he
      refine ⟨g, fun res hres hcl => ?_⟩
      have hrw := range_whole ih hA a.toNat (a2.toNat + 1 - a.toNat) (by omega) (by omega) tok c1 tok2 hfold g d fl res hres hcl
      have hidx : a.toNat + (a2.toNat + 1 - a.toNat) = a2.toNat + 1 := by omega
      rwa [hidx] at hrw

theorem sim_arr1loop (ih : Sim f) : Arr1LoopSt (f+1) := by
  intro elem len c toks i first c' rest ho hs h
  obtain ⟨cs, rfl, hlen, hall⟩ := arr_of_shaped hs
  have hA := fun top => At.root (top := top) ho hs
  refine Yields.use h ?_
  rw [arrayInit1Loop]
  cases hce : consumeEnd toks with
  | some rest0 =>
    refine Ends.ok ?_
    rintro ⟨⟩
    exact ⟨hs, fun _ _ _ => Imp.list_end hce⟩
  | none =>
    simp only []
    rw [ite_bind_pull]
    refine Yields.step fun toks1 hfirst => Ends.ite (fun hbr => ?_) fun hbr => ?_
    · refine Yields.step fun ⟨b, e, tok⟩ had =>
        Yields.step fun ⟨c1, tok2⟩ hfold =>
        Yields.last fun hloop => ?_
      simp only [Init.children] at had hfold
      obtain ⟨hs', himp2⟩ := ih.arr1loop ho (sim_bracket ih (hA false) had hfold).1 hloop
      refine ⟨hs', fun top g fl => ?_⟩
      cases g with
      | zero => exact Imp.of_error rfl
      | succ g =>
        refine Imp.of_item hce ?_
        rw [hfirst, ok_bind]
        simp only [pathsOf, isDesg_of_isBracket hbr, ↓reduceIte]
        obtain ⟨g1, h1⟩ := (sim_bracket ih (hA top) had hfold).2 g toks1.length fl
        exact h1.trans (himp2 top g1 fl)
    · have hderr : ∀ top, isDesg toks1 = true → ∃ e, desigPaths (.array elem len) top (toks1.length + 1) [[]] toks1 = .error e := by
        intro top hdg
        rcases isDesg_cases hdg with hb | ⟨n, r, rfl⟩
        · rw [hb] at hbr; exact absurd rfl hbr
        · exact desigPaths_dot_error (t := .array elem len) rfl top _ n r
      refine Ends.ite (fun hil => ?_) fun hil => ?_
      · refine Yields.via getChild_ok fun ci hk =>
          Yields.step fun ⟨ci', toks2⟩ hinit =>
          Yields.last fun hloop => ?_
        have hAi := fun top => (hA top).child (childTy_arr elem len i) hk
        obtain ⟨hsi, _⟩ := ih.init2 (hAi false) hinit
        have hs1 : shaped (.array elem len) ((Init.arr cs).setChild i ci') = true := by
          have := shaped_set_child hs (childTy_arr elem len i) hk hsi
          rwa [setAtM_one_arr] at this
        obtain ⟨hs', himp2⟩ := ih.arr1loop ho hs1 hloop
        refine ⟨hs', fun top g fl => ?_⟩
        obtain ⟨_, himp1⟩ := ih.init2 (hAi top) hinit
        cases g with
        | zero => exact Imp.of_error rfl
        | succ g =>
          refine Imp.of_positional hce hfirst (hderr top) fun _ => ?_
          simp only [Init.children] at hil
          simp only [cursorIn_arr_root elem len top i, hlen ▸ hil, ↓reduceIte]
          obtain ⟨g1, h1'⟩ := himp1 g fl
          simp only [List.nil_append, After, List.reverse_cons, List.reverse_nil, setAtM_one_arr] at h1'
          exact h1'.trans (himp2 top g1 fl)
      · refine Yields.step fun toks2 hskip => Yields.last fun hloop => ?_
        obtain ⟨hs', himp2⟩ := ih.arr1loop ho hs hloop
        refine ⟨hs', fun top g fl => ?_⟩
        cases g with
        | zero => exact Imp.of_error rfl
        | succ g =>
          refine Imp.of_positional hce hfirst (hderr top) fun _ => ?_
          simp only [Init.children] at hil
          have hil' : ¬ i < len := hlen ▸ hil
          simp only [cursorIn_arr_root elem len top i, hil', ↓reduceIte]
          have hc2 : cursorIn (.array elem len) top [] (i+1) = none := by
            rw [cursorIn_arr_root elem len top (i+1)]; simp; omega
          have := himp2 top g fl
          rw [hc2] at this
          exact (Imp.of_excess hskip).trans this

end ChibiVerif.InitSpec
