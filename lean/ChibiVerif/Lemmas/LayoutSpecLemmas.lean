/-
What is true of the layout specification alone (Spec/LayoutSpec.lean, C08): `roundUp` is the least multiple ≥ n, the
containment rule of bit-fields is a comparison of quotients (`straddle_iff`), and `allocate` has three forms, each of which
moves the cursor past exactly the member's bits.  Props/C08 states the psABI wording of the allocation rule from these;
Lemmas/LayoutLemmas.lean compares the model with them.  Core Lean only.
-/
import ChibiVerif.Lemmas.C08Vocabulary

namespace ChibiVerif.Layout
open ChibiVerif.Spec.Layout

theorem roundUp_eq (n a : Nat) (ha : 0 < a) : roundUp n a = (n + a - 1) / a * a := by
  unfold roundUp
  have h1 := Nat.div_add_mod n a
  have h2 := Nat.mod_lt n ha
  split
  · have : (n + a - 1) / a = n / a := by
      apply Nat.div_eq_of_lt_le
      · rw [Nat.mul_comm]; omega
      · rw [Nat.add_mul, Nat.mul_comm]; omega
    rw [this, Nat.mul_comm]; omega
  · have : (n + a - 1) / a = n / a + 1 := by
      apply Nat.div_eq_of_lt_le
      · rw [Nat.add_mul, Nat.mul_comm]; omega
      · rw [Nat.add_mul, Nat.add_mul, Nat.mul_comm]; omega
    rw [this, Nat.add_mul, Nat.mul_comm]; omega

theorem roundUp_ge (n a : Nat) : n ≤ roundUp n a := by
  unfold roundUp; split <;> omega

theorem roundUp_lt (n a : Nat) (ha : 0 < a) : roundUp n a < n + a := by
  unfold roundUp
  have := Nat.mod_lt n ha
  split <;> omega

theorem roundUp_dvd (n a : Nat) (ha : 0 < a) : a ∣ roundUp n a := by
  rw [roundUp_eq n a ha]; exact Nat.dvd_mul_left ..

theorem roundUp_of_dvd {n a : Nat} (h : a ∣ n) : roundUp n a = n := by
  unfold roundUp; rw [Nat.mod_eq_zero_of_dvd h]; simp

theorem roundUp_least {n a m : Nat} (ha : 0 < a) (hd : a ∣ m) (hn : n ≤ m) : roundUp n a ≤ m := by
  obtain ⟨k, rfl⟩ := hd
  have hlt := roundUp_lt n a ha
  obtain ⟨j, hj⟩ := roundUp_dvd n a ha
  rw [hj] at hlt ⊢
  -- a*j < n + a ≤ a*k + a = a*(k+1)  ⇒  j < k+1
  have : j < k + 1 := by
    apply Nat.lt_of_mul_lt_mul_left (a := a)
    rw [Nat.mul_add]; omega
  exact Nat.mul_le_mul_left a (by omega)

theorem roundUp_small {n a : Nat} (h0 : 0 < n) (h1 : n ≤ a) : roundUp n a = a := by
  unfold roundUp
  by_cases h : n = a
  · subst h; simp
  · have : n % a = n := Nat.mod_eq_of_lt (by omega)
    rw [this]; split <;> omega

theorem roundUp_zero (a : Nat) : roundUp 0 a = 0 := by simp [roundUp]

/-- chibicc's straddle test is the psABI containment rule -/
theorem straddle_iff (cur w u : Nat) (hu : 0 < u) (hw : 0 < w) :
    cur / u ≠ (cur + w - 1) / u ↔ ¬ (cur % u + w ≤ u) := by
  have h1 := Nat.div_add_mod cur u
  have h2 := Nat.mod_lt cur hu
  constructor
  · intro hne hle
    apply hne
    symm
    apply Nat.div_eq_of_lt_le
    · rw [Nat.mul_comm]; omega
    · rw [Nat.add_mul, Nat.mul_comm]; omega
  · intro hgt heq
    have h3 := Nat.div_add_mod (cur + w - 1) u
    have h4 := Nat.mod_lt (cur + w - 1) hu
    rw [← heq] at h3
    omega

theorem allocateAll_cons (p : Bool) (cur : Nat) (m : SMem) (ms : List SMem) :
    allocateAll p cur (m :: ms) =
      ((allocateAll p (allocate p cur m).2 ms).1,
       placedAt m (allocate p cur m).1 :: (allocateAll p (allocate p cur m).2 ms).2) := rfl

theorem aggAlign_cons (p : Bool) (a : Nat) (m : SMem) (ms : List SMem) :
    aggAlign p a (m :: ms) = aggAlign p (max a (m.contrib p)) ms := rfl

theorem aggAlign_ge (p : Bool) (ms : List SMem) : ∀ a, a ≤ aggAlign p a ms := by
  induction ms with
  | nil => intro a; exact Nat.le_refl _
  | cons m ms ih => intro a; rw [aggAlign_cons]; exact Nat.le_trans (Nat.le_max_left ..) (ih _)

theorem aggAlign_pos (p : Bool) (ms : List SMem) {a : Nat} (h : 0 < a) : 0 < aggAlign p a ms :=
  Nat.lt_of_lt_of_le h (aggAlign_ge ..)

/-- the initial alignment of an aggregate: the `aligned(n)` request, or 1 -/
theorem getD_pos {aligned : Option Nat} (hal : ∀ n, aligned = some n → 0 < n) : 0 < aligned.getD 1 := by
  cases aligned with
  | none => exact Nat.one_pos
  | some n => exact hal n rfl

end ChibiVerif.Layout

namespace ChibiVerif.Spec.Layout
open ChibiVerif.Layout

theorem leastAligned_roundUp (a cur : Nat) (ha : 0 < a) : LeastAligned a cur (roundUp cur a) :=
  ⟨roundUp_dvd cur a ha, roundUp_ge cur a, fun _ hd hc => roundUp_least ha hd hc⟩

theorem allocate_plain {p : Bool} {cur : Nat} {m : SMem} (h : m.bitWidth = none) :
    allocate p cur m = (roundUp cur (8 * m.reqAlign p), roundUp cur (8 * m.reqAlign p) + 8 * m.size) := by
  simp only [allocate, h]

theorem allocate_zero {p : Bool} {cur : Nat} {m : SMem} (h : m.bitWidth = some 0) :
    allocate p cur m = (roundUp cur (8 * m.size), roundUp cur (8 * m.size)) := by
  simp only [allocate, h, if_true]

/-- a bit-field of non-zero width; in a packed struct provided it fits where the next free bit is (otherwise gcc lets it
    straddle: the known-finding region) -/
theorem allocate_field {p : Bool} {cur w : Nat} {m : SMem} (h : m.bitWidth = some w) (hw : w ≠ 0)
    (hp : p = true → cur % (8 * m.size) + w ≤ 8 * m.size) :
    allocate p cur m = if cur % (8 * m.size) + w ≤ 8 * m.size then (cur, cur + w)
      else (roundUp cur (8 * m.size), roundUp cur (8 * m.size) + w) := by
  cases p with
  | false => simp only [allocate, h, hw, if_false, Bool.false_eq_true]
  | true => simp only [allocate, h, hw, if_false, if_true, hp rfl]

theorem allocate_span (p : Bool) (cur : Nat) (m : SMem) :
    cur ≤ (allocate p cur m).1 ∧ (allocate p cur m).2 = (allocate p cur m).1 + m.bits := by
  unfold allocate SMem.bits
  cases m.bitWidth with
  | none => exact ⟨roundUp_ge .., rfl⟩
  | some w =>
    simp only
    split
    · exact ⟨roundUp_ge .., by omega⟩
    · split
      · exact ⟨Nat.le_refl _, rfl⟩
      · split
        · exact ⟨Nat.le_refl _, rfl⟩
        · exact ⟨roundUp_ge .., rfl⟩

/-- a field that starts at a unit boundary and is no wider than the unit lies inside that unit -/
theorem boundary_contains {s u w : Nat} (hd : u ∣ s) (hw : 0 < w) (hwu : w ≤ u) : s / u = (s + w - 1) / u := by
  obtain ⟨k, rfl⟩ := hd
  rw [Nat.mul_div_cancel_left k (by omega : 0 < u)]
  symm
  apply Nat.div_eq_of_lt_le
  · rw [Nat.mul_comm]; omega
  · rw [Nat.add_mul, Nat.mul_comm]; omega

theorem SMem.WF.unit {m : SMem} (hwf : m.WF) {w : Nat} (h : m.bitWidth = some w) : 0 < m.size ∧ w ≤ 8 * m.size := by
  have := hwf.2
  rw [h] at this
  exact ⟨this.1, this.2.2.2.1⟩

theorem SMem.WF.reqAlign_pos {m : SMem} (hwf : m.WF) : 0 < m.reqAlign false := by
  have := hwf.1
  unfold SMem.reqAlign
  split
  · omega
  · exact this

theorem placedAt_firstBit (m : SMem) (s : Nat) : (placedAt m s).firstBit = s := by
  unfold placedAt
  cases m.bitWidth with
  | none => rfl
  | some w => by_cases h : w = 0 <;> simp [h]

theorem allocateAll_inOrder (ms : List SMem) : ∀ cur,
    InOrder cur ms (allocateAll false cur ms).2 (allocateAll false cur ms).1 := by
  induction ms with
  | nil => intro cur; rfl
  | cons m ms ih =>
    intro cur
    have hs := allocate_span false cur m
    rw [allocateAll_cons]
    simp only [InOrder, placedAt_firstBit]
    refine ⟨hs.1, ?_⟩
    rw [← hs.2]
    exact ih _

theorem inOrder_le {ms : List SMem} : ∀ {cur ps e}, InOrder cur ms ps e → cur ≤ e := by
  induction ms with
  | nil => intro cur ps e h; cases ps with
    | nil => simp only [InOrder] at h; omega
    | cons => simp [InOrder] at h
  | cons m ms ih => intro cur ps e h; cases ps with
    | nil => simp [InOrder] at h
    | cons p ps => simp only [InOrder] at h; have := ih h.2; omega

theorem contrib_le_aggAlign (p : Bool) (ms : List SMem) : ∀ a, ∀ m ∈ ms, m.contrib p ≤ aggAlign p a ms := by
  induction ms with
  | nil => intro a m hm; cases hm
  | cons x xs ih =>
    intro a m hm
    rw [aggAlign_cons]
    rcases List.mem_cons.mp hm with rfl | h
    · exact Nat.le_trans (Nat.le_max_right ..) (aggAlign_ge ..)
    · exact ih _ m h

end ChibiVerif.Spec.Layout
