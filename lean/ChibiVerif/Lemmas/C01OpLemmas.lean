/-
Binary operator sequences of `gen_expr` (C01): the distinct sequences (`OpKind`) and what each leaves in `%rax` for every
machine state (`OpKind.fn`, `OpKind.effect`).  The sequences are decoded once (`OpKind.instrs`, `decode_seq`, `run_seq`) and
the effect lemmas reason on the decoded instructions (`execs`); the conversions (`CastKind.effect`, Lemmas/C01Lemmas.lean) and the
unary operators (`UnKind` with `UnKind.effect`, in Lemmas/C01ArithLemmas.lean) are short enough to run the text (`X86.run`) directly.  Which sequence the model selects for each
(operator, type): Lemmas/C01Select.lean.
-/
import ChibiVerif.Lemmas.C01Lemmas

namespace ChibiVerif.C01
open ChibiVerif.X86 ChibiVerif.Asm ChibiVerif.Spec.IntSpec ChibiVerif.Gen.CommonType ChibiVerif.C01Codegen

/-- the distinct operator sequences -/
inductive OpKind where
  | add32 | sub32 | mul32 | and32 | or32 | xor32
  | add64 | sub64 | mul64 | and64 | or64 | xor64
  | divs32 | divu32 | divs64 | divu64
  | mods32 | modu32 | mods64 | modu64
  | eq32 | ne32 | lts32 | ltu32 | les32 | leu32
  | eq64 | ne64 | lts64 | ltu64 | les64 | leu64
  | shl32 | shr32 | sar32 | shl64 | shr64 | sar64
  deriving DecidableEq, Repr

/-- the instruction `op a, b` on two registers -/
def i2 (op a b : String) : Ins := ⟨op, [.r a, .r b]⟩
def cmpSeq (w64 : Bool) (setcc : String) : List Ins :=
  [if w64 then i2 "cmp" "%rdi" "%rax" else i2 "cmp" "%edi" "%eax", ⟨setcc, [.r "%al"]⟩, i2 "movzb" "%al" "%rax"]

def OpKind.seq : OpKind → List Ins
  | .add32 => [i2 "add" "%edi" "%eax"] | .sub32 => [i2 "sub" "%edi" "%eax"] | .mul32 => [i2 "imul" "%edi" "%eax"]
  | .and32 => [i2 "and" "%edi" "%eax"] | .or32 => [i2 "or" "%edi" "%eax"] | .xor32 => [i2 "xor" "%edi" "%eax"]
  | .add64 => [i2 "add" "%rdi" "%rax"] | .sub64 => [i2 "sub" "%rdi" "%rax"] | .mul64 => [i2 "imul" "%rdi" "%rax"]
  | .and64 => [i2 "and" "%rdi" "%rax"] | .or64 => [i2 "or" "%rdi" "%rax"] | .xor64 => [i2 "xor" "%rdi" "%rax"]
  | .divs32 => [⟨"cdq", []⟩, ⟨"idiv", [.r "%edi"]⟩]
  | .divu32 => [⟨"mov", [.i 0, .r "%edx"]⟩, ⟨"div", [.r "%edi"]⟩]
  | .divs64 => [⟨"cqo", []⟩, ⟨"idiv", [.r "%rdi"]⟩]
  | .divu64 => [⟨"mov", [.i 0, .r "%rdx"]⟩, ⟨"div", [.r "%rdi"]⟩]
  | .mods32 => [⟨"cdq", []⟩, ⟨"idiv", [.r "%edi"]⟩, i2 "mov" "%rdx" "%rax"]
  | .modu32 => [⟨"mov", [.i 0, .r "%edx"]⟩, ⟨"div", [.r "%edi"]⟩, i2 "mov" "%rdx" "%rax"]
  | .mods64 => [⟨"cqo", []⟩, ⟨"idiv", [.r "%rdi"]⟩, i2 "mov" "%rdx" "%rax"]
  | .modu64 => [⟨"mov", [.i 0, .r "%rdx"]⟩, ⟨"div", [.r "%rdi"]⟩, i2 "mov" "%rdx" "%rax"]
  | .eq32 => cmpSeq false "sete" | .ne32 => cmpSeq false "setne" | .lts32 => cmpSeq false "setl"
  | .ltu32 => cmpSeq false "setb" | .les32 => cmpSeq false "setle" | .leu32 => cmpSeq false "setbe"
  | .eq64 => cmpSeq true "sete" | .ne64 => cmpSeq true "setne" | .lts64 => cmpSeq true "setl"
  | .ltu64 => cmpSeq true "setb" | .les64 => cmpSeq true "setle" | .leu64 => cmpSeq true "setbe"
  | .shl32 => [i2 "mov" "%rdi" "%rcx", i2 "shl" "%cl" "%eax"]
  | .shr32 => [i2 "mov" "%rdi" "%rcx", i2 "shr" "%cl" "%eax"]
  | .sar32 => [i2 "mov" "%rdi" "%rcx", i2 "sar" "%cl" "%eax"]
  | .shl64 => [i2 "mov" "%rdi" "%rcx", i2 "shl" "%cl" "%rax"]
  | .shr64 => [i2 "mov" "%rdi" "%rcx", i2 "shr" "%cl" "%rax"]
  | .sar64 => [i2 "mov" "%rdi" "%rcx", i2 "sar" "%cl" "%rax"]

/-- 32-bit operation on the low halves, result zero-extended (a 32-bit register write) -/
def alu32 (f : BitVec 32 → BitVec 32 → BitVec 32) (r d : BitVec 64) : BitVec 64 :=
  (f (r.setWidth 32) (d.setWidth 32)).setWidth 64

def b64 (c : Bool) : BitVec 64 := if c then 1 else 0

/-- what each sequence leaves in `%rax` given `%rax = r`, `%rdi = d` on entry; `none` = the CPU raises #DE -/
def OpKind.fn (k : OpKind) (r d : BitVec 64) : Option (BitVec 64) :=
  let a32 := r.setWidth 32
  let d32 := d.setWidth 32
  match k with
  | .add32 => some (alu32 (· + ·) r d) | .sub32 => some (alu32 (· - ·) r d) | .mul32 => some (alu32 (· * ·) r d)
  | .and32 => some (alu32 (· &&& ·) r d) | .or32 => some (alu32 (· ||| ·) r d) | .xor32 => some (alu32 (· ^^^ ·) r d)
  | .add64 => some (r + d) | .sub64 => some (r - d) | .mul64 => some (r * d)
  | .and64 => some (r &&& d) | .or64 => some (r ||| d) | .xor64 => some (r ^^^ d)
  | .divs32 =>
      if d32.toInt = 0 then none
      else if Int.tdiv a32.toInt d32.toInt < -(2 ^ 31) ∨ Int.tdiv a32.toInt d32.toInt ≥ 2 ^ 31 then none
      else some ((BitVec.ofInt 32 (Int.tdiv a32.toInt d32.toInt)).setWidth 64)
  | .mods32 =>
      if d32.toInt = 0 then none
      else if Int.tdiv a32.toInt d32.toInt < -(2 ^ 31) ∨ Int.tdiv a32.toInt d32.toInt ≥ 2 ^ 31 then none
      else some ((BitVec.ofInt 32 (Int.tmod a32.toInt d32.toInt)).setWidth 64)
  | .divu32 => if d32.toNat = 0 then none else some ((BitVec.ofNat 32 (a32.toNat / d32.toNat)).setWidth 64)
  | .modu32 => if d32.toNat = 0 then none else some ((BitVec.ofNat 32 (a32.toNat % d32.toNat)).setWidth 64)
  | .divs64 =>
      if d.toInt = 0 then none
      else if Int.tdiv r.toInt d.toInt < -(2 ^ 63) ∨ Int.tdiv r.toInt d.toInt ≥ 2 ^ 63 then none
      else some (BitVec.ofInt 64 (Int.tdiv r.toInt d.toInt))
  | .mods64 =>
      if d.toInt = 0 then none
      else if Int.tdiv r.toInt d.toInt < -(2 ^ 63) ∨ Int.tdiv r.toInt d.toInt ≥ 2 ^ 63 then none
      else some (BitVec.ofInt 64 (Int.tmod r.toInt d.toInt))
  | .divu64 => if d.toNat = 0 then none else some (BitVec.ofNat 64 (r.toNat / d.toNat))
  | .modu64 => if d.toNat = 0 then none else some (BitVec.ofNat 64 (r.toNat % d.toNat))
  | .eq32 => some (b64 (a32 = d32)) | .ne32 => some (b64 (a32 ≠ d32))
  | .lts32 => some (b64 (a32.toInt < d32.toInt)) | .ltu32 => some (b64 (a32.toNat < d32.toNat))
  | .les32 => some (b64 (a32.toInt ≤ d32.toInt)) | .leu32 => some (b64 (a32.toNat ≤ d32.toNat))
  | .eq64 => some (b64 (r = d)) | .ne64 => some (b64 (r ≠ d))
  | .lts64 => some (b64 (r.toInt < d.toInt)) | .ltu64 => some (b64 (r.toNat < d.toNat))
  | .les64 => some (b64 (r.toInt ≤ d.toInt)) | .leu64 => some (b64 (r.toNat ≤ d.toNat))
  | .shl32 => some ((a32 <<< ((d.setWidth 8).toNat % 32)).setWidth 64)
  | .shr32 => some ((a32 >>> ((d.setWidth 8).toNat % 32)).setWidth 64)
  | .sar32 => some ((a32.sshiftRight ((d.setWidth 8).toNat % 32)).setWidth 64)
  | .shl64 => some (r <<< ((d.setWidth 8).toNat % 64))
  | .shr64 => some (r >>> ((d.setWidth 8).toNat % 64))
  | .sar64 => some (r.sshiftRight ((d.setWidth 8).toNat % 64))

/-- statement of the effect lemma for one sequence -/
def OpKind.Effect (k : OpKind) : Prop :=
  ∀ s : State, match k.fn (s.get .rax) (s.get .rdi) with
    | some x => ∃ s', X86.run k.seq s = some s' ∧ s'.get .rax = x
    | none => X86.run k.seq s = none

/-! ### flags after `cmp`: the conditions `setl`/`setle` test are the signed comparisons -/

/-- after `cmp y, x` (the flags of `x - y`), SF ≠ OF is the signed `x < y` -/
theorem sf_ne_of_32 (x y : BitVec 32) : ((x - y).msb != BitVec.ssubOverflow x y) = decide (x.toInt < y.toInt) := by
  have h1 := @BitVec.toInt_lt 32 x; have h2 := @BitVec.le_toInt 32 x
  have h3 := @BitVec.toInt_lt 32 y; have h4 := @BitVec.le_toInt 32 y
  rw [BitVec.msb_eq_toInt, BitVec.toInt_sub, BitVec.ssubOverflow, Int.bmod_def]
  simp at h1 h2 h3 h4
  rw [Bool.eq_iff_iff]
  simp only [bne_iff_ne, ne_eq, decide_eq_true_eq, ← Bool.decide_or, decide_eq_decide]
  simp
  split <;> omega
theorem sf_ne_of_64 (x y : BitVec 64) : ((x - y).msb != BitVec.ssubOverflow x y) = decide (x.toInt < y.toInt) := by
  have h1 := @BitVec.toInt_lt 64 x; have h2 := @BitVec.le_toInt 64 x
  have h3 := @BitVec.toInt_lt 64 y; have h4 := @BitVec.le_toInt 64 y
  rw [BitVec.msb_eq_toInt, BitVec.toInt_sub, BitVec.ssubOverflow, Int.bmod_def]
  simp at h1 h2 h3 h4
  rw [Bool.eq_iff_iff]
  simp only [bne_iff_ne, ne_eq, decide_eq_true_eq, ← Bool.decide_or, decide_eq_decide]
  simp
  split <;> omega

theorem sub_eq_zero_iff {n : Nat} (x y : BitVec n) : (x - y == 0#n) = decide (x = y) := by
  by_cases h : x = y
  · subst h; simp
  · simp [h]
    intro h0
    apply h
    have := congrArg (· + y) h0
    simp only [BitVec.sub_add_cancel, BitVec.zero_add] at this
    exact this

def aluI (a : Alu) (w : W) : List Instr := [.alu a w (.reg .rdi) (.reg .rax)]
def cmpI (w : W) (cc : CC) : List Instr :=
  [.alu .cmp w (.reg .rdi) (.reg .rax), .setcc cc .rax, .movzx .w8 .w64 (.reg .rax) .rax]
def shI (op : Sh) (w : W) : List Instr := [.mov .w64 (.reg .rdi) (.reg .rcx), .shiftCl op w .rax]
def remI : Instr := .mov .w64 (.reg .rdx) (.reg .rax)

def OpKind.instrs : OpKind → List Instr
  | .add32 => aluI .add .w32 | .sub32 => aluI .sub .w32 | .and32 => aluI .and .w32 | .or32 => aluI .or .w32
  | .xor32 => aluI .xor .w32 | .mul32 => [.imul .w32 (.reg .rdi) .rax]
  | .add64 => aluI .add .w64 | .sub64 => aluI .sub .w64 | .and64 => aluI .and .w64 | .or64 => aluI .or .w64
  | .xor64 => aluI .xor .w64 | .mul64 => [.imul .w64 (.reg .rdi) .rax]
  | .divs32 => [.cdq, .idiv .w32 .rdi] | .mods32 => [.cdq, .idiv .w32 .rdi, remI]
  | .divs64 => [.cqo, .idiv .w64 .rdi] | .mods64 => [.cqo, .idiv .w64 .rdi, remI]
  | .divu32 => [.mov .w32 (.imm 0) (.reg .rdx), .div .w32 .rdi]
  | .modu32 => [.mov .w32 (.imm 0) (.reg .rdx), .div .w32 .rdi, remI]
  | .divu64 => [.mov .w64 (.imm 0) (.reg .rdx), .div .w64 .rdi]
  | .modu64 => [.mov .w64 (.imm 0) (.reg .rdx), .div .w64 .rdi, remI]
  | .eq32 => cmpI .w32 .e | .ne32 => cmpI .w32 .ne | .lts32 => cmpI .w32 .l | .ltu32 => cmpI .w32 .b
  | .les32 => cmpI .w32 .le | .leu32 => cmpI .w32 .be
  | .eq64 => cmpI .w64 .e | .ne64 => cmpI .w64 .ne | .lts64 => cmpI .w64 .l | .ltu64 => cmpI .w64 .b
  | .les64 => cmpI .w64 .le | .leu64 => cmpI .w64 .be
  | .shl32 => shI .shl .w32 | .shr32 => shI .shr .w32 | .sar32 => shI .sar .w32
  | .shl64 => shI .shl .w64 | .shr64 => shI .shr .w64 | .sar64 => shI .sar .w64

theorem OpKind.decode_seq (k : OpKind) : decodeAll k.seq = some k.instrs := by
  -- `Eq.refl` directly: `rfl` and `decide` spend several times as long before they get to this comparison
  cases k <;> exact Eq.refl _

theorem OpKind.run_seq (k : OpKind) (s : State) : X86.run k.seq s = execs k.instrs s :=
  run_eq_execs _ _ k.decode_seq s

theorem cond_cmp {n : Nat} (s : State) (x y : BitVec n)
    (hsf : ((x - y).msb != BitVec.ssubOverflow x y) = decide (x.toInt < y.toInt)) (cc : CC) :
    (s.flags (x - y) (x.usubOverflow y) (x.ssubOverflow y)).cond cc =
      match cc with
      | .e => decide (x = y) | .ne => decide (x ≠ y)
      | .l => decide (x.toInt < y.toInt) | .le => decide (x.toInt ≤ y.toInt)
      | .b => decide (x.toNat < y.toNat) | .be => decide (x.toNat ≤ y.toNat)
      | cc => (s.flags (x - y) (x.usubOverflow y) (x.ssubOverflow y)).cond cc := by
  have hz : (x - y == 0) = decide (x = y) := sub_eq_zero_iff x y
  cases cc <;> simp only [State.cond, State.flags, hz, hsf, BitVec.usubOverflow, decide_not, ← Bool.decide_or,
    decide_eq_decide]
  case le => rw [← BitVec.toInt_inj]; omega
  case be => rw [BitVec.toNat_eq]; omega

/-- `cmp %rdi, %rax; setcc %al; movzb %al, %rax` at either width, for any condition code: `%rax` becomes the 0/1 of the
    comparison (`hsf`: SF ≠ OF after the subtraction is the signed "less than", `sf_ne_of_32` / `sf_ne_of_64`) -/
theorem cmp_setcc (w : W) (cc : CC) (s : State)
    (hsf : ((s.getW .rax w - s.getW .rdi w).msb != BitVec.ssubOverflow (s.getW .rax w) (s.getW .rdi w)) =
      decide ((s.getW .rax w).toInt < (s.getW .rdi w).toInt)) :
    ∃ s', execs (cmpI w cc) s = some s' ∧
      s'.get .rax = b64 (match cc with
        | .e => decide (s.getW .rax w = s.getW .rdi w) | .ne => decide (s.getW .rax w ≠ s.getW .rdi w)
        | .l => decide ((s.getW .rax w).toInt < (s.getW .rdi w).toInt)
        | .le => decide ((s.getW .rax w).toInt ≤ (s.getW .rdi w).toInt)
        | .b => decide ((s.getW .rax w).toNat < (s.getW .rdi w).toNat)
        | .be => decide ((s.getW .rax w).toNat ≤ (s.getW .rdi w).toNat)
        | cc => (s.flags (s.getW .rax w - s.getW .rdi w) ((s.getW .rax w).usubOverflow (s.getW .rdi w))
                  ((s.getW .rax w).ssubOverflow (s.getW .rdi w))).cond cc) := by
  rw [← cond_cmp s _ _ hsf]
  refine ⟨_, rfl, ?_⟩
  show ((BitVec.ofNat 64 _).setWidth 8).setWidth 64 = _
  rw [low8_write, apply_ite (BitVec.setWidth 64)]
  rfl

/-! ### effect lemmas: division -/

theorem cdq_dividend (a : BitVec 32) : (a.sshiftRight 31).toInt * 2 ^ 32 + (a.toNat : Int) = a.toInt := by
  rw [BitVec.toInt_sshiftRight, Int.shiftRight_eq_div_pow, BitVec.toInt_eq_toNat_cond]
  have := a.isLt
  split <;> omega

theorem cqo_dividend (a : BitVec 64) : (a.sshiftRight 63).toInt * 2 ^ 64 + (a.toNat : Int) = a.toInt := by
  rw [BitVec.toInt_sshiftRight, Int.shiftRight_eq_div_pow, BitVec.toInt_eq_toNat_cond]
  have := a.isLt
  split <;> omega

theorem setWidth_32_64_32 (x : BitVec 32) : (x.setWidth 64).setWidth 32 = x :=
  BitVec.setWidth_setWidth_self (by decide) x

/-- `cdq; idiv %edi` and the same followed by `mov %rdx, %rax`: quotient and remainder, or `#DE` -/
theorem effect_idiv32 : OpKind.divs32.Effect ∧ OpKind.mods32.Effect := by
  refine ⟨?_, ?_⟩ <;> intro s <;> rw [OpKind.run_seq] <;> simp only [OpKind.instrs, remI]
  all_goals
    have hdi : ((s.setW .rdx .w32 ((s.getW .rax .w32).sshiftRight 31)).getW .rdi .w32) = (s.get .rdi).setWidth 32 := rfl
    have hax : ((s.setW .rdx .w32 ((s.getW .rax .w32).sshiftRight 31)).getW .rax .w32) = (s.get .rax).setWidth 32 := rfl
    have hdx : ((s.setW .rdx .w32 ((s.getW .rax .w32).sshiftRight 31)).getW .rdx .w32) =
        ((s.get .rax).setWidth 32).sshiftRight 31 := setWidth_32_64_32 _
    simp only [OpKind.fn, execs, exec, hdi, hax, hdx, cdq_dividend]
    generalize (BitVec.setWidth 32 (s.get Reg.rax)) = a
    generalize (BitVec.setWidth 32 (s.get Reg.rdi)) = d
    by_cases c1 : d.toInt = 0
    · simp only [c1, if_true]
    · by_cases c2 : a.toInt.tdiv d.toInt < -(2 ^ 31) ∨ a.toInt.tdiv d.toInt ≥ 2 ^ 31
      · simp only [c1, c2, if_true, if_false]
      · simp only [c1, c2, if_false]
        refine ⟨_, rfl, ?_⟩
        simp [State.setW, State.get, State.set, State.src, State.getW]

theorem effect_idiv64 : OpKind.divs64.Effect ∧ OpKind.mods64.Effect := by
  refine ⟨?_, ?_⟩ <;> intro s <;> rw [OpKind.run_seq] <;> simp only [OpKind.instrs, remI]
  all_goals
    have hdi : ((s.set .rdx ((s.get .rax).sshiftRight 63)).get .rdi) = s.get .rdi := rfl
    have hax : ((s.set .rdx ((s.get .rax).sshiftRight 63)).get .rax) = s.get .rax := rfl
    have hdx : ((s.set .rdx ((s.get .rax).sshiftRight 63)).get .rdx) = (s.get .rax).sshiftRight 63 := rfl
    simp only [OpKind.fn, execs, exec, hdi, hax, hdx, cqo_dividend]
    generalize (s.get Reg.rax) = a
    generalize (s.get Reg.rdi) = d
    by_cases c1 : d.toInt = 0
    · simp only [c1, if_true]
    · by_cases c2 : a.toInt.tdiv d.toInt < -(2 ^ 63) ∨ a.toInt.tdiv d.toInt ≥ 2 ^ 63
      · simp only [c1, c2, if_true, if_false]
      · simp only [c1, c2, if_false]
        refine ⟨_, rfl, ?_⟩
        simp [State.get, State.set, State.src, State.getW, State.setW]

/-- `mov $0, %edx; div %edi`: the quotient of a 32-bit dividend always fits -/
theorem effect_div32 : OpKind.divu32.Effect ∧ OpKind.modu32.Effect := by
  refine ⟨?_, ?_⟩ <;> intro s <;> rw [OpKind.run_seq] <;> simp only [OpKind.instrs, remI]
  all_goals
    simp only [OpKind.fn, execs, exec, State.dst, State.src]
    have hdi : ((s.setW .rdx .w32 (BitVec.ofInt 32 0)).getW .rdi .w32) = (s.get .rdi).setWidth 32 := rfl
    have hax : ((s.setW .rdx .w32 (BitVec.ofInt 32 0)).getW .rax .w32) = (s.get .rax).setWidth 32 := rfl
    have hdx : ((s.setW .rdx .w32 (BitVec.ofInt 32 0)).getW .rdx .w32) = 0#32 := rfl
    simp only [hdi, hax, hdx]
    generalize (BitVec.setWidth 32 (s.get Reg.rax)) = a
    generalize (BitVec.setWidth 32 (s.get Reg.rdi)) = d
    have hq : ¬ ((0#32).toNat * 2 ^ 32 + a.toNat) / d.toNat ≥ 2 ^ 32 := by
      have := Nat.div_le_self a.toNat d.toNat
      have := a.isLt
      simp; omega
    by_cases c1 : d.toNat = 0
    · simp only [c1, if_true]
    · simp only [c1, hq, if_false]
      refine ⟨_, rfl, ?_⟩
      simp [State.setW, State.get, State.set, State.getW]

theorem effect_div64 : OpKind.divu64.Effect ∧ OpKind.modu64.Effect := by
  refine ⟨?_, ?_⟩ <;> intro s <;> rw [OpKind.run_seq] <;> simp only [OpKind.instrs, remI]
  all_goals
    simp only [OpKind.fn, execs, exec, State.dst, State.src]
    have hdi : ((s.setW .rdx .w64 (BitVec.ofInt 64 0)).get .rdi) = s.get .rdi := rfl
    have hax : ((s.setW .rdx .w64 (BitVec.ofInt 64 0)).get .rax) = s.get .rax := rfl
    have hdx : ((s.setW .rdx .w64 (BitVec.ofInt 64 0)).get .rdx) = 0#64 := rfl
    simp only [hdi, hax, hdx]
    generalize (s.get Reg.rax) = a
    generalize (s.get Reg.rdi) = d
    have hq : ¬ ((0#64).toNat * 2 ^ 64 + a.toNat) / d.toNat ≥ 2 ^ 64 := by
      have := Nat.div_le_self a.toNat d.toNat
      have := a.isLt
      simp; omega
    by_cases c1 : d.toNat = 0
    · simp only [c1, if_true]
    · simp only [c1, hq, if_false]
      refine ⟨_, rfl, ?_⟩
      simp [State.setW, State.get, State.set, State.getW]

/-- **effect of every operator sequence, for every machine state** (including exactly when the CPU faults) -/
theorem OpKind.effect (k : OpKind) : k.Effect := by
  cases k
  case divs32 => exact effect_idiv32.1
  case mods32 => exact effect_idiv32.2
  case divs64 => exact effect_idiv64.1
  case mods64 => exact effect_idiv64.2
  case divu32 => exact effect_div32.1
  case modu32 => exact effect_div32.2
  case divu64 => exact effect_div64.1
  case modu64 => exact effect_div64.2
  all_goals intro s; rw [OpKind.run_seq]
  case eq32 => exact cmp_setcc .w32 .e s (sf_ne_of_32 _ _)
  case ne32 => exact cmp_setcc .w32 .ne s (sf_ne_of_32 _ _)
  case lts32 => exact cmp_setcc .w32 .l s (sf_ne_of_32 _ _)
  case ltu32 => exact cmp_setcc .w32 .b s (sf_ne_of_32 _ _)
  case les32 => exact cmp_setcc .w32 .le s (sf_ne_of_32 _ _)
  case leu32 => exact cmp_setcc .w32 .be s (sf_ne_of_32 _ _)
  case eq64 => exact cmp_setcc .w64 .e s (sf_ne_of_64 _ _)
  case ne64 => exact cmp_setcc .w64 .ne s (sf_ne_of_64 _ _)
  case lts64 => exact cmp_setcc .w64 .l s (sf_ne_of_64 _ _)
  case ltu64 => exact cmp_setcc .w64 .b s (sf_ne_of_64 _ _)
  case les64 => exact cmp_setcc .w64 .le s (sf_ne_of_64 _ _)
  case leu64 => exact cmp_setcc .w64 .be s (sf_ne_of_64 _ _)
  -- the ALU operations and the shifts: by evaluation of the model
  all_goals exact ⟨_, rfl, rfl⟩

end ChibiVerif.C01
