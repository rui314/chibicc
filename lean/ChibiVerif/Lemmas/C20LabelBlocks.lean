/-
C20: the blocks of the code generator that print labels or jumps of their own, as lines — what `&&`/`||` have in common
(`shortCircuit`), the pieces of the compare-and-swap arm, the lines of `builtin_alloca` with its two numeric local labels
(`allocaLines`, `builtinAlloca_ok`), the compare ladder of a `switch` (`caseLadder_shape`, `nolab_ladder`).  No judgment
about labels is used here: the label-height calculus (Lemmas/C20FlowArms.lean) and the count of parser labels
(Lemmas/C20TreeLabels.lean) both read these blocks in this form.
-/
import ChibiVerif.Lemmas.C20Calls
import ChibiVerif.Lemmas.C20Labels

namespace ChibiVerif.Lemmas.C20
open ChibiVerif ChibiVerif.Codegen ChibiVerif.Effect ChibiVerif.Asm ChibiVerif.Ast ChibiVerif.C20Scope

/-! ### `&&` and `||` -/

/-- the common shape of `&&` and `||`: leave for `tag.k` with `jop` as soon as an operand decides -/
def shortCircuit (jop tag : String) (v1 v2 : Int) (lhs : M Unit) (lty : Option Ty) (rhs : M Unit)
    (rty : Option Ty) : M Unit := do
  let k ← count
  lhs
  cmpZero lty
  emit (ins1 jop (.s (ctr tag k)))
  rhs
  cmpZero rty
  emit (ins1 jop (.s (ctr tag k)))
  emit (ins2 "mov" (.i v1) rax)
  emit (ins1 "jmp" (.s (ctr ".L.end." k)))
  emit (.label (ctr tag k))
  emit (ins2 "mov" (.i v2) rax)
  emit (.label (ctr ".L.end." k))

theorem logandArm_eq (lhs rhs : M Unit) (lty rty : Option Ty) :
    logandArm lhs lty rhs rty = shortCircuit "je" ".L.false." 1 0 lhs lty rhs rty := rfl

theorem logorArm_eq (lhs rhs : M Unit) (lty rty : Option Ty) :
    logorArm lhs lty rhs rty = shortCircuit "jne" ".L.true." 0 1 lhs lty rhs rty := rfl

/-! ### compare-and-swap: the blocks between its labels, for every code predicate -/

section
variable {K : CodeK} [CodePred K]

theorem xOf_not_flonum {t : Ty} (h : ¬ isFlonum t = true) : xOf (some t) = 0 := by
  rw [xOf_some]
  simp only [isFlonum, Bool.or_eq_true, beq_iff_eq, not_or] at h
  simp [h.2]

theorem Ret_regAx (sz : Int) : Ret (regAx sz) (fun a => a ≠ "%rsp") := by
  rcases regAx_cases sz with ⟨a, h, e⟩ | ⟨msg, e⟩ <;> rw [e]
  · exact Ret_pure h
  · exact Ret_fail msg

theorem Sem_regAx_bind {sz : Int} {f : String → M β} {r x d : Int}
    (h : ∀ a, a ≠ "%rsp" → SemP K (f a) r x d) : SemP K (regAx sz >>= f) r x d :=
  (Sem_bind_ret (Sem_regAx sz) (Ret_regAx sz) h).cast (by omega) (by omega) (by omega)

theorem Sem_bitsToRax (t : Ty) : SemP K (bitsToRax t) 0 0 0 := by
  unfold bitsToRax
  split
  · exact Sem_emit (by row)
  · split
    · exact Sem_emit (by row)
    · exact Sem_pure ()

theorem Sem_casLoadOld (t : Ty) : SemP K (casLoadOld t) 0 0 0 := by
  unfold casLoadOld
  split
  · exact Sem_regAx_bind fun a ha => Sem_emit ((lineDelta_ins2 (isRsp_of_ne ha)).trans row_mov)
  next h => exact (Sem_load (some t)).cast rfl (xOf_not_flonum h) rfl

instance (t : Ty) : Eff (bitsToRax t) 0 0 0 := ⟨Sem_bitsToRax t⟩
instance (t : Ty) : Eff (casLoadOld t) 0 0 0 := ⟨Sem_casLoadOld t⟩

end

/-! ### `builtin_alloca`: its lines, and their skeleton with the copy loop between `1:` and `2:` -/

def allocaLines (off : Int) : List Line :=
  [ins2 "add" (.i 15) rdi, ins2 "and" (.s "$0xfffffff0") (.r "%edi"), ins2 "mov" (rbp off) (.r "%rcx"),
   ins2 "sub" rsp (.r "%rcx"), ins2 "mov" rsp rax, ins2 "sub" rdi rsp, ins2 "mov" rsp (.r "%rdx"),
   .label "1", ins2 "cmp" (.i 0) (.r "%rcx"), ins1 "je" (.s "2f"), ins2 "mov" (.m0 "%rax") (.r "%r8b"),
   ins2 "mov" (.r "%r8b") (.m0 "%rdx"), ins1 "inc" (.r "%rdx"), ins1 "inc" rax, ins1 "dec" (.r "%rcx"),
   ins1 "jmp" (.s "1b"), .label "2", ins2 "mov" (rbp off) rax, ins2 "sub" rdi rax, ins2 "mov" rax (rbp off)]

theorem builtinAlloca_some (env : Env) (ab : Var) (h : env.allocaBottom = some ab) (s : St) :
    builtinAlloca env s = .ok ((), s, allocaLines (env.off ab)) := by
  unfold builtinAlloca
  rw [h]
  rfl

/-- what `builtin_alloca` prints when it succeeds; the state is left alone -/
theorem builtinAlloca_ok {env : Env} {s : St} {a : Unit} {s' : St} {ls : List Line}
    (hm : builtinAlloca env s = .ok (a, s', ls)) : s' = s ∧ ∃ off, ls = allocaLines off := by
  cases hab : env.allocaBottom with
  | none => unfold builtinAlloca at hm; rw [hab] at hm; cases hm
  | some ab =>
    rw [builtinAlloca_some env ab hab] at hm
    simp only [Except.ok.injEq, Prod.mk.injEq] at hm
    exact ⟨hm.2.1.symm, _, hm.2.2.symm⟩

/-- the byte-copy loop of alloca -/
def allocaLoop : List Step :=
  [.label "1", .delta H.zero, .cond "2f", .delta H.zero, .delta H.zero, .delta H.zero, .delta H.zero,
   .delta H.zero, .jump "1b", .label "2"]

theorem allocaLines_steps (off : Int) :
    (allocaLines off).flatMap classify =
      (List.replicate 7 H.zero).map Step.delta ++ (allocaLoop ++ (List.replicate 3 H.zero).map Step.delta) := by
  rfl

/-! ### the compare ladder of a `switch`: per case a compare and a `je`, no label line -/

theorem delta_append_zero {a b : List Line} (ha : delta a = some H.zero) (hb : delta b = some H.zero) :
    delta (a ++ b) = some H.zero := by
  rw [delta_append, ha, hb]
  rfl

theorem delta_ite {c : Prop} [Decidable c] {a b : List Line} {d : H} (ha : delta a = some d)
    (hb : delta b = some d) : delta (if c then a else b) = some d := by
  split <;> assumption

theorem delta_cons0 {l : Line} {r : List Line} (hl : lineDelta l = some ⟨0, 0⟩) (hr : delta r = some H.zero) :
    delta (l :: r) = some H.zero := by
  simp only [delta, hl, hr]
  rfl

theorem caseLadder_shape (wide : Bool) (c : Case) :
    ∃ pre op, CondOp op ∧ delta pre = some H.zero ∧
      caseLadder wide c = pre ++ [ins1 op (.s (cstr c.label))] := by
  unfold caseLadder
  dsimp only
  split
  · exact ⟨_, "je", condOp_je, delta_ite (delta_cons0 (by row) rfl)
      (delta_cons0 (by row) (delta_cons0 (by row) rfl)), rfl⟩
  · exact ⟨_, "jbe", condOp_jbe, delta_append_zero (delta_append_zero (delta_cons0 (by row) rfl)
      (delta_ite (delta_cons0 (by row) rfl) (delta_cons0 (by row) (delta_cons0 (by row) rfl))))
      (delta_ite (delta_cons0 (by row) rfl) (delta_cons0 (by row) (delta_cons0 (by row) rfl))),
      rfl⟩

/-- the compare ladder of a `switch` has no label: each `case` is straight-line code and one jump -/
theorem nolab_caseLadder (wide : Bool) (c : Case) : labelNames ((caseLadder wide c).flatMap classify) = [] := by
  obtain ⟨pre, op, _, hp, e⟩ := caseLadder_shape wide c
  rw [e, List.flatMap_append, labelNames_append', labelNames_of_delta hp, List.flatMap_singleton, labelNames_classify]
  rfl

theorem nolab_ladder (wide : Bool) : ∀ cases : List Case,
    labelNames ((cases.flatMap (caseLadder wide)).flatMap classify) = []
  | [] => rfl
  | c :: rest => by
    rw [List.flatMap_cons, List.flatMap_append, labelNames_append', nolab_caseLadder, nolab_ladder wide rest]
    rfl

end ChibiVerif.Lemmas.C20
