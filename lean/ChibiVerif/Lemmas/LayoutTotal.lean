/-
Outcome classes of the type-level layout functions of Model/Layout.lean (C08; C13 reads them too).

The regenerated guard of `aligned(n)` and `_Alignas(n)` (`n < 0 || n > (1 << 28) || (n & (n - 1))` on an int64_t) rejects exactly
what is neither 0 nor a power of two ≤ 2^28 (`alignedAttrBad_iff`), so every alignment that reaches the loops of struct_decl /
union_decl lies in (0, 2^28]; with that bound, and bit-fields restricted to integer types, no divisor is zero, in unbounded
arithmetic and after `* 8` in a 32-bit `int` (2^28 * 8 wraps to -2^31, not to 0; 2^29 * 8 and 2^30 * 8 wrap to 0, the zero
divisor of /repo 33adb94, which the guard of `_Alignas(constant)` keeps from the loops; `int32` is all this file uses of
Model/Layout32.lean).  One judgment, `Decides`, and one walk over type descriptions carry
this together with the question which descriptions get a value at all (`Ty.accepted`); the loops themselves are
Lemmas/LayoutLoops.lean.  Core Lean only.
-/
import ChibiVerif.Model.Layout32
import ChibiVerif.Lemmas.LayoutLoops
import ChibiVerif.Lemmas.ExceptLemmas

namespace ChibiVerif.Layout
open ChibiVerif.Gen.Declspec
open Except (Ends)

theorem testBit_top {m k : Nat} (h1 : 2 ^ k ≤ m) (h2 : m < 2 ^ (k + 1)) : m.testBit k = true := by
  rw [Nat.testBit_eq_decide_div_mod_eq]
  have : m / 2 ^ k = 1 := by
    apply Nat.div_eq_of_lt_le
    · omega
    · rw [Nat.pow_succ] at h2; omega
  simp [this]

theorem and_pred_eq_zero_iff (n : Nat) : n &&& (n - 1) = 0 ↔ n = 0 ∨ ∃ k, n = 2 ^ k := by
  constructor
  · intro h
    by_cases h0 : n = 0
    · exact Or.inl h0
    · right
      refine ⟨n.log2, ?_⟩
      have h1 := Nat.log2_self_le h0
      have h2 := @Nat.lt_log2_self n
      by_cases he : n = 2 ^ n.log2
      · exact he
      · exfalso
        have hb := testBit_top h1 h2
        have hb' : (n - 1).testBit n.log2 = true := testBit_top (by omega) (by omega)
        have : (n &&& (n - 1)).testBit n.log2 = true := by rw [Nat.testBit_and, hb, hb']; rfl
        rw [h, Nat.zero_testBit] at this
        cases this
  · rintro (rfl | ⟨k, rfl⟩)
    · rfl
    · rw [Nat.and_two_pow_sub_one_eq_mod, Nat.mod_self]

/-- the powers of two a requested alignment may be: 2^0 … 2^28 (gcc's and chibicc's maximum).  This file speaks of the model
    alone (C13 reads it), so it has its own `pow2le28`, `alignedAccepted`, `Ty.accepted` beside the specification's `isPow2le28`,
    `alignedOk`, `specAccepted`; Lemmas/LayoutLemmas.lean shows each pair equal (`isPow2le28_eq`, `alignedAccepted_eq`, `accepted_eq_ty`). -/
def pow2le28 (n : Int) : Bool := (List.range 29).any fun k => n == (2 : Int) ^ k

theorem pow2le28_iff (n : Int) : pow2le28 n = true ↔ ∃ k, k ≤ 28 ∧ n = (2 : Int) ^ k := by
  simp only [pow2le28, List.any_eq_true, List.mem_range, beq_iff_eq]
  constructor
  · rintro ⟨k, hk, rfl⟩; exact ⟨k, by omega, rfl⟩
  · rintro ⟨k, hk, rfl⟩; exact ⟨k, by omega, rfl⟩

theorem pow2le28_good : ∀ k ∈ List.range 29,
    alignedAttrBad ((2 : Int) ^ k) = false ∧ (0 : Int) < (2 : Int) ^ k ∧ (2 : Int) ^ k ≤ 268435456 := by
  decide +kernel

theorem alignedAttrBad_zero : alignedAttrBad 0 = false := by decide

/-- the int64 bit test of the guard, on the values that pass the two bounds -/
theorem bv_and_pred (m : Nat) (hm : m ≤ 268435456) :
    ((BitVec.ofInt 64 (m : Int) &&& BitVec.ofInt 64 ((m : Int) - 1)) != 0#64) = (m &&& (m - 1) != 0) := by
  by_cases h0 : m = 0
  · subst h0; decide
  · have e1 : ((m : Int) - 1) = ((m - 1 : Nat) : Int) := by omega
    rw [e1, BitVec.ofInt_natCast, BitVec.ofInt_natCast]
    have t1 : (BitVec.ofNat 64 m).toNat = m := by
      rw [BitVec.toNat_ofNat]; exact Nat.mod_eq_of_lt (by omega)
    have t2 : (BitVec.ofNat 64 (m - 1)).toNat = m - 1 := by
      rw [BitVec.toNat_ofNat]; exact Nat.mod_eq_of_lt (by omega)
    have : (BitVec.ofNat 64 m &&& BitVec.ofNat 64 (m - 1) = 0#64) ↔ (m &&& (m - 1) = 0) := by
      rw [BitVec.toNat_eq, BitVec.toNat_and, t1, t2]; rfl
    have hb : (BitVec.ofNat 64 m &&& BitVec.ofNat 64 (m - 1) == 0#64) = (m &&& (m - 1) == 0) := by
      rw [Bool.eq_iff_iff, beq_iff_eq, beq_iff_eq]; exact this
    simp only [bne, hb]

theorem alignedAttrBad_iff (n : Int) : alignedAttrBad n = false ↔ (n = 0 ∨ pow2le28 n = true) := by
  constructor
  · intro h
    simp only [alignedAttrBad, Bool.or_eq_false_iff, decide_eq_false_iff_not, Int.not_lt, Int.not_lt] at h
    obtain ⟨⟨hlo, hhi⟩, hbits⟩ := h
    have hhi' : n ≤ 268435456 := by omega
    obtain ⟨m, rfl⟩ : ∃ m : Nat, n = (m : Int) := ⟨n.toNat, by omega⟩
    have hm : m ≤ 268435456 := by omega
    rw [bv_and_pred m hm] at hbits
    have hz : m &&& (m - 1) = 0 := by simpa using hbits
    rcases (and_pred_eq_zero_iff m).1 hz with h0 | ⟨k, hk⟩
    · left; omega
    · right
      rw [pow2le28_iff]
      refine ⟨k, ?_, by rw [hk]; exact Int.natCast_pow 2 k⟩
      apply Classical.byContradiction
      intro hk28
      have : 2 ^ 29 ≤ 2 ^ k := Nat.pow_le_pow_right (by omega) (by omega)
      omega
  · rintro (rfl | h)
    · exact alignedAttrBad_zero
    · simp only [pow2le28, List.any_eq_true, beq_iff_eq] at h
      obtain ⟨k, hk, rfl⟩ := h
      exact (pow2le28_good k hk).1

theorem pow2le28_bounds {n : Int} (h : pow2le28 n = true) : 0 < n ∧ n ≤ 268435456 := by
  simp only [pow2le28, List.any_eq_true, beq_iff_eq] at h
  obtain ⟨k, hk, rfl⟩ := h
  exact (pow2le28_good k hk).2

theorem alignasConstBad_eq (n : Int) : alignasConstBad n = alignedAttrBad n := rfl

/-- largest alignment any type or member can have: 2^28 -/
def MAXALIGN : Int := 268435456

/-- an alignment as every type, member and aggregate has it: in (0, 2^28] -/
abbrev AlignOk (a : Int) : Prop := 0 < a ∧ a ≤ MAXALIGN

/-- the divisors `mem->align * 8` / `ty->align * 8` / `mem->ty->size * 8` of struct_decl, computed in a 32-bit `int`, are not
    zero for operands in (0, 2^28] (2^28 * 8 = 2^31 wraps to -2^31, not to 0; nothing larger reaches the loops) -/
theorem int32_mul8_ne_zero {x : Int} (h1 : 0 < x) (h2 : x ≤ MAXALIGN) : int32 (x * 8) ≠ 0 := by
  unfold int32 MAXALIGN at *; omega

theorem int32_mul8_exact {x : Int} (h1 : 0 ≤ x) (h2 : x < MAXALIGN) : int32 (x * 8) = x * 8 := by
  unfold int32 MAXALIGN at *; omega

theorem alignedAttrBad_eq (n : Int) : alignedAttrBad n = !(n == 0 || pow2le28 n) := by
  cases h : alignedAttrBad n with
  | false =>
    rcases (alignedAttrBad_iff n).1 h with h0 | hp
    · simp [h0]
    · simp [hp]
  | true =>
    cases hc : (n == 0 || pow2le28 n) with
    | false => rfl
    | true => rw [(alignedAttrBad_iff n).2 (by simpa using hc)] at h; cases h

theorem alignAttr_eq (cur : Int) (al : Option Int) :
    alignAttr cur al = (match al with
      | none => .ok cur
      | some n => if n = 0 then .ok cur else if pow2le28 n then .ok n else .error .badAlign) := by
  cases al with
  | none => rfl
  | some n =>
    simp only [alignAttr, alignedAttrBad_eq, alignedAttrApply]
    by_cases h0 : n = 0 <;> by_cases hp : pow2le28 n = true <;> simp [h0, hp]

/-- what `struct_members` hands to the loops: member alignment in (0, 2^28]; a bit-field has a type of size in (0, 8] -/
def MemsGood (l : List Mem) : Prop :=
  ∀ m ∈ l, AlignOk m.align ∧ (m.bitWidth.isSome = true → 0 < m.size ∧ m.size ≤ 8)

theorem MemsGood.step_ne {l : List Mem} (hg : MemsGood l) (packed : Bool) : ∀ m ∈ l, m.step packed ≠ 0 := by
  intro m hm
  have h := hg m hm
  unfold Mem.step
  cases hb : m.bitWidth with
  | none => simp only; split <;> omega
  | some w => have := (h.2 (by simp [hb])).1; simp only; omega

theorem structLayout_total (packed : Bool) (a0 : Int) (ms : List Mem) (ha : AlignOk a0) (hg : MemsGood ms) :
    ∃ l, structLayout packed a0 ms = .ok l ∧ AlignOk l.align := by
  have hge := alignAll_ge packed ms a0
  have hle := alignAll_le packed MAXALIGN ms a0 ha.2 (fun m hm => (hg m hm).1.2)
  obtain ⟨l, hl, hal⟩ := structLayout_ok_of (a0 := a0) (hg.step_ne packed) (by omega)
  exact ⟨l, hl, by omega, by omega⟩

theorem unionLayout_total (packed : Bool) (a0 : Int) (ms : List Mem) (ha : AlignOk a0)
    (hm : ∀ m ∈ ms, m.align ≤ MAXALIGN) :
    ∃ l, unionLayout packed a0 ms = .ok l ∧ AlignOk l.align := by
  have hge := alignAll_ge packed ms a0
  have hle := alignAll_le packed MAXALIGN ms a0 ha.2 hm
  obtain ⟨l, hl, hal⟩ := unionLayout_ok_of (packed := packed) (a0 := a0) (ms := ms) (by omega)
  exact ⟨l, hl, by omega, by omega⟩

theorem prim_pos (t : TyName) : 0 < primSize t ∧ 0 < primAlign t ∧ primAlign t ≤ MAXALIGN := by
  cases t <;> decide

theorem prim_integer_size (t : TyName) (h : integerKinds.contains (primKind t) = true) : primSize t ≤ 8 := by
  cases t <;> first | decide | exact absurd h (by decide)

/-- what `is_integer` accepts has positive size (so `bits / (sz * 8)` is defined) -/
theorem isInteger_size_pos (t : Ty) (h : t.isInteger = true) (s a : Int) (hs : t.sizeAlign = .ok (s, a)) :
    0 < s ∧ s ≤ 8 := by
  cases t with
  | prim t =>
    simp only [Ty.sizeAlign, Except.ok.injEq, Prod.mk.injEq] at hs
    rw [← hs.1]; exact ⟨(prim_pos t).1, prim_integer_size t h⟩
  | enum =>
    simp only [Ty.sizeAlign, Except.ok.injEq, Prod.mk.injEq] at hs
    rw [← hs.1]; decide
  | ptr => exact absurd (h : integerKinds.contains "TY_PTR" = true) (by decide : ¬ integerKinds.contains "TY_PTR" = true)
  | arr _ _ => exact absurd (h : integerKinds.contains "TY_ARRAY" = true) (by decide : ¬ integerKinds.contains "TY_ARRAY" = true)
  | flex _ => exact absurd (h : integerKinds.contains "TY_ARRAY" = true) (by decide : ¬ integerKinds.contains "TY_ARRAY" = true)
  | struct _ _ _ => exact absurd (h : integerKinds.contains "TY_STRUCT" = true) (by decide : ¬ integerKinds.contains "TY_STRUCT" = true)
  | union _ _ _ => exact absurd (h : integerKinds.contains "TY_UNION" = true) (by decide : ¬ integerKinds.contains "TY_UNION" = true)

/-- `_Alignas` accumulates a maximum (`alignasCombine`): what lies between the new accumulator and max(new accumulator, 2^28) lies
    between the old one and max(old one, 2^28), provided the value combined in is at most 2^28 -/
theorem alignasCombine_between {acc new r : Int} (hn : new ≤ MAXALIGN)
    (h : alignasCombine acc new ≤ r ∧ r ≤ max (alignasCombine acc new) MAXALIGN) : acc ≤ r ∧ r ≤ max acc MAXALIGN := by
  unfold alignasCombine at h
  split at h <;> omega

theorem memberAlign_pos (attr a : Int) (h1 : 0 ≤ attr ∧ attr ≤ MAXALIGN) (h2 : AlignOk a) : AlignOk (memberAlign attr a) := by
  unfold memberAlign; split <;> omega

theorem struct_init_pos : (0 : Int) < ((STRUCT_INIT_ALIGN : Nat) : Int) ∧ ((STRUCT_INIT_ALIGN : Nat) : Int) ≤ MAXALIGN := by decide

theorem alignasConst_bounds {n : Int} (h : alignasConstBad n = false) : 0 ≤ alignasOfConst n ∧ alignasOfConst n ≤ MAXALIGN := by
  rw [alignasConstBad_eq] at h
  unfold alignasOfConst MAXALIGN
  rcases (alignedAttrBad_iff n).1 h with h0 | hp
  · omega
  · have := pow2le28_bounds hp; omega

/-- `aligned(n)` requests that pass `attribute_list`: none, 0 (nothing requested), 2^0 … 2^28 -/
def alignedAccepted : Option Int → Bool
  | none => true
  | some n => n == 0 || pow2le28 n

mutual
  /-- every `aligned(n)` and `_Alignas(n)` is 0 or a power of two ≤ 2^28 and every bit-field has an integer declared type — at every depth,
      operands of `_Alignas(type-name)` included -/
  def Ty.accepted : Ty → Bool
    | .prim _ => true
    | .enum => true
    | .ptr => true
    | .arr e _ => e.accepted
    | .flex e => e.accepted
    | .struct _ al ms => alignedAccepted al && ms.accepted
    | .union _ al ms => alignedAccepted al && ms.accepted
  def Aligns.accepted : Aligns → Bool
    | .nil => true
    | .const n rest => (n == 0 || pow2le28 n) && rest.accepted
    | .type t rest => t.accepted && rest.accepted
  def Members.accepted : Members → Bool
    | .nil => true
    | .cons d as ty rest => as.accepted && ty.accepted && (d.bitWidth.isNone || ty.isInteger) && rest.accepted
end

def isOk {ε α : Type} : Except ε α → Bool
  | .ok _ => true
  | .error _ => false

theorem isOk_iff {ε α : Type} (r : Except ε α) : (∃ a, r = .ok a) ↔ isOk r = true := by
  cases r <;> simp [isOk]

/-- what a type-level function answers: a value satisfying `P` exactly when `b` holds, and otherwise one of the two
    diagnostics, never the SIGFPE -/
abbrev Decides {α : Type} (b : Bool) (P : α → Prop) : Except TyFail α → Prop :=
  Ends (fun e => b = false ∧ e ≠ .divByZero) (fun a => b = true ∧ P a)

namespace Decides
variable {α β : Type} {b c : Bool} {P : α → Prop} {Q : β → Prop} {r : Except TyFail α} {f : α → Except TyFail β}

/-- unlike `Ends.bind` this one moves the flag: the sequence answers with a value exactly when both parts do -/
theorem bind (h : Decides b P r) (hf : ∀ a, r = .ok a → P a → Decides c Q (f a)) : Decides (b && c) Q (r >>= f) := by
  cases r with
  | ok a => obtain ⟨rfl, hp⟩ := h; exact hf a rfl hp
  | error e => obtain ⟨rfl, he⟩ := h; exact ⟨rfl, he⟩

/-- a continuation that cannot fail -/
theorem map (h : Decides b P r) (hf : ∀ a, P a → Decides true Q (f a)) : Decides b Q (r >>= f) :=
  Bool.and_true b ▸ h.bind fun a _ => hf a

theorem isOk (h : Decides b P r) : isOk r = b := by
  cases r <;> exact h.1.symm

theorem ne_div (h : Decides b P r) : r ≠ .error .divByZero := by
  rintro rfl; exact h.2 rfl

theorem diag (h : Decides false P r) : r = .error .badAlign ∨ r = .error .bitfieldType := by
  cases r with
  | ok a => exact absurd h.1 (by decide)
  | error e => cases e with
    | divByZero => exact absurd rfl h.2
    | badAlign => exact Or.inl rfl
    | bitfieldType => exact Or.inr rfl

end Decides

theorem Decides.alignAttr (al : Option Int) :
    Decides (alignedAccepted al) AlignOk (Layout.alignAttr ((STRUCT_INIT_ALIGN : Nat) : Int) al) := by
  rw [alignAttr_eq]
  cases al with
  | none => exact ⟨rfl, struct_init_pos⟩
  | some n =>
    simp only [alignedAccepted]
    by_cases h0 : n = 0
    · simp only [h0, if_true]; exact ⟨rfl, struct_init_pos⟩
    · by_cases hp : pow2le28 n = true
      · simp only [h0, hp, if_true, if_false]
        exact ⟨by simp, pow2le28_bounds hp⟩
      · simp only [h0, hp, if_false]
        exact ⟨by simp [h0], by decide⟩

theorem Decides.lift_struct {packed : Bool} {a0 : Int} {ms : List Mem} (ha : AlignOk a0) (hg : MemsGood ms) :
    Decides true (fun l : Layout => AlignOk l.align) (liftFail (structLayout packed a0 ms)) := by
  obtain ⟨l, hl, hp⟩ := structLayout_total packed a0 ms ha hg
  rw [hl]; exact ⟨rfl, hp⟩

theorem Decides.lift_union {packed : Bool} {a0 : Int} {ms : List Mem} (ha : AlignOk a0) (hg : MemsGood ms) :
    Decides true (fun l : Layout => AlignOk l.align) (liftFail (unionLayout packed a0 ms)) := by
  obtain ⟨l, hl, hp⟩ := unionLayout_total packed a0 ms ha (fun m hm => (hg m hm).1.2)
  rw [hl]; exact ⟨rfl, hp⟩

/-- the aggregate arm of `Ty.sizeAlign` and `Ty.layout`: `aligned(n)`, then `struct_members`, then a part `k` (the loop of
    struct_decl / union_decl and what is read off its result) that is total on what the first two hand over -/
theorem Decides.aggregate {β : Type} {Q : β → Prop} {al : Option Int} {ms : Members} (ih : Decides ms.accepted MemsGood ms.toMems)
    {k : Int → List Mem → Except TyFail β} (hk : ∀ a0 mems, AlignOk a0 → MemsGood mems → Decides true Q (k a0 mems)) :
    Decides (alignedAccepted al && ms.accepted) Q
      (Layout.alignAttr ((STRUCT_INIT_ALIGN : Nat) : Int) al >>= fun a0 => ms.toMems >>= fun mems => k a0 mems) :=
  (Decides.alignAttr al).bind fun a0 _ ha0 => ih.map fun mems hg => hk a0 mems ha0 hg

/- One walk over type descriptions gives the whole outcome class: whether a value is returned (`accepted`), what is known
   of it (alignments in (0, 2^28], good member lists), and that a failure is never the SIGFPE.  `_Alignas` accumulates a
   maximum, so its result lies between the accumulator and max(accumulator, 2^28) whatever the accumulator is. -/
mutual
  theorem sizeAlign_decides : ∀ (t : Ty), Decides t.accepted (fun r : Int × Int => AlignOk r.2) t.sizeAlign
    | .prim t => ⟨rfl, (prim_pos t).2⟩
    | .enum => ⟨rfl, by decide⟩
    | .ptr => ⟨rfl, by decide⟩
    | .arr e n => (sizeAlign_decides e).map fun _ hr => ⟨rfl, hr⟩
    | .flex e => (sizeAlign_decides e).map fun _ hr => ⟨rfl, hr⟩
    | .struct p al ms => Decides.aggregate (toMems_decides ms) fun _ _ ha hg =>
        (Decides.lift_struct ha hg).map fun _ hl => ⟨rfl, hl⟩
    | .union p al ms => Decides.aggregate (toMems_decides ms) fun _ _ ha hg =>
        (Decides.lift_union ha hg).map fun _ hl => ⟨rfl, hl⟩
  theorem eval_decides : ∀ (as : Aligns) (acc : Int),
      Decides as.accepted (fun r : Int => acc ≤ r ∧ r ≤ max acc MAXALIGN) (as.eval acc)
    | .nil, acc => ⟨rfl, Int.le_refl _, Int.le_max_left ..⟩
    | .const n rest, acc => by
      simp only [Aligns.eval, Aligns.accepted, alignasConstBad_eq, alignedAttrBad_eq]
      cases hn : (n == 0 || pow2le28 n) with
      | false => exact ⟨rfl, by decide⟩
      | true =>
        have hb := alignasConst_bounds (n := n) (by rw [alignasConstBad_eq, alignedAttrBad_eq, hn]; rfl)
        exact (eval_decides rest _).imp fun r h => ⟨h.1, alignasCombine_between hb.2 h.2⟩
    | .type t rest, acc => by
      simp only [Aligns.eval, Aligns.accepted]
      exact (sizeAlign_decides t).bind fun r _ hr => (eval_decides rest _).imp fun r' h =>
        ⟨h.1, alignasCombine_between (new := alignasOfType r.1 r.2) hr.2 h.2⟩
  theorem toMems_decides : ∀ (ms : Members), Decides ms.accepted MemsGood ms.toMems
    | .nil => ⟨rfl, fun _ hm => nomatch hm⟩
    | .cons d as ty rest => by
      have hg : (d.bitWidth.isNone || ty.isInteger) = !(d.bitWidth.isSome && !ty.isInteger) := by
        cases d.bitWidth <;> cases ty.isInteger <;> rfl
      simp only [Members.toMems, Members.accepted, Bool.and_assoc, hg]
      refine (eval_decides as 0).bind fun attrAlign _ hattr => (sizeAlign_decides ty).bind fun r hs hr => ?_
      by_cases hbf : (d.bitWidth.isSome && !ty.isInteger) = true
      · simp only [hbf, if_true]; exact ⟨rfl, by decide⟩
      · simp only [hbf, Bool.not_false, Bool.true_and]
        refine (toMems_decides rest).map fun tl htl => ⟨rfl, fun m hm => ?_⟩
        rcases List.mem_cons.1 hm with rfl | hm
        · refine ⟨memberAlign_pos attrAlign r.2 (by unfold MAXALIGN at *; omega) hr, fun hb => ?_⟩
          have hint : ty.isInteger = true := by
            cases hi : ty.isInteger with
            | true => rfl
            | false => simp [show d.bitWidth.isSome = true from hb, hi] at hbf
          exact isInteger_size_pos ty hint r.1 r.2 hs
        · exact htl m hm
end

theorem layout_decides (t : Ty) : Decides t.accepted (fun l : Layout => AlignOk l.align) t.layout := by
  cases t with
  | struct p al ms => exact Decides.aggregate (toMems_decides ms) fun _ _ => Decides.lift_struct
  | union p al ms => exact Decides.aggregate (toMems_decides ms) fun _ _ => Decides.lift_union
  | _ => exact (sizeAlign_decides _).map fun _ hr => ⟨rfl, hr⟩

theorem sizeAlign_ne_divByZero (t : Ty) : t.sizeAlign ≠ .error .divByZero := (sizeAlign_decides t).ne_div

theorem sizeAlign_align_pos {t : Ty} {s a : Int} (h : t.sizeAlign = .ok (s, a)) : AlignOk a :=
  ((sizeAlign_decides t).of_ok h).2

theorem layout_ne_divByZero (t : Ty) : t.layout ≠ .error .divByZero := (layout_decides t).ne_div

theorem varAlign_ne_divByZero (as : Aligns) (ty : Ty) : varAlign as ty ≠ .error .divByZero := by
  have h : Decides (as.accepted && ty.accepted) (fun _ : Int => True) (varAlign as ty) := by
    unfold varAlign
    refine (eval_decides as 0).bind fun _ _ _ => ?_
    exact (sizeAlign_decides ty).map fun _ _ => ⟨rfl, trivial⟩
  exact h.ne_div

theorem toMems_good {ms : Members} {l : List Mem} (h : ms.toMems = .ok l) : MemsGood l := ((toMems_decides ms).of_ok h).2

theorem eval_isOk : ∀ (as : Aligns) (acc : Int), isOk (as.eval acc) = as.accepted :=
  fun as acc => (eval_decides as acc).isOk

theorem sizeAlign_ok_iff (t : Ty) : (∃ r, t.sizeAlign = .ok r) ↔ t.accepted = true := by
  rw [← (sizeAlign_decides t).isOk]; exact isOk_iff _

theorem layout_ok_iff (t : Ty) : (∃ l, t.layout = .ok l) ↔ t.accepted = true := by
  rw [← (layout_decides t).isOk]; exact isOk_iff _

theorem layout_diag_of_not_accepted (t : Ty) (h : t.accepted = false) :
    t.layout = .error .badAlign ∨ t.layout = .error .bitfieldType := (h ▸ layout_decides t).diag

/-- **the divisors of struct_decl in 32-bit `int` arithmetic**: for a good member list and a struct alignment in (0, 2^28]
    none of `mem->ty->size * 8` (bit-fields), `mem->align * 8` (other members), `ty->align * 8` (final rounding) wraps to
    zero, and the bit-field divisor does not overflow at all -/
theorem divisors_int32 (l : List Mem) (hg : MemsGood l) (a : Int) (ha : AlignOk a) :
    (∀ m ∈ l, m.bitWidth.isSome = true → int32 (m.size * 8) = m.size * 8 ∧ m.size * 8 ≠ 0) ∧
    (∀ m ∈ l, int32 (m.align * 8) ≠ 0) ∧ int32 (a * 8) ≠ 0 := by
  refine ⟨fun m hm hb => ?_, fun m hm => int32_mul8_ne_zero (hg m hm).1.1 (hg m hm).1.2, int32_mul8_ne_zero ha.1 ha.2⟩
  have := (hg m hm).2 hb
  unfold int32; omega

end ChibiVerif.Layout
