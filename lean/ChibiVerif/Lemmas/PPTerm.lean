/-
Termination of `preprocess2` by a potential (property C09): `preprocess2_pot` — whatever drops when a token is passed over and
when a macro is applied bounds fuel and output — and the potential for object-like tables (`need`; `preprocess2_obj_fuel` is what `C09_terminates_partial` rests on);
the level potential for every table is Lemmas/C09Measure.lean.  Also: the output is painted, `__COUNTER__`.
-/
import ChibiVerif.Model.PP
import ChibiVerif.Lemmas.PPLemmas
import ChibiVerif.Lemmas.C09Subst
import ChibiVerif.Lemmas.ListLemmas

namespace ChibiVerif.PP

theorem subst_obj (lx : String → LexOne) (pp : PreExpand) (st : St) (body : List Tok) :
    NoFuel (fun r => r.2 = st ∧ r.1.length ≤ body.length) (subst lx pp st body [] true) :=
  (subst_fuel lx pp (· = st) 1 (Nat.le_refl 1) st body [] true rfl (fun _ ha => nomatch ha)).imp
    fun _ hv => ⟨hv.2, by simpa using hv.1⟩

theorem cost_pos (L r : Nat) : 1 ≤ cost L r := by cases r <;> simp [cost]

theorem cost_mono {L : Nat} (hL : 1 ≤ L) : ∀ {r r' : Nat}, r ≤ r' → cost L r ≤ cost L r' := by
  intro r r' h
  induction h with
  | refl => exact Nat.le_refl _
  | step _ ih =>
    rename_i m _
    have : cost L m ≤ 1 + L * cost L m := by
      have : cost L m ≤ L * cost L m := Nat.le_mul_of_pos_left _ hL
      omega
    exact Nat.le_trans ih this

theorem tokCost_pos (names : List String) (L : Nat) (t : Tok) : 1 ≤ tokCost names L t := by
  unfold tokCost; split
  · exact cost_pos _ _
  · exact Nat.le_refl _

theorem need_cons (names : List String) (L : Nat) (t : Tok) (ts : List Tok) :
    need names L (t :: ts) = tokCost names L t + need names L ts := by simp [need]

theorem need_append (names : List String) (L : Nat) (a b : List Tok) :
    need names L (a ++ b) = need names L a + need names L b := by simp [need]

/-- `need` does not look at the flags `expand_macro` sets on the first token of an expansion (no proof uses this; it stands
    as a fact about `need`) -/
theorem need_setHeadFlags (names : List String) (L : Nat) (ts : List Tok) (b s : Bool) :
    need names L (setHeadFlags ts b s) = need names L ts := by
  cases ts with
  | nil => rfl
  | cons t r => simp [setHeadFlags, need, tokCost, rank]

theorem need_le_of_forall {names : List String} {L c : Nat} : ∀ {ts : List Tok},
    (∀ t ∈ ts, tokCost names L t ≤ c) → need names L ts ≤ ts.length * c
  | [], _ => Nat.zero_le _
  | t :: r, h => by
    rw [need_cons, List.length_cons, Nat.succ_mul, Nat.add_comm]
    exact Nat.add_le_add (need_le_of_forall fun x hx => h x (List.mem_cons_of_mem _ hx)) (h t List.mem_cons_self)

/-- a larger hide set that gains a macro name leaves fewer names open -/
theorem unhidden_lt {names : List String} {H H' : Hideset} {f : String} (hf : f ∈ names)
    (hsub : ∀ x, hidesetContains H x = true → hidesetContains H' x = true)
    (hn : hidesetContains H f = false) (hy : hidesetContains H' f = true) :
    (names.filter fun n => !hidesetContains H' n).length < (names.filter fun n => !hidesetContains H n).length :=
  List.length_filter_lt_of_imp hf
    (fun y hy' => by cases hp : hidesetContains H y <;> simp_all) (by rw [hn]; rfl) (by rw [hy]; rfl)


theorem bodyBound_pos : ∀ defs, 1 ≤ bodyBound defs
  | [] => Nat.le_refl 1
  | _ :: ds => Nat.le_trans (bodyBound_pos ds) (Nat.le_max_right _ _)

theorem bodyBound_ge : ∀ {defs : List (String × Macro)} {n : String} {b : List Tok},
    (n, Macro.obj b) ∈ defs → b.length ≤ bodyBound defs
  | _ :: ds, _, _, h => by
    rcases List.mem_cons.1 h with rfl | h
    · exact Nat.le_max_left _ _
    · exact Nat.le_trans (bodyBound_ge h) (Nat.le_max_right _ _)

theorem findMacro_mem {defs : List (String × Macro)} {tok : Tok} {m : Macro} (h : findMacro defs tok = some m) :
    (tok.text, m) ∈ defs ∧ tok.kind = .ident := by
  unfold findMacro at h
  split at h
  · rename_i hk
    exact ⟨List.lookup_mem h, by simpa using hk⟩
  · simp at h

theorem rank_pos {names : List String} {tok : Tok} (hname : tok.text ∈ names)
    (hnot : hidesetContains tok.hide tok.text = false) : 1 ≤ rank names tok :=
  List.length_pos_of_mem (List.mem_filter.2 ⟨hname, by rw [hnot]; rfl⟩)

/-- an unpainted macro name pays for one step and for `L` tokens of the next smaller rank -/
theorem tokCost_name {names : List String} {tok : Tok} (L : Nat) (hk : tok.kind = .ident) (hname : tok.text ∈ names)
    (hnot : hidesetContains tok.hide tok.text = false) :
    ∃ k, rank names tok = k + 1 ∧ tokCost names L tok = 1 + L * cost L k := by
  obtain ⟨k, hk'⟩ := Nat.exists_eq_add_of_le' (rank_pos hname hnot)
  exact ⟨k, hk', by simp only [tokCost, hk, beq_self_eq_true, if_true, hk', cost]⟩

theorem expandMacro_obj (lx : String → LexOne) (pp : PreExpand) (st : St) (tok : Tok) (rest : List Tok) (L : Nat)
    (hobj : ObjOnly st.defs) (hL : ∀ n b, (n, Macro.obj b) ∈ st.defs → b.length ≤ L) (hL1 : 1 ≤ L) :
    NoFuel (fun o => ∀ v ∈ o, need (st.defs.map (·.1)) L v.1 < need (st.defs.map (·.1)) L (tok :: rest))
      (expandMacro lx pp st tok rest) := by
  have name : ∀ {m}, findMacro st.defs tok = some m → ¬ hidesetContains tok.hide tok.text = true →
      (tok.text, m) ∈ st.defs ∧ tok.text ∈ st.defs.map (·.1) ∧ ∃ k, rank (st.defs.map (·.1)) tok = k + 1 ∧
        need (st.defs.map (·.1)) L (tok :: rest) = 1 + L * cost L k + need (st.defs.map (·.1)) L rest := by
    intro m hm hh
    obtain ⟨hmem, hkind⟩ := findMacro_mem hm
    have hname : tok.text ∈ st.defs.map (·.1) := List.mem_map.2 ⟨_, hmem, rfl⟩
    obtain ⟨k, hk, hc⟩ := tokCost_name L hkind hname (by simpa using hh)
    exact ⟨hmem, hname, k, hk, by rw [need_cons, hc]⟩
  have noFn : ∀ {ps va b}, findMacro st.defs tok = some (.fn ps va b) → False := fun hm =>
    nomatch hobj _ (findMacro_mem hm).1
  -- numbering of the cases: see `expandMacro_keeps` (Lemmas/PPLemmas.lean)
  fun_cases expandMacro lx pp st tok rest
  case case1 | case2 | case6 => exact fun _ hv => nomatch hv
  case case7 | case8 | case9 => exact (noFn ‹_›).elim
  case case3 hh b hm t st1 hb =>
    obtain ⟨_, _, k, _, hn⟩ := name hm hh
    intro v hv
    cases hv
    have h1 : tokCost (st.defs.map (·.1)) L (runBuiltin st b tok).1 = 1 := by
      cases b <;> rfl
    rw [hb] at h1
    rw [hn, need_cons, h1]
    exact Nat.add_lt_add_right (Nat.lt_add_of_pos_right (Nat.mul_pos hL1 (cost_pos L k))) _
  case case4 hh body hm e hs => exact (hs ▸ subst_obj lx pp st body : NoFuel _ (.error e))
  case case5 hh body hm hs0 out st1 hs =>
    obtain ⟨hmem, hname, k, hk, hn⟩ := name hm hh
    -- what is put in front of the input: as many tokens as `subst` returned, each hiding what `tok` hides and `tok`'s own name
    obtain ⟨new, hnew, hlen, hhide⟩ := spliceBody_shape out (hidesetUnion tok.hide [tok.text]) tok rest
    intro v hv
    cases hv
    have hcost : ∀ t ∈ new, tokCost (st.defs.map (·.1)) L t ≤ cost L k := by
      intro t ht
      have hlt : rank (st.defs.map (·.1)) t < rank (st.defs.map (·.1)) tok :=
        unhidden_lt hname (fun x hx => hhide t ht x (by rw [hidesetContains_union, hx]; rfl)) (by simpa using hh)
          (hhide t ht _ (by rw [hidesetContains_union]; simp [hidesetContains]))
      unfold tokCost
      split
      · exact cost_mono hL1 (Nat.le_of_lt_succ (Nat.lt_of_lt_of_eq hlt hk))
      · exact cost_pos _ _
    have hmul : new.length * cost L k ≤ L * cost L k :=
      Nat.mul_le_mul_right _ (hlen ▸ Nat.le_trans ((subst_obj lx pp st body).of_ok hs).2 (hL _ _ hmem))
    rw [hnew, hn, need_append]
    exact Nat.add_lt_add_right (Nat.lt_of_le_of_lt (Nat.le_trans (need_le_of_forall hcost) hmul) (Nat.lt_add_of_pos_left Nat.one_pos)) _

/-- what the loop of `preprocess2` needs from its pre-expander for a fuel bound by a potential (`Pot ts p`: the pending
    list `ts` has potential `p`): on every list of potential at most `n` it does not run out of fuel, returns no more
    tokens than the potential, and keeps the table -/
def PotGood (defs : List (String × Macro)) (Pot : List Tok → Nat → Prop) (pp : PreExpand) (n : Nat) : Prop :=
  ∀ (st : St) (ts : List Tok) (p : Nat), st.defs = defs → NoHash ts → Pot ts p → p ≤ n →
    NoFuel (fun r => r.1.length ≤ p ∧ r.2.defs = defs) (pp st ts)

/-- **a potential bounds the fuel.**  If passing over a token lowers the potential and every application of a macro lowers
    it (given that the pre-expander is good for the fuel that is left), then as much fuel as the potential suffices. -/
theorem preprocess2_pot (lx : String → LexOne) (defs : List (String × Macro)) (Pot : List Tok → Nat → Prop)
    (hpos : ∀ t r p, Pot (t :: r) p → ∃ p', p' < p ∧ Pot r p')
    (hexp : ∀ n pp, PotGood defs Pot pp n → ∀ st tok rest p, st.defs = defs → NoHash (tok :: rest) → Pot (tok :: rest) p →
      p ≤ n + 1 → NoFuel (fun o => ∀ v ∈ o, ∃ p', p' < p ∧ Pot v.1 p') (expandMacro lx pp st tok rest)) :
    ∀ n, PotGood defs Pot (fun st ts => preprocess2 lx n st ts) n := by
  intro n
  induction n with
  | zero =>
    intro st ts p hdefs _ hP hp
    cases ts with
    | nil => exact ⟨Nat.zero_le _, hdefs⟩
    | cons t r => obtain ⟨_, hlt, _⟩ := hpos t r p hP; omega
  | succ n ih =>
    intro st ts p hdefs hnh hP hp
    cases ts with
    | nil => exact ⟨Nat.zero_le _, hdefs⟩
    | cons tok rest =>
      have he := hexp n _ ih st tok rest p hdefs hnh hP hp
      simp only [preprocess2]
      cases hres : expandMacro lx (fun st ts => preprocess2 lx n st ts) st tok rest with
      | error e => exact he.of_error hres
      | ok o =>
        cases o with
        | none =>
          simp only [hnh tok (by simp), Bool.not_false, if_true]
          obtain ⟨p', hlt, hP'⟩ := hpos tok rest p hP
          exact ((ih st rest p' hdefs (fun t ht => hnh t (by simp [ht])) hP' (by omega)).imp fun v hv =>
            (⟨by have := hv.1; simp only [List.length_cons]; omega, hv.2⟩ : (tok :: v.1).length ≤ p ∧ v.2.defs = defs)).map
        | some v =>
          obtain ⟨p', hlt, hP'⟩ := he.of_ok hres v rfl
          obtain ⟨hd, hn⟩ := expandMacro_keeps (preprocess2_keeps lx n) hnh hres
          exact (ih v.2 v.1 p' (hd.trans hdefs) hn hP' (by omega)).imp fun _ hv => ⟨by omega, hv.2⟩

theorem preprocess2_obj_fuel (lx : String → LexOne) (defs : List (String × Macro)) (L : Nat)
    (hobj : ObjOnly defs) (hL : ∀ n b, (n, Macro.obj b) ∈ defs → b.length ≤ L) (hL1 : 1 ≤ L) :
    ∀ (n : Nat) (st : St) (ts : List Tok), st.defs = defs → NoHash ts → need (defs.map (·.1)) L ts ≤ n →
      preprocess2 lx n st ts ≠ .error .fuel := by
  intro n st ts hdefs hnh hneed h
  refine (preprocess2_pot lx defs (fun ts p => need (defs.map (·.1)) L ts = p) (fun t r p hp => ⟨_, ?_, rfl⟩)
    (fun n pp _ st tok rest p hdefs _ hp _ => ?_) n st ts _ hdefs hnh rfl hneed).of_error h rfl
  · rw [← hp, need_cons]
    exact Nat.lt_add_of_pos_left (tokCost_pos _ _ _)
  · subst hdefs hp
    exact (expandMacro_obj lx pp st tok rest L hobj hL hL1).imp fun o ho v hv => ⟨_, ho v hv, rfl⟩

theorem preprocess2_blue (lx : String → LexOne) : ∀ (n : Nat) (st : St) (ts out : List Tok) (st' : St),
    NoHash ts → preprocess2 lx n st ts = .ok (out, st') →
    ∀ t ∈ out, ∀ m, findMacro st.defs t = some m → hidesetContains t.hide t.text = true ∨ m.isFn = true := by
  intro n st ts
  fun_induction preprocess2 lx n st ts
  case case1 => intro out st' _ h; cases h; exact fun _ ht => nomatch ht
  case case2 | case3 => exact fun _ _ _ h => nomatch h
  case case4 n st tok rest ts1 st1 hexp _ ih =>
    intro out st' hnh h
    obtain ⟨hd, hn⟩ := expandMacro_keeps (preprocess2_keeps lx n) hnh hexp
    exact hd ▸ ih out st' hn h
  case case5 n st tok rest hexp _ _ ih =>
    intro out st' hnh h
    cases hv : preprocess2 lx n st rest with
    | error e => rw [hv] at h; cases h
    | ok v =>
      rw [hv] at h
      cases h
      intro t ht m hm
      rcases List.mem_cons.1 ht with rfl | ht
      · rcases expandMacro_none hexp with h1 | h1 | ⟨ps, va, b, h1, _⟩
        · exact Or.inl h1
        · rw [h1] at hm; cases hm
        · rw [h1] at hm; cases hm; exact Or.inr rfl
      · exact ih v.1 v.2 (fun t ht => hnh t (by simp [ht])) hv t ht m hm
  case case6 tok _ _ hh _ _ _ | case7 tok _ _ hh _ _ _ _ _ =>
    intro _ _ hnh
    rw [hnh tok (by simp)] at hh
    exact absurd rfl hh

theorem preprocess2_counter (lx : String → LexOne) (defs : List (String × Macro))
    (hdef : defs.lookup "__COUNTER__" = some (.builtin .counter)) :
    ∀ (ts : List Tok) (fuel : Nat) (st : St), st.defs = defs →
      (∀ t ∈ ts, t.kind = .ident ∧ t.text = "__COUNTER__" ∧ t.hide = []) → 2 * ts.length ≤ fuel →
      ∃ out st', preprocess2 lx fuel st ts = .ok (out, st') ∧ st'.counter = st.counter + ts.length ∧
        out.map (·.text) = (List.range ts.length).map (fun i => toString (st.counter + i)) := by
  intro ts
  induction ts with
  | nil => intro fuel st _ _ _; exact ⟨[], st, by simp [preprocess2], by simp, by simp⟩
  | cons tok rest ih =>
    intro fuel st hdefs hts hfuel
    obtain ⟨hk, htx, hh⟩ := hts tok (by simp)
    obtain ⟨f, rfl⟩ : ∃ f, fuel = f + 2 := ⟨fuel - 2, by simp only [List.length_cons] at hfuel; omega⟩
    have hfind : findMacro st.defs tok = some (.builtin .counter) := by
      simp [findMacro, hk, htx, hdefs, hdef]
    have hexp : expandMacro lx (fun st ts => preprocess2 lx (f + 1) st ts) st tok rest =
        .ok (some (newNumToken st.counter tok.line :: rest, { st with counter := st.counter + 1 })) := by
      simp [expandMacro, hh, hidesetContains, hfind, runBuiltin]
    have hnum : expandMacro lx (fun st ts => preprocess2 lx f st ts) { st with counter := st.counter + 1 }
        (newNumToken st.counter tok.line) rest = .ok none := by
      simp [expandMacro, newNumToken, hidesetContains, findMacro]
    have hnh : isHash (newNumToken st.counter tok.line) = false := by
      simp [isHash, newNumToken, repr_ne_hash]
    obtain ⟨out, st', hrec, hc, ho⟩ := ih f { st with counter := st.counter + 1 } hdefs
      (fun t ht => hts t (by simp [ht])) (by simp only [List.length_cons] at hfuel; omega)
    refine ⟨newNumToken st.counter tok.line :: out, st', ?_, ?_, ?_⟩
    · simp only [preprocess2, hexp, hnum, hnh, Bool.not_false, if_true, hrec, Except.map]
    · simp only [hc, List.length_cons]; omega
    · simp only [List.map_cons, ho, List.length_cons, List.range_succ_eq_map, List.map_cons, List.map_map]
      simp [newNumToken, Function.comp_def, Nat.add_assoc, Nat.add_comm 1]

end ChibiVerif.PP
