/-
The unsigned distance test `x - lo ≤ hi - lo` that chibicc emits for a GNU case range (`sub $lo; cmp $(hi - lo); jbe`), as a
fact about integers in a window of length `M`, and its readings on `BitVec`.
-/
import ChibiVerif.Lemmas.BitVecLemmas

namespace ChibiVerif.RangeWindow

/-- `v`, `L`, `H` lie in one window of length `M`, and `lo ≡ L`, `hi ≡ H` modulo `M`.  Then the distance test modulo `M`
    decides `L ≤ v ≤ H`: below `L` the distance `v - L` wraps to `v - L + M`, which exceeds `H - L` because `H - v < M`. -/
theorem window_range {M m v L H lo hi : Int} (hv : m ≤ v ∧ v < m + M) (hL : m ≤ L) (hH : H < m + M) (hLH : L ≤ H)
    (hlo : L % M = lo % M) (hhi : H % M = hi % M) : (v - lo) % M ≤ (hi - lo) % M ↔ L ≤ v ∧ v ≤ H := by
  have e1 : (v - lo) % M = (v - L) % M := by rw [Int.sub_emod, ← hlo, ← Int.sub_emod]
  have e2 : (hi - lo) % M = H - L := by
    rw [Int.sub_emod, ← hlo, ← hhi, ← Int.sub_emod]; exact Int.emod_eq_of_lt (by omega) (by omega)
  rw [e1, e2]
  by_cases h : L ≤ v
  · rw [Int.emod_eq_of_lt (by omega) (by omega)]; omega
  · have : (v - L) % M = v - L + M := by
      rw [← Int.add_emod_right (v - L) M]; exact Int.emod_eq_of_lt (by omega) (by omega)
    omega

theorem window_eq {M m v C c : Int} (hv : m ≤ v ∧ v < m + M) (hC : m ≤ C ∧ C < m + M) (hc : C % M = c % M) :
    v % M = c % M ↔ v = C := by
  refine ⟨fun h => ?_, fun h => by rw [h, hc]⟩
  have := (window_range (lo := c) (hi := c) hv hC.1 hC.2 (Int.le_refl _) hc hc).1
    (by rw [Int.sub_emod, h, Int.sub_self, Int.sub_self]; exact Int.le_refl _)
  omega

/-- the distance test on `BitVec n` decides membership in the range under any reading `f` of the bit patterns as integers
    of one window of length `2 ^ n` -/
theorem range_read {n : Nat} (f : BitVec n → Int) (m : Int) (hf : ∀ x, m ≤ f x ∧ f x < m + (2 ^ n : Nat))
    (hmod : ∀ x, f x % (2 ^ n : Nat) = (x.toNat : Int) % (2 ^ n : Nat)) (v lo hi : BitVec n) (h : f lo ≤ f hi) :
    v - lo ≤ hi - lo ↔ f lo ≤ f v ∧ f v ≤ f hi := by
  rw [BitVec.le_def, ← Int.ofNat_le, BitVec.toNat_sub_int, BitVec.toNat_sub_int, Int.sub_emod, ← hmod v, ← Int.sub_emod]
  exact window_range (hf v) (hf lo).1 (hf hi).2 h (hmod lo) (hmod hi)

theorem range_unsigned {n : Nat} (v lo hi : BitVec n) (h : lo.toNat ≤ hi.toNat) :
    v - lo ≤ hi - lo ↔ lo.toNat ≤ v.toNat ∧ v.toNat ≤ hi.toNat := by
  have := range_read (fun x => (x.toNat : Int)) 0 (fun x => ⟨Int.natCast_nonneg _, by have := x.isLt; omega⟩) (fun _ => rfl)
    v lo hi (Int.ofNat_le.2 h)
  rw [this, Int.ofNat_le, Int.ofNat_le]

theorem range_signed {k : Nat} (v lo hi : BitVec (k + 1)) (h : lo.toInt ≤ hi.toInt) :
    v - lo ≤ hi - lo ↔ lo.toInt ≤ v.toInt ∧ v.toInt ≤ hi.toInt := by
  refine range_read BitVec.toInt (-(2 ^ k : Nat)) (fun x => ?_) (fun x => ?_) v lo hi h
  · have h1 := x.le_toInt
    have h2 := @BitVec.toInt_lt _ x
    have e : ((2 ^ k : Nat) : Int) = 2 ^ k := Int.natCast_pow 2 k
    simp only [Nat.add_sub_cancel] at h1 h2
    rw [Nat.pow_succ, Int.natCast_mul, e]
    omega
  · rw [BitVec.toInt_eq_toNat_bmod, Int.bmod_emod]

end ChibiVerif.RangeWindow
