/-
C06, argument conversions: the argument loop of parse.c `funcall()` (Model/C06Args.lean over the translated
`Gen.Funcall.argStep`) against C11 6.5.2.2 (Spec/C06ArgsSpec.lean), for parameter and argument lists of any length.
-/
import ChibiVerif.Lemmas.C06Vocabulary

namespace ChibiVerif.C06Args
open ChibiVerif.Gen.CommonType ChibiVerif.Gen.Funcall
open ChibiVerif.Spec.IntSpec ChibiVerif.Spec.FpC11 ChibiVerif.Spec.CallArgs

theorem passedTypes_cons (p a : STy) (ps as : List STy) (v : Bool) :
    passedTypes (p :: ps) v (a :: as) = (passedTypes ps v as).map (p :: ·) := by
  simp only [passedTypes, List.length_cons, Nat.add_lt_add_iff_right, List.drop_succ_cons]
  split
  · rfl
  · split <;> rfl

theorem passedTypes_tail (as : List STy) : passedTypes [] true as = .ok (as.map defaultPromote) := by
  simp [passedTypes]

theorem descrA_scalar (t : ATy) : ((descrA t).kind != Kind.TY_STRUCT && (descrA t).kind != Kind.TY_UNION) = true := by
  cases t with
  | int t => cases t <;> rfl
  | f32 => rfl
  | f64 => rfl
  | f80 => rfl

theorem argSeq_scalar (v : Bool) (p a : TyD) (hp : (p.kind != Kind.TY_STRUCT && p.kind != Kind.TY_UNION) = true) :
    argSeq v (some p) a = some ((castChain a [p]).flatMap Asm.Line.instrs) := by
  simp [argSeq, argStep, hp]

theorem descrS_agg_kind (t : STy) :
    ((descrS t).kind != Kind.TY_STRUCT && (descrS t).kind != Kind.TY_UNION) = (match t with | .agg .. => false | _ => true) := by
  cases t with
  | arith a => exact descrA_scalar a
  | ptr => rfl
  | enum => rfl
  | agg u sz => cases u <;> rfl

theorem descrS_float (t : STy) : ((descrS t).kind == Kind.TY_FLOAT) = (t == .arith .f32) := by
  cases t with
  | arith a => cases a with
    | int t => cases t <;> rfl
    | f32 => rfl
    | f64 => rfl
    | f80 => rfl
  | ptr => rfl
  | enum => rfl
  | agg u sz => cases u <;> rfl

theorem passedAs_tail (a : STy) :
    passedAs a (if a == .arith .f32 then [ty_double] else []) (defaultPromote a) = true := by
  cases a with
  | arith x => cases x with
    | int t => cases t <;> decide
    | f32 => decide
    | f64 => decide
    | f80 => decide
  | ptr => decide
  | enum => decide
  | agg u sz => simp [passedAs, defaultPromote]

def nonAgg : STy → Bool
  | .agg .. => false
  | _ => true

theorem argStep_tail (a : STy) :
    argStep true none (descrS a) = .ok (if a == .arith .f32 then [ty_double] else []) false := by
  simp only [argStep, Option.isSome_none, Bool.not_false, Bool.not_true, Bool.and_false, Bool.false_eq_true, if_false,
    descrS_float]
  split <;> rfl

theorem argStep_many (d : TyD) : argStep false none d = .diag "too many arguments" := by
  simp [argStep]

theorem argStep_param (v : Bool) (p a : STy) :
    argStep v (some (descrS p)) (descrS a) = .ok (if nonAgg p then [descrS p] else []) true := by
  simp only [argStep, Option.isSome_some, Bool.not_true, Bool.false_and, Bool.false_eq_true, if_false, descrS_agg_kind]
  cases p <;> rfl

theorem passedAs_param (a p : STy) : passedAs a (if nonAgg p then [descrS p] else []) p = true := by
  cases p <;> simp [passedAs, tyAfter, nonAgg]

theorem agrees_cons (spec : Except Diag (List STy)) (impl : Except String (List (List TyD))) (as : List STy) (a p : STy)
    (c : List TyD) (hp : passedAs a c p = true) (h : agrees spec impl as) :
    agrees (spec.map (p :: ·)) (impl.map (c :: ·)) (a :: as) := by
  cases spec with
  | error d =>
    cases impl with
    | error m => cases d <;> simpa [agrees, Except.map] using h
    | ok cs => cases d <;> simp [agrees] at h
  | ok ts => cases impl <;> simp_all [agrees, Except.map, allPassed]

/-- **the argument loop against 6.5.2.2**, any parameter list, any argument list -/
theorem funcall_agrees (ps as : List STy) (v : Bool) :
    agrees (passedTypes ps v as) (funcallLoop v (ps.map descrS) (as.map descrS)) as := by
  induction as generalizing ps with
  | nil =>
    cases ps with
    | nil => simp [agrees, passedTypes, funcallLoop, afterLoop, allPassed]
    | cons p ps => simp [agrees, passedTypes, funcallLoop, afterLoop]
  | cons a as ih =>
    cases ps with
    | nil =>
      cases v with
      | false => simp [agrees, passedTypes, funcallLoop, argStep_many]
      | true =>
        -- a trailing argument: the cursor stays at the end of the parameter list
        have h := ih []
        rw [passedTypes_tail] at h ⊢
        simp only [List.map_nil, List.map_cons, funcallLoop, List.head?_nil, argStep_tail, Bool.false_eq_true, if_false]
        exact agrees_cons (.ok _) _ _ _ _ _ (passedAs_tail a) h
    | cons p ps =>
      rw [passedTypes_cons]
      simp only [List.map_cons, funcallLoop, List.head?_cons, argStep_param, if_true, List.tail_cons]
      exact agrees_cons _ _ _ _ _ _ (passedAs_param a p) (ih ps)

end ChibiVerif.C06Args
