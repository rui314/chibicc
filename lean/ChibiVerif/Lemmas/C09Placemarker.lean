/-
C09 — the repaired defect C09-placemarker (`fix:` 5a15c0f in /repo), as a record.

`substLoopOld` is `substLoop` of Model/PP.lean as it was before the repair: in the arm "parameter with an EMPTY argument
   followed by `##`" the right operand of that `##` was copied at once — also when it was an empty argument itself and
   another `##` followed, so that the next `##` found the output as it was before the chain: nothing at all
   ("'##' cannot appear at start of macro expansion", `t(,,)`) or an unrelated earlier token (`a x##y##z` with `(,,3)` gave
   `a3`).  C11 6.10.3.3p2-3: an empty argument next to `##` is a placemarker, placemarker ## placemarker = placemarker,
   which is the left operand of the following `##`.  The present code moves over the whole run of empty operands
   (`skipEmptyOperands`).  Witnesses: Findings/C09.lean.
-/
import ChibiVerif.Model.PP

namespace ChibiVerif.PP

/-- `subst` BEFORE `fix:` 5a15c0f (verbatim the former `substLoop`; only the arm `a.toks = []` differs from the present one) -/
def substLoopOld (lx : String → LexOne) (pp : PreExpand) (isObj : Bool) :
    Nat → St → List MacroArg → List Tok → List Tok → Except Err (List Tok × List MacroArg × St)
  | _, st, args, [], acc => .ok (acc.reverse, args, st)
  | 0, _, _, _ :: _, _ => .error .fuel
  | n + 1, st, args, tok :: rest, acc =>
    -- "#" followed by a parameter
    if tok.text == "#" && !isObj then
      match findArg args rest.head? with
      | none => .error .hashNotParam
      | some a => substLoopOld lx pp isObj n st args (rest.drop 1) (stringize tok a.toks :: acc)
    else
    -- [GNU] `, ## __VA_ARGS__`
    match (if tok.text == "," && textIs rest.head? "##" then (findArg args (rest.drop 1).head?).filter (·.isVa) else none) with
    | some a =>
      if a.toks.isEmpty then substLoopOld lx pp isObj n st args (rest.drop 2) acc
      else substLoopOld lx pp isObj n st args (rest.drop 1) (tok :: acc)
    | none =>
    -- "##"
    if tok.text == "##" then
      match acc with
      | [] => .error .pasteAtStart
      | cur :: acc' =>
        match rest with
        | [] => .error .pasteAtEnd
        | nxt :: rest' =>
          match findArg args (some nxt) with
          | some a =>
            match a.toks with
            | [] => substLoopOld lx pp isObj n st args rest' acc
            | t0 :: ts =>
              match paste lx cur t0 with
              | .error e => .error e
              | .ok p => substLoopOld lx pp isObj n st args rest' (ts.reverse ++ p :: acc')
          | none =>
            match paste lx cur nxt with
            | .error e => .error e
            | .ok p => substLoopOld lx pp isObj n st args rest' (p :: acc')
    else
    match findArg args (some tok) with
    | some a =>
      -- a parameter followed by "##": its argument is copied without macro replacement
      if textIs rest.head? "##" then
        match rest.drop 1 with
        | [] => .error .pasteAtEnd
        | rhs :: rest3 =>
          match a.toks with
          | [] =>
            match findArg args (some rhs) with
            | some a2 => substLoopOld lx pp isObj n st args rest3 (a2.toks.reverse ++ acc)
            | none => substLoopOld lx pp isObj n st args rest3 (rhs :: acc)
          | _ :: _ =>
            substLoopOld lx pp isObj n st args rest ((setHeadFlags a.toks tok.atBol tok.hasSpace).reverse ++ acc)
      else
        -- a parameter: the completely macro-replaced argument (a copy is expanded, once)
        match a.expanded with
        | some e => substLoopOld lx pp isObj n st args rest ((setHeadFlags e tok.atBol tok.hasSpace).reverse ++ acc)
        | none =>
          match pp st (addHideset a.toks []) with
          | .error e => .error e
          | .ok (e, st') =>
            substLoopOld lx pp isObj n st' (setExpanded args a.name e) rest
              ((setHeadFlags e tok.atBol tok.hasSpace).reverse ++ acc)
    | none =>
      -- __VA_OPT__(x)
      if tok.text == "__VA_OPT__" && textIs rest.head? "(" then
        match readMacroArgOne true 0 (rest.drop 1) with
        | .error e => .error e
        | .ok (content, r) =>
          if hasVarargs args then
            match substLoopOld lx pp false n st args content [] with
            | .error e => .error e
            | .ok (out, args', st') => substLoopOld lx pp isObj n st' args' (r.drop 1) (out.reverse ++ acc)
          else substLoopOld lx pp isObj n st args (r.drop 1) acc
      else
        -- any other token
        substLoopOld lx pp isObj n st args rest (tok :: acc)


def substOld (lx : String → LexOne) (pp : PreExpand) (st : St) (body : List Tok) (args : List MacroArg) (isObj : Bool) :
    Except Err (List Tok × St) :=
  (substLoopOld lx pp isObj (body.length + 1) st args body []).map fun (out, _, st') => (out, st')

end ChibiVerif.PP
