/-
C13 — preprocessor components: which outcomes the models of `read_macro_args`, of the conditional-inclusion machine, of the
`#if` arithmetic and of the include machine can produce.  Core Lean only (imports the owners' models and lemmas read-only).
-/
import ChibiVerif.Lemmas.PPArgs
import ChibiVerif.Model.PPExpr
import ChibiVerif.Model.IncludeSearch
import ChibiVerif.Lemmas.IncludeSearchShortcuts
import ChibiVerif.Lemmas.ExceptLemmas

namespace ChibiVerif.C13PP

/-! ## read_macro_args -/
section Args
open ChibiVerif.PP
open Except (Ends)

/-- the diagnostics of the argument reader: "premature end of input", `skip(tok, ",")`, `skip(tok, ")")` -/
def ArgDiag (e : Err) : Prop := e = .prematureEnd ∨ e = .expected "," ∨ e = .expected ")"

theorem skip_ends (ts : List Tok) (s : String) : Ends (· = .expected s) (fun _ => True) (skip ts s) := by
  unfold skip
  split
  · split
    · trivial
    · exact rfl
  · exact rfl

/-- `if (!first) tok = skip(tok, ",")` -/
theorem optSkip_ends (c : Bool) (ts : List Tok) :
    Ends ArgDiag (fun _ => True) (if c = true then (Except.ok ts : Except Err (List Tok)) else skip ts ",") :=
  .ite (fun _ => trivial) fun _ => (skip_ends ts ",").mono (fun _ h => .inr (.inl h)) fun _ => id

theorem readNamedArgs_ends : ∀ (ps : List String) (first : Bool) (ts : List Tok),
    Ends ArgDiag (fun _ => True) (readNamedArgs ps first ts)
  | [], _, _ => trivial
  | p :: ps, first, ts => by
    rw [readNamedArgs]
    split
    · exact (optSkip_ends first ts).of_error ‹_›
    · split
      · exact .inl ((argOne_spec false _ 0).of_error ‹_›)
      · exact .map ((readNamedArgs_ends ps false _).mono (fun _ => id) fun _ _ => trivial)

theorem fin_ends (args : List MacroArg) (r : List Tok) :
    Ends ArgDiag (fun _ => True) (match r with
          | t :: r' => if t.text == ")" then (Except.ok (args, t, r') : Except Err (List MacroArg × Tok × List Tok))
                       else .error (.expected ")")
          | [] => .error (.expected ")")) := by
  split
  · split
    · trivial
    · exact .inr (.inr rfl)
  · exact .inr (.inr rfl)

theorem readMacroArgs_ends (ps : List String) (va : Option String) (ts : List Tok) :
    Ends ArgDiag (fun _ => True) (readMacroArgs ps va ts) := by
  unfold readMacroArgs
  split
  · exact (readNamedArgs_ends ps true ts).of_error ‹_›
  · split
    · exact fin_ends _ _
    · refine .ite (fun _ => fin_ends _ _) fun _ => ?_
      split
      · exact (optSkip_ends _ _).of_error ‹_›
      · split
        · exact .inl ((argOne_spec true _ 0).of_error ‹_›)
        · exact fin_ends _ _

/-- the reader never runs with a non-empty argument on an exhausted input: end of input inside an argument is the
    diagnostic (in C: `tok->kind == TK_EOF` is tested before `tok->next` is followed) -/
theorem readMacroArgOne_eof (rr : Bool) (lvl : Nat) : readMacroArgOne rr lvl [] = .error .prematureEnd := rfl

end Args

/-! ## the conditional-inclusion machine -/
section Cond
open ChibiVerif.CondIncl
open Except (Ends)
variable {ε β : Type}

/-- diagnostics that the directive arms of the machine raise themselves -/
def CondDiag (d : Diag) : Prop :=
  d = .strayElif ∨ d = .strayElse ∨ d = .strayEndif ∨ d = .unterminated ∨ d = .errorDirective ∨ d = .badDirective

/-- what the machine run with `ev` can fail with: a diagnostic of its own or one of the evaluator's -/
def CondErr (ev : ε → Defs β → Except Diag Bool) (d : Diag) : Prop := CondDiag d ∨ ∃ c defs, ev c defs = .error d

theorem stepLine_ends (ev : ε → Defs β → Except Diag Bool) (l : Line ε β) (m : Mode) (s : St β) :
    Ends (CondErr ev) (fun _ => True) (stepLine ev l m s) := by
  rcases stepLine_cases l m s with ⟨r, hr, he⟩ | ⟨c, k, _, he⟩ <;> rw [he ev]
  · exact hr.mono (fun d hd => .inl (by revert hd; cases d <;> simp [CondDiag, ownDiag])) fun _ => id
  · cases hv : ev c s.obs.defs with
    | error e => exact .inr ⟨c, _, hv⟩
    | ok v => trivial

theorem run_ends (ev : ε → Defs β → Except Diag Bool) : ∀ (ls : List (Line ε β)) (m : Mode) (s : St β),
    Ends (CondErr ev) (fun _ => True) (run ev ls m s)
  | [], _, _ => trivial
  | l :: ls, m, s => by
    rw [run]
    cases hs : stepLine ev l m s with
    | error e => exact (stepLine_ends ev l m s).of_error hs
    | ok r => exact run_ends ev ls r.2 r.1

theorem condMachine_ends (ev : ε → Defs β → Except Diag Bool) (ls : List (Line ε β)) (defs : Defs β) :
    Ends (CondErr ev) (fun _ => True) (condMachine ev ls defs) := by
  unfold condMachine finish
  cases hr : run ev ls .proc ⟨⟨defs, []⟩, []⟩ with
  | error d => exact (run_ends ev ls _ _).of_error hr
  | ok r => exact .ite (fun _ => trivial) fun _ => .inl (by simp [CondDiag])

end Cond

/-! ## `#if` arithmetic -/
section Expr
open ChibiVerif.PPExpr ChibiVerif.CondIncl

/-- the shift count is outside [0, 64) -/
def badShift (op : BinOp) (b : Val) : Bool := (op == .shl || op == .shr) && (b.int < 0 || b.int ≥ 64)

theorem ok_ite {ε α : Type} {c : Prop} [Decidable c] {x y : Except ε α} (hx : c → ∃ v, x = .ok v) (hy : ¬ c → ∃ v, y = .ok v) :
    ∃ v, (if c then x else y) = .ok v := by
  split
  · exact hx ‹_›
  · exact hy ‹_›

/-- the evaluator the machine is run with maps every failure of a controlling expression to ONE diagnostic class -/
theorem evC_error (e : Expr) (defs : Defs Body) (d : Diag) (h : evC e defs = .error d) : d = .badExpr := by
  unfold evC toDiag at h
  split at h
  · cases h
  · cases h; rfl

/-- `CondErr` at the evaluator of `#if`: a diagnostic of the machine's own, or `badExpr` -/
theorem CondErr.of_evC {d : Diag} (h : CondErr evC d) : CondDiag d ∨ d = .badExpr :=
  h.imp_right fun ⟨c, defs, he⟩ => evC_error c defs d he

end Expr

/-! ## the include machine -/
section Incl
open ChibiVerif.CondIncl ChibiVerif.IncludeSearch
open Except (Ends)
variable {ε β : Type}

/-- the line neither opens a file nor is `#pragma once` -/
def ILine.isPlain : ILine ε β → Bool
  | .c _ => true
  | _ => false

theorem stepInc_plain (ev : ε → Defs β → Except Diag Bool) (fs : FS ε β) (paths : List String) (g : Bool) (file : String)
    (l : Line ε β) (m : Mode) (s : IState β) :
    stepInc ev fs paths g file (.c l) m s =
      match stepLine ev l m s.st with
      | .error e => .error e
      | .ok (st', m') => .ok ([], { s with st := st' }, m') := by
  cases m <;> rfl

/-- on lines without `#include` and `#pragma once`, with the step budget `length`, the include machine fails only where the
    conditional machine does (it consumes one line per step): in particular not with `outOfFuel` -/
theorem runInc_plain_ends (ev : ε → Defs β → Except Diag Bool) (fs : FS ε β) (paths : List String) (g : Bool) :
    ∀ (fuel : Nat) (ls : List (String × ILine ε β)) (m : Mode) (s : IState β),
      (∀ x ∈ ls, ILine.isPlain x.2 = true) → ls.length ≤ fuel →
      Ends (CondErr ev) (fun _ => True) (runInc ev fs paths g fuel ls m s)
  | _, [], _, _, _, _ => by rw [runInc]; trivial
  | 0, _ :: _, _, _, _, hl => nomatch hl
  | fuel + 1, (file, .c l) :: ls, m, s, hp, hl => by
    simp only [runInc, stepInc_plain]
    cases hs : stepLine ev l m s.st with
    | error e => exact (stepLine_ends ev l m s.st).of_error hs
    | ok r =>
      exact runInc_plain_ends ev fs paths g fuel ls r.2 _ (fun x hx => hp x (.tail _ hx)) (Nat.le_of_succ_le_succ hl)
  | _ + 1, (_, .incl ..) :: _, _, _, hp, _ | _ + 1, (_, .includeNext _) :: _, _, _, hp, _
  | _ + 1, (_, .pragmaOnce) :: _, _, _, hp, _ => nomatch hp _ (.head _)

/-- the file system in which every path names the one-line file `#include "f"` -/
def selfFS : FS ε β := fun _ => some [.incl true "f"]

/-- **include cycle**: a file that includes itself exhausts every step budget (cc1: recursion until the stack or the
    memory is exhausted, on the code before the nesting limit of /repo b453bf4; Findings/C13Sites.lean has the witness) -/
theorem selfInclude_outOfFuel (ev : ε → Defs β → Except Diag Bool) (paths : List String) :
    ∀ (fuel : Nat) (file : String) (s : IState β), s.once = [] → s.guards = [] →
      runInc ev (selfFS : FS ε β) paths true fuel [(file, .incl true "f")] .proc s = .error .outOfFuel :=
  runInc_self_include ev selfFS (fun _ => rfl) paths

end Incl

end ChibiVerif.C13PP
