/-
C14, two drivers on one file system: frame and locality of a driver step, the simulation `Sim` of a solo run by a run
in a file system others write to, the induction over interleavings, and the footprint of a command: its program is loop
bodies, a final link, or a reject (`mem_compile`), so its outputs are the requested ones and its inputs the named ones
(`init_inside`).
-/
import ChibiVerif.Lemmas.DriverProcLemmas
import ChibiVerif.Lemmas.C14Vocabulary

namespace ChibiVerif.DriverProc

variable {P : Type} [DecidableEq P]

def Ref.paths : Ref P → List P
  | .path p => [p]
  | .tmp _ => []

/-- command-line paths the remaining actions may write -/
def actOuts : List (Act P) → List P
  | [] => []
  | .run _ _ (some r) :: t => r.paths ++ actOuts t
  | .link o :: t => o :: actOuts t
  | _ :: t => actOuts t

/-- command-line paths the remaining actions may read -/
def actIns : List (Act P) → List P
  | [] => []
  | .run _ i _ :: t => i.paths ++ actIns t
  | .pushLd r :: t => r.paths ++ actIns t
  | _ :: t => actIns t

/-- everything the driver in state `s` may still write lies in `W`, everything it may read in `F ⊇ W` -/
structure Inside (env : Env P) (W F : P → Prop) (s : DState P) : Prop where
  tmp : ∀ p ∈ s.tmpfiles, W p
  fresh : ∀ k p, env.fresh k = some p → W p
  outs : ∀ p ∈ actOuts s.acts, W p
  ins : ∀ p ∈ actIns s.acts, F p
  ld : ∀ p ∈ s.ldArgs, F p
  ph : match s.phase with
       | .waiting _ inp out => (∀ p ∈ inp, F p) ∧ (∀ o, out = some o → W o)
       | .exiting _ todo => ∀ p ∈ todo, W p
       | _ => True
  sub : ∀ p, W p → F p

omit [DecidableEq P] in
theorem resolve_mem {tf : List P} {r : Ref P} {p : P} (h : resolve tf r = some p) :
    p ∈ r.paths ∨ p ∈ tf := by
  cases r with
  | path q => simp [resolve] at h; subst h; left; simp [Ref.paths]
  | tmp i =>
    right
    simp only [resolve] at h
    exact List.mem_of_getElem? h

theorem childEffect_frame (mode : Mode) (prog : Prog) (oc : Outcome) (fs : FS P) (inp : List P)
    (out : Option P) (p : P) (h : ∀ o, out = some o → p ≠ o) :
    (childEffect mode prog oc fs inp out).get p = fs.get p := by
  cases out with
  | none => rfl
  | some o =>
    have hpo := h o rfl
    simp only [childEffect]
    split
    · exact FS.get_set_ne fs _ hpo
    · split
      · rfl
      · split
        · rfl
        · exact FS.get_set_ne fs _ hpo
        · exact FS.get_erase_ne fs hpo
        · rfl

theorem childOut_congr (mode : Mode) (prog : Prog) (fs gs : FS P) (inp : List P)
    (h : ∀ p ∈ inp, fs.get p = gs.get p) : childOut mode prog fs inp = childOut mode prog gs inp := by
  have : inp.flatMap (fun p => fs.origins p) = inp.flatMap (fun p => gs.origins p) := by
    induction inp with
    | nil => rfl
    | cons a r ih =>
      simp only [List.flatMap_cons]
      rw [FS.origins_congr (h a (by simp)), ih (fun p hp => h p (by simp [hp]))]
  simp only [childOut, this]

theorem childEffect_congr (mode : Mode) (prog : Prog) (oc : Outcome) (fs gs : FS P) (inp : List P)
    (out : Option P) (p : P) (hin : ∀ q ∈ inp, fs.get q = gs.get q) (hp : fs.get p = gs.get p) :
    (childEffect mode prog oc fs inp out).get p = (childEffect mode prog oc gs inp out).get p := by
  cases out with
  | none => exact hp
  | some o =>
    simp only [childEffect]
    split
    · rw [FS.get_set, FS.get_set, childOut_congr mode prog fs gs inp hin, hp]
    · split
      · exact hp
      · split
        · exact hp
        · rw [FS.get_set, FS.get_set, hp]
        · rw [FS.get_erase, FS.get_erase, hp]
        · exact hp

/-- the driver's own state never depends on file contents; frame: nothing changes outside the write set; locality: what is
    written inside `F` depends only on the contents inside `F` -/
theorem step_fs (env : Env P) (W F : P → Prop) (s : DState P) (hin : Inside env W F s) (fs gs : FS P) :
    (step env s fs).1 = (step env s gs).1 ∧ (∀ p, ¬ W p → (step env s fs).2.get p = fs.get p) ∧
    ((∀ p, F p → fs.get p = gs.get p) → ∀ p, F p → (step env s fs).2.get p = (step env s gs).2.get p) := by
  have same : ∀ s' : DState P, (s', fs).1 = (s', gs).1 ∧ (∀ p, ¬ W p → (s', fs).2.get p = fs.get p) ∧
      ((∀ p, F p → fs.get p = gs.get p) → ∀ p, F p → (s', fs).2.get p = (s', gs).2.get p) :=
    fun _ => ⟨rfl, fun _ _ => rfl, fun hag p hp => hag p hp⟩
  have hp := hin.ph
  unfold step
  cases hph : s.phase with
  | done c | stuck => exact same s
  | exiting c todo =>
    cases todo with
    | nil => exact same _
    | cons t ts =>
      rw [hph] at hp
      exact ⟨rfl, fun p hnp => FS.get_erase_ne fs fun e => hnp (e ▸ hp t List.mem_cons_self),
        fun hag p hp' => by rw [FS.get_erase, FS.get_erase, hag p hp']⟩
  | waiting prog inp out =>
    rw [hph] at hp
    have k1 := fun p (hnp : ¬ W p) => childEffect_frame env.mode prog (env.sched prog (s.count prog)) fs inp out p
      fun o ho e => hnp (e ▸ hp.2 o ho)
    have k2 := fun (hag : ∀ p, F p → fs.get p = gs.get p) p hp' =>
      childEffect_congr env.mode prog (env.sched prog (s.count prog)) fs gs inp out p (fun q hq => hag q (hp.1 q hq)) (hag p hp')
    simp only [stepWait]
    split
    · exact ⟨rfl, k1, k2⟩
    · exact ⟨rfl, k1, k2⟩
  | run =>
    simp only [stepRun]
    cases ha : s.acts with
    | nil => exact same _
    | cons a r =>
      cases a with
      | mktemp =>
        dsimp only
        cases hf : env.fresh s.nTemp with
        | none => exact same _
        | some t =>
          exact ⟨rfl, fun p hnp => FS.get_set_ne fs _ fun e => hnp (e ▸ hin.fresh _ _ hf),
            fun hag p hp' => by simp only [FS.get_set, hag p hp']⟩
      | run prog inp out => dsimp only; cases resolve s.tmpfiles inp <;> cases resolveOut s.tmpfiles out <;> exact same _
      | pushLd ref => dsimp only; cases resolve s.tmpfiles ref <;> exact same _
      | link o => dsimp only; split <;> exact same _
      | fail why => exact same _

omit [DecidableEq P] in
theorem actOuts_cons (a : Act P) (r : List (Act P)) : actOuts (a :: r) = actOuts [a] ++ actOuts r := by
  cases a with
  | run prog i o => cases o <;> simp [actOuts]
  | _ => simp [actOuts]

omit [DecidableEq P] in
theorem actIns_cons (a : Act P) (r : List (Act P)) : actIns (a :: r) = actIns [a] ++ actIns r := by
  cases a <;> simp [actIns]

omit [DecidableEq P] in
/-- `actOuts` and `actIns` collect action by action, so a fact about the paths of a program is a fact about its actions -/
theorem mem_actOuts {l : List (Act P)} {p : P} : p ∈ actOuts l ↔ ∃ a ∈ l, p ∈ actOuts [a] := by
  induction l with
  | nil => simp [actOuts]
  | cons x r ih => rw [actOuts_cons, List.mem_append, ih]; simp

omit [DecidableEq P] in
theorem mem_actIns {l : List (Act P)} {p : P} : p ∈ actIns l ↔ ∃ a ∈ l, p ∈ actIns [a] := by
  induction l with
  | nil => simp [actIns]
  | cons x r ih => rw [actIns_cons, List.mem_append, ih]; simp

section inside
variable {env : Env P} {W F : P → Prop} {s : DState P} (h : Inside env W F s)
include h
omit [DecidableEq P]

theorem Inside.emit (e : Event P) : Inside env W F (s.emit e) := ⟨h.tmp, h.fresh, h.outs, h.ins, h.ld, h.ph, h.sub⟩

theorem Inside.bump (prog : Prog) : Inside env W F (s.bump prog) := by
  cases prog <;> exact ⟨h.tmp, h.fresh, h.outs, h.ins, h.ld, h.ph, h.sub⟩

theorem Inside.setPhase (ph : Phase P)
    (hph : match ph with
      | .waiting _ inp out => (∀ p ∈ inp, F p) ∧ (∀ o, out = some o → W o)
      | .exiting _ todo => ∀ p ∈ todo, W p
      | _ => True) :
    Inside env W F { s with phase := ph } := ⟨h.tmp, h.fresh, h.outs, h.ins, h.ld, hph, h.sub⟩

theorem Inside.exitWith (code : Nat) : Inside env W F (s.exitWith code) := h.setPhase _ h.tmp

theorem Inside.tail {a : Act P} {r : List (Act P)} (ha : s.acts = a :: r) : Inside env W F { s with acts := r } :=
  ⟨h.tmp, h.fresh, fun p hp => h.outs p (ha ▸ actOuts_cons a r ▸ List.mem_append_right _ hp),
    fun p hp => h.ins p (ha ▸ actIns_cons a r ▸ List.mem_append_right _ hp),
    h.ld, h.ph, h.sub⟩

theorem Inside.pushTmp {t : P} (ht : W t) (n : Nat) : Inside env W F { s with nTemp := n, tmpfiles := s.tmpfiles ++ [t] } := by
  refine ⟨fun q hq => ?_, h.fresh, h.outs, h.ins, h.ld, h.ph, h.sub⟩
  rcases List.mem_append.1 hq with hq | hq
  · exact h.tmp q hq
  · rw [List.mem_singleton.1 hq]; exact ht

theorem Inside.pushLd {p : P} (hp : F p) : Inside env W F { s with ldArgs := s.ldArgs ++ [p] } := by
  refine ⟨h.tmp, h.fresh, h.outs, h.ins, fun q hq => ?_, h.ph, h.sub⟩
  rcases List.mem_append.1 hq with hq | hq
  · exact h.ld q hq
  · rw [List.mem_singleton.1 hq]; exact hp

theorem resolve_inside {r : Ref P} {p : P} (hr : resolve s.tmpfiles r = some p) (hF : ∀ q ∈ r.paths, F q) : F p := by
  rcases resolve_mem hr with hp | hp
  · exact hF p hp
  · exact h.sub p (h.tmp p hp)

end inside

theorem step_inside (env : Env P) (W F : P → Prop) (s : DState P) (fs : FS P) (hin : Inside env W F s) :
    Inside env W F (step env s fs).1 := by
  have hp := hin.ph
  unfold step
  cases hph : s.phase with
  | done c | stuck => exact hin
  | exiting c todo =>
    cases todo with
    | nil => exact (hin.setPhase _ trivial).emit _
    | cons t ts =>
      rw [hph] at hp
      exact (hin.setPhase (.exiting c ts) fun q hq => hp q (List.mem_cons_of_mem _ hq)).emit _
  | waiting prog inp out =>
    simp only [stepWait]
    split
    · exact ((hin.bump prog).emit _).setPhase .run trivial
    · exact ((hin.bump prog).emit _).exitWith 1
  | run =>
    simp only [stepRun]
    cases ha : s.acts with
    | nil => exact hin.exitWith 0
    | cons a r =>
      have hr := hin.tail ha
      have houts := hin.outs
      have hins := hin.ins
      rw [ha] at houts hins
      cases a with
      | mktemp =>
        dsimp only
        cases hf : env.fresh s.nTemp with
        | none => exact (hr.emit _).exitWith 1
        | some t => exact (hr.pushTmp (hin.fresh _ _ hf) _).emit _
      | run prog inp out =>
        dsimp only
        cases hi : resolve s.tmpfiles inp with
        | none => exact hr.setPhase .stuck trivial
        | some i =>
          cases ho : resolveOut s.tmpfiles out with
          | none => exact hr.setPhase .stuck trivial
          | some o =>
            refine (hr.setPhase (.waiting prog [i] o) ⟨?_, ?_⟩).emit _
            · intro q hq
              rw [List.mem_singleton.1 hq]
              exact resolve_inside hin hi fun q hq => hins q (by simp [actIns, hq])
            · intro q hq
              subst hq
              cases out with
              | none => simp [resolveOut] at ho
              | some rf =>
                simp only [resolveOut, Option.map_eq_some_iff] at ho
                obtain ⟨x, hx, hxe⟩ := ho
                injection hxe with hxe
                subst hxe
                rcases resolve_mem hx with h | h
                · exact houts x (by simp [actOuts, h])
                · exact hin.tmp x h
      | pushLd ref =>
        dsimp only
        cases hi : resolve s.tmpfiles ref with
        | none => exact hr.setPhase .stuck trivial
        | some q => exact hr.pushLd (resolve_inside hin hi fun q hq => hins q (by simp [actIns, hq]))
      | link o =>
        dsimp only
        split
        · exact hr
        · exact (hr.setPhase (.waiting .ld s.ldArgs (some o))
            ⟨hin.ld, fun q hq => by injection hq with hq; subst hq; exact houts _ (by simp [actOuts])⟩).emit _
      | fail why => exact (hr.emit _).exitWith 1

/-- `x` is the solo configuration `y` of a driver with footprint `W ⊆ F`, seen in a file system that others write
    outside `F` -/
structure Sim (env : Env P) (W F : P → Prop) (x y : DState P × FS P) : Prop where
  st : x.1 = y.1
  agree : ∀ p, F p → x.2.get p = y.2.get p
  inside : Inside env W F y.1

namespace Sim
variable {env : Env P} {W F : P → Prop} {x y : DState P × FS P} (h : Sim env W F x y)
include h

theorem step : Sim env W F (step env x.1 x.2) (step env y.1 y.2) := by
  have := step_fs env W F y.1 h.inside x.2 y.2
  rw [h.st]
  exact ⟨this.1, this.2.2 h.agree, step_inside env W F y.1 y.2 h.inside⟩

theorem frame (p : P) (hp : ¬ W p) : (DriverProc.step env x.1 x.2).2.get p = x.2.get p := by
  rw [h.st]; exact (step_fs env W F y.1 h.inside x.2 x.2).2.1 p hp

/-- somebody else moved -/
theorem other {fs' : FS P} (hfs : ∀ p, F p → fs'.get p = x.2.get p) : Sim env W F (x.1, fs') y :=
  ⟨h.st, fun p hp => (hfs p hp).trans (h.agree p hp), h.inside⟩

end Sim

/-- the joint configuration projects onto the two solo configurations, and outside both write sets the file system is
    still `fs₀` -/
structure Rel (envA envB : Env P) (WA FA WB FB : P → Prop) (fs₀ : FS P)
    (x : DState P × DState P × FS P) (a b : DState P × FS P) : Prop where
  a : Sim envA WA FA (x.1, x.2.2) a
  b : Sim envB WB FB (x.2.1, x.2.2) b
  frame : ∀ p, ¬ WA p → ¬ WB p → x.2.2.get p = fs₀.get p

theorem istep_rel (envA envB : Env P) (WA FA WB FB : P → Prop) (fs₀ : FS P)
    (hAB : ∀ p, WA p → ¬ FB p) (hBA : ∀ p, WB p → ¬ FA p)
    (x : DState P × DState P × FS P) (a b : DState P × FS P) (c : Bool)
    (h : Rel envA envB WA FA WB FB fs₀ x a b) :
    Rel envA envB WA FA WB FB fs₀ (istep envA envB c x)
      (if c then step envA a.1 a.2 else a) (if c then b else step envB b.1 b.2) := by
  -- the one that moves stays in step with its solo run; the other sees a write outside what it touches
  cases c with
  | true =>
    exact ⟨h.a.step, h.b.other fun p hp => h.a.frame p fun hw => hAB p hw hp,
      fun p ha hb => (h.a.frame p ha).trans (h.frame p ha hb)⟩
  | false =>
    exact ⟨h.a.other fun p hp => h.b.frame p fun hw => hBA p hw hp, h.b.step,
      fun p ha hb => (h.b.frame p hb).trans (h.frame p ha hb)⟩

theorem irun_rel (envA envB : Env P) (WA FA WB FB : P → Prop) (fs₀ : FS P)
    (hAB : ∀ p, WA p → ¬ FB p) (hBA : ∀ p, WB p → ¬ FA p) (il : List Bool) :
    ∀ (x : DState P × DState P × FS P) (a b : DState P × FS P),
      Rel envA envB WA FA WB FB fs₀ x a b →
      Rel envA envB WA FA WB FB fs₀ (irun envA envB il x)
        (iter envA (countB true il) a) (iter envB (countB false il) b) := by
  induction il with
  | nil => intro x a b h; exact h
  | cons c r ih =>
    intro x a b h
    have := ih _ _ _ (istep_rel envA envB WA FA WB FB fs₀ hAB hBA x a b c h)
    cases c <;> simpa [irun, countB, Nat.add_comm 1, iter] using this

omit [DecidableEq P] in
theorem plan_outs (cmd : Cmd P) (n : Nat) (i : Input P) :
    ∀ p ∈ actOuts (plan cmd n i), cmd.mode ≠ .link ∧ isUnit cmd i = true ∧ p = unitOutput cmd i := by
  intro p hp
  -- the loop body by kind of input, `-M`, mode; an output named on the command line occurs only without `-M`, when not linking
  cases hk : effKind cmd.mode i.kind with
  | lib | obj | unknown => rw [plan, hk] at hp; cases hp          -- pushed to `ld_args`, or `error()`: no child
  | asm =>
    cases hd : cmd.depsOnly with
    | true => rw [plan, hk, hd] at hp; cases hp                    -- `-M`: `.s` inputs are skipped
    | false =>
      cases hm : cmd.mode <;> rw [hm] at hk <;> rw [plan, hm, hk, hd] at hp
      case E | S => cases hp                                       -- skipped
      case c =>                                                    -- `assemble(input, output)`
        exact ⟨by decide, by simp [isUnit, hd, hm, hk], List.mem_singleton.1 hp⟩
      case link => simp [actOuts, Ref.paths] at hp                 -- the assembler writes a temporary
  | C =>
    cases hd : cmd.depsOnly with
    | true => rw [plan, hk, hd] at hp; cases hp                    -- `-M`: `run_cc1(input, NULL)`
    | false =>
      cases hm : cmd.mode <;> rw [hm] at hk <;> rw [plan, hm, hk, hd] at hp
      case E =>                                                    -- cc1 itself opens `-o`, if given; then the input is a unit
        cases ho : cmd.out with
        | none => rw [ho] at hp; cases hp
        | some o =>
          rw [ho] at hp
          exact ⟨by decide, by simp [isUnit, hd, hm, hk, ho], by rw [unitOutput, ho]; exact List.mem_singleton.1 hp⟩
      case S =>                                                    -- `run_cc1(input, output)`
        exact ⟨by decide, by simp [isUnit, hd, hm, hk], List.mem_singleton.1 hp⟩
      case c =>                                                    -- cc1 writes a temporary, `assemble(tmp, output)`
        exact ⟨by decide, by simp [isUnit, hd, hm, hk], List.mem_singleton.1 hp⟩
      case link => simp [actOuts, Ref.paths] at hp                 -- both children write temporaries

omit [DecidableEq P] in
theorem plan_ins (cmd : Cmd P) (n : Nat) (i : Input P) : ∀ p ∈ actIns (plan cmd n i), p = i.path := by
  fun_cases plan cmd n i <;> simp [actIns, Ref.paths]

omit [DecidableEq P] in
theorem isUnit_deps {cmd : Cmd P} {u : Input P} (h : isUnit cmd u = true) : cmd.depsOnly = false := by
  unfold isUnit at h
  cases hd : cmd.depsOnly with
  | false => rfl
  | true => simp [hd] at h

omit [DecidableEq P] in
theorem isUnit_not_link {cmd : Cmd P} {u : Input P} (h : isUnit cmd u = true) : cmd.mode ≠ .link := by
  intro hm
  have hd := isUnit_deps h
  unfold isUnit at h
  rw [hm, hd] at h
  cases effKind Mode.link u.kind <;> simp at h

omit [DecidableEq P] in
theorem unitOutput_requested {cmd : Cmd P} {u : Input P} (hu : u ∈ cmd.inputs) (h : isUnit cmd u = true) :
    unitOutput cmd u ∈ requested cmd := by
  unfold requested
  rw [if_neg (by simp [isUnit_deps h]), if_neg (isUnit_not_link h)]
  exact List.mem_map.mpr ⟨u, List.mem_filter.mpr ⟨hu, h⟩, rfl⟩

omit [DecidableEq P] in
/-- the loop's program is made of the loop bodies of its inputs and, when linking, the linker run -/
theorem mem_compileLoop {cmd : Cmd P} {n : Nat} {l : List (Input P)} {a : Act P} (h : a ∈ compileLoop cmd n l) :
    (∃ u ∈ l, ∃ k, a ∈ plan cmd k u) ∨
      ((cmd.mode = .link ∧ cmd.depsOnly = false) ∧ a = .link (cmd.out.getD cmd.aout)) := by
  induction l generalizing n with
  | nil =>
    simp only [compileLoop] at h
    split at h
    · exact .inr ⟨‹_›, List.mem_singleton.mp h⟩
    · cases h
  | cons i r ih =>
    rcases List.mem_append.mp h with h | h
    · exact .inl ⟨i, List.mem_cons_self, n, h⟩
    · exact (ih h).imp_left fun ⟨u, hu, k⟩ => ⟨u, List.mem_cons_of_mem _ hu, k⟩

omit [DecidableEq P] in
theorem mem_compile {cmd : Cmd P} {a : Act P} (h : a ∈ compile cmd) :
    (∃ why, a = .fail why) ∨ (∃ u ∈ cmd.inputs, ∃ k, a ∈ plan cmd k u) ∨
      ((cmd.mode = .link ∧ cmd.depsOnly = false) ∧ a = .link (cmd.out.getD cmd.aout)) := by
  rcases compile_cases cmd with ⟨why, hc⟩ | hc <;> rw [hc] at h
  · exact .inl ⟨why, List.mem_singleton.mp h⟩
  · exact .inr (mem_compileLoop h)

omit [DecidableEq P] in
theorem compile_outs (cmd : Cmd P) : ∀ p ∈ actOuts (compile cmd), p ∈ requested cmd := by
  intro p hp
  obtain ⟨a, ha, hpa⟩ := mem_actOuts.mp hp
  rcases mem_compile ha with ⟨why, rfl⟩ | ⟨u, hu, k, hk⟩ | ⟨⟨hm, hd⟩, rfl⟩
  · cases hpa
  · obtain ⟨-, hun, rfl⟩ := plan_outs cmd k u p (mem_actOuts.mpr ⟨a, hk, hpa⟩)
    exact unitOutput_requested hu hun
  · rw [List.mem_singleton.mp hpa]; simp [requested, hm, hd]

omit [DecidableEq P] in
theorem compile_ins (cmd : Cmd P) : ∀ p ∈ actIns (compile cmd), p ∈ cmd.inputs.map (·.path) := by
  intro p hp
  obtain ⟨a, ha, hpa⟩ := mem_actIns.mp hp
  rcases mem_compile ha with ⟨why, rfl⟩ | ⟨u, hu, k, hk⟩ | ⟨-, rfl⟩
  · cases hpa
  · exact List.mem_map.mpr ⟨u, hu, (plan_ins cmd k u p (mem_actIns.mpr ⟨a, hk, hpa⟩)).symm⟩
  · cases hpa

omit [DecidableEq P] in
theorem init_inside (env : Env P) (cmd : Cmd P) :
    Inside env (Writes env cmd) (Touches env cmd) (init cmd) where
  tmp := by simp [init]
  fresh := fun k p h => Or.inr ⟨k, h⟩
  outs := fun p hp => Or.inl (compile_outs cmd p hp)
  ins := fun p hp => Or.inr (compile_ins cmd p hp)
  ld := by simp [init]
  ph := by simp [init]
  sub := fun p h => Or.inl h

theorem irun_init (envA envB : Env P) (cmdA cmdB : Cmd P) (fs : FS P) (il : List Bool)
    (hAB : ∀ p, Writes envA cmdA p → ¬ Touches envB cmdB p) (hBA : ∀ p, Writes envB cmdB p → ¬ Touches envA cmdA p) :
    Rel envA envB (Writes envA cmdA) (Touches envA cmdA) (Writes envB cmdB) (Touches envB cmdB) fs
      (irun envA envB il (init cmdA, init cmdB, fs))
      (iter envA (countB true il) (init cmdA, fs)) (iter envB (countB false il) (init cmdB, fs)) :=
  irun_rel envA envB _ _ _ _ fs hAB hBA il _ _ _
    ⟨⟨rfl, fun _ _ => rfl, init_inside envA cmdA⟩, ⟨rfl, fun _ _ => rfl, init_inside envB cmdB⟩, fun _ _ _ => rfl⟩

end ChibiVerif.DriverProc
