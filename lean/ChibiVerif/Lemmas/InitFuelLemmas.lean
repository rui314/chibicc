/-
C05: the fuel of the parser transcription never changes an answer.  `Le r r'` says "`r` ran out of fuel, or `r = r'`"; it is
`Except.Rel` with the budget error `.fuel` at equality, and `Mono` is the parser's parametricity (Lemmas/InitParLemmas.lean) for
equal trees and the budgets `f`, `f+1`; for budgets `f ≤ g` the fuel lemmas read `par_le` off directly.
-/
import ChibiVerif.Lemmas.InitParLemmas

namespace ChibiVerif.Init
open Except (Rel)

/-- `r'` is what more fuel makes of `r`: running out of fuel may turn into anything, any other outcome is final -/
def Le {α : Type} (r r' : Except Fail α) : Prop := r = .error .fuel ∨ r = r'

theorem Le.ok {α : Type} {x y : Except Fail α} {a : α} (h : Le x y) (hx : x = .ok a) : y = .ok a := by
  rcases h with h | h
  · rw [hx] at h; cases h
  · rw [← h, hx]

theorem Le.of_rel {α : Type} {r r' : Except Fail α} (h : Rel (some .fuel) Eq r r') : Le r r' := Rel.eq_iff.1 h

theorem Le.refl {α : Type} (r : Except Fail α) : Le r r := Or.inr rfl

theorem Le.trans {α : Type} {a b c : Except Fail α} (h1 : Le a b) (h2 : Le b c) : Le a c := by
  rcases h1 with h | h
  · exact Or.inl h
  · subst h; exact h2

theorem Le.bind {α β : Type} {x x' : Except Fail α} {k k' : α → Except Fail β} (h : Le x x') (hk : ∀ a, Le (k a) (k' a)) :
    Le (x >>= k) (x' >>= k') :=
  .of_rel (Rel.bind_eq (Rel.eq_iff.2 h) fun a => Rel.eq_iff.2 (hk a))

theorem Le.foldlM {α β : Type} {s s' : β → α → Except Fail β} (h : ∀ b a, Le (s b a) (s' b a)) (l : List α) (b : β) :
    Le (l.foldlM s b) (l.foldlM s' b) :=
  .of_rel (Rel.foldlM (fun b _ a e => e ▸ Rel.eq_iff.2 (h b a)) l b b rfl)

theorem Le.ite {α : Type} {c : Prop} [Decidable c] {a a' b b' : Except Fail α} (h1 : c → Le a a') (h2 : ¬ c → Le b b') :
    Le (if c then a else b) (if c then a' else b') :=
  .of_rel (Rel.ite (fun hc => Rel.eq_iff.2 (h1 hc)) fun hc => Rel.eq_iff.2 (h2 hc))

def TreeRel.eq : TreeRel where
  R := Eq
  refl := fun _ => rfl
  setChild := fun _ h1 h2 => h1 ▸ h2 ▸ rfl
  setExpr := fun _ h => h ▸ rfl
  setMem := fun _ h => h ▸ rfl
  length := fun h => h ▸ rfl
  getChild := fun _ h => h ▸ Rel.of_eq rfl
  flex := fun h => h ▸ Iff.rfl
  mem := fun {a _} _ _ _ _ h => by subst h; cases a <;> rfl
  str := fun _ _ _ _ h => h ▸ Rel.refl (fun _ => ⟨rfl, rfl⟩) _

theorem Le.of_pair {r r' : P} (h : Rel (some .fuel) TreeRel.eq.P r r') : Le r r' :=
  .of_rel (h.mono fun _ _ h => Prod.ext h.1 h.2)

/-- One more unit of fuel, all functions of the block at once: the parser's parametricity (`Par`) for equal trees and the budgets
    `f`, `f+1`, in the vocabulary of `Le` (`mono_all`).  Nothing reads its fields: the fuel lemmas below take any two budgets
    `f ≤ g` from `par_le` at once. -/
structure Mono (f : Nat) : Prop where
  designation : ∀ ty toks init, Le (designation f ty toks init) (designation (f+1) ty toks init)
  countLoop : ∀ elem toks d i mx first, Le (countLoop f elem toks d i mx first) (countLoop (f+1) elem toks d i mx first)
  countArrayInit : ∀ elem toks, Le (countArrayInit f elem toks) (countArrayInit (f+1) elem toks)
  arrayInit1Loop : ∀ elem toks init i first, Le (arrayInit1Loop f elem toks init i first) (arrayInit1Loop (f+1) elem toks init i first)
  arrayInit1 : ∀ elem toks init, Le (arrayInit1 f elem toks init) (arrayInit1 (f+1) elem toks init)
  arrayInit2Loop : ∀ elem toks init i, Le (arrayInit2Loop f elem toks init i) (arrayInit2Loop (f+1) elem toks init i)
  arrayInit2 : ∀ elem toks init i, Le (arrayInit2 f elem toks init i) (arrayInit2 (f+1) elem toks init i)
  structInit1Loop : ∀ ms toks init mem first, Le (structInit1Loop f ms toks init mem first) (structInit1Loop (f+1) ms toks init mem first)
  structInit1 : ∀ ms toks init, Le (structInit1 f ms toks init) (structInit1 (f+1) ms toks init)
  structInit2 : ∀ ms toks init mem first, Le (structInit2 f ms toks init mem first) (structInit2 (f+1) ms toks init mem first)
  unionRest : ∀ ms toks init, Le (unionRest f ms toks init) (unionRest (f+1) ms toks init)
  unionInit : ∀ ms toks init, Le (unionInit f ms toks init) (unionInit (f+1) ms toks init)
  initializer2 : ∀ ty toks init, Le (initializer2 f ty toks init) (initializer2 (f+1) ty toks init)

theorem mono_all (f : Nat) : Mono f :=
  have h := par_le TreeRel.eq f 1
  { designation := fun _ _ _ => .of_pair (h.designation _ _ _ _ rfl)
    countLoop := fun _ _ _ _ _ _ => .of_rel (h.countLoop _ _ _ _ _ _ _ rfl)
    countArrayInit := fun _ _ => .of_rel (h.countArrayInit _ _)
    arrayInit1Loop := fun _ _ _ _ _ => .of_pair (h.arrayInit1Loop _ _ _ _ _ _ rfl)
    arrayInit1 := fun _ _ _ => .of_pair (h.arrayInit1 _ _ _ _ rfl)
    arrayInit2Loop := fun _ _ _ _ => .of_pair (h.arrayInit2Loop _ _ _ _ _ rfl)
    arrayInit2 := fun _ _ _ _ => .of_pair (h.arrayInit2 _ _ _ _ _ rfl)
    structInit1Loop := fun _ _ _ _ _ => .of_pair (h.structInit1Loop _ _ _ _ _ _ rfl)
    structInit1 := fun _ _ _ => .of_pair (h.structInit1 _ _ _ _ rfl)
    structInit2 := fun _ _ _ _ _ => .of_pair (h.structInit2 _ _ _ _ _ _ rfl)
    unionRest := fun _ _ _ => .of_pair (h.unionRest _ _ _ _ rfl rfl)
    unionInit := fun _ _ _ => .of_pair (h.unionInit _ _ _ _ rfl)
    initializer2 := fun _ _ _ => .of_pair (h.initializer2 _ _ _ _ rfl) }

theorem initializer2_fuel_mono (ty : Ty) (toks : List ITok) (init : Init) :
    ∀ (f g : Nat), f ≤ g → Le (initializer2 f ty toks init) (initializer2 g ty toks init) := by
  intro f g h
  obtain ⟨d, rfl⟩ := Nat.exists_eq_add_of_le h
  exact .of_pair ((par_le TreeRel.eq f d).initializer2 _ _ _ _ rfl)

theorem designation_fuel_mono (ty : Ty) (toks : List ITok) (init : Init) :
    ∀ (f g : Nat), f ≤ g → Le (designation f ty toks init) (designation g ty toks init) := by
  intro f g h
  obtain ⟨d, rfl⟩ := Nat.exists_eq_add_of_le h
  exact .of_pair ((par_le TreeRel.eq f d).designation _ _ _ _ rfl)

end ChibiVerif.Init
