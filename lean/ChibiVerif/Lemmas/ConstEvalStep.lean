/- The generated folder of C07 as one step per node: `intArm`, `dblArm`, `constArm` say what `eval3`, `eval_double2` and
   `is_const_expr` do with a node, with `eval_truth` (`truth`), the comparison ladder (`cmpArm`) and the host operation (`binRaw`)
   named and the recursive calls left standing; `eval2_int`, `evalDouble_flt`, `isConst_mk` (with `evalDouble_integer`, `eval2_flonum`
   for the crossing between the two folders) are all that is proved by unfolding the generated mutual definition.  Also here, because
   the statements of Props/C07 use them: the kind lists `arithKinds`, `cmpKinds`, `farithKinds` (and `fkinds`, through `ArithTyped`), and the
   host contract `FpZeroExact`. -/
import ChibiVerif.Gen.ConstEvalGen

namespace ChibiVerif.ConstEvalLemmas
open ChibiVerif.Host ChibiVerif.Gen.ConstEval


/-- the wrapper at the end of `eval2`: reduce the host value to the width and signedness of the node's type -/
def wrapTy (ty : CTy) (v : BitVec 64) : BitVec 64 :=
  if isInteger ty then
    if ty.size == 1#32 then (if ty.isUnsigned then castU 64 (castS 8 v) else castS 64 (castS 8 v))
    else if ty.size == 2#32 then (if ty.isUnsigned then castU 64 (castS 16 v) else castS 64 (castS 16 v))
    else if ty.size == 4#32 then (if ty.isUnsigned then castU 64 (castS 32 v) else castS 64 (castS 32 v))
    else v
  else v

/-- `eval_double(n) != 0` as inlined (the truth value of a floating operand) -/
def fpTruth (h : HostMode) (fp : FpEnv) (n : CNode) : Except Fail Bool :=
  (evalDouble h fp n) >>= fun d => pure (!(fp.eq80 d (fp.i32to80 (0#32))))

/-- `eval_truth` as inlined at its call sites (the generated `evalTruth` is the same term: `truth_eq_evalTruth`) -/
def truth (h : HostMode) (fp : FpEnv) (n : CNode) : Except Fail Bool :=
  (CNode.tyOf n) >>= fun t => if (isFlonum t) then (fpTruth h fp n) else ((eval2 h fp n false) >>= fun v => pure (v != (0#64)))

theorem truth_eq_evalTruth (h : HostMode) (fp : FpEnv) (n : CNode) : truth h fp n = evalTruth h fp n := rfl

/-- the diagnostic of the default arm of `eval3` -/
def ncc : String := "not a compile-time constant"

theorem bind_congr2 {α β : Type} {x y : Except Fail α} {f g : α → Except Fail β} (hx : x = y) (hf : ∀ a, f a = g a) :
    x >>= f = y >>= g := by rw [hx, funext hf]

variable (h : HostMode) (fp : FpEnv) {ty : CTy} {nv : BitVec 64} {fv : BitVec 80} {l r c t e : CNode} {label : Bool}

theorem eval2_null : eval2 h fp .null label = .error (.crash "NULL node dereferenced") := by rw [eval2.eq_def]

/-- the kinds whose arm is `lhs = eval…(node->lhs); return lhs OP eval(node->rhs)` on two `int64_t` -/
def arithKinds : List NodeKind :=
  [.ND_ADD, .ND_SUB, .ND_MUL, .ND_DIV, .ND_MOD, .ND_BITAND, .ND_BITOR, .ND_BITXOR, .ND_SHL, .ND_SHR]
/-- the comparison kinds (integer or floating operands, result `int`) -/
def cmpKinds : List NodeKind := [.ND_EQ, .ND_NE, .ND_LT, .ND_LE]
/-- the four kinds `eval_double2` folds with two operands (`fkinds` below: all nine it folds) -/
def farithKinds : List NodeKind := [.ND_ADD, .ND_SUB, .ND_MUL, .ND_DIV]

/-- only `+` and `-` hand the relocation label to their left operand (`eval2(node->lhs, label)`) -/
def leftLabel (k : NodeKind) (label : Bool) : Bool := if k = .ND_ADD ∨ k = .ND_SUB then label else false

/-- the `ND_DIV`/`ND_MOD` arm after both operands are evaluated -/
def divmod (h : HostMode) (isDiv : Bool) (ty : CTy) (a b : BitVec 64) : Except Fail (BitVec 64) :=
  if b == 0#64 then .error (.diag "division by zero in a constant expression")
  else if ty.isUnsigned then (if isDiv then divU h a b else modU h a b)
  else if b == 18446744073709551615#64 then pure (if isDiv then -a else 0#64)
  else (if isDiv then divS h a b else modS h a b)

/-- what the arm of a kind in `arithKinds` does with its two evaluated operands -/
def binRaw (h : HostMode) (k : NodeKind) (ty : CTy) (a b : BitVec 64) : Except Fail (BitVec 64) :=
  match k with
  | .ND_ADD => addS h a b
  | .ND_SUB => subS h a b
  | .ND_MUL => mulS h a b
  | .ND_DIV => divmod h true ty a b
  | .ND_MOD => divmod h false ty a b
  | .ND_BITAND => pure (a &&& b)
  | .ND_BITOR => pure (a ||| b)
  | .ND_BITXOR => pure (a ^^^ b)
  | .ND_SHL => shlS h a b.toInt
  | .ND_SHR => if ty.isUnsigned && ty.size == 8#32 then shrU h a b.toInt else shrS h a b.toInt
  | _ => pure a

/-- comparison arms: `cf` is the host comparison of two long doubles (floating operands), `cu`/`cs` are the unsigned / signed
    host comparisons of two `int64_t`; EQ and NE do not look at signedness.  The left operand is evaluated first. -/
def cmpArm (h : HostMode) (fp : FpEnv) (cf : BitVec 80 → BitVec 80 → Bool) (cu cs : BitVec 64 → BitVec 64 → Bool) (l r : CNode) : Except Fail (BitVec 64) :=
  (CNode.tyOf l) >>= fun tl =>
    if isFlonum tl then (evalDouble h fp l >>= fun a => evalDouble h fp r >>= fun b => pure (castS 64 (b2i (cf a b))))
    else if tl.isUnsigned then (eval2 h fp l false >>= fun a => eval2 h fp r false >>= fun b => pure (castS 64 (b2i (cu a b))))
    else (eval2 h fp l false >>= fun a => eval2 h fp r false >>= fun b => pure (castS 64 (b2i (cs a b))))

/-- the three comparisons of a kind in `cmpKinds`: of two `long double`, of two unsigned and of two signed `int64_t` -/
def cmpOps (fp : FpEnv) :
    NodeKind → (BitVec 80 → BitVec 80 → Bool) × (BitVec 64 → BitVec 64 → Bool) × (BitVec 64 → BitVec 64 → Bool)
  | .ND_EQ => (fp.eq80, (· == ·), (· == ·))
  | .ND_NE => (fun a b => !(fp.eq80 a b), (· != ·), (· != ·))
  | .ND_LT => (fp.lt80, BitVec.ult, BitVec.slt)
  | _ => (fp.le80, BitVec.ule, BitVec.sle)

/-- `<` and `<=` read `node->lhs->ty` a second time, after the left operand is evaluated -/
theorem cmpArm_reread (l r : CNode) (cf : BitVec 80 → BitVec 80 → Bool) (cu cs : BitVec 64 → BitVec 64 → Bool) :
    (CNode.tyOf l >>= fun tl =>
      if isFlonum tl then (evalDouble h fp l >>= fun a => evalDouble h fp r >>= fun b => pure (castS 64 (b2i (cf a b))))
      else eval2 h fp l false >>= fun a => CNode.tyOf l >>= fun tl' =>
        if tl'.isUnsigned then eval2 h fp r false >>= fun b => pure (castS 64 (b2i (cu a b)))
        else eval2 h fp r false >>= fun b => pure (castS 64 (b2i (cs a b)))) = cmpArm h fp cf cu cs l r := by
  cases l with
  | null => rfl
  | mk k2 t2 v2 f2 a2 b2 c2 d2 e2 =>
    simp only [cmpArm, CNode.tyOf, bind, Except.bind]
    split
    · rfl
    · cases eval2 h fp (CNode.mk k2 t2 v2 f2 a2 b2 c2 d2 e2) false <;> (cases t2.isUnsigned <;> rfl)

/-- **one step of `eval3`** on a node of integer type, before the wrapper: `eval_truth` (`truth`), the comparison ladder
    (`cmpArm`) and the host operation (`binRaw`) named, the recursive calls left standing.  Address constants are outside the
    model (`unmodelled`); every kind the folder does not fold is "not a compile-time constant". -/
def intArm (h : HostMode) (fp : FpEnv) (k : NodeKind) (ty : CTy) (nv : BitVec 64) (l r c t e : CNode) (label : Bool) :
    Except Fail (BitVec 64) :=
  match k with
  | .ND_ADD | .ND_SUB | .ND_MUL | .ND_DIV | .ND_MOD | .ND_BITAND | .ND_BITOR | .ND_BITXOR | .ND_SHL | .ND_SHR =>
    eval2 h fp l (leftLabel k label) >>= fun a => eval2 h fp r false >>= fun b => binRaw h k ty a b
  | .ND_EQ | .ND_NE | .ND_LT | .ND_LE => cmpArm h fp (cmpOps fp k).1 (cmpOps fp k).2.1 (cmpOps fp k).2.2 l r
  | .ND_NEG => eval2 h fp l false >>= fun a => negS h a
  | .ND_BITNOT => eval2 h fp l false >>= fun a => pure (~~~a)
  | .ND_NOT => truth h fp l >>= fun b => pure (castS 64 (b2i (!b)))
  | .ND_LOGAND => truth h fp l >>= fun a => (if a then truth h fp r else pure false) >>= fun b => pure (castS 64 (b2i b))
  | .ND_LOGOR => truth h fp l >>= fun a => (if a then pure true else truth h fp r) >>= fun b => pure (castS 64 (b2i b))
  | .ND_COND => truth h fp c >>= fun b => if b then eval2 h fp t label else eval2 h fp e label
  | .ND_COMMA => eval2 h fp r label
  | .ND_CAST =>
    if ty.kind == TypeKind.TY_BOOL then
      CNode.tyOf l >>= fun tl =>
        if isFlonum tl then fpTruth h fp l >>= fun b => pure (castS 64 (b2i b))
        else eval2 h fp l label >>= fun a => pure (castS 64 (b2i (a != 0#64)))
    else
      CNode.tyOf l >>= fun tl =>
        if (isFlonum tl && ty.isUnsigned) && (ty.size == 8#32) then evalDouble h fp l >>= fun d => cvtU64 h fp d
        else eval2 h fp l label
  | .ND_NUM => pure nv
  | .ND_ADDR => .error (.unmodelled "address constant (&x)")
  | .ND_LABEL_VAL => if !label then .error (.diag ncc) else .error (.unmodelled "address constant (&&label)")
  | .ND_MEMBER =>
    if !label then .error (.diag ncc) else if ty.kind != TypeKind.TY_ARRAY then .error (.diag "invalid initializer")
    else .error (.unmodelled "address constant (member)")
  | .ND_VAR => if !label then .error (.diag ncc) else .error (.unmodelled "address constant (variable)")
  | _ => .error (.diag ncc)

theorem eval2_int {k : NodeKind} (hf : isFlonum ty = false) :
    eval2 h fp (.mk k ty nv fv l r c t e) label = (intArm h fp k ty nv l r c t e label >>= fun v => pure (wrapTy ty v)) := by
  rw [eval2.eq_def]
  simp only [hf, Bool.false_eq_true, ite_false]
  refine bind_congr2 ?_ fun v => by simp only [wrapTy, apply_ite (pure : BitVec 64 → Except Fail (BitVec 64))]
  cases k
  case ND_LT => exact cmpArm_reread h fp l r fp.lt80 BitVec.ult BitVec.slt
  case ND_LE => exact cmpArm_reread h fp l r fp.le80 BitVec.ule BitVec.sle
  -- the generated arm distributes the choice of `>>`, `==`, `!=` over the evaluation of the right operand
  case ND_SHR => simp only [intArm, binRaw]; split <;> rfl
  case ND_EQ | ND_NE => simp only [intArm, cmpArm, cmpOps, ite_self]
  case ND_CAST => simp only [intArm, fpTruth, bind_assoc, pure_bind]
  all_goals rfl

theorem eval2_arith (hf : isFlonum ty = false) (k : NodeKind) (hk : k ∈ arithKinds) :
    eval2 h fp (.mk k ty nv fv l r c t e) label
      = ((eval2 h fp l (leftLabel k label) >>= fun a => eval2 h fp r false >>= fun b => binRaw h k ty a b)
          >>= fun v => pure (wrapTy ty v)) := by
  rw [eval2_int h fp hf]
  simp only [arithKinds, List.mem_cons, List.mem_nil_iff, or_false] at hk
  rcases hk with rfl | rfl | rfl | rfl | rfl | rfl | rfl | rfl | rfl | rfl <;> rfl

theorem eval2_cmp (hf : isFlonum ty = false) (k : NodeKind) (hk : k ∈ cmpKinds) :
    eval2 h fp (.mk k ty nv fv l r c t e) label
      = (cmpArm h fp (cmpOps fp k).1 (cmpOps fp k).2.1 (cmpOps fp k).2.2 l r >>= fun v => pure (wrapTy ty v)) := by
  rw [eval2_int h fp hf]
  simp only [cmpKinds, List.mem_cons, List.mem_nil_iff, or_false] at hk
  rcases hk with rfl | rfl | rfl | rfl <;> rfl

theorem flonum_not_integer (ty : CTy) (hf : isFlonum ty = true) : isInteger ty = false := by
  obtain ⟨k, s, u⟩ := ty
  cases k <;> simp_all [isFlonum, isInteger]

theorem integer_not_flonum (ty : CTy) (hi : isInteger ty = true) : isFlonum ty = false := by
  cases hf : isFlonum ty
  · rfl
  · rw [flonum_not_integer ty hf] at hi; cases hi

/-- `eval_double`'s final conversion of the folded `long double` to the format of the node's type -/
def roundTy (fp : FpEnv) (ty : CTy) (v : BitVec 80) : BitVec 80 :=
  if ty.kind == TypeKind.TY_FLOAT then fp.f32to80 (fp.f80to32 v)
  else if ty.kind == TypeKind.TY_DOUBLE then fp.f64to80 (fp.f80to64 v)
  else v

/-- `FOLD_FLONUM(op)`: the operation carried out in the format of the node's type -/
def foldFlonum (fp : FpEnv) (ty : CTy) (o32 : BitVec 32 → BitVec 32 → BitVec 32) (o64 : BitVec 64 → BitVec 64 → BitVec 64)
    (o80 : BitVec 80 → BitVec 80 → BitVec 80) (a b : BitVec 80) : BitVec 80 :=
  if ty.kind == TypeKind.TY_FLOAT then fp.f32to80 (o32 (fp.f80to32 a) (fp.f80to32 b))
  else if ty.kind == TypeKind.TY_DOUBLE then fp.f64to80 (o64 (fp.f80to64 a) (fp.f80to64 b))
  else o80 a b

theorem ite_bind_pure {α β : Type} (c : Prop) [Decidable c] (A : Except Fail α) (f g : α → β) :
    (if c then A >>= fun t => pure (f t) else A >>= fun t => pure (g t)) = A >>= fun v => pure (if c then f v else g v) := by
  split <;> rfl

theorem evalDouble_integer (k : NodeKind) (hi : isInteger ty = true) :
    evalDouble h fp (.mk k ty nv fv l r c t e)
      = (eval2 h fp (.mk k ty nv fv l r c t e) false >>= fun v => pure (if ty.isUnsigned then fp.u64to80 v else fp.i64to80 v)) := by
  have hf : ¬ isFlonum ty = true := by rw [integer_not_flonum ty hi]; exact Bool.false_ne_true
  -- `eval_double` holds the body of `eval2` inlined in both branches on signedness: unfold both, take the integer branches
  -- by rewriting (`simp` or `split` would traverse both 500-line bodies), and what is left is the two copies side by side
  rw [evalDouble.eq_def, eval2.eq_def]
  dsimp only
  rw [if_pos hi, if_neg (c := isFlonum ty = true) hf, if_neg (c := isFlonum ty = true) hf]
  exact ite_bind_pure _ _ _ _

theorem eval2_flonum (k : NodeKind) (hf : isFlonum ty = true) :
    eval2 h fp (.mk k ty nv fv l r c t e) label = (evalDouble h fp (.mk k ty nv fv l r c t e) >>= fun d => cvtI64 h fp d) := by
  have hi := flonum_not_integer ty hf
  rw [eval2.eq_def, evalDouble.eq_def]
  simp only [hf, hi, ite_true, Bool.false_eq_true, ite_false]
  exact bind_pure _

theorem evalDouble_null : evalDouble h fp .null = .error (.crash "NULL node dereferenced") := by rw [evalDouble.eq_def]

/-- the `long double` operation of a kind in `farithKinds`, carried out in the format of the node's type -/
def fltRaw (fp : FpEnv) (k : NodeKind) (ty : CTy) : BitVec 80 → BitVec 80 → BitVec 80 :=
  match k with
  | .ND_ADD => foldFlonum fp ty fp.add32 fp.add64 fp.add80
  | .ND_SUB => foldFlonum fp ty fp.sub32 fp.sub64 fp.sub80
  | .ND_MUL => foldFlonum fp ty fp.mul32 fp.mul64 fp.mul80
  | _ => foldFlonum fp ty fp.div32 fp.div64 fp.div80

/-- **one step of `eval_double2`** on a node of floating type, before the rounding to the format of its type -/
def dblArm (h : HostMode) (fp : FpEnv) (k : NodeKind) (ty : CTy) (fv : BitVec 80) (l r c t e : CNode) : Except Fail (BitVec 80) :=
  match k with
  | .ND_ADD | .ND_SUB | .ND_MUL | .ND_DIV =>
    evalDouble h fp l >>= fun a => evalDouble h fp r >>= fun b => pure (fltRaw fp k ty a b)
  | .ND_NEG => evalDouble h fp l >>= fun a => pure (fp.neg80 a)
  | .ND_COND => fpTruth h fp c >>= fun b => if b then evalDouble h fp t else evalDouble h fp e
  | .ND_COMMA => evalDouble h fp r
  | .ND_CAST => evalDouble h fp l
  | .ND_NUM => pure fv
  | _ => .error (.diag ncc)

theorem evalDouble_flt {k : NodeKind} (hi : isInteger ty = false) :
    evalDouble h fp (.mk k ty nv fv l r c t e) = (dblArm h fp k ty fv l r c t e >>= fun v => pure (roundTy fp ty v)) := by
  rw [evalDouble.eq_def]
  simp only [hi, Bool.false_eq_true, ite_false]
  refine bind_congr2 ?_ fun v => by simp only [roundTy, apply_ite (pure : BitVec 80 → Except Fail (BitVec 80))]
  cases k
  case ND_COND => simp only [dblArm, fpTruth, bind_assoc, pure_bind]
  all_goals rfl

theorem evalDouble_farith (hi : isInteger ty = false) (k : NodeKind) (hk : k ∈ farithKinds) :
    evalDouble h fp (.mk k ty nv fv l r c t e)
      = ((evalDouble h fp l >>= fun a => evalDouble h fp r >>= fun b => pure (fltRaw fp k ty a b))
          >>= fun v => pure (roundTy fp ty v)) := by
  rw [evalDouble_flt h fp hi]
  simp only [farithKinds, List.mem_cons, List.mem_nil_iff, or_false] at hk
  rcases hk with rfl | rfl | rfl | rfl <;> rfl

/-- all nine kinds `eval_double2` folds (`farithKinds` above: the four with two operands) -/
def fkinds : List NodeKind := [.ND_ADD, .ND_SUB, .ND_MUL, .ND_DIV, .ND_NEG, .ND_COND, .ND_COMMA, .ND_CAST, .ND_NUM]

section
variable (ty : CTy) (nv : BitVec 64) (fv : BitVec 80) (l r c t e : CNode)
/-- every other kind of a node of non-integer type is "not a compile-time constant" -/
theorem evalDouble_other (k : NodeKind) (hk : k ∉ fkinds) (hi : isInteger ty = false) :
    evalDouble h fp (.mk k ty nv fv l r c t e) = .error (.diag "not a compile-time constant") := by
  rw [evalDouble_flt h fp hi]
  cases k <;> first | rfl | exact absurd (by decide) hk
end

/-- **one step of `is_const_expr`** -/
def constArm (h : HostMode) (fp : FpEnv) (k : NodeKind) (l r c t e : CNode) : Except Fail Bool :=
  match k with
  | .ND_ADD | .ND_SUB | .ND_MUL | .ND_DIV | .ND_MOD | .ND_BITAND | .ND_BITOR | .ND_BITXOR | .ND_SHL | .ND_SHR
  | .ND_EQ | .ND_NE | .ND_LT | .ND_LE => isConstExpr h fp l >>= fun x => if x then isConstExpr h fp r else pure false
  -- `&&`, `||`: the right operand is looked at only when it is evaluated (C11 6.6p3)
  | .ND_LOGAND => isConstExpr h fp l >>= fun x => if !x then pure false else
      truth h fp l >>= fun b => if !b then pure true else isConstExpr h fp r
  | .ND_LOGOR => isConstExpr h fp l >>= fun x => if !x then pure false else
      truth h fp l >>= fun b => if b then pure true else isConstExpr h fp r
  | .ND_COND => isConstExpr h fp c >>= fun x => if !x then pure false else
      truth h fp c >>= fun b => if b then isConstExpr h fp t else isConstExpr h fp e
  | .ND_COMMA => isConstExpr h fp r
  | .ND_NEG | .ND_NOT | .ND_BITNOT | .ND_CAST => isConstExpr h fp l
  | .ND_NUM => pure true
  | _ => pure false

theorem isConst_mk (k : NodeKind) :
    isConstExpr h fp (.mk k ty nv fv l r c t e) = constArm h fp k l r c t e := by
  rw [isConstExpr.eq_def]; cases k <;> rfl

theorem isConst_null : isConstExpr h fp .null = .error (.crash "NULL node dereferenced") := by rw [isConstExpr]

/-- what the folder needs of the host so that `eval_double(cond) ? …` (eval_double2) and `eval_truth(cond)` (is_const_expr)
    select the same operand when `cond` has integer type: the `long double` made from an `int64_t` / `uint64_t` compares
    equal to zero exactly when the integer is zero -/
structure FpZeroExact (fp : FpEnv) : Prop where
  i64zero : ∀ v, fp.eq80 (fp.i64to80 v) (fp.i32to80 (0#32)) = (v == 0#64)
  u64zero : ∀ v, fp.eq80 (fp.u64to80 v) (fp.i32to80 (0#32)) = (v == 0#64)

end ChibiVerif.ConstEvalLemmas
