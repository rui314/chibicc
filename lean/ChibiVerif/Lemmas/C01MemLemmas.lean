/-
C01: sign- or zero-extending loads and truncating stores (codegen.c `load`, `store`) against byte-addressed memory: `MemHolds`
read through `Low` (`memHolds_def`, with `widthOf t` the width at which an object of type `t` is read), `load_ok` (re-extension of
what is read), `store_at` (the truncating store: value and exactly the bytes written; `store_ok` its value part).
-/
import ChibiVerif.Lemmas.C01Lemmas
import ChibiVerif.Lemmas.X86MemLemmas

namespace ChibiVerif.C01
open ChibiVerif.X86 ChibiVerif.Asm ChibiVerif.Spec.IntSpec ChibiVerif.Gen.CommonType ChibiVerif.C01Codegen

theorem read8_write8_ne (s : State) (a b : BitVec 64) (v : BitVec 8) (h : b ≠ a) : (s.write8 a v).read8 b = s.read8 b := by
  simp [State.read8, State.write8, h]

/-- the object of type `t` at address `a` holds the value `v` (little endian, two's complement; `_Bool`: the byte 0 or 1) -/
def MemHolds (t : ITy) (s : State) (a : BitVec 64) (v : Int) : Prop :=
  t.inRange v ∧
  match t with
  | .bool | .i8 | .u8 => ((s.read8 a).toNat : Int) = v % 256
  | .i16 | .u16 => ((s.read16 a).toNat : Int) = v % 65536
  | .i32 | .u32 => ((s.read32 a).toNat : Int) = v % 4294967296
  | .i64 | .u64 => ((s.read64 a).toNat : Int) = v % 18446744073709551616

theorem size_le8 (t : ITy) : t.size ≤ 8 := by cases t <;> decide

/-- the width at which an object of type `t` is read and written -/
def widthOf : ITy → W
  | .bool | .i8 | .u8 => .w8 | .i16 | .u16 => .w16 | .i32 | .u32 => .w32 | .i64 | .u64 => .w64

theorem widthOf_bytes (t : ITy) : (widthOf t).bytes = t.size := by cases t <;> rfl

/-- a `k`-bit quantity, as a word, has the value in its low bits iff it is the value's residue -/
theorem low_zext_iff {k : Nat} {b : BitVec k} {v : Int} (hk : k ≤ 64) :
    Low k (b.setWidth 64) v ↔ (b.toNat : Int) = v % (2 ^ k : Nat) := by
  rw [low_iff, BitVec.toNat_setWidth_of_le hk, Nat.mod_eq_of_lt b.isLt]

/-- memory like a register (`represents_def`): in range, and what is read at the type's width has the value in its low bits -/
theorem memHolds_def {t : ITy} {s : State} {a : BitVec 64} {v : Int} :
    MemHolds t s a v ↔ t.inRange v ∧ Low (widthOf t).bits ((s.readW a (widthOf t)).setWidth 64) v := by
  cases t <;> exact and_congr_right fun _ => (low_zext_iff (by decide)).symm

/-- `MemHolds t · a` looks at the `sizeof t` bytes at `a` only (`memHolds_congr`, Lemmas/C01Frame.lean, and `memHolds_congr_sz`,
    Lemmas/C01Machine.lean, are this fact with the hypothesis in the two forms their callers have) -/
theorem memHolds_congr_size (t : ITy) (s s' : State) (a : BitVec 64) (v : Int)
    (h : ∀ k : Nat, k < t.size → s'.mem (a + BitVec.ofNat 64 k) = s.mem (a + BitVec.ofNat 64 k)) (hm : MemHolds t s a v) :
    MemHolds t s' a v := by
  rw [memHolds_def, s.readW_congr s' a _ (by rwa [widthOf_bytes])]; exact memHolds_def.1 hm

/-- the extending loads: re-extension (`Low.sext`, `Low.zext`) of what is read at the type's width -/
theorem load_ok (t : ITy) (s : State) (v : Int) (h : MemHolds t s (s.get .rax) v) :
    ∃ s', X86.run (loadSeq t) s = some s' ∧ Represents t (s'.get .rax) v ∧ s'.mem = s.mem := by
  obtain ⟨hr, hl⟩ := memHolds_def.1 h
  have ea0 : s.get .rax + BitVec.ofInt 64 0 = s.get .rax := BitVec.add_zero _
  have e8 := fun b : BitVec 8 => BitVec.setWidth_setWidth_self (m := 64) (by decide) b
  have e16 := fun b : BitVec 16 => BitVec.setWidth_setWidth_self (m := 64) (by decide) b
  have e32 := fun b : BitVec 32 => BitVec.setWidth_setWidth_self (m := 64) (by decide) b
  cases t <;> refine ⟨_, rfl, represents_def.2 ⟨hr, ?_⟩, rfl⟩ <;>
    simp only [State.setW, State.src, State.readW, State.ea, State.get_set_same, W.bits, ea0] <;>
    simp only [inRange_eq] at hr <;> simp only [widthOf, State.readW, W.bits] at hl
  case i64 | u64 => exact (BitVec.setWidth_eq _).symm.trans hl
  case i8 | i16 => exact hl.sext (n := 32) (by decide) (by omega) (by omega) (by simp only [e8, e16, e32])
  case u8 | u16 => exact hl.zext (n := 32) (by omega) (by omega) (by simp only [e8, e16, e32])
  case bool =>
    exact (hl.sext (n := 32) (by decide) (by omega) (by omega) (by rw [e8, e32])).zext (n := 64) (by omega) (by omega)
      (by rw [BitVec.setWidth_eq, e32])
  case i32 | u32 => exact (BitVec.setWidth_signExtend_self (by decide) _).trans ((e32 _).symm.trans hl)

/-- what is read back after the low `w` bits of a word have been written -/
theorem low_stored (w : W) (s : State) (p x : BitVec 64) (v : Int) (h : Low w.bits x v) :
    Low w.bits (((s.writeW p w (x.setWidth w.bits)).readW p w).setWidth 64) v := by
  rw [State.readW_writeW, Low, BitVec.setWidth_setWidth_self (by cases w <;> decide)]; exact h

/-- **the truncating store** `pop %rdi; mov %al/%ax/%eax/%rax, (%rdi)`: the object holds the value, and only its bytes are written -/
theorem store_at (t : ITy) (s : State) (p : BitVec 64) (v : Int) (hp : s.read64 (s.get .rsp) = p)
    (h : Represents t (s.get .rax) v) :
    ∃ s', X86.run (storeSeq t) s = some s' ∧ MemHolds t s' p v ∧ s'.get .rax = s.get .rax ∧
      s'.get .rsp = s.get .rsp + 8 ∧ s'.get .rbp = s.get .rbp ∧
      ∀ x : BitVec 64, (∀ k : Nat, k < t.size → x ≠ p + BitVec.ofNat 64 k) → s'.mem x = s.mem x := by
  subst hp
  have hz : ∀ q : BitVec 64, q + BitVec.ofInt 64 0 = q := fun q => BitVec.add_zero q
  obtain ⟨hr, hl⟩ := represents_def.1 h
  cases t <;> refine ⟨_, rfl, ?_⟩ <;> simp only [State.ea, State.get_set_same, hz]
  case bool | i8 | u8 =>
    exact ⟨memHolds_def.2 ⟨hr, low_stored .w8 _ _ _ v (hl.mono (by decide))⟩, rfl, rfl, rfl, State.mem_writeW_of_ne _ _ .w8 _⟩
  case i16 | u16 =>
    exact ⟨memHolds_def.2 ⟨hr, low_stored .w16 _ _ _ v (hl.mono (by decide))⟩, rfl, rfl, rfl, State.mem_writeW_of_ne _ _ .w16 _⟩
  case i32 | u32 =>
    exact ⟨memHolds_def.2 ⟨hr, low_stored .w32 _ _ _ v (hl.mono (by decide))⟩, rfl, rfl, rfl, State.mem_writeW_of_ne _ _ .w32 _⟩
  case i64 | u64 => exact ⟨memHolds_def.2 ⟨hr, low_stored .w64 _ _ _ v hl⟩, rfl, rfl, rfl, State.mem_writeW_of_ne _ _ .w64 _⟩

theorem store_ok (t : ITy) (s : State) (p : BitVec 64) (v : Int) (hp : s.read64 (s.get .rsp) = p)
    (h : Represents t (s.get .rax) v) :
    ∃ s', X86.run (storeSeq t) s = some s' ∧ MemHolds t s' p v ∧ s'.get .rax = s.get .rax ∧
      s'.get .rsp = s.get .rsp + 8 :=
  let ⟨s', h1, h2, h3, h4, _⟩ := store_at t s p v hp h
  ⟨s', h1, h2, h3, h4⟩

end ChibiVerif.C01
