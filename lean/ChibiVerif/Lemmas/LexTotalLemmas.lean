/-
Model/LexTotal.lean, C13's byte-level scanner.  `loop_spec`: from a position on line `line` the loop answers with tokens or
with a diagnostic on a line of the rest, and with a bound above the length neither the exhausted bound nor an over-read
(every step that goes on consumes a byte: `Step.Progress`).  `phases_spec`: the passes of tokenize_file turn a file without
NUL into a text that ends in '\n' and has the file's number of lines; what the passes share with C18's model comes from
Lemmas/LineNoLemmas.lean through Lemmas/LexTotalLineNo.lean.
-/
import ChibiVerif.Lemmas.LexTotalLineNo
import ChibiVerif.Lemmas.LineNoLemmas
import ChibiVerif.Lemmas.LiteralsLemmas

namespace ChibiVerif.LexTotal
open ChibiVerif.Gen.Literals

theorem countLF_append (a b : List Nat) : countLF (a ++ b) = countLF a + countLF b :=
  countLF_eq_lineNo ▸ LineNo.countLF_append a b

theorem countLF_take_drop (s : List Nat) (k : Nat) : countLF (s.take k) + countLF (s.drop k) = countLF s := by
  rw [← countLF_append, List.take_append_drop]

theorem countLF_take_le (s : List Nat) (k : Nat) : countLF (s.take k) ≤ countLF s := by
  have := countLF_take_drop s k; omega

/-- a step that goes on consumes at least one byte -/
def Step.Progress : Step → Prop
  | .skip k => 1 ≤ k
  | .tok k => 1 ≤ k
  | _ => True

theorem decode_pos (s : List Nat) (cp n : Nat) (h : decode s = .ok (cp, n)) : 1 ≤ n := by
  unfold decode at h
  split at h
  · rename_i c n' heq
    cases h
    exact Lemmas.Literals.decode_len_pos _ _ _ heq
  · cases h

theorem identRest_ge : ∀ (fuel : Nat) (s : List Nat) (off len : Nat), identRest fuel s off = .ok len → off ≤ len := by
  intro fuel
  induction fuel with
  | zero => intro s off len h; simp [identRest] at h; omega
  | succ f ih =>
    intro s off len h
    cases s with
    | nil => simp [identRest] at h; omega
    | cons c t =>
      simp only [identRest] at h
      split at h
      · simp at h
      · split at h
        · have := ih _ _ _ h; omega
        · injection h with h; omega

theorem strTok_progress (w : Bool) (s : List Nat) (q : Nat) : (strTok w s q).Progress := by
  unfold strTok
  split
  · trivial
  · split
    · trivial
    · simp [Step.Progress]

theorem chrTok_progress (s : List Nat) (q : Nat) : (chrTok s q).Progress := by
  unfold chrTok
  split
  · trivial
  · split
    · trivial
    · simp [Step.Progress]

theorem stepWord_progress (s : List Nat) : (stepWord s).Progress := by
  unfold stepWord
  split
  · trivial
  · rename_i cp n hd
    split
    · split
      · trivial
      · rename_i len hr
        have h1 := identRest_ge _ _ _ _ hr
        have h2 := decode_pos _ _ _ hd
        simp only [Step.Progress]; omega
    · split
      · trivial
      · simp only [Step.Progress]; omega

theorem Step.Progress.ite {c : Prop} [Decidable c] {a b : Step} (ha : a.Progress) (hb : b.Progress) :
    (if c then a else b).Progress := by
  split
  · exact ha
  · exact hb

theorem stepChr_progress (c : Nat) (s : List Nat) : (stepChr c s).Progress :=
  .ite (chrTok_progress _ _) <| .ite (chrTok_progress _ _) <| .ite (chrTok_progress _ _) <|
    .ite (chrTok_progress _ _) (stepWord_progress _)

theorem stepStr_progress (c : Nat) (s : List Nat) : (stepStr c s).Progress :=
  .ite (strTok_progress _ _ _) <| .ite (strTok_progress _ _ _) <| .ite (strTok_progress _ _ _) <|
    .ite (strTok_progress _ _ _) <| .ite (strTok_progress _ _ _) (stepChr_progress _ _)

theorem step_progress (c : Nat) (t : List Nat) : (step (c :: t)).Progress := by
  have pos : ∀ k, (Step.skip (2 + k)).Progress := fun k => by simp only [Step.Progress]; omega
  unfold step
  refine .ite ?_ <| .ite ?_ <| .ite Nat.one_pos <| .ite Nat.one_pos <| .ite ?_ (stepStr_progress _ _)
  · split <;> exact pos _
  · split
    · trivial
    · exact pos _
  · simp only [Step.Progress]; omega

/-- what `tokenize`'s loop can answer from a position on line `line`: tokens, or a diagnostic on a line between `line` and the
    last line of the rest; with a bound above the length of the rest, nothing else -/
def LoopOK (s : List Nat) (line : Nat) : Outcome → Prop
  | .ok _ => True
  | .diag l _ => line ≤ l ∧ l ≤ line + countLF s
  | .overread _ => False
  | .fuel => False

theorem LoopOK.of_drop {s : List Nat} {line k : Nat} {r : Outcome}
    (h : LoopOK (s.drop k) (line + countLF (s.take k)) r) : LoopOK s line r := by
  have e := countLF_take_drop s k
  cases r with
  | diag l m => exact ⟨by have := h.1; omega, by have := h.2; omega⟩
  | _ => exact h

theorem loop_spec : ∀ (fuel : Nat) (s : List Nat) (line n : Nat), s.length < fuel → LoopOK s line (loop fuel s line n)
  | 0, _, _, _, h => by omega
  | _ + 1, [], _, _, _ => trivial
  | f + 1, c :: t, line, n, h => by
    rw [loop]
    have hp := step_progress c t
    split
    -- a skipped stretch and a token: the loop goes on `k ≥ 1` bytes further
    iterate 2
      · rename_i k heq
        rw [heq] at hp
        refine .of_drop (loop_spec f _ _ _ ?_)
        simp only [List.length_drop, List.length_cons] at h ⊢
        simp only [Step.Progress] at hp
        omega
    · exact ⟨Nat.le_add_right _ _, Nat.add_le_add_left (countLF_take_le _ _) _⟩

theorem scan_spec (text : List Nat) : LoopOK text 1 (scan text) := loop_spec _ _ _ _ (Nat.lt_succ_self _)

theorem EndsLF_ne_nil {l : List Nat} (h : EndsLF l) : l ≠ [] := by
  intro e; subst e; simp [EndsLF] at h

theorem EndsLF_cons {x : Nat} {l : List Nat} (h : EndsLF l) : EndsLF (x :: l) := by
  cases l with
  | nil => simp [EndsLF] at h
  | cons y t => simpa [EndsLF, List.getLast?_cons_cons] using h

theorem EndsLF_tail {x y : Nat} {l : List Nat} (h : EndsLF (x :: y :: l)) : EndsLF (y :: l) := by
  simpa [EndsLF, List.getLast?_cons_cons] using h

theorem EndsLF_append {a l : List Nat} (h : EndsLF l) : EndsLF (a ++ l) := by
  induction a with
  | nil => simpa using h
  | cons x t ih => exact EndsLF_cons ih

theorem getLast?_drop_of_ne {l : List Nat} {k : Nat} (h : l.drop k ≠ []) : (l.drop k).getLast? = l.getLast? := by
  rw [List.getLast?_drop, if_neg (by simpa [List.drop_eq_nil_iff] using h)]

theorem EndsLF_drop {l : List Nat} (h : EndsLF l) (k : Nat) : l.drop k = [] ∨ EndsLF (l.drop k) := by
  by_cases hd : l.drop k = []
  · exact .inl hd
  · exact .inr ((getLast?_drop_of_ne hd).trans h)

theorem EndsLF_singleton : EndsLF [10] := rfl

theorem readFile_ends (b : List Nat) : EndsLF (readFile b) := readFile_eq_lineNo ▸ LineNo.ensureFinalNewline_last b

theorem cstr_id : ∀ (b : List Nat), 0 ∉ b → cstr b = b := by
  intro b
  induction b with
  | nil => intro _; rfl
  | cons c t ih =>
    intro h
    simp only [List.mem_cons, not_or] at h
    simp only [cstr]
    rw [if_neg (fun e => h.1 e.symm), ih h.2]

theorem readFile_nonul (b : List Nat) (h : 0 ∉ b) : 0 ∉ readFile b := by
  unfold readFile
  split
  · exact h
  · simp [h]

theorem skipBOM_ends {l : List Nat} (h : EndsLF l) : EndsLF (skipBOM l) := skipBOM_eq_lineNo ▸ LineNo.skipBOM_last l h

theorem canonNL_ends (l : List Nat) (h : EndsLF l) : EndsLF (canonNL l) := canonNL_eq_lineNo ▸ LineNo.canon_last l h

theorem rmBsNl_ends {l : List Nat} (h : EndsLF l) : EndsLF (rmBsNl l) := rmBsNl_eq_lineNo ▸ LineNo.splice_last l 0 h

theorem readUC_ne_zero : ∀ (len : Nat) (p : List Nat) (c : Nat), readUC p len c ≠ 0 →
    len = 0 ∨ (len ≤ p.length ∧ ∀ x ∈ p.take len, isXDigitN x = true) := by
  intro len
  induction len with
  | zero => intro p c _; left; rfl
  | succ k ih =>
    intro p c h
    right
    cases p with
    | nil => simp [readUC] at h
    | cons b rest =>
      simp only [readUC] at h
      split at h
      · rename_i hx
        rcases ih rest _ h with h0 | ⟨hl, hall⟩
        · subst h0; simp [hx]
        · refine ⟨by simp; omega, ?_⟩
          intro x hxm
          simp only [List.take_succ_cons, List.mem_cons] at hxm
          rcases hxm with e | e
          · rw [e]; exact hx
          · exact hall x e
      · exact absurd rfl h

/-- after a universal character name the text goes on and still ends in a newline -/
theorem drop_ucn_ends {t : List Nat} {len : Nat} (hlen : 1 ≤ len) (h : EndsLF t) (hr : readUC t len 0 ≠ 0) :
    EndsLF (t.drop len) := by
  rcases readUC_ne_zero len t 0 hr with h0 | ⟨hl, hall⟩
  · omega
  · rcases EndsLF_drop h len with hd | hd
    · exfalso
      have ht : t.take len = t := by
        have := List.take_append_drop len t
        rw [hd, List.append_nil] at this; exact this
      have := hall 10 (by rw [ht]; exact List.mem_of_getLast? h)
      simp [isXDigitN, LexChar.isXDigit, LexChar.isDigit] at this
    · exact hd

theorem canonNL_count : ∀ (l : List Nat), countLF (canonNL l) = terminators l := by
  intro l
  induction l using canonNL.induct with
  | case1 | case2 => rfl
  | case3 a ha | case4 rest ih | case5 b rest hb ih | case6 a b rest ha ih => simp [canonNL, terminators, countLF, *]

theorem rmBsNlAux_count (l : List Nat) (n : Nat) : countLF (rmBsNlAux l n) = countLF l + n := by
  rw [rmBsNlAux_eq_lineNo, countLF_eq_lineNo, LineNo.countLF_splice, Nat.add_comm]

theorem skipBOM_terminators (l : List Nat) : terminators (skipBOM l) = terminators l := by
  unfold skipBOM
  split
  · rename_i a b c rest
    split
    · rename_i h
      obtain ⟨h1, h2, h3⟩ := h
      subst h1 h2 h3
      cases rest with
      | nil => simp [terminators]
      | cons y r => simp [terminators]
    · rfl
  · rfl

theorem text_lines (bytes : List Nat) (h : 0 ∉ bytes) :
    countLF (rmBsNl (canonNL (skipBOM (cstr (readFile bytes))))) = terminators (readFile bytes) := by
  rw [cstr_id _ (readFile_nonul bytes h)]
  unfold rmBsNl
  rw [rmBsNlAux_count, canonNL_count, skipBOM_terminators]; rfl

theorem countLF_eq_zero_of_not_mem (l : List Nat) (h : 10 ∉ l) : countLF l = 0 := by
  rw [countLF_eq_lineNo, LineNo.countLF_eq_count]; exact List.count_eq_zero.2 h

theorem countLF_encodeU (c : Nat) (h0 : c ≠ 10) (hlt : c < 4294967296) : countLF (encodeU c) = 0 := by
  apply countLF_eq_zero_of_not_mem
  intro hm
  unfold encodeU at hm
  simp only [List.mem_map] at hm
  obtain ⟨b, hb, hbe⟩ := hm
  -- an ASCII byte occurs in what `encode_utf8` writes only as the encoding of that value
  refine Lemmas.Literals.encode_ne_ascii _ 10#8 (by decide) ?_ b hb (BitVec.eq_of_toNat_eq (by simpa using hbe))
  simp only [BitVec.toNat_ofNat]
  omega

theorem readUC_lt : ∀ (len : Nat) (p : List Nat) (c : Nat), c < 4294967296 → readUC p len c < 4294967296 := by
  intro len
  induction len with
  | zero => intro p c h; simpa [readUC] using h
  | succ k ih =>
    intro p c h
    cases p with
    | nil => simp [readUC]
    | cons b rest =>
      simp only [readUC]
      split
      · exact ih _ _ (Nat.mod_lt _ (by decide))
      · decide

theorem countLF_take_ucn {t : List Nat} {len : Nat} (hlen : 1 ≤ len) (hr : readUC t len 0 ≠ 0) :
    countLF (t.drop len) = countLF t := by
  rcases readUC_ne_zero len t 0 hr with h0 | ⟨_, hall⟩
  · omega
  · have h1 := countLF_take_drop t len
    have h2 : countLF (t.take len) = 0 := by
      apply countLF_eq_zero_of_not_mem
      intro hm
      have := hall 10 hm
      simp [isXDigitN, LexChar.isXDigit, LexChar.isDigit] at this
    omega

theorem convUCAux_nil (fuel : Nat) : convUCAux fuel [] = .ok [] := by
  cases fuel <;> rfl

/-- convert_universal_chars on a text that ends in a newline: it answers, the text still ends in a newline, and no newline is
    added or lost (a universal character name other than `\u000a` is encoded without a byte 10) -/
theorem convUCAux_spec : ∀ (fuel : Nat) (l : List Nat), l.length < fuel → EndsLF l →
    ∃ r, convUCAux fuel l = .ok r ∧ EndsLF r ∧ countLF r = countLF l := by
  intro fuel l
  induction fuel, l using convUCAux.induct with
  | case1 p => intro h _; omega
  | case2 n => intro _ h; simp [EndsLF] at h
  | case3 fuel => intro _ h; simp [EndsLF] at h
  | case4 fuel c t hc ih | case5 fuel c t hn hc ih =>
    intro hl he
    have ht : EndsLF t := by
      cases t with
      | nil => simp [readUC] at hc
      | cons y r => exact EndsLF_tail (EndsLF_tail he)
    obtain ⟨r, hr, her, hcr⟩ := ih (by simp only [List.length_drop, List.length_cons] at *; omega) (drop_ucn_ends (by omega) ht hc.2.1)
    -- `w` is the encoded character, `encodeU (readUC t 4 0)` for `\u` and `encodeU (readUC t 8 0)` for `\U`
    have hw : ∃ w, convUCAux fuel.succ (92 :: c :: t) = .ok (w ++ r) ∧ countLF w = 0 :=
      ⟨_, by unfold convUCAux; simp only [*, if_true, ne_eq, not_false_eq_true, and_self, Except.map]; try rfl,
        countLF_encodeU _ hc.2.2 (readUC_lt _ _ _ (by decide))⟩
    obtain ⟨w, hw, hw0⟩ := hw
    refine ⟨w ++ r, hw, EndsLF_append her, ?_⟩
    rw [countLF_append, hw0, hcr, countLF_take_ucn (by omega) hc.2.1]
    simp [countLF, hc.1]
  | case6 fuel c t hn1 hn2 hc ih =>
    intro hl he
    obtain ⟨r, hr, her, hcr⟩ := ih (by simp only [List.length_cons] at *; omega) (EndsLF_tail he)
    refine ⟨92 :: r, ?_, EndsLF_cons her, by simp [countLF, hcr]⟩
    unfold convUCAux
    simp only [if_true, hn1, hn2, if_false, hc, hr, Except.map]
  | case7 fuel c t hn1 hn2 hn3 ih =>
    intro hl he
    cases t with
    | nil =>
      refine ⟨[92, c], ?_, he, rfl⟩
      unfold convUCAux
      simp only [if_true, hn1, hn2, hn3, if_false, convUCAux_nil, Except.map]
    | cons y r0 =>
      obtain ⟨r, hr, her, hcr⟩ := ih (by simp only [List.length_cons] at *; omega) (EndsLF_tail (EndsLF_tail he))
      refine ⟨92 :: c :: r, ?_, EndsLF_cons (EndsLF_cons her), by simp [countLF, hcr]⟩
      unfold convUCAux
      simp only [if_true, hn1, hn2, hn3, if_false, hr, Except.map]
  | case8 fuel a rest ha ih =>
    intro hl he
    cases rest with
    | nil =>
      refine ⟨[a], ?_, he, rfl⟩
      unfold convUCAux
      simp only [ha, if_false, convUCAux_nil, Except.map]
    | cons y r0 =>
      obtain ⟨r, hr, her, hcr⟩ := ih (by simp only [List.length_cons] at *; omega) (EndsLF_tail he)
      refine ⟨a :: r, ?_, EndsLF_cons her, by simp [countLF, hcr]⟩
      unfold convUCAux
      simp only [ha, if_false, hr, Except.map]

theorem convUC_spec {l : List Nat} (h : EndsLF l) : ∃ r, convUC l = .ok r ∧ EndsLF r ∧ countLF r = countLF l :=
  convUCAux_spec _ _ (Nat.lt_succ_self _) h

/-- the passes of `tokenize_file` on a file without NUL bytes succeed; the text ends in '\n' and has as many lines as the file -/
theorem phases_spec (bytes : List Nat) (h : 0 ∉ bytes) :
    ∃ t, phases bytes = .ok t ∧ EndsLF t ∧ countLF t = terminators (readFile bytes) := by
  have hl := text_lines bytes h
  unfold phases
  rw [cstr_id _ (readFile_nonul bytes h)] at hl ⊢
  obtain ⟨t, ht, he, hc⟩ := convUC_spec (rmBsNl_ends (canonNL_ends _ (skipBOM_ends (readFile_ends bytes))))
  exact ⟨t, ht, he, hc.trans hl⟩

theorem phases_ends (bytes : List Nat) (h : 0 ∉ bytes) : ∃ t, phases bytes = .ok t ∧ EndsLF t :=
  let ⟨t, ht, he, _⟩ := phases_spec bytes h
  ⟨t, ht, he⟩

/-- for a file without NUL bytes the last line of the text is the last line of the file -/
theorem lastLine_eq (bytes : List Nat) (h : 0 ∉ bytes) : lastLine bytes = terminators (readFile bytes) + 1 := by
  obtain ⟨t, ht, _, hc⟩ := phases_spec bytes h
  unfold lastLine
  rw [ht, ← hc]

end ChibiVerif.LexTotal
