/-
C14: the vocabulary of the property theorems (Props/C14.lean, Props/C14Args.lean) that is not part of the models: the
footprint of a command, the assumptions under which file contents are predictable, what a dependency path holds, the
option variables of the cc1 child, the two halves of the concurrency hypothesis.  Definitions only; models only.
-/
import ChibiVerif.Model.DriverProc
import ChibiVerif.Model.C14Deps
import ChibiVerif.Model.C14Args

namespace ChibiVerif.DriverProc

variable {P : Type} [DecidableEq P]

/-- number of `b`s in an interleaving, i.e. of the steps that driver takes: core's `List.count b` -/
def countB (b : Bool) : List Bool → Nat
  | [] => 0
  | x :: r => (if x = b then 1 else 0) + countB b r

/-- paths a run of `cmd` may write: its requested outputs and the temporaries mkstemp hands out -/
def Writes (env : Env P) (cmd : Cmd P) (p : P) : Prop :=
  p ∈ requested cmd ∨ ∃ k, env.fresh k = some p

/-- paths a run of `cmd` may read or write -/
def Touches (env : Env P) (cmd : Cmd P) (p : P) : Prop :=
  Writes env cmd p ∨ p ∈ cmd.inputs.map (·.path)

/-- assumptions on the environment and the command under which contents are predictable -/
structure Setup (env : Env P) (cmd : Cmd P) (fs₀ : FS P) (ts : List P) : Prop where
  mode : env.mode = cmd.mode
  /-- mkstemp hands out `ts` in order … -/
  fresh : ∀ k t, ts[k]? = some t → env.fresh k = some t
  /-- … and does not fail while the command needs temporaries -/
  enough : totalTemps cmd cmd.inputs ≤ ts.length
  /-- mkstemp names are fresh: pairwise distinct, not named on the command line, not existing before -/
  nodup : ts.Nodup
  notInput : ∀ t ∈ ts, t ∉ cmd.inputs.map (·.path)
  notReq : ∀ t ∈ ts, t ∉ requested cmd
  absent : ∀ t ∈ ts, fs₀.get t = none
  /-- the requested outputs are pairwise distinct and none of them is an input -/
  reqNodup : (requested cmd).Nodup
  reqNotInput : ∀ p ∈ requested cmd, p ∉ cmd.inputs.map (·.path)

/-- number of inputs among `l` that run the front end -/
def cCount (cmd : Cmd P) (l : List (Input P)) : Nat :=
  (l.filter (fun u => decide (effKind cmd.mode u.kind = .C))).length

/-- the path the cc1 child of unit `u` writes that is not a temporary: the `-o` file under `-E`, the `.s` file under
    `-S`; nothing under `-M` -/
def cc1Out (cmd : Cmd P) (u : Input P) : Option P :=
  if cmd.depsOnly then none
  else match cmd.mode with
    | .E => cmd.out
    | .S => some (unitOutput cmd u)
    | _ => none

/-- commands the driver does not reject outright -/
def Accepted (cmd : Cmd P) : Prop :=
  cmd.inputs ≠ [] ∧ multiO cmd = false ∧ ∀ u ∈ cmd.inputs, effKind cmd.mode u.kind ≠ .unknown

/-- `d` is the dependency file of some input -/
def IsDep (denv : DepEnv P) (d : P) : Prop := ∃ i, denv.depOf i = some d

/-- content of a dependency path after the writes `w` -/
def DepContent (denv : DepEnv P) (W : P → Prop) (fs₀ fs : FS P) (w : List (P × P)) : Prop :=
  ∀ d, IsDep denv d →
    match lastWriter w d with
    | some i => ∃ org, fs.get d = some ⟨.deps, org⟩ ∧ (¬ W i → org = fs₀.origins i)
    | none => fs.get d = fs₀.get d

end ChibiVerif.DriverProc

namespace ChibiVerif.C14Args

/-- no StringArray holds a NULL -/
def St.noNull (st : St) : Prop := ∀ e ∈ st.arrs, ∀ x ∈ e.2, x ≠ none

end ChibiVerif.C14Args

namespace ChibiVerif.C14Compose
open ChibiVerif.C14Args ChibiVerif.DriverProc

/-- the option variables of the cc1 child for input `i` and output `o`, given those of the driver -/
def childSt (st : St) (i : String) (o : Option String) : St :=
  let s := (st.setFlag "opt_cc1" true).setStr "base_file" (some i)
  match o with
  | some p => s.setStr "output_file" (some p)
  | none => s

variable {P : Type} [DecidableEq P]

/-- the mkstemp assumption, as an object: the names `mkstemp` hands to one driver are handed to no other driver,
    and are not names the other driver's command line mentions or derives (requested outputs, inputs) -/
structure MkstempUnique (envA envB : Env P) (cmdA cmdB : Cmd P) : Prop where
  disjoint : ∀ j k p, envA.fresh j = some p → envB.fresh k ≠ some p
  freshA : ∀ k p, envA.fresh k = some p → p ∉ requested cmdB ∧ p ∉ cmdB.inputs.map (·.path)
  freshB : ∀ k p, envB.fresh k = some p → p ∉ requested cmdA ∧ p ∉ cmdA.inputs.map (·.path)

/-- what the USER has to arrange: no requested output of one command is a requested output or an input of the other -/
structure OutputsDisjoint (cmdA cmdB : Cmd P) : Prop where
  ab : ∀ p ∈ requested cmdA, p ∉ requested cmdB ∧ p ∉ cmdB.inputs.map (·.path)
  ba : ∀ p ∈ requested cmdB, p ∉ requested cmdA ∧ p ∉ cmdA.inputs.map (·.path)

end ChibiVerif.C14Compose
