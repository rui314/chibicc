/-
The include machine with the nesting limit (Model/IncludeDepth.lean).  The spliced-stream machine `runIncD` (the transcription
of the C code, on a step budget) computes, with a large enough budget, the total function `runAt` / `runTop`: a file that may
nest `r` more levels stands in the stream at depth `limit − r` (`subSim_subOf`, by induction on `r`; one level, the lines of one
file, is `runIncD_level`).  For the total
function: "#include nested too deeply" only at the end of a chain of `limit` nested includes (`NestChain`), and never `outOfFuel`.
What a step can answer is said once (`preStep_shape`).  The Boolean `b` is `useGuards` of the model: `true` = include_file consults
the `include_guards` table (the shortcut), `false` = plain textual inclusion.
-/
import ChibiVerif.Model.IncludeDepth
import ChibiVerif.Lemmas.CondInclLemmas

namespace ChibiVerif.IncludeDepth
open ChibiVerif.CondIncl ChibiVerif.IncludeSearch ChibiVerif.IncludeOperand
variable {ε β : Type}

theorem runAt_eq (ev : ε → Defs β → Except Diag Bool) (xp : Xp β) (fs : XFS ε β) (paths : List String) (b : Bool) (r : Nat)
    (file : String) (ls : List (XLine ε β)) (m : Mode) (s : IState β) :
    runAt ev xp fs paths b r file ls m s = runLines ev xp fs paths b (subOf ev xp fs paths b r) file 1 ls m s := by
  cases r <;> rfl

/-- what the simulation needs to know about `sub` for lines of nesting depth `d` -/
def SubSim (ev : ε → Defs β → Except Diag Bool) (xp : Xp β) (fs : XFS ε β) (paths : List String) (b : Bool) (limit d : Nat)
    (sub : Sub ε β) : Prop :=
  match sub with
  | none => limit ≤ d
  | some f => d < limit ∧ ∀ (path : String) (ls : List (XLine ε β)) (m : Mode) (s : IState β) (rest : List (Src × XLine ε β)),
      ∃ N, ∀ fuel, runIncD ev xp fs paths b limit (fuel + N) (tagLines path (d + 1) 1 ls ++ rest) m s =
        match f path ls m s with
        | .error e => .error e
        | .ok (s', m') => runIncD ev xp fs paths b limit fuel rest m' s'

/-- one level: the lines of one file inside the stream -/
theorem runIncD_level (ev : ε → Defs β → Except Diag Bool) (xp : Xp β) (fs : XFS ε β) (paths : List String) (b : Bool) (limit d : Nat)
    (sub : Sub ε β) (hsub : SubSim ev xp fs paths b limit d sub) (file : String) (rest : List (Src × XLine ε β))
    (ls : List (XLine ε β)) (i : Nat) (m : Mode) (s : IState β) :
      ∃ N, ∀ fuel, runIncD ev xp fs paths b limit (fuel + N) (tagLines file d i ls ++ rest) m s =
        match runLines ev xp fs paths b sub file i ls m s with
        | .error e => .error e
        | .ok (s', m') => runIncD ev xp fs paths b limit fuel rest m' s' := by
  -- the arms of `runLines`: 1 end of the file, 2 the step fails, 3 a line that opens nothing, 4 an include at the nesting
  -- limit, 5 the file cannot be opened, 6 the run of the opened file fails, 7 it ends and this file goes on
  fun_induction runLines ev xp fs paths b sub file i ls m s with
  | case1 => exact ⟨0, fun fuel => rfl⟩
  | case2 i l ls m s e hp => exact ⟨1, fun fuel => by simp [tagLines, runIncD, hp]⟩
  | case3 i l ls m s s' m' hp ih =>
    obtain ⟨N, hN⟩ := ih
    exact ⟨N + 1, fun fuel => by simpa only [tagLines, List.cons_append, ← Nat.add_assoc, runIncD, hp] using hN fuel⟩
  | case4 i l ls m s path s' m' hp hn =>
    subst hn
    have hle : limit ≤ d := hsub
    exact ⟨1, fun fuel => by simp [tagLines, runIncD, hp, hle]⟩
  | case5 i l ls m s path s' m' hp f hf e ho =>
    subst hf
    have hnle : ¬ limit ≤ d := Nat.not_le.mpr hsub.1
    exact ⟨1, fun fuel => by simp [tagLines, runIncD, hp, hnle, ho]⟩
  | case6 i l ls m s path s' m' hp f hf fl s'' ho e hr =>
    subst hf
    have hnle : ¬ limit ≤ d := Nat.not_le.mpr hsub.1
    obtain ⟨N1, h1⟩ := hsub.2 path fl m' s'' (tagLines file d (i + 1) ls ++ rest)
    refine ⟨N1 + 1, fun fuel => ?_⟩
    have := h1 fuel
    rw [hr] at this
    simpa only [tagLines, List.cons_append, ← Nat.add_assoc, runIncD, hp, hnle, if_false, ho] using this
  | case7 i l ls m s path s' m' hp f hf fl s'' ho s3 m3 hr ih =>
    subst hf
    have hnle : ¬ limit ≤ d := Nat.not_le.mpr hsub.1
    obtain ⟨N1, h1⟩ := hsub.2 path fl m' s'' (tagLines file d (i + 1) ls ++ rest)
    obtain ⟨N2, h2⟩ := ih
    refine ⟨N2 + N1 + 1, fun fuel => ?_⟩
    have e1 := h1 (fuel + N2)
    rw [hr] at e1
    simp only [tagLines, List.cons_append, ← Nat.add_assoc, runIncD, hp, hnle, if_false, ho]
    rw [e1]
    exact h2 fuel

/-- every level: a file that may nest `r ≤ limit` levels stands in the stream at depth `limit − r` -/
theorem subSim_subOf {ev : ε → Defs β → Except Diag Bool} {xp : Xp β} {fs : XFS ε β} {paths : List String} {b : Bool} {limit : Nat} :
    ∀ (r : Nat), r ≤ limit → SubSim ev xp fs paths b limit (limit - r) (subOf ev xp fs paths b r) := by
  intro r
  induction r with
  | zero => intro _; simp [SubSim, subOf]
  | succ r ih =>
    intro hr
    have hr' : r ≤ limit := Nat.le_of_succ_le hr
    refine ⟨Nat.sub_lt (Nat.lt_of_lt_of_le (Nat.succ_pos r) hr) (Nat.succ_pos r), ?_⟩
    intro path ls m s rest
    have hd : limit - (r + 1) + 1 = limit - r := by
      rw [Nat.sub_succ]; exact Nat.succ_pred_eq_of_pos (Nat.sub_pos_of_lt hr)
    rw [hd, runAt_eq]
    exact runIncD_level ev xp fs paths b limit (limit - r) _ (ih hr') path rest ls 1 m s

theorem runIncD_files (ev : ε → Defs β → Except Diag Bool) (xp : Xp β) (fs : XFS ε β) (paths : List String) (b : Bool) (limit : Nat)
    (files : List (String × List (XLine ε β))) (m : Mode) (s : IState β) :
      ∃ N, ∀ fuel, N ≤ fuel →
        runIncD ev xp fs paths b limit fuel (tagFiles files) m s = runTop ev xp fs paths b limit files m s := by
  -- an input file stands in the stream at depth 0 = `limit - limit`
  have lines := runIncD_level ev xp fs paths b limit (limit - limit) _ (subSim_subOf limit (Nat.le_refl _))
  -- the arms of `runTop`: 1 no file left, 2 the file's run fails, 3 it ends and the next file follows
  fun_induction runTop ev xp fs paths b limit files m s with
  | case1 m s => exact ⟨0, fun fuel _ => by cases fuel <;> rfl⟩
  | case2 file ls more m s e hr =>
    obtain ⟨N1, h1⟩ := lines file (tagFiles more) ls 1 m s
    refine ⟨N1, fun fuel hle => ?_⟩
    have := h1 (fuel - N1)
    rwa [Nat.sub_self, ← runAt_eq, hr, Nat.sub_add_cancel hle] at this
  | case3 file ls more m s s' m' hr ih =>
    obtain ⟨N1, h1⟩ := lines file (tagFiles more) ls 1 m s
    obtain ⟨N2, h2⟩ := ih
    refine ⟨N2 + N1, fun fuel hle => ?_⟩
    have := h1 (fuel - N1)
    rw [Nat.sub_self, ← runAt_eq, hr, Nat.sub_add_cancel (Nat.le_trans (Nat.le_add_left N1 N2) hle)] at this
    exact this.trans (h2 (fuel - N1) (Nat.le_sub_of_add_le hle))

/-- the line is an #include (`next = false`) / #include_next (`next = true`) directive whose operand can be the
    file name `name` in form `dq` (for the macro form: under some macro table) -/
def IsIncl (xp : Xp β) (file : String) (l : XLine ε β) (next : Bool) (name : String) (dq : Bool) : Prop :=
  (next = false ∧ l = .base (.incl dq name)) ∨ (next = true ∧ l = .base (.includeNext name)) ∨
  (∃ toks defs, l = .inclMacro next toks ∧ readOperand (xp defs file) toks = .ok (name, dq))

theorem mkTarget_some {b : Bool} {p : String} {s1 s' : IState β} {m' : Mode} {path : String}
    (h : mkTarget b p s1 = (some path, s', m')) : path = p := by
  simp only [mkTarget, Prod.mk.injEq] at h
  split at h <;> cases h.1
  rfl

/-- in a skip mode every line (also #include, #include_next, #pragma once) is only looked at through its
    directive name -/
theorem preStep_skip (ev : ε → Defs β → Except Diag Bool) (xp : Xp β) (fs : XFS ε β) (paths : List String) (b : Bool)
    (file : String) (l : XLine ε β) (d : Nat) (s : IState β) :
    preStep ev xp fs paths b file l (.skip d) s =
      (match stepLine ev l.toLine (.skip d) s.st with
       | .error e => .error e
       | .ok (st', m') => .ok (none, { s with st := st' }, m')) := by
  cases l with
  | base l0 => cases l0 <;> rfl
  | inclMacro n t => rfl

theorem preStep_shape (ev : ε → Defs β → Except Diag Bool) (xp : Xp β) (fs : XFS ε β) (paths : List String) (file : String)
    (l : XLine ε β) (m : Mode) (s : IState β) :
    (∀ b, preStep ev xp fs paths b file l m s =
        match stepLine ev l.toLine m s.st with
        | .error e => .error e
        | .ok (st', m') => .ok (none, { s with st := st' }, m')) ∨
    (∃ toks e, readOperand (xp s.st.obs.defs file) toks = .error e ∧
      ∀ b, preStep ev xp fs paths b file l m s = .error e) ∨
    (∃ o, ∀ b, preStep ev xp fs paths b file l m s = .ok (none, { s with once := o }, .proc)) ∨
    (∃ dq name, IsIncl xp file l false name dq ∧ ∀ b, preStep ev xp fs paths b file l m s =
        .ok (mkTarget b (resolveInclude fs.has paths s.cache file dq name).1
          { s with cache := (resolveInclude fs.has paths s.cache file dq name).2 })) ∨
    (∃ dq name, IsIncl xp file l true name dq ∧ ∀ b, preStep ev xp fs paths b file l m s =
        .ok (mkTarget b (resolveIncludeNext fs.has paths file name) s)) := by
  cases m with
  | skip d =>
    exact .inl fun b => preStep_skip ev xp fs paths b file l d s
  | proc =>
    cases l with
    | base l0 =>
      cases l0 with
      | c l1 => left; exact fun b => rfl
      | pragmaOnce => right; right; left; exact ⟨file :: s.once, fun b => rfl⟩
      | incl dq name => right; right; right; left; exact ⟨dq, name, Or.inl ⟨rfl, rfl⟩, fun b => rfl⟩
      | includeNext name => right; right; right; right; exact ⟨true, name, Or.inr (Or.inl ⟨rfl, rfl⟩), fun b => rfl⟩
    | inclMacro next toks =>
      cases hr : readOperand (xp s.st.obs.defs file) toks with
      | error e => right; left; exact ⟨toks, e, hr, fun b => by simp only [preStep, hr]⟩
      | ok q =>
        obtain ⟨name, dq⟩ := q
        cases next with
        | false =>
          right; right; right; left
          exact ⟨dq, name, Or.inr (Or.inr ⟨toks, s.st.obs.defs, rfl, hr⟩), fun b => by simp only [preStep, hr]; rfl⟩
        | true =>
          right; right; right; right
          exact ⟨dq, name, Or.inr (Or.inr ⟨toks, s.st.obs.defs, rfl, hr⟩), fun b => by simp only [preStep, hr]; rfl⟩

theorem preStep_some (ev : ε → Defs β → Except Diag Bool) (xp : Xp β) (fs : XFS ε β) (paths : List String) (b : Bool) (file : String)
    (l : XLine ε β) (m m' : Mode) (s s' : IState β) (path : String)
    (h : preStep ev xp fs paths b file l m s = .ok (some path, s', m')) :
    (∃ dq name, IsIncl xp file l false name dq ∧ path = (resolveInclude fs.has paths s.cache file dq name).1) ∨
    (∃ dq name, IsIncl xp file l true name dq ∧ path = resolveIncludeNext fs.has paths file name) := by
  rcases preStep_shape ev xp fs paths file l m s with hr | ⟨_, e, _, he⟩ | ⟨o, ho⟩ | ⟨dq, name, hi, ht⟩ | ⟨dq, name, hi, ht⟩
  · rw [hr b] at h; split at h <;> cases h
  · rw [he b] at h; cases h
  · rw [ho b] at h; cases h
  · rw [ht b] at h; exact .inl ⟨dq, name, hi, mkTarget_some (Except.ok.inj h)⟩
  · rw [ht b] at h; exact .inr ⟨dq, name, hi, mkTarget_some (Except.ok.inj h)⟩

theorem openFile_ok {fs : XFS ε β} {path : String} {s s' : IState β} {ls : List (XLine ε β)}
    (h : openFile fs path s = .ok (ls, s')) :
    fs.get path = some ls ∧
    s' = match detectGuard (ls.map XLine.toLine) with
      | some g => { s with guards := putGuard s.guards path g }
      | none => s := by
  unfold openFile at h
  split at h
  · cases h
  · rename_i fl hg; cases h; exact ⟨hg, rfl⟩

/-- the include graph, independent of any run: the directive at line `i` (1-based) of `file`, whose lines are
    `full`, is an #include / #include_next that can name the file `q` (for the quoted and angle forms: under some
    content of the filename cache; for a macro operand: under some macro table) -/
def Names (xp : Xp β) (fs : XFS ε β) (paths : List String) (file : String) (full : List (XLine ε β)) (i : Nat) (q : String) : Prop :=
  ∃ l, 1 ≤ i ∧ full[i - 1]? = some l ∧
    ((∃ dq name cache, IsIncl xp file l false name dq ∧ q = (resolveInclude fs.has paths cache file dq name).1) ∨
     (∃ dq name, IsIncl xp file l true name dq ∧ q = resolveIncludeNext fs.has paths file name))

/-- `NestChain xp fs paths n file full f j`: there are files `file = p₀, p₁, …, pₙ = f` such that an include
    directive of `pₖ` names `pₖ₊₁`, every `pₖ₊₁` exists – n nested includes – and `f` itself has one more include
    directive, at line `j` -/
inductive NestChain (xp : Xp β) (fs : XFS ε β) (paths : List String) : Nat → String → List (XLine ε β) → String → Nat → Prop
  | here (file : String) (full : List (XLine ε β)) (i : Nat) (q : String) :
      Names xp fs paths file full i q → NestChain xp fs paths 0 file full file i
  | step (n : Nat) (file : String) (full : List (XLine ε β)) (i : Nat) (q : String) (qls : List (XLine ε β)) (f : String) (j : Nat) :
      Names xp fs paths file full i q → fs.get q = some qls → NestChain xp fs paths n q qls f j →
      NestChain xp fs paths (n + 1) file full f j

theorem drop_cons_line {α : Type} {full ls : List α} {l : α} {i : Nat} (hi : 1 ≤ i) (hdrop : full.drop (i - 1) = l :: ls) :
    full[i - 1]? = some l ∧ full.drop (i + 1 - 1) = ls := by
  constructor
  · simpa [List.head?_drop] using congrArg List.head? hdrop
  · simpa [List.tail_drop, Nat.sub_add_cancel hi] using congrArg List.tail hdrop

theorem names_of_preStep {ev : ε → Defs β → Except Diag Bool} {xp : Xp β} {fs : XFS ε β} {paths : List String} {b : Bool}
    {file : String} {full : List (XLine ε β)} {i : Nat} {l : XLine ε β} {m m' : Mode} {s s' : IState β} {path : String}
    (hp : preStep ev xp fs paths b file l m s = .ok (some path, s', m')) (hi : 1 ≤ i) (hl : full[i - 1]? = some l) :
    Names xp fs paths file full i path := by
  refine ⟨l, hi, hl, ?_⟩
  rcases preStep_some ev xp fs paths b file l m m' s s' path hp with ⟨dq, name, h1, h2⟩ | h
  · exact .inl ⟨dq, name, s.cache, h1, h2⟩
  · exact .inr h

theorem readDirect_ne_outOfFuel (ts : List OTok) : readDirect ts ≠ .error .outOfFuel := by
  fun_cases readDirect ts <;> (intro h; cases h)

theorem readOperand_ne_outOfFuel (x : List OTok → Except Diag (List OTok)) (hx : ∀ ts, x ts ≠ .error .outOfFuel)
    (ts : List OTok) : readOperand x ts ≠ .error .outOfFuel := by
  unfold readOperand
  cases ts with
  | nil => simp
  | cons t rest =>
    simp only
    split
    · cases hr : x (t :: rest) with
      | error e => simp only [Except.error.injEq, ne_eq]; intro h; subst h; exact hx _ hr
      | ok ts' =>
        cases ts' with
        | nil => simp
        | cons t' r' =>
          simp only
          split
          · simp
          · exact readDirect_ne_outOfFuel _
    · exact readDirect_ne_outOfFuel _

theorem preStep_ne_outOfFuel {ev : ε → Defs β → Except Diag Bool} (hev : ∀ c d, ev c d ≠ .error .outOfFuel)
    {xp : Xp β} (hxp : ∀ d f ts, xp d f ts ≠ .error .outOfFuel)
    {fs : XFS ε β} {paths : List String} {b : Bool} {file : String} {l : XLine ε β} {m : Mode} {s : IState β} :
    preStep ev xp fs paths b file l m s ≠ .error .outOfFuel := by
  rcases preStep_shape ev xp fs paths file l m s with hr | ⟨toks, e, hre, he⟩ | ⟨o, ho⟩ | ⟨_, _, _, ht⟩ | ⟨_, _, _, ht⟩
  · -- a step of the conditional machine fails with a diagnostic of its own or with the evaluator's
    rw [hr b]
    rcases stepLine_cases l.toLine m s.st with ⟨r, hne, h'⟩ | ⟨c, k, _, h'⟩ <;> rw [h' ev]
    · cases r with
      | error e => intro h; cases h; cases hne
      | ok p => intro h; cases h
    · cases hc : ev c s.st.obs.defs with
      | error e => intro h; cases h; exact hev c _ hc
      | ok v => intro h; cases h
  · rw [he b]; intro h; cases h; exact readOperand_ne_outOfFuel _ (hxp _ _) toks hre
  · rw [ho b]; intro h; cases h
  · rw [ht b]; intro h; cases h
  · rw [ht b]; intro h; cases h

/-- an error of the total machine: never `outOfFuel`, and the nesting test only at the end of a chain of `r` nested includes -/
theorem runLines_error {ev : ε → Defs β → Except Diag Bool} (hev : ∀ c d, ev c d ≠ .error .outOfFuel)
    {xp : Xp β} (hxp : ∀ d f ts, xp d f ts ≠ .error .outOfFuel) {fs : XFS ε β} {paths : List String} {b : Bool} :
    ∀ (r : Nat) {file : String} {full ls : List (XLine ε β)} {i : Nat} {m : Mode} {s : IState β} {e : IDiag},
      1 ≤ i → full.drop (i - 1) = ls →
      runLines ev xp fs paths b (subOf ev xp fs paths b r) file i ls m s = .error e →
      e ≠ .diag .outOfFuel ∧ ∀ f j, e = .nestedTooDeeply f j → NestChain xp fs paths r file full f j := by
  intro r
  induction r using Nat.strongRecOn with
  | _ r ihr =>
    intro file full ls i m s e
    -- arms of `runLines`: see `runIncD_level`
    fun_induction runLines ev xp fs paths b (subOf ev xp fs paths b r) file i ls m s with
    | case1 => intro _ _ h; cases h
    | case2 i l rest m s d hp =>
      intro _ _ h; cases h
      exact ⟨fun h => by cases h; exact preStep_ne_outOfFuel hev hxp hp, nofun⟩
    | case3 i l rest m s s' m' hp ih =>
      intro hi hdrop h
      exact ih (Nat.le_add_left 1 i) (drop_cons_line hi hdrop).2 h
    | case4 i l rest m s path s' m' hp hsub =>
      intro hi hdrop h
      cases h
      refine ⟨nofun, fun f j h => ?_⟩
      cases h
      cases r with
      | zero => exact .here _ full _ path (names_of_preStep hp hi (drop_cons_line hi hdrop).1)
      | succ r => cases hsub
    | case5 i l rest m s path s' m' hp f hf d ho =>
      intro _ _ h; cases h
      unfold openFile at ho
      split at ho <;> cases ho
      exact ⟨nofun, nofun⟩
    | case6 i l rest m s path s' m' hp f' hf fl s'' ho e' hr =>
      intro hi hdrop h
      cases h
      cases r with
      | zero => cases hf
      | succ r =>
        cases hf
        rw [runAt_eq] at hr
        have sub := ihr r (Nat.lt_succ_self r) (Nat.le_refl _) rfl hr
        exact ⟨sub.1, fun f j h => .step r file full i path fl f j (names_of_preStep hp hi (drop_cons_line hi hdrop).1)
          (openFile_ok ho).1 (sub.2 f j h)⟩
    | case7 i l rest m s path s' m' hp f' hf fl s'' ho s3 m3 hr ih =>
      intro hi hdrop h
      rw [← hf] at h
      exact ih (Nat.le_add_left 1 i) (drop_cons_line hi hdrop).2 h

/-- the whole input: never `outOfFuel`, and "#include nested too deeply" only at the end of a chain headed by one of the
    files handed to `preprocess` -/
theorem runTop_terminates (ev : ε → Defs β → Except Diag Bool) (hev : ∀ c d, ev c d ≠ .error .outOfFuel)
    (xp : Xp β) (hxp : ∀ d f ts, xp d f ts ≠ .error .outOfFuel) (fs : XFS ε β) (paths : List String) (b : Bool) (limit : Nat)
    (files : List (String × List (XLine ε β))) (m : Mode) (s : IState β) :
    runTop ev xp fs paths b limit files m s ≠ .error (.diag .outOfFuel) ∧
    (∀ f j, runTop ev xp fs paths b limit files m s = .error (.nestedTooDeeply f j) →
      ∃ x ∈ files, NestChain xp fs paths limit x.1 x.2 f j) := by
  -- arms of `runTop`: see `runIncD_files`
  fun_induction runTop ev xp fs paths b limit files m s with
  | case1 => exact ⟨nofun, fun f j => nofun⟩
  | case2 file ls more m s e hr =>
    rw [runAt_eq] at hr
    have src := runLines_error hev hxp limit (Nat.le_refl 1) rfl hr
    exact ⟨fun h => src.1 (Except.error.inj h), fun f j h => ⟨(file, ls), List.mem_cons_self .., src.2 f j (Except.error.inj h)⟩⟩
  | case3 file ls more m s s' m' hr ih =>
    refine ⟨ih.1, fun f j h => ?_⟩
    obtain ⟨x, hx, hc⟩ := ih.2 f j h
    exact ⟨x, List.mem_cons_of_mem _ hx, hc⟩

theorem cmdFiles_spec (fs : XFS ε β) (paths : List String) (main : String) (incs : List String) (cache : Cache) :
    match cmdFiles fs paths incs cache main with
    | .error e => e = .cannotOpen
    | .ok (files, _) => ∀ x ∈ files, fs.get x.1 = some x.2 := by
  -- the arms of `cmdFiles`: 1 no main file, 2 the main file; a -include option: 3 not found, 4 found but cannot be opened,
  -- 5 the remaining options fail, 6 they succeed
  fun_induction cmdFiles fs paths incs cache main with
  | case1 => rfl
  | case2 cache main ls hg => intro x hx; cases List.mem_singleton.mp hx; exact hg
  | case3 cache main f fsn e hr =>
    simp only [resolveCmdInclude] at hr
    split at hr
    · cases hr
    · split at hr <;> cases hr
      rfl
  | case4 => rfl
  | case5 cache main f fsn p cache' hr ls hg e hrec ih => rw [hrec] at ih; exact ih
  | case6 cache main f fsn p cache' hr ls hg rest c hrec ih =>
    rw [hrec] at ih
    intro x hx
    rcases List.mem_cons.mp hx with rfl | hx
    · exact hg
    · exact ih x hx

theorem finishD_error {r : Except IDiag (IState β × Mode)} {e : IDiag} (he : e ≠ .diag .unterminated)
    (h : finishD r = .error e) : r = .error e := by
  unfold finishD at h
  cases r with
  | error e' => simpa using h
  | ok q =>
    obtain ⟨s, m⟩ := q
    simp only at h
    split at h
    · cases h
    · simp only [Except.error.injEq] at h; exact absurd h.symm he

theorem finishD_congr (a b : Except IDiag (IState β × Mode)) (h : a = b) : finishD a = finishD b := by rw [h]

/-- whole runs, for every evaluator: the spliced stream with enough budget computes `includeRun`; the outcome is never
    `outOfFuel`; "#include nested too deeply" only at the end of a chain that starts in one of the input files -/
theorem includeRun_terminates (ev : ε → Defs β → Except Diag Bool) (hev : ∀ c d, ev c d ≠ .error .outOfFuel)
    (xp : Xp β) (hxp : ∀ d f ts, xp d f ts ≠ .error .outOfFuel) (fs : XFS ε β) (sysDirs : List String) (builtin : Defs β)
    (os : List (Opt β)) (main : String) (b : Bool) (limit : Nat) :
    (∃ N, ∀ fuel, N ≤ fuel →
      includeRunFuel ev xp fs sysDirs builtin os main b limit fuel = includeRun ev xp fs sysDirs builtin os main b limit) ∧
    includeRun ev xp fs sysDirs builtin os main b limit ≠ .error (.diag .outOfFuel) ∧
    (∀ f j, includeRun ev xp fs sysDirs builtin os main b limit = .error (.nestedTooDeeply f j) →
      ∃ p ls, fs.get p = some ls ∧ NestChain xp fs (includePaths (optConfig sysDirs os)) limit p ls f j) := by
  have hspec := cmdFiles_spec fs (includePaths (optConfig sysDirs os)) main (optIncludes os) []
  unfold includeRunFuel includeRun
  dsimp only
  cases hc : cmdFiles fs (includePaths (optConfig sysDirs os)) (optIncludes os) [] main with
  | error e =>
    rw [hc] at hspec; cases hspec
    refine ⟨⟨0, fun _ _ => rfl⟩, ?_, ?_⟩
    · intro h; cases h
    · intro f j h; cases h
  | ok q =>
    rw [hc] at hspec
    obtain ⟨N, hN⟩ := runIncD_files ev xp fs (includePaths (optConfig sysDirs os)) b limit q.1 .proc
      ⟨⟨⟨applyDU builtin os, []⟩, []⟩, [], [], q.2⟩
    refine ⟨⟨N, fun fuel hle => by simp only [hN fuel hle]⟩, fun h => ?_, fun f j h => ?_⟩
    · exact (runTop_terminates ev hev xp hxp fs _ b limit q.1 _ _).1 (finishD_error nofun h)
    · obtain ⟨x, hx, hch⟩ := (runTop_terminates ev hev xp hxp fs _ b limit q.1 _ _).2 f j (finishD_error nofun h)
      exact ⟨x.1, x.2, hspec x hx, hch⟩

end ChibiVerif.IncludeDepth
