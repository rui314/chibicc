/-
The splice-transparency theorem for files with CR / CR LF line ends and for every spelling of the inserted
backslash-newline (`\` LF, `\` CR LF, `\` CR): what phase 1 (`canonicalize_newline` after the final newline and the BOM
skip) does to a text into which one such splice was inserted (`firstLine_phase1_splice_eol`), and `lexLiteral_phase12_congr`:
the first literal token depends on the file through the first logical line of its phase-1 text, the lemma behind Props/C11.lean
`C11_text_unspliced`, `C11_text_transparent` and `C11_text_transparent_eol`.
-/
import ChibiVerif.Lemmas.C11Splice
import ChibiVerif.Lemmas.C11Locality

namespace ChibiVerif.Lemmas.SpliceEol
open ChibiVerif.Text
open ChibiVerif.Spec.Literals
open ChibiVerif.Literals (Byte lexLiteral)
open ChibiVerif.Lemmas.Text
open ChibiVerif.Lemmas.Splice

theorem canon_last_ne_bsl (x : List Byte) (h : x.getLast? ≠ some BSL) : (canonicalizeNewline x).getLast? ≠ some BSL := by
  rw [canon_isCanon.getLast?]
  cases hl : x.getLast? with
  | none => simp
  | some c =>
    have hc : c ≠ BSL := fun e => h (by rw [hl, e])
    by_cases hcr : c = CR
    · simp [hcr, LF, BSL]
    · simpa [hcr] using hc

theorem canon_append_lf_of_cr (x : List Byte) (h : x.getLast? = some CR) :
    canonicalizeNewline (x ++ [LF]) = canonicalizeNewline x := by
  obtain ⟨x', rfl⟩ := List.getLast?_eq_some_iff.mp h
  have hh : ∀ y : List Byte, ¬ (x'.getLast? = some CR ∧ (CR :: y).head? = some LF) := fun y e => by simp [CR, LF] at e
  rw [List.append_assoc, canon_isCanon.append ([CR] ++ [LF]) x' (hh [LF]), canon_isCanon.append [CR] x' (hh [])]
  simp [canonicalizeNewline]

/-- the spellings of an inserted backslash-newline, as they stand after `read_file` (a file that ends in `\` CR gets its LF) -/
def IsSplice (m : List Byte) (next : List Byte) : Prop :=
  m = [BSL, LF] ∨ m = [BSL, CR, LF] ∨ (m = [BSL, CR] ∧ next.head? ≠ some LF)

theorem canon_splice (m y : List Byte) (h : IsSplice m y) :
    canonicalizeNewline (m ++ y) = BSL :: LF :: canonicalizeNewline y := by
  have b1 : BSL ≠ CR := by decide
  have b2 : LF ≠ CR := by decide
  rcases h with h | h | ⟨h, hy⟩
  · subst h
    rw [show [BSL, LF] ++ y = BSL :: LF :: y from rfl, canon_isCanon.other _ _ b1, canon_isCanon.other _ _ b2]
  · subst h
    rw [show [BSL, CR, LF] ++ y = BSL :: CR :: LF :: y from rfl, canon_isCanon.other _ _ b1, canon_isCanon.crlf]
  · subst h
    rw [show [BSL, CR] ++ y = BSL :: CR :: y from rfl, canon_isCanon.other _ _ b1, canon_isCanon.lone _ hy]

theorem splice_head (m y : List Byte) (h : IsSplice m y) : ∃ r, m = BSL :: r := by
  rcases h with h | h | ⟨h, _⟩ <;> exact ⟨_, h⟩

theorem skipBOM_short_mid (a r t : List Byte) (h : a.length < 3) : skipBOM (a ++ BSL :: r ++ t) = a ++ BSL :: r ++ t := by
  apply skipBOM_of_take
  intro e
  have hm : BSL ∈ BOM := by
    obtain ⟨k, hk⟩ : ∃ k, 3 - a.length = k + 1 := ⟨2 - a.length, by omega⟩
    rw [← e, List.append_assoc, List.take_append, hk]
    exact List.mem_append_right _ (List.mem_cons_self ..)
  revert hm
  decide

theorem firstLine_phase1_splice_eol (a sp b : List Byte)
    (hsp : IsSplice sp b)
    (ha : a.getLast? ≠ some BSL) (hcr : ¬ (a.getLast? = some CR ∧ b.head? = some LF))
    (hbom : 3 ≤ a.length ∨ (a ++ b).take 3 ≠ BOM) :
    firstLine (unsplice BSL LF (phase1 (a ++ sp ++ b))) = firstLine (unsplice BSL LF (phase1 (a ++ b))) := by
  -- after read_file: a ++ m ++ b2 and a ++ b2 ++ e
  have key : ∃ m b2 e, ensureFinalNewline (a ++ sp ++ b) = a ++ m ++ b2 ∧ ensureFinalNewline (a ++ b) = (a ++ b2) ++ e ∧
      IsSplice m b2 ∧ (e = [] ∨ (e = [LF] ∧ b2 = [])) ∧ b2.head? = b.head? := by
    by_cases hb : b = []
    · subst hb
      obtain ⟨e, ea, he⟩ : ∃ e, ensureFinalNewline (a ++ []) = (a ++ []) ++ e ∧ (e = [] ∨ (e = [LF] ∧ ([] : List Byte) = [])) := by
        rcases efn_cases a with ea | ea
        · exact ⟨[], by simp [ea], Or.inl rfl⟩
        · exact ⟨[LF], by simp [ea], Or.inr ⟨rfl, rfl⟩⟩
      rcases hsp with h | h | ⟨h, _⟩
      · subst h
        exact ⟨[BSL, LF], [], e, efn_of_last _ (by simp [List.getLast?_append]), ea, Or.inl rfl, he, rfl⟩
      · subst h
        exact ⟨[BSL, CR, LF], [], e, efn_of_last _ (by simp [List.getLast?_append]), ea, Or.inr (Or.inl rfl), he, rfl⟩
      · subst h
        refine ⟨[BSL, CR, LF], [], e, ?_, ea, Or.inr (Or.inl rfl), he, rfl⟩
        rw [efn_of_not_last _ (by simp [List.getLast?_append, CR, LF])]
        simp
    · have hh : (ensureFinalNewline b).head? = b.head? := by
        rcases efn_cases b with e | e
        · rw [e]
        · rw [e]; cases b with
          | nil => exact absurd rfl hb
          | cons c r => rfl
      exact ⟨sp, ensureFinalNewline b, [], efn_append (a ++ sp) b hb, by simpa using efn_append a b hb,
        hsp.imp_right (Or.imp_right (And.imp_right fun hy => hh ▸ hy)), Or.inl rfl, hh⟩
  obtain ⟨m, b2, e, h1, h2, hm, he, hh⟩ := key
  obtain ⟨r, hr⟩ := splice_head m b2 hm
  -- after the BOM skip: a2 ++ m ++ b2 and a2 ++ b2 ++ e
  have key2 : ∃ a2, a2.getLast? ≠ some BSL ∧ (a2.getLast? = some CR → a.getLast? = some CR) ∧
      skipBOM (a ++ m ++ b2) = a2 ++ m ++ b2 ∧ skipBOM ((a ++ b2) ++ e) = (a2 ++ b2) ++ e := by
    by_cases hl : 3 ≤ a.length
    · refine ⟨skipBOM a, skipBOM_last_ne_bsl a ha, ?_, ?_, ?_⟩
      · intro hc
        rcases skipBOM_cases a with ea | ea
        · rw [ea] at hc; exact hc
        · rw [ea, List.getLast?_append, hc]; rfl
      · rw [List.append_assoc, skipBOM_append_of_le a _ hl, List.append_assoc]
      · rw [List.append_assoc, skipBOM_append_of_le a _ hl, List.append_assoc]
    · refine ⟨a, ha, id, ?_, ?_⟩
      · rw [hr]; exact skipBOM_short_mid a r b2 (by omega)
      · have hb3 : (a ++ b).take 3 ≠ BOM := by
          rcases hbom with h | h
          · exact absurd h hl
          · exact h
        rw [← h2]
        exact skipBOM_of_take _ (take3_efn _ hb3)
  obtain ⟨a2, ha2, hcr2, k1, k2⟩ := key2
  unfold phase1
  rw [h1, h2, k1, k2]
  -- canonicalize_newline on both
  have c1 : canonicalizeNewline (a2 ++ m ++ b2) = canonicalizeNewline a2 ++ BSL :: LF :: canonicalizeNewline b2 := by
    rw [List.append_assoc, canon_isCanon.append (m ++ b2) a2 (by rw [hr]; simp [LF, BSL]), canon_splice m b2 hm]
  have hl2 := canon_last_ne_bsl a2 ha2
  rw [c1, unsplice_splice _ _ hl2]
  rcases he with he | ⟨he, hb2⟩
  · subst he
    have hc : ¬ (a2.getLast? = some CR ∧ b2.head? = some LF) := fun h => hcr ⟨hcr2 h.1, by rw [← hh]; exact h.2⟩
    rw [List.append_nil, canon_isCanon.append b2 a2 hc]
  · subst he; subst hb2
    simp only [List.append_nil, canonicalizeNewline]
    by_cases hc : a2.getLast? = some CR
    · rw [canon_append_lf_of_cr a2 hc]
    · rw [canon_isCanon.append [LF] a2 (fun h => hc h.1)]
      have : canonicalizeNewline [LF] = [LF] := by simp [canonicalizeNewline, LF, CR]
      rw [this, unsplice_append _ [LF] hl2]
      simp only [unsplice]
      exact (firstLine_append_single_lf _).symm

theorem lexLiteral_phase12_congr (s s' : List Byte)
    (h : firstLine (unsplice BSL LF (phase1 s')) = firstLine (unsplice BSL LF (phase1 s)))
    (hline : LiteralOnFirstLine (phase12 s)) : lexLiteral (phase12 s') = lexLiteral (phase12 s) := by
  have fl : firstLine (phase12 s') = firstLine (phase12 s) := by rw [firstLine_phase12, firstLine_phase12, h]
  obtain ⟨w1, h1⟩ := split_at_lf _ (phase12_has_lf s')
  obtain ⟨w2, h2⟩ := split_at_lf _ (phase12_has_lf s)
  have hline' : LiteralOnFirstLine (phase12 s') := by unfold LiteralOnFirstLine; rw [fl]; exact hline
  have e1 : lexLiteral (phase12 s') = _ :=
    (congrArg lexLiteral h1).trans (ChibiVerif.Lemmas.Locality.lexLiteral_line _ w1 hline'.1 hline'.2)
  have e2 : lexLiteral (phase12 s) = _ :=
    (congrArg lexLiteral h2).trans (ChibiVerif.Lemmas.Locality.lexLiteral_line _ w2 hline.1 hline.2)
  rw [e1, e2, fl]

end ChibiVerif.Lemmas.SpliceEol
