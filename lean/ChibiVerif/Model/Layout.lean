/-
Model of the parts of chibicc that decide sizes, alignments and layouts (property C08):

* `declspecDecode`   — parse.c `declspec`: the counter arithmetic over built-in type keywords with the
                       `switch (counter)` evaluated after every keyword (`default: error_tok "invalid type"`);
                       constants, keyword ladder and switch table come from `Gen/DeclspecGen.lean`.
* `structLayout`     — parse.c `struct_decl` (offset assignment loop, final `align_to`).
* `unionLayout`      — parse.c `union_decl`.
* `Ty.sizeAlign`     — type.c `array_of` / `pointer_to` / `enum_type` / primitive literals, `attribute_list`'s
                       `aligned(n)` (`alignAttr`: guard and assignment regenerated from parse.c) and
                       `struct_members` (member alignment from the `_Alignas` specifiers as `declspec` accumulates them,
                       the integer-type requirement on bit-fields, flexible array member → `array_of(base, 0)`).
* `varAlign`         — alignment of a declared object: new_var's `var->align = ty->align`, overridden by
                       `if (attr->align) var->align = attr->align` (automatic, block-scope static, file scope).

C `int` is modelled by unbounded `Int` (`/` and `%` are C's truncating `Int.tdiv` / `Int.tmod`); the theorems state
the no-overflow bound where it matters.  Every C division is guarded: a zero divisor is the explicit outcome
`Fail.divByZero` (SIGFPE in cc1), never Lean's `x / 0 = 0`.  The two located diagnostics on the way to a layout
(`aligned(n)` outside 0 / the powers of two up to 2^28; a bit-field whose declared type is not an integer type) are the
outcomes `TyFail.badAlign` / `TyFail.bitfieldType` of the type-level functions.

Core Lean only.
-/
import ChibiVerif.Gen.DeclspecGen

namespace ChibiVerif.Layout
open ChibiVerif.Gen.Declspec

/-! ## declspec -/

inductive Diag where
  | invalidType        -- error_tok(tok, "invalid type")
  deriving DecidableEq, Repr

/-- `counter += K` or `counter |= K` for one keyword -/
def kwApply (c : Nat) (k : Kw) : Nat :=
  match kwIncr k with
  | (v, false) => c + v
  | (v, true) => c ||| v

/-- `switch (counter)`: `none` is the `default:` arm -/
def switchLookup (c : Nat) : Option TyName := switchTable.lookup c

/-- one trip through the loop body for a built-in type keyword -/
def declspecStep (c : Nat) (k : Kw) : Except Diag (Nat × TyName) :=
  match switchLookup (kwApply c k) with
  | some t => .ok (kwApply c k, t)
  | none => .error .invalidType

/-- the loop: state = (counter, ty) -/
def declspecRun : Nat × TyName → List Kw → Except Diag (Nat × TyName)
  | s, [] => .ok s
  | s, k :: ks =>
    match declspecStep s.1 k with
    | .ok s' => declspecRun s' ks
    | .error d => .error d

/-- `declspec` on a sequence of built-in type-specifier keywords (qualifiers and storage classes are skipped by the
    loop without touching `counter`; struct/union/enum/typedef names are not part of this model) -/
def declspecDecode (ks : List Kw) : Except Diag TyName :=
  match declspecRun (initCounter, initTy) ks with
  | .ok s => .ok s.2
  | .error d => .error d

/-! ## struct / union layout -/

inductive Fail where
  | divByZero          -- integer division by zero in cc1 (SIGFPE)
  deriving DecidableEq, Repr

/-- what `struct_decl`/`union_decl` read of a `Member` -/
structure Mem where
  size : Int                   -- mem->ty->size
  align : Int                  -- mem->align  (= attr.align ? attr.align : mem->ty->align, see `Members.toMems`)
  bitWidth : Option Int        -- is_bitfield / bit_width
  named : Bool                 -- mem->name != NULL
  deriving DecidableEq, Repr

/-- what they write into a `Member` (calloc leaves both 0) -/
structure Placed where
  offset : Int
  bitOffset : Int
  deriving DecidableEq, Repr

structure Layout where
  size : Int
  align : Int
  placed : List Placed
  deriving DecidableEq, Repr

/-- `align_to` with the division made explicit -/
def alignToE (n a : Int) : Except Fail Int :=
  if a = 0 then .error .divByZero else .ok (alignTo n a)

/-- unnamed bit-field: `mem->is_bitfield && !mem->name` -/
def Mem.unnamedBitfield (m : Mem) : Bool := m.bitWidth.isSome && !m.named

/-- first half of the body of the `for` loop of `struct_decl`: bits ↦ (bits, placement of this member) -/
def placeMember (packed : Bool) (bits : Int) (m : Mem) : Except Fail (Int × Placed) :=
  match m.bitWidth with
  | some w =>
    if w = 0 then
      -- bits = align_to(bits, mem->ty->size * 8);
      match alignToE bits (m.size * 8) with
      | .ok b => .ok (b, { offset := 0, bitOffset := 0 })
      | .error e => .error e
    else if m.size * 8 = 0 then .error .divByZero
    else
      -- int sz = mem->ty->size;
      -- if (bits / (sz * 8) != (bits + mem->bit_width - 1) / (sz * 8)) bits = align_to(bits, sz * 8);
      let b := if Int.tdiv bits (m.size * 8) ≠ Int.tdiv (bits + w - 1) (m.size * 8) then alignTo bits (m.size * 8) else bits
      -- mem->offset = align_down(bits / 8, sz); mem->bit_offset = bits % (sz * 8); bits += mem->bit_width;
      .ok (b + w, { offset := alignDown (Int.tdiv b 8) m.size, bitOffset := Int.tmod b (m.size * 8) })
  | none =>
    -- bits = align_to(bits, ty->is_packed ? 8 : mem->align * 8);      ("even in a packed struct a member starts at a byte boundary")
    -- mem->offset = bits / 8; bits += mem->ty->size * 8;
    match alignToE bits (if packed then 8 else m.align * 8) with
    | .ok b => .ok (b + m.size * 8, { offset := Int.tdiv b 8, bitOffset := 0 })
    | .error e => .error e

/-- second half: `if (mem->is_bitfield && !mem->name) continue;`
    `if (!ty->is_packed && ty->align < mem->align) ty->align = mem->align;` -/
def stepAlign (packed : Bool) (align : Int) (m : Mem) : Int :=
  if m.unnamedBitfield then align else if !packed && align < m.align then m.align else align

/-- body of the `for` loop of `struct_decl`: (bits, ty->align) ↦ (bits, ty->align), placement of this member -/
def structStep (packed : Bool) (bits align : Int) (m : Mem) : Except Fail (Int × Int × Placed) :=
  match placeMember packed bits m with
  | .ok (b, p) => .ok (b, stepAlign packed align m, p)
  | .error e => .error e

def structLoop (packed : Bool) : Int → Int → List Mem → Except Fail (Int × Int × List Placed)
  | bits, align, [] => .ok (bits, align, [])
  | bits, align, m :: ms =>
    match structStep packed bits align m with
    | .error e => .error e
    | .ok (b, a, p) =>
      match structLoop packed b a ms with
      | .error e => .error e
      | .ok (b', a', ps) => .ok (b', a', p :: ps)

/-- `struct_decl` after `struct_union_decl`: `align0` is `ty->align` as left by `struct_type()` and
    `attribute_list` (1, or `n` of the last `aligned(n)`) -/
def structLayout (packed : Bool) (align0 : Int) (ms : List Mem) : Except Fail Layout :=
  match structLoop packed 0 align0 ms with
  | .error e => .error e
  | .ok (bits, align, ps) =>
    -- ty->size = align_to(bits, ty->align * 8) / 8;
    match alignToE bits (align * 8) with
    | .error e => .error e
    | .ok s => .ok { size := Int.tdiv s 8, align := align, placed := ps }

/-- body of the loop of `union_decl`: (ty->size, ty->align) -/
def unionStep (packed : Bool) (size align : Int) (m : Mem) : Int × Int :=
  match m.bitWidth, m.named with
  | some w, false =>
    -- if (ty->size < (mem->bit_width + 7) / 8) ty->size = (mem->bit_width + 7) / 8; continue;
    (if size < Int.tdiv (w + 7) 8 then Int.tdiv (w + 7) 8 else size, align)
  | _, _ =>
    (if size < m.size then m.size else size, if !packed && align < m.align then m.align else align)

def unionLoop (packed : Bool) : Int → Int → List Mem → Int × Int
  | size, align, [] => (size, align)
  | size, align, m :: ms => unionLoop packed (unionStep packed size align m).1 (unionStep packed size align m).2 ms

def unionLayout (packed : Bool) (align0 : Int) (ms : List Mem) : Except Fail Layout :=
  let r := unionLoop packed (STRUCT_INIT_SIZE : Nat) align0 ms
  -- ty->size = align_to(ty->size, ty->align);
  match alignToE r.1 r.2 with
  | .error e => .error e
  | .ok s => .ok { size := s, align := r.2, placed := ms.map fun _ => { offset := 0, bitOffset := 0 } }

/-! ## types (declarators, struct_members) -/

/-- per-member declaration data that is not part of the member's type or its alignment specifiers -/
structure MemDecl where
  bitWidth : Option Int
  named : Bool
  deriving DecidableEq, Repr

mutual
  inductive Ty where
    | prim (t : TyName)
    | enum                                   -- enum_type()
    | ptr                                    -- pointer_to(_)
    | arr (elem : Ty) (len : Int)            -- array_of(elem, len)
    | flex (elem : Ty)                       -- `T x[];` as the last member: array_of(elem, 0)
    | struct (packed : Bool) (aligned : Option Int) (ms : Members)
    | union (packed : Bool) (aligned : Option Int) (ms : Members)
  /-- the `_Alignas` specifiers of one declaration, in source order -/
  inductive Aligns where
    | nil
    | const (n : Int) (rest : Aligns)        -- `_Alignas(constant-expression)`
    | type (t : Ty) (rest : Aligns)          -- `_Alignas(type-name)`
  inductive Members where
    | nil
    | cons (d : MemDecl) (as : Aligns) (ty : Ty) (rest : Members)
end

def primSize (t : TyName) : Int := ((primInfo t).1 : Nat)
def primAlign (t : TyName) : Int := ((primInfo t).2.1 : Nat)

/-- outcomes of the type-level functions (`declspec`/`declarator`/`struct_members`/`attribute_list` around
    `struct_decl`/`union_decl`) other than a type: the SIGFPE of the loops above, or one of the two located diagnostics -/
inductive TyFail where
  | divByZero          -- `Fail.divByZero` of struct_decl / union_decl
  | badAlign           -- attribute_list `aligned(n)` / declspec `_Alignas(n)`: error_tok(start, "alignment must be a power of two no larger than 2^28")
  | bitfieldType       -- struct_members: error_tok(tok, "bit-field has non-integer type")
  deriving DecidableEq, Repr

def Fail.toTy : Fail → TyFail
  | .divByZero => .divByZero

/-- run `struct_decl` / `union_decl` inside the type-level functions -/
def liftFail {α : Type} : Except Fail α → Except TyFail α
  | .ok a => .ok a
  | .error e => .error e.toTy

/-- `attribute_list`, one `aligned(n)` (`none`: no such attribute): `cur` is `ty->align` before (struct_type() leaves
    STRUCT_INIT_ALIGN).  `int64_t n = const_expr(..)`; the guard and the assignment are regenerated from parse.c:
    `if (n < 0 || n > (1 << 28) || (n & (n - 1))) error_tok(..); if (n) ty->align = n;` -/
def alignAttr (cur : Int) : Option Int → Except TyFail Int
  | none => .ok cur
  | some n => if alignedAttrBad n then .error .badAlign else .ok (alignedAttrApply cur n)

/-- `ty->kind` of a type description (type.c: the literals, pointer_to, enum_type, array_of, struct_decl/union_decl) -/
def Ty.kind : Ty → String
  | .prim t => primKind t
  | .enum => "TY_ENUM"
  | .ptr => "TY_PTR"
  | .arr _ _ => "TY_ARRAY"
  | .flex _ => "TY_ARRAY"
  | .struct _ _ _ => "TY_STRUCT"
  | .union _ _ _ => "TY_UNION"

/-- type.c `is_integer(ty)` (list of kinds regenerated from type.c) -/
def Ty.isInteger (t : Ty) : Bool := integerKinds.contains t.kind

mutual
  /-- (ty->size, ty->align).  An aggregate is `struct_union_decl` followed by the loop of `struct_decl`/`union_decl`:
      struct_type(), then the `aligned(n)` attribute (modelled in the position before the tag/member list, so that of two
      diagnostics the one that comes first in the source is the one reported), then `struct_members`, then the loop. -/
  def Ty.sizeAlign : Ty → Except TyFail (Int × Int)
    | .prim t => .ok (primSize t, primAlign t)
    | .enum => .ok ((ENUM_SIZE : Nat), (ENUM_ALIGN : Nat))
    | .ptr => .ok ((PTR_SIZE : Nat), (PTR_ALIGN : Nat))
    | .arr e n => do let (s, a) ← e.sizeAlign; pure (s * n, a)
    | .flex e => do let (s, a) ← e.sizeAlign; pure (s * 0, a)
    | .struct p al ms => do
      let a0 ← alignAttr (STRUCT_INIT_ALIGN : Nat) al
      let mems ← ms.toMems
      let l ← liftFail (structLayout p a0 mems)
      pure (l.size, l.align)
    | .union p al ms => do
      let a0 ← alignAttr (STRUCT_INIT_ALIGN : Nat) al
      let mems ← ms.toMems
      let l ← liftFail (unionLayout p a0 mems)
      pure (l.size, l.align)
  /-- `declspec`, the `_Alignas` arm, run over the specifiers of one declaration: `acc` is attr->align so far (starts 0);
      each specifier does attr->align = MAX(attr->align, align) with align = typename(..)->align, or
      `int64_t n = const_expr(..); if (n < 0 || n > (1 << 28) || (n & (n - 1))) error_tok(..); align = n;`
      (guard regenerated from parse.c; the same message as for `aligned(n)`) -/
  def Aligns.eval : Aligns → Int → Except TyFail Int
    | .nil, acc => .ok acc
    | .const n rest, acc =>
      if alignasConstBad n then .error .badAlign else rest.eval (alignasCombine acc (alignasOfConst n))
    | .type t rest, acc => do
      let (s, a) ← t.sizeAlign
      rest.eval (alignasCombine acc (alignasOfType s a))
  /-- `struct_members`: declspec (with its `_Alignas` specifiers), declarator, mem->align = attr.align ? attr.align :
      mem->ty->align, and for a bit-field `if (!is_integer(mem->ty)) error_tok(tok, "bit-field has non-integer type")`.
      (The second guard of that arm, `if (mem->ty->is_atomic) error_tok(tok, "bit-field has atomic type")`, is pinned by
      the translator (`bitfieldAtomicMsg`); type descriptions have no `_Atomic` qualifier, so it never fires here.) -/
  def Members.toMems : Members → Except TyFail (List Mem)
    | .nil => .ok []
    | .cons d as ty rest => do
      let attrAlign ← as.eval 0
      let (s, a) ← ty.sizeAlign
      if d.bitWidth.isSome && !ty.isInteger then .error .bitfieldType
      else do
        let tl ← rest.toMems
        pure ({ size := s, align := memberAlign attrAlign a, bitWidth := d.bitWidth, named := d.named } :: tl)
end

/-- alignment of an object declared with the specifiers `as` and type `ty` (all three storage classes use the same two
    assignments): var->align = ty->align; if (attr->align) var->align = attr->align; -/
def varAlign (as : Aligns) (ty : Ty) : Except TyFail Int := do
  let attrAlign ← as.eval 0
  let (_, a) ← ty.sizeAlign
  pure (if attrAlign ≠ 0 then attrAlign else a)

/-- full layout of an aggregate (size, align, member placements); other types have no members -/
def Ty.layout : Ty → Except TyFail Layout
  | .struct p al ms => do
    let a0 ← alignAttr (STRUCT_INIT_ALIGN : Nat) al
    let mems ← ms.toMems
    liftFail (structLayout p a0 mems)
  | .union p al ms => do
    let a0 ← alignAttr (STRUCT_INIT_ALIGN : Nat) al
    let mems ← ms.toMems
    liftFail (unionLayout p a0 mems)
  | t => do let (s, a) ← t.sizeAlign; pure { size := s, align := a, placed := [] }

end ChibiVerif.Layout
