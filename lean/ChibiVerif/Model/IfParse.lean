/-
The path from the tokens of a `#if` / `#elif` line to the expression tree (C10).

  preprocess.c  eval_const_expr:  read_const_expr (`defined X` / `defined ( X )` → 1/0, BEFORE expansion; Model/PPExpr.lean
                `readDefined`)  →  preprocess2 (macro expansion; a parameter `xp` here, property C09)  →  "no expression"
                →  every identifier left → 0 (`identToZero`)  →  convert_pp_tokens + retyping to long / unsigned long (`cv`)
                →  const_expr  →  "extra token"
  parse.c       const_expr → conditional → logor → logand → bitor → bitxor → bitand → equality → relational → shift → add
                → mul → cast → unary → postfix → primary → ( expr → assign → conditional … )

restricted to what a controlling expression can contain after those passes: integer constants (character constants are
integer constants by then), the unary operators + - ~ !, the binary operators of the ten levels, ?:, parentheses and – inside
parentheses or the middle operand of ?: – the comma operator.  There are no identifiers and no keywords left when the
parser runs (all replaced by 0 before convert_pp_tokens), hence no type names: cast() always falls through to unary(),
`sizeof`, `_Alignof`, `_Generic` are not reachable.  Every other token the parser would accept – assignment operators, postfix
`(` `[` `.` `->` `++` `--`, unary `&` `*` `++` `--` `&&`, `( {`, the GNU `?:` without middle operand, string literals,
floating constants – leaves the fragment: explicit outcome `unmodelled` (no claim).

The ten binary levels are one function `lvlD` over the table `Gen.C10IfParse.chain` that tools/extract/c10ifparse.py
regenerates from parse.c on every run (operand function, operators in source order, node kind, swapped operands for `>` `>=`);
conditional(), expr(), assign()'s head, unary()'s arms, primary()'s arms, skip(), read_const_expr, eval_const_expr are pinned
by the same translator.

Recursion: `parseN (f+1) = step (parseN f)`; `step prev` calls `prev` only after a token has been consumed (operand of a
unary or binary operator, continuation of a binary loop, parenthesis, operands of ?: and of the comma), everything else is the
non-recursive chain cond → lvlD 10 → … → lvlD 0 = unary → postfix → primary.  So fuel `length + 1` suffices
(Lemmas/IfParseGrammar.lean) and `ifParse` is a total function.

`error_tok` sites are explicit outcomes located by the index of the token they point at (index = length: the EOF token that
copy_line appended).  Core Lean only.
-/
import ChibiVerif.Gen.C10IfParseGen

namespace ChibiVerif.IfParse
open ChibiVerif.PPExpr ChibiVerif.CondIncl
open ChibiVerif.Gen.C10IfParse

-- ------------------------------------------------------------------ tokens and trees

/-- a token as `const_expr` sees it -/
inductive PTok where
  | num (v : Nat) (uns : Bool)     -- TK_NUM of integer type: value (as a 64-bit pattern), retyped unsigned long (`uns`) or long
  | punct (s : String)             -- TK_PUNCT
  | other                          -- TK_STR, TK_NUM of floating type: outside the fragment
  deriving DecidableEq, Repr

/-- the tree parse.c builds (Node kinds ND_NUM, ND_NEG/ND_NOT/ND_BITNOT, the binary kinds, ND_COND, ND_COMMA) -/
inductive PT where
  | num (v : Nat) (uns : Bool)
  | un (op : UnOp) (e : PT)
  | bin (op : BinOp) (a b : PT)
  | cond (c a b : PT)
  | comma (a b : PT)
  deriving DecidableEq, Repr

/-- kinds of located outcomes of the parser proper -/
inductive EK where
  | expectedExpr                   -- primary(): "expected an expression"
  | expected (s : String)          -- skip(): "expected ')'" / "expected ':'"
  | unmodelled                     -- a token that leaves the fragment (see the header)
  | fuel
  deriving DecidableEq, Repr

/-- result of a parser function: tree and remaining tokens, or an error kind and the tokens from the offending one on -/
abbrev Res := Except (EK × List PTok) (PT × List PTok)

/-- entry points that are called after a token has been consumed -/
inductive Mode where
  | expr                           -- expr()
  | cond                           -- conditional()
  | lvl (d : Nat)                  -- 0 = cast()/unary(), 1 = mul(), 2 = add(), … 10 = logor()
  | loop (d : Nat) (node : PT)     -- the loop of level `d` with `node` built so far
  deriving Repr

-- ------------------------------------------------------------------ the operator table (regenerated)

/-- number of binary levels (10) -/
def top : Nat := chain.length

/-- operators the function of level `d` tests for (1 = mul … 10 = logor) -/
def opsAt (d : Nat) : List (String × BinOp × Bool) :=
  match d with
  | 0 => []
  | d+1 => ((chain.reverse[d]?).map (·.2)).getD []

def lookupOp (d : Nat) (s : String) : Option (BinOp × Bool) :=
  ((opsAt d).find? (fun e => e.1 == s)).map (·.2)

def lookupUn (s : String) : Option UnOp := (unaryOps.find? (fun e => e.1 == s)).map (·.2)

/-- `new_binary(kind, node, rhs)` / for `>` `>=`: `new_binary(kind, rhs, node)` -/
def mkNode (op : BinOp) (swapped : Bool) (node rhs : PT) : PT :=
  if swapped then .bin op rhs node else .bin op node rhs

/-- unary(): `+` returns its operand (the integer promotions change nothing at the ranks long / int), the others build a node -/
def mkUnary (op : UnOp) (e : PT) : PT :=
  match op with
  | .plus => e
  | op => .un op e

-- ------------------------------------------------------------------ one unfolding of the mutually recursive functions

/-- tokenize.c `skip(tok, s)` -/
def skipTok (s : String) (ts : List PTok) : Except (EK × List PTok) (List PTok) :=
  match ts with
  | .punct s' :: r => if s' = s then .ok r else .error (.expected s, ts)
  | _ => .error (.expected s, ts)

section Step
variable (prev : Mode → List PTok → Res)

/-- primary(): `( {` is a statement expression; `(` expr `)`; TK_NUM; TK_STR (outside); else "expected an expression" -/
def primary (ts : List PTok) : Res :=
  match ts with
  | .punct s :: r =>
    if s = "(" then
      match r with
      | .punct "{" :: _ => .error (.unmodelled, ts)
      | _ =>
        match prev .expr r with
        | .error e => .error e
        | .ok (t, r') =>
          match skipTok ")" r' with
          | .error e => .error e
          | .ok r'' => .ok (t, r'')
    else .error (.expectedExpr, ts)
  | .num v u :: r => .ok (.num v u, r)
  | .other :: _ => .error (.unmodelled, ts)
  | [] => .error (.expectedExpr, ts)

/-- postfix(): primary, then the suffix loop – any suffix leaves the fragment -/
def postfixP (ts : List PTok) : Res :=
  match primary prev ts with
  | .error e => .error e
  | .ok (t, r) =>
    match r with
    | .punct s :: _ => if postfixOps.contains s then .error (.unmodelled, r) else .ok (t, r)
    | _ => .ok (t, r)

/-- cast() (never a type name here) → unary() -/
def unary (ts : List PTok) : Res :=
  match ts with
  | .punct s :: r =>
    match lookupUn s with
    | some op =>
      match prev (.lvl 0) r with
      | .error e => .error e
      | .ok (t, r') => .ok (mkUnary op t, r')
    | none => if unaryOther.contains s then .error (.unmodelled, ts) else postfixP prev ts
  | _ => postfixP prev ts

/-- the loop of a binary level, one iteration: an operator of the level → operand by the next level, continue; else return -/
def loopAt (d : Nat) (node : PT) (ts : List PTok) : Res :=
  match ts with
  | .punct s :: r =>
    match lookupOp d s with
    | some (op, sw) =>
      match prev (.lvl (d - 1)) r with
      | .error e => .error e
      | .ok (rhs, r') => prev (.loop d (mkNode op sw node rhs)) r'
    | none => .ok (node, ts)
  | _ => .ok (node, ts)

/-- mul() … logor(): first operand by the next level, then the loop -/
def lvlD : Nat → List PTok → Res
  | 0, ts => unary prev ts
  | d+1, ts =>
    match lvlD d ts with
    | .error e => .error e
    | .ok (node, r) => loopAt prev (d+1) node r

/-- conditional(): logor ( `?` expr `:` conditional )?  – `? :` without middle operand is the GNU extension (outside) -/
def condAt (ts : List PTok) : Res :=
  match lvlD prev top ts with
  | .error e => .error e
  | .ok (c, r) =>
    match r with
    | .punct s :: r1 =>
      if s = "?" then
        match r1 with
        | .punct ":" :: _ => .error (.unmodelled, r)
        | _ =>
          match prev .expr r1 with
          | .error e => .error e
          | .ok (a, r2) =>
            match skipTok ":" r2 with
            | .error e => .error e
            | .ok r3 =>
              match prev .cond r3 with
              | .error e => .error e
              | .ok (b, r4) => .ok (.cond c a b, r4)
      else .ok (c, r)
    | _ => .ok (c, r)

/-- assign(): conditional ( assign-op assign )? – an assignment operator leaves the fragment -/
def assignAt (ts : List PTok) : Res :=
  match condAt prev ts with
  | .error e => .error e
  | .ok (a, r) =>
    match r with
    | .punct s :: _ => if assignOps.contains s then .error (.unmodelled, r) else .ok (a, r)
    | _ => .ok (a, r)

/-- expr(): assign ( `,` expr )? -/
def exprAt (ts : List PTok) : Res :=
  match assignAt prev ts with
  | .error e => .error e
  | .ok (a, r) =>
    match r with
    | .punct s :: r1 =>
      if s = "," then
        match prev .expr r1 with
        | .error e => .error e
        | .ok (b, r2) => .ok (.comma a b, r2)
      else .ok (a, r)
    | _ => .ok (a, r)

def step : Mode → List PTok → Res
  | .expr, ts => exprAt prev ts
  | .cond, ts => condAt prev ts
  | .lvl d, ts => lvlD prev d ts
  | .loop d node, ts => loopAt prev d node ts

end Step

/-- the parser with `f` levels of unfolding -/
def parseN : Nat → Mode → List PTok → Res
  | 0 => fun _ ts => .error (.fuel, ts)
  | f+1 => step (parseN f)

-- ------------------------------------------------------------------ const_expr inside eval_const_expr

/-- the tree as an expression of Model/PPExpr.lean.  `eval` of ND_COMMA is `eval(rhs)`: the left operand is not evaluated and
    the node has the type of the right operand. -/
def ptExpr : PT → Expr
  | .num v u => .num v u
  | .un op e => .un op (ptExpr e)
  | .bin op a b => .bin op (ptExpr a) (ptExpr b)
  | .cond c a b => .cond (ptExpr c) (ptExpr a) (ptExpr b)
  | .comma _ b => ptExpr b

/-- located outcomes of eval_const_expr (index of the token pointed at; `ts.length` = the EOF token) -/
inductive PErr where
  | badDefined                     -- read_const_expr: "macro name must be an identifier" / "expected ')'"
  | expand (d : Diag)              -- a diagnostic of macro expansion (property C09)
  | noExpr                         -- "no expression" (located at the directive)
  | expectedExpr (i : Nat)         -- "expected an expression"
  | expected (s : String) (i : Nat)
  | extraToken (i : Nat)           -- "extra token"
  | divZeroFirst (i : Nat)         -- tokens are left at `i`, but const_expr has evaluated the tree before eval_const_expr tests
                                   -- for them: "division by zero in a constant expression" comes first
  | unmodelled (i : Nat)           -- outside the fragment from token `i` on: no claim
  | fuel
  deriving DecidableEq, Repr

def locate (n : Nat) (k : EK) (rest : List PTok) : PErr :=
  let i := n - rest.length
  match k with
  | .expectedExpr => .expectedExpr i
  | .expected s => .expected s i
  | .unmodelled => .unmodelled i
  | .fuel => .fuel

def isDivZero (r : Except PPErr Val) : Bool :=
  match r with
  | .error .divZero => true
  | _ => false

/-- `const_expr(&rest2, expr)` (= conditional() and then eval()) followed by the "extra token" test: when tokens are left, the
    tree has already been evaluated, so a division by zero in an evaluated operand is reported instead.
    Fuel `length + 1` is sufficient (C10_ifparse_total). -/
def ifParse (ts : List PTok) : Except PErr PT :=
  match parseN (ts.length + 1) .cond ts with
  | .ok (t, []) => .ok t
  | .ok (t, r) =>
    if isDivZero (evalTopC [] (ptExpr t)) then .error (.divZeroFirst (ts.length - r.length))
    else .error (.extraToken (ts.length - r.length))
  | .error (k, r) => .error (locate ts.length k r)

-- ------------------------------------------------------------------ eval_const_expr

/-- convert_pp_tokens and the retyping loop of eval_const_expr, token by token (`cv`: pp-number / character constant →
    value and signedness; `none`: not an integer constant – floating or invalid: outside the fragment) -/
def convAll (cv : Tok → Option PTok) : List Tok → Nat → Except PErr (List PTok)
  | [], _ => .ok []
  | t :: ts, i =>
    match cv t with
    | none => .error (.unmodelled i)
    | some p =>
      match convAll cv ts (i+1) with
      | .error e => .error e
      | .ok ps => .ok (p :: ps)

/-- eval_const_expr behind the macro expansion: "no expression", identifiers → 0, conversion, const_expr, "extra token" -/
def afterExpand (cv : Tok → Option PTok) (l2 : List Tok) : Except PErr PT :=
  match l2 with
  | [] => .error .noExpr
  | _ =>
    match convAll cv (identToZero l2) 0 with
    | .error e => .error e
    | .ok ps => ifParse ps

/-- the tree of a `#if` / `#elif` line: eval_const_expr up to and including the parse -/
def ifTree (isDef : String → Bool) (xp : List Tok → Except Diag (List Tok)) (cv : Tok → Option PTok) (line : List Tok) :
    Except PErr PT :=
  match readDefined isDef line with
  | .error _ => .error .badDefined
  | .ok l1 =>
    match xp l1 with
    | .error e => .error (.expand e)
    | .ok l2 => afterExpand cv l2

-- ------------------------------------------------------------------ from the tree to the value

abbrev PT.toExpr (t : PT) : Expr := ptExpr t

def PT.hasComma : PT → Bool
  | .num _ _ => false
  | .un _ e => e.hasComma
  | .bin _ a b => a.hasComma || b.hasComma
  | .cond c a b => c.hasComma || a.hasComma || b.hasComma
  | .comma _ _ => true

/-- the evaluator of controlling expressions given as token lines: chibicc (`narrow = true`) / C11 6.10.1p4 on the tree
    (`narrow = false`).  The macro table is used for `defined` and by the expander only: the tree has no identifiers. -/
def ifEval {β : Type} (narrow : Bool) (xp : Defs β → List Tok → Except Diag (List Tok)) (cv : Tok → Option PTok)
    (line : List Tok) (d : Defs β) : Except Diag Bool :=
  match ifTree d.isDef (xp d) cv line with
  | .error _ => .error .badExpr
  | .ok t => if narrow then evC t.toExpr [] else ev t.toExpr []

/-- region in which `C10_ifline` claims nothing: the tree has a comma operator (C11 6.6p3: a constraint violation where it is
    evaluated; chibicc and gcc accept it, chibicc without evaluating the left operand), an `int`-typed intermediate result
    leaves 32 bits (known finding C10-ppif-int-result-shift), or C11 leaves the behaviour undefined -/
def ifRegion {β : Type} (xp : Defs β → List Tok → Except Diag (List Tok)) (cv : Tok → Option PTok)
    (line : List Tok) (d : Defs β) : Bool :=
  match ifTree d.isDef (xp d) cv line with
  | .error _ => false
  | .ok t => t.hasComma || intResultOverflows [] t.toExpr || decide ((evalN false [] FUEL [] t.toExpr).1 = .error .undefinedBeh)

end ChibiVerif.IfParse
