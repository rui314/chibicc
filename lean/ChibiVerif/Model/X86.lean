/-
Executable semantics of the integer instruction forms chibicc emits (DESIGN §3.4).

Machine state: 16 general-purpose registers (`BitVec 64`), the flags ZF SF CF OF PF, byte-addressed memory
(a function `BitVec 64 → BitVec 8`).  `decode` maps the structured assembly syntax (`Asm.Ins`: mnemonic string +
operands) to a structured instruction; it only compares whole strings with literals, so the kernel can evaluate
it (`decide`/`rfl`).  Anything outside the supported forms decodes to `none` (never guessed).

Partiality: `idiv`/`div` by zero or with a quotient that does not fit (`#DE`) are `none`.
Flags that the Intel SDM leaves undefined after an instruction (shifts by a variable count, `imul`, `div`) are
not given a value: the state records `flagsValid = false` and a later `setcc` is `none`.

Trusted, and validated against the host CPU by checklib/C01.py (leg c): every sequence the theorems talk about is
assembled between a register-load prologue and a register-dump epilogue and run on boundary + random register files;
the result must equal `drv_c01 x86exec`.
-/
import ChibiVerif.Model.Asm

namespace ChibiVerif.X86
open ChibiVerif.Asm

inductive Reg where
  | rax | rcx | rdx | rbx | rsp | rbp | rsi | rdi | r8 | r9 | r10 | r11 | r12 | r13 | r14 | r15
  deriving DecidableEq, Repr, Inhabited

def Reg.all : List Reg := [.rax, .rcx, .rdx, .rbx, .rsp, .rbp, .rsi, .rdi, .r8, .r9, .r10, .r11, .r12, .r13, .r14, .r15]

/-- operand width -/
inductive W where
  | w8 | w16 | w32 | w64
  deriving DecidableEq, Repr, Inhabited

@[simp, reducible] def W.bits : W → Nat
  | .w8 => 8 | .w16 => 16 | .w32 => 32 | .w64 => 64

structure State where
  regs : Reg → BitVec 64
  zf : Bool := false
  sf : Bool := false
  cf : Bool := false
  of : Bool := false
  pf : Bool := false
  /-- false after an instruction that leaves some of ZF SF CF OF PF architecturally undefined -/
  flagsValid : Bool := true
  mem : BitVec 64 → BitVec 8

def State.get (s : State) (r : Reg) : BitVec 64 := s.regs r

def State.set (s : State) (r : Reg) (v : BitVec 64) : State :=
  { s with regs := fun r' => if r' = r then v else s.regs r' }

@[simp] theorem State.get_set_same (s : State) (r : Reg) (v : BitVec 64) : (s.set r v).get r = v := by
  simp [State.get, State.set]

@[simp] theorem State.get_set_ne (s : State) (r r' : Reg) (v : BitVec 64) (h : r' ≠ r) :
    (s.set r v).get r' = s.get r' := by
  simp [State.get, State.set, h]

/-- read the low `w` bits of a register (`%rax`, `%eax`, `%ax`, `%al`) -/
def State.getW (s : State) (r : Reg) (w : W) : BitVec w.bits := (s.get r).setWidth w.bits

/-- write a register at width `w`: 64 → whole register; 32 → zero-extended into the whole register;
    16 / 8 → the other bits are preserved (old / 2^w * 2^w + v) -/
def State.setW (s : State) (r : Reg) (w : W) (v : BitVec w.bits) : State :=
  match w with
  | .w64 => s.set r v
  | .w32 => s.set r (v.setWidth 64)
  | .w16 => s.set r (BitVec.ofNat 64 ((s.get r).toNat / 65536 * 65536 + v.toNat))
  | .w8 => s.set r (BitVec.ofNat 64 ((s.get r).toNat / 256 * 256 + v.toNat))

/-! ### memory (little endian) -/

def State.read8 (s : State) (a : BitVec 64) : BitVec 8 := s.mem a
def State.read16 (s : State) (a : BitVec 64) : BitVec 16 := s.mem (a + 1) ++ s.mem a
def State.read32 (s : State) (a : BitVec 64) : BitVec 32 := s.read16 (a + 2) ++ s.read16 a
def State.read64 (s : State) (a : BitVec 64) : BitVec 64 := s.read32 (a + 4) ++ s.read32 a

def State.readW (s : State) (a : BitVec 64) : (w : W) → BitVec w.bits
  | .w8 => s.read8 a | .w16 => s.read16 a | .w32 => s.read32 a | .w64 => s.read64 a

def State.write8 (s : State) (a : BitVec 64) (v : BitVec 8) : State :=
  { s with mem := fun x => if x = a then v else s.mem x }
def State.write16 (s : State) (a : BitVec 64) (v : BitVec 16) : State :=
  (s.write8 a (v.setWidth 8)).write8 (a + 1) ((v >>> 8).setWidth 8)
def State.write32 (s : State) (a : BitVec 64) (v : BitVec 32) : State :=
  (s.write16 a (v.setWidth 16)).write16 (a + 2) ((v >>> 16).setWidth 16)
def State.write64 (s : State) (a : BitVec 64) (v : BitVec 64) : State :=
  (s.write32 a (v.setWidth 32)).write32 (a + 4) ((v >>> 32).setWidth 32)

def State.writeW (s : State) (a : BitVec 64) : (w : W) → BitVec w.bits → State
  | .w8, v => s.write8 a v | .w16, v => s.write16 a v | .w32, v => s.write32 a v | .w64, v => s.write64 a v

/-! ### structured instructions -/

/-- register or register-relative memory or immediate -/
inductive Operand where
  | reg (r : Reg)
  | imm (n : Int)
  | mem (disp : Int) (base : Reg)
  deriving DecidableEq, Repr, Inhabited

inductive Alu where
  | add | sub | and | or | xor | cmp | test
  deriving DecidableEq, Repr

inductive Sh where
  | shl | shr | sar
  deriving DecidableEq, Repr

inductive CC where
  | e | ne | l | le | g | ge | b | be | a | ae | p | np | s | ns
  deriving DecidableEq, Repr

inductive Instr where
  | mov (w : W) (src dst : Operand)
  | movsx (ws wd : W) (src : Operand) (dst : Reg)
  | movzx (ws wd : W) (src : Operand) (dst : Reg)
  | alu (op : Alu) (w : W) (src dst : Operand)
  | imul (w : W) (src : Operand) (dst : Reg)
  | neg (w : W) (dst : Reg)
  | not (w : W) (dst : Reg)
  | inc (w : W) (dst : Reg)
  | dec (w : W) (dst : Reg)
  | cdq | cqo
  | idiv (w : W) (src : Reg)
  | div (w : W) (src : Reg)
  | shiftCl (op : Sh) (w : W) (dst : Reg)
  | shiftImm (op : Sh) (w : W) (n : Nat) (dst : Reg)
  | setcc (cc : CC) (dst : Reg)
  | push (src : Reg)
  | pop (dst : Reg)
  | lea (disp : Int) (base : Reg) (dst : Reg)
  deriving DecidableEq, Repr

/-! ### decoding of the assembly text -/

/-- register name (with `%`) → register and width -/
def regOf : String → Option (Reg × W)
  | "%rax" => some (.rax, .w64) | "%eax" => some (.rax, .w32) | "%ax" => some (.rax, .w16) | "%al" => some (.rax, .w8)
  | "%rcx" => some (.rcx, .w64) | "%ecx" => some (.rcx, .w32) | "%cx" => some (.rcx, .w16) | "%cl" => some (.rcx, .w8)
  | "%rdx" => some (.rdx, .w64) | "%edx" => some (.rdx, .w32) | "%dx" => some (.rdx, .w16) | "%dl" => some (.rdx, .w8)
  | "%rbx" => some (.rbx, .w64) | "%ebx" => some (.rbx, .w32) | "%bx" => some (.rbx, .w16) | "%bl" => some (.rbx, .w8)
  | "%rsp" => some (.rsp, .w64) | "%esp" => some (.rsp, .w32) | "%sp" => some (.rsp, .w16) | "%spl" => some (.rsp, .w8)
  | "%rbp" => some (.rbp, .w64) | "%ebp" => some (.rbp, .w32) | "%bp" => some (.rbp, .w16) | "%bpl" => some (.rbp, .w8)
  | "%rsi" => some (.rsi, .w64) | "%esi" => some (.rsi, .w32) | "%si" => some (.rsi, .w16) | "%sil" => some (.rsi, .w8)
  | "%rdi" => some (.rdi, .w64) | "%edi" => some (.rdi, .w32) | "%di" => some (.rdi, .w16) | "%dil" => some (.rdi, .w8)
  | "%r8" => some (.r8, .w64) | "%r8d" => some (.r8, .w32) | "%r8w" => some (.r8, .w16) | "%r8b" => some (.r8, .w8)
  | "%r9" => some (.r9, .w64) | "%r9d" => some (.r9, .w32) | "%r9w" => some (.r9, .w16) | "%r9b" => some (.r9, .w8)
  | "%r10" => some (.r10, .w64) | "%r10d" => some (.r10, .w32) | "%r10w" => some (.r10, .w16) | "%r10b" => some (.r10, .w8)
  | "%r11" => some (.r11, .w64) | "%r11d" => some (.r11, .w32) | "%r11w" => some (.r11, .w16) | "%r11b" => some (.r11, .w8)
  | "%r12" => some (.r12, .w64) | "%r12d" => some (.r12, .w32) | "%r12w" => some (.r12, .w16) | "%r12b" => some (.r12, .w8)
  | "%r13" => some (.r13, .w64) | "%r13d" => some (.r13, .w32) | "%r13w" => some (.r13, .w16) | "%r13b" => some (.r13, .w8)
  | "%r14" => some (.r14, .w64) | "%r14d" => some (.r14, .w32) | "%r14w" => some (.r14, .w16) | "%r14b" => some (.r14, .w8)
  | "%r15" => some (.r15, .w64) | "%r15d" => some (.r15, .w32) | "%r15w" => some (.r15, .w16) | "%r15b" => some (.r15, .w8)
  | _ => none

/-- a memory operand's base must be a 64-bit register -/
def baseOf (b : String) : Option Reg :=
  match regOf b with
  | some (r, .w64) => some r
  | _ => none

/-- operand → (structured operand, width if it is a register) -/
def opdOf : Opd → Option (Operand × Option W)
  | .r n => (regOf n).map fun (r, w) => (.reg r, some w)
  | .i n => some (.imm n, none)
  | .m d b => (baseOf b).map fun r => (.mem d r, none)
  | .m0 b => (baseOf b).map fun r => (.mem 0 r, none)
  | .s _ => none

def aluOf : String → Option (Alu × Option W)
  | "add" => some (.add, none) | "sub" => some (.sub, none) | "and" => some (.and, none) | "or" => some (.or, none)
  | "xor" => some (.xor, none) | "cmp" => some (.cmp, none) | "test" => some (.test, none)
  | "addq" => some (.add, some .w64) | "subq" => some (.sub, some .w64) | "addl" => some (.add, some .w32)
  | "subl" => some (.sub, some .w32) | "cmpq" => some (.cmp, some .w64) | "cmpl" => some (.cmp, some .w32)
  | _ => none

def shOf : String → Option Sh
  | "shl" => some .shl | "shr" => some .shr | "sar" => some .sar | _ => none

def ccOf : String → Option CC
  | "sete" => some .e | "setne" => some .ne | "setl" => some .l | "setle" => some .le | "setg" => some .g
  | "setge" => some .ge | "setb" => some .b | "setbe" => some .be | "seta" => some .a | "setae" => some .ae
  | "setp" => some .p | "setnp" => some .np | "sets" => some .s | "setns" => some .ns
  | _ => none

/-- sign- or zero-extending moves with explicit widths in the mnemonic -/
def extOf : String → Option (Bool × W × W)      -- (signed, source width, destination width)
  | "movsbl" => some (true, .w8, .w32) | "movswl" => some (true, .w16, .w32) | "movsbq" => some (true, .w8, .w64)
  | "movswq" => some (true, .w16, .w64) | "movslq" => some (true, .w32, .w64) | "movsxd" => some (true, .w32, .w64)
  | "movsbw" => some (true, .w8, .w16)
  | "movzbl" => some (false, .w8, .w32) | "movzwl" => some (false, .w16, .w32) | "movzbq" => some (false, .w8, .w64)
  | "movzwq" => some (false, .w16, .w64) | "movzbw" => some (false, .w8, .w16)
  | _ => none

def decode (i : Ins) : Option Instr :=
  match i.op, i.a with
  | "cdq", [] | "cltd", [] => some .cdq
  | "cqo", [] | "cqto", [] => some .cqo
  | "push", [.r n] => match regOf n with | some (r, .w64) => some (.push r) | _ => none
  | "pop", [.r n] => match regOf n with | some (r, .w64) => some (.pop r) | _ => none
  | "lea", [src, .r n] =>
      match opdOf src, regOf n with
      | some (.mem d b, _), some (r, .w64) => some (.lea d b r)
      | _, _ => none
  | "neg", [.r n] => (regOf n).map fun (r, w) => .neg w r
  | "not", [.r n] => (regOf n).map fun (r, w) => .not w r
  | "inc", [.r n] => (regOf n).map fun (r, w) => .inc w r
  | "dec", [.r n] => (regOf n).map fun (r, w) => .dec w r
  | "idiv", [.r n] => match regOf n with
      | some (r, .w32) => some (.idiv .w32 r) | some (r, .w64) => some (.idiv .w64 r) | _ => none
  | "div", [.r n] => match regOf n with
      | some (r, .w32) => some (.div .w32 r) | some (r, .w64) => some (.div .w64 r) | _ => none
  | "imul", [src, .r n] =>
      match opdOf src, regOf n with
      | some (.reg s, some ws), some (r, w) => if ws = w ∧ w ≠ .w8 then some (.imul w (.reg s) r) else none
      | some (.mem d b, none), some (r, w) => if w ≠ .w8 then some (.imul w (.mem d b) r) else none
      | _, _ => none
  | op, [a] =>
      match ccOf op, a with
      | some cc, .r n => (match regOf n with | some (r, .w8) => some (.setcc cc r) | _ => none)
      | _, _ => none
  | op, [a, b] =>
      -- mov family
      if op = "mov" ∨ op = "movq" ∨ op = "movl" ∨ op = "movw" ∨ op = "movb" then
        let wm : Option W := if op = "movq" then some .w64 else if op = "movl" then some .w32
                             else if op = "movw" then some .w16 else if op = "movb" then some .w8 else none
        match opdOf a, opdOf b with
        | some (src, ws), some (dst, wd) =>
            let w? : Option W := match wm, ws, wd with
              | some w, none, none => some w
              | some w, some w1, none => if w = w1 then some w else none
              | some w, none, some w2 => if w = w2 then some w else none
              | some w, some w1, some w2 => if w = w1 ∧ w = w2 then some w else none
              | none, some w1, none => some w1
              | none, none, some w2 => some w2
              | none, some w1, some w2 => if w1 = w2 then some w1 else none
              | none, none, none => none
            match w?, src, dst with
            | some _, .mem _ _, .mem _ _ => none
            | some _, _, .imm _ => none
            | some w, src, dst => some (.mov w src dst)
            | none, _, _ => none
        | _, _ => none
      else
      match extOf op with
      | some (sgn, ws, wd) =>
          (match opdOf a, b with
           | some (src, wsrc), .r n =>
               (match regOf n, src with
                | some (r, w), .reg _ => if w = wd ∧ wsrc = some ws then some (if sgn then .movsx ws wd src r else .movzx ws wd src r) else none
                | some (r, w), .mem _ _ => if w = wd then some (if sgn then .movsx ws wd src r else .movzx ws wd src r) else none
                | _, _ => none)
           | _, _ => none)
      | none =>
      if op = "movzx" ∨ op = "movzb" ∨ op = "movzw" ∨ op = "movsx" then
        -- widths from the register operands
        match a, b with
        | .r n1, .r n2 =>
            (match regOf n1, regOf n2 with
             | some (r1, w1), some (r2, w2) =>
                 if w1.bits < w2.bits ∧ (op = "movzb" → w1 = .w8) ∧ (op = "movzw" → w1 = .w16) then
                   some (if op = "movsx" then .movsx w1 w2 (.reg r1) r2 else .movzx w1 w2 (.reg r1) r2)
                 else none
             | _, _ => none)
        | _, _ => none
      else
      match shOf op with
      | some sh =>
          (match a, b with
           | .r "%cl", .r n => (regOf n).map fun (r, w) => .shiftCl sh w r
           | .i k, .r n => if 0 ≤ k ∧ k < 64 then (regOf n).map fun (r, w) => .shiftImm sh w k.toNat r else none
           | _, _ => none)
      | none =>
      match aluOf op with
      | some (alu, wm) =>
          (match opdOf a, opdOf b with
           | some (src, ws), some (dst, wd) =>
               let w? : Option W := match wm, ws, wd with
                 | some w, none, none => some w
                 | some w, some w1, none => if w = w1 then some w else none
                 | some w, none, some w2 => if w = w2 then some w else none
                 | some w, some w1, some w2 => if w = w1 ∧ w = w2 then some w else none
                 | none, some w1, none => some w1
                 | none, none, some w2 => some w2
                 | none, some w1, some w2 => if w1 = w2 then some w1 else none
                 | none, none, none => none
               (match w?, src, dst with
                | some _, .mem _ _, .mem _ _ => none
                | some _, _, .imm _ => none
                | some w, src, dst => some (.alu alu w src dst)
                | none, _, _ => none)
           | _, _ => none)
      | none => none
  | _, _ => none

/-! ### execution -/

/-- effective address of `disp(base)` -/
def State.ea (s : State) (d : Int) (b : Reg) : BitVec 64 := s.get b + BitVec.ofInt 64 d

/-- value of a source operand at width `w`; an immediate `n` is taken whole, with no range check.  For `n` in the signed
    32-bit range that is the sign-extended 32-bit immediate of the encoding, and for `mov $imm, %r64` the assembler picks
    `movabs` when needed, so the full 64-bit value is right; elsewhere an `n` outside that range has no encoding and gets
    a meaning all the same -/
def State.src (s : State) (w : W) : Operand → BitVec w.bits
  | .reg r => s.getW r w
  | .imm n => BitVec.ofInt w.bits n
  | .mem d b => s.readW (s.ea d b) w

def State.dst (s : State) (w : W) (o : Operand) (v : BitVec w.bits) : Option State :=
  match o with
  | .reg r => some (s.setW r w v)
  | .mem d b => some (s.writeW (s.ea d b) w v)
  | .imm _ => none

/-- PF: set iff the low byte of the result has an even number of 1 bits -/
def parity {n : Nat} (r : BitVec n) : Bool :=
  let b := r.setWidth 8
  !(b.getLsbD 0 ^^ b.getLsbD 1 ^^ b.getLsbD 2 ^^ b.getLsbD 3 ^^ b.getLsbD 4 ^^ b.getLsbD 5 ^^ b.getLsbD 6 ^^ b.getLsbD 7)

/-- set ZF SF PF from a result and CF OF as given -/
def State.flags {n : Nat} (s : State) (r : BitVec n) (cf of : Bool) : State :=
  { s with zf := r == 0, sf := r.msb, pf := parity r, cf := cf, of := of, flagsValid := true }

def State.cond (s : State) : CC → Bool
  | .e => s.zf | .ne => !s.zf
  | .l => s.sf != s.of | .ge => s.sf == s.of
  | .le => s.zf || (s.sf != s.of) | .g => !s.zf && (s.sf == s.of)
  | .b => s.cf | .ae => !s.cf
  | .be => s.cf || s.zf | .a => !s.cf && !s.zf
  | .p => s.pf | .np => !s.pf
  | .s => s.sf | .ns => !s.sf

def aluExec (op : Alu) (w : W) (s : State) (a b : BitVec w.bits) : BitVec w.bits × State :=
  -- `b` is the destination operand's old value, `a` the source:  dst := dst op src
  match op with
  | .add => let r := b + a; (r, s.flags r (BitVec.uaddOverflow b a) (BitVec.saddOverflow b a))
  | .sub | .cmp => let r := b - a; (r, s.flags r (BitVec.usubOverflow b a) (BitVec.ssubOverflow b a))
  | .and | .test => let r := b &&& a; (r, s.flags r false false)
  | .or => let r := b ||| a; (r, s.flags r false false)
  | .xor => let r := b ^^^ a; (r, s.flags r false false)

def Alu.writes : Alu → Bool
  | .cmp | .test => false
  | _ => true

def exec (i : Instr) (s : State) : Option State :=
  match i with
  | .mov w src dst => s.dst w dst (s.src w src)
  | .movsx ws wd src dst =>
      some (s.setW dst wd ((s.src ws src).signExtend wd.bits))
  | .movzx ws wd src dst =>
      some (s.setW dst wd ((s.src ws src).setWidth wd.bits))
  | .alu op w src dst =>
      match dst with
      | .imm _ => none
      | _ =>
        let a := s.src w src
        let b := s.src w dst
        let (r, s') := aluExec op w s a b
        if op.writes then s'.dst w dst r else some s'
  | .imul w src dst =>
      let a := s.src w src
      let b := s.getW dst w
      some { (s.setW dst w (b * a)) with flagsValid := false }
  | .neg w dst =>
      let b := s.getW dst w
      let r := -b
      some ((s.setW dst w r).flags r (b != 0) (BitVec.negOverflow b))
  | .not w dst => some (s.setW dst w (~~~ (s.getW dst w)))
  | .inc w dst =>
      let b := s.getW dst w
      let r := b + 1
      some { (s.setW dst w r) with zf := r == 0, sf := r.msb, pf := parity r, of := BitVec.saddOverflow b 1 }
  | .dec w dst =>
      let b := s.getW dst w
      let r := b - 1
      some { (s.setW dst w r) with zf := r == 0, sf := r.msb, pf := parity r, of := BitVec.ssubOverflow b 1 }
  | .cdq => some (s.setW .rdx .w32 ((s.getW .rax .w32).sshiftRight 31))
  | .cqo => some (s.set .rdx ((s.get .rax).sshiftRight 63))
  | .idiv .w32 src =>
      -- edx:eax (as the signed number edx * 2^32 + eax) / src, truncating; #DE if src = 0 or the quotient does not fit
      let dividend : Int := (s.getW .rdx .w32).toInt * 2 ^ 32 + (s.getW .rax .w32).toNat
      let d : Int := (s.getW src .w32).toInt
      if d = 0 then none else
      let q := Int.tdiv dividend d
      let r := Int.tmod dividend d
      if q < -(2 ^ 31) ∨ q ≥ 2 ^ 31 then none else
      some { ((s.setW .rax .w32 (BitVec.ofInt 32 q)).setW .rdx .w32 (BitVec.ofInt 32 r)) with flagsValid := false }
  | .idiv .w64 src =>
      let dividend : Int := (s.get .rdx).toInt * 2 ^ 64 + (s.get .rax).toNat
      let d : Int := (s.get src).toInt
      if d = 0 then none else
      let q := Int.tdiv dividend d
      let r := Int.tmod dividend d
      if q < -(2 ^ 63) ∨ q ≥ 2 ^ 63 then none else
      some { ((s.set .rax (BitVec.ofInt 64 q)).set .rdx (BitVec.ofInt 64 r)) with flagsValid := false }
  | .idiv _ _ => none
  | .div .w32 src =>
      let dividend : Nat := (s.getW .rdx .w32).toNat * 2 ^ 32 + (s.getW .rax .w32).toNat
      let d : Nat := (s.getW src .w32).toNat
      if d = 0 then none else
      let q := dividend / d
      let r := dividend % d
      if q ≥ 2 ^ 32 then none else
      some { ((s.setW .rax .w32 (BitVec.ofNat 32 q)).setW .rdx .w32 (BitVec.ofNat 32 r)) with flagsValid := false }
  | .div .w64 src =>
      let dividend : Nat := (s.get .rdx).toNat * 2 ^ 64 + (s.get .rax).toNat
      let d : Nat := (s.get src).toNat
      if d = 0 then none else
      let q := dividend / d
      let r := dividend % d
      if q ≥ 2 ^ 64 then none else
      some { ((s.set .rax (BitVec.ofNat 64 q)).set .rdx (BitVec.ofNat 64 r)) with flagsValid := false }
  | .div _ _ => none
  | .shiftCl op w dst =>
      -- count = %cl masked to 6 bits for 64-bit operands, 5 bits otherwise
      let c : Nat := (s.getW .rcx .w8).toNat % (if w = .w64 then 64 else 32)
      let b := s.getW dst w
      let r := match op with
        | .shl => b <<< c
        | .shr => b >>> c
        | .sar => b.sshiftRight c
      some { (s.setW dst w r) with flagsValid := false }
  | .shiftImm op w n dst =>
      let c : Nat := n % (if w = .w64 then 64 else 32)
      let b := s.getW dst w
      let r := match op with
        | .shl => b <<< c
        | .shr => b >>> c
        | .sar => b.sshiftRight c
      some { (s.setW dst w r) with flagsValid := false }
  | .setcc cc dst =>
      if s.flagsValid then some (s.setW dst .w8 (if s.cond cc then 1#8 else 0#8)) else none
  | .push src =>
      let sp := s.get .rsp - 8
      some ((s.set .rsp sp).write64 sp (s.get src))
  | .pop dst =>
      let sp := s.get .rsp
      let v := s.read64 sp
      -- `pop %rsp` is not emitted; order: increment, then write the destination
      some ((s.set .rsp (sp + 8)).set dst v)
  | .lea d b dst => some (s.set dst (s.ea d b))

/-- decode and execute one instruction -/
def step (i : Ins) (s : State) : Option State :=
  match decode i with
  | some ins => exec ins s
  | none => none

/-- execute a straight-line sequence -/
def run : List Ins → State → Option State
  | [], s => some s
  | i :: is, s => match step i s with
    | some s' => run is s'
    | none => none

/-- execute an already decoded sequence -/
def execs : List Instr → State → Option State
  | [], s => some s
  | i :: is, s => match exec i s with
    | some s' => execs is s'
    | none => none

def decodeAll : List Ins → Option (List Instr)
  | [] => some []
  | i :: is => match decode i, decodeAll is with
    | some x, some xs => some (x :: xs)
    | _, _ => none

theorem run_eq_execs (is : List Ins) (ds : List Instr) (h : decodeAll is = some ds) (s : State) :
    run is s = execs ds s := by
  induction is generalizing ds s with
  | nil => simp [decodeAll] at h; subst h; rfl
  | cons i is ih =>
    simp only [decodeAll] at h
    cases hd : decode i with
    | none => simp [hd] at h
    | some x =>
      cases hr : decodeAll is with
      | none => simp [hd, hr] at h
      | some xs =>
        simp [hd, hr] at h; subst h
        simp only [run, step, hd, execs]
        cases exec x s with
        | none => rfl
        | some s' => exact ih xs hr s'

end ChibiVerif.X86
