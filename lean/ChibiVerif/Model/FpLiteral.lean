/-
The floating branch of tokenize.c `convert_pp_number` (C02): which type a floating constant gets and which value ends up in
`tok->fval`, as a function of what libc answers on the token text.  The suffix ladder — suffix bytes, type object, and the
libc function whose result is kept — is `Gen/FpLiteralGen` (regenerated from tokenize.c on every run).

Since the fix "a floating constant is rounded once, to its own type" the value of an unsuffixed constant is `strtod`'s
(a double, widened exactly to the `long double val`), of an `f`/`F` constant `strtof`'s, of an `l`/`L` constant `strtold`'s.
codegen.c `ND_NUM` then narrows `node->fval` back to the node's type by the union punning (Model/FpCodegen `numF32/64/80`).

libc is not modelled: `Parsed` carries the three results on the same text.  The trusted contract (`LibcRounds` below, a
hypothesis of Props/C02.lean `C02_const_rounded`): each function returns the datum of its own format nearest (ties to even) to the value of the
spelling (ISO C 7.22.1.3 with IEC 60559 "correct rounding", which glibc implements), and never a NaN for a pp-number.
-/
import ChibiVerif.Gen.FpLiteralGen
import ChibiVerif.Model.FpCodegen
import ChibiVerif.Spec.FpC11Spec

namespace ChibiVerif.FpLiteral
open ChibiVerif.Gen.FpLiteral ChibiVerif.Spec.Fpu ChibiVerif.Asm ChibiVerif.Spec.FpC11

/-- what libc answers on the text of one pp-number that is not an integer constant -/
structure Parsed where
  /-- `strtof(tok->loc, NULL)` -/
  f32 : BitVec 32
  /-- `strtod(tok->loc, NULL)` -/
  f64 : BitVec 64
  /-- `strtold(tok->loc, &end)` -/
  f80 : BitVec 80
  /-- the byte `*end` -/
  suffix : Nat
  /-- `tok->loc + tok->len - end`: bytes of the token the number part did not cover -/
  restLen : Nat

/-- the result of a libc function as the `long double val` it is assigned to (widening is the hardware's `fld`) -/
def parserVal (F : FpuSpec) (p : Parsed) : Parser → BitVec 80
  | .strtof => F.fld32 p.f32
  | .strtod => F.fld64 p.f64
  | .strtold => p.f80

/-- `if (*end == c1 || *end == c2) … else if …`: the first arm one of whose bytes is `*end` -/
def selectArm (sfx : Nat) : List (List Nat × FTy × Parser) → Option (FTy × Parser)
  | [] => none
  | (bs, t, q) :: rest => if bs.contains sfx then some (t, q) else selectArm sfx rest

inductive Outcome where
  | num (ty : FTy) (fval : BitVec 80)
  | invalid                                   -- error_tok "invalid numeric constant"
  deriving DecidableEq, Repr

/-- `convert_pp_number` after `convert_pp_int` has declined -/
def convertPpNumberFp (F : FpuSpec) (p : Parsed) : Outcome :=
  match selectArm p.suffix suffixArms with
  | some (t, q) => if p.restLen = 1 then .num t (parserVal F p q) else .invalid      -- `end++`, then `loc + len != end`
  | none => if p.restLen = 0 then .num defaultArm.1 (parserVal F p defaultArm.2) else .invalid

/-- the libc function of a type's own format -/
def ownParser : FTy → Parser
  | .ty_float => .strtof
  | .ty_double => .strtod
  | .ty_ldouble => .strtold

/-- codegen.c `ND_NUM` for a floating constant: the union punning narrows `node->fval` (a `long double` held by the
    compiler, whose x87 control word is `hostCw`) to the node's type; Model/FpCodegen renders the immediates -/
def numLines (F : FpuSpec) (hostCw : BitVec 16) (ty : FTy) (fval : BitVec 80) : List Line :=
  match ty with
  | .ty_float => FpCodegen.numF32 (F.fst32 hostCw fval)
  | .ty_double => FpCodegen.numF64 (F.fst64 hostCw fval)
  | .ty_ldouble => FpCodegen.numF80 fval

/-- the C type a type object stands for, its precision, and the datum libc's function *of that type* returned -/
def atyOf : FTy → ATy
  | .ty_float => .f32 | .ty_double => .f64 | .ty_ldouble => .f80

def precOf : FTy → Nat
  | .ty_float => 24 | .ty_double => 53 | .ty_ldouble => 64

def datumOf (p : Parsed) : FTy → AVal
  | .ty_float => .f32 p.f32 | .ty_double => .f64 p.f64 | .ty_ldouble => .f80 p.f80

/-- what a datum of a floating type denotes -/
def valOf (F : FpuSpec) : AVal → Option Val
  | .f32 b => some (F.val32 b) | .f64 b => some (F.val64 b) | .f80 b => some (F.val80 b) | .int _ => none

/-- **the libc contract** (trusted; validated against exact rational arithmetic and gcc by checklib/C02.py): on a spelling
    whose value is the natural number `n`, `strtof`/`strtod`/`strtold` return the datum of their own format that denotes `n`
    rounded to nearest, ties to even, to 24 / 53 / 64 significant bits -/
structure LibcRounds (F : FpuSpec) (n : Nat) (p : Parsed) : Prop where
  f32 : (F.val32 p.f32).toInt? = some (roundNat 24 n : Int)
  f64 : (F.val64 p.f64).toInt? = some (roundNat 53 n : Int)
  f80 : (F.val80 p.f80).toInt? = some (roundNat 64 n : Int)

end ChibiVerif.FpLiteral
