/- The typed tree chibicc builds for an arithmetic constant expression with floating operands (property C07): parse.c
   (`new_binary`, `new_unary`, `new_cast`, `primary` for floating constants, `unary` "+", `relational` swapping `>`/`>=`)
   followed by type.c `add_type` (`usual_arith_conv` / `get_common_type` with the floating ranks).  The integer fragment is
   Model/ConstElab.lean (`elabA (ofC e) = elabE e`, Lemmas/C07FloatInt.lean).  Hand-written; tied to the code on every
   run by the floating leg of checklib/C07.py (the bits the real compiler emits for an expression are compared with
   `Gen.evalDouble (elabA e)` over the software FPU).  Core Lean only. -/
import ChibiVerif.Model.ConstElab
import ChibiVerif.Spec.ConstFSpec

namespace ChibiVerif.ConstElab
open ChibiVerif.Gen.ConstEval ChibiVerif.Spec.Const ChibiVerif.Spec.ConstF

/-- the `Type` object of each floating type (type.c `ty_float`, `ty_double`, `ty_ldouble`) -/
def descrF : FTy → CTy
  | .f32 => ⟨.TY_FLOAT, 4, false⟩
  | .f64 => ⟨.TY_DOUBLE, 8, false⟩
  | .f80 => ⟨.TY_LDOUBLE, 16, false⟩

def descrA : ATy → CTy
  | .int t => descr t
  | .flt t => descrF t

/-- type.c `get_common_type` on arithmetic types -/
def getCommonTypeA (ty1 ty2 : CTy) : CTy :=
  if ty1.kind == .TY_LDOUBLE || ty2.kind == .TY_LDOUBLE then descrF .f80
  else if ty1.kind == .TY_DOUBLE || ty2.kind == .TY_DOUBLE then descrF .f64
  else if ty1.kind == .TY_FLOAT || ty2.kind == .TY_FLOAT then descrF .f32
  else getCommonType ty1 ty2

def mkArithA (k : NodeKind) (a b : CNode) : CNode :=
  let t := getCommonTypeA (nodeTy a) (nodeTy b)
  bin k t (mkCast a t) (mkCast b t)
def mkCompareA (k : NodeKind) (a b : CNode) : CNode :=
  let t := getCommonTypeA (nodeTy a) (nodeTy b)
  bin k tyInt (mkCast a t) (mkCast b t)
def mkPromotedA (k : NodeKind) (a b : CNode) : CNode :=
  let t := getCommonTypeA tyInt (nodeTy a)
  .mk k t 0 0 (mkCast a t) b .null .null .null

def elabA : AExpr → CNode
  | .ilit t v => .mk .ND_NUM (descr t) (BitVec.ofInt 64 v) 0 .null .null .null .null .null
  | .flit t fval => .mk .ND_NUM (descrF t) 0 fval .null .null .null .null .null
  | .un .neg e => mkPromotedA .ND_NEG (elabA e) .null
  | .un .bitnot e => mkPromotedA .ND_BITNOT (elabA e) .null
  | .un .lognot e => un .ND_NOT tyInt (elabA e)
  | .un .plus e =>
    let n := elabA e
    if isInteger (nodeTy n) && (nodeTy n).size.toNat < 4 then mkCast n tyInt else n
  | .bin op a b =>
    let x := elabA a
    let y := elabA b
    match op with
    | .add => mkArithA .ND_ADD x y
    | .sub => mkArithA .ND_SUB x y
    | .mul => mkArithA .ND_MUL x y
    | .div => mkArithA .ND_DIV x y
    | .mod => mkArithA .ND_MOD x y
    | .band => mkArithA .ND_BITAND x y
    | .bor => mkArithA .ND_BITOR x y
    | .bxor => mkArithA .ND_BITXOR x y
    | .shl => mkPromotedA .ND_SHL x y
    | .shr => mkPromotedA .ND_SHR x y
    | .eq => mkCompareA .ND_EQ x y
    | .ne => mkCompareA .ND_NE x y
    | .lt => mkCompareA .ND_LT x y
    | .le => mkCompareA .ND_LE x y
    | .gt => mkCompareA .ND_LT y x
    | .ge => mkCompareA .ND_LE y x
  | .land a b => bin .ND_LOGAND tyInt (elabA a) (elabA b)
  | .lor a b => bin .ND_LOGOR tyInt (elabA a) (elabA b)
  | .cond c a b =>
    let x := elabA a
    let y := elabA b
    let t := getCommonTypeA (nodeTy x) (nodeTy y)
    .mk .ND_COND t 0 0 .null .null (elabA c) (mkCast x t) (mkCast y t)
  | .cast t e => mkCast (elabA e) (descrA t)

end ChibiVerif.ConstElab
