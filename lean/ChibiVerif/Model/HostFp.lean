/- Host C floating arithmetic for translated leaf functions of chibicc (property C07).

   chibicc's floating constant folder (parse.c `eval_double`/`eval_double2`, the floating arms of `eval3`) is itself a C
   program over `float`, `double` and `long double`; the value it computes is whatever the *host* gives to those operations.
   The translator (tools/extract/consteval.py) emits one application of a field of `HostFp` for every floating node of the
   clang-14 typed AST, at the width clang computed: `(float)lhs + (float)rhs` is `A.add32 (A.f80to32 lhs) (A.f80to32 rhs)`,
   the implicit conversion of that `float` to the `long double` the function returns is `A.f32to80`.

   A datum of a floating type is its object representation (`BitVec 32` / `BitVec 64` / `BitVec 80`; x86-64: IEEE binary32,
   binary64, x87 double extended), as in Spec/FpuSpec.lean.  Nothing is assumed here about what the operations compute: the
   structure only names them.  What the theorems need is stated as hypotheses where it is needed (`C07Float.Sound` in
   Lemmas/C07FloatLemmas.lean); the driver runs the model over `SoftFp.softHost` (Model/HostFpX86.lean, over Model/SoftFp.lean), a software IEEE-754
   implementation, and the check compares it with the real compiler bit for bit.

   Conversions of a floating value to an integer type are undefined in the host when the integral part does not fit
   (C11 6.3.1.4p1): `fitsI64` / `fitsU64` say whether it fits, `f80toI64` / `f80toU64` are what the host's instruction
   sequence delivers in either case (`HostMode.strict` reports the undefined case as `Fail.hostUB`, as for signed overflow).

   Core Lean only. -/
import ChibiVerif.Model.HostInt

namespace ChibiVerif.Host

structure HostFp where
  /- conversions between floating types (clang: FloatingCast) -/
  f80to32 : BitVec 80 → BitVec 32
  f80to64 : BitVec 80 → BitVec 64
  f32to80 : BitVec 32 → BitVec 80
  f64to80 : BitVec 64 → BitVec 80
  f32to64 : BitVec 32 → BitVec 64
  f64to32 : BitVec 64 → BitVec 32
  /- arithmetic in each format -/
  add32 : BitVec 32 → BitVec 32 → BitVec 32
  sub32 : BitVec 32 → BitVec 32 → BitVec 32
  mul32 : BitVec 32 → BitVec 32 → BitVec 32
  div32 : BitVec 32 → BitVec 32 → BitVec 32
  add64 : BitVec 64 → BitVec 64 → BitVec 64
  sub64 : BitVec 64 → BitVec 64 → BitVec 64
  mul64 : BitVec 64 → BitVec 64 → BitVec 64
  div64 : BitVec 64 → BitVec 64 → BitVec 64
  add80 : BitVec 80 → BitVec 80 → BitVec 80
  sub80 : BitVec 80 → BitVec 80 → BitVec 80
  mul80 : BitVec 80 → BitVec 80 → BitVec 80
  div80 : BitVec 80 → BitVec 80 → BitVec 80
  neg32 : BitVec 32 → BitVec 32
  neg64 : BitVec 64 → BitVec 64
  neg80 : BitVec 80 → BitVec 80
  /- integer → long double (clang: IntegralToFloating); every 64-bit integer is a long double exactly -/
  i32to80 : BitVec 32 → BitVec 80
  i64to80 : BitVec 64 → BitVec 80
  u64to80 : BitVec 64 → BitVec 80
  /- long double → integer (clang: FloatingToIntegral) -/
  f80toI64 : BitVec 80 → BitVec 64
  f80toU64 : BitVec 80 → BitVec 64
  fitsI64 : BitVec 80 → Bool
  fitsU64 : BitVec 80 → Bool
  /- comparisons of long doubles (`==`, `<`, `<=`; `!=` is `!(==)`, `>`/`>=` exchange the operands) -/
  eq80 : BitVec 80 → BitVec 80 → Bool
  lt80 : BitVec 80 → BitVec 80 → Bool
  le80 : BitVec 80 → BitVec 80 → Bool

/-- `(int64_t)x`, `x` a long double -/
def cvtI64 (m : HostMode) (A : HostFp) (x : BitVec 80) : R 64 :=
  ovf m (!A.fitsI64 x) "floating value out of the range of int64_t" (A.f80toI64 x)

/-- `(uint64_t)x`, `x` a long double -/
def cvtU64 (m : HostMode) (A : HostFp) (x : BitVec 80) : R 64 :=
  ovf m (!A.fitsU64 x) "floating value out of the range of uint64_t" (A.f80toU64 x)

/-- a host without floating arithmetic (used where no floating operand occurs): an integer converted to `long double` is
    kept as its own (zero-extended) bits, data are compared as bits, every other operation returns zero bits -/
def HostFp.none : HostFp where
  f80to32 := fun _ => 0
  f80to64 := fun _ => 0
  f32to80 := fun _ => 0
  f64to80 := fun _ => 0
  f32to64 := fun _ => 0
  f64to32 := fun _ => 0
  add32 := fun _ _ => 0
  sub32 := fun _ _ => 0
  mul32 := fun _ _ => 0
  div32 := fun _ _ => 0
  add64 := fun _ _ => 0
  sub64 := fun _ _ => 0
  mul64 := fun _ _ => 0
  div64 := fun _ _ => 0
  add80 := fun _ _ => 0
  sub80 := fun _ _ => 0
  mul80 := fun _ _ => 0
  div80 := fun _ _ => 0
  neg32 := fun _ => 0
  neg64 := fun _ => 0
  neg80 := fun _ => 0
  i32to80 := fun v => v.setWidth 80
  i64to80 := fun v => v.setWidth 80
  u64to80 := fun v => v.setWidth 80
  f80toI64 := fun _ => 0
  f80toU64 := fun _ => 0
  fitsI64 := fun _ => true
  fitsU64 := fun _ => true
  eq80 := fun a b => a == b
  lt80 := fun _ _ => false
  le80 := fun a b => a == b

end ChibiVerif.Host
