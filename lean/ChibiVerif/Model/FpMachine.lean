/-
Machine model for the floating-point code chibicc emits (C02).

State = the integer machine of Model/X86 (registers, flags, byte memory) + the low quadwords of `%xmm0`/`%xmm1`
+ the x87 register stack (a list, head = `%st(0)`) + the x87 control word.  A `float` lives in the low 32 bits of an
xmm register (scalar single instructions leave bits 63:32 alone), a `double` in the low 64 bits.

`step F i s` gives semantics to one `Asm.Ins`: the SSE/x87 forms below are interpreted here, with every arithmetic
*result* delegated to the abstract `F : FpuSpec`; everything else is handed to `X86.step` (integer instructions).
Unknown forms are `none`, never guessed.  `run` executes a cast-table string, including the forward local labels
(`js 1f; …; 1:`) of the branchy cells (`u64f32`, `u64f64`, `u64f80`, `f32u64`, `f64u64`, `f80u64`).

Mnemonic → operation (trusted; validated end to end against gcc/the CPU by checklib/C02.py):
  AT&T `op src, dst` computes dst := dst op src.  `ucomis* src, dst` compares dst ? src.
  `faddp/fmulp` : st(1) := st(1) op st(0), pop.  GNU as' AT&T `fsubrp` / `fdivrp` (no operands) assemble to the
  instructions that compute st(1) := st(1) − st(0) / st(1) ÷ st(0) (the historical operand swap of AT&T syntax), pop.
  `fcomip/fucomip` compare st(0) ? st(1), set ZF/PF/CF (OF, SF := 0), pop once; `fcomi %st(1), %st` does not pop.
  `fsub %st(1), %st` : st(0) := st(0) − st(1);  `fstp %st(1)` : st(1) := st(0), pop;  `fxch %st(1)` exchanges st(0), st(1).
  `comiss/comisd src, dst` compare dst ? src like `ucomis*`;  `movd %r32, %xmm` zero-extends;  `btc $n, %r64` complements bit n;
  `cvtsi2ss %r64, %xmm` converts the signed 64-bit register;  `mov $0x…, %reg` loads the immediate.
-/
import ChibiVerif.Model.X86
import ChibiVerif.Spec.FpuSpec

namespace ChibiVerif.Fp
open ChibiVerif.Asm ChibiVerif.X86 ChibiVerif.Spec.Fpu

structure FState where
  x : X86.State
  xmm0 : BitVec 64
  xmm1 : BitVec 64
  st : List (BitVec 80)
  cw : BitVec 16

/-- replace the low 32 bits -/
def setLow32 (x : BitVec 64) (v : BitVec 32) : BitVec 64 := BitVec.ofNat 64 (x.toNat / 4294967296 * 4294967296 + v.toNat)

def FState.xget (s : FState) : String → Option (BitVec 64)
  | "%xmm0" => some s.xmm0
  | "%xmm1" => some s.xmm1
  | _ => none

def FState.xset (s : FState) (n : String) (v : BitVec 64) : Option FState :=
  match n with
  | "%xmm0" => some { s with xmm0 := v }
  | "%xmm1" => some { s with xmm1 := v }
  | _ => none

/-- effective address of a memory operand -/
def FState.addr (s : FState) : Opd → Option (BitVec 64)
  | .m d b => (baseOf b).map fun r => s.x.ea d r
  | .m0 b => (baseOf b).map fun r => s.x.ea 0 r
  | _ => none

def read80 (s : X86.State) (a : BitVec 64) : BitVec 80 := s.read16 (a + 8) ++ s.read64 a
def write80 (s : X86.State) (a : BitVec 64) (v : BitVec 80) : X86.State :=
  (s.write64 a (v.setWidth 64)).write16 (a + 8) ((v >>> 64).setWidth 16)

/-- flags after `ucomis*`/`fcomip`: ZF PF CF by relation, OF SF cleared -/
def FState.setRel (s : FState) (r : Rel) : FState :=
  { s with x := { s.x with zf := r.flags.1, pf := r.flags.2.1, cf := r.flags.2.2, sf := false, of := false, flagsValid := true } }

def FState.gpr32 (s : FState) (n : String) : Option (BitVec 32) :=
  match regOf n with
  | some (r, .w32) => some (s.x.getW r .w32)
  | _ => none

def FState.gpr64 (s : FState) (n : String) : Option (BitVec 64) :=
  match regOf n with
  | some (r, .w64) => some (s.x.get r)
  | _ => none

def FState.setGpr32 (s : FState) (n : String) (v : BitVec 32) : Option FState :=
  match regOf n with
  | some (r, .w32) => some { s with x := s.x.setW r .w32 v }
  | _ => none

def FState.setGpr64 (s : FState) (n : String) (v : BitVec 64) : Option FState :=
  match regOf n with
  | some (r, .w64) => some { s with x := s.x.set r v }
  | _ => none

/-! ### `$0x…` immediates (the translator keeps their spelling: `.s "$0x5f000000"`) -/

def hexDigit? (c : Char) : Option Nat :=
  if '0' ≤ c ∧ c ≤ '9' then some (c.toNat - '0'.toNat)
  else if 'a' ≤ c ∧ c ≤ 'f' then some (c.toNat - 'a'.toNat + 10)
  else if 'A' ≤ c ∧ c ≤ 'F' then some (c.toNat - 'A'.toNat + 10)
  else none

def hexList? : List Char → Nat → Option Nat
  | [], acc => some acc
  | c :: cs, acc => match hexDigit? c with
    | some d => hexList? cs (acc * 16 + d)
    | none => none

/-- value of an immediate spelled `$0x<hex digits>` -/
def hexImm? (s : String) : Option Nat :=
  match s.toList with
  | '$' :: '0' :: 'x' :: d :: ds => hexList? (d :: ds) 0
  | _ => none

/-- x87 binary operation of the `f…p` family: st(1) := f st(1) st(0); pop -/
def FState.x87bin (s : FState) (f : BitVec 80 → BitVec 80 → BitVec 80) : Option FState :=
  match s.st with
  | a :: b :: rest => some { s with st := f b a :: rest }
  | _ => none

def step (F : FpuSpec) (i : Ins) (s : FState) : Option FState :=
  match i.op, i.a with
  /- integer → floating (SSE) -/
  | "cvtsi2ssl", [.r g, .r x] => do
      let v ← s.gpr32 g; let old ← s.xget x; s.xset x (setLow32 old (F.cvtsi2ss32 v))
  | "cvtsi2ssq", [.r g, .r x] => do
      let v ← s.gpr64 g; let old ← s.xget x; s.xset x (setLow32 old (F.cvtsi2ss64 v))
  | "cvtsi2sdl", [.r g, .r x] => do
      let v ← s.gpr32 g; let _ ← s.xget x; s.xset x (F.cvtsi2sd32 v)
  | "cvtsi2sdq", [.r g, .r x] => do
      let v ← s.gpr64 g; let _ ← s.xget x; s.xset x (F.cvtsi2sd64 v)
  | "cvtsi2sd", [.r g, .r x] => do      -- operand size from the 64-bit register
      let v ← s.gpr64 g; let _ ← s.xget x; s.xset x (F.cvtsi2sd64 v)
  | "cvtsi2ss", [.r g, .r x] => do      -- operand size from the 64-bit register
      let v ← s.gpr64 g; let old ← s.xget x; s.xset x (setLow32 old (F.cvtsi2ss64 v))
  /- floating → integer (SSE, truncating) -/
  | "cvttss2sil", [.r x, .r g] => do
      let v ← s.xget x; s.setGpr32 g (F.cvttss2si32 (v.setWidth 32))
  | "cvttss2siq", [.r x, .r g] => do
      let v ← s.xget x; s.setGpr64 g (F.cvttss2si64 (v.setWidth 32))
  | "cvttsd2sil", [.r x, .r g] => do
      let v ← s.xget x; s.setGpr32 g (F.cvttsd2si32 v)
  | "cvttsd2siq", [.r x, .r g] => do
      let v ← s.xget x; s.setGpr64 g (F.cvttsd2si64 v)
  /- floating ↔ floating (SSE) -/
  | "cvtss2sd", [.r a, .r b] => do
      let v ← s.xget a; let _ ← s.xget b; s.xset b (F.cvtss2sd (v.setWidth 32))
  | "cvtsd2ss", [.r a, .r b] => do
      let v ← s.xget a; let old ← s.xget b; s.xset b (setLow32 old (F.cvtsd2ss v))
  /- moves -/
  | "movq", [.r g, .r x] =>
      match s.gpr64 g, s.xget x with
      | some v, some _ => s.xset x v
      | _, _ => (X86.step i s.x).map fun x' => { s with x := x' }
  | "movd", [.r g, .r x] => do          -- 32-bit GPR → XMM: zero-extended
      let v ← s.gpr32 g; let _ ← s.xget x; s.xset x (v.setWidth 64)
  | "mov", [.s imm, .r g] =>            -- `mov $0x…, %r32|%r64` (64-bit: the assembler picks `movabs` when needed)
      match hexImm? imm, regOf g with
      | some v, some (r, .w64) => if v < 2 ^ 64 then some { s with x := s.x.set r (BitVec.ofNat 64 v) } else none
      | some v, some (r, .w32) => if v < 2 ^ 32 then some { s with x := s.x.setW r .w32 (BitVec.ofNat 32 v) } else none
      | _, _ => none
  | "movss", [.r x, m] => do
      let v ← s.xget x; let a ← s.addr m; some { s with x := s.x.write32 a (v.setWidth 32) }
  | "movss", [m, .r x] => do
      let a ← s.addr m; let _ ← s.xget x; s.xset x ((s.x.read32 a).setWidth 64)
  | "movsd", [.r x, m] => do
      let v ← s.xget x; let a ← s.addr m; some { s with x := s.x.write64 a v }
  | "movsd", [m, .r x] => do
      let a ← s.addr m; let _ ← s.xget x; s.xset x (s.x.read64 a)
  /- bitwise -/
  | "pxor", [.r a, .r b] | "xorps", [.r a, .r b] | "xorpd", [.r a, .r b] => do
      let va ← s.xget a; let vb ← s.xget b; s.xset b (vb ^^^ va)
  /- SSE arithmetic: dst := dst op src -/
  | "addss", [.r a, .r b] => do
      let va ← s.xget a; let vb ← s.xget b; s.xset b (setLow32 vb (F.addss (vb.setWidth 32) (va.setWidth 32)))
  | "subss", [.r a, .r b] => do
      let va ← s.xget a; let vb ← s.xget b; s.xset b (setLow32 vb (F.subss (vb.setWidth 32) (va.setWidth 32)))
  | "mulss", [.r a, .r b] => do
      let va ← s.xget a; let vb ← s.xget b; s.xset b (setLow32 vb (F.mulss (vb.setWidth 32) (va.setWidth 32)))
  | "divss", [.r a, .r b] => do
      let va ← s.xget a; let vb ← s.xget b; s.xset b (setLow32 vb (F.divss (vb.setWidth 32) (va.setWidth 32)))
  | "addsd", [.r a, .r b] => do
      let va ← s.xget a; let vb ← s.xget b; s.xset b (F.addsd vb va)
  | "subsd", [.r a, .r b] => do
      let va ← s.xget a; let vb ← s.xget b; s.xset b (F.subsd vb va)
  | "mulsd", [.r a, .r b] => do
      let va ← s.xget a; let vb ← s.xget b; s.xset b (F.mulsd vb va)
  | "divsd", [.r a, .r b] => do
      let va ← s.xget a; let vb ← s.xget b; s.xset b (F.divsd vb va)
  /- SSE compare: `ucomis src, dst` compares dst ? src -/
  | "ucomiss", [.r a, .r b] => do
      let va ← s.xget a; let vb ← s.xget b; some (s.setRel (F.ucomiss (vb.setWidth 32) (va.setWidth 32)))
  | "ucomisd", [.r a, .r b] => do
      let va ← s.xget a; let vb ← s.xget b; some (s.setRel (F.ucomisd vb va))
  /- `comis*`: the flag results of `ucomis*` (F.comiss / F.comisd carry the same contract) -/
  | "comiss", [.r a, .r b] => do
      let va ← s.xget a; let vb ← s.xget b; some (s.setRel (F.comiss (vb.setWidth 32) (va.setWidth 32)))
  | "comisd", [.r a, .r b] => do
      let va ← s.xget a; let vb ← s.xget b; some (s.setRel (F.comisd vb va))
  /- x87 loads -/
  | "flds", [m] => do let a ← s.addr m; some { s with st := F.fld32 (s.x.read32 a) :: s.st }
  | "fldl", [m] => do let a ← s.addr m; some { s with st := F.fld64 (s.x.read64 a) :: s.st }
  | "fldt", [m] => do let a ← s.addr m; some { s with st := read80 s.x a :: s.st }
  | "fildl", [m] => do let a ← s.addr m; some { s with st := F.fild32 (s.x.read32 a) :: s.st }
  | "fildll", [m] | "fildq", [m] => do let a ← s.addr m; some { s with st := F.fild64 (s.x.read64 a) :: s.st }
  | "fldz", [] => some { s with st := F.fldz :: s.st }
  /- x87 stores (pop) -/
  | "fstps", [m] => do
      let a ← s.addr m
      match s.st with
      | v :: rest => some { s with st := rest, x := s.x.write32 a (F.fst32 s.cw v) }
      | [] => none
  | "fstpl", [m] => do
      let a ← s.addr m
      match s.st with
      | v :: rest => some { s with st := rest, x := s.x.write64 a (F.fst64 s.cw v) }
      | [] => none
  | "fstpt", [m] => do
      let a ← s.addr m
      match s.st with
      | v :: rest => some { s with st := rest, x := write80 s.x a v }
      | [] => none
  | "fistps", [m] => do
      let a ← s.addr m
      match s.st with
      | v :: rest => some { s with st := rest, x := s.x.write16 a (F.fistp16 s.cw v) }
      | [] => none
  | "fistpl", [m] => do
      let a ← s.addr m
      match s.st with
      | v :: rest => some { s with st := rest, x := s.x.write32 a (F.fistp32 s.cw v) }
      | [] => none
  | "fistpq", [m] => do
      let a ← s.addr m
      match s.st with
      | v :: rest => some { s with st := rest, x := s.x.write64 a (F.fistp64 s.cw v) }
      | [] => none
  | "fstp", [.r "%st(0)"] =>
      match s.st with
      | _ :: rest => some { s with st := rest }
      | [] => none
  | "fstp", [.r "%st(1)"] =>           -- st(1) := st(0); pop
      match s.st with
      | a :: _ :: rest => some { s with st := a :: rest }
      | _ => none
  | "fxch", [.r "%st(1)"] =>
      match s.st with
      | a :: b :: rest => some { s with st := b :: a :: rest }
      | _ => none
  /- x87 control word -/
  | "fnstcw", [m] => do let a ← s.addr m; some { s with x := s.x.write16 a s.cw }
  | "fldcw", [m] => do let a ← s.addr m; some { s with cw := s.x.read16 a }
  /- x87 arithmetic -/
  | "fadds", [m] => do
      let a ← s.addr m
      match s.st with
      | v :: rest => some { s with st := F.fadd s.cw v (F.fld32 (s.x.read32 a)) :: rest }
      | [] => none
  | "faddp", [] => s.x87bin (F.fadd s.cw)
  | "fsubrp", [] => s.x87bin (F.fsub s.cw)
  | "fmulp", [] => s.x87bin (F.fmul s.cw)
  | "fdivrp", [] => s.x87bin (F.fdiv s.cw)
  | "fsub", [.r "%st(1)", .r "%st"] =>  -- st(0) := st(0) − st(1) (destination %st: no AT&T operand swap)
      match s.st with
      | a :: b :: rest => some { s with st := F.fsub s.cw a b :: b :: rest }
      | _ => none
  | "fchs", [] =>
      match s.st with
      | v :: rest => some { s with st := F.fchs v :: rest }
      | [] => none
  | "fcomi", [.r "%st(1)", .r "%st"] => -- compare st(0) ? st(1); no pop
      match s.st with
      | a :: b :: _ => some (s.setRel (F.fcomi a b))
      | _ => none
  | "fcomip", [] | "fucomip", [] =>
      match s.st with
      | a :: b :: rest => some ({ s with st := b :: rest }.setRel (F.fcomi a b))
      | _ => none
  /- integer forms Model/X86 does not decode -/
  | "or", [.i n, .r "%ah"] =>      -- bits 15:8 of %rax
      some { s with x := s.x.set .rax (s.x.get .rax ||| ((BitVec.ofInt 64 n &&& 255) <<< 8)) }
  | "btc", [.i n, .r g] =>         -- complement bit n of a 64-bit register (CF := the old bit; OF SF PF undefined)
      if 0 ≤ n ∧ n < 64 then
        match regOf g with
        | some (r, .w64) => some { s with x := { (s.x.set r (s.x.get r ^^^ (1#64 <<< n.toNat))) with flagsValid := false } }
        | _ => none
      else none
  | "shr", [.r n] =>               -- shift right by one
      match regOf n with
      | some (r, .w64) => some { s with x := { (s.x.set r (s.x.get r >>> 1)) with flagsValid := false } }
      | _ => none
  | _, _ => (X86.step i s.x).map fun x' => { s with x := x' }

/-- conditional / unconditional forward jumps to a local label: (reads the flags?, taken?, label) -/
def jumpOf (i : Ins) (s : FState) : Option (Bool × Bool × String) :=
  match i.op, i.a with
  | "jmp", [.s l] => some (false, true, l)
  | "js", [.s l] => some (true, s.x.sf, l)
  | "jns", [.s l] => some (true, !s.x.sf, l)
  | "je", [.s l] => some (true, s.x.zf, l)
  | "jne", [.s l] => some (true, !s.x.zf, l)
  | "jae", [.s l] => some (true, !s.x.cf, l)
  | _, _ => none

/-- `1f` refers to the next `1:` (the cast-table strings use the local labels 1 and 2, forward only) -/
def labelOfRef : String → Option String
  | "1f" => some "1:" | "2f" => some "2:" | "3f" => some "3:"
  | _ => none

def isLabel (i : Ins) : Bool := i.a.isEmpty && (i.op == "1:" || i.op == "2:" || i.op == "3:")

/-- execute a sequence with forward local labels; `skip = some l`: a jump to `l` is in flight -/
def runFrom (F : FpuSpec) : List Ins → Option String → FState → Option FState
  | [], none, s => some s
  | [], some _, _ => none
  | i :: is, some l, s => if i.op = l ∧ i.a.isEmpty then runFrom F is none s else runFrom F is (some l) s
  | i :: is, none, s =>
      if isLabel i then runFrom F is none s else
      match jumpOf i s with
      | some (needsFlags, taken, l) =>
          if needsFlags ∧ ¬ s.x.flagsValid then none else
          if taken then (match labelOfRef l with | some t => runFrom F is (some t) s | none => none)
          else runFrom F is none s
      | none =>
        match step F i s with
        | some s' => runFrom F is none s'
        | none => none

def run (F : FpuSpec) (is : List Ins) (s : FState) : Option FState := runFrom F is none s

end ChibiVerif.Fp
