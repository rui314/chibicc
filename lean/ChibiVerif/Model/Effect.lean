/-
Effect semantics of the assembly chibicc emits (C20): what a piece of code does to the machine
stack pointer and to the x87 register stack.

* `H` — a height: `rsp` in bytes and the number of occupied x87 registers, both relative to some
  reference point.
* `insDelta` / `lineDelta` — the effect of one instruction / line (DESIGN §C20: `push/pop` ∓8,
  `sub/add $k,%rsp` ∓k, `fld*/fild*/fldz` +1, `fstp*/fistp*/faddp/fsubrp/fmulp/fdivrp/fcomip/fucomip`
  −1, `fst*/fchs/fldcw/fnstcw/fadds` 0, `call` 0 net — +1 on the x87 stack when the callee returns
  a long double).  An instruction the table does not know, or one that writes %rsp in a way the
  table cannot account for (`sub %rdi, %rsp` of alloca, `mov %rbp, %rsp`), has *no* effect value:
  `delta` is undefined on it and `classify` reports it (`Step.bad`) — with the one exception `classifyIns` makes
  explicit: alloca's `sub %rdi, %rsp` counts as no change, so that after an alloca `rsp` heights are relative to
  the temporaries in flight, which alloca moves along.
* `delta` — the effect of straight-line code (no labels, no jumps): the sum of the line effects.
  A `cast_table` line (several instructions, possibly with forward jumps to local labels inside the
  line) has an effect iff all paths through it (`cellPaths`) have the same effect; `multiWhy` names
  two paths that disagree.
* `checkBody` — whole-function check over code with labels and jumps: there is one height per label
  such that every jump to a label and the fall-through into it arrive at that height (so no loop,
  branch, break, continue or goto can accumulate residue), heights never go below the function's
  frame (`rsp ≤ 0`, `0 ≤ x87 ≤ 8`), and every `jmp .L.return.*` leaves at rsp height 0.
  It is executable; the driver runs it on the model's output for every function of a dump.
  The heights are inferred by forward scans repeated to a fixpoint (`inferFix`); the check is sound
  (it accepts only code for which a labelling exists) and complete (it accepts whenever ANY labelling
  passes `verify`): Props/C20.lean, Lemmas/C20Complete.lean.

Assumptions recorded here: a `call` returns with %rsp as before the call and leaves the x87 stack
as it was, plus one register when the callee returns long double (psABI); an `asm` statement and
every directive (`.loc` …, printed as `Line.raw`) have no effect.
-/
import ChibiVerif.Model.Asm

namespace ChibiVerif.Effect
open ChibiVerif.Asm

structure H where
  rsp : Int
  x87 : Int
  deriving DecidableEq, Repr, Inhabited

instance : Add H := ⟨fun a b => ⟨a.rsp + b.rsp, a.x87 + b.x87⟩⟩
def H.zero : H := ⟨0, 0⟩

@[simp] theorem H.add_def (a b : H) : a + b = ⟨a.rsp + b.rsp, a.x87 + b.x87⟩ := rfl

def isRsp : Opd → Bool
  | .r n => n == "%rsp"
  | _ => false

/-- the destination (last operand) is %rsp -/
def dstIsRsp (a : List Opd) : Bool :=
  match a.getLast? with
  | some o => isRsp o
  | none => false

def x87Push : List String := ["fldt", "flds", "fldl", "fildl", "fildll", "fildq", "fldz", "fld", "fld1"]
def x87Pop : List String :=
  ["fstpt", "fstps", "fstpl", "fistps", "fistpl", "fistpq", "faddp", "fsubrp", "fmulp", "fdivrp",
   "fcomip", "fucomip", "fstp"]
def x87Same : List String :=
  ["fchs", "fldcw", "fnstcw", "fadds", "fabs", "fxch", "fcomi", "fucomi", "fadd", "fsub", "fsubr", "fmul", "fdiv",
   "fdivr", "fst", "fsts", "fstl", "faddl", "fsubs", "fsubl", "fmuls", "fmull", "fdivs", "fdivl", "fnstsw", "fwait"]

/-- every other mnemonic the code generator prints; none of them touches %rsp unless %rsp is its
    destination operand, none touches the x87 stack -/
def plainOps : List String :=
  ["mov", "movq", "movl", "movd", "movss", "movsd", "movsbl", "movzbl", "movswl", "movzwl", "movsxd",
   "movzx", "movzb", "lea", "add", "sub", "imul", "idiv", "div", "cqo", "cdq", "and", "or", "xor",
   "not", "neg", "shl", "shr", "sar", "cmp", "test", "sete", "setne", "setl", "setle", "setb",
   "setbe", "seta", "setae", "setp", "setnp", "xorps", "xorpd", "pxor", "ucomiss", "ucomisd",
   "addss", "addsd", "subss", "subsd", "mulss", "mulsd", "divss", "divsd",
   "cvtsi2ssl", "cvtsi2sdl", "cvtsi2ssq", "cvtsi2sdq", "cvtsi2sd", "cvttss2sil", "cvttss2siq",
   "cvttsd2sil", "cvttsd2siq", "cvtss2sd", "cvtsd2ss", "inc", "dec", "xchg", "lock cmpxchg",
   "rep stosb", "data16 lea", "rex64", "addq", "call",
   -- added for the cast strings of /repo cb60798, d20bf97 (u64 -> f32, floating -> u64 >= 2^63)
   "cvtsi2ss", "comiss", "comisd", "btc"]

def jumpOps : List String :=
  ["jmp", "je", "jne", "jbe", "js", "jns", "ja", "jae", "jb", "jl", "jle", "jg", "jge", "jp", "jnp", "jz", "jnz"]

/-- effect of one straight-line instruction; `none` = not straight-line, or unknown -/
def insDelta (i : Ins) : Option H :=
  if i.op == "push" then some ⟨-8, 0⟩
  else if dstIsRsp i.a then
    match i.op, i.a with
    | "sub", [.i k, _] => some ⟨-k, 0⟩
    | "add", [.i k, _] => some ⟨k, 0⟩
    | _, _ => none
  else if i.op == "pop" then some ⟨8, 0⟩
  else if x87Push.contains i.op then some ⟨0, 1⟩
  else if x87Pop.contains i.op then some ⟨0, -1⟩
  else if x87Same.contains i.op || plainOps.contains i.op then some ⟨0, 0⟩
  else none

/-- a local label inside a multi-instruction line: an `Ins` whose op ends in `:` (kernel-reducible
    spelling: `String.endsWith` does not reduce under `decide`) -/
def isLocalLabel (i : Ins) : Bool := i.op.toList.getLast? == some ':' && i.a.isEmpty

/-- the local label a jump inside a multi-instruction line goes to: `1f` ↦ `1:` -/
def fwdLabel (i : Ins) : Option String :=
  match i.a with
  | [.s t] =>
    match t.toList with
    | [d, 'f'] => if d.isDigit then some (String.ofList [d, ':']) else none
    | _ => none
  | _ => none

/-- the instructions after the next definition of local label `l` -/
def afterLabel (l : String) : List Ins → Option (List Ins)
  | [] => none
  | i :: r => if i.op == l && i.a.isEmpty then some r else afterLabel l r

/-- All paths through a `cast_table` line (several instructions, forward jumps to local labels
    inside the line): for each path the instructions executed, in order, and their total effect.
    `none`: an instruction without a known effect, or a jump that is not a forward jump to a local
    label of the line.  `fuel` ≥ length + 1 (every step continues on a proper suffix). -/
def cellPaths : Nat → List Ins → List Ins → H → Option (List (List Ins × H))
  | 0, _, _, _ => none
  | _ + 1, [], acc, h => some [(acc.reverse, h)]
  | fuel + 1, i :: r, acc, h =>
    if isLocalLabel i then cellPaths fuel r acc h
    else if jumpOps.contains i.op then
      match fwdLabel i with
      | none => none
      | some l =>
        match afterLabel l r with
        | none => none
        | some tgt =>
          match cellPaths fuel tgt (i :: acc) h with
          | none => none
          | some taken =>
            if i.op == "jmp" then some taken
            else match cellPaths fuel r (i :: acc) h with
              | none => none
              | some fall => some (taken ++ fall)
    else match insDelta i with
      | none => none
      | some d => cellPaths fuel r (i :: acc) (h + d)

/-- effect of a multi-instruction line: every path through it has the same effect -/
def multiDelta (is : List Ins) : Option H :=
  match cellPaths (is.length + 1) is [] H.zero with
  | some ((_, d) :: rest) => if rest.all (fun p => p.2 == d) then some d else none
  | _ => none

def renderPath (p : List Ins × H) : String :=
  "[" ++ "; ".intercalate (p.1.map Ins.render) ++ s!"] = (rsp {p.2.rsp}, x87 {p.2.x87})"

/-- why a multi-instruction line has no effect value: two paths through it that disagree -/
def multiWhy (is : List Ins) : String :=
  match cellPaths (is.length + 1) is [] H.zero with
  | none => "an instruction without a known effect, or a jump that does not go forward to a local label"
  | some [] => "no path"
  | some (p :: rest) =>
    match rest.find? (fun q => q.2 != p.2) with
    | some q => "paths through the line disagree: " ++ renderPath p ++ "  versus  " ++ renderPath q
    | none => "balanced"

def lineDelta : Line → Option H
  | .ins i => insDelta i
  | .insA i note =>
    if i.op == "call" && note == "ret:f80" then some ⟨0, 1⟩ else none
  | .multi is => multiDelta is
  | .multiT _ is => multiDelta is
  | .label _ => none
  | .raw _ => some H.zero

/-- effect of straight-line code -/
def delta : List Line → Option H
  | [] => some H.zero
  | l :: r =>
    match lineDelta l, delta r with
    | some a, some b => some (a + b)
    | _, _ => none

theorem delta_append (a b : List Line) :
    delta (a ++ b) = (match delta a, delta b with
      | some x, some y => some (x + y)
      | _, _ => none) := by
  induction a with
  | nil =>
    simp only [List.nil_append, delta]
    cases delta b <;> simp [H.zero, H.add_def]
  | cons l r ih =>
    simp only [List.cons_append, delta, ih]
    cases lineDelta l <;> cases delta r <;> cases delta b <;> simp [H.add_def, Int.add_assoc]

/-! ## whole functions: one height per label -/

/-- the label a jump instruction goes to (`none` for `jmp *%rax`).  (Written with `List Char`
    operations: `String.startsWith`/`trim` do not reduce in the kernel, and the findings evaluate
    this checker by `decide`.) -/
def jumpTarget (i : Ins) : Option String :=
  match i.a with
  | [.s t] =>
    match t.toList.dropWhile (· == ' ') with
    | '*' :: _ => none
    | cs => some (String.ofList cs)
  | _ => none

inductive Step where
  | delta (d : H)                 -- straight-line
  | cond (l : String)             -- conditional jump to l
  | jump (l : String)             -- unconditional jump to l
  | leave                         -- `jmp *%rax`, `ret`: control leaves, nothing falls through
  | label (l : String)
  | bad (why : String)
  deriving Repr

/-- a line is straight-line exactly when `lineDelta` knows its effect; otherwise it is a label, a
    jump, `ret`, alloca's `sub %rdi, %rsp`, or something unknown -/
def classifyIns (i : Ins) : Step :=
  match insDelta i with
  | some d => .delta d
  | none =>
    if jumpOps.contains i.op then
      match jumpTarget i with
      | some t => if i.op == "jmp" then .jump t else .cond t
      | none => if i.op == "jmp" then .leave else .bad s!"conditional jump without a label: {i.render}"
    else if i.op == "ret" then .leave
    -- the explicit exception of C20: `alloca` lowers %rsp by a run-time amount after moving the
    -- temporaries that are in flight; relative to them nothing changes
    else if i == ⟨"sub", [.r "%rdi", .r "%rsp"]⟩ then .delta H.zero
    else .bad s!"no effect known for: {i.render}"

def classify (l : Line) : List Step :=
  match lineDelta l with
  | some d => [.delta d]
  | none =>
    match l with
    | .ins i => [classifyIns i]
    | .label n => [.label n]
    | .multi is | .multiT _ is => [.bad s!"cast_table line `{l.render}`: {multiWhy is}"]
    | _ => [.bad s!"no effect known for: {l.render}"]

/-- numeric local labels (`1:` … `9:`): a reference `1f` means the next definition of `1`, `1b` the
    previous one.  `renameLocals` gives every definition a unique name `N#k` and rewrites the
    references, so that the rest of the check can treat all labels alike. -/
def isNumLabel (l : String) : Bool :=
  match l.toList with
  | [c] => c.isDigit
  | _ => false

/-- `1f` ↦ (1, forward), `1b` ↦ (1, backward) -/
def localRef (t : String) : Option (String × Bool) :=
  match t.toList with
  | [d, 'f'] => if d.isDigit then some (String.ofList [d], true) else none
  | [d, 'b'] => if d.isDigit then some (String.ofList [d], false) else none
  | _ => none

def renameLocals : List Step → List (String × Nat) → List Step
  | [], _ => []
  | s :: r, seen =>
    let cnt (d : String) : Nat := (seen.lookup d).getD 0
    let ref (t : String) : String :=
      match localRef t with
      | some (d, true) => s!"{d}#{cnt d + 1}"
      | some (d, false) => s!"{d}#{cnt d}"
      | none => t
    match s with
    | .label l =>
      if isNumLabel l then
        .label s!"{l}#{cnt l + 1}" :: renameLocals r ((l, cnt l + 1) :: seen)
      else s :: renameLocals r seen
    | .cond t => .cond (ref t) :: renameLocals r seen
    | .jump t => .jump (ref t) :: renameLocals r seen
    | s => s :: renameLocals r seen

abbrev Labelling := List (String × H)

/-- `.L.return.<fn>`: jumping there must happen with nothing left on the machine stack (the x87
    stack may hold the long double return value) -/
def isReturnLabel (l : String) : Bool := ".L.return.".toList.isPrefixOf l.toList

/-- one step of the label inference: the height after the step (`none`: not reachable by falling
    through) and the labelling, to which the step adds at most one entry — the height of the first
    fall-through into a label or of the first jump to it, whichever the forward scan meets first.
    `.L.return.*` is treated as `verify` treats it: it has no height of its own. -/
def inferStep (s : Step) (cur : Option H) (acc : Labelling) : Option H × Labelling :=
  match s with
  | .delta d => (cur.map (· + d), acc)
  | .cond l =>
    if isReturnLabel l then (cur, acc) else
    match cur, acc.lookup l with
    | some c, none => (cur, (l, c) :: acc)
    | _, _ => (cur, acc)
  | .jump l =>
    if isReturnLabel l then (none, acc) else
    match cur, acc.lookup l with
    | some c, none => (none, (l, c) :: acc)
    | _, _ => (none, acc)
  | .leave => (none, acc)
  | .label l =>
    if isReturnLabel l then (none, acc) else
    match acc.lookup l, cur with
    | some h, _ => (some h, acc)
    | none, some c => (some c, (l, c) :: acc)
    | none, none => (none, acc)
  | .bad _ => (cur, acc)

/-- pass 1: propose a height for every label — the height of the first fall-through into it or of
    the first jump to it, whichever the forward scan meets first -/
def infer : List Step → Option H → Labelling → Labelling
  | [], _, acc => acc
  | s :: r, cur, acc => infer r (inferStep s cur acc).1 (inferStep s cur acc).2

/-- the range of heights inside a function: nothing above the frame, at most eight x87 registers -/
def okH (c : H) : Bool := c.rsp ≤ 0 && 0 ≤ c.x87 && c.x87 ≤ 8

/-- the complaint of `verify` about a height outside `okH` -/
def rangeMsg (c : H) : String := s!"height out of range: rsp {c.rsp}, x87 {c.x87}"

/-- pass 2 — the definition of consistency for a given labelling: scan the code once; at every
    label and at every jump the current height must be the label's height; heights stay within the
    frame.  `cur = none` means the point is not reachable by falling through. -/
def verify (h : Labelling) : List Step → Option H → Except String Unit
  | [], _ => .ok ()
  | s :: r, cur =>
    match s with
    | .delta d =>
      match cur with
      | some c =>
        if okH (c + d) then verify h r (some (c + d))
        else .error (rangeMsg (c + d))
      | none => verify h r none
    | .cond l | .jump l =>
      let next := match s with | .jump _ => none | _ => cur
      match cur with
      | none => verify h r next
      | some c =>
        if isReturnLabel l then
          if c.rsp == 0 then verify h r next else .error s!"return with rsp {c.rsp}"
        else match h.lookup l with
          | some hl =>
            if hl == c then verify h r next
            else .error s!"jump to {l} at (rsp {c.rsp}, x87 {c.x87}), label is at (rsp {hl.rsp}, x87 {hl.x87})"
          | none => .error s!"jump to a label with no height: {l}"
    | .leave => verify h r none
    | .label l =>
      if isReturnLabel l then verify h r none else
      match h.lookup l, cur with
      | some hl, some c =>
        if hl == c then verify h r (some hl)
        else .error s!"fall-through into {l} at (rsp {c.rsp}, x87 {c.x87}), label is at (rsp {hl.rsp}, x87 {hl.x87})"
      | some hl, none => verify h r (some hl)
      | none, some c => .error s!"label without a height: {l} (rsp {c.rsp})"
      | none, none => verify h r none      -- dead code: never jumped to, not fallen into
    | .bad why => .error why

/-- repeat the inference a fixed number of times (the checker before the fixpoint iteration used
    `inferN 3`: a label that is only reached by a backward jump gets its height on the second pass,
    a chain of k such labels needs k + 1 passes — kept for the witness in Findings/C20.lean) -/
def inferN : Nat → List Step → Labelling → Labelling
  | 0, _, acc => acc
  | n + 1, steps, acc => inferN n steps (infer steps (some H.zero) acc)

/-- repeat the inference until a pass adds nothing.  Every pass that is not the last adds a height
    for at least one more label or jump target of the skeleton, so `length + 1` passes of fuel reach
    the fixpoint (Lemmas/C20Complete.lean: `inferFix_fixpoint`). -/
def inferFix : Nat → List Step → Labelling → Labelling
  | 0, _, acc => acc
  | n + 1, steps, acc =>
    let acc' := infer steps (some H.zero) acc
    if acc'.length == acc.length then acc else inferFix n steps acc'

/-- the labelling the checker infers for a skeleton -/
def inferred (st : List Step) : Labelling := inferFix (st.length + 1) st []

/-- the control-flow skeleton of a piece of code -/
def steps (ls : List Line) : List Step := renameLocals (ls.flatMap classify) []

/-- check the body of one function (the lines between the prologue and `.L.return.<fn>:`): infer one
    height per label (to a fixpoint), then verify that every jump and every fall-through arrives at
    its label's height, within the range -/
def checkBody (body : List Line) : Except String Unit :=
  verify (inferred (steps body)) (steps body) (some H.zero)

/-! ## the relative form used in theorem statements -/

/-- scan with a given labelling, heights relative to the start of the code; returns the height at
    the end (`none`: the end is not reachable by falling through) -/
def scanRel (h : Labelling) : List Step → Option H → Except String (Option H)
  | [], cur => .ok cur
  | .delta d :: r, cur => scanRel h r (cur.map (· + d))
  | .cond l :: r, cur =>
    match cur with
    | none => scanRel h r none
    | some c => if h.lookup l == some c then scanRel h r cur else .error s!"jump to {l} at a different height"
  | .jump l :: r, cur =>
    match cur with
    | none => scanRel h r none
    | some c => if h.lookup l == some c then scanRel h r none else .error s!"jump to {l} at a different height"
  | .leave :: r, _ => scanRel h r none
  | .label l :: r, cur =>
    match h.lookup l with
    | none => .error s!"label without a height: {l}"
    | some hl =>
      if cur == none || cur == some hl then scanRel h r (some hl)
      else .error s!"fall-through into {l} at a different height"
  | .bad why :: _, _ => .error why

/-- `Balanced ls d`: there is one height per label such that every jump and every fall-through
    arrives at its label's height, and control falls out of the end of `ls` at height `d`
    (relative to the start).  Code without labels and jumps with `delta ls = some d` is balanced at `d`
    (`balanced_of_delta`); not conversely: alloca's `sub %rdi, %rsp`, of which `delta` knows no effect, is a
    step without change here. -/
def Balanced (ls : List Line) (d : H) : Prop :=
  ∃ h : Labelling, scanRel h (steps ls) (some H.zero) = .ok (some d)

/-- like `Balanced`, for code that may also end in a jump (a statement that ends in `goto`,
    `break`, `return` …): if control falls out of the end, then at height `d` -/
def BalancedOrLeaves (ls : List Line) (d : H) : Prop :=
  ∃ h : Labelling, ∃ e, scanRel h (steps ls) (some H.zero) = .ok e ∧ (e = none ∨ e = some d)

theorem classify_of_lineDelta {l : Line} {d : H} (hl : lineDelta l = some d) : classify l = [.delta d] := by
  simp [classify, hl]

theorem flatMap_classify_of_delta : ∀ (ls : List Line) (d : H), delta ls = some d →
    ∃ ds : List H, ls.flatMap classify = ds.map Step.delta ∧ ds.foldl (· + ·) H.zero = d
  | [], d, h => by
    simp only [delta, Option.some.injEq] at h
    exact ⟨[], rfl, h⟩
  | l :: r, d, h => by
    simp only [delta] at h
    cases hl : lineDelta l with
    | none => simp [hl] at h
    | some a =>
      cases hr : delta r with
      | none => simp [hl, hr] at h
      | some b =>
        simp only [hl, hr, Option.some.injEq] at h
        obtain ⟨ds, e1, e2⟩ := flatMap_classify_of_delta r b hr
        refine ⟨a :: ds, ?_, ?_⟩
        · simp [List.flatMap_cons, classify_of_lineDelta hl, e1]
        · subst h e2
          have : ∀ (xs : List H) (x y : H), xs.foldl (· + ·) (x + y) = x + xs.foldl (· + ·) y := by
            intro xs
            induction xs with
            | nil => intro x y; rfl
            | cons z zs ih =>
              intro x y
              simp only [List.foldl_cons]
              have e : x + y + z = x + (y + z) := by simp [H.add_def, Int.add_assoc]
              rw [e, ih]
          simp only [List.foldl_cons]
          have e0 : H.zero + a = a + H.zero := by simp [H.add_def, H.zero]
          rw [e0, this]

theorem renameLocals_deltas (ds : List H) (seen : List (String × Nat)) :
    renameLocals (ds.map Step.delta) seen = ds.map Step.delta := by
  induction ds with
  | nil => rfl
  | cons d r ih => simp [renameLocals, ih]

theorem scanRel_deltas (h : Labelling) (ds : List H) (c : H) :
    scanRel h (ds.map Step.delta) (some c) = .ok (some (ds.foldl (· + ·) c)) := by
  induction ds generalizing c with
  | nil => rfl
  | cons d r ih => simp [scanRel, ih]

/-- straight-line code is balanced, with its `delta` -/
theorem balanced_of_delta {ls : List Line} {d : H} (h : delta ls = some d) : Balanced ls d := by
  obtain ⟨ds, e1, e2⟩ := flatMap_classify_of_delta ls d h
  refine ⟨[], ?_⟩
  simp only [steps, e1, renameLocals_deltas, scanRel_deltas, e2]

end ChibiVerif.Effect
