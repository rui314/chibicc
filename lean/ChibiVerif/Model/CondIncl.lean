/-
Model of conditional inclusion in /repo/preprocess.c (C10):
`preprocess2`'s directive arms for #if/#ifdef/#ifndef/#elif/#else/#endif/#define/#undef/#error,
the `cond_incl` stack (ctx IN_THEN/IN_ELIF/IN_ELSE, `included`), `skip_cond_incl`,
`skip_cond_incl2`, `skip_line` (as the flag `extra`), `detect_include_guard`, and the final check in `preprocess`
("unterminated conditional directive").  `read_const_expr` (`defined X`, `defined(X)`) and identifier→0 in
`eval_const_expr` are in Model/PPExpr.lean.

Abstraction: the token stream is a list of *lines*.  A line is a text line (never starts with
`#`; its first token may well be the identifier `if`, `else`, `define` … – after a null directive
that is still text, see `is_null_directive`), or one directive.  Everything the directive arms of
`preprocess2` do not look at is dropped: the tokens after `#else/#endif/#ifdef X/#ifndef X/#undef X`
are kept only as the flag `extra` (`skip_line` warns and drops them; `detect_include_guard` *does*
look at them).  Controlling expressions are an abstract type `ε` with an evaluation function
`ev : ε → Defs β → Except Diag Bool` (`eval_const_expr(...) != 0`, or the diagnostic it raises);
every theorem is for all `ev`.  The concrete evaluator used by the driver is in `Model/PPExpr.lean`.

C sites that abort (`error_tok`) are explicit `Diag` outcomes.
Core Lean only.
-/
namespace ChibiVerif.CondIncl

/-- classes of diagnostics (`error_tok` sites reachable from the modelled arms) -/
inductive Diag where
  | strayElif        -- "stray #elif"  (no open conditional, or #elif after #else)
  | strayElse        -- "stray #else"  (no open conditional, or second #else)
  | strayEndif       -- "stray #endif"
  | unterminated     -- "unterminated conditional directive" (preprocess, after preprocess2)
  | errorDirective   -- "#error"
  | badExpr          -- any diagnostic raised while reading/evaluating a controlling expression
  | cannotOpen       -- include_file: "cannot open file"
  | badDirective     -- "invalid preprocessor directive", malformed #include operand, …
  | outOfFuel        -- a step budget ran out: the include machine (the include graph did not bottom out), the expander of
                     -- `#include` operands; never raised by this file (Props use it as the marker of a tripwire)
  deriving DecidableEq, Repr

/-- decidable equality of outcomes, so that concrete runs can be compared by `decide` -/
instance instDecidableEqExcept {ε α : Type} [DecidableEq ε] [DecidableEq α] : DecidableEq (Except ε α)
  | .ok a, .ok b => if h : a = b then isTrue (by rw [h]) else isFalse (by intro h'; cases h'; exact h rfl)
  | .error a, .error b => if h : a = b then isTrue (by rw [h]) else isFalse (by intro h'; cases h'; exact h rfl)
  | .ok _, .error _ => isFalse (by intro h; cases h)
  | .error _, .ok _ => isFalse (by intro h; cases h)

-- ------------------------------------------------------------------ macro table (definedness + body)

/-- the macro table as far as conditional inclusion can observe it: name ↦ body, last write wins
    (C17 proves that hashmap.c behaves like this) -/
abbrev Defs (β : Type) := List (String × β)

namespace Defs
variable {β : Type}

def isDef (d : Defs β) (n : String) : Bool := d.any (fun p => p.1 == n)
def lookup (d : Defs β) (n : String) : Option β := (d.find? (fun p => p.1 == n)).map (·.2)
/-- `undef_macro` -/
def undef (d : Defs β) (n : String) : Defs β := d.filter (fun p => !(p.1 == n))
/-- `add_macro` (hashmap_put overwrites) -/
def define (d : Defs β) (n : String) (b : β) : Defs β := (n, b) :: d.undef n

end Defs

-- ------------------------------------------------------------------ lines

/-- lines that neither open, continue nor close a conditional -/
inductive Plain (β : Type) where
  | text (toks : List String)                 -- a text line (tokens are emitted)
  | define (n : String) (body : β)            -- #define n body
  | undef (n : String) (extra : Bool)         -- #undef n  [extra tokens]
  | error                                     -- #error …
  | bad                                       -- a directive preprocess2 rejects when it reaches it: unknown name,
                                              -- #undef / #define without a macro name ("invalid preprocessor directive", "macro name must be an identifier")
  | other                                     -- null directive, #pragma (not once), #line: no effect here
  deriving DecidableEq, Repr

/-- the three directives that open an if-section -/
inductive IfHead (ε : Type) where
  | ifE (c : ε)                               -- #if c
  | ifdef (n : String) (extra : Bool)         -- #ifdef n [extra tokens]
  | ifndef (n : String) (extra : Bool)        -- #ifndef n [extra tokens]
  | noName                                    -- #ifdef / #ifndef not followed by an identifier on the same line
  deriving DecidableEq, Repr

/-- the two directives that continue an if-section -/
inductive PartHead (ε : Type) where
  | elif (c : ε)                              -- #elif c
  | els (extra : Bool)                        -- #else [extra tokens]
  deriving DecidableEq, Repr

inductive Line (ε β : Type) where
  | plain (p : Plain β)
  | opens (h : IfHead ε)
  | part (h : PartHead ε)
  | endif (extra : Bool)                      -- #endif [extra tokens]
  deriving DecidableEq, Repr

-- ------------------------------------------------------------------ state

/-- `CondIncl.ctx` -/
inductive Ctx where
  | inThen | inElif | inElse
  deriving DecidableEq, Repr

/-- one `CondIncl` record -/
structure Frame where
  ctx : Ctx
  included : Bool
  deriving DecidableEq, Repr

/-- what is observable from outside: macro table and emitted text lines (in order) -/
structure Obs (β : Type) where
  defs : Defs β
  out : List (List String)
  deriving DecidableEq, Repr

/-- state of `preprocess2`'s loop: observable part + the `cond_incl` stack (innermost first) -/
structure St (β : Type) where
  obs : Obs β
  stack : List Frame
  deriving DecidableEq, Repr

/-- where the C program counter is: in `preprocess2`'s own loop (`proc`), or inside
    `skip_cond_incl` with `d` activations of `skip_cond_incl2` on the C stack (`skip d`;
    `skip 0` is the loop of `skip_cond_incl` itself). -/
inductive Mode where
  | proc
  | skip (d : Nat)
  deriving DecidableEq, Repr

-- ------------------------------------------------------------------ the two skip functions

variable {ε β : Type}

/-- `skip_cond_incl` (depth 0) and `skip_cond_incl2` (depth d+1 = d+1 nested activations) as one
    function over lines.  At depth 0 it returns *at* the first #elif/#else/#endif (the caller's
    loop then dispatches that directive); at depth d+1 an #endif ends one activation of
    `skip_cond_incl2` (which returns the token after `endif`; the rest of that line holds no
    line-initial `#`).  Null directives, text and all other directives are stepped over. -/
def skipFrom : Nat → List (Line ε β) → List (Line ε β)
  | _, [] => []
  | 0, l :: ls =>
    match l with
    | .opens _ => skipFrom 1 ls
    | .part _ => l :: ls
    | .endif _ => l :: ls
    | .plain _ => skipFrom 0 ls
  | d+1, l :: ls =>
    match l with
    | .opens _ => skipFrom (d+2) ls
    | .endif _ => skipFrom d ls
    | .part _ => skipFrom (d+1) ls
    | .plain _ => skipFrom (d+1) ls

/-- `skip_cond_incl(tok)` -/
def skipCondIncl (ls : List (Line ε β)) : List (Line ε β) := skipFrom 0 ls

/-- `skip_cond_incl2` as it is written in C: a loop that calls itself for a nested #if-kind line and
    returns behind the first #endif it sees itself.  `fuel` bounds loop iterations + recursion depth. -/
def skipCondIncl2C : Nat → List (Line ε β) → List (Line ε β)
  | 0, ls => ls
  | _+1, [] => []
  | f+1, l :: ls =>
    match l with
    | .opens _ => skipCondIncl2C f (skipCondIncl2C f ls)      -- tok = skip_cond_incl2(tok->next->next); continue;
    | .endif _ => ls                                          -- return tok->next->next;
    | _ => skipCondIncl2C f ls                                -- tok = tok->next;

/-- `skip_cond_incl` as it is written in C -/
def skipCondInclC : Nat → List (Line ε β) → List (Line ε β)
  | 0, ls => ls
  | _+1, [] => []
  | f+1, l :: ls =>
    match l with
    | .opens _ => skipCondInclC f (skipCondIncl2C f ls)       -- tok = skip_cond_incl2(tok->next->next); continue;
    | .part _ => l :: ls                                      -- break;
    | .endif _ => l :: ls
    | .plain _ => skipCondInclC f ls

-- ------------------------------------------------------------------ directive arms of preprocess2

/-- non-conditional lines in `preprocess2`'s loop -/
def procPlain (p : Plain β) (o : Obs β) : Except Diag (Obs β) :=
  match p with
  | .text toks => .ok { o with out := o.out ++ [toks] }
  | .define n b => .ok { o with defs := o.defs.define n b }      -- read_macro_definition → add_macro
  | .undef n _ => .ok { o with defs := o.defs.undef n }          -- undef_macro; skip_line
  | .error => .error .errorDirective                            -- error_tok(tok, "error")
  | .bad => .error .badDirective
  | .other => .ok o

/-- the value of the controlling condition of #if / #ifdef / #ifndef -/
def evalHead (ev : ε → Defs β → Except Diag Bool) (h : IfHead ε) (d : Defs β) : Except Diag Bool :=
  match h with
  | .ifE c => ev c d
  | .ifdef n _ => .ok (d.isDef n)                                -- find_macro(tok->next)
  | .ifndef n _ => .ok (!d.isDef n)
  | .noName => .error .badDirective                             -- "macro name must be an identifier"

/-- One directive (or text line) handled by `preprocess2`'s own loop.  Returns the new state and
    where control continues: `proc` (next line), or `skip 0` (the arm called `skip_cond_incl`). -/
def procLine (ev : ε → Defs β → Except Diag Bool) (l : Line ε β) (s : St β) :
    Except Diag (St β × Mode) :=
  match l with
  | .plain p => do
    let o ← procPlain p s.obs
    pure ({ s with obs := o }, .proc)
  | .opens h => do
    -- #if: val = eval_const_expr; push_cond_incl(start, val); if (!val) skip_cond_incl
    -- #ifdef/#ifndef: push_cond_incl(tok, defined / !defined); skip_line; skip_cond_incl if not taken
    let v ← evalHead ev h s.obs.defs
    pure ({ s with stack := ⟨.inThen, v⟩ :: s.stack }, if v then .proc else .skip 0)
  | .part (.elif c) =>
    match s.stack with
    | [] => .error .strayElif                                   -- !cond_incl
    | f :: st =>
      if f.ctx = .inElse then .error .strayElif                 -- cond_incl->ctx == IN_ELSE
      else if f.included then
        -- `!cond_incl->included && …` is false: the expression is NOT evaluated
        pure ({ s with stack := ⟨.inElif, true⟩ :: st }, .skip 0)
      else do
        let v ← ev c s.obs.defs
        if v then pure ({ s with stack := ⟨.inElif, true⟩ :: st }, .proc)
        else pure ({ s with stack := ⟨.inElif, false⟩ :: st }, .skip 0)
  | .part (.els _) =>
    match s.stack with
    | [] => .error .strayElse
    | f :: st =>
      if f.ctx = .inElse then .error .strayElse
      else pure ({ s with stack := ⟨.inElse, f.included⟩ :: st },
                 if f.included then .skip 0 else .proc)
  | .endif _ =>
    match s.stack with
    | [] => .error .strayEndif
    | _ :: st => pure ({ s with stack := st }, .proc)           -- cond_incl = cond_incl->next

/-- One line, in whatever mode control is.  In `skip (d+1)` (inside `skip_cond_incl2`) only
    #if-kind and #endif lines matter; in `skip 0` (inside `skip_cond_incl`) an #if-kind line starts
    `skip_cond_incl2`, and #elif/#else/#endif end the skip: `skip_cond_incl` returns *at* that
    line and `preprocess2`'s loop dispatches it. -/
def stepLine (ev : ε → Defs β → Except Diag Bool) (l : Line ε β) (m : Mode) (s : St β) :
    Except Diag (St β × Mode) :=
  match m with
  | .proc => procLine ev l s
  | .skip 0 =>
    match l with
    | .opens _ => .ok (s, .skip 1)
    | .plain _ => .ok (s, .skip 0)
    | .part _ => procLine ev l s
    | .endif _ => procLine ev l s
  | .skip (d+1) =>
    match l with
    | .opens _ => .ok (s, .skip (d+2))
    | .endif _ => .ok (s, .skip d)
    | .part _ => .ok (s, .skip (d+1))
    | .plain _ => .ok (s, .skip (d+1))

/-- `preprocess2` over a list of lines -/
def run (ev : ε → Defs β → Except Diag Bool) : List (Line ε β) → Mode → St β → Except Diag (St β × Mode)
  | [], m, s => .ok (s, m)
  | l :: ls, m, s =>
    match stepLine ev l m s with
    | .error e => .error e
    | .ok (s', m') => run ev ls m' s'

/-- `preprocess`: run `preprocess2`, then `if (cond_incl) error_tok(…, "unterminated conditional directive")` -/
def finish (r : Except Diag (St β × Mode)) : Except Diag (Obs β) :=
  match r with
  | .error e => .error e
  | .ok (s, _) => if s.stack.isEmpty then .ok s.obs else .error .unterminated

/-- **the conditional-inclusion machine**: a whole translation unit (no #include) from macro
    table `d`; result = emitted text lines and final macro table, or the diagnostic. -/
def condMachine (ev : ε → Defs β → Except Diag Bool) (ls : List (Line ε β)) (d : Defs β) :
    Except Diag (Obs β) :=
  finish (run ev ls .proc ⟨⟨d, []⟩, []⟩)

-- ------------------------------------------------------------------ detect_include_guard

/-- the scanning loop of `detect_include_guard` (entered at the `#define` line with depth 1).
    Lines that are not directives and null directives are stepped over; every directive other than
    the six conditional ones falls through all three tests. -/
def guardScan : Nat → List (Line ε β) → Bool
  | _, [] => false                                             -- EOF: return NULL
  | depth, l :: ls =>
    match l with
    | .opens _ => guardScan (depth + 1) ls
    | .part _ => if depth = 1 then false else guardScan depth ls
    | .endif extra =>
      if depth = 1 then (!extra && ls.isEmpty)                  -- dir->next->kind == TK_EOF
      else guardScan (depth - 1) ls
    | .plain _ => guardScan depth ls

/-- `detect_include_guard`: `#ifndef G` (nothing else on the line), `#define G …`, and the #endif
    that closes the #ifndef is the last token of the file, with no #elif/#else of its own. -/
def detectGuard : List (Line ε β) → Option String
  | .opens (.ifndef g false) :: .plain (.define g' b) :: rest =>
    if g = g' then (if guardScan 1 (.plain (.define g' b) :: rest) then some g else none) else none
  | _ => none

end ChibiVerif.CondIncl
