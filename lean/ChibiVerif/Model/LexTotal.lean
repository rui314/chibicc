/-
C13's own scanner model: what happens to an ARBITRARY byte string between `read_file` and the end of
`tokenize()` (tokenize.c), with line numbers, written so that every way of leaving the text is an outcome.

Alphabet: bytes as `Nat` (0..255).  The C code works on the NUL-terminated buffer; here a text is the
list of bytes BEFORE the terminating NUL, positions are offsets into that list, reading offset
`length` is reading the terminator, and any read beyond it is the outcome `overread` (never a
silent `getD`).  Sibling models (Model/Lex: code points, no NUL, no lines; Model/Literals: `byteAt`
reads zeros after the terminator) assume what is a theorem here.

Outcomes of `lexFile bytes` (= tokenize_file up to the return of tokenize):
  ok n            n tokens (without TK_EOF)
  diag line msg   `error_at(loc, msg)`; `line` is what error_at computes: 1 + number of '\n' before loc
  overread why    the code steps over the terminating NUL:
                    universalBackslash  convert_universal_chars: `\` directly before the NUL is copied as a pair
                  (the three sites of the scanner proper — `//` without a newline, `"\` and `'\` directly before the NUL —
                  were repaired in /repo, fix ee6fc96; the model follows the repaired code and Findings/C13.lean keeps
                  the witnesses)
  fuel            loop bound of the model exhausted (theorem: never)

The passes: read_file appends '\n' when the last byte is not '\n'; the C string ends at the first NUL
byte of the file; BOM; canonicalize_newline; remove_backslash_newline; convert_universal_chars.
Tables come from the translated Gen files (punctuators, identifier ranges, UTF-8 codec); <ctype.h> from LexChar.
Not modelled: token kinds/values (C19, C11), has_space/at_bol, add_line_numbers.
-/
import ChibiVerif.Gen.LexGen
import ChibiVerif.Gen.LiteralsGen

namespace ChibiVerif.LexTotal
open ChibiVerif.LexChar

inductive Msg
  | unclosedString | unclosedChar | unclosedComment | invalidToken | invalidHexEscape | invalidUtf8
  deriving DecidableEq, Repr

inductive Why
  | universalBackslash
  deriving DecidableEq, Repr

inductive Outcome
  | ok (ntok : Nat)
  | diag (line : Nat) (m : Msg)
  | overread (w : Why)
  | fuel
  deriving DecidableEq, Repr

def LF : Nat := 10
def CR : Nat := 13
def BSL : Nat := 92

/-- number of '\n' -/
def countLF : List Nat → Nat
  | [] => 0
  | c :: t => (if c = 10 then 1 else 0) + countLF t

-- ------------------------------------------------------------------ read_file .. convert_universal_chars

/-- `read_file`: `if (buflen == 0 || buf[buflen - 1] != '\n') fputc('\n', out);` -/
def readFile (b : List Nat) : List Nat := if b.getLast? = some 10 then b else b ++ [10]

/-- the C string: everything before the first NUL byte -/
def cstr : List Nat → List Nat
  | [] => []
  | c :: t => if c = 0 then [] else c :: cstr t

/-- `if (!memcmp(p, "\xef\xbb\xbf", 3)) p += 3;` -/
def skipBOM : List Nat → List Nat
  | a :: b :: c :: rest => if a = 0xEF ∧ b = 0xBB ∧ c = 0xBF then rest else a :: b :: c :: rest
  | l => l

/-- `canonicalize_newline` -/
def canonNL : List Nat → List Nat
  | [] => []
  | [a] => if a = 13 then [10] else [a]
  | a :: b :: rest =>
    if a = 13 then
      if b = 10 then 10 :: canonNL rest else 10 :: canonNL (b :: rest)
    else a :: canonNL (b :: rest)

/-- `remove_backslash_newline`; `n` = removed newlines not yet re-emitted -/
def rmBsNlAux : List Nat → Nat → List Nat
  | [], n => List.replicate n 10
  | [a], n => a :: List.replicate n 10
  | a :: b :: rest, n =>
    if a = 92 ∧ b = 10 then rmBsNlAux rest (n + 1)
    else if a = 10 then a :: (List.replicate n 10 ++ rmBsNlAux (b :: rest) 0)
    else a :: rmBsNlAux (b :: rest) n

def rmBsNl (p : List Nat) : List Nat := rmBsNlAux p 0

def isXDigitN (c : Nat) : Bool := isXDigit c

/-- tokenize.c `from_hex` on a hexadecimal digit -/
def fromHexN (c : Nat) : Nat :=
  if 48 ≤ c ∧ c ≤ 57 then c - 48 else if 97 ≤ c ∧ c ≤ 102 then c - 97 + 10 else c - 65 + 10

/-- `read_universal_char(p, len)`: 0 when one of the `len` bytes is not a hexadecimal digit (the NUL is not one) -/
def readUC : List Nat → Nat → Nat → Nat
  | _, 0, c => c
  | [], _ + 1, _ => 0
  | b :: rest, len + 1, c => if isXDigitN b then readUC rest len ((c * 16 + fromHexN b) % 4294967296) else 0

def encodeU (c : Nat) : List Nat := (ChibiVerif.Gen.Literals.encodeUtf8 (BitVec.ofNat 32 c)).map BitVec.toNat

/-- `convert_universal_chars`; fuel = one unit per loop iteration -/
def convUCAux : Nat → List Nat → Except Why (List Nat)
  | 0, p => .ok p
  | _ + 1, [] => .ok []
  | fuel + 1, a :: rest =>
    if a = 92 then
      match rest with
      | [] => .error .universalBackslash          -- `*q++ = *p++; *q++ = *p++;` copies the NUL and goes on behind it
      | b :: rest' =>
        if b = 117 ∧ readUC rest' 4 0 ≠ 0 ∧ readUC rest' 4 0 ≠ 10 then
          (convUCAux fuel (rest'.drop 4)).map (encodeU (readUC rest' 4 0) ++ ·)
        else if b = 85 ∧ readUC rest' 8 0 ≠ 0 ∧ readUC rest' 8 0 ≠ 10 then
          (convUCAux fuel (rest'.drop 8)).map (encodeU (readUC rest' 8 0) ++ ·)
        else if b = 117 ∨ b = 85 then
          (convUCAux fuel rest).map (a :: ·)       -- `*q++ = *p++;` only the backslash (value 0 or '\n': not converted)
        else (convUCAux fuel rest').map (fun r => a :: b :: r)
    else (convUCAux fuel rest).map (a :: ·)

def convUC (p : List Nat) : Except Why (List Nat) := convUCAux (p.length + 1) p

/-- the text `tokenize()` is handed for the bytes of a file -/
def phases (bytes : List Nat) : Except Why (List Nat) :=
  convUC (rmBsNl (canonNL (skipBOM (cstr (readFile bytes)))))

-- ------------------------------------------------------------------ the scanner

/-- result of one iteration of `while (*p)` relative to the current position -/
inductive Step
  | skip (len : Nat)
  | tok (len : Nat)
  | err (off : Nat) (m : Msg)
  deriving DecidableEq, Repr

/-- offset of the first '\n' -/
def idxLF : List Nat → Option Nat
  | [] => none
  | c :: t => if c = 10 then some 0 else (idxLF t).map (· + 1)

/-- `strstr(p, "*/")`: number of characters up to and including the `*/` -/
def findClose : List Nat → Option Nat
  | [] => none
  | c :: t => if c = 42 ∧ t.head? = some 47 then some 2 else (findClose t).map (· + 1)

def headIs (p : Nat → Bool) : List Nat → Bool
  | [] => false
  | c :: _ => p c

/-- pp-number loop after the first character: number of characters taken -/
def ppLen : List Nat → Nat
  | [] => 0
  | c :: t =>
    if ChibiVerif.Gen.Lex.ppExpChars.contains c && headIs (fun d => ChibiVerif.Gen.Lex.ppSignChars.contains d) t then
      match t with
      | _ :: t' => 2 + ppLen t'
      | [] => 0
    else if isAlnum c || c == 46 then 1 + ppLen t
    else 0

inductive StrEnd
  | found (k : Nat)      -- offset of the closing quote
  | unclosed
  deriving DecidableEq, Repr

def StrEnd.shift (n : Nat) : StrEnd → StrEnd
  | .found k => .found (k + n)
  | r => r

/-- `string_literal_end` from the character after the opening quote -/
def strEnd : List Nat → StrEnd
  | [] => .unclosed
  | c :: t =>
    if c = 34 then .found 0
    else if c = 10 then .unclosed
    else if c = 92 then
      match t with
      | [] => .unclosed                           -- `if (*p == '\\' && p[1]) p++;` then the loop reaches the NUL
      | _ :: t' => (strEnd t').shift 2
    else (strEnd t).shift 1

def decode (s : List Nat) : Except Unit (Nat × Nat) :=
  match ChibiVerif.Gen.Literals.decodeUtf8 ((s.take 4).map (BitVec.ofNat 8)) with
  | .ok (c, n) => .ok (c.toNat, n)
  | .error _ => .error ()

/-- the reading loops of read_string_literal (`wide = false`) and read_utf16/32_string_literal (`wide = true`) over the
    body: first error in reading order as (offset, message).  After a backslash exactly one more byte is skipped here;
    the digits an octal / hexadecimal escape consumes are ASCII digits, which are neither backslashes nor decode errors. -/
def bodyCheck (wide : Bool) : Nat → List Nat → Nat → Option (Nat × Msg)
  | 0, _, _ => none
  | _ + 1, [], _ => none
  | fuel + 1, c :: t, off =>
    if c = 92 then
      match t with
      | [] => none
      | d :: t' =>
        if d = 120 ∧ !(headIs isXDigitN t') then some (off + 2, .invalidHexEscape)
        else bodyCheck wide fuel t' (off + 2)
    else if wide then
      match decode (c :: t) with
      | .error _ => some (off, .invalidUtf8)
      | .ok (_, n) => bodyCheck wide fuel ((c :: t).drop n) (off + n)
    else bodyCheck wide fuel t (off + 1)

/-- a string literal whose opening quote is at offset `q` of `s` -/
def strTok (wide : Bool) (s : List Nat) (q : Nat) : Step :=
  match strEnd (s.drop (q + 1)) with
  | .unclosed => .err (q + 1) .unclosedString
  | .found k =>
    match bodyCheck wide (k + 1) ((s.drop (q + 1)).take k) (q + 1) with
    | some (off, m) => .err off m
    | none => .tok (q + 1 + k + 1)

/-- offset of the first `'` -/
def idxQuote : List Nat → Option Nat
  | [] => none
  | c :: t => if c = 39 then some 0 else (idxQuote t).map (· + 1)

def isOct (c : Nat) : Bool := decide (48 ≤ c) && decide (c ≤ 55)

/-- number of leading hexadecimal digits -/
def xrun : List Nat → Nat
  | [] => 0
  | c :: t => if isXDigitN c then 1 + xrun t else 0

inductive ChrFirst
  | at (j : Nat)                    -- offset (in the token) of the position after the first character
  | err (off : Nat) (m : Msg)
  deriving DecidableEq, Repr

/-- the first (possibly escaped) character of a character constant; `p` = text after the opening quote at offset `q` -/
def chrFirst (q : Nat) : List Nat → ChrFirst
  | [] => .err 0 .unclosedChar                      -- `if (*p == '\0') error_at(start, …)`
  | c :: t =>
    if c = 92 then
      match t with
      | [] => .err 0 .unclosedChar                  -- `if (*p == '\\' && p[1] == '\0') error_at(start, …)`
      | d :: t' =>
        if isOct d then
          .at (q + 3 + (if headIs isOct t' then (if headIs isOct (t'.drop 1) then 2 else 1) else 0))
        else if d = 120 then
          if headIs isXDigitN t' then .at (q + 3 + xrun t') else .err (q + 3) .invalidHexEscape
        else .at (q + 3)
    else
      match decode (c :: t) with
      | .error _ => .err (q + 1) .invalidUtf8
      | .ok (_, n) => .at (q + 1 + n)

/-- a character constant whose opening quote is at offset `q` of `s` -/
def chrTok (s : List Nat) (q : Nat) : Step :=
  match chrFirst q (s.drop (q + 1)) with
  | .err off m => .err off m
  | .at j =>
    match idxQuote (s.drop j) with
    | none => .err j .unclosedChar                  -- `strchr(p, '\'')` fails
    | some k => .tok (j + k + 1)

/-- `read_ident` after the first character: characters taken, or the offset of an undecodable byte -/
def identRest : Nat → List Nat → Nat → Except Nat Nat
  | 0, _, off => .ok off
  | _ + 1, [], off => .ok off
  | fuel + 1, c :: t, off =>
    match decode (c :: t) with
    | .error _ => .error off
    | .ok (cp, n) =>
      if ChibiVerif.Gen.Literals.isIdent2 cp then identRest fuel ((c :: t).drop n) (off + n) else .ok off

def startsWith (pre s : List Nat) : Bool := pre.isPrefixOf s

/-- last branches of the loop: `read_ident`, then `read_punct`, then "invalid token" -/
def stepWord (s : List Nat) : Step :=
  match decode s with
  | .error _ => .err 0 .invalidUtf8
  | .ok (cp, n) =>
    if ChibiVerif.Gen.Literals.isIdent1 cp then
      match identRest (s.length + 1) (s.drop n) n with
      | .error off => .err off .invalidUtf8
      | .ok len => .tok len
    else if ChibiVerif.Gen.Lex.readPunct s = 0 then .err 0 .invalidToken
    else .tok (ChibiVerif.Gen.Lex.readPunct s)

/-- the character-constant branches: `'`, `u'`, `L'`, `U'` -/
def stepChr (c : Nat) (s : List Nat) : Step :=
  if c = 39 then chrTok s 0
  else if startsWith [117, 39] s then chrTok s 1
  else if startsWith [76, 39] s then chrTok s 1
  else if startsWith [85, 39] s then chrTok s 1
  else stepWord s

/-- the string-literal branches: `"`, `u8"`, `u"`, `L"`, `U"` -/
def stepStr (c : Nat) (s : List Nat) : Step :=
  if c = 34 then strTok false s 0
  else if startsWith [117, 56, 34] s then strTok false s 2
  else if startsWith [117, 34] s then strTok true s 1
  else if startsWith [76, 34] s then strTok true s 1
  else if startsWith [85, 34] s then strTok true s 1
  else stepChr c s

/-- one iteration of `while (*p)`, branches in source order -/
def step (s : List Nat) : Step :=
  match s with
  | [] => .skip 0
  | c :: t =>
    if startsWith [47, 47] (c :: t) then
      match idxLF (t.drop 1) with
      | none => .skip (2 + (t.drop 1).length)       -- `while (*p && *p != '\n') p++;` stops at the NUL
      | some k => .skip (2 + k)
    else if startsWith [47, 42] (c :: t) then
      match findClose (t.drop 1) with
      | none => .err 0 .unclosedComment
      | some k => .skip (2 + k)
    else if c = 10 then .skip 1
    else if isSpace c then .skip 1
    else if isDigit c || (c == 46 && headIs isDigit t) then .tok (1 + ppLen t)
    else stepStr c (c :: t)

/-- the loop of `tokenize`; `line` = 1 + number of '\n' before the current position.
    (Until /repo 15c0740 `verror_at` could replace the message: `display_width` decoded the text of the line up to the error
    column with the erroring decoder.  display_width now counts an undecodable byte as one column, so the message printed
    is the message of the site.) -/
def loop : Nat → List Nat → Nat → Nat → Outcome
  | 0, _, _, _ => .fuel
  | _ + 1, [], _, n => .ok n
  | fuel + 1, c :: t, line, n =>
    match step (c :: t) with
    | .skip k => loop fuel ((c :: t).drop k) (line + countLF ((c :: t).take k)) n
    | .tok k => loop fuel ((c :: t).drop k) (line + countLF ((c :: t).take k)) (n + 1)
    | .err off m => .diag (line + countLF ((c :: t).take off)) m

/-- `tokenize(file)` on the text -/
def scan (text : List Nat) : Outcome := loop (text.length + 1) text 1 0

/-- `tokenize_file(path)` on the bytes of the file -/
def lexFile (bytes : List Nat) : Outcome :=
  match phases bytes with
  | .error w => .overread w
  | .ok t => scan t

/-- the text ends in a newline (what read_file guarantees for a file; temporary buffers of the preprocessor need not) -/
def EndsLF (l : List Nat) : Prop := l.getLast? = some 10

instance (l : List Nat) : Decidable (EndsLF l) := inferInstanceAs (Decidable (l.getLast? = some 10))

/-- line terminators of the raw bytes as the first two passes see them: "\r\n", lone "\r", "\n" -/
def terminators : List Nat → Nat
  | [] => 0
  | [a] => if a = 13 ∨ a = 10 then 1 else 0
  | a :: b :: rest =>
    if a = 13 ∧ b = 10 then 1 + terminators rest
    else (if a = 13 ∨ a = 10 then 1 else 0) + terminators (b :: rest)

/-- the largest line number a diagnostic about this file can carry: the EOF position of the text -/
def lastLine (bytes : List Nat) : Nat :=
  match phases bytes with
  | .error _ => 1
  | .ok t => countLF t + 1

end ChibiVerif.LexTotal
