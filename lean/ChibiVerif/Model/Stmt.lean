/-
C03 — model of the statement bookkeeping of /repo/parse.c and of /repo/codegen.c `gen_stmt`.

parse.c (`stmt`, l.1676-1894; `resolve_goto_labels`, l.3470; `function`, l.3509):
  * `new_unique_name()` = `.L..<id++>`: one static counter for break/continue/case/label
    names *and* anonymous globals (`__func__`, `__FUNCTION__` take two per function);
  * `brk_label`, `cont_label`, `current_switch` are file-scope variables that `stmt` saves
    in a C local before descending and restores afterwards;
  * `case`/`default` nodes are linked into `current_switch` *after* their sub-statement
    was parsed (`case_next` list, most recent first; `default_case` overwritten);
  * `break`/`continue` become `ND_GOTO` with `unique_label` = current `brk_label`/`cont_label`;
  * named gotos and `&&label` are resolved per function against the `labels` list.
The parser state is an explicit value `PState` threaded through `parseStmt`; the C
locals `brk`, `cont`, `sw` are the `let`-bound copies.

codegen.c (`gen_stmt`, l.1321-1468; `count()`, l.26): `genStmt` emits the control skeleton
of what `gen_stmt` prints: labels, jumps, the `switch` compare ladder, and one
pseudo-instruction per call of `m`/`c`/`in` (the argument set-up and the call itself are
C06's business).  `count()` is the threaded `Nat`.

Instructions are structured (`CIns`) so that theorems need no string reasoning;
`CIns.toLine` maps them to the shared syntax `Model/Asm.lean`, whose printer gives the
text compared with `chibicc -S`.
-/
import ChibiVerif.Model.Asm
import ChibiVerif.Spec.ControlSpec

namespace ChibiVerif.Ctl
open ChibiVerif.Spec.Ctl (Val SStmt Event SState)

/-! ### parsed statements -/

structure CaseEnt where
  lbl : Nat
  lo : Val
  hi : Val
  deriving Repr, DecidableEq, Inhabited

inductive GotoKind where
  | brk | cont
  | user (l : Nat)             -- `goto l;` (the label name is kept for the correspondence with the source)
  deriving Repr, DecidableEq, Inhabited

/-- `Node` restricted to statements; every unique label is the number `n` of `.L..n` -/
inductive Stmt where
  | skip
  | marker (k : Nat)
  | seq (a b : Stmt)
  | block (s : Stmt)
  | ifte (c : Nat) (t e : Stmt)
  | for_ (init cond inc : Option Nat) (brk cont : Nat) (body : Stmt)
  | doWhile (brk cont : Nat) (body : Stmt) (c : Nat)
  | switch_ (w64 uns : Bool) (k : Nat) (cases : List CaseEnt) (dflt : Option Nat) (brk : Nat)
      (body : Stmt)
  | case_ (lbl : Nat) (lo hi : Val) (s : Stmt)
  | default_ (lbl : Nat) (s : Stmt)
  | goto_ (kind : GotoKind) (target : Nat)     -- ND_GOTO with `unique_label`
  | gotoN (l : Nat)                            -- ND_GOTO with `label`, not yet resolved
  | gotoVal (l : Nat) (target : Nat)           -- `goto *&&L` resolved
  | gotoValN (l : Nat)
  | label (l : Nat) (u : Nat) (s : Stmt)
  | ret
  deriving Repr, DecidableEq, Inhabited

inductive PErr where
  | strayCase | strayDefault | strayBreak | strayContinue
  | emptyRange                 -- "empty case range specified"
  | undeclaredLabel            -- "use of undeclared label"
  | lostSwitch                 -- `current_switch` NULL after a sub-statement (cannot happen; C03_break_binds)
  deriving Repr, DecidableEq, Inhabited

/-- the `Node` fields of the switch being parsed that `case`/`default` write through
    `current_switch` -/
structure SwCtx where
  cases : List CaseEnt         -- `case_next` chain, head = most recently linked
  dflt : Option Nat            -- `default_case->label`
  deriving Repr, DecidableEq, Inhabited

structure PState where
  uniq : Nat                   -- `static int id` of new_unique_name
  brk : Option Nat             -- brk_label  (none = NULL)
  cont : Option Nat            -- cont_label
  sw : Option SwCtx            -- current_switch
  labels : List (Nat × Nat)    -- `labels`: (name, unique), head = most recent
  deriving Repr, DecidableEq, Inhabited

def PState.fresh (σ : PState) : Nat × PState := (σ.uniq, { σ with uniq := σ.uniq + 1 })

def parseStmt : SStmt → PState → Except PErr (Stmt × PState)
  | .skip, σ => .ok (.skip, σ)
  | .marker k, σ => .ok (.marker k, σ)
  | .seq a b, σ =>
    match parseStmt a σ with
    | .error e => .error e
    | .ok (a', σ1) =>
      match parseStmt b σ1 with
      | .error e => .error e
      | .ok (b', σ2) => .ok (.seq a' b', σ2)
  | .block s, σ =>
    match parseStmt s σ with
    | .error e => .error e
    | .ok (s', σ1) => .ok (.block s', σ1)
  | .ifte c t e, σ =>
    match parseStmt t σ with
    | .error e => .error e
    | .ok (t', σ1) =>
      match parseStmt e σ1 with
      | .error e => .error e
      | .ok (e', σ2) => .ok (.ifte c t' e', σ2)
  | .switch_ w64 uns k body, σ =>
    let sw := σ.sw                                       -- Node *sw = current_switch;
    let brk := σ.brk                                     -- char *brk = brk_label;
    let b := σ.uniq                                      -- brk_label = node->brk_label = new_unique_name();
    match parseStmt body { σ with sw := some ⟨[], none⟩, brk := some b, uniq := σ.uniq + 1 } with
    | .error e => .error e
    | .ok (body', σ1) =>
      match σ1.sw with
      | none => .error .lostSwitch
      | some ctx =>
        .ok (.switch_ w64 uns k ctx.cases ctx.dflt b body',
             { σ1 with sw := sw, brk := brk })           -- current_switch = sw; brk_label = brk;
  | .case_ lo hi s, σ =>
    match σ.sw with
    | none => .error .strayCase
    | some _ =>
      if hi.slt lo then .error .emptyRange               -- `if (end < begin)` on `long`
      else
        let l := σ.uniq                                  -- node->label = new_unique_name();
        match parseStmt s { σ with uniq := σ.uniq + 1 } with
        | .error e => .error e
        | .ok (s', σ1) =>
          match σ1.sw with
          | none => .error .lostSwitch
          | some ctx =>                                  -- node->case_next = current_switch->case_next; ...
            .ok (.case_ l lo hi s', { σ1 with sw := some { ctx with cases := ⟨l, lo, hi⟩ :: ctx.cases } })
  | .default_ s, σ =>
    match σ.sw with
    | none => .error .strayDefault
    | some _ =>
      let l := σ.uniq
      match parseStmt s { σ with uniq := σ.uniq + 1 } with
      | .error e => .error e
      | .ok (s', σ1) =>
        match σ1.sw with
        | none => .error .lostSwitch
        | some ctx => .ok (.default_ l s', { σ1 with sw := some { ctx with dflt := some l } })
  | .for_ init c inc body, σ =>
    let brk := σ.brk
    let cont := σ.cont
    let b := σ.uniq
    let ct := σ.uniq + 1
    match parseStmt body { σ with brk := some b, cont := some ct, uniq := σ.uniq + 2 } with
    | .error e => .error e
    | .ok (body', σ1) => .ok (.for_ init c inc b ct body', { σ1 with brk := brk, cont := cont })
  | .doWhile body c, σ =>
    let brk := σ.brk
    let cont := σ.cont
    let b := σ.uniq
    let ct := σ.uniq + 1
    match parseStmt body { σ with brk := some b, cont := some ct, uniq := σ.uniq + 2 } with
    | .error e => .error e
    | .ok (body', σ1) => .ok (.doWhile b ct body' c, { σ1 with brk := brk, cont := cont })
  | .break_, σ =>
    match σ.brk with
    | none => .error .strayBreak
    | some b => .ok (.goto_ .brk b, σ)
  | .continue_, σ =>
    match σ.cont with
    | none => .error .strayContinue
    | some c => .ok (.goto_ .cont c, σ)
  | .goto_ l, σ => .ok (.gotoN l, σ)
  | .gotoVal l, σ => .ok (.gotoValN l, σ)
  | .label l s, σ =>
    let u := σ.uniq                                      -- node->unique_label = new_unique_name();
    match parseStmt s { σ with uniq := σ.uniq + 1 } with
    | .error e => .error e
    | .ok (s', σ1) => .ok (.label l u s', { σ1 with labels := (l, u) :: σ1.labels })
  | .ret, σ => .ok (.ret, σ)

/-- `resolve_goto_labels`: first label of that name in the `labels` list -/
def lookupLabel (labels : List (Nat × Nat)) (l : Nat) : Option Nat :=
  (labels.find? (fun p => p.1 == l)).map (·.2)

def resolve (labels : List (Nat × Nat)) : Stmt → Except PErr Stmt
  | .seq a b =>
    match resolve labels a with
    | .error e => .error e
    | .ok a' => match resolve labels b with
      | .error e => .error e
      | .ok b' => .ok (.seq a' b')
  | .block s => match resolve labels s with
    | .error e => .error e
    | .ok s' => .ok (.block s')
  | .ifte c t e =>
    match resolve labels t with
    | .error e => .error e
    | .ok t' => match resolve labels e with
      | .error e => .error e
      | .ok e' => .ok (.ifte c t' e')
  | .for_ i c n b ct body => match resolve labels body with
    | .error e => .error e
    | .ok body' => .ok (.for_ i c n b ct body')
  | .doWhile b ct body c => match resolve labels body with
    | .error e => .error e
    | .ok body' => .ok (.doWhile b ct body' c)
  | .switch_ w u k cs d b body => match resolve labels body with
    | .error e => .error e
    | .ok body' => .ok (.switch_ w u k cs d b body')
  | .case_ l lo hi s => match resolve labels s with
    | .error e => .error e
    | .ok s' => .ok (.case_ l lo hi s')
  | .default_ l s => match resolve labels s with
    | .error e => .error e
    | .ok s' => .ok (.default_ l s')
  | .label l u s => match resolve labels s with
    | .error e => .error e
    | .ok s' => .ok (.label l u s')
  | .gotoN l => match lookupLabel labels l with
    | none => .error .undeclaredLabel
    | some u => .ok (.goto_ (.user l) u)
  | .gotoValN l => match lookupLabel labels l with
    | none => .error .undeclaredLabel
    | some u => .ok (.gotoVal l u)
  -- (the parser never produces the next two forms; resolving them again keeps `resolve` idempotent)
  | .goto_ (.user l) _ => match lookupLabel labels l with
    | none => .error .undeclaredLabel
    | some u => .ok (.goto_ (.user l) u)
  | .gotoVal l _ => match lookupLabel labels l with
    | none => .error .undeclaredLabel
    | some u => .ok (.gotoVal l u)
  | s => .ok s

/-- `function()` for `void f(void) { body }`: `__func__` and `__FUNCTION__` take two unique
    names, then the body is parsed with no enclosing loop/switch, then gotos are resolved.
    `uniq0` = value of the name counter when the function definition is reached. -/
def PState.init (uniq0 : Nat) : PState := ⟨uniq0 + 2, none, none, none, []⟩

def parseFn (uniq0 : Nat) (body : SStmt) : Except PErr (Stmt × Nat) :=
  match parseStmt body (PState.init uniq0) with
  | .error e => .error e
  | .ok (st, σ) =>
    match resolve σ.labels st with
    | .error e => .error e
    | .ok st' => .ok (st', σ.uniq)

/-! ### code -/

inductive Lbl where
  | u (n : Nat)            -- .L..n        (new_unique_name)
  | begin_ (c : Nat)       -- .L.begin.c   (count())
  | else_ (c : Nat)        -- .L.else.c
  | end_ (c : Nat)         -- .L.end.c
  | ret                    -- .L.return.<fn>
  deriving Repr, DecidableEq, Inhabited

inductive Reg where
  | ax | di | dx
  deriving Repr, DecidableEq, Inhabited

inductive CIns where
  | label (l : Lbl)
  | jmp (l : Lbl)
  | je (l : Lbl)
  | jne (l : Lbl)
  | jbe (l : Lbl)
  | jmpInd                               -- jmp *%rax
  | lea (l : Lbl)                        -- lea l(%rip), %rax
  | call (e : Event)                     -- the call sequence of m(k) / c(k) / in(k)
  | cmpImm (w64 : Bool) (imm : Val) (r : Reg)   -- cmp $imm, r      (AT&T: flags of r - imm)
  | cmpReg (src dst : Reg)               -- cmp %src, %dst   (64-bit)
  | movImm (imm : Val) (r : Reg)         -- mov $imm, %r     (64-bit)
  | movAxDi (w64 : Bool)                 -- mov %eax, %edi / mov %rax, %rdi
  | subImm (w64 : Bool) (imm : Val)      -- sub $imm, %edi / %rdi
  | subDxDi                              -- sub %rdx, %rdi
  deriving Repr, DecidableEq, Inhabited

/-- `(int)x` as a `long` -/
def sext32 (x : Val) : Val := (x.setWidth 32).signExtend 64

/-- `x == (int)x` -/
def fits32 (x : Val) : Bool := sext32 x == x

/-- one arm of the compare ladder (`for (Node *n = node->case_next; n; n = n->case_next)`) -/
def ladderEnt (w64 : Bool) (e : CaseEnt) : List CIns :=
  let begin_ := if w64 then e.lo else sext32 e.lo
  let span := if w64 then e.hi - e.lo else sext32 (e.hi - e.lo)
  if e.lo = e.hi then
    (if fits32 begin_ then [.cmpImm w64 begin_ .ax]
     else [.movImm begin_ .di, .cmpReg .di .ax]) ++ [.je (.u e.lbl)]
  else
    [.movAxDi w64] ++
    (if fits32 begin_ then [.subImm w64 begin_] else [.movImm begin_ .dx, .subDxDi]) ++
    (if fits32 span then [.cmpImm w64 span .di] else [.movImm span .dx, .cmpReg .dx .di]) ++
    [.jbe (.u e.lbl)]

def ladder (w64 : Bool) (cases : List CaseEnt) (dflt : Option Nat) (brk : Nat) : List CIns :=
  cases.flatMap (ladderEnt w64) ++
  (match dflt with | some d => [.jmp (.u d)] | none => []) ++ [.jmp (.u brk)]

def callOpt : Option Nat → List CIns
  | none => []
  | some k => [.call (.m k)]

/-- `cmp_zero(ty_int)` -/
def cmpZero : CIns := .cmpImm false 0 .ax

def genStmt : Stmt → Nat → List CIns × Nat
  | .skip, c => ([], c)
  | .marker k, c => ([.call (.m k)], c)
  | .seq a b, c =>
    let x := genStmt a c
    let y := genStmt b x.2
    (x.1 ++ y.1, y.2)
  | .block s, c => genStmt s c
  | .ifte k t e, c =>                                   -- int c = count();
    let x := genStmt t (c + 1)
    let y := genStmt e x.2
    ([.call (.c k), cmpZero, .je (.else_ c)] ++ x.1 ++ [.jmp (.end_ c), .label (.else_ c)] ++ y.1 ++
      [.label (.end_ c)], y.2)
  | .for_ init cond inc brk cont body, c =>
    let x := genStmt body (c + 1)
    (callOpt init ++ [.label (.begin_ c)] ++
      (match cond with
       | some k => [.call (.c k), cmpZero, .je (.u brk)]
       | none => []) ++
      x.1 ++ [.label (.u cont)] ++ callOpt inc ++ [.jmp (.begin_ c), .label (.u brk)], x.2)
  | .doWhile brk cont body k, c =>
    let x := genStmt body (c + 1)
    ([.label (.begin_ c)] ++ x.1 ++
      [.label (.u cont), .call (.c k), cmpZero, .jne (.begin_ c), .label (.u brk)], x.2)
  | .switch_ w64 _ k cases dflt brk body, c =>
    let x := genStmt body c
    ([.call (.inp k)] ++ ladder w64 cases dflt brk ++ x.1 ++ [.label (.u brk)], x.2)
  | .case_ l _ _ s, c =>
    let x := genStmt s c
    (.label (.u l) :: x.1, x.2)
  | .default_ l s, c =>
    let x := genStmt s c
    (.label (.u l) :: x.1, x.2)
  | .goto_ _ t, c => ([.jmp (.u t)], c)
  | .gotoN _, c => ([.jmp (.u 0)], c)          -- never generated after `resolve` succeeded
  | .gotoVal _ t, c => ([.lea (.u t), .jmpInd], c)
  | .gotoValN _, c => ([.lea (.u 0), .jmpInd], c)
  | .label _ u s, c =>
    let x := genStmt s c
    (.label (.u u) :: x.1, x.2)
  | .ret, c => ([.jmp .ret], c)

/-- body of a function followed by its `.L.return.<fn>:`; `count0` = value of `count()`'s
    counter when `emit_text` reaches the function -/
def genFn (st : Stmt) (count0 : Nat) : List CIns :=
  (genStmt st count0).1 ++ [.label .ret]

/-! ### what the parsed tree says about itself (used in the statements of C03_break_binds / C03_labels) -/

/-- forget the labels: the source statement a parsed statement came from -/
def erase : Stmt → SStmt
  | .skip => .skip
  | .marker k => .marker k
  | .seq a b => .seq (erase a) (erase b)
  | .block s => .block (erase s)
  | .ifte c t e => .ifte c (erase t) (erase e)
  | .for_ i c n _ _ body => .for_ i c n (erase body)
  | .doWhile _ _ body c => .doWhile (erase body) c
  | .switch_ w u k _ _ _ body => .switch_ w u k (erase body)
  | .case_ _ lo hi s => .case_ lo hi (erase s)
  | .default_ _ s => .default_ (erase s)
  | .goto_ .brk _ => .break_
  | .goto_ .cont _ => .continue_
  | .goto_ (.user l) _ => .goto_ l
  | .gotoN l => .goto_ l
  | .gotoVal l _ => .gotoVal l
  | .gotoValN l => .gotoVal l
  | .label l _ s => .label l (erase s)
  | .ret => .ret

/-- the `case` nodes that belong to the innermost switch enclosing this statement (nested
    switches are opaque), in source order -/
def caseEnts : Stmt → List CaseEnt
  | .seq a b => caseEnts a ++ caseEnts b
  | .block s => caseEnts s
  | .ifte _ t e => caseEnts t ++ caseEnts e
  | .for_ _ _ _ _ _ body => caseEnts body
  | .doWhile _ _ body _ => caseEnts body
  | .case_ l lo hi s => ⟨l, lo, hi⟩ :: caseEnts s
  | .default_ _ s => caseEnts s
  | .label _ _ s => caseEnts s
  | _ => []

/-- likewise the labels of the `default` nodes -/
def dflts : Stmt → List Nat
  | .seq a b => dflts a ++ dflts b
  | .block s => dflts s
  | .ifte _ t e => dflts t ++ dflts e
  | .for_ _ _ _ _ _ body => dflts body
  | .doWhile _ _ body _ => dflts body
  | .case_ _ _ _ s => dflts s
  | .default_ l s => l :: dflts s
  | .label _ _ s => dflts s
  | _ => []

/-- the `default_case` a switch node records is one of the `default`s of its body, and is
    absent only if the body has none -/
def DfltOf : Option Nat → List Nat → Prop
  | none, ds => ds = []
  | some d, ds => d ∈ ds

/-- `Bound b c st`: with `b`/`c` the break/continue labels of the innermost enclosing
    loop-or-switch / loop *outside* `st`, every `break`/`continue` node of `st` jumps to the
    label of **its** innermost enclosing construct, and every switch node's case list and
    default are exactly the `case`/`default` nodes of its own body. -/
def Bound (b c : Option Nat) : Stmt → Prop
  | .seq x y => Bound b c x ∧ Bound b c y
  | .block s => Bound b c s
  | .ifte _ t e => Bound b c t ∧ Bound b c e
  | .for_ _ _ _ brk cont body => Bound (some brk) (some cont) body
  | .doWhile brk cont body _ => Bound (some brk) (some cont) body
  | .switch_ _ _ _ cases dflt brk body =>
    Bound (some brk) c body ∧ (∀ e, e ∈ cases ↔ e ∈ caseEnts body) ∧ DfltOf dflt (dflts body)
  | .case_ _ _ _ s => Bound b c s
  | .default_ _ s => Bound b c s
  | .label _ _ s => Bound b c s
  | .goto_ .brk t => b = some t
  | .goto_ .cont t => c = some t
  | _ => True

/-- unique labels whose definition `genStmt` emits for this statement -/
def defs : Stmt → List Nat
  | .seq a b => defs a ++ defs b
  | .block s => defs s
  | .ifte _ t e => defs t ++ defs e
  | .for_ _ _ _ brk cont body => defs body ++ [cont, brk]
  | .doWhile brk cont body _ => defs body ++ [cont, brk]
  | .switch_ _ _ _ _ _ brk body => defs body ++ [brk]
  | .case_ l _ _ s => l :: defs s
  | .default_ l s => l :: defs s
  | .label _ u s => u :: defs s
  | _ => []

/-- labels a code sequence defines / jumps to -/
def labelsOf (code : List CIns) : List Lbl :=
  code.filterMap fun i => match i with | .label l => some l | _ => none

def targetsOf (code : List CIns) : List Lbl :=
  code.filterMap fun i => match i with
    | .jmp l => some l | .je l => some l | .jne l => some l | .jbe l => some l | .lea l => some l
    | _ => none

/-- `genStmt` with the function epilogue label, also returning the advanced `count()` -/
def genFnC (st : Stmt) (count0 : Nat) : List CIns × Nat :=
  let r := genStmt st count0
  (r.1 ++ [.label .ret], r.2)

/-- a translation unit of `void f_i(void) { body_i }` definitions: `parse()` handles them in
    order of definition (one name counter); `emit_text` walks the `globals` list, which
    `new_gvar` builds by prepending, so code is generated — and `count()` advances — in
    **reverse** order of definition. -/
def parseUnit : Nat → List SStmt → Except PErr (List Stmt × Nat)
  | u, [] => .ok ([], u)
  | u, f :: fs =>
    match parseFn u f with
    | .error e => .error e
    | .ok (st, u1) =>
      match parseUnit u1 fs with
      | .error e => .error e
      | .ok (sts, u2) => .ok (st :: sts, u2)

/-- code of the functions listed in *emission* order -/
def genUnitRev : List Stmt → Nat → List (List CIns)
  | [], _ => []
  | st :: r, c => let (code, c1) := genFnC st c; code :: genUnitRev r c1

/-- code per function, in definition order -/
def genUnit (sts : List Stmt) (count0 : Nat) : List (List CIns) :=
  (genUnitRev sts.reverse count0).reverse

/-! ### printing (shared syntax of Model/Asm.lean) -/

def Lbl.render (fn : String) : Lbl → String
  | .u n => ".L.." ++ toString n
  | .begin_ c => ".L.begin." ++ toString c
  | .else_ c => ".L.else." ++ toString c
  | .end_ c => ".L.end." ++ toString c
  | .ret => ".L.return." ++ fn

def Reg.name (w64 : Bool) : Reg → String
  | .ax => if w64 then "%rax" else "%eax"
  | .di => if w64 then "%rdi" else "%edi"
  | .dx => if w64 then "%rdx" else "%edx"

def eventRender : Event → String
  | .m k => "m " ++ toString k
  | .c k => "c " ++ toString k
  | .inp k => "in " ++ toString k

open Asm in
def CIns.toLine (fn : String) : CIns → Line
  | .label l => .label (l.render fn)
  | .jmp l => ins1 "jmp" (.s (l.render fn))
  | .je l => ins1 "je" (.s (l.render fn))
  | .jne l => ins1 "jne" (.s (l.render fn))
  | .jbe l => ins1 "jbe" (.s (l.render fn))
  | .jmpInd => ins1 "jmp" (.s "*%rax")
  | .lea l => ins2 "lea" (.s (l.render fn ++ "(%rip)")) (.r "%rax")
  | .call e => .insA ⟨"call", [.s (eventRender e)]⟩ "skeleton"
  | .cmpImm w imm r => ins2 "cmp" (.i imm.toInt) (.r (r.name w))
  | .cmpReg s d => ins2 "cmp" (.r (s.name true)) (.r (d.name true))
  | .movImm imm r => ins2 "mov" (.i imm.toInt) (.r (r.name true))
  | .movAxDi w => ins2 "mov" (.r (Reg.ax.name w)) (.r (Reg.di.name w))
  | .subImm w imm => ins2 "sub" (.i imm.toInt) (.r (Reg.di.name w))
  | .subDxDi => ins2 "sub" (.r "%rdx") (.r "%rdi")

def genLines (fn : String) (st : Stmt) (count0 : Nat) : List Asm.Line :=
  (genFn st count0).map (CIns.toLine fn)

/-! ### the machine over `List CIns` -/

abbrev Prog := List CIns

/-- position of the definition of `l`, counted from `k` (first one; `C03_labels`: there is
    exactly one) -/
def findLabelFrom : Prog → Lbl → Nat → Option Nat
  | [], _, _ => none
  | i :: r, l, k => if i = .label l then some k else findLabelFrom r l (k + 1)

def findLabel (P : Prog) (l : Lbl) : Option Nat := findLabelFrom P l 0

structure MState where
  pc : Nat
  σ : SState               -- oracle position and trace
  rax : Val
  rdi : Val
  rdx : Val
  zf : Bool                -- ZF
  be : Bool                -- CF ∨ ZF  ("below or equal")
  deriving Repr, DecidableEq

def MState.reg (s : MState) : Reg → Val
  | .ax => s.rax | .di => s.rdi | .dx => s.rdx

def MState.setReg (s : MState) (r : Reg) (v : Val) : MState :=
  match r with
  | .ax => { s with rax := v } | .di => { s with rdi := v } | .dx => { s with rdx := v }

def MState.next (s : MState) : MState := { s with pc := s.pc + 1 }

def MState.jump (s : MState) (P : Prog) (l : Lbl) : Option MState :=
  match findLabel P l with
  | some i => some { s with pc := i }
  | none => none

/-- low 32 bits, zero-extended (what a write to a 32-bit register leaves in the 64-bit one) -/
def zext32 (x : Val) : Val := (x.setWidth 32).setWidth 64

/-- flags of `a - b` at width 64 or 32: (ZF, CF ∨ ZF) -/
def cmpFlags (w64 : Bool) (a b : Val) : Bool × Bool :=
  if w64 then (a == b, a ≤ b) else (a.setWidth 32 == b.setWidth 32, a.setWidth 32 ≤ b.setWidth 32)

/-- one instruction; `none` = the machine stops (end of code, undefined label) -/
def step (ω : Nat → Val) (P : Prog) (s : MState) : Option MState :=
  match P[s.pc]? with
  | none => none
  | some i =>
    match i with
    | .label _ => some s.next
    | .jmp l => s.jump P l
    | .je l => if s.zf then s.jump P l else some s.next
    | .jne l => if s.zf then some s.next else s.jump P l
    | .jbe l => if s.be then s.jump P l else some s.next
    | .jmpInd => some { s with pc := s.rax.toNat }
    | .lea l => match findLabel P l with
      | some i => some { s with rax := BitVec.ofNat 64 i }.next
      | none => none
    | .call (.m k) =>
      -- a call clobbers the caller-saved registers and the flags
      some { s with σ := s.σ.emit (.m k), rax := 0, rdi := 0, rdx := 0, zf := false, be := false }.next
    | .call e =>
      let (v, σ') := s.σ.call ω e
      some { s with σ := σ', rax := v, rdi := 0, rdx := 0, zf := false, be := false }.next
    | .cmpImm w imm r =>
      let f := cmpFlags w (s.reg r) imm
      some { s with zf := f.1, be := f.2 }.next
    | .cmpReg src dst =>
      let f := cmpFlags true (s.reg dst) (s.reg src)
      some { s with zf := f.1, be := f.2 }.next
    | .movImm imm r => some (s.setReg r imm).next
    | .movAxDi w => some { s with rdi := if w then s.rax else zext32 s.rax }.next
    | .subImm w imm =>
      let f := cmpFlags w s.rdi imm
      some { s with rdi := if w then s.rdi - imm else zext32 (s.rdi - imm), zf := f.1, be := f.2 }.next
    | .subDxDi =>
      let f := cmpFlags true s.rdi s.rdx
      some { s with rdi := s.rdi - s.rdx, zf := f.1, be := f.2 }.next

def stepN (ω : Nat → Val) (P : Prog) : Nat → MState → Option MState
  | 0, s => some s
  | n + 1, s => match step ω P s with
    | none => none
    | some s' => stepN ω P n s'

/-- run until the machine stops or the fuel is used up; returns the last state -/
def runM (ω : Nat → Val) (P : Prog) : Nat → MState → MState
  | 0, s => s
  | n + 1, s => match step ω P s with
    | none => s
    | some s' => runM ω P n s'

def MState.init (σ : SState) : MState := ⟨0, σ, 0, 0, 0, false, false⟩

/-! ### named labels (parse.c `labels` / `gotos`, `resolve_goto_labels`) -/

/-- (source name, unique label) of every labelled statement, in source order -/
def labelPairs : Stmt → List (Nat × Nat)
  | .seq a b => labelPairs a ++ labelPairs b
  | .block s => labelPairs s
  | .ifte _ t e => labelPairs t ++ labelPairs e
  | .for_ _ _ _ _ _ body => labelPairs body
  | .doWhile _ _ body _ => labelPairs body
  | .switch_ _ _ _ _ _ _ body => labelPairs body
  | .case_ _ _ _ s => labelPairs s
  | .default_ _ s => labelPairs s
  | .label l u s => (l, u) :: labelPairs s
  | _ => []

/-- every `goto l` / `goto *&&l` is resolved, to a unique label `t` with `R l t`; `V` holds if there is a
    computed goto (it will be: code addresses fit a 64-bit register) -/
def GotoR (R : Nat → Nat → Prop) (V : Prop) : Stmt → Prop
  | .seq a b => GotoR R V a ∧ GotoR R V b
  | .block s => GotoR R V s
  | .ifte _ t e => GotoR R V t ∧ GotoR R V e
  | .for_ _ _ _ _ _ body => GotoR R V body
  | .doWhile _ _ body _ => GotoR R V body
  | .switch_ _ _ _ _ _ _ body => GotoR R V body
  | .case_ _ _ _ s => GotoR R V s
  | .default_ _ s => GotoR R V s
  | .label _ _ s => GotoR R V s
  | .goto_ (.user l) t => R l t
  | .gotoVal l t => R l t ∧ V
  | .gotoN _ => False
  | .gotoValN _ => False
  | _ => True

/-- the label names `goto l` / `goto *&&l` statements of a source statement use -/
def jumpNames : SStmt → List Nat
  | .seq a b => jumpNames a ++ jumpNames b
  | .block s => jumpNames s
  | .ifte _ t e => jumpNames t ++ jumpNames e
  | .for_ _ _ _ b => jumpNames b
  | .doWhile b _ => jumpNames b
  | .switch_ _ _ _ b => jumpNames b
  | .case_ _ _ s => jumpNames s
  | .default_ s => jumpNames s
  | .label _ s => jumpNames s
  | .goto_ l => [l]
  | .gotoVal l => [l]
  | _ => []

end ChibiVerif.Ctl
