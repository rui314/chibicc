/-
Glue between the functions translated from preprocess.c / tokenize.c into Gen/StrJoinGen.lean — `getStringKind`,
`tokenize_string_literal`, the two passes of `join_adjacent_string_literals` on one run of adjacent string literals, the
tail of `read_file` — and the vocabulary of the hand model (Model/Literals.lean, Model/Text.lean).

Hand-written here (and tied by the differential run on whole token lists, `joinb` operation): the iteration of the two outer
loops of `join_adjacent_string_literals` over the maximal runs of at least two adjacent TK_STR tokens, whose C shape
tools/extract/strjoin.py requires literally.
Core Lean only.
-/
import ChibiVerif.Gen.StrJoinGen
import ChibiVerif.Gen.PpNumGen
import ChibiVerif.Model.Literals
import ChibiVerif.Model.LitReaders

namespace ChibiVerif.StrJoin
open ChibiVerif.Gen.Literals
open ChibiVerif.Gen.StrJoin
open ChibiVerif.Literals

-- ------------------------------------------------------------------ vocabulary

/-- the token the translated functions see for a string-literal token of the hand model (what a reader of tokenize.c builds
    for the units it stored) -/
def toTok (t : StrTok) : Tok := readerTok t.src t.elem t.units

/-- chibicc's `StringKind` enumerators (translated) for the kinds of the hand model -/
def kindToGen : StrKind → StringKind
  | .none => .STR_NONE | .utf8 => .STR_UTF8 | .utf16 => .STR_UTF16 | .utf32 => .STR_UTF32 | .wide => .STR_WIDE

/-- the outcomes of the translated functions in the error vocabulary of the hand model (the constructor names are the messages
    in the C source).  `store_outside` has no counterpart: `C11_join_bytes` proves that it does not happen. -/
def ofJoinErr : JoinErr → LitErr
  | .unsupported_non_standard_concatenation_of_string_literals => .nonStandardConcat
  | .unreachable => .unreachable
  | .read e => ChibiVerif.LitReaders.ofReadErr e
  | .store_outside => .fuel

/-- a translated token stands for a string-literal token of the hand model: same element type, `array_len` = units + 1, and
    `str` holds the units in memory order followed by one zero unit (`loc` is not compared: pass 2 does not read it) -/
def Rep (t : Tok) (h : StrTok) : Prop :=
  t.isStr = true ∧ t.base = h.elem ∧ t.arrayLen = (h.units.length : Int) + 1 ∧ t.str = strBytes h.elem.size h.units

/-- outcome of a translated function against the outcome of the hand model: both return and the results are related, or both
    end in the same diagnostic -/
def RelE {α β : Type} (R : α → β → Prop) : Except JoinErr α → Except LitErr β → Prop
  | .ok a, .ok b => R a b
  | .error e, .error e' => ofJoinErr e = e'
  | _, _ => False

-- ------------------------------------------------------------------ vocabulary of the concatenation theorem (6.4.5p5-6 as a whole)

/-- the bytes of an encoding prefix -/
def prefixBytes : ChibiVerif.Spec.Literals.StrPrefix → List Byte
  | .none => [] | .u8 => [117#8, 56#8] | .u => [117#8] | .U => [85#8] | .L => [76#8]

/-- the reader `tokenize()` uses for a prefix, and the element type it gives the token (`C11_concat_spec` ties both to the translated
    table `stringPrefixes`) -/
def readerOf : ChibiVerif.Spec.Literals.StrPrefix → StrReader
  | .none | .u8 => .narrow | .u => .utf16 | .U | .L => .utf32

def tyOf : ChibiVerif.Spec.Literals.StrPrefix → Ty
  | .none | .u8 => .ty_char | .u => .ty_ushort | .U => .ty_uint | .L => .ty_int

/-- the token `tokenize()` makes of the string literal `prefix " items "` (`C11_strings`; first part of `C11_concat_spec`) -/
def pieceTok (p : ChibiVerif.Spec.Literals.StrPrefix) (its : List SrcItem) : StrTok :=
  ⟨tyOf p, its.flatMap (itemUnits (readerOf p)), (prefixBytes p).length + 1 + (renderItems its).length + 1,
   prefixBytes p ++ 34#8 :: (renderItems its ++ [34#8])⟩

-- ------------------------------------------------------------------ one run, all runs

/-- `join_adjacent_string_literals` on one maximal run `tok1 :: rest` of adjacent string literals: first pass, then second pass,
    both as translated -/
def joinRun (tok1 : Tok) (rest : List Tok) : Except JoinErr Tok :=
  match joinPass1 tok1 rest with
  | .error e => .error e
  | .ok [] => .error .unreachable          -- (the first pass keeps the number of tokens: `pass1_shape`, Lemmas/C11JoinTokens.lean)
  | .ok (a :: as) => joinPass2 a as

/-- the outer loop shared by both passes (hand-written; shape pinned by strjoin.py): `f` is applied to every maximal run of at
    least two adjacent TK_STR tokens, every other token is kept.  `toks` = the tokens before TK_EOF.  fuel: one unit per token. -/
def overRuns (f : Tok → List Tok → Except JoinErr (List Tok)) : Nat → List Tok → Except JoinErr (List Tok)
  | 0, ts => .ok ts
  | _ + 1, [] => .ok []
  | fuel + 1, t :: ts =>
    if t.isStr = true ∧ (ts.head?.map (·.isStr)) = some true then
      match f t (ts.takeWhile (·.isStr)) with
      | .error e => .error e
      | .ok r =>
        match overRuns f fuel (ts.dropWhile (·.isStr)) with
        | .error e => .error e
        | .ok r' => .ok (r ++ r')
    else
      match overRuns f fuel ts with
      | .error e => .error e
      | .ok r' => .ok (t :: r')

/-- the second pass on one run, as a step of `overRuns`: the run is replaced by one token -/
def pass2Step (t : Tok) (r : List Tok) : Except JoinErr (List Tok) := (joinPass2 t r).map (fun x => [x])

/-- both passes on one run, as a step of `overRuns` -/
def runStep (t : Tok) (r : List Tok) : Except JoinErr (List Tok) := (joinRun t r).map (fun x => [x])

/-- `join_adjacent_string_literals(tok)` on a whole token list: the first pass over every run, then the second pass over every run -/
def joinTokens (toks : List Tok) : Except JoinErr (List Tok) :=
  match overRuns joinPass1 (toks.length + 1) toks with
  | .error e => .error e
  | .ok toks1 => overRuns pass2Step (toks1.length + 1) toks1

/-- run by run: both passes on the first run, then both passes on the next one, … (`C11_join_tokens`: the same result as `joinTokens`
    whenever either returns) -/
def joinTokensPerRun (toks : List Tok) : Except JoinErr (List Tok) := overRuns runStep (toks.length + 1) toks

/-- the list is empty or its first token is not a string literal (what follows a maximal run) -/
def NoStrHead (l : List Tok) : Prop := ∀ t ∈ l.head?, t.isStr = false

-- ------------------------------------------------------------------ read_file + tokenize_file

/-- the complete function from the bytes of a source file to the text `tokenize()` is given: `read_file` (translated tail:
    final newline, terminator), the C string in the returned array, then `tokenize_file` as translated (BOM test, the three
    in-place phase loops); `none` = a store outside the text -/
def sourceText (file : List Byte) : Option (List Byte) :=
  ChibiVerif.Gen.PpNum.tokenizeFileText (cString (readFileBuf file))

end ChibiVerif.StrJoin
