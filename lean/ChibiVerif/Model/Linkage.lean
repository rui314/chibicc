/-
Model of chibicc's linkage / storage-duration / symbol-emission logic (property C15).

Transcribed from /repo as it is now:

* parse.c `function`            → `declFunction`  (flags on first declaration / redeclaration, `is_root` only set)
* parse.c `primary` (ident arm) → `recordFnRef`   (`current_fn->refs` inside a body, `is_root` at file scope)
* parse.c `declaration` (static local), `new_anon_gvar`, `new_string_literal`, `compound_stmt`'s block-scope
  `extern`                      → `bodyItem`
* parse.c `global_variable`     → `declObject`    (is_definition = !extern, is_static, is_tls, is_tentative)
* parse.c `find_func`, `mark_live`, the root loop of `parse` → `findFunc`, `markLive`, `markRoots`
* parse.c `scan_globals`        → `scanGlobals`   (including the pointer re-linking that decides which earlier
                                                   nodes the inner loop still sees)
* codegen.c `emit_data`, `emit_text` → `emitData`, `emitText`, `emit`
* what `as` does with the directives (`.local`+`.comm` = local bss object; undefined references become
  global undefined symbols)     → `asmView`, `undefs`, `objectSymbols`

The C `Obj` list `globals` is a `List Obj`, newest first (new_gvar pushes at the head).  A C identifier is a
`Nat` (the driver interns the spelling); the anonymous names `.L..N` are `Sym.anon N`.

The model is parametrised by `Rules`: which of the candidate repairs of the known findings of C15 the code has.
`tools/extract/linkrules.py` reads the four sites in parse.c / codegen.c on every run and writes
`Gen/LinkageRulesGen.lean`; `Rules.asBuilt` (below) is the instance for the code as it is.  Every
theorem is proved for ALL sixteen rule sets, so applying a repair in /repo flips one flag and nothing else changes.

* `Rules.externInherits`     global_variable: an `extern` declaration inherits internal linkage from the visible prior
                             declaration (C11 6.2.2p4)                         [C15-extern-init-after-static]
* `Rules.flagsFollow`        function(): `is_static` / `is_inline` follow the redeclarations (C11 6.7.4p7, new field
                             `is_inline_def`); the root decision `!(static && inline)` is taken in the root loop of
                             parse() with the final flags                      [C15-inline-flags-frozen]
* `Rules.compositeFromDecls` scan_globals: an array of unknown length first takes the length any declaration of the
                             identifier states (C11 6.2.7p4)                   [C15-tentative-composite-size]
* `Rules.ownedData`          new_anon_gvar records the function being parsed (`owner`); emit_data skips the data of a
                             function that is not emitted                      [C15-static-local-in-dead-inline]

Core Lean only (no Mathlib): the driver links this file, and `decide` evaluates it in the kernel.
-/
import ChibiVerif.Gen.AddrFormsGen
import ChibiVerif.Gen.LinkageRulesGen

namespace ChibiVerif.Linkage

abbrev Name := Nat

/-- which candidate repairs the code has (see the head of this file) -/
class Rules where
  externInherits : Bool
  flagsFollow : Bool
  compositeFromDecls : Bool
  ownedData : Bool

/-- **the code as it is**: the flags `tools/extract/linkrules.py` read off parse.c / codegen.c on this run -/
def Rules.asBuilt : Rules :=
  ⟨Gen.LinkageRules.externInherits, Gen.LinkageRules.flagsFollow, Gen.LinkageRules.compositeFromDecls, Gen.LinkageRules.ownedData⟩

/-- the code before any of the four repairs / with all of them -/
def Rules.original : Rules := ⟨false, false, false, false⟩
def Rules.repaired : Rules := ⟨true, true, true, true⟩

/-- a label in the assembly: a C identifier or `.L..k` -/
inductive Sym where
  | named (n : Name)
  | anon (k : Nat)
  deriving DecidableEq, Repr, Inhabited

/-- what linkage/emission needs to know about an object type -/
structure ObjTy where
  size : Nat           -- `ty->size`; for an array of unknown length (`ty->size < 0` in C): the element size
  align : Nat          -- `var->align`: the type's alignment, or the `_Alignas` value
  isArray : Bool       -- `ty->kind == TY_ARRAY`
  unknownLen : Bool := false   -- `T x[];` without initializer: `ty->kind == TY_ARRAY && ty->size < 0`
  deriving DecidableEq, Repr, Inhabited

/-- an identifier in an expression that names a function or an object with linkage -/
inductive Ref where
  | fn (f : Name)
  | obj (x : Name)
  deriving DecidableEq, Repr, Inhabited

/-- the linkage-relevant content of an initializer: address constants and string literals, in source order -/
inductive InitItem where
  | ref (r : Ref)
  | str (size : Nat)       -- a string literal used as a pointer (`char *p = "abc";`): size includes the NUL
  deriving DecidableEq, Repr, Inhabited

/-- the linkage-relevant content of a function body, in source order -/
inductive BodyItem where
  | ref (r : Ref)                                              -- `f` / `x` in an expression
  | staticLocal (tls : Bool) (ty : ObjTy) (init : Option (List InitItem))   -- `static [_Thread_local] T v [= init];`
  | str (size : Nat)                                           -- a string literal in an expression
  | externObj (x : Name) (tls : Bool) (ty : ObjTy)             -- block-scope `extern [_Thread_local] T x;`
  deriving Repr, Inhabited

/-- one file-scope declaration -/
inductive Decl where
  /-- `[static] [extern] [inline] T f(..);` or, with a body, `.. { body }`; `nameLen` = strlen of the spelling
      (size of the `__func__`/`__FUNCTION__` arrays is `nameLen + 1`) -/
  | func (f : Name) (nameLen : Nat) (isStatic isExtern isInline : Bool) (body : Option (List BodyItem))
  /-- `[static] [extern] [_Thread_local] T x [= init];` -/
  | obj (x : Name) (isStatic isExtern isTls : Bool) (ty : ObjTy) (init : Option (List InitItem))
  deriving Repr, Inhabited

/-- chibicc's `Obj`, restricted to the fields the anchors read or write -/
structure Obj where
  sym : Sym
  isFunction : Bool := false
  isDefinition : Bool := true      -- new_gvar
  isStatic : Bool := true          -- new_gvar
  isInline : Bool := false
  isInlineDef : Bool := false      -- `is_inline_def` (only with `Rules.flagsFollow`): inline definition, no external one
  isTentative : Bool := false
  isTls : Bool := false
  isRoot : Bool := false
  isLive : Bool := false
  hasInit : Bool := false          -- `init_data != NULL`
  ty : ObjTy := ⟨0, 1, false, false⟩
  refs : List Name := []           -- `fn->refs`: names recorded by `primary` while `current_fn == fn`
  uses : List Sym := []            -- labels the emitted text of a function / the relocations of a datum mention
  owner : Option Name := none      -- `owner` (only with `Rules.ownedData`): the function whose body created this datum
  deriving DecidableEq, Repr, Inhabited

inductive ParseErr where
  | redefinition (f : Name)                 -- "redefinition of %s"
  | staticAfterNonStatic (f : Name)         -- "static declaration follows a non-static declaration"
  | undeclared (r : Ref)                    -- "undefined variable" / "implicit declaration of a function"
  | markLiveFuel                            -- recursion of mark_live deeper than the number of objects, the fuel `markRoots` gives (never: C15_live)
  deriving DecidableEq, Repr, Inhabited

structure PState where
  globals : List Obj := []     -- newest first
  nextAnon : Nat := 0          -- `static int id` of new_unique_name
  deriving Repr, Inhabited

/-! ### lookups -/

/-- `find_func`: the file-scope function object with this name -/
def findFunc (gs : List Obj) (f : Name) : Option Obj :=
  gs.find? (fun o => o.isFunction && o.sym == .named f)

/-- the object (non-function) an identifier resolves to: the most recent declaration with that name -/
def findObj (gs : List Obj) (x : Name) : Option Obj :=
  gs.find? (fun o => !o.isFunction && o.sym == .named x)

/-- update the first object satisfying `p` (pointer mutation `fn->field = ..`) -/
def updFirst (p : Obj → Bool) (u : Obj → Obj) : List Obj → List Obj
  | [] => []
  | o :: os => if p o then u o :: os else o :: updFirst p u os

def updFunc (gs : List Obj) (f : Name) (u : Obj → Obj) : List Obj :=
  updFirst (fun o => o.isFunction && o.sym == .named f) u gs

/-! ### parse.c -/

/-- `var->owner = current_fn` in `new_anon_gvar` (the field exists only in the repaired code) -/
def ownerOf [Rules] (cur : Option Name) : Option Name := if Rules.ownedData then cur else none

/-- `new_anon_gvar` / `new_string_literal`; `cur` = `current_fn` -/
def newAnon [Rules] (cur : Option Name) (st : PState) (ty : ObjTy) (hasInit : Bool) (uses : List Sym := []) : PState × Sym :=
  let s := Sym.anon st.nextAnon
  ({ globals := { sym := s, ty := ty, hasInit := hasInit, uses := uses, owner := ownerOf cur } :: st.globals,
     nextAnon := st.nextAnon + 1 }, s)

/-- `prev && prev->var->is_static` for the visible prior declaration of the object `x` (global_variable, repaired) -/
def prevStatic (gs : List Obj) (x : Name) : Bool :=
  match findObj gs x with
  | some o => o.isStatic
  | none => false

def strTy (size : Nat) : ObjTy := ⟨size, 1, true, false⟩

/-- `primary`, identifier arm, for an identifier that names a function:
    inside a body the *name* is pushed on `current_fn->refs`; at file scope the function becomes a root -/
def recordFnRef (cur : Option Name) (st : PState) (g : Name) : Except ParseErr PState :=
  match findFunc st.globals g with
  | none => .error (.undeclared (.fn g))
  | some _ =>
    match cur with
    | some f => .ok { st with globals := updFunc st.globals f (fun o => { o with refs := o.refs ++ [g] }) }
    | none => .ok { st with globals := updFunc st.globals g (fun o => { o with isRoot := true }) }

/-- an identifier in an expression; returns the label the generated code / relocation mentions -/
def useRef (cur : Option Name) (st : PState) : Ref → Except ParseErr (PState × Sym)
  | .fn g => do
    let st ← recordFnRef cur st g
    pure (st, .named g)
  | .obj x =>
    match findObj st.globals x with
    | none => .error (.undeclared (.obj x))
    | some _ => pure (st, .named x)

/-- the address constants and string literals of an initializer, left to right;
    returns the labels of the relocations -/
def initItems [Rules] (cur : Option Name) : PState → List InitItem → Except ParseErr (PState × List Sym)
  | st, [] => pure (st, [])
  | st, .ref r :: rest => do
    let (st, s) ← useRef cur st r
    let (st, ss) ← initItems cur st rest
    pure (st, s :: ss)
  | st, .str n :: rest => do
    let (st, s) := newAnon cur st (strTy n) true
    let (st, ss) ← initItems cur st rest
    pure (st, s :: ss)

/-- set the relocation labels of an already created datum -/
def setUses (gs : List Obj) (s : Sym) (uses : List Sym) : List Obj :=
  updFirst (fun o => o.sym == s && !o.isFunction) (fun o => { o with uses := uses }) gs

/-- one item of a function body (`current_fn = f`); returns the labels the body's code mentions -/
def bodyItem [Rules] (f : Name) (st : PState) : BodyItem → Except ParseErr (PState × List Sym)
  | .ref r => do
    let (st, s) ← useRef (some f) st r
    pure (st, [s])
  | .staticLocal tls ty init =>
    -- declaration(): `attr->is_static` → new_anon_gvar; `var->is_tls = attr->is_tls`
    let (st, s) := newAnon (some f) st ty init.isSome
    let st := { st with
      globals := updFirst (fun o => o.sym == s && !o.isFunction) (fun o => { o with isTls := tls }) st.globals }
    match init with
    | none => pure (st, [s])
    | some items => do
      let (st, rel) ← initItems (some f) st items
      pure ({ st with globals := setUses st.globals s rel }, [s])
  | .str n =>
    let (st, s) := newAnon (some f) st (strTy n) true
    pure (st, [s])
  | .externObj x tls ty =>
    -- compound_stmt: `attr.is_extern` → global_variable
    let var : Obj := { sym := .named x, isDefinition := false,
                       isStatic := Rules.externInherits && prevStatic st.globals x, isTls := tls, ty := ty }
    pure ({ st with globals := var :: st.globals }, [])

def bodyItems [Rules] (f : Name) : PState → List BodyItem → Except ParseErr (PState × List Sym)
  | st, [] => pure (st, [])
  | st, b :: rest => do
    let (st, u) ← bodyItem f st b
    let (st, us) ← bodyItems f st rest
    pure (st, u ++ us)

/-- the repaired `function()` on a redeclaration (before `fn->is_definition` is updated):
    a declaration without `inline` or with `extern` turns an inline definition into an external definition (6.7.4p7);
    a function with internal linkage declared `inline` before or at its definition becomes droppable -/
def redeclFlags [Rules] (isExtern isInline : Bool) (o : Obj) : Obj :=
  if Rules.flagsFollow then
    let o1 := if o.isInlineDef && (!isInline || isExtern) then { o with isInlineDef := false, isStatic := false } else o
    if o1.isStatic && !o1.isInlineDef && isInline && !o1.isDefinition then { o1 with isInline := true } else o1
  else o

/-- `if (!(fn->is_static && fn->is_inline)) fn->is_root = true;` in `function()`; the repaired code takes this decision
    in the root loop of `parse()` instead -/
def rootIfO [Rules] (o : Obj) : Obj :=
  if Rules.flagsFollow then o else (if !(o.isStatic && o.isInline) then { o with isRoot := true } else o)

/-- `function`, up to `if (consume(&tok, tok, ";")) return tok;`: look the name up, check the redeclaration,
    create or update the object, set `is_root` -/
def declFunctionHead [Rules] (st : PState) (f : Name) (isStatic isExtern isInline hasBody : Bool) : Except ParseErr PState :=
  match findFunc st.globals f with
  | some fn =>
    if fn.isDefinition && hasBody then .error (.redefinition f)
    else if !fn.isStatic && isStatic then .error (.staticAfterNonStatic f)
    else .ok { st with
      globals := updFunc (updFunc (updFunc st.globals f (redeclFlags isExtern isInline)) f
        (fun o => { o with isDefinition := o.isDefinition || hasBody })) f rootIfO }
  | none =>
    let fn : Obj := { sym := .named f, isFunction := true, isDefinition := hasBody,
                      isStatic := isStatic || (isInline && !isExtern), isInline := isInline,
                      isInlineDef := Rules.flagsFollow && isInline && !isStatic && !isExtern }
    .ok { st with globals := updFunc (fn :: st.globals) f rootIfO }

/-- `function` -/
def declFunction [Rules] (st : PState) (f : Name) (nameLen : Nat) (isStatic isExtern isInline : Bool)
    (body : Option (List BodyItem)) : Except ParseErr PState :=
  match declFunctionHead st f isStatic isExtern isInline body.isSome with
  | .error e => .error e
  | .ok st =>
    match body with
    | none => .ok st
    | some items =>
      -- `__func__`, `__FUNCTION__`
      let st := (newAnon (some f) st (strTy (nameLen + 1)) true).1
      let st := (newAnon (some f) st (strTy (nameLen + 1)) true).1
      match bodyItems f st items with
      | .error e => .error e
      | .ok (st, uses) => .ok { st with globals := updFunc st.globals f (fun o => { o with uses := uses }) }

/-- `global_variable` (one declarator) -/
def declObject [Rules] (st : PState) (x : Name) (isStatic isExtern isTls : Bool) (ty : ObjTy)
    (init : Option (List InitItem)) : Except ParseErr PState :=
  -- repaired: `var->is_static = attr->is_static || prev_static` with `prev` looked up only for `extern`
  let var : Obj := { sym := .named x, isDefinition := !isExtern,
                     isStatic := isStatic || (Rules.externInherits && isExtern && prevStatic st.globals x),
                     isTls := isTls, ty := ty }
  match init with
  | some items => do
    -- "A declaration with an initializer is a definition even if it says extern."
    let st := { st with globals := { var with hasInit := true, isDefinition := true } :: st.globals }
    let (st, rel) ← initItems none st items
    -- the variable is the newest *named* object called x: string literals pushed after it are anonymous
    pure { st with
      globals := updFirst (fun o => o.sym == .named x && !o.isFunction) (fun o => { o with uses := rel }) st.globals }
  | none =>
    pure { st with globals := { var with isTentative := !isExtern } :: st.globals }

def declStep [Rules] (st : PState) : Decl → Except ParseErr PState
  | .func f n s e i body => declFunction st f n s e i body
  | .obj x s e t ty init => declObject st x s e t ty init

def declAll [Rules] : PState → List Decl → Except ParseErr PState
  | st, [] => pure st
  | st, d :: ds => do
    let st ← declStep st d
    declAll st ds

/-! ### mark_live -/

def setLive (gs : List Obj) (f : Name) : List Obj := updFunc gs f (fun o => { o with isLive := true })

/-- `mark_live(find_func(f))`.  `fuel` bounds the recursion depth; the C code has no bound and terminates
    because every call that goes on sets a fresh `is_live` flag (C15_live: `fuel` = number of objects is enough). -/
def markLive : Nat → List Obj → Name → Option (List Obj)
  | 0, gs, f =>
    match findFunc gs f with
    | none => some gs
    | some o => if o.isLive then some gs else none
  | fuel + 1, gs, f =>
    match findFunc gs f with
    | none => some gs                             -- `if (fn) mark_live(fn)`
    | some o =>
      if o.isLive then some gs                    -- `if (... || var->is_live) return;`
      else o.refs.foldlM (fun gs g => markLive fuel gs g) (setLive gs f)

/-- the condition of the root loop: `var->is_root`; repaired:
    `var->is_root || (var->is_function && !(var->is_static && var->is_inline))` -/
def effRoot [Rules] (o : Obj) : Bool := o.isRoot || (Rules.flagsFollow && !(o.isStatic && o.isInline))

/-- `for (var = globals; var; var = var->next) if (<effRoot>) mark_live(var);`
    (`mark_live` returns at once on non-functions; `is_root` is only ever set on functions) -/
def rootNames [Rules] (gs : List Obj) : List Name :=
  gs.filterMap (fun o => match o.sym with
    | .named n => if o.isFunction && effRoot o then some n else none
    | .anon _ => none)

def markRoots [Rules] (gs : List Obj) : Option (List Obj) :=
  (rootNames gs).foldlM (fun gs r => markLive gs.length gs r) gs

/-! ### scan_globals -/

/-- "A tentative definition of an array of unknown size behaves as if it had one element":
    `var->ty = array_of(var->ty->base, 1)` (`var->align` is not touched) -/
def completeArray (o : Obj) : Obj :=
  if o.ty.isArray && o.ty.unknownLen then { o with ty := { o.ty with unknownLen := false } } else o

def isTentOf (name : Sym) (o : Obj) : Bool := o.isTentative && o.sym == name

/-- The loop of `scan_globals` over `globals` (`all`); `rest` = the nodes after `var`.
    The first inner loop walks from `globals` and looks for a *non-tentative* definition of the same name.
    Non-tentative nodes are always kept, so the re-linking done by the outer loop (`cur->next = var`) never
    hides one of them from that walk: it sees every non-tentative node of the original list.
    The second inner loop walks `var->next ...`, whose `next` pointers are still the original ones; the
    tentative definition it finds (`var2`, declared earlier) is the one that stays, and it takes `var`'s
    type when its own array length is unknown (`var` has been completed just before, so `var->ty->size >= 0`). -/
def scanLoop (all : List Obj) : Nat → List Obj → List Obj
  | 0, _ => []
  | _ + 1, [] => []
  | n + 1, var :: rest =>
    if !var.isTentative then var :: scanLoop all n rest
    else
      let var := completeArray var
      if all.any (fun o => o.isDefinition && !o.isTentative && o.sym == var.sym) then scanLoop all n rest
      else match rest.find? (isTentOf var.sym) with
        | some var2 =>
          if var2.ty.unknownLen then
            scanLoop all n (updFirst (isTentOf var.sym) (fun o => { o with ty := var.ty }) rest)
          else scanLoop all n rest
        | none => var :: scanLoop all n rest

/-- the `Nat` argument only makes the recursion structural (the list passed on is `rest` with one node's type
    changed): one step per node, so `gs.length` steps process the whole list -/
def scanCore (gs : List Obj) : List Obj := scanLoop gs gs.length gs

/-- a data object that is an array of known length -/
def knownArr (s : Sym) (k : Obj) : Bool := !k.isFunction && k.ty.isArray && !k.ty.unknownLen && k.sym == s

/-- the repaired `scan_globals` starts with a pass that gives every array object of unknown length the length of the
    first (newest) declaration of the same identifier that states one: `var->ty = var2->ty` (`var->align` stays) -/
def completeOne (gs : List Obj) (o : Obj) : Obj :=
  if !o.isFunction && o.ty.isArray && o.ty.unknownLen then
    match gs.find? (knownArr o.sym) with
    | some k => { o with ty := { o.ty with size := k.ty.size, unknownLen := false } }
    | none => o
  else o

def preOne [Rules] (gs : List Obj) (o : Obj) : Obj := if Rules.compositeFromDecls then completeOne gs o else o

def preScan [Rules] (gs : List Obj) : List Obj := gs.map (preOne gs)

def scanGlobals [Rules] (gs : List Obj) : List Obj := scanCore (preScan gs)

/-- `parse` -/
def parseUnit [Rules] (ds : List Decl) : Except ParseErr (List Obj) := do
  let st ← declAll {} ds
  match markRoots st.globals with
  | none => throw .markLiveFuel
  | some gs => pure (scanGlobals gs)

/-! ### codegen.c emit_data / emit_text -/

inductive Binding where
  | global | «local»
  deriving DecidableEq, Repr, Inhabited

inductive Kind where
  | text | data | bss | tdata | tbss | common | undef
  deriving DecidableEq, Repr, Inhabited

/-- one defined label of the assembly output with the directives that precede it -/
structure SymEntry where
  sym : Sym
  binding : Binding
  kind : Kind
  size : Option Nat     -- operand of `.size` / second operand of `.comm`; `none` when no size is given
  align : Nat           -- operand of `.align` / third operand of `.comm`; 0 when there is none (functions)
  deriving DecidableEq, Repr, Inhabited

def bindingOf (o : Obj) : Binding := if o.isStatic then .local else .global

/-- `int align = (ty->kind == TY_ARRAY && ty->size >= 16) ? MAX(16, var->align) : var->align;` -/
def emitAlign (ty : ObjTy) : Nat :=
  if ty.isArray && decide (ty.size ≥ 16) then max 16 ty.align else ty.align

/-- `!var->owner || var->owner->is_live` (repaired emit_data); without the repair no object has an owner -/
def ownerLive (gs : List Obj) (o : Obj) : Bool :=
  match o.owner with
  | none => true
  | some f => match findFunc gs f with | some fo => fo.isLive | none => false

def emitDataVar (fcommon : Bool) (o : Obj) : Option SymEntry :=
  if o.isFunction || !o.isDefinition then none
  else if fcommon && o.isTentative && !o.isTls then
    some ⟨o.sym, bindingOf o, .common, some o.ty.size, emitAlign o.ty⟩
  else if o.hasInit then
    some ⟨o.sym, bindingOf o, if o.isTls then .tdata else .data, some o.ty.size, emitAlign o.ty⟩
  else
    some ⟨o.sym, bindingOf o, if o.isTls then .tbss else .bss, some o.ty.size, emitAlign o.ty⟩

def emitTextFn (o : Obj) : Option SymEntry :=
  if !o.isFunction || !o.isDefinition then none
  else if !o.isLive then none
  else some ⟨o.sym, bindingOf o, .text, none, 0⟩

/-- `emit_data`: the repaired loop first skips the data whose owner is not emitted -/
def emitData (fcommon : Bool) (gs : List Obj) : List SymEntry := (gs.filter (ownerLive gs)).filterMap (emitDataVar fcommon)
def emitText (gs : List Obj) : List SymEntry := gs.filterMap emitTextFn

/-- the defined labels in the order `codegen` prints them -/
def emit (fcommon : Bool) (gs : List Obj) : List SymEntry := emitData fcommon gs ++ emitText gs

/-- labels mentioned by what is printed: relocations of emitted data, operands in emitted function bodies -/
def emittedUses (gs : List Obj) : List Sym :=
  (gs.filter (fun o => if o.isFunction then o.isDefinition && o.isLive else o.isDefinition && ownerLive gs o)).flatMap (·.uses)

def dedup [DecidableEq α] : List α → List α
  | [] => []
  | a :: as => if a ∈ as then dedup as else a :: dedup as

/-- what `as` makes of mentioned but undefined labels: global undefined symbols -/
def undefs (fcommon : Bool) (gs : List Obj) : List Sym :=
  dedup ((emittedUses gs).filter (fun s => !(emit fcommon gs).any (·.sym == s)))

/-- what the assembler records for a defined label: `.local` + `.comm` allocates in .bss -/
def asmView (e : SymEntry) : SymEntry :=
  if e.kind == .common && e.binding == .local then { e with kind := .bss } else e

/-- the ELF symbol table of the object file (named symbols only; `.L` labels are not kept by `as`) -/
def objectSymbols (fcommon : Bool) (gs : List Obj) : List SymEntry :=
  ((emit fcommon gs).map asmView ++ (undefs fcommon gs).map (fun s => (⟨s, .global, .undef, none, 0⟩ : SymEntry))).filter
    (fun e => match e.sym with | .named _ => true | .anon _ => false)

/-! ### codegen.c gen_addr, ND_VAR arm: which address form is chosen

The ladder itself is `Gen.AddrForms.genAddrVar` (regenerated from codegen.c on every run); here the printed
instruction templates are given names. -/

inductive AddrForm where
  | rbpRel     -- `lea off(%rbp), %rax`                    address of an automatic object
  | rbpLoad    -- `mov off(%rbp), %rax`                    a VLA: the slot holds the pointer
  | ripRel     -- `lea sym(%rip), %rax`                    PC-relative, resolved at static link time
  | got        -- `mov sym@GOTPCREL(%rip), %rax`           through the global offset table
  | tlsGD      -- `data16 lea sym@tlsgd(%rip), %rdi; .value 0x6666; rex64; call __tls_get_addr@PLT`  general dynamic
  | tlsLE      -- `mov %fs:0, %rax; add $sym@tpoff, %rax`  local exec
  | tlsIE      -- `mov sym@gottpoff(%rip), %rax; add %fs:0, %rax`  initial exec (the repair of C15-extern-tls-local-exec)
  deriving DecidableEq, Repr, Inhabited

def classifyForm (ls : List String) : Option AddrForm :=
  if ls = ["  lea %d(%%rbp), %%rax"] then some .rbpRel
  else if ls = ["  mov %d(%%rbp), %%rax"] then some .rbpLoad
  else if ls = ["  lea %s(%%rip), %%rax"] then some .ripRel
  else if ls = ["  mov %s@GOTPCREL(%%rip), %%rax"] then some .got
  else if ls = ["  data16 lea %s@tlsgd(%%rip), %%rdi", "  .value 0x6666", "  rex64", "  call __tls_get_addr@PLT"] then some .tlsGD
  else if ls = ["  mov %%fs:0, %%rax", "  add $%s@tpoff, %%rax"] then some .tlsLE
  else if ls = ["  mov %s@gottpoff(%%rip), %%rax", "  add %%fs:0, %%rax"] then some .tlsIE
  else none

def addrForm (c : Gen.AddrForms.VarCtx) : Option AddrForm := classifyForm (Gen.AddrForms.genAddrVar c)

/-- The ladder as `tools/extract/addrforms.py` prints it for the REPAIRED gen_addr (candidate repair of
    C15-extern-tls-local-exec: in non-PIC code local exec only for a thread-local object the unit defines, initial exec
    otherwise).  Once the repair is in /repo, `Gen.AddrForms.genAddrVar` is this function and `externTlsRegion` is empty. -/
def genAddrVarFixed (c : Gen.AddrForms.VarCtx) : List String :=
  if c.isVla then
    ["  mov %d(%%rbp), %%rax"]
  else
    if c.isLocal then
      ["  lea %d(%%rbp), %%rax"]
    else
      if c.fpic then
        if c.isTls then
          ["  data16 lea %s@tlsgd(%%rip), %%rdi", "  .value 0x6666", "  rex64", "  call __tls_get_addr@PLT"]
        else
          ["  mov %s@GOTPCREL(%%rip), %%rax"]
      else
        if c.isTls then
          if c.isDefinition then
            ["  mov %%fs:0, %%rax", "  add $%s@tpoff, %%rax"]
          else
            ["  mov %s@gottpoff(%%rip), %%rax", "  add %%fs:0, %%rax"]
        else
          if c.isFunc then
            if c.isDefinition then
              ["  lea %s(%%rip), %%rax"]
            else
              ["  mov %s@GOTPCREL(%%rip), %%rax"]
          else
            ["  lea %s(%%rip), %%rax"]

def addrFormFixed (c : Gen.AddrForms.VarCtx) : Option AddrForm := classifyForm (genAddrVarFixed c)

end ChibiVerif.Linkage
