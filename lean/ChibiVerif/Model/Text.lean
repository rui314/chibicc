/-
Hand model of translation phases 1-2 as tokenize.c `tokenize_file` performs them on the bytes of a
source file: BOM skip, `canonicalize_newline`, `remove_backslash_newline`,
`convert_universal_chars` (the pinned source text is in tools/extract/literals.py).

A text is a `List Byte` without the NUL terminator; `p[i + 1]` at the last byte reads the
terminator (0).  Core Lean only.
-/
import ChibiVerif.Gen.LiteralsGen
import ChibiVerif.Model.Literals

namespace ChibiVerif.Text
open ChibiVerif.Gen.Literals
open ChibiVerif.Literals (Byte isXDigit fromHex)

def CR : Byte := 13#8
def LF : Byte := 10#8
def BSL : Byte := 92#8

/-- `if (!memcmp(p, "\xef\xbb\xbf", 3)) p += 3;` -/
def skipBOM : List Byte → List Byte
  | a :: b :: c :: rest => if a = 0xEF#8 ∧ b = 0xBB#8 ∧ c = 0xBF#8 then rest else a :: b :: c :: rest
  | l => l

/-- `canonicalize_newline`: "\r\n" and "\r" become "\n" -/
def canonicalizeNewline : List Byte → List Byte
  | [] => []
  | [a] => if a = CR then [LF] else [a]
  | a :: b :: rest =>
    if a = CR then
      if b = LF then LF :: canonicalizeNewline rest else LF :: canonicalizeNewline (b :: rest)
    else a :: canonicalizeNewline (b :: rest)

/-- `remove_backslash_newline`: `n` counts the removed newlines, re-emitted after the next newline (or at the end) -/
def removeBackslashNewlineAux : List Byte → Nat → List Byte
  | [], n => List.replicate n LF
  | [a], n => a :: List.replicate n LF
  | a :: b :: rest, n =>
    if a = BSL ∧ b = LF then removeBackslashNewlineAux rest (n + 1)
    else if a = LF then a :: (List.replicate n LF ++ removeBackslashNewlineAux (b :: rest) 0)
    else a :: removeBackslashNewlineAux (b :: rest) n

def removeBackslashNewline (p : List Byte) : List Byte := removeBackslashNewlineAux p 0

/-- `read_universal_char(p, len)`: 0 if one of the `len` bytes is not a hexadecimal digit (`uint32_t` arithmetic) -/
def readUniversalChar (p : List Byte) : Nat → BitVec 32 → BitVec 32
  | 0, c => c
  | len + 1, c =>
    match p with
    | [] => 0#32
    | b :: rest => if !isXDigit b then 0#32 else readUniversalChar rest len ((c <<< 4) ||| fromHex b)

/-- one iteration of the `while (*p)` loop of `convert_universal_chars` on a non-empty text:
    (bytes written through `q`, text remaining at `p`) -/
def ucnStep : List Byte → List Byte × List Byte
  | [] => ([], [])
  | a :: rest =>
    if a = BSL then
      match rest with
      | b :: rest' =>
        if b = 117#8 then                                   -- startswith(p, "\\u")
          let c := readUniversalChar rest' 4 0
          if c ≠ 0#32 ∧ c ≠ 10#32 then (encodeUtf8 c, rest'.drop 4) else ([a], rest)     -- `if (c && c != '\\n')`
        else if b = 85#8 then                               -- startswith(p, "\\U")
          let c := readUniversalChar rest' 8 0
          if c ≠ 0#32 ∧ c ≠ 10#32 then (encodeUtf8 c, rest'.drop 8) else ([a], rest)
        else ([a, b], rest')                                -- `*q++ = *p++; *q++ = *p++;`
      | [] => ([a], [])                                     -- (the C code would copy the terminator too; texts end in "\n")
    else ([a], rest)

/-- `convert_universal_chars`.  fuel: one unit per loop iteration; every iteration consumes at least one byte,
    so `p.length` suffices (`cucAux_fuel` in Lemmas/TextLemmas.lean). -/
def convertUniversalCharsAux : Nat → List Byte → List Byte
  | 0, _ => []
  | _ + 1, [] => []
  | fuel + 1, a :: rest => (ucnStep (a :: rest)).1 ++ convertUniversalCharsAux fuel (ucnStep (a :: rest)).2

def convertUniversalChars (p : List Byte) : List Byte := convertUniversalCharsAux p.length p

/-- `read_file` guarantees a final newline -/
def ensureFinalNewline (p : List Byte) : List Byte :=
  match p.getLast? with
  | some b => if b = LF then p else p ++ [LF]
  | none => [LF]

/-- the text `tokenize()` sees for the bytes of a file (no NUL inside) -/
def phase12 (bytes : List Byte) : List Byte :=
  convertUniversalChars (removeBackslashNewline (canonicalizeNewline (skipBOM (ensureFinalNewline bytes))))

-- ------------------------------------------------------------------ vocabulary of the splice-transparency theorems

/-- the UTF-8 byte-order mark -/
def BOM : List Byte := [0xEF#8, 0xBB#8, 0xBF#8]

/-- what `tokenize_file` has done when `remove_backslash_newline` starts (translation phase 1): final newline
    (`read_file`), BOM skip, `canonicalize_newline` -/
def phase1 (bytes : List Byte) : List Byte :=
  canonicalizeNewline (skipBOM (ensureFinalNewline bytes))

/-- the first physical line of a text, without its newline -/
def firstLine (t : List Byte) : List Byte := t.takeWhile (· ≠ LF)

/-- the literal at the start of the text is complete on the first line: the line does not end in a backslash
    (`string_literal_end` steps over a newline that follows a backslash) and `read_char_literal`, which looks for the
    closing quote with `strchr`, finds it before the newline -/
def LiteralOnFirstLine (y : List Byte) : Prop :=
  (firstLine y).getLast? ≠ some BSL ∧
  ChibiVerif.Literals.lexLiteral (firstLine y ++ [LF]) ≠ .error .unclosedChar

instance (y : List Byte) : Decidable (LiteralOnFirstLine y) := by
  unfold LiteralOnFirstLine; infer_instance

end ChibiVerif.Text
