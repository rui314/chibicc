/-
Model of tokenize.c `tokenize()` — the scanning loop — for property C19 (and C11/C13/C18).

Alphabet.  The input is the NUL-terminated buffer `file->contents` WITHOUT its terminator,
given as a list of CODE POINTS (`Nat`), i.e. after `decode_utf8`.  Restriction (stated, not
hidden): the text is well-formed UTF-8 and contains no NUL.  Under it every byte-level test
of tokenize.c (`*p == '/'`, `isdigit(*p)`, `strstr`, `strchr`, …) sees the same thing on
bytes as this model sees on code points, because no byte of a multi-byte sequence is ASCII
and the C-locale <ctype.h> tables are false for bytes >= 0x80.  `decode_utf8`'s own error
("invalid UTF-8 sequence") is therefore outside the model.

Abort sites are explicit `Err` outcomes:
  unclosedComment  error_at "unclosed block comment"
  unclosedString   error_at "unclosed string literal"
  unclosedChar     error_at "unclosed char literal"
  badHexEscape     error_at "invalid hex escape sequence"   (read_escaped_char, from a string or char literal)
  invalidToken     error_at "invalid token"
  (the code no longer walks past the terminating NUL: a `//` comment ends at the NUL, a backslash
   directly before the NUL inside a string / character literal is "unclosed … literal")
  fuel             never produced for `lex` (`Lemmas/LexClosure.lean` `lexLoop_no_fuel`: every step consumes input)

Not modelled: the values computed for literals (C11's model), line numbers (`add_line_numbers`, C18),
and the three passes `tokenize_file` runs before `tokenize` (canonicalize_newline,
remove_backslash_newline, convert_universal_chars: C11/C18's Model/Text).
-/
import ChibiVerif.Gen.LexGen

namespace ChibiVerif.Lex
open ChibiVerif.LexChar ChibiVerif.Gen.Lex

inductive Kind | ident | punct | str | chr | ppnum
  deriving DecidableEq, Repr

inductive Err
  | unclosedComment | unclosedString | unclosedChar | badHexEscape | invalidToken | fuel
  deriving DecidableEq, Repr

/-- what `new_token` records that C19 needs: kind (TK_IDENT, TK_PUNCT, TK_STR, TK_NUM for a character
    constant, TK_PP_NUM), the spelling `loc[0..len)`, and the two flags -/
structure Tok where
  kind : Kind
  text : List Nat
  atBol : Bool
  hasSpace : Bool
  deriving DecidableEq, Repr

/-- `while (*p && *p != '\n') p++;` — the rest starting AT the newline, or nothing at the end of the text -/
def skipLine : List Nat → List Nat
  | [] => []
  | c :: t => if c == 10 then c :: t else skipLine t

/-- `strstr(p, "*/")` — the rest after the two characters; `none`: not found -/
def findCommentEnd : List Nat → Option (List Nat)
  | [] => none
  | c :: t => if c == 42 && t.head? == some 47 then some t.tail else findCommentEnd t

def headIs (p : Nat → Bool) : List Nat → Bool
  | [] => false
  | c :: _ => p c

/-- the pp-number loop after the first character:
    `if (p[0] && p[1] && strchr("eEpP", p[0]) && strchr("+-", p[1])) p += 2;
     else if (isalnum(*p) || *p == '.') p++; else break;`  — (consumed, rest) -/
def ppTake : List Nat → List Nat × List Nat
  | [] => ([], [])
  | c :: t =>
    if ppExpChars.contains c && headIs (fun d => ppSignChars.contains d) t then
      match t with
      | d :: t' =>
        let r := ppTake t'
        (c :: d :: r.1, r.2)
      | [] => ([], [c])   -- not reachable: `headIs _ [] = false` (p[1] is the NUL)
    else if isAlnum c || c == 46 then
      let r := ppTake t
      (c :: r.1, r.2)
    else ([], c :: t)

/-- `string_literal_end` from the character after the opening quote:
    (characters up to and including the closing quote, rest) -/
def strEnd : List Nat → Except Err (List Nat × List Nat)
  | [] => .error .unclosedString
  | c :: t =>
    if c == 34 then .ok ([c], t)
    else if c == 10 then .error .unclosedString
    else if c == 92 then
      match t with
      | [] => .error .unclosedString      -- `if (*p == '\\' && p[1]) p++;` does not skip; the next character is the NUL
      | d :: t' =>
        match strEnd t' with
        | .ok r => .ok (c :: d :: r.1, r.2)
        | .error e => .error e
    else
      match strEnd t with
      | .ok r => .ok (c :: r.1, r.2)
      | .error e => .error e

/-- the loops of read_string_literal / read_utf16_… / read_utf32_… over the body call
    `read_escaped_char` after every backslash; its only error site is `\x` not followed by a
    hexadecimal digit.  (Octal and hexadecimal digits consumed by the escape are not backslashes,
    so resuming right after the escaped character visits the same backslashes.) -/
def escOk : List Nat → Bool
  | [] => true
  | c :: t =>
    if c == 92 then
      match t with
      | [] => true
      | d :: t' => (if d == 120 then headIs isXDigit t' else true) && escOk t'
    else escOk t

/-- `strchr(p, '\'')`: (characters up to and including the quote, rest) -/
def findQuote : List Nat → Option (List Nat × List Nat)
  | [] => none
  | c :: t =>
    if c == 39 then some ([c], t)
    else match findQuote t with
      | some r => some (c :: r.1, r.2)
      | none => none

/-- `read_char_literal` from the character after the opening quote.  After the first (possibly
    escaped) character the code takes everything up to the next `'` — whatever it is, across
    newlines.  (The digits an octal / hex escape consumes are not quotes, so searching from
    right after the escaped character finds the same quote.) -/
def charEnd : List Nat → Except Err (List Nat × List Nat)
  | [] => .error .unclosedChar
  | c :: t =>
    if c == 92 then
      match t with
      | [] => .error .unclosedChar        -- `if (*p == '\\' && p[1] == '\0') error_at(start, "unclosed char literal");`
      | d :: t' =>
        if d == 120 && !(headIs isXDigit t') then .error .badHexEscape
        else match findQuote t' with
          | none => .error .unclosedChar
          | some r => .ok (c :: d :: r.1, r.2)
    else
      match findQuote t with
      | none => .error .unclosedChar
      | some r => .ok (c :: r.1, r.2)

/-- the loop of `read_ident`: longest prefix of `is_ident2` characters — (consumed, rest) -/
def identTake : List Nat → List Nat × List Nat
  | [] => ([], [])
  | c :: t =>
    if isIdent2 c then
      let r := identTake t
      (c :: r.1, r.2)
    else ([], c :: t)

inductive Step
  | done
  | skip (rest : List Nat) (atBol hasSpace : Bool)
  | tok (t : Tok) (rest : List Nat)
  | err (e : Err)
  deriving DecidableEq, Repr

/-- string-literal branches: `pre` = prefix and opening quote, `after` = what follows it -/
def strTok (pre after : List Nat) (bol sp : Bool) : Step :=
  match strEnd after with
  | .error e => .err e
  | .ok r => if escOk r.1 then .tok ⟨.str, pre ++ r.1, bol, sp⟩ r.2 else .err .badHexEscape

/-- character-literal branches -/
def chrTok (pre after : List Nat) (bol sp : Bool) : Step :=
  match charEnd after with
  | .error e => .err e
  | .ok r => .tok ⟨.chr, pre ++ r.1, bol, sp⟩ r.2

/-- one iteration of `while (*p)` in `tokenize`, branches in source order.
    `bol`/`sp` are the static variables `at_bol`/`has_space`; `new_token` copies them into the
    token and resets both. -/
def lexStep (s : List Nat) (bol sp : Bool) : Step :=
  match s with
  | [] => .done
  | c :: t =>
    -- startswith(p, "//")
    if [47, 47].isPrefixOf (c :: t) then
      .skip (skipLine (t.drop 1)) bol true
    -- startswith(p, "/*")
    else if [47, 42].isPrefixOf (c :: t) then
      match findCommentEnd (t.drop 1) with
      | none => .err .unclosedComment
      | some r => .skip r bol true
    -- *p == '\n'
    else if c == 10 then .skip t true false
    -- isspace(*p)
    else if isSpace c then .skip t bol true
    -- isdigit(*p) || (*p == '.' && isdigit(p[1]))
    else if isDigit c || (c == 46 && headIs isDigit t) then
      let r := ppTake t
      .tok ⟨.ppnum, c :: r.1, bol, sp⟩ r.2
    -- *p == '"'
    else if c == 34 then strTok [34] t bol sp
    -- u8" u" L" U"
    else if [117, 56, 34].isPrefixOf (c :: t) then strTok [117, 56, 34] (t.drop 2) bol sp
    else if [117, 34].isPrefixOf (c :: t) then strTok [117, 34] (t.drop 1) bol sp
    else if [76, 34].isPrefixOf (c :: t) then strTok [76, 34] (t.drop 1) bol sp
    else if [85, 34].isPrefixOf (c :: t) then strTok [85, 34] (t.drop 1) bol sp
    -- *p == '\''
    else if c == 39 then chrTok [39] t bol sp
    -- u' L' U'
    else if [117, 39].isPrefixOf (c :: t) then chrTok [117, 39] (t.drop 1) bol sp
    else if [76, 39].isPrefixOf (c :: t) then chrTok [76, 39] (t.drop 1) bol sp
    else if [85, 39].isPrefixOf (c :: t) then chrTok [85, 39] (t.drop 1) bol sp
    -- read_ident
    else if isIdent1 c then
      let r := identTake t
      .tok ⟨.ident, c :: r.1, bol, sp⟩ r.2
    -- read_punct
    else
      let n := readPunct (c :: t)
      if n == 0 then .err .invalidToken
      else .tok ⟨.punct, (c :: t).take n, bol, sp⟩ ((c :: t).drop n)

/-- the loop; the result is the token list without the final TK_EOF -/
def lexLoop : Nat → List Nat → Bool → Bool → Except Err (List Tok)
  | 0, _, _, _ => .error .fuel
  | n + 1, s, bol, sp =>
    match lexStep s bol sp with
    | .done => .ok []
    | .skip r bol' sp' => lexLoop n r bol' sp'
    | .tok t r =>
      match lexLoop n r false false with
      | .ok ts => .ok (t :: ts)
      | .error e => .error e
    | .err e => .error e

/-- `tokenize`: `at_bol = true; has_space = false;` then the loop.  Every step consumes at least one
    character, so `length + 1` iterations suffice. -/
def lex (s : List Nat) : Except Err (List Tok) := lexLoop (s.length + 1) s true false

instance {α : Type} [DecidableEq α] : DecidableEq (Except Err α) := fun a b =>
  match a, b with
  | .ok x, .ok y => if h : x = y then isTrue (by rw [h]) else isFalse (fun e => by cases e; exact h rfl)
  | .error x, .error y => if h : x = y then isTrue (by rw [h]) else isFalse (fun e => by cases e; exact h rfl)
  | .ok _, .error _ => isFalse (fun e => by cases e)
  | .error _, .ok _ => isFalse (fun e => by cases e)

/-- the spellings of the tokens -/
def spellings (r : Except Err (List Tok)) : Except Err (List (List Nat)) :=
  match r with
  | .ok ts => .ok (ts.map (·.text))
  | .error e => .error e

/-- the spelling `a` is self-lexing: the first scanning step on `a` alone produces one token spelled `a` and consumes
    everything (so `lex a` is exactly that one token: `Lemmas/LexSeq.lean` `lex_items` on the one-item text) -/
def selfLexing (a : List Nat) : Bool :=
  match lexStep a true false with
  | .tok t [] => t.text == a
  | _ => false

end ChibiVerif.Lex
