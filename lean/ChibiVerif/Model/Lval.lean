/-
Lvalue paths (property C04): how parse.c turns `.name`, `->name` and `[i]` into ND_MEMBER / ND_DEREF / ND_ADD nodes
and how codegen.c `gen_addr` / `gen_expr` compute addresses from them.

parse.c
  * `get_struct_member(ty, tok)`: first member (in declaration order) that is named `tok`, or is an anonymous
    struct/union in which `get_struct_member` finds `tok`; unnamed bit-fields are skipped.
  * `struct_ref(node, tok)`: `for (;;) { mem = get_struct_member(ty, tok); node = ND_MEMBER(node, mem);
    if (mem->name) break; ty = mem->ty; }` — one ND_MEMBER per anonymous level.
  * `postfix`: `x[y]` is `*(x + y)` through `new_add`; `x->y` is `(*x).y`.
  * `new_add(ptr, num)`: `ptr + num * sizeof(*ptr)`; if `*ptr` is a VLA the factor is the run-time value of the
    hidden local `vla_size` that `compute_vla_size` assigned (`vla_len * (base is VLA ? base.vla_size : base->size)`).
codegen.c
  * `gen_addr`: ND_VAR → the variable's address (VLA: the pointer stored in its slot), ND_MEMBER → gen_addr(lhs) +
    member->offset, ND_DEREF → gen_expr(lhs).
  * `gen_expr` of an lvalue node: gen_addr, then `load(ty)`, which is the identity for arrays, structs, unions and
    VLAs (the value *is* the address) and a memory read for pointers.

The shapes of the gen_addr arms are checked by the translator (tools/extract/c04gen.py); member offsets come from
`struct_decl` (C08's layout model and tie).  Core Lean only.
-/
namespace ChibiVerif.Lval

mutual
  inductive Ty where
    | scalar (size : Nat)
    | ptr (base : Ty)
    | arr (base : Ty) (len : Nat)
    /-- `vla_of(base, len)`: `len` is the run-time value of the length expression -/
    | vla (base : Ty) (len : Nat)
    /-- struct or union with the offsets struct_decl / union_decl assigned -/
    | agg (size : Nat) (ms : Members)
  inductive Members where
    | nil
    | cons (name : Option String) (offset : Nat) (ty : Ty) (rest : Members)
end

/-- C `sizeof` of an object of the type -/
def Ty.sizeof : Ty → Nat
  | .scalar s => s
  | .ptr _ => 8
  | .arr b n => b.sizeof * n
  | .vla b n => b.sizeof * n
  | .agg s _ => s

/-- chibicc's `ty->size` (a VLA has the size of the pointer that implements it) -/
def Ty.implSize : Ty → Nat
  | .scalar s => s
  | .ptr _ => 8
  | .arr b n => b.implSize * n
  | .vla _ _ => 8
  | .agg s _ => s

/-- the run-time value `compute_vla_size` stores into `ty->vla_size`:
    `vla_len * (ty->base->kind == TY_VLA ? base->vla_size : base->size)` -/
def Ty.vlaSizeVal : Ty → Nat
  | .vla b n => n * (match b with | .vla _ _ => b.vlaSizeVal | _ => b.implSize)
  | _ => 0

/- types the parser can build: `array_dimensions` turns an array whose element type is a VLA into a VLA, and
    members are never VLAs, so a VLA occurs only at the top, under another VLA or behind a pointer -/
mutual
  def Ty.noInlineVla : Ty → Bool
    | .scalar _ => true
    | .ptr _ => true
    | .arr b _ => b.noInlineVla
    | .vla _ _ => false
    | .agg _ ms => ms.noInlineVla
  def Members.noInlineVla : Members → Bool
    | .nil => true
    | .cons _ _ t r => t.noInlineVla && r.noInlineVla
end

def Ty.wf : Ty → Bool
  | .vla b _ => b.wf
  | t => t.noInlineVla

mutual
  /-- every type reachable through pointers, arrays, VLAs and members is one the parser can build -/
  def Ty.allWf : Ty → Bool
    | .scalar _ => true
    | .ptr b => b.wf && b.allWf
    | .arr b _ => b.wf && b.allWf
    | .vla b _ => b.wf && b.allWf
    | .agg _ ms => ms.allWf
  def Members.allWf : Members → Bool
    | .nil => true
    | .cons _ _ t r => t.wf && t.allWf && r.allWf
end

/-! ### member lookup -/

mutual
  /-- `get_struct_member(ty, tok) != NULL` -/
  def Ty.has : Ty → String → Bool
    | .agg _ ms, nm => ms.has nm
    | _, _ => false
  def Members.has : Members → String → Bool
    | .nil, _ => false
    | .cons none _ (.agg _ ms) rest, nm => ms.has nm || rest.has nm
    | .cons none _ _ rest, nm => rest.has nm
    | .cons (some n) _ _ rest, nm => n == nm || rest.has nm
end

structure Mem where
  name : Option String
  offset : Nat
  ty : Ty

/-- `get_struct_member`: the member of *this* aggregate the search stops at -/
def Members.get : Members → String → Option Mem
  | .nil, _ => none
  | .cons none off (.agg s ms) rest, nm => if ms.has nm then some ⟨none, off, .agg s ms⟩ else rest.get nm
  | .cons none _ _ rest, nm => rest.get nm
  | .cons (some n) off t rest, nm => if n == nm then some ⟨some n, off, t⟩ else rest.get nm

/-- specification: offset (from the start of the aggregate) and type of the member that `nm` designates, descending
    into anonymous structs/unions in declaration order — the sum of the offsets along the explicit path -/
def Members.locate : Members → String → Option (Nat × Ty)
  | .nil, _ => none
  | .cons none off (.agg _ ms) rest, nm =>
    match ms.locate nm with
    | some (o, t) => some (off + o, t)
    | none => rest.locate nm
  | .cons none _ _ rest, nm => rest.locate nm
  | .cons (some n) off t rest, nm => if n == nm then some (off, t) else rest.locate nm

/- nesting depth of anonymous aggregates (fuel for `struct_ref`'s loop) -/
mutual
  def Ty.depth : Ty → Nat
    | .agg _ ms => ms.depth + 1
    | _ => 0
  def Members.depth : Members → Nat
    | .nil => 0
    | .cons _ _ t r => max t.depth r.depth
end

/-! ### AST fragment and code generation -/

inductive Node where
  /-- ND_VAR of a non-VLA object: `lea off(%rbp)` / `lea sym(%rip)`; the address is supplied by the frame layout
      (`Model/Frame`) or the linker -/
  | var (addr : Int) (ty : Ty)
  /-- ND_VAR of VLA type: `mov off(%rbp), %rax` — the block's address is read from the variable's slot -/
  | vlaVar (slot : Int) (ty : Ty)
  | member (lhs : Node) (offset : Nat) (ty : Ty)
  | deref (lhs : Node) (ty : Ty)
  /-- `ND_ADD(lhs, ND_MUL(idx, scale))` as `new_add` builds it (`ND_SUB` for `new_sub` with a negated index) -/
  | add (lhs : Node) (idx : Int) (scale : Nat) (ty : Ty)

def Node.ty : Node → Ty
  | .var _ t | .vlaVar _ t | .member _ _ t | .deref _ t | .add _ _ _ t => t

inductive Fail where
  | notLvalue          -- error_tok "not an lvalue"
  | notStruct          -- "not a struct nor a union"
  | noSuchMember       -- "no such member"
  | invalidOperands    -- new_add on a non-pointer
  | fuel               -- struct_ref loop did not finish within the depth of the type (impossible: `structRef_spec`)
  deriving DecidableEq, Repr

/-- the pointer value stored at an address (the part of memory these computations read) -/
structure Env where
  ptrAt : Int → Int

/-- `load(ty)` on an address in %rax -/
def load (env : Env) (ty : Ty) (a : Int) : Int :=
  match ty with
  | .arr _ _ | .agg _ _ | .vla _ _ => a
  | _ => env.ptrAt a

mutual
  def genAddr (env : Env) : Node → Except Fail Int
    | .var a _ => .ok a
    | .vlaVar slot _ => .ok (env.ptrAt slot)
    | .member l off _ => do let a ← genAddr env l; pure (a + off)
    | .deref l _ => genExpr env l
    | .add _ _ _ _ => .error .notLvalue
  def genExpr (env : Env) : Node → Except Fail Int
    | .var a t => .ok (load env t a)
    | .vlaVar slot t => .ok (load env t (env.ptrAt slot))
    | .member l off t => do let a ← genAddr env l; pure (load env t (a + off))
    | .deref l t => do let v ← genExpr env l; pure (load env t v)
    | .add l i sc _ => do let v ← genExpr env l; pure (v + i * sc)
end

/-! ### the parser's elaboration of postfix operators -/

/-- `struct_ref` -/
def structRef : Nat → Node → String → Except Fail Node
  | 0, _, _ => .error .fuel
  | f + 1, node, nm =>
    match node.ty with
    | .agg _ ms =>
      match ms.get nm with
      | none => .error .noSuchMember
      | some m =>
        let node' := Node.member node m.offset m.ty
        if m.name.isSome then .ok node' else structRef f node' nm
    | _ => .error .notStruct

/-- the factor `new_add` multiplies the index by -/
def scaleOf (base : Ty) : Nat :=
  match base with
  | .vla _ _ => base.vlaSizeVal
  | _ => base.implSize

inductive Step where
  | dot (name : String)
  | arrow (name : String)
  | index (i : Int)
  deriving Repr

def elabStep (node : Node) : Step → Except Fail Node
  | .dot nm => structRef (node.ty.depth + 1) node nm
  | .arrow nm =>
    match node.ty with
    | .ptr b => structRef (b.depth + 1) (.deref node b) nm
    | .arr b _ => structRef (b.depth + 1) (.deref node b) nm       -- an array decays; `a->x` is `(*a).x`
    | _ => .error .notStruct
  | .index i =>
    match node.ty with
    | .ptr b | .arr b _ | .vla b _ => .ok (.deref (.add node i (scaleOf b) node.ty) b)
    | _ => .error .invalidOperands

def elabPath : Node → List Step → Except Fail Node
  | node, [] => .ok node
  | node, s :: ss =>
    match elabStep node s with
    | .ok n => elabPath n ss
    | .error e => .error e

/-! ### specification: the object a path designates -/

/-- address and type of the sub-object, by C's rules (6.5.2.1, 6.5.2.3, 6.5.6p8) -/
def designateStep (env : Env) (a : Int) (ty : Ty) : Step → Option (Int × Ty)
  | .dot nm =>
    match ty with
    | .agg _ ms => (ms.locate nm).map fun (o, t) => (a + o, t)
    | _ => none
  | .arrow nm =>
    match ty with
    | .ptr (.agg _ ms) => (ms.locate nm).map fun (o, t) => (env.ptrAt a + o, t)
    | .arr (.agg _ ms) _ => (ms.locate nm).map fun (o, t) => (a + o, t)
    | _ => none
  | .index i =>
    match ty with
    | .ptr b => some (env.ptrAt a + i * b.sizeof, b)
    | .arr b _ => some (a + i * b.sizeof, b)
    | .vla b _ => some (a + i * b.sizeof, b)
    | _ => none

def designate (env : Env) : Int → Ty → List Step → Option (Int × Ty)
  | a, t, [] => some (a, t)
  | a, t, s :: ss =>
    match designateStep env a t s with
    | some (a', t') => designate env a' t' ss
    | none => none

end ChibiVerif.Lval
