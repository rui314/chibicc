/-
Model of chibicc's driver process (main.c `main`, `run_subprocess`, `run_cc1`, `assemble`,
`run_linker`, `create_tmpfile`, `cleanup`) as a small-step transition system (C14).

What is transcribed
* the per-input dispatch of the `for` loop in `main` (`plan`): `-l…` → `ld_args`; output name
  (`opt_o`, else `replace_extn(input, ".s"/".o")`, the two results are fields of `Input`);
  `get_file_type` (`-E` forces `FILE_C`; an unknown extension is `error()`); `.o/.a/.so` → `ld_args`;
  `.s`: nothing under `-S` and `-E`, `assemble(input, output)` under `-c`, otherwise
  `tmp = create_tmpfile(); assemble(input, tmp); push tmp`; `.c`: `-E` → `run_cc1(input, NULL)`
  (cc1 itself opens `opt_o`), `-S` → `run_cc1(input, output)`, `-c` → `tmp; run_cc1(input,tmp);
  assemble(tmp, output)`, link → `tmp1; tmp2; run_cc1(input,tmp1); assemble(tmp1,tmp2); push tmp2`;
  after the loop `if (ld_args.len > 0 && linking) run_linker(ld_args, opt_o ? opt_o : "a.out")`;
* `-o` with several inputs under `-c`, `-S` or `-E` is `error()`; no input is `error()`;
* `create_tmpfile`: `mkstemp` creates an empty file whose name the ENVIRONMENT chooses (`Env.fresh`,
  `none` = mkstemp failed → `error()`), the name is pushed to `tmpfiles`;
* `run_subprocess`: `fork/execvp` (step "spawn"), `wait` (step "wait"), `if (status != 0) exit(1)`;
  the wait status of every child is chosen by the ENVIRONMENT (`Env.sched prog k` = outcome of the
  k-th invocation of `prog`): exit code or death by signal; a failing `as`/`ld` may leave its output path
  untouched, leave junk in it, or remove it (`Outcome.leaves`);
* cc1 (main.c `cc1`): the assembly is produced into a memory buffer and the output file is opened only
  after `codegen` returned (`-E`: `print_tokens` opens it after `preprocess`), so a cc1 whose front end fails
  writes nothing to its output path; a succeeding one writes it completely; the dependency file of `-MD` is
  written last, so a cc1 that fails THERE has written its output completely (`Leaves.complete`);
* `exit()` / `return` from `main`: the `atexit` handler `cleanup` unlinks every entry of `tmpfiles`
  (one step per `unlink`), then the process is gone (`Phase.done code`).

`Phase.stuck` is a model-internal error (a temp register that was never filled); `doActs_sane` (a run from `init cmd` ends
`Sane` or `Died`, neither of which is stuck) with `compile_WF` in Lemmas/DriverProcLemmas.lean shows it is unreachable
(`runCmd_spec`, from which `C14_terminates` follows).

`-M` is `Cmd.depsOnly`; the argument parser that produces the `Cmd` from argv (all options, `-x`, `-Wl,`) is
Model/C14Args.lean + Model/C14Compose.lean, the dependency output of the cc1 children (`-M`, `-MD`, `-MF`) is
Model/C14Deps.lean.  Not modelled: a failing `fork`.  A cc1 whose WRITE fails after a successful `fopen`
(ENOSPC; main.c `close_file` turns it into `error()`) is a failing cc1 that has already truncated its
output: the model's cc1 fails only before opening; the harness exercises the write error on `/dev/full`,
where nothing is left behind.

File contents are abstract: a class (source / preprocessed / assembly / object / executable / junk) and
the list of origin tags of the source files that went into it, which is what the process harness can
observe on the real files (ELF type + marker symbols).
Core Lean only.
-/
namespace ChibiVerif.DriverProc

inductive Mode where | E | S | c | link deriving DecidableEq, Repr, Inhabited
inductive Kind where | C | asm | obj | lib | unknown deriving DecidableEq, Repr, Inhabited
inductive Prog where | cc1 | as | ld deriving DecidableEq, Repr, Inhabited
inductive Cls where | orig | empty | pp | asm | obj | exe | junk | deps deriving DecidableEq, Repr, Inhabited

structure Content where
  cls : Cls
  origins : List Nat
  deriving DecidableEq, Repr, Inhabited

/-- how a child process ended -/
inductive Status where
  | exit (k : Nat)        -- `_exit(k)`; only the low 8 bits reach the parent
  | signal (n : Nat)      -- killed by signal number `n % 127 + 1`
  deriving DecidableEq, Repr, Inhabited

/-- the `int status` that `wait(&status)` stores (POSIX encoding: exit code in bits 8–15, terminating
    signal in bits 0–6) -/
def Status.wait : Status → Nat
  | .exit k => (k % 256) * 256
  | .signal n => n % 127 + 1

/-- what a FAILING child does to its output path (GNU as and ld unlink it on error; a tool killed half-way
    leaves a partial file; or it never got as far as opening it; or it wrote the whole output and failed
    afterwards — `complete` — which for cc1 happens in exactly one way: under `-MD` the assembly was written and the
    write of the dependency file, which comes last, failed) -/
inductive Leaves where | untouched | junk | removed | complete deriving DecidableEq, Repr, Inhabited

structure Outcome where
  status : Status
  leaves : Leaves := .untouched
  deriving DecidableEq, Repr, Inhabited

def Outcome.ok : Outcome := ⟨.exit 0, .untouched⟩

/-! ### file system -/

abbrev FS (P : Type) := List (P × Content)

namespace FS
variable {P : Type} [DecidableEq P]

def get : FS P → P → Option Content
  | [], _ => none
  | (q, c) :: r, p => if q = p then some c else get r p

def erase (fs : FS P) (p : P) : FS P := fs.filter (fun e => !decide (e.1 = p))

def set (fs : FS P) (p : P) (c : Content) : FS P := (p, c) :: fs.erase p

/-- origin tags of what is stored at `p` (nothing if the file does not exist) -/
def origins (fs : FS P) (p : P) : List Nat :=
  match fs.get p with
  | some c => c.origins
  | none => []

end FS

/-! ### commands -/

structure Input (P : Type) where
  path : P            -- the argument as written
  kind : Kind         -- by extension (`-l…` is `lib`)
  sOut : P            -- replace_extn(path, ".s")
  oOut : P            -- replace_extn(path, ".o")
  deriving DecidableEq, Repr

structure Cmd (P : Type) where
  mode : Mode
  out : Option P      -- `-o`
  inputs : List (Input P)
  aout : P            -- "a.out"
  /-- `-M`: every C input is run through cc1 without an output (cc1 prints the dependencies and returns), `.s` inputs
      are skipped, nothing is assembled or linked — whatever `-E`/`-S`/`-c` say (`opt_E || opt_M`, `opt_S || opt_E || opt_M`,
      `!opt_c && !opt_S && !opt_E && !opt_M` in main.c) -/
  depsOnly : Bool := false
  /-- entries of `input_paths` that the loop skips without any effect (`-Wl,` with no non-empty token): they count for
      `input_paths.len` (the `no input files` and the `-o with multiple files` tests) and for nothing else -/
  nExtra : Nat := 0
  deriving DecidableEq, Repr

/-- `error()` / `usage()` of the driver itself; the last three are raised by `parse_args` -/
inductive DrvErr where | multiO | unknownExt | noInput | usage | unknownArg | unknownX
  deriving DecidableEq, Repr, Inhabited

/-- a path known when the command is read, or the i-th entry of `tmpfiles` (a local `char *tmp`) -/
inductive Ref (P : Type) where
  | path (p : P)
  | tmp (i : Nat)
  deriving DecidableEq, Repr

inductive Act (P : Type) where
  | mktemp                                                   -- create_tmpfile()
  | run (prog : Prog) (inp : Ref P) (out : Option (Ref P))   -- run_cc1 / assemble
  | pushLd (r : Ref P)                                       -- strarray_push(&ld_args, …)
  | link (out : P)                                           -- if (ld_args.len > 0) run_linker(&ld_args, out)
  | fail (why : DrvErr)                                      -- error(…)
  deriving DecidableEq, Repr

inductive Event (P : Type) where
  | mkstemp (p : P)
  | mkstempFailed
  | spawn (prog : Prog) (inp : List P) (out : Option P)
  | wait (prog : Prog) (st : Status)
  | error (why : DrvErr)
  | unlink (p : P)
  | exit (code : Nat)
  deriving DecidableEq, Repr

inductive Phase (P : Type) where
  | run                                                      -- executing `main`
  | waiting (prog : Prog) (inp : List P) (out : Option P)    -- child forked, parent in `wait`
  | exiting (code : Nat) (todo : List P)                     -- inside exit(): `cleanup` still has `todo` to unlink
  | done (code : Nat)                                        -- process gone, exit status `code`
  | stuck                                                    -- model-internal error (unreachable)
  deriving DecidableEq, Repr

structure DState (P : Type) where
  acts : List (Act P)          -- rest of `main` (program counter)
  tmpfiles : List P
  ldArgs : List P
  nTemp : Nat := 0             -- mkstemp calls so far
  nCc1 : Nat := 0              -- children of each kind waited for so far
  nAs : Nat := 0
  nLd : Nat := 0
  phase : Phase P := .run
  log : List (Event P) := []   -- oldest first
  deriving DecidableEq, Repr

/-- the environment: everything the driver does not control -/
structure Env (P : Type) where
  mode : Mode                          -- what `cc1` produces (`-E`: preprocessed text)
  sched : Prog → Nat → Outcome         -- fault schedule: outcome of the k-th invocation of each program
  fresh : Nat → Option P               -- k-th mkstemp result (`none`: mkstemp failed)

section
variable {P : Type} [DecidableEq P]

/-! ### main.c `main`: the loop body as a list of actions -/

/-- `get_file_type` after the `-l` test: `-E` sets `opt_x = FILE_C` -/
def effKind (m : Mode) (k : Kind) : Kind :=
  if k = .lib then .lib else if m = .E then .C else k

/-- `output` of the loop body -/
def unitOutput (cmd : Cmd P) (i : Input P) : P :=
  match cmd.out with
  | some o => o
  | none => if cmd.mode = .S then i.sOut else i.oOut

/-- number of `create_tmpfile` calls of one loop iteration -/
def planTemps (cmd : Cmd P) (i : Input P) : Nat :=
  if cmd.depsOnly then 0 else
  match effKind cmd.mode i.kind, cmd.mode with
  | .C, .c => 1
  | .C, .link => 2
  | .asm, .link => 1
  | _, _ => 0

/-- one iteration of the `for` loop; `n` = number of temporaries created by earlier iterations -/
def plan (cmd : Cmd P) (n : Nat) (i : Input P) : List (Act P) :=
  match effKind cmd.mode i.kind with
  | .lib => [.pushLd (.path i.path)]
  | .unknown => [.fail .unknownExt]
  | .obj => [.pushLd (.path i.path)]
  | .asm =>
    if cmd.depsOnly then [] else
    match cmd.mode with
    | .S => []
    | .E => []
    | .c => [.run .as (.path i.path) (some (.path (unitOutput cmd i)))]
    | .link => [.mktemp, .run .as (.path i.path) (some (.tmp n)), .pushLd (.tmp n)]
  | .C =>
    if cmd.depsOnly then [.run .cc1 (.path i.path) none] else
    match cmd.mode with
    | .E => [.run .cc1 (.path i.path) (cmd.out.map .path)]
    | .S => [.run .cc1 (.path i.path) (some (.path (unitOutput cmd i)))]
    | .c => [.mktemp, .run .cc1 (.path i.path) (some (.tmp n)),
             .run .as (.tmp n) (some (.path (unitOutput cmd i)))]
    | .link => [.mktemp, .mktemp, .run .cc1 (.path i.path) (some (.tmp n)),
                .run .as (.tmp n) (some (.tmp (n + 1))), .pushLd (.tmp (n + 1))]

/-- the loop, then `if (ld_args.len > 0 && !opt_c && !opt_S && !opt_E && !opt_M) run_linker(…)` -/
def compileLoop (cmd : Cmd P) : Nat → List (Input P) → List (Act P)
  | _, [] => if cmd.mode = .link ∧ cmd.depsOnly = false then [.link (cmd.out.getD cmd.aout)] else []
  | n, i :: r => plan cmd n i ++ compileLoop cmd (n + planTemps cmd i) r

def multiO (cmd : Cmd P) : Bool :=
  decide (cmd.inputs.length + cmd.nExtra > 1) && cmd.out.isSome && decide (cmd.mode ≠ .link)

/-- `main` after `parse_args` -/
def compile (cmd : Cmd P) : List (Act P) :=
  if cmd.inputs.isEmpty ∧ cmd.nExtra = 0 then [.fail .noInput]
  else if multiO cmd then [.fail .multiO]
  else compileLoop cmd 0 cmd.inputs

def init (cmd : Cmd P) : DState P :=
  { acts := compile cmd, tmpfiles := [], ldArgs := [] }

/-! ### children -/

/-- what a SUCCESSFUL child writes -/
def childOut (mode : Mode) (prog : Prog) (fs : FS P) (inp : List P) : Content :=
  let org := inp.flatMap (fun p => fs.origins p)
  match prog with
  | .cc1 => ⟨if mode = .E then .pp else .asm, org⟩
  | .as => ⟨.obj, org⟩
  | .ld => ⟨.exe, org⟩

/-- effect of a whole child run on the file system -/
def childEffect (mode : Mode) (prog : Prog) (oc : Outcome) (fs : FS P) (inp : List P)
    (out : Option P) : FS P :=
  match out with
  | none => fs                                    -- `-E` without `-o`: stdout
  | some o =>
    if oc.status.wait = 0 ∨ oc.leaves = .complete then fs.set o (childOut mode prog fs inp)
    else if prog = .cc1 then fs                   -- cc1 opens its output only after codegen succeeded
    else match oc.leaves with
      | .untouched => fs
      | .junk => fs.set o ⟨.junk, []⟩
      | .removed => fs.erase o
      | .complete => fs                           -- (handled above)

/-! ### the driver's steps -/

def resolve (tmpfiles : List P) : Ref P → Option P
  | .path p => some p
  | .tmp i => tmpfiles[i]?

def resolveOut (tmpfiles : List P) : Option (Ref P) → Option (Option P)
  | none => some none
  | some r => (resolve tmpfiles r).map some

def DState.count (s : DState P) : Prog → Nat
  | .cc1 => s.nCc1
  | .as => s.nAs
  | .ld => s.nLd

def DState.bump (s : DState P) : Prog → DState P
  | .cc1 => { s with nCc1 := s.nCc1 + 1 }
  | .as => { s with nAs := s.nAs + 1 }
  | .ld => { s with nLd := s.nLd + 1 }

/-- `exit(code)`: the atexit handler will walk `tmpfiles` -/
def DState.exitWith (s : DState P) (code : Nat) : DState P :=
  { s with phase := .exiting code s.tmpfiles }

def DState.emit (s : DState P) (e : Event P) : DState P := { s with log := s.log ++ [e] }

/-- one step of `main` proper (phase `run`) -/
def stepRun (env : Env P) (s : DState P) (fs : FS P) : DState P × FS P :=
  match s.acts with
  | [] => (s.exitWith 0, fs)                                  -- `return 0`
  | .mktemp :: r =>
    match env.fresh s.nTemp with
    | none => ((({ s with acts := r }).emit .mkstempFailed).exitWith 1, fs)
    | some t =>
      (({ s with acts := r, nTemp := s.nTemp + 1, tmpfiles := s.tmpfiles ++ [t] }).emit (.mkstemp t),
       fs.set t ⟨.empty, []⟩)
  | .run prog inp out :: r =>
    match resolve s.tmpfiles inp, resolveOut s.tmpfiles out with
    | some i, some o =>
      (({ s with acts := r, phase := .waiting prog [i] o }).emit (.spawn prog [i] o), fs)
    | _, _ => ({ s with acts := r, phase := .stuck }, fs)
  | .pushLd ref :: r =>
    match resolve s.tmpfiles ref with
    | some p => ({ s with acts := r, ldArgs := s.ldArgs ++ [p] }, fs)
    | none => ({ s with acts := r, phase := .stuck }, fs)
  | .link o :: r =>
    if s.ldArgs.isEmpty then ({ s with acts := r }, fs)
    else (({ s with acts := r, phase := .waiting .ld s.ldArgs (some o) }).emit
            (.spawn .ld s.ldArgs (some o)), fs)
  | .fail why :: r => ((({ s with acts := r }).emit (.error why)).exitWith 1, fs)

/-- `wait(&status); if (status != 0) exit(1);` — the child's whole effect becomes visible here -/
def stepWait (env : Env P) (s : DState P) (fs : FS P) (prog : Prog) (inp : List P)
    (out : Option P) : DState P × FS P :=
  let oc := env.sched prog (s.count prog)
  let s1 := (s.bump prog).emit (.wait prog oc.status)
  let fs1 := childEffect env.mode prog oc fs inp out
  if oc.status.wait = 0 then ({ s1 with phase := .run }, fs1) else (s1.exitWith 1, fs1)

/-- the transition function (deterministic once the environment is fixed) -/
def step (env : Env P) (s : DState P) (fs : FS P) : DState P × FS P :=
  match s.phase with
  | .done _ => (s, fs)
  | .stuck => (s, fs)
  | .exiting code [] => (({ s with phase := .done code }).emit (.exit code), fs)
  | .exiting code (t :: ts) => (({ s with phase := .exiting code ts }).emit (.unlink t), fs.erase t)
  | .waiting prog inp out => stepWait env s fs prog inp out
  | .run => stepRun env s fs

def Phase.terminal : Phase P → Bool
  | .done _ => true
  | .stuck => true
  | _ => false

def iter (env : Env P) : Nat → DState P × FS P → DState P × FS P
  | 0, x => x
  | n + 1, x => iter env n (step env x.1 x.2)

/-- `x` is a terminal configuration reachable from `x0` -/
def Reaches (env : Env P) (x0 x : DState P × FS P) : Prop :=
  ∃ n, iter env n x0 = x ∧ x.1.phase.terminal = true

def mkCount : List (Act P) → Nat
  | [] => 0
  | .mktemp :: r => mkCount r + 1
  | _ :: r => mkCount r

/-- enough fuel for every run from a configuration in phase `run` (Lemmas: `iter_eq_bigRun`):
    two steps per action, one per `unlink`, `return`, and the final `_exit` -/
def fuel (s : DState P) : Nat := 2 * s.acts.length + s.tmpfiles.length + mkCount s.acts + 2

/-- run a command to completion -/
def runCmd (env : Env P) (cmd : Cmd P) (fs : FS P) : DState P × FS P :=
  iter env (fuel (init cmd)) (init cmd, fs)

/-! ### big-step presentation (used by the proofs; `Lemmas` shows it equals the small-step runs) -/

/-- one action executed to its end; `.error x` = `exit()` was called (or `stuck`), `x` is the
    configuration at that moment -/
def doAct (env : Env P) (a : Act P) (x : DState P × FS P) : Except (DState P × FS P) (DState P × FS P) :=
  let s := x.1
  let fs := x.2
  match a with
  | .mktemp =>
    match env.fresh s.nTemp with
    | none => .error ((s.emit .mkstempFailed).exitWith 1, fs)
    | some t =>
      .ok (({ s with nTemp := s.nTemp + 1, tmpfiles := s.tmpfiles ++ [t] }).emit (.mkstemp t),
           fs.set t ⟨.empty, []⟩)
  | .run prog inp out =>
    match resolve s.tmpfiles inp, resolveOut s.tmpfiles out with
    | some i, some o =>
      let oc := env.sched prog (s.count prog)
      let s1 := (((s.emit (.spawn prog [i] o)).bump prog).emit (.wait prog oc.status))
      let fs1 := childEffect env.mode prog oc fs [i] o
      if oc.status.wait = 0 then .ok (s1, fs1) else .error (s1.exitWith 1, fs1)
    | _, _ => .error ({ s with phase := .stuck }, fs)
  | .pushLd ref =>
    match resolve s.tmpfiles ref with
    | some p => .ok ({ s with ldArgs := s.ldArgs ++ [p] }, fs)
    | none => .error ({ s with phase := .stuck }, fs)
  | .link o =>
    if s.ldArgs.isEmpty then .ok (s, fs)
    else
      let oc := env.sched .ld s.nLd
      let s1 := (((s.emit (.spawn .ld s.ldArgs (some o))).bump .ld).emit (.wait .ld oc.status))
      let fs1 := childEffect env.mode .ld oc fs s.ldArgs (some o)
      if oc.status.wait = 0 then .ok (s1, fs1) else .error (s1.exitWith 1, fs1)
  | .fail why => .error ((s.emit (.error why)).exitWith 1, fs)

def doActs (env : Env P) : List (Act P) → DState P × FS P → Except (DState P × FS P) (DState P × FS P)
  | [], x => .ok x
  | a :: r, x =>
    match doAct env a ({ x.1 with acts := r }, x.2) with
    | .ok y => doActs env r y
    | .error e => .error e

/-- the atexit handler run to its end -/
def cleanupAll (code : Nat) : List P → DState P × FS P → DState P × FS P
  | [], x => (({ x.1 with phase := .done code }).emit (.exit code), x.2)
  | t :: ts, x => cleanupAll code ts (({ x.1 with phase := .exiting code ts }).emit (.unlink t), x.2.erase t)

def finish (x : DState P × FS P) : DState P × FS P :=
  match x.1.phase with
  | .exiting code todo => cleanupAll code todo x
  | _ => x

/-- the whole run from a configuration in phase `run`, in one go -/
def bigRun (env : Env P) (x : DState P × FS P) : DState P × FS P :=
  match doActs env x.1.acts x with
  | .ok y => finish (y.1.exitWith 0, y.2)
  | .error e => finish e

/-! ### observations on logs and commands (vocabulary of the C14 theorems) -/

/-- an event that reports a failed step: a child with non-zero wait status, an `error()` of the driver
    itself, a failed `mkstemp` -/
def Event.bad : Event P → Bool
  | .wait _ st => decide (st.wait ≠ 0)
  | .error _ => true
  | .mkstempFailed => true
  | _ => false

/-- temporaries the driver created, in creation order -/
def created (log : List (Event P)) : List P :=
  log.filterMap (fun e => match e with | .mkstemp p => some p | _ => none)

/-- events of the atexit phase -/
def Event.isCleanup : Event P → Bool
  | .unlink _ => true
  | .exit _ => true
  | _ => false

/-- does input `i` produce an output file of its own in this mode (`-E -o f`, `-S`, `-c`)? -/
def isUnit (cmd : Cmd P) (i : Input P) : Bool :=
  if cmd.depsOnly then false else
  match cmd.mode, effKind cmd.mode i.kind with
  | .E, .C => cmd.out.isSome
  | .S, .C => true
  | .c, .C => true
  | .c, .asm => true
  | _, _ => false

/-- class of a per-unit output -/
def unitCls (cmd : Cmd P) : Cls :=
  match cmd.mode with
  | .E => .pp
  | .S => .asm
  | _ => .obj

/-- the outputs the command asks for (gcc's rules: `-o f`, else `<stem>.s` / `<stem>.o` per translation
    unit, else `a.out`; linker inputs are ignored when not linking) -/
def requested (cmd : Cmd P) : List P :=
  if cmd.depsOnly then []
  else if cmd.mode = .link then [cmd.out.getD cmd.aout]
  else (cmd.inputs.filter (isUnit cmd)).map (unitOutput cmd)

/-- total number of `create_tmpfile` calls of a command -/
def totalTemps (cmd : Cmd P) : List (Input P) → Nat
  | [] => 0
  | i :: r => planTemps cmd i + totalTemps cmd r

/-! ### two drivers sharing one file system -/

/-- `true`: the first driver moves, `false`: the second -/
def istep (envA envB : Env P) (b : Bool) (x : DState P × DState P × FS P) : DState P × DState P × FS P :=
  if b then
    let r := step envA x.1 x.2.2
    (r.1, x.2.1, r.2)
  else
    let r := step envB x.2.1 x.2.2
    (x.1, r.1, r.2)

def irun (envA envB : Env P) : List Bool → DState P × DState P × FS P → DState P × DState P × FS P
  | [], x => x
  | b :: r, x => irun envA envB r (istep envA envB b x)

end
end ChibiVerif.DriverProc
