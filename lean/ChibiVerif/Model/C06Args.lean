/-
Model of the argument conversions of a call (property C06), parse.c `funcall()` + `func_params()` + `new_cast()` and the
code `gen_expr` emits for the resulting `ND_CAST` chain, joined to the calling-convention model (Model/CallConv.lean):

* `Gen.Funcall.argStep` / `afterLoop`   — one trip through the argument loop of `funcall()` / the statements after it,
                                           **translated from parse.c on every run** (tools/extract/funcall.py)
* `funcallLoop`, `funcall`              — the loop itself (cursor `param_ty` over the parameter list, one `argStep` per
                                           argument, the diagnostics "too many arguments" / "too few arguments")
* `fnTyOf`                              — `func_params()`: `(void)`, `()` (treated as variadic), `(T, ..)`, `(T, .., ...)`,
                                           array / function parameters adjusted to pointers
* `castChain`, `argLoad`, `argCode`     — the lines `gen_expr` prints for an argument that is a variable converted by the
                                           inserted `ND_CAST`s (codegen.c `load`, `cast`: Model/FpCodegen.lean over the cast
                                           table regenerated from codegen.c)
* `callSig`, `callText`                 — the signature the back end sees (`arg->ty` after conversion) and the complete text
                                           of the call: every argument evaluated, converted, pushed (`push_args`), popped into
                                           its register, `call`; compared line by line with `chibicc -S` by checklib/C06.py
* `passRegSeq`, `passStackSeq`, `storeGpSeq`, `paramReadSeq` — the instruction sequences the value theorems of
                                           Props/C06.lean are about (integer-class arguments)

Core Lean only.
-/
import ChibiVerif.Gen.FuncallGen
import ChibiVerif.Gen.TemplatesGen
import ChibiVerif.Model.FpCodegen
import ChibiVerif.Model.C01Expr
import ChibiVerif.Model.CallConv
import ChibiVerif.Spec.FpC11Spec

namespace ChibiVerif.C06Args
open ChibiVerif.Asm ChibiVerif.Gen.CommonType ChibiVerif.Gen.Funcall
open ChibiVerif.CallConv (ATy Sig)
open ChibiVerif.Spec.IntSpec (ITy)

/-! ## function types and the argument loop -/

/-- what `funcall()` looks at in the callee's type: `ty->params` (each a `Type` descriptor) and `ty->is_variadic` -/
structure FnTy where
  params : List TyD
  variadic : Bool
  deriving DecidableEq, Repr

/-- the three spellings of a parameter list -/
inductive ParamDecl where
  | void                                      -- `f(void)`
  | empty                                     -- `f()`
  | list (ps : List TyD) (ellipsis : Bool)    -- `f(T1, .., Tn)` / `f(T1, .., Tn, ...)`, n ≥ 1
  deriving DecidableEq, Repr

/-- `func_params()`: "array of T" / "function" parameters become pointers -/
def adjustParam (t : TyD) : TyD :=
  if t.kind == .TY_ARRAY && arrayParamDecays then ty_ptr
  else if t.kind == .TY_FUNC && funcParamDecays then ty_ptr
  else t

/-- `func_params()` -/
def fnTyOf : ParamDecl → FnTy
  | .void => ⟨[], false⟩
  | .empty => ⟨[], emptyParamListIsVariadic⟩
  | .list ps e => ⟨ps.map adjustParam, e⟩

/-- the argument loop of `funcall()`: `ps` = the list `param_ty` points into, `args` = `arg->ty` of the remaining
    arguments.  Result: the diagnostic, or for every argument the types of the `ND_CAST` nodes wrapped around it. -/
def funcallLoop (variadic : Bool) : List TyD → List TyD → Except String (List (List TyD))
  | ps, [] =>
    match afterLoop variadic ps.head? with
    | .diag m => .error m
    | .ok _ _ => .ok []
  | ps, a :: as =>
    match argStep variadic ps.head? a with
    | .diag m => .error m
    | .ok casts adv => (funcallLoop variadic (if adv then ps.tail else ps) as).map (casts :: ·)

def funcall (f : FnTy) (args : List TyD) : Except String (List (List TyD)) :=
  funcallLoop f.variadic f.params args

/-- `arg->ty` after the inserted casts (`new_cast`: `node->ty = copy_type(ty)`) -/
def tyAfter (a : TyD) (casts : List TyD) : TyD := casts.getLast?.getD a

/-! ## code of one argument -/

/-- kinds for which `load()` prints nothing (the value of the expression is the address) -/
def noLoad (t : TyD) : Bool :=
  t.kind == .TY_ARRAY || t.kind == .TY_STRUCT || t.kind == .TY_UNION || t.kind == .TY_FUNC || t.kind == .TY_VLA

/-- `load(ty)` -/
def argLoad (t : TyD) : List Line := if noLoad t then [] else FpCodegen.load t

/-- the `ND_CAST` arm of `gen_expr` for a chain of casts: `cast(node->lhs->ty, node->ty)` innermost first -/
def castChain (a : TyD) : List TyD → List Line
  | [] => []
  | t :: ts => FpCodegen.cast a t ++ castChain t ts

/-- the lines between `lea`/`mov` of the variable's address and the push of the argument -/
def argCode (a : TyD) (casts : List TyD) : List Line := argLoad a ++ castChain a casts

/-- the instructions one trip through the loop adds after the argument's own code, `none` when a diagnostic is issued -/
def argSeq (variadic : Bool) (p : Option TyD) (a : TyD) : Option (List Ins) :=
  match argStep variadic p a with
  | .ok casts _ => some ((castChain a casts).flatMap Line.instrs)
  | .diag _ => none

/-! ## from parse-level types to the types the back end classifies -/

/-- a C type at a call: a scalar / pointer / array descriptor, or a struct/union with its member tree -/
inductive CTy where
  | scalar (d : TyD)
  | agg (t : ATy)

/-- the descriptor `funcall()` sees -/
def CTy.descr : CTy → TyD
  | .scalar d => d
  | .agg (.agg isUnion size _ _) => ⟨if isUnion then .TY_UNION else .TY_STRUCT, size, false, false⟩
  | .agg t => ⟨.TY_STRUCT, t.size, false, false⟩

/-- the back end's view (`default:` arm of `push_args` for everything that is not struct/union/float/double/long double) -/
def atyOfDescr (d : TyD) : ATy :=
  match d.kind with
  | .TY_FLOAT => .flt
  | .TY_DOUBLE => .dbl
  | .TY_LDOUBLE => .ldbl
  | .TY_BOOL => .int d.size true true
  | .TY_ARRAY | .TY_FUNC | .TY_VLA => .int 8 true false      -- the value is an address
  | _ => .int d.size d.isUnsigned false

/-- `arg->ty` of an argument after the casts, as the back end sees it -/
def CTy.after (c : CTy) (casts : List TyD) : ATy :=
  match casts.getLast? with
  | some t => atyOfDescr t
  | none => match c with
    | .scalar d => atyOfDescr d
    | .agg t => t

/-- one call site: callee type with the member trees of its struct/union parameters, return type, argument types -/
structure Call where
  ret : Option ATy
  params : List CTy
  variadic : Bool
  args : List CTy

def Call.fnTy (c : Call) : FnTy := ⟨c.params.map CTy.descr, c.variadic⟩

/-- the casts `funcall()` inserts -/
def Call.casts (c : Call) : Except String (List (List TyD)) := funcall c.fnTy (c.args.map CTy.descr)

/-- the signature `push_args` / the pop phase work on: the converted argument types -/
def callSig (c : Call) : Except String Sig :=
  (c.casts).map fun cs =>
    { ret := c.ret, params := (c.args.zip cs).map (fun (a, k) => a.after k), nNamed := c.params.length, variadic := c.variadic }

/-! ## the complete text of a call whose arguments are variables -/

def renderLines (ls : List Line) : List String := ls.map Line.render

/-- `selectRev` of Model/CallConv with the argument's index kept: the order in which `push_args2` evaluates -/
def evalOrder : List Bool → Nat → Bool → List Nat
  | f :: fs, i, want => evalOrder fs (i + 1) want ++ (if f == want then [i] else [])
  | [], _, _ => []

/-- the lines of one `ND_FUNCALL` between the prologue of the calling function and `.L.return`: per argument
    `@i` (stands for the line that puts the address of variable i into %rax), `load`, the casts, the push; then the callee's
    address, the pops, `call`, the clean-up and the return-value handling (Model/CallConv `callLines`).
    `@f` stands for the line that puts the function's address into %rax. -/
def callText (depth : Nat) (c : Call) (retOff : Int) : Except String (List String) := do
  let cs ← c.casts
  let s ← callSig c
  let large := CallConv.retLarge s.ret
  let (st, flags) := CallConv.classifyArgs large s.params
  let pad := CallConv.padSlots depth st
  let one (i : Nat) : List String :=
    match c.args[i]?, cs[i]?, s.params[i]? with
    | some a, some k, some t => s!"@{i}" :: renderLines (argCode a.descr k) ++ CallConv.pushLines t
    | _, _, _ => ["?"]
  let full := CallConv.callLines depth s retOff
  -- `callLines` = padding ++ pushes ++ (hidden pointer, pops, call, ...): replace its push part by evaluation + push
  let pushPart := ((CallConv.selectRev s.params flags true).flatMap CallConv.pushLines
                   ++ (CallConv.selectRev s.params flags false).flatMap CallConv.pushLines).length
  let padPart := if pad = 1 then 1 else 0
  let tail := full.drop (padPart + pushPart)
  let hidden := if large then 2 else 0
  pure (full.take padPart
        ++ (evalOrder flags 0 true).flatMap one ++ (evalOrder flags 0 false).flatMap one
        ++ tail.take hidden ++ ["@f"] ++ tail.drop hidden)

/-! ## instruction sequences of the value theorems (integer-class arguments) -/

open ChibiVerif.Gen.Templates (argreg8 argreg16 argreg32 argreg64)

def regName (tbl : List String) (r : Nat) : String := tbl.getD r "?"

/-- a register argument: the conversion, `push %rax` (`push_args2`), `pop argreg64[r]` (pop phase of `ND_FUNCALL`) -/
def passRegSeq (code : List Ins) (r : Nat) : List Ins :=
  code ++ [⟨"push", [.r "%rax"]⟩, ⟨"pop", [.r (regName argreg64 r)]⟩]

/-- a stack argument: the conversion and `push %rax`; the slot stays where it is until the callee reads it -/
def passStackSeq (code : List Ins) : List Ins := code ++ [⟨"push", [.r "%rax"]⟩]

/-- `store_gp(r, off, sz)` for sz ∈ {1, 2, 4, 8}: the prologue writes the parameter object at `off(%rbp)` -/
def storeGpSeq (r : Nat) (off : Int) (sz : Nat) : List Ins :=
  if sz = 1 then [⟨"mov", [.r (regName argreg8 r), .m off "%rbp"]⟩]
  else if sz = 2 then [⟨"mov", [.r (regName argreg16 r), .m off "%rbp"]⟩]
  else if sz = 4 then [⟨"mov", [.r (regName argreg32 r), .m off "%rbp"]⟩]
  else [⟨"mov", [.r (regName argreg64 r), .m off "%rbp"]⟩]

/-- what the callee does to read a parameter of integer type `t` at `off(%rbp)`: `lea off(%rbp), %rax` + `load` -/
def paramReadSeq (t : ITy) (off : Int) : List Ins :=
  ⟨"lea", [.m off "%rbp", .r "%rax"]⟩ :: (C01Codegen.load (C01.descr t)).flatMap Line.instrs

/-- the descriptor of each of the twelve arithmetic types (C02's `descr`, restated core-only) -/
def descrA : ChibiVerif.Spec.FpC11.ATy → TyD
  | .int t => C01.descr t
  | .f32 => ty_float | .f64 => ty_double | .f80 => ty_ldouble

/-- `pushf()` -/
def pushfSeq : List Ins := [⟨"sub", [.i 8, .r "%rsp"]⟩, ⟨"movsd", [.r "%xmm0", .m0 "%rsp"]⟩]
/-- `push_args2` for a long double -/
def pushLdSeq : List Ins := [⟨"sub", [.i 16, .r "%rsp"]⟩, ⟨"fstpt", [.m0 "%rsp"]⟩]

end ChibiVerif.C06Args
