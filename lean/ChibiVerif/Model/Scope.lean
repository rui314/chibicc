/-
Model of the block-scope machinery of /repo/parse.c (C03):

  struct Scope { Scope *next; HashMap vars; HashMap tags; }      l.31-39
  enter_scope / leave_scope / find_var / find_tag               l.165-192
  push_scope (hashmap_put into scope->vars)                      l.257
  push_tag_scope (hashmap_put2 into scope->tags)                 l.363
  find_typedef (find_var(tok)->type_def)                         l.354

Two levels.

* `Stack` — the abstract level: a scope is a pair of last-write-wins dictionaries
  (`HashMap.AMap`, the specification side of C17).  Ordinary identifiers (objects,
  functions, typedef names, enumeration constants) live in `vars`, struct/union/enum tags
  in `tags`.
* `CStack` — the concrete level: the same chain, each table being the open-addressing
  table of `Model/HashMap.lean` (the model of hashmap.c), every operation an
  `Except Crash`.  `Lemmas/ScopeLemmas.lean` proves that the concrete level refines the
  abstract one for every hash function, using C17's `Inv.put_spec` / `Inv.get_eq`; this
  is what justifies reasoning about association lists.

`scope = scope->next` in `leave_scope` at file scope leaves `scope == NULL`; the next
`push_scope` would dereference it.  That is the outcome `Err.nullScope`.
-/
import ChibiVerif.Model.HashMap

namespace ChibiVerif.Scope
open ChibiVerif.HashMap (AMap HM Crash)

/-- what an entry of the ordinary name space is (the three fields of `VarScope` that are
    mutually exclusive in use: `var`, `type_def`, `enum_ty/enum_val`), tagged with the
    identity `id` of the declaration that created it -/
inductive Ent where
  | obj (id : Nat)        -- object or function
  | tdef (id : Nat)       -- typedef name
  | enumc (id : Nat)      -- enumeration constant
  deriving Repr, DecidableEq, Inhabited

def Ent.id : Ent → Nat
  | .obj i => i | .tdef i => i | .enumc i => i

structure Frame (V T : Type) where
  vars : AMap String V
  tags : AMap String T

/-- head = innermost scope; the last element is the file scope -/
abbrev Stack (V T : Type) := List (Frame V T)

inductive Err where
  | nullScope             -- `scope` is NULL (leave_scope was called at file scope)
  | crash (c : Crash)     -- hashmap.c reached an abort site (concrete level only)
  deriving Repr, DecidableEq

inductive Op (V T : Type) where
  | enter
  | leave
  | declVar (n : String) (v : V)
  | declTag (n : String) (t : T)
  deriving Repr, DecidableEq

variable {V T : Type}

def Frame.empty : Frame V T := ⟨AMap.empty, AMap.empty⟩

/-- `static Scope *scope = &(Scope){};` -/
def Stack.init : Stack V T := [Frame.empty]

def enter (s : Stack V T) : Stack V T := Frame.empty :: s

def leave : Stack V T → Except Err (Stack V T)
  | [] => .error .nullScope
  | _ :: rest => .ok rest

def declareVar (s : Stack V T) (n : String) (v : V) : Except Err (Stack V T) :=
  match s with
  | [] => .error .nullScope
  | f :: rest => .ok ({ f with vars := f.vars.put n v } :: rest)

def declareTag (s : Stack V T) (n : String) (t : T) : Except Err (Stack V T) :=
  match s with
  | [] => .error .nullScope
  | f :: rest => .ok ({ f with tags := f.tags.put n t } :: rest)

/-- `find_var`: walk the chain from the innermost scope outwards -/
def findVar : Stack V T → String → Option V
  | [], _ => none
  | f :: rest, n => match f.vars.get n with
    | some v => some v
    | none => findVar rest n

def findTag : Stack V T → String → Option T
  | [], _ => none
  | f :: rest, n => match f.tags.get n with
    | some v => some v
    | none => findTag rest n

/-- `find_typedef`: the innermost *ordinary* entry decides; if it is not a typedef the
    identifier is not a type name even when an outer scope has a typedef of that name -/
def findTypedef (s : Stack Ent T) (n : String) : Option Nat :=
  match findVar s n with
  | some (.tdef i) => some i
  | _ => none

def step (s : Stack V T) : Op V T → Except Err (Stack V T)
  | .enter => .ok (enter s)
  | .leave => leave s
  | .declVar n v => declareVar s n v
  | .declTag n t => declareTag s n t

def run : Stack V T → List (Op V T) → Except Err (Stack V T)
  | s, [] => .ok s
  | s, op :: ops => match step s op with
    | .ok s' => run s' ops
    | .error e => .error e

/-! ### Specification: the innermost visible declaration, read off the history

The history is walked **backwards** from the point of use.  `skip` counts the scopes
that were closed again before the point of use and whose opening has not been passed
yet: everything inside them is invisible.  At `skip = 0` an `enter` is the opening of a
scope that is still open at the point of use, so the walk continues in the enclosing
scope.  The first declaration of the name met at `skip = 0` is therefore the most recent
declaration in the innermost open scope that declares it. -/

def specVar (name : String) : List (Op V T) → Nat → Option V
  | [], _ => none
  | .leave :: r, k => specVar name r (k + 1)
  | .enter :: r, 0 => specVar name r 0
  | .enter :: r, k + 1 => specVar name r k
  | .declVar n v :: r, 0 => if n = name then some v else specVar name r 0
  | .declVar _ _ :: r, k + 1 => specVar name r (k + 1)
  | .declTag _ _ :: r, k => specVar name r k

def specTag (name : String) : List (Op V T) → Nat → Option T
  | [], _ => none
  | .leave :: r, k => specTag name r (k + 1)
  | .enter :: r, 0 => specTag name r 0
  | .enter :: r, k + 1 => specTag name r k
  | .declTag n t :: r, 0 => if n = name then some t else specTag name r 0
  | .declTag _ _ :: r, k + 1 => specTag name r (k + 1)
  | .declVar _ _ :: r, k => specTag name r k

/-- the declaration an ordinary identifier used after history `ops` binds to -/
def visibleVar (ops : List (Op V T)) (name : String) : Option V := specVar name ops.reverse 0
def visibleTag (ops : List (Op V T)) (name : String) : Option T := specTag name ops.reverse 0

/-- a history is balanced when every `enter` is closed and no `leave` is unmatched -/
def balancedFrom : Nat → List (Op V T) → Bool
  | d, [] => d == 0
  | d, .enter :: r => balancedFrom (d + 1) r
  | 0, .leave :: _ => false
  | d + 1, .leave :: r => balancedFrom d r
  | d, _ :: r => balancedFrom d r

def balanced (ops : List (Op V T)) : Bool := balancedFrom 0 ops

/-! ### Concrete level: chains of hashmap.c tables -/

structure CFrame (V T : Type) where
  vars : HM String V
  tags : HM String T

abbrev CStack (V T : Type) := List (CFrame V T)

def CFrame.empty : CFrame V T := ⟨HM.empty, HM.empty⟩   -- calloc'ed Scope
def CStack.init : CStack V T := [CFrame.empty]

def liftC {α : Type} : Except Crash α → Except Err α
  | .ok a => .ok a
  | .error c => .error (.crash c)

def cstep (h : String → Nat) (s : CStack V T) : Op V T → Except Err (CStack V T)
  | .enter => .ok (CFrame.empty :: s)
  | .leave => match s with
    | [] => .error .nullScope
    | _ :: rest => .ok rest
  | .declVar n v => match s with
    | [] => .error .nullScope
    | f :: rest => do
      let m ← liftC (f.vars.put h n v)
      pure ({ f with vars := m } :: rest)
  | .declTag n t => match s with
    | [] => .error .nullScope
    | f :: rest => do
      let m ← liftC (f.tags.put h n t)
      pure ({ f with tags := m } :: rest)

def crun (h : String → Nat) : CStack V T → List (Op V T) → Except Err (CStack V T)
  | s, [] => .ok s
  | s, op :: ops => match cstep h s op with
    | .ok s' => crun h s' ops
    | .error e => .error e

def cfindVar (h : String → Nat) : CStack V T → String → Except Err (Option V)
  | [], _ => .ok none
  | f :: rest, n => match f.vars.get h n with
    | .error c => .error (.crash c)
    | .ok (some v) => .ok (some v)
    | .ok none => cfindVar h rest n

def cfindTag (h : String → Nat) : CStack V T → String → Except Err (Option T)
  | [], _ => .ok none
  | f :: rest, n => match f.tags.get h n with
    | .error c => .error (.crash c)
    | .ok (some v) => .ok (some v)
    | .ok none => cfindTag h rest n

end ChibiVerif.Scope
