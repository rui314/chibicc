/-
The printer that belongs to the `#if` parser of Model/IfParse.lean: a tree as a token line with the MINIMAL parentheses the
C11 grammar requires (an operand is parenthesised exactly when its outermost construct binds weaker than the operand position
allows: level of the operator for a left operand, one level tighter for a right operand, cast-expression for the operand of a
unary operator, logical-OR-expression for the condition of `?:`, conditional-expression for its third operand and for the
left operand of a comma; the middle operand of `?:` and the right operand of a comma are never parenthesised).

`Props/C10IfParseComplete.lean` proves that the C11 grammar derives the printed line with the printed tree, hence (completeness)
that the parser maps it back to the tree: the image of the parser is exactly `WF`.  Core Lean only.
-/
import ChibiVerif.Model.IfParse

namespace ChibiVerif.IfParse
open ChibiVerif.PPExpr

/-- C11 level of a binary operator: 1 = multiplicative … 10 = logical OR -/
def binLevel : BinOp → Nat
  | .mul | .div | .mod => 1
  | .add | .sub => 2
  | .shl | .shr => 3
  | .lt | .le | .gt | .ge => 4
  | .eq | .ne => 5
  | .band => 6
  | .bxor => 7
  | .bor => 8
  | .land => 9
  | .lor => 10

def binSym : BinOp → String
  | .mul => "*" | .div => "/" | .mod => "%" | .add => "+" | .sub => "-" | .shl => "<<" | .shr => ">>"
  | .lt => "<" | .le => "<=" | .gt => ">" | .ge => ">=" | .eq => "==" | .ne => "!=" | .band => "&" | .bxor => "^"
  | .bor => "|" | .land => "&&" | .lor => "||"

def unSym : UnOp → String
  | .neg => "-" | .plus => "+" | .bnot => "~" | .lnot => "!"

/-- the tightest position the outermost construct of a tree can stand in: 0 = cast-expression, 1 … 10 = the binary levels,
    11 = conditional-expression, 12 = expression -/
def PT.prec : PT → Nat
  | .num _ _ => 0
  | .un _ _ => 0
  | .bin op _ _ => binLevel op
  | .cond _ _ _ => 11
  | .comma _ _ => 12

def parens (ts : List PTok) : List PTok := .punct "(" :: ts ++ [.punct ")"]

/-- the printed operand `ts` of tree `t` in a position that allows levels ≤ `k` -/
def atLvl (k : Nat) (t : PT) (ts : List PTok) : List PTok := if t.prec ≤ k then ts else parens ts

def unparse : PT → List PTok
  | .num v u => [.num v u]
  | .un op e => .punct (unSym op) :: atLvl 0 e (unparse e)
  | .bin op a b => atLvl (binLevel op) a (unparse a) ++ .punct (binSym op) :: atLvl (binLevel op - 1) b (unparse b)
  | .cond c a b => atLvl 10 c (unparse c) ++ .punct "?" :: (unparse a ++ .punct ":" :: atLvl 11 b (unparse b))
  | .comma a b => atLvl 11 a (unparse a) ++ .punct "," :: unparse b

/-- the line of a `#if`: a constant-expression (a comma operator at the top is parenthesised) -/
def unparseTop (t : PT) : List PTok := atLvl 11 t (unparse t)

/-- the trees parse.c builds: no node for unary `+` (unary() returns the operand), no node kinds for `>` `>=` (relational()
    builds ND_LT / ND_LE with the operands exchanged) -/
def PT.WF : PT → Bool
  | .num _ _ => true
  | .un op e => op != .plus && e.WF
  | .bin op a b => op != .gt && op != .ge && a.WF && b.WF
  | .cond c a b => c.WF && a.WF && b.WF
  | .comma a b => a.WF && b.WF

end ChibiVerif.IfParse
