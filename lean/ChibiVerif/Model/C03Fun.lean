/-
C03 × C01 — whole functions of an integer fragment of C: statements (C03) whose expression holes are C01's expressions.

* `FStmt`: expression statement, compound statement (`seq` / `skip`), `if` / `else`, `while`, `for (init; c; inc)`, `do … while`,
  `switch` / `case` / `default`, `break`, `continue`, `return e` — over the expressions `E` of Spec/IntSpec (literals, local integer variables, casts,
  unary / binary operators, `&&` `||` `?:` `,`, `=`, the ten `op=`, `++` `--`).
* `execF`: the C11 abstract machine for them — the big-step machine `exec` of Spec/ControlSpec.lean (outcomes normal / break /
  continue / return, one unit of fuel per recursive call, a loop iteration re-executes the loop statement) with `evalE`
  (Spec/IntSpec) in the place of the oracle: a controlling expression is true iff its value is not 0 (6.8.4.1p2, 6.8.5p4), an
  expression statement is the store transformer of `evalE` (6.8.3), `return e` converts the value to the return type
  (6.8.6.4p3).  Undefined behaviour inside an expression (`evalE = none`) is the outcome `undef`.  Written from the
  standard: no labels, no counters.
* `compileF`: what chibicc emits for the statement — `gen_stmt` (codegen.c) arm by arm, every expression hole filled with
  C01's `compileJ` (Model/C01ExprJ.lean = `gen_expr`), the truth test `cmp_zero; je / jne` as C01 models it
  (`cmpZeroSeq`).  Three counters are threaded exactly as the compiler threads them:
    - `k`: hidden temporaries of `op=` / `++` / `--`, in the order parse.c creates them (source order: the `inc` of a `for`
      before its body);
    - `c`: `count()` of codegen.c, ONE counter shared by statements (`.L.else.c`, `.L.end.c`, `.L.begin.c`) and expressions
      (`.L.false.c` …), in the order of emission (a statement draws its number before its parts; the `inc` of a `for` after
      its body);
    - `u`: `new_unique_name()` of parse.c (`.L..u`): break label, then continue label of every loop, in source order.
* `FI`: the instruction type of Model/X86Jump with the label type enlarged by the statement-level labels `.L.begin.N`,
  `.L..N`, `.L.return.<fn>` (`FL`); `stepF` / `runF`: the machine of Model/X86Jump on it, word for word.  Lemmas/C03FunMachine
  proves that it IS the X86Jump machine under an injective renaming of labels, so C01's theorems apply.

Core Lean only (`drv_c03 fun` runs it).  Tie: checklib/C03.py leg `fun`: the rendered lines — instructions, label
definitions, jump targets with the numbers the three counters really hand out — against `chibicc -S`; `runF` on the code
against the compiled program, gcc and `execF`.
-/
import ChibiVerif.Model.C01ExprJ

namespace ChibiVerif.C03Fun
open ChibiVerif.Asm ChibiVerif.Spec.IntSpec ChibiVerif.C01 ChibiVerif.X86 ChibiVerif.X86J

/-! ### syntax -/

/-- statements of the fragment.  `{ a b c }` = `seq a (seq b (seq c skip))`; `if (c) t` = `ifte c t skip`;
    `while (c) b` = `for_ none c none b` (parse.c builds the same ND_FOR node); `for (init; c; inc) b` = `for_ (some init) c (some inc) b`
    (first and third clause optional; a declaration as first clause is not in the fragment); `do b while (c);`;
    `switch (e) body`, `case v: s`, `case lo ... hi: s` (GNU), `default: s` -/
inductive FStmt where
  | skip
  | expr (e : E)
  | seq (a b : FStmt)
  | ifte (c : E) (t f : FStmt)
  | for_ (init : Option E) (c : E) (inc : Option E) (body : FStmt)
  | doWhile (body : FStmt) (c : E)
  | switch_ (e : E) (body : FStmt)
  | case_ (lo hi : Int) (s : FStmt)      -- `case lo ... hi: s` (GNU; `case v: s` = `case_ v v s`), the constants as parse.c reads them into a C `long`
  | default_ (s : FStmt)
  | brk
  | cont
  | ret (e : E)
  deriving Repr, Inhabited

/-! ### the abstract machine -/

inductive Out where
  | normal | brk | cont
  | ret (v : Int)
  deriving Repr, DecidableEq, Inhabited

inductive FRes where
  | done (o : Out) (σ : Env)
  | timeout                 -- fuel exhausted
  | undef                   -- an expression with undefined behaviour was evaluated
  | unsupported             -- a `switch` outside the shape this machine gives meaning to (`switchOK`)
  deriving Repr, Inhabited

/-- the optional third clause of a `for`: evaluated for its side effects -/
def evalOpt (σ : Env) : Option E → Option Env
  | none => some σ
  | some e => (evalE σ e).map (·.2)

/-! #### `switch` (6.8.4.2): bodies that are a list of labelled statements

`switch (e) { s1 s2 … }` where each `si` carries at most one label `case v:` / `default:` of this switch, at its head, and none
inside (several labels on one statement are written with empty statements between them: `case 1: ; case 2: s`).  Control jumps to
the statement whose `case` constant, converted to the promoted type of the controlling expression, equals its value, else to
`default`, else past the body (6.8.4.2p5); from there on the labels are transparent. -/

/-- no `case` / `default` outside a nested `switch` -/
def noFreeCase : FStmt → Bool
  | .seq a b => noFreeCase a && noFreeCase b
  | .ifte _ t f => noFreeCase t && noFreeCase f
  | .for_ _ _ _ b => noFreeCase b
  | .doWhile b _ => noFreeCase b
  | .case_ _ _ _ => false
  | .default_ _ => false
  | _ => true

/-- a statement of the list: labelled by one `case` / `default` or not at all, no label of this switch inside -/
def isItem : FStmt → Bool
  | .case_ _ _ s => noFreeCase s
  | .default_ s => noFreeCase s
  | s => noFreeCase s

/-- `{ item item … }` -/
def isChain : FStmt → Bool
  | .skip => true
  | .seq it rest => isItem it && isChain rest
  | _ => false

/-- `case lo ... hi` selects `v`: the constants are converted to the promoted controlling type `P` (6.8.4.2p5) -/
def caseSel (P : ITy) (lo hi v : Int) : Bool := decide (convert P lo ≤ v ∧ v ≤ convert P hi)

/-- the `case` ranges of a chain, as written -/
def chainRanges : FStmt → List (Int × Int)
  | .seq (.case_ lo hi _) rest => (lo, hi) :: chainRanges rest
  | .seq _ rest => chainRanges rest
  | _ => []

def chainDefaults : FStmt → Nat
  | .seq (.default_ _) rest => chainDefaults rest + 1
  | .seq _ rest => chainDefaults rest
  | _ => 0

/-- two ranges have no value in common, in the controlling type -/
def rangesDisjoint (P : ITy) (a b : Int × Int) : Bool :=
  decide (convert P a.2 < convert P b.1) || decide (convert P b.2 < convert P a.1)

def pairwiseDisjoint (P : ITy) : List (Int × Int) → Bool
  | [] => true
  | a :: r => r.all (rangesDisjoint P a) && pairwiseDisjoint P r

/-- what this machine requires of a `switch` body: a chain of labelled statements; every range non-empty in the controlling
    type; no two `case`s with a value in common (6.8.4.2p3); at most one `default` -/
def switchOK (P : ITy) (body : FStmt) : Bool :=
  isChain body && (chainRanges body).all (fun r => decide (convert P r.1 ≤ convert P r.2)) &&
    pairwiseDisjoint P (chainRanges body) && decide (chainDefaults body ≤ 1)

/-- the chain from the `case` selecting `v` on (`switchOK`: there is at most one; were there several, the last) -/
def selectCase (P : ITy) (v : Int) : FStmt → Option FStmt
  | .seq (.case_ lo hi s) rest =>
      (selectCase P v rest).orElse fun _ => if caseSel P lo hi v then some (.seq (.case_ lo hi s) rest) else none
  | .seq _ rest => selectCase P v rest
  | _ => none

/-- the chain from `default` on (`switchOK`: there is at most one; were there several, the last) -/
def selectDefault : FStmt → Option FStmt
  | .seq (.default_ s) rest => (selectDefault rest).orElse fun _ => some (.seq (.default_ s) rest)
  | .seq _ rest => selectDefault rest
  | _ => none

/-- big-step execution with fuel (`R` = the return type of the function) -/
def execF (R : ITy) : Nat → FStmt → Env → FRes
  | 0, _, _ => .timeout
  | n + 1, s, σ =>
    match s with
    | .skip => .done .normal σ
    | .expr e =>
      match evalE σ e with
      | some (_, σ1) => .done .normal σ1
      | none => .undef
    | .seq a b =>
      match execF R n a σ with
      | .done .normal σ1 => execF R n b σ1
      | r => r
    | .ifte c t f =>
      match evalE σ c with
      | some (v, σ1) => if v ≠ 0 then execF R n t σ1 else execF R n f σ1
      | none => .undef
    | .for_ (some i) c inc body =>
      -- 6.8.5.3: the first clause is evaluated once, before the first evaluation of the controlling expression
      match evalE σ i with
      | some (_, σ0) => execF R n (.for_ none c inc body) σ0
      | none => .undef
    | .for_ none c inc body =>
      match evalE σ c with
      | none => .undef
      | some (v, σ1) =>
        if v = 0 then .done .normal σ1 else
        let next (σ2 : Env) : FRes :=
          match evalOpt σ2 inc with
          | some σ3 => execF R n (.for_ none c inc body) σ3
          | none => .undef
        match execF R n body σ1 with
        | .done .normal σ2 => next σ2
        | .done .cont σ2 => next σ2
        | .done .brk σ2 => .done .normal σ2
        | r => r
    | .doWhile body c =>
      let test (σ2 : Env) : FRes :=
        match evalE σ2 c with
        | some (v, σ3) => if v ≠ 0 then execF R n (.doWhile body c) σ3 else .done .normal σ3
        | none => .undef
      match execF R n body σ with
      | .done .normal σ2 => test σ2
      | .done .cont σ2 => test σ2
      | .done .brk σ2 => .done .normal σ2
      | r => r
    | .switch_ e body =>
      match typeOf σ e, evalE σ e with
      | some t, some (v, σ1) =>
        if switchOK (promote t) body then
          let run (rest : FStmt) : FRes :=
            match execF R n rest σ1 with
            | .done .brk σ2 => .done .normal σ2
            | r => r
          match selectCase (promote t) v body with
          | some rest => run rest
          | none =>
            match selectDefault body with
            | some rest => run rest
            | none => .done .normal σ1
        else .unsupported
      | _, _ => .undef
    | .case_ _ _ s => execF R n s σ
    | .default_ s => execF R n s σ
    | .brk => .done .brk σ
    | .cont => .done .cont σ
    | .ret e =>
      match evalE σ (.cast R e) with
      | some (v, σ1) => .done (.ret v) σ1
      | none => .undef

/-! ### instructions with statement-level labels -/

/-- the labels `gen_stmt` / parse.c make up besides those of Model/X86Jump -/
inductive SL where
  | begin_ (n : Nat)        -- `.L.begin.N`, `N` from `count()`
  | uniq (n : Nat)          -- `.L..N`, `N` from `new_unique_name()`: break / continue labels
  | ret                     -- `.L.return.<function>`
  deriving DecidableEq, Repr, Inhabited

inductive FL where
  | x (l : Lbl)             -- a label of Model/X86Jump: `.L.else.N`, `.L.end.N`, `.L.false.N`, `.L.true.N`
  | s (l : SL)
  deriving DecidableEq, Repr, Inhabited

def FL.render (fn : String) : FL → String
  | .x l => l.render
  | .s (.begin_ n) => ".L.begin." ++ toString n
  | .s (.uniq n) => ".L.." ++ toString n
  | .s .ret => ".L.return." ++ fn

inductive FI where
  | ins (i : Ins)
  | lbl (l : FL)
  | jmp (l : FL)
  | jcc (c : CC) (l : FL)
  deriving DecidableEq, Repr, Inhabited

/-- a line of Model/X86Jump as a line of the function -/
def emb : JI → FI
  | .ins i => .ins i
  | .lbl l => .lbl (.x l)
  | .jmp l => .jmp (.x l)
  | .jcc c l => .jcc c (.x l)

def embs (c : List JI) : List FI := c.map emb

/-- the text of one line as chibicc prints it (without indentation) -/
def FI.text (fn : String) : FI → String
  | .ins i => i.render
  | .lbl l => l.render fn ++ ":"
  | .jmp l => "jmp " ++ l.render fn
  | .jcc c l => "j" ++ ccSuffix c ++ " " ++ l.render fn

def defsF : List FI → List FL
  | [] => []
  | .lbl l :: r => l :: defsF r
  | _ :: r => defsF r

/-- position of the first definition of `l` (Model/X86Jump `findLbl`) -/
def findLblF : List FI → FL → Option Nat
  | [], _ => none
  | .lbl l' :: r, l => if l' = l then some 0 else (findLblF r l).map (· + 1)
  | _ :: r, l => (findLblF r l).map (· + 1)

/-- Model/X86Jump `stepJ` -/
def stepF (p : List FI) (pc : Nat) (s : State) : Option (Nat × State) :=
  match p[pc]? with
  | none => none
  | some (.ins i) => (X86.step i s).map fun s' => (pc + 1, s')
  | some (.lbl _) => some (pc + 1, s)
  | some (.jmp l) => (findLblF p l).map fun t => (t, s)
  | some (.jcc c l) =>
      if s.flagsValid then
        (if s.cond c then (findLblF p l).map fun t => (t, s) else some (pc + 1, s))
      else none

/-- Model/X86Jump `runJ`: run until the position is past the last line; `none` on a fault or when the fuel runs out first -/
def runF : Nat → List FI → Nat → State → Option State
  | 0, p, pc, s => if p.length ≤ pc then some s else none
  | fuel + 1, p, pc, s =>
      if p.length ≤ pc then some s else
      match stepF p pc s with
      | none => none
      | some x => runF fuel p x.1 x.2

/-! ### `gen_stmt` -/

/-- parse.c's context while parsing a statement: `brk_label`, `cont_label` (numbers of `.L..N`), `current_switch != NULL` -/
structure JCtx where
  brk : Option Nat
  cont : Option Nat
  sw : Bool
  deriving Repr, DecidableEq

/-- how many names the statement draws from `new_unique_name()`: break + continue label of a loop, break label of a `switch`,
    the label of a `case` / `default` -/
def nuniq : FStmt → Nat
  | .seq a b => nuniq a + nuniq b
  | .ifte _ t f => nuniq t + nuniq f
  | .for_ _ _ _ b => 2 + nuniq b
  | .doWhile b _ => 2 + nuniq b
  | .switch_ _ b => 1 + nuniq b
  | .case_ _ _ s => 1 + nuniq s
  | .default_ s => 1 + nuniq s
  | _ => 0

/-- the `case` (`some v`) and `default` (`none`) labels of the innermost enclosing `switch` inside a statement that is parsed
    when `new_unique_name()` stands at `u`, in source order, with the number of their label `.L..N`
    (parse.c `current_switch->case_next`, `default_case`; a nested `switch` owns its own labels) -/
def collect : Nat → FStmt → List (Option (Int × Int) × Nat)
  | u, .seq a b => collect u a ++ collect (u + nuniq a) b
  | u, .ifte _ t f => collect u t ++ collect (u + nuniq t) f
  | u, .for_ _ _ _ b => collect (u + 2) b
  | u, .doWhile b _ => collect (u + 2) b
  | u, .case_ lo hi s => (some (lo, hi), u) :: collect (u + 1) s
  | u, .default_ s => (none, u) :: collect (u + 1) s
  | _, _ => []

def fits32 (v : Int) : Bool := decide (-2147483648 ≤ v ∧ v ≤ 2147483647)

/-- `(int)begin` -/
def toI32 (v : Int) : Int := Int.bmod v 4294967296

/-- the wrapped C `long` of a difference computed in `long` -/
def toI64 (v : Int) : Int := Int.bmod v 18446744073709551616

/-- one rung of the compare ladder of ND_SWITCH for `case lo ... hi:` with label `.L..l`, controlling expression of type `t`.
    `lo = hi`: `cmp $lo, %eax|%rax; je .L..l`, a 64-bit constant that is not a sign-extended imm32 through `%rdi`.
    A range: `mov %eax|%rax, %edi|%rdi; sub $lo, ·; cmp $(hi - lo), ·; jbe .L..l` (unsigned comparison of the distance), 64-bit
    constants that do not fit through `%rdx`. -/
def caseTest (t : ITy) (lo hi : Int) (l : Nat) : List FI :=
  if lo = hi then
    (if t.size = 8 then
      (if fits32 lo then [FI.ins ⟨"cmp", [.i lo, .r "%rax"]⟩]
       else [FI.ins ⟨"mov", [.i lo, .r "%rdi"]⟩, FI.ins ⟨"cmp", [.r "%rdi", .r "%rax"]⟩])
     else [FI.ins ⟨"cmp", [.i (toI32 lo), .r "%eax"]⟩]) ++ [FI.jcc .e (.s (.uniq l))]
  else
    (if t.size = 8 then
      FI.ins ⟨"mov", [.r "%rax", .r "%rdi"]⟩ ::
        ((if fits32 lo then [FI.ins ⟨"sub", [.i lo, .r "%rdi"]⟩]
          else [FI.ins ⟨"mov", [.i lo, .r "%rdx"]⟩, FI.ins ⟨"sub", [.r "%rdx", .r "%rdi"]⟩]) ++
         (if fits32 (toI64 (hi - lo)) then [FI.ins ⟨"cmp", [.i (toI64 (hi - lo)), .r "%rdi"]⟩]
          else [FI.ins ⟨"mov", [.i (toI64 (hi - lo)), .r "%rdx"]⟩, FI.ins ⟨"cmp", [.r "%rdx", .r "%rdi"]⟩]))
     else [FI.ins ⟨"mov", [.r "%eax", .r "%edi"]⟩, FI.ins ⟨"sub", [.i (toI32 lo), .r "%edi"]⟩,
           FI.ins ⟨"cmp", [.i (toI32 (hi - lo)), .r "%edi"]⟩]) ++ [FI.jcc .be (.s (.uniq l))]

/-- the rungs in `case_next` order (the most recently parsed `case` first) -/
def rungs (t : ITy) : List (Option (Int × Int) × Nat) → List FI
  | [] => []
  | (some (lo, hi), l) :: r => rungs t r ++ caseTest t lo hi l
  | (none, _) :: r => rungs t r

/-- the label the ladder jumps to for the value `v` of the controlling expression (promoted type `P`): the rungs are tried in
    `case_next` order, i.e. the last `case` in source order whose constant converts to `v` -/
def pickCase (P : ITy) (v : Int) : List (Option (Int × Int) × Nat) → Option Nat
  | [] => none
  | (some (lo, hi), l) :: r => (pickCase P v r).orElse fun _ => if caseSel P lo hi v then some l else none
  | (none, _) :: r => pickCase P v r

/-- `current_switch->default_case`: the `default` parsed last -/
def lastDefault : List (Option (Int × Int) × Nat) → Option Nat
  | [] => none
  | (none, l) :: r => (lastDefault r).orElse fun _ => some l
  | (some _, _) :: r => lastDefault r

/-- the compare ladder: rungs, `jmp default` if there is one, `jmp brk` -/
def ladder (t : ITy) (ents : List (Option (Int × Int) × Nat)) (brk : Nat) : List FI :=
  rungs t ents ++ ((match lastDefault ents with
    | some d => [FI.jmp (.s (.uniq d))]
    | none => []) ++ [FI.jmp (.s (.uniq brk))])

/-- `cmp_zero(ty); jCC l` -/
def condJump (cc : CC) (t : ITy) (l : FL) : List FI := embs (J (cmpZeroSeq t)) ++ [FI.jcc cc l]

def nlblO : Option E → Nat
  | none => 0
  | some e => nlbl e

/-- `if (node->inc) gen_expr(node->inc)`, `if (node->init) gen_stmt(node->init)` (an expression statement) -/
def compileOpt (tys : List ITy) (off toff : Nat → Int) (k c : Nat) : Option E → Option (List JI × Nat × Nat)
  | none => some ([], k, c)
  | some e => (compileJ tys off toff k c e).map fun (_, cd, k1, c1) => (cd, k1, c1)

/-- how many times `gen_stmt` / `gen_expr` call `count()` for the statement -/
def nlblF : FStmt → Nat
  | .skip | .brk | .cont => 0
  | .expr e | .ret e => nlbl e
  | .seq a b => nlblF a + nlblF b
  | .ifte c t f => 1 + (nlbl c + (nlblF t + nlblF f))
  | .for_ init c inc b => 1 + (nlblO init + (nlbl c + (nlblF b + nlblO inc)))
  | .doWhile b c => 1 + (nlblF b + nlbl c)
  | .switch_ e b => nlbl e + nlblF b
  | .case_ _ _ s => nlblF s
  | .default_ s => nlblF s

/-- `compileF tys off toff R ctx k c u s = some (code, k', c', u')`.  `ctx`: parse.c's `brk_label`, `cont_label`,
    `current_switch` (`none` / `false`: "stray break / continue / case"); `R`: the function's return type (parse.c casts the
    operand of `return` to it). -/
def compileF (tys : List ITy) (off toff : Nat → Int) (R : ITy) :
    JCtx → Nat → Nat → Nat → FStmt → Option (List FI × Nat × Nat × Nat)
  | _, k, c, u, .skip => some ([], k, c, u)
  | _, k, c, u, .expr e => (compileJ tys off toff k c e).map fun (_, cd, k1, c1) => (embs cd, k1, c1, u)
  | ctx, k, c, u, .seq a b =>
      match compileF tys off toff R ctx k c u a with
      | some (ca, k1, c1, u1) =>
        (compileF tys off toff R ctx k1 c1 u1 b).map fun (cb, k2, c2, u2) => (ca ++ cb, k2, c2, u2)
      | none => none
  | ctx, k, c, u, .ifte e t f =>
      -- ND_IF: `c = count(); cond; cmp_zero; je .L.else.c; then; jmp .L.end.c; .L.else.c: els; .L.end.c:`
      match compileJ tys off toff k (c + 1) e with
      | some (te, ce, k1, c1) =>
        match compileF tys off toff R ctx k1 c1 u t with
        | some (ct, k2, c2, u2) =>
          (compileF tys off toff R ctx k2 c2 u2 f).map fun (cf, k3, c3, u3) =>
            (embs ce ++ (condJump .e te (.x ⟨.else_, c⟩) ++ (ct ++ (FI.jmp (.x ⟨.end_, c⟩) :: FI.lbl (.x ⟨.else_, c⟩) ::
              (cf ++ [FI.lbl (.x ⟨.end_, c⟩)])))), k3, c3, u3)
        | none => none
      | none => none
  | ctx, k, c, u, .for_ init e inc body =>
      -- ND_FOR (`while`: no init, no inc):
      -- `c = count(); init; .L.begin.c: cond; cmp_zero; je brk; body; cont: inc; jmp .L.begin.c; brk:`
      -- parse.c reads `inc` before the body (temporaries), codegen.c emits it after the body (labels)
      match compileOpt tys off toff k (c + 1) init with
      | some (c0i, ka, ca) =>
        match compileJ tys off toff ka ca e with
        | some (te, ce, k1, c1) =>
          match compileOpt tys off toff k1 (c1 + nlblF body) inc with
          | some (ci, k2, c3) =>
            (compileF tys off toff R ⟨some u, some (u + 1), ctx.sw⟩ k2 c1 (u + 2) body).map fun (cb, k3, _, u2) =>
              (embs c0i ++ (FI.lbl (.s (.begin_ c)) :: (embs ce ++ (condJump .e te (.s (.uniq u)) ++ (cb ++
                (FI.lbl (.s (.uniq (u + 1))) :: (embs ci ++ [FI.jmp (.s (.begin_ c)), FI.lbl (.s (.uniq u))])))))), k3, c3, u2)
          | none => none
        | none => none
      | none => none
  | ctx, k, c, u, .doWhile body e =>
      -- ND_DO: `c = count(); .L.begin.c: body; cont: cond; cmp_zero; jne .L.begin.c; brk:`
      match compileF tys off toff R ⟨some u, some (u + 1), ctx.sw⟩ k (c + 1) (u + 2) body with
      | some (cb, k1, c1, u1) =>
        (compileJ tys off toff k1 c1 e).map fun (te, ce, k2, c2) =>
          (FI.lbl (.s (.begin_ c)) :: (cb ++ (FI.lbl (.s (.uniq (u + 1))) :: (embs ce ++ (condJump .ne te (.s (.begin_ c)) ++
            [FI.lbl (.s (.uniq u))])))), k2, c2, u1)
      | none => none
  | ctx, k, c, u, .switch_ e body =>
      -- ND_SWITCH: `cond; ladder; body; brk:` (no `count()`; parse.c: condition, `brk_label = new_unique_name()`, body)
      match compileJ tys off toff k c e with
      | some (te, ce, k1, c1) =>
        (compileF tys off toff R ⟨some u, ctx.cont, true⟩ k1 c1 (u + 1) body).map fun (cb, k2, c2, u2) =>
          (embs ce ++ (ladder te (collect (u + 1) body) u ++ (cb ++ [FI.lbl (.s (.uniq u))])), k2, c2, u2)
      | none => none
  | ctx, k, c, u, .case_ _ _ s =>
      -- ND_CASE: `label: stmt`
      if ctx.sw then (compileF tys off toff R ctx k c (u + 1) s).map fun (cs, k1, c1, u1) => (FI.lbl (.s (.uniq u)) :: cs, k1, c1, u1)
      else none
  | ctx, k, c, u, .default_ s =>
      if ctx.sw then (compileF tys off toff R ctx k c (u + 1) s).map fun (cs, k1, c1, u1) => (FI.lbl (.s (.uniq u)) :: cs, k1, c1, u1)
      else none
  | ctx, k, c, u, .brk => ctx.brk.map fun b => ([FI.jmp (.s (.uniq b))], k, c, u)
  | ctx, k, c, u, .cont => ctx.cont.map fun ct => ([FI.jmp (.s (.uniq ct))], k, c, u)
  | _, k, c, u, .ret e =>
      (compileJ tys off toff k c (.cast R e)).map fun (_, cd, k1, c1) => (embs cd ++ [FI.jmp (.s .ret)], k1, c1, u)

/-- the body of a function as `emit_text` prints it between the prologue and the epilogue: `gen_stmt(fn->body)`, then
    `.L.return.<fn>:` -/
def compileFn (tys : List ITy) (off toff : Nat → Int) (R : ITy) (c0 u0 : Nat) (body : FStmt) :
    Option (List FI × Nat × Nat × Nat) :=
  (compileF tys off toff R ⟨none, none, false⟩ 0 c0 u0 body).map fun (cd, k, c, u) => (cd ++ [FI.lbl (.s .ret)], k, c, u)

/-! ### side conditions of the theorem -/

def noConflictO : Option E → Bool
  | none => true
  | some e => noConflict e

def depthO : Option E → Nat
  | none => 0
  | some e => depthJ e

/-- every full expression is free of unsequenced conflicting accesses (C11 6.5p2) -/
def noConflictF : FStmt → Bool
  | .skip | .brk | .cont => true
  | .expr e | .ret e => noConflict e
  | .seq a b => noConflictF a && noConflictF b
  | .ifte c t f => noConflict c && (noConflictF t && noConflictF f)
  | .for_ init c inc b => noConflictO init && (noConflict c && (noConflictO inc && noConflictF b))
  | .doWhile b c => noConflictF b && noConflict c
  | .switch_ e b => noConflict e && noConflictF b
  | .case_ _ _ s => noConflictF s
  | .default_ s => noConflictF s

/-- stack slots the function needs below `%rsp`: the deepest push nesting of any of its expressions -/
def depthF : FStmt → Nat
  | .skip | .brk | .cont => 0
  | .expr e | .ret e => depthJ e
  | .seq a b => max (depthF a) (depthF b)
  | .ifte c t f => max (depthJ c) (max (depthF t) (depthF f))
  | .for_ init c inc b => max (depthO init) (max (depthJ c) (max (depthO inc) (depthF b)))
  | .doWhile b c => max (depthF b) (depthJ c)
  | .switch_ e b => max (depthJ e) (depthF b)
  | .case_ _ _ s => depthF s
  | .default_ s => depthF s

end ChibiVerif.C03Fun
