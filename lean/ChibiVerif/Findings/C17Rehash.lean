/-
C17 — kernel-checked witness that `rehash` must NOT be replaced by an in-place purge that walks
the buckets from 0 (the trial change /verif/seeded/C17d; not a defect of /repo).

The alternative `rehash` below is the seeded code, line by line:

    static void purge_tombstones(HashMap *map, int nkeys) {
      for (i = 0; i < capacity; i++) if (buckets[i].key == TOMBSTONE) buckets[i] = {};
      for (i = 0; i < capacity; i++) {
        ent = buckets[i];  if (!ent.key) continue;
        buckets[i] = {};
        for (j = 0;; j++) { dst = &buckets[(hash(ent.key) + j) % capacity]; if (!dst->key) { *dst = ent; break; } }
      }
      map->used = nkeys;
    }
    rehash: … if (cap == map->capacity) { purge_tombstones(map, nkeys); return; } …copy into a fresh table…

Re-seating in place is sound for a cluster that does not wrap (an entry only moves towards its
home, into a bucket the walk has already passed).  For a cluster that wraps around the end of
the array the walk meets the *tail* of the cluster (buckets 0, 1, …) before its *head* (the last
buckets): the tail entry finds its old bucket again — every bucket between its home and the end
of the array is still occupied — and stays; later the head entries move back over the cleared
tombstone, which leaves an EMPTY bucket between the tail entry's home and the tail entry.  That
breaks invariant (I2) "no empty slot on the probe path of a stored key" (`WF`), the entry is
unreachable, `get` answers "absent" for a name whose last operation was a definition, and after
`#undef` (a no-op now) the next purge makes the name reappear.

`Props/C17.lean` (`C17_rehash_spec`) proves that the real `rehash` re-establishes `WF` for every
well-formed table, wrapping or not.
-/
import ChibiVerif.Lemmas.HashMapLemmas

namespace ChibiVerif.Findings.C17
open ChibiVerif.HashMap
open ChibiVerif.Gen.HashMap (INIT_SIZE HIGH_WATERMARK LOW_WATERMARK)

variable {α β : Type} [DecidableEq α]

/-- first loop of `purge_tombstones`: tombstones become empty buckets -/
def clearTombs (b : List (Slot α β)) : List (Slot α β) :=
  b.map fun s => match s with | .tomb => .empty | s => s

/-- `for (j = 0;; j++)`: the first empty bucket on the probe path of hash `hk` (the C loop has no
    bound; it terminates because bucket `i` was emptied just before; fuel = capacity) -/
def seatLoop (b : List (Slot α β)) (hk : Nat) : Nat → Nat → Option Nat
  | 0, _ => none
  | n + 1, j =>
    let idx := (hk + j) % b.length
    match HM.slotAt b idx with
    | .empty => some idx
    | _ => seatLoop b hk n (j + 1)

/-- second loop of `purge_tombstones`: buckets `i, i+1, …` (`n` left), each live entry taken out
    and put back into the first empty bucket of its probe sequence -/
def purgeWalk (h : α → Nat) : Nat → Nat → List (Slot α β) → Except Crash (List (Slot α β))
  | 0, _, b => .ok b
  | n + 1, i, b =>
    match HM.slotAt b i with
    | .full k v =>
      let b1 := b.set i .empty
      match seatLoop b1 (h k) b1.length 0 with
      | some idx => purgeWalk h n (i + 1) (b1.set idx (.full k v))
      | none => .error .unreachable
    | _ => purgeWalk h n (i + 1) b

/-- `rehash` of the seeded change: same count, same capacity computation; in place when the
    capacity stays, the real copying `rehash` otherwise -/
def rehashInPlace (h : α → Nat) (m : HM α β) : Except Crash (HM α β) := do
  let nkeys := (HM.liveEntries m.buckets).length
  if m.buckets.isEmpty then throw .assertCap
  let cap := HM.growCap nkeys (nkeys + 2) m.buckets.length
  if cap = 0 then throw .assertCap
  if cap = m.buckets.length then
    let b ← purgeWalk h m.buckets.length 0 (clearTombs m.buckets)
    pure ⟨b, nkeys⟩
  else HM.rehash h m

/-- `hashmap_put2` with the in-place `rehash` (identical to `HM.put` otherwise) -/
def putInPlace (h : α → Nat) (m : HM α β) (k : α) (v : β) : Except Crash (HM α β) := do
  let m ←
    if m.buckets.isEmpty then pure (⟨List.replicate INIT_SIZE .empty, m.used⟩ : HM α β)
    else if m.used * 100 / m.buckets.length ≥ HIGH_WATERMARK then rehashInPlace h m
    else pure m
  let p ← HM.insLoop m.buckets (h k) k m.buckets.length 0 none
  pure (HM.applyIns m k v p)

def runInPlace (h : α → Nat) : HM α β → List (Op α β) → Except Crash (HM α β × List (Option β))
  | m, [] => .ok (m, [])
  | m, .put k v :: ops => do runInPlace h (← putInPlace h m k v) ops
  | m, .del k :: ops => do runInPlace h (← m.delete h k) ops
  | m, .get k :: ops => do
    let a ← m.get h k
    let (m', outs) ← runInPlace h m ops
    pure (m', a :: outs)

/-! ### State level: one purge of a wrapping cluster -/

/-- 16 buckets, name `n` hashes to bucket `n mod 16`.  The cluster starts at bucket 14 and wraps:
    bucket 14 a tombstone (name 14, undefined), bucket 15 name 30 (home 14, displaced by one),
    bucket 0 name 15 (home 15, displaced over the end of the array). -/
def wrapState : HM Nat Nat :=
  ⟨[.full 15 3, .empty, .empty, .empty, .empty, .empty, .empty, .empty,
    .empty, .empty, .empty, .empty, .empty, .empty, .tomb, .full 30 2], 3⟩

/-- the state satisfies the representation invariant and holds `15 ↦ 3`, `30 ↦ 2` -/
theorem C17_wrap_state_wf :
    WF (fun k => k) wrapState ∧ absGet wrapState 15 = some 3 ∧ absGet wrapState 30 = some 2 ∧
    (HM.get (fun k => k) wrapState 15).toOption = some (some 3) := by decide +kernel

/-- what one in-place purge makes of it: name 30 moves back to bucket 14, bucket 15 becomes EMPTY,
    name 15 stays in bucket 0 — behind an empty bucket on its own probe path -/
theorem C17_inplace_purge_result :
    (rehashInPlace (fun k => k) wrapState).toOption =
      some ⟨[.full 15 3, .empty, .empty, .empty, .empty, .empty, .empty, .empty,
             .empty, .empty, .empty, .empty, .empty, .empty, .full 30 2, .empty], 2⟩ := by decide +kernel

/-- **The in-place walk from bucket 0 breaks the invariant on a wrapping cluster.**  After the
    purge the table is no longer well formed (I2 fails for name 15: its home bucket 15 is empty,
    the name sits in bucket 0), the name is still stored (`absGet`) but a lookup answers
    "absent"; the real `rehash` on the same state gives a well-formed table in which the lookup
    answers `3`. -/
theorem C17_inplace_purge_breaks_probe_path :
    ((rehashInPlace (fun k => k) wrapState).toOption.map fun m1 =>
        decide (WF (fun k => k) m1)) = some false ∧
    ((rehashInPlace (fun k => k) wrapState).toOption.map fun m1 =>
        (HM.slotAt m1.buckets 15, HM.slotAt m1.buckets 0)) = some (.empty, .full 15 3) ∧
    ((rehashInPlace (fun k => k) wrapState).toOption.map fun m1 => absGet m1 15) = some (some 3) ∧
    ((rehashInPlace (fun k => k) wrapState).toOption.map fun m1 =>
        (HM.get (fun k => k) m1 15).toOption) = some (some none) ∧
    ((HM.rehash (fun k => k) wrapState).toOption.map fun m2 =>
        decide (WF (fun k => k) m2)) = some true ∧
    ((HM.rehash (fun k => k) wrapState).toOption.map fun m2 =>
        ((HM.get (fun k => k) m2 15).toOption, (HM.get (fun k => k) m2 30).toOption)) =
      some (some (some 3), some (some 2)) := by decide +kernel

/-- the same purge on the same cluster one bucket further down (no wrap) is harmless: this is why
    the change survives every history whose clusters stay inside the array -/
theorem C17_inplace_purge_fine_without_wrap :
    let m : HM Nat Nat :=
      ⟨[.empty, .empty, .empty, .empty, .empty, .empty, .empty, .empty,
        .empty, .empty, .empty, .empty, .empty, .tomb, .full 29 2, .full 14 3], 3⟩
    ((rehashInPlace (fun k => k) m).toOption.map fun m1 => decide (WF (fun k => k) m1)) = some true ∧
    ((rehashInPlace (fun k => k) m).toOption.map fun m1 =>
        ((HM.get (fun k => k) m1 14).toOption, (HM.get (fun k => k) m1 29).toOption)) =
      some (some (some 3), some (some 2)) := by decide +kernel

/-! ### History level: a defined name is lost, and an undefined name comes back -/

/-- define 14, 30, 15 (cluster 14 → 15 → 0), undefine 14, then nine define/undefine cycles over
    distinct names (homes 1 … 9): `used` reaches 12 of 16 (75 %) with 2 live names (12 %), so the
    next definition purges without growing -/
def wrapChurn : List (Op Nat Nat) :=
  [.put 14 1, .put 30 2, .put 15 3, .del 14,
   .put 1 1, .del 1, .put 2 1, .del 2, .put 3 1, .del 3, .put 4 1, .del 4, .put 5 1, .del 5,
   .put 6 1, .del 6, .put 7 1, .del 7, .put 8 1, .del 8, .put 9 1, .del 9,
   .put 10 1]

/-- … then undefine 15 and churn again (homes 1 … 9) until the next purge -/
def wrapChurn2 : List (Op Nat Nat) :=
  [.del 15,
   .put 33 1, .del 33, .put 34 1, .del 34, .put 35 1, .del 35, .put 36 1, .del 36, .put 37 1,
   .del 37, .put 38 1, .del 38, .put 39 1, .del 39, .put 40 1, .del 40, .put 41 1, .del 41,
   .put 42 1]

def answersOf (r : Except Crash (HM Nat Nat × List (Option Nat))) : Option (List (Option Nat)) :=
  r.toOption.map (·.2)

/-- **A defined name is lost.**  With the in-place purge, `get 15` after the churn answers
    "absent" although the last operation on 15 was `put 15 3`; the dictionary and the code as it
    is answer `3`.  (Name 30 is still found by both.) -/
theorem C17_inplace_purge_loses_key :
    answersOf (runInPlace (fun k => k) HM.empty (wrapChurn ++ [.get 15, .get 30]))
      = some [none, some 2] ∧
    (arun AMap.empty (wrapChurn ++ [.get 15, .get 30])).2 = [some 3, some 2] ∧
    answersOf (run (fun k => k) HM.empty (wrapChurn ++ [.get 15, .get 30]))
      = some [some 3, some 2] := by decide +kernel

/-- **An undefined name comes back.**  `del 15` cannot find the entry (a no-op); the next purge
    re-seats the stale entry in its now empty home bucket and `get 15` answers `3` although the
    last operation on 15 was a delete. -/
theorem C17_inplace_purge_resurrects_key :
    answersOf (runInPlace (fun k => k) HM.empty (wrapChurn ++ wrapChurn2 ++ [.get 15]))
      = some [some 3] ∧
    (arun AMap.empty (wrapChurn ++ wrapChurn2 ++ [.get 15])).2 = [none] ∧
    answersOf (run (fun k => k) HM.empty (wrapChurn ++ wrapChurn2 ++ [.get 15]))
      = some [none] := by decide +kernel

end ChibiVerif.Findings.C17
