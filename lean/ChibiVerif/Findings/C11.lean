/-
C11 — kernel-checked witnesses.

No open finding.  Recorded here:
 * the identification `long long` = `long` that every C11 type statement carries (two different
   C11 types, one chibicc type);
 * what chibicc does in the region excluded from `C11_int_type` (decimal constant above
   LLONG_MAX without `u`: C11 gives it no standard type; chibicc types it `long`);
 * the repaired defect of preprocess.c `getStringKind` (fix commit in /repo): with the pre-fix test
   (`!strcmp(tok->loc, "u8")`, which compares the rest of the file and is never true) a `u8"…"` token
   was classified like `u"…"`, so the constraint violation `u8"a" u"b"` (6.4.5p2) was not diagnosed
   and `join_adjacent_string_literals` copied 4 bytes into a 3-byte buffer.
 * (not modelled, kept as a regression program in corpus/C11/001-wchar-header.c: include/stddef.h
   declared `wchar_t` as `unsigned int` while `L'x'` has type `int`.)
 * splice transparency without the hypotheses `LiteralOnFirstLine` and "not inside/in front of a BOM" of `C11_text_transparent`
   (`TransparentAsFirstStated` below) is false.  The three minimal counterexamples (each reproduced on the real tokenizer
   through the in-process harness, and replayed by the `file` operations of checklib/C11.py on every run) are the reason for
   those hypotheses.  None of them is a defect with respect to C11: a character constant that contains a new-line is
   undefined (6.4.4.4), a BOM is not part of the standard's source character set, `\u005c` is a constraint violation (6.4.3p2).
 * the latitude of `C11_ppnumber_maximal`: with the full identifier-nondigit class of 6.4.2.1 (`_` included) the
   scan of tokenize() is not maximal — `1_0` is one pp-number for C11 and `1` followed by the identifier `_0` for chibicc.
   No valid constant contains `_`; the difference shows only when `_0` is a macro name (stringification / expansion).
 * an accepts-invalid observation, outside the quantifier of C11 which ranges over literal spellings: because libc `strtoul`
   in base 16 skips a `0x` prefix of its own, `convert_pp_int` accepts the pp-number `0x0x1f` (not an integer constant; gcc:
   "invalid suffix") as the `int` 31; the digit-loop model of `strtoul` that the hand model uses answers "not an integer
   constant" there, the libc model `strtoulC` answers what the real code answers.
-/
import ChibiVerif.Model.Literals
import ChibiVerif.Model.Text
import ChibiVerif.Model.PpNumber
import ChibiVerif.Spec.PpNumberSpec

namespace ChibiVerif.Findings.C11
open ChibiVerif.Gen.Literals
open ChibiVerif.Spec.Literals
open ChibiVerif.Literals

/-- `1L` and `1LL` have different C11 types and the same chibicc type -/
theorem C11_long_long_is_long :
    litType true .l 1 = some .long ∧ litType true .ll 1 = some .llong ∧ IntType.long ≠ IntType.llong ∧
    collapse .long = collapse .llong ∧ collapse .ulong = collapse .ullong := by decide +kernel

/-- 9223372036854775808 (decimal, no suffix) has no type in the C11 list; the ladder answers `long` -/
theorem C11_decimal_above_llong_max :
    litType true .none (2 ^ 63) = none ∧ intLitType 10 false false (BitVec.ofNat 64 (2 ^ 63)) = .ty_long := by decide +kernel

/-- pre-fix `getStringKind`: the `u8` test never succeeded -/
def getStringKindOld (t : StrTok) : Except LitErr StrKind :=
  if byteAt t.src 0 = 34#8 then .ok .none
  else if byteAt t.src 0 = 117#8 then .ok .utf16
  else if byteAt t.src 0 = 85#8 then .ok .utf32
  else if byteAt t.src 0 = 76#8 then .ok .wide
  else .error .unreachable

def resolveKindOld : StrKind → Ty → List StrTok → Except LitErr (StrKind × Ty)
  | kind, basety, [] => .ok (kind, basety)
  | kind, basety, t :: ts => do
    let k ← getStringKindOld t
    if kind = .none then resolveKindOld k t.elem ts
    else if k ≠ .none ∧ kind ≠ k then .error .nonStandardConcat
    else resolveKindOld kind basety ts

def bytesOf (l : List Nat) : List Byte := l.map (BitVec.ofNat 8)

/-- `u8"a"` and `u"b"` as the tokenizer reads them -/
def tokU8a : StrTok := ⟨.ty_char, [97], 5, bytesOf [117, 56, 34, 97, 34]⟩
def tokUb : StrTok := ⟨.ty_ushort, [98], 4, bytesOf [117, 34, 98, 34]⟩

theorem C11_tokens_read :
    lexLiteral (bytesOf [117, 56, 34, 97, 34]) = .ok (.str tokU8a) ∧
    lexLiteral (bytesOf [117, 34, 98, 34]) = .ok (.str tokUb) := by decide +kernel

/-- **Witness of the repaired defect.**  Pre-fix: the run `u8"a" u"b"` passes the first pass with kind
    UTF-16 and element type `char` (so nothing is widened and the second pass copies a 4-byte token into
    a `char` buffer of 3); current code: diagnosed. -/
theorem C11_fixed_u8_kind_witness :
    (getStringKindOld tokU8a >>= fun k => resolveKindOld k tokU8a.elem [tokUb]) = .ok (.utf16, .ty_char) ∧
    joinStrings [tokU8a, tokUb] = .error .nonStandardConcat := by decide +kernel

-- ------------------------------------------------------------------ splice transparency needs its hypotheses

open ChibiVerif.Text in
/-- splice transparency without `LiteralOnFirstLine` and the BOM condition -/
def TransparentAsFirstStated : Prop :=
  ∀ (a b : List Byte), BSL ∉ a → CR ∉ a → CR ∉ b → 0#8 ∉ a → 0#8 ∉ b →
    lexLiteral (phase12 (a ++ BSL :: LF :: b)) = lexLiteral (phase12 (a ++ b))

open ChibiVerif.Text in
/-- **counterexample 1** (minimal: 3 bytes): `'` / newline `'`.  `read_char_literal` closes the constant with `strchr`,
    which runs over newlines; `remove_backslash_newline` re-inserts the deleted newline after the next one, so the token
    (value 10 in both cases) is one byte longer. -/
theorem C11_splice_witness_char :
    lexLiteral (phase12 ([39#8] ++ BSL :: LF :: [10#8, 39#8])) = .ok (.chr 10#64 .ty_int 4) ∧
    lexLiteral (phase12 ([39#8] ++ [10#8, 39#8])) = .ok (.chr 10#64 .ty_int 3) := by decide +kernel

open ChibiVerif.Text in
/-- **counterexample 2**: a splice in front of (or inside) a UTF-8 BOM: `tokenize_file` tests for the BOM before it
    removes splices, so the BOM is not skipped and the text no longer starts with the literal `1`. -/
theorem C11_splice_witness_bom :
    lexLiteral (phase12 ([] ++ BSL :: LF :: [0xEF#8, 0xBB#8, 0xBF#8, 0x31#8])) = .error .notALiteral ∧
    lexLiteral (phase12 ([0xEF#8, 0xBB#8] ++ BSL :: LF :: [0xBF#8, 0x31#8])) = .error .notALiteral ∧
    lexLiteral (phase12 ([] ++ [0xEF#8, 0xBB#8, 0xBF#8, 0x31#8])) = .ok (.int 1#64 .ty_int 1) := by decide +kernel

open ChibiVerif.Text in
/-- **counterexample 3**: `"\u005c` newline `abc"`: `convert_universal_chars` (which runs after the splices are removed)
    produces a backslash in front of the newline and `string_literal_end` steps over the pair; with one more splice on
    the first line the re-inserted newline ends the literal: "unclosed string literal". -/
theorem C11_splice_witness_ucn_backslash :
    lexLiteral (phase12 ([0x22#8] ++ BSL :: LF :: [92#8, 0x75#8, 0x30#8, 0x30#8, 0x35#8, 0x63#8, 10#8, 0x61#8, 0x22#8])) =
      .error .unclosedString ∧
    lexLiteral (phase12 ([0x22#8] ++ [92#8, 0x75#8, 0x30#8, 0x30#8, 0x35#8, 0x63#8, 10#8, 0x61#8, 0x22#8])) =
      .ok (.str ⟨.ty_char, [10, 0x61], 5, [0x22#8, 92#8, 10#8, 0x61#8, 0x22#8]⟩) := by decide +kernel

/-- without those hypotheses the statement is false (witness 1) -/
theorem C11_text_transparent_as_first_stated_is_false : ¬ TransparentAsFirstStated := by
  intro h
  have h1 := h [39#8] [10#8, 39#8] (by decide +kernel) (by decide +kernel) (by decide +kernel) (by decide +kernel) (by decide +kernel)
  rw [C11_splice_witness_char.1, C11_splice_witness_char.2] at h1
  exact absurd h1 (by decide +kernel)

-- ------------------------------------------------------------------ pp-numbers: the stated latitude; strtoul's own 0x prefix

open ChibiVerif.Spec.PpNumber in
/-- **latitude of `C11_ppnumber_maximal`.**  `1_0` is a pp-number of 6.4.8 when identifier-nondigit includes `_` (6.4.2.1), and the
    translated scan stops after `1` -/
theorem C11_ppnumber_latitude :
    PPNumber isNondigitC11 [0x31#8, 0x5F#8, 0x30#8] ∧
    ChibiVerif.Gen.PpNum.ppNumberStart [0x31#8, 0x5F#8, 0x30#8] 0 = true ∧
    ChibiVerif.Gen.PpNum.ppNumberEnd [0x31#8, 0x5F#8, 0x30#8] 0 = 1 := by
  refine ⟨?_, by decide +kernel, by decide +kernel⟩
  exact .appDigit [0x31#8, 0x5F#8] 0x30#8 (.appNondigit [0x31#8] 0x5F#8 (.digit 0x31#8 (by decide +kernel)) (by decide +kernel)) (by decide +kernel)

/-- `0x0x1f`: the translated `convert_pp_int` with the libc model of `strtoul` accepts it as the `int` 31 (so does the real
    code: `int 307830783166` of the check's protocol); with the digit loop of the hand model it is not an integer constant -/
theorem C11_strtoul_second_prefix :
    ChibiVerif.PpNumber.convertPpIntC [48#8, 120#8, 48#8, 120#8, 0x31#8, 0x66#8] 0 6 = some (31#64, .ty_int) ∧
    convertPpInt [48#8, 120#8, 48#8, 120#8, 0x31#8, 0x66#8] = none := by decide +kernel

end ChibiVerif.Findings.C11
