/-
C10, `#if` lines as tokens: kernel-checked witnesses (by `decide +kernel`).

* repaired defect (tokenize.c, UTF-32 character literal; found by the token-line correspondence of checklib/C10.py): the token
  of `U'\xFFFFFFFF'` carried the sign-extended value of the `int` that read_char_literal returns; eval_const_expr retypes it
  to unsigned long, so in `#if` it was 0xFFFFFFFFFFFFFFFF and `#if U'\xFFFFFFFF' == 0xFFFFFFFF` was false.  After the repair
  (`cur->val = (uint32_t)cur->val;`) the token carries 0xFFFFFFFF.
* latitude, not claimed by `C10_ifline` (`ifRegion`): chibicc's eval() of a comma operator evaluates only the right operand, so
  `#if (1/0, 2)` is accepted and true; C11 6.6p3 makes an evaluated comma a constraint violation (gcc -pedantic-errors rejects
  it, plain gcc reports the division by zero).
-/
import ChibiVerif.Model.IfParse

namespace ChibiVerif.Findings.C10
open ChibiVerif.CondIncl ChibiVerif.PPExpr ChibiVerif.IfParse

/-- `U'\xFFFFFFFF' == 0xFFFFFFFF`: with the token value of the code before the repair both evaluators say false, with the
    repaired value both say true (C11 6.4.4.4p9/p11: the value of a `U` constant is that of char32_t, 0xFFFFFFFF) -/
theorem C10_repaired_char32_bit31 :
    (ifParse [.num 0xFFFFFFFFFFFFFFFF true, .punct "==", .num 0xFFFFFFFF false]).map (fun t => (evC t.toExpr [], ev t.toExpr []))
      = .ok (.ok false, .ok false) ∧
    (ifParse [.num 0xFFFFFFFF true, .punct "==", .num 0xFFFFFFFF false]).map (fun t => (evC t.toExpr [], ev t.toExpr []))
      = .ok (.ok true, .ok true) := by decide +kernel

/-- `( 1 / 0 , 2 )`: the parser builds ND_COMMA, chibicc's evaluation takes the right operand only and accepts the line -/
theorem C10_witness_comma_left_operand_unevaluated :
    ifParse [.punct "(", .num 1 false, .punct "/", .num 0 false, .punct ",", .num 2 false, .punct ")"]
      = .ok (.comma (.bin .div (.num 1 false) (.num 0 false)) (.num 2 false)) ∧
    evC (PT.comma (.bin .div (.num 1 false) (.num 0 false)) (.num 2 false)).toExpr [] = .ok true ∧
    (PT.comma (.bin .div (.num 1 false) (.num 0 false)) (.num 2 false)).hasComma = true := by decide +kernel

end ChibiVerif.Findings.C10
