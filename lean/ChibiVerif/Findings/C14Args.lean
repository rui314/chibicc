/-
C14 — kernel-checked witnesses of three ORIGINAL defects of main.c's argument parser and of cc1's dependency output,
all repaired in /repo by `fix:` commits (f14f730, 3aee6b1, b04aa01).  The pre-fix tables are written out here and run
through the SAME semantics as the regenerated ones (Model/C14Args.lean `parseWith`, Model/C14Compose.lean `cc1Steps`),
and the table checks that prove `C14_args_total` / `C14_deps_written_last` on the repaired text are shown to FAIL on them.

(A) f14f730: `take_arg` did not list `-MQ`, `-D`, `-U`.  `chibicc x.c -D` passed the NULL behind argv to `define()`.
(B) 3aee6b1: `take_arg` listed `-I`, but the ladder had only the joined form `-I<dir>`: the pass that checks for missing
    arguments skipped the word after a bare `-I`, the option loop did not, and `chibicc x.c -I -D` again passed NULL to
    `define()` (SIGSEGV on the real binary); `-L`, `-cc1-input`, `-cc1-output` evaluated `argv[++i]` without being listed:
    `chibicc x.c -L` stored a NULL in `ld_extra_args`, which cut the linker's command line short.
(C) b04aa01: cc1 wrote the dependency file right after `preprocess()`, before `parse()`/`codegen()`: `chibicc -c -MD bad.c`
    (syntax error) exited with status 1 and left `bad.d` behind; and the write was never checked (`-MF /dev/full`: status 0).
-/
import ChibiVerif.Model.C14Compose

namespace ChibiVerif.Findings.C14
open ChibiVerif.C14Args ChibiVerif.C14Compose
open ChibiVerif.Gen.C14Args

/-- the ladder before 3aee6b1: no separate-form arm for `-I` -/
def ladderOld : List Arm := ladder.filter (fun a => a.tests != [.eq "-I"])

/-- `take_arg`'s list before f14f730 … -/
def takeArgA : List String := ["-o", "-I", "-idirafter", "-include", "-x", "-MF", "-MT", "-Xlinker"]
/-- … and between f14f730 and 3aee6b1 -/
def takeArgB : List String := ["-o", "-I", "-idirafter", "-include", "-x", "-MF", "-MT", "-MQ", "-Xlinker", "-D", "-U"]

/-- (A) `chibicc x.c -D`, `-U`, `-MQ` before f14f730: NULL dereference; the table check fails -/
theorem C14_repaired_missing_arg_D :
    parseWith takeArgA ladderOld optXTable st0 ["x.c", "-D"] = .nullDeref "define" ∧
    parseWith takeArgA ladderOld optXTable st0 ["x.c", "-U"] = .nullDeref "undef_macro" ∧
    parseWith takeArgA ladderOld optXTable st0 ["x.c", "-MQ"] = .nullDeref "quote_makefile" ∧
    inSync takeArgA ladderOld = false := by decide +kernel

/-- (B) `chibicc x.c -I -D` (also `-I -U`, `-I -x`, `-I -MQ`) between f14f730 and 3aee6b1: the two passes fall out of step -/
theorem C14_repaired_bare_I :
    parseWith takeArgB ladderOld optXTable st0 ["x.c", "-I", "-D"] = .nullDeref "define" ∧
    parseWith takeArgB ladderOld optXTable st0 ["x.c", "-I", "-x"] = .nullDeref "parse_opt_x" ∧
    parseWith takeArgB ladderOld optXTable st0 ["x.c", "-D"] = .usage 1 ∧
    inSync takeArgB ladderOld = false ∧
    unguardedArms takeArgB ladderOld = [[.eq "-cc1-input"], [.eq "-cc1-output"], [.eq "-L"]] := by decide +kernel

/-- (B) `chibicc x.c -L` before 3aee6b1: the NULL lands in `ld_extra_args` and truncates the linker's command line
    (everything after `-L`, the inputs included, is gone) -/
theorem C14_repaired_trailing_L :
    (match parseWith takeArgB ladderOld optXTable st0 ["x.c", "-L"] with
     | .ok st => (st.arr "ld_extra_args", (ldArgv st "/lib" "/gcc" ["/tmp/t1"] "a.out").getLast?)
     | _ => ([], none)) = ([some "-L", none], some "-L") := by decide +kernel

/-- repaired: the same words are `usage(1)`, and `-I dir` is an include directory -/
theorem C14_repaired_args_new :
    parseArgs ["x.c", "-D"] = .usage 1 ∧ parseArgs ["x.c", "-L"] = .usage 1 ∧ parseArgs ["x.c", "-I"] = .usage 1 ∧
    (match parseArgs ["x.c", "-I", "-D"] with
     | .ok st => (st.arr "include_paths", st.arr "input_paths")
     | _ => ([], [])) = ([some "-D"], [some "x.c"]) := by decide +kernel

/-- (C) cc1 after `preprocess()` before b04aa01: `print_dependencies()` opened and wrote the file at once -/
def cc1PlanOld : List Cc1Step := [
  .ifAny ["opt_M", "opt_MD"] [.collectDeps, .writeDeps, .ifAny ["opt_M"] [.ret]],
  .ifAny ["opt_E"] [.printTokens, .ret],
  .parse,
  .codegen,
  .writeOutput
]

/-- (C) under `-MD` the dependency file was written BEFORE the steps that can fail; the discipline check fails -/
theorem C14_repaired_deps_before_parse :
    (cc1Steps (flagFn (false, true, false)) cc1PlanOld).1 = [.collectDeps, .writeDeps, .parse, .codegen, .writeOutput] ∧
    traceOK true (cc1Steps (flagFn (false, true, false)) cc1PlanOld).1 = false ∧
    traceOK true (cc1Trace (flagFn (false, true, false))) = true := by decide

end ChibiVerif.Findings.C14
