/-
C17 — kernel-checked witness of the ORIGINAL defect in hashmap.c
(`get_or_insert_entry` reused the first tombstone on the probe path immediately,
without checking whether the key is stored further down the path).  The defect is
repaired in /repo by a `fix:` commit; `Model/HashMap.lean` models the repaired code
and `Props/C17.lean` proves it correct.  This file keeps the pre-fix loop as
`insLoopOld` and shows, by evaluation in the kernel (`decide`), a six-operation
history on which the pre-fix code answers a lookup of a deleted key with a stale
value, whereas the abstract dictionary and the repaired code answer "absent".

Pre-fix loop body (chibicc as published):

    if (match(ent, key, keylen)) return ent;
    if (ent->key == TOMBSTONE) { ent->key = key; ent->keylen = keylen; return ent; }
    if (ent->key == NULL) { ent->key = key; ent->keylen = keylen; map->used++; return ent; }
-/
import ChibiVerif.Model.HashMap

namespace ChibiVerif.Findings.C17
open ChibiVerif.HashMap
open ChibiVerif.Gen.HashMap (INIT_SIZE HIGH_WATERMARK LOW_WATERMARK)

variable {α β : Type} [DecidableEq α]

/-- the pre-fix probe loop of `get_or_insert_entry`: the first tombstone is taken
    immediately -/
def insLoopOld (b : List (Slot α β)) (hk : Nat) (k : α) : Nat → Nat → Except Crash HM.InsPos
  | 0, _ => .error .unreachable
  | n+1, i =>
    let idx := (hk + i) % b.length
    match HM.slotAt b idx with
    | .full k' _ => if k' = k then .ok (.found idx) else insLoopOld b hk k n (i+1)
    | .tomb => .ok (.reuse idx)
    | .empty => .ok (.fresh idx)

/-- `hashmap_put2` inside `rehash`, pre-fix loop -/
def putNoRehashOld (h : α → Nat) (m : HM α β) (k : α) (v : β) : Except Crash (HM α β) :=
  if m.buckets.isEmpty then .error .assertCap
  else if m.used * 100 / m.buckets.length ≥ HIGH_WATERMARK then .error .nestedRehash
  else do
    let p ← insLoopOld m.buckets (h k) k m.buckets.length 0
    pure (HM.applyIns m k v p)

/-- `rehash`, pre-fix loop (identical to `HM.rehash` otherwise) -/
def rehashOld (h : α → Nat) (m : HM α β) : Except Crash (HM α β) := do
  let live := HM.liveEntries m.buckets
  let nkeys := live.length
  if m.buckets.isEmpty then throw .assertCap
  let cap := HM.growCap nkeys (nkeys + 2) m.buckets.length
  if cap = 0 then throw .assertCap
  let m2 : HM α β := ⟨List.replicate cap .empty, 0⟩
  let m2 ← live.foldlM (fun acc kv => putNoRehashOld h acc kv.1 kv.2) m2
  if m2.used ≠ nkeys then throw .assertUsed
  pure m2

/-- `hashmap_put2`, pre-fix loop (identical to `HM.put` otherwise) -/
def putOld (h : α → Nat) (m : HM α β) (k : α) (v : β) : Except Crash (HM α β) := do
  let m ←
    if m.buckets.isEmpty then pure (⟨List.replicate INIT_SIZE .empty, m.used⟩ : HM α β)
    else if m.used * 100 / m.buckets.length ≥ HIGH_WATERMARK then rehashOld h m
    else pure m
  let p ← insLoopOld m.buckets (h k) k m.buckets.length 0
  pure (HM.applyIns m k v p)

/-- `step` with the pre-fix `put`; `get` and `delete` were not changed by the fix -/
def stepOld (h : α → Nat) (m : HM α β) : Op α β → Except Crash (HM α β × Option (Option β))
  | .put k v => do pure (← putOld h m k v, none)
  | .del k => do pure (← m.delete h k, none)
  | .get k => do pure (m, some (← m.get h k))

def runOld (h : α → Nat) : HM α β → List (Op α β) → Except Crash (HM α β × List (Option β))
  | m, [] => .ok (m, [])
  | m, op :: ops => do
    let (m', o) ← stepOld h m op
    let (m'', outs) ← runOld h m' ops
    pure (m'', match o with | some a => a :: outs | none => outs)

/-- the answers of a run, `none` if it crashed -/
def answers (r : Except Crash (HM α β × List (Option β))) : Option (List (Option β)) :=
  match r with
  | .ok (_, outs) => some outs
  | .error _ => none

/-- Every key hashes to bucket 5.  Keys 9 and 12 collide; 12 is displaced behind 9;
    deleting 9 leaves a tombstone in front of 12; the pre-fix `put 12 3` writes a second
    copy of 12 into the tombstone; `del 12` removes only that copy; `get 12` then finds
    the stale first copy. -/
def witnessOps : List (Op Nat Nat) :=
  [.put 9 1, .put 12 2, .del 9, .put 12 3, .del 12, .get 12]

/-- the pre-fix code answers `some 2` for a key whose most recent operation was a delete -/
theorem C17_witness_old :
    answers (runOld (fun _ => 5) HM.empty witnessOps) = some [some 2] := by decide +kernel

/-- the abstract dictionary answers "absent" -/
theorem C17_witness_abstract : (arun AMap.empty witnessOps).2 = [none] := by decide +kernel

/-- the repaired code (the model proved correct in `Props/C17.lean`) answers "absent" -/
theorem C17_witness_current :
    answers (run (fun _ => 5) HM.empty witnessOps) = some [none] := by decide +kernel

/-- **Witness of the repaired defect.**  On the history
    `put 9 1; put 12 2; del 9; put 12 3; del 12; get 12` (all keys hash to 5) the pre-fix
    code runs without crashing and answers `[some 2]`; the abstract dictionary answers
    `[none]`; the current model runs without crashing and answers `[none]`. -/
theorem C17_fixed_tombstone_witness :
    answers (runOld (fun _ => 5) HM.empty
        [.put 9 1, .put 12 2, .del 9, .put 12 3, .del 12, .get 12]) = some [some 2] ∧
    (arun (AMap.empty : AMap Nat Nat)
        [.put 9 1, .put 12 2, .del 9, .put 12 3, .del 12, .get 12]).2 = [none] ∧
    answers (run (fun _ => 5) HM.empty
        [.put 9 1, .put 12 2, .del 9, .put 12 3, .del 12, .get 12]) = some [none] := by
  decide +kernel

/-- the two copies of key 12 after the fourth operation of the pre-fix run: slot 5
    (the reused tombstone) and slot 6 (the original) -/
theorem C17_witness_duplicate :
    (runOld (fun _ => 5) (HM.empty : HM Nat Nat) (witnessOps.take 4)).toOption.map
        (fun r => (HM.slotAt r.1.buckets 5, HM.slotAt r.1.buckets 6)) =
      some (.full 12 3, .full 12 2) := by decide +kernel

end ChibiVerif.Findings.C17
