/-
C04 — kernel-checked witnesses.

1. Repaired defects of the bit-field arms (fix: commits in /repo, recorded in known_findings.json): the witnesses that
   failed on the pinned tree, evaluated on the model of the code as it is now.
2. Documented limits of the theorems in Props/C04.lean, shown to be sharp:
   * alignments above 16 on automatic objects (finding `C04-overaligned-auto`): assign_lvar_offsets makes the offset
     from %rbp a multiple of the alignment, but %rbp is only 16-byte aligned; `C04_frame_aligned` proves min(align, 16),
     `C04_finding_overaligned_sharp` that nothing more holds for any function with such an object;
   * alloca / VLA requests of 2^32 - 15 bytes or more are truncated by `and $0xfffffff0, %edi`.
-/
import ChibiVerif.Model.BitField
import ChibiVerif.Spec.C04Spec
import ChibiVerif.Model.Frame
import ChibiVerif.Model.Alloca
import ChibiVerif.Props.C04

namespace ChibiVerif.Findings.C04
open ChibiVerif.BitField ChibiVerif.Spec.C04 ChibiVerif.Frame ChibiVerif.Alloca ChibiVerif.Gen.C04

/-! ### repaired: `_Bool f:1; s.f = 1; s.f` read -1 (the load arm used `sar` because ty_bool is not `is_unsigned`) -/
theorem C04_fixed_bool_bitfield : bfLoadT .bool 1 0 (bfAssignT .bool 1 0 0#8 1#64).unit = 1#64 := by decide
/-- what the pinned tree computed: an arithmetic shift of the 1-bit field -/
theorem C04_pinned_bool_bitfield : extract 1 0 false false (loadUnit .b1 false 1#8) = (-1 : BitVec 64) := by decide

/-! ### repaired: widths 32..63 did not assemble (`and $4294967295, %rdi`); the mask goes through %r9 -/
theorem C04_fixed_wide_mask_text :
    (assignSeq .uint 32 0).take 3 =
      [.ins ⟨"mov", [.r "%rax", .r "%rdi"]⟩, .ins ⟨"mov", [.i 4294967295, .r "%r9"]⟩, .ins ⟨"and", [.r "%r9", .r "%rdi"]⟩] := by
  decide
theorem C04_fixed_wide_field : bfLoadT .long 33 31 (bfAssignT .long 33 31 0#64 (-3 : BitVec 64)).unit = (-3 : BitVec 64) := by decide

/-! ### repaired: `long x:64` stores were lost (host `1L << 64`): the mask is all ones -/
theorem C04_fixed_width64_mask : bfMask 64 = (-1 : BitVec 64) := by decide
theorem C04_fixed_width64 :
    (bfAssignT .long 64 0 0x1111111111111111#64 0x7fffffffffffffff#64).unit.toNat = 0x7fffffffffffffff := by decide
/-- the pinned tree's mask for width 64 (x86 takes the shift count modulo 64): every store kept the old content -/
theorem C04_pinned_width64_mask : ((1 : BitVec 64) <<< (64 % 64)) - 1 = 0 := by decide

/-! ### repaired: `(s.a = 9)` with `int a:3` was 9 (the saved right operand); the field is re-extracted -/
theorem C04_fixed_assign_value : (bfAssignT .int 3 0 0#32 9#64).rax = 1#64 ∧ (bfAssignT .uint 5 3 0#32 0x3f#64).rax = 31#64 := by decide

/-! ### finding C04-overaligned-auto -/

/-- `_Alignas(32) char a;` gets offset -32 from %rbp (a multiple of 32, as `C04_frame_disjoint` states) … -/
theorem C04_finding_overaligned_offset :
    (assignLvarOffsets [⟨1, 32, false, false⟩, ⟨8, 8, false, false⟩] []).offsets = [-32, -40] := by decide
/-- … but %rbp is only guaranteed to be a multiple of 16: with %rbp = 16 (mod 32) the object is misaligned.
    The frame theorem cannot be strengthened to absolute alignment for alignments that do not divide 16. -/
theorem C04_finding_overaligned_auto : ∃ rbp : Int, rbp % 16 = 0 ∧ (rbp + (-32)) % 32 ≠ 0 := ⟨48, by decide⟩

/-- the limit of `C04_frame_aligned` is sharp for **every** frame, not only for the witness: whatever the function, an
    object of the frame whose alignment is a power of two above 16 is misaligned when %rbp ≡ 16 modulo that alignment
    (witness: %rbp = 16) — which the psABI allows, it only promises a multiple of 16.  So no statement stronger than
    `min(align, 16)` holds for any function that has such an object. -/
theorem C04_finding_overaligned_sharp (body params : List Var) (hwf : ∀ v ∈ body ++ params, 0 ≤ v.size ∧ 0 < v.align)
    (s : Slot) (hs : s ∈ frameSlots body params) (hst : s.stack = false) (k : Nat) (hk : 5 ≤ k) (hal : s.align = 2 ^ k) :
    ∃ rbp : Int, rbp % 16 = 0 ∧ (rbp + s.off) % s.align ≠ 0 := by
  obtain ⟨_, _, _, h⟩ := ChibiVerif.Props.C04.C04_frame_disjoint body params hwf
  obtain ⟨_, _, h3⟩ := (h s hs).2 hst
  refine ⟨16, by decide, ?_⟩
  have hge : (32 : Int) ≤ s.align := by
    obtain ⟨j, rfl⟩ : ∃ j, k = 5 + j := ⟨k - 5, by omega⟩
    have e : (2 : Int) ^ (5 + j) = 32 * 2 ^ j := by rw [Int.pow_add]; rfl
    have : (0 : Int) < 2 ^ j := Int.pow_pos (by decide)
    rw [hal, e]; omega
  rw [Int.add_emod, h3, Int.add_zero, Int.emod_emod_of_dvd _ (Int.dvd_refl _), Int.emod_eq_of_lt (by decide) (by omega)]
  decide

/-- the witness frame is an instance -/
example : (⟨-32, 1, 32, false⟩ : Slot) ∈ frameSlots [⟨1, 32, false, false⟩, ⟨8, 8, false, false⟩] [] := by decide

/-- `and $-A, reg` on a non-wrapping address: round down to a multiple of `A` -/
def _root_.ChibiVerif.Frame.roundDown (z A : Int) : Int := z - z % A

/- The sketch below covers locals only: as written it breaks parameters of an over-aligned struct type, which `store_gp` /
   `store_fp` save at `var->offset` directly (candidates/C04-overaligned-auto.NOTE). -/
/-- **what a small repair would give** (sketch; /repo is unchanged, so the finding stands): reserve `size + (A - 16)` bytes
    for an object with alignment `A = 2^k > 16` in a 16-aligned slot at `x` and address it as `(x + (A - 16)) & -A`
    (`lea off(%rbp), reg; add $(A-16), reg; and $-A, reg` at the four places that take a local's address).  Then the object
    is `A`-aligned for every psABI-conforming %rbp and stays inside its slot: -/
theorem C04_repair_overaligned_arith (x A : Int) (k : Nat) (hk : 4 ≤ k) (hA : A = 2 ^ k) (hx : x % 16 = 0) (size : Int) :
    roundDown (x + (A - 16)) A % A = 0 ∧ x ≤ roundDown (x + (A - 16)) A ∧
    roundDown (x + (A - 16)) A + size ≤ x + (size + (A - 16)) := by
  obtain ⟨B, hB, e⟩ := pow_eq_16_mul k hk
  rw [e] at hA
  obtain ⟨m, hm⟩ := Int.dvd_of_emod_eq_zero hx
  -- z = x + A - 16 = 16 * (m + B - 1)
  have hz : x + (A - 16) = 16 * (m + B - 1) := by rw [hA, hm]; omega
  have hmod : (x + (A - 16)) % A = 16 * ((m + B - 1) % B) := by
    rw [hz, hA, Int.mul_emod_mul_of_pos _ _ (by decide : (0 : Int) < 16)]
  have h1 := Int.emod_nonneg (m + B - 1) (by omega : B ≠ 0)
  have h2 := Int.emod_lt_of_pos (m + B - 1) hB
  have hApos : (0 : Int) < A := by omega
  unfold roundDown
  refine ⟨?_, ?_, ?_⟩
  · have : (x + (A - 16) - (x + (A - 16)) % A) % A = 0 := by
      rw [Int.sub_emod, Int.emod_emod_of_dvd _ (Int.dvd_refl A), Int.sub_self]; rfl
    exact this
  · rw [hmod]; omega
  · have := Int.emod_nonneg (x + (A - 16)) (by omega : A ≠ 0)
    omega

/-- e.g. `_Alignas(64)` in a slot at 4112 (= 16 mod 64): the object goes to 4160 -/
example : roundDown (4112 + (64 - 16)) 64 = 4160 := by decide

/-! ### limit of alloca: the bound `n < 2^32 - 15` of `C04_alloca_size` is sharp -/
theorem C04_limit_alloca_truncates : allocaSize (BitVec.ofNat 64 (2 ^ 32 - 15)) = 0 ∧ allocaSize (BitVec.ofNat 64 (2 ^ 32 + 1)) = 16 := by
  decide

end ChibiVerif.Findings.C04
