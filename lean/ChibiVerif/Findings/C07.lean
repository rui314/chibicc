/- C07: kernel-checked witnesses (every `theorem` here is closed by `decide +kernel`: the kernel evaluates the translated folder). -/
import ChibiVerif.Model.ConstElabF
import ChibiVerif.Model.HostFpX86

namespace ChibiVerif.Findings.C07
open ChibiVerif.Host ChibiVerif.Gen.ConstEval ChibiVerif.Spec.Const ChibiVerif.ConstElab

/-! ## Repaired: `is_const_expr` evaluated the condition of a `?:` sitting in an unevaluated operand of `&&` / `||` -/

/-- `1 || (1/0 ? 1 : 2)` -/
def unevaluatedCond : CExpr :=
  .lor (.lit .i32 1) (.cond (.bin .div (.lit .i32 1) (.lit .i32 0)) (.lit .i32 1) (.lit .i32 2))

/-- it is an integer constant expression with the value 1 (C11 6.6p3 footnote 115: the right operand is not evaluated), the
    folder agrees, and `is_const_expr` now accepts it (`int a[1 || (1/0 ? 1 : 2)];` was rejected with the division
    diagnostic before the fix; regression witness) -/
theorem C07_fixed_unevaluated_cond :
    Spec.Const.eval unevaluatedCond = some 1 ∧ eval2 .wrapping noFp (elabE unevaluatedCond) false = .ok 1#64 ∧
    isConstExpr .wrapping noFp (elabE unevaluatedCond) = .ok true := by decide +kernel

/-! ## The host arithmetic of the folder: C11-defined `unsigned long` expressions execute host-undefined signed overflow -/

/-- `0x7fffffffffffffffUL + 1` has the C11 value 2^63; the folder computes it as `int64_t + int64_t`: undefined in the host's
    abstract machine (strict), the right bits on a wrapping host -/
theorem C07_host_signed_overflow :
    Spec.Const.eval (.bin .add (.lit .u64 9223372036854775807) (.lit .i32 1)) = some 9223372036854775808 ∧
    eval2 .strict noFp (elabE (.bin .add (.lit .u64 9223372036854775807) (.lit .i32 1))) false
      = .error (.hostUB "signed overflow in +") ∧
    eval2 .wrapping noFp (elabE (.bin .add (.lit .u64 9223372036854775807) (.lit .i32 1))) false
      = .ok (BitVec.ofInt 64 9223372036854775808) := by decide +kernel

/-- same for `-`, `*`, unary `-` and `<<` on `unsigned long` -/
theorem C07_host_signed_overflow_others :
    eval2 .strict noFp (elabE (.bin .sub (.lit .u64 9223372036854775808) (.lit .u64 1))) false = .error (.hostUB "signed overflow in -") ∧
    eval2 .strict noFp (elabE (.bin .mul (.lit .u64 4294967296) (.lit .u64 4294967296))) false = .error (.hostUB "signed overflow in *") ∧
    eval2 .strict noFp (elabE (.un .neg (.lit .u64 9223372036854775808))) false = .error (.hostUB "signed overflow in unary -") ∧
    eval2 .strict noFp (elabE (.bin .shl (.lit .u64 1) (.lit .i32 63))) false = .error (.hostUB "signed overflow in <<") := by decide +kernel

/-! ## Repaired defects of the pinned tree (regression witnesses: these now evaluate to the C11 value) -/

/-- `long x = -1 + 0;` folded to 4294967295 -/
theorem C07_fixed_minus_one :
    eval2 .wrapping noFp (elabE (.bin .add (.un .neg (.lit .i32 1)) (.lit .i32 0))) false = .ok (BitVec.ofInt 64 (-1)) := by decide +kernel
/-- `~0u >> 1` folded to 0xffffffff -/
theorem C07_fixed_not_shr :
    eval2 .wrapping noFp (elabE (.bin .shr (.un .bitnot (.lit .u32 0)) (.lit .i32 1))) false = .ok 2147483647#64 := by decide +kernel
/-- `(_Bool)256` folded to 0 -/
theorem C07_fixed_bool_cast : eval2 .wrapping noFp (elabE (.cast .bool (.lit .i32 256))) false = .ok 1#64 := by decide +kernel
/-- `int x = 1/0;` killed cc1 with SIGFPE -/
theorem C07_fixed_div_zero :
    eval2 .wrapping noFp (elabE (.bin .div (.lit .i32 1) (.lit .i32 0))) false
      = .error (.diag "division by zero in a constant expression") := by decide +kernel
/-- `int a[7 % 4]` became a VLA -/
theorem C07_fixed_mod_const : isConstExpr .wrapping noFp (elabE (.bin .mod (.lit .i32 7) (.lit .i32 4))) = .ok true := by decide +kernel
/-- `static _Bool b = 2;` stored 2 -/
theorem C07_fixed_bool_init : storeGvar .wrapping noFp (descr .bool) (elabE (.lit .i32 2)) 2#64 = .ok 1#64 := by decide +kernel

/-! ## Floating folding, kernel-evaluated on the software FPU (`SoftFp.softHost`: real binary32 / binary64 / x87 formats) -/

section float
open ChibiVerif.Spec.ConstF ChibiVerif.SoftFp

/-- `1.8e19` as the tokenizer holds it (a `double` constant: fval = 0x403e f9cc d8a1 c508 0000) -/
def c1_8e19 : AExpr := .flit .f64 0x403ef9ccd8a1c5080000#80

/-- **Repaired (6a09034)**: `static unsigned long a = 1.8e19;` (a floating initializer of an unsigned long object, no cast node)
    was folded through `int64_t` — `eval2` on the raw floating node, the x86 integer indefinite 0x8000000000000000 — while the
    run-time conversion gives 18000000000000000000.  `write_gvar_data` now converts such an initializer with
    `(uint64_t)eval_double(init->expr)`: the scalar path stores the C11 value; the old path, still expressible in the model,
    does not (regression witness). -/
theorem C07_fixed_float_init_u64 :
    storeGvarScalar .wrapping softHost (descr .u64) (elabA c1_8e19) = .ok 18000000000000000000#64 ∧
    (eval2 .wrapping softHost (elabA c1_8e19) true >>= fun v => storeGvar .wrapping softHost (descr .u64) (elabA c1_8e19) v)
      = .ok 0x8000000000000000#64 := by decide +kernel

/-- **Repaired (d20bf97)**: `(unsigned long)1.8e19` and `(unsigned long)9223372036854775808.0` fold to the run-time value
    (the ND_CAST arm converts a floating operand of an unsigned 8-byte cast with `(uint64_t)eval_double`) -/
theorem C07_fixed_cast_u64 :
    eval2 .wrapping softHost (elabA (.cast (.int .u64) c1_8e19)) false = .ok 18000000000000000000#64 ∧
    eval2 .wrapping softHost (elabA (.cast (.int .u64) (.flit .f64 0x403e8000000000000000#80))) false = .ok 9223372036854775808#64 ∧
    Spec.ConstF.eval ops (.cast (.int .u64) c1_8e19) = some (.int 18000000000000000000) := by decide +kernel

/-- instances of `C07_fold_float` on the real formats: `1.0f / 3.0f` (one single-precision division, 0x3eaaaaab),
    `0.1 + 0.2` (0x3fd3333333333334, not 0.3), `(float)16777217` (rounds to 16777216), `0.1f == 0.1` (false) -/
theorem C07_float_instances :
    storeGvarF32 .wrapping softHost (elabA (.bin .div (.flit .f32 0x3fff8000000000000000#80) (.flit .f32 0x4000c000000000000000#80)))
      = .ok 0x3eaaaaab#32 ∧
    storeGvarF64 .wrapping softHost (elabA (.bin .add (.flit .f64 0x3ffbccccccccccccd000#80) (.flit .f64 0x3ffcccccccccccccd000#80)))
      = .ok 0x3fd3333333333334#64 ∧
    storeGvarF32 .wrapping softHost (elabA (.cast (.flt .f32) (.ilit .i32 16777217))) = .ok 0x4b800000#32 ∧
    eval2 .wrapping softHost (elabA (.bin .eq (.flit .f32 0x3ffbcccccd0000000000#80) (.flit .f64 0x3ffbccccccccccccd000#80))) false = .ok 0#64 := by
  decide +kernel

end float

end ChibiVerif.Findings.C07
