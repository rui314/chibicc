/-
C05 — kernel-checked witnesses.

1. Known finding `C05-brace-override-keeps-old`: a brace-enclosed initializer list for a sub-object that an earlier initializer of the
   same declaration already initialised must replace that sub-object as a whole (C11 6.7.9p19, p21); parse.c re-uses the existing
   `Initializer` node and only overwrites the members the new list mentions.
      struct In { int a, b; }; struct S { struct In in; int z; } s = { .in = {1, 2}, .in = {3}, 9 };
   model (= chibicc): in.b == 2;  specification (= gcc): in.b == 0.
   The witness lies in the region `InitSpec.BraceOverride`, outside which `C05_parse_spec_partial` is stated.

   (The region is exact for unions: a designator for a non-first union member inside fresh braces - `union U u = { .b = 2 }` -
   is not counted as a member switch.)

2. Finding (region `InitSpec.AggExprOverride`): after an initializer that is an expression of struct
   type, a later initializer of the same list for a MEMBER of that struct reached without a member designator is stored in
   the tree but never executed: `struct_initializer2` leaves `init->expr` set, and `create_lvar_init` copies the whole
   expression and ignores the children.
      struct T { int a, b; } y = {5, 6};   struct T x[1] = { [0] = y, [0] = 1 };
   chibicc: x[0] == {5, 6};  gcc (and 6.7.9p19: the later initializer overrides): x[0].a == 1.
   (`designation()` does reset `init->expr` for `.member` designators of a struct - `{ [0] = y, [0].b = 1 }` is right - but not
   for a union, and the positional/elided path never does.)

3. Note (region `InitSpec.WideRange`): GNU range designators.  chibicc parses the initializer of `[a ... b]` once per element, so
   an elided continuation lands in every element; gcc (the specification) stores one initializer in every element and continues
   after the last:   struct P { int a, b; } x[2] = { [0 ... 1] = 1, 2 };   chibicc x[0].b == 2, gcc x[0].b == 0.
   No C11 semantics; the general theorem `C05_parse_spec_partial` leaves the region out (it covers ranges whose initializer is
   brace-enclosed, a string literal or one expression for the whole element: there chibicc and gcc agree).

4. Note (region `InitSpec.FlexReinit`): a second initializer for the flexible array member of the declared object (GNU: static
   initialization of a flexible array member; no C11 semantics, gcc is the judge).  gcc lets the array grow with every
   initializer; parse.c fixes the length when the first initializer reaches the member (`count_array_init_elements` in
   `array_initializer1/2`, or the length of a string literal) and skips what lies beyond as excess elements:
      struct S { int a; int f[]; } s = { 1, {1}, .f = 2, 3 };     chibicc: f = {2}, sizeof 8;   gcc: f = {2, 3}, 12 bytes
   (also `{ .f = {1, 2}, .f[1] = 5, 6 }`, `{ 1, {5}, .a = 7, 2, 3 }`).  A designator INTO the unresolved member (`.f[2] = 9` as its
   first initializer) is rejected by chibicc ("array designator index exceeds array bounds"; gcc accepts).  The general theorem
   `C05_parse_spec_partial` covers every declared struct with flexible array member outside the region.

5. The relocation cursor of `write_gvar_data` (Model/InitCursor.lean): an aggregate arm that returns the cursor it was given
   instead of the cursor of its recursive calls loses relocations.  One witness per arm (array, struct, union); the mutant
   seeded/C05b is the union arm.

6. Repaired defect (`fix:` e1837fd in /repo; reported as C05-union-second-initializer): `union_initializer` accepted exactly
   one initializer in a brace-enclosed list - `union V { int a; long b; } v = { 1, .b = 2 };` (C11 6.7.9p19: the last one wins)
   was rejected with "expected '}'".  Now `union_rest` loops over the rest of the list: a designated initializer selects the
   member, the last one wins, a member other than the one initialised so far starts from zero, other initializers are excess
   elements; the model is `unionRest`.  Kernel-checked: the witnesses, what the pre-fix tail did, and on every list `{ t₁ … t₅`
   over `} , 1 .a .b` and `{ t₁ … t₄` over `} , 1 .s .q .a` for `union { int a; struct { int p, q; } s; long b; }` the parser
   accepts whatever the specification accepts and builds the specification's tree (also where the specification's run switches
   the union's member, which it flags `over`).

7. Repaired defect (`fix:` in /repo): `_Bool` bit-field, static storage.  `write_gvar_data` masked the unconverted value while
   `create_lvar_init` assigns (and so converts):
      struct B { _Bool b : 1; } s = { 2 };     pre-fix static: b == 0 (2 & 1), automatic: b == 1
   The repaired arm converts first (`newval != 0`); the witness below shows the pre-fix value and that both back ends now give 1.

8. Repaired defect (`fix:` 8f0968b in /repo): a GNU empty union.  `union_initializer` dereferenced `init->ty->members` (NULL);
   now `union E {} e = {};` skips excess elements through `struct_initializer1`, an initializer without braces consumes nothing, and
   `create_lvar_init` emits no assignment.

9. Repaired defect (braced string literal, C11 6.7.9p14-15): "An array of character type may be initialized by a character string
   literal …, optionally enclosed in braces."  `char s[6] = {"abc"};` used to be parsed as a list whose first initializer - the
   address of the literal - went into `s[0]`, and `char t[] = {"abcd"}` got one element.  `initializer2` now has the braced-string
   branch (model: `bracedStr`; specification: `InitSpec.bracedLit`), also for wide literals and `{ "…", }`; a literal of another
   element width (`int a[] = {"abc"}`) and `_Bool` arrays keep the list meaning.
-/
import ChibiVerif.Model.Init
import ChibiVerif.Spec.InitSpec
import ChibiVerif.Lemmas.InitLeafLemmas
import ChibiVerif.Model.InitCursor
import ChibiVerif.Lemmas.InitScopeLemmas

namespace ChibiVerif.Findings.C05
open ChibiVerif.Init

def tInt : Ty := .scalar 4 .int
def tIn : Ty := .struct [(⟨some "a", 0, none⟩, tInt), (⟨some "b", 4, none⟩, tInt)] 8 false
def tS : Ty := .struct [(⟨some "in", 0, none⟩, tIn), (⟨some "z", 8, none⟩, tInt)] 12 false
def n (v : Int) : ITok := .expr (Expr.num v)

/-- `{ .in = {1, 2}, .in = {3}, 9 }` -/
def overrideToks : List ITok :=
  [.lbrace, .dot "in", .eq, .lbrace, n 1, .comma, n 2, .rbrace, .comma, .dot "in", .eq, .lbrace, n 3, .rbrace, .comma, n 9, .rbrace]

/-- the object a parse result denotes (static back end), as a list of cells -/
def objectOf (r : Except Fail (Init × List ITok)) (ty : Ty) : Option (List Cell) :=
  match r with
  | .ok (t, _) => (staticObject t ty).toOption
  | .error _ => none

/-- the model (the code): `in.b` keeps the 2 of the overridden list -/
theorem C05_finding_brace_override_model :
    objectOf (parseInit tS overrideToks) tS = some ([3,0,0,0, 2,0,0,0, 9,0,0,0].map Cell.byte) := by decide +kernel

/-- the specification (6.7.9p19): the second list initialises `in` afresh -/
theorem C05_finding_brace_override_spec :
    objectOf (InitSpec.init tS overrideToks) tS = some ([3,0,0,0, 0,0,0,0, 9,0,0,0].map Cell.byte) := by decide +kernel

/-- hence parser ≠ specification on this input -/
theorem C05_finding_brace_override : parseInit tS overrideToks ≠ InitSpec.init tS overrideToks := by
  intro h
  have h1 := C05_finding_brace_override_model
  rw [h, C05_finding_brace_override_spec] at h1
  revert h1
  decide

/-- and the input is in the declared region -/
theorem C05_finding_brace_override_in_region : InitSpec.BraceOverride tS overrideToks = true := by decide +kernel

/-! ### region AggExprOverride -/

/-- an expression of type `struct In` (a variable `y`) -/
def yExpr : Expr := { ival := 1, nz := true, f32 := 0, f64 := 0, f80 := 0, isStruct := true }
def tArr : Ty := .array tIn 1
/-- `{ [0] = y, [0] = 1 }` -/
def aggToks : List ITok := [.lbrace, .idx 0, .eq, .expr yExpr, .comma, .idx 0, .eq, n 1, .rbrace]

def aggModelTree : Init := .arr [.struct (some yExpr) [.leaf (some (Expr.num 1)), .leaf none]]
def aggSpecTree : Init := .arr [.struct none [.leaf (some (Expr.num 1)), .leaf none]]

/-- the model (the code): the node keeps the expression `y`, and the automatic object is a copy of `y` - the `1` is lost -/
theorem C05_finding_agg_expr_override_model :
    (parseInit tArr aggToks).toOption.map (fun p => Init.beq p.1 aggModelTree) = some true ∧
    ((parseInit tArr aggToks).toOption.bind (fun p => (autoObject p.1 tArr).toOption)) =
      some ((List.range 8).map (fun k => Cell.sym "$struct" 1 k)) := by decide +kernel

/-- the specification (6.7.9p19, gcc): the second initializer is for `x[0].a`; nothing of `y` is left in the tree -/
theorem C05_finding_agg_expr_override_spec :
    (InitSpec.init tArr aggToks).toOption.map (fun p => Init.beq p.1 aggSpecTree) = some true ∧
    ((InitSpec.init tArr aggToks).toOption.bind (fun p => (autoObject p.1 tArr).toOption)) =
      some ([1,0,0,0, 0,0,0,0].map Cell.byte) := by decide +kernel

/-- parser ≠ specification on this input (which is outside `BraceOverride`) -/
theorem C05_finding_agg_expr_override :
    (match parseInit tArr aggToks, InitSpec.init tArr aggToks with
      | .ok p, .ok q => Init.beq p.1 q.1
      | _, _ => true) = false := by decide +kernel

/-- the input lies in the declared region, and in no other -/
theorem C05_finding_agg_expr_override_in_region :
    InitSpec.AggExprOverride tArr aggToks = true ∧ InitSpec.BraceOverride tArr aggToks = false ∧
      InitSpec.WideRange tArr aggToks = false := by decide +kernel

/-! ### region WideRange -/

def tArr2 : Ty := .array tIn 2
/-- `{ [0 ... 1] = 1, 2 }` -/
def wideToks : List ITok := [.lbrace, .range 0 1, .eq, n 1, .comma, n 2, .rbrace]

theorem C05_note_wide_range :
    objectOf (parseInit tArr2 wideToks) tArr2 = some ([1,0,0,0, 2,0,0,0, 1,0,0,0, 2,0,0,0].map Cell.byte) ∧
    objectOf (InitSpec.init tArr2 wideToks) tArr2 = some ([1,0,0,0, 0,0,0,0, 1,0,0,0, 2,0,0,0].map Cell.byte) ∧
    InitSpec.WideRange tArr2 wideToks = true := by decide +kernel

/-! ### region FlexReinit -/

/-- `struct S { int a; int f[]; }` -/
def tFlex : Ty := .struct [(⟨some "a", 0, none⟩, tInt), (⟨some "f", 4, none⟩, .array tInt 0)] 4 true
/-- `{ 1, {1}, .f = 2, 3 }` -/
def flexToks : List ITok := [.lbrace, n 1, .comma, .lbrace, n 1, .rbrace, .comma, .dot "f", .eq, n 2, .comma, n 3, .rbrace]

/-- the object of a parse result under the type `initializer()` gives it -/
def objectOfR (r : Except Fail (Init × List ITok)) (ty : Ty) : Option (List Cell) :=
  match r with
  | .ok (t, _) => (staticObject t (resolveTy ty t)).toOption
  | .error _ => none

/-- chibicc (the model): the first initializer `{1}` fixed the length 1, the `3` is an excess element; the specification (gcc):
    the array grows to 2 elements; the input lies in the region `FlexReinit` and in no other -/
theorem C05_note_flex_reinit :
    objectOfR (parseInit tFlex flexToks) tFlex = some ([1,0,0,0, 2,0,0,0].map Cell.byte) ∧
    objectOfR (InitSpec.init tFlex flexToks) tFlex = some ([1,0,0,0, 2,0,0,0, 3,0,0,0].map Cell.byte) ∧
    InitSpec.FlexReinit tFlex flexToks = true ∧ InitSpec.BraceOverride tFlex flexToks = false ∧
      InitSpec.AggExprOverride tFlex flexToks = false ∧ InitSpec.WideRange tFlex flexToks = false := by decide +kernel

/-- the first initializers of a flexible member are outside the region: `{ 1, 2, 3 }` (elided), `{ .f = {2, 3}, .a = 1 }` -/
theorem C05_note_flex_first :
    InitSpec.FlexReinit tFlex [.lbrace, n 1, .comma, n 2, .comma, n 3, .rbrace] = false ∧
    InitSpec.FlexReinit tFlex [.lbrace, .dot "f", .eq, .lbrace, n 2, .comma, n 3, .rbrace, .comma, .dot "a", .eq, n 1, .rbrace] = false ∧
    objectOfR (parseInit tFlex [.lbrace, n 1, .comma, n 2, .comma, n 3, .rbrace]) tFlex
      = some ([1,0,0,0, 2,0,0,0, 3,0,0,0].map Cell.byte) := by decide +kernel

/-! ### the relocation cursor of write_gvar_data -/

def tPtr : Ty := .scalar 8 .ptr
def addr (l : String) : Init := .leaf (some { ival := 0, nz := true, f32 := 0, f64 := 0, f80 := 0, label := some l })
/-- `void *a[2] = {&x, &y}; … z = &z` inside `struct { void *a[2]; void *z; }` -/
def tCurA : Ty := .struct [(⟨some "a", 0, none⟩, .array tPtr 2), (⟨some "z", 16, none⟩, tPtr)] 24 false
def iCurA : Init := .struct none [.arr [addr "x", addr "y"], addr "z"]
/-- `struct { struct { void *p; void *q; } s; void *z; }` -/
def tCurS : Ty := .struct [(⟨some "s", 0, none⟩, .struct [(⟨some "p", 0, none⟩, tPtr), (⟨some "q", 8, none⟩, tPtr)] 16 false),
  (⟨some "z", 16, none⟩, tPtr)] 24 false
def iCurS : Init := .struct none [.struct none [addr "x", addr "y"], addr "z"]
/-- `struct { union { void *p; long n; } u; void *z; }` -/
def tCurU : Ty := .struct [(⟨some "u", 0, none⟩, .union [(⟨some "p", 0, none⟩, tPtr), (⟨some "n", 0, none⟩, .scalar 8 .int)] 8 false),
  (⟨some "z", 8, none⟩, tPtr)] 16 false
def iCurU : Init := .struct none [.union none (some 0) [addr "x", .leaf none], addr "z"]

def relocLabels (r : Except Fail Image) : Option (List String) := r.toOption.map (fun im => im.relocs.map (·.label))

/-- with the cursor handed on by every arm all relocations are linked; an arm that returns the cursor it was given unlinks the
    relocations written inside it as soon as another one follows -/
theorem C05_cursor_arms :
    relocLabels (gvarInitC Arms.code iCurA tCurA) = some ["x", "y", "z"] ∧
    relocLabels (gvarInitC ⟨false, true, true⟩ iCurA tCurA) = some ["z"] ∧            -- array arm keeps its cursor
    relocLabels (gvarInitC Arms.code iCurS tCurS) = some ["x", "y", "z"] ∧
    relocLabels (gvarInitC ⟨true, false, true⟩ iCurS tCurS) = some ["z"] ∧            -- struct arm
    relocLabels (gvarInitC Arms.code iCurU tCurU) = some ["x", "z"] ∧
    relocLabels (gvarInitC ⟨true, true, false⟩ iCurU tCurU) = some ["z"] := by decide +kernel   -- union arm (seeded C05b)

/-! ### repaired: a union's list with more than one initializer (`union_rest`, /repo e1837fd) -/

/-- `union { int a; struct { int p, q; } s; long b; }` -/
def tUni : Ty := .union [(⟨some "a", 0, none⟩, tInt),
  (⟨some "s", 0, none⟩, .struct [(⟨some "p", 0, none⟩, tInt), (⟨some "q", 4, none⟩, tInt)] 8 false),
  (⟨some "b", 0, none⟩, .scalar 8 .int)] 8 false

def allListsF (alphabet : List ITok) : Nat → List (List ITok)
  | 0 => [[]]
  | k+1 => (allListsF alphabet k).flatMap (fun l => alphabet.map (fun t => t :: l))

/-- the parser accepts what the specification accepts, with the specification's tree and rest -/
def unionAgrees (ty : Ty) (toks : List ITok) : Bool :=
  match parseInit ty toks, InitSpec.initFull ty toks with
  | .ok (p, pr), .ok r => Init.beq p r.obj && pr == r.rest
  | .error _, .ok _ => false
  | _, .error _ => true

/-- `{1, .b = 2}` and `{.a = 1, .b = 2}` give b == 2, `{.s.p = 1, .a = 1, .s.q = 2}` gives s == {0, 2} (the member starts from
    zero again), as the specification (and gcc) say; the pre-fix tail `consume(","); skip("}")` stopped at the designator -/
theorem C05_repaired_union_second :
    objectOf (parseInit tUni [.lbrace, n 1, .comma, .dot "b", .eq, n 2, .rbrace]) tUni = some ([2,0,0,0, 0,0,0,0].map Cell.byte) ∧
    objectOf (InitSpec.init tUni [.lbrace, n 1, .comma, .dot "b", .eq, n 2, .rbrace]) tUni = some ([2,0,0,0, 0,0,0,0].map Cell.byte) ∧
    objectOf (parseInit tUni [.lbrace, .dot "a", .eq, n 1, .comma, .dot "b", .eq, n 2, .rbrace]) tUni
      = some ([2,0,0,0, 0,0,0,0].map Cell.byte) ∧
    objectOf (parseInit tUni [.lbrace, .dot "s", .dot "p", .eq, n 1, .comma, .dot "a", .eq, n 1, .comma, .dot "s", .dot "q", .eq, n 2, .rbrace]) tUni
      = some ([0,0,0,0, 2,0,0,0].map Cell.byte) ∧
    objectOf (InitSpec.init tUni [.lbrace, .dot "s", .dot "p", .eq, n 1, .comma, .dot "a", .eq, n 1, .comma, .dot "s", .dot "q", .eq, n 2, .rbrace]) tUni
      = some ([0,0,0,0, 2,0,0,0].map Cell.byte) ∧
    (skipTok .rbrace "}" [.dot "b", .eq, n 2, .rbrace]).toOption.isNone = true := by         -- the pre-fix tail after `1 ,`: "expected '}'"
  decide +kernel

def alphaUniA : List ITok := [.rbrace, .comma, n 1, .dot "a", .dot "b"]
def alphaUniS : List ITok := [.rbrace, .comma, n 1, .dot "s", .dot "q", .dot "a"]

/-- exhaustive scopes (they include the lists on which the specification's run switches the union's member, which it notes as `over`
    and `C05_parse_spec_partial` therefore does not speak about): every list `{ t₁ … t₅` over `} , 1 .a .b` (3125
    lists, e.g. `{ 1 , .b 1 }`, `{ .a 1 , 1 }`) and every list `{ t₁ … t₄` over `} , 1 .s .q .a` (1296 lists, designators into the
    struct member) that does not start with the GNU empty list `{}` (which chibicc rejects for a union): the parser accepts what
    the specification accepts, builds its tree and stops where it stops. -/
theorem C05_union_scope :
    ((allListsF alphaUniA 5).map (fun l => ITok.lbrace :: l)).all (fun l => isEnd l.tail || unionAgrees tUni l) = true ∧
    ((allListsF alphaUniS 4).map (fun l => ITok.lbrace :: l)).all (fun l => isEnd l.tail || unionAgrees tUni l) = true := by
  -- evaluated word by word, and only on the words that are lists of the initializer grammar: the specification rejects the others
  have words : ∀ {al : List ITok} {n : Nat},
      grammarWords al n (.start, 0) (fun l => isEnd l || unionAgrees tUni (.lbrace :: l)) = true →
      ((allListsF al n).map (fun l => ITok.lbrace :: l)).all (fun l => isEnd l.tail || unionAgrees tUni l) = true := by
    intro al n h
    rw [List.all_map, List.all_eq_true]
    intro l hl
    cases hs : InitSpec.initFull tUni (.lbrace :: l) with
    | ok r => exact grammarWords_lists (f := allListsF al) rfl (fun _ => rfl) h l hl (InitSpec.initFull_run hs)
    | error e =>
      have : unionAgrees tUni (.lbrace :: l) = true := by
        unfold unionAgrees; rw [hs]; cases parseInit tUni (.lbrace :: l) <;> rfl
      simp [this]
  exact ⟨words (by decide +kernel), words (by decide +kernel)⟩

/-- non-vacuity: lists of the first scope switch the member (`{ 1 , .b 1 }`: the specification's run is in `over`, both give b == 1) -/
theorem C05_union_scope_switch :
    InitSpec.BraceOverride tUni [.lbrace, n 1, .comma, .dot "b", n 1, .rbrace] = true ∧
    unionAgrees tUni [.lbrace, n 1, .comma, .dot "b", n 1, .rbrace] = true ∧
    (parseInit tUni [.lbrace, n 1, .comma, .dot "b", n 1, .rbrace]).toOption.isSome = true := by
  decide +kernel

/-! ### repaired: `_Bool` bit-field, static storage -/

/-- `struct B { _Bool b : 1; } = { 2 }` -/
def tB : Ty := .struct [(⟨some "b", 0, some (0, 1)⟩, .scalar 1 .bool)] 1 false

theorem C05_repaired_bool_bitfield :
    (u64 2 &&& bfMask 1) <<< 0 = 0 ∧                                                     -- what the pre-fix arm stored
    (staticObject (.struct none [.leaf (some (Expr.num 2))]) tB).toOption = some [Cell.byte 1] ∧
    (autoObject (.struct none [.leaf (some (Expr.num 2))]) tB).toOption = some [Cell.byte 1] := by decide +kernel

/-! ### repaired: the empty union -/

def tEmptyU : Ty := .union [] 0 false

theorem C05_repaired_empty_union :
    (parseInit tEmptyU [.lbrace, .rbrace]).toOption.map (fun p => (Init.beq p.1 (.union none none []), p.2)) = some (true, []) ∧
    (parseInit tEmptyU [.lbrace, n 1, .comma, n 2, .rbrace]).toOption.map (fun p => (Init.beq p.1 (.union none none []), p.2))
      = some (true, []) ∧                                                                       -- excess elements are skipped
    (initializer2 9 tEmptyU [n 1] (newInit tEmptyU true)).toOption.map (fun p => (Init.beq p.1 (.union none none []), p.2))
      = some (true, [n 1]) ∧                                                                    -- no braces: nothing consumed
    (autoObject (.union none none []) tEmptyU).toOption = some [] ∧
    (staticObject (.union none none []) tEmptyU).toOption = some [] := by decide +kernel

/-! ### repaired: a string literal enclosed in braces (6.7.9p14-15) -/

def tChar : Ty := .scalar 1 .int
def tBool : Ty := .scalar 1 .bool
/-- `"abc"` -/
def sAbc : ITok := .str 7 [97, 98, 99, 0] 1
/-- `L"ab"` -/
def sWab : ITok := .str 8 [97, 0, 0, 0, 98, 0, 0, 0, 0, 0, 0, 0] 4

/-- `char s[6] = {"abc"};`, `char s[6] = {"abc",};` and `char t[] = {"abc"};` (4 elements): parser = specification = the
    characters; an `int` array with a narrow literal and a `_Bool` array keep the list meaning (the address in element 0) -/
theorem C05_repaired_braced_string :
    objectOf (parseInit (.array tChar 6) [.lbrace, sAbc, .rbrace]) (.array tChar 6) = some ([97, 98, 99, 0, 0, 0].map Cell.byte) ∧
    objectOf (InitSpec.init (.array tChar 6) [.lbrace, sAbc, .rbrace]) (.array tChar 6) = some ([97, 98, 99, 0, 0, 0].map Cell.byte) ∧
    objectOf (parseInit (.array tChar 6) [.lbrace, sAbc, .comma, .rbrace]) (.array tChar 6)
      = some ([97, 98, 99, 0, 0, 0].map Cell.byte) ∧
    objectOf (InitSpec.init (.array tChar 6) [.lbrace, sAbc, .comma, .rbrace]) (.array tChar 6)
      = some ([97, 98, 99, 0, 0, 0].map Cell.byte) ∧
    (parseInit (.inc tChar) [.lbrace, sAbc, .rbrace]).toOption.map (fun p => (flexLen p.1, p.2)) = some (4, []) ∧
    (InitSpec.init (.inc tChar) [.lbrace, sAbc, .rbrace]).toOption.map (fun p => (flexLen p.1, p.2)) = some (4, []) ∧
    objectOf (parseInit (.array tInt 2) [.lbrace, sWab, .rbrace]) (.array tInt 2) = some ([97, 0, 0, 0, 98, 0, 0, 0].map Cell.byte) ∧
    objectOf (InitSpec.init (.array tInt 2) [.lbrace, sWab, .rbrace]) (.array tInt 2)
      = some ([97, 0, 0, 0, 98, 0, 0, 0].map Cell.byte) ∧
    -- element widths differ / `_Bool`: a list, the first initializer is the address of the literal
    (parseInit (.array tInt 2) [.lbrace, sAbc, .rbrace]).toOption.map (fun p => hasExpr p.1) = some true ∧
    bracedStr tInt [sAbc, .rbrace] = none ∧ InitSpec.bracedLit (.array tInt 2) [sAbc, .rbrace] = none ∧
    bracedStr tBool [sAbc, .rbrace] = none ∧ InitSpec.bracedLit (.array tBool 2) [sAbc, .rbrace] = none ∧
    (parseInit (.array tBool 2) [.lbrace, sAbc, .rbrace]).toOption.map (fun p => (autoObject p.1 (.array tBool 2)).toOption)
      = some (some [Cell.byte 1, Cell.byte 0]) ∧
    (InitSpec.init (.array tBool 2) [.lbrace, sAbc, .rbrace]).toOption.map (fun p => (autoObject p.1 (.array tBool 2)).toOption)
      = some (some [Cell.byte 1, Cell.byte 0]) := by
  decide +kernel

def tSM : Ty := .struct [(⟨some "a", 0, none⟩, tInt), (⟨some "s", 4, none⟩, .array tChar 4)] 8 false

/-- the braced literal for a struct member: positional, after a designator, and overriding an earlier initializer (region `over`,
    as for the literal without braces) -/
theorem C05_repaired_braced_string_member :
    objectOf (parseInit tSM [.lbrace, n 1, .comma, .lbrace, sAbc, .rbrace, .rbrace]) tSM
      = some ([1, 0, 0, 0, 97, 98, 99, 0].map Cell.byte) ∧
    objectOf (InitSpec.init tSM [.lbrace, n 1, .comma, .lbrace, sAbc, .rbrace, .rbrace]) tSM
      = some ([1, 0, 0, 0, 97, 98, 99, 0].map Cell.byte) ∧
    objectOf (InitSpec.init tSM [.lbrace, .dot "s", .eq, .lbrace, sAbc, .comma, .rbrace, .rbrace]) tSM
      = some ([0, 0, 0, 0, 97, 98, 99, 0].map Cell.byte) ∧
    objectOf (parseInit tSM [.lbrace, .dot "s", .eq, .lbrace, sAbc, .comma, .rbrace, .rbrace]) tSM
      = some ([0, 0, 0, 0, 97, 98, 99, 0].map Cell.byte) ∧
    InitSpec.BraceOverride tSM [.lbrace, .dot "s", .eq, .lbrace, n 5, .rbrace, .comma, .dot "s", .eq, .lbrace, sAbc, .rbrace, .rbrace]
      = InitSpec.BraceOverride tSM [.lbrace, .dot "s", .eq, .lbrace, n 5, .rbrace, .comma, .dot "s", .eq, sAbc, .rbrace] := by
  decide +kernel

end ChibiVerif.Findings.C05
