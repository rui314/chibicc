/-
C13 — kernel-checked witnesses for the abort sites of Props/C13Sites.lean.

All four defects below were found by reading the explicit crash outcomes of the sibling models and running the input on the
real cc1; they are repaired in /repo, the seeds are in corpus/C13 (seeds: the diagnostic now given; regress: accepted now).

  * `struct __attribute__((aligned(0))) S {} s;`, `struct __attribute__((packed,aligned(0))) S {int a;} s;`, the same for
    unions: SIGFPE in struct_decl/union_decl (`align_to(n, 0)`)                                            fix 04ba5b8
  * `struct S { struct {} a : 1; } s;`, `int a[0] : 1`: SIGFPE (`bits / (sz * 8)` with sz = 0)                fix fb20c9b
  * `struct S { long double x : 3; } s = {1};`: "internal error" (read_buf: unreachable())                   fix fb20c9b
  * `union U {} u = {};`: SIGSEGV in union_initializer (`init->mem->next` with `init->mem == NULL`)           fix 8f0968b

The struct_decl-level functions still contain the division sites (they are what C08's model transcribes); the witnesses
below show them on member lists the repaired parser no longer produces.
-/
import ChibiVerif.Model.Layout
import ChibiVerif.Lemmas.C13InitBase
import ChibiVerif.Lemmas.C13PP

namespace ChibiVerif.Findings.C13Sites

section Layout
open ChibiVerif.Layout

/-- `aligned(0)` on an empty struct: `align_to(0, 0 * 8)` -/
theorem C13_fixed_aligned0_struct : structLayout false 0 [] = .error .divByZero := by decide
/-- `packed, aligned(0)`: the members do not raise `ty->align` -/
theorem C13_fixed_aligned0_packed : structLayout true 0 [⟨4, 4, none, true⟩] = .error .divByZero := by decide
theorem C13_fixed_aligned0_union : unionLayout false 0 [] = .error .divByZero ∧
    unionLayout true 0 [⟨4, 4, none, true⟩] = .error .divByZero := by decide
/-- a bit-field whose declared type has size 0 (`struct {} a : 1`, `int a[0] : 1`, and the zero-width form) -/
theorem C13_fixed_bitfield_size0 : structLayout false 1 [⟨0, 1, some 1, true⟩] = .error .divByZero ∧
    structLayout false 1 [⟨0, 1, some 0, true⟩] = .error .divByZero := by decide
/-- while `aligned(0)` with a member that raises the alignment was never a problem -/
theorem C13_note_aligned0_harmless : structLayout false 0 [⟨4, 4, none, true⟩] = .ok ⟨4, 4, [⟨0, 0⟩]⟩ := by decide

end Layout

section Init
open ChibiVerif.Init ChibiVerif.C13Init

/-- `long double x : 3` in a static initializer: write_gvar_data → read_buf(…, 16) → unreachable() -/
theorem C13_fixed_ldouble_bitfield :
    gvarInit (.struct none [.leaf (some (Expr.num 1))]) (.struct [(⟨some "x", 0, some (0, 3)⟩, .scalar 16 .flt)] 16 false)
      = .error (.crash "unreachable: read_buf size") := by decide

/-- the hypothesis `tyOK` of `C13_init_nocrash_partial` cannot be dropped on the MODEL: a description with `is_flexible` set
    although its last member is a struct (no declaration produces it) puts a `.flex` node where a struct node is expected,
    and `struct_initializer1` indexes its empty `children` -/
def badTy : Ty := .struct [(⟨some "m", 0, none⟩, .struct [(⟨some "a", 0, none⟩, .scalar 4 .int)] 4 false)] 4 true

theorem C13_init_statement_needs_tyOK :
    tyOK badTy = false ∧ toksOK [.lbrace, .lbrace, .expr (Expr.num 1), .rbrace, .rbrace] = true ∧
    (match initializer2 12 badTy [.lbrace, .lbrace, .expr (Expr.num 1), .rbrace, .rbrace] (newInit badTy true) with
     | .error (.crash w) => w == "children[i] outside the allocated block"
     | _ => false) = true := by decide

end Init

section Incl
open ChibiVerif.CondIncl ChibiVerif.IncludeSearch ChibiVerif.C13PP

/-- the include machine of the model has no depth limit: a file that includes itself exhausts EVERY step budget.  (cc1 did
    the same until it ran out of stack or memory — former known finding C13-recursive-include; since fix b453bf4 it stops at
    depth 200 with "#include nested too deeply", for which the model's `outOfFuel` stands.) -/
theorem C13_note_include_cycle (paths : List String) (fuel : Nat) :
    runInc PPExpr.evC (selfFS : FS PPExpr.Expr PPExpr.Body) paths true fuel [("f", .incl true "f")] .proc
      ⟨⟨⟨[], []⟩, []⟩, [], [], []⟩ = .error .outOfFuel :=
  selfInclude_outOfFuel PPExpr.evC paths fuel "f" _ rfl rfl

end Incl

end ChibiVerif.Findings.C13Sites
