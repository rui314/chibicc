/-
C06 — kernel-checked witnesses (evaluation in the kernel, `decide`) of the known findings of known_findings.json, and of
three defects repaired in /repo (the model follows the repaired code; the pre-fix behaviour is kept here).

Each known finding is a signature on which the model of chibicc (`callerAssign` / `calleeAssign` / `calleeVa`) differs from
the psABI (`Spec.PsABI`); the check replays the same signatures on the real binary against gcc and clang on every run.
`sizesOk`, `LowHolds`: Lemmas/C06Vocabulary.lean; `Represents`: Lemmas/C01Lemmas.lean; `pass_reg`, `epilogue_ok`:
Lemmas/C06ArgLemmas.lean, Lemmas/C06RetLemmas.lean.
-/
import ChibiVerif.Model.CallConv
import ChibiVerif.Spec.PsABI
import ChibiVerif.Spec.CallRegions
import ChibiVerif.Lemmas.CallConvLemmas
import ChibiVerif.Props.C06
import ChibiVerif.Lemmas.C06RetLemmas

namespace ChibiVerif.Findings.C06
open ChibiVerif.CallConv
open ChibiVerif.Spec
open ChibiVerif.Props.C06

deriving instance DecidableEq for Except

def int4 : ATy := .int 4 false false
def long8 : ATy := .int 8 false false

/-- `struct { long double x; }` -/
def structLd : ATy := .agg false 16 16 (.cons 0 .ldbl .nil)
/-- `struct { _Alignas(16) int x; }` -/
def structA16 : ATy := .agg false 16 16 (.cons 0 int4 .nil)
/-- `struct __attribute__((packed)) { char c; double d; }` -/
def structPacked : ATy := .agg false 9 1 (.cons 0 (.int 1 false false) (.cons 1 .dbl .nil))
/-- `struct { long a; }` -/
def structL : ATy := .agg false 8 8 (.cons 0 long8 .nil)

def fixedSig (ret : Option ATy) (ps : List ATy) : Sig := { ret := ret, params := ps, nNamed := ps.length, variadic := false }

/-- C06-struct-with-ldouble, `void f(struct {long double x;}, int)`: chibicc rdi+xmm0 and rsi; psABI: memory and rdi -/
def wLd : Sig := fixedSig none [structLd, int4]
theorem C06_finding_struct_with_ldouble :
    callerAssign wLd = .ok [.regs [.gp 0, .sse 0], .regs [.gp 1]] ∧ PsABI.assign wLd = [.stack 0, .regs [.gp 0]] ∧
    calleeAssign wLd = callerAssign wLd ∧ CallRegions.supported wLd = false ∧
    retCallee (some structLd) = .ok (.regs [.rax, .xmm0]) ∧ PsABI.ret (some structLd) = .regs [.st0] := by decide

/-- C06-ldouble-stack-align, `void g(int ×7, long double)`: the long double at 8(%rsp), the psABI puts it at 16(%rsp) -/
def wAlign : Sig := fixedSig none [int4, int4, int4, int4, int4, int4, int4, .ldbl]
theorem C06_finding_ldouble_stack_align :
    (callerAssign wAlign).map (fun l => l.getLast?) = .ok (some (.stack 8)) ∧ (PsABI.assign wAlign).getLast? = some (.stack 16) ∧
    calleeAssign wAlign = callerAssign wAlign ∧ CallRegions.supported wAlign = false := by decide

/-- C06-padding-eightbyte, `void f(struct {_Alignas(16) int x;}, double d)`: d in xmm1, the psABI says xmm0 -/
def wPad : Sig := fixedSig none [structA16, .dbl]
theorem C06_finding_padding_eightbyte :
    callerAssign wPad = .ok [.regs [.gp 0, .sse 0], .regs [.sse 1]] ∧ PsABI.assign wPad = [.regs [.gp 0], .regs [.sse 0]] ∧
    calleeAssign wPad = callerAssign wPad ∧ CallRegions.supported wPad = false := by decide

/-- C06-packed-unaligned-param, `void f(struct __attribute__((packed)) {char c; double d;}, int)`: the prologue reaches
    `unreachable()` in store_fp (size 1); the caller passes rdi+xmm0, the psABI memory -/
def wPacked : Sig := fixedSig none [structPacked, int4]
theorem C06_finding_packed_unaligned_param :
    calleeAssign wPacked = .error .storeSize ∧ callerAssign wPacked = .ok [.regs [.gp 0, .sse 0], .regs [.gp 1]] ∧
    PsABI.assign wPacked = [.stack 0, .regs [.gp 0]] ∧ sizesOk wPacked = false ∧ CallRegions.supported wPacked = false := by decide

/-- the GNU empty struct as an argument (repaired in /repo b298aee; it used to be part of C06-packed-unaligned-param): an
    aggregate of size 0 takes no register and no stack slot on either side, as in gcc's and clang's C ABI.  Before the fix
    the second pass pushed nothing for it while the pop phase popped one register (`popOldEmpty`): `assert(depth == 0)`. -/
def emptyStruct : ATy := .agg false 0 1 .nil
def wEmpty : Sig := fixedSig (some emptyStruct) [emptyStruct, int4, .agg true 0 1 .nil, .dbl]
/-- the pop phase before the fix: `has_flonum1` is vacuously true for a struct without members, so one `popf` -/
def popOldEmpty : List Pop := [Pop.fp 0]
theorem C06_fixed_empty_struct :
    callerAssign wEmpty = .ok [.regs [], .regs [.gp 0], .regs [], .regs [.sse 0]] ∧ calleeAssign wEmpty = callerAssign wEmpty ∧
    PsABI.assign wEmpty = [.regs [], .regs [.gp 0], .regs [], .regs [.sse 0]] ∧
    retCaller wEmpty.ret = .ok (.regs []) ∧ retCallee wEmpty.ret = .ok (.regs []) ∧ PsABI.ret wEmpty.ret = .regs [] ∧
    sizesOk wEmpty = true ∧ CallRegions.supported wEmpty = true ∧ popOldEmpty.length ≠ pushSlots emptyStruct := by decide

/-- C06-va-arg-small-struct, `void f(int n, ...)` called with `(1, (struct {long a;}){..}, 2)`: the struct travels in rsi
    (save area offset 8), `va_arg` reads the overflow area -/
def wVa : Sig := { ret := none, params := [int4, structL, int4], nNamed := 1, variadic := true }
theorem C06_finding_va_arg_small_struct :
    calleeVa wVa = [.overflow 0, .saveArea 8] ∧
    ((PsABI.assign wVa).drop 1).map PsABI.vaLoc = [some (.saveArea 8), some (.saveArea 16)] ∧
    CallRegions.vaSmallStruct wVa = true := by decide

theorem C06_abi_Statement_fails : ¬ C06_abi_Statement := by
  intro h
  have := (h wPad (by decide)).1
  revert this
  decide

theorem C06_va_Statement_fails : ¬ C06_va_Statement := by
  intro h
  have := h wVa (by decide) (by decide) (by decide)
  revert this
  decide

theorem C06_self_Statement_fails : ¬ C06_self_Statement := by
  intro h
  obtain ⟨a, _, h2⟩ := h wPacked
  have : calleeAssign wPacked = .error .storeSize := by decide
  rw [this] at h2
  cases h2

/-! ### repaired in /repo: `copy_struct_mem` left rax = address of the callee's own object (fix 658c008)

The caller takes the value of a call that returns a struct of more than 16 bytes from the address in rax; before the
fix the callee did not return the hidden pointer there. -/

def retCalleeOld : Option ATy → Except Abort RetLoc
  | some (.agg _ sz _ _) => if sz ≤ 16 then .ok (.regs []) else .ok (.memory false)
  | _ => .ok .void

theorem C06_fixed_sret_rax :
    retCalleeOld (some (.agg false 32 8 .nil)) = .ok (.memory false) ∧
    retCaller (some (.agg false 32 8 .nil)) = .ok (.memory true) ∧
    retCallee (some (.agg false 32 8 .nil)) = .ok (.memory true) ∧
    PsABI.ret (some (.agg false 32 8 .nil)) = .memory true := by decide

/-! ### argument conversions

Not a defect: the witness that `C06_arg_extension` cannot be strengthened to "the register is the sign extension to 64 bits",
and the witness of what a missing `char → _Bool` conversion would do (the seeded change C06c: same-width integer casts
skipped). -/

section Args
open ChibiVerif.C06Args ChibiVerif.Spec.IntSpec ChibiVerif.Gen.CommonType
open ChibiVerif.C01 (Represents)

/-- a machine state with %rax = 0xdeadbeef_ffffff80: the `signed char` -128 as `load` / `movsbl` may leave it -/
def garbageState : X86.State :=
  { regs := fun r => if r = .rax then 0xdeadbeef_ffffff80#64 else if r = .rsp then 0x7fff_0000#64 else 0, mem := fun _ => 0 }

/-- `signed char` argument for a `signed char` parameter: no instruction is added, and bits 32..63 of %rdi are whatever was
    in %rax — not the sign extension of the value.  (A callee that reads them is wrong; chibicc's reads `%dil`.) -/
theorem C06_arg_upper_bits_garbage :
    Represents .i8 (garbageState.get .rax) (-128) ∧ argSeq false (some ty_char) ty_char = some [] ∧
    ∃ s', X86.run (passRegSeq [] 0) garbageState = some s' ∧ s'.get .rdi = 0xdeadbeef_ffffff80#64 ∧
      s'.get .rdi ≠ BitVec.ofInt 64 (-128) := by
  refine ⟨⟨by decide, by decide⟩, rfl, ?_⟩
  obtain ⟨s', h1, h2, _⟩ := pass_reg 0 (by decide) garbageState
  refine ⟨s', h1, h2, ?_⟩
  rw [show s'.get .rdi = 0xdeadbeef_ffffff80#64 from h2]
  decide

/-- without the conversion a `char` argument 2 would reach a `_Bool` parameter as the byte 2 (C06c): the C11 value is 1 -/
theorem C06_arg_bool_needs_cast :
    convert .bool 2 = 1 ∧ ¬ Represents .bool 2#64 (convert .bool 2) ∧ Represents .i8 2#64 2 ∧
    argSeq false (some ty_bool) ty_char ≠ some [] := by
  refine ⟨by decide, ?_, ⟨by decide, by decide⟩, by decide⟩
  intro h
  have := h.2
  simp [convert] at this

end Args

/-! ### repaired in /repo: `copy_struct_reg` loaded 8 bytes for the second eightbyte of a 12-byte all-float struct (fix 7826748)

`struct { float a, b, c; }` is returned in xmm0 (a, b) and xmm1 (c).  Before the fix the callee tested `ty->size == 4` where
`copy_ret_buffer` (the caller's side of the same ladder) tests `ty->size == 12`, so it printed `movsd 8(%rdi), %xmm1`: an 8-byte
load of the 4 bytes at offset 8 — the value arrives (low 32 bits of xmm1) but the load reads 4 bytes beyond the object.  The
model follows the repaired code; 16-byte structs whose second eightbyte is all-float keep `movsd`. -/

/-- `struct { float a, b, c; }` -/
def structFFF : ATy := .agg false 12 4 (.cons 0 .flt (.cons 4 .flt (.cons 8 .flt .nil)))
/-- `struct { float a, b; double c; }` -/
def structFFD : ATy := .agg false 16 8 (.cons 0 .flt (.cons 4 .flt (.cons 8 .dbl .nil)))
/-- `struct { double a; float b; }` -/
def structDF : ATy := .agg false 16 8 (.cons 0 .dbl (.cons 8 .flt .nil))

/-- the second-eightbyte load of `copy_struct_reg` before the fix (`if (ty->size == 4)`) -/
def secondLoadOld (sz fp : Nat) : String := if sz = 4 then s!"  movss 8(%rdi), %xmm{fp}" else s!"  movsd 8(%rdi), %xmm{fp}"

theorem C06_fixed_copy_struct_reg_12 :
    copyStructRegLines structFFF = ["  mov %rax, %rdi", "  movsd (%rdi), %xmm0", "  movss 8(%rdi), %xmm1"] ∧
    secondLoadOld structFFF.size 1 = "  movsd 8(%rdi), %xmm1" ∧
    copyRetBufferLines structFFF (-16) = ["  movsd %xmm0, -16(%rbp)", "  movss %xmm1, -8(%rbp)"] ∧
    copyStructRegLines structFFD = ["  mov %rax, %rdi", "  movsd (%rdi), %xmm0", "  movsd 8(%rdi), %xmm1"] ∧
    copyStructRegLines structDF = ["  mov %rax, %rdi", "  movsd (%rdi), %xmm0", "  movsd 8(%rdi), %xmm1"] ∧
    retCallee (some structFFF) = .ok (.regs [.xmm0, .xmm1]) ∧ retCaller (some structFFF) = .ok (.regs [.xmm0, .xmm1]) ∧
    PsABI.ret (some structFFF) = .regs [.xmm0, .xmm1] ∧ PsABI.ret (some structFFD) = .regs [.xmm0, .xmm1] ∧
    PsABI.ret (some structDF) = .regs [.xmm0, .xmm1] := by decide

/-- the pre-fix load of the second eightbyte (8 bytes at offset 8) reaches byte 15 of the 12-byte object; the repaired ladder
    reads bytes 0..11 (`C06_struct_return_bytes`) -/
theorem C06_fixed_copy_struct_reg_12_overread :
    15 ∈ (RetOp.fpLoad 8 8 1).bytes ∧ ¬ (15 < structFFF.size) ∧
    (copyStructRegOps structFFF).flatMap RetOp.bytes = [0, 1, 2, 3, 4, 5, 6, 7, 8, 9, 10, 11] := by decide

/-! ### return values

Not defects: the witness that `C06_return_extension` cannot be strengthened to "%rax is the sign extension to 64 bits" (so a
caller that reads bits 32..63 of an `int` result is wrong; chibicc's never does: `C06_return_caller`), and the witness of what a
missing conversion in `return e;` would do. -/

section Ret
open ChibiVerif.C06Ret ChibiVerif.C06Args ChibiVerif.Spec.IntSpec ChibiVerif.Gen.CommonType
open ChibiVerif.C01 (Represents descr)

/-- %rax = 0x00000000_ffffffff: the `unsigned` 4294967295 as `mov (%rax), %eax` leaves it -/
def uintMaxState : X86.State :=
  { regs := fun r => if r = .rax then 0x00000000_ffffffff#64 else if r = .rbp then 0x7fff_0000#64 else 0, mem := fun _ => 0 }

/-- `int f(void) { return u; }` with `unsigned u = 4294967295`: no instruction is added (`cast(u32, i32)` is empty), %rax
    represents -1 as an `int` (low 32 bits), and bits 32..63 are zero — not the sign extension of -1. -/
theorem C06_return_upper_bits_unspecified :
    Represents .u32 (uintMaxState.get .rax) 4294967295 ∧ retSeq (descr .i32) (descr .u32) = [] ∧ convert .i32 4294967295 = -1 ∧
    ∃ s', X86.run (calleeRetSeq (descr .i32) (descr .u32)) uintMaxState = some s' ∧
      s'.get .rax = 0x00000000_ffffffff#64 ∧ Represents .i32 (s'.get .rax) (-1) ∧ s'.get .rax ≠ BitVec.ofInt 64 (-1) := by
  refine ⟨⟨by decide, by decide⟩, rfl, by decide, ?_⟩
  obtain ⟨s', h1, h2, _⟩ := epilogue_ok uintMaxState
  refine ⟨s', h1, h2, ?_, ?_⟩
  · rw [h2]; exact ⟨by decide, by decide⟩
  · rw [h2]; decide

/-- without the cast `return c;` in a `_Bool` function would hand the caller the byte 2 for `char c = 2`: the C11 value is 1, and
    a gcc caller at -O2 uses the byte as an `int` without masking -/
theorem C06_return_bool_needs_cast :
    convert .bool 2 = 1 ∧ ¬ LowHolds .bool 2#64 (convert .bool 2) ∧ retSeq (descr .bool) (descr .i8) ≠ [] := by
  refine ⟨by decide, ?_, by decide⟩
  intro h
  have := h.2
  simp [convert, ITy.size] at this

end Ret

end ChibiVerif.Findings.C06
