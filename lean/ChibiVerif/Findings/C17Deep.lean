/-
C17 — kernel-checked witnesses that the hypotheses of the client and hash theorems (Props/C17Clients.lean, Props/C17Hash.lean) are needed
(none of these is a defect of /repo; each shows what the code relies on).

* a copied token with an embedded NUL would be missed by a span lookup of the same token, and
  two tokens that differ only after the NUL would collide (`C17_client_keys` needs NUL-free
  copies; identifiers are NUL-free, `C17_ident_no_nul`);
* `match` without the `keylen` comparison would let the token `out` hit the stored `out_err`;
* the C index expression `(hash + i) % capacity` wraps modulo 2^64: for a capacity that is
  not a power of two it differs from the model's index (`C17_index_agrees` needs the shape
  proved in `C17_capacity_shape`);
* a sign-extending `hash ^= s[i]` hashes `é` differently;
* the dual of `C17_capacity_bound`: if `used` counted live keys only (seeded changes C17c and
  C13b), tombstones would never trigger a rehash; after 16 define/undefine cycles over distinct
  names every bucket of a 16-bucket table is a tombstone and the next operation runs the probe
  loop into `unreachable()`.
-/
import ChibiVerif.Model.C17Clients

namespace ChibiVerif.Findings.C17
open ChibiVerif.HashMap ChibiVerif.C17Clients
open ChibiVerif.Gen.HashMap (INIT_SIZE HIGH_WATERMARK LOW_WATERMARK fnvHash FNV_PRIME FNV_OFFSET)
open ChibiVerif.Gen.HashSites (probeIndexC fnvHashC)

/-- `a\0b` copied by `strndup` and looked up as the span `a\0b`: same spelling, different keys -/
theorem C17_nul_false_miss :
    let buf : Bytes := [97, 0, 98, 59, 0]
    (Src.dup buf 3).spelling = (Src.span buf 3).spelling ∧
    (Src.dup buf 3).key.toOption = some [97] ∧ (Src.span buf 3).key.toOption = some [97, 0, 98] ∧
    matchC [97] [97, 0, 98] = false := by decide +kernel

/-- `a\0b` and `a\0c`, both copied: different spellings, equal keys -/
theorem C17_nul_false_hit :
    (Src.dup [97, 0, 98, 0] 3).spelling ≠ (Src.dup [97, 0, 99, 0] 3).spelling ∧
    (Src.dup [97, 0, 98, 0] 3).key.toOption = some [97] ∧
    (Src.dup [97, 0, 99, 0] 3).key.toOption = some [97] := by decide +kernel

/-- without the length comparison the lookup key `out` matches the stored key `out_err` -/
theorem C17_prefix_needs_length_check :
    matchNoLen [111, 117, 116, 95, 101, 114, 114] [111, 117, 116] = true ∧
    matchC [111, 117, 116, 95, 101, 114, 114] [111, 117, 116] = false := by decide +kernel

/-- capacity 12, hash 2^64 - 1, i = 1: the C expression gives 0, arithmetic without wrap-around 4 -/
theorem C17_index_needs_pow2 :
    (probeIndexC 0xFFFFFFFFFFFFFFFF (Int32.ofNat 1) (Int32.ofNat 12)).toNat = 0 ∧
    ((0xFFFFFFFFFFFFFFFF : UInt64).toNat + 1) % 12 = 4 := by decide +kernel

/-- `é` = C3 A9: the code's hash (zero extension) and the hash a sign-extending xor would give -/
theorem C17_sign_extension_would_differ :
    fnvHashC [Int8.ofInt (-61), Int8.ofInt (-87)] = fnvHash [0xC3, 0xA9] ∧
    [Int8.ofInt (-61), Int8.ofInt (-87)].foldl
        (fun h c => (h * FNV_PRIME) ^^^ c.toInt64.toUInt64) FNV_OFFSET ≠ fnvHash [0xC3, 0xA9] := by
  decide +kernel

/-! ### `used` counting live keys only (seeded C17c / C13b) -/

variable {α β : Type} [DecidableEq α]

/-- `get_or_insert_entry` of the seeded change: `map->used++` also when a tombstone is reused -/
def applyInsLive (m : HM α β) (k : α) (v : β) : HM.InsPos → HM α β
  | .found idx => ⟨m.buckets.set idx (.full k v), m.used⟩
  | .reuse idx => ⟨m.buckets.set idx (.full k v), m.used + 1⟩
  | .fresh idx => ⟨m.buckets.set idx (.full k v), m.used + 1⟩

/-- `hashmap_put2` of the seeded change (the rehash path is unchanged: a fresh table has no
    tombstone to reuse) -/
def putLive (h : α → Nat) (m : HM α β) (k : α) (v : β) : Except Crash (HM α β) := do
  let m ←
    if m.buckets.isEmpty then pure (⟨List.replicate INIT_SIZE .empty, m.used⟩ : HM α β)
    else if m.used * 100 / m.buckets.length ≥ HIGH_WATERMARK then HM.rehash h m
    else pure m
  let p ← HM.insLoop m.buckets (h k) k m.buckets.length 0 none
  pure (applyInsLive m k v p)

/-- `hashmap_delete2` of the seeded change: `map->used--` -/
def deleteLive (h : α → Nat) (m : HM α β) (k : α) : Except Crash (HM α β) := do
  match ← HM.getEntry h m k with
  | none => pure m
  | some idx => pure ⟨m.buckets.set idx .tomb, m.used - 1⟩

def runLive (h : α → Nat) : HM α β → List (Op α β) → Except Crash (HM α β)
  | m, [] => .ok m
  | m, .put k v :: ops => do runLive h (← putLive h m k v) ops
  | m, .del k :: ops => do runLive h (← deleteLive h m k) ops
  | m, .get k :: ops => do let _ ← m.get h k; runLive h m ops

/-- the abort site a run ended in -/
def crashOf {γ : Type} : Except Crash γ → Option Crash
  | .error c => some c
  | .ok _ => none

/-- sixteen define/undefine cycles over distinct names (name `i` hashes to bucket `i`) -/
def churn16 : List (Op Nat Nat) :=
  [.put 0 1, .del 0, .put 1 1, .del 1, .put 2 1, .del 2, .put 3 1, .del 3,
   .put 4 1, .del 4, .put 5 1, .del 5, .put 6 1, .del 6, .put 7 1, .del 7,
   .put 8 1, .del 8, .put 9 1, .del 9, .put 10 1, .del 10, .put 11 1, .del 11,
   .put 12 1, .del 12, .put 13 1, .del 13, .put 14 1, .del 14, .put 15 1, .del 15]

/-- **Dual of the capacity bound.**  With live-only accounting the churn leaves 16 tombstones
    and `used = 0`; a lookup of any absent name then reaches `unreachable()`.  The code as it
    is (tombstones counted, dropped by `rehash`) answers the same history, and the capacity
    stays 16 (`C17_churn_bounded`: at most one name alive). -/
theorem C17_live_only_accounting_aborts :
    crashOf (runLive (fun k => k) HM.empty (churn16 ++ [.get 99])) = some .unreachable ∧
    (run (fun k => k) HM.empty (churn16 ++ [.get 99])).toOption.map (fun r => (r.1.capacity, r.2))
      = some (16, [none]) := by
  decide +kernel

end ChibiVerif.Findings.C17
