/-
C16 — kernel-checked witnesses (`by decide`) for the typing of the atomic primitives and for `_Atomic` propagation:
the OLD behaviour of the defects repaired in /repo (4993f7e, c3d94ea, c29052b, 1c76c1e; recorded as `fixed:` in
known_findings.json), shown on the code-generation model, the places where chibicc is more liberal than the standard
(harmless for the property), and what lies outside the single-instruction guarantee for plain atomic accesses.
-/
import ChibiVerif.Model.C16Typing
import ChibiVerif.Model.C16Qual
import ChibiVerif.Model.C16Declr
import ChibiVerif.Spec.C16QualSpec
import ChibiVerif.Model.Codegen

namespace ChibiVerif.Findings.C16
open ChibiVerif.Ast ChibiVerif.Asm ChibiVerif.C16Typing

def mk (id : Int) (k : TyKind) (sz : Int) (u : Bool := false) (b : Int := -1) : Ty :=
  { id, kind := k, size := sz, align := 1, isUnsigned := u, isAtomic := false, base := b, arrayLen := 0, returnTy := -1,
    isVariadic := false, isFlexible := false, isPacked := false, vlaSize := -1, params := [], members := [] }

/-- 0: `long *`, 1: `long`, 2: `int *`, 3: `int`, 4: `long double *`, 5: `long double`, 6: `char (*)[3]`, 7: `char[3]`,
    8: `char`, 9: `struct { int a; } *`, 10: that struct -/
def types : List Ty :=
  [mk 0 .ptr 8 true 1, mk 1 .long 8, mk 2 .ptr 8 true 3, mk 3 .int 4, mk 4 .ptr 8 true 5, mk 5 .ldouble 16,
   mk 6 .ptr 8 true 7, mk 7 .array 3 false 8, mk 8 .char 1, mk 9 .ptr 8 true 10, mk 10 .struct 4]

def env : Codegen.Env := { fpic := false, types }

/-- the lines `casArm` prints for argument types `a`, `o` (ids) with a desired value of type `n`, argument expressions
    printing nothing; `none` = the code generator aborts (`unreachable()`) -/
def armText (a o n : Nat) : Option (List String) :=
  match Codegen.casArm env (pure ()) types[a]? (pure ()) types[o]? (pure ()) types[n]? {} with
  | .ok (_, _, ls) => some (ls.map fun l => l.render)
  | .error _ => none

/-- repaired by /repo 4993f7e.  `long *p; int *q; __builtin_compare_and_swap(p, q, 1)` was accepted: the expected value
    was read with a 4-byte load, compared by an 8-byte `lock cmpxchg`, and on failure 8 bytes were written through `q`
    into a 4-byte object.  Now: "the expected value must have the size of the atomic object". -/
theorem C16_repaired_cas_two_widths :
    armText 0 2 1 = some ["  push %rax", "  push %rax", "  mov %rax, %r8", "  movsxd (%rax), %rax", "  pop %rdx", "  pop %rdi",
      "  lock cmpxchg %rdx, (%rdi)", "  sete %cl", "  je 1f", "  mov %rax, (%r8)", "1:", "  movzbl %cl, %eax"] ∧
    (casCheck types types[0]? types[2]?).toOption = none ∧
    (match casCheck types types[0]? types[2]? with | .error d => d.tag | .ok _ => "ok") = "size" := by decide +kernel

/-- repaired by /repo 4993f7e.  `int *p; long double *q;`: `reg_ax(16)` → "internal error"; now a diagnostic -/
theorem C16_repaired_cas_ldouble_expected :
    armText 2 4 3 = none ∧ (match casCheck types types[2]? types[4]? with | .error d => d.tag | .ok _ => "ok") = "size" := by
  decide +kernel

/-- repaired by /repo c3d94ea.  `char (*p)[3], (*q)[3];`: the object test `!is_numeric(base) && !base->base` let every
    type with a `base` through, `reg_dx(3)` → "internal error at codegen.c"; the test is now `base->kind != TY_PTR` -/
theorem C16_repaired_cas_array_object :
    armText 6 6 8 = none ∧ (match casCheck types types[6]? types[6]? with | .error d => d.tag | .ok _ => "ok") = "aggr-addr" := by
  decide +kernel

/-- repaired by /repo c3d94ea.  `int *p; struct { int a; } *q;`: sizes agree, `load` of a structure prints nothing, so
    `%rax` still held the ADDRESS `q` at the `lock cmpxchg`; the object test is now applied to `*old` as well -/
theorem C16_repaired_cas_struct_expected :
    armText 2 9 3 = some ["  push %rax", "  push %rax", "  mov %rax, %r8", "  pop %rdx", "  pop %rdi",
      "  lock cmpxchg %edx, (%rdi)", "  sete %cl", "  je 1f", "  mov %eax, (%r8)", "1:", "  movzbl %cl, %eax"] ∧
    (match casCheck types types[2]? types[9]? with | .error d => d.tag | .ok _ => "ok") = "aggr-old" := by decide +kernel

/-! ### plain accesses outside the single-instruction guarantee (`C16_plain_access_single`) -/

def storeText (t : Nat) : Option (List String) :=
  match Codegen.store types[t]? {} with
  | .ok (_, _, ls) => some (ls.map fun l => l.render)
  | .error _ => none

/-- `_Atomic struct { int a; } s; s = v;` is a byte-by-byte copy (two instructions per byte): another thread can observe
    a mixture of the old and the new value.  Measured on the binary: a writer alternating {0,0} / {-1,-1} in an
    `_Atomic struct { int a, b; }`, 2·10^7 reads: 12,827,249 torn (gcc: 0).  Not a read-modify-write: recorded as an
    observation, outside the letter of C16. -/
theorem C16_plain_struct_store_not_single :
    storeText 10 = some ["  pop %rdi", "  mov 0(%rax), %r8b", "  mov %r8b, 0(%rdi)", "  mov 1(%rax), %r8b", "  mov %r8b, 1(%rdi)",
      "  mov 2(%rax), %r8b", "  mov %r8b, 2(%rdi)", "  mov 3(%rax), %r8b", "  mov %r8b, 3(%rdi)"] := by decide +kernel

/-- `_Atomic long double` is stored by `fstpt` (10 bytes; outside the guarantee of SDM 8.1.1, and split in practice:
    4,432,777 torn reads out of 5·10^7 on the test machine) -/
theorem C16_plain_ldouble_store_ten_bytes :
    storeText 5 = some ["  pop %rdi", "  fstpt (%rdi)", "  fldt (%rdi)"] := by decide +kernel

/-! ### `_Atomic` propagation: repaired defect and the places where chibicc is more liberal than the standard -/

open ChibiVerif.C16Qual ChibiVerif.C16QualSpec in
/-- repaired by /repo c29052b.  `struct S { int y : 5; _Atomic int x : 3; } s; s.x += 1;` was accepted and compiled to the
    compare-and-swap loop on `&s.x`, i.e. on the whole 4-byte storage unit: the 1 was added to `y` (y=2 x=2 instead of
    y=1 x=3 on the binary).  Now the member declaration is a diagnostic; the C semantics (as in gcc and clang) rejects
    an atomic bit-field as well. -/
theorem C16_repaired_atomic_bitfield :
    let ds := [Decl.aggDef false "S" [⟨"y", .prim .int, false, .name, true⟩, ⟨"x", .prim .int, true, .name, true⟩]]
    (match elabDecls {} ds with | .error d => d.tag | .ok _ => "ok") = "atomic-bitfield" ∧
    (specDecls {} ds).isNone = true := by decide +kernel

open ChibiVerif.C16Qual ChibiVerif.C16QualSpec in
/-- latitude: `typedef int arr3[3]; _Atomic arr3 a; ++a[1];` violates a constraint (6.7.3p3: `_Atomic` shall not modify
    an array type; gcc rejects).  chibicc accepts, puts the flag on the ARRAY `Type`, and the element is not atomic. -/
theorem C16_latitude_atomic_array_typedef :
    let ds := [Decl.typedef_ "arr3" (.prim .int) false (.arr .name 3), Decl.var "a" (.tdef "arr3") true .name]
    (specDecls {} ds).isNone = true ∧
    (match elabDecls {} ds with
     | .ok m => (elabUpdate m .preInc (.idx (.var "a") 1)).toOption
     | .error _ => none) = some .plainDeref := by decide +kernel

open ChibiVerif.C16Qual ChibiVerif.C16QualSpec in
/-- latitude (over-approximation, harmless): `_Atomic int x; typeof((_Atomic int)x) y; y++;` - the cast yields an
    unqualified `int` in C, so `y` is not atomic; chibicc's `new_cast` copies the `Type` with its flag and updates `y`
    through the loop. -/
theorem C16_latitude_typeof_rvalue_keeps_flag :
    let ds := [Decl.var "x" (.prim .int) true .name,
               Decl.var "y" (.typeofE (.cast (.prim .int) true .name (.var "x"))) false .name]
    (match specDecls {} ds with | some s => (typeOf s (.var "y")).map (·.ty.isAtomic) | none => none) = some false ∧
    (match elabDecls {} ds with
     | .ok m => (elabUpdate m .postInc (.var "y")).toOption
     | .error _ => none) = some (.casLoop 4) := by decide +kernel

open ChibiVerif.C16Qual ChibiVerif.C16QualSpec in
/-- deviation outside the specified fragment: `_Atomic int a[3];` - `&a` has type pointer-to-array in C, chibicc's ND_ADDR
    gives it the type pointer-to-element (so `typeof(&a) p;` declares an `_Atomic int *`).  The specification says nothing
    about programs that apply `&` to an array. -/
theorem C16_deviation_addr_of_array :
    let ds := [Decl.var "a" (.prim .int) true (.arr .name 3)]
    (match specDecls {} ds with | some s => (typeOf s (.addr (.var "a"))).isNone | none => false) = true ∧
    (match elabDecls {} ds with
     | .ok m => (exprTy m (.addr (.var "a"))).toOption.map (·.ty)
     | .error _ => none) = some (.ptr (.num .int true) false) := by decide +kernel

/-! ### `_Atomic` as a qualifier of a pointer (repaired by /repo 1c76c1e) -/

open ChibiVerif.C16Qual ChibiVerif.C16Declr in
/-- parse.c `pointers` BEFORE /repo 1c76c1e: after a `*`,
    `while (equal(tok, "const") || equal(tok, "volatile") || equal(tok, "restrict") || equal(tok, "__restrict") ||
    equal(tok, "__restrict__")) tok = tok->next;` - `_Atomic` was not among them and ended the loop (and `pointers`) -/
def oldQualsT : List DTok → C16Qual.Ty → C16Qual.Ty × List DTok
  | .qual q :: ts, ty => if q = .atomic then (ty, .qual q :: ts) else oldQualsT ts ty
  | .star :: ts, ty => oldQualsT ts (pointerTo ty)
  | ts, ty => (ty, ts)

open ChibiVerif.C16Qual ChibiVerif.C16Declr in
def oldPointersT : List DTok → C16Qual.Ty → C16Qual.Ty × List DTok
  | .star :: ts, ty => oldQualsT ts (pointerTo ty)
  | ts, ty => (ty, ts)

open ChibiVerif.C16Qual ChibiVerif.C16QualSpec ChibiVerif.C16Declr in
/-- repaired by /repo 1c76c1e.  `int *_Atomic p; … p++` (valid C11, 6.7.6.1: an atomic pointer to `int`) was rejected:
    the old `pointers` stopped in front of `_Atomic`, `declarator` found a keyword where the identifier should be and
    `declaration` reported "variable name omitted" (the same with `const` in front: `int *const _Atomic p`).  Now the
    qualifier loop marks the pointer type, the declarator is consumed to its end, `p` is an atomic lvalue of 8 bytes in
    the C semantics and `p++`, `p += 1` are the compare-and-swap loop of 8 bytes, while the pointee `*p` stays plain. -/
theorem C16_repaired_pointer_atomic_qualifier :
    let d : Declr := .ptr .name [.atomic]
    toks d = [.star, .qual .atomic, .ident] ∧
    oldPointersT (toks d) (.num .int false) = (.ptr (.num .int false) false, [.qual .atomic, .ident]) ∧
    oldPointersT (toks (.ptr .name [.const, .atomic])) (.num .int false) = (.ptr (.num .int false) false, [.qual .atomic, .ident]) ∧
    pointersT (toks d) (.num .int false) = (.ptr (.num .int false) true, [.ident]) ∧
    declaratorT 2 (toks d) (.num .int false) = some (.ptr (.num .int false) true, []) ∧
    (match specDecls {} [Decl.var "p" (.prim .int) false d] with
     | some s => [(atomicLvalue s (.var "p")).bind CType.rmwSize?, (atomicLvalue s (.deref (.var "p"))).bind CType.rmwSize?]
     | none => []) = [some 8, none] ∧
    (match elabDecls {} [Decl.var "p" (.prim .int) false d] with
     | .ok m => [elabUpdate m .postInc (.var "p"), elabUpdate m .add (.var "p"), elabUpdate m .add (.deref (.var "p"))].map Except.toOption
     | .error _ => []) = [some (.casLoop 8), some (.casLoop 8), some .plainDeref] := by decide +kernel

open ChibiVerif.C16Qual ChibiVerif.C16QualSpec in
/-- the mutant the check must catch: the qualifier loop of `pointers` WITHOUT the line `ty->is_atomic = true` (it
    skips `_Atomic` like `const`) gives `int *_Atomic p` the plain pointer type, on which `p++` is a plain
    load-add-store - while the C semantics (and the model of the code as it is) says atomic, 8 bytes -/
theorem C16_pointer_qualifier_flag_matters :
    let plain : C16Qual.Ty := applyQuals [.const] (pointerTo (.num .int false))          -- what the mutant computes for `*_Atomic`
    let env : Env := { vars := [("p", plain)] }
    (elabUpdate env .postInc (.var "p")).toOption = some .plainDeref ∧
    (match elabDecls {} [Decl.var "p" (.prim .int) false (.ptr .name [.atomic])] with
     | .ok m => (elabUpdate m .postInc (.var "p")).toOption
     | .error _ => none) = some (.casLoop 8) := by decide +kernel

end ChibiVerif.Findings.C16
