/-
C15 — kernel-checked witnesses of the known findings (known_findings.json) and of the defects repaired by
`fix:` commits.  Every witness is evaluated in the kernel (`decide`) on the model, for every rule set.
Notions: `holdsOn`, `liveFn`: Lemmas/LinkageVocabulary.lean; `forall_rules`: Lemmas/LinkageLemmas.lean; `InScope`,
`C15_symbols_Statement`, `C15_addr_table_Statement`: Props/C15.lean; the regions and `valid`: Spec/LinkageSpec.lean.

Known findings (model ≠ Spec on a valid unit, confirmed on the real binary against gcc 12 by checklib/C15.py):
* C15-inline-flags-frozen          `inline int f(void){..} extern inline int f(void);`     no external definition
* C15-static-local-in-dead-inline  static local with an address constant inside an unreferenced static inline
* C15-tentative-composite-size     `int c[]; extern int c[5];`                             size 4 instead of 20
* C15-extern-init-after-static     `static int x; extern int x = 7;`                       emitted GLOBAL
* C15-extern-tls-local-exec        non-PIC `extern _Thread_local` addressed with local exec
-/
import ChibiVerif.Model.Linkage
import ChibiVerif.Spec.LinkageSpec
import ChibiVerif.Lemmas.LinkageLemmas
import ChibiVerif.Props.C15

namespace ChibiVerif.Findings.C15
open ChibiVerif.Linkage
open ChibiVerif.Spec.Linkage
open ChibiVerif.Gen.AddrForms
open ChibiVerif.Props.C15

def intTy : ObjTy := ⟨4, 4, false, false⟩

/-- model and Spec disagree on the symbol table of `ds` (both `-fcommon` settings checked separately) -/
def differs [Rules] (fcommon : Bool) (ds : List Decl) : Bool :=
  holdsOn (parseUnit ds) (fun gs =>
    !((objectSymbols fcommon gs).all (fun e => (symbols fcommon ds).contains e) &&
      (symbols fcommon ds).all (fun e => (objectSymbols fcommon gs).contains e)))

/-! Each witness below is a VALID unit inside the region of its finding.  The status theorems are stated for every rule
set: the model differs from the Spec on the witness exactly when the rule that repairs the finding is off.  So the file
keeps checking when a repair lands in /repo (`Rules.asBuilt` is regenerated from the source), and it records both facts:
the finding of the code without the repair, and the agreement of the repaired code. -/

/-! ### C15-inline-flags-frozen -/

/-- `inline int f(void){ }  extern inline int f(void);`   (f = 0) -/
def wInlineFrozen : List Decl :=
  [ .func 0 1 false false true (some []), .func 0 1 false true true none ]

theorem C15_finding_inline_flags_frozen :
    valid wInlineFrozen = true ∧ inlineFrozenFinding wInlineFrozen = true ∧
    -- C11 6.7.4p7: an external definition of f
    symbols true wInlineFrozen = [⟨.named 0, .global, .text, none, 0⟩] ∧
    -- chibicc without the repair: nothing; with it: the Spec's table
    (∀ r : Rules, holdsOn (@parseUnit r wInlineFrozen) (fun gs =>
      objectSymbols true gs == (if r.flagsFollow then [⟨.named 0, .global, .text, none, 0⟩] else [])) = true) :=
  ⟨by decide +kernel, by decide +kernel, by decide +kernel, forall_rules (by decide +kernel)⟩

/-! ### C15-static-local-in-dead-inline -/

/-- `static inline int f(void){ }  static inline int g(void){ static void *p = f; }  int main(void){ }`
    (f = 0, g = 1, main = 2) -/
def wDeadStaticLocal : List Decl :=
  [ .func 0 1 true false true (some []),
    .func 1 1 true false true (some [.staticLocal false ⟨8, 8, false, false⟩ (some [.ref (.fn 0)])]),
    .func 2 4 false false false (some []) ]

theorem C15_finding_static_local_in_dead_inline :
    valid wDeadStaticLocal = true ∧ deadStaticLocalRegion wDeadStaticLocal = true ∧
    deadStaticLocalVisibleRegion wDeadStaticLocal = true ∧
    symbols true wDeadStaticLocal = [⟨.named 2, .global, .text, none, 0⟩] ∧
    -- without the repair the always-emitted anonymous datum mentions f, f is not emitted: `f` becomes an undefined
    -- global symbol; with it the datum is not printed
    (∀ r : Rules, holdsOn (@parseUnit r wDeadStaticLocal) (fun gs =>
      ((objectSymbols true gs).contains ⟨.named 0, .global, .undef, none, 0⟩ == !r.ownedData) &&
      ((emittedUses gs).contains (.named 0) == !r.ownedData) && !liveFn gs 0) = true) :=
  ⟨by decide +kernel, by decide +kernel, by decide +kernel, by decide +kernel, forall_rules (by decide +kernel)⟩

/-! ### C15-tentative-composite-size -/

/-- `int c[]; extern int c[5];`   (c = 0) -/
def wCompositeSize : List Decl :=
  [ .obj 0 false false false ⟨4, 4, true, true⟩ none, .obj 0 false true false ⟨20, 4, true, false⟩ none ]

theorem C15_finding_tentative_composite_size :
    valid wCompositeSize = true ∧ compositeSizeRegion wCompositeSize = true ∧
    symbols false wCompositeSize = [⟨.named 0, .global, .bss, some 20, 16⟩] ∧
    (∀ r : Rules, holdsOn (@parseUnit r wCompositeSize) (fun gs => objectSymbols false gs ==
      (if r.compositeFromDecls then [⟨.named 0, .global, .bss, some 20, 16⟩] else [⟨.named 0, .global, .bss, some 4, 4⟩])) = true) :=
  ⟨by decide +kernel, by decide +kernel, by decide +kernel, forall_rules (by decide +kernel)⟩

/-- the repaired part (`fix:` D10): `int a[]; int a[5];` has the composite size -/
theorem C15_fixed_composite_of_tentatives : ∀ r : Rules,
    holdsOn (@parseUnit r [ .obj 0 false false false ⟨4, 4, true, true⟩ none, .obj 0 false false false ⟨20, 4, true, false⟩ none ])
      (fun gs => objectSymbols false gs == [⟨.named 0, .global, .bss, some 20, 16⟩]) = true :=
  forall_rules (by decide +kernel)

/-! ### C15-extern-init-after-static -/

/-- `static int x; extern int x = 7;`   (x = 0) -/
def wExternInit : List Decl :=
  [ .obj 0 true false false intTy none, .obj 0 false true false intTy (some []) ]

theorem C15_finding_extern_init_after_static :
    valid wExternInit = true ∧ externInitAfterStaticRegion wExternInit = true ∧
    symbols true wExternInit = [⟨.named 0, .local, .data, some 4, 4⟩] ∧
    (∀ r : Rules, holdsOn (@parseUnit r wExternInit) (fun gs => objectSymbols true gs ==
      [⟨.named 0, if r.externInherits then .local else .global, .data, some 4, 4⟩]) = true) :=
  ⟨by decide +kernel, by decide +kernel, by decide +kernel, forall_rules (by decide +kernel)⟩

/-! ### what `Spec.valid` excludes beyond the obvious: units that are not C

The symbol-table theorem needs these conditions, and they are part of `valid` (identifiers are declared at the point of
use, C11 6.2.1p7; compatible types, 6.2.7p1/p2); checklib/C15.py requires that gcc rejects each of the units below and that
no generated unit gcc accepts is invalid. -/

/-- `int main(void){ (void)&x; extern int x; }` (main=0, x=1): use before the block-scope declaration; chibicc - like every
    C compiler - rejects it ("undefined variable"), so there is no output whose symbol table could be compared -/
def wUseBeforeExtern : List Decl :=
  [ .func 0 4 false false false (some [.ref (.obj 1), .externObj 1 false intTy]) ]

theorem C15_side_use_before_block_extern :
    valid wUseBeforeExtern = false ∧ refsOrdered wUseBeforeExtern [] [] = false ∧
    (∀ r : Rules, (match @parseUnit r wUseBeforeExtern with | .error (.undeclared (.obj 1)) => true | _ => false) = true) :=
  ⟨by decide +kernel, by decide +kernel, forall_rules (by decide +kernel)⟩

/-- `int a[]; struct { int x, y; } a[];` (a=0): two tentative definitions that leave the length open and disagree on
    the element size (not compatible types; gcc: "conflicting types") -/
def wElemSize : List Decl :=
  [ .obj 0 false false false ⟨4, 4, true, true⟩ none, .obj 0 false false false ⟨8, 4, true, true⟩ none ]

theorem C15_side_element_size :
    valid wElemSize = false ∧ (∀ r : Rules, @differs r false wElemSize = true) :=
  ⟨by decide +kernel, forall_rules (by decide +kernel)⟩

/-- an object type with alignment 0 (no C type has it) -/
def wAlignZero : List Decl := [ .obj 0 false false false ⟨4, 0, false, false⟩ (some []) ]

theorem C15_side_alignment_zero :
    valid wAlignZero = false ∧ (∀ r : Rules, @differs r true wAlignZero = true) :=
  ⟨by decide +kernel, forall_rules (by decide +kernel)⟩

/-- `void f(void){ extern int c[7]; }  int c[];` (f=0, c=1): the block-scope declaration states a length the file-scope
    object (one element, 6.9.2p5) does not have (6.2.7p2: undefined; gcc rejects the same two declarations in the other
    order).  The repaired `scan_globals` would complete the array from it. -/
def wBlockExternLength : List Decl :=
  [ .func 0 1 false false false (some [.externObj 1 false ⟨28, 4, true, false⟩]), .obj 1 false false false ⟨4, 4, true, true⟩ none ]

theorem C15_side_block_extern_length :
    valid wBlockExternLength = false ∧ blockExternsAgree wBlockExternLength = false ∧
    (∀ r : Rules, @differs r false wBlockExternLength = r.compositeFromDecls) :=
  ⟨by decide +kernel, by decide +kernel, forall_rules (by decide +kernel)⟩

/-! ### the narrowed regions -/

/-- `static int f(void); static inline int f(void);` (never defined): the C11 class (`localIfNeeded`) differs from
    the class of the first declaration (`localAlways`), so the unit lies in `flagsFrozenRegion`; but `f` is not
    defined, the class is never looked at, and the unit is inside the scope of `C15_symbols_partial` -/
def wFrozenDeclOnly : List Decl := [ .func 0 1 true false false none, .func 0 1 true false true none ]

theorem C15_region_frozen_narrowed :
    flagsFrozenRegion wFrozenDeclOnly = true ∧ flagsFrozenDefRegion wFrozenDeclOnly = false ∧
    (∀ r : Rules, @InScope r wFrozenDeclOnly = true) :=
  ⟨by decide +kernel, by decide +kernel, forall_rules (by decide +kernel)⟩

/-- `int x; static inline int g(void){ static int *p = &x; }  int main(void){ }` (x=0, g=1, main=2): the static local of
    the dead function names an object the unit defines anyway.  Inside `deadStaticLocalRegion`, outside the narrowed
    `deadStaticLocalVisibleRegion`: the always-emitted datum adds a relocation but no symbol, the unit is inside the
    scope of `C15_symbols_partial`, and the tables agree. -/
def wDeadStaticLocalHarmless : List Decl :=
  [ .obj 0 false false false intTy none,
    .func 1 1 true false true (some [.staticLocal false ⟨8, 8, false, false⟩ (some [.ref (.obj 0)])]),
    .func 2 4 false false false (some []) ]

theorem C15_region_dead_static_local_narrowed :
    deadStaticLocalRegion wDeadStaticLocalHarmless = true ∧ deadStaticLocalVisibleRegion wDeadStaticLocalHarmless = false ∧
    (∀ r : Rules, @InScope r wDeadStaticLocalHarmless = true ∧
      @differs r true wDeadStaticLocalHarmless = false ∧ @differs r false wDeadStaticLocalHarmless = false) :=
  ⟨by decide +kernel, by decide +kernel, forall_rules (by decide +kernel)⟩

/-- every witness of a known finding of the symbol table lies outside `InScope` exactly as long as its rule is off -/
theorem C15_findings_outside_scope : ∀ r : Rules,
    @InScope r wInlineFrozen = r.flagsFollow ∧ @InScope r wDeadStaticLocal = r.ownedData ∧
    @InScope r wCompositeSize = r.compositeFromDecls ∧ @InScope r wExternInit = r.externInherits :=
  forall_rules (by decide +kernel)

/-! ### consequence for the full statement -/

theorem refutes (r : Rules) {fc : Bool} {w : List Decl} (hv : valid w = true) {p : List Obj → Bool}
    (hp : holdsOn (@parseUnit r w) p = true)
    (hd : ∀ gs, p gs = true → ¬ ∀ e, e ∈ objectSymbols fc gs ↔ e ∈ symbols fc w) : ¬ @C15_symbols_Statement r := by
  intro h
  obtain ⟨gs, hgs, hiff⟩ := h fc w hv
  rw [hgs] at hp
  exact hd gs hp hiff

/-- **the full symbol-table statement fails for every rule set that lacks one of the four repairs** (and holds for the
    one that has them all: `Props.C15.C15_symbols_repaired`): the witness of the finding whose rule is off is a valid
    unit on which the two tables, evaluated above, differ -/
theorem C15_finding_symbols : ∀ r : Rules,
    (r.externInherits && r.flagsFollow && r.compositeFromDecls && r.ownedData) = false → ¬ @C15_symbols_Statement r := by
  intro r h
  simp only [Bool.and_eq_false_iff] at h
  rcases h with ((off | off) | off) | off
  · obtain ⟨hv, _, hsym, hp⟩ := C15_finding_extern_init_after_static
    refine refutes r (fc := true) hv (hp r) fun gs hgs hiff => ?_
    have := (hiff _).mp (by rw [eq_of_beq hgs]; exact List.mem_singleton_self _)
    rw [hsym, off] at this
    cases this with | tail _ h => cases h
  · obtain ⟨hv, _, hsym, hp⟩ := C15_finding_inline_flags_frozen
    refine refutes r (fc := true) hv (hp r) fun gs hgs hiff => ?_
    have := (hiff _).mpr (by rw [hsym]; exact List.mem_singleton_self _)
    rw [eq_of_beq hgs, off] at this
    cases this
  · obtain ⟨hv, _, hsym, hp⟩ := C15_finding_tentative_composite_size
    refine refutes r (fc := false) hv (hp r) fun gs hgs hiff => ?_
    have := (hiff _).mpr (by rw [hsym]; exact List.mem_singleton_self _)
    rw [eq_of_beq hgs, off] at this
    cases this with | tail _ h => cases h
  · obtain ⟨hv, _, _, hsym, hp⟩ := C15_finding_static_local_in_dead_inline
    refine refutes r (fc := true) hv (hp r) fun gs hgs hiff => ?_
    simp only [off, Bool.not_false, Bool.and_eq_true, beq_iff_eq, List.contains_eq_mem, decide_eq_true_eq] at hgs
    have := (hiff _).mp hgs.1.1
    rw [hsym] at this
    cases this with | tail _ h => cases h

/-! ### C15-extern-tls-local-exec -/

/-- non-PIC, thread-local, not defined by the unit: `gen_addr` prints `mov %fs:0, %rax; add $t@tpoff, %rax` -/
def wExternTls : VarCtx := ⟨false, false, false, true, false, false⟩

/-- local exec is not a valid form for the witness context; the regenerated ladder chooses either local exec (the
    finding: then the context lies in the region) or - once gen_addr is repaired - initial exec, which is valid, and the
    region is empty.  Stated as a disjunction so that the file keeps checking across the repair; which branch holds is
    decided by evaluating the ladder regenerated from codegen.c. -/
theorem C15_finding_extern_tls :
    ctxConsistent wExternTls = true ∧ validForm (refCtxOf wExternTls) .tlsLE = false ∧
    ((addrForm wExternTls = some .tlsLE ∧ externTlsRegion wExternTls = true) ∨
     (addrForm wExternTls = some .tlsIE ∧ externTlsRegion wExternTls = false ∧
      validForm (refCtxOf wExternTls) .tlsIE = true)) := by decide +kernel

/-- as long as the ladder chooses local exec in the witness context, the full address-table statement is false -/
theorem C15_finding_addr_table (hle : addrForm wExternTls = some .tlsLE) : ¬ C15_addr_table_Statement := by
  intro h
  obtain ⟨f, hf, hv⟩ := h wExternTls C15_finding_extern_tls.1
  rw [hle] at hf
  cases hf
  rw [C15_finding_extern_tls.2.1] at hv
  cases hv

/-! ### repaired defects: the model of the code gives the C11 answer (for every rule set)

`D1`, `D3`, `D7`, `D10` are the keys of the repaired defects in corpus/C15/ (`d01_two_tentatives.json`,
`d03_tls_tentative_twice.json`, `d07_extern_with_initializer.json`, `d10_composite_of_tentatives.json`). -/

/-- D1: `int x; int x;` leaves one definition (was: none) -/
theorem C15_fixed_two_tentatives : ∀ r : Rules,
    holdsOn (@parseUnit r [ .obj 0 false false false intTy none, .obj 0 false false false intTy none ])
      (fun gs => objectSymbols true gs == [⟨.named 0, .global, .common, some 4, 4⟩] &&
                 objectSymbols false gs == [⟨.named 0, .global, .bss, some 4, 4⟩]) = true := forall_rules (by decide +kernel)

/-- D3: `_Thread_local int t; _Thread_local int t = 1;` is one definition in .tdata (was: two labels) -/
theorem C15_fixed_tls_tentative : ∀ r : Rules,
    holdsOn (@parseUnit r [ .obj 0 false false true intTy none, .obj 0 false false true intTy (some []) ])
      (fun gs => objectSymbols true gs == [⟨.named 0, .global, .tdata, some 4, 4⟩]) = true :=
  forall_rules (by decide +kernel)

/-- D7: `extern int e = 5;` is a definition -/
theorem C15_fixed_extern_initializer : ∀ r : Rules,
    holdsOn (@parseUnit r [ .obj 0 false true false intTy (some []) ])
      (fun gs => objectSymbols true gs == [⟨.named 0, .global, .data, some 4, 4⟩]) = true := forall_rules (by decide +kernel)

/-- the first C15 fix (is_root recomputed on redeclaration):
    `static inline int f(void); void *p = f; static inline int f(void){ }` emits f -/
theorem C15_fixed_root_survives_redeclaration : ∀ r : Rules,
    holdsOn (@parseUnit r [ .func 0 1 true false true none, .obj 1 false false false ⟨8, 8, false, false⟩ (some [.ref (.fn 0)]),
                         .func 0 1 true false true (some []) ])
      (fun gs => liveFn gs 0 && (emitText gs).map (·.sym) == [.named 0]) = true := forall_rules (by decide +kernel)

/-- the mirror image of C15-inline-flags-frozen (harmless): `static int f(void); static inline int f(void){ }` - the
    unreferenced function is emitted by the code that takes the flags from the first declaration, dropped by the repaired one -/
theorem C15_mirror_static_then_inline : ∀ r : Rules,
    holdsOn (@parseUnit r [ .func 0 1 true false false none, .func 0 1 true false true (some []) ])
      (fun gs => (emitText gs).map (·.sym) == (if r.flagsFollow then [] else [.named 0])) = true :=
  forall_rules (by decide +kernel)

end ChibiVerif.Findings.C15
