/-
C08 — kernel-checked witnesses (`decide`) of the known findings and of the latitude in `declspec`, on the model of the
code as it is now; and of defects already repaired in /repo (pre-fix loop bodies / pre-fix inputs to the loops kept here).

Known findings (known_findings.json), all inside `__attribute__((packed))`; codegen loads a bit-field with one access of
its declared type, so contiguous packed bit-fields that straddle a unit cannot be represented without a larger change:
* C08-packed-bitfield-straddle : `struct __attribute__((packed)) { char a; int b:30; int c:10; }`  chibicc 10/1, psABI/gcc 6/1
* C08-packed-member-alignas    : `struct __attribute__((packed)) { char a; _Alignas(8) int b; }`   chibicc 5/1 (b at 1), gcc 16/8 (b at 8)
* C08-packed-union-bitfield    : `union __attribute__((packed)) { int x:3; char c; }`              chibicc 4/1, gcc 1/1
Each refutes `C08_layout_Statement`; `C08_layout_partial` holds outside the regions.
* C08-huge-struct-overflow     : `struct { char a[1<<28]; char b; }`: `struct_decl` counts bits in a C `int`.  Model/Layout32.lean
  redoes the loops with every `int` operation explicit: strict mode reports the signed overflow, wrap mode reproduces the
  figures the binary prints; `C08_layout_int_partial` shows that below 256 MiB nothing overflows.
-/
import ChibiVerif.Props.C08

namespace ChibiVerif.Findings.C08
open ChibiVerif.Layout ChibiVerif.Gen.Declspec ChibiVerif.Spec.Layout ChibiVerif.Props.C08

/-! ### declspec latitude -/

/-- `signed signed` is accepted as `int` (`counter |= SIGNED` is idempotent) although C11 6.7.2p2 lists no multiset with
    two `signed`; so is the empty specifier list (implicit int). -/
theorem C08_finding_dup_sign : ¬ C08_specifiers_reject_Statement := by
  intro h
  have := h [.signed, .signed] (by decide)
  revert this
  decide +kernel

theorem C08_dup_sign_witnesses :
    declspecDecode [.signed, .signed] = .ok .int ∧ declspecDecode [.unsigned, .long, .unsigned] = .ok .ulong ∧
    declspecDecode [] = .ok .int ∧ c11Type [.signed, .signed] = none ∧ c11Type [] = none := by decide +kernel

/-! ### known findings -/

def w_straddle : List SMem := [⟨1, 1, 0, none, true⟩, ⟨4, 4, 0, some 30, true⟩, ⟨4, 4, 0, some 10, true⟩]
def w_alignas : List SMem := [⟨1, 1, 0, none, true⟩, ⟨4, 4, 8, none, true⟩]
def w_ubf : List SMem := [⟨4, 4, 0, some 3, true⟩, ⟨1, 1, 0, none, true⟩]

/-- C08-packed-bitfield-straddle: the model (= chibicc) gives 10/1 with `b` in the unit at byte 4, the spec (= gcc) 6/1
    with `b` at bits 8..37 -/
theorem C08_finding_packed_bitfield_straddle :
    PackedWithBitfield true w_straddle = true ∧ (∀ m ∈ w_straddle, m.WF) ∧
    structLayout true 1 (w_straddle.map SMem.toMem) = .ok ⟨10, 1, [⟨0, 0⟩, ⟨4, 0⟩, ⟨8, 0⟩]⟩ ∧
    specStruct true none w_straddle = ⟨6, 1, [⟨0, 0, 0⟩, ⟨8, 0, 8⟩, ⟨38, 4, 6⟩]⟩ := by decide +kernel

/-- C08-packed-member-alignas -/
theorem C08_finding_packed_member_alignas :
    PackedWithMemberAlign true w_alignas = true ∧ (∀ m ∈ w_alignas, m.WF) ∧
    structLayout true 1 (w_alignas.map SMem.toMem) = .ok ⟨5, 1, [⟨0, 0⟩, ⟨1, 0⟩]⟩ ∧
    specStruct true none w_alignas = ⟨16, 8, [⟨0, 0, 0⟩, ⟨64, 8, 0⟩]⟩ := by decide +kernel

/-- C08-packed-union-bitfield -/
theorem C08_finding_packed_union_bitfield :
    PackedUnionBitfield true w_ubf = true ∧ (∀ m ∈ w_ubf, m.WF) ∧
    unionLayout true 1 (w_ubf.map SMem.toMem) = .ok ⟨4, 1, [⟨0, 0⟩, ⟨0, 0⟩]⟩ ∧
    specUnion true none w_ubf = ⟨1, 1, [⟨0, 0, 0⟩, ⟨0, 0, 0⟩]⟩ := by decide +kernel

/-- each witness refutes the full statement -/
theorem C08_layout_Statement_false : ¬ C08_layout_Statement := by
  intro h
  have := (h true none w_straddle (by intro n hn; cases hn) (by decide)).1
  revert this
  decide +kernel

/-- … and so does the type-level statement (`struct __attribute__((packed)) { char a; _Alignas(8) int b; }`) -/
theorem C08_types_Statement_false : ¬ C08_types_Statement := by
  intro h
  have := h (.struct true none (.cons ⟨none, true⟩ .nil (.prim .char) (.cons ⟨none, true⟩ (.const 8 .nil) (.prim .int) .nil))) (by decide)
  revert this
  decide +kernel

/-! ### C08-huge-struct-overflow (`Model/Layout32.lean`: struct_decl with explicit `int` arithmetic) -/

def w_huge : List SMem := [⟨268435456, 1, 0, none, true⟩, ⟨1, 1, 0, none, true⟩]

/-- `struct { char a[1<<28]; char b; }`: psABI size 268435457, `b` at 268435456 (= 2^31 bits: outside the range of
    `C08_layout_int_partial`).  In the C abstract machine `bits += mem->ty->size * 8` is signed overflow (strict mode:
    `overflow`); the compiled code wraps and computes offsetof(b) = -268435455 and sizeof = -268435453, the figures the
    binary prints (wrap mode) -/
theorem C08_finding_huge_struct_overflow :
    specStruct false none w_huge = ⟨268435457, 1, [⟨0, 0, 0⟩, ⟨2147483648, 268435456, 0⟩]⟩ ∧
    (2 : Nat) ^ 31 ≤ 8 * (specStruct false none w_huge).size ∧
    structLayout32 .strict false 1 (w_huge.map SMem.toMem) = .error .overflow ∧
    structLayout32 .wrap false 1 (w_huge.map SMem.toMem) = .ok ⟨-268435453, 1, [⟨0, 0⟩, ⟨-268435455, 0⟩]⟩ := by
  decide +kernel

/-! ### repaired defects (pre-fix code) -/

/-- `struct_decl` before fix 7580095: unnamed bit-fields raised the alignment -/
def stepAlignOld (packed : Bool) (align : Int) (m : Mem) : Int :=
  if !packed && align < m.align then m.align else align

/-- `struct { char a; int :3; }` was 4/4; psABI 3.1.2: unnamed bit-fields do not affect the alignment, 2/1 -/
theorem C08_fixed_unnamed_bitfield_align :
    let ms : List SMem := [⟨1, 1, 0, none, true⟩, ⟨4, 4, 0, some 3, false⟩]
    (ms.map SMem.toMem).foldl (stepAlignOld false) 1 = 4 ∧
    specStruct false none ms = ⟨2, 1, [⟨0, 0, 0⟩, ⟨8, 0, 8⟩]⟩ ∧
    structLayout false 1 (ms.map SMem.toMem) = .ok ⟨2, 1, [⟨0, 0⟩, ⟨0, 8⟩]⟩ := by decide +kernel

/-- `struct_decl` before fix 1addb5f: the packed arm did `mem->offset = bits / 8` without rounding `bits` up to a byte:
    `struct __attribute__((packed)) { char a:3; char b; }` put `b` at offset 0, on top of `a`; now (and in gcc) 1 -/
theorem C08_fixed_packed_overlap :
    Int.tdiv 3 8 = 0 ∧
    structLayout true 1 ([⟨1, 1, 0, some 3, true⟩, ⟨1, 1, 0, none, true⟩].map SMem.toMem) = .ok ⟨2, 1, [⟨0, 0⟩, ⟨1, 0⟩]⟩ ∧
    specStruct true none [⟨1, 1, 0, some 3, true⟩, ⟨1, 1, 0, none, true⟩] = ⟨2, 1, [⟨0, 0, 0⟩, ⟨8, 1, 0⟩]⟩ := by decide +kernel

/-- `union_decl` before the packed fix (9b0faa6): `if (ty->align < mem->align) ty->align = mem->align;` ignored `is_packed` -/
def unionStepOld (size align : Int) (m : Mem) : Int × Int :=
  match m.bitWidth, m.named with
  | some w, false => (if size < Int.tdiv (w + 7) 8 then Int.tdiv (w + 7) 8 else size, align)
  | _, _ => (if size < m.size then m.size else size, if align < m.align then m.align else align)

/-- `union __attribute__((packed)) { int a; char b; }` was 4/4; gcc 4/1 -/
theorem C08_fixed_packed_union :
    let ms : List SMem := [⟨4, 4, 0, none, true⟩, ⟨1, 1, 0, none, true⟩]
    (ms.map SMem.toMem).foldl (fun s m => unionStepOld s.1 s.2 m) (0, 1) = (4, 4) ∧
    specUnion true none ms = ⟨4, 1, [⟨0, 0, 0⟩, ⟨0, 0, 0⟩]⟩ ∧
    unionLayout true 1 (ms.map SMem.toMem) = .ok ⟨4, 1, [⟨0, 0⟩, ⟨0, 0⟩]⟩ := by decide +kernel

/-! ### repaired: zero divisors in struct_decl / union_decl (fixes 04ba5b8, fb20c9b, 33adb94) -/

/-- before fix 04ba5b8 `attribute_list` did `ty->align = const_expr(..)` unconditionally:
    `struct __attribute__((aligned(0))) S {} s;` ran the loops with `ty->align = 0` and — no member raising it — divided by it (SIGFPE), and so did
    `aligned(4294967296)` after the truncation to `int`; now `aligned(0)` requests nothing and 2^32 is diagnosed -/
theorem C08_fixed_aligned_zero :
    structLayout false 0 [] = .error .divByZero ∧ unionLayout false 0 [] = .error .divByZero ∧
    (Ty.struct false (some 0) .nil).layout = .ok ⟨0, 1, []⟩ ∧ (Ty.union false (some 0) .nil).layout = .ok ⟨0, 1, []⟩ ∧
    (Ty.struct false (some 0) (.cons ⟨none, true⟩ .nil (.prim .char) .nil)).layout = .ok ⟨1, 1, [⟨0, 0⟩]⟩ ∧
    (Ty.struct false (some 4294967296) .nil).layout = .error .badAlign := by decide +kernel

/-- before fix fb20c9b a bit-field could have any declared type: `struct S { struct {} a : 1; }` and `struct S { int a[0] : 1; }`
    reached `bits / (sz * 8)` with `sz = 0` (SIGFPE); now "bit-field has non-integer type" -/
theorem C08_fixed_bitfield_type :
    structLayout false 1 [{ size := 0, align := 1, bitWidth := some 1, named := true }] = .error .divByZero ∧
    structLayout false 1 [{ size := 0, align := 4, bitWidth := some 0, named := false }] = .error .divByZero ∧
    (Ty.struct false none (.cons ⟨some 1, true⟩ .nil (.struct false none .nil) .nil)).layout = .error .bitfieldType ∧
    (Ty.struct false none (.cons ⟨some 1, true⟩ .nil (.arr (.prim .int) 0) .nil)).layout = .error .bitfieldType ∧
    (Ty.struct false none (.cons ⟨some 3, true⟩ .nil (.prim .ldouble) .nil)).layout = .error .bitfieldType := by decide +kernel

/-- before fix 33adb94 `_Alignas(n)` stored any constant: `struct S { _Alignas(536870912) char c; }` made struct_decl compute
    `mem->align * 8` = 2^32, which is 0 in a 32-bit `int` (SIGFPE in align_to; invisible to the unbounded-`Int` model, which is
    why `C08_align_bound` now proves that no alignment above 2^28 reaches the loops); now the located diagnostic -/
theorem C08_fixed_alignas_wrap :
    int32 (536870912 * 8) = 0 ∧ int32 (1073741824 * 8) = 0 ∧ int32 (268435456 * 8) = -2147483648 ∧
    (Ty.struct false none (.cons ⟨none, true⟩ (.const 536870912 .nil) (.prim .char) .nil)).layout = .error .badAlign ∧
    (Ty.struct false none (.cons ⟨none, true⟩ (.const 1073741824 .nil) (.prim .int) .nil)).layout = .error .badAlign := by decide +kernel

end ChibiVerif.Findings.C08
