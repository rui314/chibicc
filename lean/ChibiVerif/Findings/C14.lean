/-
C14 — kernel-checked witnesses of two ORIGINAL defects of main.c's input loop, both repaired in /repo by
`fix:` commits (Model/DriverProc.lean models the repaired code, Props/C14.lean proves it correct).
This file keeps the pre-fix loop as `planOld`/`compileLoopOld` and shows by evaluation in the kernel (`decide`)
that it violated "on success exactly the requested outputs exist", whereas the repaired loop does not.

(A) `.s` input when linking.  Pre-fix:

      if (type == FILE_ASM) { if (!opt_S) assemble(input, output); continue; }

    with `output = opt_o ? opt_o : replace_extn(input, ".o")`: the object went to `<stem>.o` (or INTO the
    `-o` file) and was never pushed to `ld_args`.  `chibicc a.c b.s` left an unrequested `b.o` and linked
    `a.out` from `a.c` alone.
(B) linker inputs when not linking.  Pre-fix: `if (ld_args.len > 0) run_linker(&ld_args, opt_o ? opt_o : "a.out");`
    in every mode, and `.o`, `.a`, `.so` and `-l…` inputs are pushed to `ld_args` in every mode: `chibicc -c a.c b.o`
    ran the linker and created `a.out`.
-/
import ChibiVerif.Model.DriverProc

namespace ChibiVerif.Findings.C14
open ChibiVerif.DriverProc

variable {P : Type} [DecidableEq P]

/-- the pre-fix loop body: differs from `plan` in the `.s` arm only -/
def planOld (cmd : Cmd P) (n : Nat) (i : Input P) : List (Act P) :=
  match effKind cmd.mode i.kind with
  | .asm =>
    match cmd.mode with
    | .S => []
    | _ => [.run .as (.path i.path) (some (.path (unitOutput cmd i)))]
  | _ => plan cmd n i

def planTempsOld (cmd : Cmd P) (i : Input P) : Nat :=
  match effKind cmd.mode i.kind with
  | .asm => 0
  | _ => planTemps cmd i

/-- the pre-fix tail: the linker runs whenever `ld_args` is not empty -/
def compileLoopOld (cmd : Cmd P) : Nat → List (Input P) → List (Act P)
  | _, [] => [.link (cmd.out.getD cmd.aout)]
  | n, i :: r => planOld cmd n i ++ compileLoopOld cmd (n + planTempsOld cmd i) r

def runOld (env : Env P) (cmd : Cmd P) (fs : FS P) : DState P × FS P :=
  let s : DState P := { acts := compileLoopOld cmd 0 cmd.inputs, tmpfiles := [], ldArgs := [] }
  iter env (fuel s) (s, fs)

private def noFaults (m : Mode) : Env Nat := { mode := m, sched := fun _ _ => .ok, fresh := fun k => some (100 + k) }

/-- `chibicc a.c b.s` — paths: a.c = 1, b.s = 2, b.o = 22, a.out = 99 -/
private def cmdA : Cmd Nat :=
  { mode := .link, out := none, aout := 99, inputs := [⟨1, .C, 11, 12⟩, ⟨2, .asm, 21, 22⟩] }
private def fsA : FS Nat := [(1, ⟨.orig, [1]⟩), (2, ⟨.orig, [2]⟩)]

/-- (A), pre-fix: status 0, an unrequested `b.o` exists, and `a.out` does not contain `b.s` -/
theorem C14_repaired_asm_when_linking_old :
    (runOld (noFaults .link) cmdA fsA).1.phase = .done 0 ∧
    (runOld (noFaults .link) cmdA fsA).2.get 22 = some ⟨.obj, [2]⟩ ∧
    (runOld (noFaults .link) cmdA fsA).2.get 99 = some ⟨.exe, [1]⟩ ∧
    requested cmdA = [99] := by decide +kernel

/-- (A), repaired: only `a.out` is created, linked from both inputs -/
theorem C14_repaired_asm_when_linking_new :
    (runCmd (noFaults .link) cmdA fsA).1.phase = .done 0 ∧
    (runCmd (noFaults .link) cmdA fsA).2.get 22 = none ∧
    (runCmd (noFaults .link) cmdA fsA).2.get 99 = some ⟨.exe, [1, 2]⟩ := by decide +kernel

/-- `chibicc -o prog a.c b.s` pre-fix: the assembler wrote `b.s`'s object INTO `prog` (path 50) before the
    linker replaced it -/
theorem C14_repaired_asm_when_linking_old_o :
    (.spawn .as [2] (some 50) : Event Nat) ∈ (runOld (noFaults .link) { cmdA with out := some 50 } fsA).1.log := by
  decide

/-- `chibicc -c a.c b.o` — b.o = 3 -/
private def cmdB : Cmd Nat :=
  { mode := .c, out := none, aout := 99, inputs := [⟨1, .C, 11, 12⟩, ⟨3, .obj, 31, 32⟩] }
private def fsB : FS Nat := [(1, ⟨.orig, [1]⟩), (3, ⟨.orig, [3]⟩)]

/-- (B), pre-fix: the linker ran and created `a.out` although `-c` was given -/
theorem C14_repaired_linker_input_not_linking_old :
    (.spawn .ld [3] (some 99) : Event Nat) ∈ (runOld (noFaults .c) cmdB fsB).1.log ∧
    (runOld (noFaults .c) cmdB fsB).2.get 99 = some ⟨.exe, [3]⟩ ∧
    requested cmdB = [12] := by decide +kernel

/-- (B), repaired: no linker run, only `a.o` is created -/
theorem C14_repaired_linker_input_not_linking_new :
    (runCmd (noFaults .c) cmdB fsB).2.get 99 = none ∧
    (runCmd (noFaults .c) cmdB fsB).2.get 12 = some ⟨.obj, [1]⟩ ∧
    (∀ e ∈ (runCmd (noFaults .c) cmdB fsB).1.log, ∀ i o, e ≠ .spawn .ld i o) := by
  refine ⟨by decide, by decide, ?_⟩
  intro e he i o h
  subst h
  revert he
  have : (runCmd (noFaults .c) cmdB fsB).1.log.all (fun e => match e with | .spawn .ld _ _ => false | _ => true) = true := by
    decide
  intro he
  have := List.all_eq_true.mp this _ he
  simp at this

end ChibiVerif.Findings.C14
