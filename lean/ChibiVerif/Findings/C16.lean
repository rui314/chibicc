/-
C16 — kernel-checked witnesses (`by decide`) on the interleaving model of Model/Atomics.lean:
concrete schedules for the non-vacuity of the property theorems, and the model-level shape of the
defects that were repaired in /repo (recorded as `fixed:` in known_findings.json).
-/
import ChibiVerif.Model.Atomics

namespace ChibiVerif.Findings.C16
open ChibiVerif.Atomics

/-- `x += 1` on an 8-bit object -/
def incr : Oper .w8 := .rmw (fun c => some (c + 1)) false

def two : Sys .w8 := initSys .w8 .unsigned 0#8 [[incr], [incr]]

/-- thread 0 runs up to its `lock cmpxchg` (7 instructions), thread 1 performs its whole update
    (8 instructions up to and including the locked one), then thread 0 executes its `lock cmpxchg` -/
def schedFail : List Nat := List.replicate 7 0 ++ List.replicate 8 1 ++ [0]

/-- a reachable failed compare-exchange: thread 0's attempt fails (ZF = 0, logged as a read, not a
    commit), the object keeps thread 1's value, and thread 1 committed in between -/
theorem C16_witness_failed_cas :
    let s := exec schedFail two
    s.log.map (fun e => (e.tid, e.kind.isCommit)) = [(0, false), (1, false), (1, true), (0, false)] ∧
    s.cell = 1#8 ∧ s.threads.map (·.zf) = [false, true] ∧ s.threads.map (·.pc) = [.sete, .sete] := by decide +kernel

/-- the same run continued: thread 0 writes the observed value back, goes round the loop, commits;
    no update is lost (2), `x += 1` yields 2 in thread 0 and 1 in thread 1 -/
theorem C16_witness_retry_commits :
    let s := exec (schedFail ++ List.replicate 24 0 ++ List.replicate 9 1) two
    s.terminated = true ∧ s.cell = 2#8 ∧ s.threads.map (·.results) = [[.val 2#8], [.val 1#8]] ∧
    s.log.map (fun e => (e.tid, e.kind.isCommit)) =
      [(0, false), (1, false), (1, true), (0, false), (0, true)] := by decide +kernel

/-- repaired defect (to_assign took the plain member path for `s.x += 1` on an `_Atomic` member): a plain load
    followed by a plain store of `old + 1` is two linearization points; two threads lose an update -/
theorem C16_witness_plain_rmw_loses_update :
    let prog : List (Oper .w8) := [.load, .store 1#64]      -- each thread: read 0, write 0 + 1
    let s := exec [0, 1, 0, 0, 1, 1] (initSys .w8 .unsigned 0#8 [prog, prog])
    s.terminated = true ∧ s.cell = 1#8 := by decide +kernel

/-- repaired defect (ND_EXCH without the extension): after `xchg %al, (%rdi)` alone, `%eax` holds bits 8..31 of
    the *new* value and the old byte: exchanging 5 into a `signed char` holding -1 leaves 255 in `%eax`, not -1 -/
theorem C16_witness_xchg_needs_extension :
    writeReg .w8 5#64 0xff#8 = 255#64 ∧ loadExt .w8 .signed 0xff#8 = 0xffffffff#64 := by decide +kernel

end ChibiVerif.Findings.C16
