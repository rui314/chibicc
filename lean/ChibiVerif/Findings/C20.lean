/-
C20 — kernel-checked witnesses.

* `C20_fixed_empty_struct_*` (was known finding `C20-empty-struct-arg`, repaired by /repo b298aee): the call
  `g(e, 3)` with `e` of the GNU empty struct type (size 0).  Before the repair `struct_in_regs`
  answered "one SSE register" for zero bytes (`structClsE`, the old answer, still says so):
  `push_struct` pushed `align_to(0, 8) / 8 = 0` slots but the register-loading loop popped one register
  and `depth` ended at −1 (`emit_text: Assertion 'depth == 0' failed`).  Now `struct_in_regs` answers
  "no register" for size 0 and the loop skips the argument: `depth` is back at 0 and the code is balanced.
* `C20_finding_jump_out_of_stmt_expr` (known finding `C20-jump-out-of-stmt-expr`): the full statement
  `C20_function_Statement` is FALSE on the current code.  Witness: `for (;;) { n = ({ continue; 2; }); }`:
  the assignment has pushed the address of `n` when the `continue` (a plain `jmp`) leaves the
  statement expression, so the loop's continue label is reached at two different stack heights —
  every such `continue` leaks 8 bytes.
* `C20_finding_x87_depth_overflow` (known finding `C20-x87-depth-overflow`): `a+(a+(a+(a+(a+(a+(a+(a+a)))))))`
  with nine long double operands: `gen_expr` keeps the left operand of every `+` on the x87 register
  stack while it evaluates the right one, so the ninth `fldt` finds all eight registers occupied
  (stack overflow: the result is NaN where gcc computes 9.0).  On the model: the code is balanced
  (one height per label, `verifyL` passes: the label-height theorems apply) but its x87 depth
  reaches 9, which `Effect.checkBody` rejects — `C20_function_Statement` is false.  Region:
  `x87Deep` (Model/C20Flow.lean): the evaluation needs more than eight x87 registers.
* `C20_checker_incomplete_repaired`: `checkBody` used to infer label heights in three passes; a chain
  of five labels that are only reached backwards needs four — a latent false alarm of the check, not a
  defect of the compiler.  `checkBody` now iterates to a fixpoint and is proved complete
  (`C20_checkBody_complete`); the witness shows the old verdict and the new one.
* `C20_treeDistinct_needed`: the one hypothesis of the label-height theorems beyond typing and scope —
  the parser's labels of the tree are pairwise distinct — cannot be dropped.
* `C20_fixed_*`: the two defects repaired by /repo commit 5874e28, replayed on the model: with the
  old arms the effect is wrong, with the current arms it is right.
-/
import ChibiVerif.Props.C20

namespace ChibiVerif.Findings.C20
open ChibiVerif ChibiVerif.Codegen ChibiVerif.Effect ChibiVerif.Asm ChibiVerif.Ast
open ChibiVerif.Lemmas.C20 ChibiVerif.C20Scope ChibiVerif.Props.C20

def tInt : Ty := ⟨0, .int, 4, 4, false, false, -1, 0, -1, false, false, false, -1, [], []⟩
def tLD : Ty := { tInt with id := 1, kind := .ldouble, size := 16, align := 16 }
def tEmpty : Ty := { tInt with id := 2, kind := .struct, size := 0, align := 1 }
def tFn : Ty := { tInt with id := 3, kind := .func, size := 1, align := 1, returnTy := 0 }
def vX : Var := ⟨0, some "x", some tLD, 16, true, false, false, false, false, false, false, false, false⟩
def vE : Var := ⟨1, some "e", some tEmpty, 1, true, false, false, false, false, false, false, false, false⟩
def vG : Var := ⟨2, some "g", some tFn, 1, false, true, true, false, false, false, false, true, true⟩
def env0 : Env := { fpic := false, types := [tInt, tLD, tEmpty, tFn], offsets := [(0, -16), (1, -17)] }

def outOf (r : Except String (Unit × St × List Line)) : Option (List Line) :=
  match r with
  | .ok (_, _, ls) => some ls
  | .error _ => none

def depthOf (r : Except String (Unit × St × List Line)) : Option Int :=
  match r with
  | .ok (_, s, _) => some s.depth
  | .error _ => none

/-- `g(e, 3)` with `struct E {} e;` -/
def emptyCall : Node :=
  .funcall ⟨some tInt, 1, 3⟩ (.var ⟨some tFn, 1, 3⟩ (some vG)) 3 none
    (.cons (.var ⟨some tEmpty, 1, 3⟩ (some vE)) (.cons (.num ⟨some tInt, 1, 3⟩ 3 0 0 0 0) .nil))

/-- the shape the repaired defect needed: a struct/union argument of size 0 -/
def emptyStructArg : Node → Bool
  | .funcall _ _ _ _ args => args.toList.any fun a =>
      match a.ty? with
      | some t => (t.kind == .struct || t.kind == .union) && t.size == 0
      | none => false
  | _ => false

theorem emptyCall_in_region : emptyStructArg emptyCall = true := by decide
theorem emptyCall_typed : typedE env0 emptyCall = true := by decide

/-- before b298aee: `struct_in_regs` counted one SSE register for an aggregate of no bytes (`has_flonum` is vacuously
    true of it; `structClsE` is the classification without the size-0 guard), so the register-loading loop popped a
    register that `push_struct` had not pushed -/
theorem C20_fixed_empty_struct_old : (structClsE env0 tEmpty).toOption = some (0, 1) := by decide

/-- now: no register, no stack slot; the call is in the scope of the theorems (`covE`, `flowE`), `depth`
    returns to where it was and the code is straight-line with effect (0, 0) -/
theorem C20_fixed_empty_struct_new :
    (structInRegsE env0 tEmpty 0 0).toOption = some (true, 0, 0) ∧ covE env0 emptyCall = true ∧ flowE emptyCall = true ∧
    depthOf (genExpr env0 emptyCall {}) = some 0 ∧
    (outOf (genExpr env0 emptyCall {})).map delta = some (some ⟨0, 0⟩) := by
  decide

/-! ### jump out of a statement expression under a pending push -/

def vN : Var := ⟨0, some "n", some tInt, 4, true, false, false, false, false, false, false, false, false⟩
def vAB : Var := ⟨1, some "__alloca_size__", some { tInt with id := 4, kind := .ptr, size := 8, align := 8, base := 0 },
  8, true, false, false, false, false, false, false, false, false⟩
def tFnV : Ty := { tInt with id := 3, kind := .func, size := 1, align := 1, returnTy := 0 }
def i0 : NInfo := ⟨none, 1, 1⟩
def iI : NInfo := ⟨some tInt, 1, 1⟩

/-- `for (;;) { n = ({ continue; 2; }); }` (`continue` is `goto .L..2`, the loop's continue label) -/
def leakBody : Node :=
  .for_ i0 .null .null .null
    (.exprStmt i0 (.assign iI (.var iI (some vN))
      (.stmtExpr iI (.cons (.goto_ i0 none (some ".L..2")) (.cons (.exprStmt i0 (.num iI 2 0 0 0 0)) .nil)))))
    (some ".L..1") (some ".L..2")

def leakFn : Obj :=
  { v := ⟨2, some "f", some tFnV, 1, false, true, true, false, false, false, false, true, true⟩,
    initData := none, rels := [], params := [], locals := [vN, vAB], vaArea := none,
    allocaBottom := some vAB, body := leakBody }

def leakProg : Program :=
  { fpic := false, fcommon := true, baseFile := none, files := [], prog := [leakFn],
    types := [tInt, tLD, tEmpty, tFnV], vlaLens := [] }

def leakEnv : Env :=
  { fpic := false, types := [tInt, tLD, tEmpty, tFnV], fnName := some "f", retTy := some tInt, params := [],
    allocaBottom := some vAB, offsets := [(1, -16), (0, -4)] }

/-- the region of the known finding: a `goto` (break / continue / goto) directly inside a statement
    expression (conservative: the jump may also stay inside) -/
def jumpInStmtExpr : NodeList → Bool
  | .nil => false
  | .cons (.goto_ _ _ _) _ => true
  | .cons _ rest => jumpInStmtExpr rest

theorem leak_env : fnEnv leakProg leakFn = .ok (leakEnv, 16) := by
  have h : (match fnEnv leakProg leakFn with
      | .ok (e, k) => decide (e = leakEnv ∧ k = 16)
      | .error _ => false) = true := by decide
  cases hf : fnEnv leakProg leakFn with
  | error e => rw [hf] at h; simp at h
  | ok r =>
    obtain ⟨e, k⟩ := r
    rw [hf] at h
    simp only [decide_eq_true_eq] at h
    rw [h.1, h.2]

theorem leak_typed : typedS leakEnv leakBody = true := by decide

def isErr : Except String Unit → Bool
  | .error _ => true
  | .ok _ => false

/-- `Effect.checkBody` rejects the code of the witness ("fall-through into .L..2 at (rsp 0), label is
    at (rsp -8)") -/
theorem leak_check : (outOf (genStmt leakEnv leakBody {})).map (fun ls => isErr (checkBody ls)) = some true := by
  decide

/-- **Known finding C20-jump-out-of-stmt-expr**: a function whose code does not have one stack height
    per label. -/
theorem C20_finding_jump_out_of_stmt_expr : ¬ C20_function_Statement := by
  intro h
  have hc := leak_check
  cases hres : genStmt leakEnv leakBody {} with
  | error e => rw [hres] at hc; simp [outOf] at hc
  | ok r =>
    obtain ⟨⟨⟩, s', ls⟩ := r
    have := (h leakProg leakFn leakEnv 16 leak_env leak_typed {} s' ls hres).1
    rw [hres] at hc
    simp only [outOf, Option.map_some, Option.some.injEq] at hc
    rw [this] at hc
    cases hc

/-! ### more long double values live than the x87 stack has registers -/

def ldVar : Node := .var ⟨some tLD, 1, 2⟩ (some vX)

/-- `x + (x + (… + x))` with `n + 1` long double operands -/
def deep : Nat → Node
  | 0 => ldVar
  | n + 1 => .binop ⟨some tLD, 1, 2⟩ .add ldVar (deep n)

def deepBody : Node := .exprStmt i0 (deep 8)

def deepFn : Obj :=
  { v := ⟨2, some "f", some tFnV, 1, false, true, true, false, false, false, false, true, true⟩,
    initData := none, rels := [], params := [], locals := [vX, vAB], vaArea := none,
    allocaBottom := some vAB, body := deepBody }

def deepProg : Program :=
  { fpic := false, fcommon := true, baseFile := none, files := [], prog := [deepFn],
    types := [tInt, tLD, tEmpty, tFnV], vlaLens := [] }

def deepEnv : Env :=
  { fpic := false, types := [tInt, tLD, tEmpty, tFnV], fnName := some "f", retTy := some tInt, params := [],
    allocaBottom := some vAB, offsets := [(1, -24), (0, -16)] }

theorem deep_env : fnEnv deepProg deepFn = .ok (deepEnv, 32) := by
  have h : (match fnEnv deepProg deepFn with
      | .ok (e, k) => decide (e = deepEnv ∧ k = 32)
      | .error _ => false) = true := by decide
  cases hf : fnEnv deepProg deepFn with
  | error e => rw [hf] at h; simp at h
  | ok r =>
    obtain ⟨e, k⟩ := r
    rw [hf] at h
    simp only [decide_eq_true_eq] at h
    rw [h.1, h.2]

theorem deep_typed : typedS deepEnv deepBody = true := by decide
/-- the witness is inside the scope of the label-height theorems … -/
theorem deep_in_scope : flowFn deepEnv deepBody = true := by decide
/-- … and in the region of the finding: nine registers needed; with eight operands, eight -/
theorem deep_region : x87Need (deep 8) = 9 ∧ x87Deep deepBody = true ∧ x87Deep (deep 7) = false := by decide

/-- `Effect.checkBody` rejects the code of the witness ("height out of range: rsp 0, x87 9"), accepts the
    same expression with eight operands, and the label-height check alone (`verifyL`) accepts both -/
theorem deep_check :
    (outOf (genStmt deepEnv deepBody {})).map (fun ls => (isErr (checkBody ls), isErr (verifyL [] (steps ls) (some H.zero))))
      = some (true, false) ∧
    (outOf (genExpr deepEnv (deep 7) {})).map (fun ls => isErr (checkBody ls)) = some false := by
  decide

/-- **Known finding C20-x87-depth-overflow**: a function whose code needs nine x87 registers. -/
theorem C20_finding_x87_depth_overflow : ¬ C20_function_Statement := by
  intro h
  have hc := deep_check.1
  cases hres : genStmt deepEnv deepBody {} with
  | error e => rw [hres] at hc; simp [outOf] at hc
  | ok r =>
    obtain ⟨⟨⟩, s', ls⟩ := r
    have := (h deepProg deepFn deepEnv 32 deep_env deep_typed {} s' ls hres).1
    rw [hres] at hc
    simp only [outOf, Option.map_some, Option.some.injEq, Prod.mk.injEq] at hc
    rw [this] at hc
    cases hc.1

/-! ### the executable check was incomplete (not a defect of the compiler; repaired in the check) -/

/-- `goto A; D: goto E; C: goto D; B: goto C; A: goto B; E:` as a control-flow skeleton: balanced (every
    label at height 0), but three inference passes give `E` no height -/
def chainSteps : List Step :=
  [.jump "A", .label "D", .jump "E", .label "C", .jump "D", .label "B", .jump "C", .label "A", .jump "B", .label "E"]

/-- a latent false alarm of the check, repaired: with three inference passes (`inferN 3`, the checker
    as it was) the balanced skeleton is rejected; the fixpoint iteration (`inferred`, what `checkBody`
    runs now; complete by `C20_checkBody_complete`) accepts it -/
theorem C20_checker_incomplete_repaired :
    isErr (verify (inferN 3 chainSteps []) chainSteps (some H.zero)) = true ∧
    isErr (verifyL [("A", H.zero), ("B", H.zero), ("C", H.zero), ("D", H.zero), ("E", H.zero)] chainSteps
      (some H.zero)) = false ∧
    isErr (verify (inferred chainSteps) chainSteps (some H.zero)) = false := by
  decide

/-! ### the hypothesis `treeDistinct` of the label-height theorems is needed -/

/-- `for (;;) break;` with the labels `.L..1` (break) and `.L..2` (continue) -/
def dupLoop : Node := .for_ i0 .null .null .null (.goto_ i0 none (some ".L..1")) (some ".L..1") (some ".L..2")

/-- a tree `parse.c` never builds — two loops carry the same labels, one of them inside a statement
    expression that is evaluated under a pending push: `for (;;) break; n = ({ for (;;) break; 2; });` -/
def dupBody : Node :=
  .block i0 (.cons dupLoop (.cons
    (.exprStmt i0 (.assign iI (.var iI (some vN))
      (.stmtExpr iI (.cons dupLoop (.cons (.exprStmt i0 (.num iI 2 0 0 0 0)) .nil))))) .nil))

/-- The tree is well typed and inside the scope `flowFn` (every jump targets a label of its own
    region), only `treeDistinct` fails — and the conclusion of `C20_function_flow_partial` fails with
    it: the label `.L..1` is reached at rsp 0 and at rsp −8, so no labelling exists.  (The inferred
    labelling is as good as any: `verifyL_inferred`.) -/
theorem C20_treeDistinct_needed :
    typedS leakEnv dupBody = true ∧ flowFn leakEnv dupBody = true ∧ treeDistinct dupBody = false ∧
    ∀ s' ls, genStmt leakEnv dupBody {} = .ok ((), s', ls) → ¬ FnBalanced ls := by
  refine ⟨by decide, by decide, by decide, ?_⟩
  intro s' ls hg hb
  obtain ⟨lab, hv⟩ := hb
  have h1 := verifyL_inferred (steps ls) lab hv
  have hc : (outOf (genStmt leakEnv dupBody {})).map
      (fun ls => isErr (verifyL (inferred (steps ls)) (steps ls) (some H.zero))) = some true := by decide
  rw [hg] at hc
  simp only [outOf, Option.map_some, Option.some.injEq] at hc
  rw [h1] at hc
  cases hc

/-! ### repaired by 5874e28 ("keep the x87 register stack balanced") -/

/-- `x;` for `long double x` -/
def ldStmt : Node := .exprStmt ⟨none, 1, 2⟩ (.var ⟨some tLD, 1, 2⟩ (some vX))

/-- before the fix ND_EXPR_STMT was `gen_expr(node->lhs)` alone: one x87 register leaked per
    discarded long double value -/
theorem C20_fixed_discard_old :
    (outOf (genExpr env0 (.var ⟨some tLD, 1, 2⟩ (some vX)) {})).map delta = some (some ⟨0, 1⟩) := by
  decide

/-- now: `gen_expr(node->lhs); discard(node->lhs->ty)` -/
theorem C20_fixed_discard_new : (outOf (genStmt env0 ldStmt {})).map delta = some (some ⟨0, 0⟩) := by
  decide

/-- before the fix `store` ended in `fstpt (%rdi)` for a long double: the value of the assignment
    expression was popped (`a = b = c` then stored an empty register) -/
theorem C20_fixed_store_old :
    delta [ins1 "pop" (.r "%rdi"), ins1 "fstpt" (.m0 "%rdi")] = some ⟨8, -1⟩ := by
  decide

/-- now `fstpt (%rdi); fldt (%rdi)`: the value stays -/
theorem C20_fixed_store_new : (outOf (store (some tLD) {})).map delta = some (some ⟨8, 0⟩) := by
  decide

end ChibiVerif.Findings.C20
