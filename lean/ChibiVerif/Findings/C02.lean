/-
Kernel-checked witnesses for C02, on the toy FPU of Lemmas/FpToy.lean (an FPU that meets every contract of `FpuSpec`).
The notions of the statements are those of Props/C02.lean (listed in its head: Lemmas/FpVocabulary.lean and the models); `st0`,
`old_u64f32`, `old_f64u64`, `x3p62` are defined here.

All three former known findings of C02 were REPAIRED in /repo (known_findings.json, "fixed"); nothing is open.  What is
kept here are witnesses that the *old* formulas were wrong (so the repairs were needed, and a revert is a defect), each
beside the statement that the current, regenerated code is right on the same input:

  C02-u64-to-f32-signed        (repaired, /repo cb60798) old cell `cvtsi2ssq %rax, %xmm0`: (float)(unsigned long)2^63 had its
                               sign bit set.  Now: the halving sequence; `C02_select` covers all 2^64 values.
  C02-fp-to-u64-above-2p63     (repaired, /repo d20bf97) old cell `cvttsd2siq %xmm0, %rax`: (unsigned long)x for x = 3·2^62 was
                               the integer indefinite 0x8000000000000000.  Now: compare with 2^63, subtract, set bit 63.
  C02-literal-double-rounding  (repaired, /repo 0b14cf9) old path `strtold` then narrowing: round₅₃ ∘ round₆₄ ≠ round₅₃ at
                               2^64 + 2^11 + 1.  Now: `strtod`/`strtof` of the spelling (`C02_const_parser`, `C02_const_rounded`).
-/
import ChibiVerif.Props.C02

namespace ChibiVerif.Findings.C02
open ChibiVerif.Fp ChibiVerif.Asm ChibiVerif.X86 ChibiVerif.Spec.Fpu ChibiVerif.FpCodegen ChibiVerif.Spec.FpC11
open ChibiVerif.Spec.IntSpec ChibiVerif.Props.C02 ChibiVerif.FpChain

/-- a machine state with `%rax = r`, `%xmm0 = x`, empty x87 stack, default control word -/
def st0 (r x : BitVec 64) : FState :=
  ⟨{ regs := fun _ => r, mem := fun _ => 0 }, x, 0, [], 0x37f#16⟩

/-! ### C02-u64-to-f32-signed (repaired) -/

/-- the cell as it was before the repair -/
def old_u64f32 : List Ins := [⟨"cvtsi2ssq", [.r "%rax", .r "%xmm0"]⟩]

/-- the old cell on 2^63: the result is negative, the C11 result `ofInt32 2^63` is not -/
theorem C02_old_u64_to_f32_signed :
    ∃ s', Fp.run Toy.toy old_u64f32 (st0 0x8000000000000000#64 0) = some s' ∧
      (s'.xmm0.setWidth 32).msb = true ∧ (Toy.toy.ofInt32 9223372036854775808).msb = false := by
  refine ⟨_, rfl, ?_, ?_⟩
  · have h2 := Toy.toy.ofInt32_sign (-9223372036854775808)
    have e : (State.get (st0 0x8000000000000000#64 0).x Reg.rax).toInt = -9223372036854775808 := by decide
    show ((setLow32 (st0 0x8000000000000000#64 0).xmm0
      (Toy.toy.cvtsi2ss64 ((st0 0x8000000000000000#64 0).x.get Reg.rax))).setWidth 32).msb = true
    rw [setLow32_low, Toy.toy.cvtsi2ss64_spec, e, h2]; decide
  · rw [Toy.toy.ofInt32_sign]; decide

/-- the current cell on the same input: the C11 result, bit for bit -/
theorem C02_fixed_u64_to_f32 :
    ∃ s', Fp.run Toy.toy (castSeq (.int .u64) .f32) (st0 0x8000000000000000#64 0) = some s' ∧
      s'.xmm0.setWidth 32 = Toy.toy.ofInt32 9223372036854775808 := by
  obtain ⟨s', h1, h2, _⟩ := C02_u64f32 Toy.toy (st0 0x8000000000000000#64 0) 9223372036854775808
    (⟨by decide, by decide⟩)
  exact ⟨s', h1, h2⟩

/-! ### C02-fp-to-u64-above-2p63 (repaired) -/

/-- the toy double 3·2^62: q = 3, shift 62 -/
def x3p62 : BitVec 64 := BitVec.ofNat 64 (Toy.enc 57 false 3 62)

def old_f64u64 : List Ins := [⟨"cvttsd2siq", [.r "%xmm0", .r "%rax"]⟩]

/-- the old cell on 3·2^62 ≥ 2^63: the integer indefinite, not 13835058055282163712 -/
theorem C02_old_fp_to_u64_above_2p63 :
    ∃ s', Fp.run Toy.toy old_f64u64 (st0 0 x3p62) = some s' ∧ s'.x.get .rax = 0x8000000000000000#64 ∧
      fpToInt .u64 (Toy.toy.val64 x3p62) = some 13835058055282163712 := by
  have hval : Toy.toy.val64 x3p62 = .fin false 3 62 := by decide
  refine ⟨_, rfl, ?_, ?_⟩
  · show truncTo 64 (Toy.toy.val64 x3p62) = _
    rw [hval]; decide
  · rw [hval]; decide

/-- the current cell on the same input: the integral part -/
theorem C02_fixed_fp_to_u64 :
    ∃ s', Fp.run Toy.toy (castSeq .f64 (.int .u64)) (st0 0 x3p62) = some s' ∧
      ((s'.x.get .rax).toNat : Int) = 13835058055282163712 := by
  have hval : (Toy.toy.val64 x3p62).trunc? = some 13835058055282163712 := by decide
  obtain ⟨s', h1, h2, _⟩ := (C02_fp_to_u64 Toy.toy (st0 0 x3p62) 13835058055282163712 (by decide)).2.1 x3p62 rfl hval
  exact ⟨s', h1, h2⟩

/-! ### C02-literal-double-rounding (repaired) -/

/-- the old path (the arithmetic core): rounding to the 64 bits of `strtold`'s long double and then to 53 (or 24) is not
    rounding to 53 (24): 2^64 + 2^11 + 1 → 2^64 + 2^11 → 2^64 (tie, to even), but directly → 2^64 + 2^12
    (the literal `18446744073709553665.0`; the old chibicc gave 0x43f0000000000000, C11/gcc 0x43f0000000000001) -/
theorem C02_old_literal_double_rounding :
    ¬ (∀ n : Nat, roundNat 53 (roundNat 64 n) = roundNat 53 n ∧ roundNat 24 (roundNat 64 n) = roundNat 24 n) := by
  intro h
  exact absurd (h 18446744073709553665).1 (by decide)

/-- … the old path was right for every spelling whose value has at most 64 significant bits: the first rounding is the identity -/
theorem C02_old_literal_exact_below_2p64 (n : Nat) (h : n < 2 ^ 64) :
    roundNat 53 (roundNat 64 n) = roundNat 53 n ∧ roundNat 24 (roundNat 64 n) = roundNat 24 n := by
  have hb : bitLen n ≤ 64 := bitLen_le_of_lt n 64 h
  have e : roundNat 64 n = n := by simp [roundNat, roundQS, hb]
  rw [e]; exact ⟨rfl, rfl⟩

/-- the current ladder, as regenerated: no arm narrows a `strtold` result -/
theorem C02_fixed_literal_parsers :
    Gen.FpLiteral.suffixArms.map (fun a => (a.2.1, a.2.2)) ++ [Gen.FpLiteral.defaultArm] =
      [(.ty_float, .strtof), (.ty_ldouble, .strtold), (.ty_double, .strtod)] := by decide

/-! ### earlier repairs (fix: commits recorded in known_findings.json): the current table, checked -/

/-- (short)ld / (unsigned short)ld / (unsigned)ld reload with the right width and extension, and (unsigned)ld stores 64 bits -/
theorem C02_fixed_f80_cells :
    (Gen.CastTable.f80i16.instrs.getLast? = some ⟨"movswl", [.m (-24) "%rsp", .r "%eax"]⟩) ∧
    (Gen.CastTable.f80u16.instrs.getLast? = some ⟨"movzwl", [.m (-24) "%rsp", .r "%eax"]⟩) ∧
    (Gen.CastTable.f80u32.instrs.contains ⟨"fistpq", [.m (-24) "%rsp"]⟩ = true) := by decide

/-! ### a "round-trip cast" peephole (seeded change C02c; not in /repo): what dropping `(T)(F)x` would do

`(int)(float)x` is not `x`.  `elided` is the code a compiler prints that treats the two conversions as cancelling: the operand's
code and nothing else (in the model: the nest with no `ND_CAST` node).  On 2^24 + 1 it leaves 16777217 in %eax; the code
`gen_expr` really prints — one `cast()` per node, `C02_cast_chain` — leaves 16777216, the C11 value on every FPU that meets the
contract (`C02_roundtrip_not_identity`).  Same for `(long)(double)x` at 2^53 + 1. -/

/-- what the ND_CAST arm of /repo prints for `(int)(float)e` and `(long)(double)e`: both cells, in order -/
theorem C02_roundtrip_code (code : List Asm.Line) :
    (nest (.int .i32) code [.f32, .int .i32]).gen = code ++ [Gen.CastTable.i32f32] ++ [Gen.CastTable.f32i32] ∧
    (nest (.int .i64) code [.f64, .int .i64]).gen = code ++ [Gen.CastTable.i64f64] ++ [Gen.CastTable.f64i64] :=
  ⟨rfl, rfl⟩

/-- the elided code on the witnesses: %rax still holds the operand, which is not the C11 value of the chain -/
theorem C02_elided_roundtrip_wrong :
    (∃ s', Fp.run Toy.toy (instrsOf (nest (.int .i32) [] []).gen) (st0 16777217#64 0) = some s' ∧
      Holds (.int .i32) s' (.int 16777217) ∧ ¬ Holds (.int .i32) s' (.int 16777216) ∧
      convertChain Toy.toy s'.cw [.f32, .int .i32] (.int 16777217) = some (.int 16777216)) ∧
    (∃ s', Fp.run Toy.toy (instrsOf (nest (.int .i64) [] []).gen) (st0 9007199254740993#64 0) = some s' ∧
      Holds (.int .i64) s' (.int 9007199254740993) ∧ ¬ Holds (.int .i64) s' (.int 9007199254740992) ∧
      convertChain Toy.toy s'.cw [.f64, .int .i64] (.int 9007199254740993) = some (.int 9007199254740992)) := by
  have h32 : Holds (.int .i32) (st0 16777217#64 0) (.int 16777217) := ⟨by decide, by decide⟩
  have h64 : Holds (.int .i64) (st0 9007199254740993#64 0) (.int 9007199254740993) := ⟨by decide, by decide⟩
  obtain ⟨a1, a2, a3⟩ := (C02_roundtrip_not_identity Toy.toy [] (st0 16777217#64 0) _ rfl).1 h32
  obtain ⟨b1, b2, b3⟩ := (C02_roundtrip_not_identity Toy.toy [] (st0 9007199254740993#64 0) _ rfl).2 h64
  exact ⟨⟨_, rfl, h32, a2, a3⟩, ⟨_, rfl, h64, b2, b3⟩⟩

/-- the code of /repo on the same witnesses -/
theorem C02_roundtrip_rounds_witness :
    (∃ s', Fp.run Toy.toy (instrsOf (nest (.int .i32) [] [.f32, .int .i32]).gen) (st0 16777217#64 0) = some s' ∧
      Holds (.int .i32) s' (.int 16777216)) ∧
    (∃ s', Fp.run Toy.toy (instrsOf (nest (.int .i64) [] [.f64, .int .i64]).gen) (st0 9007199254740993#64 0) = some s' ∧
      Holds (.int .i64) s' (.int 9007199254740992)) := by
  have h32 : Holds (.int .i32) (st0 16777217#64 0) (.int 16777217) := ⟨by decide, by decide⟩
  have h64 : Holds (.int .i64) (st0 9007199254740993#64 0) (.int 9007199254740993) := ⟨by decide, by decide⟩
  exact ⟨((C02_roundtrip_not_identity Toy.toy [] (st0 16777217#64 0) _ rfl).1 h32).1,
         ((C02_roundtrip_not_identity Toy.toy [] (st0 9007199254740993#64 0) _ rfl).2 h64).1⟩

end ChibiVerif.Findings.C02
