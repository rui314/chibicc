/- `drv_c09 subst`: ONE invocation of a function-like macro through `subst` alone — no rescanning — so that the function the
   theorems `C09_subst_spec` / `C09_subst_spec_partial` are about is run against the real `subst()` of preprocess.c
   (tools/harness/pp_harness.c `-subst`, which calls the static function directly) and not only through `preprocess2`.

   input   `<fuel> <tok> ... | <tok> ...`    the tokens of the definitions file (only `#define`/`#undef` lines), a word `|`,
                                             the tokens of the invocation file: `name ( arguments ) anything`
   output  `na`                              the first token of the invocation does not name a function-like macro followed by `(`
           `args <err>`                      `read_macro_args` rejects the invocation
           `ok <c><p> ; <M> ; <O> ; <S>`     c = 1: the replacement list is C11 (`Props.C09.isC11`), p = 1: it has `p ## q ##` with
                                             both arguments empty (`hasPlacemarkerChain`);
                                             M = `subst` of Model/PP.lean, O = `substOld` (before `fix:` 5a15c0f,
                                             Lemmas/C09Placemarker.lean), S = `Spec.PPSpec.subst` (`err noFullReplacement` when the
                                             pre-expansion of some argument fails); each `ok <tok> ...` | `err <name>`
   The pre-expander is the model's `preprocess2` from the table the definitions leave; for the specification it is made
   pure (state dropped: do not put `__COUNTER__` into arguments). -/
import ChibiVerif.Driver.PPCmd
import ChibiVerif.Lemmas.C09Placemarker
import ChibiVerif.Lemmas.C09Vocabulary

namespace ChibiVerif.Driver
open ChibiVerif.PP

def splitBar (ws : List String) : List String × List String :=
  (ws.takeWhile (· ≠ "|"), (ws.dropWhile (· ≠ "|")).drop 1)

def runLineSubst (line : String) : String :=
  let ws := (line.trimAscii.toString.splitOn " ").filter (· ≠ "")
  match ws with
  | [] => "bad-op"
  | f :: rest =>
    let (dw, iw) := splitBar rest
    match f.toNat?, dw.mapM parseTok, iw.mapM parseTok with
    | some fuel, some defs, some inv =>
      match preprocess2 Lex.lexOne fuel (initSt) defs with
      | .error e => "defs " ++ errName e
      | .ok (_, st) =>
        match inv with
        | [] => "na"
        | tok :: rest =>
          match findMacro st.defs tok with
          | some (.fn params va body) =>
            if !textIs rest.head? "(" then "na"
            else match readMacroArgs params va (rest.drop 1) with
            | .error e => "args " ++ errName e
            | .ok (args, _, _) =>
              let pp : PreExpand := fun st ts => preprocess2 Lex.lexOne fuel st ts
              let full : List Tok → List Tok := fun ts =>
                match preprocess2 Lex.lexOne fuel st (addHideset ts []) with
                | .ok (e, _) => e
                | .error _ => []
              let m := (subst Lex.lexOne pp st body args false).map (·.1)
              let o := (substOld Lex.lexOne pp st body args false).map (·.1)
              -- the specification takes the complete macro replacement of every argument as given: when `preprocess2`
              -- rejects an argument (e.g. a nested invocation with the wrong number of arguments) there is none
              let fullOk := args.all fun a =>
                match preprocess2 Lex.lexOne fuel st (addHideset a.toks []) with
                | .ok _ => true
                | .error _ => false
              let s := ChibiVerif.Spec.PPSpec.subst Lex.lexOne full true body args
              let c11 := !anyBad true args body
              " ; ".intercalate [
                "ok " ++ (if c11 then "1" else "0") ++ (if hasPlacemarkerChain args body then "1" else "0"),
                showRes m, showRes o, if fullOk then showRes s else "err noFullReplacement"]
          | _ => "na"
    | _, _, _ => "bad-op"

partial def ppLoopSubst (h : IO.FS.Stream) : IO UInt32 := do
  let line ← h.getLine
  if line.isEmpty then return 0
  IO.println (runLineSubst line)
  ppLoopSubst h

def ppMainSubst : IO UInt32 := do ppLoopSubst (← IO.getStdin)

end ChibiVerif.Driver
