/-
C11 — literals have the C11 value, type and encoding.

Property theorems only (helper lemmas: Lemmas/ByteAt, LiteralsLemmas, LiteralsReaderLemmas, C11JoinModel, TextPhase, TextLemmas, C11Splice,
C11Locality, C11SpliceEol, C11Translated, C11Readers, C11Rewrite, C11PpInt, C11PpNumber, C11PpContext).  The left-hand sides are the
functions translated from unicode.c / tokenize.c / type.c on every check run
(Gen/LiteralsGen.lean: codecs, ladders, tables; Gen/LitReadersGen.lean: the reader functions and the in-place phase loops;
Gen/PpNumGen.lean: `convert_pp_int` as a whole with libc `strtoul` as a parameter, the pp-number arm of `tokenize()`, the body of
`tokenize_file` from clang's AST)
and the hand model of the readers (Model/Literals.lean, Model/Text.lean), which `C11_translated_readers`,
`C11_translated_literal_readers`, `C11_translated_phases`, `C11_translated_int`, `C11_translated_ppnumber` and `C11_phase_order`
prove equal to the translated functions;
the right-hand sides are Spec/LiteralsSpec.lean (C11 5.1.1.2, 6.4.4, 6.4.5, Annex D; RFC 3629; RFC 2781).

Notions of the statements and where they are defined: `IntSpelling`, `sfxBytes`, `SrcItem`, `renderItems`, `itemUnits`, `ItemsOK`, `CharOK`,
`AllPairs`, `TokHasPrefix`, `collapse` (Model/Literals.lean); `LiteralOnFirstLine`, `firstLine`, `phase1`, `phase12`, `BOM` (Model/Text.lean);
`StrtoulSpec`, `strtoulC`, `strtoulH`, `lexLiteralC`, `SecondPrefix`, `fileText`, `slice` (Model/PpNumber.lean); `ofReadErr`
(Model/LitReaders.lean); `PPNumber` (Spec/PpNumberSpec.lean); the rest of the right-hand sides (Spec/LiteralsSpec.lean); defined with the
lemmas: `mkTok`, `readerT` (Lemmas/C11Readers.lean), `hexVal` (Lemmas/TextLemmas.lean).

Identification used throughout: chibicc has no `long long` distinct from `long`
(`Literals.collapse`: llong ↦ ty_long, ullong ↦ ty_ulong; same size, signedness, conversions).
-/
import ChibiVerif.Model.Literals
import ChibiVerif.Model.Text
import ChibiVerif.Lemmas.LiteralsLemmas
import ChibiVerif.Lemmas.TextLemmas
import ChibiVerif.Lemmas.LiteralsReaderLemmas
import ChibiVerif.Lemmas.C11JoinModel
import ChibiVerif.Lemmas.C11Splice
import ChibiVerif.Lemmas.C11Locality
import ChibiVerif.Lemmas.C11Translated
import ChibiVerif.Lemmas.C11Rewrite
import ChibiVerif.Lemmas.C11Readers
import ChibiVerif.Lemmas.C11SpliceEol
import ChibiVerif.Lemmas.C11PpInt
import ChibiVerif.Lemmas.C11PpNumber
import ChibiVerif.Lemmas.C11PpContext

namespace ChibiVerif.Props.C11
open ChibiVerif.Gen.Literals
open ChibiVerif.Spec.Literals
open ChibiVerif.Literals
open ChibiVerif.Lemmas.Literals
open ChibiVerif.Lemmas.Text
open ChibiVerif.Lemmas.Readers
open ChibiVerif.Lemmas.Splice
open ChibiVerif.Lemmas.Locality
open ChibiVerif.Lemmas.Translated
open ChibiVerif.Lemmas.Rewrite
open ChibiVerif.Lemmas.ReadersT
open ChibiVerif.Lemmas.SpliceEol
open ChibiVerif.LitReaders
open ChibiVerif.Text
open ChibiVerif.PpNumber
open ChibiVerif.Spec.PpNumber (PPNumber isLetter)

-- ------------------------------------------------------------------ integer constants (6.4.4.1)

/-- **C11 (integer-constant type).**  For every base chibicc accepts, every suffix class and
    every 64-bit value: whenever the 6.4.4.1p5 list contains a type that represents the value,
    the `>> 31 / >> 32 / >> 63` ladder of `convert_pp_int` selects that first type (modulo
    `collapse`). -/
theorem C11_int_type (base : Nat) (hb : base = 2 ∨ base = 8 ∨ base = 10 ∨ base = 16) (s : Suffix)
    (v : BitVec 64) (t : IntType) (h : litType (base == 10) s v.toNat = some t) :
    intLitType base s.hasL s.hasU v = collapse t :=
  ladder_spec base s v t h

/-- non-vacuity: 0x80000000 is `unsigned int`, 2147483648 is `long`, 0x8000000000000000LL is
    `unsigned long long`, 4294967296u is `unsigned long` -/
example : litType (16 == 10) .none (0x80000000#64).toNat = some .uint ∧
    litType (10 == 10) .none (2147483648#64).toNat = some .long ∧
    litType (16 == 10) .ll (0x8000000000000000#64).toNat = some .ullong ∧
    litType (10 == 10) .u (4294967296#64).toNat = some .ulong := by decide +kernel

/-- **C11 (the region without a standard type).**  The list of 6.4.4.1p5 contains no type for a
    64-bit value exactly when the constant is decimal, has no `u` and exceeds `LLONG_MAX`
    (6.4.4.1p6: such a constant has no type unless an extended integer type exists). -/
theorem C11_int_type_region (decimal : Bool) (s : Suffix) (v : BitVec 64) :
    litType decimal s v.toNat = none ↔ (decimal = true ∧ s.hasU = false ∧ v.toNat ≥ 2 ^ 63) := by
  obtain ⟨a, b, c, hreg, _, _, t63, hq⟩ := represents_region v.toNat v.isLt
  unfold litType
  rw [hq, t63]
  rcases hreg with e | e | e | e <;> (cases e; cases decimal <;> cases s <;> decide)

/-- what chibicc does in that region: the constant silently gets type `long` (its value is
    then negative; gcc gives `__int128` or warns) — excluded from C11_int_type, stated here -/
theorem C11_int_type_excluded (s : Suffix) (v : BitVec 64) (hs : s.hasU = false) (hv : v.toNat ≥ 2 ^ 63) :
    intLitType 10 s.hasL s.hasU v = .ty_long := by
  have e31 := sshr_ne_zero v 31 (by decide)
  have h31 : v.toNat ≥ 2 ^ 31 := by omega
  cases s <;> simp [intLitType, Suffix.hasL, Suffix.hasU, e31, h31] at hs ⊢

example : (2 : Nat) ^ 63 ≤ (9223372036854775808#64).toNat := by decide +kernel

/-- **C11 (integer suffixes).**  Every spelling of an integer-suffix (6.4.4.1p1) is recognised by
    the suffix ladder of `convert_pp_int` — the if-ladder as translated from the C source, statement by statement
    (Gen/PpNumGen.lean `convertPpInt_sel2`) —, consumed completely, and yields the `l`/`u` flags of its class. -/
theorem C11_int_suffix :
    ∀ e ∈ suffixSpellings,
      ChibiVerif.Gen.PpNum.convertPpInt_sel2 (e.1.toList.map (fun ch => BitVec.ofNat 8 ch.toNat)) 0 =
        (e.1.length, e.2.hasL, e.2.hasU) := by
  decide +kernel

/-- **C11 (what the integer-constant theorems assume of libc `strtoul`, and that the models satisfy it).**  `convert_pp_int` is
    translated with `strtoul` as a parameter.  The contract `StrtoulSpec` (C11 7.22.1.4 for a subject sequence without white
    space and sign: a non-empty run of digits of the base, 2 ≤ base ≤ 16, followed by a byte that is not a digit of the base and
    not beginning with a `0x` prefix in base 16, gives the value of the run saturated to `ULONG_MAX` and the end pointer after
    it) holds of the Lean model of glibc's `strtoul` that the check runs against the real libc (`strtoulC`, `stl` operation), and
    of the digit loop the hand model of `convert_pp_int` uses (`strtoulH`); the two models agree except on a second `0x` prefix. -/
theorem C11_strtoul_contract :
    StrtoulSpec strtoulC ∧ StrtoulSpec strtoulH ∧
    (∀ (p : List Byte) (i base : Nat),
      ¬ (base = 16 ∧ byteAt p i = 48#8 ∧ (byteAt p (i + 1) = 120#8 ∨ byteAt p (i + 1) = 88#8)) →
      (strtoulDigits p base (p.length + 1) i 0).2 ≠ i → strtoulC p i base = strtoulH p i base) :=
  ⟨ChibiVerif.Lemmas.PpInt.strtoulC_spec, ChibiVerif.Lemmas.PpInt.strtoulH_spec, ChibiVerif.Lemmas.PpInt.strtoulC_eq_strtoulH⟩

/-- non-vacuity of the contract's premises: `1f` followed by `u` in base 16 -/
example : strtoulC [0x31#8, 0x66#8, 0x75#8] 0 16 = (0x1f#64, 2) ∧ strtoulC [48#8, 120#8, 0x31#8] 0 16 = (1#64, 3) := by decide +kernel

/-- **C11 (integer-constant value).**  About `convert_pp_int` AS TRANSLATED from tokenize.c (Gen/PpNumGen.lean: prefix ladder,
    the `strtoul` call, suffix ladder, whole-token test, type ladder), for every `strtoul` that satisfies `StrtoulSpec`, and with
    the token standing inside its text as the C function is called (`tok->loc = p + pre.length`; the byte after the token is not
    alphanumeric, which the pp-number scan guarantees): for every spelling `prefix digits suffix` of an integer constant
    (hexadecimal `0x`/`0X`, binary `0b`/`0B`, octal with leading `0`, decimal with a non-zero first digit; any digit sequence; any
    of the 23 suffix spellings) whose value fits 64 bits, the function accepts the whole token, its value is the value of the
    digit sequence in that base and its type is the ladder's type for that base and suffix. -/
theorem C11_int_value (f : List Byte → Nat → Nat → BitVec 64 × Nat) (hf : StrtoulSpec f) (pre post : List Byte)
    (hpost : isAlnum (byteAt post 0) = false) (base : Nat) (front ds : List Byte) (h : IntSpelling base front ds)
    (e : String × Suffix) (he : e ∈ suffixSpellings)
    (hv : digitsValue base (ds.map (fun d => hexDigitValue d.toNat)) < 2 ^ 64) :
    ChibiVerif.Gen.PpNum.convertPpInt f (pre ++ (front ++ ds ++ sfxBytes e.1) ++ post) pre.length
        (front ++ ds ++ sfxBytes e.1).length =
      some (BitVec.ofNat 64 (digitsValue base (ds.map (fun d => hexDigitValue d.toNat))),
            intLitType base e.2.hasL e.2.hasU (BitVec.ofNat 64 (digitsValue base (ds.map (fun d => hexDigitValue d.toNat))))) :=
  ChibiVerif.Lemmas.PpInt.int_value_gen f hf pre post hpost base front ds h e he hv

/-- non-vacuity: `0x7fUL` inside `x = 0x7fUL;`, read by the translated function with the libc model -/
example : StrtoulSpec strtoulC ∧ isAlnum (byteAt [0x3B#8] 0) = false ∧
    IntSpelling 16 [48#8, 120#8] [0x37#8, 0x66#8] ∧ ("UL", Suffix.ul) ∈ suffixSpellings ∧
    digitsValue 16 ([0x37#8, 0x66#8].map (fun d => hexDigitValue d.toNat)) = 0x7f ∧
    ChibiVerif.Gen.PpNum.convertPpInt strtoulC
      ([0x78#8, 0x20#8, 0x3D#8, 0x20#8] ++ ([48#8, 120#8] ++ [0x37#8, 0x66#8] ++ sfxBytes "UL") ++ [0x3B#8]) 4 6 =
      some (0x7f#64, .ty_ulong) :=
  ⟨ChibiVerif.Lemmas.PpInt.strtoulC_spec, by decide +kernel, .hex _ _ _ (Or.inl rfl) (by decide +kernel), by decide +kernel,
    by decide +kernel, by decide +kernel⟩

/-- **C11 (integer constants, spelling to value and type).**  Corollary of `C11_int_value` and `C11_int_type`, again about the
    translated `convert_pp_int` in its context: whenever C11 6.4.4.1p5 gives the constant a type, the token gets the value of
    its digits and (the chibicc representation of) that type. -/
theorem C11_int_literal (f : List Byte → Nat → Nat → BitVec 64 × Nat) (hf : StrtoulSpec f) (pre post : List Byte)
    (hpost : isAlnum (byteAt post 0) = false) (base : Nat) (front ds : List Byte) (h : IntSpelling base front ds)
    (e : String × Suffix) (he : e ∈ suffixSpellings)
    (hv : digitsValue base (ds.map (fun d => hexDigitValue d.toNat)) < 2 ^ 64) (t : IntType)
    (ht : litType (base == 10) e.2 (digitsValue base (ds.map (fun d => hexDigitValue d.toNat))) = some t) :
    ChibiVerif.Gen.PpNum.convertPpInt f (pre ++ (front ++ ds ++ sfxBytes e.1) ++ post) pre.length
        (front ++ ds ++ sfxBytes e.1).length =
      some (BitVec.ofNat 64 (digitsValue base (ds.map (fun d => hexDigitValue d.toNat))), collapse t) := by
  have hb : base = 2 ∨ base = 8 ∨ base = 10 ∨ base = 16 := by cases h <;> simp
  have hn : (BitVec.ofNat 64 (digitsValue base (ds.map (fun d => hexDigitValue d.toNat)))).toNat =
      digitsValue base (ds.map (fun d => hexDigitValue d.toNat)) := by
    simp only [BitVec.toNat_ofNat]; exact Nat.mod_eq_of_lt hv
  rw [C11_int_value f hf pre post hpost base front ds h e he hv, C11_int_type base hb e.2 _ t (by rw [hn]; exact ht)]

/-- non-vacuity: `4294967296u` is `unsigned long` -/
example : IntSpelling 10 [] [0x34#8, 0x32#8, 0x39#8, 0x34#8, 0x39#8, 0x36#8, 0x37#8, 0x32#8, 0x39#8, 0x36#8] ∧
    litType (10 == 10) .u 4294967296 = some .ulong :=
  ⟨.dec _ _ (by decide +kernel) (by decide +kernel), by decide +kernel⟩

/-- **C11 (the hand model of `convert_pp_int` is the translated function).**  `detectBase` and `matchSuffix` of
    Model/Literals.lean (interpreters of the ladder *tables*) are, on every text and position, the two if-ladders translated
    statement by statement, and `convertPpInt` on a token given as its own text is the translated `convert_pp_int` with the digit
    loop as `strtoul`.  Hence the statement of `C11_int_value` also holds of the hand model (second part), which is what
    `lexLiteral` — the function the `C11_text_*` theorems are about — calls. -/
theorem C11_translated_int :
    (∀ tok : List Byte, ChibiVerif.Literals.convertPpInt tok = ChibiVerif.Gen.PpNum.convertPpInt strtoulH tok 0 tok.length) ∧
    (∀ p : List Byte, detectBase p = ((ChibiVerif.Gen.PpNum.convertPpInt_sel1 p 0).2, (ChibiVerif.Gen.PpNum.convertPpInt_sel1 p 0).1)) ∧
    (∀ (p : List Byte) (i : Nat),
      ChibiVerif.Gen.PpNum.convertPpInt_sel2 p i = (i + (matchSuffix p i).1, (matchSuffix p i).2)) ∧
    (∀ (base : Nat) (front ds : List Byte), IntSpelling base front ds → ∀ e ∈ suffixSpellings,
      digitsValue base (ds.map (fun d => hexDigitValue d.toNat)) < 2 ^ 64 →
      ChibiVerif.Literals.convertPpInt (front ++ ds ++ sfxBytes e.1) =
        some (BitVec.ofNat 64 (digitsValue base (ds.map (fun d => hexDigitValue d.toNat))),
              intLitType base e.2.hasL e.2.hasU (BitVec.ofNat 64 (digitsValue base (ds.map (fun d => hexDigitValue d.toNat)))))) :=
  ⟨ChibiVerif.Lemmas.PpInt.translated_int, ChibiVerif.Lemmas.PpInt.detectBase_eq, ChibiVerif.Lemmas.PpInt.matchSuffix_eq,
    fun base front ds h e he hv => int_value base front ds h e he hv⟩

/-- the types the ladder can produce have the size and signedness of the C11 type (LP64) -/
theorem C11_int_type_repr :
    ∀ t ∈ [IntType.int, .uint, .long, .ulong, .llong, .ullong],
      (collapse t).size * 8 = t.bits ∧ (collapse t).isUnsigned = !t.isSigned := by
  decide

-- ------------------------------------------------------------------ floating constants (6.4.4.2p4)

/-- **C11 (floating-constant type).**  No suffix: `double`; `f F`: `float`; `l L`: `long double`;
    and the table of `convert_pp_number` has no other entry. -/
theorem C11_float_type :
    (∀ c ∈ ['f', 'F', 'l', 'L'], (floatSuffixTable.lookup c.toNat).map some = some ((floatSuffixType (some c)).map floatTy)) ∧
    some floatDefaultTy = (floatSuffixType none).map floatTy ∧
    (∀ e ∈ floatSuffixTable, e.1 ∈ ['f', 'F', 'l', 'L'].map Char.toNat) := by
  decide

-- ------------------------------------------------------------------ UTF-8 (RFC 3629)

/-- **C11 (UTF-8 encoder).**  `encode_utf8` writes exactly the RFC 3629 byte sequence, for every
    value below 2^21 (in particular for every code point up to U+10FFFF). -/
theorem C11_utf8_layout (c : BitVec 32) (hc : c.toNat < 0x200000) :
    (encodeUtf8 c).map BitVec.toNat = utf8 c.toNat :=
  encode_toNat c hc

/-- the RFC 3629 sequence has the stated length, a lead byte of the pattern for that length and
    continuation bytes `10xxxxxx` (a statement about the specification; with `C11_utf8_layout` it
    transfers to `encode_utf8`) -/
theorem C11_utf8_patterns (n : Nat) (hn : n < 0x110000) :
    (utf8 n).length = utf8Len n ∧ (∀ b ∈ (utf8 n).head?, isLead (utf8Len n) b = true) ∧
    (∀ b ∈ (utf8 n).tail, isCont b = true) := by
  unfold utf8 utf8Len
  by_cases h1 : n < 0x80
  · simp [h1, isLead]
  · by_cases h2 : n < 0x800
    · simp only [h1, h2, if_true, if_false]
      simp [isLead, isCont]; omega
    · by_cases h3 : n < 0x10000
      · simp only [h1, h2, h3, if_true, if_false]
        simp [isLead, isCont]; omega
      · simp only [h1, h2, h3, if_false]
        simp [isLead, isCont]; omega

/-- **C11 (UTF-8 round trip).**  For every value below 2^21 and every following text,
    `decode_utf8` applied to the bytes written by `encode_utf8` returns that value and advances
    by exactly the number of bytes written. -/
theorem C11_utf8_roundtrip (c : BitVec 32) (hc : c.toNat < 0x200000) (rest : List (BitVec 8)) :
    decodeUtf8 (encodeUtf8 c ++ rest) = .ok (c, (encodeUtf8 c).length) :=
  roundtrip c hc rest

example : (0x10FFFF#32).toNat < 0x200000 := by decide +kernel

/-- **C11 (UTF-8 decoder, bit layout).**  A lead byte `110xxxxx`/`1110xxxx`/`11110xxx` followed by
    the right number of continuation bytes `10xxxxxx` decodes to the concatenation of the `x` bits. -/
theorem C11_utf8_decode (b0 b1 b2 b3 : BitVec 8) (rest : List (BitVec 8))
    (h1 : isCont b1.toNat = true) (h2 : isCont b2.toNat = true) (h3 : isCont b3.toNat = true) :
    (isLead 1 b0.toNat = true → decodeUtf8 (b0 :: rest) = .ok (BitVec.ofNat 32 b0.toNat, 1)) ∧
    (isLead 2 b0.toNat = true → decodeUtf8 (b0 :: b1 :: rest) = .ok (BitVec.ofNat 32 (b0.toNat % 32 * 64 + b1.toNat % 64), 2)) ∧
    (isLead 3 b0.toNat = true → decodeUtf8 (b0 :: b1 :: b2 :: rest) =
        .ok (BitVec.ofNat 32 (b0.toNat % 16 * 4096 + b1.toNat % 64 * 64 + b2.toNat % 64), 3)) ∧
    (isLead 4 b0.toNat = true → decodeUtf8 (b0 :: b1 :: b2 :: b3 :: rest) =
        .ok (BitVec.ofNat 32 (b0.toNat % 8 * 262144 + b1.toNat % 64 * 4096 + b2.toNat % 64 * 64 + b3.toNat % 64), 4)) := by
  simp only [isCont, isLead, Bool.and_eq_true, decide_eq_true_eq] at *
  have c1 : b1.toNat / 64 = 2 := by omega
  have c2 : b2.toNat / 64 = 2 := by omega
  have c3 : b3.toNat / 64 = 2 := by omega
  refine ⟨fun h => decode1 _ _ h, fun h => ?_, fun h => ?_, fun h => ?_⟩
  · exact decode_seq b0 [b1] rest _ (leadSpec_two b0 h.1 (by omega)) (by omega) (Nat.mod_lt _ (by decide)) (by show 1 ≤ 3; decide)
      (by simpa using c1)
  · refine (decode_seq b0 [b1, b2] rest _ (leadSpec_three b0 h.1 (by omega)) (by omega) (by omega) (by show 2 ≤ 3; decide)
      (by simpa using ⟨c1, c2⟩)).trans ?_
    simp only [List.foldl, List.length]; congr 3; omega
  · refine (decode_seq b0 [b1, b2, b3] rest _ (leadSpec_four b0 h.1) (by omega) (by omega) (Nat.le_refl 3)
      (by simpa using ⟨c1, c2, c3⟩)).trans ?_
    simp only [List.foldl, List.length]; congr 3; omega

example : isCont (0xA9#8).toNat = true ∧ isLead 2 (0xC3#8).toNat = true := by decide +kernel

/-- **C11 (UTF-8 decoder, rejection).**  A continuation byte in lead position is rejected, and so
    is a multi-byte lead whose next byte is not a continuation byte (this includes a lead byte at
    the end of the text: the next byte is then the terminator). -/
theorem C11_utf8_rejects (b0 : BitVec 8) (rest : List (BitVec 8)) :
    (isCont b0.toNat = true → decodeUtf8 (b0 :: rest) = .error .invalidUtf8) ∧
    (0xC0 ≤ b0.toNat → isCont (byteAt rest 0).toNat = false → decodeUtf8 (b0 :: rest) = .error .invalidUtf8) := by
  constructor
  · intro h
    simp only [isCont, Bool.and_eq_true, decide_eq_true_eq] at h
    have hna : ¬ (b0.toNat < 128) := by omega
    unfold decodeUtf8
    simp only [byteAt_zero, ascii_test, hna, if_false, decodeLead_eq, leadSpec_none b0 (by omega)]
  · intro h0 h
    have hc : ¬ ((byteAt rest 0).toNat / 64 = 2) := by
      simp only [isCont, Bool.and_eq_false_iff, decide_eq_false_iff_not] at h; omega
    have hna : ¬ (b0.toNat < 128) := by omega
    obtain ⟨n, c, hl⟩ := leadSpec_multi b0 h0
    unfold decodeUtf8
    simp only [byteAt_zero, ascii_test, hna, if_false, decodeLead_eq, hl, Nat.add_sub_cancel]
    rw [decodeCont_succ]; simp only [byteAt_succ, hc, if_false, Except.map]

example : isCont (0x80#8).toNat = true ∧ isCont (byteAt ([] : List (BitVec 8)) 0).toNat = false := by decide +kernel

-- ------------------------------------------------------------------ identifiers (6.4.2.1, Annex D)

/-- **C11 (identifier characters).**  For every code point (every natural number): `is_ident1`
    accepts exactly the characters that may start an identifier (`_ a-z A-Z $`, Annex D.1 minus
    D.2) and `is_ident2` exactly those that may continue one (those, digits, D.2). -/
theorem C11_ident_ranges (c : Nat) : isIdent1 c = identStart c ∧ isIdent2 c = identContinue c :=
  ident_ranges c

-- ------------------------------------------------------------------ UTF-16 (RFC 2781)

/-- **C11 (UTF-16 units).**  For every code point up to U+10FFFF the units stored by
    `read_utf16_string_literal` are those of RFC 2781: one unit equal to the code point below
    U+10000; otherwise a high surrogate in [D800, DBFF] followed by a low surrogate in
    [DC00, DFFF] that recombine to the code point. -/
theorem C11_utf16 (c : BitVec 32) (hc : c.toNat < 0x110000) :
    (utf16Units c).map BitVec.toNat = utf16 c.toNat ∧
    (c.toNat < 0x10000 → utf16 c.toNat = [c.toNat]) ∧
    (0x10000 ≤ c.toNat → ∃ hi lo, utf16 c.toNat = [hi, lo] ∧ isHighSurrogate hi = true ∧ isLowSurrogate lo = true ∧
        utf16Decode [hi, lo] = some c.toNat) := by
  refine ⟨utf16_toNat c hc, ?_, ?_⟩
  · intro h; simp [utf16, h]
  · intro h
    have hn : ¬ c.toNat < 0x10000 := by omega
    refine ⟨0xD800 + (c.toNat - 0x10000) / 0x400, 0xDC00 + (c.toNat - 0x10000) % 0x400, ?_, ?_, ?_, ?_⟩
    · simp [utf16, hn]
    · simp [isHighSurrogate]; omega
    · simp [isLowSurrogate]; omega
    · have a1 : 0xD800 ≤ 0xD800 + (c.toNat - 0x10000) / 0x400 ∧ 0xD800 + (c.toNat - 0x10000) / 0x400 ≤ 0xDBFF := by omega
      have a2 : 0xDC00 ≤ 0xDC00 + (c.toNat - 0x10000) % 0x400 ∧ 0xDC00 + (c.toNat - 0x10000) % 0x400 ≤ 0xDFFF := by omega
      simp only [utf16Decode, isHighSurrogate, isLowSurrogate, a1, a2, decide_true, Bool.and_self, if_true, Option.some.injEq]
      omega

example : (0x1F600#32).toNat < 0x110000 ∧ 0x10000 ≤ (0x1F600#32).toNat := by decide +kernel

-- ------------------------------------------------------------------ escape sequences (6.4.4.4)

/-- **C11 (simple escapes).**  Every simple escape of 6.4.4.4 gets its C11 value from
    `read_escaped_char` (table entry or the default arm), and every table entry is a C11 escape
    or the GNU extension `\e` = 27. -/
theorem C11_escape :
    (∀ e ∈ Spec.Literals.simpleEscapes, escapeValue (BitVec.ofNat 8 e.1.toNat) = BitVec.ofNat 32 e.2) ∧
    (∀ e ∈ Gen.Literals.simpleEscapes, e = (101, 27) ∨ (Char.ofNat e.1, e.2) ∈ Spec.Literals.simpleEscapes) := by
  decide

/-- **C11 (octal escapes).**  One to three octal digits are consumed, and the value is that of
    the digit sequence (the byte after them is not an octal digit, or three were read). -/
theorem C11_escape_octal :
    ∀ d0 < 8, ∀ d1 < 9, ∀ d2 < 9,
      readEscapedChar [BitVec.ofNat 8 (48 + d0), BitVec.ofNat 8 (48 + d1), BitVec.ofNat 8 (48 + d2), 0x37#8] =
        .ok (if d1 = 8 then (BitVec.ofNat 32 (octalEscape [d0]), 1)
             else if d2 = 8 then (BitVec.ofNat 32 (octalEscape [d0, d1]), 2)
             else (BitVec.ofNat 32 (octalEscape [d0, d1, d2]), 3)) := by
  intro d0 h0 d1 h1 d2 h2
  obtain ⟨o0, v0⟩ := oct_digit_byte d0 (by omega)
  obtain ⟨o1, v1⟩ := oct_digit_byte d1 h1
  obtain ⟨o2, v2⟩ := oct_digit_byte d2 h2
  have e1 : (d1 < 8) = ¬ d1 = 8 := by simp only [eq_iff_iff]; omega
  have e2 : (d2 < 8) = ¬ d2 = 8 := by simp only [eq_iff_iff]; omega
  unfold readEscapedChar
  simp only [byteAt_zero, byteAt_succ, o0, o1, o2, v0, v1, v2, h0, decide_true, if_true, shl3_add_ofNat, decide_eq_true_eq,
    octalEscape, digitsValue, List.foldl, Nat.zero_mul, Nat.zero_add, e1, e2, ite_not]
  split
  · rfl
  · split <;> rfl

-- ------------------------------------------------------------------ prefixes (6.4.4.4p11, 6.4.5p6)

/-- **C11 (element types).**  The element type chosen by tokenize() for each string prefix has the
    size of `char`/`char16_t`/`char32_t`/`wchar_t`; `u`/`U` are unsigned, plain/`u8`/`L` have the
    signedness of `char`/`wchar_t` (signed on x86-64); character constants: plain `int`,
    `u` `char16_t`, `U` `char32_t`, `L` `wchar_t`. -/
theorem C11_prefix_types :
    stringPrefixes.map (fun e => (e.1, e.2.2.size, e.2.2.isUnsigned)) =
      [([], StrPrefix.none.elemSize, false), ([117, 56], StrPrefix.u8.elemSize, false), ([117], StrPrefix.u.elemSize, true),
       ([76], StrPrefix.L.elemSize, false), ([85], StrPrefix.U.elemSize, true)] ∧
    charPrefixes.map (fun e => (e.1, e.2.1.size, e.2.1.isUnsigned)) =
      [([], 4, false), ([117], 2, true), ([76], 4, false), ([85], 4, true)] := by
  decide

/-- **C11 (hexadecimal escapes).**  `\x` followed by hexadecimal digits and then by a byte that is not a
    hexadecimal digit: every digit is consumed (6.4.4.4p7: "as many hexadecimal digits as follow") and the value is that
    of the digit sequence (in `int`, i.e. modulo 2^32). -/
theorem C11_escape_hex (x : Byte) (xs rest : List Byte) (hx : ∀ y ∈ x :: xs, isXDigit y = true)
    (hend : isXDigit (byteAt rest 0) = false) :
    readEscapedChar (120#8 :: x :: (xs ++ rest)) =
      .ok (BitVec.ofNat 32 (hexEscape ((x :: xs).map (fun d => hexDigitValue d.toNat))), 2 + xs.length) :=
  readEscapedChar_hex x xs rest hx hend

example : (∀ y ∈ [0x34#8, 0x31#8], isXDigit y = true) ∧ isXDigit (byteAt [0x22#8] 0) = false := by decide +kernel

-- ------------------------------------------------------------------ character constants (6.4.4.4p10-11)

/-- **C11 (character constants).**  A constant whose body is one source character (any code point up to U+10FFFF other
    than NUL and the backslash, written in UTF-8) yields that code point and ends at the closing quote.  The value stored
    for each prefix (`charPrefixes`, whose post-processing column is pinned by the last conjunct: plain `(char)` cast, `u` `& 0xffff`,
    `L` unchanged, `U` `(uint32_t)` i.e. modulo 2^32) is: the `char` value
    converted to `int` for a one-byte value (6.4.4.4p10: `'\377'` is -1 where `char` is signed), the value itself for a
    `char16_t` value, the `int` itself for `L` (type `int`: `wchar_t`, signed), and for `U` the 32-bit value ZERO-extended
    (type `unsigned int`: `char32_t`; `U'\xFFFFFFFF'` is 4294967295, also in `#if`, not -1). -/
theorem C11_char_const (pre post : List Byte) (c : BitVec 32) (hc : c.toNat < 0x110000) (h0 : c.toNat ≠ 0)
    (h92 : c.toNat ≠ 92) :
    readCharLiteral (pre ++ 39#8 :: (encodeUtf8 c ++ 39#8 :: post)) pre.length = .ok (c, pre.length + 1 + utf8Len c.toNat) ∧
    (∀ n, n < 256 → charPost .castChar (BitVec.ofNat 32 n) = BitVec.ofInt 64 (if n < 128 then (n : Int) else (n : Int) - 256)) ∧
    (∀ v : BitVec 32, v.toNat < 0x10000 → (charPost (.mask 0xFFFF) v).toNat = v.toNat) ∧
    (∀ v : BitVec 32, (charPost .none v).toInt = v.toInt) ∧
    (∀ v : BitVec 32, (charPost (.mask 0xFFFFFFFF) v).toNat = v.toNat) ∧
    charPrefixes.map (fun e => (e.1, e.2.2)) = [([], .castChar), ([117], .mask 0xFFFF), ([76], .none), ([85], .mask 0xFFFFFFFF)] :=
  ⟨readCharLiteral_char pre post c hc h0 h92, charPost_values.1, charPost_values.2.1, charPost_values.2.2, charPost_mask32, by decide⟩

example : (0x1F600#32).toNat < 0x110000 ∧ (0x1F600#32).toNat ≠ 0 ∧ (0x1F600#32).toNat ≠ 92 := by decide +kernel

-- ------------------------------------------------------------------ string literals: one source character (6.4.5p6)

/-- **C11 (source characters in string literals).**  For every code point up to U+10FFFF other than the backslash,
    written in the source as its UTF-8 sequence inside the literal (so before the closing quote at `endp`): the
    `"…"`/`u8"…"` reader appends its UTF-8 bytes, the `u"…"` reader its UTF-16 code units, the `U"…"`/`L"…"` reader
    the code point, and each advances by exactly the bytes of the character. -/
theorem C11_string_char (p : List Byte) (endp fuel i : Nat) (acc : List Nat) (c : BitVec 32) (rest : List Byte)
    (hc : c.toNat < 0x110000) (hne : c.toNat ≠ 92) (hi : i + utf8Len c.toNat ≤ endp) (hd : p.drop i = encodeUtf8 c ++ rest) :
    narrowLoop p endp (fuel + utf8Len c.toNat) i acc =
        narrowLoop p endp fuel (i + utf8Len c.toNat) ((encodeChar .none c.toNat).reverse ++ acc) ∧
    utf16Loop p endp (fuel + 1) i acc =
        utf16Loop p endp fuel (i + utf8Len c.toNat) ((encodeChar .u c.toNat).reverse ++ acc) ∧
    utf32Loop p endp (fuel + 1) i acc =
        utf32Loop p endp fuel (i + utf8Len c.toNat) ((encodeChar .U c.toNat).reverse ++ acc) := by
  have hpos := utf8Len_pos c.toNat
  exact ⟨narrowLoop_char p endp fuel i acc c rest hc hne hi hd,
    utf16Loop_char p endp fuel i acc c rest hc hne (by omega) hd,
    utf32Loop_char p endp fuel i acc c rest hc hne (by omega) hd⟩

example : (0x20AC#32).toNat < 0x110000 ∧ (0x20AC#32).toNat ≠ 92 ∧
    ([0x22#8, 0xE2#8, 0x82#8, 0xAC#8, 0x22#8] : List Byte).drop 1 = encodeUtf8 0x20AC#32 ++ [0x22#8] := by decide +kernel

-- ------------------------------------------------------------------ string literals: the whole literal (6.4.5p6)

/-- **C11 (string literals).**  For every reader (`"…"`/`u8"…"`, `u"…"`, `U"…"`/`L"…"`), every text before the opening
    quote and after the closing quote, and every body made of source characters (any code point up to U+10FFFF other than
    NUL, new-line, `"` and `\`, written in UTF-8) and escape sequences that `read_escaped_char` reads back completely in
    their context (`ItemsOK`; C11_escape, C11_escape_octal, C11_escape_hex give the instances): the token ends at the
    closing quote, its array length is the number of code units plus one, and its code units are, item by item, the
    UTF-8 bytes / UTF-16 units / code point of each character (Spec `encodeChar`) and the escape value truncated to the
    element width. -/
theorem C11_strings (r : StrReader) (ty : Ty) (pre post : List Byte) (its : List SrcItem) (hok : ItemsOK post its) :
    readString r ty (pre ++ 34#8 :: (renderItems its ++ 34#8 :: post)) pre.length =
      .ok ⟨ty, its.flatMap (itemUnits r), pre.length + 1 + (renderItems its).length + 1,
           (pre ++ 34#8 :: (renderItems its ++ 34#8 :: post)).take (pre.length + 1 + (renderItems its).length + 1)⟩ ∧
    (∀ c : BitVec 32, CharOK c →
      itemUnits .narrow (.char c) = encodeChar .none c.toNat ∧ itemUnits .utf16 (.char c) = encodeChar .u c.toNat ∧
      itemUnits .utf32 (.char c) = encodeChar .U c.toNat) := by
  refine ⟨readString_items r ty pre post its hok, fun c hc => ?_⟩
  have h := hc.1
  exact ⟨by simp [itemUnits, encodeChar, encode_toNat c (by omega)], by simp [itemUnits, encodeChar, utf16_toNat c h],
    by simp [itemUnits, encodeChar]⟩

/-- non-vacuity: the body `a\n€` followed by `" x` -/
example : ItemsOK [0x20#8, 0x78#8] [.char 0x61#32, .esc [0x6E#8] 10#32, .char 0x20AC#32] := by
  refine ⟨by unfold CharOK; decide, ⟨0x6E#8, [], rfl, by decide, by decide, by simp⟩, by decide, ?_, trivial⟩
  unfold CharOK; decide

-- ------------------------------------------------------------------ adjacent string literals (6.4.5p5)

/-- the computable `joinPrefix` has the declarative meaning of 6.4.5p5: the sequence has prefix `P` iff every token is
    unprefixed or has prefix `P`, and `P` occurs unless it is "no prefix" -/
theorem C11_join_prefix_spec (ps : List StrPrefix) (P : StrPrefix) :
    joinPrefix ps = some P ↔ ((∀ p ∈ ps, p = .none ∨ p = P) ∧ (P = .none ∨ P ∈ ps)) :=
  joinPrefix_spec ps P

/-- **C11 (adjacent literals, two different prefixes).**  Diagnosed ("unsupported non-standard concatenation"):
    6.4.5p2 makes u8 + wide a constraint violation, two different wide prefixes are implementation-defined. -/
theorem C11_strings_join_diagnosed (t1 t2 : StrTok) (rest : List StrTok) (ps : List StrPrefix)
    (h : AllPairs TokHasPrefix (t1 :: t2 :: rest) ps) (hj : joinPrefix ps = none) :
    joinStrings (t1 :: t2 :: rest) = .error .nonStandardConcat :=
  join_diagnosed t1 t2 rest ps h hj

/-- **C11 (adjacent literals, compatible prefixes).**  The result has the element size of the sequence's prefix; its code
    units are the concatenation of the tokens' code units, where a narrow token next to a wide one is re-read from its
    source text with the wide reader; there is one terminator: `array_len = Σ (array_lenᵢ − 1) + 1`. -/
theorem C11_strings_join (t1 t2 : StrTok) (rest : List StrTok) (ps : List StrPrefix) (P : StrPrefix) (r : StrTok)
    (h : AllPairs TokHasPrefix (t1 :: t2 :: rest) ps) (hj : joinPrefix ps = some P)
    (hr : joinStrings (t1 :: t2 :: rest) = .ok r) :
    r.elem.size = P.elemSize ∧
    ∃ toks, AllPairs (fun t t' => t' = t ∨ (t.elem.size = 1 ∧ ∃ ty, ty.size = P.elemSize ∧ 1 < ty.size ∧ retokenize t ty = .ok t'))
        (t1 :: t2 :: rest) toks ∧
      r.units = (toks.map (·.units)).flatten ∧
      r.units.length + 1 = (toks.map (fun t => (t.units.length + 1) - 1)).sum + 1 :=
  join_result t1 t2 rest ps P r h hj hr

/-- non-vacuity: `"a" u"b"` as the tokenizer reads them; the narrow token is re-read as UTF-16 -/
example : AllPairs TokHasPrefix
      [⟨.ty_char, [97], 3, [0x22#8, 0x61#8, 0x22#8]⟩, ⟨.ty_ushort, [98], 4, [0x75#8, 0x22#8, 0x62#8, 0x22#8]⟩] [.none, .u] ∧
    joinPrefix [.none, .u] = some .u ∧
    joinStrings [⟨.ty_char, [97], 3, [0x22#8, 0x61#8, 0x22#8]⟩, ⟨.ty_ushort, [98], 4, [0x75#8, 0x22#8, 0x62#8, 0x22#8]⟩] =
      .ok ⟨.ty_ushort, [97, 98], 3, [0x22#8, 0x61#8, 0x22#8]⟩ := by
  refine ⟨.cons (by unfold TokHasPrefix; decide) (.cons (by unfold TokHasPrefix; decide) .nil), by decide, by decide⟩

-- ------------------------------------------------------------------ source text: BOM, line ends, splices, UCNs (5.1.1.2)

/-- **C11 (BOM).**  A UTF-8 byte-order mark at the start of the file is skipped and nothing else is. -/
theorem C11_text_bom (t : List Byte) :
    skipBOM (0xEF#8 :: 0xBB#8 :: 0xBF#8 :: t) = t ∧
    (¬ (∃ r, t = 0xEF#8 :: 0xBB#8 :: 0xBF#8 :: r) → skipBOM t = t) := by
  refine ⟨by simp [skipBOM], ?_⟩
  intro h
  match t with
  | [] | [_] | [_, _] => rfl
  | a :: b :: c :: r =>
    simp only [skipBOM]
    split
    · rename_i hc; exact absurd ⟨r, by rw [hc.1, hc.2.1, hc.2.2]⟩ h
    · rfl

/-- **C11 (line ends).**  After `canonicalize_newline` the LF-terminated lines are exactly the source lines when
    CR LF, a lone CR and LF all end a line; no CR remains; a text without CR is unchanged. -/
theorem C11_text_newlines (t : List Byte) :
    splitOn LF (canonicalizeNewline t) = splitLines CR LF t ∧ CR ∉ canonicalizeNewline t ∧
    (CR ∉ t → canonicalizeNewline t = t) :=
  ⟨canon_lines t, canon_isCanon.no_cr t, canon_isCanon.id t⟩

/-- **C11 (line splicing).**  After `remove_backslash_newline` the logical lines (first line exactly, later lines up to
    blank lines) are those of the text with every backslash-newline deleted; the number of newlines is unchanged (the
    deleted ones are re-inserted after the end of the logical line); a text without a splice is unchanged. -/
theorem C11_text_splice (t : List Byte) :
    logicalLines (splitOn LF (removeBackslashNewline t)) = logicalLines (splitOn LF (unsplice BSL LF t)) ∧
    (removeBackslashNewline t).count LF = t.count LF ∧
    (unsplice BSL LF t = t → removeBackslashNewline t = t) :=
  ⟨splice_lines t 0, rbn_isRbn.count t 0, splice_id t⟩

/-- **C11 (universal character names).**  `\uXXXX` / `\UXXXXXXXX` (after text without a backslash; value neither 0 nor the new-line character, which the code leaves
    alone and C11 6.4.3 disallows anyway) is replaced by the `encode_utf8` bytes of the value of its digits — by `C11_utf8_layout` the RFC 3629 sequence, i.e. exactly the bytes
    of the same character written directly — and the rest of the text is processed as if it stood alone. -/
theorem C11_text_ucn (pre post : List Byte) (d0 d1 d2 d3 d4 d5 d6 d7 : Byte) (hpre : BSL ∉ pre)
    (h0 : isXDigit d0 = true) (h1 : isXDigit d1 = true) (h2 : isXDigit d2 = true) (h3 : isXDigit d3 = true)
    (h4 : isXDigit d4 = true) (h5 : isXDigit d5 = true) (h6 : isXDigit d6 = true) (h7 : isXDigit d7 = true) :
    (digitsValue 16 [hexVal d0, hexVal d1, hexVal d2, hexVal d3] ≠ 0 →
     digitsValue 16 [hexVal d0, hexVal d1, hexVal d2, hexVal d3] ≠ 10 →
      convertUniversalChars (pre ++ BSL :: 117#8 :: d0 :: d1 :: d2 :: d3 :: post) =
        pre ++ encodeUtf8 (BitVec.ofNat 32 (digitsValue 16 [hexVal d0, hexVal d1, hexVal d2, hexVal d3])) ++
          convertUniversalChars post) ∧
    (digitsValue 16 [hexVal d0, hexVal d1, hexVal d2, hexVal d3, hexVal d4, hexVal d5, hexVal d6, hexVal d7] ≠ 0 →
     digitsValue 16 [hexVal d0, hexVal d1, hexVal d2, hexVal d3, hexVal d4, hexVal d5, hexVal d6, hexVal d7] ≠ 10 →
      convertUniversalChars (pre ++ BSL :: 85#8 :: d0 :: d1 :: d2 :: d3 :: d4 :: d5 :: d6 :: d7 :: post) =
        pre ++ encodeUtf8 (BitVec.ofNat 32
            (digitsValue 16 [hexVal d0, hexVal d1, hexVal d2, hexVal d3, hexVal d4, hexVal d5, hexVal d6, hexVal d7])) ++
          convertUniversalChars post) :=
  ⟨cuc_ucn pre post [d0, d1, d2, d3] 117#8 (.inl ⟨rfl, rfl⟩) hpre
      (by simpa using ⟨h0, h1, h2, h3⟩),
    cuc_ucn pre post [d0, d1, d2, d3, d4, d5, d6, d7] 85#8 (.inr ⟨rfl, rfl⟩) hpre
      (by simpa using ⟨h0, h1, h2, h3, h4, h5, h6, h7⟩)⟩

/-- non-vacuity: `\u00e9` -/
example : isXDigit 0x30#8 = true ∧ isXDigit 0x65#8 = true ∧ isXDigit 0x39#8 = true ∧
    digitsValue 16 [hexVal 0x30#8, hexVal 0x30#8, hexVal 0x65#8, hexVal 0x39#8] = 0xE9 := by decide +kernel

/-- **C11 (the hand-written reader functions are the translated ones).**  `from_hex`, `read_escaped_char`,
    `read_universal_char` and `string_literal_end` of the hand model (Model/Literals.lean, Model/Text.lean — the functions all
    reader theorems above are about) are equal, on every input, to the functions that tools/extract/literals.py + cursor.py
    translate from the text of tokenize.c on every check run (Gen/LitReadersGen.lean: C typing by cmini.Emitter, control flow
    by symbolic execution; the `error_at` sites are named after their messages).  A change of an operator, constant, bound or
    branch in one of these C functions changes the right-hand sides and breaks this theorem. -/
theorem C11_translated_readers :
    (∀ b : Byte, ChibiVerif.Literals.fromHex b = ChibiVerif.Gen.LitReaders.fromHex b) ∧
    (∀ p : List Byte, readEscapedChar p = (ChibiVerif.Gen.LitReaders.readEscapedChar p).mapError ofReadErr) ∧
    (∀ (p : List Byte) (len : Nat), readUniversalChar p len 0 = ChibiVerif.Gen.LitReaders.readUniversalChar p len) ∧
    (∀ (p : List Byte) (i : Nat), stringLiteralEnd p i = (ChibiVerif.Gen.LitReaders.stringLiteralEnd p i).mapError ofReadErr) :=
  ⟨fun b => (ChibiVerif.Lemmas.Translated.fromHex_eq b).symm, readEscapedChar_eq, readUniversalChar_eq, stringLiteralEnd_eq⟩

/-- **C11 (the literal readers are the translated ones).**  `read_string_literal`, `read_utf16_string_literal`,
    `read_utf32_string_literal` (hand model `readString` with the reader of the dispatch table; `readerT` selects the translated
    function, `mkTok` builds the model's token from the units and the end index it returns) and `read_char_literal` are equal, on
    every text and position, to the functions translated from tokenize.c — including which diagnostic is raised.  With
    `C11_translated_readers` every function that `C11_strings`, `C11_string_char`, `C11_char_const` and the escape theorems
    reason about is the C code as translated; the pp-number scan, `convert_pp_int` and the order of the arms of tokenize() are the
    subject of `C11_translated_int` (above), `C11_translated_ppnumber`, `C11_translated_lex` and `C11_arm_order` (below). -/
theorem C11_translated_literal_readers :
    (∀ (r : StrReader) (ty : Ty) (p : List Byte) (q : Nat),
      readString r ty p q = ((readerT r p q).mapError ofReadErr).map (mkTok ty p)) ∧
    (∀ (p : List Byte) (q : Nat),
      readCharLiteral p q = (ChibiVerif.Gen.LitReaders.readCharLiteral p q).mapError ofReadErr) :=
  ⟨readString_eq, readCharLiteral_eq⟩

/-- **C11 (escape sequences, on the translated `read_escaped_char`).**  The statements of `C11_escape`, `C11_escape_octal` and
    `C11_escape_hex` for the function generated from the C source: every simple escape of 6.4.4.4 followed by any text yields
    its C11 value and consumes one byte; one to three octal digits; `\x` with every following hexadecimal digit. -/
theorem C11_escape_translated :
    (∀ e ∈ Spec.Literals.simpleEscapes, ∀ rest : List Byte,
      ChibiVerif.Gen.LitReaders.readEscapedChar (BitVec.ofNat 8 e.1.toNat :: rest) = .ok (BitVec.ofNat 32 e.2, 1)) ∧
    (∀ d0 < 8, ∀ d1 < 9, ∀ d2 < 9,
      ChibiVerif.Gen.LitReaders.readEscapedChar
          [BitVec.ofNat 8 (48 + d0), BitVec.ofNat 8 (48 + d1), BitVec.ofNat 8 (48 + d2), 0x37#8] =
        .ok (if d1 = 8 then (BitVec.ofNat 32 (octalEscape [d0]), 1)
             else if d2 = 8 then (BitVec.ofNat 32 (octalEscape [d0, d1]), 2)
             else (BitVec.ofNat 32 (octalEscape [d0, d1, d2]), 3))) ∧
    (∀ (x : Byte) (xs rest : List Byte), (∀ y ∈ x :: xs, isXDigit y = true) → isXDigit (byteAt rest 0) = false →
      ChibiVerif.Gen.LitReaders.readEscapedChar (120#8 :: x :: (xs ++ rest)) =
        .ok (BitVec.ofNat 32 (hexEscape ((x :: xs).map (fun d => hexDigitValue d.toNat))), 2 + xs.length)) := by
  refine ⟨?_, fun d0 h0 d1 h1 d2 h2 => ?_, ?_⟩
  · intro e he rest
    have key : ∀ e ∈ Spec.Literals.simpleEscapes,
        isOctDigit (BitVec.ofNat 8 e.1.toNat) = false ∧ (BitVec.ofNat 8 e.1.toNat : Byte) ≠ 120#8 ∧
        escapeValue (BitVec.ofNat 8 e.1.toNat) = BitVec.ofNat 32 e.2 := by decide +kernel
    obtain ⟨h1, h2, h3⟩ := key e he
    apply mapError_ok ofReadErr
    rw [← readEscapedChar_eq]
    simp [readEscapedChar, byteAt_zero, h1, h2, h3]
  · apply mapError_ok ofReadErr
    rw [← readEscapedChar_eq]
    exact C11_escape_octal d0 h0 d1 h1 d2 h2
  · intro x xs rest hx hend
    apply mapError_ok ofReadErr
    rw [← readEscapedChar_eq]
    exact readEscapedChar_hex x xs rest hx hend

example : (∀ y ∈ [0x34#8, 0x31#8], isXDigit y = true) ∧ isXDigit (byteAt [0x22#8] 0) = false := by decide +kernel

/-- **C11 (the phase functions are the translated in-place loops).**  `canonicalize_newline`, `remove_backslash_newline` and
    `convert_universal_chars` rewrite the text inside its own array.  Their translation (Gen/LitReadersGen.lean) keeps that: the
    array is threaded through every store, reads see earlier stores, a store that does not land inside the text is `none`.  For
    every text without NUL (and, for `convert_universal_chars`, ending in a newline as `read_file` guarantees) each translated
    loop returns `some` of what the functional hand model of Model/Text.lean computes — so every `C11_text_*` theorem is about
    the code as translated, and no store of the three loops leaves the text (the write index never passes the read index).
    Last conjunct: the three loops in sequence, as `tokenize_file` calls them, give `phase12 s` for every file content. -/
theorem C11_translated_phases :
    (∀ t : List Byte, (0#8 : Byte) ∉ t → ChibiVerif.Gen.LitReaders.canonicalizeNewline t = some (canonicalizeNewline t)) ∧
    (∀ t : List Byte, (0#8 : Byte) ∉ t →
      ChibiVerif.Gen.LitReaders.removeBackslashNewline t = some (removeBackslashNewline t)) ∧
    (∀ t : List Byte, (0#8 : Byte) ∉ t → (t = [] ∨ t.getLast? = some LF) →
      ChibiVerif.Gen.LitReaders.convertUniversalChars t = some (convertUniversalChars t)) ∧
    (∀ s : List Byte, (0#8 : Byte) ∉ s →
      (ChibiVerif.Gen.LitReaders.canonicalizeNewline (skipBOM (ensureFinalNewline s)) >>=
        ChibiVerif.Gen.LitReaders.removeBackslashNewline >>=
        ChibiVerif.Gen.LitReaders.convertUniversalChars) = some (phase12 s)) :=
  ⟨canonicalizeNewline_eq, removeBackslashNewline_eq, convertUniversalChars_eq, translated_pipeline⟩

/-- non-vacuity: `"é"` CR LF `x\` LF `y` -/
example : (0#8 : Byte) ∉ ([0x22#8, 92#8, 0x75#8, 0x30#8, 0x30#8, 0x65#8, 0x39#8, 0x22#8, 13#8, 10#8, 0x78#8, 92#8, 10#8, 0x79#8] : List Byte) ∧
    (ChibiVerif.Gen.LitReaders.canonicalizeNewline (skipBOM (ensureFinalNewline
        [0x22#8, 92#8, 0x75#8, 0x30#8, 0x30#8, 0x65#8, 0x39#8, 0x22#8, 13#8, 10#8, 0x78#8, 92#8, 10#8, 0x79#8])) >>=
      ChibiVerif.Gen.LitReaders.removeBackslashNewline >>= ChibiVerif.Gen.LitReaders.convertUniversalChars) =
      some [0x22#8, 0xC3#8, 0xA9#8, 0x22#8, 10#8, 0x78#8, 0x79#8, 10#8, 10#8] := by decide +kernel

/-- **C11 (what `tokenize()` sees depends only on the unspliced text).**  For every file content `s`: the lines of the text
    handed to `tokenize()` are — the first line exactly, the later ones up to blank lines — the logical lines of the phase-1
    text (final newline, BOM skipped, CR/CRLF canonicalised) *with every backslash-newline deleted* (`unsplice`, the wording of
    5.1.1.2p1(2)), each with its universal character names converted; the blank lines are the bookkeeping of
    `remove_backslash_newline`, which re-inserts every deleted newline after the end of the logical line so that the number of
    newlines (hence every later line number) is unchanged.  In particular two files with the same unspliced phase-1 text give
    `tokenize()` the same logical lines, however many splices either contains. -/
theorem C11_text_lines (s : List Byte) :
    logicalLines (splitOn LF (phase12 s)) =
      (logicalLines (splitOn LF (unsplice BSL LF (phase1 s)))).map convertUniversalChars ∧
    firstLine (phase12 s) = convertUniversalChars (firstLine (unsplice BSL LF (phase1 s))) ∧
    (phase12 s).count LF = (phase1 s).count LF ∧
    (∀ s', unsplice BSL LF (phase1 s') = unsplice BSL LF (phase1 s) →
      logicalLines (splitOn LF (phase12 s')) = logicalLines (splitOn LF (phase12 s))) :=
  ⟨phase12_lines s, firstLine_phase12 s, phase12_count s, fun s' h => by rw [phase12_lines, phase12_lines, h]⟩

/-- **C11 (the literal token is read from the first line).**  If the text `tokenize()` sees starts with a literal that is
    complete on its first line (`LiteralOnFirstLine`: the line does not end in a backslash — `string_literal_end` steps over
    a newline after a backslash — and `read_char_literal`'s `strchr` finds the closing quote before the newline), the token
    is the one read from that line alone: no reader loop looks past the first newline. -/
theorem C11_text_first_line (y w : List Byte) (hy : y = firstLine y ++ LF :: w) (hline : LiteralOnFirstLine y) :
    lexLiteral y = lexLiteral (firstLine y ++ [LF]) := by
  conv => lhs; rw [hy]
  exact lexLiteral_line _ _ hline.1 hline.2

/-- non-vacuity: `"ab" x`, newline, `y` -/
example : ([0x22#8, 0x61#8, 0x62#8, 0x22#8, 0x20#8, 0x78#8, 10#8, 0x79#8] : List Byte) =
      firstLine [0x22#8, 0x61#8, 0x62#8, 0x22#8, 0x20#8, 0x78#8, 10#8, 0x79#8] ++ LF :: [0x79#8] ∧
    LiteralOnFirstLine [0x22#8, 0x61#8, 0x62#8, 0x22#8, 0x20#8, 0x78#8, 10#8, 0x79#8] := by decide +kernel

/-- **C11 (line splicing is transparent for literals, any number of splices).**  Two file contents whose phase-1 texts are
    equal after deleting every backslash-newline — e.g. one is the other with backslash-newlines inserted at any number of
    places — give the same literal token at the start of the text, provided the literal is complete on the first line of
    (either) text `tokenize()` sees. -/
theorem C11_text_unspliced (s s' : List Byte) (h : unsplice BSL LF (phase1 s') = unsplice BSL LF (phase1 s))
    (hline : LiteralOnFirstLine (phase12 s)) :
    lexLiteral (phase12 s') = lexLiteral (phase12 s) :=
  lexLiteral_phase12_congr s s' (congrArg firstLine h) hline

/-- non-vacuity: `"a\<LF>b\<LF>c"` and `"abc"` (two splices inside a string literal) -/
example : unsplice BSL LF (phase1 [0x22#8, 0x61#8, 92#8, 10#8, 0x62#8, 92#8, 10#8, 0x63#8, 0x22#8]) =
      unsplice BSL LF (phase1 [0x22#8, 0x61#8, 0x62#8, 0x63#8, 0x22#8]) ∧
    LiteralOnFirstLine (phase12 [0x22#8, 0x61#8, 0x62#8, 0x63#8, 0x22#8]) ∧
    lexLiteral (phase12 [0x22#8, 0x61#8, 0x62#8, 0x63#8, 0x22#8]) =
      .ok (.str ⟨.ty_char, [0x61, 0x62, 0x63], 5, [0x22#8, 0x61#8, 0x62#8, 0x63#8, 0x22#8]⟩) := by decide +kernel

/-- **C11 (a backslash-newline anywhere does not change the literal token).**  A backslash-newline inserted at any place of a
    file content `a ++ b` — inside the literal, inside a universal character name (chibicc deletes splices before it converts
    UCNs, so this too is transparent), before it, after it — does not change the literal token `tokenize()` reads at the
    start of the text.  Hypotheses (each is necessary, see Findings/C11.lean for the kernel-checked counterexamples, which
    were confirmed on the real tokenizer):
    * `a` does not end in a backslash (`\\<LF>`: the inserted newline would be spliced with the *earlier* backslash);
    * no CR (a splice between the CR and the LF of a line end separates them: two line ends instead of one);
    * the splice is not inside or in front of a UTF-8 BOM at the start of the file (`tokenize_file` tests for the BOM
      before it removes splices, so such a BOM is not skipped);
    * the literal of the unspliced text is complete on its first line (`LiteralOnFirstLine`): the deleted newline is
      re-inserted after the first newline, which changes the extent of a character constant that `strchr` closes on a
      later line (undefined in C11: 6.4.4.4 has no new-line in a c-char) and un-escapes a newline that follows a backslash
      produced by `\u005c` (a universal character name 6.4.3 disallows). -/
theorem C11_text_transparent (a b : List Byte) (ha : a.getLast? ≠ some BSL) (hca : CR ∉ a) (hcb : CR ∉ b)
    (hbom : 3 ≤ a.length ∨ (a ++ b).take 3 ≠ BOM) (hline : LiteralOnFirstLine (phase12 (a ++ b))) :
    lexLiteral (phase12 (a ++ BSL :: LF :: b)) = lexLiteral (phase12 (a ++ b)) :=
  lexLiteral_phase12_congr _ _ (by
    simpa using firstLine_phase1_splice_eol a [BSL, LF] b (.inl rfl) ha (fun h => hca (List.mem_of_getLast? h.1)) hbom) hline

/-- non-vacuity: a splice inside the universal character name of `"é"` (a = `"\u00`, b = `e9";`), read as `"é"` -/
example : ([0x22#8, 92#8, 0x75#8, 0x30#8, 0x30#8] : List Byte).getLast? ≠ some BSL ∧
    CR ∉ ([0x22#8, 92#8, 0x75#8, 0x30#8, 0x30#8] : List Byte) ∧ CR ∉ ([0x65#8, 0x39#8, 0x22#8, 0x3B#8] : List Byte) ∧
    3 ≤ ([0x22#8, 92#8, 0x75#8, 0x30#8, 0x30#8] : List Byte).length ∧
    LiteralOnFirstLine (phase12 ([0x22#8, 92#8, 0x75#8, 0x30#8, 0x30#8] ++ [0x65#8, 0x39#8, 0x22#8, 0x3B#8])) ∧
    lexLiteral (phase12 ([0x22#8, 92#8, 0x75#8, 0x30#8, 0x30#8] ++ BSL :: LF :: [0x65#8, 0x39#8, 0x22#8, 0x3B#8])) =
      .ok (.str ⟨.ty_char, [0xC3, 0xA9], 4, [0x22#8, 0xC3#8, 0xA9#8, 0x22#8]⟩) := by decide +kernel

/-- **C11 (a backslash-newline anywhere, in files with any line-end convention).**  The same for file contents that contain
    CR and CR LF line ends, and for every spelling of the inserted splice: backslash LF, backslash CR LF, backslash CR (the last one
    not in front of an LF, which would make it a CR LF).  The CR hypothesis of `C11_text_transparent` shrinks to what is necessary:
    the splice is not inserted between the CR and the LF of one line end. -/
theorem C11_text_transparent_eol (a sp b : List Byte)
    (hsp : sp = [BSL, LF] ∨ sp = [BSL, CR, LF] ∨ (sp = [BSL, CR] ∧ b.head? ≠ some LF))
    (ha : a.getLast? ≠ some BSL) (hcr : ¬ (a.getLast? = some CR ∧ b.head? = some LF))
    (hbom : 3 ≤ a.length ∨ (a ++ b).take 3 ≠ BOM) (hline : LiteralOnFirstLine (phase12 (a ++ b))) :
    lexLiteral (phase12 (a ++ sp ++ b)) = lexLiteral (phase12 (a ++ b)) :=
  lexLiteral_phase12_congr _ _ (firstLine_phase1_splice_eol a sp b hsp ha hcr hbom) hline

/-- non-vacuity: a CR LF file, `"ab` `\` CR LF `cd"; x` CR LF `y` CR LF, read as `"abcd"` -/
example : ([0x22#8, 0x61#8, 0x62#8] : List Byte).getLast? ≠ some BSL ∧
    ¬ (([0x22#8, 0x61#8, 0x62#8] : List Byte).getLast? = some CR ∧
       ([0x63#8, 0x64#8, 0x22#8, 0x3B#8, 0x78#8, 13#8, 10#8, 0x79#8, 13#8, 10#8] : List Byte).head? = some LF) ∧
    LiteralOnFirstLine (phase12 ([0x22#8, 0x61#8, 0x62#8] ++ [0x63#8, 0x64#8, 0x22#8, 0x3B#8, 0x78#8, 13#8, 10#8, 0x79#8, 13#8, 10#8])) ∧
    lexLiteral (phase12 ([0x22#8, 0x61#8, 0x62#8] ++ [BSL, CR, LF] ++
        [0x63#8, 0x64#8, 0x22#8, 0x3B#8, 0x78#8, 13#8, 10#8, 0x79#8, 13#8, 10#8])) =
      .ok (.str ⟨.ty_char, [0x61, 0x62, 0x63, 0x64], 6, [0x22#8, 0x61#8, 0x62#8, 0x63#8, 0x64#8, 0x22#8]⟩) := by decide +kernel

-- ------------------------------------------------------------------ pp-numbers (6.4.8)

/-- **C11 (pp-number: the scan is maximal munch for the grammar of 6.4.8).**  About the pp-number arm of `tokenize()` AS TRANSLATED
    (Gen/PpNumGen.lean: the start test `isdigit(*p) || (*p == '.' && isdigit(p[1]))` and the `for (;;)` loop over `e+ e- p+ p-` /
    alnum / `.`), for every text and every position: the arm is taken exactly when some prefix of the text at that position is a
    pp-number of 6.4.8 (`PPNumber`, the grammar production by production), and then the token `[start, ppNumberEnd)` lies inside
    the text, is a pp-number, and no longer prefix is one.
    Latitude (stated by the parameter `isLetter`): identifier-nondigit is restricted to the 52 Latin letters — `_`, `$`, universal
    character names and bytes ≥ 0x80 do not continue a pp-number in chibicc (`1_0` is `1` followed by the identifier `_0`; no valid
    constant contains one of them; Findings/C11.lean `C11_ppnumber_latitude` has the witness that with `_` the scan is not maximal). -/
theorem C11_ppnumber_maximal (p : List Byte) (start : Nat) :
    (ChibiVerif.Gen.PpNum.ppNumberStart p start = true ↔ ∃ e, e ≤ p.length ∧ PPNumber isLetter (slice p start e)) ∧
    (ChibiVerif.Gen.PpNum.ppNumberStart p start = true →
      start < ChibiVerif.Gen.PpNum.ppNumberEnd p start ∧ ChibiVerif.Gen.PpNum.ppNumberEnd p start ≤ p.length ∧
      PPNumber isLetter (slice p start (ChibiVerif.Gen.PpNum.ppNumberEnd p start)) ∧
      ∀ e, e ≤ p.length → PPNumber isLetter (slice p start e) → e ≤ ChibiVerif.Gen.PpNum.ppNumberEnd p start) :=
  ChibiVerif.Lemmas.PpNum.ppnumber_maximal p start

/-- non-vacuity: in `x=1e+5f+2` the arm is taken at index 2 and the token is `1e+5f` -/
example : ChibiVerif.Gen.PpNum.ppNumberStart [0x78#8, 0x3D#8, 0x31#8, 0x65#8, 0x2B#8, 0x35#8, 0x66#8, 0x2B#8, 0x32#8] 2 = true ∧
    ChibiVerif.Gen.PpNum.ppNumberEnd [0x78#8, 0x3D#8, 0x31#8, 0x65#8, 0x2B#8, 0x35#8, 0x66#8, 0x2B#8, 0x32#8] 2 = 7 := by decide +kernel

/-- **C11 (the hand model of the pp-number scan and of the literal dispatch is the translated code).**  `ppNumberLen` and the
    start test of `lexLiteral` (Model/Literals.lean) equal the translated scan on every text, so `lexLiteral` — the function the
    `C11_text_*` theorems are about — is, on every text, the dispatch over the translated pp-number arm, the translated
    `convert_pp_int` (with the digit loop as `strtoul`, on the token's own text) and the translated literal readers
    (`C11_translated_literal_readers`).  `C11_translated_lex` removes the copy and the digit loop; `C11_arm_order` ties the order
    of the arms. -/
theorem C11_translated_ppnumber :
    (∀ p : List Byte, ppNumberLen p = ChibiVerif.Gen.PpNum.ppNumberEnd p 0) ∧
    (∀ p : List Byte, (ChibiVerif.Literals.isDigit (byteAt p 0) || (byteAt p 0 = 46#8 && ChibiVerif.Literals.isDigit (byteAt p 1))) =
      ChibiVerif.Gen.PpNum.ppNumberStart p 0) ∧
    (∀ p : List Byte, ChibiVerif.Gen.PpNum.ppNumberStart p 0 = true →
      lexLiteral p =
        match ChibiVerif.Gen.PpNum.convertPpInt strtoulH (p.take (ChibiVerif.Gen.PpNum.ppNumberEnd p 0)) 0
            (p.take (ChibiVerif.Gen.PpNum.ppNumberEnd p 0)).length with
        | some (v, ty) => .ok (.int v ty (ChibiVerif.Gen.PpNum.ppNumberEnd p 0))
        | none => .ok (.flt (ChibiVerif.Gen.PpNum.ppNumberEnd p 0))) := by
  refine ⟨ChibiVerif.Lemmas.PpNum.ppNumberLen_eq, ChibiVerif.Lemmas.PpNum.ppStart_eq, fun p hs => ?_⟩
  rw [ChibiVerif.Lemmas.PpContext.lexLiteral_num p hs]
  generalize ChibiVerif.Gen.PpNum.convertPpInt strtoulH _ _ _ = r
  rcases r with _ | ⟨v, ty⟩ <;> rfl

example : ChibiVerif.Gen.PpNum.ppNumberStart [0x31#8, 0x32#8, 0x75#8, 0x3B#8] 0 = true ∧
    lexLiteral [0x31#8, 0x32#8, 0x75#8, 0x3B#8] = .ok (.int 12#64 .ty_uint 3) := by decide +kernel

/-- **C11 (`lexLiteral` is the translated code called as `tokenize()` calls it).**  `lexLiteralC` (Model/PpNumber.lean) takes the
    translated pp-number arm and calls the translated `convert_pp_int` on the token INSIDE the text, with the Lean model of
    glibc's `strtoul` — the function the check runs against the real tokenizer (`lit`, `file` operations).  On every text it is
    equal to `lexLiteral`, the function all `C11_text_*` theorems are about (which copies the token and uses the digit loop),
    except on texts that begin with a hexadecimal prefix followed by a second `0x`/`0X` (`SecondPrefix`, decidable; there libc
    skips the second prefix: Findings/C11.lean `C11_strtoul_second_prefix`; no integer constant has that shape).
    Reason: the byte after the token is not alphanumeric (the scan stopped there), and neither ladder of `convert_pp_int` nor
    the digit loop accepts such a byte — it acts like the terminator of the copy. -/
theorem C11_translated_lex (p : List Byte) (hsp : ¬ SecondPrefix p) : lexLiteralC p = lexLiteral p :=
  ChibiVerif.Lemmas.PpContext.lexLiteral_eq p hsp

/-- non-vacuity: `0x7fUL+1` -/
example : ¬ SecondPrefix [48#8, 120#8, 0x37#8, 0x66#8, 85#8, 76#8, 0x2B#8, 0x31#8] ∧
    lexLiteralC [48#8, 120#8, 0x37#8, 0x66#8, 85#8, 76#8, 0x2B#8, 0x31#8] = .ok (.int 0x7f#64 .ty_ulong 6) := by decide +kernel

/-- **C11 (order of the literal arms of `tokenize()`).**  The arms of the `while (*p)` loop, extracted in source order from
    tokenize.c (`tokenizeArms`), try the pp-number arm before every string-literal arm, the string-literal arms in the order of
    the translated table `stringPrefixes`, then the character-constant arms in the order of `charPrefixes`, and only then
    identifiers and punctuators — the order in which `lexLiteral` (Model/Literals.lean) dispatches; comments and white space
    come first and are not literals. -/
theorem C11_arm_order :
    ChibiVerif.Gen.PpNum.tokenizeArms =
      ["line_comment", "block_comment", "newline", "space", "pp_number"] ++
      stringPrefixes.map (fun e => "str:" ++ String.ofList (e.1.map Char.ofNat)) ++
      charPrefixes.map (fun e => "chr:" ++ String.ofList (e.1.map Char.ofNat)) ++ ["ident", "punct", "invalid"] := by
  decide +kernel

/-- **C11 (phase order).**  `tokenize_file` AS TRANSLATED from clang's typed AST of tokenize.c (Gen/PpNumGen.lean
    `tokenizeFileText`: the `memcmp` BOM test with its literal and lengths, then `canonicalize_newline`,
    `remove_backslash_newline`, `convert_universal_chars` in the order of the calls, each the in-place loop of
    Gen/LitReadersGen.lean; nothing else touches the text before `tokenize(new_file(…, p))`), applied to what `read_file`
    returns (`ensureFinalNewline`, hand model of the libc stream calls), is — for every file content without NUL — exactly the
    composition `phase12` that every `C11_text_*` theorem is about; no store of the three loops leaves the text; and the order
    of the calls is the one 5.1.1.2 prescribes (line ends, then splices, then — a chibicc choice — universal character names). -/
theorem C11_phase_order :
    (∀ s : List Byte, (0#8 : Byte) ∉ s → fileText s = some (phase12 s)) ∧
    (∀ b : List Byte, ChibiVerif.Gen.PpNum.tokenizeFileText b =
      (ChibiVerif.Gen.LitReaders.canonicalizeNewline (skipBOM b) >>= ChibiVerif.Gen.LitReaders.removeBackslashNewline >>=
        ChibiVerif.Gen.LitReaders.convertUniversalChars)) ∧
    ChibiVerif.Gen.PpNum.tokenizeFileSteps =
      ["memcmp:3", "canonicalize_newline", "remove_backslash_newline", "convert_universal_chars"] :=
  ⟨ChibiVerif.Lemmas.Rewrite.phase_order, ChibiVerif.Lemmas.Rewrite.tokenizeFileText_eq, by decide⟩

/-- non-vacuity: BOM, `"é"` written as a UCN, CR LF, a splice -/
example : (0#8 : Byte) ∉ ([0xEF#8, 0xBB#8, 0xBF#8, 0x22#8, 92#8, 0x75#8, 0x30#8, 0x30#8, 0x65#8, 0x39#8, 0x22#8, 13#8, 10#8, 0x78#8, 92#8, 10#8, 0x79#8] : List Byte) ∧
    fileText [0xEF#8, 0xBB#8, 0xBF#8, 0x22#8, 92#8, 0x75#8, 0x30#8, 0x30#8, 0x65#8, 0x39#8, 0x22#8, 13#8, 10#8, 0x78#8, 92#8, 10#8, 0x79#8] =
      some [0x22#8, 0xC3#8, 0xA9#8, 0x22#8, 10#8, 0x78#8, 0x79#8, 10#8, 10#8] := by decide +kernel

end ChibiVerif.Props.C11
