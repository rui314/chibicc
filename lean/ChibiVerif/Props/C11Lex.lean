/-
C11 — the pp-number scan of the shared lexer model (Model/Lex.lean, the tokenizer of C19 / C13 / C18) is the scan translated
from tokenize.c.  Property theorem only (helper lemmas: Lemmas/C11PpNumberLex; `scanLen`, the greedy length of the scan, is defined in
Lemmas/C11PpNumber); kept in its own module because it is the one C11
statement that depends on another property's model.
-/
import ChibiVerif.Lemmas.C11PpNumberLex

namespace ChibiVerif.Props.C11
open ChibiVerif.Literals
open ChibiVerif.Lemmas.PpNum (scanLen)

/-- **C11 (the lexer model's pp-number scan is the translated scan).**  For every text (bytes) and every position: the
    pp-number arm of `tokenize()` as translated from tokenize.c ends exactly where `Lex.ppTake` — the scan of the code-point
    lexer model that C19's theorems are about —, started on the bytes after the first character, stops; and `ppTake` splits the
    text at that point.  So `C11_ppnumber_maximal` (longest prefix of the grammar of 6.4.8) is also a statement about the
    pp-number tokens of Model/Lex on every text whose bytes are its characters, and on UTF-8 text in general because a byte
    ≥ 0x80 ends the scan in both models. -/
theorem C11_ppnumber_lex (p : List Byte) (start : Nat) :
    ChibiVerif.Gen.PpNum.ppNumberEnd p start =
      start + 1 + (ChibiVerif.Lex.ppTake ((p.drop (start + 1)).map BitVec.toNat)).1.length ∧
    (∀ t : List Byte, ChibiVerif.Lex.ppTake (t.map BitVec.toNat) =
      ((t.take (scanLen t)).map BitVec.toNat, (t.drop (scanLen t)).map BitVec.toNat)) :=
  ⟨ChibiVerif.Lemmas.PpNumLex.ppNumberEnd_lex p start, ChibiVerif.Lemmas.PpNumLex.ppTake_eq⟩

end ChibiVerif.Props.C11
