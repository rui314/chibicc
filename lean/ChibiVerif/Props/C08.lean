/-
C08 — type sizes, alignments and layouts equal the psABI.

Property theorems, and the full statements (`*_Statement`) that the `_partial` ones fall short of.  Helper lemmas:
Lemmas/DeclspecLemmas, LayoutLoops, LayoutTotal, LayoutSpecLemmas, LayoutLemmas, Layout32Lemmas.
Left-hand sides are the model of parse.c/type.c (`Model/Layout.lean`, `Model/Layout32.lean`, over the regenerated
`Gen/DeclspecGen.lean`); right-hand sides are `Spec/LayoutSpec.lean` (C11 6.7.2p2, psABI figure 3.1 and 3.1.2, gcc's
packed/aligned), which is validated against gcc 12 on every run of the check; the regions the `_partial` theorems exclude
(`PackedWithBitfield` …, `Ty.inRegion`) are `Spec/LayoutRegions.lean`.  What the statements use beyond these — `SMem.WF`,
`SMem.toMem`, `SLayout.toLayout`, `SMem.step`, `Ty.ok`, `Ty.inRange`, `NoDupSign`, `collapse`, `LeastAligned`, `InOrder` — is
defined in Lemmas/C08Vocabulary.lean.

Restricted theorems (`_partial`) and what is missing:
* `C08_specifiers_reject_partial` — rejection of every multiset outside C11 6.7.2p2 is proved for non-empty sequences
  without a repeated `signed`/`unsigned`.  chibicc accepts `signed signed int` (`counter |= SIGNED`) and the empty
  sequence (implicit int); this is latitude (C08 quantifies over *valid* combinations).  The full
  statement `C08_specifiers_reject_Statement` is refuted in Findings/C08.lean.  `C08_specifiers_exact` (full strength, all
  non-empty sequences) states precisely what is accepted instead: the C11 table up to repeated `signed`/`unsigned`.
* `C08_layout_partial`, `C08_types_partial` — model = spec outside the three known-finding regions (all inside `packed`):
  `PackedWithBitfield` (a packed struct in which some bit-field, put at the next free bit, crosses a storage-unit boundary
  of its declared type — packed structs whose bit-fields all fit are in scope), `PackedWithMemberAlign` (a packed
  aggregate with a member `_Alignas` stricter than 1), `PackedUnionBitfield` (a packed union with a named bit-field
  narrower, in bytes, than its declared type).  The full statements `C08_layout_Statement`, `C08_types_Statement` are
  refuted in Findings/C08.lean by the listed witnesses.
The whole input space of the two constraints the parser checks on the way to a layout is covered at full strength:
`C08_aligned_exact` / `C08_aligned_zero` / `C08_aligned_rejected` (`aligned(n)` for every integer n), `C08_alignas`
(`_Alignas(n)` for every n), `C08_bitfield_type` (declared type of a bit-field), `C08_outcome_class` (layout iff the
specification accepts the declaration, else one of the two located diagnostics), `C08_no_divByZero` (no type description
at all reaches a zero divisor) and `C08_align_bound` (alignments ≤ 2^28, so the `int` divisors of struct_decl do not wrap to 0).
The well-formedness predicate `Ty.ok` asks of `aligned(n)` / `_Alignas(n)` what gcc and chibicc both accept: n = 0 or a
power of two ≤ 2^28.
The layout theorems above model C `int` by unbounded `Int`; `C08_layout_int_partial` redoes struct_decl/union_decl with every
`int` operation explicit and shows that for aggregates below 256 MiB (minus one rounding step) nothing overflows and the
same layouts result — signed overflow begins exactly in the region of known finding C08-huge-struct-overflow.
-/
import ChibiVerif.Model.Layout
import ChibiVerif.Spec.LayoutSpec
import ChibiVerif.Lemmas.DeclspecLemmas
import ChibiVerif.Lemmas.LayoutLemmas
import ChibiVerif.Lemmas.Layout32Lemmas

namespace ChibiVerif.Props.C08
open ChibiVerif.Layout ChibiVerif.Gen.Declspec ChibiVerif.Spec.Layout

/-! ## type specifiers -/

/-- **C08 (specifiers).**  For every sequence of built-in type-specifier keywords:
    (1) every permutation of it is decoded to the same outcome (type or diagnostic) — the result depends only on the multiset;
    (2) if the multiset is one that C11 6.7.2p2 lists, the outcome is the type (psABI representation class) the list gives. -/
theorem C08_specifiers (ks : List Kw) :
    (∀ ks', ks'.Perm ks → declspecDecode ks' = declspecDecode ks) ∧
    (∀ t, c11Type ks = some t → declspecDecode ks = .ok t) := by
  refine ⟨fun ks' p => decode_perm p, fun t h => ?_⟩
  obtain ⟨e, hem, hp, rfl⟩ := c11Type_some h
  rw [← decode_perm hp]
  exact table_decoded e hem

/-- full statement of the rejection half (false for chibicc: see Findings/C08.lean) -/
def C08_specifiers_reject_Statement : Prop :=
  ∀ ks : List Kw, c11Type ks = none → declspecDecode ks = .error .invalidType

/-- **C08 (specifiers, rejection; partial).**  A non-empty keyword sequence without a repeated `signed`/`unsigned` whose
    multiset C11 6.7.2p2 does not list ends in `error_tok(tok, "invalid type")`.  In particular no sequence of keywords
    makes the 2-bit counters wrap into a valid code (`void void void void` has the counter value of `_Bool`, but is
    rejected at the second `void`). -/
theorem C08_specifiers_reject_partial (ks : List Kw) (hne : ks ≠ []) (hnd : NoDupSign ks)
    (h : c11Type ks = none) : declspecDecode ks = .error .invalidType := by
  cases hd : declspecDecode ks with
  | error d => cases d; rfl
  | ok t =>
    have := accepted_is_c11 hne hnd hd
    rw [h] at this
    cases this

/-- both halves in one equation, on the restricted domain -/
theorem C08_specifiers_exact_partial (ks : List Kw) (hne : ks ≠ []) (hnd : NoDupSign ks) :
    declspecDecode ks = (match c11Type ks with
      | some t => .ok t
      | none => .error .invalidType) := by
  cases h : c11Type ks with
  | some t => exact (C08_specifiers ks).2 t h
  | none => exact C08_specifiers_reject_partial ks hne hnd h

/-- **C08 (specifiers, exact language).**  For *every* non-empty keyword sequence: chibicc decodes it as C11 6.7.2p2
    decodes the sequence with repeated `signed`/`unsigned` dropped (`collapse`), type for type and diagnostic for
    diagnostic.  So the accepted language is exactly the C11 table up to that one repetition (`counter |= SIGNED`),
    and nothing else — no wrap-around of the 2-bit counters, no order dependence. -/
theorem C08_specifiers_exact (ks : List Kw) (hne : ks ≠ []) :
    declspecDecode ks = (match c11Type (collapse ks) with
      | some t => .ok t
      | none => .error .invalidType) := by
  rw [decode_collapse ks]
  exact C08_specifiers_exact_partial (collapse ks) (collapse_ne_nil hne) (noDup_collapse ks)

example : collapse [.signed, .long, .signed, .unsigned] = [.signed, .long, .unsigned] ∧
    declspecDecode [.signed, .long, .signed, .unsigned] = .error .invalidType ∧
    declspecDecode [.signed, .long, .signed] = .ok .long := by decide +kernel

-- non-vacuity: a valid permutation, an invalid sequence in scope, the wrap-around candidate
example : c11Type [.long, .unsigned, .int, .long] = some .ulong ∧
    declspecDecode [.long, .unsigned, .int, .long] = .ok .ulong := by decide +kernel
example : [Kw.short, .long] ≠ [] ∧ NoDupSign [.short, .long] ∧ c11Type [.short, .long] = none := by decide +kernel
example : NoDupSign [.void, .void, .void, .void] ∧ declspecDecode [.void, .void, .void, .void] = .error .invalidType := by
  decide +kernel

/-! ## scalars and derived types -/

/-- **C08 (scalars).**  The `Type` literals of type.c have the sizes and alignments of psABI figure 3.1. -/
theorem C08_prims : ∀ t : TyName,
    primSize t = ((psabiScalar t).1 : Nat) ∧ primAlign t = ((psabiScalar t).2 : Nat) := by
  intro t; cases t <;> decide

/-- **C08 (derived types).**  `sizeof(T[n]) = n · sizeof(T)`, `_Alignof(T[n]) = _Alignof(T)`; a flexible array member has
    size 0 and the alignment of its element; pointers are 8/8 and enums 4/4 as in the psABI. -/
theorem C08_derived :
    (∀ (e : Ty) (n s a : Int), e.sizeAlign = .ok (s, a) → (Ty.arr e n).sizeAlign = .ok (s * n, a)) ∧
    (∀ (e : Ty) (s a : Int), e.sizeAlign = .ok (s, a) → (Ty.flex e).sizeAlign = .ok (0, a)) ∧
    Ty.ptr.sizeAlign = .ok (((psabiPointer.1 : Nat) : Int), ((psabiPointer.2 : Nat) : Int)) ∧
    Ty.enum.sizeAlign = .ok (((psabiEnum.1 : Nat) : Int), ((psabiEnum.2 : Nat) : Int)) := by
  refine ⟨?_, ?_, by decide, by decide⟩
  · intro e n s a h
    simp only [Ty.sizeAlign, h]
    rfl
  · intro e s a h
    simp only [Ty.sizeAlign, h]
    show Except.ok (s * 0, a) = Except.ok (0, a)
    rw [Int.mul_zero]

/-! ## struct and union layout -/

/-- full statement: for every member list (arbitrary sizes/alignments, so nested aggregates and arrays are covered),
    every `packed`/`aligned(n)` combination and every member `_Alignas`, `struct_decl` and `union_decl` compute the
    psABI layout (offsets, bit positions, size, alignment).  False for chibicc inside `packed` (Findings/C08.lean). -/
def C08_layout_Statement : Prop :=
  ∀ (packed : Bool) (aligned : Option Nat) (ms : List SMem),
    (∀ n, aligned = some n → 0 < n) → (∀ m ∈ ms, m.WF) →
    structLayout packed ((aligned.getD STRUCT_INIT_ALIGN : Nat) : Int) (ms.map SMem.toMem)
        = .ok (specStruct packed aligned ms).toLayout ∧
    unionLayout packed ((aligned.getD STRUCT_INIT_ALIGN : Nat) : Int) (ms.map SMem.toMem)
        = .ok (specUnion packed aligned ms).toLayout

/-- **C08 (layout; partial).**  Outside the three known-finding regions the statement holds: for every member list
    `struct_decl` never divides by zero and returns exactly the offsets, bit offsets, size and alignment of the psABI
    allocation rule; `union_decl` likewise.  The regions are narrow: a packed struct is excluded only if one of its
    bit-fields actually straddles a storage unit where gcc puts it (`PackedWithBitfield`), a packed aggregate only if a
    member asks for `_Alignas` > 1, a packed union only if a named bit-field is narrower than its type in bytes. -/
theorem C08_layout_partial (packed : Bool) (aligned : Option Nat) (ms : List SMem)
    (hal : ∀ n, aligned = some n → 0 < n) (hwf : ∀ m ∈ ms, m.WF)
    (hA : PackedWithMemberAlign packed ms = false) :
    (PackedWithBitfield packed ms = false →
      structLayout packed ((aligned.getD STRUCT_INIT_ALIGN : Nat) : Int) (ms.map SMem.toMem)
        = .ok (specStruct packed aligned ms).toLayout) ∧
    (PackedUnionBitfield packed ms = false →
      unionLayout packed ((aligned.getD STRUCT_INIT_ALIGN : Nat) : Int) (ms.map SMem.toMem)
        = .ok (specUnion packed aligned ms).toLayout) :=
  ⟨fun hB => structLayout_eq packed aligned ms hal hwf hB hA,
   fun hU => unionLayout_eq packed aligned ms hal hwf hU hA⟩

-- non-vacuity of the narrowed regions: `struct __attribute__((packed)) { char a : 3; char b : 5; int c : 17; short d; _Alignas(1) long e; }`
-- is in scope (every bit-field fits where gcc puts it): 14/1 with c at bits 8..24 of the unit at 0 …
example :
    let ms : List SMem := [⟨1, 1, 0, some 3, true⟩, ⟨1, 1, 0, some 5, true⟩, ⟨4, 4, 0, some 17, true⟩, ⟨2, 2, 0, none, true⟩,
      ⟨8, 8, 1, none, true⟩]
    (∀ m ∈ ms, m.WF) ∧ PackedWithMemberAlign true ms = false ∧ PackedWithBitfield true ms = false ∧
    specStruct true none ms = ⟨14, 1, [⟨0, 0, 0⟩, ⟨3, 0, 3⟩, ⟨8, 0, 8⟩, ⟨32, 4, 0⟩, ⟨48, 6, 0⟩]⟩ := by
  decide +kernel
-- … and so is `union __attribute__((packed)) { char x : 5; int y : 25; short s; }` (both fields as wide in bytes as their types)
example :
    let ms : List SMem := [⟨1, 1, 0, some 5, true⟩, ⟨4, 4, 0, some 25, true⟩, ⟨2, 2, 0, none, true⟩]
    (∀ m ∈ ms, m.WF) ∧ PackedWithMemberAlign true ms = false ∧ PackedUnionBitfield true ms = false ∧
    specUnion true none ms = ⟨4, 1, [⟨0, 0, 0⟩, ⟨0, 0, 0⟩, ⟨0, 0, 0⟩]⟩ := by
  decide +kernel

/-- everything that is not `packed` is in scope: the full statement for plain and `aligned(n)` aggregates -/
theorem C08_layout_unpacked (aligned : Option Nat) (ms : List SMem)
    (hal : ∀ n, aligned = some n → 0 < n) (hwf : ∀ m ∈ ms, m.WF) :
    structLayout false ((aligned.getD STRUCT_INIT_ALIGN : Nat) : Int) (ms.map SMem.toMem)
        = .ok (specStruct false aligned ms).toLayout ∧
    unionLayout false ((aligned.getD STRUCT_INIT_ALIGN : Nat) : Int) (ms.map SMem.toMem)
        = .ok (specUnion false aligned ms).toLayout := by
  have := C08_layout_partial false aligned ms hal hwf rfl
  exact ⟨this.1 rfl, this.2 rfl⟩

-- non-vacuity: `struct { char a; int b : 3; long : 0; short c : 9; _Alignas(16) char d; char e[]; }` is in scope …
example :
    let ms : List SMem := [⟨1, 1, 0, none, true⟩, ⟨4, 4, 0, some 3, true⟩, ⟨8, 8, 0, some 0, false⟩,
      ⟨2, 2, 0, some 9, true⟩, ⟨1, 1, 16, none, true⟩, ⟨0, 1, 0, none, true⟩]
    (∀ m ∈ ms, m.WF) ∧ PackedWithMemberAlign false ms = false ∧
    specStruct false none ms = ⟨32, 16, [⟨0, 0, 0⟩, ⟨8, 0, 8⟩, ⟨64, 0, 0⟩, ⟨64, 8, 0⟩, ⟨128, 16, 0⟩, ⟨136, 17, 0⟩]⟩ := by
  decide +kernel
-- … and so is a packed struct without bit-fields: `struct __attribute__((packed, aligned(2))) { char a; long b; int : 0; }`
example :
    let ms : List SMem := [⟨1, 1, 0, none, true⟩, ⟨8, 8, 0, none, true⟩, ⟨4, 4, 0, some 0, false⟩]
    (∀ m ∈ ms, m.WF) ∧ PackedWithMemberAlign true ms = false ∧ PackedWithBitfield true ms = false ∧
    specStruct true (some 2) ms = ⟨12, 2, [⟨0, 0, 0⟩, ⟨8, 1, 0⟩, ⟨96, 0, 0⟩]⟩ := by
  decide +kernel

/-! ## the C `int` arithmetic of struct_decl / union_decl (the 256 MiB boundary) -/

/-- **C08 (layout in `int` arithmetic; partial).**  `struct_decl` and `union_decl` with every `int` operation of the C text
    explicit (`Model/Layout32.lean`; `md = strict`: signed overflow is an outcome, C11 6.5p5; `md = wrap`: two's complement,
    what the compiled code does): outside the three packed regions, if every divisor the loop uses is at most `S` bits
    (`SMem.step`: storage unit of a bit-field, `mem->align * 8`, 8 in a packed struct; also `ty->align * 8`) and the end of
    the struct plus `S` stays below 2^31 bits, then no operation overflows and the result is the psABI layout — in both
    modes.  So the unbounded-`Int` idealisation of the other layout theorems is exact for every struct up to `2^28 - S/8`
    bytes; the known finding C08-huge-struct-overflow begins there.  Unions: member sizes (in bits, + 7) at most `S`,
    `S` plus the alignment below 2^31. -/
theorem C08_layout_int_partial (md : IntMode) (packed : Bool) (aligned : Option Nat) (ms : List SMem) (S : Nat)
    (hal : ∀ n, aligned = some n → 0 < n) (hwf : ∀ m ∈ ms, m.WF)
    (hA : PackedWithMemberAlign packed ms = false) :
    (PackedWithBitfield packed ms = false → (∀ m ∈ ms, m.step packed ≤ S) → 8 * (specStruct packed aligned ms).align ≤ S →
      8 * (specStruct packed aligned ms).size + S < 2 ^ 31 →
      structLayout32 md packed ((aligned.getD STRUCT_INIT_ALIGN : Nat) : Int) (ms.map SMem.toMem)
        = .ok (specStruct packed aligned ms).toLayout) ∧
    (PackedUnionBitfield packed ms = false → (∀ m ∈ ms, 8 * m.size + 7 ≤ S) →
      S + (specUnion packed aligned ms).align < 2 ^ 31 →
      unionLayout32 md packed ((aligned.getD STRUCT_INIT_ALIGN : Nat) : Int) (ms.map SMem.toMem)
        = .ok (specUnion packed aligned ms).toLayout) :=
  ⟨fun hB hS hAl hb => structLayout32_eq md packed aligned ms S hal hwf hB hA hS hAl hb,
   fun hU hS hb => unionLayout32_eq md packed aligned ms S hal hwf hU hA hS hb⟩

-- non-vacuity: `struct { char a[268435000]; int b : 3; long : 0; short c : 9; _Alignas(16) char d; }` (just below 256 MiB) with S = 128
example :
    let ms : List SMem := [⟨268435000, 1, 0, none, true⟩, ⟨4, 4, 0, some 3, true⟩, ⟨8, 8, 0, some 0, false⟩,
      ⟨2, 2, 0, some 9, true⟩, ⟨1, 1, 16, none, true⟩]
    (∀ m ∈ ms, m.WF) ∧ PackedWithMemberAlign false ms = false ∧ PackedWithBitfield false ms = false ∧
    (∀ m ∈ ms, m.step false ≤ 128) ∧ 8 * (specStruct false none ms).align ≤ 128 ∧
    8 * (specStruct false none ms).size + 128 < 2 ^ 31 ∧ (specStruct false none ms).size = 268435040 := by
  decide +kernel

/-- **C08 (whole types in `int` arithmetic; partial).**  The type-level functions with every `int` operation explicit
    (`Ty.layout32`: `array_of`'s `base->size * len`, struct_decl, union_decl, and struct_members' "field has incomplete type"
    test on the — possibly wrapped — size): for every well-formed description outside the three packed regions (`Ty.ok true`)
    all of whose arrays and aggregates are in range (`Ty.inRange`: array size below 2^31; struct: sizeof + _Alignof + 8 below
    2^28 bytes; union: member sizes in bits plus the alignment below 2^31), the result is the psABI layout in strict mode (no
    signed overflow anywhere) and in wrap mode (the compiled code).  Outside `inRange` the wrap mode is what the check compares
    with the real compiler (known finding C08-huge-struct-overflow). -/
theorem C08_types_int_partial (md : IntMode) (t : Ty) (h : t.ok true = true) (hr : t.inRange = true) :
    t.layout32 md = .ok (specTy t).toLayout :=
  layout32_eq md t h hr

-- non-vacuity: struct { char a[268435000]; struct { int f : 3; long g; } s[2]; } is in range (268435032 bytes);
-- struct { char a[1 << 28]; char b; } is not
example :
    let t : Ty := .struct false none (.cons ⟨none, true⟩ .nil (.arr (.prim .char) 268435000) (.cons ⟨none, true⟩ .nil
      (.arr (.struct false none (.cons ⟨some 3, true⟩ .nil (.prim .int) (.cons ⟨none, true⟩ .nil (.prim .long) .nil))) 2) .nil))
    t.ok true = true ∧ t.inRange = true ∧ (specTy t).size = 268435032 ∧
    (Ty.struct false none (.cons ⟨none, true⟩ .nil (.arr (.prim .char) 268435456) (.cons ⟨none, true⟩ .nil (.prim .char) .nil))).inRange
      = false := by
  decide +kernel

/-! ## `_Alignas` -/

/-- **C08 (`_Alignas`, one specifier).**  What the `_Alignas` arm of `declspec` (regenerated from parse.c) does with the
    running `attr->align`: a type-name operand contributes exactly its *alignment* (`typename(..)->align`, never its size,
    whatever the operand: array, struct, union, pointer, scalar); a constant operand that is 0 or one of 2^0 … 2^28
    contributes its value (0: nothing); the strictest wins (`MAX`); every other constant (negative, not a power of two,
    larger than 2^28 — also 2^29 and 2^30, whose `* 8` wraps to 0 in a 32-bit `int`: the zero divisor of /repo 33adb94) is the
    located diagnostic "alignment must be a power of two no larger than 2^28".  This is gcc's rule. -/
theorem C08_alignas :
    (∀ (t : Ty) (rest : Aligns) (acc s a : Int), t.sizeAlign = .ok (s, a) →
      (Aligns.type t rest).eval acc = rest.eval (if acc < a then a else acc)) ∧
    (∀ (n : Int) (rest : Aligns) (acc : Int), (n = 0 ∨ ∃ k, k ≤ 28 ∧ n = (2 : Int) ^ k) →
      (Aligns.const n rest).eval acc = rest.eval (if acc < n then n else acc)) ∧
    (∀ (n : Int) (rest : Aligns) (acc : Int), n ≠ 0 → (∀ k, k ≤ 28 → n ≠ (2 : Int) ^ k) →
      (Aligns.const n rest).eval acc = .error .badAlign) := by
  refine ⟨?_, ?_, ?_⟩
  · intro t rest acc s a h
    simp only [Aligns.eval, h, bind, Except.bind, alignasCombine, alignasOfType]
    rfl
  · intro n rest acc hn
    have hgood : alignasConstBad n = false := by
      rw [alignasConstBad_eq, alignedAttrBad_iff]
      rcases hn with h0 | h
      · exact Or.inl h0
      · exact Or.inr ((pow2le28_iff n).2 h)
    simp only [Aligns.eval, hgood, Bool.false_eq_true, if_false, alignasCombine, alignasOfConst]
    rfl
  · intro n rest acc h0 hp
    have hbad : alignasConstBad n = true := by
      cases hb : alignasConstBad n with
      | true => rfl
      | false =>
        rw [alignasConstBad_eq, alignedAttrBad_iff] at hb
        rcases hb with h | h
        · exact absurd h h0
        · obtain ⟨k, hk, hn⟩ := (pow2le28_iff n).1 h
          exact absurd hn (hp k hk)
    simp only [Aligns.eval, hbad, if_true]

-- non-vacuity: `_Alignas(16)`, `_Alignas(0)` pass; `_Alignas(536870912)`, `_Alignas(3)`, `_Alignas(-8)` are diagnosed
example : (Aligns.const 16 .nil).eval 0 = .ok 16 ∧ (Aligns.const 0 (.const 4 .nil)).eval 0 = .ok 4 ∧
    (Aligns.const 536870912 .nil).eval 0 = .error .badAlign ∧ (Aligns.const 3 .nil).eval 0 = .error .badAlign ∧
    (Aligns.const (-8) .nil).eval 0 = .error .badAlign ∧
    (Ty.struct false none (.cons ⟨none, true⟩ (.const 536870912 .nil) (.prim .char) .nil)).layout = .error .badAlign := by
  decide +kernel

/-- **C08 (`_Alignas`, any number of specifiers; partial only in that type-name operands must lie outside the three
    packed regions).**  For every list of alignment specifiers, `declspec` leaves in `attr->align` the maximum of
    `_Alignof(T)` over the type-name operands and `n` over the constant operands (C11 6.7.5p6: the strictest; 0 = none), and
    an object declared with them — automatic, block-scope static or file scope — gets that alignment, or the alignment of
    its type if there is no (non-zero) specifier. -/
theorem C08_alignas_partial (as : Aligns) (ty : Ty) (h : as.ok true = true) (hty : ty.ok true = true) :
    as.eval 0 = .ok ((specAligns as : Nat) : Int) ∧ varAlign as ty = .ok ((specVarAlign as ty : Nat) : Int) := by
  have h1 := as_eq as h 0
  simp only [Nat.zero_max, Int.natCast_zero] at h1
  refine ⟨h1, ?_⟩
  have h2 := ty_eq ty hty
  simp only [varAlign, h1, h2, bind, Except.bind, pure, Except.pure, specVarAlign, Except.ok.injEq]
  by_cases h0 : specAligns as = 0
  · simp [h0]
  · simp [h0]

-- non-vacuity: `struct { char tag; _Alignas(int[3]) unsigned char buf[12]; }` is 16/4 with buf at 4 (a size-for-alignment
-- mix-up would give 24/12 with buf at 12); `_Alignas(16) _Alignas(4) char c;` is aligned to 16
example :
    let t : Ty := .struct false none (.cons ⟨none, true⟩ .nil (.prim .char)
      (.cons ⟨none, true⟩ (.type (.arr (.prim .int) 3) .nil) (.arr (.prim .uchar) 12) .nil))
    t.ok true = true ∧ t.layout = .ok ⟨16, 4, [⟨0, 0⟩, ⟨4, 0⟩]⟩ ∧ specTy t = ⟨16, 4, [⟨0, 0, 0⟩, ⟨32, 4, 0⟩]⟩ := by
  decide +kernel
example :
    let as : Aligns := .const 16 (.const 4 (.type (.struct false none (.cons ⟨none, true⟩ .nil (.arr (.prim .char) 12) .nil)) .nil))
    as.ok true = true ∧ specAligns as = 16 ∧ varAlign as (.prim .char) = .ok 16 ∧ varAlign .nil (.prim .int) = .ok 4 := by
  decide +kernel

/-! ## `__attribute__((aligned(n)))` for every n; bit-field types; outcome classes -/

/-- **C08 (`aligned(n)`, exactly).**  What `attribute_list` (guard and assignment regenerated from parse.c) does with one
    `aligned(n)` when `ty->align` is `cur`: `aligned(0)` requests nothing; `aligned(2^k)`, k ≤ 28, requests 2^k; every other
    n (negative, not a power of two, larger than 2^28) is the located diagnostic "alignment must be a power of two no larger
    than 2^28".  This is gcc's rule (gcc only warns on 0). -/
theorem C08_aligned_exact (cur n : Int) :
    (n = 0 → alignAttr cur (some n) = .ok cur) ∧
    (∀ k, k ≤ 28 → n = (2 : Int) ^ k → alignAttr cur (some n) = .ok n) ∧
    (n ≠ 0 → (∀ k, k ≤ 28 → n ≠ (2 : Int) ^ k) → alignAttr cur (some n) = .error .badAlign) := by
  rw [alignAttr_eq]
  refine ⟨fun h => by simp [h], fun k hk hn => ?_, fun h0 hp => ?_⟩
  · have hp : pow2le28 n = true := (pow2le28_iff n).2 ⟨k, hk, hn⟩
    have := pow2le28_bounds hp
    have h0 : n ≠ 0 := by omega
    simp [h0, hp]
  · have hp' : ¬ pow2le28 n = true := fun h => by
      obtain ⟨k, hk, hn⟩ := (pow2le28_iff n).1 h
      exact hp k hk hn
    simp [h0, hp']

/-- **C08 (`aligned(0)`).**  `aligned(0)` on a struct or union lays out exactly like no attribute (sizeof, _Alignof, every
    member offset and bit position, and the same diagnostic if the member list has one) — no division by zero. -/
theorem C08_aligned_zero (p : Bool) (ms : Members) :
    (Ty.struct p (some 0) ms).layout = (Ty.struct p none ms).layout ∧
    (Ty.union p (some 0) ms).layout = (Ty.union p none ms).layout ∧
    (Ty.struct p (some 0) ms).sizeAlign = (Ty.struct p none ms).sizeAlign ∧
    (Ty.union p (some 0) ms).sizeAlign = (Ty.union p none ms).sizeAlign := by
  have h : ∀ cur : Int, alignAttr cur (some 0) = alignAttr cur none := fun cur => (C08_aligned_exact cur 0).1 rfl
  refine ⟨?_, ?_, ?_, ?_⟩ <;> simp only [Ty.layout, Ty.sizeAlign, h]

-- non-vacuity: `struct __attribute__((aligned(0))) { char a; int b; }` is 8/4 with b at 4; the empty struct is 0/1
example :
    (Ty.struct false (some 0) (.cons ⟨none, true⟩ .nil (.prim .char) (.cons ⟨none, true⟩ .nil (.prim .int) .nil))).layout
      = .ok ⟨8, 4, [⟨0, 0⟩, ⟨4, 0⟩]⟩ ∧
    (Ty.struct false (some 0) .nil).layout = .ok ⟨0, 1, []⟩ ∧ (Ty.union true (some 0) .nil).layout = .ok ⟨0, 1, []⟩ := by
  decide +kernel

/-- **C08 (`aligned(n)` rejected).**  Every other n — non-zero and not one of 2^0 … 2^28 — on a struct or union is answered
    with the located diagnostic, whatever the member list: never a layout, never a division by zero. -/
theorem C08_aligned_rejected (p : Bool) (n : Int) (ms : Members) (h0 : n ≠ 0) (hp : ∀ k, k ≤ 28 → n ≠ (2 : Int) ^ k) :
    (Ty.struct p (some n) ms).layout = .error .badAlign ∧ (Ty.union p (some n) ms).layout = .error .badAlign ∧
    (Ty.struct p (some n) ms).sizeAlign = .error .badAlign ∧ (Ty.union p (some n) ms).sizeAlign = .error .badAlign := by
  have h : ∀ cur : Int, alignAttr cur (some n) = .error .badAlign := fun cur => (C08_aligned_exact cur n).2.2 h0 hp
  refine ⟨?_, ?_, ?_, ?_⟩ <;> simp only [Ty.layout, Ty.sizeAlign, h] <;> rfl

-- non-vacuity: 3, -8, 2^28 + 2^27, 2^29, 2^32 (an `int` truncation would make it 0) satisfy the hypotheses …
example : ∀ n ∈ [(3 : Int), -8, 402653184, 536870912, 4294967296], n ≠ 0 ∧ ∀ k, k ≤ 28 → n ≠ (2 : Int) ^ k := by decide +kernel
-- … and 2^28 is still accepted: `struct __attribute__((aligned(268435456))) { char c; }` has alignment 2^28
example : alignAttr 1 (some 268435456) = .ok 268435456 ∧ alignAttr 1 (some 1) = .ok 1 ∧ alignAttr 1 (some 536870912) = .error .badAlign := by
  decide +kernel

/-- **C08 (bit-field types).**  The declared types `struct_members` admits for a bit-field (type.c `is_integer`, kinds
    regenerated) are exactly those of C11 6.7.2.1p5 as gcc extends it — `_Bool`, the char/short/int/long family signed or
    unsigned, enumerated types — for every type description; and a member list whose first member is a bit-field of any
    other type (floating, pointer, array, struct, union, void: also the zero-sized ones, which would be zero divisors) is answered
    with the located diagnostic "bit-field has non-integer type". -/
theorem C08_bitfield_type :
    (∀ t : Ty, t.isInteger = isBitfieldBase t) ∧
    (∀ (d : MemDecl) (as : Aligns) (ty : Ty) (rest : Members) (a : Int) (sa : Int × Int),
      d.bitWidth.isSome = true → isBitfieldBase ty = false → as.eval 0 = .ok a → ty.sizeAlign = .ok sa →
      (Members.cons d as ty rest).toMems = .error .bitfieldType) := by
  refine ⟨fun t => (isBitfieldBase_eq_isInteger t).symm, ?_⟩
  intro d as ty rest a sa hb hty ha hs
  rw [isBitfieldBase_eq_isInteger] at hty
  simp only [Members.toMems, ha, hs, bind, Except.bind, hb, hty, Bool.not_false, Bool.and_self, if_true]

-- non-vacuity: `struct { float x : 3; }`, `struct { struct {} e : 1; }` (size 0), `struct { int a[0] : 1; }`, `union { int *p : 4; }`
example :
    (Ty.struct false none (.cons ⟨some 3, true⟩ .nil (.prim .float) .nil)).layout = .error .bitfieldType ∧
    (Ty.struct false none (.cons ⟨some 1, true⟩ .nil (.struct false none .nil) .nil)).layout = .error .bitfieldType ∧
    (Ty.struct false none (.cons ⟨some 1, true⟩ .nil (.arr (.prim .int) 0) .nil)).layout = .error .bitfieldType ∧
    (Ty.union false none (.cons ⟨some 4, true⟩ .nil .ptr .nil)).layout = .error .bitfieldType ∧
    (Ty.struct false none (.cons ⟨some 3, true⟩ .nil .enum .nil)).layout = .ok ⟨4, 4, [⟨0, 0⟩]⟩ := by
  decide +kernel

/-- **C08 (no zero divisor).**  For *every* type description — any nesting of arrays, pointers, structs and unions, any
    `packed`, any `aligned(n)` and `_Alignas(n)` (n any integer), `_Alignas` with type-name operands, bit-fields of any
    declared type and any width, named or not — the model of `struct_members`/`attribute_list`/`struct_decl`/`union_decl`
    never reaches `align_to(n, 0)` or `bits / (sz * 8)` with `sz = 0`: `sizeof`/`_Alignof`, the layout and the alignment of
    a declared object are a value or a located diagnostic.  (Arithmetic in unbounded `Int`; `C08_align_bound` shows that
    the divisors are not zero in the 32-bit `int` arithmetic of the code either.) -/
theorem C08_no_divByZero (t : Ty) (as : Aligns) :
    t.sizeAlign ≠ .error .divByZero ∧ t.layout ≠ .error .divByZero ∧ varAlign as t ≠ .error .divByZero :=
  ⟨sizeAlign_ne_divByZero t, layout_ne_divByZero t, varAlign_ne_divByZero as t⟩

/-- **C08 (alignments are bounded by 2^28; the `int` divisors cannot wrap to zero).**  Every alignment the model ever
    computes lies in (0, 2^28]: `_Alignof` of every type description that has one, the alignment of every laid-out
    aggregate, and `mem->align` of every member `struct_members` hands to `struct_decl`/`union_decl`; a bit-field's declared
    type has 1 … 8 bytes.  Hence the divisors of `struct_decl` computed as C `int` (32-bit two's complement, `int32`):
    `mem->ty->size * 8` does not overflow and is not zero, `mem->align * 8` and `ty->align * 8` are not zero (2^28 * 8 = 2^31
    wraps to -2^31; a larger alignment — 2^29 * 8 and 2^30 * 8 wrap to 0 — reaches no loop). -/
theorem C08_align_bound :
    (∀ (t : Ty) (s a : Int), t.sizeAlign = .ok (s, a) → 0 < a ∧ a ≤ 2 ^ 28) ∧
    (∀ (t : Ty) (l : Layout), t.layout = .ok l → 0 < l.align ∧ l.align ≤ 2 ^ 28) ∧
    (∀ (ms : Members) (l : List Mem), ms.toMems = .ok l → ∀ m ∈ l,
      (0 < m.align ∧ m.align ≤ 2 ^ 28 ∧ int32 (m.align * 8) ≠ 0) ∧
      (m.bitWidth.isSome = true → 0 < m.size ∧ m.size ≤ 8 ∧ int32 (m.size * 8) = m.size * 8)) ∧
    (∀ a : Int, 0 < a → a ≤ 2 ^ 28 → int32 (a * 8) ≠ 0) ∧ int32 (2 ^ 29 * 8) = 0 ∧ int32 (2 ^ 30 * 8) = 0 := by
  have e : (2 : Int) ^ 28 = MAXALIGN := by decide +kernel
  rw [e]
  refine ⟨fun t s a h => sizeAlign_align_pos h, fun t l h => ((layout_decides t).of_ok h).2, fun ms l h m hm => ?_,
    fun a h1 h2 => int32_mul8_ne_zero h1 h2, by decide, by decide⟩
  · have hg := toMems_good h
    have hd := divisors_int32 l hg 1 (by decide)
    exact ⟨⟨(hg m hm).1.1, (hg m hm).1.2, hd.2.1 m hm⟩,
      fun hb => ⟨((hg m hm).2 hb).1, ((hg m hm).2 hb).2, (hd.1 m hm hb).1⟩⟩

-- non-vacuity: `struct { _Alignas(268435456) char c; }` reaches the bound (and is laid out: 2^28/2^28)
example : (Ty.struct false none (.cons ⟨none, true⟩ (.const 268435456 .nil) (.prim .char) .nil)).sizeAlign
    = .ok (268435456, 268435456) := by decide +kernel

/-- **C08 (outcome class).**  A type description gets a layout iff the specification accepts it (`specAccepted`, gcc's
    constraints: every `aligned(n)` is 0 or a power of two ≤ 2^28 and every bit-field has an integer declared type, at every
    depth, `_Alignas(type-name)` operands included); every other description gets one of the two located diagnostics; and
    every well-formed description (`Ty.ok false`, the domain of `C08_types_Statement`, known-finding regions included) is
    accepted. -/
theorem C08_outcome_class (t : Ty) :
    ((∃ l, t.layout = .ok l) ↔ specAccepted t = true) ∧
    (specAccepted t = false → t.layout = .error .badAlign ∨ t.layout = .error .bitfieldType) ∧
    (t.ok false = true → specAccepted t = true) := by
  rw [← accepted_eq_ty]
  exact ⟨layout_ok_iff t, layout_diag_of_not_accepted t, ok_accepted_ty false t⟩

-- non-vacuity: a bad attribute deep inside an `_Alignas(type-name)` operand of a nested member
example :
    let bad : Ty := .union false (some 24) (.cons ⟨none, true⟩ .nil (.prim .long) .nil)
    let t : Ty := .struct true none (.cons ⟨none, true⟩ .nil (.prim .char)
      (.cons ⟨none, false⟩ .nil (.struct false (some 0) (.cons ⟨none, true⟩ (.type bad .nil) (.arr (.prim .char) 24) .nil)) .nil))
    specAccepted t = false ∧ t.layout = .error .badAlign := by
  decide +kernel

/-! ## whole types: nested and anonymous aggregates, arrays, pointers, flexible array members -/

/-- full statement for type descriptions (`Ty`: scalars, enum, pointers, arrays, flexible last member, struct/union with
    `packed`/`aligned(n)`, members with `_Alignas`, bit-fields, names or none, nested to any depth): every well-formed
    description (`Ty.ok false`: C11's constraints on bit-fields, positive `aligned`, non-negative numbers) gets the psABI
    layout.  False inside `packed` (the same three regions). -/
def C08_types_Statement : Prop :=
  ∀ t : Ty, t.ok false = true → t.layout = .ok (specTy t).toLayout

/-- **C08 (whole types; partial).**  For every well-formed type description all of whose aggregates — at every nesting
    depth — lie outside the three known-finding regions (`Ty.ok true`), the model of `declarator`/`struct_members`/
    `struct_decl`/`union_decl`/`array_of`/`pointer_to` computes exactly the specification's size, alignment, member
    offsets and bit-field positions, and never divides by zero. -/
theorem C08_types_partial (t : Ty) (h : t.ok true = true) : t.layout = .ok (specTy t).toLayout :=
  layout_eq t h

/-- **C08 (whole types, by region).**  The same with the scope spelled out by region: a well-formed description
    (`Ty.ok false`) no aggregate of which — at any depth, `_Alignas(type-name)` operands included — lies in one of the three
    known-finding regions (`Ty.inRegion k`, k = 0, 1, 2; this is what `drv_c08 regions` prints and what the check uses to
    attribute a mismatch to a known finding) gets the psABI layout. -/
theorem C08_types_outside_regions (t : Ty) (h : t.ok false = true) (hr : ∀ k, k < 3 → t.inRegion k = false) :
    t.layout = .ok (specTy t).toLayout :=
  layout_eq t (ok_of_noRegion_ty t h hr)

-- non-vacuity: struct { char a; struct __attribute__((packed)) { char f : 3; int g : 17; } p; } touches no region
example :
    let t : Ty := .struct false none (.cons ⟨none, true⟩ .nil (.prim .char) (.cons ⟨none, true⟩ .nil
      (.struct true none (.cons ⟨some 3, true⟩ .nil (.prim .char) (.cons ⟨some 17, true⟩ .nil (.prim .int) .nil))) .nil))
    t.ok false = true ∧ (∀ k, k < 3 → t.inRegion k = false) ∧ specTy t = ⟨4, 1, [⟨0, 0, 0⟩, ⟨8, 1, 0⟩]⟩ := by
  decide +kernel

-- non-vacuity: struct { char a; struct { long x; int y : 5; int : 0; char z[3]; }; union { short s; long double d; } u; int *p[2]; char f[]; }
example :
    let inner : Ty := .struct false none (.cons ⟨none, true⟩ .nil (.prim .long) (.cons ⟨some 5, true⟩ .nil (.prim .int)
      (.cons ⟨some 0, false⟩ .nil (.prim .int) (.cons ⟨none, true⟩ .nil (.arr (.prim .char) 3) .nil))))
    let u : Ty := .union false none (.cons ⟨none, true⟩ .nil (.prim .short) (.cons ⟨none, true⟩ .nil (.prim .ldouble) .nil))
    let t : Ty := .struct false none (.cons ⟨none, true⟩ .nil (.prim .char) (.cons ⟨none, false⟩ .nil inner
      (.cons ⟨none, true⟩ .nil u (.cons ⟨none, true⟩ .nil (.arr .ptr 2) (.cons ⟨none, true⟩ .nil (.flex (.prim .char)) .nil)))))
    t.ok true = true ∧ specTy t = ⟨64, 16, [⟨0, 0, 0⟩, ⟨64, 8, 0⟩, ⟨256, 32, 0⟩, ⟨384, 48, 0⟩, ⟨512, 64, 0⟩]⟩ := by
  decide +kernel

/-! ## what the allocation rule guarantees (the psABI wording, as consequences) -/

/-- **C08 (allocation rule).**  For one member of a struct that is not packed, placed when the first free bit is `cur`:
    it starts at or after `cur` and the cursor moves past it; a member that is not a bit-field starts at the *least*
    offset ≥ `cur` that is a multiple of its alignment; a zero-width bit-field moves the cursor to the least unit boundary;
    a bit-field of width `w > 0` lies inside *one* naturally aligned storage unit of its declared type
    (`start / unit = (start + w - 1) / unit`), at the next free bit if it fits there and otherwise at the next boundary. -/
theorem C08_allocation_rule (cur : Nat) (m : SMem) (hwf : m.WF) :
    cur ≤ (allocate false cur m).1 ∧ (allocate false cur m).2 = (allocate false cur m).1 + m.bits ∧
    (m.bitWidth = none → LeastAligned (8 * m.reqAlign false) cur (allocate false cur m).1) ∧
    (m.bitWidth = some 0 → LeastAligned (8 * m.size) cur (allocate false cur m).1) ∧
    (∀ w, m.bitWidth = some w → 0 < w →
      (allocate false cur m).1 / (8 * m.size) = ((allocate false cur m).1 + w - 1) / (8 * m.size) ∧
      ((cur % (8 * m.size) + w ≤ 8 * m.size ∧ (allocate false cur m).1 = cur) ∨
       (¬ cur % (8 * m.size) + w ≤ 8 * m.size ∧ LeastAligned (8 * m.size) cur (allocate false cur m).1))) := by
  have hs := allocate_span false cur m
  refine ⟨hs.1, hs.2, fun h => ?_, fun h => ?_, fun w h hw => ?_⟩
  · rw [allocate_plain h]; exact leastAligned_roundUp _ _ (by have := hwf.reqAlign_pos; omega)
  · rw [allocate_zero h]; exact leastAligned_roundUp _ _ (by have := (hwf.unit h).1; omega)
  · have hu := hwf.unit h
    rw [allocate_field (p := false) h (by omega) (fun hp => Bool.noConfusion hp)]
    by_cases hfit : cur % (8 * m.size) + w ≤ 8 * m.size
    · rw [if_pos hfit]
      exact ⟨Classical.not_not.mp fun hne => (straddle_iff cur w (8 * m.size) (by omega) hw).mp hne hfit, Or.inl ⟨hfit, rfl⟩⟩
    · rw [if_neg hfit]
      exact ⟨boundary_contains (roundUp_dvd cur (8 * m.size) (by omega)) hw hu.2,
        Or.inr ⟨hfit, leastAligned_roundUp _ _ (by omega)⟩⟩

/-- **C08 (struct invariants).**  In the layout that `struct_decl` computes for a struct that is not packed
    (by `C08_layout_partial` it is `specStruct`): the members lie in declaration order and are pairwise disjoint
    (`InOrder`: each starts at or after the end of its predecessor); `sizeof` is a multiple of `_Alignof`, covers the last
    member and is the least such; `_Alignof` is at least the alignment of every member that contributes (everything except
    unnamed bit-fields) and at least `aligned(n)`. -/
theorem C08_struct_invariants (aligned : Option Nat) (ms : List SMem)
    (hal : ∀ n, aligned = some n → 0 < n) (hwf : ∀ m ∈ ms, m.WF) :
    InOrder 0 ms (specStruct false aligned ms).placed (allocateAll false 0 ms).1 ∧
    (specStruct false aligned ms).align ∣ (specStruct false aligned ms).size ∧
    (allocateAll false 0 ms).1 ≤ 8 * (specStruct false aligned ms).size ∧
    8 * (specStruct false aligned ms).size < (allocateAll false 0 ms).1 + 8 * (specStruct false aligned ms).align ∧
    (∀ m ∈ ms, m.contrib false ≤ (specStruct false aligned ms).align) ∧
    (∀ n, aligned = some n → n ≤ (specStruct false aligned ms).align) := by
  refine ⟨allocateAll_inOrder ms 0, ?_⟩
  have ha0 := getD_pos hal
  have hpos := aggAlign_pos false ms ha0
  have hc := contrib_le_aggAlign false ms (aligned.getD 1)
  have hg := aggAlign_ge false ms (aligned.getD 1)
  simp only [specStruct]
  generalize aggAlign false (aligned.getD 1) ms = al at hpos hc hg
  generalize (allocateAll false 0 ms).1 = e
  obtain ⟨k, hk⟩ := roundUp_dvd e (8 * al) (by omega)
  have hge := roundUp_ge e (8 * al)
  have hlt := roundUp_lt e (8 * al) (by omega)
  have hdiv : roundUp e (8 * al) / 8 = al * k := by
    rw [hk, Nat.mul_assoc]; exact Nat.mul_div_cancel_left _ (by omega)
  rw [hk, Nat.mul_assoc] at hge hlt
  rw [hdiv]
  exact ⟨⟨k, rfl⟩, hge, hlt, hc, fun n hn => by subst hn; exact hg⟩

-- non-vacuity of the hypotheses: see the examples under `C08_layout_unpacked`

end ChibiVerif.Props.C08
