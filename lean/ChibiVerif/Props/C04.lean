/-
C04 — every lvalue designates exactly its object's bytes and bits.

Property theorems and the types of their non-vacuity examples (`exTy`, `exAddr`, `exList`) (helper lemmas: Lemmas/BitFieldLemmas.lean, Lemmas/FrameLemmas.lean, Lemmas/AllocaLemmas.lean,
Lemmas/LvalLemmas.lean, Lemmas/LvalBoundsLemmas.lean, Lemmas/CopyLemmas.lean, Lemmas/AscCopyLemmas.lean).  The machine-level half — the same
instruction lists executed by `X86.run` (Model/X86.lean) — is in Props/C04Machine.lean.

Family 1 — bit-fields.  `bfAssignT` / `bfLoadT` (Model/BitField.lean) are the meaning of the instruction sequences
chibicc prints for `s.f = v` and for reading `s.f` (the sequences themselves and the arithmetic they print are
regenerated from codegen.c into Gen/C04Gen.lean on every run and compared with `chibicc -S` line by line).
All theorems are parametric in the declared type, the width `w` and the bit offset `o`: every unit size 1/2/4/8,
every 1 ≤ w ≤ 8·size, every o with o + w ≤ 8·size, every old content of the unit and every right-hand side.
Families 2-5 — the frame (assign_lvar_offsets, Model/Frame.lean), alloca blocks and VLAs (Model/Alloca.lean), lvalue paths
(Model/Lval.lean, Model/LvalBounds.lean), whole-aggregate copies and zero fill (Model/Copy.lean) — are introduced where they begin.
Notions of the statements that are not in a model or spec file: `Alloca.Inv`, `Alloca.Op.isWrite` (Lemmas/AllocaLemmas.lean).
-/
import ChibiVerif.Model.BitField
import ChibiVerif.Spec.C04Spec
import ChibiVerif.Lemmas.BitFieldLemmas
import ChibiVerif.Lemmas.FrameLemmas
import ChibiVerif.Lemmas.AllocaLemmas
import ChibiVerif.Lemmas.LvalLemmas
import ChibiVerif.Lemmas.LvalBoundsLemmas
import ChibiVerif.Lemmas.CopyLemmas

namespace ChibiVerif.Props.C04
open ChibiVerif.Gen.C04 ChibiVerif.BitField ChibiVerif.Spec.C04

/-! ## Family 1: bit-fields -/

/-- **C04 (bit-field round trip).**  After the emitted store sequence, the emitted load sequence returns the low `w`
    bits of the assigned value, zero-extended for unsigned and `_Bool` fields and sign-extended for signed ones
    (C11 6.7.2.1p10, 6.3.1.3). -/
theorem C04_bf_roundtrip (t : BfType) (w o : Nat) (hw : 1 ≤ w) (hwo : o + w ≤ t.usize.bits)
    (old : BitVec t.usize.bits) (v : BitVec 64) :
    bfLoadT t w o (bfAssignT t w o old v).unit = fieldValue t w v :=
  bf_roundtrip t w o hw hwo old v

/-- non-vacuity: `long x : 64` (the width whose mask `(1UL << 64) - 1` the compiler must not compute), an
    `unsigned : 32` field (mask wider than an immediate), a `_Bool : 1` field in the top bit of its byte -/
example : bfLoadT .long 64 0 (bfAssignT .long 64 0 0x1111111111111111#64 0x8000000000000001#64).unit = 0x8000000000000001#64 := by
  decide
example : bfLoadT .uint 32 0 (bfAssignT .uint 32 0 0#32 0xdeadbeef#64).unit = 0xdeadbeef#64 := by decide
example : bfLoadT .bool 1 7 (bfAssignT .bool 1 7 0#8 1#64).unit = 1#64 := by decide
example : bfLoadT .int 3 5 (bfAssignT .int 3 5 0xffffffff#32 9#64).unit = 1#64 := by decide
example : bfLoadT .short 5 11 (bfAssignT .short 5 11 0#16 0x1f#64).unit = (-1 : BitVec 64) := by decide

/-- **C04 (value of a bit-field assignment).**  The value left in %rax — the value of the expression `s.f = v` — is
    what a subsequent read of the field yields (C11 6.5.16p3), hence `fieldValue`. -/
theorem C04_bf_assign_value (t : BfType) (w o : Nat) (hw : 1 ≤ w) (hwo : o + w ≤ t.usize.bits)
    (old : BitVec t.usize.bits) (v : BitVec 64) :
    (bfAssignT t w o old v).rax = bfLoadT t w o (bfAssignT t w o old v).unit := by
  rw [bfAssignT_rax t w o hw hwo, bf_roundtrip t w o hw hwo]

theorem C04_bf_assign_value_spec (t : BfType) (w o : Nat) (hw : 1 ≤ w) (hwo : o + w ≤ t.usize.bits)
    (old : BitVec t.usize.bits) (v : BitVec 64) :
    (bfAssignT t w o old v).rax = fieldValue t w v := by
  exact bfAssignT_rax t w o hw hwo old v

example : (bfAssignT .int 3 0 0#32 9#64).rax = 1#64 := by decide
example : (bfAssignT .uint 5 3 0#32 0x3f#64).rax = 31#64 := by decide

/-- **C04 (bit-field neighbours).**  Every bit of the storage unit outside `[o, o+w)` keeps its value; the unit is
    the only memory the sequence writes (one `mov` of the unit's width to the unit's address). -/
theorem C04_bf_neighbours (t : BfType) (w o : Nat) (hw : 1 ≤ w) (hwo : o + w ≤ t.usize.bits)
    (old : BitVec t.usize.bits) (v : BitVec 64) (i : Nat) (hi : i < t.usize.bits) (hout : i < o ∨ o + w ≤ i) :
    (bfAssignT t w o old v).unit.getLsbD i = old.getLsbD i :=
  bfAssignT_outside t w o hw hwo old v i hi hout

example : (bfAssignT .int 3 5 0xffffffff#32 0#64).unit.toNat = 0xffffff1f := by decide
example : (bfAssignT .ulong 40 24 0#64 (-1 : BitVec 64)).unit.toNat = 0xffffffffff000000 := by decide

/-- **C04 (bit-field round trip, in memory).**  The same on a byte-addressed memory: the assignment reads and writes the
    `size` bytes of the unit at `addr`, and a subsequent read of the field yields `fieldValue`. -/
theorem C04_bf_memory_roundtrip (t : BfType) (w o : Nat) (hw : 1 ≤ w) (hwo : o + w ≤ t.usize.bits) (m : BitField.Mem) (addr : Int)
    (v : BitVec 64) : bfLoadMem t w o (bfAssignMem t w o m addr v).1 addr = fieldValue t w v := by
  unfold bfLoadMem bfAssignMem
  simp only
  rw [read_write]
  exact bf_roundtrip t w o hw hwo _ v

/-- **C04 (bit-field neighbours, in memory).**  Every bit of memory (bit `b` of the byte at `x`) outside the field's
    absolute bit range `[8·addr + o, 8·addr + o + w)` keeps its value: the other bits of the unit, and every byte outside
    the unit. -/
theorem C04_bf_memory_neighbours (t : BfType) (w o : Nat) (hw : 1 ≤ w) (hwo : o + w ≤ t.usize.bits) (m : BitField.Mem) (addr : Int)
    (v : BitVec 64) (x : Int) (b : Nat) (hb : b < 8) (hout : 8 * x + b < 8 * addr + o ∨ 8 * addr + o + w ≤ 8 * x + b) :
    ((bfAssignMem t w o m addr v).1 x).getLsbD b = (m x).getLsbD b :=
  bf_mem_bits t w o hw hwo m addr v x b hb hout

/-- **C04 (neighbouring bit-fields).**  Any other bit-field — of any declared type, in the same, an overlapping or a
    different storage unit — whose bits are disjoint from the assigned field's reads the same value before and after
    (struct_decl gives distinct bit-fields disjoint bit ranges: C08). -/
theorem C04_bf_memory_other_field (t : BfType) (w o : Nat) (hw : 1 ≤ w) (hwo : o + w ≤ t.usize.bits) (m : BitField.Mem) (addr : Int)
    (v : BitVec 64) (t' : BfType) (w' o' : Nat) (hw' : 1 ≤ w') (hwo' : o' + w' ≤ t'.usize.bits) (addr' : Int)
    (hdis : 8 * addr' + o' + w' ≤ 8 * addr + o ∨ 8 * addr + o + w ≤ 8 * addr' + o') :
    bfLoadMem t' w' o' (bfAssignMem t w o m addr v).1 addr' = bfLoadMem t' w' o' m addr' := by
  unfold bfLoadMem
  apply bfLoadT_congr t' w' o' hw' hwo'
  intro i h1 h2
  have hi : i < 8 * t'.usize.bytes := by
    have : o' + w' ≤ 8 * t'.usize.bytes := hwo'
    omega
  rw [readLE_getLsbD _ _ addr' i hi, readLE_getLsbD _ _ addr' i hi]
  have hb : i % 8 < 8 := by omega
  apply bf_mem_bits t w o hw hwo m addr v _ _ hb
  omega

/-- non-vacuity: `struct { int a:3; char b:3; long c:40; }` at 1000 — `a` lives in the 4-byte unit at 1000 (bits 0..2),
    `b` in the 1-byte unit at 1000 (bits 3..5), `c` in the 8-byte unit at 1000 (bits 8..47): assigning `b` changes
    neither `a` nor `c` although all three units overlap -/
example (m : BitField.Mem) (v : BitVec 64) :
    bfLoadMem .int 3 0 (bfAssignMem .char 3 3 m 1000 v).1 1000 = bfLoadMem .int 3 0 m 1000 ∧
    bfLoadMem .long 40 8 (bfAssignMem .char 3 3 m 1000 v).1 1000 = bfLoadMem .long 40 8 m 1000 :=
  ⟨C04_bf_memory_other_field .char 3 3 (by decide) (by decide) m 1000 v .int 3 0 (by decide) (by decide) 1000 (by decide),
   C04_bf_memory_other_field .char 3 3 (by decide) (by decide) m 1000 v .long 40 8 (by decide) (by decide) 1000 (by decide)⟩

/-- every declared type is covered: its storage unit has the size type.c gives the type, and the sequences use the
    signedness type.c gives it -/
theorem C04_bf_types_covered (t : BfType) :
    t.usize.bytes = t.implSize ∧ bfLogical t.implUnsigned t.implBool = bfUnsigned t := by
  cases t <;> decide

/-! ## Family 2: the frame (assign_lvar_offsets) -/
section Frame
open ChibiVerif.Frame
open ChibiVerif.Gen.Declspec (alignTo)

/-- **C04 (frame).**  For every list of locals and parameters (any sizes ≥ 0, any alignments > 0, any choice of
    stack-passed parameters): the objects are pairwise disjoint; those of the frame lie inside
    `[rbp - stack_size, rbp)` and their offset from %rbp is a multiple of their alignment (`max(16, align)` for an
    array of at least 16 bytes); stack-passed parameters start at `rbp + 16` or above on 8-byte boundaries (so they
    overlap neither the saved %rbp, nor the return address, nor the frame); `stack_size` is a multiple of 16.
    (%rbp itself is a multiple of 16 at run time by the psABI, so offsets that are multiples of an alignment ≤ 16 are
    aligned addresses; alignments above 16 are *not* honoured for automatic objects — chibicc does not realign the
    stack — see the evidence notes.) -/
theorem C04_frame_disjoint (body params : List Var) (hwf : ∀ v ∈ body ++ params, 0 ≤ v.size ∧ 0 < v.align) :
    (frameSlots body params).Pairwise Slot.Disjoint ∧
    (assignLvarOffsets body params).stackSize % 16 = 0 ∧
    (frameSlots body params).map (·.size) = (body ++ params).map (·.size) ∧
    ∀ s ∈ frameSlots body params,
      (s.stack = true → 16 ≤ s.off ∧ s.off % 8 = 0) ∧
      (s.stack = false → -(assignLvarOffsets body params).stackSize ≤ s.off ∧ s.off + s.size ≤ 0 ∧ s.off % s.align = 0) := by
  have hok := loopInput_ok body params hwf
  obtain ⟨h1, h2, h3⟩ := assignLocals_spec (loopInput body params) FRAME_BOTTOM0 (by decide) hok
  have hb : 0 ≤ (assignLocals FRAME_BOTTOM0 (loopInput body params)).2 := by
    have : FRAME_BOTTOM0 = 0 := rfl
    omega
  obtain ⟨a1, a2, a3⟩ := alignTo_spec _ 16 hb (by decide)
  refine ⟨h2, a3, ?_, ?_⟩
  · unfold frameSlots assignLvarOffsets
    simp only
    rw [slotsOf_sizes, loopInput_sizes]
  · intro s hs
    obtain ⟨s1, s2⟩ := h3 s hs
    refine ⟨fun h => ⟨(s1 h).1, (s1 h).2.1⟩, fun h => ?_⟩
    obtain ⟨c1, c2, c3, _⟩ := s2 h
    have : FRAME_BOTTOM0 = 0 := rfl
    refine ⟨?_, by omega, c3⟩
    show -(stackSize _) ≤ _
    unfold stackSize
    omega

/-- non-vacuity: `void f(long a, …6 more…, long g, struct{char c[24]} s) { char x; int y[5]; _Alignas(8) char z; }`-like
    frame: two stack parameters, an over-aligned array, mixed sizes -/
example :
    frameSlots [⟨1, 8, false, false⟩, ⟨20, 4, true, false⟩, ⟨1, 1, false, false⟩]
               [⟨8, 8, false, false⟩, ⟨8, 8, false, true⟩, ⟨24, 1, false, true⟩]
      = [⟨-8, 1, 8, false⟩, ⟨-32, 20, 16, false⟩, ⟨-33, 1, 1, false⟩, ⟨-48, 8, 8, false⟩, ⟨16, 8, 8, true⟩, ⟨24, 24, 8, true⟩] ∧
    (assignLvarOffsets [⟨1, 8, false, false⟩, ⟨20, 4, true, false⟩, ⟨1, 1, false, false⟩]
               [⟨8, 8, false, false⟩, ⟨8, 8, false, true⟩, ⟨24, 1, false, true⟩]).stackSize = 48 := by
  decide

/-- **C04 (absolute alignment of automatic objects — what *is* guaranteed).**  At run time %rbp is a multiple of 16
    (psABI 3.2.2: %rsp + 8 is a multiple of 16 at function entry, the prologue pushes %rbp and copies %rsp) — this is the
    hypothesis `hrbp`; alignments are powers of two (`hpow`; C11 6.2.8p4).  Then for every function, every list of locals
    and parameters, every variable `v` with its slot `s` (same position of `fn->locals`):
    * an object of the frame (a local, or a parameter that arrived in registers — `long double`, over-aligned or not) has
      an address that is a multiple of `min(v.align, 16)`, and of 16 if it is an array of at least 16 bytes (psABI 3.1.2);
    * a parameter passed on the stack (`s.stack`, then `v.byStack`) lies at `rbp + 16` or above on an 8-byte boundary;
    * the lowest address of the frame, `rbp - stack_size` — the initial `alloca_bottom`, the `frameLow` of `C04_alloca` —
      is a multiple of 16, so every alloca block and every VLA, in every history, is 16-aligned in absolute terms
      (`C04_alloca` with `frameLow := rbp - stack_size`).
    For `v.align > 16` the guarantee stops at 16: `Findings.C04_finding_overaligned_sharp` shows that for *every* frame
    with such an object there is a psABI-conforming %rbp that misaligns it (known finding C04-overaligned-auto). -/
theorem C04_frame_aligned (body params : List Var) (hwf : ∀ v ∈ body ++ params, 0 ≤ v.size ∧ 0 < v.align)
    (hpow : ∀ v ∈ body ++ params, ∃ k : Nat, v.align = 2 ^ k) (rbp : Int) (hrbp : rbp % 16 = 0) :
    (∀ p ∈ (body ++ params).zip (frameSlots body params),
      p.2.size = p.1.size ∧
      (p.2.stack = false → (rbp + p.2.off) % min p.1.align 16 = 0 ∧
         (p.1.isArray = true → 16 ≤ p.1.size → (rbp + p.2.off) % 16 = 0)) ∧
      (p.2.stack = true → p.1.byStack = true ∧ 16 ≤ p.2.off ∧ (rbp + p.2.off) % 8 = 0)) ∧
    (rbp - (assignLvarOffsets body params).stackSize) % 16 = 0 := by
  obtain ⟨_, hss, _, hsl⟩ := C04_frame_disjoint body params hwf
  refine ⟨?_, by omega⟩
  intro p hp
  obtain ⟨hmem, hsz, hal, hst⟩ := frame_zip body params hwf p hp
  obtain ⟨s1, s2⟩ := hsl p.2 hmem
  have hv : p.1 ∈ body ++ params := (List.of_mem_zip hp).1
  obtain ⟨k, hk⟩ := hpow p.1 hv
  refine ⟨hsz, fun h => ?_, fun h => ?_⟩
  · obtain ⟨_, _, c3⟩ := s2 h
    rw [hal h] at c3
    have hF : p.1.frameAlign = p.1.align ∨ p.1.frameAlign = max 16 p.1.align := by
      unfold Var.frameAlign localAlign; split <;> simp
    obtain ⟨a1, a2⟩ := addr_aligned rbp p.2.off p.1.align p.1.frameAlign k hk hF hrbp c3
    refine ⟨a1, fun harr hsz16 => a2 ?_⟩
    unfold Var.frameAlign localAlign
    simp [harr, hsz16]
  · obtain ⟨c1, c2⟩ := s1 h
    exact ⟨hst h, c1, by omega⟩

/-- non-vacuity: a frame with the locals `_Alignas(32) char a; long double b; char c[20]; int d;`
    with %rbp = 4096·k + 16: `a` is only 16-aligned (alignment 32 is not honoured), everything else is aligned -/
example :
    frameSlots [⟨4, 4, false, false⟩, ⟨20, 1, true, false⟩, ⟨16, 16, false, false⟩, ⟨1, 32, false, false⟩] []
      = [⟨-4, 4, 4, false⟩, ⟨-32, 20, 16, false⟩, ⟨-48, 16, 16, false⟩, ⟨-64, 1, 32, false⟩] ∧
    ((4112 : Int) + -64) % 32 = 16 ∧ ((4112 : Int) + -64) % 16 = 0 := by
  decide

end Frame

/-! ## Family 3: alloca blocks and VLAs (builtin_alloca) -/
section Alloca
open ChibiVerif.Alloca

/-- **C04 (alloca, whole histories).**  From the state the prologue leaves (`rsp = bottom = rbp - stack_size`, a
    multiple of 16), after every sequence of pushes, pops, program stores and `alloca(n)` calls that does not pop an
    empty stack: the temporaries `[rsp, bottom)` lie below every block; every block returned is 16-aligned and lies
    inside `[bottom, rbp - stack_size)`, i.e. below the locals; each block lies entirely below all earlier ones
    (pairwise disjoint). -/
theorem C04_alloca (frameLow : Int) (m : Alloca.Mem) (hfl : frameLow % 16 = 0) (ops : List Op) (s : State) (bs : List Block)
    (h : run (init frameLow m) ops = .ok (s, bs)) :
    s.rsp ≤ s.bottom ∧ s.bottom ≤ frameLow ∧ s.bottom % 16 = 0 ∧
    (∀ b ∈ bs, b.addr % 16 = 0 ∧ s.bottom ≤ b.addr ∧ b.addr + (b.size : Int) ≤ frameLow) ∧
    bs.Pairwise (fun a b => b.addr + (b.size : Int) ≤ a.addr) := by
  have r := run_inv ops (init frameLow m) ⟨Int.le_refl _, Int.le_refl _, hfl⟩ s bs h
  exact ⟨r.inv.tmp, r.bottom_le, r.inv.al, r.blocks, r.below⟩

/-- non-vacuity: `f(x, alloca(10))`-like history: a push, an alloca with a temporary live, another push, a second
    alloca, two pops -/
example : (match run (init 4096 (fun _ => 0)) [.push 7, .alloca 10, .push 9, .alloca 40, .pop, .pop] with
           | .ok (s, bs) => some (s.rsp, s.bottom, bs)
           | .error _ => none) = some (4032, 4032, [⟨4080, 16⟩, ⟨4032, 48⟩]) := by
  decide

/-- **C04 (one alloca).**  In a state whose temporaries lie below `bottom`, `alloca(n)` returns the block
    `[bottom', bottom)` with `bottom' = bottom - size`; the temporaries — exactly `bottom - rsp` bytes — are moved down
    by `size` with their contents intact (the ascending byte copy is correct because the destination is below the
    source), and no byte at or above `bottom'` is written: neither the new block, nor an earlier block, nor a local. -/
theorem C04_alloca_step (s : State) (hinv : s.rsp ≤ s.bottom) (n : BitVec 64) :
    ∃ s' blk, step s (.alloca n) = .ok (s', some blk) ∧
      blk.addr = s'.bottom ∧ blk.addr + (blk.size : Int) = s.bottom ∧ blk.size = allocaSize n ∧
      s'.rsp ≤ s.rsp ∧ s'.bottom - s'.rsp = s.bottom - s.rsp ∧ s'.frameLow = s.frameLow ∧
      (∀ i : Nat, (i : Int) < s.bottom - s.rsp → s'.mem (s'.rsp + i) = s.mem (s.rsp + i)) ∧
      (∀ a : Int, s'.bottom ≤ a → s'.mem a = s.mem a) := by
  refine ⟨_, _, rfl, rfl, by simp only; omega, rfl, by simp only; omega, by simp only; omega, rfl, ?_, ?_⟩
  · intro i hi
    have h := (copyUp_spec (s.bottom - s.rsp).toNat s.mem s.rsp (s.rsp - (allocaSize n : Int)) (by omega)).1 i (by omega)
    exact h
  · intro a ha
    have h := (copyUp_spec (s.bottom - s.rsp).toNat s.mem s.rsp (s.rsp - (allocaSize n : Int)) (by omega)).2 a
    apply h
    right
    simp only at ha
    omega

/-- **C04 (alloca size).**  The reserved size is a multiple of 16 and, for requests below 2^32 - 15 (the emitted
    `and $0xfffffff0, %edi` works on 32 bits), at least the requested size and less than 16 bytes more. -/
theorem C04_alloca_size (n : BitVec 64) :
    allocaSize n % 16 = 0 ∧ (n.toNat + 15 < 2 ^ 32 → n.toNat ≤ allocaSize n ∧ allocaSize n < n.toNat + 16) :=
  ⟨allocaSize_mod n, allocaSize_ge n⟩

example : allocaSize 1 = 16 ∧ allocaSize 16 = 16 ∧ allocaSize 17 = 32 ∧ allocaSize 0 = 0 := by decide
/-- the bound is sharp: a request of 2^32 - 15 bytes reserves nothing (documented limit, see evidence) -/
example : allocaSize (BitVec.ofNat 64 (2 ^ 32 - 15)) = 0 := by decide

/-- **C04 (blocks keep their contents).**  Between any two points of a function's execution, what the generated code
    does on its own account — pushes, pops, further allocas with their relocation of temporaries — never writes at or
    above `bottom`: every live alloca block / VLA and every local keeps its bytes unless the program stores to it. -/
theorem C04_alloca_contents (ops : List Op) (s : State) (hinv : Inv s) (hnw : ∀ op ∈ ops, op.isWrite = false)
    (s' : State) (bs : List Block) (h : run s ops = .ok (s', bs)) (a : Int) (ha : s.bottom ≤ a) :
    s'.mem a = s.mem a :=
  (run_inv ops s hinv s' bs h).keeps hnw a ha

example : Inv (init 4096 (fun _ => 0)) := ⟨Int.le_refl _, Int.le_refl _, by decide⟩

end Alloca

/-! ## Family 4: lvalue paths (struct_ref, get_struct_member, new_add, gen_addr) -/
section Lval
open ChibiVerif.Lval

/-- **C04 (member / element address).**  For every object (node with address `a`) of a type the parser can build and
    every path of `.name`, `->name` and `[i]` steps: if C designates a sub-object (address `a'`, type `t'`) then the
    parser's elaboration succeeds, has that type, and `gen_addr` of the resulting node computes exactly `a'` — the base
    plus the sum of the member offsets (anonymous structs/unions contribute the offsets along the path that naming
    them would give), indices scaled by `sizeof` of the element (by the run-time `vla_size` for VLA elements), pointer
    steps reading the pointer where it is stored.  If C designates nothing the elaboration reports an error. -/
theorem C04_member_addr (env : Env) (path : List Step) (node : Node) (a : Int)
    (ha : genAddr env node = .ok a) (hwf : node.ty.allWf = true) :
    match designate env a node.ty path with
    | some (a', t') => ∃ n', elabPath node path = .ok n' ∧ n'.ty = t' ∧ genAddr env n' = .ok a'
    | none => ∃ e, elabPath node path = .error e :=
  elabPath_spec env path node a ha hwf

/-- `struct { int a; struct { char b; union { short c; long d; }; }; int e[3]; } s[2]` at 1000 -/
def exTy : Ty :=
  .arr (.agg 40 (.cons (some "a") 0 (.scalar 4)
    (.cons none 8 (.agg 16 (.cons (some "b") 0 (.scalar 1)
        (.cons none 8 (.agg 8 (.cons (some "c") 0 (.scalar 2) (.cons (some "d") 0 (.scalar 8) .nil))) .nil)))
    (.cons (some "e") 24 (.arr (.scalar 4) 3) .nil)))) 2

example : exTy.allWf = true := by decide
/-- `s[1].d` (through two anonymous levels) and `s[1].e[2]` -/
example : (designate ⟨fun _ => 0⟩ 1000 exTy [.index 1, .dot "d"]).map (·.1) = some 1056 := by decide
def exAddr (path : List Step) : Option Int :=
  match elabPath (.var 1000 exTy) path with
  | .ok n => (match genAddr ⟨fun _ => 0⟩ n with | .ok a => some a | .error _ => none)
  | .error _ => none
example : exAddr [.index 1, .dot "d"] = some 1056 := by decide
example : exAddr [.index 1, .dot "e", .index 2] = some 1072 := by decide

/-- **C04 (anonymous members).**  `struct_ref` through anonymous structs/unions yields the offset sum of the explicit
    path, within a number of loop trips bounded by the nesting depth. -/
theorem C04_anonymous_member (env : Env) (node : Node) (nm : String) (s : Nat) (ms : Members) (a : Int)
    (hty : node.ty = .agg s ms) (ha : genAddr env node = .ok a) :
    match ms.locate nm with
    | none => structRef (ms.depth + 1) node nm = .error .noSuchMember
    | some (o, t) => ∃ n', structRef (ms.depth + 1) node nm = .ok n' ∧ n'.ty = t ∧ genAddr env n' = .ok (a + o) :=
  structRef_spec env (ms.depth + 1) node nm s ms a hty (Nat.le_refl _) ha

/-- **C04 (VLA element size).**  The hidden local `vla_size` that scales indices into a VLA holds `sizeof` of the
    VLA type, at every nesting (`int a[n][m][k]`). -/
theorem C04_vla_size (b : Ty) (n : Nat) (h : (Ty.vla b n).wf = true) : (Ty.vla b n).vlaSizeVal = (Ty.vla b n).sizeof :=
  vlaSizeVal_eq_sizeof b n h

example : (Ty.vla (.vla (.arr (.scalar 4) 3) 5) 7).wf = true ∧ (Ty.vla (.vla (.arr (.scalar 4) 3) 5) 7).vlaSizeVal = 420 := by decide

/-- **C04 (the designated object never leaves its object).**  Take an object at `a` whose type satisfies the layout
    invariant `fits` (every member, with its size, inside its aggregate: struct_decl / union_decl, C08; unions with all
    members at 0 and a trailing flexible array member are instances) and any path `a.b[i].c->d …` whose array indices are
    in range (`pathOk`; indices applied to pointers are not restricted).  Then the address `gen_addr` computes for the
    elaborated node is the designated one, and the `sizeof` bytes starting there lie inside the *enclosing object*: the
    root object `[a, a + sizeof)` as long as the path goes through no pointer, afterwards the object the last pointer
    step led to (`*p` for `p->m`, the element for `p[i]`).  No access through an lvalue path reaches a byte of a
    neighbouring object. -/
theorem C04_path_in_bounds (env : Env) (path : List Step) (node : Node) (a : Int)
    (ha : genAddr env node = .ok a) (hwf : node.ty.allWf = true) (hfit : node.ty.fits = true)
    (hok : pathOk env a node.ty path = true) (a' : Int) (t' : Ty) (hd : designate env a node.ty path = some (a', t')) :
    ∃ n', elabPath node path = .ok n' ∧ n'.ty = t' ∧ genAddr env n' = .ok a' ∧
      (enclosing env a node.ty.sizeof a node.ty path).1 ≤ a' ∧
      a' + (t'.sizeof : Int) ≤ (enclosing env a node.ty.sizeof a node.ty path).1 + ((enclosing env a node.ty.sizeof a node.ty path).2 : Int) := by
  have h := C04_member_addr env path node a ha hwf
  rw [hd] at h
  obtain ⟨n', h1, h2, h3⟩ := h
  obtain ⟨b1, b2, _⟩ := designate_bounds env path a node.ty.sizeof a node.ty a' t' (Int.le_refl _) (Int.le_refl _) hfit hok hd
  exact ⟨n', h1, h2, h3, b1, b2⟩

/-- `s[1].e[2]` of `exTy` (80 bytes at 1000): 4 bytes at 1072, inside `[1000, 1080)`; `s[2]` is out of range -/
example : exTy.fits = true ∧ pathOk ⟨fun _ => 0⟩ 1000 exTy [.index 1, .dot "e", .index 2] = true ∧
    (designate ⟨fun _ => 0⟩ 1000 exTy [.index 1, .dot "e", .index 2]).map (fun p => (p.1, p.2.sizeof)) = some (1072, 4) ∧
    enclosing ⟨fun _ => 0⟩ 1000 exTy.sizeof 1000 exTy [.index 1, .dot "e", .index 2] = (1000, 80) ∧
    pathOk ⟨fun _ => 0⟩ 1000 exTy [.index 2, .dot "a"] = false := by decide

/-- `struct N { int k; struct N *next; long v[2]; } n` at 500, `n.next` pointing to 9000: `n.next->v[1]` is 8 bytes at
    9024 inside the pointee `[9000, 9032)` — a pointer step moves the enclosing object -/
def exList : Ty := .agg 32 (.cons (some "k") 0 (.scalar 4) (.cons (some "next") 8 (.ptr (.agg 32 (.cons (some "k") 0 (.scalar 4)
  (.cons (some "next") 8 (.ptr (.scalar 1)) (.cons (some "v") 16 (.arr (.scalar 8) 2) .nil))))) (.cons (some "v") 16 (.arr (.scalar 8) 2) .nil)))
example : (designate ⟨fun _ => 9000⟩ 500 exList [.dot "next", .arrow "v", .index 1]).map (fun p => (p.1, p.2.sizeof)) = some (9024, 8) ∧
    enclosing ⟨fun _ => 9000⟩ 500 exList.sizeof 500 exList [.dot "next", .arrow "v", .index 1] = (9000, 32) ∧
    pathOk ⟨fun _ => 9000⟩ 500 exList [.dot "next", .arrow "v", .index 1] = true := by decide

/-- **C04 (address = base + Σ member offsets + Σ index · element size).**  For a path that goes through no pointer
    (`offsetTerms` is defined: `.name` steps, `[i]` on arrays and VLAs, `->` on a decayed array), with summands `ks` — one
    member offset per `.name` (already the sum along the anonymous levels), `i * sizeof(element)` per `[i]` — `gen_addr`
    of the elaborated node computes `a + Σ ks`, whatever the base address `a` and whatever the memory contains, and the
    root object stays the enclosing object of `C04_path_in_bounds`. -/
theorem C04_path_offset_sum (env : Env) (path : List Step) (node : Node) (a : Int)
    (ha : genAddr env node = .ok a) (hwf : node.ty.allWf = true) (ks : List Int) (t' : Ty)
    (hk : offsetTerms node.ty path = some (ks, t')) :
    ∃ n', elabPath node path = .ok n' ∧ n'.ty = t' ∧ genAddr env n' = .ok (a + ks.sum) ∧
      enclosing env a node.ty.sizeof a node.ty path = (a, node.ty.sizeof) := by
  obtain ⟨d1, d2⟩ := designate_of_offsetTerms env path a node.ty.sizeof a node.ty ks t' hk
  have h := C04_member_addr env path node a ha hwf
  rw [d1] at h
  obtain ⟨n', h1, h2, h3⟩ := h
  exact ⟨n', h1, h2, h3, d2⟩

/-- `s[1].d`: 40·1 (index) + 16 (offset of `d` through two anonymous levels: 8 + 8 + 0); `s[1].e[2]`: 40 + 24 + 8 -/
example : (offsetTerms exTy [.index 1, .dot "d"]).map (·.1) = some [40, 16] ∧
    (offsetTerms exTy [.index 1, .dot "e", .index 2]).map (·.1) = some [40, 24, 8] := by decide

end Lval

/-! ## Family 5: aggregate copies and zero fill -/
section Copy
open ChibiVerif.Copy

/-- **C04 (aggregate copy).**  The byte loop of `store` (struct assignment), `push_struct` (pass by value) and
    `copy_struct_mem` (return by value) copies exactly `size` bytes, byte i to byte i, and writes nothing outside
    `[dst, dst + size)` — for disjoint objects, for `x = x`, and whenever the destination starts below the source. -/
theorem C04_copy (size : Nat) (m : Copy.Mem) (src dst : Int) (h : dst ≤ src ∨ src + size ≤ dst) :
    (∀ i : Nat, i < size → copyBytes m src dst size (dst + i) = m (src + i)) ∧
    (∀ a : Int, a < dst ∨ dst + size ≤ a → copyBytes m src dst size a = m a) :=
  copyBytes_eq m src dst size ▸ ascCopy_int m src dst size h

example : (copyBytes (fun a => BitVec.ofInt 8 a) 100 200 3) 202 = 102#8 ∧ (copyBytes (fun a => BitVec.ofInt 8 a) 100 200 3) 203 = 203#8 := by
  decide

/-- **C04 (zero fill).**  ND_MEMZERO zeroes exactly `[rbp + offset, rbp + offset + size)`. -/
theorem C04_memzero (m : Copy.Mem) (rbp offset : Int) (size : Nat) (a : Int) :
    memzero m rbp offset size a = if rbp + offset ≤ a ∧ a < rbp + offset + size then 0 else m a :=
  repStosb_spec size m 0 (rbp + offset) a

end Copy

end ChibiVerif.Props.C04
