/-
C04 — every lvalue designates exactly its object's bytes and bits: the machine-level half.

The theorems of Props/C04.lean about bit-fields talk about `bfLoadT` / `bfAssignT`, hand-written meanings of the two
instruction sequences.  Here the *regenerated* instruction lists themselves (`Gen.C04.loadIntLine`, `storeIntLines`,
`boolCastLines`, `bfExtractLines`, `bfAssignLines`, put together by `BitField.loadSeq` / `assignSeq` exactly as they are
compared with `chibicc -S`) are executed by `X86.run` — the executable x86-64 semantics of Model/X86.lean that C01
validates against the host CPU — on an arbitrary register file and an arbitrary byte-addressed memory (addresses are
`BitVec 64`, wrapping like the hardware).  The hand-written meanings become lemmas (`C04_bf_load_x86`,
`C04_bf_assign_x86`), and the round-trip / neighbour theorems are restated about machine states.

Property theorems only (helper lemmas: Lemmas/C04X86.lean, C04X86Copy.lean, C04X86Stmt.lean).  Notions of the statements that are
not in a model file: `insOf` (the instructions of printed lines), `unitAt` (the storage unit at an address): Lemmas/C04X86.lean.
-/
import ChibiVerif.Props.C04
import ChibiVerif.Lemmas.C04X86Copy
import ChibiVerif.Lemmas.C04X86Stmt

namespace ChibiVerif.Props.C04
open ChibiVerif.Gen.C04 ChibiVerif.BitField ChibiVerif.Spec.C04 ChibiVerif.X86 ChibiVerif.C04X86

/-! ## scalar loads and stores of every integer type (codegen.c `load`, `store`) -/

/-- **C04 (load, every integer type, every address).**  With an address `p` in %rax — any address, aligned or not — the
    line `load(ty)` prints leaves in %rax the `size` bytes at `p` (little endian), sign-extended (`char`, `short`, `_Bool`)
    or zero-extended (`unsigned char`, `unsigned short`) to 32 bits with the upper half cleared, sign-extended to 64 bits
    (`int` and — by `movsxd` — `unsigned`), or as they are (`long`, `unsigned long`); memory and every other register are
    unchanged. -/
theorem C04_load_x86 (t : BfType) (s : State) :
    ∃ s', X86.run (insOf [loadIntLine t.implSize t.implUnsigned]) s = some s' ∧
      s'.get .rax = loadUnit t.usize t.implUnsigned (unitAt s (s.get .rax) t.usize) ∧ s'.mem = s.mem ∧
      (∀ x, x ≠ .rax → s'.get x = s.get x) ∧
      (∀ i, i < 64 → (i < 32 ∨ t.usize = .b4) →
        (s'.get .rax).getLsbD i =
          if i < t.usize.bits then (unitAt s (s.get .rax) t.usize).getLsbD i
          else (!(t.implUnsigned && decide (t.usize.bits < 32)) && (unitAt s (s.get .rax) t.usize).getLsbD (t.usize.bits - 1))) ∧
      (t.usize.bits < 32 → ∀ i, 32 ≤ i → (s'.get .rax).getLsbD i = false) := by
  refine (load_run t s).mono fun s' ⟨h2, h3, h4⟩ => ⟨h2, h3, h4, fun i hi hi2 => ?_, fun hu i hi => ?_⟩
  · rw [h2]
    exact loadUnit_bits t.usize t.implUnsigned _ i hi2 hi
  · rw [h2]
    exact loadUnit_high t.usize t.implUnsigned _ hu i hi

/-- non-vacuity: `signed char` 0x80 at an odd address loads as 0xffffff80 (upper half clear), `unsigned short` 0x8001 as 0x8001 -/
example : (loadUnit .b1 (BfType.char).implUnsigned 0x80#8) = 0xffffff80#64 ∧ (loadUnit .b2 (BfType.ushort).implUnsigned 0x8001#16) = 0x8001#64 := by
  decide

/-- **C04 (store, every integer type, every address).**  With the address `p` on top of the stack, `store(ty)` writes the
    low `8·size` bits of %rax to the `size` bytes at `p` and to no other byte (any `x` that is none of `p, …, p+size-1`
    keeps its content), pops the address, and leaves %rax — the value of the assignment expression — unchanged. -/
theorem C04_store_x86 (t : BfType) (s : State) :
    ∃ s', X86.run (insOf (storeIntLines t.implSize)) s = some s' ∧
      unitAt s' (s.read64 (s.get .rsp)) t.usize = storeUnit t.usize (s.get .rax) ∧
      (∀ x : BitVec 64, (∀ k : Nat, k < t.usize.bytes → x ≠ s.read64 (s.get .rsp) + BitVec.ofNat 64 k) → s'.mem x = s.mem x) ∧
      s'.get .rsp = s.get .rsp + 8 ∧ s'.get .rax = s.get .rax ∧
      (∀ x, x ≠ .rdi → x ≠ .rsp → s'.get x = s.get x) := by
  refine (store_run t s).mono fun s' ⟨h2, h3, _, h5⟩ =>
    ⟨h2.unitAt, h2.outside, h3, h5 .rax (by decide) (by decide), h5⟩

/-- **C04 (a stored scalar is read back unchanged).**  Store through an lvalue of integer type `t`, then — in any later
    state with the same memory and the object's address in %rax — load: %rax holds the stored low bits, extended as
    `load` extends type `t`. -/
theorem C04_scalar_roundtrip_x86 (t : BfType) (s s1 s2 : State)
    (h1 : X86.run (insOf (storeIntLines t.implSize)) s = some s1)
    (hm : s2.mem = s1.mem) (ha : s2.get .rax = s.read64 (s.get .rsp)) :
    ∃ s3, X86.run (insOf [loadIntLine t.implSize t.implUnsigned]) s2 = some s3 ∧
      s3.get .rax = loadUnit t.usize t.implUnsigned (storeUnit t.usize (s.get .rax)) := by
  obtain ⟨e2, _⟩ := Post.at (C04_store_x86 t s) h1
  obtain ⟨s3, l1, l2, _⟩ := load_run t s2
  refine ⟨s3, l1, ?_⟩
  rw [l2, ha, unitAt_mem s1 s2 hm, e2]

/-- non-vacuity of the hypotheses: the store runs from every state -/
example (t : BfType) (s : State) : ∃ s1, X86.run (insOf (storeIntLines t.implSize)) s = some s1 :=
  let ⟨s1, h, _⟩ := C04_store_x86 t s; ⟨s1, h⟩

/-- **C04 (`_Bool` normalisation on store).**  An assignment to a `_Bool` lvalue evaluates `cast(from, _Bool)` and then
    `store(_Bool)`.  With the address on top of the stack and the integer right-hand side in %rax (`small`: its type has at
    most 4 bytes, so only %eax is significant): the byte at `p` becomes 1 if the value is non-zero and 0 otherwise — never
    any other bit pattern — no other byte changes, and %rax holds that same 0 or 1. -/
theorem C04_store_bool (small : Bool) (s : State) :
    ∃ s', X86.run (insOf (boolCastLines small ++ storeIntLines (BfType.bool).implSize)) s = some s' ∧
      s'.mem (s.read64 (s.get .rsp)) =
        (if (if small then (s.get .rax).setWidth 32 = 0#32 else s.get .rax = 0#64) then 0#8 else 1#8) ∧
      (∀ x : BitVec 64, x ≠ s.read64 (s.get .rsp) → s'.mem x = s.mem x) ∧
      s'.get .rax = (if (if small then (s.get .rax).setWidth 32 = 0#32 else s.get .rax = 0#64) then 0#64 else 1#64) ∧
      s'.get .rsp = s.get .rsp + 8 := by
  obtain ⟨s1, c1, c2, c3, c4⟩ := bool_cast_run small s
  obtain ⟨s2, d1, d2, d3, d4, d5, d6⟩ := C04_store_x86 .bool s1
  rw [insOf_append]
  replace d1 := X86.run_append_some c1 d1
  have hp : s1.read64 (s1.get .rsp) = s.read64 (s.get .rsp) := by
    rw [read64_mem s s1 c3, c4 .rsp (by decide)]
  rw [hp] at d2 d3
  refine ⟨s2, d1, ?_, ?_, ?_, ?_⟩
  · have : s2.mem (s.read64 (s.get .rsp)) = unitAt s2 (s.read64 (s.get .rsp)) .b1 := rfl
    rw [this]
    have e : (BfType.bool).usize = .b1 := rfl
    rw [e] at d2
    rw [d2, c2]
    unfold storeUnit
    split <;> split <;> rfl
  · intro x hx
    rw [d3 x, c3]
    intro k hk
    have : k = 0 := by
      have : (BfType.bool).usize.bytes = 1 := rfl
      omega
    subst this
    simpa using hx
  · rw [d5, c2]
  · rw [d4, c4 .rsp (by decide)]

/-- non-vacuity / sharpness: `*p = 256` with an `int` right-hand side stores 1 (not the truncated 0); `*p = 0x100000000L`
    with a `long` one stores 1, while the same bits as an `int` (`small`) are 0 -/
example : ((0x100#64).setWidth 32 = 0#32) = False ∧ ((0x100000000#64) = 0#64) = False ∧ ((0x100000000#64).setWidth 32 = 0#32) = True := by
  decide

/-! ## bit-fields on the machine -/

/-- **C04 (bit-field load = the emitted instructions).**  `X86.run` of the lines printed for reading a bit-field
    (`load(mem->ty); shl; shr|sar`), started with the unit's address in %rax, leaves in %rax exactly what the meaning
    `bfLoadT` says about the unit's bytes; memory and all other registers are unchanged. -/
theorem C04_bf_load_x86 (t : BfType) (w o : Nat) (hw : 1 ≤ w) (hwo : o + w ≤ t.usize.bits) (s : State) :
    ∃ s', X86.run (insOf (loadSeq t w o)) s = some s' ∧
      s'.get .rax = bfLoadT t w o (unitAt s (s.get .rax) t.usize) ∧ s'.mem = s.mem ∧
      ∀ x, x ≠ .rax → s'.get x = s.get x :=
  bf_load_run t w o hw hwo s

/-- **C04 (bit-field assignment = the emitted instructions).**  `X86.run` of the bit-field arm of ND_ASSIGN (13
    instructions, mask and shift counts computed from width and offset as codegen.c computes them), started with the unit's
    address `p` on top of the stack and the right-hand side in %rax: the unit at `p` becomes `(bfAssignT …).unit`, %rax
    becomes `(bfAssignT …).rax`, the address is popped, and only %rax, %rdi, %r9, %rsp change. -/
theorem C04_bf_assign_x86 (t : BfType) (w o : Nat) (hw : 1 ≤ w) (hwo : o + w ≤ t.usize.bits) (s : State) :
    ∃ s', X86.run (insOf (assignSeq t w o)) s = some s' ∧
      s'.get .rax = (bfAssignT t w o (unitAt s (s.read64 (s.get .rsp)) t.usize) (s.get .rax)).rax ∧
      unitAt s' (s.read64 (s.get .rsp)) t.usize = (bfAssignT t w o (unitAt s (s.read64 (s.get .rsp)) t.usize) (s.get .rax)).unit ∧
      (∀ x : BitVec 64, (∀ k : Nat, k < t.usize.bytes → x ≠ s.read64 (s.get .rsp) + BitVec.ofNat 64 k) → s'.mem x = s.mem x) ∧
      s'.get .rsp = s.get .rsp + 8 ∧
      ∀ x, x ≠ .rax → x ≠ .rdi → x ≠ .r9 → x ≠ .rsp → s'.get x = s.get x := by
  refine (bf_assign_run t w o hw hwo s).mono fun s' ⟨h2, h3, h4, h5⟩ =>
    ⟨h2, h3.unitAt, h3.outside, h4, h5⟩

/-- non-vacuity: the sequences are non-empty lists of decodable instructions (`int f:3` at bit 5) -/
example : (insOf (assignSeq .int 3 5)).length = 13 ∧ (insOf (loadSeq .int 3 5)).length = 3 ∧
    (X86.decodeAll (insOf (assignSeq .int 3 5))).isSome = true := by decide +kernel

/-- **C04 (bit-field round trip on the machine).**  Run the emitted assignment; in any later state with the same memory
    and the unit's address in %rax run the emitted load: %rax holds `fieldValue t w v` — the low `w` bits of the assigned
    value, sign- or zero-extended as C11 6.7.2.1p10 / 6.3.1.3 require — and that is also the value the assignment
    expression left in %rax. -/
theorem C04_bf_roundtrip_x86 (t : BfType) (w o : Nat) (hw : 1 ≤ w) (hwo : o + w ≤ t.usize.bits) (s s1 s2 : State)
    (h1 : X86.run (insOf (assignSeq t w o)) s = some s1)
    (hm : s2.mem = s1.mem) (ha : s2.get .rax = s.read64 (s.get .rsp)) :
    s1.get .rax = fieldValue t w (s.get .rax) ∧
    ∃ s3, X86.run (insOf (loadSeq t w o)) s2 = some s3 ∧ s3.get .rax = fieldValue t w (s.get .rax) := by
  obtain ⟨e2, e3, _⟩ := Post.at (C04_bf_assign_x86 t w o hw hwo s) h1
  refine ⟨?_, ?_⟩
  · rw [e2]
    exact C04_bf_assign_value_spec t w o hw hwo _ _
  · obtain ⟨s3, l1, l2, _⟩ := C04_bf_load_x86 t w o hw hwo s2
    refine ⟨s3, l1, ?_⟩
    rw [l2, ha, unitAt_mem s1 s2 hm, e3]
    exact C04_bf_roundtrip t w o hw hwo _ _

example (t : BfType) (w o : Nat) (hw : 1 ≤ w) (hwo : o + w ≤ t.usize.bits) (s : State) :
    ∃ s1, X86.run (insOf (assignSeq t w o)) s = some s1 :=
  let ⟨s1, h, _⟩ := C04_bf_assign_x86 t w o hw hwo s; ⟨s1, h⟩

/-- **C04 (bit-field neighbours on the machine).**  After the emitted assignment every bit of memory — bit `b` of the
    byte at any address `x` — keeps its value unless it is one of the `w` bits of the field: `x` is byte `k` of the unit and
    `o ≤ 8k + b < o + w`.  (Other bits of the unit, other bytes of the struct, everything else.) -/
theorem C04_bf_neighbours_x86 (t : BfType) (w o : Nat) (hw : 1 ≤ w) (hwo : o + w ≤ t.usize.bits) (s s1 : State)
    (h1 : X86.run (insOf (assignSeq t w o)) s = some s1) (x : BitVec 64) (b : Nat) (hb : b < 8)
    (hout : ∀ k : Nat, k < t.usize.bytes → x = s.read64 (s.get .rsp) + BitVec.ofNat 64 k → 8 * k + b < o ∨ o + w ≤ 8 * k + b) :
    (s1.mem x).getLsbD b = (s.mem x).getLsbD b := by
  obtain ⟨_, e3, e4, _⟩ := Post.at (C04_bf_assign_x86 t w o hw hwo s) h1
  by_cases hx : ∃ k : Nat, k < t.usize.bytes ∧ x = s.read64 (s.get .rsp) + BitVec.ofNat 64 k
  · obtain ⟨k, hk, rfl⟩ := hx
    have hi : 8 * k + b < t.usize.bits := by
      show 8 * k + b < 8 * t.usize.bytes
      omega
    rw [← unitAt_bit s1 _ t.usize k b hk hb, e3, C04_bf_neighbours t w o hw hwo _ _ _ hi (hout k hk rfl),
      unitAt_bit s _ t.usize k b hk hb]
  · rw [e4 x]
    intro k hk heq
    exact hx ⟨k, hk, heq⟩

/-- **C04 (a whole assignment statement to a bit-field of a local object).**  The code of `local.member = c` as
    `gen_expr` emits it for ND_ASSIGN — `gen_addr(lhs)` = `lea d(%rbp), %rax; add $k, %rax` (local at `d(%rbp)`, member at
    byte offset `k`), `push %rax`, the right-hand side `mov $c, %rax`, then the bit-field arm — run from any state in which
    the storage unit does not overlap the 8-byte push slot below %rsp: the unit at `p = rbp + d + k` becomes
    `(bfAssignT …).unit` (only the `w` bits of the field change: `C04_bf_neighbours`), %rax holds the value of the
    assignment, %rsp and %rbp are restored, and no byte of memory changes except the unit and the (dead) push slot. -/
theorem C04_bf_assign_local_x86 (d k c : Int) (t : BfType) (w o : Nat) (hw : 1 ≤ w) (hwo : o + w ≤ t.usize.bits) (s : State)
    (p : BitVec 64) (hp : p = s.get .rbp + BitVec.ofInt 64 d + BitVec.ofInt 64 k)
    (hsep : ∀ i j : Nat, i < t.usize.bytes → j < 8 → p + BitVec.ofNat 64 i ≠ s.get .rsp - 8 + BitVec.ofNat 64 j) :
    ∃ s', X86.run (insOf (assignLocalSeq d k c t w o)) s = some s' ∧
      unitAt s' p t.usize = (bfAssignT t w o (unitAt s p t.usize) (BitVec.ofInt 64 c)).unit ∧
      s'.get .rax = fieldValue t w (BitVec.ofInt 64 c) ∧
      s'.get .rsp = s.get .rsp ∧ s'.get .rbp = s.get .rbp ∧
      ∀ x : BitVec 64, (∀ i : Nat, i < t.usize.bytes → x ≠ p + BitVec.ofNat 64 i) →
        (∀ j : Nat, j < 8 → x ≠ s.get .rsp - 8 + BitVec.ofNat 64 j) → s'.mem x = s.mem x := by
  rw [assignLocalSeq_ins]
  exact (bf_assign_local_run d k c t w o hw hwo s p hp hsep).mono fun s' ⟨h2, h3, h4, h5, h6⟩ =>
    ⟨h2, h3.trans (C04_bf_assign_value_spec t w o hw hwo _ _), h4, h5, h6⟩

/-- non-vacuity: `struct { char lead[5]; int f:3 at bit 5 } s` at -16(%rbp): 17 decodable instructions; with %rbp = 0x8000
    and %rsp = 0x7fe0 the unit (0x7ff8..0x7ffb) is clear of the push slot (0x7fd8..0x7fdf) -/
example : (insOf (assignLocalSeq (-16) 8 9 .int 3 5)).length = 17 ∧
    (X86.decodeAll (insOf (assignLocalSeq (-16) 8 9 .int 3 5))).isSome = true := by
  decide +kernel

/-! ## whole-aggregate assignment on the machine -/

/-- **C04 (struct / union assignment = the emitted byte loop).**  `X86.run` of what `store` prints for an aggregate of
    `size` bytes (`pop %rdi` and `size` pairs `mov i(%rax), %r8b; mov %r8b, i(%rdi)`), with the destination address `dst` on
    top of the stack and the source address `src` in %rax — `*p = *q`, `a[i] = s`, `s.m = f()` alike: if both objects lie in
    the address space without wrapping and are disjoint, identical (`x = x`), or the destination starts below the source,
    then byte `k` of the destination receives byte `k` of the source for every `k < size`, every byte of memory outside
    `[dst, dst + size)` is unchanged, %rax still holds `src` (the value of the assignment expression) and the address is
    popped. -/
theorem C04_copy_x86 (size : Nat) (s : State)
    (hd : (s.read64 (s.get .rsp)).toNat + size ≤ 2 ^ 64) (hs : (s.get .rax).toNat + size ≤ 2 ^ 64)
    (h : (s.read64 (s.get .rsp)).toNat ≤ (s.get .rax).toNat ∨ (s.get .rax).toNat + size ≤ (s.read64 (s.get .rsp)).toNat) :
    ∃ s', X86.run (insOf (storeStructLines size)) s = some s' ∧
      (∀ k : Nat, k < size → s'.mem (s.read64 (s.get .rsp) + BitVec.ofNat 64 k) = s.mem (s.get .rax + BitVec.ofNat 64 k)) ∧
      (∀ x : BitVec 64, (x.toNat < (s.read64 (s.get .rsp)).toNat ∨ (s.read64 (s.get .rsp)).toNat + size ≤ x.toNat) → s'.mem x = s.mem x) ∧
      s'.get .rax = s.get .rax ∧ s'.get .rsp = s.get .rsp + 8 := by
  exact (storeStruct_run size (by omega) s (no_clobber _ _ size hd hs h)).mono fun s' ⟨m, o, g1, g2⟩ =>
    ⟨m, fun x hx => o x (outside_range _ x size hd hx), g1, g2⟩

/-- **C04 (struct argument by value = the emitted `push_struct`).**  `sub $align_to(size, 8), %rsp` and the byte loop:
    %rsp drops by the rounded size (so the next argument stays 8-aligned), the `size` bytes of the argument object (address
    in %rax) are copied to the new top of stack, byte `k` to byte `k`; nothing outside `[rsp', rsp' + size)` is written —
    in particular not the padding bytes up to `rsp' + align_to(size, 8)`, nor the temporaries above — and %rax is unchanged.
    Hypothesis as for `C04_copy_x86` (the pushed copy starts below every object of the running frame, so `dst ≤ src` is the
    normal case). -/
theorem C04_push_struct_x86 (size : Nat) (s : State) (dst : BitVec 64)
    (hdst : dst = s.get .rsp - BitVec.ofInt 64 (Gen.Declspec.alignTo (size : Int) 8))
    (hd : dst.toNat + size ≤ 2 ^ 64) (hs : (s.get .rax).toNat + size ≤ 2 ^ 64)
    (h : dst.toNat ≤ (s.get .rax).toNat ∨ (s.get .rax).toNat + size ≤ dst.toNat) :
    ∃ s', X86.run (insOf (pushStructLines size)) s = some s' ∧ s'.get .rsp = dst ∧
      (∀ k : Nat, k < size → s'.mem (dst + BitVec.ofNat 64 k) = s.mem (s.get .rax + BitVec.ofNat 64 k)) ∧
      (∀ x : BitVec 64, (x.toNat < dst.toNat ∨ dst.toNat + size ≤ x.toNat) → s'.mem x = s.mem x) ∧
      s'.get .rax = s.get .rax := by
  subst hdst
  exact (pushStruct_run size (by omega) s (no_clobber _ _ size hd hs h)).mono fun s' ⟨g, m, o, a⟩ =>
    ⟨g, fun k hk => g ▸ m k hk, fun x hx => o x (g ▸ outside_range _ x size hd hx), a⟩

/-- non-vacuity: a 5-byte struct at 0x9000 pushed with %rsp = 0x8000: the copy goes to 0x7ff8 (8 bytes reserved) -/
example : (0x8000#64 - BitVec.ofInt 64 (Gen.Declspec.alignTo (5 : Int) 8)) = 0x7ff8#64 ∧ (0x7ff8 + 5 ≤ 2 ^ 64 ∧ 0x7ff8 ≤ 0x9000) ∧
    (insOf (pushStructLines 5)).length = 11 := by decide +kernel

/-- **C04 (struct return by value = the emitted `copy_struct_mem`).**  The destination is the address the caller passed
    as hidden first argument, stored at `off(%rbp)`; the `size` bytes of the returned object (address in %rax) are copied
    there, nothing else is written, %rax returns the destination address, %rsp and %rbp are unchanged. -/
theorem C04_copy_struct_mem_x86 (off : Int) (size : Nat) (s : State) (dst : BitVec 64)
    (hdst : dst = s.read64 (s.get .rbp + BitVec.ofInt 64 off))
    (hd : dst.toNat + size ≤ 2 ^ 64) (hs : (s.get .rax).toNat + size ≤ 2 ^ 64)
    (h : dst.toNat ≤ (s.get .rax).toNat ∨ (s.get .rax).toNat + size ≤ dst.toNat) :
    ∃ s', X86.run (insOf (copyStructMemLines off size)) s = some s' ∧
      (∀ k : Nat, k < size → s'.mem (dst + BitVec.ofNat 64 k) = s.mem (s.get .rax + BitVec.ofNat 64 k)) ∧
      (∀ x : BitVec 64, (x.toNat < dst.toNat ∨ dst.toNat + size ≤ x.toNat) → s'.mem x = s.mem x) ∧
      s'.get .rax = dst ∧ s'.get .rsp = s.get .rsp ∧ s'.get .rbp = s.get .rbp := by
  subst hdst
  exact (copyStructMem_run off size (by omega) s (no_clobber _ _ size hd hs h)).mono fun s' ⟨m, o, a, b, c⟩ =>
    ⟨m, fun x hx => o x (outside_range _ x size hd hx), a, b, c⟩

example : (insOf (copyStructMemLines (-8) 3)).length = 8 ∧ (X86.decodeAll (insOf (copyStructMemLines (-8) 3))).isSome = true := by decide +kernel

/-- non-vacuity: the loop for a 3-byte struct is 7 decodable instructions; source at 0x2000, destination at 0x1000 -/
example : (insOf (storeStructLines 3)).length = 7 ∧ (X86.decodeAll (insOf (storeStructLines 3))).isSome = true ∧
    (0x1000 + 3 ≤ 2 ^ 64 ∧ 0x2000 + 3 ≤ 2 ^ 64 ∧ (0x1000 ≤ 0x2000 ∨ 0x2000 + 3 ≤ 0x1000)) := by decide +kernel

/-- the condition cannot be dropped: with the destination one byte *above* the source (overlapping), the ascending loop
    reads a byte it has just written — the model shows it (a 2-byte copy from 0x1000 to 0x1001 smears byte 0) -/
example :
    (match X86.run (insOf (storeStructLines 2))
        { regs := fun r => if r = .rax then 0x1000#64 else if r = .rsp then 0x8000#64 else 0#64,
          mem := fun a => if a = 0x8000#64 then 0x01#8 else if a = 0x8001#64 then 0x10#8 else if a = 0x1000#64 then 0xaa#8
                          else if a = 0x1001#64 then 0xbb#8 else 0#8 } with
      | some s' => some (s'.mem 0x1001#64, s'.mem 0x1002#64)
      | none => none) = some (0xaa#8, 0xaa#8) := by decide +kernel

end ChibiVerif.Props.C04
