/-
C01 — integer expressions have the C11 value and the C11 type.

Property theorems, with the operator list `binaryOps`, the region `BoolPostfixIncDec` of the known finding and the example
expressions `exJE`, `exLE` (defined here).  Helper lemmas: Lemmas/C01*.lean (map: DESIGN.md section 14); models: Model/C01Codegen,
Model/C01Expr, Model/C01ExprJ, Model/C01ExprA, Model/C01Lvalue, Model/X86, Model/X86Jump; specification: Spec/IntSpec.
Notions that occur in the statements and are defined with the lemmas:
`Represents`, `ityOf`, `allDescr` (C01Lemmas); `postfixBySubtraction`, `postfixByTemporary`, `chibiPostfix`, `specPostfix`
(C01ArithLemmas); `specOp`, `specUnOp` (C01Select); `MemHolds` (C01MemLemmas); `FrameHolds` (C01Compose);
`inVar`, `inTmp`, and `Lay`, `Holds`, which make up `FrameX` (C01Machine; `FrameX`: C01EffectsValue); `ptrStep`
(C01PointerAssign); the example frames `exFrame` (C01Value), `exXFrame` (C01EffectsValue), `ptrFrame` … (C01Pointer,
C01PointerAssign), `lvFrameX` (C01LvalueRoot).

Objects:
* `Gen.CommonType.getCommonType`, `opRule`  — regenerated from type.c on every check (translator);
* `Gen.CastTable.castTable`, `getTypeId`     — regenerated from codegen.c on every check (translator);
* `C01Codegen.cast / genBinop / genUnop / typeBinary / typeUnary` — hand model of the integer arms of codegen.c / add_type,
  tied by assembly-text equality with `chibicc -S` on all operator × 9×9 type pairs;
* `C01.compileE` / `compileX` (Model/C01Expr) — `gen_expr` on whole expression trees (pure; with `,` `=` `op=` `++` `--` and
  the hidden temporaries of parse.c `to_assign` / `new_inc_dec`), `scaleCode` / `ptrAddCode` / `ptrDiffCode` — pointer
  arithmetic of `new_add` / `new_sub`; tied by instruction-text equality with `chibicc -S` on generated nests and on every
  pointer form × element size × index type;
* `C01.compileJ` (Model/C01ExprJ) — `gen_expr` on the FULL expression type: `compileX` plus `&&` `||` `?:` with `cmp_zero`,
  `je` / `jne` / `jmp` and the labels `.L.false.N` … numbered from the counter `count()`; tied by the text of instructions,
  label definitions and jump targets (with the label numbers chibicc really hands out) on generated nests;
* `X86.run` — instruction semantics, tied to the host CPU; `X86J.runJ` (Model/X86Jump) — the same with labels and jumps,
  label resolution by position; `jCC` reads the flags like `setCC`; tied to the host CPU;
* `Spec.IntSpec` — C11 6.3.1 / 6.5, tied to gcc.
`Represents t r v` is the representation invariant of codegen.c (Lemmas/C01Lemmas).

Every theorem is for all register contents (2^64 each) / all operand values, not samples.
-/
import ChibiVerif.Lemmas.C01Select
import ChibiVerif.Lemmas.C01Compose
import ChibiVerif.Lemmas.C01Value
import ChibiVerif.Lemmas.C01EffectsValue
import ChibiVerif.Lemmas.C01PointerAssign
import ChibiVerif.Lemmas.C01ValueFull
import ChibiVerif.Lemmas.C01LabelText
import ChibiVerif.Lemmas.C01LvalueRoot
import ChibiVerif.Lemmas.C01AccTable
import ChibiVerif.Lemmas.C01Plain

namespace ChibiVerif.Props.C01
open ChibiVerif.C01 ChibiVerif.X86 ChibiVerif.Asm ChibiVerif.Spec.IntSpec ChibiVerif.Gen.CommonType ChibiVerif.C01Codegen
open ChibiVerif.X86J

/-! ## typing -/

/-- **`get_common_type` is the usual arithmetic conversion (C11 6.3.1.8)** on every pair of the nine integer types:
    the descriptor it returns is exactly the type object of the C11 common type. -/
theorem C01_common_type :
    ∀ t1 ∈ ITy.all, ∀ t2 ∈ ITy.all,
      getCommonType (descr t1) (descr t2) = .ty (descr (usualArith t1 t2)) := by
  decide +kernel

/-- … and with enumerated types (compatible with `int`: 4 bytes, signed) on either side the result has the size and
    signedness C11 prescribes (the descriptor may be the enumerated type itself). -/
theorem C01_common_type_enum :
    ∀ d1 ∈ allDescr, ∀ d2 ∈ allDescr,
      (resTy (getCommonType d1 d2)).bind ityOf =
        (ityOf d1).bind fun a => (ityOf d2).bind fun b => some (usualArith a b) := by
  decide +kernel

/-- a pointer meeting an integer (comparison with 0, `p + n` after scaling) or a pointer: the result is the pointer type
    (8 bytes, compared unsigned) -/
theorem C01_common_type_ptr :
    ∀ d ∈ allDescr ++ [ty_ptr],
      getCommonType ty_ptr d = .ptrToBaseOf ty_ptr ∧
      (d.hasBase = false → getCommonType d ty_ptr = .ty ty_ptr) := by
  decide +kernel

def binaryOps : List (NK × BinOp) :=
  [(.ND_ADD, .add), (.ND_SUB, .sub), (.ND_MUL, .mul), (.ND_DIV, .div), (.ND_MOD, .mod), (.ND_BITAND, .band),
   (.ND_BITOR, .bor), (.ND_BITXOR, .bxor), (.ND_SHL, .shl), (.ND_SHR, .shr), (.ND_EQ, .eq), (.ND_NE, .ne),
   (.ND_LT, .lt), (.ND_LE, .le)]

/-- **the `add_type` table gives every binary operator the C11 operand conversions and result type** (6.5.5 – 6.5.12):
    for every operator and every pair of the nine integer types, both operands are converted to the C11 common type
    (shifts: the left operand is promoted, the right operand is left alone) and the node gets the C11 result type. -/
theorem C01_op_type :
    ∀ p ∈ binaryOps, ∀ t1 ∈ ITy.all, ∀ t2 ∈ ITy.all,
      specOp p.1 = some p.2 ∧
      typeBinary p.1 (descr t1) (descr t2) =
        some (descr (binopOperandType p.2 t1 t2),
              (if p.2.isShift then none else some (descr (binopOperandType p.2 t1 t2))),
              descr (binopType p.2 t1 t2)) := by
  decide +kernel

/-- unary `-`, `~` promote their operand and have the promoted type; `!` leaves it alone and has type `int` (6.5.3.3) -/
theorem C01_unop_type :
    ∀ p ∈ [(NK.ND_NEG, UnOp.neg), (NK.ND_BITNOT, UnOp.bitnot), (NK.ND_NOT, UnOp.lognot)], ∀ t ∈ ITy.all,
      specUnOp p.1 = some p.2 ∧
      typeUnary p.1 (descr t) =
        some ((if p.2 = .lognot then none else some (descr (promote t))), descr (unopType p.2 t)) := by
  decide +kernel

/-! ## conversions -/

/-- **every cell of the generated cast table among the integer types, and the `_Bool` conversion, is the C11 conversion**
    (6.3.1.2, 6.3.1.3): for every source and target type, every machine state whose `%rax` represents `v` in the source
    type, the emitted sequence runs and leaves `%rax` representing `convert to v`. -/
theorem C01_cast (frm to : ITy) (s : State) (v : Int) (h : Represents frm (s.get .rax) v) :
    ∃ s', X86.run (castSeq frm to) s = some s' ∧ Represents to (s'.get .rax) (convert to v) :=
  let ⟨s', h1, h2, _⟩ := cast_run frm to s v h
  ⟨s', h1, h2⟩

example : Represents .i8 (0xdeadbeef_ffffff80#64) (-128) := ⟨by decide, by decide⟩

/-! ## binary operators -/

/-- **add / sub / imul / and / or / xor at 32 and 64 bits, `cdq; idiv`, `cqo; idiv`, `mov $0,%edx; div`, and the relations
    `== != < <=` signed and unsigned via `cmp; setcc; movzb`**: for every such operator `k`, every computation type `t`
    (int, unsigned, long, unsigned long), every machine state in which `%rax` / `%rdi` represent the (converted) operands
    `va` / `vb`, if C11 defines `va op vb` in type `t` (no signed overflow, no division by zero, no INT_MIN / -1) then the
    emitted sequence runs without a CPU fault and leaves `%rax` representing the C11 result in the C11 result type. -/
theorem C01_binop (k : NK) (op : BinOp) (hop : specOp k = some op) (hns : op.isShift = false)
    (t : ITy) (ht : t = .i32 ∨ t = .u32 ∨ t = .i64 ∨ t = .u64)
    (s : State) (va vb x : Int)
    (ha : Represents t (s.get .rax) va) (hb : Represents t (s.get .rdi) vb)
    (hx : arith op t va vb = some x) :
    ∃ s', X86.run (opSeq k t) s = some s' ∧ Represents (binopType op t t) (s'.get .rax) x :=
  let ⟨s', h1, h2, _⟩ := binop_run k op hop hns t ht s va vb x ha hb hx
  ⟨s', h1, h2⟩

example : arith .div .i32 (-7) 2 = some (-3) := by decide
example : arith .add .i32 2147483647 1 = none := by decide

/-- `a > b`, `a >= b` are compiled as `b < a`, `b <= a` (parse.c `relational`): same value -/
theorem C01_rel_swapped (t : ITy) (a b : Int) :
    arith .gt t a b = arith .lt t b a ∧ arith .ge t a b = arith .le t b a := by
  simp [arith]

/-- **`<<`, `>>` via `mov %rdi,%rcx; shl/shr/sar %cl`**: left operand of promoted type `t`, right operand of *any* integer
    type `t2` (it is not converted); if C11 defines the shift (count in range, and for signed `<<` a non-negative left
    operand whose product is representable) the sequence leaves the C11 result: logical shift for unsigned `t`,
    arithmetic for signed `t`. -/
theorem C01_shift (k : NK) (op : BinOp) (hop : specOp k = some op) (hs : op.isShift = true)
    (t : ITy) (ht : t = .i32 ∨ t = .u32 ∨ t = .i64 ∨ t = .u64) (t2 : ITy)
    (s : State) (va vb x : Int)
    (ha : Represents t (s.get .rax) va) (hb : Represents t2 (s.get .rdi) vb)
    (hx : arith op t va vb = some x) :
    ∃ s', X86.run (opSeq k t) s = some s' ∧ Represents t (s'.get .rax) x :=
  let ⟨s', h1, h2, _⟩ := shift_run k op hop hs t ht t2 s va vb x ha hb hx
  ⟨s', h1, h2⟩

example : arith .shr .i32 (-101) 1 = some (-51) := by decide
example : arith .shl .i32 (-1) 1 = none := by decide

/-! ## unary operators -/

/-- **`neg %rax`, `not %rax`** on an operand already promoted to `t`: the C11 value of `-a` / `~a` whenever defined. -/
theorem C01_unop (k : NK) (op : UnOp) (hop : specUnOp k = some op) (hne : op ≠ .lognot)
    (t : ITy) (ht : t = .i32 ∨ t = .u32 ∨ t = .i64 ∨ t = .u64)
    (s : State) (v x : Int) (h : Represents t (s.get .rax) v) (hx : unop op t v = some x) :
    ∃ s', X86.run (unSeq k t) s = some s' ∧ Represents t (s'.get .rax) x := by
  cases k <;> simp [specUnOp] at hop <;> subst hop
  · exact let ⟨s', h1, h2, _⟩ := neg_run t ht s v x h hx; ⟨s', h1, h2⟩
  · exact absurd rfl hne
  · exact let ⟨s', h1, h2, _⟩ := bitnot_run t ht s v x h hx; ⟨s', h1, h2⟩

/-- **unary `-` and `~` on an operand of any of the nine integer types, conversion included**: `add_type` inserts the
    conversion to the promoted type (`C01_unop_type`), the cast table performs it, the operator works on the result —
    together exactly `Spec.unop`: for every operand type, every value, whenever C11 defines `-a` / `~a`. -/
theorem C01_unary_full (k : NK) (op : UnOp) (hop : specUnOp k = some op) (hne : op ≠ .lognot) (t : ITy)
    (s : State) (v x : Int) (h : Represents t (s.get .rax) v) (hx : unop op t v = some x) :
    ∃ s', X86.run (castSeq t (promote t) ++ unSeq k (promote t)) s = some s' ∧
      Represents (unopType op t) (s'.get .rax) x := by
  obtain ⟨s1, h1, r1⟩ := C01_cast t (promote t) s v h
  rw [unop_promote op hne] at hx
  obtain ⟨s2, h2, r2⟩ := C01_unop k op hop hne (promote t) (promote_mem t) s1 _ x r1 hx
  refine ⟨s2, ?_, ?_⟩
  · rw [X86.run_append, h1]; exact h2
  · have : unopType op t = promote t := by cases op <;> simp_all [unopType]
    rw [this]; exact r2

example : unop .bitnot .u8 200 = some (-201) := by decide

/-- **`!a` via `cmp $0; sete; movzx`** on an operand of any of the nine integer types (unpromoted): `int` 1 iff `a == 0`. -/
theorem C01_lognot (t : ITy) (s : State) (v : Int) (h : Represents t (s.get .rax) v) :
    ∃ s', X86.run (unSeq .ND_NOT t) s = some s' ∧ Represents .i32 (s'.get .rax) (b2i (v = 0)) :=
  let ⟨s', h1, h2, _⟩ := lognot_run t s v h
  ⟨s', h1, h2⟩

/-! ## loads and stores -/

/-- **sign- and zero-extending loads** (`movsbl/movzbl/movswl/movzwl (%rax),%eax`, `movsxd (%rax),%rax`, `mov (%rax),%rax`):
    if the object of type `t` at the address in `%rax` holds `v`, the load leaves `%rax` representing `v` in type `t`
    (in particular `unsigned int` objects are loaded with `movsxd`, which the invariant allows) and memory unchanged. -/
theorem C01_load (t : ITy) (s : State) (v : Int) (h : MemHolds t s (s.get .rax) v) :
    ∃ s', X86.run (loadSeq t) s = some s' ∧ Represents t (s'.get .rax) v ∧ s'.mem = s.mem :=
  load_ok t s v h

/-- **truncating stores** (`pop %rdi; mov %al/%ax/%eax/%rax,(%rdi)`): with the object's address on top of the stack and
    `%rax` representing `v` in type `t`, afterwards the object holds `v`, `%rax` is unchanged (the value of the
    assignment expression) and the stack is popped. -/
theorem C01_store (t : ITy) (s : State) (p : BitVec 64) (v : Int) (hp : s.read64 (s.get .rsp) = p)
    (h : Represents t (s.get .rax) v) :
    ∃ s', X86.run (storeSeq t) s = some s' ∧ MemHolds t s' p v ∧ s'.get .rax = s.get .rax ∧
      s'.get .rsp = s.get .rsp + 8 :=
  store_ok t s p v hp h

/-! ## composition -/

/-- **value of every side-effect-free expression, arbitrary nesting** (DESIGN `C01_value`, pure fragment): for every
    expression tree `e` built from literals, variables, casts, unary `+ - ~ !` and the sixteen binary operators, every
    store `σ`, every machine state `m` whose frame holds `σ` (variable `i` at `off i (%rbp)`, frame above `%rsp`) with
    `depthE e` free stack slots: if `compileE` assembles `code` of type `t` and C11 defines the value `v` of `e`
    (`evalE`: no signed overflow, division by zero, out-of-range shift … anywhere in the tree), then `code` runs without a
    CPU fault and leaves `%rax` representing `v` in type `t`, `t` is the C11 type of `e`, `%rsp` and `%rbp` are unchanged,
    the frame still holds the store — and every byte at or above `%rsp` is unchanged and the store is unchanged.  The instance
    (`value_pure`, Lemmas/C01Plain.lean) of the induction `value_a` (Lemmas/C01ValueA.lean) at the frame `Frame.plain` (`FrameHolds`),
    through the push/pop discipline of `gen_expr` (`EvG.under_push`), composing `C01_load`, `C01_cast`, `C01_unary_full`, `C01_lognot`, `C01_binop`, `C01_shift`,
    `C01_rel_swapped`, `C01_op_type` with the frame lemmas of Lemmas/C01Frame.lean.  `compileE` is tied to `gen_expr` by
    instruction-text equality with `chibicc -S` on generated expression nests (checklib/C01.py leg b2).
    Not covered here: assignments (`C01_value_effects` below) and `&&`, `||`, `?:` (`C01_value_full` below). -/
theorem C01_value (σ : Env) (off : Nat → Int) (e : E) (t : ITy) (code : List Ins) (v : Int) (σ' : Env) (m : State)
    (hc : compileE σ.tys off e = some (t, code)) (hv : evalE σ e = some (v, σ'))
    (hf : FrameHolds σ off (depthE e) m) :
    ∃ m', X86.run code m = some m' ∧ Represents t (m'.get .rax) v ∧ typeOf σ e = some t ∧
      m'.get .rsp = m.get .rsp ∧ m'.get .rbp = m.get .rbp ∧ FrameHolds σ off (depthE e) m' ∧
      (∀ a : BitVec 64, (m.get .rsp).toNat ≤ a.toNat → m'.mem a = m.mem a) ∧ σ' = σ := by
  obtain ⟨hσ, m', hrun, hrep, hk⟩ := value_pure σ off e t code v σ' m (depthE e) hc hv (Nat.le_refl _) hf
  exact ⟨m', hrun, hrep, compileE_typeOf σ off e t code hc, hk.rsp, hk.rbp, hf.keeps hk, hk.mem, hσ⟩

/-- non-vacuity: `v0 + v1 * 2 > -(long)5 - v0` with `signed char v0 = -3`, `unsigned v1 = 7` in a concrete frame
    (two stack slots needed; common types `unsigned`, `long`, `long`): compiles, has the C11 value 1, the frame holds. -/
example : ∃ code, compileE exEnv.tys exOff exE = some (.i32, code) ∧ evalE exEnv exE = some (1, exEnv) ∧
    depthE exE = 2 ∧ FrameHolds exEnv exOff (depthE exE) exState :=
  ⟨_, rfl, rfl, rfl, exFrame⟩

/-- **value and side effects of every expression built from literals, variables, casts, unary and binary operators, `,`,
    `=`, the ten `op=`, prefix and postfix `++` `--` on variables, arbitrary nesting** (DESIGN `C01_value` with
    `C01_assign`, `C01_opassign`, `C01_incdec`; proof: `value_gx`, Lemmas/C01ValueFull.lean): if `compileX` assembles `code` of type `t` using `K` hidden temporaries
    (the model of `gen_expr` and of the parse.c rewritings `A op= B` → `tmp = &A, *tmp = *tmp op B`, `++A` → `A += 1`,
    `A++` → `(T)((A += 1) - 1)`), C11 defines the value `v` and the store `σ'` after `e` (`evalE`, left operand first), and
    the operands of every binary operator are free of conflicting accesses (`noConflict`: C11 6.5p2, without which the
    behaviour is undefined — chibicc evaluates the *right* operand first), then from every machine state whose frame
    holds `σ` (`FrameX`: variables and temporaries pairwise disjoint at or above `%rsp`, `depthX e` free stack slots) the
    code runs without a CPU fault, leaves `%rax` representing `v` in type `t` = the C11 type of `e`, `%rsp` / `%rbp`
    unchanged, **the frame holding `σ'`** (every assigned variable has received exactly the C11-converted value, every
    other variable is untouched), and no byte at or above `%rsp` outside the assigned variables and the temporaries has
    changed.  The lvalue of `op=` / `++` / `--` is evaluated once (through the hidden pointer).
    `&&`, `||`, `?:` (jumps): `C01_value_full` below.  Not covered: postfix `++` `--` on `_Bool` (two temporaries), lvalues
    other than variables. -/
theorem C01_value_effects (σ : Env) (off toff : Nat → Int) (e : E) (t : ITy) (code : List Ins) (K : Nat) (v : Int)
    (σ' : Env) (m : State)
    (hc : compileX σ.tys off toff 0 e = some (t, code, K)) (hv : evalE σ e = some (v, σ')) (hnc : noConflict e = true)
    (hf : FrameX σ off toff K (depthX e) m) :
    ∃ m', X86.run code m = some m' ∧ Represents t (m'.get .rax) v ∧ typeOf σ e = some t ∧
      m'.get .rsp = m.get .rsp ∧ m'.get .rbp = m.get .rbp ∧ FrameX σ' off toff K (depthX e) m' ∧
      (∀ a : BitVec 64, (m.get .rsp).toNat ≤ a.toNat → ¬ inVar σ.tys off (m.get .rbp) (wr e) a →
        ¬ inTmp toff (m.get .rbp) 0 K a → m'.mem a = m.mem a) := by
  obtain ⟨m', hrun, hrep, rest⟩ := (value_gx (Frame.lay off toff K) (fun _ => True) e σ t code v σ' 0 K hc hv hnc (fun _ _ => trivial)
    (Nat.le_refl _)).at_frameX trivial hf
  exact ⟨m', run_of_JRun hrun, hrep, (compileX_facts σ.tys off toff e 0 t code K hc).2.2 σ rfl, rest⟩

/-- non-vacuity: `(v1 += v0, v0++ + v1)` with `signed char v0 = -3`, `unsigned v1 = 7` in a concrete frame (two hidden
    temporaries, four stack slots): compiles, is conflict-free, has the C11 value 1 and leaves `v0 = -2`, `v1 = 4`. -/
example : ∃ code, compileX exEnv.tys exXOff exXToff 0 exXE = some (.u32, code, 2) ∧
    evalE exEnv exXE = some (1, ⟨[.i8, .u32], [-2, 4]⟩) ∧ noConflict exXE = true ∧ depthX exXE = 4 ∧
    FrameX exEnv exXOff exXToff 2 (depthX exXE) exXState :=
  ⟨_, rfl, rfl, rfl, rfl, exXFrame⟩

/-- **the layout hypothesis of `C01_value_effects` holds for every frame whose offsets pass the executable check
    `layoutOK`** (each variable and hidden temporary inside `[-N, 0)` relative to `%rbp`, pairwise disjoint) once the
    prologue has established `%rbp = %rsp + N`.  checklib/C01.py runs `layoutOK` on the offsets chibicc actually assigns
    in every generated function of leg b2. -/
theorem C01_layout (σ : Env) (off toff : Nat → Int) (K : Nat) (N : Int) (n : Nat) (m : State)
    (h : layoutOK σ.tys off toff K N = true) (hbp : ((m.get .rbp).toNat : Int) = (m.get .rsp).toNat + N)
    (hhi : (m.get .rbp).toNat + 8 ≤ 2 ^ 64) (hn : 8 * n ≤ (m.get .rsp).toNat) (hH : Holds off σ m) :
    FrameX σ off toff K n m :=
  ⟨hn, lay_of_layoutOK σ.tys off toff K N h (m.get .rbp) _ hbp hhi, hH⟩

example : layoutOK exEnv.tys exXOff exXToff 2 32 = true := by decide

/-- on side-effect-free expressions the two compilers coincide, so `C01_value_effects` extends `C01_value` -/
theorem C01_value_effects_extends (tys : List ITy) (off toff : Nat → Int) (e : E) (t : ITy) (code : List Ins) (k : Nat)
    (h : compileE tys off e = some (t, code)) : compileX tys off toff k e = some (t, code, k) :=
  compileX_pure tys off toff e t code k h

example : compileE exEnv.tys exOff exE ≠ none := by decide

/-! ## the full expression type: `&&`, `||`, `?:` (code with labels and jumps) -/

/-- **on jump-free code the machine with jumps is `X86.run`**: every theorem above about `X86.run code` is a theorem about
    `runJ` on the program `J code` (fuel = number of lines) -/
theorem C01_jump_free (is : List Ins) (s : State) : runJ is.length (J is) 0 s = X86.run is s :=
  runJ_ins is s

/-- **freshness of the labels `gen_expr` makes up from `count()`**: the code `compileJ` assembles while the counter goes
    from `c0` to `c1` draws exactly `nlbl e` numbers (one per `&&`, `||`, `?:`), every label it defines has its number in
    `[c0, c1)`, and no label is defined twice — so resolving a label by position (`findLbl`: the first definition) finds the
    only definition, wherever the code is placed among code compiled with other counter values. -/
theorem C01_labels_fresh (tys : List ITy) (off toff : Nat → Int) (e : E) (k0 c0 : Nat) (t : ITy) (code : List JI) (k1 c1 : Nat)
    (h : compileJ tys off toff k0 c0 e = some (t, code, k1, c1)) :
    c1 = c0 + nlbl e ∧ (∀ l ∈ defs code, c0 ≤ l.n ∧ l.n < c1) ∧ (defs code).Nodup :=
  have f := compileJ_facts tys off toff e k0 c0 t code k1 c1 h
  ⟨f.c, f.rng, f.nodup⟩

/-- the printed label (`.L.else.7`) determines the structured label: resolution by position of structured labels is
    resolution by position of the text the tie compares -/
theorem C01_label_spelling (l l' : Lbl) (h : l.render = l'.render) : l = l' := Lbl.render_inj h

/-- the full expression of the non-vacuity examples below: `(v0 && (v1 += v0)) ? (v1 || v0++) : 5L` -/
def exJE : E := .cond (.land (.var 0) (.opassign .add 1 (.var 0))) (.lor (.var 1) (.postinc 0)) (.lit .i64 5)

example : ∃ code, compileJ exEnv.tys exXOff exXToff 0 1 exJE = some (.i64, code, 2, 4) := ⟨_, rfl⟩

/-- **value and side effects of EVERY expression of the type `E`: literals, variables, casts, unary and binary operators,
    `,`, `=`, the ten `op=`, prefix and postfix `++` `--` on variables, and `&&`, `||`, `?:`, arbitrary nesting** (DESIGN
    `C01_value` in full; proof: `value_g`, Lemmas/C01ValueFull.lean).  If `compileJ` assembles `code` of type `t` using `K` hidden temporaries and the label numbers
    `c0 ≤ · < c1`, C11 defines the value `v` and the store `σ'` after `e` (`evalE`: short-circuit evaluation of `&&` `||`,
    exactly one of the second / third operands of `?:` evaluated, result `int` 0 / 1 resp. the arm converted to the common
    type), and the operands of every binary operator are free of conflicting accesses (`noConflict`, C11 6.5p2; the operands of
    `&&` `||` `?:` `,` are sequenced and need no such condition), then from every machine state whose frame holds `σ`
    (`FrameX`, `depthJ e` free stack slots) the program `code`, entered at its first line, **terminates within `code.length`
    steps** (every jump taken is forward; `runJ` with fuel `code.length` returns), without a CPU fault, without a jump on
    undefined flags or to a missing label, and leaves `%rax` representing `v` in type `t` = the C11 type of `e`, `%rsp` / `%rbp`
    unchanged, **the frame holding `σ'`** — in particular the side effects of an operand that C11 does not evaluate have not
    happened — and no byte at or above `%rsp` outside the variables `e` may assign and the temporaries has changed.
    The instance at plain variables of the induction `value_a` (Lemmas/C01ValueA.lean) over `EvG` at `Frame.lay`
    (Lemmas/C01JumpMachine.lean), whose combinators reuse every per-node theorem above unchanged; `cmp_zero` is `C01_lognot`'s
    comparison; label resolution by position rests on `C01_labels_fresh`.
    Not covered: postfix `++` `--` on `_Bool` (two temporaries), lvalues other than variables. -/
theorem C01_value_full (σ : Env) (off toff : Nat → Int) (e : E) (t : ITy) (code : List JI) (K c0 c1 : Nat) (v : Int)
    (σ' : Env) (m : State)
    (hc : compileJ σ.tys off toff 0 c0 e = some (t, code, K, c1)) (hv : evalE σ e = some (v, σ')) (hnc : noConflict e = true)
    (hf : FrameX σ off toff K (depthJ e) m) :
    ∃ m', runJ code.length code 0 m = some m' ∧ Represents t (m'.get .rax) v ∧ typeOf σ e = some t ∧
      m'.get .rsp = m.get .rsp ∧ m'.get .rbp = m.get .rbp ∧ FrameX σ' off toff K (depthJ e) m' ∧
      (∀ a : BitVec 64, (m.get .rsp).toNat ≤ a.toNat → ¬ inVar σ.tys off (m.get .rbp) (wr e) a →
        ¬ inTmp toff (m.get .rbp) 0 K a → m'.mem a = m.mem a) := by
  have fc := compileJ_facts σ.tys off toff e 0 c0 t code K c1 hc
  obtain ⟨m', hrun, hrep, rest⟩ := (value_g (Frame.lay off toff K) (fun _ => True) e σ t code v σ' 0 K c0 c1 hc hv hnc (fun _ _ => trivial)
    (Nat.le_refl _)).at_frameX trivial hf
  exact ⟨m', hrun.runJ fc.nodup, hrep, fc.ty σ rfl, rest⟩

/-- non-vacuity: `(v0 && (v1 += v0)) ? (v1 || v0++) : 5L` with `signed char v0 = -3`, `unsigned v1 = 7` in a concrete frame
    (two hidden temporaries, three stack slots, labels 1 … 3): compiles, is conflict-free, has the C11 value 1 of type `long`,
    leaves `v1 = 4` and — `v0++` not being evaluated — `v0 = -3`. -/
example : ∃ code, compileJ exEnv.tys exXOff exXToff 0 1 exJE = some (.i64, code, 2, 4) ∧
    evalE exEnv exJE = some (1, ⟨[.i8, .u32], [-3, 4]⟩) ∧ noConflict exJE = true ∧ depthJ exJE = 3 ∧
    FrameX exEnv exXOff exXToff 2 (depthJ exJE) exXState :=
  ⟨_, rfl, rfl, rfl, rfl, ⟨by decide, exXFrame.2.1, exXFrame.2.2⟩⟩

/-- **the same wherever the code sits**: inside any program `pre ++ code ++ post` whose labels are defined once (e.g. the
    function body around the expression, compiled with other values of the counter: `C01_labels_fresh`), execution entering
    `code` at its first line reaches the line after its last one in at most `code.length` steps, with the conclusions of
    `C01_value_full`. -/
theorem C01_value_full_embedded (σ : Env) (off toff : Nat → Int) (e : E) (t : ITy) (code : List JI) (K c0 c1 : Nat) (v : Int)
    (σ' : Env) (m : State) (pre post : List JI)
    (hc : compileJ σ.tys off toff 0 c0 e = some (t, code, K, c1)) (hv : evalE σ e = some (v, σ')) (hnc : noConflict e = true)
    (hf : FrameX σ off toff K (depthJ e) m) (hfresh : (defs (pre ++ code ++ post)).Nodup) :
    ∃ m' n, n ≤ code.length ∧ stepsJ (pre ++ code ++ post) n (pre.length, m) = some (pre.length + code.length, m') ∧
      Represents t (m'.get .rax) v ∧ m'.get .rsp = m.get .rsp ∧ m'.get .rbp = m.get .rbp ∧
      FrameX σ' off toff K (depthJ e) m' ∧
      (∀ a : BitVec 64, (m.get .rsp).toNat ≤ a.toNat → ¬ inVar σ.tys off (m.get .rbp) (wr e) a →
        ¬ inTmp toff (m.get .rbp) 0 K a → m'.mem a = m.mem a) := by
  obtain ⟨m', hrun, hrep, rest⟩ := (value_g (Frame.lay off toff K) (fun _ => True) e σ t code v σ' 0 K c0 c1 hc hv hnc (fun _ _ => trivial)
    (Nat.le_refl _)).at_frameX trivial hf
  obtain ⟨_, n, hn, hs⟩ := hrun _ _ (At_mid pre code post) hfresh
  exact ⟨m', n, by omega, hs, hrep, rest⟩

example : (defs ([JI.lbl ⟨.end_, 0⟩] ++ (landCode 1 .i32 .i32 [] []) ++ [JI.lbl ⟨.else_, 9⟩])).Nodup := by decide

/-- on the expressions `compileX` handles (no `&&` `||` `?:`) `compileJ` assembles the same code, as a jump-free program,
    with the same type and temporaries and without drawing a label number — so `C01_value_full` extends
    `C01_value_effects` (through `C01_jump_free`). -/
theorem C01_value_full_extends (tys : List ITy) (off toff : Nat → Int) (e : E) (k c : Nat) (t : ITy) (code : List Ins) (k1 : Nat)
    (h : compileX tys off toff k e = some (t, code, k1)) : compileJ tys off toff k c e = some (t, J code, k1, c) :=
  (compileJ_of_compileX tys off toff e k c t code k1 h).1

example : compileX exEnv.tys exXOff exXToff 0 exXE ≠ none := by decide

/-! ## pointer arithmetic (parse.c `new_add`, `new_sub`) -/

/-- **the index of pointer arithmetic is scaled by a 64-bit multiplication of the sign/zero-extended index** (C11 6.5.6p8:
    `p + i` points `i` elements on, i.e. `i * sizeof *p` bytes): `new_add` / `new_sub` build `ND_MUL(idx, new_long(size))`;
    for every index type (`_Bool` … `unsigned long`), every index value `vi`, every element size, any side-effect-free index
    code: the sequence `scaleCode` leaves `%rax = vi * size` modulo 2^64 — no 32-bit wrap-around for `int` / `unsigned`
    or narrower indices whose byte offset exceeds 2^31.  Shared by `p + i`, `i + p`, `p - i`, `p[i]`, `p += i`, `p -= i`,
    `++p`, `p++`, `--p`, `p--` (tied to parse.c by the instruction text of all these forms, checklib/C01.py leg b3). -/
theorem C01_ptr_scale (σ : Env) (off : Nat → Int) (ei : E) (ti : ITy) (ci : List Ins) (vi size : Int) (m : State)
    (hci : compileE σ.tys off ei = some (ti, ci)) (hvi : evalE σ ei = some (vi, σ)) (hs : ITy.i64.inRange size)
    (hf : FrameHolds σ off (depthE ei + 1) m) :
    ∃ m', X86.run (scaleCode ti size ci) m = some m' ∧ m'.get .rax = BitVec.ofInt 64 (vi * size) ∧
      m'.get .rsp = m.get .rsp ∧ m'.get .rbp = m.get .rbp ∧ FrameHolds σ off (depthE ei + 1) m' := by
  have S := EvG.scale ti size vi hs (pure_ev σ off ei ti ci vi σ hci hvi).2 (Nat.le_refl _) (fun _ h => by simp at h) (Nat.le_refl 0)
  rw [J_scaleCode] at S
  obtain ⟨m', hrun, hr, hk⟩ := Ev.of_EvG S hf (Nat.le_refl _)
  exact ⟨m', hrun, hr, hk.rsp, hk.rbp, hf.keeps hk⟩

/-- **`p + e`, `p - e` (`e + p`, `&p[e]`) have the C11 address `p ± e * sizeof *p`** (modulo 2^64), for every index type
    and value, every element size, any side-effect-free index expression `e`, the pointer held in an 8-byte variable `j`
    of the frame (value `pv`) -/
theorem C01_ptr_add (isSub : Bool) (σ : Env) (off : Nat → Int) (ei : E) (ti : ITy) (ci : List Ins) (vi : Int) (j : Nat)
    (pv size : Int) (m : State) (hci : compileE σ.tys off ei = some (ti, ci)) (hvi : evalE σ ei = some (vi, σ))
    (hj : σ.tys[j]? = some .u64) (hpv : σ.vals[j]? = some pv) (hs : ITy.i64.inRange size)
    (hf : FrameHolds σ off (depthE ei + 2) m) :
    ∃ m', X86.run (ptrAddCode isSub ti size ci (ptrVarCode (off j))) m = some m' ∧
      m'.get .rax = BitVec.ofInt 64 (if isSub then pv - vi * size else pv + vi * size) ∧
      m'.get .rsp = m.get .rsp ∧ m'.get .rbp = m.get .rbp ∧ FrameHolds σ off (depthE ei + 2) m' := by
  have A := (EvG.ptradd isSub ti size vi (BitVec.ofInt 64 pv) hs (pure_ev σ off ei ti ci vi σ hci hvi).2
    (EvG.ptrvar (Φ := Frame.plain off) σ j pv hj hpv 0) ⟨Nat.le_refl _, Nat.le_refl _, Nat.le_refl _⟩ (fun _ h => by simp at h)
    (fun _ h => by simp at h) (Nat.le_refl 0)).post (R2 := fun r => r = BitVec.ofInt 64 (if isSub then pv - vi * size else pv + vi * size))
    (fun r h => by rw [h]; cases isSub <;> simp [BitVec.ofInt_add, BitVec.ofInt_sub])
  obtain ⟨m', hrun, hr, hk⟩ := Ev.of_EvG (c := ptrAddCode isSub ti size ci (ptrVarCode (off j))) (by rw [J_ptrAdd]; exact A) hf (by omega)
  exact ⟨m', hrun, hr, hk.rsp, hk.rbp, hf.keeps hk⟩

/-- **`p - q` is the number of elements between the two pointers** (C11 6.5.6p9): `(long)(p - q) / (long)size` by
    `cqo; idiv`; if `p` is `k` elements after `q` (`k * size` a `long`), `%rax` represents `k` in type `long` -/
theorem C01_ptr_diff (σ : Env) (off : Nat → Int) (jp jq : Nat) (pv qv size k : Int) (m : State)
    (hjp : σ.tys[jp]? = some .u64) (hpv : σ.vals[jp]? = some pv) (hjq : σ.tys[jq]? = some .u64)
    (hqv : σ.vals[jq]? = some qv) (hs0 : 0 < size) (hs : ITy.i32.inRange size) (hk : ITy.i64.inRange (k * size))
    (hpq : pv = qv + k * size) (hf : FrameHolds σ off 2 m) :
    ∃ m', X86.run (ptrDiffCode size (ptrVarCode (off jp)) (ptrVarCode (off jq))) m = some m' ∧
      Represents .i64 (m'.get .rax) k ∧ m'.get .rsp = m.get .rsp ∧ m'.get .rbp = m.get .rbp ∧ FrameHolds σ off 2 m' := by
  have D := EvG.ptrdiff (Φ := Frame.plain off) (P := fun _ => True) size (BitVec.ofInt 64 pv) (BitVec.ofInt 64 qv) k hs0 hs hk
    (by rw [hpq, BitVec.ofInt_add]) (EvG.ptrvar σ jp pv hjp hpv 0) (EvG.ptrvar σ jq qv hjq hqv 0) (Nat.le_refl 0)
  obtain ⟨m', hrun, hr, hkp⟩ := Ev.of_EvG (c := ptrDiffCode size (ptrVarCode (off jp)) (ptrVarCode (off jq))) (by rw [J_ptrDiff]; exact D)
    hf (Nat.le_refl _)
  exact ⟨m', hrun, hr, hkp.rsp, hkp.rbp, hf.keeps hkp⟩

/-- non-vacuity: two `int *` 600 000 000 elements (2 400 000 000 bytes) apart in a concrete frame -/
example : ptrEnv2.tys[0]? = some .u64 ∧ ptrEnv2.vals[0]? = some 0x10008f0d1800 ∧ ptrEnv2.tys[1]? = some .u64 ∧
    ptrEnv2.vals[1]? = some 0x100000000000 ∧ ITy.i32.inRange 4 ∧ ITy.i64.inRange (600000000 * 4) ∧
    (0x10008f0d1800 : Int) = 0x100000000000 + 600000000 * 4 ∧ FrameHolds ptrEnv2 exOff 2 ptrState2 :=
  ⟨rfl, rfl, rfl, rfl, by decide, by decide, by decide, ptrFrame2⟩

/-- non-vacuity: `int *p = (int *)0x100000000000; int i = 600000000; p + i` (byte offset 2 400 000 000 > 2^31): the
    hypotheses are satisfiable (a frame holding the pointer and the index), and the address is `p + 2400000000` -/
example : ∃ (σ : Env) (m : State) (ci : List Ins), compileE σ.tys exOff (.var 1) = some (.i32, ci) ∧
    evalE σ (.var 1) = some (600000000, σ) ∧ σ.tys[0]? = some .u64 ∧ σ.vals[0]? = some 0x100000000000 ∧
    FrameHolds σ exOff (depthE (.var 1) + 2) m ∧
    BitVec.ofInt 64 (0x100000000000 + 600000000 * 4) = 0x10008f0d1800#64 :=
  ⟨ptrEnv, ptrState, _, rfl, rfl, rfl, rfl, ptrFrame, by decide⟩

/-- **`p += e`, `p -= e`** (and `++p`, `--p`: `e` the literal 1) — parse.c `to_assign` over `new_add` / `new_sub`:
    `tmp = &p, *tmp = *tmp ± e * sizeof *p` through the hidden pointer temporary.  For every index type and value, every
    element size, ANY index expression `compileX` handles (side effects included; evaluated once, before `*tmp` is read), the
    pointer held in the 8-byte variable `j` (value `pv` after the index has been evaluated): the code runs, leaves in `%rax` and
    stores into `j` the C11 address `pv ± vi * size` (C11 6.5.16.2 with 6.5.6p8; modulo 2^64), and the frame holds the store
    after the index expression with `j` updated; nothing else at or above `%rsp` changes.  The instruction text of all these
    forms is tied to chibicc by checklib/C01.py leg b3. -/
theorem C01_ptr_opassign (isSub : Bool) (σ : Env) (off toff : Nat → Int) (ei : E) (ti : ITy) (ci : List Ins) (K : Nat) (vi : Int)
    (σ1 : Env) (j : Nat) (pv size : Int) (m : State)
    (hci : compileX σ.tys off toff 0 ei = some (ti, ci, K)) (hvi : evalE σ ei = some (vi, σ1)) (hnc : noConflict ei = true)
    (hj : σ.tys[j]? = some .u64) (hpv : σ1.vals[j]? = some pv) (hs : ITy.i64.inRange size)
    (hf : FrameX σ off toff (K + 1) (depthX ei + 2) m) :
    ∃ m', X86.run (ptrOpAssignCode isSub ti size (off j) (toff K) ci) m = some m' ∧
      m'.get .rax = BitVec.ofInt 64 (ptrStep isSub pv vi size) ∧ m'.get .rsp = m.get .rsp ∧ m'.get .rbp = m.get .rbp ∧
      FrameX (σ1.set j (ptrStep isSub pv vi size % 18446744073709551616)) off toff (K + 1) (depthX ei + 2) m' ∧
      (∀ a : BitVec 64, (m.get .rsp).toNat ≤ a.toNat → ¬ inVar σ.tys off (m.get .rbp) (j :: wr ei) a →
        ¬ inTmp toff (m.get .rbp) 0 (K + 1) a → m'.mem a = m.mem a) := by
  obtain ⟨m', hrun, rest⟩ := (EvG.ptr_opassign (Φ := Frame.lay off toff (K + 1)) (bp0 := m.get .rbp) isSub ti size vi pv hs hj trivial
    (value_gx _ _ ei σ ti ci vi σ1 0 K hci hvi hnc (fun _ _ => trivial) (by show K ≤ K + 1; omega)) hpv (Nat.zero_le _)
    (fun _ _ => trivial) (by show K < K + 1; omega)).at_frameX rfl hf
  exact ⟨m', run_of_JRun hrun, rest⟩

/-- non-vacuity: `int *p = (int *)0x100000000000; int i = 600000000; p += i` in a concrete frame with one hidden temporary:
    the hypotheses hold, and the new pointer is `p + 2400000000` -/
example : compileX ptrEnv.tys exOff ptrToff 0 (.var 1) = some (.i32, iLea (exOff 1) :: loadSeq .i32, 0) ∧
    evalE ptrEnv (.var 1) = some (600000000, ptrEnv) ∧ ptrEnv.tys[0]? = some .u64 ∧ ptrEnv.vals[0]? = some 0x100000000000 ∧
    FrameX ptrEnv exOff ptrToff (0 + 1) (depthX (.var 1) + 2) ptrState ∧
    ptrStep false 0x100000000000 600000000 4 = 0x10008f0d1800 :=
  ⟨rfl, rfl, rfl, rfl, ⟨by decide, ptrFrameX.2.1, ptrFrameX.2.2⟩, by decide⟩

/-- `++p` / `--p` are `p += 1` / `p -= 1` with the literal `1` as index -/
example (tys : List ITy) (off toff : Nat → Int) : compileX tys off toff 0 (.lit .i32 1) = some (.i32, [iMovImm 1], 0) := rfl

/-- **`p++`, `p--`** — parse.c `new_inc_dec`: `(T*)((p += ±1) + ∓1)`: the value of the expression is the old pointer `pv`, the
    variable receives `pv ± sizeof *p` (C11 6.5.2.4p2, modulo 2^64); one hidden temporary, three stack slots. -/
theorem C01_ptr_postfix (isDec : Bool) (σ : Env) (off toff : Nat → Int) (j : Nat) (pv size : Int) (m : State)
    (hj : σ.tys[j]? = some .u64) (hpv : σ.vals[j]? = some pv) (hs : ITy.i64.inRange size) (hf : FrameX σ off toff 1 3 m) :
    ∃ m', X86.run (ptrPostCode isDec size (off j) (toff 0)) m = some m' ∧ m'.get .rax = BitVec.ofInt 64 pv ∧
      m'.get .rsp = m.get .rsp ∧ m'.get .rbp = m.get .rbp ∧
      FrameX (σ.set j ((if isDec then pv - size else pv + size) % 18446744073709551616)) off toff 1 3 m' ∧
      (∀ a : BitVec 64, (m.get .rsp).toNat ≤ a.toNat → ¬ inVar σ.tys off (m.get .rbp) [j] a →
        ¬ inTmp toff (m.get .rbp) 0 1 a → m'.mem a = m.mem a) := by
  obtain ⟨m', hrun, rest⟩ := (EvG.ptr_postfix (Φ := Frame.lay off toff 1) (bp0 := m.get .rbp) (k0 := 0) isDec size pv hs hj trivial hpv
    (by show 0 < 1; omega)).at_frameX rfl hf
  exact ⟨m', run_of_JRun hrun, rest⟩

example : ptrEnv.tys[0]? = some .u64 ∧ ptrEnv.vals[0]? = some 0x100000000000 ∧ ITy.i64.inRange 4 ∧
    FrameX ptrEnv exOff ptrToff 1 3 ptrState := ⟨rfl, rfl, by decide, ptrFrameX⟩

/-! ## lvalues other than variables: `s.m`, `a[i]`, `*p`, `p->m`, `p[i]` and their nestings

`LVal` (Model/C01Lvalue) are the lvalue forms of `gen_addr`; `lvAddr` is the address C11 gives the lvalue (6.5.2.1, 6.5.2.3,
6.5.3.2, 6.5.6p8: base + member offsets + index × element size; the value of `p` for `*p`), with the store after its index
expression (any expression of the full type `E`) has been evaluated.  "The lvalue designates variable `i`" is: that address
is the address of `i` (`frameAddr bp (off i)`) and `i` has the lvalue's type.  The store may hold absolute addresses (a pointer
variable pointing at a variable of the frame): they refer to the frame at the `%rbp` of the machine state of the theorem.
`C01_lvalue_load` / `_assign` / `_opassign`: the lvalue is the root of the expression, its index expression any expression of type
`E` (side effects, jumps).  `C01_value_lvalues`: lvalues anywhere in an expression of type `E`, with side-effect-free address
computations whose dependencies the expression does not assign.
Tie: instruction / label / jump text of generated functions over struct, array and pointer objects (checklib/C01.py legs b4, b5),
member offsets by the psABI layout rule; three-way run-time oracles on the same forms. -/

/-- **the value of an lvalue** (`gen_addr; load`): if the lvalue designates variable `i` of type `t` holding `v`, the code
    terminates within its length, leaves `%rax` representing `v` in type `t`, and the frame holds the store after the index
    expression. -/
theorem C01_lvalue_load (σ : Env) (off toff : Nat → Int) (lv : LVal) (t : ITy) (code : List JI) (K c0 c1 : Nat) (σ0 : Env)
    (i : Nat) (v : Int) (m : State)
    (hc : compileL σ.tys off toff 0 c0 (.load lv t) = some (t, code, K, c1))
    (haddr : lvAddr (m.get .rbp) off σ lv = some (frameAddr (m.get .rbp) (off i), σ0))
    (hnc : noConflictL lv = true) (hwf : wfL lv = true) (hti : σ.tys[i]? = some t) (hv : σ0.vals[i]? = some v)
    (hf : FrameX σ off toff K (depthL lv) m) :
    ∃ m', runJ code.length code 0 m = some m' ∧ Represents t (m'.get .rax) v ∧ m'.get .rsp = m.get .rsp ∧
      m'.get .rbp = m.get .rbp ∧ FrameX σ0 off toff K (depthL lv) m' ∧
      (∀ a : BitVec 64, (m.get .rsp).toNat ≤ a.toNat → ¬ inVar σ.tys off (m.get .rbp) (wrL lv) a →
        ¬ inTmp toff (m.get .rbp) 0 K a → m'.mem a = m.mem a) := by
  have hnd := (compileL_nodup σ.tys off toff 0 c0 _ t code K c1 hc).nodup
  cases CompL.of_eq hc with
  | load hca =>
    have Ea := addr_ev (Frame.lay off toff K) (m.get .rbp) lv σ _ _ σ0 0 K c0 c1 hca haddr hnc hwf (fun _ _ => trivial) (Nat.le_refl _)
    obtain ⟨m', hrun, rest⟩ := (EvG.loadL (i := i) (t := t) (v := v) Ea (by rw [Ea.1]; exact hti) hv).at_frameX rfl hf
    exact ⟨m', hrun.runJ hnd, rest⟩

/-- non-vacuity: `int x = 7; int *p = &x;` in a concrete frame — `*p` designates `x` -/
example : ∃ code, compileL lvEnv.tys exOff ptrToff 0 1 (.load (.deref 0) .i32) = some (.i32, code, 0, 1) ∧
    lvAddr (lvState.get .rbp) exOff lvEnv (.deref 0) = some (frameAddr (lvState.get .rbp) (exOff 1), lvEnv) ∧
    lvEnv.tys[1]? = some .i32 ∧ lvEnv.vals[1]? = some 7 ∧ FrameX lvEnv exOff ptrToff 0 (depthL (.deref 0)) lvState :=
  ⟨_, rfl, lvAddr_ex, rfl, rfl, lvFrameX 0 _ (by omega) (by decide)⟩

/-- **`lv = e`** (ND_ASSIGN: `gen_addr(lv); push; e; conversion; store`): if the lvalue designates variable `i` of type `t` and
    C11 defines the value `v` of `e` (evaluated after the index expression of the lvalue: chibicc's order; C11 leaves the two
    unsequenced, and under the no-conflict condition the order is immaterial), the code terminates, leaves `%rax`
    representing the converted value — the value of the assignment expression —, and the frame holds the store after `e`
    with `i` set to `(t)v`; nothing else at or above `%rsp` changes. -/
theorem C01_lvalue_assign (σ : Env) (off toff : Nat → Int) (lv : LVal) (t : ITy) (e : E) (code : List JI) (K c0 c1 : Nat)
    (σ0 σ1 : Env) (i : Nat) (v : Int) (m : State)
    (hc : compileL σ.tys off toff 0 c0 (.assign lv t e) = some (t, code, K, c1))
    (haddr : lvAddr (m.get .rbp) off σ lv = some (frameAddr (m.get .rbp) (off i), σ0))
    (hv : evalE σ0 e = some (v, σ1)) (hnc : noConflictL lv = true) (hnce : noConflict e = true) (hwf : wfL lv = true)
    (hti : σ.tys[i]? = some t) (hf : FrameX σ off toff K (max (depthL lv) (depthJ e + 1)) m) :
    ∃ m', runJ code.length code 0 m = some m' ∧ Represents t (m'.get .rax) (convert t v) ∧ m'.get .rsp = m.get .rsp ∧
      m'.get .rbp = m.get .rbp ∧ FrameX (σ1.set i (convert t v)) off toff K (max (depthL lv) (depthJ e + 1)) m' ∧
      (∀ a : BitVec 64, (m.get .rsp).toNat ≤ a.toNat → ¬ inVar σ.tys off (m.get .rbp) (wrL lv ++ (i :: wr e)) a →
        ¬ inTmp toff (m.get .rbp) 0 K a → m'.mem a = m.mem a) := by
  have hnd := (compileL_nodup σ.tys off toff 0 c0 _ t code K c1 hc).nodup
  cases CompL.of_eq hc with
  | @assign _ _ _ ca ka cca te ce _ _ hca hce =>
    have fe := compileJ_facts σ.tys off toff e ka cca te ce K c1 hce
    have Ea := addr_ev (Frame.lay off toff K) (m.get .rbp) lv σ ca _ σ0 0 ka c0 cca hca haddr hnc hwf (fun _ _ => trivial) fe.k
    have Ee := (value_g (Frame.lay off toff K) (AtBp (m.get .rbp)) e σ0 te ce v σ1 ka K cca c1 (by rw [Ea.1]; exact hce) hv hnce
      (fun _ _ => trivial) (Nat.le_refl _)).then_same (R2 := fun r => Represents t r (convert t v)) (fun s hs => cast_run te t s v hs)
    obtain ⟨m', hrun, rest⟩ := (EvG.assignL (k0 := 0) (k1 := K) hti trivial Ea Ee ⟨Nat.le_refl _, fe.k, Nat.zero_le _, Nat.le_refl _⟩
      (fun _ _ => trivial) (Nat.le_refl _)).at_frameX rfl hf
    exact ⟨m', hrun.runJ hnd, rest⟩

/-- non-vacuity: `*p = 300` with `p = &x`: `x` becomes 300 -/
example : ∃ code, compileL lvEnv.tys exOff ptrToff 0 1 (.assign (.deref 0) .i32 (.lit .i64 300)) = some (.i32, code, 0, 1) ∧
    lvAddr (lvState.get .rbp) exOff lvEnv (.deref 0) = some (frameAddr (lvState.get .rbp) (exOff 1), lvEnv) ∧
    evalE lvEnv (.lit .i64 300) = some (300, lvEnv) ∧ lvEnv.tys[1]? = some .i32 ∧
    FrameX lvEnv exOff ptrToff 0 (max (depthL (.deref 0)) (depthJ (.lit .i64 300) + 1)) lvState :=
  ⟨_, rfl, lvAddr_ex, rfl, rfl, lvFrameX 0 _ (by omega) (by decide)⟩

/-- **`lv op= e`** (and `++lv`, `--lv`: `e` the literal 1) — parse.c `to_assign`: `tmp = &lv, *tmp = *tmp op e`, for a member
    `P.x`: `tmp = &P, (*tmp).x = (*tmp).x op e`: if the lvalue designates variable `i` of type `t`, C11 defines the value `v` of
    `e` (type `te`) and `x op v` for the value `x` of `i` after `e` has been evaluated (`compound`: operands converted to the common
    type, the result converted back to `t`), the code terminates, leaves `%rax` representing the new value `r`, and the frame
    holds the store after `e` with `i` set to `r`; the lvalue's address is computed once. -/
theorem C01_lvalue_opassign (σ : Env) (off toff : Nat → Int) (op : BinOp) (lv : LVal) (t te : ITy) (e : E) (code : List JI)
    (K c0 c1 : Nat) (σ0 σ1 : Env) (i : Nat) (v x r : Int) (m : State)
    (hc : compileL σ.tys off toff 0 c0 (.opassign op lv t e) = some (t, code, K, c1))
    (haddr : lvAddr (m.get .rbp) off σ lv = some (frameAddr (m.get .rbp) (off i), σ0))
    (hv : evalE σ0 e = some (v, σ1)) (hte : typeOf σ e = some te) (hx : σ1.vals[i]? = some x)
    (hr : compound op t te x v = some r)
    (hnc : noConflictL lv = true) (hnce : noConflict e = true) (hwf : wfL lv = true) (hti : σ.tys[i]? = some t)
    (hf : FrameX σ off toff K (max (depthL lv + 1) (max (depthJ e + 1) 2)) m) :
    ∃ m', runJ code.length code 0 m = some m' ∧ Represents t (m'.get .rax) r ∧ m'.get .rsp = m.get .rsp ∧
      m'.get .rbp = m.get .rbp ∧ FrameX (σ1.set i r) off toff K (max (depthL lv + 1) (max (depthJ e + 1) 2)) m' ∧
      (∀ a : BitVec 64, (m.get .rsp).toNat ≤ a.toNat → ¬ inVar σ.tys off (m.get .rbp) (wrL lv ++ (i :: wr e)) a →
        ¬ inTmp toff (m.get .rbp) 0 K a → m'.mem a = m.mem a) := by
  have hnd := (compileL_nodup σ.tys off toff 0 c0 _ t code K c1 hc).nodup
  cases CompL.of_eq hc with
  | @opassign _ _ _ _ cp ka cca te' ce ke _ hcomp hca hce =>
    obtain ⟨ap, dd, hap, hsum, hds⟩ := lvAddr_split _ off σ lv _ σ0 haddr
    obtain ⟨s1, s2, s3, s4⟩ := split_facts lv
    have fe := compileJ_facts σ.tys off toff e ka cca te' ce ke c1 hce
    have hte' : te' = te := by have := fe.ty σ rfl; rw [hte] at this; exact (Option.some.inj this).symm
    subst hte'
    have Ep := addr_ev (Frame.lay off toff (ke + 1)) (m.get .rbp) _ σ cp ap σ0 0 ka c0 cca hca hap (by rw [s1]; exact hnc)
      (by rw [s2]; exact hwf) (fun _ _ => trivial) (by have := fe.k; show ka ≤ ke + 1; omega)
    have Ee := value_g (Frame.lay off toff (ke + 1)) (AtBp (m.get .rbp)) e σ0 te' ce v σ1 ka ke cca c1 (by rw [Ep.1]; exact hce) hv hnce
      (fun _ _ => trivial) (by show ke ≤ ke + 1; omega)
    simp only [compound, Option.map_eq_some_iff] at hr
    obtain ⟨y, hy, rfl⟩ := hr
    obtain ⟨m', hrun, rest⟩ := (EvG.compoundL (k0 := 0) hti trivial Ep hsum hds Ee hx hcomp hy
      ⟨Nat.le_refl _, fe.k, Nat.zero_le _, Nat.le_refl _⟩ fe.k (fun _ _ => trivial) (fun _ _ => trivial)
      (by show ke < ke + 1; omega)).at_frameX rfl (by rw [s4]; exact hf)
    rw [s3, s4] at rest
    exact ⟨m', hrun.runJ hnd, rest⟩

/-- non-vacuity: `*p *= 3` with `p = &x`, `x = 7`: `x` becomes 21 (one hidden temporary) -/
example : ∃ code, compileL lvEnv.tys exOff ptrToff 0 1 (.opassign .mul (.deref 0) .i32 (.lit .i32 3)) = some (.i32, code, 1, 1) ∧
    lvAddr (lvState.get .rbp) exOff lvEnv (.deref 0) = some (frameAddr (lvState.get .rbp) (exOff 1), lvEnv) ∧
    evalE lvEnv (.lit .i32 3) = some (3, lvEnv) ∧ typeOf lvEnv (.lit .i32 3) = some .i32 ∧ lvEnv.vals[1]? = some 7 ∧
    compound .mul .i32 .i32 7 3 = some 21 ∧ lvEnv.tys[1]? = some .i32 ∧
    FrameX lvEnv exOff ptrToff 1 (max (depthL (.deref 0) + 1) (max (depthJ (.lit .i32 3) + 1) 2)) lvState :=
  ⟨_, rfl, lvAddr_ex, rfl, rfl, rfl, by decide, rfl, lvFrameX 1 _ (by omega) (by decide)⟩

/-- **value and side effects of every expression of the type `E` whose objects are reached through lvalues other than plain
    variables** — `s.m`, `p->m`, `*p`, `a[c]`, `p[c]`, … *anywhere* in the expression: as operands, assigned, compound-assigned,
    incremented.  The variables of the store are the scalar objects of the program; `lvs[i]` is the lvalue by which the program
    designates object `i` (objects beyond the table are plain variables), `accOfL` the `gen_addr` code of these lvalues
    (side-effect-free: index expressions in the `compileE` fragment) and `compileA` the code `gen_expr` emits with them
    (Model/C01ExprA).  Hypotheses: every object the expression accesses is designated by its lvalue in the initial store
    (`lvAddr` = the address of `i`), the lvalue passes the syntactic check `lvOK`, and the variables on which addresses depend
    (`D`: the pointers dereferenced, the index variables) are not assigned by the expression — so every lvalue designates the
    same object whenever it is evaluated.  Conclusion as in `C01_value_full`: termination within the code length, `%rax`
    represents the C11 value in the C11 type, the frame holds the C11 store.  By the induction `value_a` (Lemmas/C01ValueA.lean)
    over the access combinators (`EvG.loadL`, `EvG.assignL`, `EvG.assign_tmp` incl. the member rewriting of `op=`). -/
theorem C01_value_lvalues (σ : Env) (off toff : Nat → Int) (lvs : List LVal) (D : List Nat) (e : E) (t : ITy) (code : List JI)
    (K c0 c1 : Nat) (v : Int) (σ' : Env) (m : State)
    (hc : compileA σ.tys toff (accOfL σ.tys off lvs) 0 c0 e = some (t, code, K, c1))
    (hv : evalE σ e = some (v, σ')) (hnc : noConflict e = true)
    (hobj : ∀ i, i ∈ objs e → lvOK σ.tys off D (lvOf lvs i) = true ∧
      ∃ σx, lvAddr (m.get .rbp) off σ (lvOf lvs i) = some (frameAddr (m.get .rbp) (off i), σx))
    (hD : ∀ i, i ∈ wr e → i ∉ D)
    (hf : FrameX σ off toff K (depthA (accOfL σ.tys off lvs) e) m) :
    ∃ m', runJ code.length code 0 m = some m' ∧ Represents t (m'.get .rax) v ∧ typeOf σ e = some t ∧
      m'.get .rsp = m.get .rsp ∧ m'.get .rbp = m.get .rbp ∧ FrameX σ' off toff K (depthA (accOfL σ.tys off lvs) e) m' ∧
      (∀ a : BitVec 64, (m.get .rsp).toNat ≤ a.toNat → ¬ inVar σ.tys off (m.get .rbp) (wr e) a →
        ¬ inTmp toff (m.get .rbp) 0 K a → m'.mem a = m.mem a) := by
  have fc := compileA_facts σ.tys toff _ e 0 c0 t code K c1 hc
  have hA : ∀ i, i ∈ objs e → AccOK (Frame.lay off toff K) (m.get .rbp) (accOfL σ.tys off lvs) D σ i := by
    intro i hi
    obtain ⟨hok, σx, hdes⟩ := hobj i hi
    exact accOK_of_table (Frame.lay off toff K) (m.get .rbp) D σ lvs i σx hok hdes
  obtain ⟨m', hrun, hrep, rest⟩ := (value_a (Frame.lay off toff K) (m.get .rbp) _ D σ (CompA.of_eq e hc) σ v σ' rfl (Agr.refl _ _)
    (fun i hi => ⟨hD i hi, trivial⟩) hA (Eval.of_evalE e hv) hnc (Nat.le_refl _)).at_frameX rfl hf
  exact ⟨m', hrun.runJ fc.nodup, hrep, fc.ty σ rfl, rest⟩

/-- the expression of the non-vacuity example: `*p = *p * 3 + 1` with `p = &x` (object 1 is designated by `*p`) -/
def exLE : E := .assign 1 (.bin .add (.bin .mul (.var 1) (.lit .i32 3)) (.lit .i32 1))

/-- non-vacuity: `int x = 7; int *p = &x; *p = *p * 3 + 1` in a concrete frame: the hypotheses hold, `x` becomes 22 -/
example : ∃ code, compileA lvEnv.tys ptrToff (accOfL lvEnv.tys exOff [.var 0, .deref 0]) 0 1 exLE = some (.i32, code, 0, 1) ∧
    evalE lvEnv exLE = some (22, ⟨[.u64, .i32], [0x1ff0, 22]⟩) ∧ noConflict exLE = true ∧
    (∀ i, i ∈ objs exLE → lvOK lvEnv.tys exOff [0] (lvOf [.var 0, .deref 0] i) = true ∧
      ∃ σx, lvAddr (lvState.get .rbp) exOff lvEnv (lvOf [.var 0, .deref 0] i) = some (frameAddr (lvState.get .rbp) (exOff i), σx)) ∧
    (∀ i, i ∈ wr exLE → i ∉ [0]) ∧
    FrameX lvEnv exOff ptrToff 0 (depthA (accOfL lvEnv.tys exOff [.var 0, .deref 0]) exLE) lvState := by
  refine ⟨_, rfl, rfl, rfl, ?_, ?_, lvFrameX 0 _ (by omega) (by decide)⟩
  · intro i hi
    have : i = 1 := by simpa [objs, exLE] using hi
    subst this
    exact ⟨by decide, lvEnv, lvAddr_ex⟩
  · intro i hi
    have : i = 1 := by simpa [wr, exLE] using hi
    subst this
    decide

/-- with every object a plain variable `compileA` is `compileJ`: `C01_value_lvalues` extends `C01_value_full` -/
theorem C01_value_lvalues_extends (tys : List ITy) (off toff : Nat → Int) (e : E) (k c : Nat) :
    compileA tys toff (Acc.direct off) k c e = compileJ tys off toff k c e :=
  compileA_direct tys off toff e k c

example : compileJ exEnv.tys exXOff exXToff 0 1 exJE ≠ none := by decide

/-- one step on a value already in `%rax`: the conjunction of `C01_cast`, `C01_lognot` and the two instances `-`, `~` of
    `C01_unary_full`; a leaf followed by any chain of casts and unary operators is `C01_load` and these applied in sequence. -/
theorem C01_value_partial (t t2 : ITy) (s : State) (v : Int) (h : Represents t (s.get .rax) v) :
    (∃ s', X86.run (castSeq t t2) s = some s' ∧ Represents t2 (s'.get .rax) (convert t2 v)) ∧
    (∃ s', X86.run (unSeq .ND_NOT t) s = some s' ∧ Represents .i32 (s'.get .rax) (b2i (v = 0))) ∧
    (∀ x, unop .neg t v = some x → ∃ s', X86.run (castSeq t (promote t) ++ unSeq .ND_NEG (promote t)) s = some s' ∧
        Represents (promote t) (s'.get .rax) x) ∧
    (∀ x, unop .bitnot t v = some x → ∃ s', X86.run (castSeq t (promote t) ++ unSeq .ND_BITNOT (promote t)) s = some s' ∧
        Represents (promote t) (s'.get .rax) x) :=
  ⟨C01_cast t t2 s v h, C01_lognot t s v h,
   fun x hx => C01_unary_full .ND_NEG .neg rfl (by decide) t s v x h hx,
   fun x hx => C01_unary_full .ND_BITNOT .bitnot rfl (by decide) t s v x h hx⟩

/-! ## `++` / `--` (parse.c `new_inc_dec`) -/

/-- region of the known finding C01-bool-postfix-incdec: the operand has type `_Bool` and is a bit-field member or
    `_Atomic` (for these `new_inc_dec` still computes `(T)((x += addend) - addend)`) -/
def BoolPostfixIncDec (T : ITy) (viaObject : Bool) : Prop := T = .bool ∧ viaObject = false
instance (T : ITy) (b : Bool) : Decidable (BoolPostfixIncDec T b) := by unfold BoolPostfixIncDec; exact inferInstance

/-- full statement: chibicc's rewriting of postfix `++`/`--` has the C11 value and side effect whenever C11 defines it.
    False for `_Bool` bit-fields / `_Atomic _Bool` (Findings/C01.lean). -/
def C01_incdec_Statement : Prop :=
  ∀ (T : ITy) (viaObject : Bool) (x addend : Int), T.inRange x → (addend = 1 ∨ addend = -1) →
    ∀ res, specPostfix T x addend = some res → chibiPostfix T viaObject x addend = some res

/-- **postfix `++`/`--`** for every integer type, every value, both routes of `new_inc_dec`, outside the known-finding
    region: the expression has the old value of the operand and the object receives `x ± 1` converted to its type. -/
theorem C01_incdec_partial (T : ITy) (viaObject : Bool) (hT : ¬ BoolPostfixIncDec T viaObject) (x addend : Int)
    (hx : T.inRange x) (ha : addend = 1 ∨ addend = -1) (res : Int × Int) (h : specPostfix T x addend = some res) :
    chibiPostfix T viaObject x addend = some res := by
  unfold chibiPostfix
  by_cases hb : T = .bool
  · have hv : viaObject = true := by
      cases viaObject
      · exact absurd ⟨hb, rfl⟩ hT
      · rfl
    simp only [hb, hv, and_self, if_true]
    rw [hb] at h
    exact h
  · simp only [hb, false_and, if_false]
    exact incdec_value T hb x addend hx ha res h

example : specPostfix .u8 255 1 = some (255, 0) := by decide

end ChibiVerif.Props.C01
