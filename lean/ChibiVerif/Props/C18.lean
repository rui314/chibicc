/-
C18 — source positions survive preprocessing.

Property theorems and the two full statements that are refuted (`C18_line_Statement`, `C18_line_directive_Statement`).  Helper
lemmas: Lemmas/LineNoLemmas.lean, LineNoUCN.lean, LineNoMarkers.lean — the `#line` marker list —, LineNoSched.lean — all
processing orders —, LineNoPP.lean — origins in the expansion model; model: Model/LineNo.lean, for `C18_macro_origin_pp`
Model/PP.lean; spec: Spec/LineSpec.lean.  Notions of the statements that are defined with the lemmas: `startsLogicalLine`,
`enterAll` (LineNoLemmas); `Ev.isDir`, `Ev.off`, `Ev.lineIn`, `stateAfter`, `dirsOf`, `MarkersPositive` (LineNoMarkers);
`FileOrder`, `Sched`, `specOut` (LineNoSched).
Every theorem is for ALL byte sequences / offsets / event lists; bytes are `Nat`s.

What is proved, and what is not:
* the three text phases keep the newline bookkeeping they promise (`C18_newlines_preserved`);
* the EXACT relation between the line chibicc computes and the physical line, for every token of every file
  (`C18_line_formula`: computed + backslash-newlines before the token on its logical line = physical);
  hence equality outside the region `spliceBefore` (`C18_line_partial`, `C18_reported_partial`);
* the full statement `C18_line_Statement` is FALSE (known finding `C18-line-after-splice`, Findings/C18.lean);
* a `#line`-family directive applies to the lines BELOW it and to nothing else, whenever a token is processed: the reported
  line of a token below it is `N + (line(tok) − line(directive))`, one more than C11 6.10.4p3
  (`C18_line_directive_characterised`; the full `C18_line_directive_Statement` is FALSE — known finding
  `C18-line-directive-off-by-one`); a token at or above the directive is not touched by it, even when it is processed after
  it — the body of a macro defined above the directive and expanded below it — (`C18_line_directive_not_retroactive`);
  the line and the file name reported are a function of the token's position and of the directives of the file as a
  collection (`C18_line_directive_order_independent`, against the positional `Spec.Line.inForce`), in EVERY order in which
  `preprocess2` can meet the tokens of a file — directives at their turn, any other token at its turn or any time later,
  any number of times, out of a macro body (`C18_line_directive_all_schedules`); the reported line is ≥ 1
  for every event order whenever the operands are ≥ 1 (`C18_line_directive_positional`; the code before the repair
  reported line −8, Findings/C18.lean); the file name part is right for all inputs (`C18_file_directive`);
* `convert_universal_chars`, the last pass before `tokenize`, moves no byte to another line (`C18_ucn_lines_kept`), so
  everything above holds for the text `tokenize` really numbers (`C18_line_final_partial`);
* diagnostics, `.loc` and `.file` carry exactly these numbers (`C18_add_line_numbers`, `C18_diag_loc`, `C18_loc_records`),
  `__LINE__`/`__FILE__` use the outermost invocation token and synthesised tokens keep their template's line
  (`C18_macro_origin`); the same fact on the macro-expansion model of C09 (Model/PP.lean, `expand_macro` with argument
  collection, substitution, hide sets): every token of an expansion carries the invoking token's origin line and `__LINE__`
  expands to it (`C18_macro_origin_pp`).
-/
import ChibiVerif.Model.LineNo
import ChibiVerif.Spec.LineSpec
import ChibiVerif.Lemmas.LineNoLemmas
import ChibiVerif.Lemmas.LineNoUCN
import ChibiVerif.Lemmas.LineNoMarkers
import ChibiVerif.Lemmas.LineNoPP
import ChibiVerif.Lemmas.LineNoSched

namespace ChibiVerif.Props.C18
open ChibiVerif.LineNo
open ChibiVerif.Spec.Line (countTerm physLine pendingSplices spliceBefore presumedLine Dir inForce presumedLineAt presumedFileAt)

/-- **C18 (the three phases keep the newline bookkeeping).**
    1. `remove_backslash_newline` preserves the total number of '\n';
    2. for every position that starts a logical line (start of text, or just after a '\n' not preceded by a backslash),
       the output splits at the image of that position, the part before it has the same number of '\n' as the input
       prefix, and the part after it is the function applied to the rest (the counter is 0 there);
    3. `canonicalize_newline` turns each CR LF / CR / LF into exactly one '\n' (their number is the spec's count of
       line terminators), leaves no CR, and leaves all other bytes unchanged and in order;
    4. skipping the BOM changes neither count; `read_file`'s final newline changes nothing before any byte of the file. -/
theorem C18_newlines_preserved :
    (∀ p : List Nat, countLF (removeBackslashNewline p) = countLF p) ∧
    (∀ pre rest : List Nat, startsLogicalLine pre = true →
        ∃ pre', removeBackslashNewline (pre ++ rest) = pre' ++ removeBackslashNewline rest ∧
                countLF pre' = countLF pre) ∧
    (∀ l : List Nat, countLF (canonicalizeNewline l) = countTerm 0 l ∧ CR ∉ canonicalizeNewline l ∧
        (canonicalizeNewline l).filter (fun b => b != LF) = l.filter (fun b => b != CR && b != LF)) ∧
    (∀ p : List Nat, countLF (skipBOM p) = countLF p ∧ countTerm 0 (skipBOM p) = countTerm 0 p) ∧
    (∀ (p : List Nat) (off : Nat), off ≤ p.length → (ensureFinalNewline p).take off = p.take off) := by
  refine ⟨fun p => by simpa [removeBackslashNewline] using countLF_splice p 0, ?_, ?_, ?_, ?_⟩
  · intro pre rest h
    obtain ⟨h0, hcut⟩ := pendCanon_logical_start pre h
    refine ⟨spliceEmit pre 0, ?_, ?_⟩
    · unfold removeBackslashNewline; rw [splice_append _ _ _ 0 (.inl (by decide)) (hcut rest), h0]
    · have := countLF_spliceEmit pre 0 0 (.inl (by decide)); omega
  · intro l
    exact ⟨countLF_canon 0 l (by simp), lineNo_isCanon.no_cr l, canon_others l⟩
  · intro p
    exact ⟨countLF_skipBOM p, countTerm_skipBOM p⟩
  · exact ensureFinalNewline_take

/-- non-vacuity of part 2: after `a\⏎b⏎` (one splice, then a real newline) position 5 starts a logical line; the
    input has 2 newlines before it and so has the output (`ab⏎⏎`), although the first input newline was removed -/
example : startsLogicalLine [97, 92, 10, 98, 10] = true ∧
    removeBackslashNewline ([97, 92, 10, 98, 10] ++ [99, 10]) = [97, 98, 10, 10] ++ removeBackslashNewline [99, 10] := by
  decide +kernel

/-- **C18 (exact line formula, every token of every file).**  For every byte sequence and every offset at which a
    token can start, the line number chibicc's tokenizer computes (number of '\n' before the image of the offset in the
    text after BOM skip, `canonicalize_newline` and `remove_backslash_newline`, plus 1) plus the number of
    backslash-newlines between the start of the token's logical line and the token equals the physical line
    (1 + number of LF / CR / CR LF terminators before the offset in the original bytes). -/
theorem C18_line_formula (bytes : List Nat) (off : Nat) (h : tokenStart bytes off = true) :
    lineNoAt bytes off + pendingSplices bytes off = physLine bytes off := by
  obtain ⟨c, pre, tail, _, _, hlt, hbom, hpre, hpos, hst⟩ := sourceText_split bytes off h
  unfold lineNoAt lineNoOf
  rw [hpos, hst, List.take_left']
  · -- on the prefix before the token: newlines written + pending = newlines read = terminators of the file
    have hwritten := countLF_spliceEmit (canonicalizeNewline pre) 0 0 (.inl (by decide))
    have hread := countLF_canon 0 pre (by simp [CR])
    have hpend := pendingAt_canon pre 0 0 0 (by simp [BSL]) (by simp [CR])
    have hskip := skipBOM_prefix (ensureFinalNewline bytes) off hbom
    rw [← hpre] at hskip
    rw [ensureFinalNewline_take _ _ (Nat.le_of_lt hlt)] at hskip
    unfold pendingSplices physLine
    rw [← hskip.1, ← hskip.2 0, hpend, ← hread]
    omega
  · rfl

/-- … and `posMap` is the right image: the byte found there is the byte of the file -/
theorem C18_posMap_faithful (bytes : List Nat) (off c : Nat) (h : tokenStart bytes off = true)
    (hc : bytes[off]? = some c) (hB : c ≠ BSL) :
    (sourceText bytes)[posMap bytes off]? = some c := by
  obtain ⟨c', pre, tail, hc', hLF, _, _, _, hpos, hst⟩ := sourceText_split bytes off h
  rw [hc] at hc'; cases hc'
  rw [hpos, hst, List.getElem?_append_right (Nat.le_refl _), Nat.sub_self, ← List.head?_eq_getElem?]
  exact splice_cons_ne _ _ _ hLF hB

/-- non-vacuity: `/* c␍⏎ c */ x \␍⏎ y␍z⏎` — `x` (offset 12) is on physical line 2 with no splice before it,
    `y` (offset 18) on physical line 3 with one splice before it (computed 2), `z` (offset 20) on line 4. -/
example :
    let f := [47, 42, 32, 99, 13, 10, 32, 99, 32, 42, 47, 32, 120, 32, 92, 13, 10, 32, 121, 13, 122, 10]
    tokenStart f 12 = true ∧ lineNoAt f 12 = 2 ∧ pendingSplices f 12 = 0 ∧ physLine f 12 = 2 ∧
    tokenStart f 18 = true ∧ lineNoAt f 18 = 2 ∧ pendingSplices f 18 = 1 ∧ physLine f 18 = 3 ∧
    tokenStart f 20 = true ∧ lineNoAt f 20 = 4 ∧ pendingSplices f 20 = 0 ∧ physLine f 20 = 4 ∧
    (sourceText f)[posMap f 18]? = some 121 := by
  decide +kernel

/-- **C18 (no overrun in `convert_universal_chars`).**  The text handed to that pass always ends in '\n', for every file
    (empty, ending in a backslash, in CR, in a BOM …), so its arm `*q++ = *p++; *q++ = *p++;` never copies the terminator
    and runs past it (the model's `[] => [(a, s)]` arm of `convertUCNAux` is never taken). -/
theorem C18_text_ends_newline (bytes : List Nat) : (sourceText bytes).getLast? = some LF := by
  unfold sourceText removeBackslashNewline
  exact splice_last _ _ (canon_last _ (skipBOM_last _ (ensureFinalNewline_last bytes)))

/-- **C18 (`convert_universal_chars` keeps lines).**  Every byte of the text `tokenize` numbers has the line number that the
    byte it came from had before the pass (the pass rewrites `\uXXXX` / `\UXXXXXXXX` into UTF-8 but leaves a name for U+000A
    alone, so every '\n' it writes is a copy of one it read — for all texts). -/
theorem C18_ucn_lines_kept (bytes : List Nat) (k : Nat) (e : Nat × Nat)
    (hk : (convertUCN (sourceText bytes))[k]? = some e) :
    lineNoOf (tokenizerText bytes) k = lineNoOf (sourceText bytes) e.2 := by
  unfold lineNoOf tokenizerText
  rw [convertUCN_lines _ k e hk]

/-- non-vacuity, and the pass does shorten the text: `"\u00e9"⏎⏎x` — `x` is at offset 10 of the file and of the text before the
    pass, at offset 6 after it, on line 3 in both -/
example :
    let f := [34, 92, 117, 48, 48, 101, 57, 34, 10, 10, 120]
    posMap f 10 = 10 ∧ finalPos f 10 = 6 ∧
    (convertUCN (sourceText f))[6]? = some (120, 10) ∧ lineNoFinal f 10 = 3 ∧ lineNoAt f 10 = 3 := by
  decide +kernel

/-- the full statement: every token's computed line is its physical line.  FALSE — Findings/C18.lean. -/
def C18_line_Statement : Prop :=
  ∀ (bytes : List Nat) (off : Nat), tokenStart bytes off = true → lineNoAt bytes off = physLine bytes off

/-- **C18 (line numbers, outside the known region).**  For every byte sequence (any number of blank lines, comments
    spanning lines, backslash-newlines elsewhere — inside tokens, strings, comments, at end of file —, LF / CR / CR LF
    in any mix, optional BOM, missing final newline) and every token start with no backslash-newline before it on its
    own logical line, the computed line number is the physical line. -/
theorem C18_line_partial (bytes : List Nat) (off : Nat) (h : tokenStart bytes off = true)
    (hs : spliceBefore bytes off = false) :
    lineNoAt bytes off = physLine bytes off := by
  have := C18_line_formula bytes off h
  have h0 : pendingSplices bytes off = 0 := by simpa [spliceBefore] using hs
  omega

/-- **C18 (line numbers as `add_line_numbers` computes them, outside the known region).**  The same for the text after
    `convert_universal_chars`, which is the one `tokenize` numbers: if the byte at file offset `off` survives into that text
    (`finalPos` finds it: it is not one of the bytes `\uXXXX` that were replaced). -/
theorem C18_line_final_partial (bytes : List Nat) (off : Nat) (h : tokenStart bytes off = true)
    (hs : spliceBefore bytes off = false)
    (hf : finalPos bytes off < (convertUCN (sourceText bytes)).length) :
    lineNoFinal bytes off = physLine bytes off := by
  unfold lineNoFinal
  generalize hidx : finalPos bytes off = idx at hf
  have hk : (convertUCN (sourceText bytes))[idx]? = some ((convertUCN (sourceText bytes))[idx]) :=
    List.getElem?_eq_getElem hf
  rw [C18_ucn_lines_kept bytes _ _ hk]
  have he : ((convertUCN (sourceText bytes))[idx]).2 = posMap bytes off := by
    subst hidx
    have := List.findIdx_getElem (w := hf)
    simp only [beq_iff_eq] at this
    exact this
  rw [he]
  exact C18_line_partial bytes off h hs

/-- non-vacuity: `/* \u000a */⏎x` — the comment spells a universal character name for a newline; `x` (offset 13) is found at
    offset 13 of the tokenizer's text and is on line 2 -/
example :
    let f := [47, 42, 32, 92, 117, 48, 48, 48, 97, 32, 42, 47, 10, 120, 10]
    tokenStart f 13 = true ∧ spliceBefore f 13 = false ∧ finalPos f 13 = 13 ∧
    finalPos f 13 < (convertUCN (sourceText f)).length ∧ lineNoFinal f 13 = 2 := by
  decide +kernel

/-- non-vacuity: BOM, a blank line, a CR-only and a CR LF line end, a comment spanning two lines, a splice inside the
    comment and one at the end of an earlier logical line: `﻿⏎a\⏎b␍/* \⏎ */␍⏎x` — `x` at offset 19 is on line 6 -/
example :
    let f := [239, 187, 191, 10, 97, 92, 10, 98, 13, 47, 42, 32, 92, 10, 32, 42, 47, 13, 10, 120]
    tokenStart f 19 = true ∧ spliceBefore f 19 = false ∧ lineNoAt f 19 = 6 := by
  decide +kernel

/-- **C18 (what is reported, outside both known regions).**  In a file none of whose `#line`-family directives processed so far
    lies above the token (any events before; directives further down the file — e.g. read before a macro whose body holds the
    token is expanded — are allowed), for a token / `__LINE__` invocation / `__FILE__` invocation whose (outermost) token
    starts at file offset `off` with no splice before it on its logical line: the token's final `line_no` is its physical line
    and its `filename` the file's name; `__LINE__` is the physical line; `__FILE__` is the file's name. -/
theorem C18_reported_partial (bytes : List Nat) (name : String) (fileNo : Nat) (evs : List Ev) (off : Nat)
    (hnd : ∀ d ∈ dirsOf (sourceText bytes) evs, lineNoAt bytes off ≤ d.line)
    (h : tokenStart bytes off = true) (hs : spliceBefore bytes off = false) :
    (runFile (sourceText bytes) (newFile name fileNo) (evs ++ [.tok (posMap bytes off)])).getLast?
        = some (.tok (physLine bytes off) name) ∧
    (runFile (sourceText bytes) (newFile name fileNo) (evs ++ [.lineMac (posMap bytes off)])).getLast?
        = some (.line (physLine bytes off)) ∧
    (runFile (sourceText bytes) (newFile name fileNo) (evs ++ [.fileMac (posMap bytes off)])).getLast?
        = some (.file name) := by
  have hl : lineNoOf (sourceText bytes) (posMap bytes off) = physLine bytes off := C18_line_partial bytes off h hs
  -- the three probes alike; `mk` leaves the offset a variable, so that `(mk o).off = o` is not checked by unfolding `posMap`
  have key : ∀ mk : Nat → Ev, (∀ o, (mk o).isDir = false) → (∀ o, (mk o).off = o) →
      (runFile (sourceText bytes) (newFile name fileNo) (evs ++ [mk (posMap bytes off)])).getLast?
        = some ((mk (posMap bytes off)).report (physLine bytes off) name) := by
    intro mk he ho
    have hle : (mk (posMap bytes off)).lineIn (sourceText bytes) = physLine bytes off := by rw [Ev.lineIn, ho, hl]
    rw [← List.nil_append evs, probe_after _ _ [] evs _ (he _) (by rw [Ev.lineIn, ho]; exact hnd), probeOut, hle]
    -- a fresh file has no marker: `deltaAt (newFile …) _` unfolds to `0` and `nameAt (newFile …) _` to `name`
    exact congrArg (fun l => some (Ev.report _ l name)) (Int.add_zero _)
  exact ⟨key .tok (fun _ => rfl) (fun _ => rfl), key .lineMac (fun _ => rfl) (fun _ => rfl),
    key .fileMac (fun _ => rfl) (fun _ => rfl)⟩

/-- non-vacuity: `a\⏎b⏎c⏎`, events `a`, `__LINE__` at `b`… then `c` (offset 5, physical line 3) -/
example : (runFile (sourceText [97, 92, 10, 98, 10, 99, 10]) (newFile "t.c" 1)
    ([.tok 0, .lineMac 1] ++ [.tok (posMap [97, 92, 10, 98, 10, 99, 10] 5)])).getLast? = some (.tok 3 "t.c") := by
  decide +kernel

/-- non-vacuity with a directive processed BEFORE the token that lies BELOW it: `m⏎#line 9⏎u⏎` — the token `m` (offset 0,
    line 1: a macro body) is passed on after `#line 9` (line 2) was read, and is still reported on line 1 -/
example :
    let b := [109, 10, 35, 108, 105, 110, 101, 32, 57, 10, 117, 10]
    (∀ d ∈ dirsOf (sourceText b) [.lineDir (posMap b 2) 9 none, .tok (posMap b 10)], lineNoAt b 0 ≤ d.line) ∧
    runFile (sourceText b) (newFile "t.c" 1) ([.lineDir (posMap b 2) 9 none, .tok (posMap b 10)] ++ [.tok (posMap b 0)])
      = [.tok 10 "t.c", .tok 1 "t.c"] := by
  decide +kernel

/-- the full statement for `#line`: a token below `#line N ["name"]` (no further directive above the token) is reported
    on presumed line `N + (physLine tok − physLine directive − 1)` (C11 6.10.4p3) under the directive's file name.
    FALSE — Findings/C18.lean. -/
def C18_line_directive_Statement : Prop :=
  ∀ (bytes : List Nat) (f : File) (pre post : List Ev) (d : Nat) (n : Int) (name : Option String) (off : Nat),
    (∀ x ∈ dirsOf (sourceText bytes) post, lineNoAt bytes off ≤ x.line) → lineNoAt bytes d < lineNoAt bytes off →
    tokenStart bytes off = true → tokenStart bytes d = true →
    spliceBefore bytes off = false → spliceBefore bytes d = false →
    (runFile (sourceText bytes) f (pre ++ .lineDir (posMap bytes d) n name :: post ++ [.tok (posMap bytes off)])).getLast?
      = some (.tok (presumedLine n (physLine bytes off) (physLine bytes d))
                   (name.getD (stateAfter (sourceText bytes) f pre).displayName))

/-- **C18 (`#line` arithmetic, exact).**  A directive `#line N`, `#line N "name"` or `# N "name"` whose `#` is at offset `d`,
    and a token at `off` BELOW it (`habove`), processed at any later time, such that no directive processed in between lies
    above the token (`hpost`: directives further down the file may have been read already): the token's final line and
    `__LINE__` are `N + (computed line of the token − computed line of the directive)`; outside the splice region that is
    `N + (physLine tok − physLine directive)` = the C11 presumed line **plus one**, and "below" is below physically.
    Whatever happened before the directive (`pre`, earlier directives included) has no influence. -/
theorem C18_line_directive_characterised (bytes : List Nat) (f : File) (pre post : List Ev) (d : Nat) (n : Int)
    (name : Option String) (off : Nat)
    (hpost : ∀ x ∈ dirsOf (sourceText bytes) post, lineNoAt bytes off ≤ x.line)
    (habove : lineNoAt bytes d < lineNoAt bytes off) :
    let text := sourceText bytes
    let disp := name.getD (stateAfter text f pre).displayName
    ((runFile text f (pre ++ .lineDir (posMap bytes d) n name :: post ++ [.tok (posMap bytes off)])).getLast?
        = some (.tok (n + ((lineNoAt bytes off : Int) - (lineNoAt bytes d : Int))) disp) ∧
     (runFile text f (pre ++ .lineDir (posMap bytes d) n name :: post ++ [.lineMac (posMap bytes off)])).getLast?
        = some (.line (n + ((lineNoAt bytes off : Int) - (lineNoAt bytes d : Int))))) ∧
    (tokenStart bytes off = true → tokenStart bytes d = true →
      spliceBefore bytes off = false → spliceBefore bytes d = false →
      n + ((lineNoAt bytes off : Int) - (lineNoAt bytes d : Int))
        = presumedLine n (physLine bytes off) (physLine bytes d) + 1 ∧
      physLine bytes d < physLine bytes off) := by
  intro text disp
  -- both probes alike (`mk` as in `C18_reported_partial`): the directive just read is the one in force
  have key : ∀ mk : Nat → Ev, (∀ o, (mk o).isDir = false) → (∀ o, (mk o).off = o) →
      (runFile text f (pre ++ .lineDir (posMap bytes d) n name :: post ++ [mk (posMap bytes off)])).getLast?
        = some ((mk (posMap bytes off)).report (n + ((lineNoAt bytes off : Int) - (lineNoAt bytes d : Int))) disp) := by
    intro mk he ho
    have hle : (mk (posMap bytes off)).lineIn text = lineNoAt bytes off := by rw [Ev.lineIn, ho]; rfl
    rw [probe_after_dir text f pre post _ n name _ (he _) (by rw [hle]; exact hpost),
      probeOut_read_above text _ _ n name _ (by rw [hle]; exact habove), hle]
    exact congrArg (fun l => some (Ev.report _ l disp))
      (show (lineNoAt bytes off : Int) + (n - (lineNoAt bytes d : Int)) = _ by omega)
  refine ⟨⟨key .tok (fun _ => rfl) (fun _ => rfl), key .lineMac (fun _ => rfl) (fun _ => rfl)⟩, ?_⟩
  intro h1 h2 h3 h4
  rw [C18_line_partial bytes off h1 h3, C18_line_partial bytes d h2 h4] at habove ⊢
  unfold presumedLine
  exact ⟨by omega, habove⟩

/-- non-vacuity: `#line 100⏎x⏎`: `x` (offset 10) is reported on line 101 = presumed line 100, plus one -/
example : (runFile (sourceText [35, 108, 105, 110, 101, 32, 49, 48, 48, 10, 120, 10]) (newFile "t.c" 1)
      ([] ++ .lineDir (posMap [35, 108, 105, 110, 101, 32, 49, 48, 48, 10, 120, 10] 0) 100 none :: []
        ++ [.tok (posMap [35, 108, 105, 110, 101, 32, 49, 48, 48, 10, 120, 10] 10)])).getLast?
    = some (.tok 101 "t.c") ∧ presumedLine 100 2 1 = 100 ∧
    lineNoAt [35, 108, 105, 110, 101, 32, 49, 48, 48, 10, 120, 10] 0 < lineNoAt [35, 108, 105, 110, 101, 32, 49, 48, 48, 10, 120, 10] 10 := by
  decide +kernel

/-- **C18 (`#line` is not retroactive).**  A directive has no influence on a token that lies AT OR ABOVE it in the file
    (`hnot`), whenever that token is processed — in particular a token of a macro body defined above the directive and
    expanded below it (`post` then holds whatever was processed in between; its directives lie below the token too): the
    token's final line and file name, `__LINE__` and `__FILE__` are what they are without the directive.
    (The code before the repair applied the delta of the directive read last to every token passed on afterwards:
    Findings/C18.lean, `C18_fixed_line_directive_retroactive`.) -/
theorem C18_line_directive_not_retroactive (text : List Nat) (f : File) (pre post : List Ev) (d : Nat) (n : Int)
    (name : Option String) (off : Nat)
    (hpost : ∀ x ∈ dirsOf text post, lineNoOf text off ≤ x.line)
    (hnot : lineNoOf text off ≤ lineNoOf text d) :
    (runFile text f (pre ++ .lineDir d n name :: post ++ [.tok off])).getLast?
      = (runFile text f (pre ++ post ++ [.tok off])).getLast? ∧
    (runFile text f (pre ++ .lineDir d n name :: post ++ [.lineMac off])).getLast?
      = (runFile text f (pre ++ post ++ [.lineMac off])).getLast? ∧
    (runFile text f (pre ++ .lineDir d n name :: post ++ [.fileMac off])).getLast?
      = (runFile text f (pre ++ post ++ [.fileMac off])).getLast? := by
  have key : ∀ e : Ev, e.isDir = false → e.off = off →
      (runFile text f (pre ++ .lineDir d n name :: post ++ [e])).getLast? = (runFile text f (pre ++ post ++ [e])).getLast? := by
    intro e he ho
    have hle : e.lineIn text = lineNoOf text off := by rw [Ev.lineIn, ho]
    rw [probe_after_dir text f pre post d n name e he (by rw [hle]; exact hpost),
      probe_after text f pre post e he (by rw [hle]; exact hpost),
      probeOut_read_below text _ _ n name e (by rw [hle]; exact hnot)]
  exact ⟨key (.tok _) rfl rfl, key (.lineMac _) rfl rfl, key (.fileMac _) rfl rfl⟩

/-- non-vacuity — the input of the repaired defect: `#define RET return 0;` on line 1, `#line 1` on line 10,
    `int main(void) { RET }` on line 11.  The body token `return` (offset 12, line 1) is passed on after the directive
    (offset 30) and the token `int` (offset 38, line 11 → reported 2) were processed; it is reported on line 1. -/
example :
    let t := [35, 100, 101, 102, 105, 110, 101, 32, 82, 69, 84, 32, 114, 101, 116, 117, 114, 110, 32, 48, 59, 10,
              10, 10, 10, 10, 10, 10, 10, 10, 35, 108, 105, 110, 101, 32, 49, 10,
              105, 110, 116, 32, 109, 97, 105, 110, 40, 118, 111, 105, 100, 41, 32, 123, 32, 82, 69, 84, 32, 125, 10]
    lineNoOf t 12 ≤ lineNoOf t 30 ∧ (∀ x ∈ dirsOf t [.tok 38], lineNoOf t 12 ≤ x.line) ∧
    runFile t (newFile "t.c" 1) ([] ++ .lineDir 30 1 none :: [.tok 38] ++ [.tok 12]) = [.tok 2 "t.c", .tok 1 "t.c"] := by
  decide +kernel

/-- **C18 (`#line`: position decides, not processing order).**  `pre` is whatever `preprocess2` met in the file so far, `later`
    any directives of the file it has not met yet.  If the directives, taken together, are in ascending order of line (a file is
    read from top to bottom) and those not yet met lie at or below the token's line (a token is never passed on before the
    directives above it were read — a macro is expanded below its definition), then what is reported for the token, `__LINE__`
    and `__FILE__` is a function of the token's line and of ALL the directives of the file as a collection
    (`Spec.Line.inForce`: the directive furthest down among those strictly above the line; for the name, among those that
    carry a name): the same answer whether the token is passed on right away or after any number of later directives.
    The line is the C11 presumed line, plus one wherever a directive is in force (the known off-by-one); the name is the
    C11 presumed file name. -/
theorem C18_line_directive_order_independent (text : List Nat) (name : String) (fileNo : Nat) (pre : List Ev)
    (later : List Dir) (off : Nat)
    (hasc : (dirsOf text pre ++ later).Pairwise (fun a c => a.line < c.line))
    (hlater : ∀ d ∈ later, lineNoOf text off ≤ d.line) :
    let dirs := dirsOf text pre ++ later
    let l := lineNoOf text off
    let line : Int := presumedLineAt dirs l + (if (inForce dirs l).isSome then 1 else 0)
    (runFile text (newFile name fileNo) (pre ++ [.tok off])).getLast? = some (.tok line (presumedFileAt name dirs l)) ∧
    (runFile text (newFile name fileNo) (pre ++ [.lineMac off])).getLast? = some (.line line) ∧
    (runFile text (newFile name fileNo) (pre ++ [.fileMac off])).getLast? = some (.file (presumedFileAt name dirs l)) := by
  intro dirs l line
  exact ⟨probe_positional text name fileNo pre later (.tok off) rfl hasc hlater,
    probe_positional text name fileNo pre later (.lineMac off) rfl hasc hlater,
    probe_positional text name fileNo pre later (.fileMac off) rfl hasc hlater⟩

/-- non-vacuity: three directives on lines 2, 5 and 8 (the middle one without a name) of a 9-line text; the probe on line 6 is
    processed when only the first two were read (`later` = the third), the probe on line 1 after all three were read
    (`later` = []).  Line 6: directive on line 5 in force, `50 + (6 − 5)`, name inherited from line 2.  Line 1: none. -/
example :
    let t := [10, 10, 10, 10, 10, 10, 10, 10, 10]
    let pre := [Ev.lineDir 1 20 (some "a.c"), Ev.lineDir 4 50 none]
    (dirsOf t pre ++ [(⟨8, 70, some "b.c"⟩ : Dir)]).Pairwise (fun a c => a.line < c.line) ∧
    (runFile t (newFile "t.c" 1) (pre ++ [.tok 5])).getLast? = some (.tok 51 "a.c") ∧
    presumedLineAt (dirsOf t pre ++ [⟨8, 70, some "b.c"⟩]) 6 = 50 ∧
    presumedFileAt "t.c" (dirsOf t pre ++ [⟨8, 70, some "b.c"⟩]) 6 = "a.c" ∧
    (runFile t (newFile "t.c" 1) (pre ++ [Ev.lineDir 7 70 (some "b.c")] ++ [.tok 0])).getLast? = some (.tok 1 "t.c") := by
  decide +kernel

/-- **C18 (`#line`, all processing orders).**  `items` are the things of one file in file order (`FileOrder`: lines do not
    decrease and a directive has its lines to itself).  `preprocess2` obeys a directive at its turn; any other token it passes on
    at its turn, or keeps in a macro body and passes on later — any number of times, at any later moment, also after the end of
    the file (`Sched`).  In EVERY such order and for every token, `__LINE__` and `__FILE__` met, what is reported is the value of
    the positional specification over ALL directives of the file: the directive furthest down among those strictly above the
    token's line decides the line (C11 presumed line, plus the known one), the one furthest down among those that carry a name
    decides the file name.  No hypothesis about the order is left: ascending directives and "directives above a token are read
    before it" are consequences of how the file is walked. -/
theorem C18_line_directive_all_schedules (text : List Nat) (name : String) (fileNo : Nat) (items evs : List Ev)
    (hord : FileOrder text items) (hs : Sched items [] evs)
    (pre : List Ev) (e : Ev) (post : List Ev) (hsplit : evs = pre ++ e :: post) (he : e.isDir = false) :
    (runFile text (newFile name fileNo) (pre ++ [e])).getLast? = some (specOut text name (dirsOf text items) e) := by
  have := sched_positional text name fileNo items [] evs hs [] [] rfl (by intro b hb; simp at hb) (by simpa using hord)
    pre e post hsplit he
  simpa using this

/-- non-vacuity: a 4-line text; items: a token on line 1 (kept in a macro body), `#line 9 "g.c"` on line 2, a token on line 3,
    `#line 40` on line 4.  One schedule: the directive, the token of line 3, the second directive, and only then the body token
    of line 1.  The token of line 3 is reported on line 10 of "g.c" (9 + (3 − 2)), the body token on line 1 of "t.c". -/
example :
    let t := [10, 10, 10, 10]
    let items := [Ev.tok 0, .lineDir 1 9 (some "g.c"), .tok 2, .lineDir 3 40 none]
    let evs := [Ev.lineDir 1 9 (some "g.c"), .tok 2, .lineDir 3 40 none, .tok 0]
    FileOrder t items ∧ Sched items [] evs ∧
    specOut t "t.c" (dirsOf t items) (.tok 2) = .tok 10 "g.c" ∧ specOut t "t.c" (dirsOf t items) (.tok 0) = .tok 1 "t.c" ∧
    runFile t (newFile "t.c" 1) evs = [.tok 10 "g.c", .tok 1 "t.c"] := by
  refine ⟨by decide +kernel, ?_, by decide +kernel, by decide +kernel, by decide +kernel⟩
  exact Sched.store _ _ _ _ rfl (Sched.now _ _ _ _ (Sched.now _ _ _ _ (Sched.now _ _ _ _
    (Sched.expand _ _ _ _ (by simp) (Sched.done _)))))

/-- **C18 (`#line`: the reported line is a line number, for every processing order).**  For every text, every file, every
    list of events in ANY order — any number of directives, tokens passed on before or after directives that lie above or
    below them (macro bodies defined above a directive and expanded below it included) — if every directive operand is ≥ 1
    then every token's final `line_no` (the number in `.loc` and in diagnostics) and every value of `__LINE__` is ≥ 1.
    (The code before the repair produced `.loc 1 -8`, which the assembler rejects: Findings/C18.lean.)
    Also for a single token of any file table: with markers whose operands were ≥ 1, `.loc` and the diagnostic prefix carry
    a line ≥ 1. -/
theorem C18_line_directive_positional (text : List Nat) (name : String) (fileNo : Nat) (evs : List Ev)
    (hops : ∀ off n nm, Ev.lineDir off n nm ∈ evs → 1 ≤ n) :
    (∀ l nm, Out.tok l nm ∈ runFile text (newFile name fileNo) evs → 1 ≤ l) ∧
    (∀ v, Out.line v ∈ runFile text (newFile name fileNo) evs → 1 ≤ v) ∧
    (∀ (fs : Files) (t : TokInfo), MarkersPositive (getFile fs t.file) → 1 ≤ t.lineNo →
        1 ≤ (locRecord fs (finalize (passThrough fs t))).2 ∧ 1 ≤ (diagPrefix fs (finalize (passThrough fs t))).2) := by
  have hops' : ∀ e ∈ evs, e.operandOK = true := by
    intro e he
    cases e with
    | lineDir off n nm => simpa [Ev.operandOK] using hops off n nm he
    | _ => rfl
  have key := runFile_positive text (newFile name fileNo) evs (markersPositive_new name fileNo) hops'
  refine ⟨fun l nm h => key _ h l rfl, fun v h => key _ h v rfl, fun fs t hm hl => ?_⟩
  have := deltaAt_positive (getFile fs t.file) hm t.lineNo hl
  exact ⟨this, this⟩

/-- non-vacuity: the events of the repaired defect (directive on line 10 with operand 1, then a token on line 11, then the
    macro-body token of line 1): reported lines 2 and 1 -/
example :
    let t := List.replicate 12 10
    (∀ off n nm, Ev.lineDir off n nm ∈ [Ev.lineDir 9 1 none, .tok 10, .tok 0, .lineMac 10] → 1 ≤ n) ∧
    runFile t (newFile "t.c" 1) [.lineDir 9 1 none, .tok 10, .tok 0, .lineMac 10] = [.tok 2 "t.c", .tok 1 "t.c", .line 2] := by
  refine ⟨?_, by decide +kernel⟩
  intro off n nm h
  simp at h
  omega

/-- **C18 (`__FILE__` and the token's `filename` below a directive, all inputs).**  Below `#line N "name"` / `# N "name"`
    (`habove`; nothing processed in between lies above the token, `hpost`) they are `name`; below `#line N` they are whatever
    the display name was when the directive was read. -/
theorem C18_file_directive (text : List Nat) (f : File) (pre post : List Ev) (d : Nat) (n : Int)
    (name : Option String) (off : Nat)
    (hpost : ∀ x ∈ dirsOf text post, lineNoOf text off ≤ x.line) (habove : lineNoOf text d < lineNoOf text off) :
    (runFile text f (pre ++ .lineDir d n name :: post ++ [.fileMac off])).getLast?
      = some (.file (name.getD (stateAfter text f pre).displayName)) ∧
    ∃ l, (runFile text f (pre ++ .lineDir d n name :: post ++ [.tok off])).getLast?
      = some (.tok l (name.getD (stateAfter text f pre).displayName)) := by
  have key : ∀ e : Ev, e.isDir = false → e.off = off →
      (runFile text f (pre ++ .lineDir d n name :: post ++ [e])).getLast?
        = some (e.report ((lineNoOf text off : Int) + (n - lineNoOf text d)) (name.getD (stateAfter text f pre).displayName)) := by
    intro e he ho
    have hle : e.lineIn text = lineNoOf text off := by rw [Ev.lineIn, ho]
    rw [probe_after_dir text f pre post d n name e he (by rw [hle]; exact hpost),
      probeOut_read_above text _ _ n name e (by rw [hle]; exact habove), hle]
  exact ⟨key (.fileMac _) rfl rfl, _, key (.tok _) rfl rfl⟩

example : (runFile [10, 10, 10] (newFile "t.c" 1) ([.tok 0] ++ .lineDir 1 7 (some "foo.c") :: [.tok 2] ++ [.fileMac 2])).getLast?
    = some (.file "foo.c") ∧ lineNoOf [10, 10, 10] 1 < lineNoOf [10, 10, 10] 2 := by decide +kernel

/-- **C18 (`add_line_numbers`).**  For a token list in text order that ends with the EOF token at the terminator
    (how `tokenize` builds it), the loop never dereferences an exhausted list and gives every token
    `1 + number of '\n' before its loc`. -/
theorem C18_add_line_numbers (text : List Nat) (locs : List Nat) (hne : locs ≠ [])
    (hpw : locs.Pairwise (· < ·)) (hlast : locs.getLast? = some text.length) :
    addLineNumbers text locs = .ok (locs.map (lineNoOf text)) :=
  addLineNumbersAux_inv text [] locs hne hpw (by simp) hlast

example : addLineNumbers [97, 10, 10, 98, 32, 99, 10] [0, 3, 5, 7] = .ok [1, 3, 3, 4] := rfl

/-- **C18 (diagnostic location).**  `error_at` recounts the newlines from the start of the buffer up to `loc`: that is
    the very number `add_line_numbers` stored in the token; `error_tok`/`warn_tok` print the token's final `line_no`
    after the name of the token's file; and the source line `verror_at` shows under that prefix begins at the start of
    the line with that number (it starts at the buffer start or right after a '\n', and no '\n' lies between it and `loc`). -/
theorem C18_diag_loc :
    (∀ (text : List Nat) (loc : Nat), errorAtLine text loc = lineNoOf text loc) ∧
    (∀ (fs : Files) (t : TokInfo),
        diagPrefix fs (finalize (passThrough fs t))
          = ((getFile fs t.file).name, t.lineNo + deltaAt (getFile fs t.file) t.lineNo)) ∧
    (∀ (text : List Nat) (loc : Nat),
        lineNoOf text (shownStart text loc) = lineNoOf text loc ∧ shownStart text loc ≤ loc ∧
        (shownStart text loc = 0 ∨ text[shownStart text loc - 1]? = some LF)) :=
  ⟨errorAtLine_eq, fun _ _ => rfl,
   shownStart_spec⟩

/-- **C18 (`.loc` and `.file`).**  `.loc` carries the file number of the token's file and the token's final `line_no`
    (the same pair of facts a diagnostic for that token prints); a token synthesised by `##`, `#` or a builtin macro
    keeps the file number (and name) of its template's file; and the `.file` table lists the files in the order they were
    entered with numbers 1, 2, 3, … — in particular no two entries share a number. -/
theorem C18_loc_records :
    (∀ (fs : Files) (t : TokInfo),
        locRecord fs (finalize (passThrough fs t))
          = ((getFile fs t.file).fileNo, t.lineNo + deltaAt (getFile fs t.file) t.lineNo) ∧
        (locRecord fs (finalize (passThrough fs t))).2 = (diagPrefix fs (finalize (passThrough fs t))).2) ∧
    (∀ (fs : Files) (i : Nat),
        (getFile fs (.synth i)).fileNo = (getFile fs (.input i)).fileNo ∧
        (getFile fs (.synth i)).name = (getFile fs (.input i)).name) ∧
    (∀ paths : List String,
        (fileTable (enterAll [] paths)).map (·.1) = List.range' 1 paths.length ∧
        (fileTable (enterAll [] paths)).map (·.2) = paths ∧
        ((fileTable (enterAll [] paths)).map (·.1)).Nodup) := by
  refine ⟨fun _ _ => ⟨rfl, rfl⟩, fun fs i => ⟨rfl, rfl⟩, fun paths => ?_⟩
  have := enterAll_spec paths []
  have h1 : (fileTable (enterAll [] paths)).map (·.1) = List.range' 1 paths.length := by
    simpa [fileTable, List.map_map, Function.comp_def] using this.1
  refine ⟨h1, ?_, ?_⟩
  · simpa [fileTable, List.map_map, Function.comp_def] using this.2
  · rw [h1]; exact List.nodup_range'

example : fileTable (enterAll [] ["a.h", "t.c", "b.h", "a.h"]) = [(1, "a.h"), (2, "t.c"), (3, "b.h"), (4, "a.h")] := by
  decide +kernel

/-- **C18 (macro expansion).**  A token copied out of a macro body gets the invoking token as `origin`; `__LINE__` and
    `__FILE__` walk the chain to its end, so through any nesting of expansions they are computed from the OUTERMOST
    invocation token (`line_no` of that token + the delta of the directive in force at THAT token's line; the display name
    in force there) — exactly what the invocation token itself is given when it is passed on, so `__LINE__` always equals
    the final line of its invocation token.  A token synthesised by `##`, `#` or a builtin macro takes the `line_no` of its
    template token, lives in a fresh `File` without markers and is never shifted. -/
theorem C18_macro_origin (fs : Files) (body : TokInfo) (m : Tok) (t : TokInfo) :
    lineMacro fs (expandBodyTok body m) = lineMacro fs m ∧
    fileMacro fs (expandBodyTok body m) = fileMacro fs m ∧
    lineMacro fs (.plain t) = t.lineNo + deltaAt (getFile fs t.file) t.lineNo ∧
    fileMacro fs (.plain t) = nameAt (getFile fs t.file) t.lineNo ∧
    lineMacro fs (.plain t) = (finalize (passThrough fs t)).lineNo ∧
    fileMacro fs (.plain t) = (finalize (passThrough fs t)).filename ∧
    (synthTok t).lineNo = t.lineNo ∧
    (finalize (passThrough fs (synthTok t))).lineNo = t.lineNo := by
  refine ⟨rfl, rfl, rfl, rfl, rfl, rfl, rfl, ?_⟩
  simp [finalize, passThrough, passThroughF, synthTok, getFile, newFile, deltaAt, lineMarkerAt]

/-- **C18 (macro expansion, on the expansion model).**  In the model of `expand_macro` that C09 ties to `chibicc -E`
    (`PP.expandMacro`: hide sets, argument collection, substitution, pasting, stringizing), whenever a token `tok` is expanded:
    `__LINE__` becomes the number `originLine tok` (the line of the token at the end of `tok`'s origin chain, `tok`'s own line
    if it came from the file), placed on that line; `__FILE__` a string on that line; and for an object-like or function-like
    macro every token of the substituted body gets `origin = originLine tok`, hence reports `originLine tok` again — by
    induction, `__LINE__` at any depth of nested expansion is the line of the outermost invocation token, which is the input
    `Ev.lineMac off` of the position model above. -/
theorem C18_macro_origin_pp (lx : String → PP.LexOne) (pp : PP.PreExpand) (st st' : PP.St) (tok : PP.Tok)
    (rest out : List PP.Tok) (h : PP.expandMacro lx pp st tok rest = .ok (some (out, st'))) :
    (PP.findMacro st.defs tok = some (.builtin .line) →
        out = PP.newNumToken (PP.originLine tok) (PP.originLine tok) :: rest) ∧
    (PP.findMacro st.defs tok = some (.builtin .file) →
        out = PP.newStrToken st.file (PP.originLine tok) :: rest) ∧
    ((∃ mb, PP.findMacro st.defs tok = some (.obj mb)) ∨ (∃ ps va mb, PP.findMacro st.defs tok = some (.fn ps va mb)) →
        ∃ (body rest' : List PP.Tok), (∀ b ∈ body, b.origin = some (PP.originLine tok) ∧ PP.originLine b = PP.originLine tok) ∧
          out.map (·.origin) = (body ++ rest').map (·.origin)) ∧
    (tok.origin = none → PP.originLine tok = tok.line) := by
  obtain ⟨h1, h2, h3⟩ := pp_expandMacro_origin lx pp st st' tok rest out h
  refine ⟨h1, h2, fun hx => ?_, pp_originLine_plain tok⟩
  obtain ⟨body, rest', rfl⟩ := h3 hx
  exact ⟨PP.setOrigin body tok, rest', fun b hbm =>
    ⟨pp_setOrigin_origin body tok b hbm, pp_originLine_of_origin b tok (pp_setOrigin_origin body tok b hbm)⟩,
    pp_spliceBody_origin _ _ _⟩

/-- non-vacuity, end to end on the expansion model: `A` on line 7 with `#define A f(B)`, `#define B __LINE__`, `#define f(x) x x`
    (defined on other lines) expands to `7 7`, both tokens on line 7 -/
example : (PP.expand 50 [("A", .obj [{ kind := .ident, text := "f", line := 1 }, { kind := .punct, text := "(", line := 1 },
                                     { kind := .ident, text := "B", line := 1 }, { kind := .punct, text := ")", line := 1 }]),
                         ("B", .obj [{ kind := .ident, text := "__LINE__", line := 2 }]),
                         ("f", .fn ["x"] none [{ kind := .ident, text := "x", line := 3 }, { kind := .ident, text := "x", line := 3 }]),
                         ("__LINE__", .builtin .line)]
            [{ kind := .ident, text := "A", line := 7, atBol := true }]).map (·.map fun t => (t.text, t.line))
    = .ok [("7", 7), ("7", 7)] := by decide +kernel

/-- `include_file` splices token lists; no line number changes (each file was numbered from its own text) -/
theorem C18_include_keeps_numbers (included rest : List TokInfo) :
    (includeFile included rest).map (·.lineNo) = included.map (·.lineNo) ++ rest.map (·.lineNo) := by
  simp [includeFile]

end ChibiVerif.Props.C18
