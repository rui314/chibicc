/-
C06 — calls obey the System V x86-64 calling convention: **return values** (continuation of Props/C06.lean, Props/C06Fp.lean).

Property theorems only.  Notions of the statements that are not model or specification: `descrS`, `LowHolds`, `aggSizeOk`:
Lemmas/C06Vocabulary.lean; `Represents`: Lemmas/C01Lemmas.lean; `Holds`, `stBelow`, `usesX87Arith`: Lemmas/FpVocabulary.lean.
Helper lemmas: Lemmas/C06RetLemmas.lean, Lemmas/C06RetFpLemmas.lean, Lemmas/C06RetStructLemmas.lean, Lemmas/C06ArgSpecLemmas.lean.
Model: Model/C06Ret.lean over `Gen.ReturnStmt` — the `return` arm of parse.c `stmt()`, `case ND_RETURN` of codegen.c, the
epilogue of `emit_text` and the `switch (node->ty->kind)` after `call` in `case ND_FUNCALL`, all four **translated from the source
on every run** (tools/extract/retstmt.py) — and over the cast table regenerated from codegen.c.
Specification: Spec/C06RetSpec.lean (C11 6.8.6.4p3), Spec/IntSpec.lean `convert`, Spec/FpC11Spec.lean `convert`.
Reused: `C01_cast` / `Represents` (property C01), `C02_select` / `Holds` relative to `FpuSpec` (property C02).

What a chibicc-compiled callee guarantees is **more** than the psABI asks (value extended to 32 bits, `_Bool` in the whole
register); what a chibicc-compiled caller relies on is **only** what the psABI asks (the low `sizeof` bytes; `_Bool`: the low byte is
0 or 1).  So both directions of interoperation hold for every conforming compiler; bits 32..63 of a narrow return value are
unspecified on both sides (Findings/C06.lean `C06_return_upper_bits_unspecified`).
-/
import ChibiVerif.Spec.C06RetSpec
import ChibiVerif.Lemmas.C06RetLemmas
import ChibiVerif.Lemmas.C06RetFpLemmas
import ChibiVerif.Lemmas.C06RetStructLemmas
import ChibiVerif.Lemmas.C06ArgSpecLemmas
import ChibiVerif.Props.C01
import ChibiVerif.Props.C02

namespace ChibiVerif.Props.C06
open ChibiVerif.C06Ret ChibiVerif.C06Args ChibiVerif.Gen.ReturnStmt ChibiVerif.Gen.CommonType
open ChibiVerif.Spec.IntSpec ChibiVerif.Spec.CallArgs ChibiVerif.Spec.ReturnSpec
open ChibiVerif.C01 (Represents castSeq descr)
open ChibiVerif.CallConv (ATy retLarge retCallee retCaller RetLoc)

/-! ## which conversion, which path -/

/-- **C06 (what `return e;` converts to).**  For every return type and every type of the returned expression (arithmetic types,
    pointers, enumerations, structs / unions), parse.c wraps the expression in exactly one cast to the function's return type when
    that is a scalar type, and in none when it is a structure or union (C11 6.8.6.4p3, 6.5.16.1p1); and `case ND_RETURN` then calls
    no struct-copy routine for a scalar. -/
theorem C06_return_stmt_spec (rt e : STy) :
    retStep (descrS rt) (descrS e) = ((convertedTo rt).map descrS).toList ∧
    ((convertedTo rt).isSome = true → retCopy (tyAfter (descrS e) (retStep (descrS rt) (descrS e))) = .none) := by
  have hk := descrS_agg_kind rt
  cases rt with
  | agg u sz => simp [retStep, hk, convertedTo]
  | arith a =>
    refine ⟨by simp [retStep, hk, convertedTo], fun _ => ?_⟩
    simp only [retStep, hk]
    cases a with
    | int t => cases t <;> rfl
    | f32 => rfl
    | f64 => rfl
    | f80 => rfl
  | ptr => exact ⟨by simp [retStep, hk, convertedTo], fun _ => rfl⟩
  | enum => exact ⟨by simp [retStep, hk, convertedTo], fun _ => rfl⟩

example : retStep ty_bool ty_long = [ty_bool] ∧ convertedTo (.arith (.int .bool)) = some (.arith (.int .bool)) ∧
    retStep ⟨.TY_STRUCT, 12, false, false⟩ ⟨.TY_STRUCT, 12, false, false⟩ = [] := ⟨rfl, rfl, rfl⟩

/-- **C06 (struct / union return: caller and callee choose the same path).**  For every structure or union type: the callee's
    `case ND_RETURN` copies the value into registers (`copy_struct_reg`) exactly when it has at most 16 bytes and through the
    hidden pointer (`copy_struct_mem`) otherwise; the caller passes a hidden pointer (`retLarge`: `push_args`, the pop phase and
    parse.c `function()` all test `size > 16`) exactly in the second case; and the location model of `C06_abi_partial`
    (`retCallee`) is the same split. -/
theorem C06_return_struct_path (u : Bool) (sz al : Nat) (ms : CallConv.Members) :
    let t : ATy := .agg u sz al ms
    retCopy (CTy.descr (.agg t)) = (if sz ≤ 16 then .reg else .mem) ∧
    (retLarge (some t) = true ↔ retCopy (CTy.descr (.agg t)) = .mem) ∧
    (retCallee (some t) = .ok (.memory true) ↔ retCopy (CTy.descr (.agg t)) = .mem) := by
  intro t
  have h1 : retCopy (CTy.descr (.agg t)) = (if sz ≤ 16 then .reg else .mem) := by
    cases u <;> simp [t, CTy.descr, retCopy]
  refine ⟨h1, ?_, ?_⟩
  · rw [h1]; simp only [retLarge, ATy.isAgg, ATy.size, t]
    by_cases h : sz ≤ 16 <;> simp [h] <;> omega
  · rw [h1]; simp only [retCallee, ATy.size, t]
    by_cases h : sz ≤ 16
    · simp only [h, if_true]
      cases CallConv.retPiecesCallee (.agg u sz al ms) <;> simp [Except.map]
    · simp [h]

/-- **C06 (a struct / union of at most 16 bytes travels byte for byte).**  For every structure or union type of at most 16 bytes
    on which cc1 reaches no `assert` of the ladder (`aggSizeOk`: fails only for packed structs, known finding
    C06-packed-unaligned-param), whatever its member tree: the loads of `copy_struct_reg` in the callee (`movss` / `movsd` of 4 or 8
    bytes, byte loads shifted into %rax / %rdx) read **every byte of the returned object exactly once and no byte outside it**, and
    the stores of `copy_ret_buffer` in the caller write every byte of the return buffer exactly once and none outside.  (Before
    /repo 7826748 the callee read bytes 8..15 of a 12-byte all-float struct: Findings/C06.lean.)  The text the model prints — and the
    asm-text tie compares with `chibicc -S` — is by definition the rendering of these operations. -/
theorem C06_struct_return_bytes (u : Bool) (sz al : Nat) (ms : CallConv.Members)
    (hok : CallConv.aggSizeOk (.agg u sz al ms) = true) (h16 : sz ≤ 16) :
    let t : ATy := .agg u sz al ms
    (∀ i, i ∈ (CallConv.copyStructRegOps t).flatMap CallConv.RetOp.bytes ↔ i < sz) ∧
    ((CallConv.copyStructRegOps t).flatMap CallConv.RetOp.bytes).length = sz ∧
    (∀ i, i ∈ (CallConv.copyRetBufferOps t).flatMap CallConv.RetOp.bytes ↔ i < sz) ∧
    ((CallConv.copyRetBufferOps t).flatMap CallConv.RetOp.bytes).length = sz ∧
    CallConv.copyStructRegLines t = (CallConv.copyStructRegOps t).flatMap (CallConv.RetOp.lines 0) ∧
    ∀ off, CallConv.copyRetBufferLines t off = (CallConv.copyRetBufferOps t).flatMap (CallConv.RetOp.lines off) :=
  have ⟨ha, hb⟩ := CallConv.fpWidth_eq u sz al ms hok h16
  have ⟨hl, hln⟩ := CallConv.copyStructReg_bytes (.agg u sz al ms) h16 ha hb
  have ⟨hs, hsn⟩ := CallConv.copyRetBuffer_bytes (.agg u sz al ms) h16 ha hb
  ⟨hl, hln, hs, hsn, rfl, fun _ => rfl⟩

example : CallConv.aggSizeOk (.agg false 12 4 (.cons 0 .flt (.cons 4 .flt (.cons 8 .flt .nil)))) = true ∧
    CallConv.aggSizeOk (.agg false 11 1 (.cons 0 (.arr (.int 1 false false) 11) .nil)) = true := by decide

/-! ## integer-class values: callee, epilogue, caller -/

/-- **C06 (the caller receives the C11 conversion of the returned expression) — integer types.**  For every return type `to`
    and every type `frm` of the returned expression among the nine integer types, and every machine state whose %rax represents the
    expression's value `v` (the result of `gen_expr(e)`, property C01):
    * the instructions `return e;` adds are those of `cast(frm, to)` (the cast parse.c inserted), and together with the epilogue
      `mov %rbp, %rsp; pop %rbp` they run and leave %rax representing `convert to v` — the C11 conversion "as if by assignment"
      (6.8.6.4p3, 6.3.1.2, 6.3.1.3) — in codegen.c's invariant: narrow types sign- / zero-extended to 32 bits, `_Bool` and 64-bit types
      in the whole register;
    * in the caller — whatever state the call returns in, as long as %rax is as the callee left it — the instruction `case
      ND_FUNCALL` prints for the return type runs, and the value of the call expression is `convert to v`; no other register
      changes. -/
theorem C06_return_convert (frm to : ITy) (s : X86.State) (v : Int) (h : Represents frm (s.get .rax) v) :
    retSeq (descr to) (descr frm) = castSeq frm to ∧
    ∃ s', X86.run (calleeRetSeq (descr to) (descr frm)) s = some s' ∧
      Represents to (s'.get .rax) (convert to v) ∧
      ∀ c : X86.State, c.get .rax = s'.get .rax →
        ∃ c', X86.run (callerRetSeq (descr to)) c = some c' ∧ Represents to (c'.get .rax) (convert to v) ∧
          ∀ r, r ≠ .rax → c'.get r = c.get r := by
  refine ⟨retSeq_int frm to, ?_⟩
  obtain ⟨s1, hrun, hrep⟩ := ChibiVerif.Props.C01.C01_cast frm to s v h
  rw [calleeRetSeq, retSeq_int]
  exact (X86.Post.seq hrun (epilogue_ok s1)).mono fun s' ⟨hrax, _⟩ =>
    ⟨hrax ▸ hrep, fun c hc => caller_norm_ok to c _ (hc ▸ hrax ▸ represents_low to _ _ hrep)⟩

example : Represents .i64 (0x0000000000012380#64) 74624 ∧ convert .i8 74624 = -128 ∧ convert .bool 74624 = 1 :=
  ⟨⟨by decide, by decide⟩, by decide, by decide⟩

/-- **C06 (what a chibicc-compiled caller relies on).**  Whatever compiler made the callee: if on return the low `sizeof t` bytes
    of %rax are the object representation of `w` (all the psABI promises for char / short / int; for `_Bool`: the low byte is 0 or
    1), then after the instruction `case ND_FUNCALL` prints for the return type the call expression has the value `w` — the bits
    of %rax above the type's size are never used. -/
theorem C06_return_caller (t : ITy) (c : X86.State) (w : Int) (h : LowHolds t (c.get .rax) w) :
    ∃ c', X86.run (callerRetSeq (descr t)) c = some c' ∧ Represents t (c'.get .rax) w ∧ ∀ r, r ≠ .rax → c'.get r = c.get r :=
  caller_norm_ok t c w h

example : LowHolds .i8 (0xdeadbeef_12345680#64) (-128) ∧ LowHolds .bool (0xffffffff_ffffff01#64) 1 :=
  ⟨⟨by decide, by decide⟩, ⟨by decide, by decide⟩⟩

/-- **C06 (what a chibicc-compiled callee guarantees to any caller).**  On return, for a return type narrower than 64 bits the low
    32 bits of %rax are the returned value sign- or zero-extended (more than the psABI requires; what clang-compiled callers may
    assume of `signext` / `zeroext` results), for `_Bool` the whole register is exactly 0 or 1 (psABI: bit 0 the truth value, bits
    1-7 zero), for 64-bit types the whole register is the value. -/
theorem C06_return_extension (frm to : ITy) (s : X86.State) (v : Int) (h : Represents frm (s.get .rax) v) :
    ∃ s', X86.run (calleeRetSeq (descr to) (descr frm)) s = some s' ∧
      (if to.size = 8 then s'.get .rax = BitVec.ofInt 64 (convert to v)
       else (s'.get .rax).setWidth 32 = BitVec.ofInt 32 (convert to v)) ∧
      (to = .bool → (s'.get .rax = 0#64 ∨ s'.get .rax = 1#64) ∧ (s'.get .rax = 1#64 ↔ v ≠ 0)) := by
  obtain ⟨_, s', h1, h2, _⟩ := C06_return_convert frm to s v h
  refine ⟨s', h1, (represents_image to _ _ h2).1, ?_⟩
  intro ht; subst ht
  exact represents_convert_bool _ _ h2

example : Represents .u32 (0x7777_7777_8000_0002#64) 2147483650 ∧ convert .i16 2147483650 = 2 :=
  ⟨⟨by decide, by decide⟩, by decide⟩

/-- **C06 (the generated normalisation table is the one the text model prints).**  For every scalar return type the instruction
    of the translated `switch (node->ty->kind)` is the line `callLines` (the asm-text tie of every generated call) puts after
    `add $N, %rsp`. -/
theorem C06_return_norm_model :
    (∀ t ∈ ITy.all, (retNorm (descr t)).map Asm.Ins.render = CallConv.retNormalise (some (atyOfDescr (descr t)))) ∧
    (∀ d ∈ [ty_float, ty_double, ty_ldouble, ty_ptr, ty_enum],
      (retNorm d).map Asm.Ins.render = CallConv.retNormalise (some (atyOfDescr d))) := by
  decide

/-! ## a floating type on either side (relative to C02's `FpuSpec`) -/

section RetFp
open ChibiVerif.Fp ChibiVerif.Spec.Fpu ChibiVerif.Spec.FpC11

/-- **C06 (the caller receives the C11 conversion of the returned expression) — a floating type on either side.**  For every FPU
    meeting the contracts of `FpuSpec`, every return type and expression type among the twelve arithmetic types with a floating side
    (all 63 pairs, every value for which C11 defines the conversion), every machine state holding the expression's value `x` where
    `gen_expr` leaves it: the cast `return e;` inserts prints C02's cast-table cell; after it and the epilogue the value `convert to x`
    (6.8.6.4p3 with 6.3.1.4, 6.3.1.5) is where the psABI returns its class — an integer in %rax (under codegen.c's invariant, so
    `C06_return_caller` applies), a `float` in the low 32 bits of %xmm0, a `double` in %xmm0, a `long double` in %st(0) with the
    x87 stack below it as it was before the expression — and the x87 control word is restored.  The caller adds no instruction for
    a floating return type.  `hpc` as in `C02_select`. -/
theorem C06_return_convert_fp (F : FpuSpec) (frm to : ChibiVerif.Spec.FpC11.ATy) (s : FState) (x y : AVal)
    (hfp : frm.isFp = true ∨ to.isFp = true) (hh : Holds frm s x) (hc : ChibiVerif.Spec.FpC11.convert F s.cw to x = some y)
    (hpc : usesX87Arith frm to = true → pc s.cw = 3#2) :
    retSeq (descrA to) (descrA frm) = Fp.castSeq frm to ∧
    ∃ s', Fp.run F (calleeRetSeq (descrA to) (descrA frm)) s = some s' ∧ Holds to s' y ∧ s'.cw = s.cw ∧
      stBelow to s' = stBelow frm s ∧ (to.isFp = true → callerRetSeq (descrA to) = []) := by
  refine ⟨retSeq_arith frm to, ?_⟩
  obtain ⟨s1, hrun, hhold, hcw, hst, _⟩ := ChibiVerif.Props.C02.C02_select F frm to s x y hfp hh hc hpc
  obtain ⟨s', he, h0, _, h2, h3, h4⟩ := epilogue_fp F s1
  refine ⟨s', ?_, ?_, h3.trans hcw, ?_, ?_⟩
  · simp only [calleeRetSeq, retSeq_arith]
    exact (Fp.run_append F _ _ s s1 hrun).trans he
  · exact holds_congr to s1 s' y h0 h2 h4 hhold
  · simp only [stBelow, h2] at hst ⊢; exact hst
  · intro h; cases to <;> first | rfl | simp [ChibiVerif.Spec.FpC11.ATy.isFp] at h

/-- non-vacuity: on the toy FPU, `double` return type, `unsigned int` expression 4000000000 -/
example : ∃ (F : FpuSpec) (s : FState) (y : AVal),
    Holds (.int .u32) s (.int 4000000000) ∧ ChibiVerif.Spec.FpC11.convert F s.cw .f64 (.int 4000000000) = some y ∧
    (usesX87Arith (.int .u32) .f64 = true → pc s.cw = 3#2) :=
  ⟨Toy.toy, ⟨{ regs := fun _ => 0xdeadbeefee6b2800#64, mem := fun _ => 0 }, 0, 0, [], 0x37f#16⟩, _,
    by simp [Holds, RInt, ITy.inRange, ITy.min, ITy.max, ITy.signed, ITy.bits, X86.State.get], rfl, by decide⟩

end RetFp

end ChibiVerif.Props.C06
