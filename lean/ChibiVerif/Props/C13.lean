/-
C13 — every input is answered with output or a located diagnostic.

Property theorems only.  This file is about the component C13 owns, the byte-level scanner model
`Model/LexTotal.lean` (read_file … tokenize, arbitrary bytes, positions as offsets, line numbers,
explicit `overread` outcomes); lemmas are in Lemmas/LexTotalLemmas.lean.  The corollaries for the
component models of the sibling properties are in Props/C13Components.lean.

`lexFile bytes` is total by construction (structural recursion or fuel); the theorems say that the
fuel is never exhausted, that no outcome leaves the text of a NUL-free file, and that every
diagnostic carries a line of that file.  The model follows the tokenizer with the repairs ee6fc96, 5bc1be4 of /repo;
Findings/C13.lean holds the witnesses for the code without them.
-/
import ChibiVerif.Lemmas.LexTotalLemmas

namespace ChibiVerif.Props.C13
open ChibiVerif.LexTotal

/-- **Scanner totality (C13_lex_total).**  For EVERY byte sequence the scanner answers: tokens, or a diagnostic whose line
    number lies in `1 … lastLine bytes` (the line of the EOF position of the text), or — only when the file contains a NUL
    byte — an explicit step over the terminating NUL.  It never exhausts its loop bound (no hang). -/
theorem C13_lex_total (bytes : List Nat) :
    match lexFile bytes with
    | .ok _ => True
    | .diag l _ => 1 ≤ l ∧ l ≤ lastLine bytes
    | .overread _ => 0 ∈ bytes
    | .fuel => False := by
  unfold lexFile lastLine
  cases hp : phases bytes with
  | error w =>
    apply Classical.byContradiction
    intro h0
    obtain ⟨t, ht, _⟩ := phases_ends bytes h0
    rw [hp] at ht; cases ht
  | ok t =>
    have := scan_spec t
    simp only
    cases hs : scan t with
    | ok n => trivial
    | diag l m => rw [hs] at this; exact ⟨this.1, by have := this.2; omega⟩
    | _ => rw [hs] at this; exact this.elim

/-- non-vacuity: one instance of each outcome (kernel-evaluated) -/
example : lexFile [105, 110, 116, 32, 120, 59] = .ok 3 := by decide +kernel                       -- `int x;`
example : lexFile [105, 59, 10, 34, 97] = .diag 2 .unclosedString := by decide +kernel             -- `i;` newline `"a`
example : lexFile [97, 92, 0, 120] = .overread .universalBackslash := by decide +kernel             -- `a\` NUL `x`

/-- **No hang (C13_no_hang, scanner part).**  `length + 1` iterations always suffice: every iteration of `while (*p)`
    consumes at least one byte.  (The passes before it are structurally recursive except convert_universal_chars, whose
    fuel `length + 1` is sufficient by the same argument and whose exhaustion would return the text unchanged, not `fuel`.) -/
theorem C13_lex_no_hang (bytes : List Nat) : lexFile bytes ≠ .fuel := by
  have := C13_lex_total bytes
  intro h; rw [h] at this; exact this

/-- **No read beyond the terminating NUL for files without NUL bytes.** -/
theorem C13_lex_no_overread (bytes : List Nat) (h : 0 ∉ bytes) (w : Why) : lexFile bytes ≠ .overread w := by
  have := C13_lex_total bytes
  intro e; rw [e] at this; exact h this

example : (0 : Nat) ∉ [34, 92] := by decide +kernel                                                -- `"\` then EOF: no over-read,
example : lexFile [34, 92] = .diag 1 .unclosedString := by decide +kernel                          -- a located diagnostic

/-- **Located diagnostics.**  A diagnostic of the scanner names a line between 1 and the last line of the text. -/
theorem C13_lex_located (bytes : List Nat) (l : Nat) (m : Msg) (h : lexFile bytes = .diag l m) :
    1 ≤ l ∧ l ≤ lastLine bytes := by
  have := C13_lex_total bytes
  rw [h] at this; exact this

example : lexFile [10, 10, 39] = .diag 4 .unclosedChar ∧ lastLine [10, 10, 39] = 4 := by decide +kernel

/-- **The line exists in the input.**  For a file without NUL bytes every diagnostic line lies between 1 and the number of
    line terminators of the file (CR LF, lone CR, LF; read_file's completing newline counted) plus one — the line of the
    EOF position, where "unclosed char literal" can be reported. -/
theorem C13_lex_line_in_file (bytes : List Nat) (h0 : 0 ∉ bytes) (l : Nat) (m : Msg) (h : lexFile bytes = .diag l m) :
    1 ≤ l ∧ l ≤ terminators (readFile bytes) + 1 := by
  have := C13_lex_located bytes l m h
  rw [lastLine_eq bytes h0] at this; exact this

example : lexFile [97, 13, 10, 98, 92, 10, 99, 13, 39] = .diag 5 .unclosedChar ∧
    terminators (readFile [97, 13, 10, 98, 92, 10, 99, 13, 39]) = 4 := by decide +kernel

/-- **Temporary buffers.**  `tokenize()` is also run on buffers the preprocessor builds (`paste`, `stringize`,
    `new_num_token`, `define_macro`), which need not end in a newline.  On ANY text the scanner never exhausts its bound,
    never leaves the text, and a diagnostic line lies between 1 and the number of newlines + 1. -/
theorem C13_scan_total (text : List Nat) :
    match scan text with
    | .ok _ => True
    | .diag l _ => 1 ≤ l ∧ l ≤ countLF text + 1
    | .overread _ => False
    | .fuel => False := by
  have := scan_spec text
  cases hs : scan text with
  | ok n => trivial
  | diag l m => rw [hs] at this; exact ⟨this.1, by have := this.2; omega⟩
  | _ => rw [hs] at this; exact this.elim

example : scan [47, 47] = .ok 0 ∧ scan [34, 92] = .diag 1 .unclosedString := by decide +kernel     -- paste of `/` `/`; `"\` at the end

/-- **The passes keep the file's shape.**  For a file without NUL bytes the text handed to `tokenize()` exists (no step over
    the terminator in convert_universal_chars) and ends in a newline. -/
theorem C13_phases_total (bytes : List Nat) (h : 0 ∉ bytes) : ∃ t, phases bytes = .ok t ∧ EndsLF t :=
  phases_ends bytes h

example : phases [92, 10, 97, 13] = .ok [97, 10, 10] := rfl                          -- `\`newline `a` CR

/-- **Line numbers are those of the raw file** up to the last pass: for a file without NUL bytes the text after BOM removal,
    canonicalize_newline and remove_backslash_newline has exactly as many newlines as the file (as read_file completes it)
    has line terminators (CR LF, lone CR, LF) — splices are re-inserted, so `error_at`'s count is the physical line —
    and convert_universal_chars adds none (UTF-8 never encodes a code point other than 10 with a byte 10, and `\u000a` is
    left alone: /repo 5bc1be4). -/
theorem C13_text_lines (bytes : List Nat) (h : 0 ∉ bytes) :
    lastLine bytes = terminators (readFile bytes) + 1 :=
  lastLine_eq bytes h

example : terminators (readFile [97, 13, 10, 98, 92, 10, 99, 13, 100]) = 4 := by decide +kernel   -- a CRLF b \LF c CR d (+LF)

end ChibiVerif.Props.C13
