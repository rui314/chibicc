/-
C10 — the `#if` token-to-tree parser is COMPLETE with respect to the C11 grammar (the converse of `C10_ifparse_precedence`,
Props/C10IfParse.lean), hence the parser and the grammar are the same relation, the grammar is unambiguous, and a line the
parser rejects has no C11 parse.

Property theorems only.  Model: Model/IfParse.lean; specification: Spec/IfGrammar.lean (written from C11 6.5 / 6.6, not from
parse.c); lemmas: Lemmas/IfParseComplete.lean (it defines `Stop`, `exprS` of `C10_ifparse_complete_expr`); printer:
Model/IfUnparse.lean (minimal parentheses), Lemmas/IfUnparseLemmas.lean.  Soundness alone is satisfied by a parser that rejects
every line, or that rejects `1 - 2 - 3`; completeness is what rules that out.
-/
import ChibiVerif.Props.C10IfParse
import ChibiVerif.Lemmas.IfParseComplete
import ChibiVerif.Lemmas.IfUnparseLemmas

namespace ChibiVerif.Props.C10
open ChibiVerif.CondIncl ChibiVerif.Spec.CondIncl ChibiVerif.PPExpr ChibiVerif.IfParse ChibiVerif.Spec.IfGrammar

/-- **C10 (#if parser, completeness).**  Every token list the grammar of C11 6.5 / 6.6 (Spec/IfGrammar.lean) derives as a
    constant-expression with tree `t` is accepted by the parser transcribed from parse.c, with exactly the tree `t` – no
    diagnostic, no token left over, nothing outside the modelled fragment, and with the fuel `length + 1` that `ifParse`
    uses: the parser rejects no valid controlling expression and associates every one as C11 does. -/
theorem C10_ifparse_complete (ts : List PTok) (t : PT) (h : Derives .cond ts t) : ifParse ts = .ok t := by
  unfold ifParse
  rw [derives_parseN h]

/-- non-vacuity: a derivation of `1 - 2 - 3` by the left-recursive rule of 6.5.6 (tree `(1 - 2) - 3`) -/
example : Derives .cond [.num 1 false, .punct "-", .num 2 false, .punct "-", .num 3 false]
    (.bin .sub (.bin .sub (.num 1 false) (.num 2 false)) (.num 3 false)) := by
  have n (v : Nat) : ∀ d, Derives (.lvl d) [.num v false] (.num v false) := by
    intro d; induction d with
    | zero => exact .num v false
    | succ d ih => exact .up ih
  have h12 : Derives (.lvl 2) ([.num 1 false] ++ .punct "-" :: [.num 2 false]) (binTree .sub (.num 1 false) (.num 2 false)) :=
    .binop (d := 1) (by decide +kernel) (n 1 2) (n 2 1)
  have h123 := Derives.binop (d := 1) (s := "-") (op := .sub) (by decide +kernel) h12 (n 3 1)
  have up8 : ∀ k, Derives (.lvl (2 + k)) _ _ := fun k => by
    induction k with
    | zero => exact h123
    | succ k ih => exact .up ih
  exact .condUp (up8 8)

/-- **C10 (#if parser = C11 grammar).**  The parser delivers the tree `t` for a token list exactly when the C11 grammar derives
    the list as a constant-expression with tree `t`. -/
theorem C10_ifparse_iff (ts : List PTok) (t : PT) : ifParse ts = .ok t ↔ Derives .cond ts t :=
  ⟨C10_ifparse_precedence ts t, C10_ifparse_complete ts t⟩

/-- **C10 (the grammar of controlling expressions is unambiguous).**  A token list has at most one tree as a
    constant-expression of C11 6.5 / 6.6: precedence and associativity are determined by the grammar alone. -/
theorem C10_ifparse_unique (ts : List PTok) (t t' : PT) (h : Derives .cond ts t) (h' : Derives .cond ts t') : t = t' := by
  have e := C10_ifparse_complete ts t h
  rw [C10_ifparse_complete ts t' h'] at e
  exact (Except.ok.inj e).symm

/-- **C10 (a rejected line has no C11 parse).**  Whatever diagnostic the parser ends with – "expected an expression",
    "expected ')'", "expected ':'", "extra token", the division by zero found before the extra-token test, or a token outside
    the modelled fragment – the C11 grammar derives no tree for the line: no valid controlling expression is rejected, and
    the fragment left out of the model (`unmodelled`) contains no valid controlling expression. -/
theorem C10_ifparse_reject (ts : List PTok) (e : PErr) (h : ifParse ts = .error e) : ¬ ∃ t, Derives .cond ts t := by
  rintro ⟨t, hd⟩
  rw [C10_ifparse_complete ts t hd] at h
  cases h

/-- **C10 (completeness at the inner entry points).**  An `expression` of C11 6.5.17 followed by a token that cannot continue
    it (`)` and `:` are such tokens) is consumed exactly, with its tree, by expr() for every sufficiently large fuel – the
    form in which completeness is used inside parentheses and in the middle operand of `?:`. -/
theorem C10_ifparse_complete_expr (ts rest : List PTok) (t : PT) (h : Derives .expr ts t) (hs : Stop exprS rest) :
    ∃ f0, ∀ f, f0 ≤ f → parseN f .expr (ts ++ rest) = .ok (t, rest) :=
  ⟨(ts ++ rest).length + 1, fun f hf =>
    (parseN_stable _ .expr f hf).trans ((parse_step .expr _).trans (derives_goal parse_step h rest hs))⟩

example : Stop exprS [.punct ")"] ∧ Stop exprS [.punct ":", .num 1 false] ∧ Stop exprS [] ∧ ¬ Stop exprS [.punct "+"] := by
  refine ⟨Stop.cons sep_facts.1 _, Stop.cons sep_facts.2.1 _, fun _ _ he => (by cases he), fun h => ?_⟩
  exact absurd (h "+" [] rfl) (by decide +kernel)

/-- non-vacuity of `C10_ifparse_iff` / `_unique` / `_reject` on three lines: `1 - 2 - 3` is `(1 - 2) - 3` and NOT
    `1 - (2 - 3)`; `a ? b : c ? d : e` is `a ? b : (c ? d : e)` and not `(a ? b : c) ? d : e`; `! defined X && (1 << 2) > 3`
    (after `defined X` → 0) is `(!0) && (3 < (1 << 2))`; a rejected line has no derivation -/
example :
    Derives .cond [.num 1 false, .punct "-", .num 2 false, .punct "-", .num 3 false]
      (.bin .sub (.bin .sub (.num 1 false) (.num 2 false)) (.num 3 false)) ∧
    ¬ Derives .cond [.num 1 false, .punct "-", .num 2 false, .punct "-", .num 3 false]
      (.bin .sub (.num 1 false) (.bin .sub (.num 2 false) (.num 3 false))) ∧
    Derives .cond [.num 1 false, .punct "?", .num 2 false, .punct ":", .num 3 false, .punct "?", .num 4 false, .punct ":", .num 5 false]
      (.cond (.num 1 false) (.num 2 false) (.cond (.num 3 false) (.num 4 false) (.num 5 false))) ∧
    ¬ Derives .cond [.num 1 false, .punct "?", .num 2 false, .punct ":", .num 3 false, .punct "?", .num 4 false, .punct ":", .num 5 false]
      (.cond (.cond (.num 1 false) (.num 2 false) (.num 3 false)) (.num 4 false) (.num 5 false)) ∧
    Derives .cond [.punct "!", .num 0 false, .punct "&&", .punct "(", .num 1 false, .punct "<<", .num 2 false, .punct ")",
        .punct ">", .num 3 false]
      (.bin .land (.un .lnot (.num 0 false)) (.bin .lt (.num 3 false) (.bin .shl (.num 1 false) (.num 2 false)))) ∧
    (¬ ∃ t, Derives .cond [.num 1 false, .punct "-", .punct "-"] t) ∧
    (¬ ∃ t, Derives .cond [.num 1 false, .punct "?", .punct ":", .num 2 false] t) ∧
    (¬ ∃ t, Derives .cond [.num 1 false, .punct ",", .num 2 false] t) := by
  -- one evaluation of the parser settles a line: its tree is derived, and by uniqueness no other tree is
  have key : ∀ {ts : List PTok} {t t' : PT}, ifParse ts = .ok t → t ≠ t' → Derives .cond ts t ∧ ¬ Derives .cond ts t' :=
    fun h hne => ⟨C10_ifparse_precedence _ _ h, fun h' => hne (C10_ifparse_unique _ _ _ (C10_ifparse_precedence _ _ h) h')⟩
  refine and_assoc.1 ⟨key (by decide +kernel) (by decide +kernel), and_assoc.1 ⟨key (by decide +kernel) (by decide +kernel),
    C10_ifparse_precedence _ _ (by decide +kernel), ?_, ?_, ?_⟩⟩
  · exact C10_ifparse_reject _ (.expectedExpr 3) (by decide +kernel)
  · exact C10_ifparse_reject _ (.unmodelled 1) (by decide +kernel)
  · exact C10_ifparse_reject _ (.extraToken 1) (by decide +kernel)

/-- **C10 (#if parser, print-and-parse round trip).**  For every tree `t` of the shape parse.c builds (`WF`: no node for unary
    `+`, no node kinds for `>` `>=`), the line `unparseTop t` – `t` printed with the minimal parentheses of C11 6.5
    (Model/IfUnparse.lean: an operand is parenthesised exactly when its outermost construct binds weaker than its position
    allows) – is derived by the C11 grammar with tree `t`, is parsed back to exactly `t` by `ifParse`, and by conditional()
    with every fuel above the number of tokens (the bound of `C10_ifparse_fuel`), leaving no token. -/
theorem C10_ifparse_unparse (t : PT) (h : t.WF = true) :
    Derives .cond (unparseTop t) t ∧ ifParse (unparseTop t) = .ok t ∧
    ∀ f, (unparseTop t).length < f → parseN f .cond (unparseTop t) = .ok (t, []) := by
  have hd := derives_unparseTop t h
  refine ⟨hd, C10_ifparse_complete _ _ hd, fun f hf => ?_⟩
  rw [C10_ifparse_fuel _ _ f hf]
  exact derives_parseN hd

/-- **C10 (the image of the #if parser).**  The trees `ifParse` delivers are exactly the well-formed ones: it builds no
    other shape (soundness + the grammar's tree conventions), and every well-formed tree is delivered for its printing. -/
theorem C10_ifparse_image (t : PT) : (∃ ts, ifParse ts = .ok t) ↔ t.WF = true :=
  ⟨fun ⟨ts, h⟩ => derives_wf (C10_ifparse_precedence ts t h), fun h => ⟨unparseTop t, (C10_ifparse_unparse t h).2.1⟩⟩

/-- non-vacuity, and what minimal parentheses look like: `(1 - 2) - 3` prints as `1 - 2 - 3`, `1 - (2 - 3)` keeps its
    parentheses; `a ? b : (c ? d : e)` needs none, `(a ? b : c) ? d : e` does; `!0 && 3 < 1 << 2`; a comma at the top, a
    conditional under a unary operator and a `||` under `&&` are parenthesised; the middle operand of `?:` is not -/
example :
    unparseTop (.bin .sub (.bin .sub (.num 1 false) (.num 2 false)) (.num 3 false))
      = [.num 1 false, .punct "-", .num 2 false, .punct "-", .num 3 false] ∧
    unparseTop (.bin .sub (.num 1 false) (.bin .sub (.num 2 false) (.num 3 false)))
      = [.num 1 false, .punct "-", .punct "(", .num 2 false, .punct "-", .num 3 false, .punct ")"] ∧
    unparseTop (.cond (.num 1 false) (.num 2 false) (.cond (.num 3 false) (.num 4 false) (.num 5 false)))
      = [.num 1 false, .punct "?", .num 2 false, .punct ":", .num 3 false, .punct "?", .num 4 false, .punct ":", .num 5 false] ∧
    unparseTop (.cond (.cond (.num 1 false) (.num 2 false) (.num 3 false)) (.num 4 false) (.num 5 false))
      = [.punct "(", .num 1 false, .punct "?", .num 2 false, .punct ":", .num 3 false, .punct ")", .punct "?", .num 4 false,
         .punct ":", .num 5 false] ∧
    unparseTop (.bin .land (.un .lnot (.num 0 false)) (.bin .lt (.num 3 false) (.bin .shl (.num 1 false) (.num 2 false))))
      = [.punct "!", .num 0 false, .punct "&&", .num 3 false, .punct "<", .num 1 false, .punct "<<", .num 2 false] ∧
    unparseTop (.comma (.num 1 false) (.num 2 false)) = [.punct "(", .num 1 false, .punct ",", .num 2 false, .punct ")"] ∧
    unparseTop (.cond (.num 1 false) (.comma (.num 2 false) (.num 3 false)) (.num 4 false))
      = [.num 1 false, .punct "?", .num 2 false, .punct ",", .num 3 false, .punct ":", .num 4 false] ∧
    unparseTop (.un .neg (.bin .land (.num 1 false) (.bin .lor (.num 2 false) (.num 3 false))))
      = [.punct "-", .punct "(", .num 1 false, .punct "&&", .punct "(", .num 2 false, .punct "||", .num 3 false, .punct ")", .punct ")"] ∧
    PT.WF (.bin .sub (.num 1 false) (.bin .sub (.num 2 false) (.num 3 false))) = true ∧
    PT.WF (.un .plus (.num 1 false)) = false ∧ PT.WF (.bin .gt (.num 1 false) (.num 2 false)) = false := by decide +kernel

end ChibiVerif.Props.C10
