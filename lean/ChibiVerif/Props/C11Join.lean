/-
C11 — adjacent string literals (6.4.5p5) and the text the tokenizer sees, about the code AS TRANSLATED from preprocess.c /
tokenize.c / type.c on every check run (Gen/StrJoinGen.lean by tools/extract/strjoin.py: `StringKind`, `getStringKind`,
`tokenize_string_literal`, `array_of`'s size, both passes of `join_adjacent_string_literals` on one run of adjacent string
literals with `int` locals as `Int`, `calloc` / `memcpy` with bounds, and the tail of `read_file`).
Property theorems only (helper lemmas: Lemmas/C11Join, Lemmas/C11JoinTokens, Lemmas/C11Concat, Lemmas/C11ReadFile).  Hand-written and tied by the differential run
only: the iteration of the two outer loops over the maximal runs (Model/StrJoin.lean `overRuns`, C shape pinned by the
translator) and the libc stream calls of `read_file` before its tail.
Notions of the statements and where they are defined: `toTok`, `Rep`, `RelE`, `kindToGen`, `ofJoinErr`, `pieceTok`, `prefixBytes`, `readerOf`,
`tyOf`, `joinRun`, `joinTokens`, `joinTokensPerRun`, `NoStrHead`, `sourceText` (Model/StrJoin.lean); `totalUnits` (Lemmas/C11Join.lean);
`withFinalNewline` (Lemmas/C11ReadFile.lean).
-/
import ChibiVerif.Lemmas.C11Join
import ChibiVerif.Lemmas.C11JoinTokens
import ChibiVerif.Lemmas.C11Concat
import ChibiVerif.Lemmas.C11ReadFile

namespace ChibiVerif.Props.C11
open ChibiVerif.Gen.Literals
open ChibiVerif.Gen.StrJoin
open ChibiVerif.StrJoin
open ChibiVerif.Literals
open ChibiVerif.Text
open ChibiVerif.Spec.Literals (StrPrefix joinPrefix)
open ChibiVerif.Lemmas.Join
open ChibiVerif.Lemmas.ReadFile
open ChibiVerif.Lemmas.Readers (join_diagnosed join_result)

/-- **C11 (the hand model of `join_adjacent_string_literals` is the translated code).**  `getStringKind` and
    `tokenize_string_literal` of Model/Literals.lean agree with the functions translated from the C source on every token
    (`RelE`: both return related results or both end in the same diagnostic; `Rep`: same element type, `array_len` = units + 1,
    `str` = the units in memory order and one zero unit), and for every run of at least two adjacent string-literal tokens as the
    tokenizer makes them (`TokHasPrefix`) the translated first pass followed by the translated second pass — kind resolution, the
    diagnostic, re-reading of narrow tokens, `len` arithmetic, `calloc`, the `memcpy` loop — agrees with `joinStrings`, the function
    `C11_strings_join`, `C11_strings_join_diagnosed` (Props/C11.lean) are about: same diagnostic, or a token with the element type
    of `joinStrings`' result, `array_len` = its units + 1 and `str` = its units followed by exactly one zero unit. -/
theorem C11_translated_join :
    (∀ t : StrTok, RelE (fun k k' => k = kindToGen k') (ChibiVerif.Gen.StrJoin.getStringKind (toTok t)) (ChibiVerif.Literals.getStringKind t)) ∧
    (∀ (t : StrTok) (basety : Ty), RelE Rep (tokenizeStringLiteral (toTok t) basety) (retokenize t basety)) ∧
    (∀ (t1 t2 : StrTok) (rest : List StrTok) (ps : List StrPrefix), AllPairs TokHasPrefix (t1 :: t2 :: rest) ps →
      RelE (fun r hd => r.base = hd.elem ∧ r.arrayLen = (hd.units.length : Int) + 1 ∧ r.str = strBytes hd.elem.size hd.units)
        (joinRun (toTok t1) ((t2 :: rest).map toTok)) (joinStrings (t1 :: t2 :: rest))) :=
  ⟨getStringKind_eq, retokenize_eq, joinRun_eq⟩

/-- non-vacuity: `"a" u"b"` as the tokenizer reads them, through the translated passes: one `char16_t` array `a b \0` -/
example : AllPairs TokHasPrefix
      [⟨.ty_char, [97], 3, [0x22#8, 0x61#8, 0x22#8]⟩, ⟨.ty_ushort, [98], 4, [0x75#8, 0x22#8, 0x62#8, 0x22#8]⟩] [.none, .u] ∧
    (joinRun (toTok ⟨.ty_char, [97], 3, [0x22#8, 0x61#8, 0x22#8]⟩) [toTok ⟨.ty_ushort, [98], 4, [0x75#8, 0x22#8, 0x62#8, 0x22#8]⟩]).map
        (fun r => (r.base, r.arrayLen, r.str)) = .ok (.ty_ushort, 3, [97#8, 0#8, 98#8, 0#8, 0#8, 0#8]) := by
  refine ⟨.cons (by unfold TokHasPrefix; decide +kernel) (.cons (by unfold TokHasPrefix; decide +kernel) .nil), by decide +kernel⟩

/-- **C11 (concatenation in memory: one terminator).**  About the second pass AS TRANSLATED (`len = tok1->ty->array_len; len = len +
    t->ty->array_len - 1 …; buf = calloc(base->size, len); memcpy(buf + i, t->str, t->ty->size); i = i + t->ty->size - base->size`),
    for every run `a :: as` of string-literal tokens of one element size `sz` whose `str` holds their units and a terminator (`Rep`):
    no `memcpy` leaves the allocation or reads past its source, the resulting token keeps the element type, its
    `array_len` is `Σ (array_lenᵢ − 1) + 1`, and its `str` is the units of all tokens in order followed by exactly ONE zero unit —
    `sizeof` = `array_len × sz` bytes. -/
theorem C11_join_bytes (sz : Nat) (a : Tok) (as : List Tok) (h : StrTok) (hs : List StrTok)
    (hr : AllPairs Rep (a :: as) (h :: hs)) (hsz : ∀ x ∈ h :: hs, x.elem.size = sz) :
    ∃ r, joinPass2 a as = .ok r ∧ r.base = a.base ∧
      r.arrayLen = (((a :: as).map (fun t => t.arrayLen - 1)).sum) + 1 ∧
      r.arrayLen = ((((h :: hs).map (·.units)).flatten.length : Nat) : Int) + 1 ∧
      r.str = ((h :: hs).map (·.units)).flatten.flatMap (unitBytes sz) ++ List.replicate sz 0#8 ∧
      (r.str.length : Int) = r.tySize := by
  refine ⟨_, pass2_run sz a as h hs hr hsz, rfl, ?_, rfl, rfl, ?_⟩
  · show ((totalUnits (h :: hs) : Nat) : Int) + 1 = _
    congr 1
    exact (arrayLen_sum hr).symm
  · have hb : a.base.size = sz := by cases hr with | cons hra _ => rw [hra.2.1]; exact hsz h (by simp)
    show ((strBytes sz _).length : Int) = arrayOfSize a.base _
    rw [strBytes_length, arrayOfSize, hb]
    simp only [totalUnits]
    push_cast
    rfl

/-- non-vacuity: `u"a€"` and `u"b"` (two UTF-16 tokens): `array_len` 4, bytes `61 00 AC 20 62 00 00 00` -/
example : AllPairs Rep [readerTok [] .ty_ushort [0x61, 0x20AC], readerTok [] .ty_ushort [0x62]]
      [⟨.ty_ushort, [0x61, 0x20AC], 0, []⟩, ⟨.ty_ushort, [0x62], 0, []⟩] ∧
    (joinPass2 (readerTok [] .ty_ushort [0x61, 0x20AC]) [readerTok [] .ty_ushort [0x62]]).map (fun r => (r.arrayLen, r.str)) =
      .ok (4, [0x61#8, 0#8, 0xAC#8, 0x20#8, 0x62#8, 0#8, 0#8, 0#8]) :=
  ⟨.cons ⟨rfl, rfl, rfl, rfl⟩ (.cons ⟨rfl, rfl, rfl, rfl⟩ .nil), by decide +kernel⟩

-- ------------------------------------------------------------------ 6.4.5p5 on the translated code

/-- **C11 (adjacent literals, on the translated code).**  The statements of `C11_strings_join_diagnosed` and `C11_strings_join` for
    `join_adjacent_string_literals` as translated (first pass then second pass on a run of at least two tokens with prefixes `ps`):
    two different prefixes are diagnosed with "unsupported non-standard concatenation of string literals"; otherwise, if the function
    returns, the token has the element size of the sequence's prefix `P`, its `str` holds — in `array_len × size` bytes — the code
    units of the tokens in order, where a narrow token next to a wide one was re-read from its source text by the wide reader, followed
    by one zero unit, and `array_len = Σ (array_lenᵢ − 1) + 1`. -/
theorem C11_strings_join_translated (t1 t2 : StrTok) (rest : List StrTok) (ps : List StrPrefix)
    (h : AllPairs TokHasPrefix (t1 :: t2 :: rest) ps) :
    (joinPrefix ps = none →
      joinRun (toTok t1) ((t2 :: rest).map toTok) = .error .unsupported_non_standard_concatenation_of_string_literals) ∧
    (∀ P r, joinPrefix ps = some P → joinRun (toTok t1) ((t2 :: rest).map toTok) = .ok r →
      r.base.size = P.elemSize ∧
      ∃ toks, AllPairs (fun t t' => t' = t ∨ (t.elem.size = 1 ∧ ∃ ty, ty.size = P.elemSize ∧ 1 < ty.size ∧ retokenize t ty = .ok t'))
          (t1 :: t2 :: rest) toks ∧
        r.str = strBytes P.elemSize (toks.map (·.units)).flatten ∧
        r.arrayLen = ((toks.map (fun t => ((t.units.length : Int) + 1) - 1)).sum) + 1) := by
  have key := joinRun_eq t1 t2 rest ps h
  constructor
  · intro hj
    rw [join_diagnosed t1 t2 rest ps h hj] at key
    obtain ⟨e', he', hoe⟩ := relE_error key
    rw [he']
    cases e' with
    | unsupported_non_standard_concatenation_of_string_literals => rfl
    | unreachable => cases hoe
    | store_outside => cases hoe
    | read e => cases e <;> cases hoe
  · intro P r hj hr
    rw [hr] at key
    cases hjs : joinStrings (t1 :: t2 :: rest) with
    | error e => rw [hjs] at key; exact key.elim
    | ok hd =>
      rw [hjs] at key
      obtain ⟨hb, hal, hstr⟩ := key
      obtain ⟨hsz, toks, hprov, hunits, _⟩ := join_result t1 t2 rest ps P hd h hj hjs
      refine ⟨by rw [hb]; exact hsz, toks, hprov, by rw [hstr, hsz, hunits], ?_⟩
      rw [hal, hunits]
      congr 1
      have : ∀ l : List StrTok, (((l.map (·.units)).flatten.length : Nat) : Int) =
          (l.map (fun t => ((t.units.length : Int) + 1) - 1)).sum := by
        intro l
        induction l with
        | nil => simp
        | cons x l ih => simp only [List.map_cons, List.flatten_cons, List.length_append, List.sum_cons]; push_cast; rw [ih]; omega
      exact this toks

/-- non-vacuity: `"a" u"b"` has the prefix `u`, `u8"a" L"b"` none -/
example : joinPrefix [.none, .u] = some .u ∧ joinPrefix [.u8, .L] = none := by decide +kernel

/-- **C11 (prefix dispatch of `tokenize()` against `getStringKind`).**  For every string-literal arm of `tokenize()` (translated table
    `stringPrefixes`, in source order) a token whose text starts with that prefix and the opening quote is classified by the translated
    `getStringKind` as the kind of that prefix — unprefixed, `u8`, `u` (`char16_t`), `L` (`wchar_t`), `U` (`char32_t`) —, whatever follows,
    so that the element type `tokenize()` gave the token (`C11_prefix_types`) and the kind `join_adjacent_string_literals` sees agree. -/
theorem C11_prefix_kinds (rest : List Byte) (base : Ty) (n : Int) (s : List Byte) :
    stringPrefixes.map (fun e => (e.1, ChibiVerif.Gen.StrJoin.getStringKind ⟨true, e.1.map (BitVec.ofNat 8) ++ 34#8 :: rest, base, n, s⟩)) =
      [([], .ok (kindToGen (kindOf .none))), ([117, 56], .ok (kindToGen (kindOf .u8))), ([117], .ok (kindToGen (kindOf .u))),
       ([76], .ok (kindToGen (kindOf .L))), ([85], .ok (kindToGen (kindOf .U)))] := rfl

-- ------------------------------------------------------------------ 6.4.5p5-6 as a whole: from the spellings to the bytes of the array

/-- **C11 (adjacent string literals, from spelling to bytes).**  Take any sequence of at least two string literals, each given by its
    encoding prefix and its body — source characters (any code point up to U+10FFFF other than NUL, new-line, `"` and `\`, written in
    UTF-8) and escape sequences (`SrcItem`, as in `C11_strings`).
    * The prefix bytes, reader and element type `tokenize()` uses for each prefix are those of the translated dispatch table
      (first conjunct), and the token it makes of `prefix " body "`, whatever follows, is `pieceTok` (second conjunct; by `C11_strings`).
    * If the prefixes are compatible (6.4.5p5: `joinPrefix` = `P`) and the escape sequences of the unprefixed pieces of a wide sequence
      read back in their literal (`ItemsOK []`: they are read a second time, by the wide reader, from the token text), then
      `join_adjacent_string_literals` AS TRANSLATED (first pass, second pass) returns one token whose element size is that of `P`, whose
      `array_len` is the number of code units + 1, and whose `str` holds exactly: for every piece in order, for every body item in
      order, the code units of that item AT THE PREFIX `P` — and then one zero unit.
    * Those code units are the C11 ones (last conjunct): a source character gives `encodeChar P` (UTF-8 bytes / UTF-16 units / the code
      point; Spec, RFC 3629 / 2781), an escape sequence its value modulo 2^(8 × element size). -/
theorem C11_concat_spec :
    stringPrefixes = [StrPrefix.none, .u8, .u, .L, .U].map (fun p => ((prefixBytes p).map BitVec.toNat, readerOf p, tyOf p)) ∧
    (∀ (p : StrPrefix) (its : List SrcItem) (post : List Byte), ItemsOK post its →
      readString (readerOf p) (tyOf p) (prefixBytes p ++ 34#8 :: (renderItems its ++ 34#8 :: post)) (prefixBytes p).length =
        .ok (pieceTok p its)) ∧
    (∀ (pc1 pc2 : StrPrefix × List SrcItem) (pcs : List (StrPrefix × List SrcItem)) (P : StrPrefix),
      joinPrefix ((pc1 :: pc2 :: pcs).map (·.1)) = some P →
      (∀ pc ∈ pc1 :: pc2 :: pcs, pc.1 = .none → 1 < P.elemSize → ItemsOK [] pc.2) →
      ∃ r, joinRun (toTok (pieceTok pc1.1 pc1.2)) ((pc2 :: pcs).map (fun pc => toTok (pieceTok pc.1 pc.2))) = .ok r ∧
        r.base.size = P.elemSize ∧
        r.str = ((pc1 :: pc2 :: pcs).flatMap (fun pc => pc.2.flatMap (itemUnits (readerOf P)))).flatMap (unitBytes P.elemSize) ++
          List.replicate P.elemSize 0#8 ∧
        r.arrayLen = ((((pc1 :: pc2 :: pcs).flatMap (fun pc => pc.2.flatMap (itemUnits (readerOf P)))).length : Nat) : Int) + 1) ∧
    (∀ P : StrPrefix,
      (∀ c : BitVec 32, CharOK c → itemUnits (readerOf P) (.char c) = ChibiVerif.Spec.Literals.encodeChar P c.toNat) ∧
      (∀ (body : List Byte) (v : BitVec 32), itemUnits (readerOf P) (.esc body v) = [v.toNat % 2 ^ (8 * P.elemSize)])) :=
  ⟨by decide +kernel, ChibiVerif.Lemmas.Concat.piece_read, ChibiVerif.Lemmas.Concat.concat_spec, ChibiVerif.Lemmas.Concat.item_spec⟩

/-- non-vacuity: `"a\n" L"€"` (an unprefixed piece with an escape, then a wide one): prefix `L`, the escape reads back, and the array is
    `a \n € \0` in 32-bit units -/
example : joinPrefix (([(.none, [.char 0x61#32, .esc [0x6E#8] 10#32]), (.L, [.char 0x20AC#32])] : List (StrPrefix × List SrcItem)).map (·.1)) = some .L ∧
    ItemsOK [] [.char 0x61#32, .esc [0x6E#8] 10#32] ∧
    (joinRun (toTok (pieceTok .none [.char 0x61#32, .esc [0x6E#8] 10#32])) [toTok (pieceTok .L [.char 0x20AC#32])]).map
        (fun r => (r.base, r.arrayLen, r.str)) =
      .ok (.ty_int, 4, [0x61#8, 0#8, 0#8, 0#8, 10#8, 0#8, 0#8, 0#8, 0xAC#8, 0x20#8, 0#8, 0#8, 0#8, 0#8, 0#8, 0#8]) := by
  refine ⟨by decide +kernel, ⟨by unfold CharOK; decide +kernel, ⟨0x6E#8, [], rfl, by decide +kernel, by decide +kernel, by simp⟩, by decide +kernel, trivial⟩, by decide +kernel⟩

/-- **C11 (every run of a token list is joined as one run is).**  `join_adjacent_string_literals` on a whole token list has the
    structure of the C function — the translated first pass over every maximal run of at least two adjacent string literals, and only
    then the translated second pass over every run (`joinTokens`; the iteration `overRuns` is hand-written after the shape of the two
    outer loops and run against the real code on whole token lists).  Whenever it returns it returns what the run-by-run composition
    returns and vice versa (the first pass keeps the number of tokens of a run and keeps them string literals, so the second outer loop
    finds the same runs); and run by run means: a token that does not begin a run of two string literals is kept, and a maximal run
    `a :: b :: r` (followed by the end or a token that is not a string literal) is replaced by the one token `joinRun` makes of it —
    the token `C11_translated_join`, `C11_strings_join_translated` and `C11_join_bytes` are about. -/
theorem C11_join_tokens :
    (∀ toks out : List Tok, joinTokens toks = .ok out ↔ joinTokensPerRun toks = .ok out) ∧
    joinTokensPerRun [] = .ok [] ∧
    (∀ (t : Tok) (ts : List Tok), ¬ (t.isStr = true ∧ (ts.head?.map (·.isStr)) = some true) →
      joinTokensPerRun (t :: ts) = match joinTokensPerRun ts with
        | .error e => .error e
        | .ok r' => .ok (t :: r')) ∧
    (∀ (a b : Tok) (r rest : List Tok), a.isStr = true → b.isStr = true → (∀ x ∈ r, x.isStr = true) → NoStrHead rest →
      joinTokensPerRun (a :: b :: r ++ rest) = match joinRun a (b :: r) with
        | .error e => .error e
        | .ok x => match joinTokensPerRun rest with
          | .error e => .error e
          | .ok y => .ok (x :: y)) :=
  ⟨ChibiVerif.Lemmas.JoinTokens.join_tokens_iff, rfl, ChibiVerif.Lemmas.JoinTokens.perRun_keep, ChibiVerif.Lemmas.JoinTokens.perRun_run⟩

/-- non-vacuity: `x "a" u"b" , "c"` — the run becomes one `char16_t` array, the single literal and the other tokens are kept -/
example :
    (joinTokens [⟨false, [0x78#8], .ty_char, 0, []⟩, readerTok [0x22#8, 0x61#8, 0x22#8] .ty_char [97],
        readerTok [0x75#8, 0x22#8, 0x62#8, 0x22#8] .ty_ushort [98], ⟨false, [0x2C#8], .ty_char, 0, []⟩,
        readerTok [0x22#8, 0x63#8, 0x22#8] .ty_char [99]]).map (fun l => l.map (fun t => (t.isStr, t.base, t.arrayLen, t.str))) =
      .ok [(false, .ty_char, 0, []), (true, .ty_ushort, 3, [97#8, 0#8, 98#8, 0#8, 0#8, 0#8]), (false, .ty_char, 0, []),
           (true, .ty_char, 2, [99#8, 0#8])] ∧
    NoStrHead [(⟨false, [0x2C#8], .ty_char, 0, []⟩ : Tok)] := by
  refine ⟨by decide +kernel, ?_⟩
  intro t ht
  simp at ht
  subst ht
  rfl

/-- **C11 (`read_file`: final newline and terminator).**  About the tail of `read_file` AS TRANSLATED (`fflush(out); if (buflen == 0 ||
    buf[buflen - 1] != '\n') fputc('\n', out); fputc('\0', out);`), for every file content: the returned array is the file's bytes, then
    a newline iff the file is empty or does not end in one (`withFinalNewline`; this is `ensureFinalNewline` of Model/Text.lean, the
    function every `C11_text_*` theorem starts from), then the terminator; and if the file contains no NUL, the C string `tokenize_file`
    works on is exactly that text — which ends in a newline. -/
theorem C11_read_file_spec (s : List Byte) :
    readFileBuf s = withFinalNewline s ++ [0#8] ∧ ensureFinalNewline s = withFinalNewline s ∧
    ((0#8 : Byte) ∉ s → cString (readFileBuf s) = withFinalNewline s ∧ (withFinalNewline s).getLast? = some LF) := by
  refine ⟨by rw [readFileBuf_eq, ensureFinalNewline_eq], ensureFinalNewline_eq s, fun h0 => ⟨by rw [read_file_text s h0, ensureFinalNewline_eq], ?_⟩⟩
  unfold withFinalNewline
  by_cases hc : s = [] ∨ s.getLast? ≠ some LF
  · rw [if_pos hc]; simp
  · rw [if_neg hc]
    exact Classical.not_not.mp fun h => hc (Or.inr h)

/-- non-vacuity: `x` gets a newline, `x\n` does not, the empty file becomes one newline -/
example : readFileBuf [0x78#8] = [0x78#8, 10#8, 0#8] ∧ readFileBuf [0x78#8, 10#8] = [0x78#8, 10#8, 0#8] ∧ readFileBuf [] = [10#8, 0#8] ∧
    (0#8 : Byte) ∉ ([0x78#8] : List Byte) := by decide +kernel

/-- **C11 (file bytes ↦ tokenizer text).**  The complete function from the bytes of a source file to the text handed to `tokenize()`,
    every step translated from tokenize.c — `read_file`'s tail (final newline, terminator), the C string in its array, then
    `tokenize_file` (BOM `memcmp`, `canonicalize_newline`, `remove_backslash_newline`, `convert_universal_chars` as in-place loops, in the
    order of the calls: `C11_phase_order`) — is, for every file content without NUL, `phase12` with the final-newline rule written out:
    the composition every `C11_text_*` theorem is about; no store of the loops leaves the text. -/
theorem C11_source_text (s : List Byte) (h0 : (0#8 : Byte) ∉ s) :
    sourceText s = some (phase12 s) ∧
    phase12 s = convertUniversalChars (removeBackslashNewline (canonicalizeNewline (skipBOM (withFinalNewline s)))) :=
  ⟨source_text s h0, by unfold phase12; rw [ensureFinalNewline_eq]⟩

/-- non-vacuity: BOM, `"é"` written as a UCN, CR LF, a splice, no final newline -/
example : (0#8 : Byte) ∉ ([0xEF#8, 0xBB#8, 0xBF#8, 0x22#8, 92#8, 0x75#8, 0x30#8, 0x30#8, 0x65#8, 0x39#8, 0x22#8, 13#8, 10#8, 0x78#8, 92#8, 10#8, 0x79#8] : List Byte) ∧
    sourceText [0xEF#8, 0xBB#8, 0xBF#8, 0x22#8, 92#8, 0x75#8, 0x30#8, 0x30#8, 0x65#8, 0x39#8, 0x22#8, 13#8, 10#8, 0x78#8, 92#8, 10#8, 0x79#8] =
      some [0x22#8, 0xC3#8, 0xA9#8, 0x22#8, 10#8, 0x78#8, 0x79#8, 10#8, 10#8] := by decide +kernel

end ChibiVerif.Props.C11
