/-
C03 × C01 — **whole functions of an integer fragment of C are compiled correctly**: the composition of C03's statement-level
preservation (`C03_preserve_goto_partial`, expressions abstracted) with C01's expression-level correctness
(`C01_value_full`, one expression) into one theorem about a function body.

Property theorems only.  Model: Model/C03Fun.lean (`FStmt`, `execF`, `compileF`, `compileFn`, `runF`, `noConflictF`, `depthF`,
`nlblF`).  Notions that occur in the statements and are defined with the lemmas: `enc`, `bound` (Lemmas/C03FunMachine.lean: the label
renaming); `Represents` (Lemmas/C01Lemmas.lean); `FrameX`, and the frame of the examples `exXOff`, `exXToff`, `exXState`
(Lemmas/C01EffectsValue.lean); `exEnv` (Lemmas/C01Value.lean); `exBody` (Lemmas/C03FunExample.lean); `layoutOK` is
Model/C01Expr.lean's.
Proofs: Lemmas/C03FunMachine.lean (the machine with statement-level labels is the machine of Model/X86Jump),
Lemmas/C03FunBig.lean (`execF` read as a relation `Big`; the fuel is irrelevant), Lemmas/C03FunCompile.lean (`compileF` read as a
relation `Comp`), Lemmas/C03FunLabels.lean (freshness of all labels of a function), Lemmas/C03FunLay.lean (`SLay`: where the code
of a statement sits in the program), Lemmas/C03FunSwitch.lean (the compare ladder of `switch`, its range test from
Lemmas/RangeWindow.lean), Lemmas/C03FunSim.lean (the simulation `sim`), Lemmas/C03FunWhole.lean (from `sim` to a function body).
-/
import ChibiVerif.Lemmas.C03FunWhole
import ChibiVerif.Lemmas.C03FunExample

namespace ChibiVerif.Props.C03Fun
open ChibiVerif.C03Fun ChibiVerif.C01 ChibiVerif.X86 ChibiVerif.X86J ChibiVerif.Asm ChibiVerif.Spec.IntSpec

/-- **the machine the theorems below speak about is the label machine of C01** (Model/X86Jump, validated against the host
    CPU): for every program over the enlarged label type — `.L.begin.N`, `.L..N`, `.L.return.f` besides C01's four families —
    `runF` computes what `runJ` computes on the program with the statement-level labels renamed to unused `.L.end.M`
    (label resolution by position commutes with a renaming that is injective on the labels of the program). -/
theorem C03_function_machine (p : List FI) (fuel pc : Nat) (s : State) :
    runF fuel p pc s = runJ fuel (p.map (enc (bound p))) pc s :=
  runF_eq_runJ p fuel pc s

/-- **freshness of the labels of a whole function.**  In the code `compileFn` assembles for a function body — one `count()`
    shared by `gen_stmt` (`.L.begin.c`, `.L.else.c`, `.L.end.c`) and `gen_expr` (`.L.false.c`, `.L.true.c`, `.L.else.c`,
    `.L.end.c`), `new_unique_name()` for the break / continue labels, `.L.return.f` — every label is defined exactly once,
    the statement draws exactly `nlblF body` numbers from `count()`, and the counters only grow.  From `C01_labels_fresh`
    (`compileJ_facts`) at every expression hole and the monotonicity of the two counters across statements. -/
theorem C03_function_labels_fresh (tys : List ITy) (off toff : Nat → Int) (R : ITy) (c0 u0 : Nat) (body : FStmt)
    (prog : List FI) (K c1 u1 : Nat) (hc : compileFn tys off toff R c0 u0 body = some (prog, K, c1, u1)) :
    (defsF prog).Nodup ∧ c1 = c0 + nlblF body ∧ u0 ≤ u1 :=
  compileFn_fresh tys off toff R c0 u0 body prog K c1 u1 hc

/-- **the fuel of the abstract machine is only a bound on the recursion depth**: an answer `done o σ'` obtained with fuel `n`
    is the answer with every larger fuel, and two terminating runs of the same function from the same store have the same
    outcome and the same store — so "the C11 abstract machine terminates with outcome `o` and store `σ'`" in the theorem below
    is a statement about the function and the store, not about the fuel. -/
theorem C03_function_fuel_irrelevant (R : ITy) (s : FStmt) (σ σ1 σ2 : Env) (n1 n2 : Nat) (o1 o2 : Out)
    (h1 : execF R n1 s σ = .done o1 σ1) (h2 : execF R n2 s σ = .done o2 σ2) :
    (∀ n, n1 ≤ n → execF R n s σ = .done o1 σ1) ∧ o1 = o2 ∧ σ1.vals = σ2.vals ∧ σ1.tys = σ2.tys :=
  ⟨fun _ hn => execF_le R hn h1, execF_unique R h1 h2⟩

example : execF .i64 40 exBody exEnv = .done (.ret 7) ⟨[.i8, .u32], [0, 15]⟩ ∧
    execF .i64 25 exBody exEnv = .done (.ret 7) ⟨[.i8, .u32], [0, 15]⟩ := ⟨rfl, rfl⟩

/-- the statement without the restriction to conflict-free expressions: every function `compileFn` assembles, every
    terminating execution of the abstract machine.  NOT expected to hold: an expression with unsequenced conflicting accesses
    (`(v0 = 1) + v0`) has undefined behaviour in C11 (6.5p2); `evalE` fixes left-to-right evaluation for it while `gen_expr`
    generates the right-hand operand first (C01, `noConflict`).  The theorem below is this statement under `noConflictF body`. -/
def C03_function_correct_Statement : Prop :=
  ∀ (tys : List ITy) (off toff : Nat → Int) (R : ITy) (c0 u0 : Nat) (body : FStmt) (prog : List FI) (K c1 u1 : Nat),
    compileFn tys off toff R c0 u0 body = some (prog, K, c1, u1) →
    ∀ (σ σ' : Env), σ.tys = tys → ∀ (fuel : Nat) (o : Out), execF R fuel body σ = .done o σ' →
    ∀ (m : State), FrameX σ off toff K (depthF body) m →
      ∃ fuel' m', runF fuel' prog 0 m = some m' ∧ (∀ v, o = .ret v → Represents R (m'.get .rax) v) ∧
        m'.get .rsp = m.get .rsp ∧ m'.get .rbp = m.get .rbp ∧ FrameX σ' off toff K (depthF body) m'

/-- **whole-function correctness for the integer fragment** (`_partial`: the fragment is the decidable predicate
    "`compileFn` assembles the body and every full expression is conflict-free").

    A function body built from expression statements, compound statements, `if`/`else`, `while`, `for (init; c; inc)`, `do …
    while`, `switch` with `case` / `default` labels and GNU case ranges (fall-through, `default` anywhere, `break`,
    constants negative or above 32 bits, controlling expression of any of the nine integer types), `break`, `continue` and
    `return e` over the expressions `E` of C01 (literals, local integer variables of the nine integer types, casts, unary
    and binary operators, `&&` `||` `?:` `,`, `=`, the ten `op=`, `++` `--`), compiled as chibicc compiles it (`compileFn`:
    `gen_stmt`'s skeleton with every expression hole filled by `gen_expr`'s code `compileJ`, truth tests `cmp_zero; je/jne`,
    the compare ladder of a `switch` in `case_next` order (`cmp $c, %eax|%rax; je`, for a range the unsigned distance test
    `sub $lo; cmp $(hi-lo); jbe`), one `count()` for statements and expressions, `new_unique_name()` for break / continue /
    case labels, the hidden temporaries numbered through the function), runs on the label machine from the first line of the
    body (`%rsp`, `%rbp` and the frame as the prologue leaves them: `FrameX`, `depthF body` free stack slots) to the line
    after `.L.return.f:` — for EVERY such function, EVERY initial store `σ` and EVERY outcome of the C11 abstract machine
    `execF` (Model/C03Fun.lean: the big-step machine of Spec/ControlSpec with `evalE` for the oracle): whenever `execF`
    terminates within some fuel with outcome `o` and store `σ'`, the machine terminates (`runF` with some fuel returns a
    state), without a CPU fault, without a jump on undefined flags or to a missing label, `%rsp` / `%rbp` unchanged, **the
    frame holding `σ'`**, and if the outcome is `return` of the value `v` (the C11 value of the operand converted to the
    return type `R`), **`%rax` represents `v` in `R`**.  (Outcome `normal`: control fell off the end of the body and reaches
    `.L.return` with an unspecified `%rax`, as C11 6.9.1p12 allows.)

    By induction on the run of `execF` read as a derivation (Lemmas/C03FunBig.lean `Big`, Lemmas/C03FunSim.lean `sim`) over
    the layout of the compiled code in the program (Lemmas/C03FunLay.lean `SLay`, `Comp.lay`); every expression hole is
    C01's `value_g` (the induction behind `C01_value_full`), wherever the code sits (`JRun`); labels resolve by position
    under `C03_function_labels_fresh`; a loop's jump back re-enters the same layout, where the induction hypothesis of the
    rest of the loop applies (for `for`: the first clause having been executed once).

    NOT covered: `goto` / labels, a `switch` whose body is not a list of statements each labelled at most once at its head
    (`switchOK`: the abstract machine answers `unsupported`, e.g. Duff's device — the CODE model `compileF` covers those too
    and is tied by text), a declaration as first clause of a `for`, declarations with initializers, calls, parameters and
    the prologue / epilogue (`push %rbp … ret`), non-integer types, pointers / arrays / structs (C01's `compileA` fragment),
    globals; expressions with unsequenced conflicting accesses (C11 6.5p2: UB); divergence and undefined behaviour of the
    source (nothing is claimed when `execF` does not terminate with `done`). -/
theorem C03_function_correct_partial (tys : List ITy) (off toff : Nat → Int) (R : ITy) (c0 u0 : Nat) (body : FStmt)
    (prog : List FI) (K c1 u1 : Nat)
    (hc : compileFn tys off toff R c0 u0 body = some (prog, K, c1, u1)) (hnc : noConflictF body = true)
    (σ σ' : Env) (hσ : σ.tys = tys) (fuel : Nat) (o : Out) (hx : execF R fuel body σ = .done o σ')
    (m : State) (hf : FrameX σ off toff K (depthF body) m) :
    ∃ fuel' m', runF fuel' prog 0 m = some m' ∧ (∀ v, o = .ret v → Represents R (m'.get .rax) v) ∧
      m'.get .rsp = m.get .rsp ∧ m'.get .rbp = m.get .rbp ∧ FrameX σ' off toff K (depthF body) m' := by
  obtain ⟨fuel', m', h1, h2, h3, h4, h5, _⟩ := fun_core tys off toff R c0 u0 body prog K c1 u1 hc hnc σ σ' hσ fuel o hx m hf
    (fun _ => False) (fun _ h => h.elim)
  exact ⟨fuel', m', h1, h2, h3, h4, h5⟩

/-- **the function does not touch the caller's part of the stack**: with the frame chibicc lays out (`layoutOK`: variables and
    hidden temporaries inside `[%rbp - N, %rbp)`, what the check validates on chibicc's real offsets; `%rbp = %rsp + N` as the
    prologue `push %rbp; mov %rsp, %rbp; sub $N, %rsp` leaves them) every byte at or above `%rbp` — the saved `%rbp`, the
    return address, the caller's frame — holds after the run what it held before (so the epilogue `mov %rbp, %rsp; pop %rbp;
    ret` restores the caller's `%rsp`, `%rbp` and returns to the caller), besides the conclusions of
    `C03_function_correct_partial`. -/
theorem C03_function_frame_preserved (tys : List ITy) (off toff : Nat → Int) (R : ITy) (c0 u0 : Nat) (body : FStmt)
    (prog : List FI) (K c1 u1 : Nat)
    (hc : compileFn tys off toff R c0 u0 body = some (prog, K, c1, u1)) (hnc : noConflictF body = true)
    (σ σ' : Env) (hσ : σ.tys = tys) (fuel : Nat) (o : Out) (hx : execF R fuel body σ = .done o σ')
    (m : State) (hf : FrameX σ off toff K (depthF body) m)
    (N : Int) (hN : 0 ≤ N) (hlay : layoutOK tys off toff K N = true)
    (hbp : ((m.get .rbp).toNat : Int) = (m.get .rsp).toNat + N) :
    ∃ fuel' m', runF fuel' prog 0 m = some m' ∧ (∀ v, o = .ret v → Represents R (m'.get .rax) v) ∧
      m'.get .rsp = m.get .rsp ∧ m'.get .rbp = m.get .rbp ∧ FrameX σ' off toff K (depthF body) m' ∧
      ∀ a : BitVec 64, (m.get .rbp).toNat ≤ a.toNat → m'.mem a = m.mem a :=
  fun_core tys off toff R c0 u0 body prog K c1 u1 hc hnc σ σ' hσ fuel o hx m hf (fun a => (m.get .rbp).toNat ≤ a.toNat)
    (fun a ha => keep_above_bp tys off toff K N hN hlay (m.get .rbp) (m.get .rsp) hbp a ha)

/-- non-vacuity of the layout hypotheses: the frame of the examples (`N` = 0x1000) -/
example : layoutOK exEnv.tys exXOff exXToff 6 0x1000 = true ∧
    ((exXState.get .rbp).toNat : Int) = (exXState.get .rsp).toNat + 0x1000 := ⟨by decide, by decide⟩

/-- non-vacuity: `exBody` with `signed char v0 = -3`, `unsigned v1 = 7` in that frame: it compiles (six hidden temporaries,
    `count()` 1 … 7, unique names 2 … 12), is conflict-free, and the abstract machine returns 7 (`long`) with `v0 = 0`, `v1 = 15`
    after three iterations of the `while` (one ended by `continue`), one of the `do`, two of the `for` (left by `break`), and the
    `switch` entered at `case 5 ... 9` (after `default`, before a `break`). -/
example : ∃ prog, compileFn exEnv.tys exXOff exXToff .i64 1 2 exBody = some (prog, 6, 8, 13) ∧ noConflictF exBody = true ∧
    execF .i64 40 exBody exEnv = .done (.ret 7) ⟨[.i8, .u32], [0, 15]⟩ ∧
    FrameX exEnv exXOff exXToff 6 (depthF exBody) exXState :=
  ⟨_, rfl, rfl, rfl, exFFrame⟩

/-- … and the machine, run by the kernel on that code from that state, stops with `%rax` = 7 and `v1` = 15 in the frame -/
example : ((compileFn exEnv.tys exXOff exXToff .i64 1 2 exBody).bind fun r =>
    (runF 1000 r.1 0 exXState).map fun s => (s.get .rax, s.read32 0x1ff8#64)) = some (7#64, 15#32) := by decide +kernel

end ChibiVerif.Props.C03Fun
