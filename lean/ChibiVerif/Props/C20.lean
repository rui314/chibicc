/-
C20 — Evaluation leaves no residue on the machine stack or the x87 stack.

Subject: `Model/Codegen` (the Lean double of codegen.c, tied to the real compiler by byte-for-byte
equality of the assembly text on every run) under the effect semantics of `Model/Effect`
(Δrsp in bytes, Δx87 in registers; `delta` for straight-line code, `Balanced` for code with labels
and jumps: one height per label, every jump and fall-through arrives at its label's height).

Full statements (`C20_*_Statement`) quantify over every node kind.  Proved:
* `C20_depth_partial`, `C20_assert` — the `depth` half, ALL 48 node kinds (side condition `okN`: the
  sizes of aggregate arguments are not negative; an empty struct, size 0, is an ordinary argument:
  /repo b298aee).
* `C20_expr_partial` … `C20_call_partial` — the rsp/x87 half for the straight-line node kinds
  (`covE/covA/covS`), as an equation for `delta` (no label, no jump in the code).
* `C20_expr_flow_partial`, `C20_expr_flow_balanced_partial`, `C20_addr_flow_partial`,
  `C20_stmt_flow_partial`, `C20_function_flow_partial` — the rsp/x87 half for ALL node kinds, code with
  labels included (?:, &&, ||, if, for, do/while, switch/case, goto/labels, break/continue, return,
  statement expressions, compare-and-swap, the builtin alloca), by structural induction over the
  tree in the label-height calculus of Lemmas/C20Flow*.lean: the generated code has one (rsp, x87)
  height per label, every jump and every fall-through arrives at its label's height, control falls
  out of an expression at (0, +1 iff long double) and out of a statement at (0, 0), every `return`
  is reached with rsp = 0.  That the labels of the code are pairwise distinct is PROVED: for the labels
  made up from `count()` from the freshness of the monotone counter (Lemmas/C20Labels.lean, C20Fresh.lean),
  for the numeric local labels by renaming, and for the labels that come from the parser
  (`C20_parser_labels_distinct`, Lemmas/C20TreeLabels.lean) from a fact about the TREE: `treeDistinct` — the
  labels parse.c gave the loops, switches, `case`s and labelled statements of the function with
  `new_unique_name()` are pairwise distinct (decidable; evaluated on every dumped function).  The
  theorems have no hypothesis about the emitted lines.
  Scope (`flowE/flowS/flowFn`, Model/C20Flow.lean, decidable): every jump stays inside its region
  (function body / body of a statement expression; outside: known finding C20-jump-out-of-stmt-expr),
  `return` agrees with the function's return type.
* `C20_checkBody_sound`, `C20_checkBody_complete`, `C20_checkBody_iff`, `C20_checkBody_balanced` — the
  executable whole-function check (label heights inferred to a fixpoint, then verified) accepts EXACTLY
  the code for which some labelling passes `Effect.verify`; code that is `FnBalanced` is rejected only
  with the range complaint (`rangeMsg c`, `okH c = false`: a reachable height above the frame or outside
  the eight x87 registers).  `C20_function_check_partial`: for every function in scope the check accepts
  or complains about the range — no other complaint is possible.
What stays open: `C20_expr_Statement` / `C20_stmt_Statement` / `C20_function_Statement` as stated are
FALSE (Findings/C20.lean: a jump out of a statement expression; more than eight long double values
live on the x87 stack); the range half of `checkBody` (rsp never above the frame, at most eight x87
registers) is not proved and stays with the executable check on every emitted function.

This file holds the property theorems, the full statements (`C20_*_Statement`) and `x87Of` (`xOf` of a node's type);
helper lemmas are in Lemmas/C20*.lean.  Where the notions of the statements are defined:
  `covE/covA/covS`, `typedE/typedA/typedS`, `okN`, `isLD`, `xOf`: Model/C20Scope.lean
  `flowE/flowA/flowS/flowFn`, `defsS`, `treeDistinct`, `userDistinct`, `FnBalanced`, `verifyL`, `fallsThrough`: Model/C20Flow.lean
  `delta`, `lineDelta`, `H`, `Balanced`, `BalancedOrLeaves`, `steps`, `checkBody`, `verify`, `Labelling`, `okH`, `rangeMsg`: Model/Effect.lean
  `genExpr/genAddr/genStmt`, `fnBody`, `fnEnv`, `St`, `Env`: Model/Codegen.lean;  `Gen.CastTable.castCell`: Gen/CastTableGen.lean
  `f80` (1 for the type id of long double): Lemmas/C20Lemmas.lean
-/
import ChibiVerif.Lemmas.C20Induction
import ChibiVerif.Lemmas.C20Typing
import ChibiVerif.Lemmas.C20Depth
import ChibiVerif.Lemmas.C20FlowInduction
import ChibiVerif.Lemmas.C20FlowTop
import ChibiVerif.Lemmas.C20Complete
import ChibiVerif.Lemmas.C20TreeLabels

namespace ChibiVerif.Props.C20
open ChibiVerif ChibiVerif.Codegen ChibiVerif.Effect ChibiVerif.Asm ChibiVerif.Ast
open ChibiVerif.Lemmas.C20 ChibiVerif.C20Scope

/-- +1 on the x87 stack iff the node's type is long double -/
def x87Of (n : Node) : Int := if isLD n.ty? then 1 else 0

/-- **C20_expr, full statement.**  For every well-typed expression tree of every kind: whenever
    `gen_expr` succeeds, the code it printed is balanced — Δrsp = 0 on every path, Δx87 = +1 iff the
    node's type is long double — and the `depth` counter is back where it was. -/
def C20_expr_Statement : Prop :=
  ∀ (env : Env) (n : Node), typedE env n = true →
    ∀ s s' ls, genExpr env n s = .ok ((), s', ls) →
      Balanced ls ⟨0, x87Of n⟩ ∧ s'.depth = s.depth

/-- **C20_stmt, full statement.**  Every well-typed statement: on every way out of its code (falling
    through, if that is possible at all) nothing is left on either stack. -/
def C20_stmt_Statement : Prop :=
  ∀ (env : Env) (n : Node), typedS env n = true →
    ∀ s s' ls, genStmt env n s = .ok ((), s', ls) →
      BalancedOrLeaves ls ⟨0, 0⟩ ∧ s'.depth = s.depth

/-- **C20_function, full statement.**  The code of every function body passes the whole-function
    check: one height per label (so no loop, branch, `break`, `continue` or `goto` accumulates
    residue, for any number of repetitions), never above the frame (`rsp ≤ 0`), never more than eight x87
    registers, `rsp` back at the frame on every `return`; and `assert(depth == 0)` in `emit_text`
    holds. -/
def C20_function_Statement : Prop :=
  ∀ (p : Program) (fn : Obj) (env : Env) (k : Int), fnEnv p fn = .ok (env, k) →
    typedS env fn.body = true →
    ∀ s s' ls, genStmt env fn.body s = .ok ((), s', ls) →
      checkBody ls = .ok () ∧ s'.depth = s.depth

/-- **C20_expr (proved part).**  Every expression in scope (`covE`: all straight-line expression
    kinds, any nesting, any operand types): its code is straight-line with Δrsp = 0 and
    Δx87 = +1 iff its type is long double, and `depth` is unchanged. -/
theorem C20_expr_partial (env : Env) (n : Node) (h : covE env n = true)
    (s s' : St) (ls : List Line) (hg : genExpr env n s = .ok ((), s', ls)) :
    delta ls = some ⟨0, x87Of n⟩ ∧ s'.depth = s.depth := by
  have := (expr_ok env n h).elim hg
  simpa [x87Of, xOf, Straight] using this

example : covE { fpic := false, types := [] }
    (.binop ⟨none, 1, 1⟩ .add (.num ⟨none, 1, 1⟩ 1 0 0 0 0) (.num ⟨none, 1, 1⟩ 2 0 0 0 0)) = true := by
  decide

/-- **C20_expr, in the vocabulary of the full statement.** -/
theorem C20_expr_balanced_partial (env : Env) (n : Node) (h : covE env n = true)
    (s s' : St) (ls : List Line) (hg : genExpr env n s = .ok ((), s', ls)) :
    Balanced ls ⟨0, x87Of n⟩ ∧ s'.depth = s.depth := by
  obtain ⟨h1, h2⟩ := C20_expr_partial env n h s s' ls hg
  exact ⟨balanced_of_delta h1, h2⟩

example : covE { fpic := false, types := [] } (.neg ⟨none, 1, 1⟩ (.num ⟨none, 1, 1⟩ 1 0 0 0 0)) = true := by
  decide

/-- **C20_addr (proved part).**  Computing the address of an lvalue in scope leaves both stacks and
    `depth` as they were. -/
theorem C20_addr_partial (env : Env) (n : Node) (h : covA env n = true)
    (s s' : St) (ls : List Line) (hg : genAddr env n s = .ok ((), s', ls)) :
    delta ls = some ⟨0, 0⟩ ∧ s'.depth = s.depth := by
  simpa [Straight] using (addr_ok env n h).elim hg

example : covA { fpic := false, types := [] } (.deref ⟨none, 1, 1⟩ (.var ⟨none, 1, 1⟩ none)) = true := by
  decide

/-- **C20_stmt (proved part).**  Expression statements (the discard of a long double value
    included), blocks of them and `asm` statements leave nothing behind: (0, 0). -/
theorem C20_stmt_partial (env : Env) (n : Node) (h : covS env n = true)
    (s s' : St) (ls : List Line) (hg : genStmt env n s = .ok ((), s', ls)) :
    delta ls = some ⟨0, 0⟩ ∧ s'.depth = s.depth := by
  simpa [Straight] using (stmt_ok env n h).elim hg

example : covS { fpic := false, types := [] }
    (.block ⟨none, 1, 1⟩ (.cons (.exprStmt ⟨none, 1, 1⟩ (.num ⟨none, 1, 1⟩ 1 0 0 0 0)) .nil)) = true := by
  decide

/-- **C20_repeat.**  Any number of repetitions of an in-scope statement leaves `rsp` and the x87 top
    where they were (the straight-line effect of the repeated code is still (0, 0)). -/
theorem C20_repeat_partial (env : Env) (n : Node) (h : covS env n = true)
    (s s' : St) (ls : List Line) (hg : genStmt env n s = .ok ((), s', ls)) (k : Nat) :
    delta (List.flatten (List.replicate k ls)) = some ⟨0, 0⟩ := by
  have h0 := (C20_stmt_partial env n h s s' ls hg).1
  induction k with
  | zero => rfl
  | succ k ih =>
    rw [List.replicate_succ, List.flatten_cons, delta_append, h0, ih]
    rfl

/-- **C20_one_value (proved part).**  An assignment is an expression: after `a = b` of long double
    type exactly one value is on the x87 stack (so `a = b = c` stores the value and not an empty
    register), for every in-scope right-hand side. -/
theorem C20_one_value_partial (env : Env) (i : NInfo) (lhs rhs : Node)
    (h : covE env (.assign i lhs rhs) = true) (hld : isLD i.ty = true)
    (s s' : St) (ls : List Line) (hg : genExpr env (.assign i lhs rhs) s = .ok ((), s', ls)) :
    delta ls = some ⟨0, 1⟩ := by
  have := (C20_expr_partial env _ h s s' ls hg).1
  simpa [x87Of, hld] using this

/-- **C20_call (proved part).**  A call whose callee expression and arguments are in scope: whatever
    the classification of the arguments (the two classification loops of `push_args` and of the
    ND_FUNCALL arm always agree), what is popped into registers and dropped after the call is exactly
    what was pushed — Δrsp = 0, `depth` unchanged — and the x87 stack holds the result iff the call
    returns long double. -/
theorem C20_call_partial (env : Env) (i : NInfo) (lhs : Node) (fty : Int) (rb : Option Var) (args : NodeList)
    (h : covE env (.funcall i lhs fty rb args) = true)
    (s s' : St) (ls : List Line) (hg : genExpr env (.funcall i lhs fty rb args) s = .ok ((), s', ls)) :
    delta ls = some ⟨0, x87Of (.funcall i lhs fty rb args)⟩ ∧ s'.depth = s.depth :=
  C20_expr_partial env _ h s s' ls hg

example : covE { fpic := false, types := [] }
    (.funcall ⟨none, 1, 1⟩ (.var ⟨none, 1, 1⟩ none) 0 none
      (.cons (.num ⟨none, 1, 1⟩ 1 0 0 0 0) (.cons (.num ⟨none, 1, 1⟩ 2 0 0 0 0) .nil))) = true := by
  decide

/-- **C20_assert (proved part).**  `assert(depth == 0)` in `emit_text` holds after every function
    body in scope: `gen_stmt` returns with the `depth` it started with. -/
theorem C20_assert_partial (env : Env) (body : Node) (h : covS env body = true)
    (s s' : St) (ls : List Line) (hg : genStmt env body s = .ok ((), s', ls)) (h0 : s.depth = 0) :
    s'.depth = 0 := by
  rw [(C20_stmt_partial env body h s s' ls hg).2, h0]

example : covS { fpic := false, types := [] } (.block ⟨none, 1, 1⟩ .nil) = true := by decide

/-- **C20_depth, full statement.**  `depth` is unchanged by the code of every node. -/
def C20_depth_Statement : Prop :=
  ∀ (env : Env) (n : Node) (s s' : St) (ls : List Line),
    (genExpr env n s = .ok ((), s', ls) ∨ genAddr env n s = .ok ((), s', ls) ∨ genStmt env n s = .ok ((), s', ls)) →
    s'.depth = s.depth

/-- **C20_depth (all 47 node kinds).**  For every tree of every kind — control flow, statement
    expressions, calls with any argument list (GNU empty structs included), atomics, alloca, ill-typed
    trees included — in which the sizes of struct/union arguments are not negative (`okN`: true of
    every type `type.c` builds): `gen_expr`, `gen_addr` and `gen_stmt` return with the `depth` they
    were entered with. -/
theorem C20_depth_partial (env : Env) (n : Node) (h : okN n = true) (s s' : St) (ls : List Line)
    (hg : genExpr env n s = .ok ((), s', ls) ∨ genAddr env n s = .ok ((), s', ls) ∨
      genStmt env n s = .ok ((), s', ls)) :
    s'.depth = s.depth := by
  rcases hg with hg | hg | hg
  · simpa using (dexpr env n h).elim hg
  · simpa using (daddr env n h).elim hg
  · simpa using (dstmt env n h).elim hg

example : okN (.if_ ⟨none, 1, 1⟩ (.num ⟨none, 1, 1⟩ 1 0 0 0 0) (.block ⟨none, 1, 1⟩ .nil) .null) = true := by decide

/-- **C20_assert (every function).**  `assert(depth == 0)` in `emit_text` never fires: whenever
    `gen_stmt(fn->body)` succeeds on a body of any shape (aggregate argument sizes not negative), the
    assertion that follows it passes, so `fnBody` succeeds with the same code. -/
theorem C20_assert (env : Env) (fn : Obj) (h : okN fn.body = true) (s s' : St) (ls : List Line)
    (hg : genStmt env fn.body s = .ok ((), s', ls)) (h0 : s.depth = 0) :
    fnBody env fn s = .ok ((), s', ls) := by
  have hd : s'.depth = 0 := by rw [C20_depth_partial env fn.body h s s' ls (Or.inr (Or.inr hg)), h0]
  simp [fnBody, bind, M.bind, hg, getDepth, hd, pure, M.pure]

example : okN (.block ⟨none, 1, 1⟩ (.cons (.ret ⟨none, 1, 1⟩ .null) .nil)) = true := by decide

/-- **C20_cast_table.**  Every cell of the regenerated `cast_table` is straight-line, leaves %rsp
    alone and changes the x87 depth by (to is long double) − (from is long double); in particular
    the `(void)`-free conversions never leak or underflow. -/
theorem C20_cast_table : ∀ t1, t1 < 11 → ∀ t2, t2 < 11 →
    (match Gen.CastTable.castCell t1 t2 with
     | some l => lineDelta l
     | none => some H.zero) = some ⟨0, f80 t2 - f80 t1⟩ :=
  castTable_delta

/-! ## the parser's labels -/

/-- **The parser's labels occur once each in the generated code.**  For every tree (every node kind;
    side condition `okN`: aggregate argument sizes are not negative) whose parser labels — the
    `break`/`continue` labels of its loops and switches, its `case`/`default` labels and labelled
    statements, in all regions (`labsN`) — are pairwise distinct, the code `gen_expr`, `gen_addr` or
    `gen_stmt` prints defines each of them at most once (`userDistinct`): every operand's code is
    printed at most once and a label line only where the tree has the label; the labels made up from
    `count()` and the numeric local labels are never spelled like a parser label.  So the
    label-height theorems rest on a fact about the tree and on no hypothesis about the emitted lines. -/
theorem C20_parser_labels_distinct (env : Env) (n : Node) (hok : okN n = true) (hd : treeDistinct n = true)
    (s s' : St) (ls : List Line)
    (hg : genExpr env n s = .ok ((), s', ls) ∨ genAddr env n s = .ok ((), s', ls) ∨
      genStmt env n s = .ok ((), s', ls)) :
    userDistinct ls = true := by
  rcases hg with hg | hg | hg
  · exact userDistinct_of_tree_expr hok hd hg
  · exact userDistinct_of_tree_addr hok hd hg
  · exact userDistinct_of_tree_stmt hok hd hg

example : okN (.for_ ⟨none, 1, 1⟩ .null (.num ⟨none, 1, 1⟩ 1 0 0 0 0) .null
      (.do_ ⟨none, 1, 1⟩ (.block ⟨none, 1, 1⟩ .nil) (.num ⟨none, 1, 1⟩ 0 0 0 0 0) (some ".L..3") (some ".L..4"))
      (some ".L..1") (some ".L..2")) = true
  ∧ treeDistinct (.for_ ⟨none, 1, 1⟩ .null (.num ⟨none, 1, 1⟩ 1 0 0 0 0) .null
      (.do_ ⟨none, 1, 1⟩ (.block ⟨none, 1, 1⟩ .nil) (.num ⟨none, 1, 1⟩ 0 0 0 0 0) (some ".L..3") (some ".L..4"))
      (some ".L..1") (some ".L..2")) = true
  -- the hypothesis is not vacuous: a tree that uses one label for two loops fails it
  ∧ treeDistinct (.for_ ⟨none, 1, 1⟩ .null (.num ⟨none, 1, 1⟩ 1 0 0 0 0) .null
      (.do_ ⟨none, 1, 1⟩ (.block ⟨none, 1, 1⟩ .nil) (.num ⟨none, 1, 1⟩ 0 0 0 0 0) (some ".L..1") (some ".L..4"))
      (some ".L..1") (some ".L..2")) = false := by
  decide

/-! ## code with labels: every node kind -/

/-- **C20_expr (every expression kind, code with labels included).**  For every well-typed expression
    in scope (`flowE`: conditional, `&&`, `||`, statement expressions, compare-and-swap, alloca and
    calls with any argument list included; every jump inside a statement expression stays inside
    it): the code `gen_expr` prints has one (rsp, x87) height per label such
    that every jump and every fall-through arrives at its label's height, and control falls out of
    its end — if it can — with Δrsp = 0 and Δx87 = +1 iff the node's type is long double; `depth` is
    back where it was.  The labels the code generator makes up from `count()` are proved pairwise
    distinct (freshness of the monotone counter, Lemmas/C20Labels.lean, Lemmas/C20Fresh.lean); `hd`: the
    labels the TREE got from the parser (`break`/`continue`/`case` labels and labelled statements inside
    statement expressions) are pairwise distinct (decidable; a fact about `parse.c`'s `new_unique_name()`,
    evaluated on every function the real front end dumps) — from which it is proved that they occur once
    each in the code (`C20_parser_labels_distinct`). -/
theorem C20_expr_flow_partial (env : Env) (n : Node) (ht : typedE env n = true) (hf : flowE n = true)
    (hd : treeDistinct n = true)
    (s s' : St) (ls : List Line) (hg : genExpr env n s = .ok ((), s', ls)) :
    BalancedOrLeaves ls ⟨0, x87Of n⟩ ∧ s'.depth = s.depth := by
  have hu := userDistinct_of_tree_expr (okN_of_flowE n hf) hd hg
  obtain ⟨h1, h2⟩ := (fexpr env n ht hf).elim hg
  exact ⟨by simpa [x87Of, xOf] using balancedOrLeaves_of_FlowP h1 hu, by simpa using h2⟩

example : typedE { fpic := false, types := [] }
    (.cond ⟨none, 1, 1⟩ (.num ⟨none, 1, 1⟩ 1 0 0 0 0) (.num ⟨none, 1, 1⟩ 2 0 0 0 0) (.num ⟨none, 1, 1⟩ 3 0 0 0 0)) = true
  ∧ flowE (.cond ⟨none, 1, 1⟩ (.num ⟨none, 1, 1⟩ 1 0 0 0 0) (.num ⟨none, 1, 1⟩ 2 0 0 0 0) (.num ⟨none, 1, 1⟩ 3 0 0 0 0)) = true := by
  decide

/-- **C20_expr, in the vocabulary of the full statement.**  When control falls out of the end of the
    code (`fallsThrough`: it does not end in a jump away — decidable; the code of an expression ends
    in a jump only if a statement expression in it does), the code is `Balanced`: control leaves it
    with Δrsp = 0 and Δx87 = +1 iff the node's type is long double. -/
theorem C20_expr_flow_balanced_partial (env : Env) (n : Node) (ht : typedE env n = true) (hf : flowE n = true)
    (hd : treeDistinct n = true)
    (s s' : St) (ls : List Line) (hg : genExpr env n s = .ok ((), s', ls))
    (hft : fallsThrough ls = true) :
    Balanced ls ⟨0, x87Of n⟩ ∧ s'.depth = s.depth := by
  obtain ⟨h1, h2⟩ := C20_expr_flow_partial env n ht hf hd s s' ls hg
  exact ⟨balanced_of_fallsThrough h1 hft, h2⟩

example : typedE { fpic := false, types := [] }
    (.logand ⟨none, 1, 1⟩ (.num ⟨none, 1, 1⟩ 1 0 0 0 0) (.num ⟨none, 1, 1⟩ 2 0 0 0 0)) = true
  ∧ flowE (.logand ⟨none, 1, 1⟩ (.num ⟨none, 1, 1⟩ 1 0 0 0 0) (.num ⟨none, 1, 1⟩ 2 0 0 0 0)) = true := by
  decide

/-- **C20_addr (every lvalue kind).**  The same for `gen_addr`: Δrsp = 0, Δx87 = 0. -/
theorem C20_addr_flow_partial (env : Env) (n : Node) (ht : typedA env n = true) (hf : flowA n = true)
    (hd : treeDistinct n = true)
    (s s' : St) (ls : List Line) (hg : genAddr env n s = .ok ((), s', ls)) :
    BalancedOrLeaves ls ⟨0, 0⟩ ∧ s'.depth = s.depth := by
  have hu := userDistinct_of_tree_addr (okN_of_flowA n hf) hd hg
  obtain ⟨h1, h2⟩ := (faddr env n ht hf).elim hg
  exact ⟨balancedOrLeaves_of_FlowP h1 hu, by simpa using h2⟩

example : typedA { fpic := false, types := [] }
    (.cond ⟨none, 1, 1⟩ (.num ⟨none, 1, 1⟩ 1 0 0 0 0) (.var ⟨none, 1, 1⟩ none) (.var ⟨none, 1, 1⟩ none)) = true
  ∧ flowA (.cond ⟨none, 1, 1⟩ (.num ⟨none, 1, 1⟩ 1 0 0 0 0) (.var ⟨none, 1, 1⟩ none) (.var ⟨none, 1, 1⟩ none)) = true := by
  decide

/-- **C20_stmt (every statement kind).**  A well-typed statement that is a region of its own (`flowS`
    with the labels it defines: every `break`, `continue`, `goto` and `case` dispatch in it targets a
    label defined in it; no `return`): one height per label, every jump and fall-through arrives at
    its label's height — so no number of iterations of a loop in it accumulates residue — and control
    falls out of its end, if it can, at (0, 0). -/
theorem C20_stmt_flow_partial (env : Env) (n : Node) (ht : typedS env n = true)
    (hf : flowS (defsS n) none n = true) (hd : treeDistinct n = true)
    (s s' : St) (ls : List Line) (hg : genStmt env n s = .ok ((), s', ls)) :
    BalancedOrLeaves ls ⟨0, 0⟩ ∧ s'.depth = s.depth := by
  have hu := userDistinct_of_tree_stmt (okN_of_flowS _ _ n hf) hd hg
  have h := fstmt env (defsS n) none (at0 (defsS n)) (fun l hl => mem_at0.mpr ⟨hl, rfl⟩)
    (fun _ h => by cases h) n ht hf
  obtain ⟨h1, h2⟩ := (SemP_of_region h (fun l hl => mem_at0.mpr ⟨hl, rfl⟩)).elim hg
  exact ⟨balancedOrLeaves_of_FlowP h1 hu, by simpa using h2⟩

example : typedS { fpic := false, types := [] }
    (.for_ ⟨none, 1, 1⟩ .null (.num ⟨none, 1, 1⟩ 1 0 0 0 0) .null
      (.goto_ ⟨none, 1, 1⟩ none (some ".L..1")) (some ".L..1") (some ".L..2")) = true
  ∧ flowS [".L..2", ".L..1"] none
    (.for_ ⟨none, 1, 1⟩ .null (.num ⟨none, 1, 1⟩ 1 0 0 0 0) .null
      (.goto_ ⟨none, 1, 1⟩ none (some ".L..1")) (some ".L..1") (some ".L..2")) = true := by
  decide

/-- **C20_function (every function body in scope).**  For every function whose body is well typed and
    in scope (`flowFn`: every jump targets a label of its own region, `return` only in the region of
    the body and of the function's long-double-ness): the code of the body
    passes the whole-function label-height check `verifyL` (`Effect.verify`, the check `checkBody`
    runs on every emitted function, without its range test) with some labelling — one (rsp, x87)
    height per label, every jump and fall-through arrives at its label's height, every `return`
    leaves with rsp = 0 — and `assert(depth == 0)` holds.  That the labels of the code are pairwise
    distinct is proved: for the labels made up from the monotone counter `count()`, for the numeric
    local labels, and for the parser's labels from `hd`: the labels of the loops, switches, `case`s and
    labelled statements of the TREE are pairwise distinct (decidable; no hypothesis about the emitted
    lines). -/
theorem C20_function_flow_partial (p : Program) (fn : Obj) (env : Env) (k : Int)
    (_he : fnEnv p fn = .ok (env, k)) (ht : typedS env fn.body = true) (hf : flowFn env fn.body = true)
    (hd : treeDistinct fn.body = true)
    (s s' : St) (ls : List Line) (hg : genStmt env fn.body s = .ok ((), s', ls)) :
    FnBalanced ls ∧ BalancedOrLeaves ls ⟨0, 0⟩ ∧ s'.depth = s.depth := by
  have hu := userDistinct_of_tree_stmt (okN_of_flowS _ _ fn.body hf) hd hg
  have h := fstmt env (defsS fn.body) (some (isLD env.retTy))
    ((retLabel env, ⟨0, if isLD env.retTy then 1 else 0⟩) :: at0 (defsS fn.body))
    (fun l hl => List.mem_cons_of_mem _ (mem_at0.mpr ⟨hl, rfl⟩))
    (fun ld h => by simp only [Option.some.injEq] at h; subst h; exact List.mem_cons_self) fn.body ht hf
  obtain ⟨h1, h2, h3⟩ := h s () s' ls hg
  obtain ⟨b1, b2⟩ := fnBalanced_of_SemF h1 (fun l hl => mem_at0.mpr ⟨hl, rfl⟩) h3 hu
  exact ⟨b1, b2, by simpa using h2⟩

example : flowFn { fpic := false, types := [] }
    (.block ⟨none, 1, 1⟩ (.cons (.ret ⟨none, 1, 1⟩ (.num ⟨none, 1, 1⟩ 1 0 0 0 0)) .nil)) = true := by decide

/-- **`checkBody` is a sound test of `FnBalanced`.**  Whenever the executable whole-function check
    accepts a piece of code, the code has a labelling that passes `verifyL`: the theorems above prove,
    for every function in scope, what the check tests on every emitted function (except the range). -/
theorem C20_checkBody_sound (ls : List Line) (h : checkBody ls = .ok ()) : FnBalanced ls :=
  ⟨_, verifyL_of_verify _ _ _ (by simpa [checkBody] using h)⟩

/-- **`checkBody` is complete.**  The labelling it infers (forward scans repeated until a scan adds
    nothing; `length + 1` scans of fuel are proved to suffice) is as good as any: whenever SOME
    labelling passes `Effect.verify` on the code — one height per label, every jump and fall-through
    arrives at its label's height, every reachable height within the frame and the eight x87 registers,
    rsp = 0 at every `return` — the check accepts.  No condition on the label graph (backward-only
    chains of any length, irreducible loops, labels reached only from dead code). -/
theorem C20_checkBody_complete (ls : List Line)
    (h : ∃ lab : Labelling, verify lab (steps ls) (some H.zero) = .ok ()) : checkBody ls = .ok () := by
  obtain ⟨lab, hv⟩ := h
  exact verify_inferred (steps ls) lab hv

/-- five labels reached only by backward jumps (the skeleton the three-pass inference rejected) -/
example : ∃ lab : Labelling, verify lab
    (steps [ins1 "jmp" (.s ".A"), .label ".D", ins1 "jmp" (.s ".E"), .label ".C", ins1 "jmp" (.s ".D"),
      .label ".B", ins1 "jmp" (.s ".C"), .label ".A", ins1 "jmp" (.s ".B"), .label ".E"]) (some H.zero) = .ok () :=
  ⟨[(".A", H.zero), (".B", H.zero), (".C", H.zero), (".D", H.zero), (".E", H.zero)], by rfl⟩

/-- **`checkBody` decides the existence of a labelling.** -/
theorem C20_checkBody_iff (ls : List Line) :
    checkBody ls = .ok () ↔ ∃ lab : Labelling, verify lab (steps ls) (some H.zero) = .ok () :=
  ⟨fun h => ⟨_, h⟩, C20_checkBody_complete ls⟩

/-- **`checkBody` on balanced code.**  Code that is `FnBalanced` (some labelling passes the
    label-height discipline `verifyL`) is accepted, or rejected with the range complaint and nothing
    else: the inferred labelling passes `verifyL`, and `verify` differs from `verifyL` only by the test
    `okH` of every reachable height. -/
theorem C20_checkBody_balanced (ls : List Line) (h : FnBalanced ls) :
    checkBody ls = .ok () ∨ ∃ c : H, checkBody ls = .error (rangeMsg c) ∧ okH c = false := by
  obtain ⟨lab, hv⟩ := h
  exact verify_of_verifyL _ _ _ (verifyL_inferred (steps ls) lab hv)

example : FnBalanced [ins1 "jmp" (.s ".A"), .label ".B", ins1 "jmp" (.s ".C"), .label ".A", ins1 "jmp" (.s ".B"),
    .label ".C"] :=
  ⟨[(".A", H.zero), (".B", H.zero), (".C", H.zero)], by rfl⟩

/-- **C20_function with the executable check (every function body in scope).**  What
    `C20_function_Statement` asks of `checkBody`, up to the range: for every function whose body is well
    typed and in scope, the whole-function check accepts the code of the body, or its one complaint is
    a reachable height out of range (`rangeMsg c` with `okH c = false`: the region of known finding
    C20-x87-depth-overflow, or rsp above the frame); `assert(depth == 0)` holds. -/
theorem C20_function_check_partial (p : Program) (fn : Obj) (env : Env) (k : Int)
    (he : fnEnv p fn = .ok (env, k)) (ht : typedS env fn.body = true) (hf : flowFn env fn.body = true)
    (hd : treeDistinct fn.body = true)
    (s s' : St) (ls : List Line) (hg : genStmt env fn.body s = .ok ((), s', ls)) :
    (checkBody ls = .ok () ∨ ∃ c : H, checkBody ls = .error (rangeMsg c) ∧ okH c = false) ∧
      s'.depth = s.depth := by
  obtain ⟨h1, _, h3⟩ := C20_function_flow_partial p fn env k he ht hf hd s s' ls hg
  exact ⟨C20_checkBody_balanced ls h1, h3⟩

example : flowFn { fpic := false, types := [] }
    (.block ⟨none, 1, 1⟩ (.cons (.do_ ⟨none, 1, 1⟩ (.block ⟨none, 1, 1⟩ .nil) (.num ⟨none, 1, 1⟩ 0 0 0 0 0)
      (some ".L..1") (some ".L..2")) .nil)) = true := by decide

end ChibiVerif.Props.C20
