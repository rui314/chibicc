/-
C02 — floating-point arithmetic and conversions are bit-exact.

Property theorems only.  The notions of the statements: `instrsOf`, `castSeq`, `chainSeq`, `nest`, `operandCode`, `binarySeq`,
`RInt`, `Holds`, `stBelow`, `Yields`, `usesX87Arith`, `chainUsesX87Arith`, `b2bv`, `SrcOp.cmpOp`, `sseArith32/64`, `x87Arith`,
`arithVal`, `descr`: Lemmas/FpVocabulary.lean; `FpuSpec`, `Val`, `Rel`, `roundNat`, `roundInt`, `truncTo`, `Ieee.*`:
Spec/FpuSpec; `ATy`, `AVal`, `convert`, `CmpOp`, `truth`, `usualArith`: Spec/FpC11Spec; `convertChain`, `chainType`:
Spec/FpChainSpec; `FState`, `run`, `jumpOf`: Model/FpMachine; the printed lines (`cmpZero`, `sseOp`, `x87Op`, `negLines`, `numF*`,
`fnBinary`, …): Model/FpCodegen, Model/FpChain; `convertPpNumberFp`, `LibcRounds`, `valOf`, `numLines`: Model/FpLiteral; `Toy.toy`:
Lemmas/FpToy.  Lemmas: Lemmas/FpOpLemmas (operators), FpChainLemmas (`link`, `chain`), FpBinaryLemmas, FpLiteralLemmas,
FpRoundLemmas, FpIeeeLemmas; under them FpCastLemmas (`select`), FpFlagLemmas, FpCellLemmas, FpStepLemmas, and C07ValLemmas (order and
integral part of a `Val`).

What is proved, and relative to what.  The *results* of SSE/x87 instructions are not formalised; they are the fields of an
abstract `F : FpuSpec` whose `Prop` fields are the Intel-SDM contracts (Spec/FpuSpec.lean).  Every theorem below is for
every such `F`, every machine state and every operand value.  What is logic — which instruction is selected, in which
operand order, through which register / stack slot of which width and signedness, which `setcc`/`jcc` combination reads
the flags, which bit the sign mask flips, which immediates a constant is built from — is proved completely, over the
cast table and `get_common_type` as *regenerated from /repo* (Gen/CastTableGen, Gen/CommonTypeGen) and the hand model
Model/FpCodegen (tied to `chibicc -S` by text on every run).  `FpuSpec` is satisfiable (Lemmas/FpToy.lean); the host
CPU is validated against the same contracts on every run (checklib/C02.py).

Three theorems at the end (`C02_ieee_*`) mention no `FpuSpec` at all: they are about the IEEE-754 / x87 bit layouts themselves.

No statement stands as an unproved `_Statement`: `C02_select` holds for all 144 − 81 = 63 cells with a floating side and **all**
operand values, `C02_const_literal` / `C02_const_rounded` for every spelling.  Findings/C02.lean holds the witnesses for the
three repairs of /repo this rests on (unsigned long → float and floating → unsigned long at ≥ 2^63; constants read by the libc
function of their own type).

Chains (`C02_cast_link`, `C02_cast_chain`, `C02_roundtrip_rounds`, `C02_roundtrip_not_identity`): `gen_expr`'s ND_CAST arm prints
one `cast()` per node, nothing elided (Model/FpChain.lean, tied to `chibicc -S` by text on generated chains in `return`,
assignment and `?:` contexts); the code of `(Tn)…(T1)e` computes the composition of the C11 conversions in order for every
chain over the twelve arithmetic types — integer-only links by C01's `C01_cast` transported to the floating machine — and
`(int)(float)e`, `(long)(double)e` are provably not the identity.  Mixed operands (`C02_binary_code`, `C02_binary_value_sse`,
`C02_binary_value_x87`): the code of `a OP b` converts each operand by the cell of (its type, the C11 common type) and applies
the operator of the common type, left operand first, in both of `gen_expr`'s evaluation orders.

One hypothesis is not a region but the ABI: the two cells that do x87 *arithmetic* (unsigned long ↔ long double at ≥ 2^63:
`fadds` of 2^64, `fsub` of 2^63) are exact only when the x87 precision-control field selects double extended precision,
which the psABI prescribes (control word 0x37f at process start, preserved across calls); `C02_select` asks for it in
exactly those two cells.
-/
import ChibiVerif.Lemmas.FpOpLemmas
import ChibiVerif.Lemmas.FpToy
import ChibiVerif.Lemmas.FpRoundLemmas
import ChibiVerif.Lemmas.FpLiteralLemmas
import ChibiVerif.Lemmas.FpIeeeLemmas
import ChibiVerif.Lemmas.FpChainLemmas
import ChibiVerif.Lemmas.FpBinaryLemmas

namespace ChibiVerif.Props.C02
open ChibiVerif.Fp ChibiVerif.Asm ChibiVerif.X86 ChibiVerif.Spec.Fpu ChibiVerif.FpCodegen ChibiVerif.Spec.FpC11
open ChibiVerif.Spec.IntSpec ChibiVerif.Gen.CommonType ChibiVerif.Gen.CastTable ChibiVerif.FpChain

/-! ## usual arithmetic conversions -/

/-- **C02 (rank).**  For all 12×12 pairs of arithmetic types, `get_common_type` (as regenerated from type.c) yields the
    common real type of C11 6.3.1.8: long double if either operand is, else double, else float, else the integer rules. -/
theorem C02_rank : ∀ a ∈ ATy.all, ∀ b ∈ ATy.all,
    FpCodegen.commonType (descr a) (descr b) = some (descr (usualArith a b)) := by decide +kernel

/-- the operand of unary minus is promoted (`get_common_type(ty_int, ty)`): floating types are unchanged -/
theorem C02_rank_unary : ∀ a ∈ ATy.all, FpCodegen.commonType ty_int (descr a) = some (descr (promote a)) := by decide

/-! ## comparison flags -/

/-- **C02 (flags: SSE and x87 comparison paths).**  Let `r` be the relation of the source operands `a ? b`.  After
    parse.c's exchange of the operands of `>`/`>=` and the compare instruction (`ucomis* %xmm0, %xmm1` with the node's lhs in
    %xmm0; `fcomip` with the node's rhs in %st(0)) the flags are those of the node's rhs ? lhs.  Then the `setcc` lines
    the operator selects, followed by `and $1, %al; movzb %al, %rax` (SSE) or `movzb %al, %rax` (x87), leave in %rax the
    value C11 / IEC 60559 give `a OP b`: 1 or 0, every comparison with a NaN (`r = un`) false except `!=`. -/
theorem C02_flags (F : FpuSpec) (op : SrcOp) (c : CmpOp) (hc : SrcOp.cmpOp op = some c) (r : Rel) (s : FState) :
    (∃ s', Fp.run F (instrsOf (setccLines op.node.1 ++
                [ins2 "and" (.i 1) (.r "%al"), ins2 "movzb" (.r "%al") (.r "%rax")]))
            (s.setRel (if op.node.2 then r else r.swap)) = some s' ∧ s'.x.get .rax = b2bv (c.holds r)) ∧
    (∃ s', Fp.run F (instrsOf (setccLines op.node.1 ++ [ins2 "movzb" (.r "%al") (.r "%rax")]))
            (s.setRel (if op.node.2 then r else r.swap)) = some s' ∧ s'.x.get .rax = b2bv (c.holds r)) := by
  have hcmp := srcop_isCmp op c hc
  have hval : op.node.1.cmpOp.holds (if op.node.2 then r else r.swap).swap = c.holds r := by
    cases op <;> simp [SrcOp.cmpOp] at hc <;> subst hc <;> cases r <;> rfl
  constructor
  · obtain ⟨s', h1, h2⟩ := sse_tail F op.node.1 hcmp (if op.node.2 then r else r.swap) s
    exact ⟨s', h1, by rw [h2, hval]⟩
  · obtain ⟨s', h1, h2⟩ := x87_tail F op.node.1 hcmp (if op.node.2 then r else r.swap) s
    exact ⟨s', h1, by rw [h2, hval]⟩

/-- non-vacuity: all six source operators are covered -/
example : SrcOp.all.filterMap SrcOp.cmpOp = [.eq, .ne, .lt, .le, .gt, .ge] := rfl

/-- **C02 (flags: truth tests).**  `cmp_zero` leaves the flags of the relation `r` of `e` to zero; its tail
    `sete %al; setnp %dl; and %dl, %al; xor $1, %al` followed by
    (1) `sete %al; movzx %al, %rax` yields `!e`, (2) `setne %al; movzx %al, %eax` yields `(_Bool)e`,
    (3) `je` is taken exactly when `e` is false and `jne` exactly when it is true — where `e` is true unless it compares
    equal to zero: a NaN (`r = un`) is true, −0.0 (`r = eq`) is false. -/
theorem C02_flags_truth (F : FpuSpec) (r : Rel) (s : FState) (l : String) :
    (∃ s', Fp.run F (instrsOf (cmpZeroTail ++ [ins1 "sete" (.r "%al"), ins2 "movzx" (.r "%al") (.r "%rax")]))
        (s.setRel r) = some s' ∧ s'.x.get .rax = b2bv (!truth r)) ∧
    (∃ s', Fp.run F (instrsOf (cmpZeroTail ++ [ins1 "setne" (.r "%al"), ins2 "movzx" (.r "%al") (.r "%eax")]))
        (s.setRel r) = some s' ∧ s'.x.get .rax = b2bv (truth r)) ∧
    (∃ s', Fp.run F (instrsOf cmpZeroTail) (s.setRel r) = some s' ∧ s'.x.flagsValid = true ∧
        jumpOf ⟨"je", [.s l]⟩ s' = some (true, !truth r, l) ∧ jumpOf ⟨"jne", [.s l]⟩ s' = some (true, truth r, l)) := by
  refine ⟨?_, ?_, ?_⟩
  · obtain ⟨s', h1, h2, _⟩ := truth_not F r s; exact ⟨s', h1, h2⟩
  · obtain ⟨s', h1, h2, _⟩ := truth_bool F r s; exact ⟨s', h1, h2⟩
  · obtain ⟨s', h1, h2, h3, h4, _⟩ := truth_jcc F r s l; exact ⟨s', h1, h4, h2, h3⟩

/-! ## comparisons, arithmetic, negation and truth on values -/

/-- **C02 (comparison of doubles).**  With the operands of `a OP b` where `gen_expr` puts them (node lhs in %xmm0, node rhs
    in %xmm1, after the exchange for `>`/`>=`), the TY_DOUBLE arm leaves the IEC 60559 answer for the denoted values. -/
theorem C02_compare_f64 (F : FpuSpec) (op : SrcOp) (c : CmpOp) (hc : SrcOp.cmpOp op = some c) (a b : BitVec 64) (s : FState)
    (h0 : s.xmm0 = if op.node.2 then b else a) (h1 : s.xmm1 = if op.node.2 then a else b) :
    ∃ s', Fp.run F (instrsOf (sseOp false op.node.1)) s = some s' ∧
      s'.x.get .rax = b2bv (c.holds (Val.cmp (F.val64 a) (F.val64 b))) := by
  have hcmp := srcop_isCmp op c hc
  obtain ⟨s', hr, hx⟩ := cmp_f64 F op.node.1 hcmp s
  refine ⟨s', hr, ?_⟩
  rw [hx, h0, h1, ← srcop_node op c hc (F.val64 a) (F.val64 b)]
  cases op.node.2 <;> rfl

theorem C02_compare_f32 (F : FpuSpec) (op : SrcOp) (c : CmpOp) (hc : SrcOp.cmpOp op = some c) (a b : BitVec 32) (s : FState)
    (h0 : s.xmm0.setWidth 32 = if op.node.2 then b else a) (h1 : s.xmm1.setWidth 32 = if op.node.2 then a else b) :
    ∃ s', Fp.run F (instrsOf (sseOp true op.node.1)) s = some s' ∧
      s'.x.get .rax = b2bv (c.holds (Val.cmp (F.val32 a) (F.val32 b))) := by
  have hcmp := srcop_isCmp op c hc
  obtain ⟨s', hr, hx⟩ := cmp_f32 F op.node.1 hcmp s
  refine ⟨s', hr, ?_⟩
  rw [hx, h0, h1, ← srcop_node op c hc (F.val32 a) (F.val32 b)]
  cases op.node.2 <;> rfl

/-- long double: node lhs in %st(1), node rhs in %st(0); both are popped -/
theorem C02_compare_f80 (F : FpuSpec) (op : SrcOp) (c : CmpOp) (hc : SrcOp.cmpOp op = some c) (a b : BitVec 80) (s : FState)
    (rest : List (BitVec 80))
    (h : s.st = (if op.node.2 then a else b) :: (if op.node.2 then b else a) :: rest) :
    ∃ s', Fp.run F (instrsOf (x87Op op.node.1)) s = some s' ∧
      s'.x.get .rax = b2bv (c.holds (Val.cmp (F.val80 a) (F.val80 b))) := by
  have hcmp := srcop_isCmp op c hc
  obtain ⟨s', hr, hx⟩ := cmp_f80 F op.node.1 hcmp s _ _ rest h
  refine ⟨s', hr, ?_⟩
  rw [hx, ← srcop_node op c hc (F.val80 a) (F.val80 b)]
  cases op.node.2 <;> rfl

/-- non-vacuity: `a >= b` on long doubles: the node is `b <= a`, so `a` is evaluated last and sits in %st(0) -/
example : ∃ (s : FState) (rest : List (BitVec 80)),
    s.st = (if SrcOp.ge.node.2 then 7#80 else 9#80) :: (if SrcOp.ge.node.2 then 9#80 else 7#80) :: rest ∧
    SrcOp.cmpOp .ge = some .ge :=
  ⟨⟨{ regs := fun _ => 0, mem := fun _ => 0 }, 0, 0, [7#80, 9#80], 0x37f#16⟩, [], rfl, rfl⟩

/-- **C02 (arithmetic: instruction and operand order).**  `a OP b` on float/double computes `F.OPs* a b` with `a` as the
    destination operand (first source), on long double `F.fOP cw a b` with `a` in %st(1): `a − b`, `a ÷ b`, not the reverse. -/
theorem C02_arith (F : FpuSpec) (op : FOp) (hop : op.isCmp = false) (s : FState) :
    (∃ s', Fp.run F (instrsOf (sseOp true op)) s = some s' ∧
      s'.xmm0.setWidth 32 = sseArith32 F op (s.xmm0.setWidth 32) (s.xmm1.setWidth 32) ∧ s'.st = s.st ∧ s'.cw = s.cw) ∧
    (∃ s', Fp.run F (instrsOf (sseOp false op)) s = some s' ∧
      s'.xmm0 = sseArith64 F op s.xmm0 s.xmm1 ∧ s'.st = s.st ∧ s'.cw = s.cw) ∧
    (∀ l r rest, s.st = r :: l :: rest →
      ∃ s', Fp.run F (instrsOf (x87Op op)) s = some s' ∧ s'.st = x87Arith F s.cw op l r :: rest ∧ s'.cw = s.cw) := by
  refine ⟨?_, ?_, ?_⟩
  · obtain ⟨s', h1, h2, h3, h4, _⟩ := arith_f32 F op hop s; exact ⟨s', h1, h2, h3, h4⟩
  · obtain ⟨s', h1, h2, h3, h4, _⟩ := arith_f64 F op hop s; exact ⟨s', h1, h2, h3, h4⟩
  · intro l r rest h
    obtain ⟨s', h1, h2, h3, _⟩ := arith_f80 F op hop s l r rest h; exact ⟨s', h1, h2, h3⟩

/-- non-vacuity: the four arithmetic operators are the non-comparisons -/
example : FOp.all.filter (fun o => !o.isCmp) = [.add, .sub, .mul, .div] := rfl

/-- `xor` with `1 << (n−1)` complements the top bit and leaves every other bit alone -/
theorem C02_neg_bits (n : Nat) (b : BitVec (n + 1)) (i : Nat) :
    (b ^^^ (1#(n + 1) <<< n)).getLsbD i = (if i = n then !b.getLsbD i else b.getLsbD i) := by
  by_cases h : i = n
  · subst h; simp
  · by_cases h2 : i < n
    · simp [h, h2, BitVec.getLsbD_shiftLeft]
    · have h3 : ¬ i < n + 1 := by omega
      simp [h, h2, h3, BitVec.getLsbD_shiftLeft]

/-- **C02 (negation).**  `-e`: `mov $1, %rax; shl $31|$63, %rax; movq %rax, %xmm1; xorps|xorpd %xmm1, %xmm0` complements
    exactly the sign bit of the float / double (so −0.0, infinities and NaN payloads are negated as IEC 60559 `negate`);
    `fchs` does the same to the long double by contract. -/
theorem C02_neg (F : FpuSpec) (s : FState) :
    (∃ s', Fp.run F (instrsOf (negLines ty_float)) s = some s' ∧
      s'.xmm0.setWidth 32 = s.xmm0.setWidth 32 ^^^ (1#32 <<< 31) ∧ s'.st = s.st ∧ s'.cw = s.cw) ∧
    (∃ s', Fp.run F (instrsOf (negLines ty_double)) s = some s' ∧
      s'.xmm0 = s.xmm0 ^^^ (1#64 <<< 63) ∧ s'.st = s.st ∧ s'.cw = s.cw) ∧
    (∀ v rest, s.st = v :: rest →
      ∃ s', Fp.run F (instrsOf (negLines ty_ldouble)) s = some s' ∧ s'.st = (v ^^^ (1#80 <<< 79)) :: rest ∧ s'.cw = s.cw) := by
  refine ⟨?_, ?_, ?_⟩
  · obtain ⟨s', h1, h2, h3, h4, _⟩ := neg_f32 F s; exact ⟨s', h1, h2, h3, h4⟩
  · obtain ⟨s', h1, h2, h3, h4, _⟩ := neg_f64 F s; exact ⟨s', h1, h2, h3, h4⟩
  · intro v rest h
    obtain ⟨s', h1, h2, h3, _⟩ := neg_f80 F s v rest h; exact ⟨s', h1, h2, h3⟩

/-- **C02 (truth of a value).**  `!e` is 1 exactly for the two zeros (0 for a NaN), and after `cmp_zero(ty)` the branch
    `je` (used by `if`, `?:`, `&&`, `for`/`while`) is taken exactly when `e` is a zero, `jne` (`||`, `do`) exactly when it is not. -/
theorem C02_truth (F : FpuSpec) (s : FState) (l : String) :
    (∃ s', Fp.run F (instrsOf (cmpZero ty_float ++ [ins1 "sete" (.r "%al"), ins2 "movzx" (.r "%al") (.r "%rax")])) s = some s' ∧
      s'.x.get .rax = b2bv (F.val32 (s.xmm0.setWidth 32)).isZero) ∧
    (∃ s', Fp.run F (instrsOf (cmpZero ty_double ++ [ins1 "sete" (.r "%al"), ins2 "movzx" (.r "%al") (.r "%rax")])) s = some s' ∧
      s'.x.get .rax = b2bv (F.val64 s.xmm0).isZero) ∧
    (∀ b rest, s.st = b :: rest →
      ∃ s', Fp.run F (instrsOf (cmpZero ty_ldouble ++ [ins1 "sete" (.r "%al"), ins2 "movzx" (.r "%al") (.r "%rax")])) s = some s' ∧
        s'.x.get .rax = b2bv (F.val80 b).isZero ∧ s'.st = rest) ∧
    (∃ s', Fp.run F (instrsOf (cmpZero ty_float)) s = some s' ∧ s'.x.flagsValid = true ∧
      jumpOf ⟨"je", [.s l]⟩ s' = some (true, (F.val32 (s.xmm0.setWidth 32)).isZero, l) ∧
      jumpOf ⟨"jne", [.s l]⟩ s' = some (true, !(F.val32 (s.xmm0.setWidth 32)).isZero, l)) ∧
    (∃ s', Fp.run F (instrsOf (cmpZero ty_double)) s = some s' ∧ s'.x.flagsValid = true ∧
      jumpOf ⟨"je", [.s l]⟩ s' = some (true, (F.val64 s.xmm0).isZero, l) ∧
      jumpOf ⟨"jne", [.s l]⟩ s' = some (true, !(F.val64 s.xmm0).isZero, l)) ∧
    (∀ b rest, s.st = b :: rest →
      ∃ s', Fp.run F (instrsOf (cmpZero ty_ldouble)) s = some s' ∧ s'.x.flagsValid = true ∧ s'.st = rest ∧
        jumpOf ⟨"je", [.s l]⟩ s' = some (true, (F.val80 b).isZero, l) ∧
        jumpOf ⟨"jne", [.s l]⟩ s' = some (true, !(F.val80 b).isZero, l)) := by
  refine ⟨?_, ?_, ?_, ?_, ?_, ?_⟩
  · obtain ⟨s', h1, h2, _⟩ := not_fp F .f32 s (.f32 _) _ rfl rfl; exact ⟨s', h1, h2⟩
  · obtain ⟨s', h1, h2, _⟩ := not_fp F .f64 s (.f64 _) _ rfl rfl; exact ⟨s', h1, h2⟩
  · intro b rest h
    obtain ⟨s', h1, h2, h3, _⟩ := not_fp F .f80 s (.f80 b) _ ⟨rest, h⟩ rfl
    exact ⟨s', h1, h2, by rw [h3, stBelow, if_pos rfl, h]; rfl⟩
  · obtain ⟨s', h1, h2, h3, h4, _⟩ := branch_fp F .f32 s l (.f32 _) _ rfl rfl; exact ⟨s', h1, h4, h2, h3⟩
  · obtain ⟨s', h1, h2, h3, h4, _⟩ := branch_fp F .f64 s l (.f64 _) _ rfl rfl; exact ⟨s', h1, h4, h2, h3⟩
  · intro b rest h
    obtain ⟨s', h1, h2, h3, h4, h5, _⟩ := branch_fp F .f80 s l (.f80 b) _ ⟨rest, h⟩ rfl
    exact ⟨s', h1, h4, by rw [h5, stBelow, if_pos rfl, h]; rfl, h2, h3⟩

/-! ## conversions -/

/-- **C02 (selection), full strength.**  For **every** pair of arithmetic types with a floating side (63 cells of the cast
    table regenerated from codegen.c, or the `_Bool` sequence), every operand value and every machine state, the instructions
    `cast(from, to)` prints turn a representation of `x` into a representation of the C11 conversion of `x` (whenever that is
    defined), restore the x87 control word, leave the x87 stack below the operand and %rsp unchanged.
    E.g. double → unsigned int goes through `cvttsd2siq` and the low 32 bits and is right for every x with 0 ≤ trunc x < 2^32;
    signed char / short targets are re-extended from the right width; int → long double goes through a 4-byte slot read by
    `fildl`, unsigned int is zero-extended first and read by `fildll`; long double → integer stores with `fistps/l/q` of the
    right width under a control word with RC = 11b and reloads with the right extension; `_Bool` targets test against zero
    with NaN true; **unsigned long → float / double** is correctly rounded for all 2^64 values (from 2^63 on: halve with the
    lost bit or-ed back in, convert, double); **float / double / long double → unsigned long** is the exact truncation for
    every x with 0 ≤ trunc x < 2^64 (from 2^63 on: compare with 2^63, subtract it exactly, truncate signed, complement bit 63).
    `hpc`: the two cells that do x87 arithmetic (unsigned long ↔ long double) need the ABI's x87 precision (PC = 11b). -/
theorem C02_select (F : FpuSpec) (frm to : ATy) (s : FState) (x y : AVal)
    (hfp : frm.isFp = true ∨ to.isFp = true) (hh : Holds frm s x) (hc : convert F s.cw to x = some y)
    (hpc : usesX87Arith frm to = true → pc s.cw = 3#2) :
    ∃ s', Fp.run F (castSeq frm to) s = some s' ∧ Holds to s' y ∧ s'.cw = s.cw ∧ stBelow to s' = stBelow frm s ∧
      s'.x.get .rsp = s.x.get .rsp :=
  select F frm to s x y hfp hh hc hpc

/-- non-vacuity: the contract is satisfiable, and on the toy FPU the hypotheses hold for (double) of the unsigned int
    4000000000 (above 2^31: the zero extension matters) sitting in %eax with garbage above -/
example : ∃ (F : FpuSpec) (s : FState) (y : AVal),
    Holds (.int .u32) s (.int 4000000000) ∧ convert F s.cw .f64 (.int 4000000000) = some y ∧
    (usesX87Arith (.int .u32) .f64 = true → pc s.cw = 3#2) :=
  ⟨Toy.toy, ⟨{ regs := fun _ => 0xdeadbeefee6b2800#64, mem := fun _ => 0 }, 0, 0, [], 0x37f#16⟩, _,
    ⟨by decide, by decide⟩, rfl, by decide⟩

/-- non-vacuity at unsigned long ≥ 2^63: (float) of ULONG_MAX; (unsigned long) of the double 3·2^62 ≥ 2^63;
    (unsigned long) of the long double 2^63 under the ABI control word 0x37f -/
example : ∃ (F : FpuSpec) (s : FState) (y : AVal),
    Holds (.int .u64) s (.int 18446744073709551615) ∧ convert F s.cw .f32 (.int 18446744073709551615) = some y ∧
    (usesX87Arith (.int .u64) .f32 = true → pc s.cw = 3#2) :=
  ⟨Toy.toy, ⟨{ regs := fun _ => 0xffffffffffffffff#64, mem := fun _ => 0 }, 0, 0, [], 0x37f#16⟩, _,
    ⟨by decide, by decide⟩, rfl, by decide⟩

example : ∃ (F : FpuSpec) (s : FState) (b : BitVec 64),
    Holds .f64 s (.f64 b) ∧ convert F s.cw (.int .u64) (.f64 b) = some (.int 13835058055282163712) ∧
    (usesX87Arith .f64 (.int .u64) = true → pc s.cw = 3#2) :=
  ⟨Toy.toy, ⟨{ regs := fun _ => 0, mem := fun _ => 0 }, BitVec.ofNat 64 (Toy.enc 57 false 3 62), 0, [], 0x37f#16⟩, _, rfl,
    by decide, by decide⟩

example : ∃ (F : FpuSpec) (s : FState) (b : BitVec 80),
    Holds .f80 s (.f80 b) ∧ convert F s.cw (.int .u64) (.f80 b) = some (.int 9223372036854775808) ∧
    (usesX87Arith .f80 (.int .u64) = true → pc s.cw = 3#2) :=
  ⟨Toy.toy, ⟨{ regs := fun _ => 0, mem := fun _ => 0 }, 0, 0, [Toy.T80], 0x37f#16⟩, _, ⟨[], rfl⟩, by decide, by decide⟩

/-! ## chains of conversions: what `gen_expr` does with nested `ND_CAST` nodes -/

/-- **C02 (one conversion, all 144 pairs).**  `C02_select` covers the 63 pairs with a floating side; the 81 integer-only pairs
    are C01's `C01_cast` (same generated table, same `_Bool` sequence, same representation invariant), transported to the
    floating machine: the integer sequences run on the integer part of the state and touch neither %xmm0, the x87 stack, the
    control word nor %rsp.  So `cast(from, to)` implements the C11 conversion for **every** pair of arithmetic types. -/
theorem C02_cast_link (F : FpuSpec) (frm to : ATy) (s : FState) (x y : AVal)
    (hh : Holds frm s x) (hc : convert F s.cw to x = some y) (hpc : usesX87Arith frm to = true → pc s.cw = 3#2) :
    ∃ s', Fp.run F (castSeq frm to) s = some s' ∧ Holds to s' y ∧ s'.cw = s.cw ∧ stBelow to s' = stBelow frm s ∧
      s'.x.get .rsp = s.x.get .rsp :=
  link F frm to s x y hh hc hpc

/-- non-vacuity: (unsigned char) of the int −1 in %eax with garbage above: an integer-only link -/
example : ∃ (F : FpuSpec) (s : FState) (y : AVal),
    Holds (.int .i32) s (.int (-1)) ∧ convert F s.cw (.int .u8) (.int (-1)) = some y ∧ y = .int 255 ∧
    (usesX87Arith (.int .i32) (.int .u8) = true → pc s.cw = 3#2) :=
  ⟨Toy.toy, ⟨{ regs := fun _ => 0xdeadbeefffffffff#64, mem := fun _ => 0 }, 0, 0, [], 0x37f#16⟩, _,
    ⟨by decide, by decide⟩, rfl, by decide, by decide⟩

/-- **C02 (chains of conversions).**  `gen_expr` on `(Tn)…(T2)(T1)e` — `nest t0 code [T1, …, Tn]`, where `e : t0` is any operand
    whose code `code` leaves its value `x` where values of type `t0` live (`hleaf`, `hh`) — prints the code of `e` followed by
    one `cast()` per `ND_CAST` node, innermost first (Model/FpChain.lean, `CastE.gen`; tied to `chibicc -S` by text on
    generated chains).  For **every** chain over the twelve arithmetic types, of any length, every machine state and every
    operand value: if C11 defines the composition of the conversions in order (`convertChain`: each conversion is applied to
    the *result* of the one before, Spec/FpChainSpec.lean), that code leaves exactly this value where values of the final type
    live, with the x87 control word, the x87 stack below the operand and %rsp as the operand's code left them.
    Explicit casts and the conversions parse.c inserts (initialisation, assignment, `return`, arguments, operands of `?:` and
    of binary operators) are the same `ND_CAST` node, so `int a = (float)i;`, `return (float)x;`, `f((float)i)` are chains too.
    `hpc`, stated once for the chain: a link unsigned long ↔ long double (x87 arithmetic) needs the ABI's x87 precision.
    Proof: induction over the chain; each link is `C02_cast_link` (= `C02_select` / C01's `C01_cast`). -/
theorem C02_cast_chain (F : FpuSpec) (t0 : ATy) (code : List Line) (ts : List ATy) (s0 s : FState) (x y : AVal)
    (hleaf : Fp.run F (instrsOf code) s0 = some s) (hh : Holds t0 s x)
    (hc : convertChain F s.cw ts x = some y)
    (hpc : chainUsesX87Arith t0 ts = true → pc s.cw = 3#2) :
    ∃ s', Fp.run F (instrsOf (nest t0 code ts).gen) s0 = some s' ∧
      (nest t0 code ts).ty = descr (chainType t0 ts) ∧ Holds (chainType t0 ts) s' y ∧
      s'.cw = s.cw ∧ stBelow (chainType t0 ts) s' = stBelow t0 s ∧ s'.x.get .rsp = s.x.get .rsp := by
  obtain ⟨s', hrun, hy, hcw, hst, hrsp⟩ := chain F ts t0 s x y hh hc hpc
  refine ⟨s', ?_, nest_ty t0 code ts, hy, hcw, hst, hrsp⟩
  rw [nest_gen, run_append F _ _ s0 s hleaf, hrun]

/-- non-vacuity: `(long)(double)(float)(unsigned)x` with x = 4026531841 (0xF0000001, above 2^31 and not a float) already in
    %eax (empty operand code): on the toy FPU the chain is defined and yields 4026531840 -/
example : ∃ (F : FpuSpec) (s : FState) (y : AVal),
    Fp.run F (instrsOf []) s = some s ∧ Holds (.int .u32) s (.int 4026531841) ∧
    convertChain F s.cw [.f32, .f64, .int .i64] (.int 4026531841) = some y ∧ y = .int 4026531840 ∧
    (chainUsesX87Arith (.int .u32) [.f32, .f64, .int .i64] = true → pc s.cw = 3#2) :=
  ⟨Toy.toy, ⟨{ regs := fun _ => 0xdeadbeeff0000001#64, mem := fun _ => 0 }, 0, 0, [], 0x37f#16⟩, _, rfl,
    ⟨by decide, by decide⟩, rfl, by decide, by decide⟩

/-- **C02 (the functions the text tie compiles are these chains).**  The bodies `chibicc -S` is compared with on every run
    (`R f(void) { return (Tn)…(T1)a; }`, `g = (Tn)…(T1)a;`) are the operand's load followed by exactly the instruction sequence
    `chainSeq` that `C02_cast_chain` is about — for `return` with the return type, for an assignment with the type of the
    left-hand side, as one more link at the end. -/
theorem C02_cast_chain_code (t0 : ATy) (ts : List ATy) (r : ATy) :
    instrsOf (fnChainRet (descr t0) (ts.map descr) (descr r)) =
      instrsOf (varA ++ load (descr t0)) ++ chainSeq t0 (ts ++ [r]) ∧
    instrsOf (fnChainAssign (descr t0) (ts.map descr) (descr r)) =
      instrsOf [ins2 "lea" (.s "g(%rip)") (.r "%rax"), ins1 "push" (.r "%rax")] ++
        (instrsOf (varA ++ load (descr t0)) ++ chainSeq t0 (ts ++ [r])) ++
        instrsOf (FpChain.store (descr r) ++ FpChain.discard (descr r) ++ [ins2 "mov" (.i 0) (.r "%rax")]) := by
  have h : (leafA (descr t0)).wrap (ts.map descr ++ [descr r]) = nest t0 (varA ++ load (descr t0)) (ts ++ [r]) := by
    simp [nest, leafA]
  constructor
  · rw [fnChainRet, h, nest_gen]
  · simp only [fnChainAssign, instrsOf_append, h, nest_gen, List.append_assoc]

/-- **C02 (through float and back).**  For every integer type `T` other than `_Bool`, every FPU meeting the contract and every
    value `v` of type `T`: the code of `(T)(float)e` leaves `v` rounded to 24 significant bits (nearest, ties to even), and the
    code of `(T)(double)e` leaves `v` rounded to 53 significant bits — whenever that is a value of `T` (otherwise C11 leaves
    the conversion back undefined).  Neither is the identity: see `C02_roundtrip_not_identity`. -/
theorem C02_roundtrip_rounds (F : FpuSpec) (t : ITy) (ht : t ≠ .bool) (code : List Line) (s0 s : FState) (v : Int)
    (hleaf : Fp.run F (instrsOf code) s0 = some s) (hh : Holds (.int t) s (.int v)) :
    (t.inRange (roundInt 24 v) →
      ∃ s', Fp.run F (instrsOf (nest (.int t) code [.f32, .int t]).gen) s0 = some s' ∧
        Holds (.int t) s' (.int (roundInt 24 v)) ∧ s'.cw = s.cw ∧ s'.st = s.st ∧ s'.x.get .rsp = s.x.get .rsp) ∧
    (t.inRange (roundInt 53 v) →
      ∃ s', Fp.run F (instrsOf (nest (.int t) code [.f64, .int t]).gen) s0 = some s' ∧
        Holds (.int t) s' (.int (roundInt 53 v)) ∧ s'.cw = s.cw ∧ s'.st = s.st ∧ s'.x.get .rsp = s.x.get .rsp) := by
  have hr : t.inRange v := hh.1
  have hv : v.natAbs ≤ 2 ^ 64 := by
    cases t <;> simp [ITy.inRange, ITy.min, ITy.max, ITy.signed, ITy.bits] at hr <;> omega
  constructor
  · intro hin
    have hx : chainUsesX87Arith (.int t) [.f32, .int t] = false := by cases t <;> rfl
    obtain ⟨s', h1, _, h3, h4, h5, h6⟩ := C02_cast_chain F (.int t) code [.f32, .int t] s0 s _ _ hleaf hh
      (via_f32 F s.cw t ht v hv hin) (by simp [hx])
    exact ⟨s', h1, h3, h4, by simpa [stBelow, chainType] using h5, h6⟩
  · intro hin
    have hx : chainUsesX87Arith (.int t) [.f64, .int t] = false := by cases t <;> rfl
    obtain ⟨s', h1, _, h3, h4, h5, h6⟩ := C02_cast_chain F (.int t) code [.f64, .int t] s0 s _ _ hleaf hh
      (via_f64 F s.cw t ht v hv hin) (by simp [hx])
    exact ⟨s', h1, h3, h4, by simpa [stBelow, chainType] using h5, h6⟩

/-- non-vacuity: INT_MIN = −2^31 is a float, 2^24 + 3 rounds to 2^24 + 4 (both values of `int`) -/
example : (ITy.i32 ≠ .bool) ∧ ITy.i32.inRange (roundInt 24 (-2147483648)) ∧ roundInt 24 16777219 = 16777220 ∧
    ITy.i32.inRange (roundInt 53 16777219) := by decide

/-- **C02 (a conversion to a floating type of the same size and back is NOT the identity).**  Kernel-checked witnesses, for every
    FPU meeting the contract and every operand code: `(int)(float)e` with `e` = 16777217 = 2^24 + 1 must leave 16777216, and
    `(long)(double)e` with `e` = 9007199254740993 = 2^53 + 1 must leave 9007199254740992; the state the operand's code alone
    leaves (what a compiler prints that drops both conversions as a "round trip") does **not** represent that value.
    (`hc1`/`hc2` say the same on the specification side: the C11 value of the chain differs from the operand.) -/
theorem C02_roundtrip_not_identity (F : FpuSpec) (code : List Line) (s0 s : FState)
    (hleaf : Fp.run F (instrsOf code) s0 = some s) :
    (Holds (.int .i32) s (.int 16777217) →
      (∃ s', Fp.run F (instrsOf (nest (.int .i32) code [.f32, .int .i32]).gen) s0 = some s' ∧
        Holds (.int .i32) s' (.int 16777216)) ∧
      ¬ Holds (.int .i32) s (.int 16777216) ∧
      convertChain F s.cw [.f32, .int .i32] (.int 16777217) = some (.int 16777216)) ∧
    (Holds (.int .i64) s (.int 9007199254740993) →
      (∃ s', Fp.run F (instrsOf (nest (.int .i64) code [.f64, .int .i64]).gen) s0 = some s' ∧
        Holds (.int .i64) s' (.int 9007199254740992)) ∧
      ¬ Holds (.int .i64) s (.int 9007199254740992) ∧
      convertChain F s.cw [.f64, .int .i64] (.int 9007199254740993) = some (.int 9007199254740992)) := by
  have r24 : roundInt 24 16777217 = 16777216 := by decide
  have r53 : roundInt 53 9007199254740993 = 9007199254740992 := by decide
  constructor
  · intro hh
    obtain ⟨s', h1, h2, _⟩ := (C02_roundtrip_rounds F .i32 (by decide) code s0 s 16777217 hleaf hh).1 (by rw [r24]; decide)
    refine ⟨⟨s', h1, r24 ▸ h2⟩, ?_, ?_⟩
    · intro h
      have a := hh.2; have b := h.2
      simp only at a b
      omega
    · have := via_f32 F s.cw .i32 (by decide) 16777217 (by decide) (by rw [r24]; decide)
      rw [r24] at this; exact this
  · intro hh
    obtain ⟨s', h1, h2, _⟩ := (C02_roundtrip_rounds F .i64 (by decide) code s0 s 9007199254740993 hleaf hh).2 (by rw [r53]; decide)
    refine ⟨⟨s', h1, r53 ▸ h2⟩, ?_, ?_⟩
    · intro h
      have a := hh.2; have b := h.2
      simp only at a b
      omega
    · have := via_f64 F s.cw .i64 (by decide) 9007199254740993 (by decide) (by rw [r53]; decide)
      rw [r53] at this; exact this

/-- non-vacuity: a state whose %eax holds 2^24 + 1 (garbage above), reached by the empty operand code; one whose %rax holds 2^53 + 1 -/
example : ∃ (F : FpuSpec) (s : FState), Fp.run F (instrsOf []) s = some s ∧ Holds (.int .i32) s (.int 16777217) :=
  ⟨Toy.toy, ⟨{ regs := fun _ => 0xdeadbeef01000001#64, mem := fun _ => 0 }, 0, 0, [], 0x37f#16⟩, rfl,
    ⟨by decide, by decide⟩⟩

example : ∃ (F : FpuSpec) (s : FState), Fp.run F (instrsOf []) s = some s ∧ Holds (.int .i64) s (.int 9007199254740993) :=
  ⟨Toy.toy, ⟨{ regs := fun _ => 0x0020000000000001#64, mem := fun _ => 0 }, 0, 0, [], 0x37f#16⟩, rfl,
    ⟨by decide, by decide⟩⟩

/-! ## binary operators on operands of two different types (usual arithmetic conversions at work) -/

/-- **C02 (mixed operands: each operand is converted by the cell the rank rule selects).**  For every one of the ten binary
    operators and every pair of arithmetic types whose C11 common type `c = usualArith a b` (6.3.1.8, the *specification's*
    function) is floating, the code of `a OP b` (`fnBinary`, over `get_common_type` regenerated from type.c and the regenerated
    cast table; tied to `chibicc -S` by text for all 63 × 10 cases) is: each operand loaded and converted by exactly
    `cast(its type, c)`, the operands of `>` / `>=` exchanged, evaluated left then right on the x87 stack when `c` is long double
    and right, `pushf`, left, `popf(1)` otherwise, followed by the operator lines of `c` — not of `a`, `b` or any other type.
    For the arithmetic operators (no exchange) its instructions are `binarySeq c op a b` over the two loads, the sequence whose
    value `C02_binary_value_sse` / `C02_binary_value_x87` establish. -/
theorem C02_binary_code (op : SrcOp) (a b : ATy) (ha : a ∈ ATy.all) (hb : b ∈ ATy.all)
    (hfp : (usualArith a b).isFp = true) :
    ∃ opl code, fpOp (descr (usualArith a b)) op.node.1 = some opl ∧ fnBinary op (descr a) (descr b) = some code ∧
      code = (let ea := operandCode varA a (usualArith a b)
              let eb := operandCode varB b (usualArith a b)
              let l := if op.node.2 then eb else ea
              let r := if op.node.2 then ea else eb
              if usualArith a b = .f80 then l ++ r ++ opl else r ++ pushf ++ l ++ popf1 ++ opl) ∧
      (op.node.2 = false →
        instrsOf code = binarySeq (usualArith a b) op.node.1 a b (instrsOf (varA ++ load (descr a)))
          (instrsOf (varB ++ load (descr b)))) := by
  have hr := C02_rank a ha b hb
  generalize hc : usualArith a b = c at hr hfp
  cases c with
  | int t => simp [ATy.isFp] at hfp
  | f32 | f64 | f80 =>
    refine ⟨_, _, rfl, by simp only [fnBinary, hr]; rfl, by cases op <;> rfl, ?_⟩
    intro h
    simp [h, binarySeq, instrsOf_append, castSeq, descr, ty_float, ty_double, ty_ldouble, List.append_assoc,
      show (ATy.f64 == ATy.f32) = false from rfl]

/-- non-vacuity: 63 of the 144 pairs have a floating common type; e.g. unsigned long with float is float, int with long double
    is long double -/
example : ((ATy.all.flatMap fun a => ATy.all.map fun b => (a, b)).filter fun p => (usualArith p.1 p.2).isFp).length = 63 ∧
    usualArith (.int .u64) .f32 = .f32 ∧ usualArith (.int .i32) .f80 = .f80 := by decide

/-- **C02 (mixed operands, float / double common type: the value).**  `a OP b` for `OP` ∈ {+, −, ×, ÷} when the common type
    `c = usualArith a b` is float or double.  `gen_expr` evaluates the RIGHT operand first (`hrunB`, `hy`: its code has left its
    value `y`), converts it with `cast(b, c)`, saves it with `pushf()`, evaluates the left operand (`hx`: any code that yields `x`
    without writing memory, %rsp, the control word or the x87 stack), converts it with `cast(a, c)`, restores the right operand
    into %xmm1 with `popf(1)` and applies the operator of type `c`.  For every FPU meeting the contract the result is
    `(c)x OP (c)y` — the C11 conversions of both operands to the common type, one application of the FPU's operation with the
    LEFT operand first — with %rsp, the control word and the x87 stack as they were.
    Composes `C02_cast_link` (twice), `C02_arith`, and the frame fact that the conversions to float / double from any type but
    long double use registers only, so that the saved operand survives the evaluation of the other one. -/
theorem C02_binary_value_sse (F : FpuSpec) (op : FOp) (hop : op.isCmp = false) (a b : ATy)
    (hc : usualArith a b = .f32 ∨ usualArith a b = .f64)
    (codeA codeB : List Ins) (x y x' y' z : AVal) (s0 s : FState)
    (hrunB : Fp.run F codeB s0 = some s) (hy : Holds b s y) (hx : Yields F codeA a x)
    (cx : convert F s.cw (usualArith a b) x = some x') (cy : convert F s.cw (usualArith a b) y = some y')
    (hz : arithVal F s.cw op x' y' = some z) :
    ∃ s', Fp.run F (binarySeq (usualArith a b) op a b codeA codeB) s0 = some s' ∧ Holds (usualArith a b) s' z ∧
      s'.x.get .rsp = s.x.get .rsp ∧ s'.cw = s.cw ∧ s'.st = s.st := by
  have ha : a ≠ .f80 := by rintro rfl; rcases hc with h | h <;> simp [Spec.FpC11.usualArith] at h
  have hb : b ≠ .f80 := by rintro rfl; rcases hc with h | h <;> cases a <;> simp [Spec.FpC11.usualArith] at h
  exact binary_sse F op hop a b _ hc ha hb codeA codeB x y x' y' z s0 s hrunB hy hx cy cx hz

/-- non-vacuity: `5L + d` on the toy FPU: the left operand is the constant 5 (`mov $5, %rax` yields it from every state), the
    right operand a double already in %xmm0; common type double -/
example : ∃ (F : FpuSpec) (codeA : List Ins) (s : FState) (y x' y' z : AVal),
    (usualArith (.int .i64) .f64 = .f32 ∨ usualArith (.int .i64) .f64 = .f64) ∧
    Fp.run F [] s = some s ∧ Holds .f64 s y ∧ Yields F codeA (.int .i64) (.int 5) ∧
    convert F s.cw (usualArith (.int .i64) .f64) (.int 5) = some x' ∧ convert F s.cw (usualArith (.int .i64) .f64) y = some y' ∧
    arithVal F s.cw .add x' y' = some z :=
  ⟨Toy.toy, [⟨"mov", [.i 5, .r "%rax"]⟩], ⟨{ regs := fun _ => 0, mem := fun _ => 0 }, 0x4008000000000000#64, 0, [], 0x37f#16⟩,
    .f64 0x4008000000000000#64, _, _, _, Or.inr rfl, rfl, rfl, yields_mov _ 5 (by decide), rfl, rfl, rfl⟩

/-- **C02 (mixed operands, long double common type: the value).**  `a OP b` for `OP` ∈ {+, −, ×, ÷} when the common type is long
    double: `gen_expr` evaluates the LEFT operand first (`hrunA`, `hx`), converts it with `cast(a, long double)` onto the x87
    stack, evaluates the right operand (`hy`) and converts it with `cast(b, long double)`, then `faddp` / `fsubrp` / `fmulp` /
    `fdivrp`.  The result on top of the x87 stack is `(long double)x OP (long double)y`, left operand first, computed under the
    control word in force; the stack below, %rsp and the control word are unchanged.  `hpc`: an unsigned long operand is
    converted by the cell that does x87 arithmetic and needs the ABI's precision control. -/
theorem C02_binary_value_x87 (F : FpuSpec) (op : FOp) (hop : op.isCmp = false) (a b : ATy) (hc : usualArith a b = .f80)
    (codeA codeB : List Ins) (x y x' y' z : AVal) (s0 s : FState)
    (hrunA : Fp.run F codeA s0 = some s) (hx : Holds a s x) (hy : Yields F codeB b y)
    (cx : convert F s.cw (usualArith a b) x = some x') (cy : convert F s.cw (usualArith a b) y = some y')
    (hz : arithVal F s.cw op x' y' = some z)
    (hpc : (usesX87Arith a .f80 || usesX87Arith b .f80) = true → pc s.cw = 3#2) :
    ∃ s', Fp.run F (binarySeq (usualArith a b) op a b codeA codeB) s0 = some s' ∧ Holds (usualArith a b) s' z ∧
      s'.x.get .rsp = s.x.get .rsp ∧ s'.cw = s.cw ∧ stBelow .f80 s' = stBelow a s := by
  rw [hc] at cx cy ⊢
  exact binary_x87 F op hop a b codeA codeB x y x' y' z s0 s hrunA hx hy cx cy hz hpc

/-- non-vacuity: `l / 5L` with the long double `l` on the x87 stack and the constant 5 as right operand -/
example : ∃ (F : FpuSpec) (codeB : List Ins) (s : FState) (x x' y' z : AVal),
    usualArith .f80 (.int .i64) = .f80 ∧ Fp.run F [] s = some s ∧ Holds .f80 s x ∧ Yields F codeB (.int .i64) (.int 5) ∧
    convert F s.cw (usualArith .f80 (.int .i64)) x = some x' ∧ convert F s.cw (usualArith .f80 (.int .i64)) (.int 5) = some y' ∧
    arithVal F s.cw .div x' y' = some z ∧ ((usesX87Arith .f80 .f80 || usesX87Arith (.int .i64) .f80) = true → pc s.cw = 3#2) :=
  ⟨Toy.toy, [⟨"mov", [.i 5, .r "%rax"]⟩], ⟨{ regs := fun _ => 0, mem := fun _ => 0 }, 0, 0, [Toy.T80], 0x37f#16⟩,
    .f80 Toy.T80, _, _, _, rfl, rfl, ⟨[], rfl⟩, yields_mov _ 5 (by decide), rfl, rfl, rfl, by decide⟩

/-! ## unsigned long at ≥ 2^63, spelled out -/

/-- **C02 (unsigned long → long double, top bit set), machine level.**  `fildq` reads the pattern as the negative number
    v − 2^64; the float constant 0x5F800000 (2^64) is then added in extended precision. -/
theorem C02_u64f80_machine (F : FpuSpec) (s : FState) (h : (s.x.get .rax).msb = true) :
    ∃ s', Fp.run F (castSeq (.int .u64) .f80) s = some s' ∧
      s'.st = F.fadd s.cw (F.ofInt80 ((s.x.get .rax).toNat - 18446744073709551616)) (F.fld32 1602224128#32) :: s.st ∧
      s'.cw = s.cw ∧ s'.x.get .rsp = s.x.get .rsp := by
  obtain ⟨s', h1, h2, h3, h4⟩ := eff_u64f80_neg F s h
  refine ⟨s', h1, ?_, h3, h4⟩
  rw [h2, F.fild64_spec]
  congr 3
  rw [BitVec.toInt_eq_toNat_cond]
  have := (BitVec.msb_eq_decide (s.x.get .rax)).symm.trans h
  simp at this
  split <;> omega

/-- non-vacuity: 2^64 − 1 in %rax has the top bit set -/
example : ∃ s : FState, (s.x.get .rax).msb = true :=
  ⟨⟨{ regs := fun _ => 0xffffffffffffffff#64, mem := fun _ => 0 }, 0, 0, [], 0x37f#16⟩, by decide⟩

/-- **C02 (unsigned long → long double, all 2^64 values).**  Under the ABI's x87 precision the cell `u64f80` pushes exactly the
    datum of the unsigned value (every 64-bit integer is a long double). -/
theorem C02_u64f80 (F : FpuSpec) (s : FState) (v : Int) (hh : Holds (.int .u64) s (.int v)) (hpc : pc s.cw = 3#2) :
    ∃ s', Fp.run F (castSeq (.int .u64) .f80) s = some s' ∧ s'.st = F.ofInt80 v :: s.st ∧
      (F.val80 (F.ofInt80 v)).toInt? = some v ∧ s'.cw = s.cw ∧ s'.x.get .rsp = s.x.get .rsp := by
  have hr : ITy.u64.inRange v := hh.1
  have hv0 := (inRange_u64 v).1 hr
  obtain ⟨s', hrun, ⟨rest, hst⟩, hcw, hb, hrsp⟩ := sel_int_fp F .u64 .f80 s v _ hh rfl rfl (fun _ => hpc)
  rw [stBelow, if_pos rfl, hst] at hb
  refine ⟨s', hrun, hst.trans (congrArg _ hb), ?_, hcw, hrsp⟩
  rw [F.ofInt80_val v (by omega), roundInt_exact 64 v (by decide) (by omega)]

/-- non-vacuity: ULONG_MAX under the control word 0x37f -/
example : ∃ s : FState, Holds (.int .u64) s (.int 18446744073709551615) ∧ pc s.cw = 3#2 :=
  ⟨⟨{ regs := fun _ => 0xffffffffffffffff#64, mem := fun _ => 0 }, 0, 0, [], 0x37f#16⟩,
    ⟨by decide, by decide⟩, by decide⟩

/-- **C02 (unsigned long → double, all 2^64 values).**  On every FPU that meets the contract the branchy cell `u64f64` —
    `test; js`, and for values ≥ 2^63: halve with the lost bit or-ed back in, `cvtsi2sd`, `addsd %xmm0, %xmm0` — leaves exactly
    the datum of the C11 result `F.ofInt64 v`, which denotes round-to-nearest-even of the *unsigned* value to 53 significant
    bits.  (That x + x is exact is the contract `addsd_double`.) -/
theorem C02_u64f64 (F : FpuSpec) (s : FState) (v : Int) (hh : Holds (.int .u64) s (.int v)) :
    ∃ s', Fp.run F (castSeq (.int .u64) .f64) s = some s' ∧ s'.xmm0 = F.ofInt64 v ∧
      (F.val64 s'.xmm0).toInt? = some (roundInt 53 v) ∧ (F.val64 s'.xmm0).toInt? = (F.val64 (F.ofInt64 v)).toInt? ∧
      s'.st = s.st ∧ s'.cw = s.cw ∧ s'.x.get .rsp = s.x.get .rsp := by
  have hr : ITy.u64.inRange v := hh.1
  have hv0 := (inRange_u64 v).1 hr
  obtain ⟨s', hrun, hx, hcw, hst, hrsp⟩ := sel_int_fp F .u64 .f64 s v _ hh rfl rfl (fun h => absurd h (by decide))
  replace hx : s'.xmm0 = F.ofInt64 v := hx
  exact ⟨s', hrun, hx, by rw [hx]; exact F.ofInt64_val v (by omega), by rw [hx], hst, hcw, hrsp⟩

/-- **C02 (unsigned long → float, all 2^64 values).**  The cell `u64f32` (the same halving sequence with `cvtsi2ss` /
    `addss`) leaves exactly the datum of the C11 result, which denotes the unsigned value rounded to 24 significant bits. -/
theorem C02_u64f32 (F : FpuSpec) (s : FState) (v : Int) (hh : Holds (.int .u64) s (.int v)) :
    ∃ s', Fp.run F (castSeq (.int .u64) .f32) s = some s' ∧ s'.xmm0.setWidth 32 = F.ofInt32 v ∧
      (F.val32 (s'.xmm0.setWidth 32)).toInt? = some (roundInt 24 v) ∧
      s'.st = s.st ∧ s'.cw = s.cw ∧ s'.x.get .rsp = s.x.get .rsp := by
  have hr : ITy.u64.inRange v := hh.1
  have hv0 := (inRange_u64 v).1 hr
  obtain ⟨s', hrun, hx, hcw, hst, hrsp⟩ := sel_int_fp F .u64 .f32 s v _ hh rfl rfl (fun h => absurd h (by decide))
  replace hx : s'.xmm0.setWidth 32 = F.ofInt32 v := hx
  exact ⟨s', hrun, hx, by rw [hx]; exact F.ofInt32_val v (by omega), hst, hcw, hrsp⟩

/-- non-vacuity: ULONG_MAX in %rax represents the unsigned long 2^64 − 1 -/
example : ∃ s : FState, Holds (.int .u64) s (.int 18446744073709551615) :=
  ⟨⟨{ regs := fun _ => 0xffffffffffffffff#64, mem := fun _ => 0 }, 0, 0, [], 0x37f#16⟩,
    ⟨by decide, by decide⟩⟩

/-- **C02 (floating → unsigned long, every value with 0 ≤ trunc x < 2^64).**  The cells `f32u64`, `f64u64`, `f80u64`
    leave in %rax the integral part `i` of the operand, also when 2^63 ≤ i. -/
theorem C02_fp_to_u64 (F : FpuSpec) (s : FState) (i : Int) (hin : ITy.u64.inRange i) :
    (∀ b, s.xmm0.setWidth 32 = b → (F.val32 b).trunc? = some i →
      ∃ s', Fp.run F (castSeq .f32 (.int .u64)) s = some s' ∧ ((s'.x.get .rax).toNat : Int) = i ∧ s'.st = s.st ∧ s'.cw = s.cw) ∧
    (∀ b, s.xmm0 = b → (F.val64 b).trunc? = some i →
      ∃ s', Fp.run F (castSeq .f64 (.int .u64)) s = some s' ∧ ((s'.x.get .rax).toNat : Int) = i ∧ s'.st = s.st ∧ s'.cw = s.cw) ∧
    (∀ b rest, s.st = b :: rest → (F.val80 b).trunc? = some i → pc s.cw = 3#2 →
      ∃ s', Fp.run F (castSeq .f80 (.int .u64)) s = some s' ∧ ((s'.x.get .rax).toNat : Int) = i ∧ s'.st = rest ∧ s'.cw = s.cw) := by
  have hr := (inRange_u64 i).1 hin
  refine ⟨?_, ?_, ?_⟩
  · intro b hb htr
    obtain ⟨s', h1, h2, h3, h4, _⟩ := sel_fp_u64 F .f32 s (.f32 b) _ i hb rfl htr hin (fun h => absurd h (by decide))
    exact ⟨s', h1, by have := h2.2; simp only at this; omega, h3, h4⟩
  · intro b hb htr
    obtain ⟨s', h1, h2, h3, h4, _⟩ := sel_fp_u64 F .f64 s (.f64 b) _ i hb rfl htr hin (fun h => absurd h (by decide))
    exact ⟨s', h1, by have := h2.2; simp only at this; omega, h3, h4⟩
  · intro b rest hb htr hpc
    obtain ⟨s', h1, h2, h3, h4, _⟩ := sel_fp_u64 F .f80 s (.f80 b) _ i ⟨rest, hb⟩ rfl htr hin (fun _ => hpc)
    exact ⟨s', h1, by have := h2.2; simp only at this; omega, by rw [h3, stBelow, if_pos rfl, hb]; rfl, h4⟩

/-- non-vacuity: 3·2^62 ≥ 2^63 is an unsigned long -/
example : ITy.u64.inRange 13835058055282163712 := by decide

/-! ## floating constants -/

/-- **C02 (constants: code generation).**  `ND_NUM` of type float / double / long double whose value is the long double `fval`
    (as held by the compiler): the immediates printed are the bit pattern of `(float)fval` / `(double)fval` / `fval` (the union
    punning, with `hostCw` the compiler's own x87 control word), and executing them leaves exactly that datum where a value of
    the node's type lives — for every `fval`, i.e. the C11 conversion of `fval` to the node's type. -/
theorem C02_const (F : FpuSpec) (hostCw : BitVec 16) (fval : BitVec 80) (s : FState) :
    (∃ s' y, convert F hostCw .f32 (.f80 fval) = some y ∧
      Fp.run F (instrsOf (numF32 (F.fst32 hostCw fval))) s = some s' ∧ Holds .f32 s' y ∧ s'.st = s.st ∧ s'.cw = s.cw) ∧
    (∃ s' y, convert F hostCw .f64 (.f80 fval) = some y ∧
      Fp.run F (instrsOf (numF64 (F.fst64 hostCw fval))) s = some s' ∧ Holds .f64 s' y ∧ s'.st = s.st ∧ s'.cw = s.cw) ∧
    (∃ s', Fp.run F (instrsOf (numF80 fval)) s = some s' ∧ Holds .f80 s' (.f80 fval) ∧ s'.st = fval :: s.st ∧ s'.cw = s.cw) := by
  refine ⟨?_, ?_, ?_⟩
  · obtain ⟨s', h1, h2, h3, h4, _⟩ := num_f32 F (F.fst32 hostCw fval) s
    exact ⟨s', _, rfl, h1, h2, h3, h4⟩
  · obtain ⟨s', h1, h2, h3, h4, _⟩ := num_f64 F (F.fst64 hostCw fval) s
    exact ⟨s', _, rfl, h1, h2, h3, h4⟩
  · obtain ⟨s', h1, h2, h3, _⟩ := num_f80 F fval s
    exact ⟨s', h1, ⟨s.st, h2⟩, h2, h3⟩

open ChibiVerif.FpLiteral ChibiVerif.Gen.FpLiteral in
/-- **C02 (constants: each suffix reads with the function of its own type).**  Over the suffix ladder of `convert_pp_number`
    as regenerated from tokenize.c: the `f`/`F` arm keeps `strtof`'s result, the `l`/`L` arm `strtold`'s, the unsuffixed arm
    `strtod`'s — C11 6.4.4.2p3: the constant is rounded once, to its own type. -/
theorem C02_const_parser :
    (∀ a ∈ suffixArms, a.2.2 = ownParser a.2.1) ∧ defaultArm.2 = ownParser defaultArm.1 ∧
    (suffixArms.map (·.2.1) ++ [defaultArm.1]).Perm [.ty_float, .ty_ldouble, .ty_double] :=
  ⟨arms_own_parser.1, arms_own_parser.2, by decide⟩

open ChibiVerif.FpLiteral ChibiVerif.Gen.FpLiteral in
/-- **C02 (constants: from the spelling to the machine).**  For every pp-number `convert_pp_number` accepts as a floating
    constant of type `ty` with value `fval`, the instructions `ND_NUM` prints leave — for every compiler-side control word —
    exactly the datum that libc's function *of that type* returned on the spelling (`strtof` for float, `strtod` for double,
    `strtold` for long double): the round trip through the compiler's `long double` and the union punning changes no bit.
    (`hnn`: libc returns no NaN for a pp-number; a pp-number cannot spell one.) -/
theorem C02_const_literal (F : FpuSpec) (hostCw : BitVec 16) (p : Parsed) (ty : FTy) (fval : BitVec 80) (s : FState)
    (hconv : convertPpNumberFp F p = .num ty fval)
    (hnn : (F.val32 p.f32).isNaN = false ∧ (F.val64 p.f64).isNaN = false) :
    ∃ s', Fp.run F (instrsOf (numLines F hostCw ty fval)) s = some s' ∧ Holds (atyOf ty) s' (datumOf p ty) ∧
      s'.cw = s.cw ∧ stBelow (atyOf ty) s' = s.st ∧ s'.x.get .rsp = s.x.get .rsp :=
  literal_datum F hostCw p ty fval s hconv hnn

open ChibiVerif.FpLiteral ChibiVerif.Gen.FpLiteral in
/-- non-vacuity: on the toy FPU, an unsuffixed spelling of 2^53 + 1 (all three libc results as the contract prescribes)
    is accepted as a double, an `f`-suffixed one as a float -/
example : ∃ (p : Parsed) (fval : BitVec 80), convertPpNumberFp Toy.toy p = .num .ty_double fval ∧
    (Toy.toy.val32 p.f32).isNaN = false ∧ (Toy.toy.val64 p.f64).isNaN = false :=
  ⟨⟨Toy.ofInt32 9007199254740993, Toy.ofInt64 9007199254740993, Toy.ofInt80 9007199254740993, 0, 0⟩, _, rfl,
    by decide, by decide⟩

open ChibiVerif.FpLiteral ChibiVerif.Gen.FpLiteral in
example : ∃ (p : Parsed) (fval : BitVec 80), convertPpNumberFp Toy.toy p = .num .ty_float fval ∧
    (Toy.toy.val32 p.f32).isNaN = false ∧ (Toy.toy.val64 p.f64).isNaN = false :=
  ⟨⟨Toy.ofInt32 9007199254740993, Toy.ofInt64 9007199254740993, Toy.ofInt80 9007199254740993, 102, 1⟩, _, rfl,
    by decide, by decide⟩

open ChibiVerif.FpLiteral ChibiVerif.Gen.FpLiteral in
/-- **C02 (constants: rounded once).**  Relative to the libc contract `LibcRounds` (each of `strtof`/`strtod`/`strtold` is
    correctly rounding; trusted, validated by the check): for a spelling with the integer value `n`, the datum the emitted code
    materialises denotes `n` rounded to nearest-even **once**, to the 24 / 53 / 64 significant bits of the constant's own type.
    (Rounding twice, `roundNat 53 (roundNat 64 n)`, differs: Findings/C02.lean.) -/
theorem C02_const_rounded (F : FpuSpec) (hostCw : BitVec 16) (n : Nat) (p : Parsed) (hl : LibcRounds F n p)
    (ty : FTy) (fval : BitVec 80) (s : FState) (hconv : convertPpNumberFp F p = .num ty fval) :
    ∃ s' d v, Fp.run F (instrsOf (numLines F hostCw ty fval)) s = some s' ∧ Holds (atyOf ty) s' d ∧ valOf F d = some v ∧
      v.toInt? = some (roundNat (precOf ty) n : Int) := by
  have hnn : (F.val32 p.f32).isNaN = false ∧ (F.val64 p.f64).isNaN = false := by
    constructor
    · have := hl.f32; cases h : F.val32 p.f32 <;> simp_all [Val.toInt?, Val.isNaN]
    · have := hl.f64; cases h : F.val64 p.f64 <;> simp_all [Val.toInt?, Val.isNaN]
  obtain ⟨s', hrun, hh, _⟩ := literal_datum F hostCw p ty fval s hconv hnn
  cases ty with
  | ty_float => exact ⟨s', _, _, hrun, hh, rfl, hl.f32⟩
  | ty_double => exact ⟨s', _, _, hrun, hh, rfl, hl.f64⟩
  | ty_ldouble => exact ⟨s', _, _, hrun, hh, rfl, hl.f80⟩

open ChibiVerif.FpLiteral in
/-- non-vacuity: the toy libc that rounds correctly satisfies the contract at 2^53 + 1 (inexact in float and in double) -/
example : LibcRounds Toy.toy 9007199254740993
    ⟨Toy.ofInt32 ((9007199254740993 : Nat) : Int), Toy.ofInt64 ((9007199254740993 : Nat) : Int),
     Toy.ofInt80 ((9007199254740993 : Nat) : Int), 0, 0⟩ :=
  ⟨by rw [← roundInt_nat]; exact Toy.ofInt32_val ((9007199254740993 : Nat) : Int) (by decide),
   by rw [← roundInt_nat]; exact Toy.ofInt64_val ((9007199254740993 : Nat) : Int) (by decide),
   by rw [← roundInt_nat]; exact Toy.ofInt80_val ((9007199254740993 : Nat) : Int) (by decide)⟩

/-! ## without an FPU contract: the bit layouts themselves -/

open ChibiVerif.Spec.Fpu.Ieee in
/-- **C02 (integer ↔ floating, absolute).**  No `FpuSpec` here: `Ieee.decode32/64/80` are the IEEE-754 binary32 / binary64 and x87
    double-extended layouts, `Ieee.ofInt32/64/80` the encoders whose output the check compares bit for bit with `cvtsi2ss/sd` and
    `fild` on the host CPU.  For every integer of magnitude ≤ 2^64 the encoded datum decodes to the integer rounded to nearest,
    ties to even, to 24 / 53 / 64 significant bits — the contracts `ofInt*_val` hold of the real layouts. -/
theorem C02_ieee_int_roundtrip (n : Int) (h : n.natAbs ≤ 2 ^ 64) :
    (decode32 (ofInt32 n)).toInt? = some (roundInt 24 n) ∧ (decode64 (ofInt64 n)).toInt? = some (roundInt 53 n) ∧
    (decode80 (ofInt80 n)).toInt? = some (roundInt 64 n) :=
  ⟨decode_ofInt32 n h, decode_ofInt64 n h, decode_ofInt80 n h⟩

/-- non-vacuity -/
example : (18446744073709551615 : Int).natAbs ≤ 2 ^ 64 := by decide

open ChibiVerif.Spec.Fpu.Ieee in
/-- **C02 (int → floating is exact when it can be).**  |n| ≤ 2^24: `(float)n` denotes n; |n| ≤ 2^53: `(double)n` denotes n;
    every 64-bit integer (|n| ≤ 2^64): `(long double)n` denotes n — on the bit layouts, with no assumption about the FPU. -/
theorem C02_ieee_int_exact (n : Int) :
    (n.natAbs ≤ 2 ^ 24 → (decode32 (ofInt32 n)).toInt? = some n) ∧
    (n.natAbs ≤ 2 ^ 53 → (decode64 (ofInt64 n)).toInt? = some n) ∧
    (n.natAbs ≤ 2 ^ 64 → (decode80 (ofInt80 n)).toInt? = some n) := by
  have p24 : (2:Nat) ^ 24 ≤ 2 ^ 64 := by decide
  have p53 : (2:Nat) ^ 53 ≤ 2 ^ 64 := by decide
  refine ⟨fun h => ?_, fun h => ?_, fun h => ?_⟩
  · rw [decode_ofInt32 n (by omega), roundInt_exact 24 n (by decide) h]
  · rw [decode_ofInt64 n (by omega), roundInt_exact 53 n (by decide) h]
  · rw [decode_ofInt80 n h, roundInt_exact 64 n (by decide) h]

/-- non-vacuity: 2^53 itself, and the first integer that is not a double -/
example : ((9007199254740992 : Int).natAbs ≤ 2 ^ 53) ∧ ¬ ((9007199254740993 : Int).natAbs ≤ 2 ^ 53) := by decide

open ChibiVerif.Spec.Fpu.Ieee in
/-- **C02 (floating → int truncation gives the integer back, absolute).**  With `truncTo` the SDM result of `cvtt*2si` / `fistp`
    (integer part if representable): `(int)(float)n = n` for |n| ≤ 2^24, `(long)(double)n = n` for |n| ≤ 2^53, and
    `(long)(long double)n = n` for **every** long — from the bit layouts alone. -/
theorem C02_ieee_trunc_back (n : Int) :
    (n.natAbs ≤ 2 ^ 24 → truncTo 32 (decode32 (ofInt32 n)) = BitVec.ofInt 32 n) ∧
    (n.natAbs ≤ 2 ^ 53 → truncTo 64 (decode64 (ofInt64 n)) = BitVec.ofInt 64 n) ∧
    (-(2 ^ 63 : Int) ≤ n ∧ n < 2 ^ 63 → truncTo 64 (decode80 (ofInt80 n)) = BitVec.ofInt 64 n) := by
  obtain ⟨h32, h64, h80⟩ := C02_ieee_int_exact n
  refine ⟨fun h => ?_, fun h => ?_, fun h => ?_⟩
  · exact truncTo_of_toInt 32 _ n (h32 h) (by simp; omega) (by simp; omega)
  · exact truncTo_of_toInt 64 _ n (h64 h) (by simp; omega) (by simp; omega)
  · exact truncTo_of_toInt 64 _ n (h80 (by omega)) (by simp; omega) (by simp; omega)

/-- non-vacuity: LONG_MIN is a long -/
example : -(2 ^ 63 : Int) ≤ -9223372036854775808 ∧ (-9223372036854775808 : Int) < 2 ^ 63 := by decide

end ChibiVerif.Props.C02
