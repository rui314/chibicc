/-
C15 — linkage, storage duration and symbol emission are correct in every configuration.

The property theorems, the three `*_Statement` definitions, and: `ReachD` (reachability in terms of the declarations, for
C15_live_decl), `InScope` (= `Spec.symbolsScope`), and the example units of the non-vacuity checks (`cyclicUnit`,
`tentativeUnit`, `tentTypeList`, `mixedUnit`).  The vocabulary of the statements that is neither model nor Spec is in
Lemmas/LinkageVocabulary.lean: `holdsOn`, `isFn`, `liveFn`, `refsOf`, `Reach`, `NoneLive`; `fnFlags`, `firstFlags`, `allBodyRefs`,
`fileRooted`; `NameOK`, `dataDefOf`, `realDefOf`; `ChainOK`, `TyParams`, `tysOf`.  The proofs rest on the lemma forms in
Lemmas/Linkage{Lemmas (forall_rules, mem_rootNames), Live (markRoots_spec), Final (Parsed), FnSym (recorded), Ok (parse_ok), Nodup (symbols_perm_lemma,
symbols_partial_lemma), Pre, Tent, Scan, ScanTy, Emit}.lean, and those on Lemmas/Linkage{Parse,Exact,View,Uses,Data,Decls,Flags,
SpecEqns,Closure,ObjSym,Sym}.lean.

Model: Model/Linkage.lean (parse.c `function`/`global_variable`/`primary`/`mark_live`/`scan_globals`,
codegen.c `emit_data`/`emit_text`), Gen/AddrFormsGen.lean (gen_addr's ND_VAR arm, regenerated from codegen.c).
Spec: Spec/LinkageSpec.lean.

The model is parametrised by `Rules` (which of the four repairs of the known findings the code has; `Rules.asBuilt` is
regenerated from parse.c / codegen.c on every run by tools/extract/linkrules.py).  Every theorem below that mentions the
model is proved FOR EVERY RULE SET (`[Rules]` is a variable), in particular for `Rules.asBuilt`, the code as it is.

An `Obj` list is the C list `globals` (newest first).  `Reach gs r f`: `f` is reached from `r` through the
references `primary` recorded in `fn->refs`, resolved by `find_func` exactly as `mark_live` resolves them.
All theorems are for every declaration sequence / every `Obj` list, i.e. every reference graph, cyclic or not.
-/
import ChibiVerif.Model.Linkage
import ChibiVerif.Spec.LinkageSpec
import ChibiVerif.Lemmas.LinkageVocabulary
import ChibiVerif.Lemmas.LinkageLemmas
import ChibiVerif.Lemmas.LinkageLive
import ChibiVerif.Lemmas.LinkageScan
import ChibiVerif.Lemmas.LinkageTent
import ChibiVerif.Lemmas.LinkageEmit
import ChibiVerif.Lemmas.LinkageScanTy
import ChibiVerif.Lemmas.LinkageOk
import ChibiVerif.Lemmas.LinkageFinal
import ChibiVerif.Lemmas.LinkageFnSym
import ChibiVerif.Lemmas.LinkageNodup
import ChibiVerif.Lemmas.LinkagePre

namespace ChibiVerif.Props.C15
open ChibiVerif.Linkage
open ChibiVerif.Spec.Linkage
open ChibiVerif.Gen.AddrForms

/-! ### address forms -/

/-- **C15_addr_table (full statement).**  For every context `gen_addr` can be in, the chosen address form is
    valid for that kind of entity in that code model.  It fails in one cell (C15-extern-tls-local-exec,
    Findings/C15.lean), so the proved theorem is `C15_addr_table_partial`. -/
def C15_addr_table_Statement : Prop :=
  ∀ c : VarCtx, ctxConsistent c = true → ∃ f, addrForm c = some f ∧ validForm (refCtxOf c) f = true

/-- **C15_addr_table (partial).**  Whole table, by evaluation: every consistent context outside the region
    `externTlsRegion` (non-PIC reference to a thread-local object the unit does not define).
    What is missing for the full statement: that one cell; see `Findings.C15.C15_finding_extern_tls`. -/
theorem C15_addr_table_partial :
    ∀ c : VarCtx, ctxConsistent c = true → externTlsRegion c = false →
      ∃ f, addrForm c = some f ∧ validForm (refCtxOf c) f = true :=
  forall_varCtx (by decide +kernel)

/-- non-vacuity: a context inside the theorem's scope (PIC reference to an undefined thread-local object:
    general dynamic) -/
example : ctxConsistent ⟨false, false, true, true, false, false⟩ = true ∧
    externTlsRegion ⟨false, false, true, true, false, false⟩ = false ∧
    addrForm ⟨false, false, true, true, false, false⟩ = some .tlsGD := by decide +kernel

/-- **C15_addr_table for the repaired ladder (full statement, no region).**  With the candidate repair of
    C15-extern-tls-local-exec (`genAddrVarFixed`: in non-PIC code local exec only for a thread-local object the unit
    defines, initial exec `mov x@gottpoff(%rip), %rax; add %fs:0, %rax` otherwise) every consistent context gets an address
    form that is valid for its entity and code model: `C15_addr_table_Statement` with `addrFormFixed` for `addrForm`.
    `externTlsRegion` is defined through the regenerated ladder (the cell must actually choose local exec), so once the repair
    is in /repo the region of `C15_addr_table_partial` is empty without any edit here (`C15_addr_table_region_fixed`). -/
theorem C15_addr_table_fixed :
    ∀ c : VarCtx, ctxConsistent c = true → ∃ f, addrFormFixed c = some f ∧ validForm (refCtxOf c) f = true :=
  forall_varCtx (by decide +kernel)

/-- the region of the known finding is read off the ladder: whenever the regenerated ladder agrees with the repaired
    one, no context lies in `externTlsRegion` -/
theorem C15_addr_table_region_fixed (h : ∀ c : VarCtx, addrForm c = addrFormFixed c) :
    ∀ c : VarCtx, externTlsRegion c = false := by
  intro c
  have fixed : ∀ c : VarCtx,
      (!c.isLocal && c.isTls && !c.fpic && !c.isDefinition && addrFormFixed c == some .tlsLE) = false :=
    forall_varCtx (by decide +kernel)
  unfold externTlsRegion
  rw [h]
  exact fixed c

/-- non-vacuity: the repaired ladder differs from the present one exactly in the cell of the finding (non-PIC,
    thread-local, not defined by the unit), where it chooses initial exec -/
example : addrFormFixed ⟨false, false, false, true, false, false⟩ = some .tlsIE ∧
    addrFormFixed ⟨false, false, false, true, false, true⟩ = some .tlsLE ∧
    validForm (refCtxOf ⟨false, false, false, true, false, false⟩) .tlsIE = true := by decide +kernel

variable [Rules]

/-! ### liveness -/

/-- **C15_live (all graphs).**  For every `Obj` list in which no `is_live` flag is set yet (the state `parse`
    is in when it starts the root loop), the root loop terminates within its recursion bound and sets
    `is_live` on exactly the functions reachable from a root: `mark_live` = reflexive-transitive closure of the
    recorded references.  Cycles and self references are covered (no hypothesis on the graph). -/
theorem C15_live (gs : List Obj) (h0 : NoneLive gs) :
    ∃ gs', markRoots gs = some gs' ∧
      ∀ f, liveFn gs' f = true ↔ ∃ r, r ∈ rootNames gs ∧ Reach gs r f := by
  obtain ⟨gs', hm, _, hl⟩ := markRoots_spec gs h0
  exact ⟨gs', hm, hl⟩

/-- **C15_live (all declaration sequences).**  `parse` never gives up with `markLiveFuel`: whenever the
    declarations are accepted, `parseUnit` returns, and in the returned list (after `scan_globals`)
    `find_func(f)->is_live` holds exactly for the functions reachable from a root of the graph recorded
    while parsing (`st.globals`). -/
theorem C15_live_unit (ds : List Decl) (st : PState) (h : declAll {} ds = .ok st) :
    ∃ gs, parseUnit ds = .ok gs ∧
      ∀ f, liveFn gs f = true ↔ ∃ r, r ∈ rootNames st.globals ∧ Reach st.globals r f := by
  obtain ⟨gs', p⟩ := parsed_of_declAll h
  refine ⟨scanGlobals gs', p.parseUnit, fun f => ?_⟩
  rw [← p.live f]
  unfold liveFn
  rw [p.findFunc_gs]

/-- **C15_recorded.**  What `parse` records, in terms of the declaration sequence alone (any accepted `ds`):
    * `find_func(f)` succeeds iff `ds` declares `f` at file scope;
    * `fn->refs` is the list of function names mentioned in the body (bodies) of `f`, in source order,
      including those in initializers of its static locals (`allBodyRefs`);
    * `is_static` / `is_inline` are `fnFlags ds f`: those of the first declaration (`s || (i && !e)`, `i`) for the code that
      never looks at a redeclaration, the result of the flag automaton over all declarations of `f` for the repaired
      `function()` (`Rules.flagsFollow`; Lemmas/LinkageFlags.lean: it computes the class C11 gives the function);
    * the root loop starts at `f` iff these flags do not make it `static inline`, or a file-scope initializer names it
      after its declaration (`fileRooted`).  A later redeclaration never clears the mark (the repaired defect). -/
theorem C15_recorded (ds : List Decl) (st : PState) (h : declAll {} ds = .ok st) (f : Name) :
    isFn st.globals f = (firstFlags ds f).isSome ∧
    refsOf st.globals f = allBodyRefs ds f ∧
    (f ∈ rootNames st.globals ↔
      ∃ stc inl, fnFlags ds f = some (stc, inl) ∧ (!(stc && inl) || fileRooted ds false f) = true) ∧
    (∀ o, findFunc st.globals f = some o → fnFlags ds f = some (o.isStatic, o.isInline)) :=
  recorded h f

/-- `Reach` in terms of the declarations: the same graph, with `allBodyRefs` for `fn->refs` and "declared" for `find_func` -/
inductive ReachD (ds : List Decl) : Name → Name → Prop where
  | refl {a} : (firstFlags ds a).isSome = true → ReachD ds a a
  | step {a b c} : ReachD ds a b → c ∈ allBodyRefs ds b → (firstFlags ds c).isSome = true → ReachD ds a c

/-- **C15_live (declaration level).**  For every accepted declaration sequence, in the list `parse` returns
    `is_live f` holds iff `f` is reachable, through the function names mentioned in bodies, from a function
    that is not `static inline` by its first declaration or that a file-scope initializer names. -/
theorem C15_live_decl (ds : List Decl) (st : PState) (h : declAll {} ds = .ok st) :
    ∃ gs, parseUnit ds = .ok gs ∧
      ∀ f, liveFn gs f = true ↔
        ∃ r stc inl, fnFlags ds r = some (stc, inl) ∧ (!(stc && inl) || fileRooted ds false r) = true ∧
          ReachD ds r f := by
  obtain ⟨gs, hp, hl⟩ := C15_live_unit ds st h
  have conv : ∀ a b, Reach st.globals a b ↔ ReachD ds a b := by
    intro a b
    constructor
    · intro hr
      induction hr with
      | refl hf => exact ReachD.refl (by rw [← (C15_recorded ds st h _).1]; exact hf)
      | step _ hm hf ih =>
        exact ReachD.step ih (by rw [← (C15_recorded ds st h _).2.1]; exact hm)
          (by rw [← (C15_recorded ds st h _).1]; exact hf)
    · intro hr
      induction hr with
      | refl hf => exact Reach.refl (by rw [(C15_recorded ds st h _).1]; exact hf)
      | step _ hm hf ih =>
        exact Reach.step ih (by rw [(C15_recorded ds st h _).2.1]; exact hm)
          (by rw [(C15_recorded ds st h _).1]; exact hf)
  refine ⟨gs, hp, fun f => ?_⟩
  rw [hl]
  constructor
  · rintro ⟨r, hr, hreach⟩
    obtain ⟨stc, inl, hff, hc⟩ := ((C15_recorded ds st h r).2.2.1).mp hr
    exact ⟨r, stc, inl, hff, hc, (conv r f).mp hreach⟩
  · rintro ⟨r, stc, inl, hff, hc, hreach⟩
    exact ⟨r, ((C15_recorded ds st h r).2.2.1).mpr ⟨stc, inl, hff, hc⟩, (conv r f).mpr hreach⟩

/-- non-vacuity: a cyclic static-inline call graph.  `static inline a(){b}`, `static inline b(){a}` (a cycle),
    `static inline dead(){dead, a}` (self reference, never referenced from outside), `int (*p)(void) = a;`
    at file scope.  Names: a=0 b=1 dead=2 p=3. -/
def cyclicUnit : List Decl :=
  [ .func 0 1 true false true none, .func 1 1 true false true none,
    .func 0 1 true false true (some [.ref (.fn 1)]),
    .func 1 1 true false true (some [.ref (.fn 0)]),
    .func 2 4 true false true (some [.ref (.fn 2), .ref (.fn 0)]),
    .obj 3 false false false ⟨8, 8, false, false⟩ (some [.ref (.fn 0)]) ]

example : ∀ r : Rules, holdsOn (@parseUnit r cyclicUnit) (fun gs => liveFn gs 0 && liveFn gs 1 && !liveFn gs 2) = true :=
  forall_rules (by decide +kernel)

/-- the hypothesis of C15_live_unit / C15_recorded / C15_live_decl is met by `cyclicUnit`, and the recorded
    graph is the cyclic one -/
example : ∀ r : Rules, holdsOn (@declAll r {} cyclicUnit) (fun st =>
    refsOf st.globals 0 == [1] && refsOf st.globals 1 == [0] && refsOf st.globals 2 == [2, 0] &&
    @rootNames r st.globals == [0]) = true :=
  forall_rules (by decide +kernel)

example : ∀ r : Rules, holdsOn (@parseUnit r cyclicUnit) (fun gs =>
    (objectSymbols true gs).map (fun e => (e.sym, e.binding, e.kind)) ==
      [(.named 3, .global, .data), (.named 1, .local, .text), (.named 0, .local, .text)]) = true :=
  forall_rules (by decide +kernel)

/-! ### closure of what is emitted -/

/-- **C15_closed.**  In the list `parse` returns, for every declaration sequence:
    1. every function at which the root loop starts (`effRoot`: not `static inline`, or named in a file-scope
       initializer) is live;
    2. everything a live function refers to (a name recorded in its body that `find_func` resolves) is live —
       so every static function referenced by emitted code is emitted when it is defined;
    3. a live function is reachable from a root, i.e. a `static inline` definition that nothing emitted
       refers to is not live;
    4. `emit_text` prints a function iff it is a live definition. -/
theorem C15_closed (ds : List Decl) (gs : List Obj) (h : parseUnit ds = .ok gs) :
    ∃ st, declAll {} ds = .ok st ∧
    (∀ o f, o ∈ gs → o.isFunction = true → o.sym = .named f → effRoot o = true → o.isLive = true) ∧
    (∀ o f o2 g, o ∈ gs → o.isFunction = true → o.sym = .named f → o.isLive = true → g ∈ o.refs →
        o2 ∈ gs → o2.isFunction = true → o2.sym = .named g → o2.isLive = true) ∧
    (∀ o f, o ∈ gs → o.isFunction = true → o.sym = .named f → o.isLive = true →
        ∃ r, r ∈ rootNames st.globals ∧ Reach st.globals r f) ∧
    (∀ o, (emitTextFn o).isSome = (o.isFunction && o.isDefinition && o.isLive)) := by
  obtain ⟨st, gs', hst, hm, rfl⟩ := parseUnit_ok h
  have p : Parsed ds st gs' (scanGlobals gs') := ⟨hst, hm, rfl⟩
  -- a function object of the result is `find_func(f)` of the parser's state with the flag the root loop computed
  have key : ∀ o f, o ∈ scanGlobals gs' → o.isFunction = true → o.sym = .named f →
      ∃ o0, findFunc st.globals f = some o0 ∧ o = { o0 with isLive := liveFn gs' f } := by
    intro o f ho hf hs
    obtain ⟨f', o0, h0, rfl⟩ := p.fn_of_mem ho hf
    have hp := List.find?_some h0
    simp only [Bool.and_eq_true, beq_iff_eq] at hp
    cases hp.2.symm.trans hs
    exact ⟨o0, h0, rfl⟩
  have isfn : ∀ {f o0}, findFunc st.globals f = some o0 → isFn st.globals f = true := fun h0 => by simp [isFn, h0]
  refine ⟨st, hst, ?_, ?_, ?_, ?_⟩
  · intro o f ho hf hs hr
    obtain ⟨o0, h0, rfl⟩ := key o f ho hf hs
    have hp := List.find?_some h0
    simp only [Bool.and_eq_true, beq_iff_eq] at hp
    exact (p.live f).mpr ⟨f, mem_rootNames (List.mem_of_find?_eq_some h0) hp.1 hp.2 hr, Reach.refl (isfn h0)⟩
  · intro o f o2 g ho hf hs hlv hg ho2 hf2 hs2
    obtain ⟨o0, h0, rfl⟩ := key o f ho hf hs
    obtain ⟨o2', h2, rfl⟩ := key o2 g ho2 hf2 hs2
    obtain ⟨r, hr, hreach⟩ := (p.live f).mp hlv
    exact (p.live g).mpr ⟨r, hr, Reach.step hreach (by simp only [refsOf, h0]; exact hg) (isfn h2)⟩
  · intro o f ho hf hs hlv
    obtain ⟨o0, h0, rfl⟩ := key o f ho hf hs
    exact (p.live f).mp hlv
  · intro o
    unfold emitTextFn
    cases o.isFunction <;> cases o.isDefinition <;> cases o.isLive <;> rfl

/-- non-vacuity of C15_closed: in `cyclicUnit` the unreferenced `static inline dead` is not printed, the
    cycle `a`/`b` reached from the file-scope initializer is -/
example : ∀ r : Rules, holdsOn (@parseUnit r cyclicUnit) (fun gs => (emitText gs).map (·.sym) == [.named 1, .named 0]) = true :=
  forall_rules (by decide +kernel)

/-! ### tentative definitions -/

/-- **C15_tentative.**  For every `Obj` list and every object name `s` with at most one non-tentative
    definition (`NameOK`) whose objects have no owner (file-scope objects; `noOwner`), after `scan_globals`:
    * `emit_data` prints at most one definition of `s`, and exactly one if the list holds any definition of `s`;
    * the printed entry comes from a declaration `a` of `s` in the list (possibly with the type of another
      declaration: the composite type); it is the tentative one exactly when no non-tentative definition exists;
    * it is `.comm` iff `-fcommon`, all definitions were tentative, and the object is not thread-local. -/
theorem C15_tentative (fcommon : Bool) (gs : List Obj) (s : Sym) (ok : NameOK gs s)
    (noOwner : ∀ o, o ∈ gs → o.sym = s → o.owner = none) :
    ((emitData fcommon (scanGlobals gs)).filter (fun e => e.sym == s)).length ≤ 1 ∧
    (gs.any (dataDefOf s) = true →
      ((emitData fcommon (scanGlobals gs)).filter (fun e => e.sym == s)).length = 1) ∧
    (∀ e, e ∈ emitData fcommon (scanGlobals gs) → e.sym = s →
      ∃ a t, a ∈ gs ∧ dataDefOf s a = true ∧ emitDataVar fcommon { a with ty := t } = some e ∧
        (a.isTentative = true ↔ gs.any (realDefOf s) = false) ∧
        (e.kind = .common ↔ (fcommon = true ∧ gs.any (realDefOf s) = false ∧ a.isTls = false))) := by
  have hrel := scanGlobals_tyRel gs
  have hown : ∀ o, o ∈ scanGlobals gs → o.sym = s → o.owner = none := by
    intro o ho hs
    obtain ⟨a, ha, t, rfl⟩ := hrel.mem ho
    exact noOwner a (scanPure_sub _ _ a ha) hs
  have hcount : ((emitData fcommon (scanGlobals gs)).filter (fun e => e.sym == s)).length =
      ((scanPure gs gs).filter (dataDefOf s)).length := by
    rw [emitData_count fcommon s _ hown, hrel.filter_length (tyBlind_dataDefOf s)]
  refine ⟨?_, ?_, ?_⟩
  · exact Nat.le_trans (emitData_count_le fcommon s _) (scanGlobals_count_le_one ok)
  · intro hex
    rw [hcount]
    have h1 := scanPure_count_le_one ok
    have h2 := scanPure_count_pos ok hex
    omega
  · intro e he hs
    unfold emitData at he
    rw [List.mem_filterMap] at he
    obtain ⟨b, hb, hbe⟩ := he
    obtain ⟨a, hkept, t, rfl⟩ := hrel.mem (List.mem_filter.mp hb).1
    have hsym : a.sym = s := by
      have := emitDataVar_sym hbe
      rw [hs] at this; exact this.symm
    have hsome : a.isFunction = false ∧ a.isDefinition = true := emitDataVar_def (o := { a with ty := t }) hbe
    have htent : a.isTentative = true ↔ gs.any (realDefOf s) = false := scanPure_kept_tent hkept hsym hsome.2
    refine ⟨a, t, scanPure_sub _ _ a hkept, by simp [dataDefOf, hsome.1, hsome.2, hsym], hbe, htent, ?_⟩
    rw [emitDataVar_common hbe, ← htent]

/-- non-vacuity: `int x; int x; static int s; static int s; int y = 3; int y; _Thread_local int t; _Thread_local int t;`
    (x=0 s=1 y=2 t=3): one definition of each; `.comm` for x and s under -fcommon, .data for y, .tbss for t -/
def tentativeUnit : List Decl :=
  [ .obj 0 false false false ⟨4, 4, false, false⟩ none, .obj 0 false false false ⟨4, 4, false, false⟩ none,
    .obj 1 true false false ⟨4, 4, false, false⟩ none, .obj 1 true false false ⟨4, 4, false, false⟩ none,
    .obj 2 false false false ⟨4, 4, false, false⟩ (some []), .obj 2 false false false ⟨4, 4, false, false⟩ none,
    .obj 3 false false true ⟨4, 4, false, false⟩ none, .obj 3 false false true ⟨4, 4, false, false⟩ none ]

example : ∀ r : Rules, holdsOn (@parseUnit r tentativeUnit) (fun gs =>
    (emit true gs).map (fun e => (e.sym, e.binding, e.kind)) ==
      [(.named 3, .global, .tbss), (.named 2, .global, .data), (.named 1, .local, .common), (.named 0, .global, .common)] &&
    (emit false gs).map (fun e => (e.sym, e.kind)) ==
      [(.named 3, .tbss), (.named 2, .data), (.named 1, .bss), (.named 0, .bss)]) = true :=
  forall_rules (by decide +kernel)

/-- the hypotheses `NameOK` / `noOwner` hold for each of the four names in the list `parse` builds for `tentativeUnit` -/
example : ∀ r : Rules, holdsOn (@declAll r {} tentativeUnit) (fun st =>
    [0, 1, 2, 3].all (fun n =>
      st.globals.all (fun o => !(o.sym == .named n) || (!o.isFunction && o.owner == none)) &&
      decide ((st.globals.filter (realDefOf (.named n))).length ≤ 1) &&
      st.globals.all (fun o => !o.isTentative || o.isDefinition))) = true :=
  forall_rules (by decide +kernel)

/-- **C15_tentative_type.**  The type of the definition that stays.  For every `Obj` list and every name `s`
    without a non-tentative definition: if the types of the tentative definitions of `s` (newest first; for the repaired
    code after the pass that completes arrays from the other declarations: `preScan`) satisfy
    `ChainOK P` - all have the composite type's alignment and array-ness `P`, and either none gives an array
    length and all element sizes are `P.size`, or behind some declaration that gives the length `P.size` only
    declarations follow that give that length or none (for a valid unit: always, Lemmas/LinkageObjSym.lean
    `chain_of_valid`) - then every tentative definition of `s` that `scan_globals` keeps has a known length and
    the size, alignment and array-ness of the composite type (C11 6.2.7p3, 6.9.2p2/p5). -/
theorem C15_tentative_type (P : TyParams) (gs : List Obj) (s : Sym) (hreal : gs.any (realDefOf s) = false)
    (hc : ChainOK P (tysOf s (preScan gs))) :
    ∀ o, o ∈ scanGlobals gs → isTentOf s o = true →
      o.ty.unknownLen = false ∧ o.ty.size = P.size ∧ o.ty.align = P.align ∧ o.ty.isArray = P.isArray := by
  intro o ho hs
  have hreal2 : (preScan gs).any (realDefOf s) = false := by
    rw [(preScan_tyRel gs).any (tyBlind_realDefOf s)]; exact hreal
  obtain ⟨⟨ha, hr, _⟩, hk, hsz⟩ := scanCore_good hreal2 hc o ho hs
  exact ⟨hk, hsz, ha, hr⟩

/-- non-vacuity: `int a[]; int a[5]; int a[];` (a=0, newest first in the list): the hypotheses hold with the
    composite type `int[5]`, and the definition that stays has 20 bytes -/
def tentTypeList : List Obj :=
  [ { sym := .named 0, isTentative := true, isStatic := false, ty := ⟨4, 4, true, true⟩ },
    { sym := .named 0, isTentative := true, isStatic := false, ty := ⟨20, 4, true, false⟩ },
    { sym := .named 0, isTentative := true, isStatic := false, ty := ⟨4, 4, true, true⟩ } ]

example : ∀ r : Rules, tentTypeList.any (realDefOf (.named 0)) = false ∧
    (@scanGlobals r tentTypeList).map (fun o => (o.ty.size, o.ty.unknownLen)) = [(20, false)] :=
  forall_rules (by decide +kernel)

example : ChainOK ⟨20, 4, true⟩ (tysOf (.named 0) (@preScan Rules.original tentTypeList)) :=
  chain_initial (by decide) (Or.inl ⟨⟨20, 4, true, false⟩, by decide, rfl⟩)

example : ChainOK ⟨20, 4, true⟩ (tysOf (.named 0) (@preScan Rules.repaired tentTypeList)) :=
  chain_initial (by decide) (Or.inl ⟨⟨20, 4, true, false⟩, by decide, rfl⟩)

/-! ### the symbol table -/

/-- **C15_symbols (full statement).**  For every valid declaration sequence and both `-fcommon` settings the
    ELF symbol table of the model's output has exactly the entries of `Spec.symbols`.
    `Spec.valid` states what makes a declaration sequence a C translation unit as far as linkage goes (C11 6.2.2p7,
    6.7.1p3, 6.2.7p1/p2, 6.2.1p7, 6.9p3, 6.9p5; validated against gcc 12: no unit gcc accepts may be invalid).
    The statement is false for the code with any of the four known findings (Findings/C15.lean has kernel-checked
    witnesses for each rule that is off) and PROVED for the code with the four repairs: `C15_symbols_repaired`. -/
def C15_symbols_Statement : Prop :=
  ∀ (fcommon : Bool) (ds : List Decl), valid ds = true →
    ∃ gs, parseUnit ds = .ok gs ∧
      (∀ e, e ∈ objectSymbols fcommon gs ↔ e ∈ symbols fcommon ds)

/-- the decidable region in which `C15_symbols_Statement` is claimed: a valid unit outside the regions of the known
    findings THE CODE STILL HAS (`Spec.symbolsScope`: each region is guarded by the rule that repairs it).  Two regions are
    narrower than the regions named after the findings: `flagsFrozenDefRegion` is `flagsFrozenRegion` restricted
    to functions the unit defines; `deadStaticLocalVisibleRegion` is `deadStaticLocalRegion` restricted to initializers that
    name something which nothing emitted refers to and the unit does not define. -/
def InScope (ds : List Decl) : Bool := symbolsScope ds

omit [Rules] in
/-- with all four repairs the scope is every valid unit -/
theorem C15_scope_repaired (ds : List Decl) : @InScope Rules.repaired ds = valid ds := by
  have h1 : @Rules.flagsFollow Rules.repaired = true := rfl
  have h2 : @Rules.ownedData Rules.repaired = true := rfl
  have h3 : @Rules.compositeFromDecls Rules.repaired = true := rfl
  have h4 : @Rules.externInherits Rules.repaired = true := rfl
  simp [InScope, symbolsScope, h1, h2, h3, h4]

example (ds : List Decl) : @InScope Rules.original ds =
    (valid ds && !flagsFrozenDefRegion ds && !deadStaticLocalVisibleRegion ds && !compositeSizeRegion ds &&
     !externInitAfterStaticRegion ds) := by
  have h1 : @Rules.flagsFollow Rules.original = false := rfl
  have h2 : @Rules.ownedData Rules.original = false := rfl
  have h3 : @Rules.compositeFromDecls Rules.original = false := rfl
  have h4 : @Rules.externInherits Rules.original = false := rfl
  simp [InScope, symbolsScope, h1, h2, h3, h4]

/-- **C15_accepts.**  `parse` accepts every valid unit: none of the
    diagnostics of the modelled code ("redefinition of f", "static declaration follows a non-static declaration",
    "undefined variable" / "implicit declaration of a function") fires, and the root loop terminates. -/
theorem C15_accepts (ds : List Decl) (hv : valid ds = true) : ∃ gs, parseUnit ds = .ok gs := by
  obtain ⟨st, hst⟩ := parse_ok hv
  obtain ⟨gs1, p⟩ := parsed_of_declAll hst
  exact ⟨_, p.parseUnit⟩

/-- **C15_symbols (partial).**  For every rule set, every declaration sequence in `InScope` (valid, outside the regions of
    the known findings that rule set still has) and both `-fcommon` settings:
    `parse` accepts the unit and the ELF symbol table of the output - every defined label with binding, section
    kind, size and alignment, every undefined reference - has exactly the entries of `Spec.symbols` (C11 6.2.2,
    6.9.2, 6.7.4, GCC -fcommon, psABI array alignment, read over all declarations at once).

    The proof is the simulation between the flag-mutating walk of `declAll` and the Spec: after any prefix the
    list is `<new data objects, explicit> ++ <old list with one function object updated>` (Lemmas/LinkageExact);
    function flags, `refs`, `uses` and the data objects are closed forms of the declarations (LinkageView,
    LinkageUses, LinkageData, LinkageFlags); `mark_live` = the Spec's `closeRounds` closure (LinkageClosure, LinkageFnSym);
    the tentative definition that stays has the composite type (LinkageScanTy, LinkageObjSym).

    What is missing for the full statement: the regions of the rules that are off are genuine defects of chibicc (known
    findings); nothing else - with all four rules on this IS the full statement (`C15_symbols_repaired`). -/
theorem C15_symbols_partial : ∀ (fcommon : Bool) (ds : List Decl), InScope ds = true →
    ∃ gs, parseUnit ds = .ok gs ∧ (∀ e, e ∈ objectSymbols fcommon gs ↔ e ∈ symbols fcommon ds) := by
  intro fcommon ds hin
  exact symbols_partial_lemma fcommon hin

omit [Rules] in
/-- **C15_symbols for the repaired code (full statement, no region).**  With the four candidate repairs in the code
    (`Rules.repaired`: extern inherits linkage, flags follow redeclarations, composite array type, data owned by their
    function) the model's symbol table equals `Spec.symbols` for EVERY valid declaration sequence. -/
theorem C15_symbols_repaired : @C15_symbols_Statement Rules.repaired := by
  intro fcommon ds hv
  exact @C15_symbols_partial Rules.repaired fcommon ds (by rw [C15_scope_repaired]; exact hv)

/-- non-vacuity: a unit with redeclarations (`static int s(void); static int s(void){..}`), a static-inline cycle
    reached through a file-scope initializer, a dead static inline, a block-scope `extern` used after its
    declaration, a static local whose initializer names a function and a string literal, tentative definitions of
    an array with and without length, a TLS object, an `extern` object and an undeclared-here function that are
    referenced.  Names: s=0 a=1 b=2 dead=3 main=4 ext=5 | p=6 arr=7 t=8 eo=9 bx=10 -/
def mixedUnit : List Decl :=
  [ .func 0 1 true false false none,
    .func 1 1 true false true none, .func 2 1 true false true none, .func 5 3 false false false none,
    .obj 7 false false false ⟨4, 4, true, true⟩ none, .obj 9 false true false ⟨4, 4, false, false⟩ none,
    .func 1 1 true false true (some [.ref (.fn 2)]),
    .func 2 1 true false true (some [.ref (.fn 1), .ref (.obj 9)]),
    .func 3 4 true false true (some [.ref (.fn 3), .str 3]),
    .obj 6 false false false ⟨8, 8, false, false⟩ (some [.ref (.fn 1), .str 4]),
    .obj 7 false false false ⟨20, 4, true, false⟩ none,
    .obj 8 true false true ⟨4, 4, false, false⟩ none, .obj 8 true false true ⟨4, 4, false, false⟩ none,
    .func 0 1 true false false (some [.staticLocal false ⟨8, 8, false, false⟩ (some [.ref (.fn 5), .str 2])]),
    .func 4 4 false false false (some [.externObj 10 false ⟨4, 4, false, false⟩, .ref (.obj 10), .ref (.fn 0), .ref (.obj 7)]) ]

example : ∀ r : Rules, @InScope r mixedUnit = true := forall_rules (by decide +kernel)

example : ∀ r : Rules, @InScope r cyclicUnit = true ∧ @InScope r tentativeUnit = true := forall_rules (by decide +kernel)

/-- the units of the known findings are valid: inside the scope of `C15_symbols_repaired`, outside `InScope` of the
    code without repairs -/
example : valid [ .func 0 1 false false true (some []), .func 0 1 false true true none ] = true ∧
    valid [ .obj 0 false false false ⟨4, 4, true, true⟩ none, .obj 0 false true false ⟨20, 4, true, false⟩ none ] = true ∧
    valid [ .obj 0 true false false ⟨4, 4, false, false⟩ none, .obj 0 false true false ⟨4, 4, false, false⟩ (some []) ] = true := by
  decide +kernel

/-- ... and the table the theorem speaks about is not trivial -/
example : (symbols true mixedUnit).map (fun e => (e.sym, e.binding, e.kind, e.size)) =
    [(.named 0, .local, .text, none), (.named 1, .local, .text, none), (.named 2, .local, .text, none),
     (.named 5, .global, .undef, none), (.named 4, .global, .text, none),
     (.named 7, .global, .common, some 20), (.named 9, .global, .undef, none), (.named 6, .global, .data, some 8),
     (.named 8, .local, .tbss, some 4), (.named 10, .global, .undef, none)] := by decide +kernel

/-- **C15_symbols with multiplicities (full statement).**  The symbol table of the output is a permutation of
    `Spec.symbols`: the same entries, each exactly once.  False where `C15_symbols_Statement` is false (it implies it);
    proved for the repaired code: `C15_symbols_exact_repaired`. -/
def C15_symbols_exact_Statement : Prop :=
  ∀ (fcommon : Bool) (ds : List Decl), valid ds = true →
    ∃ gs, parseUnit ds = .ok gs ∧ (objectSymbols fcommon gs).Perm (symbols fcommon ds)

/-- **C15_symbols with multiplicities (partial).**  In the scope of `C15_symbols_partial` the symbol table of the
    output is a *permutation* of `Spec.symbols`: no label is defined twice (the assembler would reject the file) or
    both defined and referenced as undefined, and no entry of the Spec is produced twice.  Beyond
    `C15_symbols_partial` this uses: the labels `.L..k` are handed out once each; at most one declaration of an object
    has an initializer, so `scan_globals` leaves at most one definition per name (`C15_tentative`); function objects
    have distinct names; functions, objects and block-scope externs use different identifiers.
    Missing for the full statement: the same regions as for `C15_symbols_partial`. -/
theorem C15_symbols_exact_partial : ∀ (fcommon : Bool) (ds : List Decl), InScope ds = true →
    ∃ gs, parseUnit ds = .ok gs ∧ (objectSymbols fcommon gs).Perm (symbols fcommon ds) := by
  intro fcommon ds hin
  exact symbols_perm_lemma fcommon hin

omit [Rules] in
/-- **C15_symbols with multiplicities for the repaired code (full statement, no region).** -/
theorem C15_symbols_exact_repaired : @C15_symbols_exact_Statement Rules.repaired := by
  intro fcommon ds hv
  exact @C15_symbols_exact_partial Rules.repaired fcommon ds (by rw [C15_scope_repaired]; exact hv)

/-- non-vacuity: see the examples after `C15_symbols_partial` (same hypotheses); the two tables of `mixedUnit`
    have ten entries each -/
example : (∀ r : Rules, holdsOn (@parseUnit r mixedUnit) (fun gs => (objectSymbols true gs).length == 10) = true) ∧
    (symbols true mixedUnit).length = 10 := by
  have hlen : (symbols true mixedUnit).length = 10 := by decide +kernel
  have hin : ∀ r : Rules, @InScope r mixedUnit = true := forall_rules (by decide +kernel)
  refine ⟨fun r => ?_, hlen⟩
  obtain ⟨gs, hp, hperm⟩ := @C15_symbols_exact_partial r true mixedUnit (hin r)
  rw [hp]
  simp [holdsOn, hperm.length_eq, hlen]

end ChibiVerif.Props.C15
