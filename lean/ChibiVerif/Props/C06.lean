/-
C06 — calls obey the System V x86-64 calling convention.

The property theorems and, beside them, what only their statements need: `namedSig` (the signature the callee's prologue sees),
the tests of the callee-saved table check (`hasSub`, `forbiddenSpellings`, `mentionsForbidden`, `knownMnemonics`, `rbpUseOk`), and a
three-field record `Frame` with `prologue` / `epilogue` for `C06_epilogue_restores`.  Other notions of the statements that are not
model or specification: `aggSizeOk`, `sizesOk`, `vaArgOk`, `descrS`, `agrees`, `gpReg`, `LowHolds`: Lemmas/C06Vocabulary.lean;
`Represents`: Lemmas/C01Lemmas.lean; `MemHolds`: Lemmas/C01MemLemmas.lean.  Helper lemmas: Lemmas/CallConvLemmas.lean,
Lemmas/PsABILemmas.lean, Lemmas/VaLemmas.lean, Lemmas/C06*.lean.
Model: Model/CallConv.lean (codegen.c push_args / push_args2 / ND_FUNCALL / assign_lvar_offsets / emit_text /
copy_struct_reg / copy_struct_mem / copy_ret_buffer, include/stdarg.h); specification: Spec/PsABI.lean (psABI 3.2.3,
3.5.7); known-finding regions: Spec/CallRegions.lean.  Every theorem is for **all** signatures: any number and order of
parameters, any member trees.

`sizesOk s` (decidable) is the well-formedness of the types of `s`: in an aggregate of 1..16 bytes an eightbyte moved with
movss/movsd has 4 or 8 bytes (fails only for packed structs: known finding C06-packed-unaligned-param, where cc1 aborts; the GNU
empty struct is fine since /repo b298aee: it takes nothing), integer-class scalars have 1..8 bytes, no array is passed by value.
`supported s` (decidable) = outside the regions of the five known findings of known_findings.json.
-/
import ChibiVerif.Model.CallConv
import ChibiVerif.Spec.PsABI
import ChibiVerif.Spec.CallRegions
import ChibiVerif.Lemmas.CallConvLemmas
import ChibiVerif.Lemmas.PsABILemmas
import ChibiVerif.Lemmas.VaLemmas
import ChibiVerif.Lemmas.C06ArgSpecLemmas
import ChibiVerif.Lemmas.C06ArgLemmas
import ChibiVerif.Lemmas.C06TemplateLemmas
import ChibiVerif.Props.C01

namespace ChibiVerif.Props.C06
open ChibiVerif.CallConv
open ChibiVerif.Spec
open ChibiVerif.Spec.CallRegions (supported)
open ChibiVerif.Gen.Templates (templates GP_MAX FP_MAX)

/-! ## chibicc ↔ chibicc -/

/-- full statement: for every signature, neither side reaches an abort site of cc1 and the callee reads every named
    parameter from where the caller put the argument.  False as stated: see Findings/C06.lean (packed structs). -/
def C06_self_Statement : Prop :=
  ∀ s : Sig, ∃ a, callerAssign s = .ok a ∧ calleeAssign s = .ok (a.take s.nNamed)

/-- **C06 (chibicc-compiled caller and callee agree).**  For every well-formed signature the three loops of the caller
    (classification in `push_args`, the two pushing passes, the pop phase of `ND_FUNCALL`) and the two loops of the callee
    (`assign_lvar_offsets`, the register stores of the prologue) put and expect every argument in the same register
    pieces or at the same stack offset, and no abort site (`assert(depth == 0)`, `unreachable()`, `argreg64[6]`) is reached.
    Missing for the full statement: packed structs with unaligned members (known finding C06-packed-unaligned-param). -/
theorem C06_self_partial (s : Sig) (h : sizesOk s = true) :
    ∃ a, callerAssign s = .ok a ∧ calleeAssign s = .ok (a.take s.nNamed) := by
  simp only [sizesOk, Bool.and_eq_true] at h
  refine ⟨_, callerAssign_eq s h.1, ?_⟩
  rw [calleeAssign_eq s h.1, Sig.named, refLoop_take]

example : sizesOk { ret := some (.agg false 24 8 (.cons 0 (.int 8 false false) (.cons 8 (.int 8 false false) (.cons 16 .dbl .nil)))),
                    params := [.int 4 false false, .agg false 16 8 (.cons 0 (.int 8 false false) (.cons 8 .dbl .nil)), .ldbl,
                               .dbl, .flt, .agg false 12 4 (.cons 0 (.arr .flt 3) .nil), .agg false 0 1 .nil],
                    nNamed := 4, variadic := true } = true := by decide

/-! ## chibicc ↔ any ABI-conforming compiler -/

/-- full statement: for every well-formed signature both sides of chibicc place arguments, al and return values exactly as
    psABI 3.2.3 does.  False: see the five witnesses in Findings/C06.lean. -/
def C06_abi_Statement : Prop :=
  ∀ s : Sig, sizesOk s = true →
    callerAssign s = .ok (PsABI.assign s) ∧ calleeAssign s = .ok ((PsABI.assign s).take s.nNamed) ∧
    callerAl s = PsABI.al s ∧ retCaller s.ret = .ok (PsABI.ret s.ret) ∧ retCallee s.ret = .ok (PsABI.ret s.ret)

/-- **C06 (psABI conformance outside the known findings).**  For every well-formed signature outside the regions
    `C06-struct-with-ldouble`, `C06-packed-unaligned-param`, `C06-padding-eightbyte`, `C06-ldouble-stack-align`:
    the caller puts every argument where psABI 3.2.3 puts it (registers rdi rsi rdx rcx r8 r9 / xmm0-7 per eightbyte,
    all-or-nothing for aggregates, stack slots left to right from (%rsp)), the callee takes every named parameter from
    there, `mov $N, %rax` gives the number of vector registers used, and return values travel in rax/rdx/xmm0/xmm1/st0 or
    through the hidden pointer with rax = that pointer on return, on both sides.
    Proof: structural induction on member trees (`hasFlonum_leaves`: has_flonum is a statement about the flat list of
    scalars), the merge loop invariant (`foldClasses_getD`), and induction on the argument list with the (gp, fp, stack)
    counters as invariant (`caller_loop`, `callee_loop`, `abi_loop`). -/
theorem C06_abi_partial (s : Sig) (hs : sizesOk s = true) (h : supported s = true) :
    callerAssign s = .ok (PsABI.assign s) ∧ calleeAssign s = .ok ((PsABI.assign s).take s.nNamed) ∧
    callerAl s = PsABI.al s ∧ retCaller s.ret = .ok (PsABI.ret s.ret) ∧ retCallee s.ret = .ok (PsABI.ret s.ret) := by
  simp only [sizesOk, Bool.and_eq_true] at hs
  simp only [supported, Bool.and_eq_true, Bool.not_eq_true'] at h
  obtain ⟨⟨hty, hret⟩, hpad⟩ := h
  have hloop := abi_loop_start s.ret s.params hret hs.1 hty hpad
  have hrets := ret_abi s.ret hret (fun t ht => by have := hs.2; rwa [ht] at this)
  refine ⟨?_, ?_, ?_, hrets.1, hrets.2⟩
  · rw [PsABI.assign, hloop]; exact callerAssign_eq s hs.1
  · rw [PsABI.assign, hloop, calleeAssign_eq s hs.1, Sig.named, refLoop_take]
  · have h4 := (caller_loop s.params (b2n (retLarge s.ret)) 0 0 0 hs.1).2.2.2
    rw [min_b2n, Nat.zero_min] at h4
    rw [callerAl, popPhase, PsABI.al, hloop, h4]

example :
    let s : Sig := { ret := some (.agg false 24 8 (.cons 0 (.int 8 false false) (.cons 8 (.int 8 false false) (.cons 16 .dbl .nil)))),
                     params := [.int 4 false false, .int 8 false false, .int 8 false false, .int 8 false false,
                                .agg false 16 8 (.cons 0 (.int 8 false false) (.cons 8 .dbl .nil)),
                                .agg false 16 8 (.cons 0 (.int 8 false false) (.cons 8 (.int 8 false false) .nil)),
                                .dbl, .flt, .agg false 12 4 (.cons 0 (.arr .flt 3) .nil), .int 1 true true, .agg true 0 1 .nil],
                     nNamed := 11, variadic := false }
    sizesOk s = true ∧ supported s = true := by decide

/-! ## variadic functions -/

/-- the signature seen by the callee's prologue: the named parameters only -/
def namedSig (s : Sig) : Sig := { s with params := s.named }

/-- full statement: in a chibicc-compiled variadic function the k-th `va_arg` reads the k-th variadic argument from where
    psABI 3.2.3 / 3.5.7 put it, for every variadic argument type.  False for aggregates of at most 16 bytes
    (known finding C06-va-arg-small-struct, Findings/C06.lean). -/
def C06_va_Statement : Prop :=
  ∀ s : Sig, sizesOk s = true → s.nNamed ≤ s.params.length → supported (namedSig s) = true →
    (calleeVa s).map some = ((PsABI.assign s).drop s.nNamed).map PsABI.vaLoc

/-- **C06 (va_arg across register exhaustion).**  For every variadic signature whose named part is outside the known-finding
    regions and whose variadic arguments are promoted integers/pointers, doubles, long doubles or aggregates of more than
    16 bytes, in any number and order: the `va_area` set-up of the prologue (gp_offset, fp_offset, overflow_arg_area counted
    like `assign_lvar_offsets`) followed by the walkers `__va_arg_gp/fp/mem` of include/stdarg.h yields for the k-th `va_arg`
    exactly the save-area slot or overflow-area offset of the k-th variadic argument under the psABI — through the
    exhaustion of the 6 INTEGER and 8 SSE registers and with the 16-byte alignment of long double in the overflow area. -/
theorem C06_va_partial (s : Sig) (hs : sizesOk s = true) (hn : s.nNamed ≤ s.params.length)
    (h : supported (namedSig s) = true) (hv : (s.params.drop s.nNamed).all vaArgOk = true) :
    (calleeVa s).map some = ((PsABI.assign s).drop s.nNamed).map PsABI.vaLoc := by
  simp only [sizesOk, Bool.and_eq_true] at hs
  simp only [supported, namedSig, Bool.and_eq_true, Bool.not_eq_true'] at h
  obtain ⟨⟨hty, hret⟩, hpad⟩ := h
  -- the psABI side: split the argument list at the last named parameter
  have hloop := abi_loop_start s.ret s.named hret (all_take _ _ _ hs.1) hty hpad
  rw [PsABI.assign, assignLoop_drop, ← Sig.named, hloop]
  simp only [calleeVa]
  rw [vaInit_eq s hs.1]
  obtain ⟨hg, hf, h8⟩ := refLoop_bounds s.named (b2n (retLarge s.ret)) 0 0 (by cases retLarge s.ret <;> decide)
    (by decide) (by decide)
  rw [← va_walk (s.params.drop s.nNamed) _ _ _ hg hf h8 hv, Nat.mul_comm _ 8, Nat.mul_comm _ 16, Nat.add_comm _ 48]

example :
    let s : Sig := { ret := none,
                     params := [.int 4 false false, .dbl, .int 8 false false, .ldbl, .dbl, .int 4 false false, .int 8 false false,
                                .int 8 false false, .int 8 false false, .int 8 false false, .dbl, .dbl, .dbl, .dbl, .dbl, .dbl, .dbl,
                                .dbl, .ldbl, .agg false 24 8 (.cons 0 (.int 8 false false) (.cons 8 .dbl (.cons 16 .dbl .nil)))],
                     nNamed := 2, variadic := true }
    sizesOk s = true ∧ s.nNamed ≤ s.params.length ∧ supported (namedSig s) = true ∧ (s.params.drop s.nNamed).all vaArgOk = true := by
  decide

/-! ## stack alignment and clean-up -/

/-- **C06 (16-byte alignment at every call).**  A function entered with rsp ≡ 8 (mod 16) whose frame size is a multiple
    of 16 executes every `call *%r10` with rsp ≡ 0 (mod 16), whatever the signature and however many slots (`depth`)
    enclosing expressions have pushed: the parity rule on `depth + stack`, and the fact that at the call exactly the
    padding and the first-pass pushes are on the stack (`depthAtCall_eq`).  (`depth` is the true number of pushed slots:
    property C20; `alloca` keeps rsp a multiple of 16 by rounding its size.) -/
theorem C06_align (entry : Int) (stackSize depth : Nat) (s : Sig) (hs : sizesOk s = true)
    (he : entry % 16 = 8) (hf : stackSize % 16 = 0) :
    rspAtCall entry stackSize depth s % 16 = 0 := by
  simp only [sizesOk, Bool.and_eq_true] at hs
  have h1 := depthAtCall_eq depth s hs.1
  have h2 := stackArgs_parity depth s
  simp only [rspAtCall, h1]
  omega

example : sizesOk { ret := none, params := [.ldbl, .int 4 false false], nNamed := 2, variadic := false } = true := by decide

/-- **C06 (the caller removes exactly what it pushed).**  At the call the machine stack holds `depth + stack_args` slots,
    and after `add $8*stack_args, %rsp` it is back at `depth`: what the first pass pushed plus the padding is what
    `push_args` returned, what the second pass pushed is what the pop phase popped. -/
theorem C06_cleanup (depth : Nat) (s : Sig) (hs : sizesOk s = true) :
    depthAtCall depth s = (depth : Int) + stackArgs depth s ∧ depthAfterCall depth s = depth := by
  simp only [sizesOk, Bool.and_eq_true] at hs
  have h1 := depthAtCall_eq depth s hs.1
  exact ⟨h1, by simp only [depthAfterCall, h1]; omega⟩

/-! ## callee-saved registers -/

def hasSub (s : List Char) (p : List Char) : Bool :=
  match s with
  | [] => p.isEmpty
  | c :: cs => p.isPrefixOf (c :: cs) || hasSub cs p

/-- every spelling of rbx, r12, r13, r14, r15 (`%r12` is a prefix of `%r12d`, `%r12w`, `%r12b`) and the narrow spellings of rbp -/
def forbiddenSpellings : List (List Char) :=
  ["%rbx", "%ebx", "%bx", "%bl", "%bh", "%r12", "%r13", "%r14", "%r15", "%ebp", "%bp"].map String.toList

def mentionsForbidden (t : String × List String) : Bool :=
  t.2.any (fun o => forbiddenSpellings.any (fun b => hasSub o.toList b))

/-- the mnemonics of the back end; none has rbx, rbp or r12-r15 as an implicit operand (Intel SDM vol. 2: div/idiv/cqo/cdq
    use rax, rdx; shifts cl; cmpxchg rax; rep stosb rdi, rcx, al; push/pop/call/ret rsp; btc its two operands and CF; x87
    (fcomi, fsub, fxch ...) and SSE (comisd, comiss, cvtsi2ss ...) instructions and the conditional jumps none).
    A mnemonic outside this list (cpuid, cmpxchg16b, xlat, enter, leave, pusha ...) makes the theorem fail. -/
def knownMnemonics : List String :=
  ["add","addq","addsd","addss","and","btc","call","cdq","cmp","comisd","comiss","cqo","cvtsd2ss","cvtsi2sd","cvtsi2sdl",
   "cvtsi2sdq","cvtsi2ss","cvtsi2ssl","cvtsi2ssq","cvtss2sd","cvttsd2sil","cvttsd2siq","cvttss2sil","cvttss2siq","data16 lea",
   "dec","div","divsd","divss","faddp","fadds","fchs","fcomi","fcomip","fdivrp","fildl","fildll","fildq","fistpl","fistpq",
   "fistps","fldcw","fldl","flds","fldt","fldz","fmulp","fnstcw","fstp","fstpl","fstps","fstpt","fsub","fsubrp","fucomip",
   "fxch","idiv","imul","inc","jae","jbe","je","jmp","jne","jns",
   "js","lea","lock cmpxchg","mov","movd","movl","movq","movsbl","movsd","movss","movswl","movsxd","movzb","movzbl","movzwl",
   "movzx","mulsd","mulss","neg","not","or","pop","push","pxor","rep stosb","ret","rex64","sar","seta","setae","setb","setbe",
   "sete","setl","setle","setne","setnp","setp","shl","shr","sub","subsd","subss","test","ucomisd","ucomiss","xchg","xor",
   "xorpd","xorps"]

/-- `%rbp` as a register operand: only the prologue (`push %rbp`, `mov %rsp, %rbp`), the epilogue (`mov %rbp, %rsp`,
    `pop %rbp`) and reads of it as a source (`movq %rbp, N(%rbp)` in the va_area set-up) -/
def rbpUseOk (t : String × List String) : Bool :=
  if t.2.contains "%rbp" then
    t == ("push", ["%rbp"]) || t == ("mov", ["%rsp", "%rbp"]) || t == ("mov", ["%rbp", "%rsp"]) || t == ("pop", ["%rbp"])
      || ((t.1 == "mov" || t.1 == "movq") && t.2.head? == some "%rbp" && t.2.getLast? != some "%rbp")
  else true

/-- **C06 (callee-saved registers, part 1).**  Decided over the complete list of instruction templates that codegen.c can
    print (regenerated from the source on every run, `%s` arguments resolved to every string they can be): no template
    mentions rbx, r12, r13, r14 or r15 in any width; every mnemonic is a known one without such an implicit operand; rbp is
    written only by `mov %rsp, %rbp` and `pop %rbp`.  (`asm` statements are user text and excluded.) -/
theorem C06_callee_saved :
    templates.all (fun t => !(mentionsForbidden t) && knownMnemonics.contains t.1 && rbpUseOk t) = true ∧
    ChibiVerif.Gen.Templates.userAsmSites = 1 := by
  have hsub : ∀ (s p : List Char), hasSub s p = true → ∀ c ∈ p, c ∈ s := by
    intro s p
    induction s with
    | nil => intro h c hc; rw [List.isEmpty_iff.1 h] at hc; exact nomatch hc
    | cons a as ih =>
      intro h c hc
      rw [hasSub, Bool.or_eq_true] at h
      exact h.elim (fun h => (List.isPrefixOf_iff_prefix.1 h).subset hc) (fun h => List.mem_cons_of_mem _ (ih h c hc))
  -- every forbidden spelling has a `b` or a `1` in it, so the substring search is needed only for the few operands that have one
  have hb1 : ∀ b ∈ forbiddenSpellings, ∃ c ∈ b, c = 'b' ∨ c = '1' := by decide
  have h1 : templates.all (fun t => t.2.all (fun o => o.toList.all (fun c => c != 'b' && c != '1') ||
      !forbiddenSpellings.any (fun b => hasSub o.toList b)) && rbpUseOk t) = true := by decide +kernel
  -- both lists are sorted: one pass instead of a search of `knownMnemonics` per template
  have h2 : allIn (templates.map (·.1)) knownMnemonics = true := by decide +kernel
  refine ⟨?_, rfl⟩
  rw [List.all_eq_true] at h1 ⊢
  intro t ht
  have h3 := allIn_sound _ _ h2 t.1 (List.mem_map_of_mem ht)
  have h4 := h1 t ht
  rw [Bool.and_eq_true, List.all_eq_true] at h4
  simp only [Bool.and_eq_true, Bool.not_eq_true']
  refine ⟨⟨?_, h3⟩, h4.2⟩
  rw [mentionsForbidden, List.any_eq_false]
  intro o ho
  rcases Bool.or_eq_true_iff.1 (h4.1 o ho) with h | h
  · rw [List.any_eq_true]
    rintro ⟨b, hb, hs⟩
    obtain ⟨c, hc, hc'⟩ := hb1 b hb
    have := List.all_eq_true.1 h c (hsub _ _ hs c hc)
    rcases hc' with rfl | rfl <;> simp at this
  · rw [Bool.not_eq_true'] at h; rw [h]; exact Bool.false_ne_true

/-- a function's frame registers: rsp, rbp, and the word the prologue saved at `entry - 8` -/
structure Frame where
  rsp : Int
  rbp : Int
  saved : Int

/-- `push %rbp; mov %rsp, %rbp; sub $stack_size, %rsp` -/
def prologue (entry callerRbp : Int) (stackSize : Nat) : Frame :=
  { rsp := entry - 8 - stackSize, rbp := entry - 8, saved := callerRbp }

/-- `mov %rbp, %rsp; pop %rbp; ret`: (rsp, rbp) afterwards.  `pop` reads the word at the new rsp, which is the saved one
    exactly when rbp still points at it. -/
def epilogue (f : Frame) (entry : Int) : Option (Int × Int) :=
  if f.rbp = entry - 8 then some (f.rbp + 8 + 8, f.saved) else none

/-- **C06 (callee-saved registers, part 2).**  Every path to `.L.return.f` runs `mov %rbp, %rsp; pop %rbp; ret`.  Since no
    template of the body writes rbp (part 1), whatever the body did to rsp, the caller gets back rsp = entry + 8 (the
    return address popped) and its own rbp — provided the body did not overwrite the saved word (memory safety of the
    compiled program, not a property of the calling convention). -/
theorem C06_epilogue_restores (entry callerRbp : Int) (stackSize : Nat) (bodyRsp : Int) :
    epilogue { prologue entry callerRbp stackSize with rsp := bodyRsp } entry = some (entry + 8, callerRbp) := by
  simp only [epilogue, prologue]
  simp

/-! ## argument conversions (parse.c `funcall`, C11 6.5.2.2)

`Gen.Funcall.argStep` is the body of the argument loop of `funcall()` as **translated from parse.c on every run**;
`C06Args.funcall` the loop around it; `argSeq` the instructions the inserted `ND_CAST`s print (cast table regenerated from
codegen.c).  `Represents` is the register invariant of C01, `C01_cast` / `C02_select` the conversion theorems that are
reused here; `X86.run` / `Fp.run` the instruction semantics of C01 / C02. -/

section Args
open ChibiVerif.C06Args ChibiVerif.Spec.CallArgs ChibiVerif.Spec.IntSpec ChibiVerif.Gen.CommonType
open ChibiVerif.C01 (Represents MemHolds castSeq descr)

/-- **C06 (which conversion each argument gets).**  For every parameter list and every argument list (any lengths; arithmetic
    types, pointers, enumerations, structs/unions) and both kinds of callee type, `funcall()` does what C11 6.5.2.2 prescribes:
    the diagnostic "too few arguments" / "too many arguments" exactly when the counts disagree (more arguments than
    parameters is accepted only for `...` and for callees declared `()`), otherwise every argument with a corresponding
    parameter is converted to the parameter's type (`new_cast(arg, param_ty)`; a struct/union is handed over as it is), and
    every trailing argument undergoes the default argument promotions: `float → double` by a cast, and integer types narrower
    than `int` by *no* cast — which is the promotion, because of the register invariant (`C06_arg_default_promotions`). -/
theorem C06_funcall_spec (ps as : List STy) (variadic : Bool) :
    agrees (passedTypes ps variadic as) (funcall ⟨ps.map descrS, variadic⟩ (as.map descrS)) as :=
  funcall_agrees ps as variadic

example : passedTypes [.arith (.int .bool), .agg false 12] true [.arith (.int .i8), .agg false 12, .arith .f32, .arith (.int .u16), .ptr]
      = .ok [.arith (.int .bool), .agg false 12, .arith .f64, .arith (.int .i32), .ptr] ∧
    funcall ⟨[ty_bool, ⟨.TY_STRUCT, 12, false, false⟩], true⟩ [ty_char, ⟨.TY_STRUCT, 12, false, false⟩, ty_float, ty_ushort, ty_ptr]
      = .ok [[ty_bool], [], [ty_double], [], []] ∧
    funcall ⟨[ty_bool], false⟩ [ty_char, ty_int] = .error "too many arguments" ∧
    funcall ⟨[ty_bool, ty_int], true⟩ [ty_char] = .error "too few arguments" := ⟨rfl, rfl, rfl, rfl⟩

/-- **C06 (declared parameter lists).**  `func_params()`: `(void)` is a prototype without parameters; an empty list `()` gives
    no information about the parameters (C11 6.7.6.3p14), so calls through it get the default argument promotions — chibicc
    marks it variadic; array and function parameters are adjusted to pointers (6.7.6.3p7-8). -/
theorem C06_param_decl :
    fnTyOf .void = ⟨[], false⟩ ∧ fnTyOf .empty = ⟨[], true⟩ ∧
    (∀ (sz : Nat) (u b e : Bool), fnTyOf (.list [⟨.TY_ARRAY, sz, u, b⟩, ⟨.TY_FUNC, sz, u, b⟩, ty_char] e) = ⟨[ty_ptr, ty_ptr, ty_char], e⟩) := by
  refine ⟨rfl, rfl, ?_⟩
  intro sz u b e
  rfl

/-- **C06 (what a callee may rely on, and what chibicc's callee does rely on).**  Whatever compiler made the call: if the low
    `sizeof t` bytes of the argument register are the object representation of `w` (all the psABI promises for char / short /
    int; for `_Bool` it promises the low byte is 0 or 1), the chibicc-compiled callee's parameter object holds `w` — it never
    looks at the bits above (`mov %dil / %di / %edi / %rdi, off(%rbp)`), and re-extends on every use. -/
theorem C06_param_home (t : ITy) (r : Nat) (hr : r < 6) (off : Int) (c : X86.State) (w : Int)
    (h : LowHolds t (c.get (gpReg r)) w) :
    ∃ c' c'', X86.run (storeGpSeq r off t.size) c = some c' ∧ MemHolds t c' (c.ea off .rbp) w ∧
      X86.run (paramReadSeq t off) c' = some c'' ∧ Represents t (c''.get .rax) w := by
  obtain ⟨c', hs, hm, hregs⟩ := store_gp_ok t r hr off c w h
  have hea : c'.ea off .rbp = c.ea off .rbp := by simp only [X86.State.ea, X86.State.get, hregs]
  obtain ⟨c'', hr1, hr2⟩ := param_read_ok t off c' _ (hea ▸ hm)
  exact ⟨c', c'', hs, hm, hr1, hr2⟩

example : LowHolds .i16 (0x1234_5678_9abc_fffe#64) (-2) := ⟨by decide, by decide⟩

/-- **C06 (the parameter object holds the C11 conversion of the argument) — integer types.**  For every parameter type `to` and
    every argument type `frm` among the nine integer types, in a call through a prototype (fixed or the named part of a variadic
    one), for every machine state whose %rax represents the argument value `v` (the result of `gen_expr(arg)`, property C01):
    the instructions `funcall()`'s cast adds are those of `cast(frm, to)` and run; then
    * register argument number `r` (0..5): after `push %rax` … `pop argreg64[r]` the register represents `convert to v`, the C11
      conversion "as if by assignment" (6.5.2.2p7, 6.3.1.2, 6.3.1.3); in the callee — whatever state it is entered in, as long
      as that register is untouched — the prologue's `store_gp(r, off, sizeof to)` makes the parameter object at `off(%rbp)` hold
      `convert to v`, and a later use of the parameter (`lea off(%rbp), %rax` + `load`) has that value;
    * stack argument: after `push %rax` the 8-byte slot at (%rsp) represents `convert to v`; the callee's parameter object *is*
      the low bytes of that slot (any state in which the slot's eight bytes are at address `a` has the object at `a` holding
      `convert to v`). -/
theorem C06_arg_convert (frm to : ITy) (variadic : Bool) (s : X86.State) (v : Int) (h : Represents frm (s.get .rax) v) :
    ∃ code s1, argSeq variadic (some (descr to)) (descr frm) = some code ∧ X86.run code s = some s1 ∧
      (∀ r, r < 6 → ∃ s', X86.run (passRegSeq code r) s = some s' ∧
          Represents to (s'.get (gpReg r)) (convert to v) ∧ s'.get .rsp = s1.get .rsp ∧
          ∀ (c : X86.State) (off : Int), c.get (gpReg r) = s'.get (gpReg r) →
            ∃ c' c'', X86.run (storeGpSeq r off to.size) c = some c' ∧ MemHolds to c' (c.ea off .rbp) (convert to v) ∧
              X86.run (paramReadSeq to off) c' = some c'' ∧ Represents to (c''.get .rax) (convert to v)) ∧
      (∃ s', X86.run (passStackSeq code) s = some s' ∧ s'.get .rsp = s1.get .rsp - 8 ∧
          Represents to (s'.read64 (s'.get .rsp)) (convert to v) ∧
          ∀ (c : X86.State) (a : BitVec 64), c.read64 a = s'.read64 (s'.get .rsp) → MemHolds to c a (convert to v)) := by
  obtain ⟨s1, hrun, hrep⟩ := ChibiVerif.Props.C01.C01_cast frm to s v h
  refine ⟨castSeq frm to, s1, argSeq_int frm to variadic, hrun, ?_, ?_⟩
  · intro r hr
    refine (X86.Post.seq hrun (pass_reg r hr s1)).mono fun s' ⟨h2, h3, _⟩ => ⟨h2 ▸ hrep, h3, ?_⟩
    intro c off hc
    exact C06_param_home to r hr off c _ (by rw [hc, h2]; exact represents_low to _ _ hrep)
  · exact (X86.Post.seq hrun (pass_stack s1)).mono fun s' ⟨h2, h3⟩ =>
      ⟨h3, h2 ▸ hrep, represents_slot to _ _ (h2 ▸ hrep)⟩

example : Represents .i8 (0xdeadbeef_ffffff80#64) (-128) ∧ convert .bool (-128) = 1 ∧ convert .u16 (-128) = 65408 :=
  ⟨⟨by decide, by decide⟩, by decide, by decide⟩

/-- **C06 (`_Bool` arguments are normalised).**  For every integer argument type and every value, the register (all 64 bits) or
    the stack slot (all 8 bytes) that carries an argument for a `_Bool` parameter holds exactly 0 or 1, and 1 exactly when the
    argument compares unequal to 0 (psABI: bit 0 carries the truth value, bits 1-7 are zero; a gcc callee at -O2 uses the byte
    as an `int` without masking). -/
theorem C06_arg_bool_normalised (frm : ITy) (variadic : Bool) (s : X86.State) (v : Int) (h : Represents frm (s.get .rax) v) :
    ∃ code, argSeq variadic (some ty_bool) (descr frm) = some code ∧
      (∀ r, r < 6 → ∃ s', X86.run (passRegSeq code r) s = some s' ∧
          (s'.get (gpReg r) = 0#64 ∨ s'.get (gpReg r) = 1#64) ∧ (s'.get (gpReg r) = 1#64 ↔ v ≠ 0)) ∧
      (∃ s', X86.run (passStackSeq code) s = some s' ∧
          (s'.read64 (s'.get .rsp) = 0#64 ∨ s'.read64 (s'.get .rsp) = 1#64) ∧ (s'.read64 (s'.get .rsp) = 1#64 ↔ v ≠ 0)) := by
  obtain ⟨code, s1, hsel, _, hreg, hstk⟩ := C06_arg_convert frm .bool variadic s v h
  refine ⟨code, hsel, ?_, ?_⟩
  · intro r hr
    obtain ⟨s', h1, h2, _⟩ := hreg r hr
    exact ⟨s', h1, represents_convert_bool _ _ h2⟩
  · obtain ⟨s', h1, _, h2, _⟩ := hstk
    exact ⟨s', h1, represents_convert_bool _ _ h2⟩

example : Represents .u8 (0xffffffff_00000080#64) 128 := ⟨by decide, by decide⟩

/-- **C06 (what the upper bits of a narrow argument hold).**  For a parameter type narrower than 64 bits the low 32 bits of the
    argument register / stack slot are the parameter value sign- or zero-extended to 32 bits (`_Bool`: zero-extended) — more
    than the psABI requires, and what clang-compiled callees assume; gcc-compiled callees assume nothing beyond the low
    `sizeof` bytes.  For 64-bit types the whole register is the value.  Bits 32..63 of a narrow argument are unspecified
    (Findings/C06.lean `C06_arg_upper_bits_garbage`); no callee may read them, and chibicc's does not (`C06_param_home`). -/
theorem C06_arg_extension (frm to : ITy) (variadic : Bool) (s : X86.State) (v : Int) (h : Represents frm (s.get .rax) v) :
    ∃ code, argSeq variadic (some (descr to)) (descr frm) = some code ∧
      (∀ r, r < 6 → ∃ s', X86.run (passRegSeq code r) s = some s' ∧
          (if to.size = 8 then s'.get (gpReg r) = BitVec.ofInt 64 (convert to v)
           else (s'.get (gpReg r)).setWidth 32 = BitVec.ofInt 32 (convert to v))) ∧
      (∃ s', X86.run (passStackSeq code) s = some s' ∧
          (if to.size = 8 then s'.read64 (s'.get .rsp) = BitVec.ofInt 64 (convert to v)
           else (s'.read64 (s'.get .rsp)).setWidth 32 = BitVec.ofInt 32 (convert to v))) := by
  obtain ⟨code, s1, hsel, _, hreg, hstk⟩ := C06_arg_convert frm to variadic s v h
  refine ⟨code, hsel, ?_, ?_⟩
  · intro r hr
    obtain ⟨s', h1, h2, _⟩ := hreg r hr
    exact ⟨s', h1, (represents_image to _ _ h2).1⟩
  · obtain ⟨s', h1, _, h2, _⟩ := hstk
    exact ⟨s', h1, (represents_image to _ _ h2).1⟩

example : Represents .i32 (0x00000000_fffffffb#64) (-5) := ⟨by decide, by decide⟩

/-- **C06 (default argument promotions, integer types).**  A trailing argument of a variadic callee, and every argument of a
    callee declared `()`, of integer type `frm`: `funcall()` adds no instruction, and the register / stack slot represents the
    argument value *in the promoted type* (6.5.2.2p6-7, 6.3.1.1: `int` for `_Bool`, `char`, `short` and their unsigned
    variants) — `va_arg(ap, int)` in the callee reads the low four bytes of the slot the value was spilled to (`C06_va_partial`)
    and gets `v`. -/
theorem C06_arg_default_promotions (frm : ITy) (s : X86.State) (v : Int) (h : Represents frm (s.get .rax) v) :
    argSeq true none (descr frm) = some [] ∧ (fnTyOf .empty).variadic = true ∧
      (∀ r, r < 6 → ∃ s', X86.run (passRegSeq [] r) s = some s' ∧ Represents (promote frm) (s'.get (gpReg r)) v ∧
          LowHolds (promote frm) (s'.get (gpReg r)) v) ∧
      (∃ s', X86.run (passStackSeq []) s = some s' ∧ Represents (promote frm) (s'.read64 (s'.get .rsp)) v ∧
          ∀ (c : X86.State) (a : BitVec 64), c.read64 a = s'.read64 (s'.get .rsp) → MemHolds (promote frm) c a v) := by
  have hp := represents_promote frm _ v h
  refine ⟨argSeq_tail_int frm, rfl, ?_, ?_⟩
  · intro r hr
    exact (pass_reg r hr s).mono fun s' ⟨h2, _⟩ => ⟨h2 ▸ hp, h2 ▸ represents_low _ _ _ hp⟩
  · exact (pass_stack s).mono fun s' ⟨h2, _⟩ => ⟨h2 ▸ hp, represents_slot _ _ _ (h2 ▸ hp)⟩

example : Represents .u16 (0x7777_7777_0000_ffff#64) 65535 ∧ promote .u16 = .i32 := ⟨⟨by decide, by decide⟩, by decide⟩

end Args

end ChibiVerif.Props.C06
