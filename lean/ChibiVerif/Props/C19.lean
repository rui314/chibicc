/-
C19 — preprocessed output is a faithful program.

Property theorems, the full statement of the second half (`C19_idempotent_Statement`) and `Inert`.  Helper lemmas:
Lemmas/LexLemmas.lean — one scanning step —, Lemmas/LexSeq.lean — the loop —, Lemmas/LexClosure.lean — the tokens `tokenize`
produces, fuel —, Lemmas/C19Bridge.lean — the second pass.  Notions of the statements that are defined with the lemmas: `Item`,
`render`, `isBlank` (LexSeq).

Objects:
  `lex`          Model/Lex.lean          tokenize.c `tokenize()` (scanning loop; code points; no NUL; well-formed UTF-8)
  `printTokens`  Model/PrintTokens.lean  main.c `print_tokens`
  `needSpace`    Gen/LexGen.lean         main.c `need_space`, regenerated from the source on every run (with `ops[]`,
                                         `is_word_char`, the punctuator table `kw[]`, the pp-number sets, the is_ident ranges)
  `secondPassX`  Model/C19Bridge.lean    the second `-E` pass on a freshly tokenized list: `preprocess2` of Model/PP.lean (the
                                         model C09/C10 tie to preprocess.c) from the table of `init_macros` (Gen/PPGen.lean)
  `passText`     Model/C19Bridge.lean    a whole `chibicc -E` run over the models: text → `lex` → `toPPs` → `preprocess2` → `printTokens`
  `selfLexing a` the spelling `a`, scanned alone, is exactly one token spelled `a` (decidable, Model/Lex.lean).
                 Every token `tokenize` produces has such a spelling (C19_lexed_tokens_self_lexing), and every token of a -E
                 output was produced by some call of `tokenize` (source text, `##` paste, `#` stringize, builtin macros).

Domain restriction (stated in checklib/C19.py ASSUMPTIONS): `tokenize_file` runs three text passes BEFORE `tokenize`
(CR/LF, backslash-newline, \u escapes).  They are the identity on printed text unless a token is the lone `\` punctuator
followed by a newline or by `uXXXX`; such a token never survives into a valid program.  The theorems are about `tokenize`.
-/
import ChibiVerif.Lemmas.LexSeq
import ChibiVerif.Lemmas.LexClosure
import ChibiVerif.Lemmas.C19Bridge

namespace ChibiVerif.Props.C19
open ChibiVerif.Lex ChibiVerif.Gen.Lex

/-- **C19 (need_space is sound).**  For all self-lexing spellings `a`, `b`: if `need_space` says that no separator is
    needed between them, the glued text `a ++ b` lexes to exactly the two tokens `a`, `b` — maximal munch cannot cross
    the boundary (identifier/pp-number continuation, `.`+digit, `e+`/`p-`, string and character prefixes `L u U u8`,
    every entry of the punctuator table, `//` and `/*`). -/
theorem C19_need_space_sound (a b : List Nat) (ha : selfLexing a = true) (hb : selfLexing b = true)
    (h : needSpace a b = false) :
    spellings (lex (a ++ b)) = .ok [a, b] := by
  have hok : okItems [([], a), ([], b)] := ⟨rfl, ha, fun _ => h, rfl, hb, trivial, trivial⟩
  have := lex_items [([], a), ([], b)] [] hok rfl
  simp only [render, List.nil_append, List.append_nil] at this
  rw [this]
  simp [spellings, tokensOf]

/-- non-vacuity: `-` `>` must be separated, `1.` `_` need not (for chibicc's pp-number rule), and the glued text is two tokens -/
example : selfLexing [49, 46] = true ∧ selfLexing [95] = true ∧ needSpace [49, 46] [95] = false ∧
    needSpace [45] [62] = true ∧ needSpace [49, 46] [120] = true ∧ needSpace [49, 101, 43] [53] = true := by decide +kernel

/-- **C19 (separators are harmless).**  A text made of self-lexing spellings, each preceded by a NON-EMPTY run of blanks
    and newlines (the first one may have none), followed by any run of blanks/newlines, lexes to exactly those spellings:
    inserting a space or a newline between two tokens never changes the token sequence. -/
theorem C19_space_harmless (items : List Item) (w : List Nat)
    (h : ∀ it ∈ items, isBlank it.1 = true ∧ selfLexing it.2 = true)
    (hne : ∀ it ∈ items.tail, it.1 ≠ []) (hw : isBlank w = true) :
    spellings (lex (render items ++ w)) = .ok (items.map (·.2)) := by
  have hok : okItems items := by
    induction items with
    | nil => trivial
    | cons it r ih =>
      refine ⟨(h it (List.mem_cons_self ..)).1, (h it (List.mem_cons_self ..)).2, ?_,
        ih (fun x hx => h x (List.mem_cons_of_mem _ hx))
          (fun x hx => hne x (by
            cases r with
            | nil => cases hx
            | cons y r' => exact List.mem_cons_of_mem _ hx))⟩
      cases r with
      | nil => trivial
      | cons it2 r' => exact fun h0 => absurd h0 (hne it2 (List.mem_cons_self ..))
  rw [lex_items items w hok hw]
  simp [spellings, tokensOf_text]

/-- non-vacuity: `-` newline `-1`… : the spellings `-`, `-`, `1` separated by one blank, one newline -/
example : spellings (lex (render [([], [45]), ([32], [45]), ([10], [49])] ++ [10])) = .ok [[45], [45], [49]] :=
  C19_space_harmless _ _ (by decide +kernel) (by decide +kernel) (by decide +kernel)

/-- **C19 (round trip).**  For every token list whose spellings are self-lexing — with ARBITRARY `at_bol` / `has_space`
    flags on every token — the text `print_tokens` writes lexes back to exactly the same spellings, in order. -/
theorem C19_roundtrip (ts : List Tok) (h : ∀ t ∈ ts, selfLexing t.text = true) :
    spellings (lex (printTokens ts)) = .ok (ts.map (·.text)) := by
  rw [lex_printTokens ts h]
  simp [spellings, relexed_text]

/-- non-vacuity: `#define N -1` / `-N` (tokens `-` `-` `1`, nothing has `has_space`), `f(1.)f(x)`, `f(L)"s"`:
    the printed text is `- -1`, `1. x`, `L "s"` and lexes back to the tokens -/
example :
    printTokens [⟨.punct, [45], true, false⟩, ⟨.punct, [45], false, false⟩, ⟨.ppnum, [49], false, false⟩]
      = [45, 32, 45, 49, 10] ∧
    printTokens [⟨.ppnum, [49, 46], true, false⟩, ⟨.ident, [120], false, false⟩] = [49, 46, 32, 120, 10] ∧
    printTokens [⟨.ident, [76], true, false⟩, ⟨.str, [34, 115, 34], false, false⟩] = [76, 32, 34, 115, 34, 10] ∧
    spellings (lex [45, 32, 45, 49, 10]) = .ok [[45], [45], [49]] := by decide +kernel

/-- **C19 (the tokens of `tokenize` satisfy the hypothesis).**  Whatever text is scanned, every token that comes out has a
    self-lexing spelling — so `C19_roundtrip` applies to every token list the preprocessor can hold (all its tokens come
    from calls of `tokenize`). -/
theorem C19_lexed_tokens_self_lexing (s : List Nat) (ts : List Tok) (h : lex s = .ok ts) :
    ∀ t ∈ ts, selfLexing t.text = true :=
  lexLoop_tokens (fun t => selfLexing t.text = true) selfLexing_of_lexStep _ s true false ts h

/-- non-vacuity: a text with every token class -/
example : spellings (lex [120, 43, 43, 49, 46, 101, 43, 32, 76, 34, 115, 34, 39, 99, 39, 10]) =
    .ok [[120], [43, 43], [49, 46, 101, 43], [76, 34, 115, 34], [39, 99, 39]] := by decide +kernel

/-- **C19 (the model's loop bound is sufficient).**  `lex` never reports exhausted fuel: every iteration of the scanning
    loop consumes input, so `length + 1` iterations suffice for every text. -/
theorem C19_lex_fuel_suffices (s : List Nat) : lex s ≠ .error .fuel :=
  lexLoop_no_fuel _ s true false (Nat.lt_succ_self _)

/-- Full statement of the second half of the property for a preprocessor `pp` (a function on token lists):
    preprocessing the -E output again and printing it reproduces the text.
    For the actual second pass (`C19Bridge.secondPass fuel file`) it is FALSE (Findings/C19.lean:
    `C19_finding_second_pass_surviving_name`, for every fuel and display name); it holds on the inert region:
    `C19_idempotent`, `C19_idempotent_exact`, `C19_idempotent_text` below. -/
def C19_idempotent_Statement (pp : List Tok → List Tok) : Prop :=
  ∀ ts : List Tok, (∀ t ∈ ts, selfLexing t.text = true) → (∀ t ∈ ts.head?, t.atBol = true) →
    ∃ ts', lex (printTokens ts) = .ok ts' ∧ printTokens (pp ts') = printTokens ts

/-- no `#` at the beginning of a line and no spelling that `isMacro` holds for: nothing for the preprocessor to do.
    `Inert isInitMacro` unfolds to `C19Bridge.inertInit` (Model/C19Bridge.lean, same body); the lemmas of
    Lemmas/C19Bridge.lean are stated for the latter and are applied to the former by that unfolding. -/
def Inert (isMacro : List Nat → Bool) (ts : List Tok) : Bool :=
  ts.all (fun t => !(t.atBol && t.text == [35]) && !isMacro t.text)

/-- **C19 (second pass, partial).**  Let `pp` be any function on token lists that leaves inert lists alone (no `#` at
    the beginning of a line, no identifier that is a macro at that point).  Then for every inert token list with
    self-lexing spellings whose first token is at the beginning of a line (as the first token of a file always is),
    printing, re-reading, preprocessing and printing again gives the same text, byte for byte.

    (1) That chibicc's `preprocess2` IS such a `pp` is `C19_preprocess2_identity` / `C19_idempotent` below (with
    `isMacro := isInitMacro`; `C19Bridge.secondPass_inert` is `hpp` for lists of Unicode scalar values).  (2) That the token
    list -E prints is inert is NOT true of every input: an expansion result that starts a line with `#` (`#define H #` /
    `H define X 1`) or an identifier that is still a macro name when re-read (blue paint is lost in the text:
    `#undef linux` … `linux`) is outside, and there `C19_idempotent_Statement` is false (Findings/C19.lean). -/
theorem C19_idempotent_partial (pp : List Tok → List Tok) (isMacro : List Nat → Bool)
    (hpp : ∀ us, Inert isMacro us = true → pp us = us)
    (ts : List Tok) (h : ∀ t ∈ ts, selfLexing t.text = true) (hfirst : ∀ t ∈ ts.head?, t.atBol = true)
    (hin : Inert isMacro ts = true) :
    ∃ ts', lex (printTokens ts) = .ok ts' ∧ printTokens (pp ts') = printTokens ts := by
  refine ⟨relexed ts, lex_printTokens ts h, ?_⟩
  have hn := ChibiVerif.C19Bridge.normFirst_of_head ts hfirst
  have hinert : Inert isMacro (relexed ts) = true := by
    have hb : (relexed ts).map (·.atBol) = ts.map (·.atBol) := by rw [ChibiVerif.C19Bridge.relexed_atBol, hn]
    unfold Inert at hin ⊢
    rw [all_congr_of_maps (fun x b => !(b && x == [35]) && !isMacro x) (fun _ => rfl) _ _ (relexed_text ts) hb]
    exact hin
  rw [hpp _ hinert, ChibiVerif.C19Bridge.printTokens_relexed, hn]

/-- non-vacuity of the hypotheses (identity as `pp`, no macros): `a` newline `- -1` -/
example : ∃ ts', lex (printTokens [⟨.ident, [97], true, false⟩, ⟨.punct, [45], true, true⟩,
      ⟨.punct, [45], false, false⟩, ⟨.ppnum, [49], false, false⟩]) = .ok ts' ∧
    printTokens (id ts') = [97, 10, 45, 32, 45, 49, 10] :=
  C19_idempotent_partial id (fun _ => false) (fun _ _ => rfl) _ (by decide +kernel) (by decide +kernel) (by decide +kernel)

open ChibiVerif.C19Bridge in
/-- **C19 (second pass, the actual preprocessor).**  Let `ts` be what the first `-E` pass holds when it prints — ANY flags,
    self-lexing spellings — and let it be INERT with respect to the table the second pass starts from: no `#` at the beginning
    of a line and no spelling that is the name of a macro `init_macros` defines (predefined object-like macros and the
    built-ins `__FILE__ __LINE__ __COUNTER__ __TIMESTAMP__ __BASE_FILE__`; the list is regenerated from preprocess.c).  The
    first token counts as at the beginning of a line (`normFirst`: it is, for the `tokenize` of the second pass).  Then
    * `tokenize` reads a list `ts'` back from the printed text, with the same spellings;
    * chibicc's `preprocess2` — the model of Model/PP.lean (the one C09/C10 tie to preprocess.c), started from the table of
      `init_macros`, for every display name and every fuel ≥ the number of tokens — returns EXACTLY that list (every field of
      every token: kind, spelling, `at_bol`, `has_space`, empty hide set, no origin, line);
    * printing it gives the first pass's text byte for byte, except that a blank before the very first token is not
      printed again (the first pass's first token has `has_space` without `at_bol` exactly when the file starts with a macro
      that expands to nothing: `#define E` / `E x` prints ` x`, then `x`; confirmed on the binary).

    The hypothesis is the weakest of its shape: Findings/C19.lean shows, on the models and confirmed on the binary, that a
    `#` at line start (`#define H #` / `H define X 1`) and a surviving initial-table name (`#undef linux` / `linux`,
    `#define linux linux`, `#define unix() 0` / `unix`) each make the second pass change the token sequence. -/
theorem C19_idempotent (ts : List Tok) (h : ∀ t ∈ ts, selfLexing t.text = true)
    (hin : Inert isInitMacro (normFirst ts) = true)
    (fuel : Nat) (hfuel : ts.length ≤ fuel) (file : String) :
    ∃ ts', lex (printTokens ts) = .ok ts' ∧ ts'.map (·.text) = ts.map (·.text) ∧
      secondPassX fuel file ts' = .ok (toPPs ts') ∧
      printTokens ts' = printTokens (normFirst ts) ∧
      (printTokens ts = printTokens (normFirst ts) ∨ printTokens ts = 32 :: printTokens (normFirst ts)) := by
  have ht := relexed_text ts
  refine ⟨relexed ts, lex_printTokens ts h, ht, ?_, printTokens_relexed ts, printTokens_normFirst ts⟩
  exact secondPassX_inert fuel file (relexed ts) (by rw [length_eq_of_map_text _ _ ht]; exact hfuel)
    ((inertInit_relexed ts).trans hin)

open ChibiVerif.C19Bridge in
/-- non-vacuity: `#define E` / `E a` / `- -1 "linux" __LINE # b`: the first token `a` has `has_space` and no `at_bol`; a string
    that spells a macro name, an identifier that is a prefix of one and a `#` inside a line are inert.  The first pass prints
    ` a` newline …, the second pass the same without the first blank. -/
example : ∃ ts', lex (printTokens [⟨.ident, [97], false, true⟩, ⟨.punct, [45], true, true⟩, ⟨.punct, [45], false, false⟩,
      ⟨.ppnum, [49], false, false⟩, ⟨.str, [34, 108, 105, 110, 117, 120, 34], false, true⟩,
      ⟨.ident, [95, 95, 76, 73, 78, 69], false, true⟩, ⟨.punct, [35], false, true⟩, ⟨.ident, [98], false, true⟩]) = .ok ts' ∧
    ts'.map (·.text) = [[97], [45], [45], [49], [34, 108, 105, 110, 117, 120, 34], [95, 95, 76, 73, 78, 69], [35], [98]] ∧
    secondPassX 8 "b.c" ts' = .ok (toPPs ts') ∧ printTokens ts' = [97, 10, 45, 32, 45, 49, 32, 34, 108, 105, 110, 117, 120, 34, 32, 95, 95, 76, 73, 78, 69, 32, 35, 32, 98, 10] :=
  let ⟨ts', h1, h2, h3, h4, _⟩ := C19_idempotent _ (by decide +kernel)
    ((inertInit_eq _ (by decide +kernel)).trans (by decide +kernel)) 8 (by decide +kernel) "b.c"
  ⟨ts', h1, h2, h3, h4⟩

open ChibiVerif.C19Bridge in
/-- **C19 (second pass, byte for byte).**  When moreover the first token is at the beginning of a line (as it is unless the
    file starts with a macro that expands to nothing), printing the list the second pass returns gives the same text. -/
theorem C19_idempotent_exact (ts : List Tok) (h : ∀ t ∈ ts, selfLexing t.text = true)
    (hfirst : ∀ t ∈ ts.head?, t.atBol = true) (hin : Inert isInitMacro ts = true)
    (fuel : Nat) (hfuel : ts.length ≤ fuel) (file : String) :
    ∃ ts', lex (printTokens ts) = .ok ts' ∧ secondPassX fuel file ts' = .ok (toPPs ts') ∧
      printTokens ts' = printTokens ts := by
  have hn := normFirst_of_head ts hfirst
  obtain ⟨ts', hl, _, hp, hpr, _⟩ := C19_idempotent ts h (by rw [hn]; exact hin) fuel hfuel file
  exact ⟨ts', hl, hp, by rw [hpr, hn]⟩

open ChibiVerif.C19Bridge in
/-- non-vacuity: `a` newline `- -1 "linux" __LINE` -/
example : ∃ ts', lex (printTokens [⟨.ident, [97], true, false⟩, ⟨.punct, [45], true, true⟩, ⟨.punct, [45], false, false⟩,
      ⟨.ppnum, [49], false, false⟩, ⟨.str, [34, 108, 105, 110, 117, 120, 34], false, true⟩,
      ⟨.ident, [95, 95, 76, 73, 78, 69], false, true⟩]) = .ok ts' ∧
    secondPassX 6 "b.c" ts' = .ok (toPPs ts') ∧ printTokens ts' = [97, 10, 45, 32, 45, 49, 32, 34, 108, 105, 110, 117, 120, 34, 32, 95, 95, 76, 73, 78, 69, 10] :=
  C19_idempotent_exact _ (by decide +kernel) (by decide +kernel) ((inertInit_eq _ (by decide +kernel)).trans (by decide +kernel)) 6 (by decide +kernel) "b.c"

open ChibiVerif.C19Bridge in
/-- **C19 (second pass, as text).**  `C19_idempotent_Statement` for the actual second pass (`secondPass fuel file`:
    re-read, `preprocess2` from the table of `init_macros`, back to printer tokens), restricted to the region where it is
    true: inert token lists (see `C19_idempotent`) whose first token is at the beginning of a line and whose code points
    are Unicode scalar values (what `decode_utf8` yields on well-formed UTF-8; needed only to carry spellings through
    `String`).  Printing, re-reading, preprocessing again and printing again reproduces the text.  Outside the region the
    statement is false: Findings/C19.lean. -/
theorem C19_idempotent_text (fuel : Nat) (file : String) (ts : List Tok) (h : ∀ t ∈ ts, selfLexing t.text = true)
    (hfirst : ∀ t ∈ ts.head?, t.atBol = true)
    (hin : Inert isInitMacro ts = true) (hv : validText ts = true) (hfuel : ts.length ≤ fuel) :
    ∃ ts', lex (printTokens ts) = .ok ts' ∧ printTokens (secondPass fuel file ts') = printTokens ts := by
  have hn := normFirst_of_head ts hfirst
  have ht := relexed_text ts
  refine ⟨relexed ts, lex_printTokens ts h, ?_⟩
  rw [secondPass_inert fuel file (relexed ts) (by rw [length_eq_of_map_text _ _ ht]; exact hfuel)
    ((inertInit_relexed ts).trans (by rw [hn]; exact hin)) (by rw [validText_congr _ _ ht]; exact hv),
    printTokens_relexed, hn]

open ChibiVerif.C19Bridge in
/-- non-vacuity: `x = é - -1;` — the hypotheses hold -/
example : ∃ ts', lex (printTokens [⟨.ident, [120], true, false⟩, ⟨.punct, [61], false, true⟩, ⟨.ident, [233], false, true⟩,
      ⟨.punct, [45], false, true⟩, ⟨.punct, [45], false, false⟩, ⟨.ppnum, [49], false, false⟩, ⟨.punct, [59], false, false⟩])
      = .ok ts' ∧ printTokens (secondPass 7 "b.c" ts') = [120, 32, 61, 32, 233, 32, 45, 32, 45, 49, 59, 10] :=
  C19_idempotent_text 7 "b.c" _ (by decide +kernel) (by decide +kernel) ((inertInit_eq _ (by decide +kernel)).trans (by decide +kernel)) (by decide +kernel) (by decide +kernel)

open ChibiVerif.C19Bridge in
/-- **C19 (second run, text to text).**  `passText` is a whole `chibicc -E` run over the models: `tokenize`, `preprocess2`
    from the table of `init_macros`, `print_tokens`.  Applied to the text the first run printed for an inert token list (any
    flags; self-lexing spellings of Unicode scalar values) it prints that text again — exactly, except that a blank before
    the very first token is gone — with any display name and any fuel ≥ the number of tokens. -/
theorem C19_second_run (ts : List Tok) (h : ∀ t ∈ ts, selfLexing t.text = true)
    (hin : Inert isInitMacro (normFirst ts) = true) (hv : validText ts = true)
    (fuel : Nat) (hfuel : ts.length ≤ fuel) (file : String) :
    passText fuel file (printTokens ts) = .ok (printTokens (normFirst ts)) := by
  unfold passText
  rw [passTokens_printTokens ts h ((inertInit_relexed ts).trans hin) hv fuel hfuel file]
  simp only [printTokens_relexed]

open ChibiVerif.C19Bridge in
/-- non-vacuity: ` a` newline `b = "é" - -1;` run through the model of `chibicc -E` by the kernel: the same text without the
    first blank -/
example : passText 9 "b.c" (printTokens [⟨.ident, [97], false, true⟩, ⟨.ident, [98], true, false⟩, ⟨.punct, [61], false, true⟩,
      ⟨.str, [34, 233, 34], false, true⟩, ⟨.punct, [45], false, true⟩, ⟨.punct, [45], false, false⟩, ⟨.ppnum, [49], false, false⟩,
      ⟨.punct, [59], false, false⟩]) = .ok [97, 10, 98, 32, 61, 32, 34, 233, 34, 32, 45, 32, 45, 49, 59, 10] :=
  C19_second_run _ (by decide +kernel) ((inertInit_eq _ (by decide +kernel)).trans (by decide +kernel)) (by decide +kernel) 9 (by decide +kernel) "b.c"

/-- **C19 (`preprocess2` does nothing where there is nothing to do).**  In ANY state of the macro table (so also after
    `-D`/`-U`), for any lexer handed to `paste`, with fuel ≥ the length: a token list in which no token is a directive `#`
    (`is_hash`: at_bol, no origin, spelled `#`) and `find_macro` finds no token is returned unchanged — every field of every
    token — and the state (table, `__COUNTER__`) is unchanged.  This discharges the assumption `hpp` of
    `C19_idempotent_partial` against the preprocessor model. -/
theorem C19_preprocess2_identity (lx : String → ChibiVerif.PP.LexOne) (st : ChibiVerif.PP.St) (us : List ChibiVerif.PP.Tok)
    (fuel : Nat) (hfuel : us.length ≤ fuel)
    (h : ∀ u ∈ us, ChibiVerif.PP.isHash u = false ∧ ChibiVerif.PP.findMacro st.defs u = none) :
    ChibiVerif.PP.preprocess2 lx fuel st us = .ok (us, st) :=
  ChibiVerif.C19Bridge.preprocess2_inert lx st us fuel hfuel h

/-- non-vacuity: `x # 1` in the table of `init_macros` plus a user macro `y` -/
example :
    ChibiVerif.PP.preprocess2 ChibiVerif.PP.Lex.lexOne 3
      { defs := ("y", .obj [{ kind := .num, text := "2" }]) :: ChibiVerif.PP.initDefs }
      [{ kind := .ident, text := "x", atBol := true }, { kind := .punct, text := "#", hasSpace := true },
       { kind := .num, text := "1", hasSpace := true }] =
    .ok ([{ kind := .ident, text := "x", atBol := true }, { kind := .punct, text := "#", hasSpace := true },
       { kind := .num, text := "1", hasSpace := true }],
      { defs := ("y", .obj [{ kind := .num, text := "2" }]) :: ChibiVerif.PP.initDefs }) :=
  C19_preprocess2_identity _ _ _ 3 (by decide +kernel) (by decide +kernel)

/-- … and the hypothesis matters: with `y` instead of `x` the list changes -/
example :
    (ChibiVerif.PP.preprocess2 ChibiVerif.PP.Lex.lexOne 3
      { defs := ("y", .obj [{ kind := .num, text := "2" }]) :: ChibiVerif.PP.initDefs }
      [{ kind := .ident, text := "y", atBol := true }]).map (·.1.map (·.text)) = .ok ["2"] := by decide +kernel

/-- **C19 (the first pass never emits a directive).**  No token in the output of `preprocess2` — any table, any input,
    any fuel — is a `#` with `at_bol` and without origin: a `#` that starts a line of the `-E` text was produced by a macro
    expansion (6.10.3.4p3: not a directive for the first pass; the text does not carry that, Findings/C19.lean). -/
theorem C19_output_hash_has_origin (lx : String → ChibiVerif.PP.LexOne) (n : Nat) (st st' : ChibiVerif.PP.St)
    (src out : List ChibiVerif.PP.Tok) (h : ChibiVerif.PP.preprocess2 lx n st src = .ok (out, st')) :
    ∀ u ∈ out, u.atBol = true → u.text = "#" → u.origin.isSome = true := by
  intro u hu hb ht
  have := ChibiVerif.C19Bridge.preprocess2_out_not_hash lx n st src out st' h u hu
  unfold ChibiVerif.PP.isHash at this
  cases ho : u.origin with
  | some _ => rfl
  | none => simp [hb, ht, ho] at this

/-- non-vacuity: `#define H #` / `H` at the beginning of a line: the output is one `#` with `at_bol` — and an origin -/
example :
    (ChibiVerif.PP.expand 5 [("H", .obj [{ kind := .punct, text := "#", hasSpace := true }])]
      [{ kind := .ident, text := "H", atBol := true }]).map (·.map fun u => (u.text, u.atBol, u.origin.isSome))
      = .ok [("#", true, true)] := by decide +kernel

end ChibiVerif.Props.C19
