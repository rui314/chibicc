/-
C13 — the initializer parser terminates on every input (DESIGN.md section 6, C13).  Property theorems only; the induction is
Lemmas/C13InitFuel.lean (`needFuel`, `wt`, `NF` are defined there); `tyOK`, `toksOK`, `shape`: Lemmas/C13InitBase.lean; the
monotonicity of the answer in the budget is C05's (Lemmas/InitFuelLemmas.lean).

The model (Model/Init.lean, owner C05) spends one unit of its recursion budget per C call or loop iteration of the thirteen
mutually recursive functions `designation` … `initializer2`; "out of budget" (`Fail.fuel`) is the model's outcome for a C
recursion that does not end.  The theorems below show that this outcome does not exist: `needFuel ty toks = 2·|toks| + wt ty`
units are enough for EVERY type description and EVERY token list (no `tyOK`/`toksOK` hypothesis), `wt ty ≤ 4·nodes ty`, the
standard budget `stdFuel` of `parseInit` is larger, and from `needFuel` on the answer does not depend on the budget.
The bound is attained up to a constant: `int x[][][]…[] = 1` with d unknown bounds needs 4·d + 1 units
(initializer2 → array_initializer2 → count_array_init_elements → its loop, per level, none of which consumes a token).
-/
import ChibiVerif.Lemmas.C13InitFuel
import ChibiVerif.Lemmas.C13Init
import ChibiVerif.Lemmas.InitFuelLemmas

namespace ChibiVerif.Props.C13

open ChibiVerif.Init ChibiVerif.C13Init ChibiVerif.C13InitFuel

/-- **The initializer parser never runs out of its recursion budget**: for EVERY type
    description and EVERY token list — arrays with a million elements and one token, range designators, deep brace nesting,
    empty structs and unions, arrays of them, unnamed bit-fields, flexible and zero-length arrays, arrays of unknown bound of
    arrays of unknown bound, string literals, token lists that end early — `parseInit` answers with a tree, a diagnostic or an
    abort site, never with `Fail.fuel`: every C call and loop iteration of `designation` … `initializer2` consumes a token,
    descends one level of the type, or steps over one member. -/
theorem C13_init_no_hang (ty : Ty) (toks : List ITok) : parseInit ty toks ≠ .error .fuel :=
  (initializer2_enough ty toks (newInit ty true) (stdFuel ty toks) (needFuel_le_stdFuel ty toks)).ne_fuel

/-- **An explicit bound.**  With at least `needFuel ty toks = 2·|toks| + wt ty` units, started on ANY tree, `initializer2`
    does not run out of budget, and what it leaves unread is a list no longer than its input. -/
theorem C13_init_fuel_bound (ty : Ty) (toks : List ITok) (init : Init) (fuel : Nat) (h : needFuel ty toks ≤ fuel) :
    initializer2 fuel ty toks init ≠ .error .fuel ∧
    (∀ i rest, initializer2 fuel ty toks init = .ok (i, rest) → rest.length ≤ toks.length) := by
  have hn := initializer2_enough ty toks init fuel h
  refine ⟨hn.ne_fuel, ?_⟩
  intro i rest he
  rw [he] at hn
  exact hn

-- non-vacuity: `int x[][] = {{1}}` needs no more than 2·5 + 9 units; with 4 it does run out
example : needFuel (.inc (.inc (.scalar 4 .int))) [.lbrace, .lbrace, .expr (Expr.num 1), .rbrace, .rbrace] = 19 ∧
    (match initializer2 4 (.inc (.inc (.scalar 4 .int))) [.lbrace, .lbrace, .expr (Expr.num 1), .rbrace, .rbrace] .flex with
      | .error .fuel => true
      | _ => false) = true := by
  decide

/-- the weight is linear in the size of the type: four calls per node -/
theorem C13_init_fuel_bound_linear (ty : Ty) (toks : List ITok) :
    needFuel ty toks ≤ 2 * toks.length + 4 * ty.nodes ∧ needFuel ty toks ≤ stdFuel ty toks := by
  refine ⟨?_, needFuel_le_stdFuel ty toks⟩
  have := wt_le ty
  unfold needFuel
  omega

/-- **From `needFuel` on the budget is immaterial**: every larger budget gives the answer of `parseInit` (so the model's
    answer is the answer of the C parser, whose recursion is not bounded by anything but its input). -/
theorem C13_init_answer_stable (ty : Ty) (toks : List ITok) (fuel : Nat) (h : needFuel ty toks ≤ fuel) :
    initializer2 fuel ty toks (newInit ty true) = parseInit ty toks := by
  have h0 := (initializer2_enough ty toks (newInit ty true) (needFuel ty toks) (Nat.le_refl _)).ne_fuel
  have e1 : initializer2 (needFuel ty toks) ty toks (newInit ty true) = initializer2 fuel ty toks (newInit ty true) := by
    rcases initializer2_fuel_mono ty toks (newInit ty true) _ _ h with h1 | h1
    · exact absurd h1 h0
    · exact h1
  have e2 : initializer2 (needFuel ty toks) ty toks (newInit ty true) = parseInit ty toks := by
    rcases initializer2_fuel_mono ty toks (newInit ty true) _ _ (needFuel_le_stdFuel ty toks) with h1 | h1
    · exact absurd h1 h0
    · exact h1
  rw [← e1, e2]

example : needFuel (.array (.scalar 4 .int) 1000000) [.expr (Expr.num 1)] ≤ 10 := by decide

/-- **Corollary for C05: on the inputs the front end produces `parseInit` is total.**  For every type as `struct_members`
    builds it (`tyOK`) and every token list as `tokenize` makes it (`toksOK`) the answer is a tree of the shape of the type
    together with a rest no longer than the input, or a located diagnostic (`error_tok`) — never an abort site
    (`C13_init_nocrash_partial`) and never the exhausted budget. -/
theorem C13_parseInit_total (ty : Ty) (toks : List ITok) (hty : tyOK ty = true) (htoks : toksOK toks = true) :
    (∃ init rest, parseInit ty toks = .ok (init, rest) ∧ shape ty init = true ∧ rest.length ≤ toks.length) ∨
    (∃ msg, parseInit ty toks = .error (.diag msg)) := by
  have hs := (nc_all (stdFuel ty toks)).initializer2 ty toks (newInit ty true) hty (newInit_shape ty true hty) htoks
  have hn := initializer2_enough ty toks (newInit ty true) (stdFuel ty toks) (needFuel_le_stdFuel ty toks)
  unfold parseInit
  generalize initializer2 (stdFuel ty toks) ty toks (newInit ty true) = x at hs hn
  cases x with
  | ok a => exact Or.inl ⟨a.1, a.2, rfl, hs.1, hn⟩
  | error e =>
    cases e with
    | diag m => exact Or.inr ⟨m, rfl⟩
    | crash w => exact absurd hs (by intro h; exact h)
    | fuel => exact absurd hn (by intro h; exact h)

-- non-vacuity: struct { int a; int :3; union { int b; float c; }; char d[]; } with `{ .c = 1, [5] = 2, {3}, "a" }`
example : tyOK (.struct [(⟨some "a", 0, none⟩, .scalar 4 .int), (⟨none, 4, some (0, 3)⟩, .scalar 4 .int),
      (⟨none, 8, none⟩, .union [(⟨some "b", 0, none⟩, .scalar 4 .int), (⟨some "c", 0, none⟩, .scalar 4 .flt)] 4 false),
      (⟨some "d", 12, none⟩, .array (.scalar 1 .int) 0)] 12 true) = true ∧
    toksOK [.lbrace, .dot "c", .eq, .expr (Expr.num 1), .comma, .idx 5, .eq, .expr (Expr.num 2), .comma, .lbrace,
      .expr (Expr.num 3), .rbrace, .comma, .str 0 [97, 0] 1, .rbrace] = true := by decide

end ChibiVerif.Props.C13
