/-
C05 — initializers produce exactly the object value of C11 6.7.9.

The property theorems with their examples, the two full statements `C05_parse_spec_Statement` / `C05_count_Statement`, and the types,
alphabets and test predicates of the exhaustive scopes (`scope`, `allLists`, `agreeOn`, `sameBound`, `scopeS` ..); helper lemmas live in
Lemmas/Init*.lean.  The model is Model/Init.lean (a one-for-one transcription
of the initializer machinery of parse.c and of emit_data), the specification is Spec/InitSpec.lean.

Vocabulary of the statements (`wf`, `Ty.sz`: Lemmas/InitTreeLemmas.lean; `fits`, `leaves`, `Leaf.bitLo` / `bitHi`: Lemmas/InitLeafLemmas.lean;
`RelocsFrom`: Lemmas/InitEmitLemmas.lean; `withEnd`: Lemmas/InitCursorLemmas.lean; `isFlexRoot`: Lemmas/InitPathLemmas.lean)
* `wf ty`          — the (resolved) type carries a consistent layout: scalar sizes are those of the ABI, members lie inside their
                     aggregate, the bits of distinct struct members are disjoint, a bit-field has an integer type and lies inside
                     its storage unit, a member of 8 bytes or more shares no byte with a bit-field's storage unit, union members lie
                     inside the union.  Every non-packed type struct_decl/union_decl lay out satisfies it, but for that
                     clause on members of 8 bytes or more (`struct { int a[3]; long b:3; }` does not).
* `fits init ty`   — the initializer tree has the shape of the type; a leaf initialised by an address constant is an 8-byte
                     integer or pointer; bit-fields are initialised by integer constants; no struct- or union-valued
                     expression (those exist for automatic objects only); a union without chosen member carries no expression.
* `leaves init ty 0` — the initialised scalar leaves with their storage locations.
* `InitSpec.tyOk ty` — the declared types the general parser = 6.7.9 theorem covers: an array of unknown bound only as the
                     declared type itself, a flexible array member only as the last member of the declared struct itself (both
                     as in C), every union has a named member (C11 6.7.2.1p8).
* `r.fl.clean`     — the run of the specification on the token list lies in none of the four regions `BraceOverride`
                     (known finding C05-brace-override-keeps-old), `AggExprOverride` (an initializer for a subobject inside a
                     struct/union that an expression of struct/union type initialised - a genuine defect, see Findings/C05.lean),
                     `WideRange` (a GNU range designator `[a ... b]`, a < b, that is followed by a further designator or whose
                     initializer has elided braces - no C11 semantics, chibicc and gcc differ by design; ranges whose
                     initializer is brace-enclosed, a string literal or one scalar expression are covered),
                     `FlexReinit` (the flexible array member of the declared object - GNU: static initialization of a flexible
                     array member, no C11 semantics - is initialised again after an earlier initializer of the list initialised
                     it: a designator names it, or the cursor comes back to it from the member before it.  gcc lets the array
                     grow with every initializer, chibicc fixes its length at the first one; Findings/C05.lean).  The region is
                     empty for every type without flexible array member (`C05_parse_spec_three_regions`).
                     A union's brace-enclosed list may hold several initializers (`union_rest` of parse.c, model
                     `unionRest`): they are covered as long as they stay with the member initialised so far (designators into it,
                     excess elements); an initializer that makes ANOTHER member the initialised one is noted by the specification
                     as `over` - there parser and specification agree when the switch happens in the union's own list (tested
                     tie, exhaustive scope `Findings.C05.C05_union_scope`) and differ when it happens through a designator of
                     an enclosing list (known finding C05-brace-override-keeps-old).
-/
import ChibiVerif.Model.Init
import ChibiVerif.Spec.InitSpec
import ChibiVerif.Lemmas.InitAgreeLemmas
import ChibiVerif.Lemmas.InitEmitLemmas
import ChibiVerif.Lemmas.InitFuelLemmas
import ChibiVerif.Lemmas.InitFlexLemmas
import ChibiVerif.Lemmas.InitCursorLemmas
import ChibiVerif.Lemmas.InitScopeLemmas

namespace ChibiVerif.Props.C05
open ChibiVerif.Init

/-- **C05 (static = automatic).**  For every laid-out type and every initializer tree of its shape, the object `write_gvar_data`
    builds in `.data` (bytes plus relocations, as the loader resolves them) and the object `create_lvar_init`'s assignment chain
    builds on the zeroed stack slot (with the stores and the bit-field read-modify-write codegen emits) are the same cells; both
    back ends succeed. -/
theorem C05_backends_agree (ty : Ty) (init : Init) (hw : wf ty = true) (hf : fits init ty = true) :
    ∃ cells, staticObject init ty = .ok cells ∧ autoObject init ty = .ok cells := by
  obtain ⟨im', hs, ha, _⟩ := both_from_leaves ty init hw hf
  exact ⟨im'.cells, by simp only [staticObject, hs]; rfl, ha⟩

/-- non-vacuity: `struct { char c; int b:3; char *p; long a[2]; } = { 'x', 5, &g+8, {[1] = -1} }` (nested, with a bit-field
    sharing its unit with `c`, a relocation, a partly initialised array) -/
def exTy : Ty := .struct
  [(⟨some "c", 0, none⟩, .scalar 1 .int), (⟨some "b", 0, some (8, 3)⟩, .scalar 4 .int),
   (⟨some "p", 8, none⟩, .scalar 8 .ptr), (⟨some "a", 16, none⟩, .array (.scalar 8 .int) 2)] 32 false
def exInit : Init := .struct none
  [.leaf (some (Expr.num 120)), .leaf (some (Expr.num 5)),
   .leaf (some { ival := 8, nz := true, f32 := 0, f64 := 0, f80 := 0, label := some "g" }),
   .arr [.leaf none, .leaf (some (Expr.num (-1)))]]
example : wf exTy = true ∧ fits exInit exTy = true := by decide +kernel
example : (autoObject exInit exTy).toOption = (staticObject exInit exTy).toOption ∧ (staticObject exInit exTy).toOption ≠ none := by decide +kernel

/-- **C05 (everything unmentioned is zero).**  A bit of the object that no initialised leaf covers is 0 in both storage classes
    (so every unmentioned member, and all padding, is zero). -/
theorem C05_zero (ty : Ty) (init : Init) (hw : wf ty = true) (hf : fits init ty = true) (p : Nat) (hp : p < 8 * ty.sz)
    (hn : ∀ l ∈ leaves init ty 0, p < l.bitLo ∨ l.bitHi ≤ p) :
    ∃ cells b, staticObject init ty = .ok cells ∧ autoObject init ty = .ok cells ∧
      cells[p / 8]? = some (Cell.byte b) ∧ (b % 256).testBit (p % 8) = false := by
  obtain ⟨im', hs, ha, hsz, hbits, hnew⟩ := both_from_leaves ty init hw hf
  refine ⟨im'.cells, im'.bytes.getD (p / 8) 0, by simp only [staticObject, hs]; rfl, ha, ?_, hbits p hn⟩
  apply hsz.cells_getElem? (by omega)
  intro r hr
  obtain ⟨l, hl, hrl, h1, h2⟩ := hnew r hr
  have := hn l hl
  cases l with
  | val off sz kind e =>
    simp only [Leaf.bitLo, Leaf.bitHi, Leaf.bLo, Leaf.bHi, Leaf.off] at this h1 h2
    omega
  | bf => simp [Leaf.isReloc] at hrl

example : ∀ l ∈ leaves exInit exTy 0, 130 < l.bitLo ∨ l.bitHi ≤ 130 := by decide   -- a[0] (bits 128..191) is not mentioned

/-- **C05 (emission).**  For an image whose relocations are ascending, disjoint and inside the object (what write_gvar_data
    produces), the directive list `emit_data` prints assembles to exactly the cells of the image: one `.quad label±addend` per
    relocation, one `.byte` for every other byte; the total length is `sizeof`. -/
theorem C05_emit (im : Image) (size : Nat) (hb : im.bytes.length = size) (hr : RelocsFrom size 0 im.relocs) :
    assemble (emitData im size) = im.cells ∧ (assemble (emitData im size)).length = size := by
  have h : assemble (emitData im size) = im.cells :=
    emitLoop_drop im.bytes size hb size 0 im.relocs (Nat.zero_le _) (by omega) hr
  exact ⟨h, h ▸ overlay_len _ _ (by simpa using hb) fun r hm => (hr.inside r hm).2⟩

example : RelocsFrom 32 0 ((gvarInit exInit exTy).toOption.get!).relocs := by decide +kernel

/-- **C05 (fuel).**  The recursion fuel of the parser transcription never changes an answer: whatever `initializer2` returns with
    some fuel (other than "out of fuel") it returns with any larger fuel. -/
theorem C05_fuel_mono (ty : Ty) (toks : List ITok) (init : Init) (f g : Nat) (h : f ≤ g) (r : Except Fail (Init × List ITok))
    (hr : initializer2 f ty toks init = r) (hne : r ≠ .error .fuel) : initializer2 g ty toks init = r := by
  rcases initializer2_fuel_mono ty toks init f g h with h1 | h1
  · rw [hr] at h1; exact absurd h1 hne
  · rw [← h1, hr]

example : (parseInit exTy [.lbrace, .expr (Expr.num 1), .comma, .dot "a", .idx 1, .eq, .expr (Expr.num 7), .rbrace]).toOption.isSome = true := by
  decide +kernel

/-! ### parser = specification -/

/-- **C05 (parser = 6.7.9), full statement.**  Wherever both the parser and the specification accept an initializer they build the
    same object value and stop at the same token.  Refuted inside the region `InitSpec.BraceOverride` by
    `Findings.C05.C05_finding_brace_override` (known finding C05-brace-override-keeps-old) and inside `InitSpec.AggExprOverride` by
    `Findings.C05.C05_finding_agg_expr_override`; inside `InitSpec.WideRange` (range designator followed by a further
    designator, or with elided braces) parser and specification follow different (GNU) conventions
    (`Findings.C05.C05_note_wide_range`); inside `InitSpec.FlexReinit` (a second initializer for the flexible array member)
    chibicc keeps the length of the first initializer, the specification (gcc) lets the array grow
    (`Findings.C05.C05_note_flex_reinit`).  Outside the four regions it is PROVED below for every declared type
    (`C05_parse_spec_partial`: scalars, arrays, arrays of unknown bound, structs - the declared struct may end in a flexible array
    member -, unions, whose brace-enclosed list may hold several initializers: `union_rest` of parse.c); what is missing
    for the full statement outside the regions is exactly type terms that no C declaration produces - an array of unknown bound or
    a struct with flexible array member as a member or element, a union with a flexible array member (gcc 12: "flexible array
    member in union"), a union without named member.  (Inside `BraceOverride` parser and specification DO agree when the region is
    entered by a member switch in the union's own list - `union U u = {.a = 1, .b = 2}` - as the exhaustive scope
    `Findings.C05.C05_union_scope` and the tested tie show; that part of the region is not proved.) -/
def C05_parse_spec_Statement : Prop :=
  ∀ (ty : Ty) (toks : List ITok) (p : Init × List ITok) (r : InitSpec.Result),
    parseInit ty toks = .ok p → InitSpec.initFull ty toks = .ok r → Init.beq p.1 r.obj = true ∧ p.2 = r.rest

/-- **C05 (parser = 6.7.9), proved by induction for ALL covered types and ALL token lists.**  For every declared type `ty`
    (`tyOk`: scalars, arrays, arrays of unknown bound, structs - the declared struct itself may end in a FLEXIBLE ARRAY MEMBER -,
    unions, bit-fields, unnamed bit-fields, anonymous members, to any depth) and every token list: if the transcription of
    parse.c's twelve mutually recursive functions (`parseInit`, with its standard fuel) accepts it and the cursor-machine
    specification of 6.7.9 (`initFull`) accepts it outside the four regions, then the two build the same `Initializer` tree - the
    same object value, the same array bound, the same length of the flexible member - and stop at the same token.  Proof:
    simulation of every parser function by steps of the specification's list (`Lemmas/InitSim*.lean`, induction on the recursion
    fuel), the counting dry run and the real run consume the same tokens (`Lemmas/InitEraseLemmas.lean`), lockstep of count,
    parser loop and specification for arrays of unknown bound (`Lemmas/InitIncLemmas.lean`) and for the flexible member, whose
    length `new_initializer(is_flexible)` leaves open until the first initializer reaches it: a brace-enclosed list
    (`array_initializer1`: the lockstep of arrays of unknown bound again), a string literal, or elided braces
    (`array_initializer2` counts over the rest of the struct's list: `flexLoop`), with `struct_initializer1/2` around it
    (`Lemmas/InitFlexLemmas.lean`). -/
theorem C05_parse_spec_partial (ty : Ty) (toks : List ITok) (p : Init × List ITok) (r : InitSpec.Result)
    (hty : InitSpec.tyOk ty = true) (hp : parseInit ty toks = .ok p) (hs : InitSpec.initFull ty toks = .ok r)
    (hr : r.fl.clean = true) : p.1 = r.obj ∧ p.2 = r.rest :=
  InitSpec.parse_spec_tyOk hty hp hs hr

/-- for a declared type WITHOUT flexible array member the region `FlexReinit` is empty, so the three regions `BraceOverride`,
    `AggExprOverride`, `WideRange` suffice -/
theorem C05_parse_spec_three_regions (ty : Ty) (toks : List ITok) (p : Init × List ITok) (r : InitSpec.Result)
    (hty : InitSpec.tyOk ty = true) (hnf : InitSpec.isFlexRoot ty = false) (hp : parseInit ty toks = .ok p)
    (hs : InitSpec.initFull ty toks = .ok r) (hr : r.fl.over = false ∧ r.fl.xover = false ∧ r.fl.wide = false) :
    p.1 = r.obj ∧ p.2 = r.rest := by
  refine C05_parse_spec_partial ty toks p r hty hp hs ?_
  have h4 := InitSpec.initFull_reinit_noflex hnf hs
  simp [InitSpec.Flags.clean, hr.1, hr.2.1, hr.2.2, h4]

/-- … in the form of the full statement (tree equality as the driver prints it: `Init.beq`) -/
theorem C05_parse_spec_partial_beq (ty : Ty) (toks : List ITok) (p : Init × List ITok) (r : InitSpec.Result)
    (hty : InitSpec.tyOk ty = true) (hp : parseInit ty toks = .ok p) (hs : InitSpec.initFull ty toks = .ok r)
    (hr : r.fl.clean = true) : Init.beq p.1 r.obj = true ∧ p.2 = r.rest := by
  obtain ⟨h1, h2⟩ := C05_parse_spec_partial ty toks p r hty hp hs hr
  rw [h1]
  exact ⟨InitSpec.beq_refl' _, h2⟩

/-- the fuel plays no role: any fuel with which the parser answers gives the specification's tree -/
theorem C05_parse_spec_partial_fuel (f : Nat) (ty : Ty) (toks : List ITok) (p : Init × List ITok) (r : InitSpec.Result)
    (hty : InitSpec.tyOk ty = true) (hp : initializer2 f ty toks (newInit ty true) = .ok p)
    (hs : InitSpec.initFull ty toks = .ok r) (hr : r.fl.clean = true) : p.1 = r.obj ∧ p.2 = r.rest :=
  InitSpec.parse_spec_tyOk hty hp hs hr

/-- parser and specification agree on `toks` unless one of them rejects it or the specification's run is in region `over` -/
def agreeOn (ty : Ty) (toks : List ITok) : Bool :=
  match parseInit ty toks, InitSpec.initFull ty toks with
  | .ok (p, pr), .ok r => r.over || (Init.beq p r.obj && pr == r.rest)
  | _, _ => true

/-- all token lists of length `n` over `alphabet` -/
def allLists (alphabet : List ITok) : Nat → List (List ITok)
  | 0 => [[]]
  | n+1 => (allLists alphabet n).flatMap (fun l => alphabet.map (fun t => t :: l))

def one : ITok := .expr (Expr.num 1)
def tInt : Ty := .scalar 4 .int
/-- `struct { int a; struct { int b; int c[2]; } s; int d; }` -/
def scopeS : Ty := .struct [(⟨some "a", 0, none⟩, tInt),
  (⟨some "s", 4, none⟩, .struct [(⟨some "b", 0, none⟩, tInt), (⟨some "c", 4, none⟩, .array tInt 2)] 12 false),
  (⟨some "d", 16, none⟩, tInt)] 20 false
def alphaS : List ITok := [.lbrace, .rbrace, .comma, one, .dot "s", .dot "c", .idx 1, .eq]
/-- `struct { int a:3; int :2; union { int x; struct { int p, q; } y; } u; int f[]; }` (bit-field, unnamed bit-field, union, flexible member) -/
def scopeF : Ty := .struct [(⟨some "a", 0, some (0, 3)⟩, tInt), (⟨none, 0, some (3, 2)⟩, tInt),
  (⟨some "u", 4, none⟩, .union [(⟨some "x", 0, none⟩, tInt),
      (⟨some "y", 0, none⟩, .struct [(⟨some "p", 0, none⟩, tInt), (⟨some "q", 4, none⟩, tInt)] 8 false)] 8 false),
  (⟨some "f", 12, none⟩, .array tInt 0)] 12 true
def alphaF : List ITok := [.lbrace, .rbrace, .comma, one, .dot "u", .dot "y", .dot "f", .idx 1, .eq]
/-- `int x[]` with index and range designators -/
def scopeI : Ty := .inc tInt
def alphaI : List ITok := [.rbrace, .comma, one, .idx 1, .idx 3, .range 1 2, .eq, .lbrace]
/-- `struct { int p; int q[2]; } x[]` -/
def scopeQ : Ty := .inc (.struct [(⟨some "p", 0, none⟩, tInt), (⟨some "q", 4, none⟩, .array tInt 2)] 12 false)
def alphaQ : List ITok := [.rbrace, .comma, one, .idx 0, .idx 2, .eq, .lbrace, .dot "q"]

/-- the scope `{ first t₁ … tₙ` -/
def scope (alphabet : List ITok) (n : Nat) (first : ITok) : List (List ITok) :=
  (allLists alphabet n).map (fun l => ITok.lbrace :: first :: l)

/-- non-vacuity of `C05_parse_spec_partial`: the nested struct `scopeS` is covered, and
    `{ 1, .s.c[1] = 1, 1, .s = { .c = { 1 } } }`-like spellings satisfy every hypothesis; here
    `{ 1, .s.c[1] = 1, 1 }` (designator, continuation after the designator into the enclosing struct) and an array of unknown
    bound of structs `{ [2].q[1] = 1, 1, { 1 } }` whose bound 4 is found by both sides -/
example : InitSpec.tyOk scopeS = true ∧
    (parseInit scopeS [.lbrace, one, .comma, .dot "s", .dot "c", .idx 1, .eq, one, .comma, one, .rbrace]).toOption.isSome = true ∧
    ((InitSpec.initFull scopeS [.lbrace, one, .comma, .dot "s", .dot "c", .idx 1, .eq, one, .comma, one, .rbrace]).toOption.map
      (fun r => r.fl.clean)) = some true := by decide +kernel
example : InitSpec.tyOk scopeQ = true ∧
    ((parseInit scopeQ [.lbrace, .idx 2, .dot "q", .idx 1, .eq, one, .comma, one, .comma, .lbrace, one, .rbrace, .rbrace]).toOption.map
      (fun p => p.1.children.length)) = some 4 ∧
    ((InitSpec.initFull scopeQ [.lbrace, .idx 2, .dot "q", .idx 1, .eq, one, .comma, one, .comma, .lbrace, one, .rbrace, .rbrace]).toOption.map
      (fun r => (r.fl.clean, r.obj.children.length))) = some (true, 4) := by decide +kernel

/-- what `agreeOn` gives for the bound -/
def sameBound (ty : Ty) (toks : List ITok) : Bool :=
  match parseInit ty toks, InitSpec.initFull ty toks with
  | .ok (p, _), .ok r => r.over || p.children.length == r.obj.children.length
  | _, _ => true

/-- **C05 (parser = 6.7.9), exhaustive small scope 1**: every token list `{ t₁ … t₅` over `{ } , 1 .s .c [1] =` for the nested
    struct `scopeS` (32768 lists: braces, elision, nested and out-of-order designators, continuation after a designator).
    An instance of `C05_parse_spec_partial` (`scope_agree`): the specification's run on the lists of the initializer grammar
    (it rejects every other list, `InitSpec.initFull_run`) is evaluated and is clean wherever it succeeds. -/
theorem C05_parse_spec_scope_struct : ∀ first ∈ alphaS, (scope alphaS 4 first).all (agreeOn scopeS) = true :=
  fun first hf => List.all_eq_true.2 fun l hl =>
    (scope_agree (f := allLists _) (A := agreeOn _) (B := sameBound _) rfl (fun _ => rfl) (fun _ => rfl) (fun _ => rfl)
      (by decide) (by decide +kernel) first hf l hl).1

/-- scope 2: bit-field, unnamed bit-field, union and FLEXIBLE array member; `{ t₁ … t₄` over 9 tokens (6561 lists). -/
theorem C05_parse_spec_scope_flex : ∀ first ∈ alphaF, (scope alphaF 3 first).all (agreeOn scopeF) = true :=
  fun first hf => List.all_eq_true.2 fun l hl =>
    (scope_agree (f := allLists _) (A := agreeOn _) (B := sameBound _) rfl (fun _ => rfl) (fun _ => rfl) (fun _ => rfl)
      (by decide) (by decide +kernel) first hf l hl).1

/-- non-vacuity: of the 512 lists `{ 1 t₂ t₃ t₄` over scope 1's alphabet (one token shorter than the lists of scope 1), 73 are
    accepted by both sides -/
example : ((scope alphaS 3 one).filter (fun l => (parseInit scopeS l).toOption.isSome && (InitSpec.init scopeS l).toOption.isSome)).length = 73 := by
  decide +kernel

/-- non-vacuity for scope 2: `{ 1, 1, .f = { 1, 1 } }`-like lists are accepted by both sides; here one with the flexible member -/
example : agreeOn scopeF [.lbrace, one, .comma, .dot "f", .eq, .lbrace, one, .comma, one, .rbrace, .rbrace] = true ∧
    ((parseInit scopeF [.lbrace, one, .comma, .dot "f", .eq, .lbrace, one, .comma, one, .rbrace, .rbrace]).toOption.map
      (fun p => (resolveTy scopeF p.1).size)) = some 20 := by decide +kernel

/-- `struct { int a; struct { int x, y; } f[]; }`: a flexible array member of structs -/
def scopeGms : Members := [(⟨some "a", 0, none⟩, tInt),
  (⟨some "f", 4, none⟩, .array (.struct [(⟨some "x", 0, none⟩, tInt), (⟨some "y", 4, none⟩, tInt)] 8 false) 0)]
def scopeG : Ty := .struct scopeGms 4 true

/-- non-vacuity of `C05_parse_spec_partial` for a flexible array member: the type is covered, and
    `{ 1, 1, 1, { 1 }, 1 }` (elided braces: `count_array_init_elements` runs over the rest of the struct's list and finds 3
    elements) and `{ .f = { [2].y = 1, { 1, 1 } }, .a = 1 }` (designated, brace-enclosed: 4 elements; then another member)
    satisfy every hypothesis -/
example : InitSpec.tyOk scopeG = true ∧
    ((parseInit scopeG [.lbrace, one, .comma, one, .comma, one, .comma, .lbrace, one, .rbrace, .comma, one, .rbrace]).toOption.map
      (fun p => (resolveTy scopeG p.1).size)) = some 28 ∧
    ((InitSpec.initFull scopeG [.lbrace, one, .comma, one, .comma, one, .comma, .lbrace, one, .rbrace, .comma, one, .rbrace]).toOption.map
      (fun r => (r.fl.clean, (resolveTy scopeG r.obj).size))) = some (true, 28) := by decide +kernel
example :
    ((parseInit scopeG [.lbrace, .dot "f", .eq, .lbrace, .idx 2, .dot "y", .eq, one, .comma, .lbrace, one, .comma, one, .rbrace, .rbrace,
        .comma, .dot "a", .eq, one, .rbrace]).toOption.map (fun p => (resolveTy scopeG p.1).size)) = some 36 ∧
    ((InitSpec.initFull scopeG [.lbrace, .dot "f", .eq, .lbrace, .idx 2, .dot "y", .eq, one, .comma, .lbrace, one, .comma, one, .rbrace, .rbrace,
        .comma, .dot "a", .eq, one, .rbrace]).toOption.map (fun r => (r.fl.clean, (resolveTy scopeG r.obj).size))) = some (true, 36) := by
  decide +kernel

/-- `union { int a; struct { int p, q; } s; long b; }` inside a struct: a union's list with several initializers -/
def scopeU : Ty := .struct [(⟨some "k", 0, none⟩, tInt),
  (⟨some "u", 8, none⟩, .union [(⟨some "a", 0, none⟩, tInt),
      (⟨some "s", 0, none⟩, .struct [(⟨some "p", 0, none⟩, tInt), (⟨some "q", 4, none⟩, tInt)] 8 false),
      (⟨some "b", 0, none⟩, .scalar 8 .int)] 8 false)] 16 false

/-- non-vacuity of `C05_parse_spec_partial` for a union's list with several initializers (`union_rest`):
    `{ 1, { .s.q = 1, .s.p = 1, 1 } }` - two designators into the member initialised first and an excess element -/
example : InitSpec.tyOk scopeU = true ∧
    ((parseInit scopeU [.lbrace, one, .comma, .lbrace, .dot "s", .dot "q", .eq, one, .comma, .dot "s", .dot "p", .eq, one, .comma, one,
        .rbrace, .rbrace]).toOption.map (fun p => p.2.length)) = some 0 ∧
    ((InitSpec.initFull scopeU [.lbrace, one, .comma, .lbrace, .dot "s", .dot "q", .eq, one, .comma, .dot "s", .dot "p", .eq, one, .comma, one,
        .rbrace, .rbrace]).toOption.map (fun r => r.fl.clean)) = some true := by decide +kernel

/-- **C05 (flexible array member: length).**  Outside the four regions the flexible member of the object the parser builds has
    exactly the elements the specification's growing array has - the largest index that receives an initializer, plus one - and
    the type `initializer()` makes for the object (`resolveTy`: the struct type copied, its last member re-typed `elem[n]`) is the
    same for both, so `sizeof` the object agrees. -/
theorem C05_flex_count (ms : Members) (sz : Nat) (toks : List ITok) (p : Init × List ITok) (r : InitSpec.Result)
    (hty : InitSpec.flexOkMs ms = true) (hp : parseInit (.struct ms sz true) toks = .ok p)
    (hs : InitSpec.initFull (.struct ms sz true) toks = .ok r) (hr : r.fl.clean = true) :
    flexResolved ms p.1.children = flexResolved ms r.obj.children ∧
      resolveTy (.struct ms sz true) p.1 = resolveTy (.struct ms sz true) r.obj := by
  rw [(C05_parse_spec_partial (.struct ms sz true) toks p r hty hp hs hr).1]
  exact ⟨rfl, rfl⟩

/-- **C05 (flexible array member: size of the object).**  Whatever tree `init` the parser has built for a struct type with flexible
    array member `elem[]`: when the member's node has `n` elements (`flexResolved`: `n` = 0 if no initializer reached it), the type
    `initializer()` gives the object has `sizeof(struct) + n · sizeof(elem)` bytes, and the static object (`write_gvar_data` into
    `calloc(1, var->ty->size)`) and the automatic object (ND_MEMZERO over `var->ty->size` bytes, then the assignments) are the
    same `sizeof(struct) + n · sizeof(elem)` cells; and what `emit_data` prints for the image assembles to exactly these cells
    (when the relocations are ascending and disjoint, as in `C05_emit`). -/
theorem C05_flex_size (ms : Members) (sz : Nat) (init : Init) (el : Ty) (n : Nat)
    (hfl : flexResolved ms init.children = some (el, n))
    (hw : wf (resolveTy (.struct ms sz true) init) = true) (hf : fits init (resolveTy (.struct ms sz true) init) = true)
    (hel : wf el = true) :
    (resolveTy (.struct ms sz true) init).sz = sz + el.sz * n ∧
    ∃ im, gvarInit init (resolveTy (.struct ms sz true) init) = .ok im ∧
      staticObject init (resolveTy (.struct ms sz true) init) = .ok im.cells ∧
      autoObject init (resolveTy (.struct ms sz true) init) = .ok im.cells ∧ im.cells.length = sz + el.sz * n ∧
      (RelocsFrom (sz + el.sz * n) 0 im.relocs →
        assemble (emitData im (sz + el.sz * n)) = im.cells ∧ (assemble (emitData im (sz + el.sz * n))).length = sz + el.sz * n) := by
  have hsize := resolveTy_flex_size ms sz init el n hfl (wf_size_nonneg el hel)
  obtain ⟨im', hs, ha, hsz, _, _⟩ := both_from_leaves _ init hw hf
  rw [hsize] at hsz
  exact ⟨hsize, im', hs, by simp only [staticObject, hs]; rfl, ha, hsz.cells_length, fun hr => C05_emit im' _ hsz.len hr⟩

/-- non-vacuity: `struct { int a; struct { int x, y; } f[]; } = { 1, 1, 1, { 1 }, 1 }`: three elements, 4 + 3·8 = 28 bytes in both
    storage classes -/
example : ((parseInit scopeG [.lbrace, one, .comma, one, .comma, one, .comma, .lbrace, one, .rbrace, .comma, one, .rbrace]).toOption.map
      (fun p => ((flexResolved scopeGms p.1.children).map (·.2),
        wf (resolveTy scopeG p.1), fits p.1 (resolveTy scopeG p.1),
        ((staticObject p.1 (resolveTy scopeG p.1)).toOption.map (·.length)),
        ((autoObject p.1 (resolveTy scopeG p.1)).toOption.map (·.length))))) = some (some 3, true, true, some 28, some 28) := by
  decide +kernel
example : (match parseInit scopeG [.lbrace, one, .comma, one, .comma, one, .comma, .lbrace, one, .rbrace, .comma, one, .rbrace] with
    | .ok p => (match gvarInit p.1 (resolveTy scopeG p.1) with
      | .ok im => decide (RelocsFrom 28 0 im.relocs)
      | .error _ => false)
    | .error _ => false) = true := by decide +kernel

/-- **C05 (the relocation cursor of `write_gvar_data`).**  `Model/InitCursor.lean` keeps the relocation list as the C code does - a
    linked list behind `head` and the cursor `cur`; `cur->next = rel` drops whatever hung behind `cur`.  When every arm hands on
    the cursor of its recursive calls, as the code does - `cur = write_gvar_data(…)` in the array loop and in the struct's member
    loop (`continue` for a bit-field), `return write_gvar_data(…)` for the union's initialised member - the list is the one
    `writeGvar` appends to (which `C05_backends_agree` and `C05_emit` are about) and the returned cursor is its last node, for
    every tree, type, image and offset.  (An arm that returns the cursor it was given loses relocations:
    `Findings.C05.C05_cursor_arms`; the mutant seeded/C05b does this to the union arm.) -/
theorem C05_reloc_cursor (init : Init) (ty : Ty) (im : Image) (off : Nat) :
    writeGvarC Arms.code init ty im im.relocs.length off = withEnd (writeGvar init ty im off) ∧
      gvarInitC Arms.code init ty = gvarInit init ty :=
  ⟨writeGvarC_end init ty im off, gvarInitC_code init ty⟩

/-- **C05 (count), full statement.**  For an array of unknown bound the length `count_array_init_elements` gives the object is the
    specification's: the largest indexed element with an explicit initializer, plus one (6.7.9p22).  Proved below
    (`C05_count_partial`) for every element type without flexible array member outside the regions `AggExprOverride` and
    `WideRange` as well (the flexible array member of a declared struct: `C05_flex_count`); missing for the full statement: those
    two regions and element types that are not C types. -/
def C05_count_Statement : Prop :=
  ∀ (elem : Ty) (toks : List ITok) (p : Init × List ITok) (r : InitSpec.Result),
    parseInit (.inc elem) toks = .ok p → InitSpec.initFull (.inc elem) toks = .ok r → r.over = false →
      p.1.children.length = r.obj.children.length

/-- **C05 (count), proved for ALL element types and ALL token lists** outside the three regions: the array the parser allocates
    after its counting dry run (`count_array_init_elements` on a dummy tree) has exactly the length the specification's growing
    array reaches - the largest index that receives an initializer, plus one - whatever mixture of designators, elision,
    nested braces and excess elements the list contains.  (The heart is `InitSpec.incLoop`: count, parser loop and
    specification in lockstep.) -/
theorem C05_count_partial (elem : Ty) (toks : List ITok) (p : Init × List ITok) (r : InitSpec.Result)
    (hty : InitSpec.subOk elem = true) (hp : parseInit (.inc elem) toks = .ok p)
    (hs : InitSpec.initFull (.inc elem) toks = .ok r) (hr : r.fl.clean = true) :
    p.1.children.length = r.obj.children.length := by
  rw [(C05_parse_spec_partial (.inc elem) toks p r hty hp hs hr).1]

/-- **C05 (count), exhaustive small scope**: `int x[] = { t₁ … t₅` over `} , 1 [1] [3] [1 ... 2] = {` (32768 lists, including the
    GNU range `[1 ... 2]` in every position) and `struct { int p; int q[2]; } x[] = { t₁ … t₄` over
    `} , 1 [0] [2] = { .q` (4096 lists): same tree, hence same bound. -/
theorem C05_count_scope :
    (∀ first ∈ alphaI, (scope alphaI 4 first).all (fun l => agreeOn scopeI l && sameBound scopeI l) = true) ∧
    (∀ first ∈ alphaQ, (scope alphaQ 3 first).all (fun l => agreeOn scopeQ l && sameBound scopeQ l) = true) :=
  ⟨fun first hf => List.all_eq_true.2 fun l hl =>
      Bool.and_eq_true_iff.2
        (scope_agree (f := allLists _) (A := agreeOn _) (B := sameBound _) rfl (fun _ => rfl) (fun _ => rfl) (fun _ => rfl)
          (by decide) (by decide +kernel) first hf l hl),
   fun first hf => List.all_eq_true.2 fun l hl =>
      Bool.and_eq_true_iff.2
        (scope_agree (f := allLists _) (A := agreeOn _) (B := sameBound _) rfl (fun _ => rfl) (fun _ => rfl) (fun _ => rfl)
          (by decide) (by decide +kernel) first hf l hl)⟩

/-- non-vacuity: `int x[] = { 1, [3] = 1, 1 }` has 5 elements on both sides (and satisfies the hypotheses of `C05_count_partial`);
    `int x[] = { [1 ... 2] = 1 }` has 3 -/
example : ((parseInit scopeI [.lbrace, one, .comma, .idx 3, .eq, one, .comma, one, .rbrace]).toOption.map (·.1.children.length)) = some 5 ∧
    ((InitSpec.initFull scopeI [.lbrace, one, .comma, .idx 3, .eq, one, .comma, one, .rbrace]).toOption.map
      (fun r => (r.fl.clean, r.obj.children.length))) = some (true, 5) ∧
    InitSpec.subOk tInt = true ∧
    ((parseInit scopeI [.lbrace, .range 1 2, .eq, one, .rbrace]).toOption.map (·.1.children.length)) = some 3 ∧
    ((InitSpec.initFull scopeI [.lbrace, .range 1 2, .eq, one, .rbrace]).toOption.map
      (fun r => (r.fl.clean, r.obj.children.length))) = some (true, 3) := by decide +kernel

end ChibiVerif.Props.C05
