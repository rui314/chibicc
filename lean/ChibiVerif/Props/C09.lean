/-
C09 — macro expansion follows C11 6.10.3 and terminates.

The property theorems, with `bound`, `modelSubst`, `isC11` and the open statement `C09_subst_spec_Statement` defined beside the
theorems that use them.  The model is Model/PP.lean (preprocess.c of /repo, with its `fix:` commits 5a15c0f and 6fecbd6), the
specification Spec/PPSpec.lean (C11 6.10.3.1–6.10.3.3 in the standard's phases, with placemarkers).  Every other notion of the
statements that is neither model nor specification is defined in Lemmas/C09Vocabulary.lean: `Balanced`, `noTopComma`, `isTerm`,
`Sep`; `NoHash`, `Macro.isFn`, `ObjOnly`; `need`, `bodyBound`, `fuelBound` (`fuelE`); `spell`, `anyBad`, `NoExtension`,
`FreshArgs`; `strzOkTok`, `stringizeOld` (`substOld`: Lemmas/C09Placemarker.lean).  Lemmas: argument identification
Lemmas/PPArgs.lean; one turn of the loop of `subst` Lemmas/C09Step.lean; hide sets, shared facts and painting
Lemmas/PPLemmas.lean; `subst` against the specification Lemmas/PPSubst.lean, `#` Lemmas/C09Stringize.lean; termination
Lemmas/PPTerm.lean (object-like tables), Lemmas/C09Subst.lean, Lemmas/C09Measure.lean, Lemmas/C09Fuel.lean (every table);
independence of the fuel Lemmas/C09FuelMono.lean.  The `subst` before `fix:` 5a15c0f of /repo:
Lemmas/C09Placemarker.lean, compared with the present one in Lemmas/C09PlacemarkerExact.lean (witnesses: Findings/C09.lean).
-/
import ChibiVerif.Model.PP
import ChibiVerif.Spec.PPSpec
import ChibiVerif.Lemmas.C09Vocabulary
import ChibiVerif.Lemmas.PPArgs
import ChibiVerif.Lemmas.PPLemmas
import ChibiVerif.Lemmas.PPTerm
import ChibiVerif.Lemmas.PPSubst
import ChibiVerif.Lemmas.C09Fuel
import ChibiVerif.Lemmas.C09Stringize
import ChibiVerif.Lemmas.C09FuelMono

namespace ChibiVerif.Props.C09
open ChibiVerif.PP

/-! ## hide sets -/

/-- **C09 (hide-set algebra).**  `hideset_union`, `hideset_intersection` and `hideset_contains` are union,
    intersection and membership of sets of names; `add_hideset` adds the set to every token and changes nothing else. -/
theorem C09_hideset_algebra (a b : Hideset) (x : String) :
    (hidesetContains a x = true ↔ x ∈ a) ∧
    hidesetContains (hidesetUnion a b) x = (hidesetContains a x || hidesetContains b x) ∧
    hidesetContains (hidesetIntersection a b) x = (hidesetContains a x && hidesetContains b x) ∧
    (∀ ts : List Tok, (addHideset ts a).map (fun t => hidesetContains t.hide x)
        = ts.map (fun t => hidesetContains t.hide x || hidesetContains a x)) ∧
    (∀ ts : List Tok, (addHideset ts a).map (fun t => (t.kind, t.text, t.hasSpace, t.atBol, t.line, t.origin))
        = ts.map (fun t => (t.kind, t.text, t.hasSpace, t.atBol, t.line, t.origin))) :=
  ⟨hidesetContains_iff a x, hidesetContains_union a b x, hidesetContains_intersection a b x,
   fun ts => by simp [addHideset, hidesetContains_union, Function.comp_def],
   fun ts => by simp [addHideset, Function.comp_def]⟩

/-! ## argument identification -/

/-- **C09 (one argument).**  `read_macro_arg_one` returns `(a, r)` exactly when the input is `a ++ r`, the parentheses
    of `a` match, `a` has no comma outside parentheses (unless it reads the variable argument), and `r` starts with
    the `)` — or top-level `,` — that ends the argument.  In every other case it reports "premature end of input". -/
theorem C09_args_one (readRest : Bool) (ts a r : List Tok) :
    (readMacroArgOne readRest 0 ts = .ok (a, r) ↔
      ts = a ++ r ∧ Balanced a ∧ (readRest = true ∨ noTopComma 0 a = true) ∧
        ∃ t r', r = t :: r' ∧ isTerm readRest t = true) ∧
    (∀ e, readMacroArgOne readRest 0 ts = .error e → e = .prematureEnd) := by
  refine ⟨⟨(argOne_spec readRest ts 0).of_ok, ?_⟩, fun _ => (argOne_spec readRest ts 0).of_error⟩
  rintro ⟨rfl, hb, hc, t, r', rfl, ht⟩
  exact argOne_complete readRest a 0 t r' hb hc ht

/-- **C09 (argument lists).**  Whatever `read_macro_args` accepts is the text `a₁ , a₂ , … , aₙ )` : the arguments in
    order, separated by tokens spelled `,`, every argument with matching parentheses, the named ones without a
    top-level comma, the variable argument taking all the rest (commas included) or being empty when it is omitted;
    the returned token is the closing `)`. -/
theorem C09_args (ps : List String) (va : Option String) (ts : List Tok)
    (args : List MacroArg) (rp : Tok) (rest : List Tok)
    (h : readMacroArgs ps va ts = .ok (args, rp, rest)) :
    rp.text = ")" ∧ args.map (·.name) = ps ++ va.toList ∧
    (∀ a ∈ args, Balanced a.toks) ∧ (∀ a ∈ args, a.isVa = false → noTopComma 0 a.toks = true) ∧
    ∃ l, ts = l ++ rp :: rest ∧
      match va with
      | none => Sep true (args.map (·.toks)) l
      | some _ => ∃ named vaArg, args = named ++ [vaArg] ∧ vaArg.isVa = true ∧ (∀ a ∈ named, a.isVa = false) ∧
          (Sep true (args.map (·.toks)) l ∨ (vaArg.toks = [] ∧ Sep true (named.map (·.toks)) l)) := by
  obtain ⟨_, h2, h3, h4, h5, l, hl, hs⟩ := (readMacroArgs_spec ps va ts).of_ok h
  refine ⟨h2, h3, h4, h5, l, hl, ?_⟩
  cases va <;> exact hs

/-- **C09 (unbalanced invocation).**  If no prefix of the text after `(` has matching parentheses and is followed by
    `)` (or a top-level `,`), `read_macro_arg_one` answers with the diagnostic, never with an argument. -/
theorem C09_args_unbalanced (readRest : Bool) (ts : List Tok)
    (h : ¬ ∃ a t r, ts = a ++ t :: r ∧ Balanced a ∧ (readRest = true ∨ noTopComma 0 a = true) ∧ isTerm readRest t = true) :
    readMacroArgOne readRest 0 ts = .error .prematureEnd := by
  cases hr : readMacroArgOne readRest 0 ts with
  | error e => rw [(argOne_spec readRest ts 0).of_error hr]
  | ok v =>
    obtain ⟨a, r⟩ := v
    obtain ⟨h1, h2, h3, t, r', rfl, ht⟩ := (argOne_spec readRest ts 0).of_ok hr
    exact absurd ⟨a, t, r', h1, h2, h3, ht⟩ h

private def tk (s : String) (k : Kind := .ident) : Tok := { kind := k, text := s }

/-- non-vacuity: `f((a,b),c)` — the first argument keeps its inner comma -/
example : readMacroArgs ["x", "y"] none
    [tk "(" .punct, tk "a", tk "," .punct, tk "b", tk ")" .punct, tk "," .punct, tk "c", tk ")" .punct, tk "z"]
    = .ok ([{ name := "x", toks := [tk "(" .punct, tk "a", tk "," .punct, tk "b", tk ")" .punct] },
            { name := "y", toks := [tk "c"] }], tk ")" .punct, [tk "z"]) := by decide +kernel

/-- non-vacuity: the hypothesis of `C09_args_unbalanced` holds for `( a` (never closed) -/
example : readMacroArgOne false 0 [tk "(" .punct, tk "a"] = .error .prematureEnd := by decide +kernel

/-! ## painting -/

/-- **C09 (blue paint, one step).**  `expand_macro` declines a token only if the token does not name a macro, or
    carries its own name in its hide set, or names a function-like macro and the next token of the input is not `(`. -/
theorem C09_blue_step (lx : String → LexOne) (pp : PreExpand) (st : St) (tok : Tok) (rest : List Tok)
    (h : expandMacro lx pp st tok rest = .ok none) :
    hidesetContains tok.hide tok.text = true ∨ findMacro st.defs tok = none ∨
      (∃ ps va b, findMacro st.defs tok = some (.fn ps va b) ∧ textIs rest.head? "(" = false) :=
  expandMacro_none h

/-- **C09 (blue paint, expansion).**  Every token that the expansion of an object-like or function-like macro puts
    in front of the remaining input has the macro's name in its hide set, and the remaining input is a suffix of the
    old one (so self-reference stops after one step: `#define T U` / `#define U T` gives `T`). -/
theorem C09_blue_paint (lx : String → LexOne) (pp : PreExpand) (st : St) (tok : Tok) (rest ts' : List Tok) (st' : St)
    (h : expandMacro lx pp st tok rest = .ok (some (ts', st'))) :
    (∃ b, findMacro st.defs tok = some (.builtin b) ∧ ts' = (runBuiltin st b tok).1 :: rest) ∨
    (∃ new k, ts' = new ++ rest.drop k ∧ ∀ t ∈ new, hidesetContains t.hide tok.text = true) :=
  expandMacro_paints h

/-- **C09 (blue paint, output).**  In the output of `preprocess2` on text without directives, every identifier
    that names a macro has that name in its hide set or names a function-like macro (which was then not followed by
    `(` when it was scanned, by `C09_blue_step`). -/
theorem C09_blue (lx : String → LexOne) (fuel : Nat) (st : St) (ts out : List Tok) (st' : St)
    (hnh : NoHash ts) (h : preprocess2 lx fuel st ts = .ok (out, st')) :
    ∀ t ∈ out, ∀ m, findMacro st.defs t = some m → hidesetContains t.hide t.text = true ∨ m.isFn = true :=
  preprocess2_blue lx fuel st ts out st' hnh h

/-- non-vacuity and the classic: `#define T U` / `#define U T`, input `T U` → `T U`, both painted with {T,U} -/
example : (expand 10 [("T", .obj [tk "U"]), ("U", .obj [tk "T"])] [tk "T", tk "U"]).map (·.map fun t => (t.text, t.hide))
    = .ok [("T", ["T", "U"]), ("U", ["U", "T"])] := by decide +kernel

/-- `#define f(x) x f` / `f(1)(2)` → `1 f(2)`: the `f` of the expansion is painted and stays -/
example : (expand 20 [("f", .fn ["x"] none [tk "x", tk "f"])]
      [tk "f", tk "(" .punct, tk "1" .num, tk ")" .punct, tk "(" .punct, tk "2" .num, tk ")" .punct]).map (·.map (·.text))
    = .ok ["1", "f", "(", "2", ")"] := by decide +kernel

/-! ## termination -/

-- `fuelBound defs ts` (Lemmas/C09Vocabulary.lean) `= fuelE (maxBody defs) defs.length ts.length 0`: the bound for every table.
-- `fuelE L j m x` (same module): work of `m` tokens that still have `j` macro names outside their hide sets,
-- on top of inner work `x`, when no replacement list is longer than `L`.

/-- **C09 (termination), every macro table.**  For every lexer used by `##`, every state — object-like, function-like,
    variadic and built-in macros in any combination, replacement lists and input tokens with arbitrary hide sets —
    and every input without directive lines, `preprocess2` (the rescanning loop, `expand_macro`, `subst` with `#`, `##`,
    `__VA_OPT__`, and the recursive pre-expansion of arguments) finishes with output or a diagnostic as soon as it is
    given `fuelBound defs input` units of fuel: a number computed from the table (number of entries, longest
    replacement list) and the length of the input alone.
    The measure (Lemmas/C09Measure.lean): the pending list is cut into ghost levels with growing sets of names that
    every identifier and every `)` of the level hides; an expansion whose `)` comes from an outer level opens its new
    level on top of *that* level, and the hide set `(hide(name) ∩ hide(')')) ∪ {name}` of `expand_macro` contains that
    level's names plus the macro's own — the intersection never loses more.  Level lengths decrease
    lexicographically; arguments handed to the nested `preprocess2` inherit a smaller vector. -/
theorem C09_terminates (lx : String → LexOne) (st : St) (ts : List Tok) (fuel : Nat)
    (hnh : NoHash ts) (hfuel : fuelBound st.defs ts ≤ fuel) :
    preprocess2 lx fuel st ts ≠ .error .fuel :=
  (preprocess2_fuelBound lx st ts fuel hnh hfuel).1

/-- non-vacuity: `#define f(x) x f` with `f(1)(2)` — a function-like macro whose expansion ends in its own name, followed
    by more input: the hypothesis holds, the bound is a concrete number, and with that much fuel the model answers
    `1 f(2)` -/
example :
    let defs : List (String × Macro) := [("f", .fn ["x"] none [tk "x", tk "f"])]
    let ts : List Tok := [tk "f", tk "(" .punct, tk "1" .num, tk ")" .punct, tk "(" .punct, tk "2" .num, tk ")" .punct]
    NoHash ts ∧ fuelBound defs ts = 477734946799221833229035410333259818857 ∧
    (expand (fuelBound defs ts) defs ts).map (·.map (·.text)) = .ok ["1", "f", "(", "2", ")"] := by decide +kernel

/-- **C09 (termination), size of the output.**  Under the same hypotheses the output has at most `fuelBound defs input`
    tokens (the bound also limits what an expansion can produce, not only how long it takes). -/
theorem C09_terminates_output (lx : String → LexOne) (st : St) (ts : List Tok) (fuel : Nat)
    (hnh : NoHash ts) (hfuel : fuelBound st.defs ts ≤ fuel) (out : List Tok) (st' : St)
    (h : preprocess2 lx fuel st ts = .ok (out, st')) :
    out.length ≤ fuelBound st.defs ts :=
  (preprocess2_fuelBound lx st ts fuel hnh hfuel).2 out st' h

/-- non-vacuity: `#define d(x) x x` duplicates its argument — `d(d(a))` gives four tokens -/
example : (expand 50 [("d", .fn ["x"] none [tk "x", tk "x"])]
      [tk "d", tk "(" .punct, tk "d", tk "(" .punct, tk "a", tk ")" .punct, tk ")" .punct]).map (·.map (·.text))
    = .ok ["a", "a", "a", "a"] := by decide +kernel

/-- **C09 (fuel does not matter once it suffices).**  For every lexer, state and input (directive lines included): a run
    of `preprocess2` that ends with output or with a diagnostic — anything but `.error .fuel` — ends the same way with any
    larger amount of fuel.  So the fixed large constant the correspondence runs use computes the same answer as
    `fuelBound` would. -/
theorem C09_fuel_irrelevant (lx : String → LexOne) (n m : Nat) (hnm : n ≤ m) (st : St) (ts : List Tok)
    (r : Except Err (List Tok × St)) (h : preprocess2 lx n st ts = r) (hr : r ≠ .error .fuel) :
    preprocess2 lx m st ts = r :=
  preprocess2_mono lx n m hnm st ts r h hr

/-- non-vacuity: `f(1)(2)` with 20 units of fuel answers `1 f(2)` (evaluated), hence so does every larger amount -/
example : ∀ m, 20 ≤ m → (expand m [("f", .fn ["x"] none [tk "x", tk "f"])]
      [tk "f", tk "(" .punct, tk "1" .num, tk ")" .punct, tk "(" .punct, tk "2" .num, tk ")" .punct]).map (·.map (·.text))
    = .ok ["1", "f", "(", "2", ")"] := by
  intro m hm
  have h20 : (expand 20 [("f", .fn ["x"] none [tk "x", tk "f"])]
      [tk "f", tk "(" .punct, tk "1" .num, tk ")" .punct, tk "(" .punct, tk "2" .num, tk ")" .punct]).map (·.map (·.text))
      = .ok ["1", "f", "(", "2", ")"] := by decide +kernel
  rw [expand_mono 20 m hm _ _ _ rfl fun hc => by rw [hc] at h20; cases h20]
  exact h20

/-- **C09 (macro expansion is a total function).**  For every lexer, table and directive-free input there is one
    answer — output or diagnostic, never `fuel` — that `preprocess2` gives for every amount of fuel from `fuelBound` on. -/
theorem C09_expansion_total (lx : String → LexOne) (st : St) (ts : List Tok) (hnh : NoHash ts) :
    ∃ r, r ≠ .error .fuel ∧ ∀ fuel, fuelBound st.defs ts ≤ fuel → preprocess2 lx fuel st ts = r :=
  ⟨preprocess2 lx (fuelBound st.defs ts) st ts, C09_terminates lx st ts _ hnh (Nat.le_refl _),
   fun fuel hf => C09_fuel_irrelevant lx _ fuel hf st ts _ rfl (C09_terminates lx st ts _ hnh (Nat.le_refl _))⟩

/-- there is a bound, computed from the table and the input alone, within which `preprocess2` finishes for *every* table -/
theorem C09_terminates_bound_exists :
    ∃ bound : List (String × Macro) → List Tok → Nat,
      ∀ (lx : String → LexOne) (st : St) (ts : List Tok) (fuel : Nat), NoHash ts → bound st.defs ts ≤ fuel →
        preprocess2 lx fuel st ts ≠ .error .fuel :=
  ⟨fuelBound, C09_terminates⟩

/-- `bound(defs, input)`: the sharper fuel bound for an object-like table (`L` = longest replacement list,
    a token that still has `r` macros outside its hide set costs at most `1 + L + L² + … + Lʳ`) -/
def bound (defs : List (String × Macro)) (ts : List Tok) : Nat := need (defs.map (·.1)) (bodyBound defs) ts

/-- **C09 (termination), sharper bound for object-like definition sets** (built-in macros included): the multiset measure
    — every application replaces a token by at most `L` tokens that each have one more macro in their hide set —
    gives the bound `bound defs ts`, singly exponential in the number of macros (against the tower of `fuelBound`,
    which `C09_terminates` needs because a function-like expansion can be as long as its pre-expanded arguments). -/
theorem C09_terminates_partial (lx : String → LexOne) (st : St) (ts : List Tok) (fuel : Nat)
    (hobj : ObjOnly st.defs) (hnh : NoHash ts) (hfuel : bound st.defs ts ≤ fuel) :
    preprocess2 lx fuel st ts ≠ .error .fuel :=
  preprocess2_obj_fuel lx st.defs (bodyBound st.defs) hobj (fun _ _ h => bodyBound_ge h) (bodyBound_pos _)
    fuel st ts rfl hnh hfuel

/-- non-vacuity: a mutually recursive object-like table, and the bound is small enough to evaluate -/
example : ObjOnly [("T", Macro.obj [tk "U", tk "T"]), ("U", .obj [tk "T", tk "U"])] ∧
    NoHash [tk "T", tk "U"] ∧
    bound [("T", Macro.obj [tk "U", tk "T"]), ("U", .obj [tk "T", tk "U"])] [tk "T", tk "U"] = 14 := by decide +kernel

/-! ## `subst` against C11 6.10.3.1–6.10.3.3 -/

-- `spell ts` (Lemmas/C09Vocabulary.lean): what the property compares — kind and spelling of every token, stringized text included

/-- `subst` of the model for a function-like macro, run with a pure pre-expander `full` (the complete macro
    replacement of an argument as if it were the rest of the file) -/
def modelSubst (lx : String → LexOne) (full : List Tok → List Tok) (body : List Tok) (args : List MacroArg) :
    Except Err (List Tok) :=
  (subst lx (fun st ts => .ok (full ts, st)) {} body args false).map (·.1)

/-- **C09 (substitution), full statement over every construct the property names** (C11 6.10.3.1–6.10.3.3 plus the C2x
    `__VA_OPT__` and the GNU `, ## __VA_ARGS__` as Spec/PPSpec.lean reads them): whenever the specification defines the
    replacement of an invocation, `subst` produces exactly those spellings — for every lexer, every pre-expander, every
    replacement list and every argument list.
    **Proved for every replacement list that is C11** (`C09_subst_spec` below).  NOT a theorem as it stands, and not because of C11: the two extensions have no C11 text and
    chibicc reads them differently from the specification (= gcc 12) — `Findings.C09.statement_fails_outside_C11`:
    `, ## __VA_ARGS__` pre-expands the variable argument (gcc does not), and `__VA_OPT__` tests the variable argument
    before its macro replacement (gcc / C2x after it).  The check counts these runs as latitude and does not compare
    them. -/
def C09_subst_spec_Statement : Prop :=
  ∀ (lx : String → LexOne) (full : List Tok → List Tok) (body : List Tok) (args : List MacroArg) (s : List Tok),
    ChibiVerif.Spec.PPSpec.subst lx full true body args = .ok s →
      ∃ m, modelSubst lx full body args = .ok m ∧ spell m = spell s

/-- **C09 (substitution), proved part**: for every lexer, every pre-expander, every replacement list and every
    argument list — empty arguments and chains of `##` over empty arguments included (placemarkers, 6.10.3.3p2-3) — whenever the specification
    defines the replacement, `subst` produces exactly its spellings; stringized arguments are arbitrary.
    The two hypotheses that are left exclude nothing of C11 6.10.3 that is defined:
    * `NoExtension body args` (decidable): no `, ##` in front of the *variable* parameter (GNU comma elision), no
      `__VA_OPT__ (` (C2x), and no `## #` (C11 6.10.3.2p2: "the order of evaluation of # and ## operators is
      unspecified").  `## ##` is not excluded: the specification rejects it and the theorem holds vacuously there.
    * `FreshArgs args`: the cache `arg->expanded` of every argument is empty — true of whatever `read_macro_args` returns
      (`C09_subst_spec` removes it).
    Induction over the replacement list with "newest emitted token vs newest element of the paste stack" as invariant;
    a run of empty `##` operands is consumed in one simulation step (Lemmas/PPSubst.lean, `subst_sim`, `skip_sim`).
    MISSING for the full statement: `__VA_OPT__` and the GNU comma (specified in Spec/PPSpec.lean, tied by the check, not
    proved; on them the statement fails for reasons outside C11, see `C09_subst_spec_Statement`); the converse direction
    (the specification rejects whatever `subst` rejects) is not claimed. -/
theorem C09_subst_spec_partial (lx : String → LexOne) (full : List Tok → List Tok) (body : List Tok)
    (args : List MacroArg) (s : List Tok)
    (hext : NoExtension body args) (hfresh : FreshArgs args)
    (hspec : ChibiVerif.Spec.PPSpec.subst lx full true body args = .ok s) :
    ∃ m, modelSubst lx full body args = .ok m ∧ spell m = spell s := by
  obtain ⟨m, st', hm, hs⟩ := subst_spec_of_region lx full body args s hext hfresh hspec
  refine ⟨m, ?_, hs⟩
  unfold modelSubst
  have : (fun (st : St) (ts : List Tok) => (Except.ok (full ts, st) : Except Err (List Tok × St))) = purePP full := rfl
  rw [this, hm]
  rfl

/-- non-vacuity: `#define g(x,y,z) a x ## y ## z # x y` with `g(1, ,3 4)` satisfies both hypotheses (an empty
    operand in the middle of a `##` chain, a stringized and a pre-expanded parameter), the specification defines
    the result, and it is `a 13 4 "1"` followed by the (empty) expansion of `y` -/
example :
    let body : List Tok := [tk "a", tk "x", tk "##" .punct, tk "y", tk "##" .punct, tk "z", tk "#" .punct, tk "x", tk "y"]
    let args : List MacroArg := [{ name := "x", toks := [tk "1" .num] }, { name := "y", toks := [] },
                                 { name := "z", toks := [tk "3" .num, tk "4" .num] }]
    NoExtension body args ∧ FreshArgs args ∧
    (ChibiVerif.Spec.PPSpec.subst Lex.lexOne id true body args).map spell
      = .ok [(.ident, "a"), (.num, "13"), (.num, "4"), (.str, "\"1\"")] ∧
    (modelSubst Lex.lexOne id body args).map spell
      = .ok [(.ident, "a"), (.num, "13"), (.num, "4"), (.str, "\"1\"")] := by decide +kernel

/-- non-vacuity where `hasPlacemarkerChain` holds: C11 6.10.3.5 EXAMPLE 5, `#define t(x,y,z) x ## y ## z` with
    `t(,,)` and `t(,,12)`, and a chain behind another token, `a x ## y ## z` with `(,,3)` (`substOld` gives `a3`) -/
example :
    let t : List Tok := [tk "x", tk "##" .punct, tk "y", tk "##" .punct, tk "z"]
    let arg (x y z : List Tok) : List MacroArg := [{ name := "x", toks := x }, { name := "y", toks := y }, { name := "z", toks := z }]
    hasPlacemarkerChain (arg [] [] []) t = true ∧ NoExtension t (arg [] [] []) ∧ FreshArgs (arg [] [] []) ∧
    (ChibiVerif.Spec.PPSpec.subst Lex.lexOne id true t (arg [] [] [])).map spell = .ok [] ∧
    (modelSubst Lex.lexOne id t (arg [] [] [])).map spell = .ok [] ∧
    (ChibiVerif.Spec.PPSpec.subst Lex.lexOne id true t (arg [] [] [tk "12" .num])).map spell = .ok [(.num, "12")] ∧
    (modelSubst Lex.lexOne id t (arg [] [] [tk "12" .num])).map spell = .ok [(.num, "12")] ∧
    (ChibiVerif.Spec.PPSpec.subst Lex.lexOne id true (tk "a" :: t) (arg [] [] [tk "3" .num])).map spell = .ok [(.ident, "a"), (.num, "3")] ∧
    (modelSubst Lex.lexOne id (tk "a" :: t) (arg [] [] [tk "3" .num])).map spell = .ok [(.ident, "a"), (.num, "3")] := by decide +kernel

/-- the replacement list is C11 as far as `subst` is concerned (a Boolean function of the replacement list and of which
    parameter is the variable one): no `, ##` in front of the variable parameter, no `__VA_OPT__ (`, no `## #` -/
def isC11 (body : List Tok) (args : List MacroArg) : Bool := !anyBad true args body

/-- **C09 (substitution), C11.**  For every function-like macro (parameters `ps`, optional variable parameter `va`), every
    invocation text that `read_macro_args` accepts, every lexer behind `##` and every pre-expander: if the replacement list
    is C11 (`isC11`, decidable: it only excludes the GNU comma in front of the variable parameter, C2x `__VA_OPT__ (`, and
    `## #`, whose order of evaluation C11 6.10.3.2p2 leaves unspecified), then whenever C11 6.10.3.1–6.10.3.3
    (Spec/PPSpec.lean: argument substitution, `#`, `##` left to right WITH placemarkers, placemarker removal) defines the
    replacement, `subst` produces exactly its token spellings.  This is `C09_subst_spec_Statement` restricted to C11
    replacement lists, with the arguments taken from the model's own `read_macro_args` instead of assumed fresh. -/
theorem C09_subst_spec (lx : String → LexOne) (full : List Tok → List Tok) (ps : List String) (va : Option String)
    (ts : List Tok) (args : List MacroArg) (rp : Tok) (rest : List Tok) (body s : List Tok)
    (hargs : readMacroArgs ps va ts = .ok (args, rp, rest))
    (hc11 : isC11 body args = true)
    (hspec : ChibiVerif.Spec.PPSpec.subst lx full true body args = .ok s) :
    ∃ m, modelSubst lx full body args = .ok m ∧ spell m = spell s :=
  C09_subst_spec_partial lx full body args s (by simpa [isC11, NoExtension] using hc11)
    ((readMacroArgs_spec _ _ _).of_ok hargs).1 hspec

/-- non-vacuity: `#define t(x,y,z) x ## y ## z` (C11 6.10.3.5 EXAMPLE 5) invoked as `t(10,,)`: `read_macro_args` accepts
    `10,,)`, the replacement list is C11, the specification defines the result `10`, and so does the model -/
example :
    let t : List Tok := [tk "x", tk "##" .punct, tk "y", tk "##" .punct, tk "z"]
    let ts : List Tok := [tk "10" .num, tk "," .punct, tk "," .punct, tk ")" .punct]
    let args : List MacroArg := [{ name := "x", toks := [tk "10" .num] }, { name := "y", toks := [] }, { name := "z", toks := [] }]
    readMacroArgs ["x", "y", "z"] none ts = .ok (args, tk ")" .punct, []) ∧ isC11 t args = true ∧
    (ChibiVerif.Spec.PPSpec.subst Lex.lexOne id true t args).map spell = .ok [(.num, "10")] ∧
    (modelSubst Lex.lexOne id t args).map spell = .ok [(.num, "10")] := by decide +kernel

/-- non-vacuity outside `StringizeLiteralSafe`: C11 6.10.3.5 EXAMPLE 4, `#define str(s) # s` with `str(: @\n)` — a `\`
    outside any literal — satisfies the hypotheses, and model and specification both give `": @\n"` -/
example :
    let body : List Tok := [tk "#" .punct, tk "s"]
    let args : List MacroArg := [{ name := "s", toks := [tk ":" .punct, { kind := .punct, text := "@", hasSpace := true },
                                                         tk "\\" .punct, tk "n"] }]
    NoExtension body args ∧ FreshArgs args ∧ ¬ StringizeLiteralSafe body args ∧
    (ChibiVerif.Spec.PPSpec.subst Lex.lexOne id true body args).map spell = .ok [(.str, "\": @\\n\"")] ∧
    (modelSubst Lex.lexOne id body args).map spell = .ok [(.str, "\": @\\n\"")] := by decide +kernel

/-- **C09 (`#`).**  For **every** `#` token and **every** argument — any tokens, `\` and `"` inside and outside string
    literals and character constants of any prefix, any spacing — `stringize` (the two copy loops of preprocess.c after
    `fix:` 6fecbd6) produces the token C11 6.10.3.2p2 prescribes (Spec/PPSpec.lean `stringizeSpec`: the spellings of
    the argument's tokens, one space where there was white space between them, `\` inserted before each `"` and `\` of a
    string literal or character constant and nowhere else, the whole between `"`): same spelling, a string literal, the
    spacing of the `#`.  (The formula before `fix:` 6fecbd6 differs from the specification on every argument that is not
    literal-safe: `stringizeOld_ne_spec`, Lemmas/C09Stringize.lean, and Findings/C09.lean.) -/
theorem C09_stringize_spec (hash : Tok) (arg : List Tok) :
    (stringize hash arg).text = (ChibiVerif.Spec.PPSpec.stringizeSpec hash arg).text ∧
    (stringize hash arg).kind = (ChibiVerif.Spec.PPSpec.stringizeSpec hash arg).kind ∧
    (stringize hash arg).hasSpace = (ChibiVerif.Spec.PPSpec.stringizeSpec hash arg).hasSpace ∧
    (stringize hash arg).atBol = (ChibiVerif.Spec.PPSpec.stringizeSpec hash arg).atBol :=
  ⟨(stringize_eq_spec hash arg).1, (stringize_eq_spec hash arg).2, rfl, rfl⟩

/-- evaluated on the standard's arguments: `: @\n` (a `\` outside a literal stays single) and
    `strncmp("abc\0d", "abc", '\4') == 0` (those inside literals are doubled, the `"` escaped) -/
example :
    (stringize (tk "#" .punct) [tk ":" .punct, { kind := .punct, text := "@", hasSpace := true }, tk "\\" .punct, tk "n"]).text
      = "\": @\\n\"" ∧
    (stringize (tk "#" .punct) [tk "strncmp", tk "(" .punct, tk "\"abc\\0d\"" .str, tk "," .punct,
        { kind := .str, text := "\"abc\"", hasSpace := true }, tk "," .punct, { kind := .other, text := "'\\4'", hasSpace := true },
        tk ")" .punct, { kind := .punct, text := "==", hasSpace := true }, { kind := .num, text := "0", hasSpace := true }]).text
      = "\"strncmp(\\\"abc\\\\0d\\\", \\\"abc\\\", '\\\\4') == 0\"" := by decide +kernel

/-- **C09 (`#`), what the model leaves out.**  The C function passes its buffer to `tokenize()` and returns the first
    token of the result; the model returns the buffer as one string token.  If every token of the argument is
    literal-safe (`strSafeTok`: a string literal, a character constant, or a spelling without `\` and `"`) and no
    spelling contains a new-line character (`strzOkTok`; true of every token `tokenize` makes), the buffer is exactly one
    string literal for the lexer — so nothing is left out there.  Otherwise (a `\` outside a literal in front of the
    closing quote, as in `str(\)`) the result need not be a valid string literal and C11 6.10.3.2p2 makes the behaviour
    undefined; the check does not compare such runs (`skipped_ub`). -/
theorem C09_stringize_wellformed (hash : Tok) (arg : List Tok) (h : ∀ t ∈ arg, strzOkTok t = true) :
    Lex.lexOne (stringize hash arg).text = .one .str :=
  stringize_wellformed hash arg h

/-- non-vacuity: `"a\n" + c` satisfies the hypothesis; and the hypothesis is needed: for the argument `\` the buffer is
    `"\"`, an unterminated literal (chibicc: "unclosed string literal") -/
example : (∀ t ∈ [tk "\"a\\n\"" .str, tk "+" .punct, tk "c"], strzOkTok t = true) ∧
    Lex.lexOne (stringize (tk "#" .punct) [tk "\\" .punct]).text = .error := by decide +kernel

/-! ## `__COUNTER__` -/

/-- **C09 (`__COUNTER__`).**  `n` occurrences of `__COUNTER__` expand, in order, to `c, c+1, …, c+n-1` where `c` is
    the value of the counter before, and leave the counter at `c + n` (the C code starts at 0). -/
theorem C09_counter (lx : String → LexOne) (st : St) (ts : List Tok) (fuel : Nat)
    (hdef : st.defs.lookup "__COUNTER__" = some (.builtin .counter))
    (hts : ∀ t ∈ ts, t.kind = .ident ∧ t.text = "__COUNTER__" ∧ t.hide = []) (hfuel : 2 * ts.length ≤ fuel) :
    ∃ out st', preprocess2 lx fuel st ts = .ok (out, st') ∧ st'.counter = st.counter + ts.length ∧
      out.map (·.text) = (List.range ts.length).map (fun i => toString (st.counter + i)) :=
  preprocess2_counter lx st.defs hdef ts fuel st rfl hts hfuel

/-- non-vacuity: the table of `init_macros` binds `__COUNTER__` to the handler, and the counter starts at 0 -/
example : initDefs.lookup "__COUNTER__" = some (.builtin .counter) ∧ (initSt).counter = 0 := by decide +kernel

example : (preprocess 10 [tk "__COUNTER__", tk "__COUNTER__", tk "__COUNTER__"]).map (·.map (·.text))
    = .ok ["0", "1", "2"] := by decide +kernel

end ChibiVerif.Props.C09
