/-
C13 — per-component "no abort site is reached / every failure is a located diagnostic" theorems (DESIGN.md section 6, C13), on the
component models owned by C05, C08, C09, C10, C11.  Property theorems only; lemmas are in Lemmas/C13Layout, C13InitBase, C13Init,
C13Literals, C13Member, C13PP, LayoutTotal; instrumented doubles in Model/C13Sites.lean.  Notions of the statements that are
defined with the lemmas: `tyOK`, `toksOK`, `shape` (C13InitBase); `memDivSite`, `structAlign`, `unionAlign` (C13Layout); `accepted`
(LayoutTotal); `badShift`, `ILine.isPlain`, and the diagnostic classes `ArgDiag`, `CondDiag` (C13PP).

  component                          model                     abort sites of the C code, as outcomes of the model
  struct_decl / union_decl           Model/Layout              `align_to(n, 0)`, `bits / (sz * 8)` with sz = 0  (SIGFPE)        → Fail.divByZero
  get_struct_member                  Model/C13Sites (double)   `mem->name->len` with NULL `mem->name`                           → Fail.crash
  initializer parser (13 functions)  Model/Init                children[i] out of the block, member index, tok->str over-read,
                                                               unreachable(), array_designator on a token that is not `[`       → Fail.crash
  literal readers                    Model/C13Sites (double)   a read behind the terminating NUL                                → Fault.overread
  read_macro_args                    Model/PP                  `tok->next` behind TK_EOF                                        → (list exhausted) Err.prematureEnd
  #if / #elif / … machine            Model/CondIncl, PPExpr    division by zero (SIGFPE), cond_incl == NULL                     → Diag / PPErr.divZero
  include machine without the        Model/IncludeSearch       unbounded recursion of include_file                              → Diag.outOfFuel
    nesting limit (with it: Props/C13Components.lean, `C13_include_no_hang`)

Without the repairs 04ba5b8, fb20c9b, 8f0968b of /repo cc1 aborts at sites of this kind (SIGFPE for `aligned(0)` and for a
bit-field of a zero-sized type, SIGSEGV for the initializer of a union without members, `internal error` for a `long double`
bit-field in a static initializer); the models follow the repaired code, Findings/C13Sites.lean keeps the witnesses and
corpus/C13/seeds the inputs.
-/
import ChibiVerif.Lemmas.C13Layout
import ChibiVerif.Lemmas.C13Init
import ChibiVerif.Lemmas.C13Literals
import ChibiVerif.Lemmas.C13Member
import ChibiVerif.Lemmas.C13PP
import ChibiVerif.Lemmas.LayoutTotal
import ChibiVerif.Props.C09

namespace ChibiVerif.Props.C13

/-! ## struct_decl / union_decl (owner: C08) -/
section Layout
open ChibiVerif.Layout ChibiVerif.C13Layout

/-- **The SIGFPE sites of `struct_decl`, exactly.**  For every member list, `packed` flag and initial alignment (`aligned(n)`
    or 1) the layout loop divides by zero iff some member is a bit-field whose type has size 0 or a plain member (struct not
    packed) with alignment 0 — `bits / (sz * 8)`, `align_to(bits, sz * 8)`, `align_to(bits, mem->align * 8)` — or `ty->align`
    is 0 after the loop — `align_to(bits, ty->align * 8)`. -/
theorem C13_layout_struct_sites (packed : Bool) (a0 : Int) (ms : List Mem) :
    structLayout packed a0 ms = .error .divByZero ↔
      (ms.any (memDivSite packed) = true ∨ structAlign packed a0 ms * 8 = 0) :=
  structLayout_error_iff packed a0 ms

/-- **The SIGFPE site of `union_decl`, exactly**: `align_to(ty->size, ty->align)` with `ty->align == 0`. -/
theorem C13_layout_union_sites (packed : Bool) (a0 : Int) (ms : List Mem) :
    unionLayout packed a0 ms = .error .divByZero ↔ unionAlign packed a0 ms = 0 :=
  unionLayout_error_iff packed a0 ms

/-- **No SIGFPE for member lists as the (repaired) parser builds them.**  If the initial alignment is positive (`aligned(n)`
    is checked: /repo 04ba5b8), every plain member has a non-zero alignment (or the struct is packed) and every bit-field
    has a type of non-zero size (an integer type: /repo fb20c9b), `struct_decl` and `union_decl` lay the aggregate out
    and its alignment is positive — so an aggregate used as a member again satisfies the hypothesis. -/
theorem C13_layout_nocrash (packed : Bool) (a0 : Int) (ms : List Mem) (ha : 0 < a0)
    (hm : ms.any (memDivSite packed) = false) :
    (∃ l, structLayout packed a0 ms = .ok l ∧ 0 < l.align) ∧ (∃ l, unionLayout packed a0 ms = .ok l ∧ 0 < l.align) :=
  ⟨structLayout_ok packed a0 ms ha hm, unionLayout_ok packed a0 ms ha⟩

-- non-vacuity: `struct __attribute__((aligned(2))) { char a; int b : 40; long : 0; int c[0]; }`
example : (0 : Int) < 2 ∧ ([⟨1, 1, none, true⟩, ⟨4, 4, some 40, true⟩, ⟨8, 8, some 0, false⟩, ⟨0, 4, none, true⟩] : List Mem).any
    (memDivSite false) = false := by decide +kernel

/-- **Every type description is answered with a layout or one of the two located diagnostics** (corollary of C08's
    `Lemmas/LayoutTotal`, on the model that follows the parser's checks of fixes 04ba5b8 / fb20c9b / 33adb94): for every
    description — any nesting, `packed`, `aligned(n)`, `_Alignas` with constant or type operands, bit-fields of any declared
    type and width, arrays of any (also negative) length — `declarator`/`struct_members`/`struct_decl`/`union_decl` never
    divide by zero (32-bit wrap-around of `align * 8` included); they succeed exactly on the descriptions the two checks
    accept, and otherwise answer "alignment must be a power of two no larger than 2^28" or "bit-field has non-integer type". -/
theorem C13_layout_total (t : Ty) :
    t.layout ≠ .error .divByZero ∧ ((∃ l, t.layout = .ok l) ↔ t.accepted = true) ∧
    (t.accepted = false → t.layout = .error .badAlign ∨ t.layout = .error .bitfieldType) :=
  ⟨layout_ne_divByZero t, layout_ok_iff t, layout_diag_of_not_accepted t⟩

example : (Ty.struct false (some 3) .nil).accepted = false ∧ (Ty.struct false (some 3) .nil).layout = .error .badAlign ∧
    (Ty.struct false none (.cons ⟨some 1, true⟩ .nil (.struct false none .nil) .nil)).layout = .error .bitfieldType := by decide +kernel

end Layout

/-! ## get_struct_member (owner: C04/C05) -/
section Member
open ChibiVerif.Init ChibiVerif.C13Sites

/-- **`get_struct_member` never dereferences a NULL `mem->name`** (anonymous struct/union members, unnamed bit-fields), for
    every type and every name, and it finds a member exactly when the model the other properties use (`hasMember`) does. -/
theorem C13_member_lookup_nocrash (ty : Ty) (n : String) :
    ∃ r, getStructMemberI ty n = .ok r ∧ r.isSome = hasMember ty n :=
  getStructMemberI_ok ty n

example : getStructMemberI (.struct [(⟨none, 0, some (0, 3)⟩, .scalar 4 .int),
    (⟨none, 4, none⟩, .union [(⟨some "a", 0, none⟩, .scalar 4 .int), (⟨some "b", 0, none⟩, .scalar 4 .flt)] 4 false),
    (⟨some "c", 8, none⟩, .scalar 4 .int)] 12 false) "b" = .ok (some 1) := by decide +kernel

end Member

/-! ## the initializer parser (owner: C05) -/
section Init
open ChibiVerif.Init ChibiVerif.C13Init

/-- full statement over ALL model inputs: on every type description, every token list and every recursion budget the
    initializer parser answers with a tree or a diagnostic (or runs out of the budget), never at an abort site.  False only on
    descriptions no declaration produces (`is_flexible` set on an aggregate whose last member is not an array:
    Findings/C13Sites.lean); a union without members is covered since /repo 8f0968b. -/
def C13_init_nocrash_Statement : Prop :=
  ∀ (ty : Ty) (toks : List ITok) (fuel : Nat) (w : String),
    toksOK toks = true → initializer2 fuel ty toks (newInit ty true) ≠ .error (.crash w)

/-- **C13 (initializer parser never aborts; partial only in the two data invariants).**  For every type as
    `struct_members` builds it — `is_flexible` only on an aggregate whose last member is an array (`tyOK`; empty structs and
    unions, anonymous members, unnamed bit-fields, any nesting included) —, every token list whose string literals have
    element size 1, 2 or 4 as `tokenize` makes them (`toksOK`), and EVERY recursion budget: `initializer2` started on
    `new_initializer(ty, true)` ends in a tree of the shape of the type, in a diagnostic, or in the exhausted budget — never
    in `children[i]` outside the allocated block (negative, too large or range designators, excess elements, flexible
    array members whose bound is still unknown), a member index outside the list (designators naming members of anonymous
    structs and unions, unnamed bit-fields skipped), a read past a string literal, or `unreachable()`. -/
theorem C13_init_nocrash_partial (ty : Ty) (toks : List ITok) (hty : tyOK ty = true) (htoks : toksOK toks = true) (fuel : Nat) :
    (∀ w, initializer2 fuel ty toks (newInit ty true) ≠ .error (.crash w)) ∧
    (∀ init rest, initializer2 fuel ty toks (newInit ty true) = .ok (init, rest) → shape ty init = true) := by
  have h := (nc_all fuel).initializer2 ty toks (newInit ty true) hty (newInit_shape ty true hty) htoks
  refine ⟨fun w => h.not_crash w, ?_⟩
  intro init rest he
  rw [he] at h
  exact h.1

/-- the same for `parseInit` (the entry point the C05 tie runs), with its standard budget -/
theorem C13_parseInit_nocrash_partial (ty : Ty) (toks : List ITok) (hty : tyOK ty = true) (htoks : toksOK toks = true) (w : String) :
    parseInit ty toks ≠ .error (.crash w) :=
  (C13_init_nocrash_partial ty toks hty htoks (stdFuel ty toks)).1 w

-- non-vacuity: struct { int a; int :3; union { int b; float c; }; char d[]; } with `{ .c = 1, [5] = 2, {3}, "a" }`
example : tyOK (.struct [(⟨some "a", 0, none⟩, .scalar 4 .int), (⟨none, 4, some (0, 3)⟩, .scalar 4 .int),
      (⟨none, 8, none⟩, .union [(⟨some "b", 0, none⟩, .scalar 4 .int), (⟨some "c", 0, none⟩, .scalar 4 .flt)] 4 false),
      (⟨some "d", 12, none⟩, .array (.scalar 1 .int) 0)] 12 true) = true ∧
    toksOK [.lbrace, .dot "c", .eq, .expr (Expr.num 1), .comma, .idx 5, .eq, .expr (Expr.num 2), .comma, .lbrace,
      .expr (Expr.num 3), .rbrace, .comma, .str 0 [97, 0] 1, .rbrace] = true := by decide +kernel

/-- **Designator indices are checked before they are used.**  `array_designator` answers a negative index, an index at or
    beyond the bound, and a range reaching beyond it with the diagnostic; what it lets through lies inside `children`. -/
theorem C13_init_designator_bounds (len : Nat) (toks : List ITok) (b e : Nat) (rest : List ITok)
    (h : arrayDesignator len toks = .ok (b, e, rest)) : b ≤ e ∧ e < len := by
  have hb : isBracket toks = true := by
    cases toks with
    | nil => cases h
    | cons x _ => cases x <;> first | rfl | cases h
  have hs := arrayDesignator_safe len toks hb
  rw [h] at hs
  exact ⟨hs.1, hs.2.1⟩

example : arrayDesignator 3 [.idx (-1)] = .error (.diag "array designator index exceeds array bounds") ∧
    arrayDesignator 3 [.range 1 3] = .error (.diag "array designator index exceeds array bounds") ∧
    arrayDesignator 3 [.range 1 2, .eq] = .ok (1, 2, [.eq]) := by decide +kernel

/- That the standard budget of `parseInit` is never exhausted (`∀ ty toks, parseInit ty toks ≠ .error .fuel`) is
   `C13_init_no_hang` in Props/C13InitHang.lean. -/

end Init

/-! ## literal readers (owner: C11) -/
section Literals
open ChibiVerif.Literals ChibiVerif.Gen.Literals ChibiVerif.C13Sites

/-- **The literal arms of `tokenize()` never read behind the terminating NUL.**  For EVERY byte list (NUL bytes, bytes
    ≥ 0x80, truncated UTF-8, `"\` or `'\` or `\x` directly before the end, unclosed literals, …) the instrumented double — in
    which every `p[i]` with `i` beyond the terminator, and every pointer beyond it handed to `read_escaped_char`,
    `decode_utf8` or `strchr`, is the outcome `overread` — computes exactly what the model of C11's theorems computes. -/
theorem C13_literals_no_overread (p : List Byte) : lexLiteralI p = lift (lexLiteral p) :=
  lexLiteralI_eq p

/-- in particular the over-read outcome is never produced -/
theorem C13_literals_never_overread (p : List Byte) (i : Nat) : lexLiteralI p ≠ .error (.overread i) := by
  rw [lexLiteralI_eq p]
  cases lexLiteral p <;> simp [lift]

/-- the readers one by one, entered with the opening quote at `p[q]` inside the text -/
theorem C13_string_reader_no_overread (r : StrReader) (ty : Ty) (p : List Byte) (q : Nat) (hq : q < p.length) :
    readStringI r ty p q = lift (readString r ty p q) :=
  readStringI_eq r ty p q hq

theorem C13_char_reader_no_overread (p : List Byte) (q : Nat) (hq : q < p.length) :
    readCharLiteralI p q = lift (readCharLiteral p q) :=
  readCharLiteralI_eq p q hq

/-- `read_escaped_char` on any text (octal: at most three digits, each read only after the one before it was a digit;
    hexadecimal: stops at the first byte that is not a digit, the terminator at the latest) -/
theorem C13_escape_no_overread (p : List Byte) : readEscapedCharI p = lift (readEscapedChar p) :=
  (readEscapedChar_spec p).1

-- non-vacuity: `"\` at the end of the text, `'\x` at the end, and a well-formed `u"a\377"`
example : (1 : Nat) < ([34#8, 92#8] : List Byte).length ∧
    readStringI .narrow .ty_char [34#8, 92#8] 0 = .error (.lit .unclosedString) ∧
    readCharLiteralI [39#8, 92#8, 120#8] 0 = .error (.lit .invalidHexEscape) ∧
    (lexLiteralI [117#8, 34#8, 97#8, 92#8, 51#8, 55#8, 55#8, 34#8]).toBool = true := by decide +kernel

end Literals

/-! ## read_macro_args (owner: C09) -/
section Args
open ChibiVerif.PP ChibiVerif.C13PP

/-- **Argument collection answers with arguments or one of three located diagnostics**, for every parameter list and every
    token list: "premature end of input" (`tok->kind == TK_EOF` is tested before `tok->next` is followed, so the reader
    never steps behind the end of the list), `expected ','`, `expected ')'`.  Corollary of `C09_args_one`. -/
theorem C13_macro_args_located (ps : List String) (va : Option String) (ts : List Tok) (e : Err)
    (h : readMacroArgs ps va ts = .error e) : e = .prematureEnd ∨ e = .expected "," ∨ e = .expected ")" :=
  (readMacroArgs_ends ps va ts).of_error h

/-- an unbalanced invocation is answered by the diagnostic (restated from `C09_args_one`, second half) -/
theorem C13_macro_arg_unbalanced (readRest : Bool) (ts : List Tok) (e : Err)
    (h : readMacroArgOne readRest 0 ts = .error e) : e = .prematureEnd :=
  (ChibiVerif.Props.C09.C09_args_one readRest ts [] []).2 e h

example : readMacroArgs ["x"] none [{ kind := .punct, text := "(" }, { kind := .ident, text := "a" }] = .error .prematureEnd ∧
    readMacroArgs ["x"] none [{ kind := .ident, text := "a" }, { kind := .punct, text := "," }] = .error (.expected ")") := by
  decide

end Args

/-! ## conditional inclusion and `#if` arithmetic (owner: C10) -/
section Cond
open ChibiVerif.CondIncl ChibiVerif.PPExpr ChibiVerif.C13PP

/-- **Every failure of the conditional-inclusion machine is a located diagnostic of a directive**: stray `#elif`/`#else`/
    `#endif` (the `cond_incl == NULL` tests), "unterminated conditional directive", `#error`, a malformed directive — or the
    one class the evaluator of controlling expressions reports.  Never the include machine's `outOfFuel`/`cannotOpen`.
    For every line list and every macro table. -/
theorem C13_condincl_located (ls : List (Line Expr Body)) (defs : Defs Body) (d : Diag)
    (h : condMachine evC ls defs = .error d) :
    d = .strayElif ∨ d = .strayElse ∨ d = .strayEndif ∨ d = .unterminated ∨ d = .errorDirective ∨ d = .badDirective ∨
      d = .badExpr := by
  simpa only [CondDiag, or_assoc] using ((condMachine_ends evC ls defs).of_error h).of_evC

example : condMachine evC [.opens (.ifE (.bin .div (.num 1 false) (.num 0 false)))] ([] : Defs Body) = .error .badExpr ∧
    condMachine evC [.opens (.ifE (.num 1 false))] ([] : Defs Body) = .error .unterminated := by decide +kernel

/-- **Division by zero in `#if` is the diagnostic, never a trap** (both arithmetics), and apart from it and a shift count
    outside [0, 64) chibicc's host arithmetic answers every operator — `INTMAX_MIN / -1` and `% -1` included. -/
theorem C13_ppif_arith_total (op : BinOp) (a b : Val) (hop : op ≠ .land ∧ op ≠ .lor) :
    (∃ v, arith false op a b = .ok v) ∨
    (arith false op a b = .error .divZero ∧ (op = .div ∨ op = .mod) ∧ b.bits = 0#64) ∨
    (arith false op a b = .error .undefinedBeh ∧ badShift op b = true) := by
  cases op with
  | land => exact absurd rfl hop.1
  | lor => exact absurd rfl hop.2
  | div | mod =>
    by_cases hb : b.bits = 0#64
    · exact .inr (.inl ⟨if_pos (beq_iff_eq.2 hb), by simp, hb⟩)
    · exact .inl (ok_ite (fun h => absurd (eq_of_beq h) hb) fun _ => ok_ite (fun _ => ⟨_, rfl⟩) fun _ => ⟨_, rfl⟩)
  | shl | shr =>
    -- a count outside [0, 64) is undefined on the host too; the campaign watches that case as `ubsan_only`
    cases hn : (b.int < 0 || b.int ≥ 64)
    · exact .inl (ok_ite (fun h => absurd (hn ▸ h) nofun) fun _ => ok_ite (fun _ => ⟨_, rfl⟩) fun _ => ⟨_, rfl⟩)
    · exact .inr (.inr ⟨if_pos hn, by simp [badShift, hn]⟩)
  | mul | add | sub | lt | le | gt | ge | eq | ne | band | bxor | bor => exact .inl ⟨_, rfl⟩

theorem C13_ppif_div_zero (strict : Bool) (a b : Val) (h : b.bits = 0#64) :
    arith strict .div a b = .error .divZero ∧ arith strict .mod a b = .error .divZero :=
  ⟨if_pos (beq_iff_eq.2 h), if_pos (beq_iff_eq.2 h)⟩

example : BinOp.div ≠ .land ∧ BinOp.div ≠ .lor := by decide +kernel
example : (arith false .div ⟨0x8000000000000000#64, false⟩ ⟨0xFFFFFFFFFFFFFFFF#64, false⟩).toBool = true := by decide +kernel

end Cond

/-! ## the include machine (owner: C10) -/
section Incl
open ChibiVerif.CondIncl ChibiVerif.IncludeSearch ChibiVerif.C13PP

/-- **Without `#include` lines the step budget `length` suffices** (the include machine is then the conditional machine,
    which consumes one line per step); with them it need not: Findings/C13Sites.lean (include cycle). -/
theorem C13_include_plain_no_hang (fs : FS PPExpr.Expr PPExpr.Body) (paths : List String) (g : Bool) (fuel : Nat)
    (ls : List (String × ILine PPExpr.Expr PPExpr.Body)) (m : Mode) (s : IState PPExpr.Body)
    (hp : ∀ x ∈ ls, C13PP.ILine.isPlain x.2 = true) (hl : ls.length ≤ fuel) :
    runInc PPExpr.evC fs paths g fuel ls m s ≠ .error .outOfFuel := by
  intro h
  simpa [CondDiag] using ((runInc_plain_ends PPExpr.evC fs paths g fuel ls m s hp hl).of_error h).of_evC

example : ∀ x ∈ [("f.c", (ILine.c (.plain .other) : ILine PPExpr.Expr PPExpr.Body))], C13PP.ILine.isPlain x.2 = true := by
  intro x hx
  simp only [List.mem_singleton] at hx
  subst hx
  rfl

end Incl

end ChibiVerif.Props.C13
