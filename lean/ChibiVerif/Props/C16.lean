/-
C16 — atomic read-modify-write operations are indivisible.

Property theorems only (helper lemmas: Lemmas/AtomicsLemmas.lean; model: Model/Atomics.lean).
Companion files: Props/C16Width.lean (type.c ND_CAS / ND_EXCH accept only operands of ONE width, and the code generator then
prints exactly the sequences whose interleavings are studied here; plain loads/stores are single instructions),
Props/C16Qual.lean (`_Atomic` propagation: every lvalue that is atomic in C is updated through these sequences).
Every theorem is for every object width (8, 16, 32, 64 bits), every kind of object type (signed,
unsigned, floating: this selects the register extension and, for ND_EXCH, the moves between %xmm0 and %rax), every number of
threads (`C16_cas_spec` and `C16_exchange`: one thread against arbitrary values of the object), every
program (list of operations per thread, the update functions being arbitrary), every initial
value and every schedule (finite list of thread ids; one entry = one instruction of that thread).
The notions the statements use (`pendingOps`, `pendingRes`, `believes`, `Waiting`, `distanceOf`, `trapped`) are defined in
Model/Atomics.lean, sections "thread-local bookkeeping used by the statements" and "progress bookkeeping".
-/
import ChibiVerif.Lemmas.AtomicsLemmas

namespace ChibiVerif.Props.C16
open ChibiVerif.Atomics

/-- **C16 (compare-exchange).**  The ND_CAS instruction sequence of one thread, started with the
    expected-value object holding `e` and the third argument's register value `d` (any upper bits),
    while other threads run in between (the object holds the arbitrary values `c1..c4` during the four
    instructions before the locked one, `c` at the locked instruction, `c5..c8` afterwards):
    * the thread arrives at `lock cmpxchg`, and that single instruction stores the low `w` bits of `d`
      iff `c = e`, otherwise leaves the object unchanged;
    * it is the linearization point, logged with the result the operation will report;
    * the remaining instructions do not touch the object; the operation reports `1` and leaves the
      expected-value object alone iff `c = e`, otherwise reports `0` and has stored `c` there;
      `%eax` holds the reported flag. -/
theorem C16_cas_spec (w : Width) (k : Kind) (th : Thread w) (e : Word w) (d : BitVec 64) (rest : List (Oper w))
    (htodo : th.todo = .cas e d :: rest) (hpc : th.pc = .casNew) (hold : th.old = e)
    (c1 c2 c3 c4 c c5 c6 c7 c8 : Word w) :
    let th4 := stepsT k th [c1, c2, c3, c4]
    let out := stepThread k c th4
    let tail := if c = e then [c5, c6, c7] else [c5, c6, c7, c8]
    let th' := stepsT k out.th tail
    let res : Result w := .cas (decide (c = e)) (if c = e then e else c)
    th4.pc = .cmpxchg ∧
    out.cell = (if c = e then readReg w d else c) ∧
    out.ev = some (.commit (.cas e d) res) ∧
    (Oper.cas e d).spec c = some (out.cell, res) ∧
    th'.todo = rest ∧ th'.results = th.results ++ [res] ∧
    th'.rax = (if c = e then 1#64 else 0#64) := by
  by_cases hc : c = e
  · subst hc
    simp [stepsT, stepT, stepThread, htodo, hpc, hold, lockCmpxchg, readReg_loadExt, Oper.spec]
  · simp [stepsT, stepT, stepThread, htodo, hpc, hold, lockCmpxchg, readReg_loadExt, readReg_writeReg,
      Oper.spec, hc]

/-- non-vacuity of `C16_cas_spec`: a failing 8-bit compare-exchange whose registers carry different
    upper bits (`%rdx` = 0x1234, expected value 0xff sign-extended, object 0x80) -/
example :
    let th : Thread .w8 := mkThread [.cas 0xff#8 0x1234#64]
    let th' := stepsT .signed th [0, 0, 0, 0, 0x80#8, 0, 0, 0, 0]
    th'.results = [.cas false 0x80#8] ∧ th'.rax = 0#64 := by decide +kernel

example :
    (stepThread (w := .w8) .signed 0xff#8 (stepsT .signed (mkThread [.cas 0xff#8 0x1234#64]) [0, 0, 0, 0])).cell
      = (0x34#8 : BitVec 8) := by decide +kernel

/-- **C16 (linearizability).**  In every reachable state
    * the object holds exactly what the committed operations produce when they are applied one after the
      other, in the order of their linearization points (successful `lock cmpxchg`, `xchg`, the single load
      or store), to the initial value - and every logged result is the one the sequential specification
      yields at that point (`replay` checks both);
    * for every thread, its committed operations followed by its uncommitted ones are its program: every
      operation is committed at most once, in program order, nothing is skipped;
    * the results the thread has reported so far (plus the one it is about to report) are the results of its
      linearization points, in order: an operation completes only after it has been committed, and it
      reports what the sequential execution in commit order yields. -/
theorem C16_linearizable (w : Width) (k : Kind) (init : Word w) (progs : List (List (Oper w))) (sched : List Nat) :
    let s := exec sched (initSys w k init progs)
    replay init s.log = some s.cell ∧
    s.threads.length = progs.length ∧
    ∀ t th, s.threads[t]? = some th →
      progs[t]? = some ((commitsOf t s.log).map Prod.fst ++ th.pendingOps) ∧
      (commitsOf t s.log).map Prod.snd = th.results ++ th.pendingRes.toList := by
  have g := Good_exec sched (Good_init k init progs)
  refine ⟨g.lin, g.len, ?_⟩
  intro t th hth
  obtain ⟨_, h2, h3, _⟩ := g.thr t th hth
  exact ⟨h2, h3⟩

/-- **C16 (no lost update).**  When every thread has finished its program, the committed operations
    are all operations of all programs, each exactly once (a permutation of their concatenation), and the
    object holds the result of applying them in commit order. -/
theorem C16_no_lost_update (w : Width) (k : Kind) (init : Word w) (progs : List (List (Oper w))) (sched : List Nat) :
    let s := exec sched (initSys w k init progs)
    s.terminated = true →
      ((commits s.log).map (·.2.1)).Perm progs.flatten ∧
      s.cell = ((commits s.log).map (·.2.1)).foldl applyOp init := by
  intro s hterm
  have g : Good init progs s := Good_exec sched (Good_init k init progs)
  have ht : ∀ th ∈ s.threads, th.todo = [] := by
    intro th hth
    have := List.all_eq_true.mp hterm th hth
    simpa [Thread.done] using this
  exact ⟨commits_perm g ht, replay_foldl _ _ _ g.lin⟩

/-- **C16 (commutative updates).**  If the operations of the programs commute pairwise (as `+=`, `-=`,
    `*=`, `&=`, `|=`, `^=`, `++`, `--` do), the final value of every terminated run is the initial value
    with all operations applied, in any order - here program after program. -/
theorem C16_final_value_commutative (w : Width) (k : Kind) (init : Word w) (progs : List (List (Oper w)))
    (sched : List Nat)
    (hcomm : ∀ o1 ∈ progs.flatten, ∀ o2 ∈ progs.flatten, ∀ c, applyOp (applyOp c o1) o2 = applyOp (applyOp c o2) o1) :
    let s := exec sched (initSys w k init progs)
    s.terminated = true → s.cell = progs.flatten.foldl applyOp init := by
  intro s hterm
  obtain ⟨hperm, hcell⟩ := C16_no_lost_update w k init progs sched hterm
  rw [hcell]
  apply hperm.foldl_eq'
  intro x hx y hy z
  exact hcomm x (hperm.mem_iff.mp hx) y (hperm.mem_iff.mp hy) z

/-- **C16 (no update lost by `op=`, `++`, `--`, `atomic_fetch_*`).**  Any number of threads, each performing
    any list of updates `x op= v` (`(op, v, yields-old?)`, the last flag distinguishing `atomic_fetch_*` from `op=`)
    with operators of one commuting class - `+=`/`-=`/`++`/`--`, or `*=`, or `&=`, or `|=`, or `^=` - on an
    object of any width and signedness, with `(T)(old op val)` computed as chibicc does (promotion to `int`,
    operation, truncation): under every schedule, once all threads have finished the object holds the initial
    value with every single update applied. -/
theorem C16_opassign_no_lost_update (w : Width) (k : Kind) (sg : Bool) (init : Word w)
    (progs : List (List (Op × Word w × Bool))) (cls : Nat)
    (hcls : ∀ p ∈ progs.flatten, p.1.commClass = some cls) (sched : List Nat) :
    let toOper : Op × Word w × Bool → Oper w := fun p => .rmw (Op.fn w sg p.1 p.2.1) p.2.2
    let s := exec sched (initSys w k init (progs.map (·.map toOper)))
    s.terminated = true → s.cell = progs.flatten.foldl (fun c p => p.1.pure c p.2.1) init := by
  intro toOper s hterm
  have hflat : (progs.map (·.map toOper)).flatten = progs.flatten.map toOper := by
    rw [List.map_flatten]
  have hsome : ∀ p ∈ progs.flatten, p.1.commClass.isSome = true := fun p hp => by rw [hcls p hp]; rfl
  have hcomm : ∀ o1 ∈ (progs.map (·.map toOper)).flatten, ∀ o2 ∈ (progs.map (·.map toOper)).flatten, ∀ c,
      applyOp (applyOp c o1) o2 = applyOp (applyOp c o2) o1 := by
    rw [hflat]
    intro o1 h1 o2 h2 c
    obtain ⟨p1, hp1, rfl⟩ := List.mem_map.mp h1
    obtain ⟨p2, hp2, rfl⟩ := List.mem_map.mp h2
    simp only [toOper, applyOp_rmw_fn w sg _ (hsome p1 hp1), applyOp_rmw_fn w sg _ (hsome p2 hp2)]
    exact Op.pure_comm p1.1 p2.1 (hsome p1 hp1) (by rw [hcls p1 hp1, hcls p2 hp2]) c p1.2.1 p2.2.1
  have hfin := C16_final_value_commutative w k init (progs.map (·.map toOper)) sched hcomm hterm
  rw [hfin, hflat, List.foldl_map]
  apply List.foldl_congr_mem
  intro c p hp
  exact applyOp_rmw_fn w sg _ (hsome p hp) _ _ _

/-- non-vacuity: three threads, `x += 200`, `x -= 77`, `x++` twice, on an `unsigned char` starting at 250 -/
example : ∀ p ∈ ([[(Op.add, 200#8, false)], [(Op.sub, 77#8, false)], [(Op.add, 1#8, true), (Op.add, 1#8, false)]] :
    List (List (Op × Word .w8 × Bool))).flatten, p.1.commClass = some 0 := by decide +kernel

/-- **C16 (lock-freedom).**  A `lock cmpxchg` of a retry loop fails only if another thread has committed
    an operation after this thread's latest read of the object (its initial load or its previous failed
    `lock cmpxchg`): the log then ends `… e … ` with `e` a commit of another thread and nothing of this
    thread after it.  Equivalently: if nobody else commits, the next attempt succeeds. -/
theorem C16_lockfree (w : Width) (k : Kind) (init : Word w) (progs : List (List (Oper w))) (sched : List Nat)
    (t : Nat) (th : Thread w) (f : Word w → Option (Word w)) (ro : Bool) (rest : List (Oper w)) :
    let s := exec sched (initSys w k init progs)
    s.threads[t]? = some th → th.todo = .rmw f ro :: rest → th.pc = .cmpxchg →
    (stepThread s.kind s.cell th).th.zf = false →
    ∃ l1 e l2, s.log = l1 ++ e :: l2 ∧ e.kind.isCommit = true ∧ e.tid ≠ t ∧ ∀ e' ∈ l2, e'.tid ≠ t := by
  intro s hth htodo hpc hfail
  have g : Good init progs s := Good_exec sched (Good_init k init progs)
  obtain ⟨_, _, _, hbel⟩ := g.thr t th hth
  apply noCommitSince_false
  cases hn : noCommitSince t s.log with
  | false => rfl
  | true =>
    exfalso
    have hb : th.believes = some (readReg w th.rax) := by simp [Thread.believes, htodo, hpc]
    have hcell := hbel _ hb hn
    simp [stepThread, htodo, hpc, lockCmpxchg, hcell] at hfail

/-- non-vacuity of `C16_lockfree` and of the failure path in general: two threads doing `x += 1` on an 8-bit
    object; thread 0 runs its 7 instructions up to the `lock cmpxchg`, thread 1 completes its locked instruction,
    then thread 0 is at `lock cmpxchg`, its attempt is going to fail (ZF = 0), and the log ends with thread 1's commit -/
example :
    let incr : Oper .w8 := .rmw (fun c => some (c + 1)) false
    let s := exec (List.replicate 7 0 ++ List.replicate 8 1) (initSys .w8 .unsigned 0#8 [[incr], [incr]])
    s.threads.map (·.pc) = [.cmpxchg, .sete] ∧
    (s.threads.map fun th => (stepThread s.kind s.cell th).th.zf) = [false, true] ∧
    s.log.map (fun e => (e.tid, e.kind.isCommit)) = [(0, false), (1, false), (1, true)] := by decide +kernel

set_option maxRecDepth 8000 in
/-- non-vacuity of `C16_no_lost_update`: the same run continued to termination (thread 0 fails, writes the observed
    value back, goes round the loop and commits): nothing is lost, `x += 1` yields 2 in thread 0 and 1 in thread 1 -/
example :
    let incr : Oper .w8 := .rmw (fun c => some (c + 1)) false
    let s := exec (List.replicate 7 0 ++ List.replicate 8 1 ++ List.replicate 25 0 ++ List.replicate 9 1)
      (initSys .w8 .unsigned 0#8 [[incr], [incr]])
    s.terminated = true ∧ s.cell = 2#8 ∧ s.threads.map (·.results) = [[.val 2#8], [.val 1#8]] := by decide +kernel

/-- **C16 (lock-freedom, bounded).**  From any reachable state in which thread `t` is inside a retry loop whose
    current attempt has not (yet) succeeded: along any continuation during which no operation of any thread
    commits, thread `t` has either trapped (division) or each of its instructions brought it one closer to its
    next successful `lock cmpxchg` - so it executes at most 30 instructions (= one failing round + one
    succeeding round of the loop).  Hence whenever some thread in a retry loop takes more than 30 steps, some
    operation (its own or another thread's) has committed: the system as a whole always makes progress. -/
theorem C16_lockfree_progress (w : Width) (k : Kind) (init : Word w) (progs : List (List (Oper w)))
    (sched0 sched : List Nat) (t : Nat) (f : Word w → Option (Word w)) (ro : Bool) (rest : List (Oper w)) :
    let s := exec sched0 (initSys w k init progs)
    let s' := exec sched s
    Waiting s t f ro rest →
      (ncommits s' = ncommits s → trapped s' t ∨ sched.count t + distanceOf s' t = distanceOf s t) ∧
      (sched.count t > 30 → ncommits s < ncommits s' ∨ trapped s' t) := by
  intro s s' hw
  have g : Good init progs s := Good_exec sched0 (Good_init k init progs)
  have aux := fun h => progress_aux (init := init) (progs := progs) t f ro rest sched g hw h
  refine ⟨aux, ?_⟩
  intro hcount
  have hmono := ncommits_exec sched s
  by_cases hn : ncommits s' = ncommits s
  · rcases aux hn with h | h
    · exact Or.inr h
    · exfalso
      have hd : distanceOf s t ≤ 30 := by
        unfold distanceOf
        cases s.threads[t]? with
        | none => simp
        | some th => exact distance_le th s.cell
      omega
  · left
    have : ncommits s ≤ ncommits s' := hmono
    omega

/-- non-vacuity of `C16_lockfree_progress`: initially every thread of a two-thread `x += 1` program is waiting,
    at distance 8 from its commit -/
example : Waiting (initSys .w8 .unsigned 0#8 [[ChibiVerif.Atomics.Oper.rmw (fun c => some (c + 1)) false],
    [.rmw (fun c => some (c + 1)) false]]) 1 (fun c => some (c + 1)) false [] :=
  ⟨_, rfl, rfl, rfl, by decide⟩

/-- **C16 (exchange).**  ND_EXCH: after the (private) evaluation of the second argument - and, for a floating
    object, its move from `%xmm0` to `%rax` - the single `xchg` instruction, executed while the object holds
    `c`, installs the low `w` bits of the argument register `v` (any upper bits) and is the linearization point
    with result `c`; the operation reports `c` (for 1- and 2-byte objects after the extension instruction, for
    floating objects after the move back), and `reg_ax(w)` holds `c`. -/
theorem C16_exchange (w : Width) (k : Kind) (th : Thread w) (v : BitVec 64) (rest : List (Oper w))
    (htodo : th.todo = .xchg v :: rest) (hpc : th.pc = .xload) (c1 c2 c c3 : Word w) :
    let th1 := stepT k th c1
    let th2 := if k = .flo then stepT k th1 c2 else th1
    let out := stepThread k c th2
    let th' := if xchgHasPost w k then stepT k out.th c3 else out.th
    th2.pc = .xchg ∧
    out.cell = readReg w v ∧
    out.ev = some (.commit (.xchg v) (.val c)) ∧
    (Oper.xchg v).spec c = some (out.cell, .val c) ∧
    th'.todo = rest ∧ th'.results = th.results ++ [.val c] ∧
    readReg w th'.rax = c := by
  cases k <;> cases hn : w.narrow <;>
    simp [stepT, stepThread, htodo, hpc, hn, xchgHasPost, Oper.spec, readReg_writeReg, readReg_loadExt]

/-- non-vacuity of `C16_exchange`: exchanging 5 into a `signed char` object holding -1 (register upper bits differ) -/
example :
    let th : Thread .w8 := mkThread [.xchg 0xabcd05#64]
    let out := stepThread .signed (0xff#8 : Word .w8) (stepT .signed th 0)
    let th' := stepT .signed out.th 0
    (out.cell : BitVec 8) = 0x05#8 ∧ th'.results = [.val 0xff#8] ∧ th'.rax = 0xffffffff#64 := by decide +kernel

end ChibiVerif.Props.C16
