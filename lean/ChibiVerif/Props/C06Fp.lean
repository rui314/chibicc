/-
C06 — calls obey the System V x86-64 calling convention: argument conversions with a floating type on either side
(continuation of Props/C06.lean; kept in a file of its own because it rests on C02's theorems and on its `FpuSpec`).

The property theorems, with `pushSeqOf` (what `push_args2` pushes for a value of each arithmetic type) and `SlotHolds` (what the pushed
slot then carries) defined here.  `Holds`, `usesX87Arith`: Lemmas/FpVocabulary.lean; `Represents`: Lemmas/C01Lemmas.lean; `FpuSpec`,
`pc`: Spec/FpuSpec.lean.  Helper lemmas: Lemmas/C06ArgLemmas.lean, Lemmas/C06ArgFpLemmas.lean.
Model: Model/C06Args.lean over the translated `Gen.Funcall.argStep` (parse.c `funcall()`), the cast table regenerated from
codegen.c; machine: Model/FpMachine.lean; conversions: `C02_select`.
-/
import ChibiVerif.Lemmas.C06ArgLemmas
import ChibiVerif.Lemmas.C06ArgFpLemmas
import ChibiVerif.Props.C02

namespace ChibiVerif.Props.C06

/-! ### arguments with a floating side (relative to C02's `FpuSpec`) -/

section ArgsFp
open ChibiVerif.C06Args ChibiVerif.Fp ChibiVerif.Spec.Fpu ChibiVerif.Spec.FpC11 ChibiVerif.Spec.IntSpec
open ChibiVerif.Gen.CommonType

/-- what `push_args2` pushes for a value of arithmetic type `t` held as `gen_expr` leaves it -/
def pushSeqOf : ChibiVerif.Spec.FpC11.ATy → List ChibiVerif.Asm.Ins
  | .int _ => [⟨"push", [.r "%rax"]⟩]
  | .f32 | .f64 => pushfSeq
  | .f80 => pushLdSeq

/-- the pushed slot carries the value `y` of type `t`: integers as under `Represents`, a float in the low 4 bytes of the 8-byte
    slot (the rest is unspecified, as the psABI allows for %xmm), a double in the 8 bytes, a long double in the low 10 of 16 -/
def SlotHolds (t : ChibiVerif.Spec.FpC11.ATy) (s : FState) (y : AVal) : Prop :=
  match t, y with
  | .int t, .int v => ChibiVerif.C01.Represents t (s.x.read64 (s.x.get .rsp)) v
  | .f32, .f32 b => (s.x.read64 (s.x.get .rsp)).setWidth 32 = b
  | .f64, .f64 b => s.x.read64 (s.x.get .rsp) = b
  | .f80, .f80 b => read80 s.x (s.x.get .rsp) = b
  | _, _ => False

/-- **C06 (the argument slot holds the C11 conversion of the argument) — a floating type on either side.**  For every FPU
    meeting the contracts of `FpuSpec`, every parameter and argument type among the twelve arithmetic types with a floating
    side (all 63 pairs, every value for which C11 defines the conversion), every machine state holding the argument value `x`
    where `gen_expr` leaves it: the cast `funcall()` inserts prints C02's cast-table cell, and after `push_args2`'s push
    (`push %rax` / `pushf()` / `sub $16, %rsp; fstpt (%rsp)`) the slot at (%rsp) carries `convert to x` (6.5.2.2p7 with 6.3.1.4,
    6.3.1.5) — the value `movsd (%rsp), %xmmN` moves into the argument register, or the callee reads in place; the x87 control
    word is restored.  `hpc`: the two cells that do x87 arithmetic (unsigned long ↔ long double) need the x87 precision control
    the psABI prescribes at function entry (PC = 11b), as in `C02_select`. -/
theorem C06_arg_convert_fp (F : FpuSpec) (frm to : ChibiVerif.Spec.FpC11.ATy) (variadic : Bool) (s : FState) (x y : AVal)
    (hfp : frm.isFp = true ∨ to.isFp = true) (hh : Holds frm s x) (hc : ChibiVerif.Spec.FpC11.convert F s.cw to x = some y)
    (hpc : usesX87Arith frm to = true → pc s.cw = 3#2) :
    ∃ code s', argSeq variadic (some (descrA to)) (descrA frm) = some code ∧
      Fp.run F (code ++ pushSeqOf to) s = some s' ∧ SlotHolds to s' y ∧ s'.cw = s.cw := by
  obtain ⟨s1, hrun, hhold, hcw, _, _⟩ := ChibiVerif.Props.C02.C02_select F frm to s x y hfp hh hc hpc
  -- the push of `push_args2` for a value held where `gen_expr` leaves it: the slot carries the value, the control word stays
  have push_holds : ∀ (t : ChibiVerif.Spec.FpC11.ATy) (s : FState) (y : AVal), Holds t s y →
      ∃ s', Fp.run F (pushSeqOf t) s = some s' ∧ SlotHolds t s' y ∧ s'.cw = s.cw := by
    intro t s y h
    cases t with
    | int t =>
      cases y with
      | int w => exact ⟨{ s with x := pushed s.x }, rfl, by simp only [SlotHolds]; rw [pushed_slot]; exact h, rfl⟩
      | _ => exact h.elim
    | f32 =>
      cases y with
      | f32 b =>
        obtain ⟨s', h1, h2, _, _, h5⟩ := pushf_ok F s
        exact ⟨s', h1, by simp only [SlotHolds, h2]; exact h, h5⟩
      | _ => exact h.elim
    | f64 =>
      cases y with
      | f64 b =>
        obtain ⟨s', h1, h2, _, _, h5⟩ := pushf_ok F s
        exact ⟨s', h1, by simp only [SlotHolds, h2]; exact h, h5⟩
      | _ => exact h.elim
    | f80 =>
      cases y with
      | f80 b =>
        obtain ⟨rest, hst⟩ := h
        obtain ⟨s', h1, h2, _, _, h5⟩ := pushld_ok F s b rest hst
        exact ⟨s', h1, h2, h5⟩
      | _ => exact h.elim
  obtain ⟨s', h1, h2, h3⟩ := push_holds to s1 y hhold
  exact ⟨Fp.castSeq frm to, s', argSeq_arith frm to variadic, (Fp.run_append F _ _ s s1 hrun).trans h1, h2, h3.trans hcw⟩

/-- non-vacuity: on the toy FPU, `double` parameter, `unsigned int` argument 4000000000 with garbage above bit 31 -/
example : ∃ (F : FpuSpec) (s : FState) (y : AVal),
    Holds (.int .u32) s (.int 4000000000) ∧ ChibiVerif.Spec.FpC11.convert F s.cw .f64 (.int 4000000000) = some y ∧
    (usesX87Arith (.int .u32) .f64 = true → pc s.cw = 3#2) :=
  ⟨Toy.toy, ⟨{ regs := fun _ => 0xdeadbeefee6b2800#64, mem := fun _ => 0 }, 0, 0, [], 0x37f#16⟩, _,
    by simp [Holds, RInt, ITy.inRange, ITy.min, ITy.max, ITy.signed, ITy.bits, X86.State.get], rfl, by decide⟩

/-- **C06 (`_Bool` parameter, floating argument).**  The slot is exactly 0 or 1 for every float / double / long double value,
    NaNs (true) and −0.0 (false) included: 1 iff the value compares unequal to zero (6.3.1.2). -/
theorem C06_arg_bool_normalised_fp (F : FpuSpec) (frm : ChibiVerif.Spec.FpC11.ATy) (variadic : Bool) (s : FState) (x : AVal)
    (hfp : frm.isFp = true) (hh : Holds frm s x) :
    ∃ code s', argSeq variadic (some ty_bool) (descrA frm) = some code ∧
      Fp.run F (code ++ [⟨"push", [.r "%rax"]⟩]) s = some s' ∧
      (s'.x.read64 (s'.x.get .rsp) = 0#64 ∨ s'.x.read64 (s'.x.get .rsp) = 1#64) := by
  have hconv : ∃ y, ChibiVerif.Spec.FpC11.convert F s.cw (.int .bool) x = some y := by
    cases frm <;> cases x <;> simp_all [Holds, ChibiVerif.Spec.FpC11.ATy.isFp, ChibiVerif.Spec.FpC11.convert, ChibiVerif.Spec.FpC11.fpToInt]
  obtain ⟨y, hy⟩ := hconv
  have hpc : usesX87Arith frm (.int .bool) = true → pc s.cw = 3#2 := by
    intro h; cases frm <;> simp [usesX87Arith] at h
  obtain ⟨code, s', h1, h2, h3, _⟩ := C06_arg_convert_fp F frm (.int .bool) variadic s x y (Or.inl hfp) hh hy hpc
  refine ⟨code, s', h1, h2, ?_⟩
  cases y with
  | int w => exact (represents_bool _ w h3).1
  | _ => exact h3.elim

example : ∃ (s : FState), Holds .f64 s (.f64 0x7ff8000000000000#64) :=
  ⟨⟨{ regs := fun _ => 0, mem := fun _ => 0 }, 0x7ff8000000000000#64, 0, [], 0x37f#16⟩, rfl⟩

/-- **C06 (default argument promotions, `float`).**  A trailing `float` argument is converted by the `float → double` cell
    (`cvtss2sd`) and pushed as a double; `double` and `long double` trailing arguments get no instruction. -/
theorem C06_arg_default_promotions_fp (F : FpuSpec) (s : FState) (b : BitVec 32) (hh : Holds .f32 s (.f32 b)) :
    (∃ code s', argSeq true none (descrA .f32) = some code ∧ Fp.run F (code ++ pushfSeq) s = some s' ∧
      s'.x.read64 (s'.x.get .rsp) = F.cvtss2sd b) ∧
    argSeq true none (descrA .f64) = some [] ∧ argSeq true none (descrA .f80) = some [] := by
  refine ⟨?_, argSeq_tail_f64, argSeq_tail_f80⟩
  obtain ⟨s1, hrun, hhold, _⟩ := ChibiVerif.Props.C02.C02_select F .f32 .f64 s (.f32 b) (.f64 (F.cvtss2sd b))
    (Or.inl rfl) hh rfl (fun h => absurd h (by decide))
  obtain ⟨s', h1, h2, _⟩ := pushf_ok F s1
  exact ⟨_, s', argSeq_tail_f32, (Fp.run_append F _ _ s s1 hrun).trans h1, h2.trans hhold⟩

example : ∃ (s : FState), Holds .f32 s (.f32 0x3fc00000#32) :=
  ⟨⟨{ regs := fun _ => 0, mem := fun _ => 0 }, 0xaaaaaaaa3fc00000#64, 0, [], 0x37f#16⟩, rfl⟩

end ArgsFp

end ChibiVerif.Props.C06
