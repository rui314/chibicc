/-
C14 — driver process discipline under failure and concurrency.

Property theorems and their examples (helper lemmas: Lemmas/C14RunLemmas.lean and, through it, Lemmas/DriverProcOutputs.lean,
Lemmas/DriverProcConcurrent.lean, Lemmas/DriverProcLemmas.lean, over Model/DriverProc.lean).  What the statements use beyond
the model — `Writes`, `Touches`, `Setup`, `cCount`, `cc1Out`, `Accepted`, `countB` — is defined in Lemmas/C14Vocabulary.lean.
Every theorem is for all path types `P`, all commands (any number of inputs of any kinds), all fault schedules `env.sched`
(each child of each kind may end with any exit code or any signal, a failing as/ld may leave its output untouched, leave junk
in it, or remove it), all mkstemp behaviours `env.fresh` and all initial file systems, unless a hypothesis says otherwise.
-/
import ChibiVerif.Lemmas.C14RunLemmas

namespace ChibiVerif.Props.C14
open ChibiVerif.DriverProc

variable {P : Type} [DecidableEq P]

/-- **C14 (the driver always exits).**  Every run ends, after at most `fuel` steps, in a configuration
    `done code`; the model-internal error state is unreachable. -/
theorem C14_terminates (env : Env P) (cmd : Cmd P) (fs : FS P) :
    ∃ code, (runCmd env cmd fs).1.phase = .done code := by
  obtain ⟨code, _, _, h, _⟩ := runCmd_spec env cmd fs
  exact ⟨code, h⟩

/-- **C14 (determinism).**  Whatever number of steps is taken, a terminal configuration reachable from
    the initial one is the one `runCmd` computes (so the theorems below, stated for `runCmd`, speak
    about every terminal world of the small-step system). -/
theorem C14_deterministic (env : Env P) (cmd : Cmd P) (fs : FS P) (x : DState P × FS P)
    (h : Reaches env (init cmd, fs) x) : x = runCmd env cmd fs := by
  obtain ⟨code, hc⟩ := C14_terminates env cmd fs
  exact Reaches.unique env h ⟨_, rfl, by rw [hc]; rfl⟩

/-- **C14 (exit status).**  The exit status is 1 if some step failed — a child (cc1, as or ld) with a
    non-zero wait status, be it an exit code or a signal; an `error()` of the driver (`-o` with several
    files, unknown extension, no input); a failed `mkstemp` — and 0 otherwise. -/
theorem C14_status (env : Env P) (cmd : Cmd P) (fs : FS P) (code : Nat)
    (h : (runCmd env cmd fs).1.phase = .done code) :
    (code = 1 ∧ ∃ e ∈ (runCmd env cmd fs).1.log, Event.bad e = true) ∨
    (code = 0 ∧ ∀ e ∈ (runCmd env cmd fs).1.log, Event.bad e = false) := by
  obtain ⟨c, e, efs, h1, h2, _, _, hcase⟩ := runCmd_spec env cmd fs
  rw [h1] at h
  injection h with h; subst h
  rw [h2]
  rcases hcase with ⟨rfl, _, hb⟩ | ⟨rfl, _, l, b, hl, _, hb⟩
  · right
    refine ⟨rfl, ?_⟩
    intro x hx
    simp only [List.mem_append, List.mem_map, List.mem_singleton] at hx
    rcases hx with (hx | ⟨t, _, rfl⟩) | rfl
    · exact hb x hx
    · rfl
    · rfl
  · left
    exact ⟨rfl, b, by simp [hl], hb.bad⟩

/-- the fault schedule in which the second assembler run is killed by a signal; `-c` with two C files -/
private def exEnv : Env Nat :=
  { mode := .c, sched := fun p k => if p = .as ∧ k = 1 then ⟨.signal 10, .junk⟩ else .ok,
    fresh := fun k => some (100 + k) }
private def exCmd : Cmd Nat :=
  { mode := .c, out := none, aout := 99,
    inputs := [⟨1, .C, 11, 12⟩, ⟨2, .C, 21, 22⟩, ⟨3, .C, 31, 32⟩] }
private def exFs : FS Nat := [(1, ⟨.orig, [1]⟩), (2, ⟨.orig, [2]⟩), (3, ⟨.orig, [3]⟩), (22, ⟨.orig, [7]⟩)]

/-- non-vacuity: a run that fails in the middle (status 1, third unit never started) … -/
example : (runCmd exEnv exCmd exFs).1.phase = .done 1 := by decide +kernel
example : (runCmd exEnv exCmd exFs).1.log =
    [.mkstemp 100, .spawn .cc1 [1] (some 100), .wait .cc1 (.exit 0), .spawn .as [100] (some 12), .wait .as (.exit 0),
     .mkstemp 101, .spawn .cc1 [2] (some 101), .wait .cc1 (.exit 0), .spawn .as [101] (some 22), .wait .as (.signal 10),
     .unlink 100, .unlink 101, .exit 1] := by decide
/-- … and one that succeeds (status 0) -/
example : (runCmd { exEnv with sched := fun _ _ => .ok } exCmd exFs).1.phase = .done 0 := by decide +kernel

/-- **C14 (no temporary survives).**  In the terminal world of every run — success, any failing step,
    any signal, failed mkstemp — no file the driver created with `mkstemp` exists.  No freshness
    assumption is needed: every created name is recorded in `tmpfiles` and unlinked last. -/
theorem C14_no_temps (env : Env P) (cmd : Cmd P) (fs : FS P) :
    ∀ t ∈ created (runCmd env cmd fs).1.log, (runCmd env cmd fs).2.get t = none := by
  obtain ⟨c, e, efs, _, h2, h4, hcr, _⟩ := runCmd_spec env cmd fs
  rw [h2]
  intro t ht
  rw [h4 t]
  have : t ∈ e.tmpfiles := by
    rw [created_append, created_append] at ht
    simp only [List.mem_append] at ht
    rcases ht with (ht | ht) | ht
    · rw [hcr] at ht; exact ht
    · exfalso
      have : ∀ l : List P, created (l.map Event.unlink) = [] := by
        intro l; induction l with
        | nil => rfl
        | cons a r ih => simp [created_cons, ih]
      rw [this] at ht; cases ht
    · simp [created_cons, created_nil] at ht
  simp [this]

example : created (runCmd exEnv exCmd exFs).1.log = [100, 101] := by decide +kernel
example : (runCmd exEnv exCmd exFs).2 = [(22, ⟨.junk, []⟩), (12, ⟨.obj, [1]⟩), (1, ⟨.orig, [1]⟩), (2, ⟨.orig, [2]⟩), (3, ⟨.orig, [3]⟩)] := by
  decide

/-- **C14 (a failing front end leaves no partial output).**  Under the freshness assumptions `Setup`
    (mkstemp hands out pairwise distinct names `ts` that are not named on the command line and did not
    exist; the requested outputs are pairwise distinct and are not inputs), for EVERY fault schedule:
    if the log of the run contains a failing `wait` for cc1 (exit code or signal) and it is the FRONT END that failed
    (`hfront`: not the one late failure cc1 has, the write of the `-MD` dependency file after the output was written —
    that case is `C14_late_dep_failure`), then the inputs split
    as `pre ++ u :: post` where `u` is the translation unit whose front end failed — it is the
    `cCount pre`-th cc1 invocation of the schedule — and in the terminal world
    * the output of every earlier unit (`-S`, `-c`, `-E -o`) is complete: right class, made from its source;
    * every other path — in particular the output path of `u` (`unitOutput`, or the executable when
      linking) and the outputs of the units after `u` — has exactly the content it had before the run
      (absent stays absent);
    * nothing was started after the failing wait: the rest of the log is the atexit cleanup. -/
theorem C14_no_partial_output (env : Env P) (cmd : Cmd P) (fs : FS P) (ts : List P)
    (S : Setup env cmd fs ts) (st : Status)
    (h : Event.wait .cc1 st ∈ (runCmd env cmd fs).1.log) (hbad : st.wait ≠ 0)
    (hfront : ∀ k, (env.sched .cc1 k).leaves ≠ .complete) :
    ∃ (pre : List (Input P)) (u : Input P) (post : List (Input P)),
      cmd.inputs = pre ++ u :: post ∧ effKind cmd.mode u.kind = .C ∧
      st = (env.sched .cc1 (cCount cmd pre)).status ∧
      (∀ v ∈ pre, isUnit cmd v = true →
        (runCmd env cmd fs).2.get (unitOutput cmd v) = some ⟨unitCls cmd, fs.origins v.path⟩) ∧
      (∀ p, (∀ v ∈ pre, isUnit cmd v = true → unitOutput cmd v ≠ p) →
        (runCmd env cmd fs).2.get p = fs.get p) ∧
      (∃ l c, (runCmd env cmd fs).1.log = l ++ [Event.wait .cc1 st] ++ c ∧ ∀ e ∈ c, Event.isCleanup e = true) := by
  obtain ⟨pre, u, post, hsplit, hk, hst, hunits, hrest, hlog⟩ := failed_cc1 env cmd fs ts S st h hbad
  exact ⟨pre, u, post, hsplit, hk, hst, hunits, fun p hp => by rw [hrest p hp, if_neg fun h => hfront _ h.1], hlog⟩

/-- non-vacuity: `-S a.c b.c c.c` with outputs 11, 21, 31 pre-existing (sentinel contents), the front end
    of `b.c` killed by a signal: `a.s` is complete, `b.s` and `c.s` still hold their sentinels -/
private def exS : Cmd Nat :=
  { mode := .S, out := none, aout := 99, inputs := [⟨1, .C, 11, 12⟩, ⟨2, .C, 21, 22⟩, ⟨3, .C, 31, 32⟩] }
private def exSEnv : Env Nat :=
  { mode := .S, sched := fun p k => if p = .cc1 ∧ k = 1 then ⟨.signal 8, .untouched⟩ else .ok, fresh := fun _ => none }
private def exSFs : FS Nat :=
  [(1, ⟨.orig, [1]⟩), (2, ⟨.orig, [2]⟩), (3, ⟨.orig, [3]⟩), (11, ⟨.orig, [7]⟩), (21, ⟨.orig, [8]⟩), (31, ⟨.orig, [9]⟩)]

example : Setup exSEnv exS exSFs [] where
  mode := rfl
  fresh := by intro k t h; simp at h
  enough := by decide
  nodup := by decide
  notInput := by simp
  notReq := by simp
  absent := by simp
  reqNodup := by decide
  reqNotInput := by decide

example : Event.wait .cc1 (.signal 8) ∈ (runCmd exSEnv exS exSFs).1.log ∧ (Status.signal 8).wait ≠ 0 := by decide +kernel
example : (runCmd exSEnv exS exSFs).2.get 11 = some ⟨.asm, [1]⟩ ∧ (runCmd exSEnv exS exSFs).2.get 21 = some ⟨.orig, [8]⟩ ∧
    (runCmd exSEnv exS exSFs).2.get 31 = some ⟨.orig, [9]⟩ ∧ (runCmd exSEnv exS exSFs).1.phase = .done 1 := by decide +kernel

/-- **C14 (the one late failure of cc1).**  Same setting, but the failing cc1 is one that had already written its whole
    output (`Leaves.complete`: under `-MD` the write of the dependency file, which comes last, failed): the exit status
    is still 1 (`C14_status`) and nothing is started afterwards; the path this child writes directly — the `.s` file
    under `-S`, the `-o` file under `-E`; under `-c` and when linking it is a temporary, which `C14_no_temps` removes —
    holds the COMPLETE translation of its unit, and every other path is as `C14_no_partial_output` says: earlier units
    complete, everything else untouched.  So even this failure leaves no partial file. -/
theorem C14_late_dep_failure (env : Env P) (cmd : Cmd P) (fs : FS P) (ts : List P)
    (S : Setup env cmd fs ts) (st : Status)
    (h : Event.wait .cc1 st ∈ (runCmd env cmd fs).1.log) (hbad : st.wait ≠ 0) :
    ∃ (pre : List (Input P)) (u : Input P) (post : List (Input P)),
      cmd.inputs = pre ++ u :: post ∧ effKind cmd.mode u.kind = .C ∧
      st = (env.sched .cc1 (cCount cmd pre)).status ∧
      ((env.sched .cc1 (cCount cmd pre)).leaves = .complete →
        (∀ p, cc1Out cmd u = some p → (∀ v ∈ pre, isUnit cmd v = true → unitOutput cmd v ≠ p) →
          (runCmd env cmd fs).2.get p = some ⟨unitCls cmd, fs.origins u.path⟩) ∧
        (∀ p, cc1Out cmd u ≠ some p → (∀ v ∈ pre, isUnit cmd v = true → unitOutput cmd v ≠ p) →
          (runCmd env cmd fs).2.get p = fs.get p)) := by
  obtain ⟨pre, u, post, hsplit, hk, hst, -, hrest, -⟩ := failed_cc1 env cmd fs ts S st h hbad
  exact ⟨pre, u, post, hsplit, hk, hst, fun hlv =>
    ⟨fun p hcp hne => by rw [hrest p hne, if_pos ⟨hlv, hcp⟩], fun p hcp hne => by rw [hrest p hne, if_neg fun h => hcp h.2]⟩⟩

/-- non-vacuity: `-S -MD a.c b.c`, the dependency write of `b.c`'s cc1 fails after `b.s` was written: `a.s`, `b.s` complete,
    `c.s`-like sentinel 31 untouched, status 1 -/
private def exLateEnv : Env Nat :=
  { mode := .S, sched := fun p k => if p = .cc1 ∧ k = 1 then ⟨.exit 1, .complete⟩ else .ok, fresh := fun _ => none }

example : Event.wait .cc1 (.exit 1) ∈ (runCmd exLateEnv exS exSFs).1.log ∧
    (runCmd exLateEnv exS exSFs).2.get 11 = some ⟨.asm, [1]⟩ ∧ (runCmd exLateEnv exS exSFs).2.get 21 = some ⟨.asm, [2]⟩ ∧
    (runCmd exLateEnv exS exSFs).2.get 31 = some ⟨.orig, [9]⟩ ∧ (runCmd exLateEnv exS exSFs).1.phase = .done 1 := by decide +kernel

/-- **C14 (success: exactly the requested outputs).**  Under `Setup`, for a command the driver accepts and
    a schedule without faults: the driver exits with status 0; every requested per-unit output holds the
    complete translation of its own source; when linking (no `-c`/`-S`/`-E`, no `-M`), the executable is linked from
    all inputs in command-line order; every path that is NOT a requested output — every temporary, every input, `a.out`
    when not linking, `<stem>.o` of a `.s` input when linking — has exactly the content it had before
    (absent stays absent). -/
theorem C14_success_outputs (env : Env P) (cmd : Cmd P) (fs : FS P) (ts : List P)
    (S : Setup env cmd fs ts) (hacc : Accepted cmd)
    (hnf : ∀ prog k, (env.sched prog k).status.wait = 0) :
    (runCmd env cmd fs).1.phase = .done 0 ∧
    (∀ u ∈ cmd.inputs, isUnit cmd u = true →
      (runCmd env cmd fs).2.get (unitOutput cmd u) = some ⟨unitCls cmd, fs.origins u.path⟩) ∧
    (cmd.mode = .link → cmd.depsOnly = false → (runCmd env cmd fs).2.get (cmd.out.getD cmd.aout) =
      some ⟨.exe, cmd.inputs.flatMap (fun u => fs.origins u.path)⟩) ∧
    (∀ p, p ∉ requested cmd → (runCmd env cmd fs).2.get p = fs.get p) := by
  have h0 := exit0_of_no_faults env cmd fs ts S hacc hnf
  exact ⟨h0, exit0_outputs env cmd fs ts S hacc h0⟩

/-- non-vacuity: `chibicc a.c b.s c.o -lm`-like link command (paths 1, 2, 3, 4; `-o 50`) with temporaries
    100, 101, 102; the stale files 50 (the old executable) and 22 (`b.o`) exist before -/
private def exL : Cmd Nat :=
  { mode := .link, out := some 50, aout := 99,
    inputs := [⟨1, .C, 11, 12⟩, ⟨2, .asm, 21, 22⟩, ⟨3, .obj, 31, 32⟩, ⟨4, .lib, 41, 42⟩] }
private def exLEnv : Env Nat := { mode := .link, sched := fun _ _ => .ok, fresh := fun k => [100, 101, 102][k]? }
private def exLFs : FS Nat := [(1, ⟨.orig, [1]⟩), (2, ⟨.orig, [2]⟩), (3, ⟨.orig, [3]⟩), (50, ⟨.orig, [7]⟩), (22, ⟨.orig, [8]⟩)]

example : Setup exLEnv exL exLFs [100, 101, 102] where
  mode := rfl
  fresh := fun _ _ h => h
  enough := by decide
  nodup := by decide
  notInput := by decide
  notReq := by decide
  absent := by decide
  reqNodup := by decide
  reqNotInput := by decide

example : Accepted exL := ⟨by decide, by decide, by decide⟩

example : (runCmd exLEnv exL exLFs).2 =
    [(50, ⟨.exe, [1, 2, 3]⟩), (1, ⟨.orig, [1]⟩), (2, ⟨.orig, [2]⟩), (3, ⟨.orig, [3]⟩), (22, ⟨.orig, [8]⟩)] := by decide

/-- **C14 (concurrent invocations do not interfere).**  Two drivers run on ONE file system, their steps
    (each `mkstemp`, spawn, `wait`, `unlink`, exit) interleaved in ANY order `il`.  If neither writes
    (requested outputs, temporaries handed out by mkstemp) a path the other one reads or writes, then
    whenever both have terminated each one's final state — exit status, complete event log — is the one of
    its solo run from the initial file system, the file system agrees with the solo result on everything
    that driver touches, and nothing else has changed. -/
theorem C14_concurrent (envA envB : Env P) (cmdA cmdB : Cmd P) (fs : FS P) (il : List Bool)
    (hAB : ∀ p, Writes envA cmdA p → ¬ Touches envB cmdB p)
    (hBA : ∀ p, Writes envB cmdB p → ¬ Touches envA cmdA p)
    (hta : (irun envA envB il (init cmdA, init cmdB, fs)).1.phase.terminal = true)
    (htb : (irun envA envB il (init cmdA, init cmdB, fs)).2.1.phase.terminal = true) :
    (irun envA envB il (init cmdA, init cmdB, fs)).1 = (runCmd envA cmdA fs).1 ∧
    (irun envA envB il (init cmdA, init cmdB, fs)).2.1 = (runCmd envB cmdB fs).1 ∧
    (∀ p, Touches envA cmdA p →
      (irun envA envB il (init cmdA, init cmdB, fs)).2.2.get p = (runCmd envA cmdA fs).2.get p) ∧
    (∀ p, Touches envB cmdB p →
      (irun envA envB il (init cmdA, init cmdB, fs)).2.2.get p = (runCmd envB cmdB fs).2.get p) ∧
    (∀ p, ¬ Writes envA cmdA p → ¬ Writes envB cmdB p →
      (irun envA envB il (init cmdA, init cmdB, fs)).2.2.get p = fs.get p) := by
  obtain ⟨⟨h1, h3, _⟩, ⟨h2, h4, _⟩, h5⟩ := irun_init envA envB cmdA cmdB fs il hAB hBA
  simp only at h1 h2 h3 h4 h5
  have ea : iter envA (countB true il) (init cmdA, fs) = runCmd envA cmdA fs :=
    C14_deterministic envA cmdA fs _ ⟨_, rfl, by rw [← h1]; exact hta⟩
  have eb : iter envB (countB false il) (init cmdB, fs) = runCmd envB cmdB fs :=
    C14_deterministic envB cmdB fs _ ⟨_, rfl, by rw [← h2]; exact htb⟩
  rw [ea] at h1 h3
  rw [eb] at h2 h4
  exact ⟨h1, h2, h3, h4, h5⟩

/-- **C14 (concurrent runs terminate).**  Under the same disjointness, any interleaving that gives each
    driver at least `fuel` steps ends with both terminated (so `C14_concurrent` applies to every fair
    schedule). -/
theorem C14_concurrent_terminates (envA envB : Env P) (cmdA cmdB : Cmd P) (fs : FS P) (il : List Bool)
    (hAB : ∀ p, Writes envA cmdA p → ¬ Touches envB cmdB p)
    (hBA : ∀ p, Writes envB cmdB p → ¬ Touches envA cmdA p)
    (hna : fuel (init cmdA) ≤ countB true il) (hnb : fuel (init cmdB) ≤ countB false il) :
    (irun envA envB il (init cmdA, init cmdB, fs)).1.phase.terminal = true ∧
    (irun envA envB il (init cmdA, init cmdB, fs)).2.1.phase.terminal = true := by
  obtain ⟨⟨h1, _, _⟩, ⟨h2, _, _⟩, _⟩ := irun_init envA envB cmdA cmdB fs il hAB hBA
  simp only at h1 h2
  obtain ⟨ca, hca⟩ := C14_terminates envA cmdA fs
  obtain ⟨cb, hcb⟩ := C14_terminates envB cmdB fs
  have ea : iter envA (countB true il) (init cmdA, fs) = runCmd envA cmdA fs :=
    iter_mono envA _ hna (by show (runCmd envA cmdA fs).1.phase.terminal = true; rw [hca]; rfl)
  have eb : iter envB (countB false il) (init cmdB, fs) = runCmd envB cmdB fs :=
    iter_mono envB _ hnb (by show (runCmd envB cmdB fs).1.phase.terminal = true; rw [hcb]; rfl)
  rw [h1, h2, ea, eb, hca, hcb]
  exact ⟨rfl, rfl⟩

/-- non-vacuity: `-c a.c` (temporaries 100…) next to `b.c` linked to 50 with a failing linker
    (temporaries 200…), steps interleaved `A B B A B A A B …`; the disjointness hypotheses hold, both
    terminate, and the joint run is what the theorem says -/
private def cA : Cmd Nat := { mode := .c, out := none, aout := 99, inputs := [⟨1, .C, 11, 12⟩] }
private def cB : Cmd Nat := { mode := .link, out := some 50, aout := 99, inputs := [⟨2, .C, 21, 22⟩] }
private def eA : Env Nat := { mode := .c, sched := fun _ _ => .ok, fresh := fun k => if k < 4 then some (100 + k) else none }
private def eB : Env Nat :=
  { mode := .link, sched := fun p _ => if p = .ld then ⟨.exit 1, .junk⟩ else .ok,
    fresh := fun k => if k < 4 then some (200 + k) else none }
private def ilEx : List Bool := [true, false, false, true, false, true, true, false] ++ List.replicate 12 true ++ List.replicate 20 false

example : (irun eA eB ilEx (init cA, init cB, exFs)).1.phase = .done 0 ∧
    (irun eA eB ilEx (init cA, init cB, exFs)).2.1.phase = .done 1 ∧
    (irun eA eB ilEx (init cA, init cB, exFs)).2.2.get 12 = some ⟨.obj, [1]⟩ ∧
    (irun eA eB ilEx (init cA, init cB, exFs)).2.2.get 50 = some ⟨.junk, []⟩ := by decide +kernel

example : ∀ p, Writes eA cA p → ¬ Touches eB cB p := by
  intro p hw ht
  have hpa : p = 12 ∨ (100 ≤ p ∧ p < 104) := by
    rcases hw with h | ⟨k, h⟩
    · left; simpa [requested, cA, isUnit, effKind, unitOutput] using h
    · right; simp only [eA] at h; split at h <;> simp at h; omega
  have hpb : p = 50 ∨ (200 ≤ p ∧ p < 204) ∨ p = 2 := by
    rcases ht with (h | ⟨k, h⟩) | h
    · left; simpa [requested, cB] using h
    · right; left; simp only [eB] at h; split at h <;> simp at h; omega
    · right; right; simpa [cB] using h
  omega

end ChibiVerif.Props.C14
