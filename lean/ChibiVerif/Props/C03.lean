/-
C03 — control flow and lexical scoping follow the abstract machine.

The property theorems, their non-vacuity examples, `specSelect` (where C says a `switch` goes; defined here) and the
literal form `C03_preserve_Statement`.  Models: Model/Scope.lean, Model/Stmt.lean; specifications: Spec/ControlSpec.lean
(`exec`, `structured`), Spec/ControlSpecG.lean (`execG`, `validG`, `hasGotoVal`, `labelNames`).  Helper lemmas:
Lemmas/ScopeLemmas.lean, Lemmas/StmtParse.lean, Lemmas/StmtLabels.lean, Lemmas/StmtMachine.lean,
Lemmas/StmtGoto{Defs,Entry,Sim,Parse}.lean (the simulation, for every statement form; imported through StmtGotoParse) and
Lemmas/C03Agree.lean (the two abstract machines agree on the structured fragment).
Notions that occur in the statements and are defined with the lemmas: `CodeAt`, `Runs` (StmtMachine); `SwFrame` (StmtParse).
-/
import ChibiVerif.Model.Scope
import ChibiVerif.Lemmas.ScopeLemmas
import ChibiVerif.Lemmas.StmtGotoParse
import ChibiVerif.Lemmas.C03Agree

namespace ChibiVerif.Props.C03
open ChibiVerif.Scope

variable {V T : Type}

/-! ## Scoping -/

/-- **C03 (scoping).**  After any history of `enter_scope` / `leave_scope` / `push_scope` /
    `push_tag_scope` that the parser can perform (it never leaves the file scope), `find_var`
    returns the most recent declaration of the name in the innermost still-open scope that
    declares it in the ordinary name space, and `find_tag` the same for the tag name space:
    exactly what reading the history backwards from the point of use, skipping closed blocks,
    finds (`visibleVar` / `visibleTag`).  Scopes are any of: file scope, parameter scope, the
    function body, a block, the scope a `for` statement opens around its init-declaration. -/
theorem C03_scope (ops : List (Op V T)) (s : Stack V T) (name : String)
    (h : run Stack.init ops = .ok s) :
    findVar s name = visibleVar ops name ∧ findTag s name = visibleTag ops name := by
  simpa [visibleVar, visibleTag] using find_eq_spec_rev name ops.reverse s (by rw [List.reverse_reverse]; exact h) 0

/-- non-vacuity: file-scope `x`, parameter `x`, block `x`, a closed inner block redeclaring
    `x` and a tag `x`; the use binds to the block's `x` (id 3), the tag is independent. -/
def exampleHistory : List (Op Ent Nat) :=
  [.declVar "x" (.obj 1), .enter, .declVar "x" (.obj 2), .enter, .declVar "x" (.tdef 3),
   .declTag "x" 9, .enter, .declVar "x" (.enumc 4), .leave]

example : (run Stack.init exampleHistory).toBool = true ∧
    visibleVar exampleHistory "x" = some (.tdef 3) ∧ visibleTag exampleHistory "x" = some 9 := by
  decide

/-- **C03 (the two name spaces are independent).**  Declaring a tag never changes what an
    ordinary identifier binds to, and vice versa. -/
theorem C03_scope_namespaces (s s' : Stack V T) (n name : String) (v : V) (t : T) :
    (declareTag s n t = .ok s' → findVar s' name = findVar s name) ∧
    (declareVar s n v = .ok s' → findTag s' name = findTag s name) := by
  constructor
  · intro h
    cases s with
    | nil => simp [declareTag] at h
    | cons f rest => simp only [declareTag] at h; cases h; rfl
  · intro h
    cases s with
    | nil => simp [declareVar] at h
    | cons f rest => simp only [declareVar] at h; cases h; rfl

/-- **C03 (scope exit).**  A complete block — `{ … }`, a function body with its parameter
    scope, a `for` statement with its init scope — whatever it declares and however its
    inner blocks nest, leaves every binding as it was before the block. -/
theorem C03_scope_block_exit (body : List (Op V T)) (hb : balanced body = true) (s s' : Stack V T)
    (h : run s ([Op.enter] ++ body ++ [Op.leave]) = .ok s') : s' = s :=
  run_block body hb s s' h

example : balanced ([.declVar "x" 1, .enter, .declTag "x" 2, .leave, .declVar "y" 3] : List (Op Nat Nat)) = true := by
  decide

/-- **C03 (scopes over hashmap.c).**  The parser's real scope chain — every `vars`/`tags`
    table an open-addressing table of hashmap.c (model of C17) — never reaches an abort site
    of hashmap.c and answers every lookup exactly like the chain of dictionaries, for every
    hash function.  Corollary of C17's `Inv.put_spec` / `Inv.get_eq`. -/
theorem C03_scope_hashed (h : String → Nat) (ops : List (Op V T)) (s : Stack V T)
    (hs : run Stack.init ops = .ok s) :
    ∃ cs, crun h CStack.init ops = .ok cs ∧
      ∀ name, cfindVar h cs name = .ok (findVar s name) ∧ cfindTag h cs name = .ok (findTag s name) := by
  obtain ⟨cs, hc, hr⟩ := crun_refines h ops CStack.init Stack.init s (StackRel_init h) hs
  exact ⟨cs, hc, fun name => cfind_refines h name cs s hr⟩


/-! ## Control flow -/

open ChibiVerif.Ctl ChibiVerif.Spec.Ctl

/-- **C03 (break / continue / case / default bind to the innermost construct).**  Whatever the
    parser context `σ` (the values of `brk_label`, `cont_label`, `current_switch`) in which a
    statement is parsed: in the resulting tree every `break` jumps to the break label of the
    innermost enclosing loop **or** switch, every `continue` to the continue label of the
    innermost enclosing loop (switches are transparent), every switch node's `case_next` list
    and `default_case` are exactly the `case`/`default` nodes of its own body that are not
    inside a nested switch (`Bound`); afterwards `brk_label` and `cont_label` have their old
    values and `current_switch` is the old switch, extended by exactly the `case`/`default`
    nodes of this statement (`SwFrame`); and the tree is the source statement with labels
    added (`erase`). -/
theorem C03_break_binds (s : SStmt) (σ : PState) (st : Stmt) (σ' : PState)
    (h : parseStmt s σ = .ok (st, σ')) :
    Bound σ.brk σ.cont st ∧ σ'.brk = σ.brk ∧ σ'.cont = σ.cont ∧ SwFrame σ.sw σ'.sw st ∧ erase st = s := by
  obtain ⟨A, _, _⟩ := parse_all s σ st σ' h
  exact ⟨A.bound, A.brk, A.cont, A.sw, A.erase⟩

/-- … and for a whole function body (after `resolve_goto_labels`): no enclosing construct. -/
theorem C03_break_binds_fn (u0 : Nat) (s : SStmt) (st : Stmt) (u1 : Nat) (h : parseFn u0 s = .ok (st, u1)) :
    Bound none none st ∧ erase st = s := by
  exact ⟨(parseFn_spec h).bound, (parseFn_spec h).erase⟩

/-- the hypothesis is satisfiable on a nest with a switch inside a loop inside a switch: the
    `continue` in the inner switch binds to the loop, the `break`s to their own constructs. -/
example : (parseFn 0 (.switch_ false false 1 (.block (.seq (.case_ 1 1 (.for_ none (some 2) none
      (.switch_ true true 3 (.block (.seq (.case_ 5 9 .continue_) (.seq (.default_ .break_) .skip)))))) (.seq .break_ .skip))))).toBool
    = true := by decide

/-- **C03 (labels).**  In the code of a function (`genStmt (parseStmt f)` followed by
    `.L.return.f:`), for every value of the two counters (`new_unique_name`'s and `count()`'s)
    at which the function is reached: all defined labels are pairwise distinct and every jump
    target (`jmp/je/jne/jbe` operand, `lea` of a label address) is defined — hence defined
    exactly once — in the same function. -/
theorem C03_labels (u0 c0 : Nat) (s : SStmt) (st : Stmt) (u1 : Nat) (h : parseFn u0 s = .ok (st, u1)) :
    (labelsOf (genFn st c0)).Nodup ∧ ∀ t ∈ targetsOf (genFn st c0), t ∈ labelsOf (genFn st c0) := by
  exact (parseFn_spec h).labels c0

/-- where C says a `switch` on `v` goes: the label of the first `case` in the list whose range
    contains `v` in the controlling type, else `default`, else past the body -/
def specSelect (w64 uns : Bool) (v : Val) (cases : List CaseEnt) (dflt : Option Nat) (brk : Nat) : Nat :=
  match cases.find? (fun e => caseMatches w64 uns e.lo e.hi v) with
  | some e => e.lbl
  | none => dflt.getD brk

/-- **C03 (switch selection).**  Let the code contain `call in(k)` followed by the compare
    ladder `gen_stmt` emits for a case list `cases` (in `case_next` order), an optional
    `default` and the break label, the controlling expression being 32 or 64 bits wide,
    signed or unsigned.  If every range is non-empty **in the controlling type**
    (`toT lo ≤ toT hi`; for a plain `case` `lo = hi`), then for **every** value `v` the oracle
    supplies the machine arrives — trace and oracle position as after the call, nothing else
    executed — at the label of the first arm in list order whose range contains `v` in the
    controlling type (`caseMatches`: negative values, values above 32 bits, the imm32 /
    register split and the unsigned `sub; cmp; jbe` range test included), else at `default`,
    else at the break label. -/
theorem C03_switch_select (ω : Nat → Val) (P : Prog) (p q k : Nat) (σ : SState) (w64 uns : Bool)
    (cases : List CaseEnt) (dflt : Option Nat) (brk : Nat)
    (hcode : CodeAt P p ([.call (.inp k)] ++ ladder w64 cases dflt brk))
    (hord : ∀ e ∈ cases, toT w64 uns e.lo ≤ toT w64 uns e.hi)
    (htarget : findLabel P (.u (specSelect w64 uns (ω σ.oi) cases dflt brk)) = some q) :
    Runs ω P (p, σ) (q, (σ.call ω (.inp k)).2) := by
  apply Runs.switchHead w64 cases dflt brk hcode
  -- the arm tests are `caseMatches` on the members of the list, so the ladder's first match is the specification's
  show findLabel P (.u (selectLbl w64 (ω σ.oi) cases dflt brk)) = some q
  rw [selectLbl, List.find?_congr_mem fun e he => entMatches_spec w64 uns e (ω σ.oi) (hord e he)]
  exact htarget

/-- the range hypothesis of `C03_switch_select` on a case list with a negative value, a value
    above 32 bits and a range up to the top of the type (64-bit signed) -/
example : ∀ e ∈ ([⟨1, -3#64, -3#64⟩, ⟨2, 0x100000001#64, 0x100000005#64⟩, ⟨3, 7#64, 0x7fffffffffffffff#64⟩] : List CaseEnt),
    toT true false e.lo ≤ toT true false e.hi := by decide

/-- **C03 (trace preservation, structured fragment).**  For every function body `s` that the
    parser accepts and that is `structured` (arbitrary nesting of compound statements,
    if/else, for/while/do with break/continue, `return`, ordinary labels, and switches whose
    `case`/`default` labels prefix top-level items of the switch body — any order, fall-through,
    `default` anywhere, ranges non-empty and pairwise disjoint in the controlling type; no
    goto): for every oracle stream, every fuel and every initial trace, if the abstract machine
    `Spec.exec` finishes with trace and oracle position `σ'`, then the emitted code, started at
    its first instruction in any register state, runs to the end of the function with exactly
    that trace and oracle position — the same calls of `m`, `c`, `in` in the same order the same
    number of times; if the fuel runs out after `σ'`, the emitted code reaches `σ'` too
    (prefix). -/
theorem C03_preserve_partial (ω : Nat → Val) (u0 c0 fuel : Nat) (s : SStmt) (st : Stmt) (u1 : Nat)
    (σ : SState) (hparse : parseFn u0 s = .ok (st, u1)) (hs : structured s = true) :
    match exec ω fuel s σ with
    | .done _ σ' => Runs ω (genFn st c0) (0, σ) ((genFn st c0).length, σ')
    | .timeout σ' => ∃ q, Runs ω (genFn st c0) (0, σ) (q, σ')
    | .unsupported => False := by
  -- the small-step machine agrees with `exec` on the fragment, and its runs are simulated
  have hG := fun m => goto_sim ω c0 (parseFn_spec hparse) (structured_validG s hs)
    (fun h => absurd ((structured_noGotoVal s hs).symm.trans h) (by decide)) m σ
  cases hr : exec ω fuel s σ with
  | unsupported => exact absurd hr (structured_supported ω fuel s σ hs)
  | timeout σ' =>
    obtain ⟨m, hm⟩ := exec_execG_timeout ω s hs fuel σ σ' hr
    have := hG m
    rw [hm] at this
    exact this
  | done o σ' =>
    obtain ⟨m, hm⟩ := exec_execG_done ω s hs fuel σ σ' o hr
    have := hG m
    rw [hm] at this
    exact this

/-- non-vacuity: a structured nest (switch with a range, fall-through and `default` in the
    middle inside a loop with `continue`) that the parser accepts and the abstract machine
    runs to completion -/
def exampleNest : SStmt :=
  .block (.seq (.for_ (some 1) (some 2) (some 3) (.switch_ false false 4 (.block
    (.seq (.case_ (-1) 5 (.marker 6)) (.seq (.default_ (.marker 7)) (.seq .continue_ (.seq (.case_ 9 9 .break_) .skip)))))))
    (.seq (.marker 8) .skip))

example : structured exampleNest = true ∧ (parseFn 0 exampleNest).toBool = true ∧
    exec (fun i => [1, 3, 1, 9, 1, 77, 0].getD i 0) 50 exampleNest ⟨0, []⟩ =
      .done .normal ⟨7, [.m 1, .c 2, .inp 4, .m 6, .m 7, .m 3, .c 2, .inp 4, .m 3, .c 2, .inp 4, .m 7, .m 3, .c 2, .m 8]⟩ := by
  decide

/-! ## Control flow, every statement form: goto, computed goto, `case` labels anywhere in the switch body

`Spec.Ctl.execG` (Spec/ControlSpecG.lean) is a small-step C abstract machine with continuations for
**all** of `SStmt`: `goto L` continues at the statement labelled `L` of the function with the
continuation that statement has there; `goto *&&L` likewise (the value `&&L` designates that
statement); a `switch` continues at the statement after the matching `case` label wherever it is
nested in the body outside nested switches (Duff's device), else after `default`, else past the
switch.  It is independent of parse.c / codegen.c (no unique labels, no counters) and is run against
gcc and against the compiled program on generated goto / Duff / computed-goto programs by the check. -/

/-- **C03 (trace preservation, all statement forms).**  For every function body `s` the parser
    accepts — any nesting of compound statements, if/else, for/while/do, `switch` with `case` /
    `default` labels anywhere in its body (inside loops, ifs, blocks: Duff's device), ranges,
    fall-through, break/continue, `return`, named labels, `goto`, `goto *&&L` (forwards, backwards,
    into and out of loops, switches and blocks) — that satisfies the constraints of the language
    (`validG`: within each switch every range non-empty in the controlling type, no value selected
    by two `case`s, at most one `default` (6.8.4.2p3); a label named by a jump is defined exactly once
    in the function (6.8.1p3, 6.8.6.1p1)), for every oracle stream, every number of steps and every
    initial trace: if the abstract machine `execG` has left the function after `fuel` steps with trace
    and oracle position `σ'`, the emitted code, started at its first instruction in any register
    state, runs to the end of the function with exactly that trace and oracle position — the same
    calls of `m`, `c`, `in`, in the same order, the same number of times; if the abstract machine is
    still running after `fuel` steps at `σ'`, the emitted code reaches `σ'` too (prefix; covers
    non-terminating programs); and the abstract machine never gets stuck.
    `hsz` concerns `jmp *%rax` only: the machine model holds a code address in a 64-bit register, so
    a function with a computed goto must have fewer than 2^64 instructions. -/
theorem C03_preserve_goto_partial (ω : Nat → Val) (u0 c0 fuel : Nat) (s : SStmt) (st : Stmt) (u1 : Nat)
    (σ : SState) (hparse : parseFn u0 s = .ok (st, u1)) (hv : validG s = true)
    (hsz : hasGotoVal s = true → (genFn st c0).length < 2 ^ 64) :
    match execG ω fuel s σ with
    | .done _ σ' => Runs ω (genFn st c0) (0, σ) ((genFn st c0).length, σ')
    | .timeout σ' => ∃ q, Runs ω (genFn st c0) (0, σ) (q, σ')
    | .unsupported => False := by
  exact goto_sim ω c0 (parseFn_spec hparse) hv hsz fuel σ

/-- non-vacuity: a loop entered by `goto` in its middle, Duff's device (a `case` label inside a `do`
    inside the switch body, a second one inside an `if` inside that loop), a backward `goto`, and a
    computed goto out of the loop nest; the parser accepts it, it satisfies the constraints, and the
    abstract machine runs it to completion -/
def exampleJumps : SStmt :=
  .block (.seq (.goto_ 1) (.seq (.for_ none (some 1) (some 2) (.block (.seq (.marker 3) (.seq (.label 1 (.marker 4))
    (.seq (.switch_ false true 5 (.block (.seq (.case_ 0 0 (.doWhile (.block (.seq (.marker 6) (.seq (.ifte 7 (.case_ 2 9 (.marker 8)) .break_)
      (.seq (.default_ (.marker 9)) .skip)))) 10)) .skip))) (.seq (.ifte 11 (.gotoVal 2) .skip) .skip))))))
    (.seq (.marker 12) (.seq (.label 2 (.marker 13)) (.seq (.ifte 14 (.goto_ 1) .skip) .skip)))))

example : (parseFn 0 exampleJumps).toBool = true ∧ validG exampleJumps = true ∧ hasGotoVal exampleJumps = true ∧
    (match parseFn 0 exampleJumps with | .ok (st, _) => decide ((genFn st 1).length < 2 ^ 64) | .error _ => false) = true ∧
    structured exampleJumps = false ∧
    execG (fun i => [3, 1, 1, 0, 0, 1, 7, 0, 1, 1, 0].getD i 0) 200 exampleJumps ⟨0, []⟩ =
      .done .normal ⟨15, [.m 4, .inp 5, .m 8, .m 9, .c 10, .m 6, .c 7, .m 8, .m 9, .c 10, .c 11, .m 2, .c 1, .m 3, .m 4,
        .inp 5, .m 8, .m 9, .c 10, .c 11, .m 13, .c 14, .m 4, .inp 5, .m 6, .c 7, .c 11, .m 2, .c 1, .m 12, .m 13, .c 14]⟩ := by
  decide

/-- **C03 (the two abstract machines agree on the structured fragment).**  On `structured`
    statements — the fragment `Spec.exec` gives a meaning to — whenever the big-step machine `exec`
    finishes, the small-step machine `execG` finishes with the same outcome, oracle position and
    trace; whenever `exec` runs out of fuel at `σ'`, `execG` passes through `σ'`; and every
    `structured` statement satisfies the constraints `validG` (so `C03_preserve_goto_partial`
    covers the fragment of `C03_preserve_partial`). -/
theorem C03_execG_structured (ω : Nat → Val) (s : SStmt) (hs : structured s = true) :
    validG s = true ∧
    ∀ (n : Nat) (σ σ' : SState),
      (∀ o, exec ω n s σ = .done o σ' → ∃ m, execG ω m s σ = .done o σ') ∧
      (exec ω n s σ = .timeout σ' → ∃ m, execG ω m s σ = .timeout σ') :=
  ⟨structured_validG s hs, fun n σ σ' =>
    ⟨fun o h => exec_execG_done ω s hs n σ σ' o h, fun h => exec_execG_timeout ω s hs n σ σ' h⟩⟩

example : structured exampleNest = true := by decide

/-- **C03 (named labels: a jump binds to the labelled statement of exactly its own name).**  Label
    names are their own name space with function scope (6.2.1p3, 6.2.3); the model compares names
    for equality, as `resolve_goto_labels` does with `strcmp` (the text of that function and of the
    three places that record a label / `goto` / `&&label` name is pinned by the check, and generated
    programs use names that are proper prefixes of one another and names of functions, objects,
    typedefs and tags).  For every function the parser accepts: every `goto l` and `goto *&&l`
    node received the unique label `t` of a labelled statement of the same function whose name is
    exactly `l` (`(l, t) ∈ labelPairs st`); the labelled statements of the parsed tree are those of the
    source, name by name; distinct labelled statements have distinct unique labels (so with
    `C03_labels` the jump has exactly one target, the statement so named); and consequently every
    name a jump uses is defined in the function — a function that jumps to an undefined label is not
    accepted (`error_tok(…, "use of undeclared label")`).  If a name is defined twice (a constraint
    violation chibicc does not diagnose) the jump binds to one of the statements so named. -/
theorem C03_label_binds (u0 : Nat) (s : SStmt) (st : Stmt) (u1 : Nat) (h : parseFn u0 s = .ok (st, u1)) :
    GotoR (fun l t => (l, t) ∈ labelPairs st) True st ∧
    (labelPairs st).map (·.1) = labelNames s ∧
    ((labelPairs st).map (·.2)).Nodup ∧
    ∀ l ∈ jumpNames s, l ∈ labelNames s := by
  have hB := C03_break_binds_fn u0 s st u1 h
  have hR := (parseFn_spec h).goto
  have hN : (labelPairs st).map (·.1) = labelNames s := by rw [← hB.2, labelNames_erase]
  refine ⟨hR, hN, (labelPairs_sublist st).nodup (parseFn_spec h).nodup, ?_⟩
  intro l hl
  rw [← hB.2] at hl
  obtain ⟨t, ht⟩ := gotoR_names st hR l hl
  rw [← hN]
  exact List.mem_map_of_mem (f := fun p : Nat × Nat => p.1) ht

/-- non-vacuity: names 1, 10, 11 (think `L1`, `L10`, `L11`), jumps to each, `L1` defined before the
    longer names; and a function that jumps to an undefined name is rejected -/
def exampleLabels : SStmt :=
  .block (.seq (.goto_ 1) (.seq (.label 1 (.marker 1)) (.seq (.gotoVal 10) (.seq (.label 11 (.marker 2))
    (.seq (.label 10 (.marker 3)) (.seq (.goto_ 11) .skip))))))

example : (parseFn 0 exampleLabels).toBool = true ∧
    (match parseFn 0 (.block (.seq (.label 10 (.marker 1)) (.seq (.goto_ 1) .skip))) with
     | .error .undeclaredLabel => true | _ => false) = true := by decide

/-- The literal form of the statement: ONE function `execG` that is *equal* to `exec`, fuel
    included, on structured statements and is simulated by the code of *every* function the parser
    accepts.  Not proved, and in this literal form not the right target — the three places where it
    differs from what is proved are not about chibicc, and each could only be met by a degenerate
    witness (an `execG` defined by cases that makes no claim, `timeout σ`, where it has nothing to say):
    (1) a small-step machine and the big-step `exec` count fuel differently: they agree on results
        and on every prefix (`C03_execG_structured`), not on the fuel at which a result appears;
    (2) the parser also accepts programs that violate a constraint of the language (two `case`s
        selecting one value, a range that is empty in the controlling type, a label defined twice);
        the abstract machine gives them no meaning (`unsupported`); `validG` is the hypothesis of
        `C03_preserve_goto_partial`;
    (3) a function of 2^64 or more instructions containing `goto *&&L`: the machine model keeps the
        target address in a 64-bit register (hypothesis `hsz` of `C03_preserve_goto_partial`).
    What it asks for in substance — a meaning for goto, computed goto and `case` labels nested
    anywhere, agreement with `exec`, and the forward simulation for every parsed function that
    satisfies the constraints — is `C03_preserve_goto_partial` + `C03_execG_structured`. -/
def C03_preserve_Statement : Prop :=
  ∃ execG : (Nat → Val) → Nat → SStmt → SState → Res,
    (∀ ω n s σ, structured s = true → execG ω n s σ = exec ω n s σ) ∧
    ∀ (ω : Nat → Val) (u0 c0 fuel : Nat) (s : SStmt) (st : Stmt) (u1 : Nat) (σ : SState),
      parseFn u0 s = .ok (st, u1) →
      match execG ω fuel s σ with
      | .done _ σ' => Runs ω (genFn st c0) (0, σ) ((genFn st c0).length, σ')
      | .timeout σ' => ∃ q, Runs ω (genFn st c0) (0, σ) (q, σ')
      | .unsupported => False

end ChibiVerif.Props.C03
