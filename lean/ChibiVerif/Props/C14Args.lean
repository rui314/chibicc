/-
C14 — the driver from argv: argument parser, composition with the driver loop, dependency output, shared resources.

Property theorems and their examples, over Model/C14Compose.lean and the theorems of Props/C14.lean (helper lemmas:
Lemmas/C14ArgsLemmas.lean, Lemmas/C14ComposeLemmas.lean, Lemmas/C14DepsLemmas.lean; `Except.ok_bind` from Lemmas/ExceptLemmas.lean).
What the statements use beyond the models — `St.noNull`, `childSt`, `IsDep`, `DepContent`, `MkstempUnique`, `OutputsDisjoint` — is
defined in Lemmas/C14Vocabulary.lean.
The tables these theorems speak about — `takeArgList`, `ladder`, `optXTable`, `fileTypeLadder`, `cc1Plan`, `fileSites`,
`ldTemplate` — are Gen/C14ArgsGen.lean, regenerated from main.c by tools/extract/c14args.py on every run; the
`decide`s below are whole-table checks that the kernel re-evaluates whenever main.c changes.
-/
import ChibiVerif.Model.C14Compose
import ChibiVerif.Lemmas.C14ArgsLemmas
import ChibiVerif.Lemmas.C14ComposeLemmas
import ChibiVerif.Lemmas.C14DepsLemmas
import ChibiVerif.Lemmas.ExceptLemmas
import ChibiVerif.Props.C14

namespace ChibiVerif.Props.C14
open ChibiVerif.C14Args ChibiVerif.C14Compose ChibiVerif.DriverProc
open ChibiVerif.Gen.C14Args

/-! ### the argument parser -/

/-- **C14 (parse_args reads no NULL).**  For EVERY list of argument words — including options that miss their argument
    at the end of the list — `parse_args` ends in one of: return, `usage()`, `exit(0)`, `error()`; never in a
    dereference of the NULL that terminates argv, and when it returns no StringArray (`include_paths`, `ld_extra_args`,
    `input_paths`, …) holds a NULL.  Reason: every arm of the ladder that evaluates `argv[++i]` is entered only by an
    exact option that `take_arg` lists, and every option `take_arg` lists selects such an arm (`tables_inSync`, a
    `decide` over the regenerated ladder), so the pass that checks for missing arguments and the option loop walk argv
    in step.  Dropping `-D`, `-U`, `-MQ`, `-L` … from `take_arg`'s list, or the separate-form arm of `-I` from the
    ladder, makes the `decide` fail. -/
theorem C14_args_total (args : List String) :
    (∀ site, parseArgs args ≠ .nullDeref site) ∧ (∀ st, parseArgs args = .ok st → st.noNull) :=
  parseWith_total tables_inSync optXTable st0_noNull args

/-- non-vacuity: the words of findings (A) and (B) of Findings/C14Args.lean — missing arguments are `usage(1)`, complete ones parse -/
example : parseArgs ["x.c", "-D"] = .usage 1 ∧ parseArgs ["x.c", "-I"] = .usage 1 ∧
    parseArgs ["x.c", "-L"] = .usage 1 ∧ parseArgs ["x.c", "-MQ"] = .usage 1 := by decide +kernel
example : (match parseArgs ["-c", "-I", "inc", "x.c", "-DA=1", "-o", "x.o"] with
           | .ok st => (st.arr "include_paths", st.arr "define", st.str "opt_o", st.arr "input_paths")
           | _ => ([], [], none, [])) = ([some "inc"], [some "A=1"], some "x.o", [some "x.c"]) := by decide +kernel

/-- **C14 (no option is shadowed).**  Every exact option of the ladder selects the arm that lists it, and every prefix
    test is reachable by a word with that prefix: no earlier test hides a later arm, so the order of the `if`s decides
    between a joined and a separate argument (`-o` before `-o…`, `-Wl,` before `-W…`) and nothing else. -/
theorem C14_args_no_shadow : exactLive ladder = true := by decide +kernel

/-- **C14 (the cc1 child sees the driver's options).**  `run_cc1` re-executes the driver with its own argv followed by
    `-cc1 -cc1-input <input> [-cc1-output <output>]`.  If `parse_args` returned for the driver's words, then for the
    child's words it returns the SAME option variables, plus `opt_cc1`, `base_file = input`, `output_file = output` —
    whatever the input and output names are (they are never taken for options: `-cc1-input`/`-cc1-output` are in
    `take_arg`'s list, and the driver's last option cannot swallow `-cc1`, since pass 1 accepted the driver's words). -/
theorem C14_cc1_reparse (args : List String) (st : St) (input : String) (output : Option String)
    (h : parseArgs args = .ok st) :
    parseArgs (args ++ cc1Tail input output) = .ok (childSt st input output) := by
  obtain ⟨hg, s, hr, hf⟩ := parseWith_ok tables_inSync optXTable st0_noNull h
  unfold parseArgs parseWith
  rw [guardPass_append (cc1Tail input output) args hg, guardPass_cc1Tail, if_pos rfl,
    optRun_append tables_inSync optXTable (cc1Tail input output) args hg st0, hr]
  rw [Except.ok_bind, optRun_cc1Tail]
  exact finish_childSt input output hf

example : parseArgs ["-S", "-MD", "a.c", "-o", "a.s"] ≠ .usage 1 ∧
    (match parseArgs (["-S", "-MD", "a.c", "-o", "a.s"] ++ cc1Tail "a.c" (some "a.s")) with
     | .ok st => (st.flag "opt_cc1", st.str "base_file", st.str "output_file", st.flag "opt_MD")
     | _ => (false, none, none, false)) = (true, some "a.c", some "a.s", true) := by decide +kernel

/-! ### composition with the driver loop: the theorems of Props/C14.lean, for argv -/

/-- **C14 (the run for an argv is the driver-loop run of the parsed command).**  When `parse_args` returns, what the
    process does is `runCmd` on `toCmd st`; so `C14_status`, `C14_no_temps`, `C14_no_partial_output`,
    `C14_success_outputs`, `C14_concurrent` hold with `cmd := toCmd st` for every argv that parses. -/
theorem C14_argv_compose (env : Env String) (args : List String) (fs : FS String) (st : St)
    (h : parseArgs args = .ok st) : runArgv env args fs = runCmd env (toCmd st) fs := by
  simp [runArgv, h]

/-- **C14 (determinism from argv).**  Whatever number of steps is taken, a terminal configuration reachable from the
    configuration in which the process starts for the words `args` is the one `runArgv` computes. -/
theorem C14_args_deterministic (env : Env String) (args : List String) (fs : FS String) (x : DState String × FS String)
    (h : Reaches env (initArgv args, fs) x) : x = runArgv env args fs := by
  rcases runArgv_cases env args fs (C14_args_total args).1 with ⟨st, hi, hr⟩ | ⟨why, code, hi, hr, _⟩
  · rw [hi] at h
    rw [hr]
    exact C14_deterministic env (toCmd st) fs x h
  · rw [hi] at h
    rw [hr]
    exact Reaches.unique env h ⟨0, rfl, rfl⟩

/-- **C14 (the driver always exits, from argv).**  Every invocation ends with an exit status: either `parse_args`
    ends it (`usage`, `--help`, `-hashmap-test`, `error`), or the driver loop does (`C14_terminates`); the crash state
    is unreachable (`C14_args_total`). -/
theorem C14_argv_terminates (env : Env String) (args : List String) (fs : FS String) :
    ∃ code, (runArgv env args fs).1.phase = .done code := by
  rcases runArgv_cases env args fs (C14_args_total args).1 with ⟨st, _, hr⟩ | ⟨why, code, _, hr, _⟩
  · rw [hr]; exact C14_terminates env (toCmd st) fs
  · rw [hr]; exact ⟨code, rfl⟩

/-- **C14 (exit status, from argv).**  The exit status is non-zero exactly when something failed: `usage(1)` for a
    missing option argument, an `error()` of `parse_args` (unknown argument, unknown `-x` language, no input files), or
    a failed step of the driver loop (`C14_status`); `--help` and `-hashmap-test` exit with 0. -/
theorem C14_argv_status (env : Env String) (args : List String) (fs : FS String) (code : Nat)
    (h : (runArgv env args fs).1.phase = .done code) :
    (code ≠ 0 ∧ ∃ e ∈ (runArgv env args fs).1.log, Event.bad e = true) ∨
    (code = 0 ∧ ∀ e ∈ (runArgv env args fs).1.log, Event.bad e = false) := by
  rcases runArgv_cases env args fs (C14_args_total args).1 with ⟨st, _, hr⟩ | ⟨why, c, _, hr, hw⟩
  · rw [hr] at h ⊢
    rcases C14_status env (toCmd st) fs code h with ⟨h1, h2⟩ | ⟨h1, h2⟩
    · left; exact ⟨by rw [h1]; decide, h2⟩
    · right; exact ⟨h1, h2⟩
  · rw [hr] at h ⊢
    injection h with h
    subst h
    cases why with
    | none => right; exact ⟨hw.1 rfl, by simp [earlyExit, Event.bad]⟩
    | some w =>
      left
      have hc : c ≠ 0 := fun h0 => nomatch (hw.2 h0)
      exact ⟨hc, Event.error w, by simp [earlyExit], rfl⟩

/-- **C14 (no temporary survives, from argv).** -/
theorem C14_argv_no_temps (env : Env String) (args : List String) (fs : FS String) :
    ∀ t ∈ created (runArgv env args fs).1.log, (runArgv env args fs).2.get t = none := by
  rcases runArgv_cases env args fs (C14_args_total args).1 with ⟨st, _, hr⟩ | ⟨why, code, _, hr, _⟩
  · rw [hr]; exact C14_no_temps env (toCmd st) fs
  · rw [hr]
    intro t ht
    cases why <;> simp [earlyExit, created] at ht

/-- non-vacuity: `chibicc -c a.c b.c -o x.o` is rejected, `chibicc a.c -Wl,-z,now -lm` links, `chibicc a.c -x` prints
    the usage message — each decided from the words alone -/
private def envOK : Env String :=
  { mode := .link, sched := fun _ _ => .ok, fresh := fun k => if k = 0 then some "/tmp/t0" else if k = 1 then some "/tmp/t1" else none }
example : (runArgv envOK ["-c", "a.c", "b.c", "-o", "x.o"] []).1.log = [.error .multiO, .exit 1] := by decide +kernel
example : (runArgv envOK ["a.c", "-x"] []).1.log = [.error .usage, .exit 1] := by decide +kernel
example : (runArgv envOK ["a.c", "-Wl,-z,now", "-lm"] [("a.c", ⟨.orig, [1]⟩)]).2.get "a.out" = some ⟨.exe, [1]⟩ ∧
    (runArgv envOK ["a.c", "-Wl,-z,now", "-lm"] [("a.c", ⟨.orig, [1]⟩)]).1.phase = .done 0 := by decide +kernel

/-! ### dependency output -/

/-- **C14 (cc1 writes the dependency list last, and only when everything else succeeded).**  For every combination of
    `-M`, `-MD`, `-E` (the only flags `cc1Plan` tests), in what cc1 does after `preprocess()`: no step that can raise a
    front-end error (`parse`, `codegen`) comes after a write; the dependency file is written exactly when `-M` or `-MD`
    is given, and its write is the last thing cc1 does — after the preprocessed text (`-E`) or the assembly has been
    written and closed.  (On cc1's text before the repair b04aa01, where the write came right after `preprocess()`, this `decide` fails:
    Findings/C14Args.lean `C14_repaired_deps_before_parse`.) -/
theorem C14_deps_written_last :
    (stepsFlags cc1Plan).all (fun v => v = "opt_M" || v = "opt_MD" || v = "opt_E") = true ∧
    flagAssignments.all (fun a => traceOK (a.1 || a.2.1) (cc1Trace (flagFn a))) = true := by decide +kernel

example : cc1Trace (flagFn (false, true, false)) = [.collectDeps, .parse, .codegen, .writeOutput, .writeDeps] := by decide +kernel

variable {P : Type} [DecidableEq P]

/-- **C14 (dependency output).**  Let every cc1 child write its dependency list to `denv.depOf input` when it ends
    with status 0 (`C14_deps_written_last`), and let no dependency path be a path of the driver's own footprint
    (requested output, temporary, input: `hdep`).  Then, for every command, fault schedule and initial file system:
    * the driver's state — exit status, event log, temporaries — is that of the run without dependency output;
    * every path of the driver's footprint has exactly the content it has in that run: no dependency text ever lands in
      an object file, an assembly file, the executable, a temporary or an input, and all theorems of Props/C14.lean
      apply unchanged;
    * a path that is neither written by the driver nor a dependency path keeps its content;
    * a dependency path `d` holds the list of the LAST front end that succeeded and whose dependency path is `d`
      (made from its input as it was before the run, if the driver does not write that input); if no such front end
      succeeded — in particular if the front end of the only unit with this dependency path FAILED — `d` is untouched:
      absent stays absent, an old file keeps its content. -/
theorem C14_deps_output (denv : DepEnv P) (env : Env P) (cmd : Cmd P) (fs : FS P)
    (hdep : ∀ d, IsDep denv d → ¬ Touches env cmd d) :
    (runCmdD denv env cmd fs).1 = (runCmd env cmd fs).1 ∧
    (∀ p, Touches env cmd p → (runCmdD denv env cmd fs).2.get p = (runCmd env cmd fs).2.get p) ∧
    (∀ p, ¬ Writes env cmd p → ¬ IsDep denv p → (runCmdD denv env cmd fs).2.get p = fs.get p) ∧
    (∀ d, IsDep denv d →
      match lastWriter (depWrites denv (runCmd env cmd fs).1.log) d with
      | some i => ∃ org, (runCmdD denv env cmd fs).2.get d = some ⟨.deps, org⟩ ∧
                    (¬ Writes env cmd i → org = fs.origins i)
      | none => (runCmdD denv env cmd fs).2.get d = fs.get d) := by
  have h : DRel denv env (Writes env cmd) (Touches env cmd) fs (runCmdD denv env cmd fs) (runCmd env cmd fs) :=
    iterD_rel denv env _ _ fs hdep (fuel (init cmd)) _ _ (DRel_init denv env cmd fs)
  -- with the two runs as opaque configurations, the `match` of `DepContent` is compared to the one above without evaluating them
  generalize runCmdD denv env cmd fs = x, runCmd env cmd fs = y at h ⊢
  exact ⟨h.st, h.agree, h.frame, h.deps⟩

/-- **C14 (a failing unit leaves no dependency file).**  Under the same hypothesis: if no front end with dependency
    path `d` ended with status 0, `d` has the content it had before the run. -/
theorem C14_deps_untouched_on_failure (denv : DepEnv P) (env : Env P) (cmd : Cmd P) (fs : FS P)
    (hdep : ∀ d, IsDep denv d → ¬ Touches env cmd d) (d : P) (hd : IsDep denv d)
    (hfail : ∀ r ∈ cc1Runs (runCmd env cmd fs).1.log, denv.depOf r.1 = some d → r.2.wait ≠ 0) :
    (runCmdD denv env cmd fs).2.get d = fs.get d := by
  have h := (C14_deps_output denv env cmd fs hdep).2.2.2
  have hn : lastWriter (depWrites denv (runCmd env cmd fs).1.log) d = none := by
    unfold lastWriter
    rw [Option.map_eq_none_iff, List.find?_eq_none]
    intro e he
    simp only [List.mem_reverse, depWrites, List.mem_filterMap] at he
    obtain ⟨r, hr, hre⟩ := he
    by_cases hw : r.2.wait = 0
    · simp only [hw, if_true, Option.map_eq_some_iff] at hre
      obtain ⟨d', hd', rfl⟩ := hre
      simp only [decide_eq_true_eq]
      intro hdd
      exact hfail r hr (hdd ▸ hd') hw
    · simp [hw] at hre
  -- the list of writes as an opaque list: instantiating `h` then does not evaluate the run
  generalize depWrites denv (runCmd env cmd fs).1.log = ws at h hn
  have h := h d hd
  rw [hn] at h
  exact h

/-- non-vacuity: `-c -MD a.c b.c` (dependency files 13 = a.d, 23 = b.d, both existing before with sentinel contents),
    front end of `b.c` killed: `a.d` is rewritten, `b.d` keeps its sentinel, `a.o` complete, `b.o` untouched -/
private def dCmd : Cmd Nat := { mode := .c, out := none, aout := 99, inputs := [⟨1, .C, 11, 12⟩, ⟨2, .C, 21, 22⟩] }
private def dEnv : Env Nat :=
  { mode := .c, sched := fun p k => if p = .cc1 ∧ k = 1 then ⟨.signal 10, .untouched⟩ else .ok, fresh := fun k => some (100 + k) }
private def dDen : DepEnv Nat := { depOf := fun i => if i = 1 then some 13 else if i = 2 then some 23 else none }
private def dFs : FS Nat := [(1, ⟨.orig, [1]⟩), (2, ⟨.orig, [2]⟩), (13, ⟨.orig, [7]⟩), (23, ⟨.orig, [8]⟩)]

example : (runCmdD dDen dEnv dCmd dFs).2.get 13 = some ⟨.deps, [1]⟩ ∧ (runCmdD dDen dEnv dCmd dFs).2.get 23 = some ⟨.orig, [8]⟩ ∧
    (runCmdD dDen dEnv dCmd dFs).2.get 12 = some ⟨.obj, [1]⟩ ∧ (runCmdD dDen dEnv dCmd dFs).2.get 22 = none ∧
    (runCmdD dDen dEnv dCmd dFs).1.phase = .done 1 := by decide +kernel

example : ∀ d, IsDep dDen d → ¬ Touches dEnv dCmd d := by
  intro d ⟨i, hi⟩ ht
  have hd : d = 13 ∨ d = 23 := by
    simp only [dDen] at hi
    split at hi
    · left; injection hi with hi; exact hi.symm
    · split at hi
      · right; injection hi with hi; exact hi.symm
      · cases hi
  rcases ht with (h | ⟨k, h⟩) | h
  · have : d = 12 ∨ d = 22 := by simpa [requested, dCmd, isUnit, effKind, unitOutput] using h
    omega
  · simp only [dEnv] at h; injection h with h; omega
  · have : d = 1 ∨ d = 2 := by simpa [dCmd] using h
    omega

/-- **C14 (where the dependency list goes is never an output of the driver, by construction).**  For the option
    variables of any argv: under `-M` the driver requests no output at all; without `-M`, if the user names neither `-o`
    nor `-MF`, the dependency path of every input — the input's basename with `.d` — differs from every requested
    output (`<stem>.s`, `<stem>.o`, `a.out`).  (With `-o f -MD` the path is `f` with its extension replaced by `.d`, with
    `-MF g` it is `g`: names the user chose.) -/
theorem C14_deps_never_output (st : St)
    (h : st.flag "opt_M" = true ∨ (st.str "opt_MF" = none ∧ st.str "opt_o" = none)) :
    ∀ s d, depPath st s = some d → d ∉ requested (toCmd st) := by
  intro s d hd hreq
  rcases h with hM | ⟨hMF, ho⟩
  · simp [requested, toCmd, hM] at hreq
  · by_cases hM : st.flag "opt_M" = true
    · simp [requested, toCmd, hM] at hreq
    · unfold depPath at hd
      rw [hMF, ho] at hd
      simp only [hM, Bool.false_or, Option.getD_none] at hd
      by_cases hMD : st.flag "opt_MD" = true
      · simp only [hMD, if_true, fileOrStdout] at hd
        split at hd
        · cases hd
        · injection hd with hd
          subst hd
          unfold requested at hreq
          have hdO : (toCmd st).depsOnly = false := by simpa [toCmd] using hM
          rw [if_neg (by simp [hdO])] at hreq
          by_cases hl : (toCmd st).mode = .link
          · rw [if_pos hl] at hreq
            have hout : (toCmd st).out = none := by simp [toCmd, ho]
            have haout : (toCmd st).aout = "a.out" := rfl
            rw [hout, haout] at hreq
            simp only [Option.getD_none, List.mem_singleton] at hreq
            exact replaceExtn_ne_lit "a.out" 'd' 't' ['.'] ['a', '.', 'o', 'u'] rfl rfl (by decide) hreq
          · rw [if_neg hl] at hreq
            obtain ⟨u, hu, hue⟩ := List.mem_map.mp hreq
            have hu' : u ∈ (toCmd st).inputs := (List.mem_filter.mp hu).1
            simp only [toCmd] at hu'
            obtain ⟨w, _, hw⟩ := List.mem_map.mp hu'
            subst hw
            have hout : (toCmd st).out = none := by simp [toCmd, ho]
            simp only [unitOutput, hout, mkInput] at hue
            split at hue
            · exact replaceExtn_ne_of_last 's' 'd' ['.'] ['.'] rfl rfl (by decide) hue
            · exact replaceExtn_ne_of_last 'o' 'd' ['.'] ['.'] rfl rfl (by decide) hue
      · simp [hMD] at hd

example : (match parseArgs ["-c", "-MD", "dir/a.c"] with
           | .ok st => (depPath st "dir/a.c", requested (toCmd st))
           | _ => (none, [])) = (some "a.d", ["a.o"]) := by decide +kernel

/-! ### what two concurrent drivers share -/

/-- **C14 (file-system call sites).**  Over EVERY call in the compiler's sources that creates, opens for writing,
    removes, or hands to a child the name of a file (regenerated list `fileSites`: the libc calls of all .c files and
    main.c's wrappers `open_file`, `write_file`, `assemble`, `run_cc1`, `run_linker`, `create_tmpfile`):
    * there is exactly one place where a file name is invented: `mkstemp` on a `/tmp/…XXXXXX` template in
      `create_tmpfile`, and the SAME path is recorded in `tmpfiles` there;
    * the only `unlink` is the one in `cleanup`, on entries of `tmpfiles`;
    * every other path written is a word of the command line (`-o`, `-MF`, the child's `-cc1-output`), such a word or an
      input name with its extension replaced (`.s`, `.o`, `.d`), the literal `a.out`, standard output, or a temporary;
      files opened for reading are inputs, temporaries, or source/header files.
    So no fixed scratch name exists, and two drivers can meet only on names their users chose and in `mkstemp`'s
    name space. -/
theorem C14_shared_resources :
    fileSites.all (siteOK fileSites) = true ∧
    (sitesOfKind .create fileSites).length = 1 ∧ (sitesOfKind .record fileSites).length = 1 ∧
    (sitesOfKind .remove fileSites).length = 1 := by decide +kernel

set_option linter.unusedSectionVars false in
/-- **C14 (the mkstemp assumption is the only one).**  The footprint-disjointness `C14_concurrent` assumes is EQUIVALENT
    to: `MkstempUnique` (the operating system's promise: a name `mkstemp` returns to one process is returned to no other
    and is not a name on anybody's command line) together with `OutputsDisjoint` (the users' part: the two commands do
    not name the same output).  Nothing else is shared. -/
theorem C14_concurrent_hypotheses (envA envB : Env P) (cmdA cmdB : Cmd P) :
    ((∀ p, Writes envA cmdA p → ¬ Touches envB cmdB p) ∧ (∀ p, Writes envB cmdB p → ¬ Touches envA cmdA p)) ↔
    (MkstempUnique envA envB cmdA cmdB ∧ OutputsDisjoint cmdA cmdB) := by
  constructor
  · rintro ⟨hAB, hBA⟩
    refine ⟨⟨?_, ?_, ?_⟩, ⟨?_, ?_⟩⟩
    · intro j k p ha hb
      exact hAB p (Or.inr ⟨j, ha⟩) (Or.inl (Or.inr ⟨k, hb⟩))
    · intro k p ha
      exact ⟨fun h => hAB p (Or.inr ⟨k, ha⟩) (Or.inl (Or.inl h)), fun h => hAB p (Or.inr ⟨k, ha⟩) (Or.inr h)⟩
    · intro k p hb
      exact ⟨fun h => hBA p (Or.inr ⟨k, hb⟩) (Or.inl (Or.inl h)), fun h => hBA p (Or.inr ⟨k, hb⟩) (Or.inr h)⟩
    · intro p hp
      exact ⟨fun h => hAB p (Or.inl hp) (Or.inl (Or.inl h)), fun h => hAB p (Or.inl hp) (Or.inr h)⟩
    · intro p hp
      exact ⟨fun h => hBA p (Or.inl hp) (Or.inl (Or.inl h)), fun h => hBA p (Or.inl hp) (Or.inr h)⟩
  · rintro ⟨hM, hO⟩
    constructor
    · intro p hw ht
      rcases hw with hw | ⟨j, hj⟩
      · rcases ht with (ht | ⟨k, hk⟩) | ht
        · exact (hO.ab p hw).1 ht
        · exact (hM.freshB k p hk).1 hw
        · exact (hO.ab p hw).2 ht
      · rcases ht with (ht | ⟨k, hk⟩) | ht
        · exact (hM.freshA j p hj).1 ht
        · exact hM.disjoint j k p hj hk
        · exact (hM.freshA j p hj).2 ht
    · intro p hw ht
      rcases hw with hw | ⟨k, hk⟩
      · rcases ht with (ht | ⟨j, hj⟩) | ht
        · exact (hO.ba p hw).1 ht
        · exact (hM.freshA j p hj).1 hw
        · exact (hO.ba p hw).2 ht
      · rcases ht with (ht | ⟨j, hj⟩) | ht
        · exact (hM.freshB k p hk).1 ht
        · exact hM.disjoint j k p hj hk
        · exact (hM.freshB k p hk).2 ht

/-- **C14 (concurrent invocations, with the assumption as an object).** -/
theorem C14_concurrent_mkstemp (envA envB : Env P) (cmdA cmdB : Cmd P) (fs : FS P) (il : List Bool)
    (hM : MkstempUnique envA envB cmdA cmdB) (hO : OutputsDisjoint cmdA cmdB)
    (hta : (irun envA envB il (init cmdA, init cmdB, fs)).1.phase.terminal = true)
    (htb : (irun envA envB il (init cmdA, init cmdB, fs)).2.1.phase.terminal = true) :
    (irun envA envB il (init cmdA, init cmdB, fs)).1 = (runCmd envA cmdA fs).1 ∧
    (irun envA envB il (init cmdA, init cmdB, fs)).2.1 = (runCmd envB cmdB fs).1 ∧
    (∀ p, Touches envA cmdA p →
      (irun envA envB il (init cmdA, init cmdB, fs)).2.2.get p = (runCmd envA cmdA fs).2.get p) ∧
    (∀ p, Touches envB cmdB p →
      (irun envA envB il (init cmdA, init cmdB, fs)).2.2.get p = (runCmd envB cmdB fs).2.get p) ∧
    (∀ p, ¬ Writes envA cmdA p → ¬ Writes envB cmdB p →
      (irun envA envB il (init cmdA, init cmdB, fs)).2.2.get p = fs.get p) := by
  obtain ⟨hAB, hBA⟩ := (C14_concurrent_hypotheses envA envB cmdA cmdB).mpr ⟨hM, hO⟩
  exact C14_concurrent envA envB cmdA cmdB fs il hAB hBA hta htb

/-- non-vacuity of the two objects: `-c a.c` (temporaries 100…103) next to `b.c -o 50` (temporaries 200…203) -/
private def cA' : Cmd Nat := { mode := .c, out := none, aout := 99, inputs := [⟨1, .C, 11, 12⟩] }
private def cB' : Cmd Nat := { mode := .link, out := some 50, aout := 99, inputs := [⟨2, .C, 21, 22⟩] }
private def eA' : Env Nat := { mode := .c, sched := fun _ _ => .ok, fresh := fun k => if k < 4 then some (100 + k) else none }
private def eB' : Env Nat := { mode := .link, sched := fun _ _ => .ok, fresh := fun k => if k < 4 then some (200 + k) else none }

example : MkstempUnique eA' eB' cA' cB' where
  disjoint := by
    intro j k p ha hb
    simp only [eA'] at ha; simp only [eB'] at hb
    split at ha <;> split at hb <;> simp at ha hb <;> omega
  freshA := by
    intro k p ha
    simp only [eA'] at ha
    split at ha <;> simp at ha
    simp [requested, cB']; omega
  freshB := by
    intro k p hb
    simp only [eB'] at hb
    split at hb <;> simp at hb
    simp [requested, cA', isUnit, effKind, unitOutput]; omega

example : OutputsDisjoint cA' cB' where
  ab := by simp [requested, cA', cB', isUnit, effKind, unitOutput]
  ba := by simp [requested, cA', cB', isUnit, effKind, unitOutput]

end ChibiVerif.Props.C14
