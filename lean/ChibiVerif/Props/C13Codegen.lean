/-
C13 — code generation never reaches an abort site on trees that carry what it dereferences (DESIGN.md section 6, C13:
`genExpr/genStmt` — `unreachable()`, `assert(depth == 0)`, `reg_ax/reg_dx`, NULL dereferences).  Property theorems only;
lemmas in Lemmas/C13Codegen.lean and Lemmas/C13CodegenMain.lean.  The model is C20's byte-exact double of codegen.c
(Model/Codegen.lean; tie: assembly text equal to `chibicc -S` on every dumped function).

Failure outcomes of the model (`M α = St → Except String …`): the three `error_tok` sites of codegen.c — "not an lvalue",
"invalid expression", "invalid statement": located diagnostics, the set `Located` — and everything else: "NULL dereference:
…", "unreachable: reg_ax/reg_dx/store_fp", "assert(…)", "argreg: index out of range", "align_to: division by zero",
"gen_expr: not an expression …".

Scope `okE/okA/okS` (decidable, Lemmas/C13Codegen.lean): every expression kind except calls (`ND_FUNCALL`) and the two atomic
builtins (`ND_CAS`, `ND_EXCH`) — `ND_VLA_PTR` as an lvalue only (`okA`) —, every statement kind; `return` of a struct/union
value is outside.  Each node carries the
fields its arm dereferences (`node->ty`, `node->var->ty`, `node->member`, the operand types `cmp_zero`/`cast` read, the declared
type of a bit-field in the type table) — which parse.c/type.c establish for every tree they hand to codegen (`add_type`), and
which the AST dump of the tie shows for every function compiled.  The typing side condition of C20 (`typedE/typedS`: where
long double values live) is independent of it: an ill-typed tree in the sense of C20 still fails only with a located
diagnostic.

Outside the scope: the call arm (`push_args`, register classification: `argreg` indices, `assert(ty->size …)` of
copy_struct_reg), `reg_ax/reg_dx` in the atomic arms — the campaign found a real `internal error at codegen.c:76` there
(`__builtin_compare_and_swap(int *, long double *, …)`, rejected by the front end since /repo 4993f7e).
-/
import ChibiVerif.Lemmas.C13CodegenMain
import ChibiVerif.Props.C20

namespace ChibiVerif.Props.C13
open ChibiVerif.Ast ChibiVerif.Asm ChibiVerif.Codegen ChibiVerif.C13Codegen

/-- full statement: on every tree (calls and atomics included) whose nodes carry their types, code generation fails only
    with a located diagnostic.  Open: the call arm and the atomic arms are not covered by `okE`. -/
def C13_codegen_nocrash_Statement : Prop :=
  ∀ (env : Env) (n : Node) (s : St) (e : String), ChibiVerif.C20Scope.typedS env n = true →
    genStmt env n s = .error e → Located e

/-- **C13 (gen_expr / gen_addr never abort; partial).**  For every environment and every expression tree in scope, whatever
    the state: `gen_expr` and `gen_addr` end in code or in "not an lvalue" / "invalid expression" / "invalid statement" —
    never in a NULL dereference, `unreachable()`, an `assert` or an out-of-range register index. -/
theorem C13_codegen_expr_nocrash_partial (env : Env) (n : Node) (s : St) (e : String) :
    (okE env n = true → genExpr env n s = .error e → Located e) ∧
    (okA env n = true → genAddr env n s = .error e → Located e) :=
  ⟨fun h he => (exprClean env n h).out s e he, fun h he => (addrClean env n h).out s e he⟩

/-- a scalar type record for the examples -/
def exTy (k : TyKind) (sz : Int) (base : Int := -1) : Ty :=
  { (default : Ty) with kind := k, size := sz, align := sz, base := base }
def exVar (id : Int) (name : String) (t : Ty) : Var :=
  { (default : Var) with id := id, name := some name, ty := some t, isLocal := true }

-- non-vacuity: `*p = -x % 3.0` (ill-typed for `%`: ends in "invalid expression"), with all node types present
example :
    let ti := exTy .int 4
    let td := exTy .double 8
    let tp := exTy .ptr 8 0
    let x : Node := .var ⟨some ti, 1, 1⟩ (some (exVar 1 "x" ti))
    let p : Node := .var ⟨some tp, 1, 1⟩ (some (exVar 2 "p" tp))
    let n : Node := .assign ⟨some td, 1, 1⟩ (.deref ⟨some td, 1, 1⟩ p)
      (.binop ⟨some td, 1, 1⟩ .mod (.cast ⟨some td, 1, 1⟩ (.neg ⟨some ti, 1, 1⟩ x)) (.num ⟨some td, 1, 1⟩ 0 0 0 0 0))
    okE { fpic := false, types := [ti] } n = true := by
  decide

/-- **C13 (gen_stmt never aborts; partial).**  The same for every statement tree in scope (all control flow, labels, `goto`,
    `switch` with any case list, statement expressions, `asm`, `return` of a scalar or of nothing). -/
theorem C13_codegen_stmt_nocrash_partial (env : Env) (n : Node) (h : okS env n = true) (s : St) (e : String)
    (he : genStmt env n s = .error e) : Located e :=
  (stmtClean env n h).out s e he

example : okS { fpic := false, types := [] }
    (.block ⟨none, 1, 1⟩ (.cons (.if_ ⟨none, 1, 1⟩ (.num ⟨some (exTy .int 4), 1, 1⟩ 1 0 0 0 0)
      (.ret ⟨none, 1, 1⟩ .null) .null) (.cons (.goto_ ⟨none, 1, 1⟩ (some "l") (some ".L1")) .nil))) = true := by
  decide

/-- **C13 (a function body: neither an abort site nor `assert(depth == 0)`).**  For a body in scope (and in C20's `okN`,
    Model/C20Scope.lean: no struct or union argument of a call has a negative size), started with `depth == 0`: `emit_text`'s
    `gen_stmt(fn->body); assert(depth == 0);` ends in code or in a located diagnostic.  Corollary of `C20_assert`. -/
theorem C13_codegen_body_nocrash_partial (env : Env) (fn : Obj) (hs : okS env fn.body = true)
    (hn : ChibiVerif.C20Scope.okN fn.body = true) (s : St) (h0 : s.depth = 0) (e : String)
    (he : fnBody env fn s = .error e) : Located e := by
  cases hg : genStmt env fn.body s with
  | error e' =>
    have : fnBody env fn s = .error e' := by
      simp [fnBody, bind, M.bind, hg]
    rw [this] at he
    simp only [Except.error.injEq] at he
    subst he
    exact (stmtClean env fn.body hs).out s e' hg
  | ok r =>
    obtain ⟨u, s', ls⟩ := r
    have := ChibiVerif.Props.C20.C20_assert env fn hn s s' ls hg h0
    rw [this] at he
    cases he

end ChibiVerif.Props.C13
