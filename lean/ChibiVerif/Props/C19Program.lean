/-
C19 — preprocessed output is a faithful program: the SAME-PROGRAM half, as far as it can be stated on the models.

"The text written by -E re-lexes to exactly the token sequence the compiler proper would have consumed."

Helper lemmas: Lemmas/C19Convert.lean; notions of the statements defined with the lemmas: `kindOf`, `isBlank` (LexSeq).
The full statement `C19_same_program_Statement` is defined here.

Objects (beside those of Props/C19.lean):
  `convertPP numOk`   Model/C19Convert.lean   tokenize.c `convert_pp_tokens`: keyword by spelling (table regenerated from
                                              `is_keyword`: Gen/C19ConvGen.lean), pp-number → number or "invalid numeric constant",
                                              `numOk` = libc's verdict on the spelling (a parameter: all results hold for every one)
  `cc1Tokens`         the token list `parse` receives when cc1 compiles a TEXT: `tokenize`, `preprocess2` from the table of
                      `init_macros` (Model/PP.lean), `convert_pp_tokens` — up to the concatenation of adjacent string literals
  `cc1OfTokens`       the token list `parse` receives from the list the FIRST compilation holds after `preprocess2`
  `lexedAlone t`      `t` has the kind and the spelling `tokenize` gives to its spelling read alone (decidable; true of every
                      token `tokenize` produces: `C19_lexed_tokens_kind`; `preprocess2` never assigns `kind` and every token it
                      makes — paste, stringize, built-ins — comes out of a call of `tokenize`)

Not modelled, so not proved (checklib/C19.py ASSUMPTIONS, exercised by the same-assembly and token-dump legs on every run):
`join_adjacent_string_literals` and `parse` read of a token only its kind, the values `tokenize`/`convert_pp_number` computed from
its spelling, and its position (diagnostics, `.loc`).  What is checked of that: no Token field that a second tokenize/preprocess
may change without changing kind and spelling is mentioned in parse.c, codegen.c, type.c (`C19_proper_ignores_flags`).
-/
import ChibiVerif.Lemmas.C19Convert
import ChibiVerif.Props.C19

namespace ChibiVerif.Props.C19
open ChibiVerif.Lex ChibiVerif.Gen.Lex ChibiVerif.C19Bridge ChibiVerif.C19Convert

/-- **C19 (the conversion reads kind and spelling, nothing else).**  Over the lists regenerated from tokenize.c:
    `convert_pp_tokens`, `is_keyword`, `convert_pp_number` and `convert_pp_int` read, through the token, only `kind`, `loc` and
    `len`; they write only `kind`, `val`, `fval`, `ty`; and the token itself is passed on only among themselves and to
    `error_tok`.  So the list `parse` receives is a function of the (kind, spelling) sequence `preprocess2` returns. -/
theorem C19_convert_reads_kind_and_spelling :
    (Gen.C19Conv.convertReads.all fun f => ["kind", "loc", "len"].contains f) = true ∧
    (Gen.C19Conv.convertWrites.all fun f => ["kind", "val", "fval", "ty"].contains f) = true ∧
    (Gen.C19Conv.convertCallees.all fun f =>
      ["convert_pp_int", "convert_pp_number", "is_keyword", "error_tok"].contains f) = true := by decide +kernel

/-- **C19 (the compiler proper does not look at what re-reading may change).**  `at_bol`, `has_space`, `hideset` and
    `line_delta` — the Token fields a second tokenize/preprocess may set differently for the same kind and spelling — are
    mentioned nowhere in parse.c, codegen.c, type.c (list regenerated on every run). -/
theorem C19_proper_ignores_flags : Gen.C19Conv.properFlagMentions = [] := by decide +kernel

/-- **C19 (keywords are identifiers).**  Every entry of `is_keyword`'s table, read alone by `tokenize`, is exactly one
    identifier token.  (`is_keyword` does not test `tok->kind`; with this, only TK_IDENT tokens become TK_KEYWORD: the
    spelling of a string, number, character constant or punctuator token is never in the table.) -/
theorem C19_keywords_are_identifiers :
    (Gen.C19Conv.keywords.all fun k => lexedAlone ⟨.ident, k, true, false⟩) = true := by decide +kernel

/-- … hence a token that `convert_pp_tokens` turns into a keyword was an identifier token -/
theorem C19_keyword_token_is_ident (t : Tok) (h : lexedAlone t = true) (hk : isKeyword t.text = true) :
    t.kind = .ident := by
  have hall := C19_keywords_are_identifiers
  rw [List.all_eq_true] at hall
  have hm : t.text ∈ Gen.C19Conv.keywords := by
    unfold isKeyword at hk
    exact List.contains_iff_mem.mp hk
  have h1 := (lexedAlone_spec _ (hall _ hm)).2
  have h2 := (lexedAlone_spec t h).2
  simp only at h1
  rw [← h2, h1]

/-- non-vacuity: `long` is such a token; the string `"long"` and the identifier `longer` are not keywords -/
example : lexedAlone ⟨.ident, [108, 111, 110, 103], false, true⟩ = true ∧ isKeyword [108, 111, 110, 103] = true ∧
    isKeyword [34, 108, 111, 110, 103, 34] = false ∧ isKeyword [108, 111, 110, 103, 101, 114] = false := by decide +kernel

/-- **C19 (the tokens of `tokenize` satisfy the hypothesis, kinds included).**  Whatever text is scanned, every token that
    comes out has the kind and spelling its spelling gets when scanned alone — the hypothesis of `C19_relex_same_kinds` and
    `C19_same_tokens` holds for every token list the preprocessor can hold. -/
theorem C19_lexed_tokens_kind (s : List Nat) (ts : List Tok) (h : lex s = .ok ts) :
    ∀ t ∈ ts, lexedAlone t = true :=
  lexLoop_tokens (fun t => lexedAlone t = true) lexedAlone_of_lexStep _ s true false ts h

/-- non-vacuity: every token class -/
example : (lex [120, 43, 43, 49, 46, 101, 43, 32, 76, 34, 115, 34, 39, 99, 39, 10]).map (·.map (·.kind)) =
    .ok [.ident, .punct, .ppnum, .str, .chr] := by decide +kernel

/-- **C19 (round trip with kinds).**  For every token list whose tokens have the kind and spelling of their spelling read
    alone — ARBITRARY `at_bol` / `has_space` flags — the text `print_tokens` writes is read back by `tokenize` as a list
    with exactly the same kinds and the same spellings, in order.  (`C19_roundtrip` is the spelling half.) -/
theorem C19_relex_same_kinds (ts : List Tok) (h : ∀ t ∈ ts, lexedAlone t = true) :
    ∃ ts', lex (printTokens ts) = .ok ts' ∧ ts'.map (·.kind) = ts.map (·.kind) ∧ ts'.map (·.text) = ts.map (·.text) :=
  ⟨relexed ts, lex_printTokens ts (fun t ht => (lexedAlone_spec t (h t ht)).1),
    relexed_kind_of_lexedAlone ts h, relexed_text ts⟩

/-- non-vacuity: `u8` `"s"` `-` `-` `1` `'c'`, nothing has `has_space`: printed `u8 "s"- -1'c'`; read back as identifier, string,
    two punctuators, pp-number, character constant — not as the string `u8"s"` and `--` -/
example : ∃ ts', lex (printTokens [⟨.ident, [117, 56], true, false⟩, ⟨.str, [34, 115, 34], false, false⟩,
      ⟨.punct, [45], false, false⟩, ⟨.punct, [45], false, false⟩, ⟨.ppnum, [49], false, false⟩, ⟨.chr, [39, 99, 39], false, false⟩])
      = .ok ts' ∧ ts'.map (·.kind) = [.ident, .str, .punct, .punct, .ppnum, .chr] ∧
    ts'.map (·.text) = [[117, 56], [34, 115, 34], [45], [45], [49], [39, 99, 39]] :=
  C19_relex_same_kinds _ (by decide +kernel)

/-- **C19 (which printers are faithful).**  Take ANY printer that writes, before each token, a separator chosen from the
    previous token and the token (flags, spellings, anything in them) and a newline at the end.  If every separator consists of
    blanks and newlines, and the separator is EMPTY only where `need_space` says the two spellings may touch, then for every
    list of self-lexing spellings the printed text is read back by `tokenize` as exactly those kinds and spellings.  Whether a
    token gets a newline or a blank, and when, is free (it is cosmetic); the only obligation is the one on the empty
    separator — the branch of `print_tokens` that a change of its newline logic must keep reaching (seeded change C19c dropped it
    for `at_bol` tokens inside an expansion: `unsigned` newline `long` → `unsignedlong`). -/
theorem C19_roundtrip_any_separator_policy (sep : Option Tok → Tok → List Nat)
    (hb : ∀ p t, isBlank (sep p t) = true)
    (hn : ∀ p t, sep (some p) t = [] → needSpace p.text t.text = false)
    (ts : List Tok) (h : ∀ t ∈ ts, selfLexing t.text = true) :
    ∃ ts', lex (printWith sep none ts) = .ok ts' ∧ ts'.map (·.text) = ts.map (·.text) ∧
      ts'.map (·.kind) = ts.map (fun t => kindOf t.text) := by
  refine ⟨_, lex_printWith sep hb hn ts h, ?_, ?_⟩
  · rw [tokensOf_text, itemsWith_text]
  · rw [tokensOf_kind]
    have := congrArg (List.map kindOf) (itemsWith_text sep ts none)
    simpa [List.map_map, Function.comp_def] using this

/-- `print_tokens` is such a printer … -/
theorem C19_print_tokens_is_such_a_printer :
    (∀ ts, printWith sepBefore none ts = printTokens ts) ∧ (∀ p t, isBlank (sepBefore p t) = true) ∧
    (∀ p t, sepBefore (some p) t = [] → needSpace p.text t.text = false) :=
  ⟨fun ts => printWith_sepBefore none ts, sepBefore_blank, sepBefore_nil⟩

/-- … and non-vacuity with another one: a printer that puts EVERY token on a line of its own -/
example : ∃ ts', lex (printWith (fun p _ => if p.isSome then [10] else []) none
      [⟨.ident, [117, 110, 115, 105, 103, 110, 101, 100], true, false⟩, ⟨.ident, [108, 111, 110, 103], true, false⟩,
       ⟨.punct, [45], false, false⟩, ⟨.punct, [45], false, false⟩]) = .ok ts' ∧
    ts'.map (·.text) = [[117, 110, 115, 105, 103, 110, 101, 100], [108, 111, 110, 103], [45], [45]] ∧
    ts'.map (·.kind) = [.ident, .ident, .punct, .punct] :=
  let ⟨ts', h1, h2, h3⟩ := C19_roundtrip_any_separator_policy _ (by intro p t; cases p <;> rfl)
    (by intro p t h; simp at h) _ (by decide +kernel)
  ⟨ts', h1, h2, by rw [h3]; decide⟩

/-- Full statement of the same-program half on the models: whatever list `ts` the first compilation holds after
    `preprocess2`, compiling the `-E` text hands `parse` the token list (kind after `convert_pp_tokens`, spelling) it would
    have received from `ts` directly.  FALSE for chibicc where a name of the initial macro table survives the first pass
    (Findings/C19.lean `C19_finding_same_program_initial_macro_name`: `#undef linux` / `int linux = 1;` — confirmed on the
    binary, known finding C19-second-pass-initial-macro-name); proved on the inert region: `C19_same_tokens`. -/
def C19_same_program_Statement : Prop :=
  ∀ (numOk : List Nat → Bool) (ts : List Tok), (∀ t ∈ ts, lexedAlone t = true) → validText ts = true →
    ∀ (fuel : Nat), ts.length ≤ fuel → ∀ (file : String),
      cc1Tokens numOk fuel file (printTokens ts) = cc1OfTokens numOk ts

/-- **C19 (same tokens for the compiler proper, partial: inert lists).**  Let `ts` be what the first compilation holds after
    `preprocess2` — any flags; kinds and spellings as `tokenize` assigns them; code points that are Unicode scalar values —
    and let it be INERT for the table the second compilation starts from (no `#` at the beginning of a line, no spelling that
    names a macro of `init_macros`; `Inert`/`normFirst` as in `C19_idempotent`).  Then compiling the text `-E` printed —
    `tokenize`, the model of `preprocess2` (Model/PP.lean) from the table of `init_macros`, `convert_pp_tokens`, for every
    display name, every fuel ≥ the number of tokens and EVERY verdict `numOk` of libc on pp-number spellings — hands `parse`
    exactly the list of (kind, spelling) it receives when the source is compiled directly: the same keywords, identifiers,
    punctuators, strings, numbers, in the same order, and the same "invalid numeric constant" diagnostic if there is one.

    What is missing for the full `C19_same_program_Statement`: the inert hypothesis (two known findings; outside it the
    statement is false), and — outside the models — `join_adjacent_string_literals` and `parse` themselves. -/
theorem C19_same_tokens (numOk : List Nat → Bool) (ts : List Tok) (h : ∀ t ∈ ts, lexedAlone t = true)
    (hin : Inert isInitMacro (normFirst ts) = true) (hv : validText ts = true)
    (fuel : Nat) (hfuel : ts.length ≤ fuel) (file : String) :
    cc1Tokens numOk fuel file (printTokens ts) = cc1OfTokens numOk ts := by
  have hs : ∀ t ∈ ts, selfLexing t.text = true := fun t ht => (lexedAlone_spec t (h t ht)).1
  have ht := relexed_text ts
  unfold cc1Tokens cc1OfTokens
  rw [passTokens_printTokens ts hs ((inertInit_relexed ts).trans hin) hv fuel hfuel file]
  simp only
  rw [convertPP_congr numOk (relexed ts) ts (relexed_kind_of_lexedAlone ts h) ht]

/-- non-vacuity: `#define E` / `E unsigned` newline `long v = é - -0x1e;` — the first token has `has_space` and no `at_bol`,
    `-` `-` and `0x1e` carry no flag at all.  The second compilation reads keyword, keyword, identifier, `=`, identifier, `-`,
    `-`, number, `;` — computed by the kernel through the whole model pipeline on the printed text. -/
example : cc1Tokens numOkSimple 9 "b.c" (printTokens [⟨.ident, [117, 110, 115, 105, 103, 110, 101, 100], false, true⟩,
      ⟨.ident, [108, 111, 110, 103], true, false⟩, ⟨.ident, [118], false, true⟩, ⟨.punct, [61], false, true⟩,
      ⟨.ident, [233], false, true⟩, ⟨.punct, [45], false, true⟩, ⟨.punct, [45], false, false⟩,
      ⟨.ppnum, [48, 120, 49, 101], false, false⟩, ⟨.punct, [59], false, false⟩]) =
    .ok [⟨.keyword, .ident, [117, 110, 115, 105, 103, 110, 101, 100]⟩, ⟨.keyword, .ident, [108, 111, 110, 103]⟩,
      ⟨.ident, .ident, [118]⟩, ⟨.punct, .punct, [61]⟩, ⟨.ident, .ident, [233]⟩, ⟨.punct, .punct, [45]⟩, ⟨.punct, .punct, [45]⟩,
      ⟨.num, .ppnum, [48, 120, 49, 101]⟩, ⟨.punct, .punct, [59]⟩] := by
  rw [C19_same_tokens numOkSimple _ (by decide +kernel) ((inertInit_eq _ (by decide +kernel)).trans (by decide +kernel)) (by decide +kernel) 9 (by decide +kernel) "b.c"]
  decide +kernel

/-- … and an invalid number is the same diagnostic on both routes: `1e+` (a pp-number, not a C number for this `numOk`) -/
example : cc1Tokens (fun _ => false) 2 "b.c" (printTokens [⟨.ident, [120], true, false⟩, ⟨.ppnum, [49, 101, 43], false, false⟩]) =
    .error (.conv (.invalidNumber [49, 101, 43])) := by
  rw [C19_same_tokens (fun _ => false) _ (by decide +kernel) ((inertInit_eq _ (by decide +kernel)).trans (by decide +kernel)) (by decide +kernel) 2 (by decide +kernel) "b.c"]
  decide +kernel

/-- **C19 (same program for any consumer of the token list).**  Whatever the rest of cc1 computes from the converted list
    (`consume`: string concatenation, parse, codegen — any function of the list of (kind, spelling)), it computes the same
    from the `-E` text as from the source, on the inert region. -/
theorem C19_same_program_partial {α : Type} (consume : Except Cc1Err (List CTok) → α)
    (numOk : List Nat → Bool) (ts : List Tok) (h : ∀ t ∈ ts, lexedAlone t = true)
    (hin : Inert isInitMacro (normFirst ts) = true) (hv : validText ts = true)
    (fuel : Nat) (hfuel : ts.length ≤ fuel) (file : String) :
    consume (cc1Tokens numOk fuel file (printTokens ts)) = consume (cc1OfTokens numOk ts) := by
  rw [C19_same_tokens numOk ts h hin hv fuel hfuel file]

/-- non-vacuity: the number of tokens `parse` receives for `int x;` -/
example : (Except.toOption (cc1Tokens numOkSimple 3 "b.c" (printTokens [⟨.ident, [105, 110, 116], true, false⟩,
      ⟨.ident, [120], false, true⟩, ⟨.punct, [59], false, false⟩]))).map List.length = some 3 :=
  (C19_same_program_partial (fun r => (Except.toOption r).map List.length) numOkSimple _
    (by decide +kernel) ((inertInit_eq _ (by decide +kernel)).trans (by decide +kernel)) (by decide +kernel) 3 (by decide +kernel) "b.c").trans
    (by decide +kernel)

end ChibiVerif.Props.C19
