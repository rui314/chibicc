/-
C17 — `fnv_hash` and the bucket index as the C code computes them.

The refinement theorem (`C17_refines`) holds for every hash function, so nothing below is
needed for the dictionary law.  What is proved here is what ties the *model's* arithmetic
(`Nat`, no wrap-around, bytes as `UInt8`) to the *code's* (`uint64_t` wrap-around, `char`
signed on x86-64, `int` loop counter and capacity converted to `unsigned long`):

* `Gen.HashSites.fnvStepC`/`probeIndexC` are written by the translator after checking the
  typed AST of clang-14 node by node (every implicit conversion);
* `C17_fnv_typed`: on `char` strings the typed hash is the model's hash of the bytes — bytes
  ≥ 0x80 (UTF-8 identifiers) are zero-extended, not sign-extended;
* `C17_index_agrees`: for every one of the 2^64 hash values the C index expression equals
  the model's `(hash + i) % capacity` — because every reachable capacity is a power of two
  (`C17_capacity_shape`), which is exactly what the claim needs (Findings: false for 12).

Helper lemmas: the two fixed-width conversions at the end of Lemmas/C17ClientLemmas.lean (namespace `C17Hash`); the capacity shape
from Lemmas/C17BoundLemmas.lean.
-/
import ChibiVerif.Model.C17Clients
import ChibiVerif.Lemmas.C17BoundLemmas
import ChibiVerif.Lemmas.C17ClientLemmas

namespace ChibiVerif.Props.C17
open ChibiVerif.HashMap ChibiVerif.C17Clients ChibiVerif.C17Hash
open ChibiVerif.Gen.HashMap (INIT_SIZE fnvHash FNV_PRIME FNV_OFFSET)
open ChibiVerif.Gen.HashSites (fnvStepC fnvHashC probeIndexC)

/-- **C17 (fnv_hash, typed).**  For every `char` string, including negative `char`s (bytes
    ≥ 0x80), the hash computed with clang's conversions is the model's hash of the same
    bytes: `(unsigned char)s[i]` reinterprets, the conversion to `uint64_t` zero-extends. -/
theorem C17_fnv_typed (s : List Int8) : fnvHashC s = fnvHash (s.map Int8.toUInt8) := by
  unfold fnvHashC fnvHash
  rw [List.foldl_map]
  rfl

/-- **C17 (fnv_hash is total and incremental).**  The hash of any byte string extended by
    any byte `c` (0…255) is one multiplication and one xor with `c` as a number below 256. -/
theorem C17_fnv_step (s : List UInt8) (c : UInt8) :
    fnvHash (s ++ [c]) = (fnvHash s * FNV_PRIME) ^^^ c.toUInt64 ∧ c.toUInt64.toNat < 256 := by
  refine ⟨by simp [fnvHash, List.foldl_append], ?_⟩
  rw [UInt8.toNat_toUInt64]
  exact c.toNat_lt

/-- **C17 (signedness matters, and the code has it right).**  For every negative `char` (a byte
    ≥ 0x80) and every accumulator value, the code's round differs from the round a
    sign-extending conversion (`hash ^= s[i]`) would compute.  Together with `C17_fnv_typed`:
    a compiler that mistranslated the cast would hash every UTF-8 identifier differently —
    which by `C17_hash_irrelevant` still could not change any answer of a table. -/
theorem C17_fnv_not_sign_extended (hash : UInt64) (c : Int8) (hc : c < 0) :
    fnvStepC hash c ≠ (hash * FNV_PRIME) ^^^ c.toInt64.toUInt64 := by
  unfold fnvStepC
  intro e
  have e' : hash * FNV_PRIME ^^^ c.toUInt8.toUInt64 = hash * FNV_PRIME ^^^ c.toInt64.toUInt64 := e
  have := congrArg (fun x => (hash * FNV_PRIME) ^^^ x) e'
  simp only [← UInt64.xor_assoc, UInt64.xor_self, UInt64.zero_xor] at this
  exact toUInt8_toUInt64_ne_sext c hc this

/-- non-vacuity: 0xC3 (first byte of `é`) is a negative `char` -/
example : (Int8.ofInt (-61)) < 0 ∧ (Int8.ofInt (-61)).toUInt8 = 0xC3 := by decide

/-- **C17 (bucket index).**  For all 2^64 hash values, every power-of-two capacity below 2^31
    and every loop counter `i < capacity`: the C expression `(hash + i) % map->capacity`
    (sum modulo 2^64, `int`s converted to `unsigned long`) is the model's index
    `(hash + i) % capacity` computed without wrap-around. -/
theorem C17_index_agrees (hash : UInt64) (i cap e : Nat) (he : cap = 2 ^ e) (hcap : cap < 2 ^ 31)
    (hi : i < cap) :
    (probeIndexC hash (Int32.ofNat i) (Int32.ofNat cap)).toNat = (hash.toNat + i) % cap := by
  unfold probeIndexC
  rw [UInt64.toNat_mod, UInt64.toNat_add, int32_nat_roundtrip i (by omega),
    int32_nat_roundtrip cap hcap]
  apply Nat.mod_mod_of_dvd
  rw [he]
  apply Nat.pow_dvd_pow
  have h2 : (2 : Nat) ^ e < 2 ^ 31 := by omega
  have := (Nat.pow_lt_pow_iff_right (by omega : 1 < 2)).1 h2
  omega

/-- non-vacuity, at the wrap-around: hash = 2^64 - 1, i = 3, capacity 16 -/
example : (probeIndexC 0xFFFFFFFFFFFFFFFF (Int32.ofNat 3) (Int32.ofNat 16)).toNat =
    ((0xFFFFFFFFFFFFFFFF : UInt64).toNat + 3) % 16 :=
  C17_index_agrees _ 3 16 4 (by decide) (by decide) (by decide)

/-- **C17 (the model's index is the code's index in every reachable state).**  After any
    history of byte-string keys with the compiler's hash, as long as the table has fewer than
    2^31 buckets: for every key and every loop counter the model's probe index
    `(fnv k + i) % capacity` is the value of the C expression. -/
theorem C17_reachable_index (ops : List (Op Bytes Nat)) :
    ∃ s outs, run fnv HM.empty ops = .ok (s, outs) ∧
      (s.capacity < 2 ^ 31 → ∀ (k : Bytes) (i : Nat), i < s.capacity →
        (probeIndexC (fnvHash k) (Int32.ofNat i) (Int32.ofNat s.capacity)).toNat =
          (fnv k + i) % s.capacity) := by
  obtain ⟨s, outs, hrun, _, hshape, _⟩ := run_empty_cap_bound fnv ops
  refine ⟨s, outs, hrun, ?_⟩
  intro hlt k i hi
  unfold HM.capacity at *
  rcases hshape with h0 | ⟨e, he⟩
  · omega
  · have : s.buckets.length = 2 ^ (e + 4) := by
      rw [he]; show 16 * 2 ^ e = 2 ^ (e + 4); rw [Nat.pow_add]; omega
    exact C17_index_agrees (fnvHash k) i _ (e + 4) this hlt hi

/-- **C17 (the hash function cannot be observed).**  Two runs of the same history with two
    different hash functions (stage 1 and stage 2 of a bootstrap, say) return the same answers
    to every lookup. -/
theorem C17_hash_irrelevant {α β : Type} [DecidableEq α] (h1 h2 : α → Nat) (ops : List (Op α β)) :
    ∃ s1 s2 outs, run h1 HM.empty ops = .ok (s1, outs) ∧ run h2 HM.empty ops = .ok (s2, outs) := by
  obtain ⟨s1, hs1, _, _⟩ := run_empty_refines h1 ops
  obtain ⟨s2, hs2, _, _⟩ := run_empty_refines h2 ops
  exact ⟨s1, s2, _, hs1, hs2⟩

end ChibiVerif.Props.C17
