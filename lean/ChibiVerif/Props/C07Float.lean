/- C07, floating half — translation-time evaluation of arithmetic constant expressions with floating operands equals run-time
   evaluation.

   `Gen.ConstEval.evalDouble` / `eval2` are the translation of parse.c `eval_double` / `eval_double2` / `eval2` / `eval3` over the
   host's floating arithmetic `HostFp` (Model/HostFp.lean); `HostFp.ofOps O` (Model/HostFpX86.lean) is an x86-64 host with
   FLT_EVAL_METHOD 0 on the FPU `O`; `elabA` is the tree the parser and `add_type` build; `Spec.ConstF.eval O` is the C11
   value when every operation is carried out once, in the format of its type, by the instruction the generated code executes
   (Spec/ConstFSpec.lean; Props/C02.lean relates chibicc's code generator to the same instructions).

   **What is assumed of the host's floating arithmetic** (and nothing else):
   1. `HostFp.ofOps`: the compiler itself was compiled for x86-64 with FLT_EVAL_METHOD 0 — `(float)x op (float)y` is one SSE
      single instruction on the narrowed operands, `(double)…` one SSE double instruction, `long double` arithmetic one x87
      instruction under the control word the compiled program runs under (the default 0x37f), conversions between floating
      types one `cvtss2sd`/`cvtsd2ss`/`fld`/`fst`, `-x` is `fchs`, `(long double)` of a 64-bit integer is exact, comparisons are
      `fcomi` read as C reads them, `(int64_t)x` / `(uint64_t)x` deliver the integral part whenever C11 defines it.
   2. `C07Float.Sound O` (Lemmas/C07FloatLemmas.lean): three contracts of `FpuSpec` (widening is exact, `fild` of a 64-bit
      integer is exact, `fchs` complements the sign bit) and the narrowing contracts `FpuSpec` leaves open: `fst` of an exactly
      loaded 64-bit integer is the integer rounded once (= `cvtsi2ss/sd`), `double → long double → float` is `cvtsd2ss` and
      `float → long double → double` is `cvtss2sd` on data that survive a widening-narrowing round trip, `fchs` between
      widening and narrowing complements the sign bit of the narrow datum, and whatever an instruction delivers survives the
      round trip (on x86: no instruction manufactures a signalling NaN).
   `C07Float.sound_of_fpuSpec`: every `FpuSpec` (the contract structure of C02) whose narrowing stores meet `Narrowing F cw`
   is `Sound`, under any control word.
   Notions the statements use: `Sound` (Lemmas/C07FloatLemmas.lean), `Toy.ops`, `Toy.sound` (Lemmas/C07FloatToy.lean), `objBits`
   (Lemmas/ConstEvalLemmas.lean), `FpZeroExact` (Lemmas/ConstEvalStep.lean); `elabA`, `descrA`, `ofC`, `convert` are of the model and the Spec.
   Only property theorems here; lemmas are in Lemmas/C07FloatLemmas.lean, C07FloatInt.lean (`C07_float_extends_int`) and
   C07FloatToy.lean (the witness). -/
import ChibiVerif.Lemmas.C07FloatLemmas
import ChibiVerif.Lemmas.C07FloatToy
import ChibiVerif.Lemmas.C07FloatInt

namespace ChibiVerif.Props.C07
open ChibiVerif.Host ChibiVerif.Gen.ConstEval ChibiVerif.Spec.ConstF ChibiVerif.Spec.Fpu ChibiVerif.ConstElab
open ChibiVerif.ConstEvalLemmas ChibiVerif.C07Float
open ChibiVerif.Spec.Const (ITy)

/-- **Floating folding equals run-time evaluation.**  For every arithmetic constant expression `e` (integer and floating
    constants of every type, `+ - * /`, unary `- + !`, all comparisons, `&& || ?:`, casts between all arithmetic types, the
    integer-only operators on integer operands; any depth, every operand value) that has a C11 value `v` when each operation
    is carried out in the format of its type (FLT_EVAL_METHOD 0):
    * the node chibicc builds has the C11 type of `e`;
    * if `v` is an integer, `eval2` folds the node to the `int64_t` image of `v` (with or without a relocation label); if `v`
      is a floating value, `eval_double` folds the node to exactly that datum, widened to the `long double` the folder computes in;
    * `static T x = e;` stores the C11 conversion of `v` to `T` for every arithmetic type `T` for which that conversion is
      defined: `float`, `double`, `long double` (`*(T *)buf = eval_double(init->expr)`), and every integer type incl. `_Bool` and
      `unsigned long` from a floating initializer ≥ 2^63 (`write_gvar_data`'s scalar path).
    Relative to `Sound O` (see the head of this file). -/
theorem C07_fold_float (O : FpOps) (hO : Sound O) (e : AExpr) (v : AVal) (h : Spec.ConstF.eval O e = some v) :
    CNode.tyOf (elabA e) = .ok (descrA (typeOf e)) ∧
    (match v with
     | .int x => (∃ t, typeOf e = .int t ∧ t.inRange x = true) ∧
                 ∀ label, eval2 .wrapping (HostFp.ofOps O) (elabA e) label = .ok (BitVec.ofInt 64 x)
     | .f32 b => typeOf e = .flt .f32 ∧ evalDouble .wrapping (HostFp.ofOps O) (elabA e) = .ok (O.fld32 b)
     | .f64 b => typeOf e = .flt .f64 ∧ evalDouble .wrapping (HostFp.ofOps O) (elabA e) = .ok (O.fld64 b)
     | .f80 b => typeOf e = .flt .f80 ∧ evalDouble .wrapping (HostFp.ofOps O) (elabA e) = .ok b) ∧
    (∀ b, convert O (.flt .f32) v = some (.f32 b) → storeGvarF32 .wrapping (HostFp.ofOps O) (elabA e) = .ok b) ∧
    (∀ b, convert O (.flt .f64) v = some (.f64 b) → storeGvarF64 .wrapping (HostFp.ofOps O) (elabA e) = .ok b) ∧
    (∀ b, convert O (.flt .f80) v = some (.f80 b) → storeGvarF80 .wrapping (HostFp.ofOps O) (elabA e) = .ok b) ∧
    (∀ (t : ITy) (x : Int), convert O (.int t) v = some (.int x) →
        storeGvarScalar .wrapping (HostFp.ofOps O) (descr t) (elabA e) = .ok (objBits t x)) := by
  have hn := (fold_float O hO e v h).has
  refine ⟨hn.1, ?_, fun b hc => store_f32 O hO hn b hc, fun b hc => store_f64 O hO hn b hc, fun b hc => store_f80 O hO hn b hc,
    fun t x hc => store_int O hO hn t x hc⟩
  cases v with
  | int x => exact ⟨good_int O hn.2.1, hn.2.2⟩
  | f32 b => exact ⟨(good_f32_inv O hn.2.1).1, hn.2.2⟩
  | f64 b => exact ⟨(good_f64_inv O hn.2.1).1, hn.2.2⟩
  | f80 b =>
    refine ⟨?_, hn.2.2⟩
    have hg := hn.2.1
    generalize typeOf e = ty at hg
    rcases ty with t | f
    · exact absurd hg (by simp [Good])
    · cases f <;> first | rfl | exact absurd hg (by simp [Good])

/-- non-vacuity: the contracts are satisfiable (a toy FPU, Lemmas/C07FloatToy.lean), and on it `-(double)3 < 2.0f ? 1.5L : 7`
    has a value -/
example : Sound Toy.ops := Toy.sound
example : (Spec.ConstF.eval Toy.ops (.cond (.bin .lt (.un .neg (.cast (.flt .f64) (.ilit .i32 3))) (.flit .f32 0x4000_8000_0000_0000_0000#80))
    (.flit .f80 0x3fff_c000_0000_0000_0000#80) (.ilit .i32 7))).isSome = true := by decide +kernel

/-- **Constness (accepted), arithmetic constant expressions**: every arithmetic constant expression that has a value — floating
    operands included, e.g. the bound of `int a[(int)2.5 + (0.5 < 1.0)]`; operands that C11 says are not evaluated need not have
    one — is accepted by `is_const_expr` (an array, not a VLA).  Relative to `Sound O` (the truth value of a floating condition
    selects the operand that is looked at). -/
theorem C07_constness_float (O : FpOps) (hO : Sound O) (e : AExpr) (v : AVal) (h : Spec.ConstF.eval O e = some v) :
    isConstExpr .wrapping (HostFp.ofOps O) (elabA e) = .ok true :=
  (fold_float O hO e v h).const

/-- non-vacuity: as above; and the hypothesis `FpZeroExact` of `C07_constness_sound` follows from `Sound` -/
example : (Spec.ConstF.eval Toy.ops (.bin .add (.cast (.int .i32) (.flit .f64 0x50000#80))
    (.bin .lt (.flit .f32 0x3_0000_0000_0000#80) (.ilit .i32 1)))).isSome = true := by decide +kernel
example : FpZeroExact (HostFp.ofOps Toy.ops) := host_zeroExact Toy.ops Toy.sound

/-- **The floating Spec and elaboration extend the integer ones**: an integer constant expression of `C07_fold`
    (Spec/ConstSpec.lean), read as an arithmetic constant expression, is elaborated to the same tree, has the same type and the
    same value — so `C07_fold_float` restricted to integer expressions is `C07_fold` (for the hosts `HostFp.ofOps O`). -/
theorem C07_float_extends_int (O : FpOps) (c : ChibiVerif.Spec.Const.CExpr) :
    elabA (ofC c) = elabE c ∧ typeOf (ofC c) = .int (ChibiVerif.Spec.Const.typeOf c) ∧
    Spec.ConstF.eval O (ofC c) = (ChibiVerif.Spec.Const.eval c).map .int :=
  ⟨elabA_ofC c, typeOf_ofC c, eval_ofC O c⟩

end ChibiVerif.Props.C07
