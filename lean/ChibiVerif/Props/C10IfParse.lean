/-
C10 — from the tokens of a `#if` / `#elif` line to the group decision.

Property theorems only.  Model: Model/IfParse.lean (eval_const_expr → read_const_expr → expansion → identifiers 0 → conversion →
const_expr / conditional … primary of parse.c as a recursive-descent parser over tokens; the ten binary levels from the table
`Gen/C10IfParseGen.lean` regenerated from parse.c on every run, the other functions pinned by the same translator).
Specification: Spec/IfGrammar.lean (the grammar of C11 6.5 / 6.6 restricted to controlling expressions, as a derivation
relation), Model/PPExpr.lean `ev` (C11 6.10.1p4 value of a tree).  Helper lemmas: Lemmas/IfParseLemmas.lean,
Lemmas/IfParseGrammar.lean; they also define `WB`, `c11of`, `entryOK` (IfParseLemmas) and `Snd` (IfParseGrammar), which the
statements below use.

This closes the gap between `C10_ifexpr_partial` / `C10_groups` (Props/C10.lean), which start from an expression tree, and
the token line the preprocessor actually has.
-/
import ChibiVerif.Props.C10
import ChibiVerif.Lemmas.IfParseGrammar

namespace ChibiVerif.Props.C10
open ChibiVerif.CondIncl ChibiVerif.Spec.CondIncl ChibiVerif.PPExpr ChibiVerif.IfParse ChibiVerif.Spec.IfGrammar

/-- **C10 (#if parser, totality).**  For every token list:
    (1) every entry point of the recursive-descent parser (conditional, expr, each binary level, each loop), run with any fuel
        above the number of tokens, ends with a tree or a located diagnostic – never "out of fuel" – and the tokens left
        over are no more than the input (so the location is a position inside the line, or its end);
    (2) hence `ifParse` (const_expr + the "extra token" test, fuel = length + 1) is a total function whose outcome is a tree
        or one of the diagnostics of the C code – "expected an expression", "expected ')'", "expected ':'", "extra token", or
        the division by zero that const_expr's evaluation finds before the extra-token test is reached –
        at a token index ≤ length (= length: the EOF token), or `unmodelled` at the index of a token that leaves the
        fragment a controlling expression can contain. -/
theorem C10_ifparse_total (ts : List PTok) :
    (∀ f m, ts.length < f → WB (parseN f m ts) ts.length) ∧
    (match ifParse ts with
     | .ok _ => True
     | .error e => ∃ i, i ≤ ts.length ∧
        (e = .expectedExpr i ∨ e = .expected ")" i ∨ e = .expected ":" i ∨ e = .extraToken i ∨ e = .divZeroFirst i ∨
         e = .unmodelled i)) := by
  refine ⟨fun f m h => parseN_wb f m ts h, ?_⟩
  have h := parseN_wb (ts.length + 1) .cond ts (Nat.lt_succ_self _)
  unfold ifParse
  generalize parseN (ts.length + 1) .cond ts = res at h
  rcases res with ⟨k, r⟩ | ⟨t, _ | ⟨x, r⟩⟩
  · refine ⟨ts.length - r.length, Nat.sub_le _ _, ?_⟩
    cases k with
    | expectedExpr => exact .inl rfl
    | unmodelled => exact .inr (.inr (.inr (.inr (.inr rfl))))
    | fuel => exact nomatch h.1
    | expected s =>
      rcases Bool.or_eq_true _ _ ▸ h.1 with hs | hs <;> cases eq_of_beq hs
      · exact .inr (.inl rfl)
      · exact .inr (.inr (.inl rfl))
  · trivial
  · simp only
    by_cases hz : isDivZero (evalTopC [] (ptExpr t)) = true
    · rw [if_pos hz]; exact ⟨_, Nat.sub_le _ _, .inr (.inr (.inr (.inr (.inl rfl))))⟩
    · rw [if_neg hz]; exact ⟨_, Nat.sub_le _ _, .inr (.inr (.inr (.inl rfl)))⟩

/-- **C10 (#if parser, the fuel is immaterial).**  Any number of unfoldings above the number of tokens gives, for every entry
    point, exactly the result of `length + 1` unfoldings: the parser is a function of the token list alone. -/
theorem C10_ifparse_fuel (ts : List PTok) (m : IfParse.Mode) (f : Nat) (h : ts.length < f) :
    parseN f m ts = parseN (ts.length + 1) m ts :=
  parseN_stable ts m f h

example : ([.num 1 false, .punct "+", .num 2 false] : List PTok).length < 100 := by decide +kernel

/-- every outcome: a tree; each diagnostic with its position; a token outside the fragment -/
example :
    ifParse [.num 1 false, .punct "+", .num 2 true, .punct "*", .punct "(", .num 3 false, .punct ")"]
      = .ok (.bin .add (.num 1 false) (.bin .mul (.num 2 true) (.num 3 false))) ∧
    ifParse [.num 1 false, .punct "+"] = .error (.expectedExpr 2) ∧
    ifParse [.punct "(", .num 1 false] = .error (.expected ")" 2) ∧
    ifParse [.num 1 false, .punct "?", .num 2 false, .num 3 false] = .error (.expected ":" 3) ∧
    ifParse [.num 1 false, .punct ",", .num 2 false] = .error (.extraToken 1) ∧
    ifParse [.num 1 false, .punct "=", .num 2 false] = .error (.extraToken 1) ∧
    ifParse [.num 1 false, .punct "/", .num 0 false, .punct ")"] = .error (.divZeroFirst 3) ∧
    ifParse [.num 0 false, .punct "&&", .num 1 false, .punct "/", .num 0 false, .punct ")"] = .error (.extraToken 5) ∧
    ifParse [.punct "(", .num 1 false, .punct "=", .num 2 false, .punct ")"] = .error (.unmodelled 2) ∧
    ifParse [.num 1 false, .punct "(", .num 2 false, .punct ")"] = .error (.unmodelled 1) ∧
    ifParse [.other] = .error (.unmodelled 0) := by decide +kernel

/-- **C10 (#if parser, the operator table of the code is the table of C11).**  The table regenerated from the ten functions
    logor() … mul() of parse.c has exactly ten levels; every operator a level tests for is an operator of the same level of
    C11 6.5.5–6.5.14 with the node kind that denotes it (`>` / `>=` as `<` / `<=` with the operands exchanged), and every
    operator of C11 is tested for at its level; the unary operators are + - ~ !.  A changed level, spelling, node kind or
    operand order in parse.c changes the generated table and breaks this theorem. -/
theorem C10_ifparse_table :
    (top = 10 ∧ ∀ d ∈ List.range 11, ∀ e ∈ opsAt d, (e.1, c11of e.2.1 e.2.2) ∈ c11Ops d ∧ entryOK e.2.1 e.2.2 = true) ∧
    (∀ d ∈ List.range 11, ∀ e ∈ c11Ops d, ∃ x ∈ opsAt d, x.1 = e.1 ∧ c11of x.2.1 x.2.2 = e.2) ∧
    (∀ e ∈ ChibiVerif.Gen.C10IfParse.unaryOps, e ∈ c11Unary) ∧ (∀ e ∈ c11Unary, e ∈ ChibiVerif.Gen.C10IfParse.unaryOps) :=
  ⟨table_c11, table_c11_complete, unary_c11.1, unary_c11.2⟩

/-- **C10 (#if parser, precedence and associativity).**  Whenever the parser delivers a tree for a token list, the grammar of
    C11 6.5 / 6.6 (Spec/IfGrammar.lean: ten left-associative binary levels, unary operators binding tighter, `?:` with a
    full expression in the middle and a conditional-expression on the right, parentheses) derives exactly that token list
    with exactly that tree, as a constant-expression (= conditional-expression). -/
theorem C10_ifparse_precedence (ts : List PTok) (t : PT) (h : ifParse ts = .ok t) : Derives .cond ts t := by
  unfold ifParse at h
  have hs := parseN_snd (ts.length + 1) .cond ts
  generalize parseN (ts.length + 1) .cond ts = res at h hs
  rcases res with _ | ⟨t', _ | ⟨x, r⟩⟩
  · cases h
  · cases h
    obtain ⟨pre, hpre, hd⟩ := hs _ [] rfl
    rw [hpre, List.append_nil]; exact hd
  · simp only at h; split at h <;> cases h

/-- … and for every entry point and every fuel: the tokens consumed are derived by the entry point's nonterminal (`Snd`,
    Lemmas/IfParseGrammar.lean). -/
theorem C10_ifparse_precedence_entry (f : Nat) (m : IfParse.Mode) (ts : List PTok) : Snd m (parseN f m ts) ts :=
  parseN_snd f m ts

/-- non-vacuity, and what the derivations look like: `*` binds tighter than `+` which binds tighter than `<<`, `<` tighter
    than `==` tighter than `&` `^` `|` `&&` `||`; `-` and `/` associate to the left, `?:` to the right; unary operators bind
    tighter than any binary operator; `a > b` is the tree of `b < a`; `+ a` is the tree of `a` -/
example :
    ifParse [.num 1 false, .punct "<<", .num 2 false, .punct "+", .num 3 false, .punct "*", .num 4 false]
      = .ok (.bin .shl (.num 1 false) (.bin .add (.num 2 false) (.bin .mul (.num 3 false) (.num 4 false)))) ∧
    ifParse [.num 1 false, .punct "||", .num 2 false, .punct "&&", .num 3 false, .punct "|", .num 4 false, .punct "^", .num 5 false,
        .punct "&", .num 6 false, .punct "==", .num 7 false, .punct "<", .num 8 false]
      = .ok (.bin .lor (.num 1 false) (.bin .land (.num 2 false) (.bin .bor (.num 3 false) (.bin .bxor (.num 4 false)
          (.bin .band (.num 5 false) (.bin .eq (.num 6 false) (.bin .lt (.num 7 false) (.num 8 false)))))))) ∧
    ifParse [.num 8 false, .punct "-", .num 4 false, .punct "-", .num 2 false, .punct "/", .num 2 false, .punct "/", .num 1 false]
      = .ok (.bin .sub (.bin .sub (.num 8 false) (.num 4 false)) (.bin .div (.bin .div (.num 2 false) (.num 2 false)) (.num 1 false))) ∧
    ifParse [.num 1 false, .punct "?", .num 2 false, .punct ":", .num 3 false, .punct "?", .num 4 false, .punct ":", .num 5 false]
      = .ok (.cond (.num 1 false) (.num 2 false) (.cond (.num 3 false) (.num 4 false) (.num 5 false))) ∧
    ifParse [.punct "-", .num 1 false, .punct "*", .punct "!", .punct "~", .num 2 false]
      = .ok (.bin .mul (.un .neg (.num 1 false)) (.un .lnot (.un .bnot (.num 2 false)))) ∧
    ifParse [.num 1 false, .punct ">", .punct "+", .num 2 false] = .ok (.bin .lt (.num 2 false) (.num 1 false)) := by decide +kernel

/-- **C10 (`defined` before expansion, identifiers 0 after it).**  For every macro-definedness oracle, every macro expander
    and every constant converter:
    (1) a line with `defined X` or `defined ( X )` has the tree of the same line with `1` / `0` – according to the macro
        table as it is *before* expansion – written in its place: `X` is never handed to the expander (C11 6.10.1p1, p4);
    (2) behind the expansion, an identifier that is left – keywords such as `true` or `int` are identifiers here – has the
        tree of the same line with `0` in its place (C11 6.10.1p4). -/
theorem C10_ifparse_defined (isDef : String → Bool) (xp : List Tok → Except Diag (List Tok)) (cv : Tok → Option PTok)
    (x : String) (pre post : List Tok)
    (hpre : ∀ t ∈ pre, t ≠ .ident "defined") (hpost : ∀ t ∈ post, t ≠ .ident "defined") :
    ifTree isDef xp cv (pre ++ .ident "defined" :: .ident x :: post)
      = ifTree isDef xp cv (pre ++ .num (if isDef x then "1" else "0") :: post) ∧
    ifTree isDef xp cv (pre ++ .ident "defined" :: .punct "(" :: .ident x :: .punct ")" :: post)
      = ifTree isDef xp cv (pre ++ .num (if isDef x then "1" else "0") :: post) ∧
    (∀ a b n, afterExpand cv (a ++ .ident n :: b) = afterExpand cv (a ++ .num "0" :: b)) := by
  have hforms := C10_defined_forms isDef x pre post hpre hpost
  have hplain : readDefined isDef (pre ++ .num (if isDef x then "1" else "0") :: post)
      = .ok (pre ++ .num (if isDef x then "1" else "0") :: post) := by
    rw [readDefined_append isDef pre _ hpre, readDefined_cons isDef (.num _) post (by intro h; cases h),
      readDefined_no_defined isDef post hpost]
  refine ⟨?_, ?_, ?_⟩
  · unfold ifTree; rw [hforms.1, hplain]
  · unfold ifTree; rw [hforms.2, hplain]
  · intro a b n
    have : identToZero (a ++ .ident n :: b) = identToZero (a ++ .num "0" :: b) := by
      simp only [identToZero, List.map_append, List.map_cons]
    unfold afterExpand
    rw [this]
    cases a <;> rfl

/-- non-vacuity: with `X` defined as a macro whose expansion would be `0`, `defined X` is still 1 (the expander below
    replaces every `X` by `0`); an undefined `true` is 0; `defined` without a name is rejected -/
example :
    let isDef := fun n => n == "X"
    let xp : List Tok → Except Diag (List Tok) := fun ts => .ok (ts.map (fun t => if t = .ident "X" then .num "0" else t))
    let cv : Tok → Option PTok := fun t => match t with
      | .num "0" => some (.num 0 false) | .num "1" => some (.num 1 false) | .punct s => some (.punct s) | _ => none
    ifTree isDef xp cv [.ident "defined", .ident "X", .punct "&&", .punct "!", .ident "X"]
      = .ok (.bin .land (.num 1 false) (.un .lnot (.num 0 false))) ∧
    ifTree isDef xp cv [.ident "true", .punct "||", .ident "defined", .punct "(", .ident "Y", .punct ")"]
      = .ok (.bin .lor (.num 0 false) (.num 0 false)) ∧
    ifTree isDef xp cv [.ident "defined", .punct "+"] = .error .badDefined ∧
    ifTree isDef xp cv [] = .error .noExpr := by decide +kernel

/-- **C10 (#if line ⇒ decision).**  For every macro expander and constant converter, every token line and every macro table:
    outside `ifRegion` – the tree of the line has no comma operator, no `int`-typed intermediate result leaves 32 bits (known
    finding C10-ppif-int-result-shift), and C11 does not leave the behaviour undefined – the decision chibicc takes for the
    line (`defined` → expansion → identifiers 0 → conversion → parse → its own evaluation) is the C11 6.10.1p4 value of the
    tree the C11 grammar assigns to the line (`C10_ifparse_precedence`), including the diagnostics: a line without a tree
    and a division by zero in an evaluated operand are rejected by both. -/
theorem C10_ifline {β : Type} (xp : Defs β → List Tok → Except Diag (List Tok)) (cv : Tok → Option PTok)
    (line : List Tok) (d : Defs β) (h : ifRegion xp cv line d = false) :
    ifEval true xp cv line d = ifEval false xp cv line d := by
  unfold ifEval
  unfold ifRegion at h
  generalize ifTree d.isDef (xp d) cv line = r at h
  cases r with
  | error _ => rfl
  | ok t =>
    simp only [Bool.or_eq_false_iff] at h
    simp only [if_true, Bool.false_eq_true, if_false]
    exact C10_ifexpr_partial [] t.toExpr h.1.2 h.2

/-- **C10 (#if lines ⇒ groups).**  A translation unit whose controlling expressions are token lines: if no condition that is
    actually *evaluated* (under the macro table of that moment) lies in `ifRegion`, the machine transcribed from preprocess2
    with chibicc's evaluation of the lines selects exactly the text the C11 6.10.1 grammar tree selects when every evaluated
    line has the C11 value of its C11 parse tree. -/
theorem C10_ifline_groups {β : Type} (xp : Defs β → List Tok → Except Diag (List Tok)) (cv : Tok → Option PTok)
    (ls : List (Line (List Tok) β)) (d : Defs β)
    (h : condMachine (guardEv (ifRegion xp cv) .outOfFuel (ifEval true xp cv)) ls d ≠ .error .outOfFuel) :
    condMachine (ifEval true xp cv) ls d = groups (ifEval false xp cv) ls d := by
  rw [condMachine_guard (ifEval true xp cv) (ifEval false xp cv) _ .outOfFuel (fun c d' hP => C10_ifline xp cv c d' hP) ls d h]
  exact C10_groups _ ls d

/-- non-vacuity: `#define A 1 + 2` / `#if A * 3 == 7` (token-level replacement: 1 + 2 * 3) / a / `#elif (1 < 2) << 40` (in
    the region, but not evaluated) / b / `#endif`: the unit satisfies the hypothesis and `a` is selected -/
example :
    let xp : Defs (List Tok) → List Tok → Except Diag (List Tok) := fun d ts =>
      .ok (ts.flatMap (fun t => match t with | .ident n => (d.lookup n).getD [t] | t => [t]))
    let cv : Tok → Option PTok := fun t => match t with
      | .num "1" => some (.num 1 false) | .num "2" => some (.num 2 false) | .num "3" => some (.num 3 false)
      | .num "7" => some (.num 7 false) | .num "40" => some (.num 40 false) | .punct s => some (.punct s) | _ => none
    condMachine (guardEv (ifRegion xp cv) .outOfFuel (ifEval true xp cv))
      [.plain (.define "A" [.num "1", .punct "+", .num "2"]),
       .opens (.ifE [.ident "A", .punct "*", .num "3", .punct "==", .num "7"]), .plain (.text ["a"]),
       .part (.elif [.punct "(", .num "1", .punct "<", .num "2", .punct ")", .punct "<<", .num "40"]), .plain (.text ["b"]),
       .endif false] []
      = .ok ⟨[("A", [.num "1", .punct "+", .num "2"])], [["a"]]⟩ := by decide +kernel

end ChibiVerif.Props.C10
