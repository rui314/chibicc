/-
C17 — resource bound of the name tables ("table maintenance never aborts the compiler",
quantitative half).

hashmap.c grows a table only inside `rehash`, and `rehash` counts the *live* keys: the
tombstones `#undef` leaves behind are dropped, so a history that defines and undefines
names over and over does not grow the table.  The bound is in terms of the abstract
dictionary: `peak ops` = the largest number of names it holds at the beginning of any
operation.  The dual failure (tombstones not counted towards the load: the table fills
with them and the probe loops run into `unreachable()`) is in Findings/C17Deep.lean
(`C17_live_only_accounting_aborts`; the trial changes /verif/seeded/C17c and C13b).

Property theorems, and the two probe counters `getProbes`, `insProbes` of `C17_probe_bound`.  Helper lemmas:
Lemmas/C17BoundLemmas.lean, which also defines `peak`, `nputs` (and `CapShape`, `astep` that `peak` is written with).
-/
import ChibiVerif.Lemmas.C17BoundLemmas

namespace ChibiVerif.Props.C17
open ChibiVerif.HashMap
open ChibiVerif.Gen.HashMap (INIT_SIZE)

variable {α β : Type} [DecidableEq α]

/-- **C17 (capacity bound).**  For every hash function and every history from the
    zero-initialised table: the run does not abort, and the final capacity is at most
    `max INIT_SIZE (4 * peak)`, where `peak` is the largest number of names the dictionary
    held at the beginning of any operation (or at the end).  Deleted names do not count. -/
theorem C17_capacity_bound (h : α → Nat) (ops : List (Op α β)) :
    ∃ s outs, run h HM.empty ops = .ok (s, outs) ∧
      s.capacity ≤ max INIT_SIZE (4 * peak (AMap.empty : AMap α β) ops) := by
  obtain ⟨s, outs, hrun, _, _, hcap⟩ := run_empty_cap_bound h ops
  exact ⟨s, outs, hrun, hcap⟩

/-- **C17 (no growth from churn).**  If the dictionary never holds more than `n` names, the
    table never has more than `max INIT_SIZE (4 n)` buckets — however many define/undefine
    cycles the history contains. -/
theorem C17_churn_bounded (h : α → Nat) (ops : List (Op α β)) (n : Nat)
    (hn : peak (AMap.empty : AMap α β) ops ≤ n) :
    ∃ s outs, run h HM.empty ops = .ok (s, outs) ∧ s.capacity ≤ max INIT_SIZE (4 * n) := by
  obtain ⟨s, outs, hrun, hcap⟩ := C17_capacity_bound h ops
  exact ⟨s, outs, hrun, by omega⟩

/-- non-vacuity of `C17_churn_bounded`: define/undefine cycles over five distinct names, never
    more than one name defined at a time -/
example : peak (AMap.empty : AMap Nat Nat)
    [.put 1 1, .del 1, .put 2 2, .del 2, .put 3 3, .del 3, .put 4 4, .del 4, .put 5 5, .del 5,
     .put 1 6, .get 1, .del 1] ≤ 1 := by decide

/-- **C17 (capacity bound, counted in insertions).**  After a history with `n` put operations
    the capacity is at most `max INIT_SIZE (4 n)`. -/
theorem C17_capacity_bound_puts (h : α → Nat) (ops : List (Op α β)) :
    ∃ s outs, run h HM.empty ops = .ok (s, outs) ∧ s.capacity ≤ max INIT_SIZE (4 * nputs ops) := by
  apply C17_churn_bounded
  have := peak_le_nputs ops (AMap.empty : AMap α β)
  simpa [AMap.empty] using this

/-- **C17 (capacity shape).**  Every reachable capacity is 0 (never used) or
    `INIT_SIZE * 2^e`: with `INIT_SIZE = 16` a power of two, which is what makes the C index
    expression `(hash + i) % capacity` (computed modulo 2^64) equal to the model's (see
    `C17_index_agrees` in Props/C17Hash.lean). -/
theorem C17_capacity_shape (h : α → Nat) (ops : List (Op α β)) :
    ∃ s outs, run h HM.empty ops = .ok (s, outs) ∧
      (s.capacity = 0 ∨ ∃ e, s.capacity = INIT_SIZE * 2 ^ e) := by
  obtain ⟨s, outs, hrun, _, hshape, _⟩ := run_empty_cap_bound h ops
  exact ⟨s, outs, hrun, hshape⟩

/-- **C17 (the C `int` arithmetic does not overflow).**  `used * 100` and `nkeys * 100` are
    computed in `int`; with fewer than 2^31 / 400 ≈ 5.3 million names alive at any time
    `capacity * 100 < 2^31` in every reachable state, hence `used * 100 < 2^31` as well
    (`used < capacity`).  This discharges the side condition (I4) of the model (Nat for int). -/
theorem C17_no_int_overflow (h : α → Nat) (ops : List (Op α β))
    (hn : peak (AMap.empty : AMap α β) ops < 5368709) :
    ∃ s outs, run h HM.empty ops = .ok (s, outs) ∧ s.capacity * 100 < 2 ^ 31 ∧
      s.used * 100 < 2 ^ 31 := by
  obtain ⟨s, outs, hrun, hinv, _, hcap⟩ := run_empty_cap_bound h ops
  -- 4 * 5368708 * 100 = 2147483200 < 2^31 = 2147483648
  have hc : s.capacity ≤ 21474832 := Nat.le_trans hcap (Nat.max_le.mpr ⟨by decide, by omega⟩)
  have hu : s.used ≤ s.capacity := by
    rcases hinv with ⟨_, hu⟩ | w
    · rw [hu]; exact Nat.zero_le _
    · exact Nat.le_of_lt w.used_lt
  exact ⟨s, outs, hrun, by omega, by omega⟩

/-- non-vacuity of `C17_no_int_overflow` -/
example : peak (AMap.empty : AMap Nat Nat) [Op.put 1 1, Op.put 2 2, Op.del 1, Op.get 2] < 5368709 := by
  decide

/-! ### Cost of one probe loop -/

/-- number of buckets `get_entry` inspects (same recursion as `HM.getLoop`) -/
def getProbes (b : List (Slot α β)) (hk : Nat) (k : α) : Nat → Nat → Nat
  | 0, _ => 0
  | n + 1, i =>
    match HM.slotAt b ((hk + i) % b.length) with
    | .full k' _ => if k' = k then 1 else 1 + getProbes b hk k n (i + 1)
    | .tomb => 1 + getProbes b hk k n (i + 1)
    | .empty => 1

/-- number of buckets `get_or_insert_entry` inspects (same recursion as `HM.insLoop`) -/
def insProbes (b : List (Slot α β)) (hk : Nat) (k : α) : Nat → Nat → Nat
  | 0, _ => 0
  | n + 1, i =>
    match HM.slotAt b ((hk + i) % b.length) with
    | .full k' _ => if k' = k then 1 else 1 + insProbes b hk k n (i + 1)
    | .tomb => 1 + insProbes b hk k n (i + 1)
    | .empty => 1

/-- **C17 (cost).**  A lookup, a deletion and the probe loop of an insertion inspect at most
    `capacity` buckets (the loops are `for (i = 0; i < map->capacity; i++)`), and by
    `C17_capacity_bound` the capacity is at most `max INIT_SIZE (4 * peak)`: the cost of a table
    operation is linear in the number of names alive, never in the length of the history. -/
theorem C17_probe_bound (b : List (Slot α β)) (hk : Nat) (k : α) (n i : Nat) :
    getProbes b hk k n i ≤ n ∧ insProbes b hk k n i ≤ n := by
  induction n generalizing i with
  | zero => simp [getProbes, insProbes]
  | succ n ih =>
    have := ih (i + 1)
    constructor
    · rw [getProbes]; split
      · split <;> omega
      · omega
      · omega
    · rw [insProbes]; split
      · split <;> omega
      · omega
      · omega

end ChibiVerif.Props.C17
