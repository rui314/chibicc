/-
C17 — the clients of hashmap.c: no false hit and no false miss from the way keys are passed.

The name tables of the compiler (macros, the variable and tag table of every scope, the
keyword and type-name sets, the include-path cache, `#pragma once` and include-guard
tables) are all `HashMap`s used through six entry points.  An entry stores the *pointer*
it was given; lookups come as (pointer, length) pairs into a source buffer, stores mostly as
NUL-terminated copies.  Two names must meet in a table exactly when they are the same
spelling — whatever follows the token in its buffer (`out` vs `out_err`), whichever of the
conventions each side uses.

* `C17_match_is_equality`, `C17_client_keys`, `C17_span_ignores_context`,
  `C17_copy_is_spelling_iff_no_nul`: the conventions of `Model/C17Clients.lean`;
* `C17_clients_dictionary`, `C17_client_last_write_wins`: client histories answer like a
  dictionary keyed by spelling (through `C17_refines`, with the compiler's hash);
* `C17_sites_audited`: **every** call of `hashmap_*` in the nine sources (list regenerated on
  every run from the text, cross-checked against clang's typed AST) passes its key by one of
  the audited conventions, into a known table, with an audited non-NULL value — a new call
  site with another convention makes this `decide` fail;
* `C17_key_memory_stable`: nothing is ever freed, only two growable arrays are reallocated,
  the in-place rewriters of a source buffer run before its first token exists;
* `C17_ident_no_nul`: why a copied identifier cannot contain a NUL.

Helper lemmas: Lemmas/C17ClientLemmas.lean (it defines `untilNul`, used in `C17_copy_is_spelling_iff_no_nul`), histories from
Lemmas/C17BoundLemmas.lean.  Defined here: `lastWriteSp`, `MacroOp` with `toCOp`/`name`, `definedAs` (the macro table in the
property's own words).

Goto labels are not a client: `resolve_goto_labels` compares `strndup`ed names with `strcmp`
in a linked list (C03_label_binds).

Assumed, not proved: no write through a pointer into an object after its address became a
key (C has no ownership; supported by `C17_key_memory_stable` and by the differential legs).
-/
import ChibiVerif.Lemmas.C17ClientLemmas
import ChibiVerif.Lemmas.C17BoundLemmas
import ChibiVerif.Gen.LexGen

namespace ChibiVerif.Props.C17
open ChibiVerif.HashMap ChibiVerif.C17Clients
open ChibiVerif.Gen.HashSites

/-- **C17 (`match`).**  The comparison hashmap.c makes between a stored key and a looked-up
    key — equal `keylen`, then `memcmp` over `keylen` bytes — is equality of the two byte
    strings: a key that is a proper prefix of another (`out`, `out_err`) does not match it. -/
theorem C17_match_is_equality (stored key : Bytes) : matchC stored key = true ↔ stored = key :=
  matchC_iff stored key

/-- **C17 (client keys).**  For any two key sources that satisfy the side conditions of their
    conventions (token inside its buffer; copied token without NUL; string terminated), in
    any combination of conventions: both keys are defined, and hashmap.c's comparison of
    them succeeds iff the two spellings are equal. -/
theorem C17_client_keys (a b : Src) (ha : a.wf = true) (hb : b.wf = true) :
    ∃ ka kb, a.key = .ok ka ∧ b.key = .ok kb ∧ (matchC ka kb = true ↔ a.spelling = b.spelling) :=
  ⟨a.spelling, b.spelling, key_of_wf ha, key_of_wf hb, matchC_iff _ _⟩

/-- non-vacuity: the token `out` inside the buffer `out_err = 1;` looked up as a span, against
    `out_err` stored as a copy and `out` stored as a literal -/
example :
    let buf : Bytes := [111, 117, 116, 95, 101, 114, 114, 32, 61, 32, 49, 59, 0]
    (Src.span buf 3).wf = true ∧ (Src.dup buf 7).wf = true ∧ (Src.cstr [111, 117, 116, 0]).wf = true ∧
    (Src.span buf 3).spelling ≠ (Src.dup buf 7).spelling ∧
    (Src.span buf 3).spelling = (Src.cstr [111, 117, 116, 0]).spelling := by decide

/-- **C17 (a span does not see its context).**  The key of a token is the same whatever
    follows it in the buffer. -/
theorem C17_span_ignores_context (tok r1 r2 : Bytes) :
    (Src.span (tok ++ r1) tok.length).key = (Src.span (tok ++ r2) tok.length).key := by
  simp [Src.key, spanC]

/-- **C17 (a copy is the spelling exactly when the token has no NUL).**  For a token inside
    its buffer, `strndup` + `strlen` yields the part before the first NUL; that is the whole
    token iff the token contains no NUL.  (So "keys that differ only after an embedded NUL"
    would collide — and cannot occur, `C17_ident_no_nul`.) -/
theorem C17_copy_is_spelling_iff_no_nul (obj : Bytes) (len : Nat) (h : len ≤ obj.length) :
    (Src.dup obj len).key = .ok (untilNul (obj.take len)) ∧
    ((Src.dup obj len).key = .ok (obj.take len) ↔ (0 : UInt8) ∉ obj.take len) := by
  refine ⟨key_dup_general h, ?_⟩
  rw [key_dup_general h]
  constructor
  · intro e
    injection e with e
    rw [← e]
    exact zero_not_mem_untilNul _
  · intro hn
    rw [untilNul_of_not_mem hn]

/-- non-vacuity -/
example : (3 : Nat) ≤ ([97, 98, 99, 0] : Bytes).length := by decide

/-- **C17 (why identifiers have no NUL).**  `read_ident` accepts a code point only if
    `is_ident1`/`is_ident2` (tables regenerated from unicode.c) accepts it, and neither accepts
    code point 0; in UTF-8 a zero byte occurs only as the encoding of code point 0
    (C11_utf8_layout).  Literals of the compiler are covered by `C17_sites_audited`. -/
theorem C17_ident_no_nul :
    ChibiVerif.Gen.Lex.isIdent1 0 = false ∧ ChibiVerif.Gen.Lex.isIdent2 0 = false := by decide

/-- **C17 (client histories).**  Any history of stores, deletions and lookups whose keys are
    named through any mix of the three conventions (side conditions satisfied) is executed by
    hashmap.c, with the compiler's hash, without abort, and every lookup is answered like
    the dictionary **keyed by spelling**. -/
theorem C17_clients_dictionary (cops : List COp) (hwf : ∀ c ∈ cops, c.src.wf = true) :
    ∃ ops s, toOps cops = .ok ops ∧
      run fnv HM.empty ops = .ok (s, (arun AMap.empty (cops.map COp.spellOp)).2) := by
  refine ⟨cops.map COp.spellOp, ?_⟩
  obtain ⟨s, hs, _, _⟩ := run_empty_refines fnv (cops.map COp.spellOp)
  exact ⟨s, toOps_of_wf hwf, hs⟩

/-- non-vacuity of `C17_clients_dictionary`: `#define out_err`, `#define out` (copies of
    tokens), lookup of the token `out` in `out_err = 1;`, `-U out` (command-line word) -/
example :
    let buf : Bytes := [111, 117, 116, 95, 101, 114, 114, 32, 61, 32, 49, 59, 0]
    ∀ c ∈ [COp.put (.dup buf 7) 1, COp.put (.dup buf 3) 2, COp.get (.span buf 3),
           COp.del (.cstr [111, 117, 116, 0]), COp.get (.span buf 3)], c.src.wf = true := by decide

/-- what the most recent operation on the spelling `sp` left -/
def lastWriteSp (cops : List COp) (sp : Bytes) : Option Nat :=
  cops.foldl (fun acc c => match c with
    | .put s v => if s.spelling = sp then some v else acc
    | .del s => if s.spelling = sp then none else acc
    | .get _ => acc) none

/-- **C17 (client-level wording of the property).**  After any well-formed client history a
    lookup through any convention returns the value of the most recent store whose
    **spelling** equals the lookup's, unless a deletion of that spelling followed — whichever
    conventions the store, the deletion and the lookup used. -/
theorem C17_client_last_write_wins (cops : List COp) (q : Src) (hwf : ∀ c ∈ cops, c.src.wf = true)
    (hq : q.wf = true) :
    ∃ ops s outs, toOps (cops ++ [COp.get q]) = .ok ops ∧ run fnv HM.empty ops = .ok (s, outs) ∧
      outs.getLast? = some (lastWriteSp cops q.spelling) := by
  have hwf' : ∀ c ∈ cops ++ [COp.get q], c.src.wf = true := by
    intro c hc
    rcases List.mem_append.1 hc with h | h
    · exact hwf c h
    · simp at h; subst h; exact hq
  obtain ⟨ops, s, hops, hrun⟩ := C17_clients_dictionary _ hwf'
  refine ⟨ops, s, _, hops, hrun, ?_⟩
  rw [List.map_append, arun_append]
  simp only [List.map_cons, List.map_nil, COp.spellOp, arun, List.getLast?_concat]
  rw [arun_get_eq_foldl]
  congr 1
  unfold lastWriteSp
  rw [List.foldl_map]
  congr 1
  funext acc c
  cases c <;> rfl

/-! ### The macro table in the property's own words -/

/-- the operations of preprocess.c / main.c on `macros`, each with the key convention its call
    site uses (`C17_sites_audited`, `C17_tables_mix_conventions`); `body` identifies a
    replacement list -/
inductive MacroOp where
  | define (buf : Bytes) (len : Nat) (body : Nat)  -- `#define`: add_macro(strndup(tok->loc, tok->len), …)
  | undef (buf : Bytes) (len : Nat)                -- `#undef`: undef_macro(strndup(tok->loc, tok->len))
  | dashD (word : Bytes) (body : Nat)              -- `-Dname`: define_macro(str, "1")
  | dashDeq (word : Bytes) (eq : Nat) (body : Nat) -- `-Dname=body`: define_macro(strndup(str, eq - str), eq + 1)
  | dashU (word : Bytes)                           -- `-Uname`: undef_macro(argv[i] + 2)
  | find (buf : Bytes) (len : Nat)                 -- find_macro(tok): `#ifdef`, `defined`, expansion
  | guard (name : Bytes)                           -- include_file: hashmap_get(&macros, guard_name)

def MacroOp.toCOp : MacroOp → COp
  | .define buf len body => .put (.dup buf len) body
  | .undef buf len => .del (.dup buf len)
  | .dashD word body => .put (.cstr word) body
  | .dashDeq word eq body => .put (.dup word eq) body
  | .dashU word => .del (.cstr word)
  | .find buf len => .get (.span buf len)
  | .guard name => .get (.cstr name)

/-- the macro name an operation is about -/
def MacroOp.name (m : MacroOp) : Bytes := m.toCOp.src.spelling

/-- `some body` if the most recent operation on `name` was a definition (with that body) -/
def definedAs (ms : List MacroOp) (name : Bytes) : Option Nat :=
  lastWriteSp (ms.map MacroOp.toCOp) name

/-- **C17 (macros).**  After any sequence of `#define`, `#undef`, `-D`, `-U` (and lookups) in
    which every directive's name token lies in its buffer without NUL and every command-line
    word is terminated, `find_macro` on a token — and the include-guard test on a stored guard
    name — finds a macro exactly when the most recent operation on that **name** was a
    definition, and then it is that definition's replacement list.  This is the first sentence
    of the property, for the real key conventions of every macro-table call site. -/
theorem C17_macros (ms : List MacroOp) (q : MacroOp)
    (hwf : ∀ m ∈ ms, m.toCOp.src.wf = true) (hq : q.toCOp.src.wf = true) :
    ∃ ops s outs, toOps (ms.map MacroOp.toCOp ++ [COp.get q.toCOp.src]) = .ok ops ∧
      run fnv HM.empty ops = .ok (s, outs) ∧ outs.getLast? = some (definedAs ms q.name) := by
  have h1 : ∀ c ∈ ms.map MacroOp.toCOp, c.src.wf = true := by
    intro c hc
    obtain ⟨m, hm, rfl⟩ := List.mem_map.1 hc
    exact hwf m hm
  exact C17_client_last_write_wins (ms.map MacroOp.toCOp) q.toCOp.src h1 hq

/-- non-vacuity of `C17_macros`: `-Dout=1 -Uout_err`, then `#define out_err`, `#undef out`,
    `#ifdef out` inside `out_err…`: the last operation on `out` was the `#undef` -/
example :
    let src : Bytes := [111, 117, 116, 95, 101, 114, 114, 10, 0]       -- "out_err\n"
    let ms := [MacroOp.dashDeq [111, 117, 116, 61, 49, 0] 3 1, .dashU [111, 117, 116, 95, 101, 114, 114, 0],
               .define src 7 2, .undef src 3]
    (∀ m ∈ ms, m.toCOp.src.wf = true) ∧ (MacroOp.find src 3).toCOp.src.wf = true ∧
      definedAs ms (MacroOp.find src 3).name = none ∧ definedAs ms (MacroOp.find src 7).name = some 2 := by
  decide +kernel

/-! ### Every call site -/

/-- **C17 (every call site is audited).**  Each of the calls of `hashmap_get`, `_get2`, `_put`,
    `_put2`, `_delete`, `_delete2` in the nine sources addresses a known table, passes its key
    by a convention audited for that table's domain (token span; `strlen` of a string whose
    every possible origin — followed through parameters, locals and return values by the
    translator — is an audited NUL-terminated object), through the matching entry point, and
    stores an audited non-NULL value. -/
theorem C17_sites_audited : ∀ s ∈ sites, siteOK s = true := by decide +kernel

/-- the list is not empty, contains all six tables of preprocess.c/parse.c/tokenize.c, and the
    audit does reject: an unknown table, a key of unknown origin, a length that is not the
    token's, a literal with a NUL -/
example : sites.length ≥ 30 ∧
    siteOK ⟨"parse.c", "f", .get2, "&labels", .span "tok", ""⟩ = false ∧
    siteOK ⟨"parse.c", "f", .get, "&sc->vars", .cstr [.other "buf"], ""⟩ = false ∧
    siteOK ⟨"parse.c", "f", .get2, "&sc->vars", .other2 "tok->loc" "tok->len - 1", ""⟩ = false ∧
    siteOK ⟨"parse.c", "f", .put, "&scope->vars", .cstr [.lit "a\x00b"], "sc"⟩ = false ∧
    siteOK ⟨"parse.c", "f", .put, "&scope->vars", .cstr [.dupTokSpan], "NULL"⟩ = false := by decide +kernel

/-- **C17 (the conventions really are mixed).**  In the macro table and in the variable table
    of a scope, stores go through `strlen` of a copied token and lookups through token spans —
    the combination `C17_client_keys` is about. -/
theorem C17_tables_mix_conventions :
    (∃ s ∈ sites, s.table = "&macros" ∧ s.api = .put ∧ keyHasLeaf s.key .dupTokSpan = true) ∧
    (∃ s ∈ sites, s.table = "&macros" ∧ s.api = .get2 ∧ s.key = .span "tok") ∧
    (∃ s ∈ sites, s.table = "&macros" ∧ s.api = .delete) ∧
    (∃ s ∈ sites, s.table = "&scope->vars" ∧ s.api = .put ∧ keyHasLeaf s.key .dupTokSpan = true) ∧
    (∃ s ∈ sites, s.table = "&sc->vars" ∧ s.api = .get2 ∧ s.key = .span "tok") := by
  decide +kernel

/-- **C17 (only the macro table deletes).**  `hashmap_delete*` is called on the macro table and
    inside hashmap.c's own test, nowhere else: tombstones exist only in the macro table. -/
theorem C17_only_macros_delete :
    ∀ s ∈ sites, (s.api = .delete ∨ s.api = .delete2) → s.file = "hashmap.c" ∨ s.table = "&macros" := by
  decide +kernel

/-- **C17 (key memory is stable).**  The compiler never calls `free`; `realloc` is applied only
    to the two growable pointer arrays (never to an object a key points into); the three
    functions that rewrite a source buffer in place are called only in `tokenize_file`, before
    `tokenize` creates the first token of that buffer. -/
theorem C17_key_memory_stable :
    (∀ r ∈ releaseSites, releaseOK r = true) ∧ (∀ w ∈ bufferWriters, writerOK w = true) ∧
      bufferWriters.length = 3 := by decide +kernel

end ChibiVerif.Props.C17
