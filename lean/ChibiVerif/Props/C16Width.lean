/-
C16 — the atomic primitives operate on ONE width (type.c ND_CAS / ND_EXCH, codegen.c ND_CAS / ND_EXCH / load / store).

Property theorems only (helper lemmas: Lemmas/C16TypingLemmas.lean).  `casCheck` / `exchCheck` (Model/C16Typing.lean) mirror the guards of type.c; `Codegen.casArm`,
`exchArm`, `load`, `store` are the byte-exact code-generation model (Model/Codegen.lean, tied by assembly-text equality
on whole programs); `casArmLines`, `xchgLines`, `aloadLines`, `astoreLines` are the instruction sequences whose
interleaving semantics Props/C16.lean is about.  These theorems close the gap between the two: for EVERY node the type
checker accepts (not only the generated ones) the code generator prints the interleaving model's sequence, at the single
width `|*addr| = |*old|`.

`SizeWf` (a type of a scalar kind has the size type.c gives that kind; sizes read from the regenerated
Gen/DeclspecGen.lean) is an invariant of the real type table: `drv_c16 casnodes` checks it on every type of every dump.
-/
import ChibiVerif.Lemmas.C16TypingLemmas

namespace ChibiVerif.Props.C16
open ChibiVerif.Ast ChibiVerif.Atomics ChibiVerif.Asm ChibiVerif.C16Typing
open ChibiVerif.Codegen (M St casArm exchArm load store)

/-- **C16 (compare-exchange typing).**  `ND_CAS` is accepted exactly when both arguments are pointers, both pointees are
    numeric or pointer objects, the atomic object has at most 8 bytes and the expected-value object has the same size. -/
theorem C16_cas_accepts_iff (types : List Ty) (a o ab ob : Ty)
    (hab : baseOf types a = some ab) (hob : baseOf types o = some ob) :
    casCheck types (some a) (some o) = .ok (ab, ob) ↔
      (a.kind = .ptr ∧ o.kind = .ptr ∧ isAtomicOperand ab = true ∧ isAtomicOperand ob = true ∧
       ab.size ≤ 8 ∧ ob.size = ab.size) := by
  constructor
  · intro h
    obtain ⟨a', o', ha, ho, hak, hok, _, _, hle, hopa, hopo, hsz⟩ := casCheck_ok h
    cases ha; cases ho
    exact ⟨hak, hok, hopa, hopo, hle, hsz⟩
  · rintro ⟨hak, hok, hopa, hopo, hle, hsz⟩
    exact casCheck_accepts hak hok hab hob hle hopa hopo hsz

/-- **C16 (one width).**  Every `ND_CAS` the type checker accepts has `|*old| = |*addr| ≤ 8`, and that size is one of the
    four widths `w`; whatever the three argument expressions print (`la`, `ln`, `lo`), the code generator prints
    `addr; push; new; [movd|movq %xmm0 → %eax|%rax]; push; old` followed by exactly `casArmLines w k`: the load of the
    expected value, the `lock cmpxchg` and the failure write-back all use that ONE width (`C16_cas_operands`). -/
theorem C16_cas_width (env : Codegen.Env) (addr old new : M Unit) (aty oty nty : Option Ty) (ab ob nt : Ty)
    (hchk : casCheck env.types aty oty = .ok (ab, ob))
    (hwa : SizeWf ab = true) (hwo : SizeWf ob = true)
    (hnty : nty = some nt) (hnk : nt.kind = ab.kind)
    (s0 s1 s2 s3 : St) (la ln lo : List Line)
    (ha : addr s0 = .ok ((), s1, la))
    (hn : new { s1 with depth := s1.depth + 1 } = .ok ((), s2, ln))
    (ho : old { s2 with depth := s2.depth + 1 } = .ok ((), s3, lo)) :
    ob.size = ab.size ∧ ab.size ≤ 8 ∧
    ∃ w : Width, ab.size = (w.bytes : Int) ∧ widthOf ab = some w ∧ widthOf ob = some w ∧
      casArm env addr aty old oty new nty s0 =
        .ok ((), { s3 with depth := s3.depth + -1 + -1 },
          la ++ [pushRax] ++ ln ++ flonumToRax w (kindOf ab) ++ [pushRax] ++ lo ++ casArmLines w (kindOf ob)) := by
  obtain ⟨a, o, _, _, _, _, _, _, hle, hopa, _, hsz⟩ := casCheck_ok hchk
  obtain ⟨w, hw, hwo', harm⟩ := casArm_lines env addr old new aty oty nty ab ob nt hchk hwa hwo hnty hnk s0 s1 s2 s3 la ln lo ha hn ho
  obtain ⟨w', hw', hws⟩ := width_of_operand hopa hwa hle
  have : w' = w := by rw [hw] at hw'; cases hw'; rfl
  subst this
  exact ⟨hsz, hle, w', hws, hw, hwo', harm⟩

/-- the instructions of `casArmLines w k`: the three that touch the atomic object or the expected-value object carry the
    same `w` -/
theorem C16_cas_operands (w : Width) (k : Kind) :
    casArmLines w k =
      [ins2 "mov" (.r "%rax") (.r "%r8"),
       casOldLoadLine w k,                                   -- load of the expected value: `w` bits
       Atomics.pop "%rdx", Atomics.pop "%rdi",
       ins2 "lock cmpxchg" (.r (regDx w)) (.m0 "%rdi"),     -- compares / stores `w` bits
       ins1 "sete" (.r "%cl"), ins1 "je" (.s "1f"),
       ins2 "mov" (.r (regAx w)) (.m0 "%r8"),               -- failure write-back: `w` bits
       .label "1", ins2 "movzbl" (.r "%cl") (.r "%eax")] ∧
    (casOldLoadLine w k = (match k with | .flo => ins2 "mov" (.m0 "%rax") (.r (regAx w)) | _ => loadLine w k)) := by
  cases w <;> cases k <;> decide

/-- non-vacuity of `C16_cas_width` / `C16_cas_accepts_iff`: `unsigned short *p; short *q;` is accepted at width 2
    (signedness may differ: only the size matters), `long *p; int *q;` (the case repaired by /repo 4993f7e) is not -/
example :
    let mk (id : Int) (k : TyKind) (sz : Int) (u : Bool) (b : Int) : Ty :=
      { id, kind := k, size := sz, align := sz, isUnsigned := u, isAtomic := false, base := b, arrayLen := 0, returnTy := -1,
        isVariadic := false, isFlexible := false, isPacked := false, vlaSize := -1, params := [], members := [] }
    let types := [mk 0 .ptr 8 true 1, mk 1 .short 2 true (-1), mk 2 .ptr 8 true 3, mk 3 .short 2 false (-1),
                  mk 4 .ptr 8 true 5, mk 5 .long 8 false (-1), mk 6 .ptr 8 true 7, mk 7 .int 4 false (-1)]
    (casCheck types types[0]? types[2]?).toOption.map (fun p => (p.1.size, p.2.size)) = some (2, 2) ∧
    (casCheck types types[4]? types[6]?).toOption = none ∧ types.all SizeWf = true := by decide

/-- **C16 (exchange width).**  Every `ND_EXCH` the type checker accepts operates on a numeric or pointer object of 1, 2, 4
    or 8 bytes, and the code generator prints `lhs; push; rhs` followed by exactly `xchgLines w k`. -/
theorem C16_exch_width (env : Codegen.Env) (lhs rhs : M Unit) (lty : Option Ty) (ab : Ty)
    (hchk : exchCheck env.types lty = .ok ab) (hwa : SizeWf ab = true)
    (s0 s1 s2 : St) (ll lr : List Line)
    (hl : lhs s0 = .ok ((), s1, ll))
    (hr : rhs { s1 with depth := s1.depth + 1 } = .ok ((), s2, lr)) :
    isAtomicOperand ab = true ∧ ab.size ≤ 8 ∧
    ∃ w : Width, widthOf ab = some w ∧
      exchArm env lhs lty rhs s0 =
        .ok ((), { s2 with depth := s2.depth + -1 }, ll ++ [pushRax] ++ lr ++ xchgLines w (kindOf ab)) := by
  obtain ⟨a, _, _, _, hle, hopa⟩ := exchCheck_ok hchk
  exact ⟨hopa, hle, exchArm_lines env lhs rhs lty ab hchk hwa s0 s1 s2 ll lr hl hr⟩

/-- non-vacuity of `C16_exch_width`: `float *p` is accepted (width 4), a pointer to a 4-byte structure is not -/
example :
    let mk (id : Int) (k : TyKind) (sz : Int) (b : Int) : Ty :=
      { id, kind := k, size := sz, align := sz, isUnsigned := false, isAtomic := false, base := b, arrayLen := 0, returnTy := -1,
        isVariadic := false, isFlexible := false, isPacked := false, vlaSize := -1, params := [], members := [] }
    let types := [mk 0 .ptr 8 1, mk 1 .float 4 (-1), mk 2 .ptr 8 3, mk 3 .struct 4 (-1)]
    (exchCheck types types[0]?).toOption.map (·.size) = some 4 ∧ (exchCheck types types[2]?).toOption = none := by decide

/-- **C16 (plain atomic access).**  An object of a type the read-modify-write checker accepts (numeric or pointer, at
    most 8 bytes) is read by exactly ONE instruction (`aloadLines`) and written by `pop %rdi` and exactly ONE store
    instruction of its width (`astoreLines`): the `atomic_load` / `atomic_store` steps of the interleaving model.  For a
    naturally aligned object these are single-copy atomic (Intel SDM vol. 3A 8.1.1; trusted).  `_Atomic` structures,
    unions and `long double` are NOT covered: see Findings `C16_plain_struct_store_not_single`,
    `C16_plain_ldouble_store_ten_bytes`. -/
theorem C16_plain_access_single (b : Ty) (hop : isAtomicOperand b = true) (hwf : SizeWf b = true) (hle : b.size ≤ 8)
    (s : St) :
    ∃ w : Width, widthOf b = some w ∧
      load (some b) s = .ok ((), s, aloadLines w (kindOf b)) ∧ (aloadLines w (kindOf b)).length = 1 ∧
      store (some b) s = .ok ((), { s with depth := s.depth + -1 }, astoreLines w (kindOf b)) ∧
      (astoreLines w (kindOf b)).length = 2 := by
  obtain ⟨w, hw, hl⟩ := load_single hop hwf hle s
  obtain ⟨w', hw', hs⟩ := store_single hop hwf hle s
  have : w' = w := by rw [hw] at hw'; cases hw'; rfl
  subst this
  exact ⟨w', hw, hl, rfl, hs, rfl⟩

end ChibiVerif.Props.C16
