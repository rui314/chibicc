/- The floating operations property C07 is stated over: the data part of `FpuSpec` (Spec/FpuSpec.lean) that constant folding
   touches, with the x87 control word already applied to the instructions that read it.  No contracts here: `FpOps` can be
   instantiated by an `FpuSpec` (`FpuSpec.ops`, for the theorems) and by the software implementation the driver runs
   (Model/SoftFp.lean, for the differential legs).  The contracts the theorems assume are `C07Float.Sound`
   (Lemmas/C07FloatLemmas.lean).  Core Lean only. -/
import ChibiVerif.Spec.FpuSpec

namespace ChibiVerif.Spec.Fpu

structure FpOps where
  /- what a datum denotes -/
  val32 : BitVec 32 → Val
  val64 : BitVec 64 → Val
  val80 : BitVec 80 → Val
  /- arithmetic: SSE scalar single / double, x87 (under the program's control word) -/
  addss : BitVec 32 → BitVec 32 → BitVec 32
  subss : BitVec 32 → BitVec 32 → BitVec 32
  mulss : BitVec 32 → BitVec 32 → BitVec 32
  divss : BitVec 32 → BitVec 32 → BitVec 32
  addsd : BitVec 64 → BitVec 64 → BitVec 64
  subsd : BitVec 64 → BitVec 64 → BitVec 64
  mulsd : BitVec 64 → BitVec 64 → BitVec 64
  divsd : BitVec 64 → BitVec 64 → BitVec 64
  fadd : BitVec 80 → BitVec 80 → BitVec 80
  fsub : BitVec 80 → BitVec 80 → BitVec 80
  fmul : BitVec 80 → BitVec 80 → BitVec 80
  fdiv : BitVec 80 → BitVec 80 → BitVec 80
  fchs : BitVec 80 → BitVec 80
  /- integer → floating: the datum of each format nearest to an integer -/
  ofInt32 : Int → BitVec 32
  ofInt64 : Int → BitVec 64
  ofInt80 : Int → BitVec 80
  /- floating ↔ floating -/
  cvtss2sd : BitVec 32 → BitVec 64
  cvtsd2ss : BitVec 64 → BitVec 32
  fld32 : BitVec 32 → BitVec 80
  fld64 : BitVec 64 → BitVec 80
  fst32 : BitVec 80 → BitVec 32
  fst64 : BitVec 80 → BitVec 64

/-- the operations of an `FpuSpec` under the control word `cw` -/
def FpuSpec.ops (F : FpuSpec) (cw : BitVec 16) : FpOps where
  val32 := F.val32
  val64 := F.val64
  val80 := F.val80
  addss := F.addss
  subss := F.subss
  mulss := F.mulss
  divss := F.divss
  addsd := F.addsd
  subsd := F.subsd
  mulsd := F.mulsd
  divsd := F.divsd
  fadd := F.fadd cw
  fsub := F.fsub cw
  fmul := F.fmul cw
  fdiv := F.fdiv cw
  fchs := F.fchs
  ofInt32 := F.ofInt32
  ofInt64 := F.ofInt64
  ofInt80 := F.ofInt80
  cvtss2sd := F.cvtss2sd
  cvtsd2ss := F.cvtsd2ss
  fld32 := F.fld32
  fld64 := F.fld64
  fst32 := F.fst32 cw
  fst64 := F.fst64 cw

end ChibiVerif.Spec.Fpu
