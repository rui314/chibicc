/-
Specification side of C08, written from the standards and not from parse.c:

(a) C11 6.7.2p2: the multisets of type specifiers that name a type ("the type specifiers may occur in any order"),
    each with the x86-64 psABI representation class it has (figure 3.1: `long` and `long long` are the same 8-byte
    class, plain `char` is signed), `_Complex` omitted (not in the supported language).
(b) psABI figure 3.1: size and alignment of the scalar types.
(c) psABI 3.1.2 "Aggregates and Unions" + "Bit-Fields", as an allocation rule over a running *bit* cursor:
      * a member that is not a bit-field goes to the least offset ≥ the current end that is a multiple of its alignment;
      * a bit-field of width w > 0 and declared type of size s goes to the next free bit, unless it would then not be
        contained in one naturally aligned s-byte storage unit — then it starts at the next unit boundary;
      * a zero-width bit-field moves the cursor up to the next unit boundary of its declared type;
      * the aggregate's alignment is the maximum alignment of its members, where *unnamed bit-fields do not count*;
      * its size is the end of the last member rounded up to a multiple of its alignment;
      * a union puts every member at offset 0; its size is the largest member extent rounded up to its alignment.
    GNU attributes as implemented by gcc 12 (the psABI does not define them):
      * `aligned(n)` on the aggregate: alignment is at least n (with `packed`: exactly the max of n and explicit member alignments);
        `aligned(0)` is ignored (with a warning); n must otherwise be a positive power of two ≤ 2^28;
      * a bit-field must have an integer type (`_Bool`, the char/short/int/long family, an enumerated type);
      * `packed`: members that are not bit-fields get alignment 1 unless they carry an explicit `_Alignas`; bit-fields of
        non-zero width are allocated at the next free bit with no containment rule; zero-width bit-fields still round up
        to the unit; only explicit member `_Alignas` contributes to the aggregate's alignment;
      * `_Alignas(n)` on a member (n = 0 has no effect; n ≥ natural alignment required by C11 6.7.5p4).

All arithmetic in `Nat`; `roundUp` is *defined* by case distinction on the remainder (not by chibicc's align_to formula)
and proved to be the least multiple ≥ n in Lemmas/LayoutSpecLemmas.lean (`roundUp_least`).

(d) which of the declarations over these constructs are constraint violations (`specAccepted`): an `aligned(n)` or
    `_Alignas(n)` other than 0 / a power of two ≤ 2^28, a bit-field whose declared type is not an integer type.

Core Lean only; executable (validated against gcc 12 through `drv_c08 speclayout`).
-/
import ChibiVerif.Model.Layout

namespace ChibiVerif.Spec.Layout
open ChibiVerif.Gen.Declspec (Kw TyName)

/-! ### (a) C11 6.7.2p2 -/

def c11Table : List (List Kw × TyName) := [
  ([.void], .void),
  ([.char], .char),
  ([.signed, .char], .char),
  ([.unsigned, .char], .uchar),
  ([.short], .short), ([.signed, .short], .short), ([.short, .int], .short), ([.signed, .short, .int], .short),
  ([.unsigned, .short], .ushort), ([.unsigned, .short, .int], .ushort),
  ([.int], .int), ([.signed], .int), ([.signed, .int], .int),
  ([.unsigned], .uint), ([.unsigned, .int], .uint),
  ([.long], .long), ([.signed, .long], .long), ([.long, .int], .long), ([.signed, .long, .int], .long),
  ([.unsigned, .long], .ulong), ([.unsigned, .long, .int], .ulong),
  ([.long, .long], .long), ([.signed, .long, .long], .long), ([.long, .long, .int], .long),
  ([.signed, .long, .long, .int], .long),
  ([.unsigned, .long, .long], .ulong), ([.unsigned, .long, .long, .int], .ulong),
  ([.float], .float),
  ([.double], .double),
  ([.long, .double], .ldouble),
  ([.bool], .bool)]

/-- the type named by a multiset of specifiers (given in any order), `none` if 6.7.2p2 does not list it -/
def c11Type (ks : List Kw) : Option TyName :=
  (c11Table.find? fun e => e.1.isPerm ks).map (·.2)

/-! ### (b) psABI figure 3.1 (sizeof, alignment) -/

def psabiScalar : TyName → Nat × Nat
  | .void => (1, 1)          -- GNU C: sizeof(void) = 1 (not psABI; listed because type.c has the literal)
  | .bool => (1, 1)
  | .char | .uchar => (1, 1)
  | .short | .ushort => (2, 2)
  | .int | .uint => (4, 4)
  | .long | .ulong => (8, 8)
  | .float => (4, 4)
  | .double => (8, 8)
  | .ldouble => (16, 16)

def psabiPointer : Nat × Nat := (8, 8)
def psabiEnum : Nat × Nat := (4, 4)

/-! ### (c) aggregates -/

/-- least multiple of `a` that is ≥ `n` (for `a > 0`) -/
def roundUp (n a : Nat) : Nat := if n % a = 0 then n else n + (a - n % a)

structure SMem where
  size : Nat                 -- sizeof the member's (declared) type
  tyAlign : Nat              -- its natural alignment
  alignas : Nat              -- explicit `_Alignas(n)`, 0 = none
  bitWidth : Option Nat
  named : Bool
  deriving DecidableEq, Repr

/-- alignment requirement of a member that is not a bit-field -/
def SMem.reqAlign (packed : Bool) (m : SMem) : Nat :=
  if m.alignas ≠ 0 then m.alignas else if packed then 1 else m.tyAlign

/-- what the member contributes to the aggregate's alignment -/
def SMem.contrib (packed : Bool) (m : SMem) : Nat :=
  match m.bitWidth with
  | some _ => if m.named && !packed then m.tyAlign else 1
  | none => m.reqAlign packed

structure SPlaced where
  firstBit : Nat             -- position of the member's first bit, counted from the start of the aggregate
  unitOffset : Nat           -- byte offset of the member (bit-field: of the storage unit of its declared type that contains it)
  bitInUnit : Nat            -- bit-field: position inside that unit (little-endian: bit 0 is least significant); else 0
  deriving DecidableEq, Repr

structure SLayout where
  size : Nat
  align : Nat
  placed : List SPlaced
  deriving DecidableEq, Repr

/-- where the member starts (in bits) and where the cursor is afterwards -/
def allocate (packed : Bool) (cur : Nat) (m : SMem) : Nat × Nat :=
  match m.bitWidth with
  | none =>
    let start := roundUp cur (8 * m.reqAlign packed)
    (start, start + 8 * m.size)
  | some w =>
    let unit := 8 * m.size
    if w = 0 then (roundUp cur unit, roundUp cur unit)
    else if packed then (cur, cur + w)
    else if cur % unit + w ≤ unit then (cur, cur + w)        -- fits into the unit that contains the next free bit
    else (roundUp cur unit, roundUp cur unit + w)

def placedAt (m : SMem) (start : Nat) : SPlaced :=
  match m.bitWidth with
  | none => { firstBit := start, unitOffset := start / 8, bitInUnit := 0 }
  | some w =>
    if w = 0 then { firstBit := start, unitOffset := 0, bitInUnit := 0 }   -- occupies nothing; position not observable
    else { firstBit := start, unitOffset := start / (8 * m.size) * m.size, bitInUnit := start % (8 * m.size) }

/-- members in declaration order: end cursor and placements -/
def allocateAll (packed : Bool) : Nat → List SMem → Nat × List SPlaced
  | cur, [] => (cur, [])
  | cur, m :: ms =>
    let (start, next) := allocate packed cur m
    let (e, ps) := allocateAll packed next ms
    (e, placedAt m start :: ps)

/-- max over the contributing members, at least `a0` -/
def aggAlign (packed : Bool) (a0 : Nat) (ms : List SMem) : Nat :=
  ms.foldl (fun a m => max a (m.contrib packed)) a0

def specStruct (packed : Bool) (aligned : Option Nat) (ms : List SMem) : SLayout :=
  let al := aggAlign packed (aligned.getD 1) ms
  let (e, ps) := allocateAll packed 0 ms
  { size := roundUp e (8 * al) / 8, align := al, placed := ps }

/-- bytes a union member occupies -/
def SMem.extent (m : SMem) : Nat :=
  match m.bitWidth with
  | some w => (w + 7) / 8
  | none => m.size

def specUnion (packed : Bool) (aligned : Option Nat) (ms : List SMem) : SLayout :=
  let al := aggAlign packed (aligned.getD 1) ms
  let e := ms.foldl (fun s m => max s m.extent) 0
  { size := roundUp e al, align := al,
    placed := ms.map fun _ => { firstBit := 0, unitOffset := 0, bitInUnit := 0 } }

/-! ### types -/

open ChibiVerif.Layout (Ty Members MemDecl Aligns)

/-- `__attribute__((aligned(n)))` on an aggregate as gcc 12 implements it: `aligned(0)` requests nothing (gcc warns
    "requested alignment '0' is not a positive power of 2" and ignores the attribute); other values (positive powers of two
    up to 2^28 — everything else is an error in gcc) request alignment at least n -/
def specAligned : Option Int → Option Nat
  | none => none
  | some n => if n = 0 then none else some n.toNat

mutual
  def specSizeAlign : Ty → Nat × Nat
    | .prim t => psabiScalar t
    | .enum => psabiEnum
    | .ptr => psabiPointer
    | .arr e n => let (s, a) := specSizeAlign e; (s * n.toNat, a)
    | .flex e => let (_, a) := specSizeAlign e; (0, a)
    | .struct p al ms => let l := specStruct p (specAligned al) (specMembers ms); (l.size, l.align)
    | .union p al ms => let l := specUnion p (specAligned al) (specMembers ms); (l.size, l.align)
  /-- C11 6.7.5p6: `_Alignas(type-name)` is `_Alignas(_Alignof(type-name))`, `_Alignas(0)` has no effect, and of several
      specifiers the strictest one takes effect: the maximum (0 = no specifier) -/
  def specAligns : Aligns → Nat
    | .nil => 0
    | .const n rest => max n.toNat (specAligns rest)
    | .type t rest => max (specSizeAlign t).2 (specAligns rest)
  def specMembers : Members → List SMem
    | .nil => []
    | .cons d as ty rest =>
      let (s, a) := specSizeAlign ty
      { size := s, tyAlign := a, alignas := specAligns as, bitWidth := d.bitWidth.map Int.toNat, named := d.named }
        :: specMembers rest
end

/-- alignment of an object declared with specifiers `as` and type `ty` (C11 6.7.5p6, 6.2.8) -/
def specVarAlign (as : Aligns) (ty : Ty) : Nat :=
  if specAligns as ≠ 0 then specAligns as else (specSizeAlign ty).2

/-- size, alignment and member placements of a whole type -/
def specTy : Ty → SLayout
  | .struct p al ms => specStruct p (specAligned al) (specMembers ms)
  | .union p al ms => specUnion p (specAligned al) (specMembers ms)
  | t => { size := (specSizeAlign t).1, align := (specSizeAlign t).2, placed := [] }

/-! ### which declarations are accepted (gcc 12's constraints on the constructs of this property) -/

/-- a requested alignment must be a positive power of two no larger than 2^28 (gcc: "requested alignment 'n' is not a
    positive power of 2" / "exceeds maximum 268435456") -/
def isPow2le28 (n : Int) : Bool := (List.range 29).any fun k => n == (2 : Int) ^ k

/-- `aligned(n)` requests gcc accepts: none, 0 (warning only, no effect), 2^0 … 2^28 -/
def alignedOk : Option Int → Bool
  | none => true
  | some n => n == 0 || isPow2le28 n

/-- declared types a bit-field may have (C11 6.7.2.1p5 + what gcc accepts: every integer type and enumerated types;
    "bit-field 'x' has invalid type" otherwise) -/
def isBitfieldBase : Ty → Bool
  | .prim t => t == .bool || t == .char || t == .uchar || t == .short || t == .ushort || t == .int || t == .uint ||
               t == .long || t == .ulong
  | .enum => true
  | _ => false

mutual
  /-- the declaration violates neither constraint, at any depth (operands of `_Alignas(type-name)` included) -/
  def specAccepted : Ty → Bool
    | .prim _ => true
    | .enum => true
    | .ptr => true
    | .arr e _ => specAccepted e
    | .flex e => specAccepted e
    | .struct _ al ms => alignedOk al && specAcceptedMs ms
    | .union _ al ms => alignedOk al && specAcceptedMs ms
  def specAcceptedAs : Aligns → Bool
    | .nil => true
    | .const n rest => (n == 0 || isPow2le28 n) && specAcceptedAs rest     -- C11 6.7.5p3: a valid alignment or zero
    | .type t rest => specAccepted t && specAcceptedAs rest
  def specAcceptedMs : Members → Bool
    | .nil => true
    | .cons d as ty rest =>
      specAcceptedAs as && specAccepted ty && (d.bitWidth.isNone || isBitfieldBase ty) && specAcceptedMs rest
end

end ChibiVerif.Spec.Layout
