/-
Decidable regions of signatures used by the C06 theorems and by the check's `known_id` tagging.

Each region is the set of signatures on which a *known finding* of known_findings.json can show; outside all of them
(`supported`) chibicc's placement of arguments and return values is proved equal to the psABI's (Props/C06.lean).
-/
import ChibiVerif.Model.CallConv
import ChibiVerif.Spec.PsABI

namespace ChibiVerif.Spec.CallRegions
open ChibiVerif.CallConv
open ChibiVerif.Spec.PsABI (leaves eightbytes roundUp classify inMemory)

def isLdbl : ATy → Bool
  | .ldbl => true
  | _ => false

/-- an aggregate of at most 16 bytes with a long double somewhere inside  (C06-struct-with-ldouble) -/
def ldblInSmallAgg (ty : ATy) : Bool :=
  ty.isAgg && decide (ty.size ≤ 16) && (leaves ty 0).any (fun ot => isLdbl ot.2)

/-- an aggregate of at most 16 bytes some scalar of which does not sit at a multiple of its alignment (packed)
    (C06-packed-unaligned-param).  (The GNU empty struct used to be part of this region: repaired in /repo b298aee.) -/
def packedUnaligned (ty : ATy) : Bool :=
  ty.isAgg && decide (ty.size ≤ 16) && PsABI.hasUnaligned ty

/-- no scalar starts in eightbyte `k` -/
def eightbyteEmpty (ty : ATy) (k : Nat) : Bool :=
  (leaves ty 0).all (fun ot => ot.1 / 8 != k)

/-- an aggregate of at most 16 bytes one of whose eightbytes holds only padding  (C06-padding-eightbyte) -/
def paddingEightbyte (ty : ATy) : Bool :=
  ty.isAgg && decide (0 < ty.size) && decide (ty.size ≤ 16) &&
    (eightbyteEmpty ty 0 || (decide (ty.size > 8) && eightbyteEmpty ty 1))

/-- a type on which chibicc's classification is the psABI's -/
def tyOk : ATy → Bool
  | .arr .. => false                    -- not an argument type (arrays decay)
  | t => !(ldblInSmallAgg t) && !(packedUnaligned t) && !(paddingEightbyte t)

/-- walking the stack arguments as the psABI places them: does one with 16-byte alignment need padding before it? -/
def stackPadLoop : (Nat × Nat × Nat) → List ATy → Bool
  | _, [] => false
  | st, t :: ts =>
    let r := PsABI.assignStep st t
    (match r.2 with
     | .stack off => decide (off ≠ st.2.2)
     | _ => false) || stackPadLoop r.1 ts

/-- a long double (or 16-byte aligned aggregate) stack argument preceded by an odd number of 8-byte stack slots
    (C06-ldouble-stack-align) -/
def stackAlignPad (s : Sig) : Bool :=
  stackPadLoop ((if PsABI.retInMemory s.ret then 1 else 0), 0, 0) s.params

/-- a variadic argument that is an aggregate passed in registers: `va_arg` reads the overflow area for it
    (C06-va-arg-small-struct) -/
def vaSmallStruct (s : Sig) : Bool :=
  s.variadic && (((PsABI.assign s).zip s.params).drop s.nNamed).any (fun lt =>
    lt.2.isAgg && (match lt.1 with | .regs _ => true | _ => false))

def retOk : Option ATy → Bool
  | some t => tyOk t
  | none => true

/-- outside every known-finding region -/
def supported (s : Sig) : Bool :=
  s.params.all tyOk && retOk s.ret && !(stackAlignPad s)

def regionTags (s : Sig) : List String :=
  let tys := s.params ++ (match s.ret with | some t => [t] | none => [])
  (if tys.any ldblInSmallAgg then ["C06-struct-with-ldouble"] else [])
  ++ (if tys.any packedUnaligned then ["C06-packed-unaligned-param"] else [])
  ++ (if tys.any paddingEightbyte then ["C06-padding-eightbyte"] else [])
  ++ (if stackAlignPad s then ["C06-ldouble-stack-align"] else [])
  ++ (if vaSmallStruct s then ["C06-va-arg-small-struct"] else [])
  ++ (if tys.any (fun t => match t with | .arr .. => true | _ => false) then ["not-an-argument-type"] else [])

end ChibiVerif.Spec.CallRegions
