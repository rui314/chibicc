/-
Specification side of C10, conditional inclusion: ISO/IEC 9899:2011 6.10 (grammar) and 6.10.1.

    group-part:   if-section | control-line | text-line
    if-section:   if-group elif-groups_opt else-group_opt endif-line
    if-group:     # if constant-expression new-line group_opt   |  # ifdef identifier … | # ifndef identifier …
    elif-group:   # elif constant-expression new-line group_opt
    else-group:   # else new-line group_opt
    endif-line:   # endif new-line

The line list is parsed into this tree (`parse`), and the tree is evaluated (`Top.eval`, `Items.eval`):
6.10.1p6 – "Each directive's condition is checked in order.  If it evaluates to false (zero), the
group that it controls is skipped: directives are processed only through the name that determines
the directive in order to keep track of the level of nested conditionals; the rest of the
directives' preprocessing tokens are ignored, as are the other preprocessing tokens in the group.
Only the first group whose control condition evaluates to true (nonzero) is processed.  If none
of the conditions evaluates to true, and there is a #else directive, the group controlled by the
#else is processed; lacking a #else directive, all the groups until the #endif are skipped."

Because skipped groups are looked at "only through the name … to keep track of the level of nested
conditionals", the tree is lenient about the order of #elif/#else inside a section
(`Parts` is any sequence of them); the constraint "no #elif/#else after #else" is diagnosed when the
section is *evaluated* (not when it lies in a skipped group), like every diagnostic in translation
phase 4 it is raised at the point the directive is reached.  Conditions after the first true one are
not evaluated.  A #elif/#else/#endif outside any section is diagnosed when reached.  A section still
open at the end of the input is diagnosed at the end of the input, everything before it having been
processed as if the missing #endif lines stood there (`Top.done _ n`, n = number supplied).

Independent of the machine in Model/CondIncl.lean: shares only the line type, the macro table,
`procPlain` (the meaning of text/#define/#undef/#error lines) and `evalHead`.
-/
import ChibiVerif.Model.CondIncl

namespace ChibiVerif.Spec.CondIncl
open ChibiVerif.CondIncl

variable {ε β : Type}

mutual
/-- group-part -/
inductive Item (ε β : Type) where
  | plain (p : Plain β)                                            -- text-line / control-line
  | sec (h : IfHead ε) (body : Items ε β) (rest : Parts ε β)       -- if-section
/-- group -/
inductive Items (ε β : Type) where
  | nil
  | cons (i : Item ε β) (is : Items ε β)
/-- elif-groups / else-group / endif-line -/
inductive Parts (ε β : Type) where
  | endif (extra : Bool)
  | part (h : PartHead ε) (body : Items ε β) (rest : Parts ε β)
end

/-- a whole preprocessing file -/
inductive Top (ε β : Type) where
  /-- a group; `unclosed` = number of #endif lines supplied at the end of the input -/
  | done (is : Items ε β) (unclosed : Nat)
  /-- a group followed by a #elif/#else/#endif that belongs to no section; nothing after it matters -/
  | stray (is : Items ε β) (l : Line ε β) (rest : List (Line ε β))

-- ------------------------------------------------------------------ tree → lines

mutual
def Item.flatten : Item ε β → List (Line ε β)
  | .plain p => [.plain p]
  | .sec h body rest => .opens h :: (body.flatten ++ rest.flatten)
def Items.flatten : Items ε β → List (Line ε β)
  | .nil => []
  | .cons i is => i.flatten ++ is.flatten
def Parts.flatten : Parts ε β → List (Line ε β)
  | .endif x => [.endif x]
  | .part h body rest => .part h :: (body.flatten ++ rest.flatten)
end

def Items.append : Items ε β → Items ε β → Items ε β
  | .nil, t => t
  | .cons i is, t => .cons i (is.append t)

def Items.snoc (is : Items ε β) (i : Item ε β) : Items ε β := is.append (.cons i .nil)

-- ------------------------------------------------------------------ lines → tree

/-- a section under construction: its head, the groups already completed (each with the
    #elif/#else line that ended it), and the group being read -/
structure PFrame (ε β : Type) where
  head : IfHead ε
  groups : List (Items ε β × PartHead ε)
  cur : Items ε β

/-- `part h₁ b₁ (part h₂ b₂ … (part hₙ cur fin))` for the remaining groups -/
def mkParts (h : PartHead ε) : List (Items ε β × PartHead ε) → Items ε β → Parts ε β → Parts ε β
  | [], cur, fin => .part h cur fin
  | (b, h') :: gs, cur, fin => .part h b (mkParts h' gs cur fin)

/-- close a section under construction with the given endif-line -/
def PFrame.close (f : PFrame ε β) (fin : Parts ε β) : Item ε β :=
  match f.groups with
  | [] => .sec f.head f.cur fin
  | (b0, h1) :: gs => .sec f.head b0 (mkParts h1 gs f.cur fin)

/-- add a finished group-part to the innermost open group -/
def addItem (i : Item ε β) : List (PFrame ε β) → Items ε β → List (PFrame ε β) × Items ε β
  | [], top => ([], top.snoc i)
  | f :: fs, top => ({ f with cur := f.cur.snoc i } :: fs, top)

/-- `i` is a finished group-part of the innermost section of `fs`; supply the #endif lines
    missing at the end of the input for all of `fs` -/
def closeWith (i : Item ε β) : List (PFrame ε β) → Items ε β → Items ε β
  | [], top => top.snoc i
  | g :: fs, top => closeWith (PFrame.close { g with cur := g.cur.snoc i } (.endif false)) fs top

/-- supply the missing #endif lines at the end of the input -/
def closeAll : List (PFrame ε β) → Items ε β → Items ε β
  | [], top => top
  | f :: fs, top => closeWith (f.close (.endif false)) fs top

/-- shift-reduce parser: `fs` = sections under construction (innermost first), `top` = the
    outermost group read so far -/
def parseGo : List (Line ε β) → List (PFrame ε β) → Items ε β → Top ε β
  | [], fs, top => .done (closeAll fs top) fs.length
  | l :: ls, fs, top =>
    match l with
    | .plain p => let r := addItem (.plain p) fs top; parseGo ls r.1 r.2
    | .opens h => parseGo ls (⟨h, [], .nil⟩ :: fs) top
    | .part h =>
      match fs with
      | [] => .stray top l ls
      | f :: fs' => parseGo ls ({ f with groups := f.groups ++ [(f.cur, h)], cur := .nil } :: fs') top
    | .endif x =>
      match fs with
      | [] => .stray top l ls
      | f :: fs' => let r := addItem (f.close (.endif x)) fs' top; parseGo ls r.1 r.2

/-- the grammar tree of a line list -/
def parse (ls : List (Line ε β)) : Top ε β := parseGo ls [] .nil

-- ------------------------------------------------------------------ evaluation (6.10.1)

mutual
def Item.eval (ev : ε → Defs β → Except Diag Bool) : Item ε β → Obs β → Except Diag (Obs β)
  | .plain p, o => procPlain p o
  | .sec h body rest, o =>
    match evalHead ev h o.defs with
    | .error e => .error e
    | .ok true =>                                   -- the if-group is the first true group
      match body.eval ev o with
      | .error e => .error e
      | .ok o' => rest.eval ev true false o'
    | .ok false => rest.eval ev false false o       -- skipped: contributes nothing
def Items.eval (ev : ε → Defs β → Except Diag Bool) : Items ε β → Obs β → Except Diag (Obs β)
  | .nil, o => .ok o
  | .cons i is, o =>
    match i.eval ev o with
    | .error e => .error e
    | .ok o' => is.eval ev o'
/-- the remaining groups of a section; `taken` = an earlier group of this section was processed,
    `seenElse` = the #else of this section has been passed -/
def Parts.eval (ev : ε → Defs β → Except Diag Bool) : Parts ε β → Bool → Bool → Obs β → Except Diag (Obs β)
  | .endif _, _, _, o => .ok o
  | .part (.elif c) body rest, taken, seenElse, o =>
    if seenElse then .error .strayElif               -- #elif after #else
    else if taken then rest.eval ev true false o     -- condition NOT evaluated, group skipped
    else
      match ev c o.defs with
      | .error e => .error e
      | .ok true =>
        match body.eval ev o with
        | .error e => .error e
        | .ok o' => rest.eval ev true false o'
      | .ok false => rest.eval ev false false o
  | .part (.els _) body rest, taken, seenElse, o =>
    if seenElse then .error .strayElse               -- second #else
    else if taken then rest.eval ev true true o
    else
      match body.eval ev o with
      | .error e => .error e
      | .ok o' => rest.eval ev true true o'
end

def strayDiag : Line ε β → Diag
  | .part (.elif _) => .strayElif
  | .part (.els _) => .strayElse
  | _ => .strayEndif

def Top.eval (ev : ε → Defs β → Except Diag Bool) : Top ε β → Obs β → Except Diag (Obs β)
  | .done is n, o =>
    match is.eval ev o with
    | .error e => .error e
    | .ok o' => if n = 0 then .ok o' else .error .unterminated
  | .stray is l _, o =>
    match is.eval ev o with
    | .error e => .error e
    | .ok _ => .error (strayDiag l)

/-- **the specification**: the text lines selected by 6.10.1 and the final macro table, or the
    diagnostic, for a translation unit `ls` started with macro table `d` -/
def groups (ev : ε → Defs β → Except Diag Bool) (ls : List (Line ε β)) (d : Defs β) : Except Diag (Obs β) :=
  (parse ls).eval ev ⟨d, []⟩

end ChibiVerif.Spec.CondIncl
