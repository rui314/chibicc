/-
The assumed behaviour of the SSE and x87 instructions chibicc emits for floating-point code (C02; DESIGN §3.4, §4.4).

Lean cannot carry IEEE-754 arithmetic itself (no formalisation is available offline, and `Float` is opaque to the
kernel).  So the *results* of floating-point instructions are abstract: `FpuSpec` is a structure whose fields are the
operations, together with their Intel-SDM contracts as `Prop` fields.  Every theorem of Props/C02.lean is stated
`∀ F : FpuSpec`: for every FPU that meets the contracts.

What a register or a memory slot holds is a bit pattern (`BitVec 32` / `BitVec 64` / `BitVec 80`): that is what `movq`,
`xorps`, `movss … ; flds …` and the constants of `ND_NUM` act on.  What a pattern *denotes* is abstract too:
`val32/val64/val80 : bits → Val`, where `Val` classifies a datum as NaN, ±∞ or the finite number (−1)^neg · m · 2^e
(m = 0: a signed zero).  The contracts are stated through this classification (e.g. `cvttsd2si` returns the integer
part of the denoted value when that fits, the "integer indefinite" 0x80…0 otherwise).

Validation (checklib/C02.py, every run): the real instructions are executed on the host CPU on the boundary classes of
the property and `drv_c02 contract` decides each contract on the observed (input, output) pairs, reading `val*` as the
IEEE-754 / x87 decoding (`Ieee.decode` below, used only there and by the satisfiability witness).

Intel SDM references: vol. 1 §4.8 (formats), §8.1.5 (x87 control word: RC = bits 11:10, 11b = toward zero),
vol. 2 CVTSI2SD/CVTSI2SS, CVTTSD2SI/CVTTSS2SI ("integer indefinite"), CVTSS2SD, UCOMISD/UCOMISS, COMISD/COMISS and
FCOMI/FUCOMI (ZF,PF,CF = 111 unordered, 000 greater, 001 less, 100 equal), FILD, FIST/FISTP, FLD, FST/FSTP, FCHS,
ADDSS/ADDSD/SUBSS/SUBSD and FADD/FSUB (IEEE-754 results: exact whenever the exact result is representable in the
destination precision; x87: in the precision selected by the PC field), vol. 1 §8.1.5.2 (precision control).
-/
namespace ChibiVerif.Spec.Fpu

/-- outcome of a floating-point comparison `a ? b` -/
inductive Rel where
  | lt | eq | gt | un
  deriving DecidableEq, Repr, Inhabited

def Rel.all : List Rel := [.lt, .eq, .gt, .un]

/-- the relation with the operands exchanged -/
def Rel.swap : Rel → Rel
  | .lt => .gt | .gt => .lt | r => r

/-- what a floating-point datum denotes -/
inductive Val where
  | nan
  | inf (neg : Bool)
  | fin (neg : Bool) (m : Nat) (e : Int)     -- (−1)^neg · m · 2^e
  deriving DecidableEq, Repr, Inhabited

namespace Val

def isNaN : Val → Bool
  | nan => true | _ => false

/-- a zero of either sign -/
def isZero : Val → Bool
  | fin _ 0 _ => true | _ => false

/-- |x| rounded toward zero to a natural number -/
def magTrunc (m : Nat) (e : Int) : Nat :=
  if 0 ≤ e then m * 2 ^ e.toNat else m / 2 ^ (-e).toNat

/-- integer part (toward zero); `none` for NaN and ±∞ -/
def trunc? : Val → Option Int
  | fin neg m e => some (if neg then -(magTrunc m e : Int) else (magTrunc m e : Int))
  | _ => none

/-- the value, when it is an integer -/
def toInt? : Val → Option Int
  | fin neg m e =>
      if 0 ≤ e ∨ m % 2 ^ (-e).toNat = 0 then some (if neg then -(magTrunc m e : Int) else (magTrunc m e : Int)) else none
  | _ => none

/-- the finite value scaled to the common exponent `min e₁ e₂`, as a signed integer -/
def scaled (neg : Bool) (m : Nat) (e e0 : Int) : Int :=
  let a : Int := (m * 2 ^ (e - e0).toNat : Nat)
  if neg then -a else a

/-- IEEE comparison of the denoted values: NaN is unordered with everything, −0 = +0 -/
def cmp : Val → Val → Rel
  | nan, _ => .un
  | _, nan => .un
  | inf n1, inf n2 => if n1 = n2 then .eq else if n1 then .lt else .gt
  | inf n1, fin _ _ _ => if n1 then .lt else .gt
  | fin _ _ _, inf n2 => if n2 then .gt else .lt
  | fin n1 m1 e1, fin n2 m2 e2 =>
      let e0 := min e1 e2
      let a := scaled n1 m1 e1 e0
      let b := scaled n2 m2 e2 e0
      if a < b then .lt else if a = b then .eq else .gt

/-- same class, same sign, same number (two spellings m·2^e of one number are the same value) -/
def same : Val → Val → Bool
  | nan, nan => true
  | inf a, inf b => a == b
  | fin n1 m1 e1, fin n2 m2 e2 => n1 == n2 && scaled false m1 e1 (min e1 e2) == scaled false m2 e2 (min e1 e2)
  | _, _ => false

end Val

/-! ### round to nearest, ties to even, of an integer to `p` significant bits -/

/-- bit length: least `l` with `n < 2^l` -/
def bitLen (n : Nat) : Nat := if n = 0 then 0 else Nat.log2 n + 1

/-- (q, s): the `p` leading bits after rounding the discarded part to nearest-even, and the shift; value = q · 2^s -/
def roundQS (p n : Nat) : Nat × Nat :=
  let l := bitLen n
  if l ≤ p then (n, 0) else
    let s := l - p
    let q := n / 2 ^ s
    let r := n % 2 ^ s
    let half := 2 ^ (s - 1)
    if r > half ∨ (r = half ∧ q % 2 = 1) then (q + 1, s) else (q, s)

def roundNat (p n : Nat) : Nat := (roundQS p n).1 * 2 ^ (roundQS p n).2

def roundInt (p : Nat) (v : Int) : Int := if v < 0 then -(roundNat p v.natAbs : Int) else (roundNat p v.natAbs : Int)

/-! ### conversions to integer as the hardware performs them -/

/-- the "integer indefinite" value of width `n`: 0x80…0 -/
def indefinite (n : Nat) : BitVec n := BitVec.ofInt n (-(2 ^ (n - 1)))

/-- `cvtt*2si` / `fistp` with RC = toward zero: the integer part if it is representable in `n` signed bits, else indefinite -/
def truncTo (n : Nat) (v : Val) : BitVec n :=
  match v.trunc? with
  | some t => if -(2 ^ (n - 1) : Int) ≤ t ∧ t < 2 ^ (n - 1) then BitVec.ofInt n t else indefinite n
  | none => indefinite n

/-- x87 rounding control field of a control word -/
def rc (cw : BitVec 16) : BitVec 2 := cw.extractLsb' 10 2

/-- x87 precision control field of a control word (SDM vol. 1 §8.1.5.2): 11b = double extended precision (64-bit
    significand), the value the psABI prescribes at process start (0x37f) and across calls -/
def pc (cw : BitVec 16) : BitVec 2 := cw.extractLsb' 8 2

/-- (ZF, PF, CF) after `ucomiss/ucomisd/fcomip/fucomip` (SDM) -/
def Rel.flags : Rel → Bool × Bool × Bool
  | .un => (true, true, true)
  | .gt => (false, false, false)
  | .lt => (false, false, true)
  | .eq => (true, false, false)

/-- **The contract.**  Operand order: for the two-operand SSE forms `op src, dst` the first argument below is `dst`
    (result = dst op src); `ucomis src, dst` compares `dst ? src`, given as `ucomis* dst src`.  For x87
    `fxxxp` the first argument is `%st(1)`, the second `%st(0)`; `fcomi` compares `%st(0) ? %st(1)`, given as
    `fcomi st0 st1`. -/
structure FpuSpec where
  /- classification -/
  val32 : BitVec 32 → Val
  val64 : BitVec 64 → Val
  val80 : BitVec 80 → Val
  /- SSE scalar arithmetic -/
  addss : BitVec 32 → BitVec 32 → BitVec 32
  subss : BitVec 32 → BitVec 32 → BitVec 32
  mulss : BitVec 32 → BitVec 32 → BitVec 32
  divss : BitVec 32 → BitVec 32 → BitVec 32
  addsd : BitVec 64 → BitVec 64 → BitVec 64
  subsd : BitVec 64 → BitVec 64 → BitVec 64
  mulsd : BitVec 64 → BitVec 64 → BitVec 64
  divsd : BitVec 64 → BitVec 64 → BitVec 64
  /- x87 arithmetic (control word: precision and rounding control) -/
  fadd : BitVec 16 → BitVec 80 → BitVec 80 → BitVec 80
  fsub : BitVec 16 → BitVec 80 → BitVec 80 → BitVec 80
  fmul : BitVec 16 → BitVec 80 → BitVec 80 → BitVec 80
  fdiv : BitVec 16 → BitVec 80 → BitVec 80 → BitVec 80
  fchs : BitVec 80 → BitVec 80
  fldz : BitVec 80
  /- integer → floating -/
  cvtsi2ss32 : BitVec 32 → BitVec 32
  cvtsi2ss64 : BitVec 64 → BitVec 32
  cvtsi2sd32 : BitVec 32 → BitVec 64
  cvtsi2sd64 : BitVec 64 → BitVec 64
  fild16 : BitVec 16 → BitVec 80
  fild32 : BitVec 32 → BitVec 80
  fild64 : BitVec 64 → BitVec 80
  /-- the datum of each format nearest (ties to even) to an integer: the specification side of integer → floating -/
  ofInt32 : Int → BitVec 32
  ofInt64 : Int → BitVec 64
  ofInt80 : Int → BitVec 80
  /- floating → integer -/
  cvttss2si32 : BitVec 32 → BitVec 32
  cvttss2si64 : BitVec 32 → BitVec 64
  cvttsd2si32 : BitVec 64 → BitVec 32
  cvttsd2si64 : BitVec 64 → BitVec 64
  fistp16 : BitVec 16 → BitVec 80 → BitVec 16
  fistp32 : BitVec 16 → BitVec 80 → BitVec 32
  fistp64 : BitVec 16 → BitVec 80 → BitVec 64
  /- floating ↔ floating -/
  cvtss2sd : BitVec 32 → BitVec 64
  cvtsd2ss : BitVec 64 → BitVec 32
  fld32 : BitVec 32 → BitVec 80
  fld64 : BitVec 64 → BitVec 80
  fst32 : BitVec 16 → BitVec 80 → BitVec 32
  fst64 : BitVec 16 → BitVec 80 → BitVec 64
  /- comparisons -/
  ucomiss : BitVec 32 → BitVec 32 → Rel
  ucomisd : BitVec 64 → BitVec 64 → Rel
  fcomi : BitVec 80 → BitVec 80 → Rel
  /-- `comiss`/`comisd`: the same flag results as `ucomis*` (they differ only in signalling #IA for quiet NaNs) -/
  comiss : BitVec 32 → BitVec 32 → Rel
  comisd : BitVec 64 → BitVec 64 → Rel
  /- ### contracts -/
  /-- the all-zero pattern is +0 in both SSE formats (`xorps %xmm1, %xmm1`), `fldz` pushes +0 -/
  val32_zero : val32 0#32 = .fin false 0 0
  val64_zero : val64 0#64 = .fin false 0 0
  val80_fldz : val80 fldz = .fin false 0 0
  /-- comparisons compare the denoted values; NaN operands are unordered -/
  ucomiss_spec : ∀ a b, ucomiss a b = Val.cmp (val32 a) (val32 b)
  ucomisd_spec : ∀ a b, ucomisd a b = Val.cmp (val64 a) (val64 b)
  fcomi_spec : ∀ a b, fcomi a b = Val.cmp (val80 a) (val80 b)
  /-- truncating conversions: the integer part if representable, the integer indefinite otherwise (also for NaN, ±∞) -/
  cvttss2si32_spec : ∀ x, cvttss2si32 x = truncTo 32 (val32 x)
  cvttss2si64_spec : ∀ x, cvttss2si64 x = truncTo 64 (val32 x)
  cvttsd2si32_spec : ∀ x, cvttsd2si32 x = truncTo 32 (val64 x)
  cvttsd2si64_spec : ∀ x, cvttsd2si64 x = truncTo 64 (val64 x)
  /-- `fistp` under a control word whose RC field is 11b (toward zero) -/
  fistp16_rz : ∀ cw x, rc cw = 3#2 → fistp16 cw x = truncTo 16 (val80 x)
  fistp32_rz : ∀ cw x, rc cw = 3#2 → fistp32 cw x = truncTo 32 (val80 x)
  fistp64_rz : ∀ cw x, rc cw = 3#2 → fistp64 cw x = truncTo 64 (val80 x)
  /-- integer → floating: the *signed* integer operand, rounded to the destination format -/
  cvtsi2ss32_spec : ∀ x, cvtsi2ss32 x = ofInt32 x.toInt
  cvtsi2ss64_spec : ∀ x, cvtsi2ss64 x = ofInt32 x.toInt
  cvtsi2sd32_spec : ∀ x, cvtsi2sd32 x = ofInt64 x.toInt
  cvtsi2sd64_spec : ∀ x, cvtsi2sd64 x = ofInt64 x.toInt
  fild16_spec : ∀ x, fild16 x = ofInt80 x.toInt
  fild32_spec : ∀ x, fild32 x = ofInt80 x.toInt
  fild64_spec : ∀ x, fild64 x = ofInt80 x.toInt
  /-- what `ofInt*` denote: the integer rounded to 24 / 53 / 64 significant bits, nearest-even; sign bit = sign -/
  ofInt32_val : ∀ v : Int, v.natAbs ≤ 2 ^ 64 → (val32 (ofInt32 v)).toInt? = some (roundInt 24 v)
  ofInt64_val : ∀ v : Int, v.natAbs ≤ 2 ^ 64 → (val64 (ofInt64 v)).toInt? = some (roundInt 53 v)
  ofInt80_val : ∀ v : Int, v.natAbs ≤ 2 ^ 64 → (val80 (ofInt80 v)).toInt? = some (roundInt 64 v)
  ofInt32_sign : ∀ v : Int, (ofInt32 v).msb = decide (v < 0)
  ofInt64_sign : ∀ v : Int, (ofInt64 v).msb = decide (v < 0)
  ofInt80_sign : ∀ v : Int, (ofInt80 v).msb = decide (v < 0)
  /-- widening conversions are exact -/
  cvtss2sd_exact : ∀ x, Val.same (val64 (cvtss2sd x)) (val32 x) = true
  fld32_exact : ∀ x, Val.same (val80 (fld32 x)) (val32 x) = true
  fld64_exact : ∀ x, Val.same (val80 (fld64 x)) (val64 x) = true
  /-- … and storing the widened datum back in its own format returns it (the value is representable: no rounding under
      any control word; a signalling NaN would be quieted by the load, hence the restriction) -/
  fst32_fld32 : ∀ cw x, (val32 x).isNaN = false → fst32 cw (fld32 x) = x
  fst64_fld64 : ∀ cw x, (val64 x).isNaN = false → fst64 cw (fld64 x) = x
  /-- `fchs` complements the sign bit and nothing else -/
  fchs_spec : ∀ x, fchs x = x ^^^ (1#80 <<< 79)
  /- ### contracts used by the cells that handle unsigned long at ≥ 2^63 (codegen.c u64f32, u64f64, u64f80, f32u64, f64u64, f80u64) -/
  comiss_spec : ∀ a b, comiss a b = Val.cmp (val32 a) (val32 b)
  comisd_spec : ∀ a b, comisd a b = Val.cmp (val64 a) (val64 b)
  /-- the constants those cells materialise denote 2^63: binary32 0x5f000000 = 2^23·2^40, binary64 0x43e0000000000000 =
      2^52·2^11, and `flds` of the former pushes the extended value 2^63·2^0 -/
  val32_two63 : val32 0x5f000000#32 = .fin false 8388608 40
  val64_two63 : val64 0x43e0000000000000#64 = .fin false 4503599627370496 11
  val80_two63 : val80 (fld32 0x5f000000#32) = .fin false 9223372036854775808 0
  /-- subtraction is exact when the result is representable; here (Sterbenz): x − 2^63 for 2^63 ≤ x < 2^64.  The x87 form
      needs precision control = double extended (with a 24- or 53-bit significand the difference would be rounded). -/
  subss_two63 : ∀ a (t : Int), (val32 a).trunc? = some t → 9223372036854775808 ≤ t → t < 18446744073709551616 →
      (val32 (subss a 0x5f000000#32)).trunc? = some (t - 9223372036854775808)
  subsd_two63 : ∀ a (t : Int), (val64 a).trunc? = some t → 9223372036854775808 ≤ t → t < 18446744073709551616 →
      (val64 (subsd a 0x43e0000000000000#64)).trunc? = some (t - 9223372036854775808)
  fsub_two63 : ∀ cw a (t : Int), pc cw = 3#2 → (val80 a).trunc? = some t → 9223372036854775808 ≤ t → t < 18446744073709551616 →
      (val80 (fsub cw a (fld32 0x5f000000#32))).trunc? = some (t - 9223372036854775808)
  /-- `fildq` of a pattern with the top bit set pushed v − 2^64; adding the constant 2^64 (`fadds` of the binary32
      0x5f800000) in double extended precision is exact and yields the datum of v -/
  fadd_two64 : ∀ cw (v : Int), pc cw = 3#2 → 9223372036854775808 ≤ v → v < 18446744073709551616 →
      fadd cw (ofInt80 (v - 18446744073709551616)) (fld32 0x5f800000#32) = ofInt80 v
  /-- adding a datum to itself is exact (no overflow here): float(k) + float(k) is the datum of 2·round(k) -/
  addss_double : ∀ k : Int, k.natAbs < 2 ^ 63 → addss (ofInt32 k) (ofInt32 k) = ofInt32 (2 * roundInt 24 k)
  addsd_double : ∀ k : Int, k.natAbs < 2 ^ 63 → addsd (ofInt64 k) (ofInt64 k) = ofInt64 (2 * roundInt 53 k)
  /-- the datum nearest to an integer is determined by the integer's sign and rounded value -/
  ofInt32_congr : ∀ a b : Int, a.natAbs ≤ 2 ^ 64 → b.natAbs ≤ 2 ^ 64 → (a < 0 ↔ b < 0) → roundInt 24 a = roundInt 24 b →
      ofInt32 a = ofInt32 b
  ofInt64_congr : ∀ a b : Int, a.natAbs ≤ 2 ^ 64 → b.natAbs ≤ 2 ^ 64 → (a < 0 ↔ b < 0) → roundInt 53 a = roundInt 53 b →
      ofInt64 a = ofInt64 b

/-! ### IEEE-754 / x87 decoding of bit patterns (SDM vol. 1 §4.8)

Used by `drv_c02 contract` to decide the contracts on (input, output) pairs observed on the host CPU, i.e. as the
intended reading of `val32/val64/val80`.  No theorem of Props/C02.lean that quantifies over `FpuSpec` depends on it; the
three absolute theorems `C02_ieee_*` are about exactly these layouts (and the encoders below). -/
namespace Ieee

/-- binary interchange format with `w` exponent bits and `t` trailing significand bits -/
def decodeIeee (w t : Nat) (bits : Nat) : Val :=
  let frac : Nat := bits % 2 ^ t
  let ex : Nat := (bits / 2 ^ t) % 2 ^ w
  let neg : Bool := (bits / 2 ^ (t + w)) % 2 = 1
  let bias : Int := 2 ^ (w - 1) - 1
  if ex = 2 ^ w - 1 then (if frac = 0 then .inf neg else .nan)
  else if ex = 0 then .fin neg frac (1 - bias - t)
  else .fin neg (2 ^ t + frac) (ex - bias - t)

def decode32 (b : BitVec 32) : Val := decodeIeee 8 23 b.toNat
def decode64 (b : BitVec 64) : Val := decodeIeee 11 52 b.toNat

/-- x87 double extended: explicit integer bit; unnormals and pseudo-NaN/∞ are invalid operands (classified `nan`) -/
def decode80 (b : BitVec 80) : Val :=
  let m : Nat := b.toNat % 2 ^ 64
  let ex : Nat := (b.toNat / 2 ^ 64) % 2 ^ 15
  let neg : Bool := (b.toNat / 2 ^ 79) % 2 = 1
  let bias : Int := 16383
  if ex = 32767 then (if m = 2 ^ 63 then .inf neg else .nan)
  else if ex = 0 then .fin neg m (1 - bias - 63)
  else if m < 2 ^ 63 then .nan
  else .fin neg m (ex - bias - 63)

/-! ### IEEE-754 / x87 *encoding* of integers: the intended reading of `ofInt32/ofInt64/ofInt80`

`drv_c02 contract` compares the bits the CPU produced (`cvtsi2ss/sd`, `fild`, the doubling and `fadd` sequences) with these,
so the contracts that are stated as equalities of data (`addss_double`, `fadd_two64`, `ofInt*_congr`) are validated bit for
bit.  Lemmas/FpIeeeLemmas.lean proves, without any `FpuSpec`, that decoding inverts them. -/

/-- binary interchange format (w exponent bits, t trailing significand bits): the datum of the natural number `n`, which must
    have at most t + 1 significant bits and be below 2^(2^(w−1)) (true of every rounded integer of magnitude ≤ 2^64) -/
def encodeNat (w t : Nat) (neg : Bool) (n : Nat) : Nat :=
  let sign := if neg then 2 ^ (w + t) else 0
  if n = 0 then sign else
  let l := bitLen n
  let sig := if l ≤ t + 1 then n * 2 ^ (t + 1 - l) else n / 2 ^ (l - (t + 1))      -- 2^t ≤ sig < 2^(t+1)
  sign + (l - 1 + (2 ^ (w - 1) - 1)) * 2 ^ t + (sig - 2 ^ t)

/-- x87 double extended: 15 exponent bits, 64 significand bits with the integer bit explicit -/
def encodeNat80 (neg : Bool) (n : Nat) : Nat :=
  let sign := if neg then 2 ^ 79 else 0
  if n = 0 then sign else
  let l := bitLen n
  let sig := if l ≤ 64 then n * 2 ^ (64 - l) else n / 2 ^ (l - 64)
  sign + (l - 1 + 16383) * 2 ^ 64 + sig

def ofInt32 (v : Int) : BitVec 32 := BitVec.ofNat 32 (encodeNat 8 23 (decide (v < 0)) (roundNat 24 v.natAbs))
def ofInt64 (v : Int) : BitVec 64 := BitVec.ofNat 64 (encodeNat 11 52 (decide (v < 0)) (roundNat 53 v.natAbs))
def ofInt80 (v : Int) : BitVec 80 := BitVec.ofNat 80 (encodeNat80 (decide (v < 0)) (roundNat 64 v.natAbs))

end Ieee

end ChibiVerif.Spec.Fpu
