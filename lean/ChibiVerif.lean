-- root of the library: imports every Props/Findings module (and Lemmas/StmtSim, which no other module imports) so that `lake build` checks everything
import ChibiVerif.Props.C17
import ChibiVerif.Findings.C17
import ChibiVerif.Props.C17Clients
import ChibiVerif.Props.C17Hash
import ChibiVerif.Props.C17Bound
import ChibiVerif.Findings.C17Deep
import ChibiVerif.Findings.C17Rehash
import ChibiVerif.Props.C07
import ChibiVerif.Props.C07Float
import ChibiVerif.Findings.C07
import ChibiVerif.Props.C11
import ChibiVerif.Props.C11Lex
import ChibiVerif.Props.C11Join
import ChibiVerif.Findings.C11
import ChibiVerif.Props.C14
import ChibiVerif.Findings.C14
import ChibiVerif.Props.C14Args
import ChibiVerif.Findings.C14Args
import ChibiVerif.Props.C10
import ChibiVerif.Props.C10IfParse
import ChibiVerif.Props.C10IfParseComplete
import ChibiVerif.Findings.C10
import ChibiVerif.Findings.C10IfParse
import ChibiVerif.Props.C19
import ChibiVerif.Props.C19Program
import ChibiVerif.Findings.C19
import ChibiVerif.Props.C08
import ChibiVerif.Findings.C08
import ChibiVerif.Props.C18
import ChibiVerif.Findings.C18
import ChibiVerif.Props.C01
import ChibiVerif.Findings.C01
import ChibiVerif.Props.C16
import ChibiVerif.Findings.C16
import ChibiVerif.Props.C16Qual
import ChibiVerif.Props.C16Width
import ChibiVerif.Findings.C16Types
import ChibiVerif.Props.C09
import ChibiVerif.Findings.C09
import ChibiVerif.Props.C20
import ChibiVerif.Findings.C20
import ChibiVerif.Props.C15
import ChibiVerif.Findings.C15
import ChibiVerif.Props.C04
import ChibiVerif.Props.C04Machine
import ChibiVerif.Findings.C04
import ChibiVerif.Props.C06
import ChibiVerif.Props.C06Fp
import ChibiVerif.Props.C06Ret
import ChibiVerif.Findings.C06
import ChibiVerif.Props.C05
import ChibiVerif.Findings.C05
import ChibiVerif.Props.C13
import ChibiVerif.Props.C13Components
import ChibiVerif.Props.C13Sites
import ChibiVerif.Props.C13Codegen
import ChibiVerif.Props.C13InitHang
import ChibiVerif.Findings.C13
import ChibiVerif.Findings.C13Sites
import ChibiVerif.Props.C02
import ChibiVerif.Findings.C02
import ChibiVerif.Props.C03
import ChibiVerif.Props.C03Fun
import ChibiVerif.Findings.C03
import ChibiVerif.Lemmas.StmtSim
import ChibiVerif.Props.C12
import ChibiVerif.Findings.C12
